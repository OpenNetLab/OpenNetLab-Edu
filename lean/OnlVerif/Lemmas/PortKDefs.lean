import OnlVerif.Lemmas.KernelStep
import OnlVerif.Lemmas.KAccess
import OnlVerif.Lemmas.Port
import OnlVerif.Net.PortOnK
/-!
# The Port on the kernel model: canonical configurations (definitions)

`A` is an abstract description of a kernel state of the program `PortOnK.body`: where the two processes are
suspended, which agenda entries exist, what the store holds, the attribute cells.  `KInv s a` says that the kernel
state `s` *is* the configuration `a`: it pins down every part of `s` that `Environment.step` and the two
generators can read.  `toF a` is the LTS state (`Net/Fifo.lean`) the configuration stands for, `pred a` the
departures still to come.
-/

namespace PortK
open PortOnK

abbrev St := PSt ℚ
abbrev KS := KState ℚ St

/-- where `Port.run` is -/
inductive PPhase where
  /-- not started: its `Initialize` entry `q` is in the agenda -/
  | init (q : QEntry ℚ)
  /-- blocked in `store.get()`: the `StoreGet` event `g` waits in the get queue -/
  | W (g : EvId)
  /-- `store.get()` has been served with packet `id`: the `StoreGet` event `g` is triggered, entry `q` -/
  | H (g : EvId) (id : Int) (q : QEntry ℚ)
  /-- transmitting packet `id`: sleeping on timeout `t`, entry `q` -/
  | T (t : EvId) (id : Int) (q : QEntry ℚ)

/-- where the source is -/
inductive SPhase where
  | init (q : QEntry ℚ) (arr : List (ℚ × Int))
  /-- sleeping on the timeout (entry `q`) after which it puts packet `id`; `rest` still to come -/
  | wait (id : Int) (rest : List (ℚ × Int)) (q : QEntry ℚ)
  /-- the generator has returned: the process event (entry `q`) is triggered -/
  | ending (q : QEntry ℚ)
  | done

structure A where
  port : PPhase
  src : SPhase
  /-- the `StorePut` event of the last `store.put`, triggered and not yet processed -/
  pend : Option (QEntry ℚ)
  /-- `store.items` -/
  items : List Int
  bytes : Int
  recv : Nat
  busy : Bool
  bsz : Nat
  /-- instant of the last departure -/
  last : Option ℚ
  /-- ids handed to `put` so far -/
  putIds : List Int
  /-- `packets_dropped` -/
  dropped : Nat
  /-- ids `put` has accepted so far -/
  accIds : List Int

def PPhase.entries : PPhase → List (QEntry ℚ)
  | .init q => [q]
  | .W _ => []
  | .H _ _ q => [q]
  | .T _ _ q => [q]

def SPhase.entries : SPhase → List (QEntry ℚ)
  | .init q _ => [q]
  | .wait _ _ q => [q]
  | .ending q => [q]
  | .done => []

def A.entries (a : A) : List (QEntry ℚ) := a.port.entries ++ (a.src.entries ++ a.pend.toList)

def PPhase.getQ : PPhase → List EvId
  | .W g => [g]
  | _ => []

/-- the ids and gaps the source has still to deliver, with the instant its loop is at -/
def SPhase.todo (now : ℚ) : SPhase → ℚ × List (ℚ × Int)
  | .init _ arr => (now, arr)
  | .wait id rest q => (q.time, (0, id) :: rest)
  | _ => (now, [])

/-- kind, callbacks and outcome of a live event -/
def EvIs (s : KS) (e : EvId) (k : Kind) (cbs : List Cb) (out : Option Outcome) : Prop :=
  (s.ev e).kind = k ∧ (s.ev e).cbs = some cbs ∧ (s.ev e).out = out

/-- an attribute cell as `Call.load` returns it -/
def lookup (l : List (Nat × Val)) (k : Nat) : Val := ((l.find? (·.1 == k)).map (·.2)).getD .none

/-- the store record of the port -/
def storeRec (getQ : List EvId) (items : List Int) : ResRec :=
  { kind := .store, capacity := none, getQ := getQ, items := items }

/-! ## the kernel side of a configuration: events, process records, store, cells -/

def PortEv (s : KS) : PPhase → Prop
  | .init q => q.ev = 1 ∧ EvIs s 1 (.init 0) [.resume 0] (some (.ok .none)) ∧
      s.proc? 0 = some { st := .portStart, target := some 1 }
  | .W g => EvIs s g (.get 0) [.trigPut 0, .resume 0] none ∧
      s.proc? 0 = some { st := .portGet, target := some g }
  | .H g id q => q.ev = g ∧ EvIs s g (.get 0) [.trigPut 0, .resume 0] (some (.ok (.int id))) ∧
      s.proc? 0 = some { st := .portGet, target := some g }
  | .T t id q => q.ev = t ∧ EvIs s t .timeout [.resume 0] (some (.ok .none)) ∧
      s.proc? 0 = some { st := .portTx id, target := some t }

def SrcEv (s : KS) : SPhase → Prop
  | .init q arr => q.ev = 3 ∧ EvIs s 3 (.init 2) [.resume 2] (some (.ok .none)) ∧
      s.proc? 2 = some { st := .src none arr, target := some 3 } ∧ EvIs s 2 .proc [] none
  | .wait id rest q => EvIs s q.ev .timeout [.resume 2] (some (.ok .none)) ∧
      s.proc? 2 = some { st := .src (some id) rest, target := some q.ev } ∧ EvIs s 2 .proc [] none
  | .ending q => q.ev = 2 ∧ EvIs s 2 .proc [] (some (.ok .none))
  | .done => True

/-- the kernel state `s` has the configuration `a` -/
structure KInv (s : KS) (a : A) : Prop where
  wf : AgendaWF s
  ag : s.agenda.Perm a.entries
  rsz : 0 < s.resources.size
  res : s.res 0 = storeRec a.port.getQ a.items
  port : PortEv s a.port
  src : SrcEv s a.src
  pend : ∀ u, a.pend = some u → EvIs s u.ev (.put 0) [.trigGet 0] (some (.ok .none))
  c0 : lookup s.shared 0 = .int a.bytes
  c1 : lookup s.shared 1 = .int a.recv
  c2 : lookup s.shared 2 = .int (if a.busy then 1 else 0)
  c3 : lookup s.shared 3 = .int a.bsz
  c4 : lookup s.shared 4 = .int a.dropped

/-! ## the abstract side: times, priorities, the departures still to come -/

def GapsOK (l : List (ℚ × Int)) : Prop := ∀ x ∈ l, 0 ≤ x.1

/-- the server is idle (blocked in `get` or not started) -/
def PPhase.idle : PPhase → Bool
  | .init _ => true
  | .W _ => true
  | _ => false

def PortA (items : List Int) (pend : Option (QEntry ℚ)) (last : Option ℚ) (now : ℚ) : PPhase → Prop
  | .init q => q.time = now ∧ q.prio = URGENT ∧ items = [] ∧ pend = none ∧ last = none
  | .W _ => True
  | .H _ _ q => q.time = now ∧ q.prio = NORMAL
  | .T _ _ q => q.prio = NORMAL

def SrcA (pend : Option (QEntry ℚ)) (now : ℚ) : SPhase → Prop
  | .init q arr => q.time = now ∧ q.prio = URGENT ∧ GapsOK arr ∧ pend = none
  | .wait _ rest q => q.prio = NORMAL ∧ GapsOK rest ∧ ∀ u, pend = some u → u.eid < q.eid
  | .ending q => q.time = now ∧ q.prio = NORMAL
  | .done => True

variable (size : Int → Nat) (rate : ℚ) (ql : Option Int)

/-- transmission delay -/
def tx (id : Int) : ℚ := txDelay size rate id

/-- back-to-back service of the queue from instant `f` -/
def serve : ℚ → List Int → List (Int × ℚ)
  | _, [] => []
  | f, i :: is => (i, f + tx size rate i) :: serve (f + tx size rate i) is

def serveEnd : ℚ → List Int → ℚ
  | f, [] => f
  | f, i :: is => serveEnd (f + tx size rate i) is

/-- departures of the queue served from `f`, followed by those of the arrivals still to come -/
def afterQ (a : A) (now f : ℚ) : List (Int × ℚ) :=
  serve size rate f a.items ++
    departures size rate (some (serveEnd size rate f a.items)) (a.src.todo now).1 (a.src.todo now).2

/-- **the departures still to come**, as determined by the configuration -/
def pred (a : A) (now : ℚ) : List (Int × ℚ) :=
  match a.port with
  | .H _ id _ => (id, now + tx size rate id) :: afterQ size rate a now (now + tx size rate id)
  | .T _ id q => (id, q.time) :: afterQ size rate a now q.time
  | _ =>
    match a.items with
    | [] => departures size rate a.last (a.src.todo now).1 (a.src.todo now).2
    | _ :: _ => afterQ size rate a now now

/-- **the LTS state a configuration stands for** -/
def toF (a : A) (now : ℚ) : FState ℚ (PortSt ℚ) :=
  { now := now
    dev := { byteSize := a.bytes, received := a.recv, dropped := a.dropped, busy := a.busy, busySize := a.bsz, avg := 0 }
    items := a.items.map (pktOf size)
    getPending := match a.port with | .W _ => true | _ => false
    handed := match a.port with | .H _ id _ => some (pktOf size id) | _ => none
    tx := match a.port with | .T _ id q => some (pktOf size id, q.time, 0) | _ => none
    started := match a.port with | .init _ => false | _ => true }

/-- ids still in the source's hands -/
def SPhase.ids : SPhase → List Int
  | .init _ arr => arr.map (·.2)
  | .wait id rest _ => id :: rest.map (·.2)
  | _ => []

/-- what holds of a configuration at instant `now` when `outs` have departed so far -/
structure AInv (arrivals : List (ℚ × Int)) (a : A) (now : ℚ) (outs : List (Int × ℚ)) : Prop where
  port : PortA a.items a.pend a.last now a.port
  src : SrcA a.pend now a.src
  pend : ∀ u, a.pend = some u → u.time = now ∧ u.prio = NORMAL
  /-- a waiting packet beside an idle server means the `StorePut` event that will hand it over is pending -/
  idle : a.port.idle = true → a.items ≠ [] → a.pend.isSome = true
  last : ∀ d, a.last = some d → d ≤ now
  due : ∀ x ∈ a.entries, now ≤ x.time
  /-- without a limit the departures are predictable: departed so far ++ still to come = the recurrence -/
  ghost : ql = none → outs ++ pred size rate a now = departures size rate none 0 arrivals
  puts : arrivals.map (·.2) = a.putIds ++ a.src.ids
  nput : a.putIds.length = a.recv
  nacc : a.accIds.length + a.dropped = a.recv
  accnone : ql = none → a.accIds = a.putIds

/-- number of kernel steps a configuration still needs -/
def PPhase.mu : PPhase → Nat
  | .init _ => 1
  | .W _ => 0
  | .H _ _ _ => 2
  | .T _ _ _ => 1

def SPhase.mu : SPhase → Nat
  | .init _ arr => 4 * arr.length + 2
  | .wait _ rest _ => 4 * rest.length + 5
  | .ending _ => 1
  | .done => 0

def A.mu (a : A) : Nat := a.port.mu + a.src.mu + (if a.pend.isSome then 1 else 0) + 2 * a.items.length

/-- **one kernel step, seen on configurations**: the agenda entry `q` is processed; `outs` leave the port -/
inductive AStep : A → QEntry ℚ → A → List (Int × ℚ) → Prop
  /-- `Port.run` starts and blocks in `store.get()` -/
  | portInit (a : A) (q : QEntry ℚ) (g : EvId) (h : a.port = .init q) :
      AStep a q { a with port := .W g } []
  /-- the source starts with nothing to send -/
  | srcInitEnd (a : A) (q q' : QEntry ℚ) (h : a.src = .init q []) (ht : q'.time = q.time) (hp : q'.prio = NORMAL) :
      AStep a q { a with src := .ending q' } []
  /-- the source starts and sleeps until the first arrival -/
  | srcInitWait (a : A) (q q' : QEntry ℚ) (gap : ℚ) (id : Int) (rest : List (ℚ × Int))
      (h : a.src = .init q ((gap, id) :: rest)) (ht : q'.time = q.time + gap) (hp : q'.prio = NORMAL) :
      AStep a q { a with src := .wait id rest q' } []
  /-- the last arrival: `put`, then the source returns -/
  | srcPutEnd (a : A) (q u q' : QEntry ℚ) (id : Int) (h : a.src = .wait id [] q) (hn : a.pend = none)
      (hacc : ∀ l, ql = some l → ¬ l < a.bytes + (size id : Int))
      (hu : u.time = q.time ∧ u.prio = NORMAL) (ht : q'.time = q.time ∧ q'.prio = NORMAL) :
      AStep a q { a with src := .ending q', pend := some u, items := a.items ++ [id],
                         bytes := a.bytes + (size id : Int), recv := a.recv + 1, putIds := a.putIds ++ [id],
                         accIds := a.accIds ++ [id] } []
  /-- an arrival: `put`, then the source sleeps until the next one -/
  | srcPutWait (a : A) (q u q' : QEntry ℚ) (id : Int) (gap : ℚ) (id' : Int) (rest : List (ℚ × Int))
      (h : a.src = .wait id ((gap, id') :: rest) q) (hn : a.pend = none)
      (hacc : ∀ l, ql = some l → ¬ l < a.bytes + (size id : Int))
      (hu : u.time = q.time ∧ u.prio = NORMAL) (ht : q'.time = q.time + gap ∧ q'.prio = NORMAL) (ho : u.eid < q'.eid) :
      AStep a q { a with src := .wait id' rest q', pend := some u, items := a.items ++ [id],
                         bytes := a.bytes + (size id : Int), recv := a.recv + 1, putIds := a.putIds ++ [id],
                         accIds := a.accIds ++ [id] } []
  /-- the last arrival is refused (`byte_size + size > qlimit`): `packets_dropped += 1`, then the source returns -/
  | srcDropEnd (a : A) (q q' : QEntry ℚ) (id : Int) (l : Int) (h : a.src = .wait id [] q) (hn : a.pend = none)
      (hl : ql = some l) (hdrop : l < a.bytes + (size id : Int)) (ht : q'.time = q.time ∧ q'.prio = NORMAL) :
      AStep a q { a with src := .ending q', recv := a.recv + 1, putIds := a.putIds ++ [id],
                         dropped := a.dropped + 1 } []
  /-- an arrival is refused: `packets_dropped += 1`, then the source sleeps until the next one -/
  | srcDropWait (a : A) (q q' : QEntry ℚ) (id : Int) (gap : ℚ) (id' : Int) (rest : List (ℚ × Int)) (l : Int)
      (h : a.src = .wait id ((gap, id') :: rest) q) (hn : a.pend = none)
      (hl : ql = some l) (hdrop : l < a.bytes + (size id : Int)) (ht : q'.time = q.time + gap ∧ q'.prio = NORMAL) :
      AStep a q { a with src := .wait id' rest q', recv := a.recv + 1, putIds := a.putIds ++ [id],
                         dropped := a.dropped + 1 } []
  /-- the `StorePut` event is processed and nobody waits for its item (or the waiting server finds the store empty) -/
  | putIdle (a : A) (q : QEntry ℚ) (h : a.pend = some q) (hw : a.port.getQ = [] ∨ a.items = []) :
      AStep a q { a with pend := none } []
  /-- the `StorePut` event is processed: the store hands the head item to the waiting server -/
  | putHand (a : A) (q q' : QEntry ℚ) (g : EvId) (i : Int) (is : List Int) (h : a.pend = some q) (hw : a.port = .W g)
      (hi : a.items = i :: is) (ht : q'.time = q.time ∧ q'.prio = NORMAL) :
      AStep a q { a with pend := none, port := .H g i q', items := is } []
  /-- the `StoreGet` event is processed: the server resumes with the packet and starts to transmit -/
  | serveTx (a : A) (q q' : QEntry ℚ) (g t : EvId) (id : Int) (h : a.port = .H g id q) (hr : 0 < rate)
      (ht : q'.time = q.time + txTime size rate id ∧ q'.prio = NORMAL) :
      AStep a q { a with port := .T t id q', busy := true, bsz := size id } []
  /-- `rate ≤ 0`: the `StoreGet` event is processed, the packet leaves in the same burst, the store is empty -/
  | serveNowIdle (a : A) (q : QEntry ℚ) (g g' : EvId) (id : Int) (h : a.port = .H g id q) (hr : ¬ 0 < rate)
      (hi : a.items = []) :
      AStep a q { a with port := .W g', bytes := a.bytes - (size id : Int), busy := false, bsz := 0, last := some q.time }
        [(id, q.time)]
  /-- `rate ≤ 0`: the packet leaves in the burst that took it and the next one is taken at once -/
  | serveNowNext (a : A) (q q' : QEntry ℚ) (g g' : EvId) (id i : Int) (is : List Int) (h : a.port = .H g id q)
      (hr : ¬ 0 < rate) (hi : a.items = i :: is) (ht : q'.time = q.time ∧ q'.prio = NORMAL) :
      AStep a q { a with port := .H g' i q', items := is, bytes := a.bytes - (size id : Int), busy := false, bsz := 0,
                         last := some q.time } [(id, q.time)]
  /-- the transmission ends, the store is empty: the server blocks in `get` -/
  | fireIdle (a : A) (q : QEntry ℚ) (t g : EvId) (id : Int) (h : a.port = .T t id q) (hi : a.items = []) :
      AStep a q { a with port := .W g, bytes := a.bytes - (size id : Int), busy := false, bsz := 0, last := some q.time }
        [(id, q.time)]
  /-- the transmission ends and the next packet is taken at once -/
  | fireNext (a : A) (q q' : QEntry ℚ) (t g : EvId) (id i : Int) (is : List Int) (h : a.port = .T t id q)
      (hi : a.items = i :: is) (ht : q'.time = q.time ∧ q'.prio = NORMAL) :
      AStep a q { a with port := .H g i q', items := is, bytes := a.bytes - (size id : Int), busy := false, bsz := 0,
                         last := some q.time } [(id, q.time)]
  /-- the process event of the finished source is processed -/
  | srcEnd (a : A) (q : QEntry ℚ) (h : a.src = .ending q) : AStep a q { a with src := .done } []

end PortK
