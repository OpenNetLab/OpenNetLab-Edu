import OnlVerif.Lemmas.PortKAbs
/-!
# The Port on the kernel model: every configuration step is sound

By cases on `AStep`: the abstract invariant is kept (with the departures appended), the step budget drops by one, and
the LTS accepts the corresponding actions (`init`, `put`, `handoff`, `resume`, `fire`, or nothing).  All statements are
at the instant of the processed entry (`AInv.advance` / `lts_advance` bring the clock there).
-/

namespace PortK
open PortOnK QEntry

variable {size : Int → Nat} {rate : ℚ} {ql : Option Int}
variable {arrivals : List (ℚ × Int)} {a a' : A} {outs new : List (Int × ℚ)} {q : QEntry ℚ}

theorem AStep.mu_lt (hs : AStep size rate ql a q a' new) : a'.mu + 1 ≤ a.mu := by
  cases hs
  all_goals
    simp +arith only [A.mu, PPhase.mu, SPhase.mu, *, List.length_cons, List.length_append, List.length_nil,
      Option.isSome_some, Option.isSome_none, Bool.false_eq_true, if_true, if_false]

/-- once the `StorePut` event is processed the source no longer has to come after it -/
theorem SrcA.drop_pend {pend : Option (QEntry ℚ)} {t : ℚ} {S : SPhase} (hs : SrcA pend t S) (hp : pend ≠ none) :
    SrcA none t S := by
  cases S with
  | init q0 arr => exact absurd hs.2.2.2 hp
  | wait id rest q0 => exact ⟨hs.1, hs.2.1, fun u hu => by cases hu⟩
  | ending q0 => exact hs
  | done => trivial

/-- an arrival at `t` joins a queue that is served until after `t`: it leaves behind the queue -/
theorem busy_put (F t : ℚ) (items : List Int) (id : Int) (rest : List (ℚ × Int)) (h : t ≤ F) :
    serve size rate F items ++ departures size rate (some (serveEnd size rate F items)) t ((0, id) :: rest) =
      serve size rate F (items ++ [id]) ++
        departures size rate (some (serveEnd size rate F (items ++ [id]))) t rest := by
  rw [departures_busy size rate _ _ _ _ (le_trans h (le_serveEnd size rate F items)), serve_append, serveEnd_append,
    List.append_assoc]
  rfl

theorem todo_wait (id : Int) (rest : List (ℚ × Int)) (q : QEntry ℚ) (t : ℚ) :
    (SPhase.wait id rest q).todo t = (q.time, (0, id) :: rest) := rfl


/-- **an arrival** (`Port.put` by the source, which then goes on to `S'`) -/
theorem inv_srcPut (hi : AInv size rate ql arrivals a q.time outs) (hq : IsMin a q) {u : QEntry ℚ} {id : Int}
    {rest : List (ℚ × Int)} {S' : SPhase} (h : a.src = .wait id rest q)
    (hu : u.time = q.time ∧ u.prio = NORMAL) (hS : SrcA (some u) q.time S')
    (hdue : ∀ x ∈ S'.entries, q.time ≤ x.time)
    (htodo : ∀ p, departures size rate p q.time rest = departures size rate p (S'.todo q.time).1 (S'.todo q.time).2)
    (hids : S'.ids = rest.map (·.2)) :
    AInv size rate ql arrivals
      { a with src := S', pend := some u, items := a.items ++ [id], bytes := a.bytes + (size id : Int),
               recv := a.recv + 1, putIds := a.putIds ++ [id], accIds := a.accIds ++ [id] } q.time (outs ++ []) := by
  have hp := hi.port
  have hs := hi.src
  rw [h] at hs
  have hnotinit : ∀ q0, a.port ≠ .init q0 := by
    intro q0 hport
    rw [hport] at hp
    refine min_not_prio_lt hi.due hq (mem_port (by simp [hport, PPhase.entries])) hp.1 ?_
    rw [hp.2.1, hs.1]; decide
  refine ⟨?_, hS, ?_, fun _ _ => rfl, hi.last, ?_, ?_, ?_, ?_, ?_, ?_⟩
  · cases hport : a.port with
    | init q0 => exact absurd hport (hnotinit q0)
    | W g => trivial
    | H g i0 q0 => rw [hport] at hp; exact hp
    | T t i0 q0 => rw [hport] at hp; exact hp
  · intro u' hu'; cases hu'; exact hu
  · exact due_parts hi.due (.inl rfl) (.inr hdue) (.inr (List.forall_mem_singleton.mpr hu.1.ge))
  · intro hql
    rw [← hi.ghost hql, List.append_nil]
    congr 1
    unfold pred
    cases hport : a.port with
    | init q0 => exact absurd hport (hnotinit q0)
    | H g i0 q0 =>
      have hF : q.time ≤ q.time + tx size rate i0 := le_add_of_nonneg_right (tx_nonneg size rate i0)
      simp only [afterQ, h, todo_wait, busy_put _ _ _ _ _ hF, htodo]
    | T t i0 q0 =>
      have hF : q.time ≤ q0.time := hi.due q0 (mem_port (by simp [hport, PPhase.entries]))
      simp only [afterQ, h, todo_wait, busy_put _ _ _ _ _ hF, htodo]
    | W g =>
      cases hit : a.items with
      | nil =>
        simp only [afterQ, h, todo_wait, List.nil_append, serve, serveEnd, departures_idle size rate _ _ _ _ hi.last, htodo,
          List.cons_append]
      | cons j js =>
        simp only [afterQ, h, todo_wait, ← hit]
        rw [busy_put _ _ _ _ _ (le_refl q.time), htodo]
        generalize hl : a.items ++ [id] = l
        cases l with
        | nil => simp [hit] at hl
        | cons x xs => rfl
  · have := hi.puts
    rw [h] at this
    show arrivals.map (·.2) = (a.putIds ++ [id]) ++ S'.ids
    rw [hids, this]
    simp [SPhase.ids]
  · simp [hi.nput]
  · have := hi.nacc
    simp only [List.length_append, List.length_singleton]
    omega
  · intro hql
    show a.accIds ++ [id] = a.putIds ++ [id]
    rw [hi.accnone hql]

/-- **a refused arrival** (`byte_size + size > qlimit`; the source then goes on to `S'`) -/
theorem inv_srcDrop (hi : AInv size rate ql arrivals a q.time outs) {id : Int} {l : Int}
    {rest : List (ℚ × Int)} {S' : SPhase} (h : a.src = .wait id rest q) (hn : a.pend = none)
    (hl : ql = some l) (hS : SrcA none q.time S') (hdue : ∀ x ∈ S'.entries, q.time ≤ x.time)
    (hids : S'.ids = rest.map (·.2)) :
    AInv size rate ql arrivals
      { a with src := S', recv := a.recv + 1, putIds := a.putIds ++ [id], dropped := a.dropped + 1 } q.time (outs ++ []) := by
  refine ⟨hi.port, ?_, hi.pend, hi.idle, hi.last, ?_, ?_, ?_, ?_, ?_, ?_⟩
  · show SrcA a.pend q.time S'
    rw [hn]; exact hS
  · exact due_parts hi.due (.inl rfl) (.inr hdue) (.inl rfl)
  · intro hql; rw [hl] at hql; cases hql
  · have := hi.puts
    rw [h] at this
    show arrivals.map (·.2) = (a.putIds ++ [id]) ++ S'.ids
    rw [hids, this]
    simp [SPhase.ids]
  · simp [hi.nput]
  · have := hi.nacc
    show a.accIds.length + (a.dropped + 1) = a.recv + 1
    omega
  · intro hql; rw [hl] at hql; cases hql

theorem tx_eq_zero (hr : ¬ 0 < rate) (id : Int) : tx size rate id = 0 := by
  unfold tx txDelay
  rw [zero_eq', if_neg hr]

/-- **a packet has left and the store is empty**: the server is done with `id` at `q.time` (its transmission ends, or
`rate ≤ 0` and there is none) and blocks in the next `store.get()` -/
theorem AInv.departIdle (hi : AInv size rate ql arrivals a q.time outs) {id : Int}
    (hpred : pred size rate a q.time = (id, q.time) :: afterQ size rate a q.time q.time) (hit : a.items = []) (g : EvId) :
    AInv size rate ql arrivals
      { a with port := .W g, bytes := a.bytes - (size id : Int), busy := false, bsz := 0, last := some q.time } q.time
      (outs ++ [(id, q.time)]) := by
  refine ⟨trivial, hi.src, hi.pend, fun _ hne => absurd hit hne, fun d hd => (Option.some.inj hd).ge,
    due_parts hi.due (.inr (List.forall_mem_nil _)) (.inl rfl) (.inl rfl), fun hql => ?_, hi.puts, hi.nput, hi.nacc, hi.accnone⟩
  rw [← hi.ghost hql, hpred]
  simp only [pred, afterQ, hit, serve, serveEnd, List.nil_append, List.append_assoc, List.cons_append]

/-- **a packet has left and the next one is taken at once** -/
theorem AInv.departNext (hi : AInv size rate ql arrivals a q.time outs) {id i : Int} {is : List Int}
    (hpred : pred size rate a q.time = (id, q.time) :: afterQ size rate a q.time q.time) (hit : a.items = i :: is) (g : EvId)
    {q' : QEntry ℚ} (ht : q'.time = q.time ∧ q'.prio = NORMAL) :
    AInv size rate ql arrivals
      { a with port := .H g i q', items := is, bytes := a.bytes - (size id : Int), busy := false, bsz := 0,
               last := some q.time } q.time (outs ++ [(id, q.time)]) := by
  refine ⟨ht, hi.src, hi.pend, (fun hidle => nomatch hidle), fun d hd => (Option.some.inj hd).ge,
    due_parts hi.due (.inr (List.forall_mem_singleton.mpr ht.1.ge)) (.inl rfl) (.inl rfl), fun hql => ?_, hi.puts, hi.nput,
    hi.nacc, hi.accnone⟩
  rw [← hi.ghost hql, hpred]
  simp only [pred, afterQ, hit, serve, serveEnd, List.append_assoc, List.cons_append, List.nil_append]

/-- **the source moves on to `S'`** without an arrival: what it has still to deliver is as before -/
theorem inv_src (hi : AInv size rate ql arrivals a q.time outs) {S' : SPhase} (hS : SrcA a.pend q.time S')
    (hdue : ∀ x ∈ S'.entries, q.time ≤ x.time)
    (htodo : ∀ p, departures size rate p (S'.todo q.time).1 (S'.todo q.time).2 =
      departures size rate p (a.src.todo q.time).1 (a.src.todo q.time).2)
    (hids : S'.ids = a.src.ids) : AInv size rate ql arrivals { a with src := S' } q.time (outs ++ []) :=
  ⟨hi.port, hS, hi.pend, hi.idle, hi.last, due_parts hi.due (.inl rfl) (.inr hdue) (.inl rfl),
    fun hql => by rw [List.append_nil, ← hi.ghost hql]; simp only [pred, afterQ, htodo],
    hi.puts.trans (congrArg (a.putIds ++ ·) hids.symm), hi.nput, hi.nacc, hi.accnone⟩

theorem AStep.inv (hi : AInv size rate ql arrivals a q.time outs) (hq : IsMin a q) (hs : AStep size rate ql a q a' new) :
    AInv size rate ql arrivals a' q.time (outs ++ new) := by
  have hp := hi.port
  have hsrc := hi.src
  cases hs with
  | portInit g h =>
    rw [h] at hp
    obtain ⟨-, -, hit, -, -⟩ := hp
    refine ⟨trivial, hi.src, hi.pend, fun _ hne => absurd hit hne, hi.last, ?_, ?_, hi.puts, hi.nput, hi.nacc, hi.accnone⟩
    · exact due_parts hi.due (.inr (List.forall_mem_nil _)) (.inl rfl) (.inl rfl)
    · intro hql
      simpa only [pred, h, hit, List.append_nil] using hi.ghost hql
  | srcInitEnd q' h ht hp' =>
    exact inv_src hi ⟨ht, hp'⟩ (List.forall_mem_singleton.mpr ht.ge) (fun p => by rw [h]; rfl) (by rw [h]; rfl)
  | srcInitWait q' gap id rest h ht hp' =>
    rw [h] at hsrc
    obtain ⟨-, -, hg, hpe⟩ := hsrc
    refine inv_src hi ⟨hp', fun x hx => hg x (List.mem_cons_of_mem _ hx), fun u hu => nomatch hpe ▸ hu⟩
      (List.forall_mem_singleton.mpr ((le_add_of_nonneg_right (hg (gap, id) List.mem_cons_self)).trans_eq ht.symm))
      (fun p => ?_) (by rw [h]; rfl)
    rw [h]
    simp only [SPhase.todo, ht]
    exact (departures_shift size rate p q.time gap id rest).symm
  | srcPutEnd u q' id h hn hacc hu ht =>
    exact inv_srcPut hi hq h hu ht (List.forall_mem_singleton.mpr ht.1.ge) (fun p => rfl) rfl
  | srcPutWait u q' id gap id' rest h hn hacc hu ht ho =>
    rw [h] at hsrc
    have hgap : 0 ≤ gap := hsrc.2.1 (gap, id') List.mem_cons_self
    refine inv_srcPut hi hq h hu
      ⟨ht.2, fun x hx => hsrc.2.1 x (List.mem_cons_of_mem _ hx), ?_⟩
      (List.forall_mem_singleton.mpr ((le_add_of_nonneg_right hgap).trans_eq ht.1.symm)) ?_ rfl
    · intro u' hu'; cases hu'; exact ho
    · intro p; simp only [SPhase.todo, ht.1, departures_shift size rate p q.time gap]
  | srcDropEnd q' id l h hn hl hdrop ht =>
    exact inv_srcDrop hi h hn hl ht (List.forall_mem_singleton.mpr ht.1.ge) rfl
  | srcDropWait q' id gap id' rest l h hn hl hdrop ht =>
    rw [h] at hsrc
    have hgap : 0 ≤ gap := hsrc.2.1 (gap, id') List.mem_cons_self
    exact inv_srcDrop hi h hn hl
      ⟨ht.2, fun x hx => hsrc.2.1 x (List.mem_cons_of_mem _ hx), fun u hu => by cases hu⟩
      (List.forall_mem_singleton.mpr ((le_add_of_nonneg_right hgap).trans_eq ht.1.symm)) rfl
  | putIdle h hw =>
    have hpe : a.pend ≠ none := by rw [h]; exact Option.some_ne_none q
    refine ⟨?_, hi.src.drop_pend hpe, (fun u hu => by cases hu), ?_, hi.last, ?_, ?_, hi.puts, hi.nput, hi.nacc, hi.accnone⟩
    · cases hport : a.port with
      | init q0 => rw [hport] at hp; exact absurd hp.2.2.2.1 hpe
      | W g => trivial
      | H g id q0 => rw [hport] at hp; exact hp
      | T t id q0 => rw [hport] at hp; exact hp
    · intro hidle hne
      exfalso
      cases hport : a.port with
      | init q0 => rw [hport] at hp; exact hne hp.2.2.1
      | W g =>
        rcases hw with hw | hw
        · simp [hport, PPhase.getQ] at hw
        · exact hne hw
      | H g id q0 => simp [hport, PPhase.idle] at hidle
      | T t id q0 => simp [hport, PPhase.idle] at hidle
    · exact due_parts hi.due (.inl rfl) (.inl rfl) (.inr (List.forall_mem_nil _))
    · intro hql
      simpa only [pred, afterQ, List.append_nil] using hi.ghost hql
  | putHand q' g i is h hw hit ht =>
    have hpe : a.pend ≠ none := by rw [h]; exact Option.some_ne_none q
    refine ⟨ht, hi.src.drop_pend hpe, (fun u hu => by cases hu), (fun hidle => by cases hidle), hi.last, ?_, ?_, hi.puts, hi.nput,
      hi.nacc, hi.accnone⟩
    · exact due_parts hi.due (.inr (List.forall_mem_singleton.mpr ht.1.ge)) (.inl rfl) (.inr (List.forall_mem_nil _))
    · intro hql
      simpa only [pred, afterQ, hw, hit, serve, serveEnd, List.append_nil, List.cons_append] using hi.ghost hql
  | serveTx q' g t id h hr ht =>
    have htx := tx_eq_txTime size rate hr id
    refine ⟨ht.2, hi.src, hi.pend, (fun hidle => by cases hidle), hi.last, ?_, ?_, hi.puts, hi.nput, hi.nacc, hi.accnone⟩
    · refine due_parts hi.due (.inr (List.forall_mem_singleton.mpr ?_)) (.inl rfl) (.inl rfl)
      rw [ht.1, ← htx]
      exact le_add_of_nonneg_right (tx_nonneg size rate id)
    · intro hql
      simpa only [pred, afterQ, h, ht.1, ← htx, List.append_nil] using hi.ghost hql
  | serveNowIdle g g' id h hr hit =>
    exact hi.departIdle (by simp only [pred, h, tx_eq_zero hr, add_zero]) hit g'
  | serveNowNext q' g g' id i is h hr hit ht =>
    exact hi.departNext (by simp only [pred, h, tx_eq_zero hr, add_zero]) hit g' ht
  | fireIdle t g id h hit => exact hi.departIdle (by simp only [pred, h]) hit g
  | fireNext q' t g id i is h hit ht => exact hi.departNext (by simp only [pred, h]) hit g ht
  | srcEnd h => exact inv_src hi trivial (List.forall_mem_nil _) (fun p => by rw [h]; rfl) (by rw [h]; rfl)

/-- an arrival the tail-drop test lets in -/
theorem lts_accept {t : ℚ} {id : Int} (hacc : ∀ l, ql = some l → ¬ l < a.bytes + (size id : Int)) :
    Fifo.runActs (Port.dev (cfg rate ql)) (toF size a t) [.put (pktOf size id)] =
      .ok (toF size { a with items := a.items ++ [id], bytes := a.bytes + (size id : Int), recv := a.recv + 1 } t,
        [id.toNat], []) := by
  have htd : ∀ w, Port.tailDrop (cfg rate ql) a.bytes w (size id) = false := by
    intro w
    unfold Port.tailDrop cfg
    cases hql : ql with
    | none => rfl
    | some l => simp [hacc l hql]
  rw [runActs_put, show Port.tailDrop _ (toF size a t).dev.byteSize _ (pktOf size id).size = false from htd _]
  simp only [Bool.false_eq_true, if_false, toF, List.map_append, List.map_cons, List.map_nil]
  rfl

/-- an arrival the tail-drop test refuses -/
theorem lts_refuse {t : ℚ} {id : Int} {l : Int} (hl : ql = some l) (hdrop : l < a.bytes + (size id : Int)) :
    Fifo.runActs (Port.dev (cfg rate ql)) (toF size a t) [.put (pktOf size id)] =
      .ok (toF size { a with recv := a.recv + 1, dropped := a.dropped + 1 } t, [], []) := by
  have htd : ∀ w, Port.tailDrop (cfg rate ql) a.bytes w (size id) = true := by
    intro w
    unfold Port.tailDrop cfg
    simp [hl, hdrop]
  rw [runActs_put, show Port.tailDrop _ (toF size a t).dev.byteSize _ (pktOf size id).size = true from htd _]
  rfl

/-- **the LTS accepts every configuration step**: as `init`, `put`, `handoff`, `resume`, `fire`, or nothing -/
theorem AStep.lts (hi : AInv size rate ql arrivals a q.time outs) (hs : AStep size rate ql a q a' new) :
    ∃ acts insI, a'.accIds = a.accIds ++ insI ∧
      Fifo.runActs (Port.dev (cfg rate ql)) (toF size a q.time) acts =
        .ok (toF size a' q.time, insI.map Int.toNat, new.map (·.1.toNat)) := by
  have hp := hi.port
  cases hs with
  | srcInitEnd | srcInitWait | putIdle | srcEnd => exact ⟨[], [], (List.append_nil _).symm, rfl⟩
  | srcPutEnd _ _ id _ _ hacc | srcPutWait _ _ id _ _ _ _ _ hacc =>
    exact ⟨[.put (pktOf size id)], [id], rfl, lts_accept hacc⟩
  | srcDropEnd _ id l _ _ hl hdrop | srcDropWait _ id _ _ _ l _ _ hl hdrop =>
    exact ⟨[.put (pktOf size id)], [], (List.append_nil _).symm, lts_refuse hl hdrop⟩
  | portInit g h =>
    rw [h] at hp
    refine ⟨[.init], [], (List.append_nil _).symm, ?_⟩
    rw [toF_init h, Fifo.runActs_init (by rfl), Fifo.issueGet_nil (congrArg (List.map (pktOf size)) hp.2.2.1)]
    rfl
  | putHand q' g i is h hw hit ht =>
    refine ⟨[.handoff], [], (List.append_nil _).symm, ?_⟩
    rw [toF_W hw, Fifo.runActs_handoff (by rfl) (congrArg (List.map (pktOf size)) hit)]
    rfl
  | serveTx q' g t id h hr ht =>
    refine ⟨[.resume 0 0], [], (List.append_nil _).symm, ?_⟩
    rw [toF_H h, Port.runActs_tx 0 0 (by rfl) (zero_eq' ▸ hr : Num.zero < (cfg rate ql).rate)]
    simp only [toF, ht.1]
    rfl
  | serveNowIdle _ _ id h hr hit =>
    refine ⟨[.resume 0 0], [], (List.append_nil _).symm, ?_⟩
    rw [toF_H h, Port.runActs_now 0 0 (by rfl) (zero_eq' ▸ hr : ¬ Num.zero < (cfg rate ql).rate),
      Fifo.issueGet_nil (congrArg (List.map (pktOf size)) hit)]
    rfl
  | serveNowNext _ _ _ id _ _ h hr hit =>
    refine ⟨[.resume 0 0], [], (List.append_nil _).symm, ?_⟩
    rw [toF_H h, Port.runActs_now 0 0 (by rfl) (zero_eq' ▸ hr : ¬ Num.zero < (cfg rate ql).rate),
      Fifo.issueGet_cons (congrArg (List.map (pktOf size)) hit)]
    rfl
  | fireIdle _ _ id h hit =>
    refine ⟨[.fire], [], (List.append_nil _).symm, ?_⟩
    rw [toF_T h, Port.runActs_fire (by rfl), Fifo.issueGet_nil (congrArg (List.map (pktOf size)) hit)]
    rfl
  | fireNext _ _ _ id _ _ h hit =>
    refine ⟨[.fire], [], (List.append_nil _).symm, ?_⟩
    rw [toF_T h, Port.runActs_fire (by rfl), Fifo.issueGet_cons (congrArg (List.map (pktOf size)) hit)]
    rfl

/-- **every configuration step is sound**: invariant kept, one unit of budget used, accepted by the LTS -/
theorem astep_sound {now : ℚ} {a' : A} {new : List (Int × ℚ)}
    (hi : AInv size rate ql arrivals a now outs) (hq : IsMin a q) (hs : AStep size rate ql a q a' new) :
    AInv size rate ql arrivals a' q.time (outs ++ new) ∧ a'.mu + 1 ≤ a.mu ∧
    ∃ acts insI, a'.accIds = a.accIds ++ insI ∧
      Fifo.runActs (Port.dev (cfg rate ql)) (toF size a now) acts =
        .ok (toF size a' q.time, insI.map Int.toNat, new.map (·.1.toNat)) := by
  have hi' := hi.advance hq
  obtain ⟨acts0, h0⟩ := lts_advance hi hq
  obtain ⟨acts, insI, h3, h4⟩ := hs.lts hi'
  exact ⟨hs.inv hi' hq, hs.mu_lt, acts0 ++ acts, insI, h3, Fifo.runActs_append _ _ _ _ _ _ _ _ _ _ h0 h4⟩

end PortK
