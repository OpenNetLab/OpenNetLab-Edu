import OnlVerif.Lemmas.SndKStepPut
/-!
# The TCP sender on the kernel model: `put(ack)`

The method `put` in the middle of a burst (`frag_put`), block by block: duplicate-ACK counting, the new-ACK block, and in it
the cumulative cancellation of timers.  There the program visits the candidate keys in increasing order and tests the
presence flag (`cancelA`, on configurations: the timer objects are stopped too); the LTS walks over the keys of `timers` that the
ACK covers (`dropSegs` over `covered`).  Both give the same LTS state when the keys of `timers` are candidate keys in order
(`dropSegs_cancelA`).  `frag_put` also carries the invariants `AInv` across the call.
-/


namespace SndK

open SenderOnK TcpSender
open KProc (hrun)

/-- the candidate keys `seq, seq + mss, …` (`n` of them) -/
def cands (mss : Nat) : Nat → Nat → List Nat
  | _, 0 => []
  | seq, n + 1 => seq :: cands mss (seq + mss) n

theorem cands_eq (mss : Nat) : ∀ (n seq : Nat), cands mss seq n = (List.range n).map (fun i => seq + i * mss)
  | 0, _ => rfl
  | n + 1, seq => by
    rw [cands, cands_eq mss n, List.range_succ_eq_map]
    simp only [List.map_cons, List.map_map, Nat.zero_mul, Nat.add_zero, List.cons.injEq, true_and]
    apply List.map_congr_left
    intro i _
    simp only [Function.comp]
    rw [Nat.succ_mul]; omega

theorem segKeys_eq_cands (mss next : Nat) : segKeys mss next = cands mss 0 (next / mss) := by
  rw [cands_eq]
  unfold segKeys
  simp

/-- one key of the cancellation loop: if its timer is there and the ACK covers it, the timer is stopped at `now` and both dict
entries go -/
def cancelA1 (cond : Nat → Bool) (now : ℚ) (a : A) (c : Nat) : A :=
  if (AL.get? c a.S.timers).isSome && cond c then
    { a with S := { a.S with timers := AL.del c a.S.timers, sent := AL.del c a.S.sent },
             tmc := upd a.tmc c { a.tmc c with stopped := true, expire := now } }
  else a

def cancelA (cond : Nat → Bool) (now : ℚ) : A → List Nat → A
  | a, [] => a
  | a, c :: cs => cancelA cond now (cancelA1 cond now a c) cs

theorem cancelA1_pos {cond : Nat → Bool} {a : A} {c : Nat} (h : ((AL.get? c a.S.timers).isSome && cond c) = true) (now : ℚ) :
    cancelA1 cond now a c = { a with S := { a.S with timers := AL.del c a.S.timers, sent := AL.del c a.S.sent },
                                     tmc := upd a.tmc c { a.tmc c with stopped := true, expire := now } } := if_pos h

theorem cancelA1_neg {cond : Nat → Bool} {a : A} {c : Nat} (h : ¬ ((AL.get? c a.S.timers).isSome && cond c) = true) (now : ℚ) :
    cancelA1 cond now a c = a := if_neg h

theorem sublist_cons_of_mem {c : Nat} {ks cs : List Nat} (h : ks.Sublist (c :: cs)) (hn : (c :: cs).Nodup) (hc : c ∈ ks) :
    ∃ ks', ks = c :: ks' ∧ ks'.Sublist cs := by
  cases h with
  | cons _ h' =>
    exact absurd (h'.subset hc) (List.nodup_cons.mp hn).1
  | cons_cons _ h' => exact ⟨_, rfl, h'⟩

theorem sublist_of_not_mem {c : Nat} {ks cs : List Nat} (h : ks.Sublist (c :: cs)) (hc : c ∉ ks) : ks.Sublist cs := by
  cases h with
  | cons _ h' => exact h'
  | cons_cons _ h' => exact absurd List.mem_cons_self hc

/-- **the walk over the covered keys of `timers` is the walk over the candidate keys with the presence test** -/
theorem dropSegs_cancelA (cond : Nat → Bool) (now : ℚ) : ∀ (cs : List Nat) (a : A) (ks : List Nat), cs.Nodup → ks.Sublist cs →
    AL.keys a.S.timers = AL.keys a.S.sent → (AL.keys a.S.timers).Nodup → (∀ k ∈ ks, k ∈ AL.keys a.S.timers) →
    (∀ c ∈ cs, c ∈ AL.keys a.S.timers → c ∈ ks) → Sender.dropSegs a.S (ks.filter cond) = .ok (cancelA cond now a cs).S
  | [], a, ks, _, hsub, _, _, _, _ => by
    obtain rfl : ks = [] := List.sublist_nil.mp hsub
    rfl
  | c :: cs, a, ks, hn, hsub, hk, hnd, hin, hout => by
    have hn' := (List.nodup_cons.mp hn).2
    have hc : c ∉ cs := (List.nodup_cons.mp hn).1
    -- the walk goes on over `ks'` when `c` is not deleted
    have keep : ∀ ks' : List Nat, ks'.Sublist cs → ks.filter cond = ks'.filter cond → (∀ k ∈ ks', k ∈ ks) →
        (∀ c' ∈ cs, c' ∈ ks → c' ∈ ks') → cancelA1 cond now a c = a →
        Sender.dropSegs a.S (ks.filter cond) = .ok (cancelA cond now (cancelA1 cond now a c) cs).S :=
      fun ks' hsub' hf h1 h2 e1 => by
        rw [e1, hf]
        exact dropSegs_cancelA cond now cs a ks' hn' hsub' hk hnd (fun k hk' => hin k (h1 k hk'))
          fun c' hc' hm' => h2 c' hc' (hout c' (List.mem_cons_of_mem _ hc') hm')
    by_cases hm : c ∈ AL.keys a.S.timers
    · obtain ⟨ks', rfl, hsub'⟩ := sublist_cons_of_mem hsub hn (hout c List.mem_cons_self hm)
      obtain ⟨v, hv⟩ := AL.get?_isSome_of_mem hm
      obtain ⟨w, hw⟩ := AL.get?_isSome_of_mem (hk ▸ hm)
      have hcks' : c ∉ ks' := fun h => hc (hsub'.subset h)
      have tail : ∀ c' ∈ cs, c' ∈ c :: ks' → c' ∈ ks' := fun c' hc' h =>
        (List.mem_cons.mp h).resolve_left fun e : c' = c => hc (e ▸ hc')
      by_cases hcond : cond c = true
      · have e1 := cancelA1_pos (cond := cond) (a := a) (c := c) (by rw [hv, hcond]; rfl) now
        have hstep : Sender.dropSeg a.S c = .ok (cancelA1 cond now a c).S := by
          unfold Sender.dropSeg; rw [hv, hw, e1]
        rw [List.filter_cons_of_pos hcond, Sender.dropSegs, hstep]
        refine dropSegs_cancelA cond now cs _ ks' hn' hsub' ?_ ?_ ?_ ?_ <;> rw [e1]
        · show AL.keys (AL.del c a.S.timers) = AL.keys (AL.del c a.S.sent)
          rw [AL.keys_del, AL.keys_del, hk]
        · show (AL.keys (AL.del c a.S.timers)).Nodup
          rw [AL.keys_del]; exact hnd.erase c
        · intro k hk'
          show k ∈ AL.keys (AL.del c a.S.timers)
          rw [AL.keys_del]
          exact (List.mem_erase_of_ne fun e : k = c => hcks' (e ▸ hk')).mpr (hin k (List.mem_cons_of_mem _ hk'))
        · intro c' hc' hm'
          have hm'' : c' ∈ AL.keys (AL.del c a.S.timers) := hm'
          rw [AL.keys_del] at hm''
          exact tail c' hc' (hout c' (List.mem_cons_of_mem _ hc') (List.mem_of_mem_erase hm''))
      · exact keep ks' hsub' (List.filter_cons_of_neg hcond) (fun k => List.mem_cons_of_mem _) tail
          (cancelA1_neg (by rw [hv]; simpa using hcond) now)
    · exact keep ks (sublist_of_not_mem hsub fun h => hm (hin c h)) rfl (fun _ h => h) (fun _ _ h => h)
        (cancelA1_neg (by rw [(AL.get?_eq_none_iff c a.S.timers).mpr hm]; simp) now)

variable {c : KProc.Cfg St} {a : A} {p : EvId}

/-- the filter of the list comprehension in `put` -/
def covCond (ackno pid : Nat) (c : Nat) : Bool := decide (c < ackno) || c == pid

theorem cancelA_eq (cond : Nat → Bool) (now : ℚ) : ∀ (cs : List Nat) (a : A),
    ∃ T X c', cancelA cond now a cs = { a with S := { a.S with timers := T, sent := X }, tmc := c' }
  | [], _ => ⟨_, _, _, rfl⟩
  | c :: cs, a => by
    obtain ⟨T, X, c', e⟩ := cancelA_eq cond now cs (cancelA1 cond now a c)
    refine ⟨T, X, c', e.trans ?_⟩
    unfold cancelA1
    split <;> rfl

theorem cancelA1_keys (cond : Nat → Bool) (now : ℚ) (c : Nat) (hk : AL.keys a.S.timers = AL.keys a.S.sent)
    (hn : (AL.keys a.S.timers).Nodup) :
    AL.keys (cancelA1 cond now a c).S.timers = AL.keys (cancelA1 cond now a c).S.sent ∧
    (AL.keys (cancelA1 cond now a c).S.timers).Nodup ∧
    (AL.keys (cancelA1 cond now a c).S.timers).Sublist (AL.keys a.S.timers) := by
  unfold cancelA1
  split
  · refine ⟨?_, ?_, ?_⟩
    · show AL.keys (AL.del c a.S.timers) = AL.keys (AL.del c a.S.sent)
      rw [AL.keys_del, AL.keys_del, hk]
    · show (AL.keys (AL.del c a.S.timers)).Nodup
      rw [AL.keys_del]; exact hn.erase c
    · show (AL.keys (AL.del c a.S.timers)).Sublist _
      rw [AL.keys_del]; exact List.erase_sublist
  · exact ⟨hk, hn, .refl _⟩

theorem cancelA1_tm (cond : Nat → Bool) {now : ℚ} (c : Nat) (hn : (AL.keys a.S.timers).Nodup) (hnow : a.S.now = now) :
    (cancelA1 cond now a c).S.now = now ∧ ∀ seq, TmA a seq → TmA (cancelA1 cond now a c) seq := by
  by_cases hc : ((AL.get? c a.S.timers).isSome && cond c) = true
  · rw [cancelA1_pos hc]
    refine ⟨hnow, fun seq ht => ?_⟩
    have g : AL.get? seq (AL.del c a.S.timers) = if seq = c then none else AL.get? seq a.S.timers := AL_get?_del _ _ _ hn
    by_cases hs : seq = c
    · subst hs
      refine TmA.of_dead (g.trans (if_pos rfl)) ⟨?_, ?_, (ht.live rfl (Bool.and_eq_true _ _ |>.mp hc).1).dead⟩
      · show (upd a.tmc seq _ seq).stopped = true
        rw [upd_same]
      · show (upd a.tmc seq _ seq).expire ≤ a.S.now
        rw [upd_same, hnow]
    · exact ht.congr (g.trans (if_neg hs)) (upd_ne _ _ _ _ hs) rfl rfl
  · rw [cancelA1_neg hc]
    exact ⟨hnow, fun _ h => h⟩

theorem cancelA_keeps (cond : Nat → Bool) {now : ℚ} : ∀ (cs : List Nat) (a : A), AL.keys a.S.timers = AL.keys a.S.sent →
    (AL.keys a.S.timers).Nodup → a.S.now = now →
    (AL.keys (cancelA cond now a cs).S.timers).Sublist (AL.keys a.S.timers) ∧ ∀ seq, TmA a seq → TmA (cancelA cond now a cs) seq
  | [], _, _, _, _ => ⟨.refl _, fun _ h => h⟩
  | c :: cs, a, hk, hn, hnow => by
    obtain ⟨k1, k2, k4⟩ := cancelA1_keys cond now c hk hn
    obtain ⟨k3, k5⟩ := cancelA1_tm cond c hn hnow
    obtain ⟨i1, i2⟩ := cancelA_keeps cond cs (cancelA1 cond now a c) k1 k2 k3
    exact ⟨i1.trans k4, fun seq h => i2 seq (k5 seq h)⟩

/-- **the cancellation loop of `put`** over the `n` candidate keys from `seq` on -/
theorem frag_cancel (mss : Nat) (now : ℚ) (ackno pid : Nat) : ∀ (n seq : Nat) (c : KProc.Cfg St) (a : A),
    Mid p c a → AL.keys a.S.timers = AL.keys a.S.sent → (AL.keys a.S.timers).Nodup →
    ∃ c', (∀ cont, hrun p (sndCancel mss now ackno pid n seq cont) c = hrun p cont c') ∧
      Mid p c' (cancelA (covCond ackno pid) now a (cands mss seq n))
  | 0, _, c, a, h, _, _ => ⟨c, fun _ => rfl, h⟩
  | n + 1, seq, c, a, h, hk, hn => by
    have hk1 := cancelA1_keys (covCond ackno pid) now seq hk hn
    by_cases hc : ((AL.get? seq a.S.timers).isSome && covCond ackno pid seq) = true
    · have hc' : ((AL.get? seq a.S.timers).isSome && (decide (seq < ackno) || seq == pid)) = true := hc
      have hsome : (AL.get? seq a.S.timers).isSome = true := (Bool.and_eq_true _ _ |>.mp hc).1
      have hmem : seq ∈ AL.keys a.S.timers := by
        cases hg : AL.get? seq a.S.timers with
        | none => rw [hg] at hsome; cases hsome
        | some v => exact AL.mem_of_get?_some hg
      obtain ⟨w, hw⟩ := AL.get?_isSome_of_mem (hk ▸ hmem)
      obtain ⟨c1, r1, h1⟩ := frag_tmStop (p := p) h now seq
      have h2 := h1.del_tin seq hn
      have h3 := h2.del_sent seq (hk ▸ hn)
      obtain ⟨c', r', h'⟩ := frag_cancel mss now ackno pid n (seq + mss) _ _ (h3.congr (cancelA1_pos hc now).symm) hk1.1 hk1.2.1
      refine ⟨c', fun cont => ?_, h'⟩
      unfold sndCancel
      rw [hr_loadFlag (b := (AL.get? seq a.S.timers).isSome) (h.c.slot (.tin seq)), if_pos hc']
      rw [r1, hr_storeVal, hr_loadOptTime (o := some w) ((h2.c.slot (.sent seq)).trans (congrArg optEnc hw))]
      exact r' cont
    · have hc' : ¬ ((AL.get? seq a.S.timers).isSome && (decide (seq < ackno) || seq == pid)) = true := hc
      obtain ⟨c', r', h'⟩ := frag_cancel mss now ackno pid n (seq + mss) c a h hk hn
      refine ⟨c', fun cont => ?_, ?_⟩
      · unfold sndCancel
        rw [hr_loadFlag (b := (AL.get? seq a.S.timers).isSome) (h.c.slot (.tin seq)), if_neg hc']
        exact r' cont
      show Mid p c' (cancelA (covCond ackno pid) now (cancelA1 (covCond ackno pid) now a seq) (cands mss (seq + mss) n))
      rw [cancelA1_neg hc]; exact h'

theorem frag_countDup (h : Mid p c a) (ackno : Nat) :
    ∃ c', (∀ cont : Nat → B ℚ, hrun p (sndCountDup ackno a.S.last_ack a.S.dupack cont) c =
        hrun p (cont (a.S.countDup ackno).dupack) c') ∧ Mid p c' { a with S := a.S.countDup ackno } := by
  unfold sndCountDup Sender.countDup
  by_cases h1 : ackno = a.S.last_ack
  · simp only [h1, if_true]
    exact ⟨_, fun cont => rfl, h.set_dup _⟩
  · simp only [h1, if_false]
    by_cases h2 : a.S.dupack > 0
    · simp only [h2, if_true]
      unfold Sender.leaveDups
      by_cases h3 : a.S.dupack ≥ 3
      · simp only [h3, if_true]
        exact ⟨_, fun cont => by rw [hr_ccCall h]; rfl, (h.set_cc _).set_dup 0⟩
      · simp only [h3, if_false]
        exact ⟨_, fun cont => rfl, h.set_dup 0⟩
    · simp only [h2, if_false]
      exact ⟨c, fun _ => rfl, h⟩

/-- the LTS state in the new-ACK block before the timers are cancelled -/
def sAck (S : Sender ℚ) (x : Ack) : Sender ℚ :=
  (S.noteAck x).growWindow (TCPPacketGenerator.put_sample_rtt S.now x.ptime)

/-- the configuration after the cancellation loop of the new-ACK block -/
def aAck4 (cfg : Cfg) (a : A) (x : Ack) : A :=
  cancelA (covCond x.ackno x.pid) a.S.now { a with S := sAck a.S x } (cands cfg.mss 0 (a.S.next_seq / cfg.mss))

/-- the configuration after the new-ACK block (`q'`: the entry of the `StorePut` of the wake-up token) -/
def aNewAck (cfg : Cfg) (a : A) (x : Ack) (q' : QEntry ℚ) : A :=
  { aAck4 cfg a x with putAt := a.S.now, pend := (aAck4 cfg a x).pend ++ [q'],
                       S := { (aAck4 cfg a x).S with tokens := (aAck4 cfg a x).S.tokens + 1 } }

theorem aNewAck_eq (cfg : Cfg) (a : A) (x : Ack) (q' : QEntry ℚ) :
    ∃ T X c', aNewAck cfg a x q' = { a with S := { sAck a.S x with timers := T, sent := X, tokens := a.S.tokens + 1 }, tmc := c',
                                            putAt := a.S.now, pend := a.pend ++ [q'] } := by
  obtain ⟨T, X, c', e⟩ := cancelA_eq (covCond x.ackno x.pid) a.S.now (cands cfg.mss 0 (a.S.next_seq / cfg.mss))
    { a with S := sAck a.S x }
  exact ⟨T, X, c', by unfold aNewAck aAck4; rw [e]; rfl⟩

theorem frag_newAck {cfg : Cfg} (h : Mid p c a) (hkind : a.S.kind = cfg.kind) (x : Ack)
    (hsafe : CC.ackReceivedSafe a.S.kind a.S.cc (TCPPacketGenerator.put_sample_rtt a.S.now x.ptime) a.S.now = true)
    (hk : AL.keys a.S.timers = AL.keys a.S.sent) (hn : (AL.keys a.S.timers).Nodup) {now : ℚ} (hnow : a.S.now = now) :
    ∃ c' q', (∀ cont, hrun p (sndNewAck cfg now x cont) c = hrun p cont c') ∧ q'.time = a.S.now ∧
      q'.prio = NORMAL ∧ Mid p c' (aNewAck cfg a x q') := by
  subst hnow
  have h1 := h.set_est (TCPPacketGenerator.put_estimator a.S.est a.S.now x.ptime)
  have h2 := h1.set_lack x.ackno
  have h3 := h2.set_cc (CC.ackReceived a.S.kind a.S.cc (TCPPacketGenerator.put_sample_rtt a.S.now x.ptime) a.S.now)
  have h3' : Mid p _ { a with S := sAck a.S x } := h3.congr rfl
  obtain ⟨c4, r4, h4⟩ := frag_cancel (p := p) cfg.mss a.S.now x.ackno x.pid (a.S.next_seq / cfg.mss) 0 _ _ h3' hk hn
  have h5 := h4.set_putAt a.S.now
  have hnow5 : c4.reg.now = a.S.now := by
    have := h4.k.now
    rw [this]
    show (cancelA _ _ _ _).S.now = _
    obtain ⟨T, X, c', e⟩ := cancelA_eq (covCond x.ackno x.pid) a.S.now (cands cfg.mss 0 (a.S.next_seq / cfg.mss))
      { a with S := sAck a.S x }
    rw [e]
    rfl
  refine ⟨sputC (setC c4 cPutAt (TimeCell.enc a.S.now)) (kernOf (aAck4 cfg a x)),
    ⟨c4.reg.now, NORMAL, c4.reg.eid, c4.reg.evSize⟩, fun cont => ?_, hnow5, rfl, ?_⟩
  · unfold sndNewAck
    rw [hr_estCall h, hr_storeNat, hr_loadCC h2.c.cc]
    have hs' : CC.ackReceivedSafe cfg.kind a.S.cc (TCPPacketGenerator.put_sample_rtt a.S.now x.ptime) a.S.now = true := by
      rw [← hkind]; exact hsafe
    show hrun p (if CC.ackReceivedSafe cfg.kind a.S.cc _ a.S.now = true then _ else _) _ = _
    rw [if_pos hs', hr_storeCC, ← hkind, hr_loadNat (h3.c.slot .next), r4, hr_storeTime, h5.k.hrun_sput]
    rfl
  · exact ⟨h5.k.sput, h5.c⟩

theorem cands_nodup (mss : Nat) (hm : 0 < mss) (seq n : Nat) : (cands mss seq n).Nodup := by
  rw [cands_eq]
  refine List.Nodup.map ?_ List.nodup_range
  intro i j hij
  have hij' : seq + i * mss = seq + j * mss := hij
  have : i * mss = j * mss := by omega
  exact Nat.eq_of_mul_eq_mul_right hm this

theorem countDup_fields (S : Sender ℚ) (k : Nat) :
    (S.countDup k).kind = S.kind ∧ (S.countDup k).est = S.est ∧ (S.countDup k).mss = S.mss ∧ (S.countDup k).size = S.size ∧
    (S.countDup k).next_seq = S.next_seq ∧ (S.countDup k).send_buffer = S.send_buffer ∧ (S.countDup k).last_ack = S.last_ack ∧
    (S.countDup k).timers = S.timers ∧ (S.countDup k).sent = S.sent ∧ (S.countDup k).tokens = S.tokens ∧
    (S.countDup k).proc = S.proc ∧ (S.countDup k).now = S.now := by
  unfold Sender.countDup Sender.leaveDups
  split
  · exact ⟨rfl, rfl, rfl, rfl, rfl, rfl, rfl, rfl, rfl, rfl, rfl, rfl⟩
  · split
    · split <;> exact ⟨rfl, rfl, rfl, rfl, rfl, rfl, rfl, rfl, rfl, rfl, rfl, rfl⟩
    · exact ⟨rfl, rfl, rfl, rfl, rfl, rfl, rfl, rfl, rfl, rfl, rfl, rfl⟩

/-- a change of the LTS state that leaves `timers`, `tokens` and what the invariants read besides alone -/
theorem AInv.of_S {cfg : Cfg} (hi : AInv cfg a) {S' : Sender ℚ} (txs' : List (Nat × ℚ)) (hinv : Inv S')
    (ht : S'.timers = a.S.timers) (hk : S'.tokens = a.S.tokens)
    (hf : S'.kind = a.S.kind ∧ S'.mss = a.S.mss ∧ S'.size = a.S.size ∧ S'.next_seq = a.S.next_seq ∧
       S'.send_buffer = a.S.send_buffer ∧ S'.proc = a.S.proc ∧ S'.now = a.S.now) :
    AInv cfg { a with S := S', txs := txs' } :=
  hi.of_timers txs' a.tmc a.tph hinv hk hf (by rw [ht]; exact hi.tkeys) fun seq hs =>
    (hi.tm seq hs).congr (by show AL.get? seq S'.timers = _; rw [ht]) rfl rfl hf.2.2.2.2.2.2

/-- **the invariants after the new-ACK block**, entered with the LTS state `S0` after duplicate-ACK counting: the covered timers
are stopped now, one more `StorePut` is pending with one more token, put now -/
theorem AInv.newAck {cfg : Cfg} (hi : AInv cfg a) {S0 : Sender ℚ} (ht : S0.timers = a.S.timers) (hs : S0.sent = a.S.sent)
    (hk : S0.tokens = a.S.tokens)
    (hf : S0.kind = a.S.kind ∧ S0.mss = a.S.mss ∧ S0.size = a.S.size ∧ S0.next_seq = a.S.next_seq ∧
       S0.send_buffer = a.S.send_buffer ∧ S0.proc = a.S.proc ∧ S0.now = a.S.now)
    (x : Ack) {q' : QEntry ℚ} (hq1 : q'.time = a.S.now) (hq2 : q'.prio = NORMAL)
    (hinv : Inv (aNewAck cfg { a with S := S0 } x q').S) : AInv cfg (aNewAck cfg { a with S := S0 } x q') := by
  obtain ⟨f1, f2, f3, f4, f5, f6, f7⟩ := hf
  obtain ⟨ksub, ktm⟩ := cancelA_keeps (covCond x.ackno x.pid) (now := S0.now) (cands cfg.mss 0 (S0.next_seq / cfg.mss))
    { a with S := sAck S0 x } (by show AL.keys S0.timers = AL.keys S0.sent; rw [ht, hs]; exact hi.inv.keys)
    (by show (AL.keys S0.timers).Nodup; rw [ht]; exact hi.inv.nodup) rfl
  have htm : ∀ seq ∈ a.tks, TmA (aNewAck cfg { a with S := S0 } x q') seq := fun seq hs =>
    (ktm seq ((hi.tm seq hs).congr (by show AL.get? seq S0.timers = _; rw [ht]) rfl rfl f7)).congr rfl rfl rfl rfl
  have hsub : (AL.keys (aNewAck cfg { a with S := S0 } x q').S.timers).Sublist a.tks :=
    ksub.trans (by show (AL.keys S0.timers).Sublist _; rw [ht]; exact hi.tkeys)
  obtain ⟨T, X, c', e⟩ := aNewAck_eq cfg { a with S := S0 } x q'
  rw [e] at hinv htm hsub ⊢
  refine ⟨hinv, f1.trans hi.kind, f2.trans hi.mss, f3.trans hi.size, hi.mpos, hi.spos, hi.dvd,
    by show a.tks = segKeys cfg.mss S0.next_seq; rw [f4]; exact hi.tks, by show cfg.mss ∣ S0.next_seq; rw [f4]; exact hi.nmul,
    by show S0.send_buffer ≤ cfg.size; rw [f5]; exact hi.bufle, hsub, hi.cur, ?_, hi.scr.congr f7, fun u hu => ?_, htm, le_refl _⟩
  · -- `run`: a token more, a pending put more, put now
    have hr := hi.run
    show RunA _ a.run
    cases hrun : a.run with
    | init q0 => rw [hrun] at hr; exact ⟨hr.1.trans f7.symm, hr.2.1, f6.trans hr.2.2⟩
    | blocked g t0 =>
      rw [hrun] at hr
      obtain ⟨b1, b2, b3, -⟩ := hr
      refine ⟨f6.trans b1, by show t0 ≤ S0.now; rw [f7]; exact b2, ?_, fun _ => rfl⟩
      show S0.tokens + 1 ≤ (a.pend ++ [q']).length
      rw [hk, List.length_append]
      exact Nat.succ_le_succ b3
    | handed g t0 q0 =>
      rw [hrun] at hr
      obtain ⟨d1, d2, d3, d4⟩ := hr
      exact ⟨d1.trans f7.symm, d2, f6.trans d3, pymax_of_le (by rw [f7]; exact le_of_pymax d4)⟩
    | ending q0 => rw [hrun] at hr; exact ⟨f6.trans hr.1, hr.2⟩
    | done => rw [hrun] at hr; exact f6.trans hr
    | running => rw [hrun] at hr; exact hr.elim
  · show u.time = S0.now ∧ u.prio = NORMAL
    rw [f7]
    rcases List.mem_append.mp (show u ∈ a.pend ++ [q'] from hu) with h | h
    · exact hi.pend u h
    · rw [List.mem_singleton.mp h]
      exact ⟨hq1, hq2⟩

theorem cCwnd_cell {cc : CCState ℚ} {f : Nat → Val} (h : ∀ x ∈ ccCells cc, f x.1 = x.2) : f cCwnd = TimeCell.enc cc.cwnd :=
  h (cCC 1, TimeCell.enc cc.cwnd) (by simp [ccCells])

/-- **`put(ack)`** in the middle of a burst is the action `ack` of the LTS, and keeps the invariants -/
theorem frag_put {cfg : Cfg} (h : Mid p c a) (hi : AInv cfg a) (x : Ack) (hok : AckOk a.S x) :
    ∃ c' a' outs, (∀ cont, hrun p (sndPut cfg a.S.now x cont) c = hrun p cont c') ∧ Mid p c' a' ∧
      a.S.ackStep x = .ok a'.S outs ∧ a'.txs = a.txs ++ outs.map txPair ∧ AInv cfg a' ∧ a'.scr = a.scr ∧
      a'.S.now = a.S.now := by
  have hinv := hi.inv
  have hkind := hi.kind
  -- the invariant of the LTS state after the call comes from the LTS (`ackStep_safe`)
  suffices hh : ∃ c' a' outs, (∀ cont, hrun p (sndPut cfg a.S.now x cont) c = hrun p cont c') ∧ Mid p c' a' ∧
      a.S.ackStep x = .ok a'.S outs ∧ a'.txs = a.txs ++ outs.map txPair ∧ (Inv a'.S → AInv cfg a') ∧ a'.scr = a.scr ∧
      a'.S.now = a.S.now by
    obtain ⟨c', a', outs, g1, g2, g3, g4, g5, g6⟩ := hh
    exact ⟨c', a', outs, g1, g2, g3, g4, g5 ((ackStep_safe hinv x hok.1).2 _ _ g3), g6⟩
  have hfid : ¬ x.fid < 10000 := Nat.not_lt.mpr hok.1
  by_cases hst : x.ackno < a.S.last_ack
  · -- overtaken by a later cumulative ACK: `put` returns at once
    refine ⟨c, a, [], fun cont => ?_, h, ackStep_stale a.S x hok hst, by simp, fun _ => hi, rfl, rfl⟩
    unfold sndPut
    rw [if_neg hfid, hr_loadNat (h.c.slot .lack), if_pos hst]
  obtain ⟨c1, c2, c3, c4, c5, c6, c7, c8, c9, c10, c11, c12⟩ := countDup_fields a.S x.ackno
  -- the duplicate-ACK branches change `cc`, `dupack` and the stamp of one segment
  have dup : ∀ (cc : CCState ℚ) (X : List (Nat × ℚ)) (txs' : List (Nat × ℚ)),
      Inv ({ a.S.countDup x.ackno with cc := cc, sent := X } : Sender ℚ) →
      AInv cfg { a with S := { a.S.countDup x.ackno with cc := cc, sent := X }, txs := txs' } :=
    fun _ _ _ hinv' => hi.of_S _ hinv' c8 c10 ⟨c1, c3, c4, c5, c6, c11, c12⟩
  obtain ⟨k1, r1, h1⟩ := frag_countDup (p := p) h x.ackno
  have hstart : ∀ cont, hrun p (sndPut cfg a.S.now x cont) c =
      hrun p (if (a.S.countDup x.ackno).dupack = 3 then
          ccCall CongestionControl.consecutive_dupacks_received <| sndResend a.S.now x.ackno cont
        else if (a.S.countDup x.ackno).dupack > 3 then
          ccCall CongestionControl.more_dupacks_received <| loadTime cCwnd fun cwnd =>
            if (Num.ofNat x.ackno : ℚ) ≤ Num.ofNat a.S.last_ack + cwnd then sndResend a.S.now x.ackno cont else cont
        else if (a.S.countDup x.ackno).dupack = 0 then sndNewAck cfg a.S.now x cont
        else cont) k1 := by
    intro cont
    unfold sndPut
    rw [if_neg hfid, hr_loadNat (h.c.slot .lack), if_neg hst, hr_loadNat (h.c.slot .dup), r1]
  rw [ackStep_unfold a.S x hok hst]
  by_cases d3 : (a.S.countDup x.ackno).dupack = 3
  · -- the third duplicate
    have h2 := h1.set_cc (CongestionControl.consecutive_dupacks_received (a.S.countDup x.ackno).cc)
    obtain ⟨k3, r3, h3⟩ := frag_resend h2 x.ackno (now := a.S.now) c12
    refine ⟨k3, _, _, fun cont => ?_, h3, ?_, rfl, ?_, rfl, (resend_now _ _).trans c12⟩
    · rw [hstart, if_pos d3, hr_ccCall h1]
      exact r3 cont
    · rw [if_pos d3]; rfl
    · obtain ⟨X, e, _⟩ := resend_frame
        ({ a.S.countDup x.ackno with cc := CongestionControl.consecutive_dupacks_received (a.S.countDup x.ackno).cc } : Sender ℚ)
        x.ackno
      show Inv (Sender.resend _ x.ackno).1 → AInv cfg { a with S := (Sender.resend _ x.ackno).1, txs := _ }
      rw [e]
      exact dup _ _ _
  · by_cases dgt : (a.S.countDup x.ackno).dupack > 3
    · -- further duplicates
      have h2 := h1.set_cc (CongestionControl.more_dupacks_received (a.S.countDup x.ackno).cc)
      by_cases hw : (Num.ofNat x.ackno : ℚ) ≤ Num.ofNat a.S.last_ack +
          (CongestionControl.more_dupacks_received (a.S.countDup x.ackno).cc).cwnd
      · obtain ⟨k3, r3, h3⟩ := frag_resend h2 x.ackno (now := a.S.now) c12
        refine ⟨k3, _, _, fun cont => ?_, h3, ?_, rfl, ?_, rfl, (resend_now _ _).trans c12⟩
        · rw [hstart, if_neg d3, if_pos dgt, hr_ccCall h1, hr_loadTime (cCwnd_cell h2.c.cc), if_pos hw]
          exact r3 cont
        · rw [if_neg d3, if_pos dgt]
          unfold Sender.moreDup
          simp only
          rw [show (a.S.countDup x.ackno).last_ack = a.S.last_ack from c7, if_pos hw]
          rfl
        · obtain ⟨X, e, _⟩ := resend_frame
            ({ a.S.countDup x.ackno with cc := CongestionControl.more_dupacks_received (a.S.countDup x.ackno).cc } : Sender ℚ)
            x.ackno
          show Inv (Sender.resend _ x.ackno).1 → AInv cfg { a with S := (Sender.resend _ x.ackno).1, txs := _ }
          rw [e]
          exact dup _ _ _
      · refine ⟨_, { a with S := { a.S.countDup x.ackno with
            cc := CongestionControl.more_dupacks_received (a.S.countDup x.ackno).cc }, txs := a.txs }, [],
          fun cont => ?_, h2, ?_, by simp, dup _ _ _, rfl, c12⟩
        · rw [hstart, if_neg d3, if_pos dgt, hr_ccCall h1, hr_loadTime (cCwnd_cell h2.c.cc), if_neg hw]
        · rw [if_neg d3, if_pos dgt]
          unfold Sender.moreDup
          simp only
          rw [show (a.S.countDup x.ackno).last_ack = a.S.last_ack from c7, if_neg hw]
    · by_cases d0 : (a.S.countDup x.ackno).dupack = 0
      · -- a new ACK
        have hne := (ackStep_safe hinv x hok.1).1
        rw [ackStep_unfold a.S x hok hst, if_neg d3, if_neg dgt, if_pos d0] at hne
        have hsafe : CC.ackReceivedSafe (a.S.countDup x.ackno).kind (a.S.countDup x.ackno).cc
            (TCPPacketGenerator.put_sample_rtt (a.S.countDup x.ackno).now x.ptime) (a.S.countDup x.ackno).now = true := by
          by_contra hc
          apply hne .partialOp
          unfold Sender.newAck
          simp only [hc, if_false]
        have hk1 : AL.keys (a.S.countDup x.ackno).timers = AL.keys (a.S.countDup x.ackno).sent := by
          rw [c8, c9]; exact hinv.keys
        have hn1 : (AL.keys (a.S.countDup x.ackno).timers).Nodup := by rw [c8]; exact hinv.nodup
        obtain ⟨c', q', r', hq1, hq2, h'⟩ := frag_newAck (cfg := cfg) (a := { a with S := a.S.countDup x.ackno }) h1
          (c1.trans hkind) x hsafe hk1 hn1 (now := a.S.now) c12
        -- the LTS side: the walk over the covered keys is the program's loop
        have hcs : (cands cfg.mss 0 ((a.S.countDup x.ackno).next_seq / cfg.mss)).Nodup := cands_nodup _ hi.mpos _ _
        have hsub : (AL.keys (sAck (a.S.countDup x.ackno) x).timers).Sublist
            (cands cfg.mss 0 ((a.S.countDup x.ackno).next_seq / cfg.mss)) := by
          show (AL.keys (a.S.countDup x.ackno).timers).Sublist _
          rw [c8, c5, ← segKeys_eq_cands, ← hi.tks]; exact hi.tkeys
        have hdrop := dropSegs_cancelA (covCond x.ackno x.pid) (a.S.countDup x.ackno).now _
          { a with S := sAck (a.S.countDup x.ackno) x } _ hcs hsub hk1 hn1 (fun k hk' => hk') (fun c _ hc => hc)
        have hS : (aNewAck cfg { a with S := a.S.countDup x.ackno } x q').S = (aAck4 cfg { a with S := a.S.countDup x.ackno } x).S.giveToken :=
          rfl
        obtain ⟨T, X, tc, e⟩ := aNewAck_eq cfg { a with S := a.S.countDup x.ackno } x q'
        refine ⟨c', _, [], fun cont => by rw [hstart, if_neg d3, if_neg dgt, if_pos d0]; exact r' cont, h', ?_,
          by rw [e]; exact (List.append_nil _).symm, hi.newAck c8 c9 c10 ⟨c1, c3, c4, c5, c6, c11, c12⟩ x (c12 ▸ hq1) hq2,
          by rw [e], by rw [e]; exact c12⟩
        rw [if_neg d3, if_neg dgt, if_pos d0, hS]
        unfold Sender.newAck
        simp only [hsafe, if_true]
        show Sender.finishAck (sAck (a.S.countDup x.ackno) x) x = _
        unfold Sender.finishAck
        have hcov : (sAck (a.S.countDup x.ackno) x).covered x.ackno x.pid =
            (AL.keys (sAck (a.S.countDup x.ackno) x).timers).filter (covCond x.ackno x.pid) := rfl
        rw [hcov, show sAck (a.S.countDup x.ackno) x = ({ a with S := sAck (a.S.countDup x.ackno) x } : A).S from rfl, hdrop]
        rfl
      · -- the first two duplicates only count
        refine ⟨k1, { a with S := a.S.countDup x.ackno, txs := a.txs }, [], fun cont => ?_, h1, ?_, by simp,
          fun hinv' => hi.of_S _ hinv' c8 c10 ⟨c1, c3, c4, c5, c6, c11, c12⟩, rfl, c12⟩
        · rw [hstart, if_neg d3, if_neg dgt, if_neg d0]
        · rw [if_neg d3, if_neg dgt, if_neg d0]

end SndK
