import OnlVerif.Lemmas.TimerKRun
/-!
# The Timer on the kernel model: a one-shot timer's run ends

With `auto_restart = False` every configuration step uses up one unit of a step budget computed from the configuration
(`A.mu`): the controller's remaining calls (at most six kernel steps each: the call, the `Interruption`, the orphaned
timeout, the old process event, the new `Initialize`, …), the callback entries that can still re-arm the timer, the
entries with nothing left to do.  So `run()` returns, and by then nothing is pending.
-/

namespace TimerK
open TimerOnK QEntry
open Timer (CbOp)

variable {arg : Int} {cbs : List (Option Op)} {T : ℚ}

def TPhase.mu (r : Nat) : TPhase → Nat
  | .init _ => r + 3
  | .sleep _ _ => r + 2
  | .dead => 0

def CPhase.mu : CPhase → Nat
  | .init _ sc => 6 * sc.length + 2
  | .wait _ sc _ => 6 * sc.length + 7
  | .done => 0

/-- number of kernel steps a configuration of a one-shot timer still needs (`n` = length of the callback script) -/
def A.mu (n : Nat) (a : A) : Nat :=
  a.ph.mu (n - a.fired) + 3 * (oldStat a.old).length + a.ctl.mu + a.noop.length

theorem ctlNext_mu (n : Nat) (now : ℚ) (eid e : Nat) (b : A) (sc : List (ℚ × Op)) :
    (ctlNext now eid e b sc).mu n + 5 =
      b.ph.mu (n - b.fired) + 3 * (oldStat b.old).length + (6 * sc.length + 6) + b.noop.length := by
  cases sc with
  | nil => simp only [ctlNext, A.mu, CPhase.mu, List.length_append, List.length_singleton, List.length_nil]; omega
  | cons x sc => obtain ⟨gap, op⟩ := x; simp only [ctlNext, A.mu, CPhase.mu, List.length_cons]; omega

theorem tmNext_mu (n : Nat) (now : ℚ) (eid e : Nat) (b : A) :
    (tmNext now eid e b).mu n ≤ (n - b.fired) + 2 + 3 * (oldStat b.old).length + b.ctl.mu + b.noop.length := by
  unfold tmNext
  split <;> simp only [A.mu, TPhase.mu, List.length_append, List.length_singleton] <;> omega

theorem astep_mu {a a' : A} {q : QEntry ℚ} {hist new : List (HEv ℚ)} (hi : AInv false cbs T a q.time hist)
    (hs : AStep false cbs a q a' new) : a'.mu cbs.length + 1 ≤ a.mu cbs.length := by
  cases hs with
  | tmInit eid n hph hold =>
    have := tmNext_mu cbs.length q.time eid n a
    simp only [A.mu, hph, TPhase.mu] at this ⊢
    omega
  | intr eid o hold hq =>
    simp only [A.mu, hold, oldStat, List.length_append, List.length_cons, List.length_nil]; omega
  | noop l1 l2 hq => simp only [A.mu, hq, List.length_append, List.length_cons]; omega
  | ctlInit | ctlStop | ctlRestartDead | ctlRestartAlive =>
    rw [← Nat.add_le_add_iff_right (n := 4), Nat.add_assoc, ctlNext_mu]
    simp only [A.mu, *, CPhase.mu, TPhase.mu, oldStat, List.length_nil, List.length_singleton]
    omega
  | wake eid n t hph hold =>
    -- a one-shot timer sleeps again only after a `restart` from its callback, which uses up an entry of the script
    have hp := hi.ph
    rw [hph] at hp
    obtain ⟨-, hexp, -⟩ := hp
    have key : q.time < (wakeCells false cbs q.time a).expire →
        (wakeCells false cbs q.time a).fired = a.fired + 1 ∧ a.fired < cbs.length :=
      wakeCells_cases (P := fun w => q.time < w.expire → w.fired = a.fired + 1 ∧ a.fired < cbs.length)
        (fun _ h => absurd h (not_lt.mpr hexp)) (fun _ _ h => absurd h (not_lt.mpr hexp))
        (fun _ _ h => absurd h (lt_irrefl _)) (fun _ _ hcb _ => ⟨rfl, cbAt_lt hcb⟩)
    obtain ⟨st, ex, tmo, sa, fi, hw⟩ := wakeCells_eq false cbs q.time a
    rw [hw] at key ⊢
    unfold tmNext
    split
    · obtain ⟨k1, k2⟩ := key ‹_›
      have k1 : fi = a.fired + 1 := k1
      simp only [A.mu, hph, hold, TPhase.mu, oldStat, List.length_nil]
      omega
    · simp only [A.mu, hph, hold, TPhase.mu, List.length_append, List.length_singleton, oldStat, List.length_nil]
      omega

/-- **a one-shot timer's `run()` returns**: with more step budget than the configuration needs, `runLoop` ends with an
empty agenda -/
theorem run_returns_oneshot (hcbs : CbsOK cbs) (fuel n : Nat) (s : KS) (a : A) (h : Inv false cbs T s a)
    (hmu : a.mu cbs.length < n) :
    ∃ sF aF, runLoop (body false arg cbs) (fuel + 1) none n s = .returned .none sF ∧ Inv false cbs T sF aF ∧ sF.agenda = [] :=
  let ⟨sF, aF, h1, h2, h3, _⟩ := runLoop_returns (I := Inv false cbs T) (A.mu cbs.length)
    (fun _ _ _ _ hi hp =>
      let ⟨s', a', _, g1, g2, g3, _⟩ := inv_step (arg := arg) hcbs fuel hi hp
      ⟨s', a', g1, g2, astep_mu (hi.a.advance ((min_of_pop hi.k.ag hp).1)) g3⟩) s n s a h hmu KReach.init
  ⟨sF, aF, h1, h2, h3⟩

end TimerK
