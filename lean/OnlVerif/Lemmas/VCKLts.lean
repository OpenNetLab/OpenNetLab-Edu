import OnlVerif.Lemmas.VCKAbs
/-!
# The VirtualClock scheduler on the kernel model: every configuration step is accepted by the StampServer LTS

`toM a now` (`VCKDefs.lean`) is the LTS state (`Net/StampServer.lean` with the record `VC.sched`) a configuration stands
for.  For each constructor of `AStep` the LTS accepts the corresponding action (`init`, `put`, `handoff`, `resume`,
`sendInit`, `sendFire`, `sendDone`, or nothing) from `toM a` to `toM a'`; and the clock advance is an accepted `tick`.
-/

set_option linter.unusedSimpArgs false
set_option linter.unusedVariables false

namespace VCK
open VCOnK QEntry

section dict
variable {β : Type}

/-! `Stamp.lookup`, `Stamp.setKey`, `Stamp.bump` are the dict functions of `Net/MultiQueue.lean` under another name; what
`Lemmas/MQKCommon.lean` says of a dict built over a list of keys holds of them. -/

theorem lookup_eq : ∀ (l : List (Nat × β)) (k : Nat), Stamp.lookup l k = MQ.lookup l k
  | [], _ => rfl
  | (k', v) :: r, k => by simp only [Stamp.lookup, MQ.lookup, lookup_eq r k]

theorem setKey_eq : ∀ (l : List (Nat × β)) (k : Nat) (v : β), Stamp.setKey l k v = MQ.setKey l k v
  | [], _, _ => rfl
  | (k', v') :: r, k, v => by simp only [Stamp.setKey, MQ.setKey, setKey_eq r k v]

theorem bump_eq : ∀ (l : List (Nat × Int)) (k : Nat) (d : Int), Stamp.bump l k d = MQ.bump l k d
  | [], _, _ => rfl
  | (k', v) :: r, k, d => by simp only [Stamp.bump, MQ.bump, bump_eq r k d]

theorem qcTotal_eq : ∀ l : List (Nat × Int), Stamp.qcTotal l = MQ.total l
  | [] => rfl
  | (_, v) :: r => congrArg (v + ·) (qcTotal_eq r)

theorem lookup_dictOf (keys : List Nat) (g : Nat → β) (f : Nat) :
    Stamp.lookup (dictOf keys g) f = if f ∈ keys then some (g f) else none :=
  (lookup_eq _ _).trans (MQK.lookup_dictOf keys g f)

theorem map_keys_eq {γ : Type} (l : List (Nat × γ)) (g : Nat → β) :
    (l.map fun kv => (kv.1, g kv.1)) = dictOf (l.map (·.1)) g := by
  simp [dictOf, List.map_map, Function.comp_def]

theorem lookup_map_keys {γ : Type} (l : List (Nat × γ)) (g : Nat → β) (k : Nat) :
    Stamp.lookup (l.map fun kv => (kv.1, g kv.1)) k = if k ∈ l.map (·.1) then some (g k) else none := by
  rw [map_keys_eq, lookup_dictOf]

theorem setKey_dictOf (keys : List Nat) (hn : keys.Nodup) (g : Nat → β) (f : Nat) (v : β) :
    Stamp.setKey (dictOf keys g) f v = dictOf (addKey keys f) (upd g f v) :=
  (setKey_eq _ _ _).trans (MQK.setKey_dictOf keys hn g f v)

theorem setKey_map_keys {γ : Type} (l : List (Nat × γ)) (hn : (l.map (·.1)).Nodup) (g : Nat → β) (k : Nat) (v : β)
    (hk : k ∈ l.map (·.1)) :
    Stamp.setKey (l.map fun kv => (kv.1, g kv.1)) k v = l.map fun kv => (kv.1, upd g k v kv.1) := by
  rw [map_keys_eq, map_keys_eq, setKey_dictOf _ hn, addKey_of_mem _ _ hk]

theorem bump_dictOf (keys : List Nat) (hn : keys.Nodup) (c : Nat → Int) (f : Nat) (d : Int) (h0 : f ∉ keys → c f = 0) :
    Stamp.bump (dictOf keys c) f d = dictOf (addKey keys f) (upd c f (c f + d)) :=
  (bump_eq _ _ _).trans (MQK.bump_dictOf keys hn c f d h0)

end dict

section keys
variable {flow : Int → Nat}

theorem addKey_nodup (l : List Nat) (k : Nat) (h : l.Nodup) : (addKey l k).Nodup := MQK.addKey_nodup l k h

theorem keysOf_nodup (ids : List Int) : (keysOf flow ids).Nodup := MQK.foldl_addKey_nodup flow ids [] List.nodup_nil

theorem A.keys_nodup (a : A) : (a.keys flow).Nodup := keysOf_nodup _

end keys

section pick
variable {N scale F : Nat} {flow size : Int → Nat} {cfg : VcCfg ℚ} {a : A} {now : ℚ}

/-- **what `K`'s `PriorityStore` hands out is accepted by the LTS**: the least integer carries a minimal key -/
theorem pick_least (hi : AInv N scale F flow cfg a now) {w : PutRec} (hw : IsLeast N scale a.items w) :
    Stamp.pick (a.items.map (itemW flow size)) w.1.toNat =
      .ok (itemW flow size w, (a.items.erase w).map (itemW flow size)) :=
  hi.putsOK.pick_least hi.sub _ (fun _ => rfl) hw

end pick

section lts
variable {N scale F : Nat} {flow size : Int → Nat} {cfg : VcCfg ℚ} {a a' : A} {now t : ℚ} {q : QEntry ℚ} {n e : Nat}
  {new : List (HEv ℚ)}

def LtsOK (flow size : Int → Nat) (cfg : VcCfg ℚ) (a : A) (t : ℚ) (a' : A) (ins outs : List SPkt) : Prop :=
  ∃ acts, Stamp.runActs (VC.sched cfg) (toM flow size cfg a t) acts = .ok (toM flow size cfg a' t, ins, outs)

theorem ltsOK_nothing (h : toM flow size cfg a' t = toM flow size cfg a t) : LtsOK flow size cfg a t a' [] [] :=
  ⟨[], by rw [h]; rfl⟩

theorem ltsOK_one (act : StAct ℚ) (o : StOut)
    (h : Stamp.step (VC.sched cfg) (toM flow size cfg a t) act = .ok (toM flow size cfg a' t, o)) :
    LtsOK flow size cfg a t a' (Stamp.entered act o) (Stamp.left o) := by
  refine ⟨[act], ?_⟩
  simp only [Stamp.runActs, h, List.append_nil]

theorem eqb_zero_false {x : ℚ} (h : x ≠ 0) : Num.eqb x (Num.zero : ℚ) = false := by
  rw [Bool.eq_false_iff]
  intro hc
  rw [Num.eqb_iff, zero_eq'] at hc
  exact h hc

theorem issueGet_none {σ : Type} (s : StState ℚ σ) (h : s.items = []) :
    Stamp.issueGet s none = .ok { s with getPending := true } := by
  unfold Stamp.issueGet
  simp only [h]

theorem issueGet_some {σ : Type} (s : StState ℚ σ) (id : Nat) (it : Item ℚ) (rest : List (Item ℚ))
    (h : Stamp.pick s.items id = .ok (it, rest)) :
    Stamp.issueGet s (some id) = .ok { s with items := rest, handed := some it } := by
  cases hitems : s.items with
  | nil => rw [hitems] at h; simp [Stamp.pick, Stamp.takeId] at h
  | cons x xs =>
    rw [hitems] at h
    simp only [Stamp.issueGet, hitems, h]

theorem txTime_eq (id : Int) : Stamp.txTime (VC.sched cfg) (pktOf flow size id) = VCOnK.txTime size cfg.rate id := rfl

theorem doPut_toM (hi : AInv N scale F flow cfg a now) {id : Int} (hf : flow id < F) (t : ℚ) :
    Stamp.doPut (VC.sched cfg) (toM flow size cfg a t) (pktOf flow size id) =
      .ok (Stamp.enqueue (toM flow size cfg a t)
            { vc := cfg.vticks.map fun kv =>
                (kv.1, upd a.vc (flow id) (VC.vcOf (a.vc (flow id)) t (vtOf cfg (flow id)) (size id)) kv.1),
              aux := cfg.vticks.map fun kv =>
                (kv.1, upd a.aux (flow id) (VC.auxOf t (a.aux (flow id)) (vtOf cfg (flow id))) kv.1) }
            (VC.auxOf t (a.aux (flow id)) (vtOf cfg (flow id))) (pktOf flow size id), .accepted) := by
  obtain ⟨vt, hvt, -⟩ := hi.cfgOK.vt _ hf
  have hk : flow id ∈ cfg.vticks.map (·.1) := List.mem_map.mpr ⟨_, lookup_mem _ _ _ hvt, rfl⟩
  unfold Stamp.doPut
  simp only [VC.sched, VC.put, pktOf, toM, hi.cfgOK.f2c _ hf, lookup_map_keys, hk, if_true, hvt, vtOf, Option.getD_some,
    setKey_map_keys _ hi.cfgOK.nodup _ _ _ hk]

theorem keys_snoc (w : PutRec) : keysOf flow ((a.puts ++ [w]).map (·.1)) = addKey (a.keys flow) (flow w.1) := by
  rw [List.map_append, List.map_singleton, keysOf_snoc]
  rfl

theorem ltsOK_step (hi : AInv N scale F flow cfg a q.time) (h : AStep N scale flow size cfg n e a q a' new) :
    LtsOK flow size cfg a q.time a' (putPk flow size new) (outPk flow size new) := by
  have hrun := hi.run
  cases h with
  | runInit h =>
    rw [h] at hrun
    obtain ⟨-, -, -, hit, -, -⟩ := hrun
    refine ltsOK_one (.init none) .nothing ?_
    simp only [toM, h, hit, Stamp.step, Stamp.doInit, Bool.false_eq_true, if_false, List.map_nil, Stamp.issueGet, A.keys]
  | pktResume g w h =>
    refine ltsOK_one .resume .nothing ?_
    simp only [toM, h, Stamp.step, Stamp.doResume, itemW, A.keys]
  | sendInit p id h =>
    refine ltsOK_one .sendInit .nothing ?_
    have hr : Num.eqb (VC.sched cfg).rate (Num.zero : ℚ) = false := eqb_zero_false (ne_of_gt hi.cfgOK.rate)
    have hneg : ¬ VCOnK.txTime size cfg.rate id < (Num.zero : ℚ) := by
      rw [zero_eq']
      exact not_lt.mpr (txTime_nonneg hi.cfgOK.rate id)
    simp only [toM, h, Stamp.step, Stamp.doSendInit, hr, Bool.false_eq_true, if_false, hneg, txTime_eq, Option.map_some,
      A.keys]
  | sendFire p t id h =>
    rw [h] at hrun
    obtain ⟨-, hcur, hfid, w, hw, hwid⟩ := hrun
    have hk : flow id ∈ a.keys flow := by
      subst hwid
      exact mem_keysOf_iff.mpr ⟨_, List.mem_map.mpr ⟨w, hw, rfl⟩, rfl⟩
    refine ltsOK_one .sendFire (.depart (pktOf flow size id)) ?_
    have hk' : addKey (keysOf flow (List.map (fun x => x.1) a.puts)) (flow id) = keysOf flow (List.map (fun x => x.1) a.puts) :=
      addKey_of_mem _ _ hk
    simp only [toM, h, Stamp.step, Stamp.doSendFire, lt_irrefl, if_false, Stamp.release, pktOf, A.keys,
      bump_dictOf _ (keysOf_nodup _) _ _ _ (fun h0 => absurd hk h0), hk', Option.map_none]
  | doneHit p id0 w h hw =>
    refine ltsOK_one (.sendDone (some w.1.toNat)) .nothing ?_
    simp only [toM, h, Stamp.step, Stamp.doSendDone, VC.sched, VC.done]
    rw [issueGet_some _ _ _ _ (pick_least (size := size) hi hw)]
    simp only [A.keys]
  | doneBlock p id0 h hit =>
    refine ltsOK_one (.sendDone none) .nothing ?_
    simp only [toM, h, hit, Stamp.step, Stamp.doSendDone, VC.sched, VC.done, List.map_nil, Stamp.issueGet, A.keys]
  | srcPut id arr h =>
    have hs := hi.src
    rw [h] at hs
    obtain ⟨-, hwk, -, -⟩ := hs
    have hfid : flow id < F := (hwk.gap (0, id) List.mem_cons_self).2.1
    have h0c : flow id ∉ a.keys flow → a.cnt (flow id) = 0 := fun hk => (hi.keysOK _ hk).1
    have h0b : flow id ∉ a.keys flow → a.byt (flow id) = 0 := fun hk => (hi.keysOK _ hk).2
    show LtsOK flow size cfg a q.time _ (Stamp.entered (.put (pktOf flow size id)) .accepted) (Stamp.left .accepted)
    refine ltsOK_one (.put (pktOf flow size id)) .accepted ?_
    simp only [Stamp.step]
    rw [doPut_toM hi hfid]
    simp only [Stamp.enqueue, toM, A.keys, keysOf_snoc, putRec, pktOf, bump_dictOf _ (keysOf_nodup _) _ _ _ h0c,
      bump_dictOf _ (keysOf_nodup _) _ _ _ h0b, List.map_append, List.map_singleton, itemW]
  | srcInit arr h | srcEnd h | pendNoop l1 l2 hpe hno => exact ltsOK_nothing rfl
  | pendHand g w l1 l2 hpe h hw =>
    refine ltsOK_one (.handoff w.1.toNat) .nothing ?_
    simp only [toM, h, Stamp.step, Stamp.doHandoff, if_true, pick_least (size := size) hi hw, A.keys]

theorem lts_tick (hi : AInv N scale F flow cfg a now) (hq : IsMin a q) (h : now < q.time) :
    Stamp.step (VC.sched cfg) (toM flow size cfg a now) (.tick q.time) = .ok (toM flow size cfg a q.time, .nothing) := by
  have hne : ∀ x ∈ a.entries, x.time ≠ now := min_ne_now hi.due hq h
  have hp := hi.run
  have hok : Stamp.tickOk (toM flow size cfg a now) q.time = none := by
    rw [Stamp.tickOk_iff]
    cases hr : a.run with
    | T p t id q0 =>
      have h2 : q.time ≤ q0.time := not_keyLt_time (hq.2 q0 (mem_run (by rw [hr]; exact List.mem_cons_self)))
      simp only [toM, hr]
      refine ⟨le_of_lt h, rfl, rfl, rfl, rfl, fun hh => absurd hh.1 Bool.false_ne_true, ?_⟩
      intro p' due htx
      simp only [Option.some.injEq, Prod.mk.injEq] at htx
      rw [← htx.2]; exact h2
    | W g =>
      rw [hr] at hp
      simp only [toM, hr]
      refine ⟨le_of_lt h, rfl, rfl, rfl, rfl, ?_, fun _ _ hh => nomatch hh⟩
      rintro ⟨-, hit⟩
      have hit' : a.items ≠ [] := fun hc => hit (by rw [hc]; rfl)
      obtain ⟨u, hu⟩ := List.exists_mem_of_ne_nil _ (hp.1 hit')
      exact hne u (mem_pend hu) (hi.pend _ hu).1
    | _ => rw [hr] at hp; exact absurd hp.1 (hne _ (mem_run (by rw [hr]; exact List.mem_cons_self)))
  simp only [Stamp.step, Stamp.doTick, hok]
  rfl

theorem lts_advance (hi : AInv N scale F flow cfg a now) (hq : IsMin a q) :
    ∃ acts, Stamp.runActs (VC.sched cfg) (toM flow size cfg a now) acts = .ok (toM flow size cfg a q.time, [], []) := by
  rcases eq_or_lt_of_le (hi.now_le hq) with h | h
  · exact ⟨[], by rw [← h]; rfl⟩
  · refine ⟨[.tick q.time], ?_⟩
    simp only [Stamp.runActs, lts_tick hi hq h]
    rfl

theorem toM_a0 (arrivals : List (ℚ × Int)) : toM flow size cfg (a0 arrivals) 0 = VC.start cfg 0 := by
  simp [toM, a0, VC.start, Stamp.init, VC.init0, A.keys, keysOf, dictOf, zero_eq']

theorem putPk_append (l1 l2 : List (HEv ℚ)) : putPk flow size (l1 ++ l2) = putPk flow size l1 ++ putPk flow size l2 :=
  List.filterMap_append

theorem outPk_append (l1 l2 : List (HEv ℚ)) : outPk flow size (l1 ++ l2) = outPk flow size l1 ++ outPk flow size l2 :=
  List.filterMap_append

theorem linv_step_l {h0 : List (HEv ℚ)} (hl : LInv a h0) (h : AStep N scale flow size cfg n e a q a' new) :
    LInv a' (h0 ++ new) := linv_step hl h

end lts

end VCK
