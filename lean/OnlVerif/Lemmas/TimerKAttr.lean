import Lean.Meta.Tactic.Simp.RegisterCommand
/-! the simp sets that `WireK.wsimp` (`Lemmas/WireKBasic.lean`) names -/
register_simp_attr timerk
register_simp_attr wirek
