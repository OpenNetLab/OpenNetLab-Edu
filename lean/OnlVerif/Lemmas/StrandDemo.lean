import OnlVerif.Lemmas.StrandStep
/-!
# Two concrete runs (non-vacuity of the global "never strand a request" theorems)

`Demo.res*`: two processes compete for a capacity-1 `Resource` (request, hold 5 time units, release).
`Demo.con*`: on `Container(capacity=10, init=7)` one process issues `put(5)` (blocked), a second one `put(1)` (queued
behind it); at time 1 the first cancels its request.
The states are computed by the model itself (`step`); facts about them are checked by kernel evaluation.
-/

namespace Demo

abbrev St := Nat × EvId

/-- request the resource, hold it for 5 time units, release it -/
def resProg : Nat → EvId → Burst ℚ St
  | 0, _ => .call (.request 0 0 true) fun rp => match rp with
      | .ev e => .yield e (1, e)
      | _ => .ret .none
  | 1, rq => .call (.timeout 5 .none) fun rp => match rp with
      | .ev t => .yield t (2, rq)
      | _ => .ret .none
  | 2, rq => .call (.release 0 rq) fun rp => match rp with
      | .ev e => .yield e (3, rq)
      | _ => .ret .none
  | _, _ => .ret .none

def resBody : St → Resume → Burst ℚ St := fun st _ => resProg st.1 st.2

/-- a fresh environment with one capacity-1 `Resource`, after two `env.process(...)` calls -/
def resS0 : KState ℚ St :=
  [Call.spawn (0, 0), Call.spawn (0, 0)].foldl (fun s c => (doCall s 0 c).1)
    { now := 0, resources := #[{ kind := .resource, capacity := some 1 }] }

def next (body : St → Resume → Burst ℚ St) (s : KState ℚ St) : KState ℚ St := ((step body 3 s).state?).getD s

/-- after three kernel steps: the first process holds the slot and sleeps, the second waits in the queue -/
def resS3 : KState ℚ St := next resBody (next resBody (next resBody resS0))

theorem noTrig_cont (k : Reply → Burst ℚ St)
    (hk : ∀ rp, (∃ e st, k rp = .yield e st) ∨ (∃ v, k rp = .ret v)) : ∀ rp, NoTrigCalls (k rp) := by
  intro rp
  rcases hk rp with ⟨e, st, h⟩ | ⟨v, h⟩ <;> rw [h]
  · exact NoTrigCalls.yield e st
  · exact NoTrigCalls.ret v

theorem resBody_noTrig : ∀ st rs, NoTrigCalls (resBody st rs) := by
  intro st rs
  obtain ⟨pc, rq⟩ := st
  show NoTrigCalls (resProg pc rq)
  match pc with
  | 0 =>
    refine NoTrigCalls.call _ _ (by intro e v h; cases h) (by intro e v h; cases h) (noTrig_cont _ ?_)
    intro rp; cases rp
    case ev => exact Or.inl ⟨_, _, rfl⟩
    all_goals exact Or.inr ⟨_, rfl⟩
  | 1 =>
    refine NoTrigCalls.call _ _ (by intro e v h; cases h) (by intro e v h; cases h) (noTrig_cont _ ?_)
    intro rp; cases rp
    case ev => exact Or.inl ⟨_, _, rfl⟩
    all_goals exact Or.inr ⟨_, rfl⟩
  | 2 =>
    refine NoTrigCalls.call _ _ (by intro e v h; cases h) (by intro e v h; cases h) (noTrig_cont _ ?_)
    intro rp; cases rp
    case ev => exact Or.inl ⟨_, _, rfl⟩
    all_goals exact Or.inr ⟨_, rfl⟩
  | n + 3 => exact NoTrigCalls.ret _

theorem next_reach (body : St → Resume → Burst ℚ St) (hb : ∀ st rs, NoTrigCalls (body st rs)) (s0 s : KState ℚ St)
    (h : DReach body 3 s0 s) (hs : ((step body 3 s).state?).isSome = true) : DReach body 3 s0 (next body s) := by
  refine DReach.step h (stepDom_of_noTrig body hb 3 s) ?_
  unfold next
  cases hst : (step body 3 s).state? with
  | none => rw [hst] at hs; cases hs
  | some s' => rfl

/-- decidable form of `AboutToAdvance` -/
def advB (s : KState ℚ St) : Bool :=
  match popMin s.agenda with
  | none => true
  | some (q, _) => decide (s.now < q.time)

theorem advance_of_advB (s : KState ℚ St) (h : advB s = true) : AboutToAdvance s := by
  intro q rest hq
  unfold advB at h
  rw [hq] at h
  simpa using h

theorem resS0_sinv : SInv resS0 := by
  have base : SInv ({ now := 0, resources := #[{ kind := .resource, capacity := some 1 }] } : KState ℚ St) := by
    apply sinv_init
    intro r
    match r with
    | 0 => exact ⟨rfl, rfl, rfl⟩
    | n + 1 => simp [default]
  exact doCall_sinv (doCall_sinv base 0 (Call.spawn (0, 0)) trivial) 0 (Call.spawn (0, 0)) trivial

theorem resS3_reach : DReach resBody 3 resS0 resS3 := by
  -- one evaluation for all three steps: the kernel computes each intermediate state once
  have hs : ((step resBody 3 resS0).state?).isSome = true ∧
      ((step resBody 3 (next resBody resS0)).state?).isSome = true ∧
      ((step resBody 3 (next resBody (next resBody resS0))).state?).isSome = true := by
    decide +kernel
  exact next_reach _ resBody_noTrig _ _ (next_reach _ resBody_noTrig _ _
    (next_reach _ resBody_noTrig _ _ DReach.init hs.1) hs.2.1) hs.2.2

theorem resS3_advance : AboutToAdvance resS3 := advance_of_advB _ (by decide +kernel)

theorem resS3_queue : (resS3.res 0).putQ.length = 1 ∧ isResKind (resS3.res 0).kind = true := by decide +kernel

def conProg : Nat → EvId → Burst ℚ St
  | 0, _ => .call (.cput 0 5) fun rp => match rp with
      | .ev e => .call (.timeout 1 .none) fun rp2 => match rp2 with
          | .ev t => .yield t (1, e)
          | _ => .ret .none
      | _ => .ret .none
  | 1, rq => .call (.cancel rq) fun _ => .ret .none
  | 10, _ => .call (.cput 0 1) fun rp => match rp with
      | .ev e => .yield e (11, e)
      | _ => .ret .none
  | _, _ => .ret .none

def conBody : St → Resume → Burst ℚ St := fun st _ => conProg st.1 st.2

def conS0 : KState ℚ St :=
  [Call.spawn (0, 0), Call.spawn (10, 0)].foldl (fun s c => (doCall s 0 c).1)
    { now := 0, resources := #[{ kind := .container, capacity := some 10, level := 7 }] }

/-- both puts are queued, the only agenda entry is the timeout at 1: the clock is about to advance -/
def conS2 : KState ℚ St := next conBody (next conBody conS0)

/-- four steps later (the cancel at time 1 and the events it triggered have been processed) -/
def conS6 : KState ℚ St := next conBody (next conBody (next conBody (next conBody conS2)))

theorem conBody_noTrig : ∀ st rs, NoTrigCalls (conBody st rs) := by
  intro st rs
  obtain ⟨pc, rq⟩ := st
  show NoTrigCalls (conProg pc rq)
  unfold conProg
  split
  · refine NoTrigCalls.call _ _ (by intro e v h; cases h) (by intro e v h; cases h) ?_
    intro rp
    cases rp
    case ev =>
      refine NoTrigCalls.call _ _ (by intro e v h; cases h) (by intro e v h; cases h) (noTrig_cont _ ?_)
      intro rp2; cases rp2
      case ev => exact Or.inl ⟨_, _, rfl⟩
      all_goals exact Or.inr ⟨_, rfl⟩
    all_goals exact NoTrigCalls.ret _
  · exact NoTrigCalls.call _ _ (by intro e v h; cases h) (by intro e v h; cases h) (fun _ => NoTrigCalls.ret _)
  · refine NoTrigCalls.call _ _ (by intro e v h; cases h) (by intro e v h; cases h) (noTrig_cont _ ?_)
    intro rp; cases rp
    case ev => exact Or.inl ⟨_, _, rfl⟩
    all_goals exact Or.inr ⟨_, rfl⟩
  · exact NoTrigCalls.ret _

theorem conS0_sinv : SInv conS0 := by
  have base : SInv ({ now := 0, resources := #[{ kind := .container, capacity := some 10, level := 7 }] } : KState ℚ St) := by
    apply sinv_init
    intro r
    match r with
    | 0 => exact ⟨rfl, rfl, rfl⟩
    | n + 1 => simp [default]
  exact doCall_sinv (doCall_sinv base 0 (Call.spawn (0, 0)) trivial) 0 (Call.spawn (10, 0)) trivial

theorem conS2_reach : DReach conBody 3 conS0 conS2 := by
  have hs : ((step conBody 3 conS0).state?).isSome = true ∧
      ((step conBody 3 (next conBody conS0)).state?).isSome = true := by
    decide +kernel
  exact next_reach _ conBody_noTrig _ _ (next_reach _ conBody_noTrig _ _ DReach.init hs.1) hs.2

theorem conS6_reach : DReach conBody 3 conS0 conS6 := by
  -- one evaluation for all four steps: the kernel computes each intermediate state once
  have hs : ((step conBody 3 conS2).state?).isSome = true ∧
      ((step conBody 3 (next conBody conS2)).state?).isSome = true ∧
      ((step conBody 3 (next conBody (next conBody conS2))).state?).isSome = true ∧
      ((step conBody 3 (next conBody (next conBody (next conBody conS2)))).state?).isSome = true := by
    decide +kernel
  exact next_reach _ conBody_noTrig _ _ (next_reach _ conBody_noTrig _ _ (next_reach _ conBody_noTrig _ _
    (next_reach _ conBody_noTrig _ _ conS2_reach hs.1) hs.2.1) hs.2.2.1) hs.2.2.2

theorem conS2_advance : AboutToAdvance conS2 := advance_of_advB _ (by decide +kernel)
theorem conS6_advance : AboutToAdvance conS6 := advance_of_advB _ (by decide +kernel)

/-- before the cancel: two puts queued, level 7; afterwards: queue empty, level 8 (the `put(1)` went through at the
instant of the cancel) -/
theorem conS_facts : (conS2.res 0).putQ.length = 2 ∧ (conS2.res 0).level = 7 ∧
    (conS6.res 0).putQ.length = 0 ∧ (conS6.res 0).level = 8 := by decide +kernel

end Demo
