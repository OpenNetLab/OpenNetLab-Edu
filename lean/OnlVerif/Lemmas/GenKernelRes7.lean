import OnlVerif.Lemmas.GenKernelCap
import OnlVerif.Generated.KernelRes7
/-!
# Running the generated `Container` / `Store` / `PriorityStore` / `FilterStore` methods (`Generated/KernelRes7.lean`) on model `K`

The bridge theorems of C07 are proved where they are stated, `Props/KernelGen07.lean`.
-/

namespace GenKernel
variable {τ σ : Type} [Num τ]

/-- `Container._do_put(event)` -/
def runContainerPut (cx : Cx) (s : KState τ σ) : Option (KState τ σ × Bool) :=
  let g := Gen.Container.do_put (contObj (s.res cx.r)) (reqOf s cx.e).amount
  finish cx s g.eff g.ret

/-- `Container._do_get(event)` -/
def runContainerGet (cx : Cx) (s : KState τ σ) : Option (KState τ σ × Bool) :=
  let g := Gen.Container.do_get (contObj (s.res cx.r)) (reqOf s cx.e).amount
  finish cx s g.eff g.ret

/-- `Store._do_put(event)` (also `FilterStore`, which inherits it) -/
def runStorePut (cx : Cx) (s : KState τ σ) : Option (KState τ σ × Bool) :=
  let g := Gen.Store.do_put (resObj (s.res cx.r)) (s.res cx.r).items.length
  finish cx s g.eff g.ret

/-- `Store._do_get(event)` -/
def runStoreGet (cx : Cx) (s : KState τ σ) : Option (KState τ σ × Bool) :=
  let g := Gen.Store.do_get (resObj (s.res cx.r)) (!(s.res cx.r).items.isEmpty)
  finish cx s g.eff g.ret

/-- `PriorityStore._do_put(event)` -/
def runPStorePut (cx : Cx) (s : KState τ σ) : Option (KState τ σ × Bool) :=
  let g := Gen.PriorityStore.do_put (resObj (s.res cx.r)) (s.res cx.r).items.length
  finish cx s g.eff g.ret

/-- `PriorityStore._do_get(event)` -/
def runPStoreGet (cx : Cx) (s : KState τ σ) : Option (KState τ σ × Bool) :=
  let g := Gen.PriorityStore.do_get (resObj (s.res cx.r)) (!(s.res cx.r).items.isEmpty)
  finish cx s g.eff g.ret

/-- `FilterStore._do_get(event)`; `cx.m` must be the first item that passes the filter -/
def runFStoreGet (cx : Cx) (s : KState τ σ) : Option (KState τ σ × Bool) :=
  let g := Gen.FilterStore.do_get (resObj (s.res cx.r)) cx.m.isSome
  finish cx s g.eff g.ret

end GenKernel
