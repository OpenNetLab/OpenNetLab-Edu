import OnlVerif.Lemmas.ResStep
/-!
# Conservation / ordering proofs: vocabulary

The global C06/C07 theorems (level conservation, store exactly-once, queue discipline) are not leaf-wise
invariants: inside `applyPut` the level and the `triggered` flag change in two consecutive leaves.  They are
proved with a second engine (`ConserveEngine.lean`) whose units are the *atomic resource operations*
(`grantPut`, `grantGet`, `newPut`, `newGet`, `cancelPut`, `cancelGet`) plus three kinds of bookkeeping
(`Frame`: nothing the theorems look at changes; `alloc`: a fresh non-request event; `trigNR`: an outcome is
written to an event that is not a request).

This file fixes the vocabulary:

* `isReq`, `CbOK`, `WF` — the well-formedness invariant that makes the guards of the units provable
  (callbacks `check c`/`build c` name conditions, process table entries name process events, the queues hold
  untriggered requests of their own resource without duplicates);
* `Frame`, `Base` — two-state relations;
* `callOK … stepOK`, `SafeReach` — the domain hypothesis "program code never calls `succeed`/`fail` on a
  request event", as a predicate on the run.
-/

variable {σ : Type}

namespace Conserve

/-! ## request events, immutable part of a request record -/

/-- the event is a resource request (`Put`/`Get` of some resource) -/
def isReq (s : KState ℚ σ) (e : EvId) : Bool :=
  match (s.ev e).kind with
  | .put _ | .get _ => true
  | _ => false

/-- the request record without its only mutable field (`usage_since`) -/
def coreOf (s : KState ℚ σ) (e : EvId) : ReqData ℚ := { reqOf s e with usageSince := none }

theorem amount_of_core {s s' : KState ℚ σ} {e e' : EvId} (h : coreOf s' e' = coreOf s e) :
    (reqOf s' e').amount = (reqOf s e).amount := congrArg (·.amount) h
theorem item_of_core {s s' : KState ℚ σ} {e e' : EvId} (h : coreOf s' e' = coreOf s e) :
    (reqOf s' e').item = (reqOf s e).item := congrArg (·.item) h
theorem filter_of_core {s s' : KState ℚ σ} {e e' : EvId} (h : coreOf s' e' = coreOf s e) :
    (reqOf s' e').filter = (reqOf s e).filter := congrArg (·.filter) h
theorem prio_of_core {s s' : KState ℚ σ} {e e' : EvId} (h : coreOf s' e' = coreOf s e) :
    (reqOf s' e').prio = (reqOf s e).prio := congrArg (·.prio) h
theorem time_of_core {s s' : KState ℚ σ} {e e' : EvId} (h : coreOf s' e' = coreOf s e) :
    (reqOf s' e').time = (reqOf s e).time := congrArg (·.time) h
theorem preempt_of_core {s s' : KState ℚ σ} {e e' : EvId} (h : coreOf s' e' = coreOf s e) :
    (reqOf s' e').preempt = (reqOf s e).preempt := congrArg (·.preempt) h

theorem lt_size_of_kind {s : KState ℚ σ} {e : EvId} (h : (s.ev e).kind ≠ .plain) : e < s.events.size :=
  KState.lt_of_kind h

theorem lt_size_of_isReq {s : KState ℚ σ} {e : EvId} (h : isReq s e = true) : e < s.events.size := by
  apply lt_size_of_kind
  intro hc
  unfold isReq at h
  rw [hc] at h
  cases h

theorem isReq_of_put {s : KState ℚ σ} {e : EvId} {r : ResId} (h : (s.ev e).kind = .put r) : isReq s e = true := by
  unfold isReq; rw [h]
theorem isReq_of_get {s : KState ℚ σ} {e : EvId} {r : ResId} (h : (s.ev e).kind = .get r) : isReq s e = true := by
  unfold isReq; rw [h]

/-- where there are no requests, no event is a put or a get -/
theorem kind_ne_of_noReq {s : KState ℚ σ} (h : ∀ e, isReq s e = false) (a : EvId) (r : ResId) :
    (s.ev a).kind ≠ .put r ∧ (s.ev a).kind ≠ .get r :=
  ⟨fun hk => Bool.noConfusion ((isReq_of_put hk).symm.trans (h a)), fun hk => Bool.noConfusion ((isReq_of_get hk).symm.trans (h a))⟩

theorem lt_rsize_of_putQ {s : KState ℚ σ} {r : ResId} (h : (s.res r).putQ ≠ []) : r < s.resources.size := res_lt_of_putQ h

theorem lt_rsize_of_getQ {s : KState ℚ σ} {r : ResId} (h : (s.res r).getQ ≠ []) : r < s.resources.size := res_lt_of_getQ h

/-! ## well-formedness -/

/-- the callback names a condition when it is a `Condition._check` / `_build_value` -/
def CbOK (s : KState ℚ σ) : Cb → Prop
  | .check c => isCond s c = true
  | .build c => isCond s c = true
  | _ => True

/-- a callback that carries no obligation -/
def cbPlain : Cb → Bool
  | .check _ => false
  | .build _ => false
  | _ => true

theorem CbOK_of_plain (s : KState ℚ σ) {cb : Cb} (h : cbPlain cb = true) : CbOK s cb := by
  cases cb <;> trivial

theorem not_isReq_of_isCond {s : KState ℚ σ} {c : EvId} (h : isCond s c = true) : isReq s c = false := by
  unfold isCond at h
  unfold isReq
  split at h
  · rename_i hk; rw [hk]
  · cases h

theorem not_isReq_of_proc {s : KState ℚ σ} {p : EvId} (h : (s.ev p).kind = .proc) : isReq s p = false := by
  unfold isReq; rw [h]

structure WF (s : KState ℚ σ) : Prop where
  cbs : ∀ e l, (s.ev e).cbs = some l → ∀ cb ∈ l, CbOK s cb
  procs : ∀ p pr, s.proc? p = some pr → (s.ev p).kind = .proc
  putQ : ∀ r e, e ∈ (s.res r).putQ → (s.ev e).kind = .put r ∧ (s.ev e).out = none
  putNodup : ∀ r, (s.res r).putQ.Nodup
  getQ : ∀ r e, e ∈ (s.res r).getQ → (s.ev e).kind = .get r ∧ (s.ev e).out = none
  getNodup : ∀ r, (s.res r).getQ.Nodup

/-! ## two-state relations -/

/-- the fields of a resource record the theorems look at (everything but `users`) -/
structure ResSame (a b : ResRec) : Prop where
  kind : b.kind = a.kind
  capacity : b.capacity = a.capacity
  putQ : b.putQ = a.putQ
  getQ : b.getQ = a.getQ
  level : b.level = a.level
  items : b.items = a.items

theorem ResSame.rfl' (a : ResRec) : ResSame a a := ⟨rfl, rfl, rfl, rfl, rfl, rfl⟩

/-- **bookkeeping**: nothing the conservation / ordering theorems look at changes; callbacks and process table
entries change only in well-formed ways -/
structure Frame (s s' : KState ℚ σ) : Prop where
  size : s'.events.size = s.events.size
  kind : ∀ e, (s'.ev e).kind = (s.ev e).kind
  out : ∀ e, (s'.ev e).out = (s.ev e).out
  core : ∀ e, coreOf s' e = coreOf s e
  cbs : ∀ e l', (s'.ev e).cbs = some l' → ∀ cb ∈ l', CbOK s cb ∨ ∃ l, (s.ev e).cbs = some l ∧ cb ∈ l
  procs : ∀ p pr', s'.proc? p = some pr' → (s.ev p).kind = .proc ∨ ∃ pr, s.proc? p = some pr
  rsize : s'.resources.size = s.resources.size
  res : ∀ r, ResSame (s.res r) (s'.res r)

/-- what every unit guarantees: events are never deallocated, kinds and request data never change, the outcome
of a granted request never changes, resources keep their class, well-formedness is kept -/
structure Base (s s' : KState ℚ σ) : Prop where
  size_le : s.events.size ≤ s'.events.size
  kind : ∀ e, e < s.events.size → (s'.ev e).kind = (s.ev e).kind
  core : ∀ e, e < s.events.size → coreOf s' e = coreOf s e
  outStable : ∀ e, isReq s e = true → (s.ev e).out ≠ none → (s'.ev e).out = (s.ev e).out
  rsize : s'.resources.size = s.resources.size
  resKind : ∀ r, (s'.res r).kind = (s.res r).kind
  resCap : ∀ r, (s'.res r).capacity = (s.res r).capacity
  keepWF : WF s → WF s'

/-- conditions are never deallocated and keep their kind -/
theorem isCond_old {s s' : KState ℚ σ} (hk : ∀ e, e < s.events.size → (s'.ev e).kind = (s.ev e).kind) {c : EvId}
    (hc : isCond s c = true) : isCond s' c = true := by
  have hlt : c < s.events.size := by
    apply lt_size_of_kind
    intro hk; unfold isCond at hc; rw [hk] at hc; cases hc
  unfold isCond at hc ⊢
  rw [hk c hlt]; exact hc

theorem cbOK_old {s s' : KState ℚ σ} (hk : ∀ e, e < s.events.size → (s'.ev e).kind = (s.ev e).kind) {cb : Cb}
    (hc : CbOK s cb) : CbOK s' cb := by
  cases cb <;> first | trivial | exact isCond_old hk hc

namespace Base

theorem refl (s : KState ℚ σ) : Base s s :=
  ⟨Nat.le_refl _, fun _ _ => rfl, fun _ _ => rfl, fun _ _ _ => rfl, rfl, fun _ => rfl, fun _ => rfl, fun h => h⟩

theorem isReq_eq {s s' : KState ℚ σ} (h : Base s s') {e : EvId} (he : e < s.events.size) : isReq s' e = isReq s e := by
  unfold isReq; rw [h.kind e he]

theorem trans {s1 s2 s3 : KState ℚ σ} (h12 : Base s1 s2) (h23 : Base s2 s3) : Base s1 s3 := by
  refine ⟨Nat.le_trans h12.size_le h23.size_le, ?_, ?_, ?_, h23.rsize.trans h12.rsize, ?_, ?_,
    fun h => h23.keepWF (h12.keepWF h)⟩
  · intro e he
    exact (h23.kind e (Nat.lt_of_lt_of_le he h12.size_le)).trans (h12.kind e he)
  · intro e he
    exact (h23.core e (Nat.lt_of_lt_of_le he h12.size_le)).trans (h12.core e he)
  · intro e hr ho
    have he := lt_size_of_isReq hr
    have h2 := h12.outStable e hr ho
    have hr2 : isReq s2 e = true := by rw [h12.isReq_eq he]; exact hr
    rw [h23.outStable e hr2 (by rw [h2]; exact ho), h2]
  · intro r; exact (h23.resKind r).trans (h12.resKind r)
  · intro r; exact (h23.resCap r).trans (h12.resCap r)

/-- a request granted in the middle state stays granted -/
theorem out_keep {s1 s2 s3 : KState ℚ σ} (h12 : Base s1 s2) (h23 : Base s2 s3) {a : EvId} (hr : isReq s1 a = true)
    (h2 : (s2.ev a).out ≠ none) : (s3.ev a).out ≠ none := by
  rw [h23.outStable a (by rw [h12.isReq_eq (lt_size_of_isReq hr)]; exact hr) h2]; exact h2

theorem isCond_keep {s s' : KState ℚ σ} (h : Base s s') {c : EvId} (hc : isCond s c = true) : isCond s' c = true :=
  isCond_old h.kind hc

theorem cbOK_keep {s s' : KState ℚ σ} (h : Base s s') {cb : Cb} (hc : CbOK s cb) : CbOK s' cb := cbOK_old h.kind hc

theorem proc_keep {s s' : KState ℚ σ} (h : Base s s') {p : EvId} (hp : (s.ev p).kind = .proc) : (s'.ev p).kind = .proc := by
  rw [h.kind p (lt_size_of_kind (by rw [hp]; simp))]; exact hp

theorem notReq_keep {s s' : KState ℚ σ} (h : Base s s') {e : EvId} (he : e < s.events.size) (hn : isReq s e = false) :
    isReq s' e = false := by
  rw [h.isReq_eq he]; exact hn

end Base

/-! ## the domain hypothesis: program code never triggers a request event itself

A request is granted exactly when it is triggered; `Event.succeed/fail` called by user code on a `Put`/`Get`
object is outside the domain of C06/C07 (the real `_do_put` would then raise "already triggered").  The
predicates below follow the execution of one kernel step and require, at every `succeed`/`fail` API call the
program issues, that the target is not a request event *in the state in which the call is made*. -/

def callOK (s : KState ℚ σ) : Call ℚ σ → Prop
  | .succeed e _ => isReq s e = false
  | .fail e _ => isReq s e = false
  | _ => True

def burstOK (self : EvId) : Burst ℚ σ → KState ℚ σ → Prop
  | .call c k, s => callOK s c ∧ burstOK self (k (doCall s self c).2) (noteErr self (doCall s self c))
  | .yield _ _, _ => True
  | .ret _, _ => True
  | .raise _, _ => True

def resumeOK (body : σ → Resume → Burst ℚ σ) (p : EvId) : Nat → EvId → KState ℚ σ → Prop
  | 0, _, _ => True
  | fuel + 1, e, s =>
    match s.proc? p with
    | none => True
    | some pr =>
      let sr := deliver s p e
      let s1 := sr.1.emit (.resumed p sr.2 sr.1.now)
      burstOK p (body pr.st sr.2) s1 ∧
      (match (runBurst p (body pr.st sr.2) s1).2 with
       | .yielded e' st' =>
         let s2 := (runBurst p (body pr.st sr.2) s1).1.setProc p { st := st', target := some e' }
         match register s2 p e' with
         | some _ => True
         | none => resumeOK body p fuel e' s2
       | _ => True)

def deliverInterruptOK (body : σ → Resume → Burst ℚ σ) (fuel : Nat) (iv p : EvId) (s : KState ℚ σ) : Prop :=
  if s.triggered p then True else
  match s.proc? p with
  | none => True
  | some pr =>
    match pr.target with
    | some t => resumeOK body p fuel iv (s.eraseCb t (.resume p))
    | none => resumeOK body p fuel iv s

def runCbOK (body : σ → Resume → Burst ℚ σ) (fuel : Nat) (e : EvId) (l : LoopSt ℚ σ) : Cb → Prop
  | .resume p => resumeOK body p fuel e l.s
  | .intr iv =>
    match (l.s.ev iv).kind with
    | .intr p => deliverInterruptOK body fuel iv p l.s
    | _ => True
  | _ => True

def foldOK (body : σ → Resume → Burst ℚ σ) (fuel : Nat) (e : EvId) : List Cb → LoopSt ℚ σ → Prop
  | [], _ => True
  | cb :: cbs, l => runCbOK body fuel e l cb ∧ foldOK body fuel e cbs (runCb body fuel e l cb)

/-- during the kernel step taken from `s`, no `succeed`/`fail` call of the program hits a request event -/
def stepOK (body : σ → Resume → Burst ℚ σ) (fuel : Nat) (s : KState ℚ σ) : Prop :=
  match popMin s.agenda with
  | none => True
  | some (q, rest) =>
    match (s.ev q.ev).cbs with
    | none => True
    | some cbs => foldOK body fuel q.ev cbs { s := openEvent s q rest }

/-- states reachable by kernel steps during which the program stays inside the domain -/
inductive SafeReach (body : σ → Resume → Burst ℚ σ) (fuel : Nat) (s0 : KState ℚ σ) : KState ℚ σ → Prop
  | init : SafeReach body fuel s0 s0
  | step {s s'} : SafeReach body fuel s0 s → stepOK body fuel s → (step body fuel s).state? = some s' →
      SafeReach body fuel s0 s'

theorem SafeReach.toReach {body : σ → Resume → Burst ℚ σ} {fuel : Nat} {s0 s : KState ℚ σ}
    (h : SafeReach body fuel s0 s) : KReach body fuel s0 s := by
  induction h with
  | init => exact KReach.init
  | step _ _ hs ih => exact KReach.step ih hs

/-! ### a static sufficient condition: the program never calls `succeed`/`fail` at all -/

def callIsTrig : Call ℚ σ → Bool
  | .succeed _ _ => true
  | .fail _ _ => true
  | _ => false

/-- the burst contains no `succeed`/`fail` call, whatever the replies -/
inductive NoTrig : Burst ℚ σ → Prop
  | call (c : Call ℚ σ) (k : Reply → Burst ℚ σ) : callIsTrig c = false → (∀ rp, NoTrig (k rp)) → NoTrig (.call c k)
  | yield (e : EvId) (st : σ) : NoTrig (.yield e st)
  | ret (v : Val) : NoTrig (.ret v)
  | raise (x : Exc) : NoTrig (.raise x)

theorem burstOK_of_noTrig (self : EvId) (b : Burst ℚ σ) (h : NoTrig b) (s : KState ℚ σ) : burstOK self b s := by
  induction h generalizing s with
  | call c k hc _ ih =>
    refine ⟨?_, ih _ _⟩
    cases c <;> trivial
  | yield => trivial
  | ret => trivial
  | raise => trivial

theorem resumeOK_of_noTrig (body : σ → Resume → Burst ℚ σ) (h : ∀ st rs, NoTrig (body st rs)) (p : EvId) (fuel : Nat)
    (e : EvId) (s : KState ℚ σ) : resumeOK body p fuel e s := by
  induction fuel generalizing e s with
  | zero => trivial
  | succ n ih =>
    unfold resumeOK
    split
    · trivial
    · refine ⟨burstOK_of_noTrig _ _ (h _ _) _, ?_⟩
      split
      · simp only
        split
        · trivial
        · exact ih _ _
      · trivial

theorem stepOK_of_noTrig (body : σ → Resume → Burst ℚ σ) (h : ∀ st rs, NoTrig (body st rs)) (fuel : Nat)
    (s : KState ℚ σ) : stepOK body fuel s := by
  have hcb : ∀ e l cb, runCbOK body fuel e l cb := by
    intro e l cb
    cases cb with
    | resume p => exact resumeOK_of_noTrig body h _ _ _ _
    | intr iv =>
      show (match (l.s.ev iv).kind with
        | .intr p => deliverInterruptOK body fuel iv p l.s
        | _ => True)
      split
      · unfold deliverInterruptOK
        split
        · trivial
        · split
          · trivial
          · split <;> exact resumeOK_of_noTrig body h _ _ _ _
      · trivial
    | _ => trivial
  have hfold : ∀ e cbs l, foldOK body fuel e cbs l := by
    intro e cbs
    induction cbs with
    | nil => intro l; trivial
    | cons cb cbs ih => intro l; exact ⟨hcb e l cb, ih _⟩
  unfold stepOK
  split
  · trivial
  · split
    · trivial
    · exact hfold _ _ _

/-- for programs that never call `succeed`/`fail`, every reachable state is reachable inside the domain -/
theorem safeReach_of_noTrig (body : σ → Resume → Burst ℚ σ) (h : ∀ st rs, NoTrig (body st rs)) (fuel : Nat)
    (s0 s : KState ℚ σ) (hr : KReach body fuel s0 s) : SafeReach body fuel s0 s := by
  induction hr with
  | init => exact SafeReach.init
  | step _ hs ih => exact SafeReach.step ih (stepOK_of_noTrig body h fuel _) hs

end Conserve
