import OnlVerif.Lemmas.SplitWFClosed
import OnlVerif.Lemmas.SplitTime
section
/-!
# Split plans: chaining `step()`, `run(until=event)` and `run(until=number)` pieces (C03)

A *split plan* is a list of pieces `step n | untilEvent e | untilTime t`; `execPlan` runs them one after the other on the
model and stops at the first piece that does not return normally.

Every numeric stop inserts one sentinel record and shifts the later ids by one.  The state of the split run after several
numeric stops is `stackT cs s` — the transformations `c.T false` of the stops made so far (latest first) applied to the
state `s` of the uninterrupted run — up to the clock (a numeric stop leaves the clock at its `until` time; the next step
overwrites it).  This file proves that each kind of piece, run from such a state, ends in such a state again
(`stepN_stack`, `untilEvent_stack`, `untilTime_stack`) and chains them (`execPlan_stack`).

All invariants are taken from the *uninterrupted* run (`WS`, `ScopedRun`) and carried over to the split run by `ws_T`.

Second part: what program and harness observe (`viewTrace`, `viewProcs`) is unaffected by the numeric stops.
-/

variable {σ : Type}

inductive Piece where
  | step (n : Nat)
  /-- `run(until=e)` for an event `e` (an id of the split run) -/
  | untilEvent (e : EvId)
  | untilTime (t : ℚ)

/-- run one piece; `some s'` iff it returned normally (in state `s'`) -/
def Piece.run (body : σ → Resume → Burst ℚ σ) (fuel budget : Nat) : Piece → KState ℚ σ → Option (KState ℚ σ)
  | .step n, s =>
    match stepN body fuel n s with
    | .ok s' => some s'
    | _ => none
  | .untilEvent e, s =>
    match runUntilEvent body fuel budget e s with
    | .returned _ s' => some s'
    | _ => none
  | .untilTime t, s =>
    match runUntilTime body fuel budget t s with
    | .returned _ s' => some s'
    | _ => none

def execPlan (body : σ → Resume → Burst ℚ σ) (fuel budget : Nat) : List Piece → KState ℚ σ → Option (KState ℚ σ)
  | [], s => some s
  | p :: ps, s => (p.run body fuel budget s).bind (execPlan body fuel budget ps)

def Piece.isTime : Piece → Bool
  | .untilTime _ => true
  | _ => false

def numStops (plan : List Piece) : Nat := (plan.filter Piece.isTime).length

def stackT : List (SplitCfg σ) → KState ℚ σ → KState ℚ σ
  | [], s => s
  | c :: cs, s => c.T false (stackT cs s)

def stackρ : List (SplitCfg σ) → EvId → EvId
  | [], e => e
  | c :: cs, e => c.ρ (stackρ cs e)

def StackOK (I : IdSt σ) : List (SplitCfg σ) → KState ℚ σ → Prop
  | [], _ => True
  | c :: cs, s => c.u ≤ s.events.size + cs.length ∧ c.eid0 ≤ s.eid + cs.length ∧ c.rσ = I.rn c.u ∧ StackOK I cs s

def mapStack (cs : List (SplitCfg σ)) (r : StepResult ℚ σ) : StepResult ℚ σ :=
  cs.foldr (fun c r => c.mapT false r) r

theorem numStops_cons (p : Piece) (ps : List Piece) : numStops (p :: ps) = numStops [p] + numStops ps := by
  cases p
  · exact (Nat.zero_add _).symm
  · exact (Nat.zero_add _).symm
  · exact Nat.add_comm _ _

theorem Piece.run_eq_some {body : σ → Resume → Burst ℚ σ} {fuel budget : Nat} {p : Piece} {S S1 : KState ℚ σ} :
    p.run body fuel budget S = some S1 →
    match p with
    | .step n => stepN body fuel n S = .ok S1
    | .untilEvent e => ∃ v, runUntilEvent body fuel budget e S = .returned v S1
    | .untilTime t => ∃ v, runUntilTime body fuel budget t S = .returned v S1 := by
  intro h
  cases p <;> simp only [Piece.run] at h ⊢ <;> split at h <;> cases h
  · assumption
  · exact ⟨_, by assumption⟩
  · exact ⟨_, by assumption⟩

namespace SplitPlan
open SplitWF
variable {I : IdSt σ}

theorem _root_.StackOK.mono {cs : List (SplitCfg σ)} {s s' : KState ℚ σ} (h : StackOK I cs s) (g : Grow s s') : StackOK I cs s' := by
  induction cs with
  | nil => trivial
  | cons c cs ih =>
    obtain ⟨h1, h2, h3, h4⟩ := h
    exact ⟨Nat.le_trans h1 (Nat.add_le_add_right g.2 _), Nat.le_trans h2 (Nat.add_le_add_right g.1 _), h3, ih h4⟩

theorem size_stackT (cs : List (SplitCfg σ)) (s : KState ℚ σ) (h : StackOK I cs s) :
    (stackT cs s).events.size = s.events.size + cs.length ∧ (stackT cs s).eid = s.eid + cs.length := by
  induction cs with
  | nil => exact ⟨rfl, rfl⟩
  | cons c cs ih =>
    obtain ⟨h1, h2, _, h4⟩ := h
    obtain ⟨i1, i2⟩ := ih h4
    have hi : c.Inv (stackT cs s) := ⟨by rw [i1]; exact h1, by rw [i2]; exact h2⟩
    refine ⟨?_, ?_⟩
    · show (c.T false (stackT cs s)).events.size = _
      rw [c.r_size false _ hi, i1, List.length_cons, Nat.add_assoc]
    · show (stackT cs s).eid + 1 = _
      rw [i2, List.length_cons, Nat.add_assoc]

theorem inv_stackT (c : SplitCfg σ) (cs : List (SplitCfg σ)) (s : KState ℚ σ) (h : StackOK I (c :: cs) s) :
    c.Inv (stackT cs s) := by
  obtain ⟨h1, h2, _, h4⟩ := h
  obtain ⟨i1, i2⟩ := size_stackT cs s h4
  exact ⟨by rw [i1]; exact h1, by rw [i2]; exact h2⟩

theorem ws_stackT (cs : List (SplitCfg σ)) (s : KState ℚ σ) (hw : WS I s) (h : StackOK I cs s) : WS I (stackT cs s) := by
  induction cs with
  | nil => exact hw
  | cons c cs ih => exact ws_T c false (ih h.2.2.2) (inv_stackT c cs s h) h.2.2.1

theorem mapStack_ok (cs : List (SplitCfg σ)) (s : KState ℚ σ) : mapStack cs (.ok s) = .ok (stackT cs s) := by
  induction cs with
  | nil => rfl
  | cons c cs ih =>
    show c.mapT false (mapStack cs (.ok s)) = _
    rw [ih]; rfl

theorem mapStack_not_ok (cs : List (SplitCfg σ)) (r : StepResult ℚ σ) (h : ∀ s, r ≠ .ok s) : ∀ S, mapStack cs r ≠ .ok S := by
  induction cs with
  | nil => exact h
  | cons c cs ih =>
    intro S hc
    have : c.mapT false (mapStack cs r) = .ok S := hc
    cases hm : mapStack cs r with
    | ok s1 => exact ih s1 hm
    | _ => rw [hm] at this; cases this

theorem grow_of_kreach (body : σ → Resume → Burst ℚ σ) (fuel : Nat) {s s' : KState ℚ σ} (hr : KReach body fuel s s') :
    Grow s s' := by
  induction hr with
  | init => exact Grow.krel.refl _
  | step _ hs ih =>
    rw [← st?_eq_state?] at hs
    exact Grow.krel.trans ih (SplitCfg.grow_step body fuel _ _ hs)

theorem stepN_withNow (body : σ → Resume → Burst ℚ σ) (fuel n : Nat) (X : KState ℚ σ) (x : ℚ) :
    stepN body fuel (n + 1) { X with now := x } = stepN body fuel (n + 1) X := by
  rw [stepN_succ, stepN_succ]
  rfl

/-- the run-level hypothesis does not read the clock (a step overwrites it before anything reads it) -/
theorem simAlong_withNow (c : SplitCfg σ) (body : σ → Resume → Burst ℚ σ) (fuel : Nat) (X : KState ℚ σ) (x : ℚ)
    (h : c.SimAlong body fuel { X with now := x }) : c.SimAlong body fuel X := by
  intro j sj hj
  cases j with
  | zero =>
    cases hj
    exact (h 0 { X with now := x } rfl : c.SimStep body fuel { X with now := x })
  | succ j =>
    rw [← stepN_withNow body fuel j X x] at hj
    exact h (j + 1) sj hj

theorem SimAlong.tailN {c : SplitCfg σ} {body : σ → Resume → Burst ℚ σ} {fuel : Nat} : ∀ (k : Nat) {s sk : KState ℚ σ},
    c.SimAlong body fuel s → stepN body fuel k s = .ok sk → c.SimAlong body fuel sk := by
  intro k s sk h hk j sj hj
  apply h (k + j) sj
  rw [stepN_add_ok body fuel k j s sk hk]
  exact hj

def StackSim (body : σ → Resume → Burst ℚ σ) (fuel : Nat) : List (SplitCfg σ) → KState ℚ σ → Prop
  | [], _ => True
  | c :: cs, s => c.SimAlong body fuel (stackT cs s) ∧ StackSim body fuel cs s

theorem stackSim_of_bodySim (body : σ → Resume → Burst ℚ σ) (fuel : Nat)
    (hB : ∀ u, 0 < u → BodySim (shAt u) (I.rn u) body) : ∀ (cs : List (SplitCfg σ)) (s : KState ℚ σ), StackOK I cs s →
    StackSim body fuel cs s
  | [], _, _ => trivial
  | c :: cs, s, h => by
    refine ⟨c.simAlong_of_bodySim body ?_ fuel _, stackSim_of_bodySim body fuel hB cs s h.2.2.2⟩
    rw [h.2.2.1]
    exact hB c.u c.upos

section lockstep
variable (body : σ → Resume → Burst ℚ σ) (fuel : Nat)

theorem step_stackT (cs : List (SplitCfg σ)) (s : KState ℚ σ) (hw : WS I s) (h : StackOK I cs s)
    (hsim : StackSim body fuel cs s) : step body fuel (stackT cs s) = mapStack cs (step body fuel s) := by
  induction cs with
  | nil => rfl
  | cons c cs ih =>
    have hi := inv_stackT c cs s h
    have hwX := ws_stackT cs s hw h.2.2.2
    show step body fuel (c.T false (stackT cs s)) = c.mapT false (mapStack cs (step body fuel s))
    rw [c.step_T_false_run body fuel _ hi (c.stepFuelOK_of_wf body fuel _ (condWF_of_ws hwX) (buildAlloc_of_ws hwX))
      (hsim.1 0 _ rfl), ih h.2.2.2 hsim.2]

theorem stackSim_step (cs : List (SplitCfg σ)) (s s1 : KState ℚ σ) (hw : WS I s) (h : StackOK I cs s)
    (hsim : StackSim body fuel cs s) (hs : step body fuel s = .ok s1) : StackSim body fuel cs s1 := by
  induction cs with
  | nil => trivial
  | cons c cs ih =>
    refine ⟨?_, ih h.2.2.2 hsim.2⟩
    have hst : step body fuel (stackT cs s) = .ok (stackT cs s1) := by
      rw [step_stackT body fuel cs s hw h.2.2.2 hsim.2, hs, mapStack_ok]
    exact SplitCfg.SimAlong.tail c hsim.1 hst

theorem stepN_stackT (cs : List (SplitCfg σ)) : ∀ (n : Nat) (s S' : KState ℚ σ), WS I s → ScopedRun I body fuel s →
    StackOK I cs s → StackSim body fuel cs s → stepN body fuel n (stackT cs s) = .ok S' →
    ∃ s', stepN body fuel n s = .ok s' ∧ S' = stackT cs s' ∧ StackSim body fuel cs s'
  | 0, s, S', _, _, _, hsim, h => by cases h; exact ⟨s, rfl, rfl, hsim⟩
  | n + 1, s, S', hw, hS, hok, hsim, h => by
    rw [stepN_succ, step_stackT body fuel cs s hw hok hsim] at h
    obtain ⟨S1, hm, h⟩ := StepResult.andThen_eq_ok h
    cases hs : step body fuel s with
    | ok s1 =>
      rw [hs, mapStack_ok] at hm
      cases hm
      rw [stepN_succ, hs]
      have hr : KReach body fuel s s1 := KReach.step KReach.init (by rw [hs]; rfl)
      exact stepN_stackT cs n s1 S' (ws_reach body fuel s s1 hw hS hr) (hS.tail hr)
        (hok.mono (grow_of_kreach body fuel hr)) (stackSim_step body fuel cs s s1 hw hok hsim hs) h
    | _ => exact absurd (hs ▸ hm) (mapStack_not_ok cs _ (by intro s hc; cases hc) S1)

end lockstep

theorem sortedAg_stepN (body : σ → Resume → Burst ℚ σ) (fuel : Nat) : ∀ (n : Nat) (s s' : KState ℚ σ), SortedAg s →
    stepN body fuel n s = .ok s' → SortedAg s' :=
  stepN_induct fun s s1 hs hst => SplitCfg.sortedAg_step body fuel s s1 hs (by rw [hst]; rfl)

def splitState (cs : List (SplitCfg σ)) (s : KState ℚ σ) (x : ℚ) : KState ℚ σ := { stackT cs s with now := x }

theorem splitState_self (cs : List (SplitCfg σ)) (s : KState ℚ σ) : splitState cs s (stackT cs s).now = stackT cs s := rfl

theorem ws_splitState (cs : List (SplitCfg σ)) (s : KState ℚ σ) (x : ℚ) (hw : WS I s) (h : StackOK I cs s) :
    WS I (splitState cs s x) := ws_withNow (ws_stackT cs s hw h) x

/-- **the run-level id-opacity hypothesis of a plan execution**: at each numeric stop — made in the state `S` of the split
run — the continuation of the run from `S` *without the stop* is id-opaque for the renaming of that stop (`SimAlong`).
Implied by `BodySim` at the split indices (`planSim_of_bodySim`); for a concrete terminating run it is a finite conjunction of
equations between the calls, values and local states the program produces on the original and on the renamed inputs. -/
def PlanSim (I : IdSt σ) (body : σ → Resume → Burst ℚ σ) (fuel budget : Nat) : List Piece → KState ℚ σ → Prop
  | [], _ => True
  | p :: ps, S =>
    (match p with
      | .untilTime t => ∀ hpos : 0 < S.events.size, (SplitCfg.at S hpos t (I.rn S.events.size)).SimAlong body fuel S
      | _ => True) ∧
    match p.run body fuel budget S with
    | some S1 => PlanSim I body fuel budget ps S1
    | none => True

theorem planSim_of_bodySim (body : σ → Resume → Burst ℚ σ) (fuel budget : Nat)
    (hB : ∀ u, 0 < u → BodySim (shAt u) (I.rn u) body) : ∀ (plan : List Piece) (S : KState ℚ σ), PlanSim I body fuel budget plan S
  | [], _ => trivial
  | p :: ps, S => by
    refine ⟨?_, ?_⟩
    · cases p with
      | untilTime t => exact fun hpos => SplitCfg.simAlong_of_bodySim (SplitCfg.at S hpos t (I.rn S.events.size)) body (hB _ hpos) fuel S
      | _ => trivial
    · cases p.run body fuel budget S with
      | none => trivial
      | some S1 => exact planSim_of_bodySim body fuel budget hB ps S1

section pieces
variable (body : σ → Resume → Burst ℚ σ) (fuel : Nat)

structure Rel (I : IdSt σ) (body : σ → Resume → Burst ℚ σ) (fuel : Nat) (cs : List (SplitCfg σ)) (s S : KState ℚ σ) : Prop where
  ws : WS I s
  safe : ScopedRun I body fuel s
  ok : StackOK I cs s
  sim : StackSim body fuel cs s
  eq : ∃ x, S = splitState cs s x
  sorted : SortedAg S
  nostop : AllStopFree S

theorem Rel.wsS {cs : List (SplitCfg σ)} {s S : KState ℚ σ} (r : Rel I body fuel cs s S) : WS I S := by
  obtain ⟨x, rfl⟩ := r.eq
  exact ws_splitState cs s x r.ws r.ok

theorem stepN_stack (cs : List (SplitCfg σ)) (n : Nat) (s S S' : KState ℚ σ) (r : Rel I body fuel cs s S)
    (h : stepN body fuel n S = .ok S') : ∃ s', stepN body fuel n s = .ok s' ∧ Rel I body fuel cs s' S' := by
  obtain ⟨x, rfl⟩ := r.eq
  have hsorted := sortedAg_stepN body fuel n _ S' r.sorted h
  have hns := stepN_stopFree _ body fuel n _ S' r.nostop h
  cases n with
  | zero =>
    cases h
    exact ⟨s, rfl, r⟩
  | succ n =>
    have h' : stepN body fuel (n + 1) (stackT cs s) = .ok S' := by
      rw [← stepN_withNow body fuel n (stackT cs s) x]; exact h
    obtain ⟨s', h1, rfl, hsim'⟩ := stepN_stackT body fuel cs (n + 1) s S' r.ws r.safe r.ok r.sim h'
    have hr := kreach_of_stepN body fuel (n + 1) s s' h1
    exact ⟨s', h1, ⟨ws_reach body fuel s s' r.ws r.safe hr, r.safe.tail hr, r.ok.mono (grow_of_kreach body fuel hr), hsim',
      ⟨_, (splitState_self cs s').symm⟩, hsorted, hns⟩⟩

theorem untilEvent_stack (cs : List (SplitCfg σ)) (budget : Nat) (e : EvId) (s S S' : KState ℚ σ) (v : Val)
    (r : Rel I body fuel cs s S) (h : runUntilEvent body fuel budget e S = .returned v S') :
    ∃ K s', stepN body fuel K s = .ok s' ∧ Rel I body fuel cs s' S' := by
  by_cases hp : S.processed e = true
  · have : S' = S := by
      unfold runUntilEvent at h
      rw [if_pos hp] at h
      split at h <;> cases h <;> rfl
    subst this
    exact ⟨0, s, rfl, r⟩
  · have hp' : S.processed e = false := by simpa using hp
    obtain ⟨k, _, h1, _⟩ := runUntilEvent_transparent body fuel budget e S S' v r.nostop hp' h
    obtain ⟨s', h2, r'⟩ := stepN_stack body fuel cs (k + 1) s S S' r h1
    exact ⟨k + 1, s', h2, r'⟩

theorem untilTime_stack (cs : List (SplitCfg σ)) (budget : Nat) (t : ℚ) (s S S' : KState ℚ σ) (v : Val)
    (r : Rel I body fuel cs s S) (hpos : 0 < s.events.size)
    (hsimS : ∀ hposS : 0 < S.events.size, (SplitCfg.at S hposS t (I.rn S.events.size)).SimAlong body fuel S)
    (h : runUntilTime body fuel budget t S = .returned v S') :
    v = .none ∧ ∃ K s' c, stepN body fuel K s = .ok s' ∧ Rel I body fuel (c :: cs) s' S' ∧ S'.now = t ∧
      c.u = S.events.size ∧ c.t = t := by
  have hwS := r.wsS
  obtain ⟨x, hS⟩ := r.eq
  have hsz := size_stackT cs s r.ok
  have hSsize : S.events.size = s.events.size + cs.length := by rw [hS]; exact hsz.1
  have hSeid : S.eid = s.eid + cs.length := by rw [hS]; exact hsz.2
  have hposS : 0 < S.events.size := by rw [hSsize]; exact Nat.lt_of_lt_of_le hpos (Nat.le_add_right _ _)
  have hlt : S.now < t := SplitCfg.runUntilTime_returned_lt h
  let c : SplitCfg σ := SplitCfg.at S hposS t (I.rn S.events.size)
  have hclosed : c.Closed S := closed_of_ws c hwS r.sorted rfl rfl rfl
  have hfuel : c.FuelAlong body fuel S := by
    intro j Sj hj
    obtain ⟨sj, _, rj⟩ := stepN_stack body fuel cs j s S Sj r hj
    have := rj.wsS
    exact c.stepFuelOK_of_wf body fuel Sj (condWF_of_ws this) (buildAlloc_of_ws this)
  obtain ⟨hv, k, Sk, _, h1, h2, _, _, hsimk, hns', _, _⟩ :=
    c.runUntilTime_transparent_run body fuel budget S S' v rfl rfl hlt hclosed r.sorted r.nostop (hsimS hposS) hfuel h
  obtain ⟨sk, h3, rk⟩ := stepN_stack body fuel cs k s S Sk r h1
  obtain ⟨xk, hSk⟩ := rk.eq
  have hg : Grow s sk := grow_of_kreach body fuel (kreach_of_stepN body fuel k s sk h3)
  have hsimk' : c.SimAlong body fuel (stackT cs sk) := by
    rw [hSk] at hsimk
    exact simAlong_withNow c body fuel _ xk hsimk
  refine ⟨hv, k, sk, c, h3, ⟨rk.ws, rk.safe, ⟨?_, ?_, rfl, rk.ok⟩, ⟨hsimk', rk.sim⟩, ⟨t, ?_⟩, ?_, hns'⟩, ?_, rfl, rfl⟩
  · show S.events.size ≤ _
    rw [hSsize]; exact Nat.add_le_add_right hg.2 _
  · show S.eid ≤ _
    rw [hSeid]; exact Nat.add_le_add_right hg.1 _
  · rw [h2, hSk]; rfl
  · rw [h2]
    exact sortedAg_withNow (sortedAg_T_false c rk.sorted) _
  · rw [h2]; rfl

/-- the hypothesis `hsim` is the piece's part of `PlanSim` -/
theorem piece_stack (budget : Nat) (p : Piece) (cs : List (SplitCfg σ)) (s S S1 : KState ℚ σ) (r : Rel I body fuel cs s S)
    (hpos : 0 < s.events.size)
    (hsim : match p with
      | .untilTime t => ∀ hposS : 0 < S.events.size, (SplitCfg.at S hposS t (I.rn S.events.size)).SimAlong body fuel S
      | _ => True)
    (h : p.run body fuel budget S = some S1) :
    ∃ K s1 cs1, stepN body fuel K s = .ok s1 ∧ Rel I body fuel cs1 s1 S1 ∧ cs1.length = cs.length + numStops [p] := by
  have h1 := Piece.run_eq_some h
  cases p with
  | step n =>
    obtain ⟨s1, h2, r1⟩ := stepN_stack body fuel cs n s S S1 r h1
    exact ⟨n, s1, cs, h2, r1, rfl⟩
  | untilEvent e =>
    obtain ⟨v, h1⟩ := h1
    obtain ⟨K1, s1, h2, r1⟩ := untilEvent_stack body fuel cs budget e s S S1 v r h1
    exact ⟨K1, s1, cs, h2, r1, rfl⟩
  | untilTime t =>
    obtain ⟨v, h1⟩ := h1
    obtain ⟨_, K1, s1, c, h2, r1, _⟩ := untilTime_stack body fuel cs budget t s S S1 v r hpos hsim h1
    exact ⟨K1, s1, c :: cs, h2, r1, rfl⟩

theorem execPlan_stack (budget : Nat) : ∀ (plan : List Piece) (cs : List (SplitCfg σ)) (s S S' : KState ℚ σ),
    Rel I body fuel cs s S → 0 < s.events.size → PlanSim I body fuel budget plan S →
    execPlan body fuel budget plan S = some S' →
    ∃ K s' cs', stepN body fuel K s = .ok s' ∧ Rel I body fuel cs' s' S' ∧ cs'.length = cs.length + numStops plan
  | [], cs, s, S, S', r, _, _, h => by
    cases h
    exact ⟨0, s, cs, rfl, r, rfl⟩
  | p :: ps, cs, s, S, S', r, hpos, hPS, h => by
    unfold execPlan at h
    obtain ⟨hP1, hP2⟩ := hPS
    cases hp : p.run body fuel budget S with
    | none => rw [hp] at h; cases h
    | some S1 =>
      rw [hp] at h hP2
      obtain ⟨K1, s1, cs1, h2, r1, hl1⟩ := piece_stack body fuel budget p cs s S S1 r hpos hP1 hp
      have hpos1 : 0 < s1.events.size :=
        Nat.lt_of_lt_of_le hpos (grow_of_kreach body fuel (kreach_of_stepN body fuel K1 s s1 h2)).2
      obtain ⟨K, s', cs', h3, r', hl⟩ := execPlan_stack budget ps cs1 s1 S1 S' r1 hpos1 hP2 h
      exact ⟨K1 + K, s', cs', by rw [stepN_add_ok body fuel K1 K s s1 h2]; exact h3, r', by
        rw [hl, hl1, numStops_cons p ps, Nat.add_assoc]⟩

end pieces

end SplitPlan

end

section
/-!
# What a program and the harness can observe is unaffected by the numeric stops of a split plan (C03)

* the renamings of the stops compose: the trace of `stackT cs s` is the trace of `s` renamed by `stackρ cs`;
* the *view* of a trace — processes and events identified by their creation labels, values rendered (`renderSimple`,
  `freezeVal`: ids appear through labels only; a `Preempted` value through the label of the preempting process and the
  `usage_since` of the victim's request) — is literally the same in `stackT cs s` and in `s`; so is the view of the process
  table (which process waits for which event, in table order).
-/

variable {σ : Type}

theorem rnVal_comp (f g : EvId → EvId) (v : Val) : rnVal f (rnVal g v) = rnVal (fun e => f (g e)) v := by
  cases v <;> simp only [rnVal, List.map_map, Option.map_map] <;> rfl

theorem rnExc_comp (f g : EvId → EvId) (x : Exc) : rnExc f (rnExc g x) = rnExc (fun e => f (g e)) x := by
  unfold rnExc
  simp only [List.map_map]
  congr 1
  apply List.map_congr_left
  intro v _
  exact rnVal_comp f g v

theorem rnOutcome_comp (f g : EvId → EvId) (o : Outcome) : rnOutcome f (rnOutcome g o) = rnOutcome (fun e => f (g e)) o := by
  cases o with
  | ok v => simp only [rnOutcome, rnVal_comp]
  | fail x => simp only [rnOutcome, rnExc_comp]

theorem rnResume_comp (f g : EvId → EvId) (r : Resume) : rnResume f (rnResume g r) = rnResume (fun e => f (g e)) r := by
  cases r with
  | start => rfl
  | value v => simp only [rnResume, rnVal_comp]
  | exc x => simp only [rnResume, rnExc_comp]

theorem rnObs_comp (f g : EvId → EvId) (o : Obs ℚ) : rnObs f (rnObs g o) = rnObs (fun e => f (g e)) o := by
  cases o <;> simp only [rnObs, rnResume_comp, rnVal_comp, rnOutcome_comp, rnExc_comp]

theorem rnObs_id (o : Obs ℚ) : rnObs (fun e => e) o = o := by
  have hv : ∀ v : Val, rnVal (fun e => e) v = v := by
    intro v; cases v <;> simp [rnVal]
  have hx : ∀ x : Exc, rnExc (fun e => e) x = x := by
    intro x
    unfold rnExc
    have : x.args.map (rnVal fun e => e) = x.args := by
      rw [List.map_congr_left (fun v _ => hv v), List.map_id']
    rw [this]
  have ho : ∀ o : Outcome, rnOutcome (fun e => e) o = o := by
    intro o; cases o <;> simp [rnOutcome, hv, hx]
  have hr : ∀ r : Resume, rnResume (fun e => e) r = r := by
    intro r; cases r <;> simp [rnResume, hv, hx]
  cases o <;> simp [rnObs, hv, hx, ho, hr]

theorem trace_stackT (cs : List (SplitCfg σ)) (s : KState ℚ σ) : (stackT cs s).trace = s.trace.map (rnObs (stackρ cs)) := by
  induction cs with
  | nil =>
    show s.trace = s.trace.map (rnObs fun e => e)
    have : (rnObs fun e => e : Obs ℚ → Obs ℚ) = id := funext rnObs_id
    rw [this, Array.map_id]
  | cons c cs ih =>
    show (stackT cs s).trace.map (rnObs c.ρ) = _
    rw [ih, Array.map_map]
    congr 1
    funext o
    exact rnObs_comp c.ρ (stackρ cs) o

inductive VView where
  | text (t : String)
  /-- `Preempted(by, usage_since, resource)`: the preempting process by its label -/
  | pre (byLabel : Option Nat) (since : Option ℚ) (res : ResId)

structure XView where
  ty : String
  args : List VView

inductive OutView where
  | ok (v : VView)
  | fail (x : XView)

inductive RView where
  | start
  | value (v : VView)
  | exc (x : XView)

inductive OView where
  | resumed (p : Nat) (r : RView) (now : ℚ)
  | log (p : Nat) (what : String) (v : VView) (now : ℚ)
  | probe (tag : Nat) (e : Nat) (o : OutView) (now : ℚ)
  | callErr (p : Nat) (x : XView) (now : ℚ)
  | ended (p : Nat) (o : OutView) (now : ℚ)

def viewVal (s : KState ℚ σ) : Val → VView
  | .preempted b req res => .pre (b.map fun p => (s.ev p).label) (reqOf s req).usageSince res
  | .none => .text (renderSimple s .none)
  | .int i => .text (renderSimple s (.int i))
  | .str t => .text (renderSimple s (.str t))
  | .ev e => .text (renderSimple s (.ev e))
  | .cv keys => .text (renderSimple s (freezeVal s (.cv keys)))
  | .frozen t => .text (renderSimple s (.frozen t))

def viewExc (s : KState ℚ σ) (x : Exc) : XView := ⟨x.ty, x.args.map (viewVal s)⟩

def viewOut (s : KState ℚ σ) : Outcome → OutView
  | .ok v => .ok (viewVal s v)
  | .fail x => .fail (viewExc s x)

def viewResume (s : KState ℚ σ) : Resume → RView
  | .start => .start
  | .value v => .value (viewVal s v)
  | .exc x => .exc (viewExc s x)

def viewObs (s : KState ℚ σ) : Obs ℚ → OView
  | .resumed p r now => .resumed (s.ev p).label (viewResume s r) now
  | .log p what v now => .log (s.ev p).label what (viewVal s v) now
  | .probe tag e o now => .probe tag (s.ev e).label (viewOut s o) now
  | .callErr p x now => .callErr (s.ev p).label (viewExc s x) now
  | .ended p o now => .ended (s.ev p).label (viewOut s o) now

def viewTrace (s : KState ℚ σ) : List OView := s.trace.toList.map (viewObs s)

def viewProcs (s : KState ℚ σ) : List (Nat × Option Nat) :=
  s.procs.map fun pr => ((s.ev pr.1).label, pr.2.target.map fun t => (s.ev t).label)

namespace SplitCfg
variable (c : SplitCfg σ) (q : Bool) (s : KState ℚ σ)

theorem viewVal_T (h : c.Inv s) (v : Val) : viewVal (c.T q s) (rnVal c.ρ v) = viewVal s v := by
  cases v with
  | preempted b req res =>
    simp only [rnVal, viewVal, c.r_reqOf q s h, rnReq_usageSince, Option.map_map]
    congr 1
    cases b with
    | none => rfl
    | some p => simp only [Option.map_some, Function.comp, c.label_T q s h]
  | none => rfl
  | int i => rfl
  | str t => rfl
  | ev e =>
    have := c.r_renderSimple q s h (.ev e)
    simp only [rnVal, viewVal] at this ⊢
    rw [this]
  | cv keys =>
    have h1 : freezeVal (c.T q s) (.cv (keys.map c.ρ)) = rnVal c.ρ (freezeVal s (.cv keys)) := c.r_freezeVal q s h (.cv keys)
    show VView.text (renderSimple (c.T q s) (freezeVal (c.T q s) (.cv (keys.map c.ρ)))) = _
    rw [h1, c.r_renderSimple q s h]
    rfl
  | frozen t => rfl

theorem viewExc_T (h : c.Inv s) (x : Exc) : viewExc (c.T q s) (rnExc c.ρ x) = viewExc s x := by
  unfold viewExc rnExc
  simp only [List.map_map]
  congr 1
  apply List.map_congr_left
  intro v _
  exact c.viewVal_T q s h v

theorem viewOut_T (h : c.Inv s) (o : Outcome) : viewOut (c.T q s) (rnOutcome c.ρ o) = viewOut s o := by
  cases o with
  | ok v => simp only [rnOutcome, viewOut, c.viewVal_T q s h]
  | fail x => simp only [rnOutcome, viewOut, c.viewExc_T q s h]

theorem viewResume_T (h : c.Inv s) (r : Resume) : viewResume (c.T q s) (rnResume c.ρ r) = viewResume s r := by
  cases r with
  | start => rfl
  | value v => simp only [rnResume, viewResume, c.viewVal_T q s h]
  | exc x => simp only [rnResume, viewResume, c.viewExc_T q s h]

theorem viewObs_T (h : c.Inv s) (o : Obs ℚ) : viewObs (c.T q s) (rnObs c.ρ o) = viewObs s o := by
  cases o <;>
    simp only [rnObs, viewObs, c.label_T q s h, c.viewResume_T q s h, c.viewVal_T q s h, c.viewOut_T q s h, c.viewExc_T q s h]

theorem viewTrace_T (h : c.Inv s) : viewTrace (c.T q s) = viewTrace s := by
  unfold viewTrace
  show ((s.trace.map (rnObs c.ρ)).toList).map (viewObs (c.T q s)) = _
  rw [Array.toList_map, List.map_map]
  apply List.map_congr_left
  intro o _
  exact c.viewObs_T q s h o

theorem viewProcs_T (h : c.Inv s) : viewProcs (c.T q s) = viewProcs s := by
  unfold viewProcs
  show (s.procs.map (fun pr => (c.ρ pr.1, rnProc c.ρ c.rσ pr.2))).map _ = _
  rw [List.map_map]
  apply List.map_congr_left
  intro pr _
  simp only [Function.comp, c.label_T q s h, rnProc_target, Option.map_map]
  congr 1
  cases pr.2.target with
  | none => rfl
  | some t => simp only [Option.map_some, Function.comp, c.label_T q s h]

end SplitCfg

namespace SplitPlan
variable {I : IdSt σ}

theorem viewTrace_stackT (cs : List (SplitCfg σ)) (s : KState ℚ σ) (h : StackOK I cs s) :
    viewTrace (stackT cs s) = viewTrace s := by
  induction cs with
  | nil => rfl
  | cons c cs ih =>
    show viewTrace (c.T false (stackT cs s)) = _
    rw [c.viewTrace_T false _ (inv_stackT c cs s h), ih h.2.2.2]

theorem viewProcs_stackT (cs : List (SplitCfg σ)) (s : KState ℚ σ) (h : StackOK I cs s) :
    viewProcs (stackT cs s) = viewProcs s := by
  induction cs with
  | nil => rfl
  | cons c cs ih =>
    show viewProcs (c.T false (stackT cs s)) = _
    rw [c.viewProcs_T false _ (inv_stackT c cs s h), ih h.2.2.2]

theorem viewTrace_splitState (cs : List (SplitCfg σ)) (s : KState ℚ σ) (x : ℚ) :
    viewTrace (splitState cs s x) = viewTrace (stackT cs s) := by
  unfold viewTrace
  apply List.map_congr_left
  intro o _
  have hv : ∀ v, viewVal (splitState cs s x) v = viewVal (stackT cs s) v := by
    intro v; cases v <;> rfl
  have hx : ∀ y, viewExc (splitState cs s x) y = viewExc (stackT cs s) y := by
    intro y; unfold viewExc; rw [List.map_congr_left (fun v _ => hv v)]
  have ho : ∀ y, viewOut (splitState cs s x) y = viewOut (stackT cs s) y := by
    intro y; cases y <;> simp only [viewOut, hv, hx]
  have hr : ∀ y, viewResume (splitState cs s x) y = viewResume (stackT cs s) y := by
    intro y; cases y <;> simp only [viewResume, hv, hx]
  cases o <;> simp only [viewObs, hv, hx, ho, hr] <;> rfl

theorem viewProcs_splitState (cs : List (SplitCfg σ)) (s : KState ℚ σ) (x : ℚ) :
    viewProcs (splitState cs s x) = viewProcs (stackT cs s) := rfl

end SplitPlan

end
