import OnlVerif.Lemmas.WRRKAbs
import OnlVerif.Lemmas.MQKLts
/-!
# The WRR scheduler on the kernel model: every configuration step keeps `AInv` and lowers the step bound
-/

namespace WRRK
open WRROnK QEntry

theorem sumFrom_all_zero (c : Nat → Int) : ∀ (n f : Nat), (∀ j, f ≤ j → j < f + n → c j = 0) → sumFrom c f n = 0 :=
  sumFrom_eq ▸ MQK.sumFrom_all_zero c

theorem firstHit_none0 (c : Nat → Int) : ∀ (ws : List (Nat × Nat)) (m : Nat), firstHit c m 0 ws = none →
    ∀ e ∈ ws, ¬ (0 < e.2 ∧ 0 < c e.1)
  | [], _, _ => fun e he => by simp at he
  | (f0, w0) :: rest, m, h => by
    intro e he
    simp only [firstHit] at h
    by_cases hc : 0 < w0 ∧ 0 < c f0
    · simp [hc] at h
    · simp only [hc, if_false] at h
      rcases List.mem_cons.mp he with rfl | he
      · exact hc
      · exact firstHit_none0 c rest (m + 1) h e he

theorem firstHit_none (c : Nat → Int) (ws : List (Nat × Nat)) (m jj : Nat) (h : firstHit c m jj ws = none) :
    (∀ f0 w0, ws[0]? = some (f0, w0) → ¬ (jj < w0 ∧ 0 < c f0)) ∧ ∀ e ∈ ws.tail, ¬ (0 < e.2 ∧ 0 < c e.1) := by
  cases ws with
  | nil => exact ⟨fun f0 w0 h0 => by simp at h0, fun e he => by simp at he⟩
  | cons x rest =>
    obtain ⟨f, w⟩ := x
    simp only [firstHit] at h
    by_cases hc : jj < w ∧ 0 < c f
    · simp [hc] at h
    · simp only [hc, if_false] at h
      refine ⟨?_, firstHit_none0 c rest (m + 1) h⟩
      intro f0 w0 h0
      simp only [List.getElem?_cons_zero, Option.some.injEq, Prod.mk.injEq] at h0
      obtain ⟨rfl, rfl⟩ := h0
      exact hc

theorem firstHit_spec0 (c : Nat → Int) : ∀ (ws : List (Nat × Nat)) (m m' jj' f : Nat), firstHit c m 0 ws = some (m', jj', f) →
    m ≤ m' ∧ jj' = 0 ∧ (∃ w, ws[m' - m]? = some (f, w) ∧ 0 < w) ∧ 0 < c f ∧
      ∀ k, k < m' - m → ∀ e, ws[k]? = some e → ¬ (0 < e.2 ∧ 0 < c e.1)
  | [], _, _, _, _, h => by simp [firstHit] at h
  | (f0, w0) :: rest, m, m', jj', f, h => by
    simp only [firstHit] at h
    by_cases hc : 0 < w0 ∧ 0 < c f0
    · simp only [hc, and_self, if_true, Option.some.injEq, Prod.mk.injEq] at h
      obtain ⟨rfl, rfl, rfl⟩ := h
      refine ⟨le_refl _, rfl, ⟨w0, by simp, hc.1⟩, hc.2, ?_⟩
      intro k hk; omega
    · simp only [hc, if_false] at h
      obtain ⟨hle, h0, ⟨w, h1, hw⟩, h2, h3⟩ := firstHit_spec0 c rest (m + 1) m' jj' f h
      have hji : m' - m = (m' - (m + 1)) + 1 := by omega
      refine ⟨by omega, h0, ⟨w, by rw [hji, List.getElem?_cons_succ]; exact h1, hw⟩, h2, ?_⟩
      intro k hk e hk'
      cases k with
      | zero =>
        simp only [List.getElem?_cons_zero, Option.some.injEq] at hk'
        subst hk'
        exact hc
      | succ k =>
        rw [List.getElem?_cons_succ] at hk'
        exact h3 k (by omega) e hk'

theorem firstHit_spec (c : Nat → Int) (ws : List (Nat × Nat)) (m jj m' jj' f : Nat) (h : firstHit c m jj ws = some (m', jj', f)) :
    m ≤ m' ∧ (∃ w, ws[m' - m]? = some (f, w) ∧ jj' < w) ∧ 0 < c f ∧
      ((m' = m ∧ jj' = jj) ∨
        (m < m' ∧ jj' = 0 ∧ (∀ f0 w0, ws[0]? = some (f0, w0) → ¬ (jj < w0 ∧ 0 < c f0)) ∧
          ∀ k, 0 < k → k < m' - m → ∀ e, ws[k]? = some e → ¬ (0 < e.2 ∧ 0 < c e.1))) := by
  cases ws with
  | nil => simp [firstHit] at h
  | cons x rest =>
    obtain ⟨f0, w0⟩ := x
    simp only [firstHit] at h
    by_cases hc : jj < w0 ∧ 0 < c f0
    · simp only [hc, and_self, if_true, Option.some.injEq, Prod.mk.injEq] at h
      obtain ⟨rfl, rfl, rfl⟩ := h
      exact ⟨le_refl _, ⟨w0, by simp, hc.1⟩, hc.2, Or.inl ⟨rfl, rfl⟩⟩
    · simp only [hc, if_false] at h
      obtain ⟨hle, h0, ⟨w, h1, hw⟩, h2, h3⟩ := firstHit_spec0 c rest (m + 1) m' jj' f h
      have hji : m' - m = (m' - (m + 1)) + 1 := by omega
      refine ⟨by omega, ⟨w, by rw [hji, List.getElem?_cons_succ]; exact h1, by omega⟩, h2, Or.inr ⟨by omega, h0, ?_, ?_⟩⟩
      · intro f1 w1 h01
        simp only [List.getElem?_cons_zero, Option.some.injEq, Prod.mk.injEq] at h01
        obtain ⟨rfl, rfl⟩ := h01
        exact hc
      · intro k hk0 hk e hk'
        cases k with
        | zero => omega
        | succ k =>
          rw [List.getElem?_cons_succ] at hk'
          exact h3 k (by omega) e hk'

theorem loop_hit_iff {F : Nat} {a : A} {ws : List (Nat × Nat)} {m jj m' jj' f : Nat} : a.loop F ws m jj = .hit m' jj' f ↔
    firstHit a.cnt m jj (ws.drop m) = some (m', jj', f) ∨
    (firstHit a.cnt m jj (ws.drop m) = none ∧ a.total F ≠ 0 ∧ firstHit a.cnt 0 0 ws = some (m', jj', f)) := by
  unfold A.loop
  rcases firstHit a.cnt m jj (ws.drop m) with _ | ⟨m1, j1, f1⟩
  · by_cases ht : a.total F = 0
    · simp [ht]
    · rcases firstHit a.cnt 0 0 ws with _ | ⟨m1, j1, f1⟩ <;> simp [ht]
  · simp

theorem loop_idle_iff {F : Nat} {a : A} {ws : List (Nat × Nat)} {m jj : Nat} : a.loop F ws m jj = .idle ↔
    firstHit a.cnt m jj (ws.drop m) = none ∧ a.total F = 0 := by
  unfold A.loop
  rcases firstHit a.cnt m jj (ws.drop m) with _ | ⟨m1, j1, f1⟩
  · by_cases ht : a.total F = 0
    · simp [ht]
    · rcases firstHit a.cnt 0 0 ws with _ | ⟨m1, j1, f1⟩ <;> simp [ht]
  · simp

theorem loop_hang_iff {F : Nat} {a : A} {ws : List (Nat × Nat)} {m jj : Nat} : a.loop F ws m jj = .hang ↔
    firstHit a.cnt m jj (ws.drop m) = none ∧ a.total F ≠ 0 ∧ firstHit a.cnt 0 0 ws = none := by
  unfold A.loop
  rcases firstHit a.cnt m jj (ws.drop m) with _ | ⟨m1, j1, f1⟩
  · by_cases ht : a.total F = 0
    · simp [ht]
    · rcases firstHit a.cnt 0 0 ws with _ | ⟨m1, j1, f1⟩ <;> simp [ht]
  · simp

theorem loop_idle_total {F : Nat} {a : A} {ws : List (Nat × Nat)} {m jj : Nat} (h : a.loop F ws m jj = .idle) : a.total F = 0 :=
  (loop_idle_iff.mp h).2

theorem loop_hit_spec {F : Nat} {a : A} {ws : List (Nat × Nat)} {m jj m' jj' f : Nat} (h : a.loop F ws m jj = .hit m' jj' f) :
    (∃ w, ws[m']? = some (f, w) ∧ jj' < w) ∧ 0 < a.cnt f := by
  rcases loop_hit_iff.mp h with h1 | ⟨-, -, h2⟩
  · obtain ⟨hle, ⟨w, g1, gw⟩, g2, -⟩ := firstHit_spec _ _ _ _ _ _ _ h1
    rw [List.getElem?_drop] at g1
    exact ⟨⟨w, by rw [← g1]; congr 1; omega, gw⟩, g2⟩
  · obtain ⟨-, ⟨w, g1, gw⟩, g2, -⟩ := firstHit_spec _ _ _ _ _ _ _ h2
    exact ⟨⟨w, by simpa using g1, gw⟩, g2⟩

variable {F : Nat} {flow size : Int → Nat} {cfg : WRR.Cfg ℚ}
variable {a : A} {now : ℚ} {q : QEntry ℚ}

theorem total_def (F : Nat) (a : A) : a.total F = MQK.sumFrom a.cnt 0 F := by rw [A.total, sumFrom_eq]

/-- stores, counters and keys of a configuration, as `Lemmas/MQKLts.lean` speaks of them (`upd`, `addKey`, `heldCnt`, `sumFrom` there
have the bodies of those of this development: what is proved there of the one is used here of the other by unfolding) -/
theorem AInv.store (hi : AInv flow F cfg a now) : MQK.StoreInv flow F a.keys a.items a.cnt a.byt a.run.held :=
  ⟨hi.cntOK, hi.flowOK, hi.keysOK⟩

theorem total_zero_of_empty (hi : AInv flow F cfg a now) (hh : a.run.held = none) (he : ∀ f, f < F → a.items f = []) :
    a.total F = 0 :=
  (total_def F a).trans (hi.store.total_zero_of_empty hh he)

theorem empty_of_total_zero (hi : AInv flow F cfg a now) (ht : a.total F = 0) : ∀ f, f < F → a.items f = [] :=
  hi.store.empty_of_total_zero ((total_def F a).symm.trans ht)

theorem total_pos_of_held (hi : AInv flow F cfg a now) {id : Int} (hh : a.run.held = some id) (hf : flow id < F) :
    a.total F ≠ 0 :=
  fun ht => hi.store.total_pos hh hf ((total_def F a).symm.trans ht)

theorem cnt_nonneg (hi : AInv flow F cfg a now) {f : Nat} (hf : f < F) : 0 ≤ a.cnt f :=
  hi.store.cnt_nonneg hf

theorem mem_flows (hi : AInv flow F cfg a now) (f : Nat) : f ∈ cfg.weights.map (·.1) ↔ f < F := by
  rw [hi.table.1.mem_iff, List.mem_range]

theorem entry_lt (hi : AInv flow F cfg a now) {e : Nat × Nat} (he : e ∈ cfg.weights) : e.1 < F :=
  (mem_flows hi e.1).mp (List.mem_map_of_mem he)

/-- with every flow of the workload in `weights` (positive weights) a pass that serves nothing means `total_packets == 0`:
`run` never spins -/
theorem loop_not_hang (hi : AInv flow F cfg a now) (m jj : Nat) : a.loop F cfg.weights m jj ≠ .hang := by
  intro h
  obtain ⟨-, ht, h2⟩ := loop_hang_iff.mp h
  refine ht (sumFrom_all_zero _ _ _ fun j _ hj => ?_)
  have hjF : j < F := by omega
  obtain ⟨e, he, hej⟩ := List.mem_map.mp ((mem_flows hi j).mpr hjF)
  have h3 := firstHit_none0 _ _ _ h2 e he
  have h4 := hi.table.2 e he
  have h5 := cnt_nonneg hi hjF
  rw [← hej] at h5 ⊢
  by_contra hne
  exact h3 ⟨h4, by omega⟩

theorem key_of_cnt (hi : AInv flow F cfg a now) : ∀ f, f < F → 0 < a.cnt f → f ∈ a.keys :=
  fun _ => hi.store.key_of_cnt

theorem items_of_cnt (hi : AInv flow F cfg a now) (hh : a.run.held = none) {f : Nat} (hf : f < F) (hpos : 0 < a.cnt f) :
    ∃ id is, a.items f = id :: is :=
  hi.store.items_of_cnt hh hf hpos

theorem AInv.store_of (hi : AInv flow F cfg a now) {o : Option Int} (h : a.run.held = o) :
    MQK.StoreInv flow F a.keys a.items a.cnt a.byt o :=
  h ▸ hi.store

theorem runA_congr {a' : A} {r : RPhase} (hr : RunA flow F cfg a now r) (hinit : ∀ q0, r ≠ .init q0) (hc : a'.cur = a.cur)
    (hW : ∀ g, r = .W g → (a'.tokens = 0 → ∀ f, f < F → a'.items f = []) ∧ (a'.tokens ≠ 0 → ∃ u, (u, 0) ∈ a'.pend)) :
    RunA flow F cfg a' now r := by
  cases r with
  | init q0 => exact absurd rfl (hinit q0)
  | W g => exact ⟨(hW g rfl).1, (hW g rfl).2, hc.trans hr.2.2⟩
  | _ => simp only [RunA, hc] at hr ⊢; exact hr

/-- the invariant after a step: what is not said stays as it is (the entries of `run`, the source, the pending `StorePut`s,
stores and counters) -/
theorem ainv_gen (hi : AInv flow F cfg a q.time) (a' : A) (hr : RunA flow F cfg a' q.time a'.run)
    (hrd : ∀ x ∈ a'.run.entries, q.time ≤ x.time := by exact fun x hx => hi.due x (mem_run hx))
    (hs : SrcA flow F q.time a'.src ∧ ∀ x ∈ a'.src.entries, q.time ≤ x.time := by
      exact ⟨hi.src, fun x hx => hi.due x (mem_src hx)⟩)
    (hpend : ∀ u ∈ a'.pend, u ∈ a.pend ∨ u.1.time = q.time ∧ u.1.prio = NORMAL := by exact fun u hu => Or.inl hu)
    (hst : MQK.StoreInv flow F a'.keys a'.items a'.cnt a'.byt a'.run.held := by exact hi.store) :
    AInv flow F cfg a' q.time := by
  refine ⟨hr, hs.1, fun u hu => (hpend u hu).elim (hi.pend u) fun h => h, ?_, hst.cntOK, hst.flowOK, hst.keysOK, hi.table,
    hi.rate⟩
  intro x hx
  simp only [A.entries, List.mem_append, pendEntries, List.mem_map] at hx
  rcases hx with hx | hx | ⟨u, hu, rfl⟩
  · exact hrd x hx
  · exact hs.2 x hx
  · exact (hpend u hu).elim (fun h => hi.due _ (mem_pend h)) fun h => h.1.ge

variable {n e : Nat} {arr : List (ℚ × Int)}

theorem srcNext_ok (hw : WorkOK flow F arr) (t : ℚ) (eid ev : Nat) :
    SrcA flow F t (srcNext t eid ev arr) ∧ (∀ x ∈ (srcNext t eid ev arr).entries, t ≤ x.time) ∧
    (srcNext t eid ev arr).mu ≤ 10 * arr.length + 1 := by
  cases arr with
  | nil => exact ⟨⟨rfl, rfl⟩, by simp [srcNext, SPhase.entries], by simp [srcNext, SPhase.mu]⟩
  | cons x r =>
    obtain ⟨gap, id⟩ := x
    have h1 := hw (gap, id) (by simp)
    refine ⟨⟨rfl, h1.2, fun y hy => hw y (List.mem_cons_of_mem _ hy)⟩, ?_, by simp [srcNext, SPhase.mu]; omega⟩
    simp only [srcNext, SPhase.entries, List.mem_singleton]
    rintro y rfl
    show t ≤ t + gap
    linarith [h1.1]

/-- when the source's timeout is the next entry, `run` has had its first burst: its `Initialize` is urgent and not later -/
theorem run_started (hi : AInv flow F cfg a q.time) (hq : IsMin a q) {id : Int} {arr : List (ℚ × Int)}
    (h : a.src = .wait id arr q) (q0 : QEntry ℚ) : a.run ≠ .init q0 := by
  intro hr
  have hrun := hi.run
  have hs := hi.src
  rw [hr] at hrun
  rw [h] at hs
  exact min_not_prio_lt hi.due hq (mem_run (by simp [hr, RPhase.entries])) hrun.1 (by rw [hrun.2.1, hs.1]; decide)

theorem sound_put (hi : AInv flow F cfg a q.time) (hq : IsMin a q) {id : Int} {arr : List (ℚ × Int)}
    (h : a.src = .wait id arr q) (tk : Bool) (htk : tk = true ↔ a.total F = 0) (src' : SPhase)
    (hsrc' : SrcA flow F q.time src' ∧ (∀ x ∈ src'.entries, q.time ≤ x.time) ∧ src'.mu ≤ 10 * arr.length + 1)
    (new : List (QEntry ℚ × ResId)) (hnew : ∀ u ∈ new, u.1.time = q.time ∧ u.1.prio = NORMAL)
    (hnewt : tk = true → ∃ u, (u, 0) ∈ new) (hlen : new.length ≤ 2) :
    let a' : A := { a with
        src := src'
        pend := a.pend ++ new
        tokens := a.tokens + (if tk then 1 else 0)
        items := upd a.items (flow id) (a.items (flow id) ++ [id])
        cnt := upd a.cnt (flow id) (a.cnt (flow id) + 1)
        byt := upd a.byt (flow id) (a.byt (flow id) + (size id : Int))
        recv := a.recv + 1
        keys := addKey a.keys (flow id) }
    AInv flow F cfg a' q.time ∧ a'.mu F + 1 ≤ a.mu F := by
  have hs := hi.src
  rw [h] at hs
  obtain ⟨-, hfid, -⟩ := hs
  have hns := run_started hi hq h
  refine ⟨ainv_gen hi _ (runA_congr hi.run hns rfl fun g (hr : a.run = .W g) => ⟨fun h0 => ?_, fun h0 => ?_⟩)
    (hs := ⟨hsrc'.1, hsrc'.2.1⟩)
    (hpend := fun u hu => (List.mem_append.mp hu).imp (fun h => h) (hnew u))
    (hst := hi.store.put hfid (size id : Int)), ?_⟩
  · have hall := (hr ▸ hi.run).1 (show a.tokens = 0 by dsimp only at h0; omega)
    have : tk = true := htk.mpr (total_zero_of_empty hi (by simp [hr, RPhase.held]) hall)
    simp [this] at h0
  · dsimp only at h0 ⊢
    by_cases hk : tk = true
    · obtain ⟨u, hu⟩ := hnewt hk
      exact ⟨u, List.mem_append_right _ hu⟩
    · obtain ⟨u, hu⟩ := (hr ▸ hi.run).2.1 (by simpa [hk] using h0)
      exact ⟨u, List.mem_append_left _ hu⟩
  · have hw : waitingFrom (upd a.items (flow id) (a.items (flow id) ++ [id])) 0 F = waitingFrom a.items 0 F + 1 :=
      MQK.StoreInv.waiting_put hfid
    have hm : (SPhase.wait id arr q).mu = 10 * arr.length + 11 := rfl
    have h2 := hsrc'.2.2
    simp only [A.mu, h, hm, List.length_append]
    cases tk <;> simp only [Bool.false_eq_true, if_false, if_true] <;> omega

/-- the server takes the head of `stores[f]` (after a wake-up or after a transmission) -/
theorem sound_hit (hi : AInv flow F cfg a q.time) {m jj f : Nat} {id : Int} {is : List Int} (hh : a.run.held = none)
    (hcur : a.cur = none) (hf : f < F) (hit : a.items f = id :: is) (hpos : ∃ w, cfg.weights[m]? = some (f, w) ∧ jj < w) (hmu : a.run.mu = 1) :
    AInv flow F cfg { a with run := .H n m jj id ⟨q.time, NORMAL, e, n⟩, items := upd a.items f is } q.time ∧
      ({ a with run := .H n m jj id ⟨q.time, NORMAL, e, n⟩, items := upd a.items f is } : A).mu F + 1 ≤ a.mu F := by
  have hfl : flow id = f := hi.flowOK f hf id (by rw [hit]; simp)
  refine ⟨ainv_gen hi _ ⟨rfl, rfl, hcur, hfl ▸ hf, hfl ▸ hpos⟩ (fun x hx => by rw [List.mem_singleton.mp hx])
    (hst := hi.store.take hh hf hit), ?_⟩
  have : waitingFrom (upd a.items f is) 0 F + 1 = waitingFrom a.items 0 F := MQK.StoreInv.waiting_take hf hit
  have h4 : (RPhase.H n m jj id ⟨q.time, NORMAL, e, n⟩).mu = 4 := rfl
  simp only [A.mu, h4, hmu]
  omega

/-- `run` ends a burst with nothing to serve: it blocks on the wake-up store, or takes the token that is there -/
theorem sound_idle (hi : AInv flow F cfg a q.time) (hh : a.run.held = none) (hcur : a.cur = none) (hmu : a.run.mu = 1)
    (hemp : ∀ f, f < F → a.items f = []) :
    (a.tokens = 0 → AInv flow F cfg { a with run := .W n } q.time ∧ ({ a with run := .W n } : A).mu F + 1 ≤ a.mu F) ∧
    ∀ t, a.tokens = t + 1 → AInv flow F cfg { a with run := .K n ⟨q.time, NORMAL, e, n⟩, tokens := t } q.time ∧
      ({ a with run := .K n ⟨q.time, NORMAL, e, n⟩, tokens := t } : A).mu F + 1 ≤ a.mu F := by
  refine ⟨fun htk => ⟨ainv_gen hi _ ⟨fun _ => hemp, fun h0 => absurd htk h0, hcur⟩ (fun _ hx => nomatch hx)
      (hst := hi.store_of hh), ?_⟩,
    fun t htk => ⟨ainv_gen hi _ ⟨rfl, rfl, hcur⟩ (fun x hx => by rw [List.mem_singleton.mp hx]) (hst := hi.store_of hh), ?_⟩⟩
  · have h0 : (RPhase.W n).mu = 0 := rfl
    simp only [A.mu, h0, hmu]; omega
  · have h1 : (RPhase.K n ⟨q.time, NORMAL, e, n⟩).mu = 1 := rfl
    simp only [A.mu, h1, hmu, htk]; omega

theorem astep_sound {a' : A} {new : List (HEv ℚ)} (hi0 : AInv flow F cfg a now) (hq : IsMin a q)
    (hs : AStep F flow size cfg n e a q a' new) : AInv flow F cfg a' q.time ∧ a'.mu F + 1 ≤ a.mu F := by
  have hi := hi0.advance hq
  have hrun := hi.run
  cases hs with
  | runInit h =>
    rw [h] at hrun
    obtain ⟨-, -, htk, hpe, hit, hcn, hcur, -⟩ := hrun
    exact (sound_idle (e := e) hi (by rw [h]; rfl) hcur (by rw [h]; rfl) (fun f _ => hit f)).1 htk
  | wakeHit g m' jj' f id is h hs hf hit | doneHit p m jj id0 m' jj' f id is h hs hf hit =>
    rw [h] at hrun
    exact sound_hit hi (by rw [h]; rfl) hrun.2.2 hf hit (loop_hit_spec hs).1 (by rw [h]; rfl)
  | wakeBlock g h hs htk | doneBlock p m jj id0 h hs htk =>
    rw [h] at hrun
    exact (sound_idle (e := e) hi (by rw [h]; rfl) hrun.2.2 (by rw [h]; rfl) (empty_of_total_zero hi (loop_idle_total hs))).1 htk
  | wakeTok g t h hs htk | doneTok p m jj id0 t h hs htk =>
    rw [h] at hrun
    exact (sound_idle (e := e) hi (by rw [h]; rfl) hrun.2.2 (by rw [h]; rfl) (empty_of_total_zero hi (loop_idle_total hs))).2 t htk
  | pktResume g m jj id h =>
    rw [h] at hrun
    refine ⟨ainv_gen hi _ ⟨rfl, rfl, hrun.2.2.1, hrun.2.2.2.1⟩ (fun x hx => by rw [List.mem_singleton.mp hx])
      (hst := hi.store_of (by rw [h]; rfl)), ?_⟩
    simp only [A.mu, RPhase.mu, h]; omega
  | sendInit p m jj id h =>
    rw [h] at hrun
    have hd := txTime_nonneg (size := size) hi.rate id
    refine ⟨ainv_gen hi _ ⟨rfl, rfl, hrun.2.2.2⟩
      (fun x hx => by rw [List.mem_singleton.mp hx]; show q.time ≤ q.time + _; linarith)
      (hst := hi.store_of (by rw [h]; rfl)), ?_⟩
    simp only [A.mu, RPhase.mu, h]; omega
  | sendFire p t m jj id h =>
    rw [h] at hrun
    obtain ⟨-, hcur, hfid⟩ := hrun
    refine ⟨ainv_gen hi _ ⟨rfl, rfl, rfl⟩ (fun x hx => by rw [List.mem_singleton.mp hx])
      (hst := hi.store.out (by rw [h]; rfl) hfid (-(size id : Int))), ?_⟩
    simp only [A.mu, RPhase.mu, h]; omega
  | srcInit arr h =>
    have hs := hi.src
    rw [h] at hs
    obtain ⟨h1, h2, h3⟩ := srcNext_ok hs.2.2 q.time e n
    refine ⟨ainv_gen hi _ hi.run (hs := ⟨h1, h2⟩), ?_⟩
    have hm : (SPhase.init q arr).mu = 10 * arr.length + 2 := rfl
    simp only [A.mu, h, hm]
    omega
  | srcPutTok id arr h htot =>
    have hs := hi.src
    rw [h] at hs
    exact sound_put (size := size) hi hq h true (by simp [htot]) _ (srcNext_ok hs.2.2 q.time (e + 1 + 1) (n + 1 + 1))
      [(⟨q.time, NORMAL, e, n⟩, 0), (⟨q.time, NORMAL, e + 1, n + 1⟩, flowStore (flow id))]
      (by intro u hu; simp only [List.mem_cons, List.not_mem_nil, or_false] at hu; rcases hu with rfl | rfl <;> exact ⟨rfl, rfl⟩)
      (fun _ => ⟨_, List.mem_cons_self⟩) (le_refl _)
  | srcPutPlain id arr h htot =>
    have hs := hi.src
    rw [h] at hs
    exact sound_put (size := size) hi hq h false (by simp [htot]) _ (srcNext_ok hs.2.2 q.time (e + 1) (n + 1))
      [(⟨q.time, NORMAL, e, n⟩, flowStore (flow id))]
      (by intro u hu; simp only [List.mem_cons, List.not_mem_nil, or_false] at hu; rw [hu]; exact ⟨rfl, rfl⟩)
      (fun h0 => by cases h0) (Nat.le_succ _)
  | srcEnd h =>
    refine ⟨ainv_gen hi _ hi.run (hs := ⟨trivial, fun _ hx => nomatch hx⟩), ?_⟩
    have hm : (SPhase.ending q).mu = 1 := rfl
    have hm' : SPhase.done.mu = 0 := rfl
    simp only [A.mu, h, hm, hm']
    omega
  | pendNoop r l1 l2 hpe hno =>
    have hsub : ∀ u ∈ l1 ++ l2, u ∈ a.pend := KExec.mem_of_split hpe
    refine ⟨ainv_gen hi _ (runA_congr hi.run (fun q0 (hr : a.run = .init q0) => ?_) rfl
      fun g (hr : a.run = .W g) => ⟨(hr ▸ hi.run).1, fun h0 => ?_⟩)
      (hpend := fun u hu => Or.inl (hsub u hu)), ?_⟩
    · have := (hr ▸ hi.run).2.2.2.1
      rw [this] at hpe
      simp at hpe
    · obtain ⟨u, hu⟩ := (hr ▸ hi.run).2.1 h0
      rw [hpe] at hu
      rcases List.mem_append.mp hu with h1 | h1
      · exact ⟨u, List.mem_append_left _ h1⟩
      · rcases List.mem_cons.mp h1 with h1 | h1
        · exact absurd ⟨by cases h1; rfl, h0, g, hr⟩ hno
        · exact ⟨u, List.mem_append_right _ h1⟩
    · simp only [A.mu, hpe, List.length_append, List.length_cons]
      omega
  | pendHand g t l1 l2 hpe h htk =>
    have hsub : ∀ u ∈ l1 ++ l2, u ∈ a.pend := KExec.mem_of_split hpe
    rw [h] at hrun
    refine ⟨ainv_gen hi _ ⟨rfl, rfl, hrun.2.2⟩ (fun x hx => by rw [List.mem_singleton.mp hx])
      (hpend := fun u hu => Or.inl (hsub u hu)) (hst := hi.store_of (by rw [h]; rfl)), ?_⟩
    simp only [A.mu, h, hpe, htk, RPhase.mu, List.length_append, List.length_cons]
    omega

end WRRK
