import OnlVerif.Lemmas.TimerKDefs
import OnlVerif.Lemmas.StrandFrame
import OnlVerif.Lemmas.KExec
/-!
# The Timer on the kernel model: what each kernel operation of the program does

Every lemma rewrites an operation applied to an arbitrary state `s` into `{ s with … }` with explicit fields, under
the local facts the operation reads.
-/

namespace TimerK
open TimerOnK

@[simp] theorem lookup_cons_same (l : List (Nat × Val)) (k : Nat) (v : Val) : lookup ((k, v) :: l) k = v := by
  simp [lookup]

theorem lookup_cons_ne (l : List (Nat × Val)) (k k' : Nat) (v : Val) (h : k' ≠ k) :
    lookup ((k', v) :: l) k = lookup l k := by
  simp [lookup, h]

export KExec (dec_enc plookup_set fresh_ne afterBurst resume_eq step_eq push_setIfInBounds_size)

theorem lookup_filter_ne (l : List (Nat × Val)) (k k' : Nat) (h : k' ≠ k) :
    lookup (l.filter (·.1 != k')) k = lookup l k := by
  unfold lookup
  rw [KExec.find?_filter_ne _ _ _ h]

/-- `lookup` after a `Call.store` -/
theorem lookup_store (l : List (Nat × Val)) (k k' : Nat) (v : Val) :
    lookup ((k', v) :: l.filter (·.1 != k')) k = if k = k' then v else lookup l k := by
  by_cases h : k = k'
  · subst h; simp
  · rw [if_neg h, lookup_cons_ne _ _ _ _ (Ne.symm h), lookup_filter_ne _ _ _ (Ne.symm h)]

theorem lookup_cons (l : List (Nat × Val)) (k k' : Nat) (v : Val) :
    lookup ((k', v) :: l) k = if k = k' then v else lookup l k := by
  by_cases h : k = k'
  · subst h; simp
  · rw [if_neg h, lookup_cons_ne _ _ _ _ (Ne.symm h)]

theorem doCall_load (s : KS) (self : EvId) (k : Nat) : doCall s self (.load k) = (s, .val (lookup s.shared k)) := rfl

theorem doCall_store (s : KS) (self : EvId) (k : Nat) (v : Val) :
    doCall s self (.store k v) = ({ s with shared := (k, v) :: s.shared.filter (·.1 != k) }, .unit) := rfl

theorem doCall_log_int (s : KS) (self : EvId) (what : String) (i : Int) :
    doCall s self (.log what (.int i)) = ({ s with trace := s.trace.push (.log self what (.int i) s.now) }, .unit) := rfl

theorem doCall_log_none (s : KS) (self : EvId) (what : String) :
    doCall s self (.log what .none) = ({ s with trace := s.trace.push (.log self what .none s.now) }, .unit) := rfl

theorem doCall_log_enc (s : KS) (self : EvId) (what : String) (x : ℚ) :
    doCall s self (.log what (TimeCell.enc x)) =
      ({ s with trace := s.trace.push (.log self what (TimeCell.enc x) s.now) }, .unit) := rfl

export KExec (doCall_timeout doCall_interrupt_ok doCall_interrupt_dead doCall_interrupt_self doCall_spawn)

end TimerK
