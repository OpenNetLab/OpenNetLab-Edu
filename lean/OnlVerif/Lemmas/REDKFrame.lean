import OnlVerif.Lemmas.REDKBasic
import OnlVerif.Lemmas.KProcDefs
/-!
# Generator → REDPort → sink on the kernel model: the cells and the views

What the attribute cells of a configuration hold (`Cells`: a burst writes cell `k` by `Cells.upd`), and the views of a trace
that grows.
-/

namespace REDK
open REDOnK

/-- what the attribute cells 0 … 8 of a configuration hold -/
def cellsOf (a : A) : List Val :=
  [.int a.bytes, .int a.recv, .int (if a.busy then 1 else 0), .int a.bsz, .int a.dropped, TimeCell.enc a.avg, .int a.len,
    .int a.scnt, .int a.sbytes]

/-- the cells `n`, `n + 1`, … hold the values `l` -/
def Cells (f : Nat → Val) : Nat → List Val → Prop
  | _, [] => True
  | n, v :: l => f n = v ∧ Cells f (n + 1) l

theorem Cells.frame {f : Nat → Val} {n : Nat} {l : List Val} (h : Cells f n l) {k : Nat} (hk : k < n) (v : Val) :
    Cells (KProc.upd f k v) n l := by
  induction l generalizing n with
  | nil => trivial
  | cons x l ih => exact ⟨(if_neg (Nat.ne_of_gt hk)).trans h.1, ih h.2 (Nat.lt_succ_of_lt hk)⟩

/-- a burst writes the `i`-th of the cells -/
theorem Cells.upd {f : Nat → Val} {n : Nat} {l : List Val} (h : Cells f n l) (i : Nat) (v : Val) :
    Cells (KProc.upd f (n + i) v) n (l.set i v) := by
  induction l generalizing n i with
  | nil => trivial
  | cons x l ih =>
    cases i with
    | zero => exact ⟨if_pos rfl, h.2.frame (Nat.lt_succ_self n) v⟩
    | succ i => exact ⟨(if_neg (by omega)).trans h.1, Nat.add_right_comm n 1 i ▸ ih h.2 i⟩

theorem viewsOf_push (tr : Array (Obs ℚ)) (o : Obs ℚ) : viewsOf (tr.push o) = viewsOf tr ++ (viewOf o).toList :=
  KExec.filterMap_push _ tr o

@[simp] theorem viewOf_resumed (p : EvId) (r : Resume) (t : ℚ) : viewOf (Obs.resumed p r t) = none := rfl
@[simp] theorem viewOf_ended (p : EvId) (o : Outcome) (t : ℚ) : viewOf (Obs.ended p o t) = none := rfl
@[simp] theorem viewOf_gen (p : EvId) (i : Int) (t : ℚ) : viewOf (Obs.log p "gen" (.int i) t) = some (.gen i t) := by
  simp [viewOf]
@[simp] theorem viewOf_out (p : EvId) (i : Int) (t : ℚ) : viewOf (Obs.log p "out" (.int i) t) = some (.out i t) := by
  simp [viewOf]
@[simp] theorem viewOf_sink (p : EvId) (i : Int) (t : ℚ) : viewOf (Obs.log p "sink" (.int i) t) = some (.sink i t) := by
  simp [viewOf]
@[simp] theorem viewOf_drop (p : EvId) (i : Int) (t : ℚ) : viewOf (Obs.log p "drop" (.int i) t) = none := by
  simp [viewOf]
@[simp] theorem viewOf_u (p : EvId) (x t : ℚ) : viewOf (Obs.log p "u" (TimeCell.enc x) t) = some (.u x) := by
  simp [viewOf]
@[simp] theorem viewOf_avg (p : EvId) (x t : ℚ) : viewOf (Obs.log p "avg" (TimeCell.enc x) t) = none := by
  simp only [viewOf]
  rw [if_neg (by decide)]
  rfl
@[simp] theorem viewOf_draw (p : EvId) (x t : ℚ) : viewOf (Obs.log p "draw" (TimeCell.enc x) t) = none := by
  simp only [viewOf]
  rw [if_neg (by decide)]
  rfl

@[simp] theorem viewsOf_ite_draw (b : Bool) (p : EvId) (x t : ℚ) (tr : Array (Obs ℚ)) :
    viewsOf (if b then tr.push (.log p "draw" (TimeCell.enc x) t) else tr) = viewsOf tr := by
  cases b <;> simp [viewsOf_push]

/-- `simp` that leaves `Array.getD` on explicit states as it stands -/
syntax "ksimp" (" [" Lean.Parser.Tactic.simpLemma,* "]")? (Lean.Parser.Tactic.location)? : tactic
macro_rules
  | `(tactic| ksimp $[$loc]?) =>
    `(tactic| simp [-Array.getD_eq_getD_getElem?, -IsEmpty.exists_iff] $[$loc]?)
  | `(tactic| ksimp [$args,*] $[$loc]?) =>
    `(tactic| simp [-Array.getD_eq_getD_getElem?, -IsEmpty.exists_iff, $args,*] $[$loc]?)

/-- discharge a frame condition `∀ x < s.events.size, … → S.ev x = s.ev x` (`hfr`: the events touched are not `x`) on a flat state -/
macro "frame_ev" hfr:ident : tactic =>
  `(tactic| (intro x hx hc; have hxg := $hfr x hx hc; ksimp [Nat.ne_of_lt hx, Nat.ne_of_lt (Nat.lt_succ_of_lt hx), hxg]))

end REDK
