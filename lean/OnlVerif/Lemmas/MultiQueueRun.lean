import OnlVerif.Lemmas.SchedLawful
/-!
# MultiQueueServer: where a burst can end, the shape of a scanning burst and the decisions of a record that never
parks, the phase automaton of a step, logs of whole runs, alternation of starts and departures, drain
-/

namespace MQ
variable {κ : Type}

/-- the phases in which a burst ends, at a `yield`: packet handed, sender spawned, blocked on / served by the token store -/
def Yields : Phase ℚ → Prop
  | .pktHanded _ _ | .spawned _ | .waitToken | .tokenHanded => True
  | _ => False

theorem settles_end (sc : Sched ℚ κ) (s s' : MQState ℚ κ) (hs : Settles sc s s') : Yields s'.phase := by
  induction hs with
  | goto s k s' hm _ ih => exact ih
  | get s c k s' hm hg =>
    obtain ⟨p, rest, _, rfl⟩ := issueGet_ok hg
    exact trivial
  | block s k hm =>
    obtain ⟨n, ph, hph, e⟩ := blockOnToken_eq ({ touch sc s with ctl := k } : MQState ℚ κ)
    rw [e]
    rcases hph with rfl | rfl <;> exact trivial
  | takeSend s c k p e k' hm hp hd => exact trivial
  | takePark s c k p k' s2 s' hm hp hd hpk _ ih => exact ih

theorem resumeLoop_end (sc : Sched ℚ κ) (s s' : MQState ℚ κ) (h : resumeLoop sc s = .ok s') : Yields s'.phase :=
  settles_end sc _ s' (resumeLoop_settles sc s s' h)

/-- the scan started at entry `i` and stands at `m`, every entry passed satisfying `Sk`; `w`: it has wrapped round -/
def Vis (Sk : Nat → Prop) (i m : Nat) (w : Bool) : Prop :=
  if w then (∀ l, i ≤ l → Sk l) ∧ ∀ l, l < m → Sk l
  else i ≤ m ∧ ∀ l, i ≤ l → l < m → Sk l

theorem vis_fresh (Sk : Nat → Prop) (i : Nat) : Vis Sk i i false := by
  simp only [Vis, Bool.false_eq_true, if_false]
  exact ⟨le_refl _, fun l h1 h2 => absurd h2 (not_lt.mpr h1)⟩

theorem vis_succ {Sk : Nat → Prop} {i m : Nat} {w : Bool} (h : Vis Sk i m w) (hs : Sk m) : Vis Sk i (m + 1) w := by
  cases w with
  | true =>
    simp only [Vis, if_true] at h ⊢
    refine ⟨h.1, fun l hl => ?_⟩
    rcases Nat.lt_or_eq_of_le (Nat.le_of_lt_succ hl) with h1 | rfl
    · exact h.2 l h1
    · exact hs
  | false =>
    simp only [Vis, Bool.false_eq_true, if_false] at h ⊢
    refine ⟨Nat.le_succ_of_le h.1, fun l hil hl => ?_⟩
    rcases Nat.lt_or_eq_of_le (Nat.le_of_lt_succ hl) with h1 | rfl
    · exact h.2 l hil h1
    · exact hs

/-- past the end of the table (where `Sk` holds of every index) the scan starts again at the top -/
theorem vis_wrap {Sk : Nat → Prop} {i m : Nat} {w : Bool} (h : Vis Sk i m w) (hm : ∀ l, m ≤ l → Sk l) :
    Vis Sk i 0 true := by
  simp only [Vis, if_true]
  refine ⟨fun l hil => ?_, fun l hl => absurd hl (Nat.not_lt_zero l)⟩
  cases w with
  | true => simp only [Vis, if_true] at h; exact h.1 l hil
  | false =>
    simp only [Vis, Bool.false_eq_true, if_false] at h
    by_cases hl : l < m
    · exact h.2 l hil hl
    · exact hm l (not_lt.mp hl)

/-- an entry that is not skipped is the first such entry cyclically from `i` -/
theorem vis_cyclic {Sk : Nat → Prop} {i m : Nat} {w : Bool} (h : Vis Sk i m w) (hm : ¬ Sk m) :
    (i ≤ m ∧ ∀ l, i ≤ l → l < m → Sk l) ∨ (m < i ∧ (∀ l, i ≤ l → Sk l) ∧ ∀ l, l < m → Sk l) := by
  cases w with
  | false => simp only [Vis, Bool.false_eq_true, if_false] at h; exact Or.inl h
  | true =>
    simp only [Vis, if_true] at h
    by_cases him : i ≤ m
    · exact absurd (h.1 m him) hm
    · exact Or.inr ⟨not_le.mp him, h.1, h.2⟩

/-- the loop rests (not started, blocked, just woken) only at the control point `k0` -/
def RestsAt (k0 : κ) (s : MQState ℚ κ) : Prop :=
  (s.phase = .idle ∨ s.phase = .waitToken ∨ s.phase = .tokenHanded) → s.ctl = k0

def Sees (cn : Nat → Int) (st : List (Nat × List MPkt)) (v : View) : Prop :=
  (∀ f, v.count f = cn f) ∧ ∀ c, v.storeLen c = (storeOf st c).length

/-- what a move of a scanning loop has to satisfy: a `goto` keeps `P`, a `get c` continuing at `k'` establishes `R c k'`,
a `block` continues at `k0`, and no parked packet is taken -/
abbrev ScanMove (P : κ → Prop) (R : Nat → κ → Prop) (k0 : κ) : Micro κ → Prop
  | .goto k' => P k'
  | .get c k' => R c k'
  | .block k' => k' = k0
  | .take _ _ => False
  | .fail _ => True

/-- **The shape of a burst of a loop that scans its classes.**  `P` says where the scan stands, relative to the
counters `cn` and the stores `st` the burst started with (a scan changes neither).  If every move made under `P` is a
`ScanMove`, the burst ends blocked at `k0`, or with the head of a store in hand and `R`. -/
theorem settles_scan (sc : Sched ℚ κ) (cn : Nat → Int) (st : List (Nat × List MPkt)) (P : κ → Prop)
    (R : Nat → κ → Prop) (k0 : κ) (hmove : ∀ k v, Sees cn st v → P k → ScanMove P R k0 (sc.micro k v))
    {s s' : MQState ℚ κ} (hs : Settles sc s s') (hcn : ∀ f, cnt s.queueCount f = cn f) (hst : s.stores = st)
    (hP : P s.ctl) :
    ((s'.phase = .waitToken ∨ s'.phase = .tokenHanded) → s'.ctl = k0) ∧
    (∀ c p, s'.phase = .pktHanded c p → ∃ rest, R c s'.ctl ∧ storeOf st c = p :: rest ∧ s'.stores = setKey st c rest) ∧
    (∀ p, s'.phase ≠ .spawned p) := by
  have hmv : ∀ t : MQState ℚ κ, (∀ f, cnt t.queueCount f = cn f) → t.stores = st → P t.ctl →
      ScanMove P R k0 (sc.micro (touch sc t).ctl (view (touch sc t))) := fun t h1 h2 h3 =>
    hmove _ _ ⟨fun f => (touch_cnt sc t f).trans (h1 f), fun c => by simp only [view, touch_stores, h2]⟩
      ((touch_ctl sc t).symm ▸ h3)
  induction hs with
  | goto s k s' hm _ ih =>
    exact ih (fun f => (touch_cnt sc s f).trans (hcn f)) ((touch_stores sc s).trans hst)
      (hm ▸ hmv s hcn hst hP : ScanMove P R k0 (.goto k))
  | get s c k s' hm hg =>
    obtain ⟨p, rest, hst', rfl⟩ := issueGet_ok hg
    have hts : (touch sc s).stores = st := (touch_stores sc s).trans hst
    refine ⟨fun h => (by rcases h with h | h <;> cases h), fun c' p' h => ?_, fun _ h => nomatch h⟩
    cases h
    exact ⟨rest, (hm ▸ hmv s hcn hst hP : ScanMove P R k0 (.get c k)), hts ▸ hst', hts ▸ rfl⟩
  | block s k hm =>
    cases (hm ▸ hmv s hcn hst hP : ScanMove P R k0 (.block k))
    obtain ⟨n, ph, hph, e⟩ := blockOnToken_eq ({ touch sc s with ctl := k0 } : MQState ℚ κ)
    rw [e]
    exact ⟨fun _ => rfl, fun c p h => (by rcases hph with rfl | rfl <;> cases h),
      fun p h => (by rcases hph with rfl | rfl <;> cases h)⟩
  | takeSend s c k p e k' hm hp hd => exact (hm ▸ hmv s hcn hst hP : ScanMove P R k0 (.take c k)).elim
  | takePark s c k p k' s2 s' hm hp hd hpk _ ih => exact (hm ▸ hmv s hcn hst hP : ScanMove P R k0 (.take c k)).elim

/-- `settles_scan` for a whole burst: it ends with the loop resting at `k0` or with a packet in hand and `R` -/
theorem resumeLoop_scan (sc : Sched ℚ κ) (s s' : MQState ℚ κ) (P : κ → Prop) (R : Nat → κ → Prop) (k0 : κ)
    (hmove : ∀ k v, Sees (cnt s.queueCount) s.stores v → P k → ScanMove P R k0 (sc.micro k v))
    (hr : resumeLoop sc s = .ok s') (hP : P s.ctl) :
    RestsAt k0 s' ∧
    (∀ c p, s'.phase = .pktHanded c p →
      ∃ rest, R c s'.ctl ∧ storeOf s.stores c = p :: rest ∧ s'.stores = setKey s.stores c rest) := by
  have h := settles_scan sc _ _ P R k0 hmove (resumeLoop_settles sc s s' hr) (fun _ => rfl) rfl hP
  refine ⟨fun hph => ?_, h.2.1⟩
  rcases hph with hph | hph
  · have := resumeLoop_end sc s s' hr
    rw [hph] at this
    exact this.elim
  · exact h.1 hph

/-- **The decision bursts of a record that never parks and whose `put` leaves the control point alone.**  If every burst
started at `k0` by a loop resting there, or where `onDone` leaves the loop, ends resting at `k0` or at a `yield` with `Q`,
then every accepted step keeps "the loop rests only at `k0`", and `init`, `wake`, `sendDone` establish `Q`. -/
theorem step_decision (sc : Sched ℚ κ) (hnp : NeverParks sc) (hput : ∀ k c p k', sc.onPut k c p = .ok k' → k' = k)
    (k0 : κ) (Q : MQState ℚ κ → MQState ℚ κ → Prop)
    (hb : ∀ s k s', (k = s.ctl ∧ s.ctl = k0) ∨ (∃ p, sc.onDone s.ctl p = .ok k) →
      resumeLoop sc { s with ctl := k } = .ok s' → RestsAt k0 s' ∧ Q s s')
    (s s' : MQState ℚ κ) (a : MAct ℚ) (o : MOut ℚ) (hc : RestsAt k0 s) (hs : step sc s a = .ok (s', o)) :
    RestsAt k0 s' ∧ ((a = .init ∨ a = .wake ∨ a = .sendDone) → Q s s') := by
  have keep : ∀ {t : MQState ℚ κ}, (t.phase = .idle ∨ t.phase = .waitToken ∨ t.phase = .tokenHanded →
      s.phase = .idle ∨ s.phase = .waitToken ∨ s.phase = .tokenHanded) → t.ctl = s.ctl → RestsAt k0 t :=
    fun h1 h2 h => h2.trans (hc (h1 h))
  cases step_trans sc s s' a o hs with
  | init _ hp hr => exact (hb s s.ctl s' (.inl ⟨rfl, hc (.inl hp)⟩) hr).imp_right fun h _ => h
  | wake _ hp hr => exact (hb s s.ctl s' (.inl ⟨rfl, hc (.inr (.inr hp))⟩) hr).imp_right fun h _ => h
  | sendDone p k _ hp hk hr => exact (hb s k s' (.inr ⟨p, hk⟩) hr).imp_right fun h _ => h
  | put p c k hcl hk =>
    cases hput _ _ _ _ hk
    obtain ⟨n, _, e⟩ := put_eq ({ s with ctl := s.ctl } : MQState ℚ κ) p c
    rw [e]
    exact ⟨keep id rfl, fun h => absurd h (by simp)⟩
  | tokenHandoff n hp htk => exact ⟨keep (fun _ => .inr (.inl hp)) rfl, fun h => absurd h (by simp)⟩
  | resumeSend c p e k hp hd => exact ⟨fun h => absurd h (by simp [spawn]), fun h => absurd h (by simp)⟩
  | resumePark c p k s2 _ hp hd hpk hr => exact absurd hd (hnp _ _ _ _ _)
  | sendInit p hp => exact ⟨fun h => absurd h (by simp), fun h => absurd h (by simp)⟩
  | sendFire p due hp hnow => exact ⟨fun h => absurd h (by simp), fun h => absurd h (by simp)⟩
  | tickIdle t h1 h2 h3 => exact ⟨keep id rfl, fun h => absurd h (by simp)⟩
  | tickBusy t p due h1 h2 h3 => exact ⟨keep id rfl, fun h => absurd h (by simp)⟩
  | sample inc => exact ⟨hc, fun h => absurd h (by simp)⟩

/-- **The phase automaton**: how an accepted step moves the phase of the loop and its sender, and what it puts out
(`now`: the clock before the step).  With the phase before the step known, `cases` leaves the rules that start there. -/
inductive PhStep (sc : Sched ℚ κ) (now : ℚ) : Phase ℚ → MAct ℚ → Phase ℚ → MOut ℚ → Prop
  | init {ph' : Phase ℚ} : Yields ph' → PhStep sc now .idle .init ph' .nothing
  | put (ph : Phase ℚ) (p : MPkt) : PhStep sc now ph (.put p) ph .accepted
  | tokenHandoff : PhStep sc now .waitToken .tokenHandoff .tokenHanded .nothing
  | wake {ph' : Phase ℚ} : Yields ph' → PhStep sc now .tokenHanded .wake ph' .nothing
  | resumeSend (c : Nat) (p : MPkt) : PhStep sc now (.pktHanded c p) .pktResume (.spawned p) .nothing
  | resumePark (c : Nat) (p : MPkt) {ph' : Phase ℚ} : ¬ NeverParks sc → Yields ph' →
      PhStep sc now (.pktHanded c p) .pktResume ph' .nothing
  | sendInit (p : MPkt) :
      PhStep sc now (.spawned p) .sendInit (.sending p (now + txTime sc p)) (.started p (now + txTime sc p))
  | sendFire (p : MPkt) (due : ℚ) : now = due → PhStep sc now (.sending p due) .sendFire (.finished p) (.depart p)
  | sendDone (p : MPkt) {ph' : Phase ℚ} : Yields ph' → PhStep sc now (.finished p) .sendDone ph' .nothing
  | tickIdle (t : ℚ) : now ≤ t → PhStep sc now .waitToken (.tick t) .waitToken .nothing
  | tickBusy (t : ℚ) (p : MPkt) (due : ℚ) : now ≤ t → t ≤ due → PhStep sc now (.sending p due) (.tick t) (.sending p due) .nothing
  | sample (ph : Phase ℚ) (inc : Bool) (l : List (Nat × Int × Int)) : PhStep sc now ph (.sample inc) ph (.samples l)

theorem step_phase (sc : Sched ℚ κ) (s s' : MQState ℚ κ) (a : MAct ℚ) (o : MOut ℚ) (hs : step sc s a = .ok (s', o)) :
    PhStep sc s.now s.phase a s'.phase o := by
  cases step_trans sc s s' a o hs with
  | init _ hp hr => rw [hp]; exact .init (resumeLoop_end sc s s' hr)
  | put p c k hc hk =>
    obtain ⟨n, _, e⟩ := put_eq ({ s with ctl := k } : MQState ℚ κ) p c
    rw [e]
    exact .put _ p
  | tokenHandoff n hp htk => rw [hp]; exact .tokenHandoff
  | wake _ hp hr => rw [hp]; exact .wake (resumeLoop_end sc s s' hr)
  | resumeSend c p e k hp hd => rw [hp]; exact .resumeSend c p
  | resumePark c p k s2 _ hp hd hpk hr =>
    rw [hp]; exact .resumePark c p (fun hn => hn _ _ _ _ _ hd) (resumeLoop_end sc s2 s' hr)
  | sendInit p hp => rw [hp]; exact .sendInit p
  | sendFire p due hp hnow => rw [hp]; exact .sendFire p due hnow
  | sendDone p k _ hp hk hr => rw [hp]; exact .sendDone p (resumeLoop_end sc _ s' hr)
  | tickIdle t h1 h2 h3 => rw [h2]; exact .tickIdle t h1
  | tickBusy t p due h1 h2 h3 => rw [h2]; exact .tickBusy t p due h1 h3
  | sample inc => exact .sample _ inc _

/-- the packet whose transmission is in progress -/
def txOpen : Phase ℚ → Option MPkt
  | .sending p _ => some p
  | _ => none

theorem txOpen_of_yields : ∀ {ph : Phase ℚ}, Yields ph → txOpen ph = none
  | .pktHanded _ _, _ | .spawned _, _ | .waitToken, _ | .tokenHanded, _ => rfl
  | .idle, h | .running, h | .sending _ _, h | .finished _, h => h.elim

def TxMove (ph ph' : Phase ℚ) : MOut ℚ → Prop
  | .started p _ => txOpen ph = none ∧ txOpen ph' = some p
  | .depart p => txOpen ph = some p ∧ txOpen ph' = none
  | _ => txOpen ph' = txOpen ph

theorem PhStep.txMove {sc : Sched ℚ κ} {now : ℚ} {ph ph' : Phase ℚ} {a : MAct ℚ} {o : MOut ℚ}
    (h : PhStep sc now ph a ph' o) : TxMove ph ph' o := by
  cases h with
  | init hy | wake hy | sendDone _ hy | resumePark _ _ _ hy => exact txOpen_of_yields hy
  | put | tokenHandoff | resumeSend | tickIdle | tickBusy | sample => exact rfl
  | sendInit | sendFire => exact ⟨rfl, rfl⟩

structure Entry (κ : Type) where
  pre : MQState ℚ κ
  act : MAct ℚ
  out : MOut ℚ
  post : MQState ℚ κ

def runLog (sc : Sched ℚ κ) : MQState ℚ κ → List (MAct ℚ) → Except String (List (Entry κ))
  | _, [] => .ok []
  | s, a :: as =>
    match step sc s a with
    | .error m => .error m
    | .ok (s1, o) =>
      match runLog sc s1 as with
      | .error m => .error m
      | .ok l => .ok (⟨s, a, o, s1⟩ :: l)

theorem runLog_cons_ok {sc : Sched ℚ κ} {a : MAct ℚ} {as : List (MAct ℚ)} {s : MQState ℚ κ} {l : List (Entry κ)}
    (h : runLog sc s (a :: as) = .ok l) :
    ∃ s1 o l2, step sc s a = .ok (s1, o) ∧ runLog sc s1 as = .ok l2 ∧ l = ⟨s, a, o, s1⟩ :: l2 := by
  simp only [runLog] at h
  split at h
  · cases h
  · rename_i s1 o h1
    split at h
    · cases h
    · rename_i l2 h2
      exact ⟨s1, o, l2, h1, h2, (Except.ok.inj h).symm⟩

theorem runLog_mem_of (sc : Sched ℚ κ) (J : MQState ℚ κ → Prop)
    (hJ : ∀ s a s' o, J s → step sc s a = .ok (s', o) → J s') (as : List (MAct ℚ)) (s : MQState ℚ κ)
    (l : List (Entry κ)) (h : J s) (hr : runLog sc s as = .ok l) (e : Entry κ) (he : e ∈ l) :
    J e.pre ∧ step sc e.pre e.act = .ok (e.post, e.out) := by
  induction as generalizing s l with
  | nil =>
    simp only [runLog, Except.ok.injEq] at hr
    subst hr; cases he
  | cons a as ih =>
    obtain ⟨s1, o, l2, h1, h2, rfl⟩ := runLog_cons_ok hr
    rcases List.mem_cons.mp he with rfl | he
    · exact ⟨h, h1⟩
    · exact ih s1 l2 (hJ s a s1 o h h1) h2 he

theorem runLog_decision (sc : Sched ℚ κ) (hnp : NeverParks sc) (hput : ∀ k c p k', sc.onPut k c p = .ok k' → k' = k)
    (k0 : κ) (Q : MQState ℚ κ → MQState ℚ κ → Prop)
    (hb : ∀ s k s', (k = s.ctl ∧ s.ctl = k0) ∨ (∃ p, sc.onDone s.ctl p = .ok k) →
      resumeLoop sc { s with ctl := k } = .ok s' → RestsAt k0 s' ∧ Q s s')
    (as : List (MAct ℚ)) (s : MQState ℚ κ) (l : List (Entry κ)) (h0 : RestsAt k0 s) (hr : runLog sc s as = .ok l)
    (e : Entry κ) (he : e ∈ l) (hdec : e.act = .init ∨ e.act = .wake ∨ e.act = .sendDone) : Q e.pre e.post := by
  obtain ⟨hc, hs⟩ := runLog_mem_of sc (RestsAt k0)
    (fun s a s' o hJ hst => (step_decision sc hnp hput k0 Q hb s s' a o hJ hst).1) as s l h0 hr e he
  exact (step_decision sc hnp hput k0 Q hb _ _ _ _ hc hs).2 hdec

theorem runLog_mem (sc : Sched ℚ κ) (L : Lawful sc) (as : List (MAct ℚ)) (s : MQState ℚ κ) (l : List (Entry κ))
    (h : Inv sc s) (hr : runLog sc s as = .ok l) (e : Entry κ) (he : e ∈ l) :
    Inv sc e.pre ∧ step sc e.pre e.act = .ok (e.post, e.out) :=
  runLog_mem_of sc (Inv sc) (fun s a s' o hi hs => (step_inv sc L s s' a o hi hs).1) as s l h hr e he

/-- starts (`true`) and departures (`false`) in a list of outputs -/
def txEvents : List (MOut ℚ) → List (Bool × MPkt)
  | [] => []
  | .started p _ :: r => (true, p) :: txEvents r
  | .depart p :: r => (false, p) :: txEvents r
  | _ :: r => txEvents r

/-- starts and departures alternate and each departure is the packet that was started -/
def Alternates : Option MPkt → List (Bool × MPkt) → Prop
  | _, [] => True
  | none, (true, p) :: r => Alternates (some p) r
  | some q, (false, p) :: r => p = q ∧ Alternates none r
  | _, _ => False

theorem runLog_alternates (sc : Sched ℚ κ) (as : List (MAct ℚ)) (s : MQState ℚ κ) (l : List (Entry κ))
    (hr : runLog sc s as = .ok l) : Alternates (txOpen s.phase) (txEvents (l.map (·.out))) := by
  induction as generalizing s l with
  | nil =>
    simp only [runLog, Except.ok.injEq] at hr
    subst hr; simp [txEvents, Alternates]
  | cons a as ih =>
    obtain ⟨s1, o, l2, h1, h2, rfl⟩ := runLog_cons_ok hr
    have hx := (step_phase sc s s1 a o h1).txMove
    have ih' := ih s1 l2 h2
    simp only [List.map_cons]
    cases o with
    | started p d =>
      obtain ⟨e1, e2⟩ := hx
      simp only [txEvents]; rw [e1]; simp only [Alternates]; rw [← e2]; exact ih'
    | depart p =>
      obtain ⟨e1, e2⟩ := hx
      simp only [txEvents]; rw [e1]; simp only [Alternates]; rw [← e2]; exact ⟨trivial, ih'⟩
    | nothing | accepted | samples =>
      have e : txOpen s1.phase = txOpen s.phase := hx
      simp only [txEvents]; rw [← e]; exact ih'

theorem wsumMap_nonneg {β : Type} (g : β → Int) (hg : ∀ v, 0 ≤ g v) (m : List (Nat × β)) : 0 ≤ wsumMap g m := by
  induction m with
  | nil => simp [wsumMap]
  | cons a r ih => obtain ⟨k, v⟩ := a; simp only [wsumMap]; have := hg v; omega

theorem wsumMap_zero {β : Type} (g : β → Int) (hg : ∀ v, 0 ≤ g v) (d : β) (hd : g d = 0) (m : List (Nat × β))
    (h : wsumMap g m = 0) (c : Nat) : g (lookupD m c d) = 0 := by
  induction m with
  | nil => exact hd
  | cons a r ih =>
    obtain ⟨k, v⟩ := a
    have h1 := hg v
    have h2 := wsumMap_nonneg g hg r
    simp only [wsumMap] at h
    simp only [lookupD, lookup] at ih ⊢
    split
    · simp only [Option.getD_some]; omega
    · exact ih (by omega)

theorem wsum_one_eq_length (l : List MPkt) : wsum (fun _ => 1) l = l.length := by
  induction l with
  | nil => simp
  | cons p r ih => simp only [wsum_cons, ih, List.length_cons]; omega

theorem nothing_held_of_total_zero (s : MQState ℚ κ) (h : W (fun _ => 1) s = 0) :
    inHand s = [] ∧ (∀ c, storeOf s.stores c = []) ∧ (∀ c, lookupD s.hol c none = none) := by
  have hs : ∀ l : List MPkt, 0 ≤ wsum (fun _ => 1) l := fun l => by rw [wsum_one_eq_length]; exact Int.natCast_nonneg _
  have ho : ∀ v : Option MPkt, 0 ≤ wOpt (fun _ => 1) v := fun v => by cases v <;> simp
  have nil : ∀ l : List MPkt, wsum (fun _ => 1) l = 0 → l = [] := fun l e =>
    List.length_eq_zero_iff.mp (by rw [wsum_one_eq_length] at e; exact_mod_cast e)
  have h1 := hs (inHand s)
  have h2 := wsumMap_nonneg _ ho s.hol
  have h3 := wsumMap_nonneg _ hs s.stores
  simp only [W] at h
  refine ⟨nil _ (by omega), fun c => nil _ (wsumMap_zero _ hs [] rfl s.stores (by omega) c), fun c => ?_⟩
  have := wsumMap_zero _ ho none rfl s.hol (by omega) c
  cases hv : lookupD s.hol c none with
  | none => rfl
  | some p => rw [hv] at this; simp at this
theorem heldC_nil_of_nothing (sc : Sched ℚ κ) (s : MQState ℚ κ) (h1 : inHand s = []) (h2 : ∀ c, storeOf s.stores c = [])
    (h3 : ∀ c, lookupD s.hol c none = none) (c : Nat) : heldC sc s c = [] := by
  simp [heldC, h1, h2, h3]

def ofFlow (f : Nat) (l : List MPkt) : List MPkt := l.filter (fun p => decide (p.flow = f))

theorem ofFlow_ofClass (sc : Sched ℚ κ) (f c : Nat) (hc : sc.classOf f = some c) (l : List MPkt) :
    ofFlow f (ofClass sc c l) = ofFlow f l := by
  simp only [ofFlow, ofClass, List.filter_filter]
  congr 1
  funext p
  by_cases hp : p.flow = f
  · simp [hp, hc]
  · simp [hp]

theorem ofFlow_append (f : Nat) (l1 l2 : List MPkt) : ofFlow f (l1 ++ l2) = ofFlow f l1 ++ ofFlow f l2 := by
  simp [ofFlow]

/-- the state after `__init__`: control point `k0`, the counter keys the constructor creates (all zero) -/
def start (k0 : κ) (t0 : ℚ) (counts : List (Nat × Int)) : MQState ℚ κ := MQ.init k0 t0 counts

/-- `s` is reached from the initial state by an admissible action sequence that accepted `ins` and transmitted `outs` -/
def Reached (sc : Sched ℚ κ) (k0 : κ) (t0 : ℚ) (counts : List (Nat × Int)) (s : MQState ℚ κ) (ins outs : List MPkt) : Prop :=
  (∀ e ∈ counts, e.2 = 0) ∧ ∃ as, runActs sc (start k0 t0 counts) as = .ok (s, ins, outs)

theorem reached_inv (sc : Sched ℚ κ) (L : Lawful sc) (k0 : κ) (t0 : ℚ) (counts : List (Nat × Int)) (s : MQState ℚ κ)
    (ins outs : List MPkt) (h : Reached sc k0 t0 counts s ins outs) :
    Inv sc s ∧ ∀ c, ofClass sc c ins = ofClass sc c outs ++ heldC sc s c := by
  obtain ⟨hz, as, hr⟩ := h
  have h0 := init_inv sc k0 t0 counts hz
  have := run_inv sc L as _ s ins outs h0.1 hr
  exact ⟨this.1, fun c => by have e := this.2 c; rw [h0.2 c] at e; simpa using e⟩


end MQ
