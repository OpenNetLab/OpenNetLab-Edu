import Lean.Meta.Tactic.Simp.RegisterCommand
/-! the simp set `vck`: the pieces of the VirtualClock and WFQ programs and the facts that the cells of different attributes are
different; it is given to `heval` (`Lemmas/KProcDefs.lean`) to run the program on a configuration -/
register_simp_attr vck
