import OnlVerif.Lemmas.SPKDefs
/-!
# The SP scheduler on the kernel model: what each kernel operation of the program does

The calls that touch cells and the trace on an arbitrary kernel state; the cells of different attributes are different; what
the loops of the program (`total_packets`, the scan of `SP.run`) do on a configuration (`Lemmas/KProcDefs.lean`): they only
read cells.
-/

namespace SPK
open SPOnK
open TimerK (lookup)
open KProc (hrun hcall Cfg)

theorem getD_set_same (a : Array ResRec) (r : Nat) (x : ResRec) (h : r < a.size) :
    (a.setIfInBounds r x).getD r default = x := by
  rw [getD_setIfInBounds]; simp [h]

@[simp] theorem isStoreKind_store : isStoreKind .store = true := rfl
@[simp] theorem isPrioKind_store : isPrioKind .store = false := rfl
@[simp] theorem store_beq_preemptive : (ResKind.store == ResKind.preemptive) = false := rfl
@[simp] theorem store_beq_fstore : (ResKind.store == ResKind.fstore) = false := rfl

theorem doCall_load (s : KS) (self : EvId) (k : Nat) : doCall s self (.load k) = (s, .val (lookup s.shared k)) := rfl

theorem doCall_store (s : KS) (self : EvId) (k : Nat) (v : Val) :
    doCall s self (.store k v) = ({ s with shared := (k, v) :: s.shared.filter (·.1 != k) }, .unit) := rfl

theorem doCall_log (s : KS) (self : EvId) (what : String) (i : Int) :
    doCall s self (.log what (.int i)) = ({ s with trace := s.trace.push (.log self what (.int i) s.now) }, .unit) := rfl

/-- the attribute cells are pairwise different (in the form `simp` uses) -/
@[spk] theorem cells_ne (f f' : Nat) :
    (cCount f = cCount f') = (f = f') ∧ (cCount f = cBytes f') = False ∧ (cCount f = cLen f') = False ∧
    (cBytes f = cCount f') = False ∧ (cBytes f = cBytes f') = (f = f') ∧ (cBytes f = cLen f') = False ∧
    (cLen f = cCount f') = False ∧ (cLen f = cBytes f') = False ∧ (cLen f = cLen f') = (f = f') := by
  simp only [cCount, cBytes, cLen, eq_iff_iff, iff_false]
  omega

@[spk] theorem cRecv_ne_cCur : (cRecv = cCur) = False ∧ (cCur = cRecv) = False := by
  simp only [cRecv, cCur, eq_iff_iff, iff_false]
  omega

@[spk] theorem cells_ne_fixed (f : Nat) :
    (cRecv = cCount f) = False ∧ (cRecv = cBytes f) = False ∧ (cRecv = cLen f) = False ∧
    (cCur = cCount f) = False ∧ (cCur = cBytes f) = False ∧ (cCur = cLen f) = False ∧
    (cCount f = cRecv) = False ∧ (cCount f = cCur) = False ∧ (cBytes f = cRecv) = False ∧
    (cBytes f = cCur) = False ∧ (cLen f = cRecv) = False ∧ (cLen f = cCur) = False := by
  simp only [cRecv, cCur, cCount, cBytes, cLen, eq_iff_iff, iff_false]
  omega

@[spk] theorem flowStore_ne_zero (f : Nat) : (flowStore f = 0) = False :=
  propext ⟨fun h => by unfold flowStore at h; omega, False.elim⟩
@[spk] theorem tokStore_eq : tokStore = 0 := rfl

theorem runBurst_call (p : EvId) (c : Call ℚ St) (k : Reply → Burst ℚ St) (S : KS) :
    runBurst p (.call c k) S = runBurst p (k (doCall S p c).2) (noteErr p (doCall S p c)) := rfl

theorem runBurst_addInt (p : EvId) (k : Nat) (n d : Int) (cont : Burst ℚ St) (S : KS)
    (h : lookup S.shared k = .int n) :
    runBurst p (addInt k d cont) S =
      runBurst p cont { S with shared := (k, .int (n + d)) :: S.shared.filter (·.1 != k) } := by
  simp [addInt, loadInt, runBurst_call, doCall_load, doCall_store, noteErr, h]

/-! ## the parts of a burst that only read cells, on configurations -/

theorem hrun_loadInt (p : EvId) (k : Nat) (n : Int) (cont : Int → Burst ℚ St) (c : Cfg St) (h : c.reg.cells k = .int n) :
    hrun p (loadInt k cont) c = hrun p (cont n) c := by
  simp only [loadInt, hrun, hcall, h]

theorem hrun_sumCounts (p : EvId) (cnt : Nat → Int) (c : Cfg St) (k : Int → Burst ℚ St) :
    ∀ (n f : Nat) (acc : Int), (∀ j, f ≤ j → j < f + n → c.reg.cells (cCount j) = .int (cnt j)) →
      hrun p (sumCounts f n acc k) c = hrun p (k (acc + sumFrom cnt f n)) c
  | 0, f, acc, _ => by simp [sumCounts, sumFrom]
  | n + 1, f, acc, h => by
    rw [sumCounts, hrun_loadInt p _ (cnt f) _ c (h f (Nat.le_refl _) (by omega)),
      hrun_sumCounts p cnt c k n (f + 1) (acc + cnt f) (fun j h1 h2 => h j (by omega) (by omega))]
    simp [sumFrom, Int.add_assoc]

/-- `self.total_packets` reads the `F` counters -/
theorem hrun_total (p : EvId) (F : Nat) (cnt : Nat → Int) (c : Cfg St) (k : Int → Burst ℚ St)
    (h : ∀ f, f < F → c.reg.cells (cCount f) = .int (cnt f)) :
    hrun p (totalPackets F k) c = hrun p (k (sumFrom cnt 0 F)) c := by
  rw [totalPackets, hrun_sumCounts p cnt c k F 0 0 (fun j _ h2 => h j (by omega))]
  simp

/-- the `for` loop of `SP.run` only reads: it ends at the first entry with a positive priority and a non-empty store, or
behind the last entry -/
theorem hrun_scan (p : EvId) (F : Nat) (ln : Nat → Nat) (c : Cfg St) :
    ∀ (tbl : List (Nat × Int)) (i : Nat), (∀ x ∈ tbl, c.reg.cells (cLen x.1) = .int (ln x.1 : Nat)) →
      hrun p (runScan F i tbl) c =
        match firstHit ln i tbl with
        | some (j, f) => hrun p (runTake j f (ln f : Nat)) c
        | none => hrun p (runExhausted F) c
  | [], i, _ => by simp [runScan, firstHit]
  | (f, pr) :: rest, i, h => by
    have ih := hrun_scan p F ln c rest (i + 1) (fun x hx => h x (List.mem_cons_of_mem _ hx))
    by_cases hpr : 0 < pr
    · have hl := h (f, pr) List.mem_cons_self
      by_cases hz : ln f = 0
      · simp only [runScan, firstHit, hpr, if_true, hz]
        rw [hrun_loadInt p _ ((ln f : Nat) : Int) _ c hl]
        simp only [hz, Nat.cast_zero, if_true]
        rw [ih]
      · simp only [runScan, firstHit, hpr, if_true, hz, if_false]
        rw [hrun_loadInt p _ ((ln f : Nat) : Int) _ c hl]
        have : ¬ ((ln f : Nat) : Int) = 0 := by omega
        simp only [this, if_false]
    · simp only [runScan, firstHit, hpr, if_false]
      rw [ih]

end SPK
