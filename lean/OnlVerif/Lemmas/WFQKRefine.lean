import OnlVerif.Lemmas.WFQKRun
import OnlVerif.Lemmas.WFQKSound
import OnlVerif.Lemmas.WFQKLts
import OnlVerif.Lemmas.WFQKAbsFun
import OnlVerif.Lemmas.KRun
/-!
# The WFQ scheduler on the kernel model: the combined invariant and one kernel step on it (an action sequence the
StampServer LTS accepts)
-/


namespace WFQK
open WFQOnK QEntry Stamp

variable {N scale F : Nat} {flow size : Int → Nat} {cfg : WfqCfg ℚ} {d1 L : Nat} {arrivals : List (ℚ × Int)}
variable {s : KS} {a : A} {q : QEntry ℚ} {rest : List (QEntry ℚ)}

structure Inv (N scale F : Nat) (flow size : Int → Nat) (cfg : WfqCfg ℚ) (d1 L : Nat) (s : KS) (a : A) : Prop where
  k : KInv N scale size cfg.rate F s a
  ai : AInv N scale size F flow cfg d1 L a s.now
  l : LInv a (histOf s.trace)

theorem inv_step_lts (fuel : Nat) (h : Inv N scale F flow size cfg d1 L s a) (hp : popMin s.agenda = some (q, rest)) :
    ∃ s' a' new, step (prog F flow size cfg N scale) (fuel + 1) s = .ok s' ∧ Inv N scale F flow size cfg d1 L s' a' ∧ a'.mu + 1 ≤ a.mu ∧
      AStep N scale size F flow cfg s.events.size s.eid a q a' new ∧ s'.now = q.time ∧
      histOf s'.trace = histOf s.trace ++ new ∧
      ∃ acts, runActs (WFQ.sched cfg) (toM size F flow cfg a s.now) acts =
        .ok (toM size F flow cfg a' s'.now, putPk size flow new, outPk size flow new) := by
  obtain ⟨s', a', new, h1, h2, h3, h4, h5⟩ := kstep (size := size) fuel h.k h.ai hp
  have hmin := (min_of_pop h.k.ag hp).1
  obtain ⟨g1, g2⟩ := astep_sound h.ai hmin h3
  obtain ⟨acts0, h0⟩ := lts_advance (size := size) h.ai hmin
  obtain ⟨acts, h7⟩ := ltsOK_step (h.ai.advance hmin) h3
  refine ⟨s', a', new, h1, ⟨h2, by rw [h4]; exact g1, by rw [h5]; exact linv_step h.l h3⟩, g2, h3, h4, h5,
    acts0 ++ acts, ?_⟩
  rw [h4]
  simpa using StampK.runActs_compose h0 h7

theorem inv_init (hc : CfgOK F cfg) (hg : GridOK scale size F cfg d1 L arrivals) (hw : WorkOK N size F flow cfg d1 arrivals) :
    Inv N scale F flow size cfg d1 L (initState F arrivals) (a0 arrivals) := by
  obtain ⟨h1, h2, h3⟩ := kinv_init (N := N) (scale := scale) (size := size) (cfg := cfg) (F := F) arrivals
  refine ⟨h1, by rw [h2]; exact ainv_init hc hg hw, by rw [h3]; exact linv_init arrivals⟩

end WFQK
