import OnlVerif.Lemmas.SPKRun
import OnlVerif.Lemmas.MQKLts
/-!
# The SP scheduler on the kernel model: every configuration step is accepted by the MultiQueueServer LTS

`toM a now` is the LTS state (`Net/MultiQueue.lean` with the record `SP.sched`) a configuration stands for.  For each
constructor of `AStep` the LTS accepts the corresponding action (`init`, `put`, `tokenHandoff`, `wake`, `pktResume`,
`sendInit`, `sendFire`, `sendDone`, or nothing) from `toM a` to `toM a'`; and the clock advance is an accepted `tick`.
`toM a now` is `Img.st` of the records of `a` (`Lemmas/MQKLts.lean`), where what each action does to such a state is proved for
any scheduler; what is proved here is the scan of `SP.run` (`settle_scan`).
-/

namespace SPK
open SPOnK MQ
open MQK (Img)

section toM
variable (flow size : Int → Nat)

def ctlOf : RPhase → SP.Pc
  | .H _ i _ _ => .got i
  | .S _ _ _ => .sent
  | .T _ _ _ _ => .sent
  | .F _ _ _ => .sent
  | _ => .scan 0

def phaseOf : RPhase → Phase ℚ
  | .init _ => .idle
  | .W _ => .waitToken
  | .K _ _ => .tokenHanded
  | .H _ _ id _ => .pktHanded (flow id) (pktOf flow size id)
  | .S _ id _ => .spawned (pktOf flow size id)
  | .T _ _ id q => .sending (pktOf flow size id) q.time
  | .F _ id _ => .finished (pktOf flow size id)

/-- the records of a configuration (`SP.run` reads no counter by name: the three dicts have the same keys) -/
def img (a : A) : Img :=
  { keys := a.keys, ckeys := a.keys, items := a.items, cnt := a.cnt, byt := a.byt, tokens := a.tokens, cur := a.cur
    recv := a.recv }

def toM (a : A) (now : ℚ) : MQState ℚ SP.Pc :=
  (img a).st (pktOf flow size) now (ctlOf a.run) (phaseOf flow size a.run)

end toM

variable {F : Nat} {flow size : Int → Nat} {cfg : SP.Cfg ℚ}
variable {a : A} {now : ℚ} {q : QEntry ℚ}

theorem toM_run {r : RPhase} (h : a.run = r) (t : ℚ) :
    toM flow size a t = (img a).st (pktOf flow size) t (ctlOf r) (phaseOf flow size r) := by
  rw [← h]; rfl

theorem toM_phase (t : ℚ) : (toM flow size a t).phase = phaseOf flow size a.run := rfl

theorem storeOf_toM (hi : AInv flow F cfg a now) (t : ℚ) (f : Nat) (hf : f < F) :
    storeOf (toM flow size a t).stores f = (a.items f).map (pktOf flow size) :=
  MQK.storeOf_dictOf _ _ f fun hk => congrArg (List.map _) (hi.keysOK.2 f hf hk).1

theorem total_img (hi : AInv flow F cfg a now) (hn : a.keys.Nodup) :
    MQ.total (dictOf (img a).ckeys (img a).cnt) = a.total F := by
  rw [A.total, sumFrom_eq]
  exact MQK.total_eq a.cnt F a.keys hn hi.keysOK.1 (fun f hf hk => (hi.keysOK.2 f hf hk).2.1)

theorem touch_sp (s : MQState ℚ SP.Pc) : touch (SP.sched cfg) s = s := rfl
theorem sched_micro : (SP.sched cfg).micro = SP.micro cfg := rfl

variable {n e : Nat} {t : ℚ} {pk : Int → MPkt}

theorem settle_scan (c : Img) (m : Nat) : ∀ (suffix : List (Nat × Int)) (i : Nat),
    (SP.table cfg).drop i = suffix → (∀ x ∈ suffix, x.1 ∉ c.keys → c.items x.1 = []) →
    settle (SP.sched cfg) (suffix.length + 1 + m) (c.st pk t (.scan i) .running) =
      match firstHit (fun f => (c.items f).length) i suffix with
      | some (j, f) => issueGet (c.st pk t (.got j) .running) f
      | none => settle (SP.sched cfg) m (c.st pk t .endPass .running)
  | [], i, hd, _ => by
    have hnone : (SP.table cfg)[i]? = none := List.getElem?_eq_none_iff.mpr (List.drop_eq_nil_iff.mp hd)
    rw [List.length_nil, Nat.zero_add, Nat.add_comm]
    exact MQK.settle_goto m (touch_sp _) (by simp only [sched_micro, SP.micro, hnone])
  | (f, pr) :: rest, i, hd, h0 => by
    obtain ⟨hsome, hd'⟩ := KExec.drop_cons hd
    have ih := settle_scan c m rest (i + 1) hd' (fun x hx => h0 x (List.mem_cons_of_mem _ hx))
    have hlen := MQK.view_storeLen (pk := pk) c t (SP.Pc.scan i) .running (h0 (f, pr) List.mem_cons_self)
    rw [List.length_cons, show rest.length + 1 + 1 + m = (rest.length + 1 + m) + 1 by omega]
    simp only [firstHit]
    by_cases hpr : 0 < pr
    · rw [if_pos hpr]
      by_cases hz : (c.items f).length = 0
      · rw [if_pos hz]
        exact (MQK.settle_goto _ (touch_sp _) (by simp only [sched_micro, SP.micro, hsome, hpr, if_true, hlen, hz])).trans ih
      · rw [if_neg hz]
        exact MQK.settle_get _ (touch_sp _) (by simp only [sched_micro, SP.micro, hsome, hpr, if_true, hlen, hz, if_false])
    · rw [if_neg hpr]
      exact (MQK.settle_goto _ (touch_sp _) (by simp only [sched_micro, SP.micro, hsome, hpr, if_false])).trans ih

theorem settle_endPass (c : Img) (m : Nat) :
    settle (SP.sched cfg) (m + 1) (c.st pk t .endPass .running) =
      if MQ.total (dictOf c.ckeys c.cnt) = 0 then .ok (blockOnToken (c.st pk t (.scan 0) .running))
      else settle (SP.sched cfg) m (c.st pk t (.scan 0) .running) := by
  split
  · rename_i h
    exact MQK.settle_block m (touch_sp _) (if_pos h)
  · rename_i h
    exact MQK.settle_goto m (touch_sp _) (if_neg h)

theorem length_insertDesc (x : Nat × Int) (l : List (Nat × Int)) : (SP.insertDesc x l).length = l.length + 1 := by
  induction l with
  | nil => rfl
  | cons b r ih =>
    simp only [SP.insertDesc]
    split
    · simp [ih]
    · simp

theorem length_table : (SP.table cfg).length = cfg.prios.length := by
  unfold SP.table
  induction cfg.prios with
  | nil => rfl
  | cons x r ih => simp [SP.sortDesc, length_insertDesc, ih]

def LtsOK (flow size : Int → Nat) (cfg : SP.Cfg ℚ) (a : A) (t : ℚ) (a' : A) (ins outs : List MPkt) : Prop :=
  ∃ acts, runActs (SP.sched cfg) (toM flow size a t) acts = .ok (toM flow size a' t, ins, outs)

theorem ltsOK_nothing {a' : A} {t : ℚ} (h : toM flow size a' t = toM flow size a t) : LtsOK flow size cfg a t a' [] [] :=
  ⟨[], by rw [h]; rfl⟩

theorem ltsOK_one {a' : A} {t : ℚ} {r : RPhase} (hr : a.run = r) (act : MAct ℚ) (o : MOut ℚ)
    (h : MQ.step (SP.sched cfg) ((img a).st (pktOf flow size) t (ctlOf r) (phaseOf flow size r)) act =
      .ok (toM flow size a' t, o)) :
    LtsOK flow size cfg a t a' (insOf act) (outOf o) :=
  ⟨[act], MQK.runActs_one (by rw [toM_run hr]; exact h)⟩

theorem settle_scan0 (hi : AInv flow F cfg a now) (m : Nat) :
    settle (SP.sched cfg) (cfg.prios.length + 1 + m) ((img a).st (pktOf flow size) t (.scan 0) .running) =
      match a.scan (SP.table cfg) with
      | some (j, f) => issueGet ((img a).st (pktOf flow size) t (.got j) .running) f
      | none => settle (SP.sched cfg) m ((img a).st (pktOf flow size) t .endPass .running) := by
  rw [← length_table]
  exact settle_scan (img a) m (SP.table cfg) 0 rfl fun x hx hk => (hi.keysOK.2 x.1 (table_lt hi.table x hx) hk).1

theorem settle_end_hit (hi : AInv flow F cfg a now) (hn : a.keys.Nodup) {i f : Nat} {id : Int} {is : List Int}
    (hs : a.scan (SP.table cfg) = some (i, f)) (hf : f < F) (hit : a.items f = id :: is) {q' : QEntry ℚ} {g : EvId} {m : Nat} :
    settle (SP.sched cfg) (cfg.prios.length + 1 + m) ((img a).st (pktOf flow size) t (.scan 0) .running) =
      .ok (toM flow size { a with run := .H g i id q', items := upd a.items f is } t) := by
  have hfl : flow id = f := hi.flowOK f hf id (by rw [hit]; simp)
  rw [settle_scan0 hi, hs]
  refine (MQK.issueGet_st (img a) t (SP.Pc.got i) hn (hi.store.key_of_items hf (by rw [hit]; simp)) hit _).trans ?_
  rw [← hfl]
  rfl

theorem settle_end_idle (hi : AInv flow F cfg a now) (hn : a.keys.Nodup) (htot : a.total F = 0) {a' : A}
    (hb : blockOnToken ((img a).st (pktOf flow size) t (.scan 0) .running) = toM flow size a' t) {m : Nat} :
    settle (SP.sched cfg) (m + 1) ((img a).st (pktOf flow size) t .endPass .running) = .ok (toM flow size a' t) := by
  rw [settle_endPass, if_pos ((total_img hi hn).trans htot), hb]

def putPk (flow size : Int → Nat) : List (HEv ℚ) → List MPkt
  | [] => []
  | .put id _ :: r => pktOf flow size id :: putPk flow size r
  | _ :: r => putPk flow size r

def outPk (flow size : Int → Nat) : List (HEv ℚ) → List MPkt
  | [] => []
  | .out id _ :: r => pktOf flow size id :: outPk flow size r
  | _ :: r => outPk flow size r

theorem txTime_eq (id : Int) : MQ.txTime (SP.sched cfg) (pktOf flow size id) = SPOnK.txTime size cfg.rate id := rfl

theorem lts_wake {a' : A} {g : EvId} (h : a.run = .K g q)
    (hend : settle (SP.sched cfg) (2 * cfg.prios.length + 6) ((img a).st (pktOf flow size) t (.scan 0) .running) =
      .ok (toM flow size a' t)) :
    LtsOK flow size cfg a t a' [] [] :=
  ltsOK_one h .wake .nothing ((MQK.step_wake _ _ _ _).trans (congrArg _ hend))

theorem lts_done {a' : A} {p : EvId} {id0 : Int} (h : a.run = .F p id0 q)
    (hend : settle (SP.sched cfg) (2 * cfg.prios.length + 6) ((img a).st (pktOf flow size) t .endPass .running) =
      .ok (toM flow size a' t)) :
    LtsOK flow size cfg a t a' [] [] :=
  ltsOK_one h .sendDone .nothing ((MQK.step_sendDone _ _ _ _ rfl).trans (congrArg _ hend))

theorem lts_put (hi : AInv flow F cfg a q.time) (hn : a.keys.Nodup) (hrecv : 0 ≤ a.recv) {id : Int}
    {arr : List (ℚ × Int)} (h : a.src = .wait id arr q) (tk : Bool) (htk : tk = true ↔ a.total F = 0) (src' : SPhase)
    (new : List (QEntry ℚ × ResId)) :
    LtsOK flow size cfg a q.time { a with
        src := src'
        pend := a.pend ++ new
        tokens := a.tokens + (if tk then 1 else 0)
        items := upd a.items (flow id) (a.items (flow id) ++ [id])
        cnt := upd a.cnt (flow id) (a.cnt (flow id) + 1)
        byt := upd a.byt (flow id) (a.byt (flow id) + (size id : Int))
        recv := a.recv + 1
        keys := addKey a.keys (flow id) } [pktOf flow size id] [] := by
  have hs := hi.src
  rw [h] at hs
  obtain ⟨-, ⟨hfid, -⟩, -⟩ := hs
  have h0 := fun hk => hi.keysOK.2 _ hfid hk
  exact ltsOK_one rfl (.put (pktOf flow size id)) .accepted (MQK.step_put (SP.sched cfg) (img a) _ _ flow size hn hn _
    rfl rfl rfl rfl
    (fun hk => (h0 hk).1) (fun hk => (h0 hk).2.2) (fun hk => (h0 hk).2.1) hrecv tk (by rw [htk, ← total_img hi hn]))

theorem lts_step {a' : A} {new : List (HEv ℚ)} (hi : AInv flow F cfg a q.time) (hn : a.keys.Nodup) (hrecv : 0 ≤ a.recv)
    (hs : AStep F flow size cfg n e a q a' new) :
    LtsOK flow size cfg a q.time a' (putPk flow size new) (outPk flow size new) := by
  have hrun := hi.run
  -- of the fuel `2·len + 6` a scan uses `len + 1` moves and the look at `total_packets` one; the rest is slack
  have hfuel : 2 * cfg.prios.length + 6 = cfg.prios.length + 1 + (cfg.prios.length + 4 + 1) := by omega
  have hfuel' : 2 * cfg.prios.length + 6 = (cfg.prios.length + 1 + (cfg.prios.length + 3 + 1)) + 1 := by omega
  cases hs with
  | runInit h =>
    rw [h] at hrun
    obtain ⟨-, -, htk, -, hit, hcn, -⟩ := hrun
    have hscan : a.scan (SP.table cfg) = none := firstHit_all_zero _ (fun f => by simp [hit f]) _ _
    have htot : a.total F = 0 := sumFrom_all_zero _ _ _ (fun j _ _ => hcn j)
    refine ltsOK_one h .init .nothing ?_
    refine (MQK.step_init _ _ _ _).trans (congrArg (withOut MOut.nothing) (?_ : _ = .ok _))
    rw [show (SP.sched cfg).fuel [] = _ from hfuel]
    refine (settle_scan0 hi _).trans ?_
    rw [hscan]
    exact settle_end_idle hi hn htot (MQK.blockOnToken_st_zero _ _ _ htk _)
  | wakeHit g i f id is h hs hf hit => exact lts_wake h (by rw [hfuel]; exact settle_end_hit hi hn hs hf hit)
  | wakeBlock g h hs htk =>
    have htot : a.total F = 0 := total_zero_of_empty hi (by rw [h]; rfl) (scan_none_empty hi hs)
    refine lts_wake h ?_
    rw [hfuel, settle_scan0 hi, hs]
    exact settle_end_idle hi hn htot (MQK.blockOnToken_st_zero _ _ _ htk _)
  | wakeTok g t h hs htk =>
    have htot : a.total F = 0 := total_zero_of_empty hi (by rw [h]; rfl) (scan_none_empty hi hs)
    refine lts_wake h ?_
    rw [hfuel, settle_scan0 hi, hs]
    exact settle_end_idle hi hn htot (MQK.blockOnToken_st_succ _ _ _ htk _)
  | pktResume g i id h => exact ltsOK_one h .pktResume .nothing (MQK.step_pktResume _ _ _ _ rfl)
  | sendInit p id h =>
    exact ltsOK_one h .sendInit (.started (pktOf flow size id) (q.time + SPOnK.txTime size cfg.rate id))
      (MQK.step_sendInit _ _ _ _ id)
  | sendFire p t id h =>
    rw [h] at hrun
    obtain ⟨-, hcur, hfid⟩ := hrun
    have hk : flow id ∈ a.keys := by
      by_contra hk
      have h1 := (hi.keysOK.2 _ hfid hk).2.1
      have h2 := hi.cntOK _ hfid
      simp only [heldCnt, h, RPhase.held, if_true] at h2
      omega
    exact ltsOK_one h .sendFire (.depart (pktOf flow size id))
      (MQK.step_sendFire _ _ _ _ flow size hn hn rfl rfl hk hk)
  | doneHit p id0 i f id is h htot hs hf hit =>
    refine lts_done h ?_
    rw [hfuel', settle_endPass, if_neg (fun h0 => htot ((total_img hi hn).symm.trans h0))]
    exact settle_end_hit hi hn hs hf hit
  | doneBlock p id0 h htot htk => exact lts_done h (settle_end_idle hi hn htot (MQK.blockOnToken_st_zero _ _ _ htk _))
  | doneTok p id0 t h htot htk => exact lts_done h (settle_end_idle hi hn htot (MQK.blockOnToken_st_succ _ _ _ htk _))
  | srcInit arr h | srcEnd h | pendNoop r l1 l2 hpe hno => exact ltsOK_nothing rfl
  | srcPutTok id arr h htot => exact lts_put hi hn hrecv h true (by simp [htot]) _ _
  | srcPutPlain id arr h htot => exact lts_put hi hn hrecv h false (by simp [htot]) _ _
  | pendHand g t l1 l2 hpe h htk => exact ltsOK_one h .tokenHandoff .nothing (MQK.step_tokenHandoff _ _ _ _ htk)

theorem lts_tick (hi : AInv flow F cfg a now) (hq : IsMin a q) (h : now < q.time) :
    MQ.step (SP.sched cfg) (toM flow size a now) (.tick q.time) = .ok (toM flow size a q.time, .nothing) := by
  have hnlt : ¬ q.time < now := not_lt.mpr (le_of_lt h)
  rcases (hi.quiet hq h).1 with ⟨⟨g, hr⟩, htk⟩ | ⟨p, t, id, q0, hr⟩
  · rw [toM_run hr, toM_run hr]
    exact MQK.step_tick_wait _ _ _ _ hnlt htk
  · have h2 : ¬ q0.time < q.time := not_lt.mpr (not_keyLt_time (hq.2 q0 (mem_run (by simp [hr, RPhase.entries]))))
    rw [toM_run hr, toM_run hr]
    exact MQK.step_tick_sending _ _ _ _ hnlt h2

theorem lts_advance (hi : AInv flow F cfg a now) (hq : IsMin a q) :
    ∃ acts, runActs (SP.sched cfg) (toM flow size a now) acts = .ok (toM flow size a q.time, [], []) := by
  rcases eq_or_lt_of_le (hi.now_le hq) with h | h
  · exact ⟨[], by rw [← h]; rfl⟩
  · refine ⟨[.tick q.time], ?_⟩
    simp only [runActs, lts_tick hi hq h]
    rfl

/-! ## what the LTS side needs of a configuration besides `AInv`: the dict keys and `packets_received` -/

def putIds : List (HEv ℚ) → List Int
  | [] => []
  | .put id _ :: r => id :: putIds r
  | _ :: r => putIds r

theorem putIds_append (l1 l2 : List (HEv ℚ)) : putIds (l1 ++ l2) = putIds l1 ++ putIds l2 := by
  induction l1 with
  | nil => rfl
  | cons x r ih => cases x <;> simp [putIds, ih]

theorem putPk_append (l1 l2 : List (HEv ℚ)) : putPk flow size (l1 ++ l2) = putPk flow size l1 ++ putPk flow size l2 := by
  induction l1 with
  | nil => rfl
  | cons x r ih => cases x <;> simp [putPk, ih]

theorem outPk_append (l1 l2 : List (HEv ℚ)) : outPk flow size (l1 ++ l2) = outPk flow size l1 ++ outPk flow size l2 := by
  induction l1 with
  | nil => rfl
  | cons x r ih => cases x <;> simp [outPk, ih]

structure LInv (flow : Int → Nat) (a : A) (hist : List (HEv ℚ)) : Prop where
  keys : a.keys = keysOf flow (putIds hist)
  recv : a.recv = ((putIds hist).length : Nat)

theorem keysOf_append (ids : List Int) (id : Int) : keysOf flow (ids ++ [id]) = addKey (keysOf flow ids) (flow id) := by
  simp [keysOf, List.foldl_append]

theorem addKey_nodup (l : List Nat) (k : Nat) (h : l.Nodup) : (addKey l k).Nodup :=
  MQK.addKey_nodup l k h

theorem keysOf_nodup (ids : List Int) : (keysOf flow ids).Nodup :=
  MQK.foldl_addKey_nodup flow ids [] List.nodup_nil

theorem LInv.nodup {hist : List (HEv ℚ)} (h : LInv flow a hist) : a.keys.Nodup := by
  rw [h.keys]; exact keysOf_nodup _

theorem LInv.recv_nonneg {hist : List (HEv ℚ)} (h : LInv flow a hist) : 0 ≤ a.recv := by
  rw [h.recv]; exact Int.natCast_nonneg _

theorem LInv.same {a' : A} {hist new : List (HEv ℚ)} (h : LInv flow a hist) (hk : a'.keys = a.keys) (hr : a'.recv = a.recv)
    (hp : putIds new = []) : LInv flow a' (hist ++ new) :=
  ⟨by rw [putIds_append, hp, List.append_nil, hk, h.keys], by rw [putIds_append, hp, List.append_nil, hr, h.recv]⟩

theorem LInv.put {a' : A} {hist new : List (HEv ℚ)} {id : Int} (h : LInv flow a hist) (hk : a'.keys = addKey a.keys (flow id))
    (hr : a'.recv = a.recv + 1) (hp : putIds new = [id]) : LInv flow a' (hist ++ new) :=
  ⟨by rw [putIds_append, hp, keysOf_append, hk, h.keys],
   by rw [putIds_append, hp, hr, h.recv, List.length_append, List.length_singleton, Nat.cast_succ]⟩

theorem linv_step {a' : A} {hist new : List (HEv ℚ)} (h : LInv flow a hist) (hs : AStep F flow size cfg n e a q a' new) :
    LInv flow a' (hist ++ new) := by
  cases hs with
  | srcPutTok | srcPutPlain => exact h.put rfl rfl rfl
  | _ => exact h.same rfl rfl rfl

end SPK
