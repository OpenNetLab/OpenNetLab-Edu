import Lean.Meta.Tactic.Simp.RegisterCommand
/-! the simp set `rrk`: the pieces of the RR program and the facts that the cells of different attributes are different; it is
given to `heval` (`Lemmas/KProcDefs.lean`) to run the program on a configuration -/
register_simp_attr rrk
