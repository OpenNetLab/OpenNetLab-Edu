import OnlVerif.Lemmas.GenKernelDefs
import OnlVerif.Lemmas.KAccess
import OnlVerif.Generated.KernelEvent02
/-!
# The generated `Event.fail` on a non-exception and the end of `Process._resume` (`Generated/KernelEvent02.lean`) on model `K`

The bridge theorems of C02 (`succeed` / `fail`, the crash test of `Environment.step`) are proved where they are stated,
`Props/KernelGen02.lean`.
-/

namespace GenKernel
variable {τ σ : Type} [Num τ]

/-! ## `Event.succeed` / `Event.fail`, the end of `Process._resume` -/

/-- `Event.fail` refuses an argument that is not an exception with `ValueError` (the model's `Exc` is always one) -/
theorem fail_not_exception (t : Bool) :
    (Gen.Event.fail (evObj (τ := τ)) t true).raised = (if t then 5 else 2) := by
  unfold Gen.Event.fail
  cases t <;> rfl

/-- the generator returned: the process event is triggered as the `StopIteration` handler says -/
theorem trigger_ok (s : KState τ σ) (p : EvId) (v : Val) (x : Exc) :
    applyTrig s p (Gen.Process.resume_returned (evObj (τ := τ))).eff v x = some (s.trigger p (.ok v)) := rfl

/-- the generator raised: the process event is triggered as the `BaseException` handler says -/
theorem trigger_fail (s : KState τ σ) (p : EvId) (v : Val) (x : Exc) :
    applyTrig s p (Gen.Process.resume_raised (evObj (τ := τ))).eff v x = some (s.trigger p (.fail x)) := rfl

end GenKernel
