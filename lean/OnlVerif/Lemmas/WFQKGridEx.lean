import OnlVerif.Lemmas.WFQKGrid
import OnlVerif.Lemmas.VCKGridEx
import Mathlib.Data.Nat.Factorial.Basic
import Mathlib.Tactic.FieldSimp
/-!
# Every WFQ configuration with whole weights and every finite rational workload lies on the two grids
-/

namespace WFQK
open WFQOnK

/-- a rational whose denominator divides `D` lies on the grid `ℤ / D` -/
theorem onGrid_of_den_dvd {D : Nat} (x : ℚ) (h : x.den ∣ D) (hD : 0 < D) : OnGrid D x :=
  VCK.onGrid_of_den_dvd x h hD

def denProd : List ℚ → Nat
  | [] => 1
  | x :: r => x.den * denProd r

theorem denProd_pos : ∀ l : List ℚ, 0 < denProd l
  | [] => Nat.one_pos
  | x :: r => Nat.mul_pos x.den_pos (denProd_pos r)

theorem den_dvd_denProd : ∀ (l : List ℚ) (x : ℚ), x ∈ l → x.den ∣ denProd l
  | y :: r, x, h => by
    rcases List.mem_cons.mp h with rfl | h
    · exact Dvd.intro _ rfl
    · exact Dvd.dvd.mul_left (den_dvd_denProd r x h) _

/-- a grid for the instants: the product of the denominators of the gaps and of the transmission times -/
def d1Of (size : Int → Nat) (cfg : WfqCfg ℚ) (arrivals : List (ℚ × Int)) : Nat :=
  denProd (arrivals.map (·.1) ++ arrivals.map fun x => txTime size cfg.rate x.2)

/-- a common multiple of every possible weight sum -/
def LOf (F : Nat) (cfg : WfqCfg ℚ) : Nat := (wTotal F cfg).factorial

end WFQK
