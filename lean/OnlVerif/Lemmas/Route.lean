import Mathlib.Data.List.Basic
import Mathlib.Data.List.Nodup
import Mathlib.Tactic.Linarith
import OnlVerif.Net.Route
/-! # Lemmas about the dispatch models (`OnlVerif/Net/Route.lean`) -/

namespace Route

theorem dget_dset {κ β : Type} [DecidableEq κ] (d : List (κ × β)) (k k' : κ) (v : β) :
    dget (dset d k v) k' = if k = k' then some v else dget d k' := by
  induction d with
  | nil => simp [dset, dget]
  | cons x r ih =>
    obtain ⟨a, b⟩ := x
    by_cases h : a = k
    · subst h
      by_cases h' : a = k' <;> simp [dset, dget, h']
    · by_cases h' : a = k'
      · subst h'
        have : ¬ k = a := fun e => h e.symm
        simp [dset, dget, h, this]
      · simp [dset, dget, h, h', ih]

theorem dget_dset_self {κ β : Type} [DecidableEq κ] (d : List (κ × β)) (k : κ) (v : β) :
    dget (dset d k v) k = some v := by simp [dget_dset]

theorem dget_dset_ne {κ β : Type} [DecidableEq κ] (d : List (κ × β)) (k k' : κ) (v : β) (h : k ≠ k') :
    dget (dset d k v) k' = dget d k' := by simp [dget_dset, h]

theorem dget_isSome_dset {κ β : Type} [DecidableEq κ] (d : List (κ × β)) (k k' : κ) (v : β)
    (h : (dget d k).isSome) : (dget (dset d k v) k').isSome = (dget d k').isSome := by
  rw [dget_dset]
  by_cases e : k = k'
  · subst e; simp [h]
  · simp [e]

theorem dget_map {κ β γ : Type} [DecidableEq κ] (d : List (κ × β)) (f : β → γ) (k : κ) :
    dget (d.map fun x => (x.1, f x.2)) k = (dget d k).map f := by
  induction d with
  | nil => simp [dget]
  | cons x r ih =>
    obtain ⟨a, b⟩ := x
    by_cases h : a = k <;> simp [dget, h, ih]

theorem dget_mem {κ β : Type} [DecidableEq κ] (d : List (κ × β)) (k : κ) (v : β) (h : dget d k = some v) :
    (k, v) ∈ d := by
  induction d with
  | nil => simp [dget] at h
  | cons x r ih =>
    obtain ⟨a, b⟩ := x
    by_cases e : a = k
    · subst e; simp [dget] at h; subst h; exact List.mem_cons_self
    · simp [dget, e] at h; exact List.mem_cons_of_mem _ (ih h)

theorem pyIndex_nonneg {α : Type} (l : List α) (i : Int) (h : 0 ≤ i) : pyIndex l i = l[i.toNat]? := by
  simp [pyIndex, h]

theorem pyIndex_natCast {α : Type} (l : List α) (i : Nat) : pyIndex l (i : Int) = l[i]? := by
  simp [pyIndex]

theorem toDefault_length (d : Option Dev) (p : Pkt) : (toDefault d p).length ≤ 1 := by
  cases d <;> simp [toDefault]

theorem toDefault_ref (d : Option Dev) (p : Pkt) : ∀ x ∈ toDefault d p, x.2 = p.ref := by
  cases d <;> simp [toDefault]

theorem FlowDemux.put_of_nonneg (c : FlowDemuxCfg) (p : Pkt) (hf : 0 ≤ p.flowId) :
    FlowDemux.put c p = .ok (match c.outs[p.flowId.toNat]? with
      | some d => [(d, p.ref)]
      | none => toDefault c.default p) := by
  unfold FlowDemux.put
  by_cases h : p.flowId < (c.outs.length : Int)
  · have hlt : p.flowId.toNat < c.outs.length := by omega
    rw [if_pos h, pyIndex_nonneg _ _ hf, List.getElem?_eq_getElem hlt]
  · have hge : c.outs.length ≤ p.flowId.toNat := by omega
    rw [if_neg h, List.getElem?_eq_none hge]

theorem FlowDemux.put_atMostOne (c : FlowDemuxCfg) (p : Pkt) (l : List Delivery) (h : FlowDemux.put c p = .ok l) :
    l.length ≤ 1 ∧ ∀ x ∈ l, x.2 = p.ref := by
  unfold FlowDemux.put at h
  split at h
  · split at h
    · cases h; simp
    · cases h
  · cases h; exact ⟨toDefault_length _ _, toDefault_ref _ _⟩

theorem FIBDemux.lookup_atMostOne (outs : List Dev) (fib : List (Int × Int)) (d : Option Dev) (p : Pkt) :
    (FIBDemux.lookup outs fib d p).length ≤ 1 ∧ ∀ x ∈ FIBDemux.lookup outs fib d p, x.2 = p.ref := by
  unfold FIBDemux.lookup
  split
  · exact ⟨toDefault_length _ _, toDefault_ref _ _⟩
  · split
    · exact ⟨toDefault_length _ _, toDefault_ref _ _⟩
    · simp

theorem FIBDemux.put_atMostOne (c : FIBDemuxCfg) (p : Pkt) (l : List Delivery) (h : FIBDemux.put c p = .ok l) :
    l.length ≤ 1 ∧ ∀ x ∈ l, x.2 = p.ref := by
  unfold FIBDemux.put at h
  split at h
  · cases h
  · split at h
    · cases h; simp
    · cases h
      unfold FIBDemux.viaTable
      split
      · exact ⟨toDefault_length _ _, toDefault_ref _ _⟩
      · exact ⟨toDefault_length _ _, toDefault_ref _ _⟩
      · exact FIBDemux.lookup_atMostOne _ _ _ _

theorem FIBDemux.put_end (c : FIBDemuxCfg) (fib : List (Int × Int)) (p : Pkt) (d : Dev) (hfib : c.fib = some fib)
    (hd : dget c.ends p.flowId = some d) : FIBDemux.put c p = .ok [(d, p.ref)] := by
  simp [FIBDemux.put, hfib, hd]

theorem FIBDemux.put_table (c : FIBDemuxCfg) (fib : List (Int × Int)) (p : Pkt) (outs : List Dev) (port : Int) (d : Dev)
    (hfib : c.fib = some fib) (houts : c.outs = some outs) (hends : dget c.ends p.flowId = none)
    (hport : dget fib p.flowId = some port) (h0 : 0 ≤ port) (hd : outs[port.toNat]? = some d) :
    FIBDemux.put c p = .ok [(d, p.ref)] := by
  have hne : outs ≠ [] := by
    intro e; rw [e] at hd; simp at hd
  obtain ⟨o, os, rfl⟩ := List.exists_cons_of_ne_nil hne
  simp [FIBDemux.put, hfib, hends, FIBDemux.viaTable, houts, FIBDemux.lookup, hport, pyIndex_nonneg _ _ h0, hd]

/-- an unknown flow goes to the default output — whatever the output list is (`None` and `[]` included) -/
theorem FIBDemux.put_unknown (c : FIBDemuxCfg) (fib : List (Int × Int)) (p : Pkt)
    (hfib : c.fib = some fib) (hends : dget c.ends p.flowId = none) (hnone : dget fib p.flowId = none) :
    FIBDemux.put c p = .ok (match c.default with
      | some d => [(d, p.ref)]
      | none => []) := by
  simp only [FIBDemux.put, hfib, hends, FIBDemux.viaTable]
  cases c.outs with
  | none => cases c.default <;> rfl
  | some outs =>
    cases outs with
    | nil => cases c.default <;> rfl
    | cons o os =>
      simp only [FIBDemux.lookup, hnone]
      cases c.default <;> rfl

theorem FIBDemux.put_noOutputs (c : FIBDemuxCfg) (fib : List (Int × Int)) (p : Pkt)
    (hfib : c.fib = some fib) (hends : dget c.ends p.flowId = none) (houts : c.outs = none ∨ c.outs = some []) :
    FIBDemux.put c p = .ok (match c.default with
      | some d => [(d, p.ref)]
      | none => []) := by
  simp only [FIBDemux.put, hfib, hends, FIBDemux.viaTable]
  rcases houts with h | h <;> rw [h] <;> cases c.default <;> rfl

theorem setEnds_static (ends : List (Int × Dev)) (c : FIBDemuxCfg) :
    (ends.foldl (fun c (fd : Int × Dev) => c.setEnd fd.1 fd.2) c).outs = c.outs ∧
    (ends.foldl (fun c (fd : Int × Dev) => c.setEnd fd.1 fd.2) c).default = c.default ∧
    (ends.foldl (fun c (fd : Int × Dev) => c.setEnd fd.1 fd.2) c).fib = c.fib := by
  induction ends generalizing c with
  | nil => simp
  | cons x r ih =>
    simp only [List.foldl_cons]
    have := ih (c.setEnd x.1 x.2)
    simpa [FIBDemuxCfg.setEnd] using this

theorem FairPacketSwitch.mk_ok (n : Nat) (server : String) (c : FIBDemuxCfg) (h : FairPacketSwitch.mk n server = .ok c) :
    c.outs = some (List.range n) ∧ c.default = none ∧ c.ends = [] ∧ c.fib = none := by
  unfold FairPacketSwitch.mk at h
  split at h
  · cases h
  · cases h; simp

theorem Hub.put_eq (c : HubCfg) (p : Pkt) :
    Hub.put c p = (c.filter fun e => e.eid ≠ p.src).map fun e => (e.out, p.ref) := by
  induction c with
  | nil => simp [Hub.put]
  | cons e r ih =>
    by_cases h : e.eid = p.src <;> simp [Hub.put, h, ih]

/-- the constructor loop attaches endpoint `j` with port `j`: the configuration it builds, by position -/
theorem Hub.addAll_eq (ports : List (Option Dev)) (i : Nat) (eps : List (Nat × Dev)) (c : HubCfg) :
    Hub.addAll ports i eps c =
      c ++ (eps.zipIdx i).map fun x => { eid := x.1.1, dev := x.1.2, port := Hub.portAt ports x.2 } := by
  induction eps generalizing i c with
  | nil => simp [Hub.addAll]
  | cons x r ih => simp [Hub.addAll, ih, Hub.addEndpoint, List.zipIdx_cons]

theorem giveCopies_devs (ref : PktRef) (fresh : Nat) (outs : List (Option Dev)) :
    (giveCopies ref fresh outs).map (·.1) = outs.filterMap id := by
  induction outs generalizing fresh with
  | nil => simp [giveCopies]
  | cons o r ih =>
    cases o <;> simp [giveCopies, ih]

theorem giveCopies_fresh (ref : PktRef) (fresh : Nat) (outs : List (Option Dev)) :
    ∀ x ∈ giveCopies ref fresh outs, x.2.id = ref.id ∧ fresh ≤ x.2.copy := by
  induction outs generalizing fresh with
  | nil => simp [giveCopies]
  | cons o r ih =>
    cases o with
    | none => exact ih fresh
    | some d =>
      intro x hx
      simp only [giveCopies, List.mem_cons] at hx
      rcases hx with rfl | hx
      · simp
      · have := ih (fresh + 1) x hx
        exact ⟨this.1, by omega⟩

theorem giveCopies_nodup (ref : PktRef) (fresh : Nat) (outs : List (Option Dev)) :
    ((giveCopies ref fresh outs).map (·.2)).Nodup := by
  induction outs generalizing fresh with
  | nil => simp [giveCopies]
  | cons o r ih =>
    cases o with
    | none => exact ih fresh
    | some d =>
      simp only [giveCopies, List.map_cons, List.nodup_cons]
      refine ⟨?_, ih (fresh + 1)⟩
      intro hm
      obtain ⟨x, hx, he⟩ := List.mem_map.mp hm
      have := (giveCopies_fresh ref (fresh + 1) r x hx).2
      rw [he] at this
      simp at this

theorem giveOriginal_devs (o : Option Dev) (p : Pkt) : (giveOriginal o p).map (·.1) = [o].filterMap id := by
  cases o <;> simp [giveOriginal]

theorem giveOriginal_ref (o : Option Dev) (p : Pkt) : ∀ x ∈ giveOriginal o p, x.2 = p.ref := by
  cases o <;> simp [giveOriginal]

theorem split_refs_nodup (o : Option Dev) (rest : List (Option Dev)) (p : Pkt) (fresh : Nat) (hf : p.ref.copy < fresh) :
    ((giveOriginal o p ++ giveCopies p.ref fresh rest).map (·.2)).Nodup := by
  rw [List.map_append, List.nodup_append]
  refine ⟨?_, giveCopies_nodup _ _ _, ?_⟩
  · cases o <;> simp [giveOriginal]
  · intro a ha b hb
    obtain ⟨x, hx, rfl⟩ := List.mem_map.mp ha
    obtain ⟨y, hy, rfl⟩ := List.mem_map.mp hb
    have h1 := giveOriginal_ref o p x hx
    have h2 := (giveCopies_fresh p.ref fresh rest y hy).2
    intro e
    rw [h1] at e
    rw [← e] at h2
    omega

theorem splitHeap_notMem (h : Heap) (orig : PktRef) (l : List Delivery) (r : PktRef) (hr : r ∉ l.map (·.2)) :
    (splitHeap h orig l).objs r = h.objs r ∧ ∀ w, (splitHeap h orig l).tabs (r, w) = h.tabs (r, w) := by
  induction l generalizing h with
  | nil => exact ⟨rfl, fun _ => rfl⟩
  | cons x rest ih =>
    obtain ⟨d, r'⟩ := x
    simp only [List.map_cons, List.mem_cons, not_or] at hr
    simp only [splitHeap]
    obtain ⟨i1, i2⟩ := ih (if r' = orig then h else h.copyPkt orig r') hr.2
    by_cases e : r' = orig
    · simp only [if_pos e] at i1 i2 ⊢; exact ⟨i1, i2⟩
    · simp only [if_neg e] at i1 i2 ⊢
      refine ⟨?_, ?_⟩
      · rw [i1]; unfold Heap.copyPkt
        cases h.objs orig with
        | none => rfl
        | some o => simp [hr.1]
      · intro w; rw [i2]; unfold Heap.copyPkt
        cases h.objs orig with
        | none => rfl
        | some o => simp [hr.1]

/-- **after a splitter dispatch every delivered object has the original's field values, owns its two tables, and those
tables hold what the original's held** (the original owning its tables to begin with) -/
theorem splitHeap_spec (h : Heap) (orig : PktRef) (o : Obj) (l : List Delivery)
    (ho : h.objs orig = some o) (hown : ∀ w, o.tab w = (orig, w)) (hn : (l.map (·.2)).Nodup) :
    ∀ x ∈ l, (splitHeap h orig l).objs x.2 = some { hdr := o.hdr, tab := fun w => (x.2, w) } ∧
      ∀ w, (splitHeap h orig l).tabs (x.2, w) = h.tabs (orig, w) := by
  induction l generalizing h with
  | nil => simp
  | cons y rest ih =>
    obtain ⟨d, r⟩ := y
    simp only [List.map_cons, List.nodup_cons] at hn
    intro x hx
    simp only [splitHeap]
    have oeq : (⟨o.hdr, fun w => (orig, w)⟩ : Obj) = o := by
      cases o with
      | mk hdr tab => simp only [Obj.mk.injEq, true_and]; funext w; exact (hown w).symm
    by_cases e : r = orig
    · subst e
      simp only [if_true]
      rcases List.mem_cons.mp hx with rfl | hx
      · obtain ⟨n1, n2⟩ := splitHeap_notMem h r rest r hn.1
        simp only at n1 n2 ⊢
        rw [n1, ho, oeq]
        exact ⟨rfl, n2⟩
      · exact ih h ho hn.2 x hx
    · simp only [if_neg e]
      have ho' : (h.copyPkt orig r).objs orig = some o := by
        have : ¬ orig = r := fun h' => e h'.symm
        simp [Heap.copyPkt, ho, this]
      have ht' : ∀ w, (h.copyPkt orig r).tabs (orig, w) = h.tabs (orig, w) := by
        intro w
        have : ¬ orig = r := fun h' => e h'.symm
        simp [Heap.copyPkt, ho, this]
      rcases List.mem_cons.mp hx with rfl | hx
      · obtain ⟨n1, n2⟩ := splitHeap_notMem (h.copyPkt orig r) orig rest r hn.1
        simp only at n1 n2 ⊢
        refine ⟨?_, ?_⟩
        · rw [n1]; simp [Heap.copyPkt, ho]
        · intro w; rw [n2]; simp [Heap.copyPkt, ho, hown]
      · obtain ⟨i1, i2⟩ := ih (h.copyPkt orig r) ho' hn.2 x hx
        exact ⟨i1, fun w => by rw [i2, ht']⟩

theorem Heap.setField_other (h : Heap) (r r' : PktRef) (f : Nat) (v : Int) (hne : r' ≠ r) :
    (h.setField r f v).objs r' = h.objs r' ∧ (h.setField r f v).tabs = h.tabs := by
  simp [Heap.setField, hne]

theorem Heap.tabWrite_other (h : Heap) (x y : PktRef) (ox oy : Obj) (hx : h.objs x = some ox) (hy : h.objs y = some oy)
    (w w' : Tab) (hne : ox.tab w ≠ oy.tab w') (k k' : Nat) (v : Int) :
    (h.tabWrite x w k v).readTab y w' k' = h.readTab y w' k' ∧ ∀ f, (h.tabWrite x w k v).readField y f = h.readField y f := by
  have hne' : ¬ oy.tab w' = ox.tab w := fun e => hne e.symm
  simp [Heap.tabWrite, Heap.readTab, Heap.readField, hx, hy, hne']

end Route
