import OnlVerif.Lemmas.DRRKAbsStep
import OnlVerif.Lemmas.DRRKStep
import OnlVerif.Lemmas.KRun
/-!
# The DRR scheduler on the kernel model: every kernel step is a configuration step; whole runs
-/

namespace DRRK
open DRROnK QEntry
open TimerK (lookup)

variable {F : Nat} {Q : Nat → ℚ} {flow size : Int → Nat} {cfg : DRR.Cfg ℚ} {Lmax P : Nat}
variable {s : KS} {a : A} {q : QEntry ℚ} {rest : List (QEntry ℚ)}

/-- the burst ends with a `get`: the store of that class is not empty -/
theorem get_facts {a1 : A} {now : ℚ} (hm : MidInv F flow size cfg Lmax P a1 now) {L : LS} {m' c' : Nat}
    (hE : EndOK size a1.ccnt a1.hol (a1.total F) cfg.weights L (some (.get m' c'))) :
    c' < F ∧ ∃ id' is, a1.items c' = id' :: is ∧ flow id' = c' := by
  obtain ⟨⟨w, hw⟩, hhol, -, hcpos⟩ := hE
  have hc' : c' < F := entry_lt hm.table (List.mem_of_getElem? hw)
  have h1 := hm.cntOK c' hc'
  rw [holCnt_none hhol, ← hm.ccntOK c' hc'] at h1
  cases hit : a1.items c' with
  | nil => rw [hit] at h1; simp at h1; omega
  | cons id' is => exact ⟨hc', id', is, rfl, (hm.flowOK c' hc' id' (by rw [hit]; simp)).1⟩

theorem hol_flows {now : ℚ} (hi : AInv flow F size cfg Lmax P a now) :
    ∀ e ∈ cfg.weights, ∀ id, a.hol e.1 = some id → flow id = e.1 :=
  fun e he id h => (hi.holOK e.1 (entry_lt hi.table he) id h).1

theorem StepsTo.astep {fuel : Nat} {a' : A} {new : List (HEv ℚ)} (hs : AStep F flow size cfg P s.events.size s.eid a q a' new)
    (h : StepsTo flow F (qOf cfg) (body F flow size cfg.rate cfg.weights P) fuel s q a' new) :
    ∃ s' a' new, step (body F flow size cfg.rate cfg.weights P) (fuel + 1) s = .ok s' ∧ KInv flow F (qOf cfg) s' a' ∧
      AStep F flow size cfg P s.events.size s.eid a q a' new ∧ s'.now = q.time ∧ histOf s'.trace = histOf s.trace ++ new :=
  let ⟨s', h1, h2, h3, h4⟩ := h
  ⟨s', a', new, h1, h2, hs, h3, h4⟩

/-- a kernel step that processes an entry of `run` which starts a burst -/
theorem kstep_burst (fuel : Nat) (hk : KInv flow F (qOf cfg) s a) (hi : AInv flow F size cfg Lmax P a q.time) {en : Entry}
    (hst : StartsAt a q en) (hen : EntryOK flow a cfg.weights en) (hp : popMin s.agenda = some (q, rest)) :
    ∃ s' a' new, step (body F flow size cfg.rate cfg.weights P) (fuel + 1) s = .ok s' ∧ KInv flow F (qOf cfg) s' a' ∧
      AStep F flow size cfg P s.events.size s.eid a q a' new ∧
      s'.now = q.time ∧ histOf s'.trace = histOf s.trace ++ new := by
  have hF : ∀ x ∈ cfg.weights, x.1 < F := fun x hx => entry_lt hi.table hx
  have hfl := hol_flows hi
  have fin : ∀ {r : BurstRes} {a' : A} {new : List (HEv ℚ)}, a.burst F (qOf cfg) size cfg.weights P q.time en = r →
      BurstEnd F s.events.size s.eid q.time a r a' new →
      (∀ m' c' id' is, r.fin = .get m' c' → a.items c' = id' :: is → flow id' = c') →
      ∃ s' a' new, step (body F flow size cfg.rate cfg.weights P) (fuel + 1) s = .ok s' ∧ KInv flow F (qOf cfg) s' a' ∧
        AStep F flow size cfg P s.events.size s.eid a q a' new ∧ s'.now = q.time ∧ histOf s'.trace = histOf s.trace ++ new :=
    fun hbe hend hget => StepsTo.astep (.burst a q en _ _ _ hst hbe hend) (kstep_burstEnd fuel hk hst hen hF hfl hbe hend hget hp)
  rcases burst_cases hi hst with ⟨g, m, id, -, -, -, hbe⟩ | ⟨a1, e0, L, fin', hm, -, hsb, -, hne, hE, hbe, -⟩
  · exact fin hbe (.send m (flow id) id false rfl) (fun _ _ _ _ h => nomatch h)
  · cases fin' with
    | hang => exact absurd rfl hne
    | get m' c' =>
      obtain ⟨hc', id', is, hit, hfl'⟩ := get_facts hm hE
      rw [hsb.items] at hit
      refine fin hbe (.get m' c' id' is rfl hc' hit) fun _ _ _ _ h hit' => ?_
      cases h
      rw [hit] at hit'
      cases hit'
      exact hfl'
    | send m' c' id' pk => exact fin hbe (.send m' c' id' pk rfl) (fun _ _ _ _ h => nomatch h)
    | idle =>
      cases htk : a.tokens with
      | zero => exact fin hbe (.block rfl htk) (fun _ _ _ _ h => nomatch h)
      | succ t => exact fin hbe (.tok t rfl htk) (fun _ _ _ _ h => nomatch h)

/-- **one kernel step = one configuration step**: the step is computed on the configuration of processes behind `a`
(`Lemmas/DRRKStep.lean`), by cases on whose entry is popped -/
theorem kstep (fuel : Nat) (hk : KInv flow F (qOf cfg) s a) (hi0 : AInv flow F size cfg Lmax P a s.now)
    (hp : popMin s.agenda = some (q, rest)) :
    ∃ s' a' new, step (prog F flow size cfg P) (fuel + 1) s = .ok s' ∧ KInv flow F (qOf cfg) s' a' ∧
      AStep F flow size cfg P s.events.size s.eid a q a' new ∧
      s'.now = q.time ∧ histOf s'.trace = histOf s.trace ++ new := by
  obtain ⟨hmin, hperm⟩ := min_of_pop hk.ag hp
  have hi := hi0.advance hmin
  have hq := hmin.1
  simp only [A.entries, List.mem_append] at hq
  unfold prog
  rcases hq with hq | hq | hq
  · -- an entry of the server
    have hrun := hi.run
    cases hr : a.run with
    | W g => simp [hr, RPhase.entries] at hq
    | init q0 =>
      simp only [hr, RPhase.entries, List.mem_singleton] at hq; subst hq
      exact kstep_burst fuel hk hi (en := .top) (Or.inl hr) trivial hp
    | K g q0 =>
      simp only [hr, RPhase.entries, List.mem_singleton] at hq; subst hq
      exact kstep_burst fuel hk hi (en := .top) (Or.inr ⟨g, hr⟩) trivial hp
    | H g m id q0 =>
      simp only [hr, RPhase.entries, List.mem_singleton] at hq; subst hq
      rw [hr] at hrun
      obtain ⟨-, -, -, -, ⟨w, hw⟩, hhol, -⟩ := hrun
      obtain ⟨wrest, hws⟩ := drop_of_getElem? hw
      exact kstep_burst fuel hk hi (en := .got m id) ⟨g, hr⟩ ⟨w, wrest, hws, hhol⟩ hp
    | S p m id q0 =>
      simp only [hr, RPhase.entries, List.mem_singleton] at hq; subst hq
      exact StepsTo.astep (.sendInit a q p m id hr) (kstep_sendInit fuel hi.rate hk hr hp)
    | T p t m id q0 =>
      simp only [hr, RPhase.entries, List.mem_singleton] at hq; subst hq
      rw [hr] at hrun
      exact StepsTo.astep (.sendFire a q p t m id hr) (kstep_sendFire fuel hk hr hrun.2.2.1.1 hp)
    | F p m id q0 =>
      simp only [hr, RPhase.entries, List.mem_singleton] at hq; subst hq
      rw [hr] at hrun
      obtain ⟨-, -, -, -, ⟨w, hw⟩, -⟩ := hrun
      obtain ⟨wrest, hws⟩ := drop_of_getElem? hw
      exact kstep_burst fuel hk hi (en := .done m id) ⟨p, hr⟩ ⟨w, wrest, hws⟩ hp
  · -- an entry of the source
    have hsa := hi.src
    cases hsrc : a.src with
    | done => simp [hsrc, SPhase.entries] at hq
    | init q0 arr =>
      simp only [hsrc, SPhase.entries, List.mem_singleton] at hq; subst hq
      rw [hsrc] at hsa
      exact StepsTo.astep (.srcInit a q arr hsrc) (kstep_srcInit fuel hk hsrc (fun x hx => (hsa.2.2 x hx).1) hp)
    | ending q0 =>
      simp only [hsrc, SPhase.entries, List.mem_singleton] at hq; subst hq
      exact StepsTo.astep (.srcEnd a q hsrc) (kstep_srcEnd fuel hk hsrc hp)
    | wait id arr q0 =>
      simp only [hsrc, SPhase.entries, List.mem_singleton] at hq; subst hq
      rw [hsrc] at hsa
      obtain ⟨-, hpk, hw⟩ := hsa
      by_cases htot : a.total F = 0
      · exact StepsTo.astep (.srcPutTok a q id arr hsrc htot) (kstep_srcPutTok fuel hk hsrc hpk.1 htot (fun x hx => (hw x hx).1) hp)
      · exact StepsTo.astep (.srcPutPlain a q id arr hsrc htot)
          (kstep_srcPutPlain fuel hk hsrc hpk.1 htot (fun x hx => (hw x hx).1) hp)
  · -- a pending `StorePut` event
    simp only [pendEntries, List.mem_map] at hq
    obtain ⟨u, hu, rfl⟩ := hq
    obtain ⟨l1, l2, hpe⟩ := List.append_of_mem hu
    obtain ⟨q1, r⟩ := u
    by_cases hh : r = 0 ∧ a.tokens ≠ 0 ∧ ∃ g, a.run = .W g
    · obtain ⟨rfl, htk, g, hr⟩ := hh
      obtain ⟨t, ht⟩ := Nat.exists_eq_succ_of_ne_zero htk
      exact StepsTo.astep (.pendHand a q1 g t l1 l2 hpe hr ht) (kstep_pendHand fuel hk hpe hr ht hp)
    · exact StepsTo.astep (.pendNoop a q1 r l1 l2 hpe hh) (kstep_pendNoop fuel hk hpe hh hp)

/-- the kernel state `s` is the configuration `a`, and `a` is sound -/
structure Inv (F : Nat) (flow size : Int → Nat) (cfg : DRR.Cfg ℚ) (Lmax P : Nat) (s : KS) (a : A) : Prop where
  k : KInv flow F (qOf cfg) s a
  a : AInv flow F size cfg Lmax P a s.now

/-- **one kernel step**: it is `.ok`, is a configuration step, keeps the invariant and uses one unit of the step budget -/
theorem inv_step (fuel : Nat) (h : Inv F flow size cfg Lmax P s a) (hp : popMin s.agenda = some (q, rest)) :
    ∃ s' a' new, step (prog F flow size cfg P) (fuel + 1) s = .ok s' ∧ Inv F flow size cfg Lmax P s' a' ∧ a'.mu F + 1 ≤ a.mu F ∧
      AStep F flow size cfg P s.events.size s.eid a q a' new ∧ s'.now = q.time ∧ histOf s'.trace = histOf s.trace ++ new := by
  obtain ⟨s', a', new, h1, h2, h3, h4, h5⟩ := kstep fuel h.k h.a hp
  obtain ⟨g1, g2⟩ := astep_sound h.a (min_of_pop h.k.ag hp).1 h3
  exact ⟨s', a', new, h1, ⟨h2, by rw [h4]; exact g1⟩, g2, h3, h4, h5⟩

/-- **`run()` returns**: with more step budget than the configuration needs, `runLoop` ends with an empty agenda, in a state
reachable by kernel steps -/
theorem run_returns (fuel : Nat) (s0 : KS) : ∀ (n : Nat) (s : KS) (a : A), Inv F flow size cfg Lmax P s a → a.mu F < n →
    KReach (prog F flow size cfg P) (fuel + 1) s0 s →
    ∃ sF aF, runLoop (prog F flow size cfg P) (fuel + 1) none n s = .returned .none sF ∧
      Inv F flow size cfg Lmax P sF aF ∧ sF.agenda = [] ∧ KReach (prog F flow size cfg P) (fuel + 1) s0 sF :=
  runLoop_returns (A.mu F) (fun _ _ _ _ hi hp => let ⟨s', a', _, h1, h2, h3, _⟩ := inv_step fuel hi hp; ⟨s', a', h1, h2, h3⟩) s0

/-- the configuration of the initial state -/
def a0 (arrivals : List (ℚ × Int)) : A :=
  { run := .init ⟨0, URGENT, 0, 1⟩, src := .init ⟨0, URGENT, 1, 3⟩ arrivals, pend := [], tokens := 0, items := fun _ => [],
    cnt := fun _ => 0, byt := fun _ => 0, recv := 0, cur := none, keys := [], ccnt := fun _ => 0, dfc := fun _ => 0,
    hol := fun _ => none, forf := fun _ => 0 }

/-- the cells `DRR.__init__` writes for a declared class -/
theorem lookup_classCells (v : List (Nat × Val)) : ∀ (ws : List (Nat × Nat)) (c w : Nat), (ws.map (·.1)).Nodup → (c, w) ∈ ws →
    lookup (classCells cfg ws ++ v) (cCount c) = .int 0 ∧ lookup (classCells cfg ws ++ v) (cBytes c) = .int 0 ∧
    lookup (classCells cfg ws ++ v) (cCls c) = .int 0 ∧ lookup (classCells cfg ws ++ v) (cDef c) = TimeCell.enc (0 : ℚ) ∧
    lookup (classCells cfg ws ++ v) (cHol c) = .none ∧
    lookup (classCells cfg ws ++ v) (cQuant c) = TimeCell.enc (DRR.quantumW cfg w) ∧
    lookup (classCells cfg ws ++ v) (cForf c) = TimeCell.enc (0 : ℚ)
  | [], c, w, _, h => by cases h
  | (c0, w0) :: rest, c, w, hnd, h => by
    simp only [List.map_cons, List.nodup_cons] at hnd
    simp only [classCells, List.cons_append]
    by_cases hc : c = c0
    · subst hc
      have hw : w = w0 := by
        rcases List.mem_cons.mp h with h | h
        · cases h; rfl
        · exact absurd (List.mem_map_of_mem (f := (·.1)) h) hnd.1
      subst hw
      simp [TimerK.lookup_cons, drrk, zero_eq']
    · have hin : (c, w) ∈ rest := by
        rcases List.mem_cons.mp h with h | h
        · cases h; exact absurd rfl hc
        · exact h
      simpa [TimerK.lookup_cons, drrk, hc] using lookup_classCells v rest c w hnd.2 hin

/-- the quantum `DRR.__init__` computes for a declared class -/
theorem weight_of (ht : FlowsOK F cfg) {c : Nat} (hc : c < F) : ∃ w, (c, w) ∈ cfg.weights ∧ qOf cfg c = DRR.quantumW cfg w := by
  obtain ⟨w, hw⟩ := DRR.lookup_of_mem_keys cfg.weights c ((mem_flows ht c).mpr hc)
  refine ⟨w, DRR.mem_of_lookup _ _ _ hw, ?_⟩
  simp [qOf, DRR.quantum, hw]

/-- the attribute cells as `DRR.__init__` leaves them -/
theorem cells_init (ht : FlowsOK F cfg) (arrivals : List (ℚ × Int)) :
    Cells F (qOf cfg) (lookup ((cRecv, .int 0) :: (cCur, .none) :: classCells cfg cfg.weights)) (a0 arrivals) := by
  have h : ∀ c, c < F → ∃ w, qOf cfg c = DRR.quantumW cfg w ∧ _ := fun c hc =>
    let ⟨w, hmem, hq⟩ := weight_of ht hc
    ⟨w, hq, List.append_nil _ ▸ lookup_classCells (cfg := cfg) [] cfg.weights c w (flows_nodup ht) hmem⟩
  refine ⟨rfl, rfl, fun c hc => ?_, fun c hc => ?_, fun c hc => ?_, fun c hc => ?_, fun c hc => ?_, fun c hc => ?_, fun c hc => ?_⟩
  all_goals obtain ⟨w, hq, h⟩ := h c hc
  · simp only [TimerK.lookup_cons, drrk, if_false]; exact h.1
  · simp only [TimerK.lookup_cons, drrk, if_false]; exact h.2.1
  · simp only [TimerK.lookup_cons, drrk, if_false]; exact h.2.2.1
  · simp only [TimerK.lookup_cons, drrk, if_false]; exact h.2.2.2.1
  · simp only [TimerK.lookup_cons, drrk, if_false]; exact h.2.2.2.2.1
  · simp only [TimerK.lookup_cons, drrk, if_false, hq]; exact h.2.2.2.2.2.1
  · simp only [TimerK.lookup_cons, drrk, if_false]; exact h.2.2.2.2.2.2

theorem inv_init (arrivals : List (ℚ × Int)) (hw : WorkOK flow F size Lmax arrivals) (ht : FlowsOK F cfg) (hr : 0 < cfg.rate)
    (hP : ∃ k, P = k + 1 ∧ Lmax ≤ 1500 * k) :
    Inv F flow size cfg Lmax P (initState F cfg arrivals) (a0 arrivals) := by
  have h0 := KProc.GInv.empty (σ := St)
    { now := Num.zero, resources := (List.replicate (F + 1) storeRes).toArray,
      shared := (cRecv, .int 0) :: (cCur, .none) :: classCells cfg cfg.weights }
    rfl (storesOf F [] 0 fun _ => []) (fun r st h => by
      have hr : r < F + 1 := by
        cases r with
        | zero => exact Nat.succ_pos F
        | succ c => exact Nat.succ_lt_succ (by by_contra hc; simp [storesOf, hc] at h)
      refine ⟨by simpa using hr, ?_⟩
      cases r with
      | zero => cases h; simp [KState.res, hr, storeRes, KProc.HStore.toRes]
      | succ c =>
        rw [storesOf, if_pos (Nat.lt_of_succ_lt_succ hr)] at h
        cases h
        simp [KState.res, hr, storeRes, KProc.HStore.toRes])
  obtain ⟨S1, hd1, -, h1⟩ := h0.call (self := 0) (cl := .spawn .runStart) rfl
  obtain ⟨S2, hd2, -, h2⟩ := h1.call (self := 0) (cl := .spawn (.src none arrivals)) rfl
  have hS : initState F cfg arrivals = S2 := by
    simp only [initState, List.foldl, hd1, hd2]
  rw [hS]
  have hreg := h2.reg
  have hnow : S2.now = 0 := by rw [← show (KProc.Regs.of S2).now = S2.now from rfl, ← hreg]; rfl
  refine ⟨.of_ginv (.src none []) h2 rfl rfl rfl rfl rfl trivial nofun (cells_init ht arrivals), ?_⟩
  rw [hnow]
  refine ⟨⟨rfl, rfl, rfl, rfl, fun _ => rfl, fun _ => rfl, rfl, rfl, fun _ => rfl⟩, ⟨rfl, rfl, hw⟩, nofun, ?_, ?_, ?_, nofun, nofun,
    ⟨nofun, fun f hf _ => ⟨rfl, rfl, rfl⟩⟩, fun f hf => le_refl _, ht, hr, hP⟩
  · intro x hx
    simp [A.entries, a0, RPhase.entries, SPhase.entries, pendEntries] at hx
    rcases hx with rfl | rfl <;> simp
  · intro f hf; simp [a0, heldCnt, holCnt, RPhase.held]
  · intro f hf; simp [a0, unbookedCnt, RPhase.unbooked]

theorem a0_mu (arrivals : List (ℚ × Int)) : (a0 arrivals).mu F = 10 * arrivals.length + 3 := by
  have : waitingFrom (fun _ => ([] : List Int)) (fun _ => (none : Option Int)) 0 F = 0 :=
    waitingFrom_zero _ _ _ _ (fun _ _ _ => ⟨rfl, rfl⟩)
  simp [A.mu, a0, RPhase.mu, SPhase.mu, this]
  omega

/-- **every state reachable by kernel steps is a sound configuration** -/
theorem reach_inv (fuel : Nat) {arrivals : List (ℚ × Int)} (hw : WorkOK flow F size Lmax arrivals) (ht : FlowsOK F cfg)
    (hr : 0 < cfg.rate) (hP : ∃ k, P = k + 1 ∧ Lmax ≤ 1500 * k) {s : KS}
    (h : KReach (prog F flow size cfg P) (fuel + 1) (initState F cfg arrivals) s) :
    ∃ a, Inv F flow size cfg Lmax P s a :=
  KReach.of_step (inv_init arrivals hw ht hr hP)
    (fun _ _ _ _ hi hp => let ⟨s', a', _, h1, h2, _⟩ := inv_step fuel hi hp; ⟨s', a', h1, h2⟩) h

end DRRK
