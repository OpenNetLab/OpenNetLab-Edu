import OnlVerif.Lemmas.TimerKFrame
import OnlVerif.Lemmas.TcpSender
import OnlVerif.Tcp.SenderOnK
/-!
# The TCP sender on the kernel model: canonical configurations (definitions)

A configuration `A` describes a kernel state of the program `SenderOnK.body`: the state `S` of the sender LTS it stands for
(`Tcp/CC.lean`), where `run`, the network script and the `Timer` process of every segment are suspended (with the agenda entry
that will resume them), the `StorePut` events that are triggered and not yet processed, the attributes of every `Timer` object
(which outlives its entry in `self.timers`), the ghost cell and the transmissions so far.  Its structural part `Kern` is what
the kernel side reads; `CellsOK s a` says what the attribute cells of `s` hold.  That the kernel state `s` *is* the
configuration `a` (`KI`, `Lemmas/SndKCfg.lean`) is said through the configurations of `Lemmas/KProcDefs.lean` for the structural
part, and by `CellsOK`.  `KK act s κ` states the structural part directly on the kernel state (agenda, events, process records,
the wake-up store, the trace), while process `act` is executing.
-/

namespace SndK
open SenderOnK
open TimerK (lookup)

deriving instance DecidableEq for QEntry

abbrev St := SnSt ℚ
abbrev KS := KState ℚ St
abbrev Ack := AckIn ℚ
abbrev Script := List (ℚ × AckIn ℚ)

/-- where `TCPPacketGenerator.run` is -/
inductive RPhase where
  /-- not started: its `Initialize` entry `q` is in the agenda -/
  | init (q : QEntry ℚ)
  /-- blocked in `cwnd_avaialbe.get()` (event `g`), called at `t0` -/
  | blocked (g : EvId) (t0 : ℚ)
  /-- that `get` has been served with a token: entry `q` -/
  | handed (g : EvId) (t0 : ℚ) (q : QEntry ℚ)
  /-- the generator has returned: its process event is triggered (entry `q`) -/
  | ending (q : QEntry ℚ)
  | done
  | running

/-- where the network script is -/
inductive SPhase where
  | init (q : QEntry ℚ) (rest : Script)
  /-- sleeping on the timeout (entry `q`) after which it delivers `a`; `rest` still to come -/
  | wait (a : Ack) (rest : Script) (q : QEntry ℚ)
  | ending (q : QEntry ℚ)
  | done
  | running

/-- where the process of a `Timer` is -/
inductive TPh where
  /-- not started: its `Initialize` entry `q` is in the agenda -/
  | init (q : QEntry ℚ)
  /-- sleeping on timeout `t` (entry `q`, due at `q.time`) -/
  | sleep (t : EvId) (q : QEntry ℚ)
  /-- the generator has returned: its process event is triggered (entry `q`) -/
  | ending (q : QEntry ℚ)
  | gone
  | running

def RPhase.entries : RPhase → List (QEntry ℚ)
  | .init q => [q]
  | .handed _ _ q => [q]
  | .ending q => [q]
  | _ => []

def SPhase.entries : SPhase → List (QEntry ℚ)
  | .init q _ => [q]
  | .wait _ _ q => [q]
  | .ending q => [q]
  | _ => []

def TPh.entries : TPh → List (QEntry ℚ)
  | .init q => [q]
  | .sleep _ q => [q]
  | .ending q => [q]
  | _ => []

/-- the `get_queue` of the wake-up store -/
def RPhase.getQ : RPhase → List EvId
  | .blocked g _ => [g]
  | _ => []

def upd {β : Type} (g : Nat → β) (k : Nat) (v : β) : Nat → β := fun x => if x = k then v else g x

@[simp] theorem upd_same {β : Type} (g : Nat → β) (k : Nat) (v : β) : upd g k v k = v := by simp [upd]
theorem upd_ne {β : Type} (g : Nat → β) (k k' : Nat) (v : β) (h : k' ≠ k) : upd g k v k' = g k' := by simp [upd, h]
theorem upd_apply {β : Type} (g : Nat → β) (k k' : Nat) (v : β) : upd g k v k' = if k' = k then v else g k' := rfl

/-- the structural part of a configuration: everything the kernel-side invariant `KK` reads -/
structure Kern where
  run : RPhase
  scr : SPhase
  /-- the `StorePut` events that are triggered and not yet processed -/
  pend : List (QEntry ℚ)
  /-- the segments sent so far (the keys ever inserted into `timers`), in order -/
  keys : List Nat
  /-- the process of the `Timer` of a segment -/
  tmp : Nat → EvId
  tph : Nat → TPh
  /-- `len(cwnd_avaialbe.items)` -/
  tokens : Nat
  now : ℚ
  /-- the `tx` observations so far -/
  txs : List (Nat × ℚ)
  /-- the event whose callbacks are being run (`none`: between two kernel steps) -/
  cur : Option EvId

def tmEntries (keys : List Nat) (tph : Nat → TPh) : List (QEntry ℚ) := keys.flatMap fun seq => (tph seq).entries

def Kern.entries (κ : Kern) : List (QEntry ℚ) :=
  κ.run.entries ++ (κ.scr.entries ++ (κ.pend ++ tmEntries κ.keys κ.tph))

def evs (l : List (QEntry ℚ)) : List EvId := l.map (·.ev)

def EvIs (s : KS) (e : EvId) (k : Kind) (cbs : List Cb) (out : Option Outcome) : Prop :=
  (s.ev e).kind = k ∧ (s.ev e).cbs = some cbs ∧ (s.ev e).out = out

def storeRec (getQ : List EvId) (items : List Int) : ResRec :=
  { kind := .store, capacity := none, getQ := getQ, items := items }

def okNone : Option Outcome := some (.ok .none)

def RunEv (s : KS) : RPhase → Prop
  | .init q => q.ev = 1 ∧ EvIs s 1 (.init 0) [.resume 0] okNone ∧
      s.proc? 0 = some { st := .runStart q.time, target := some 1 } ∧ EvIs s 0 .proc [] none
  | .blocked g t0 => EvIs s g (.get 0) [.trigPut 0, .resume 0] none ∧
      s.proc? 0 = some { st := .runGet t0, target := some g } ∧ EvIs s 0 .proc [] none
  | .handed g t0 q => q.ev = g ∧ EvIs s g (.get 0) [.trigPut 0, .resume 0] (some (.ok (.int 1))) ∧
      s.proc? 0 = some { st := .runGet t0, target := some g } ∧ EvIs s 0 .proc [] none
  | .ending q => q.ev = 0 ∧ EvIs s 0 .proc [] okNone
  | .done => (s.ev 0).kind = .proc ∧ (s.ev 0).out = okNone
  | .running => EvIs s 0 .proc [] none

def ScrEv (s : KS) : SPhase → Prop
  | .init q rest => q.ev = 3 ∧ EvIs s 3 (.init 2) [.resume 2] okNone ∧
      s.proc? 2 = some { st := .scr q.time none rest, target := some 3 } ∧ EvIs s 2 .proc [] none
  | .wait a rest q => EvIs s q.ev .timeout [.resume 2] okNone ∧
      s.proc? 2 = some { st := .scr q.time (some a) rest, target := some q.ev } ∧ EvIs s 2 .proc [] none
  | .ending q => q.ev = 2 ∧ EvIs s 2 .proc [] okNone
  | .done => True
  | .running => EvIs s 2 .proc [] none

/-- the `Timer` process `p` of segment `seq` -/
def TmEv (s : KS) (seq : Nat) (p : EvId) : TPh → Prop
  | .init q => q.ev = p + 1 ∧ EvIs s (p + 1) (.init p) [.resume p] okNone ∧
      s.proc? p = some { st := .tmStart seq q.time, target := some (p + 1) } ∧ EvIs s p .proc [] none
  | .sleep t q => q.ev = t ∧ EvIs s t .timeout [.resume p] okNone ∧
      s.proc? p = some { st := .tmSleep seq q.time, target := some t } ∧ EvIs s p .proc [] none
  | .ending q => q.ev = p ∧ EvIs s p .proc [] okNone
  | .gone => True
  | .running => EvIs s p .proc [] none

/-- which generator a local state belongs to: 0 = the script, 1 = `run`, `2 + seq` = the `Timer` of segment `seq` -/
def tagOf : St → Nat
  | .scr _ _ _ => 0
  | .runStart _ => 1
  | .runGet _ => 1
  | .tmStart seq _ => 2 + seq
  | .tmSleep seq _ => 2 + seq

/-- `p` is a process event and its generator is the one with tag `n` (process records are never removed) -/
def ProcTag (s : KS) (p : EvId) (n : Nat) : Prop :=
  (s.ev p).kind = .proc ∧ ∃ pr, s.proc? p = some pr ∧ tagOf pr.st = n

/-- a pending `StorePut` of the wake-up store -/
def PendEv (s : KS) (u : QEntry ℚ) : Prop := EvIs s u.ev (.put 0) [.trigGet 0] okNone

theorem txOf1_tx (p : EvId) (seq : Nat) (t : ℚ) : txOf1 (Obs.log p "tx" (.int seq) t) = some (seq, t) := by
  simp [txOf1]

/-- the kernel state `s` has the structure `κ` while `act` is executing -/
structure KK (act : Option EvId) (s : KS) (κ : Kern) : Prop where
  act : s.active = act
  now : s.now = κ.now
  wf : AgendaWF s
  ag : s.agenda.Perm κ.entries
  rsz : 0 < s.resources.size
  tok : s.res 0 = storeRec κ.run.getQ (List.replicate κ.tokens 1)
  run : RunEv s κ.run
  scr : ScrEv s κ.scr
  pend : ∀ u ∈ κ.pend, PendEv s u
  pnd : (evs κ.pend).Nodup
  tm : ∀ seq ∈ κ.keys, TmEv s seq (κ.tmp seq) (κ.tph seq)
  pt0 : ProcTag s 0 1
  pt2 : ProcTag s 2 0
  ptm : ∀ seq ∈ κ.keys, ProcTag s (κ.tmp seq) (2 + seq)
  knd : κ.keys.Nodup
  tx : txsOf s.trace = κ.txs
  cur : ∀ e, κ.cur = some e → (s.ev e).cbs = none ∧ ∃ v, (s.ev e).out = some (.ok v)

/-- the attributes of a `Timer` object -/
structure TmC where
  stopped : Bool
  expire : ℚ
  timeout : ℚ
  start : ℚ

instance : Inhabited TmC := ⟨{ stopped := true, expire := 0, timeout := 0, start := 0 }⟩

structure A where
  S : Sender ℚ
  run : RPhase
  scr : SPhase
  pend : List (QEntry ℚ)
  /-- the segments whose `Timer` has been created, in order (between two kernel steps: the candidate keys below `next_seq`) -/
  tks : List Nat
  /-- the process of the `Timer` of a segment, where it is, and the attributes of the `Timer` object -/
  tmp : Nat → EvId
  tph : Nat → TPh
  tmc : Nat → TmC
  /-- (ghost cell) the instant of the last `cwnd_avaialbe.put` -/
  putAt : ℚ
  txs : List (Nat × ℚ)
  cur : Option EvId

def kernOf (a : A) : Kern :=
  { run := a.run, scr := a.scr, pend := a.pend, keys := a.tks, tmp := a.tmp, tph := a.tph,
    tokens := a.S.tokens, now := a.S.now, txs := a.txs, cur := a.cur }

def optEnc : Option ℚ → Val
  | some t => TimeCell.enc t
  | none => .none

structure CellsOK (s : KS) (a : A) : Prop where
  next : lookup s.shared cNext = .int a.S.next_seq
  buf : lookup s.shared cBuf = .int a.S.send_buffer
  lack : lookup s.shared cLack = .int a.S.last_ack
  dup : lookup s.shared cDup = .int a.S.dupack
  rtt : lookup s.shared cRtt = TimeCell.enc a.S.est.rtt_estimate
  dev : lookup s.shared cDev = TimeCell.enc a.S.est.est_deviation
  rto : lookup s.shared cRto = TimeCell.enc a.S.est.rto
  cc : ∀ x ∈ ccCells a.S.cc, lookup s.shared x.1 = x.2
  putAt : lookup s.shared cPutAt = TimeCell.enc a.putAt
  sent : ∀ seq, lookup s.shared (cSent seq) = optEnc (AL.get? seq a.S.sent)
  tin : ∀ seq, lookup s.shared (cTmIn seq) = if (AL.get? seq a.S.timers).isSome then .int 1 else .none
  stopped : ∀ seq ∈ a.tks, lookup s.shared (cTmStopped seq) = .int (if (a.tmc seq).stopped then 1 else 0)
  expire : ∀ seq ∈ a.tks, lookup s.shared (cTmExpire seq) = TimeCell.enc (a.tmc seq).expire
  timeout : ∀ seq ∈ a.tks, lookup s.shared (cTmTimeout seq) = TimeCell.enc (a.tmc seq).timeout
  start : ∀ seq ∈ a.tks, lookup s.shared (cTmStart seq) = TimeCell.enc (a.tmc seq).start
  proc : ∀ seq ∈ a.tks, lookup s.shared (cTmProc seq) = .ev (a.tmp seq)

end SndK
