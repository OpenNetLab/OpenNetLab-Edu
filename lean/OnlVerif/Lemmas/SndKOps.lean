import OnlVerif.Lemmas.SndKFrame
/-!
# The TCP sender on the kernel model: operations on kernel states

Named result states of operations of `Environment.step` and of the program on kernel states (`finishSt`: a generator returns;
`spawnSt`: a `Timer` process is created; `storeCCSt`: the congestion-control object is written), and what `finishSt` does to the
facts of `KK` (`KK.finish`).
-/

namespace SndK
open SenderOnK
open TimerK (lookup)

theorem wf_same {s1 S : KS} (h : AgendaWF s1) (hn : S.now = s1.now) (ha : S.agenda = s1.agenda) (he : S.eid = s1.eid) :
    AgendaWF S := KExec.wf_same h hn ha he


theorem ne_of_kind {s : KS} {e e0 : EvId} {k k0 : Kind} (h : (s.ev e).kind = k) (h0 : (s.ev e0).kind = k0) (hk : k ≠ k0) :
    e ≠ e0 := by
  rintro rfl; exact hk (h.symm.trans h0)


/-- what is known about an event that is not a process event and that a step touches: its kind and callbacks -/
structure Sig (s : KS) (e0 : EvId) (k0 : Kind) (c0 : Option (List Cb)) : Prop where
  kind : (s.ev e0).kind = k0
  cbs : (s.ev e0).cbs = c0

theorem PendEv.avoid {s : KS} {u : QEntry ℚ} (h : PendEv s u) {e0 : EvId} {k0 : Kind} {c0 : Option (List Cb)}
    (sg : Sig s e0 k0 c0) (h1 : k0 ≠ .put 0) : u.ev ∉ [e0] := by
  simp only [List.mem_singleton]
  exact ne_of_kind h.1 sg.kind (Ne.symm h1)

theorem PendEv.keep {s S : KS} {X P : List EvId} {u : QEntry ℚ} (h : PendEv s u) (fr : Frame s S X P) (hX : u.ev ∉ X) :
    PendEv S u := EvIs.keep h fr hX

theorem ProcTag.unique {s : KS} {p : EvId} {n n' : Nat} (h : ProcTag s p n) (h' : ProcTag s p n') : n = n' := by
  by_contra hn
  exact ProcTag.ne h h' hn rfl


/-- the generator returns `v`: the state after `_resume` has triggered the process event -/
def finishSt (s : KS) (p : EvId) (pr : ProcRec St) (v : Val) : KS :=
  { s with
    events := s.events.setIfInBounds p { s.ev p with out := some (.ok v) }
    agenda := { time := s.now + Num.zero, prio := NORMAL, eid := s.eid, ev := p } :: s.agenda
    eid := s.eid + 1
    trace := s.trace.push (.ended p (.ok v) s.now)
    procs := (p, { pr with target := none }) :: s.procs.filter (·.1 != p)
    active := none }

theorem finishSt_ev (s : KS) (p : EvId) (pr : ProcRec St) (v : Val) (e : EvId) :
    (finishSt s p pr v).ev e = if e = p ∧ p < s.events.size then { s.ev p with out := some (.ok v) } else s.ev e :=
  KState.ev_setEv s p e _

theorem finishSt_frame (s : KS) (p : EvId) (pr : ProcRec St) (v : Val) : Frame s (finishSt s p pr v) [p] [p] :=
  Frame.of_setEv (by simp [finishSt]) (finishSt_ev s p pr v) rfl (proc?_set_ne rfl)


theorem KK.finish {s : KS} {κ κ' : Kern} {p : EvId} {n : Nat} {pr : ProcRec St} {v : Val} (h : KK (some p) s κ)
    (pt : ProcTag s p n) (htag : tagOf pr.st = n)
    (hent : κ'.entries.Perm (⟨s.now + Num.zero, NORMAL, s.eid, p⟩ :: κ.entries))
    (hnow : κ'.now = κ.now) (hcur : κ'.cur = none) (htok : κ'.tokens = κ.tokens)
    (hgetQ : κ'.run.getQ = κ.run.getQ) (hpend : κ'.pend = κ.pend) (hkeys : κ'.keys = κ.keys) (htmp : κ'.tmp = κ.tmp)
    (htxs : κ'.txs = κ.txs)
    (hrun : RunEv (finishSt s p pr v) κ'.run) (hscr : ScrEv (finishSt s p pr v) κ'.scr)
    (htm : ∀ seq ∈ κ.keys, TmEv (finishSt s p pr v) seq (κ.tmp seq) (κ'.tph seq)) :
    KK none (finishSt s p pr v) κ' := by
  have fr := finishSt_frame s p pr v
  have hproc : (finishSt s p pr v).proc? p = some { pr with target := none } := proc?_set_same rfl
  have ptk : ∀ p' n', ProcTag s p' n' → ProcTag (finishSt s p pr v) p' n' := by
    intro p' n' h'
    by_cases hp : p' = p
    · subst hp
      exact h'.set fr _ hproc (htag.trans (pt.unique h'))
    · exact h'.keep fr (by simpa using hp)
  refine ⟨rfl, ?_, ?_, ?_, h.rsz, ?_, hrun, hscr, ?_, ?_, ?_, ptk _ _ h.pt0, ptk _ _ h.pt2, ?_, ?_, ?_, ?_⟩
  · rw [hnow]; exact h.now
  · exact KExec.wf_push1 h.wf _ rfl rfl rfl rfl (by show s.now ≤ s.now + Num.zero; rw [zero_eq', add_zero])
  · show (_ :: s.agenda).Perm κ'.entries
    exact (List.Perm.cons _ h.ag).trans hent.symm
  · rw [hgetQ, htok]; exact h.tok
  · rw [hpend]; intro u hu
    exact (h.pend u hu).keep fr (by simpa using ne_of_kind (h.pend u hu).1 pt.1 (by simp))
  · rw [hpend]; exact h.pnd
  · rw [hkeys, htmp]; exact htm
  · rw [hkeys, htmp]; intro seq hs; exact ptk _ _ (h.ptm seq hs)
  · rw [hkeys]; exact h.knd
  · rw [htxs]
    show txsOf (s.trace.push _) = κ.txs
    rw [txsOf_push]; simpa using h.tx
  · intro e he; rw [hcur] at he; cases he

/-- `env.process(Timer.run)`: the state after the call -/
def spawnSt (s : KS) (st : St) : KS :=
  { s with
    events := (s.events.push { kind := .proc, cbs := some [], out := none, label := s.nlabel + 1 }).push
                { kind := .init s.events.size, cbs := some [.resume s.events.size], out := some (.ok .none) }
    nlabel := s.nlabel + 1
    procs := (s.events.size, { st := st, target := some (s.events.size + 1) }) :: s.procs.filter (·.1 != s.events.size)
    agenda := { time := s.now, prio := URGENT, eid := s.eid, ev := s.events.size + 1 } :: s.agenda
    eid := s.eid + 1 }

@[simp] theorem spawnSt_shared (s : KS) (st : St) : (spawnSt s st).shared = s.shared := rfl
@[simp] theorem emit_shared (s : KS) (o : Obs ℚ) : (s.emit o).shared = s.shared := rfl

def storeCCSt (s : KS) (c : CCState ℚ) : KS :=
  setCell (setCell (setCell (setCell (setCell (setCell (setCell (setCell (setCell (setCell (setCell (setCell (setCell (setCell
    (setCell (setCell s (cCC 0) (TimeCell.enc c.mss)) (cCC 1) (TimeCell.enc c.cwnd)) (cCC 2) (TimeCell.enc c.ssthresh))
    (cCC 3) (TimeCell.enc c.W_last_max)) (cCC 4) (TimeCell.enc c.epoch_start)) (cCC 5) (TimeCell.enc c.origin_point))
    (cCC 6) (TimeCell.enc c.d_min)) (cCC 7) (TimeCell.enc c.W_tcp)) (cCC 8) (TimeCell.enc c.K)) (cCC 9) (TimeCell.enc c.ack_cnt))
    (cCC 10) (flagVal c.tcp_friendliness)) (cCC 11) (flagVal c.fast_convergence)) (cCC 12) (TimeCell.enc c.beta))
    (cCC 13) (TimeCell.enc c.C)) (cCC 14) (TimeCell.enc c.cwnd_cnt)) (cCC 15) (TimeCell.enc c.cnt)

theorem storeCCSt_other (s : KS) (c : CCState ℚ) (k : Nat) (hk : k < 7 ∨ 22 < k) :
    lookup (storeCCSt s c).shared k = lookup s.shared k := by
  unfold storeCCSt
  simp (disch := omega) only [lookup_setCell_ne, cCC]

end SndK
