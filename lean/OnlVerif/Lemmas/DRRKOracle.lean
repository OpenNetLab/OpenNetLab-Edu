import OnlVerif.Lemmas.DRRKRefine
import Mathlib.Data.List.Nodup
/-!
# The DRR scheduler on the kernel model: the history of observations of every run passes the property's oracle

`OInv` relates the state of the oracle (`DRROnK.ostep`) after the history so far to the configuration: its waiting queues are
the per-class stores (plus the packet `run` has taken and not yet decided on), its parked heads are `head_of_line`, its credits
and counts are `deficit` and `class_count`, its packet in transmission is the sender's, and what the next observation must
satisfy is already determined by the phase of `run`.  `OL` is the same for the configurations the loops of a burst work on,
`Pos` says where the `for` loop stands relative to the visit the oracle has seen last.
-/

namespace DRRK
open DRROnK QEntry

variable (F : Nat) (flow size : Int → Nat) (cfg : DRR.Cfg ℚ) (Lmax P : Nat)

/-- the packet `run` has taken from `stores[f]` and not yet sent or parked -/
def heldH (a : A) (f : Nat) : List Int :=
  match a.run with
  | .H _ _ id _ => if flow id = f then [id] else []
  | _ => []

/-- the arrivals the source has still to make -/
def srcFuture (now : ℚ) : SPhase → List (Int × ℚ)
  | .init _ arr => arrivalsFrom now arr
  | .wait id rest q => (id, q.time) :: arrivalsFrom q.time rest
  | _ => []

def obsPuts : List (HEv ℚ) → List (Int × ℚ)
  | [] => []
  | .put id t :: r => (id, t) :: obsPuts r
  | _ :: r => obsPuts r

/-- every packet that waits or is parked was put in this instant -/
def AllNow (now : ℚ) (o : OSt ℚ) : Prop :=
  ∀ f, f < F → (∀ x ∈ o.waiting f, x.2 = now) ∧ ∀ x, o.parked f = some x → x.2 = now

/-- a decision taken now is not late: a packet has just left, or everything that waits has just arrived -/
def Fresh (now : ℚ) (o : OSt ℚ) : Prop := o.lastOut = some now ∨ AllNow F now o

def QuietE (o : OSt ℚ) : Prop := o.busy = none ∧ o.toBook = none ∧ o.toReset = none

/-- the visit of entry `m` is in progress -/
def CurAt (o : OSt ℚ) (m : Nat) : Prop := o.cur = some m ∧ o.closed = false

def PhO (now : ℚ) (o : OSt ℚ) : RPhase → Prop
  | .init _ => QuietE o ∧ AllNow F now o ∧ o.cur = none
  | .W _ => QuietE o ∧ AllNow F now o ∧ o.cur = none
  | .K _ _ => QuietE o ∧ AllNow F now o ∧ o.cur = none
  | .H _ m _ _ => QuietE o ∧ Fresh F now o ∧ CurAt o m
  | .S _ m id _ => o.busy = some (id, now) ∧ o.toBook = none ∧ o.toReset = none ∧ CurAt o m
  | .T _ _ m id q => ∃ s0, o.busy = some (id, s0) ∧ q.time = s0 + txTime size cfg.rate id ∧ o.toBook = none ∧ o.toReset = none ∧
      CurAt o m
  | .F _ m id _ => o.busy = none ∧ o.toBook = some id ∧ o.toReset = none ∧ o.lastOut = some now ∧ CurAt o m

/-- the oracle has accepted the history and is in the state the configuration stands for -/
structure OInv (arrivals : List (ℚ × Int)) (a : A) (now : ℚ) (hist : List (HEv ℚ)) (o : OSt ℚ) : Prop where
  run : orun F flow size cfg oInit hist = some o
  wq : ∀ f, f < F → (o.waiting f).map (·.1) = heldH flow a f ++ a.items f
  pk : ∀ f, f < F → (o.parked f).map (·.1) = a.hol f
  cr : ∀ f, f < F → o.credit f = a.dfc f
  ct : ∀ f, f < F → o.count f = a.ccnt f
  ph : PhO F size cfg now o a.run
  fut : obsPuts hist ++ srcFuture now a.src = arrivalsFrom 0 arrivals

/-- the same inside a burst: the loops work on the configuration `a1` (in which `run` holds no packet), have brought the
credits to `L.dfc` and let observe `L.evs` after `base` -/
structure OL (arrivals : List (ℚ × Int)) (a1 : A) (base : List (HEv ℚ)) (now : ℚ) (L : LS) (o : OSt ℚ) : Prop where
  run : orun F flow size cfg oInit (base ++ L.evs) = some o
  quiet : QuietE o
  cr : ∀ f, f < F → o.credit f = L.dfc f
  ct : ∀ f, f < F → o.count f = a1.ccnt f
  wq : ∀ f, f < F → (o.waiting f).map (·.1) = a1.items f
  pk : ∀ f, f < F → (o.parked f).map (·.1) = a1.hol f
  fresh : Fresh F now o
  fut : obsPuts (base ++ L.evs) ++ srcFuture now a1.src = arrivalsFrom 0 arrivals

/-- the `for` loop stands at entry `m`: the visit the oracle has seen last is over, and every entry the cyclic order passes
from the one after it to `m` is not backlogged -/
def Pos (ws : List (Nat × Nat)) (o : OSt ℚ) (m : Nat) : Prop :=
  VisitOver ws o ∧ ∀ j' ∈ skipped ws.length (nextOf o) m, ¬ 0 < o.count (flowAt ws j')

/-- what the way a piece of the loops ends says about the oracle: the visit of that entry is in progress -/
def EndCur (o : OSt ℚ) : Option LoopEnd → Prop
  | some (.get m _) => CurAt o m
  | some (.send m c _ _) => CurAt o m ∧ 0 < o.credit c
  | _ => True

/-- the oracle has followed a piece of the loops: to the end of the burst, or to the head of entry `m` of the `for` loop -/
abbrev OLAt (arrivals : List (ℚ × Int)) (a1 : A) (base : List (HEv ℚ)) (now : ℚ) (m : Nat) : LS × Option LoopEnd → Prop :=
  Post (fun L' => ∃ o', OL F flow size cfg arrivals a1 base now L' o' ∧ Pos cfg.weights o' m)
    fun L' e => ∃ o', OL F flow size cfg arrivals a1 base now L' o' ∧ EndCur o' (some e)

variable {F flow size cfg Lmax P}

theorem orun_append (o : OSt ℚ) (l1 l2 : List (HEv ℚ)) :
    orun F flow size cfg o (l1 ++ l2) = (orun F flow size cfg o l1).bind fun o' => orun F flow size cfg o' l2 :=
  KExec.optRun_append (fun _ => rfl) (fun _ _ _ => rfl) o l1 l2

theorem orun_snoc {base : List (HEv ℚ)} {o o' : OSt ℚ} {ev : HEv ℚ} (h : orun F flow size cfg oInit base = some o)
    (hs : ostep F flow size cfg o ev = some o') : orun F flow size cfg oInit (base ++ [ev]) = some o' := by
  rw [orun_append, h]
  simp [orun, hs]

theorem obsPuts_append (l1 l2 : List (HEv ℚ)) : obsPuts (l1 ++ l2) = obsPuts l1 ++ obsPuts l2 := by
  induction l1 with
  | nil => rfl
  | cons x r ih => cases x <;> simp [obsPuts, ih]

theorem eqT_iff (x y : ℚ) : eqT x y ↔ x = y := incomp_iff x y

theorem srcFuture_srcNext (t : ℚ) (eid ev : Nat) (arr : List (ℚ × Int)) (now : ℚ) :
    srcFuture now (srcNext t eid ev arr) = arrivalsFrom t arr := by
  cases arr with
  | nil => rfl
  | cons x r => obtain ⟨gap, id⟩ := x; rfl

theorem setQ_same {β : Type} (w : Nat → β) (f : Nat) (l : β) : setQ w f l f = l := by simp [setQ]
theorem setQ_ne {β : Type} (w : Nat → β) (f f' : Nat) (l : β) (h : f' ≠ f) : setQ w f l f' = w f' := by simp [setQ, h]

/-- an update of the oracle's record at `c` and of the configuration's keep the two related, class by class -/
theorem setQ_upd {β γ : Type} {R : β → γ → Prop} {w : Nat → β} {g : Nat → γ} {f : Nat} (h : R (w f) (g f)) (c : Nat) {l : β} {v : γ}
    (hl : f = c → R l v) : R (setQ w c l f) (upd g c v f) := by
  by_cases hf : f = c
  · rw [hf, setQ_same, upd_same]; exact hl hf
  · rwa [setQ_ne _ _ _ _ hf, upd_ne _ _ _ _ hf]

theorem setQ_pred {β : Type} {P : β → Prop} {w : Nat → β} {f : Nat} (h : P (w f)) (c : Nat) {l : β} (hl : f = c → P l) :
    P (setQ w c l f) :=
  setQ_upd (R := fun x (_ : Unit) => P x) (g := fun _ => ()) (v := ()) h c hl

theorem quiet_of {o : OSt ℚ} (h : QuietE o) : Quiet o := by
  obtain ⟨h1, h2, h3⟩ := h
  simp [Quiet, h1, h2, h3]

theorem takeHead_parked {o : OSt ℚ} {id : Int} {x : Int × ℚ} (h : o.parked (flow id) = some x) :
    takeHead flow o id = ({ o with parked := setQ o.parked (flow id) none }, some x) := by
  simp only [takeHead, h]

theorem takeHead_waiting {o : OSt ℚ} {id : Int} (h : o.parked (flow id) = none) :
    takeHead flow o id =
      ({ o with waiting := setQ o.waiting (flow id) (o.waiting (flow id)).tail }, (o.waiting (flow id)).head?) := by
  simp only [takeHead, h]

theorem getD_of_lt (ws : List (Nat × Nat)) {j : Nat} (h : j < ws.length) : ws[j]? = some (ws.getD j (0, 0)) := by
  rw [List.getD_eq_getElem?_getD, List.getElem?_eq_getElem h]; rfl

theorem flowAt_eq {ws : List (Nat × Nat)} {m c w : Nat} (hw : ws[m]? = some (c, w)) : flowAt ws m = c := by
  unfold flowAt
  rw [List.getD_eq_getElem?_getD, hw]; rfl

theorem weightAt_eq {ws : List (Nat × Nat)} {m c w : Nat} (hw : ws[m]? = some (c, w)) : weightAt ws m = w := by
  unfold weightAt
  rw [List.getD_eq_getElem?_getD, hw]; rfl

theorem posOf_eq (ht : FlowsOK F cfg) {m c w : Nat} (hw : cfg.weights[m]? = some (c, w)) : posOf cfg.weights c = m := by
  have hmlt : m < cfg.weights.length := (List.getElem?_eq_some_iff.mp hw).1
  have hget : (cfg.weights.map (·.1))[m]? = some c := by simp [hw]
  have hlt' : m < (cfg.weights.map (·.1)).length := by simpa using hmlt
  have hg : (cfg.weights.map (·.1))[m] = c := (List.getElem?_eq_some_iff.mp hget).2
  unfold posOf
  rw [← hg]
  exact List.Nodup.idxOf_getElem (flows_nodup ht) m hlt'

theorem quantumOf_eq (ht : FlowsOK F cfg) {m c w : Nat} (hw : cfg.weights[m]? = some (c, w)) : quantumOf cfg c = qOf cfg c := by
  unfold quantumOf qOf DRR.quantum
  rw [posOf_eq ht hw, weightAt_eq hw, DRR.lookup_of_getElem cfg.weights (flows_nodup ht) m c w hw]
  rfl

/-- the oracle's side condition of a `serve` or `park` observation -/
theorem takeOK_of (ht : FlowsOK F cfg) {o : OSt ℚ} {m w : Nat} {id : Int} {now : ℚ} (hq : QuietE o) (hc : CurAt o m)
    (hw : cfg.weights[m]? = some (flow id, w)) (hcr : 0 < o.credit (flow id)) (hh : IsHead flow o id) (hf : Fresh F now o) :
    TakeOK F flow cfg.weights o id now := by
  have hpos := posOf_eq ht hw
  refine ⟨quiet_of hq, by rw [hpos]; exact hc.1, by rw [hpos]; exact (List.getElem?_eq_some_iff.mp hw).1, hc.2,
    by rw [zero_eq']; exact hcr, hh, ?_⟩
  rcases hf with hf | hf
  · left; rw [hf]; exact (eqT_iff _ _).mpr rfl
  · right
    intro f hfm
    have := hf f (List.mem_range.mp hfm)
    refine ⟨fun x hx => (eqT_iff _ _).mpr (this.1 x hx), fun x hx => (eqT_iff _ _).mpr (this.2 x ?_)⟩
    simpa using hx

theorem pos_skip {ws : List (Nat × Nat)} {o : OSt ℚ} {m : Nat} (hp : Pos ws o m) (hc : ¬ 0 < o.count (flowAt ws m)) :
    Pos ws o (m + 1) := by
  refine ⟨hp.1, ?_⟩
  intro j' hj'
  by_cases hjm : j' = m
  · subst hjm; exact hc
  · apply hp.2 j'
    unfold skipped at hj' ⊢
    split at hj'
    · rename_i h1
      have := List.mem_range'_1.mp hj'
      rw [if_pos (by omega : nextOf o ≤ m)]
      exact List.mem_range'_1.mpr (by omega)
    · rename_i h1
      rcases List.mem_append.mp hj' with h | h
      · have := List.mem_range'_1.mp h
        rw [if_neg (by omega : ¬ nextOf o ≤ m)]
        exact List.mem_append.mpr (Or.inl h)
      · have := List.mem_range.mp h
        rw [if_neg (by omega : ¬ nextOf o ≤ m)]
        exact List.mem_append.mpr (Or.inr (List.mem_range.mpr (by omega)))

theorem pos_wrap {ws : List (Nat × Nat)} {o : OSt ℚ} (hp : Pos ws o ws.length) : Pos ws o 0 := by
  refine ⟨hp.1, ?_⟩
  intro j' hj'
  apply hp.2 j'
  unfold skipped at hj' ⊢
  split at hj'
  · rename_i h1
    have := List.mem_range'_1.mp hj'
    omega
  · rename_i h1
    rcases List.mem_append.mp hj' with h | h
    · have := List.mem_range'_1.mp h
      rw [if_pos (by omega : nextOf o ≤ ws.length)]
      exact h
    · simp at h

theorem pos_after {ws : List (Nat × Nat)} {o : OSt ℚ} {m : Nat} (hc : o.cur = some m) (hv : VisitOver ws o) : Pos ws o (m + 1) := by
  refine ⟨hv, ?_⟩
  intro j' hj'
  have hn : nextOf o = m + 1 := by simp [nextOf, hc]
  rw [hn] at hj'
  simp [skipped] at hj'

theorem pos_start {ws : List (Nat × Nat)} {o : OSt ℚ} (hc : o.cur = none) : Pos ws o 0 := by
  refine ⟨by simp [VisitOver, hc], ?_⟩
  intro j' hj'
  have hn : nextOf o = 0 := by simp [nextOf, hc]
  rw [hn] at hj'
  simp [skipped] at hj'

variable {arrivals : List (ℚ × Int)} {a a1 : A} {now : ℚ} {q : QEntry ℚ} {hist base : List (HEv ℚ)} {o : OSt ℚ} {L : LS}

/-- the oracle after an observation that is not a `put` and changes neither queues nor counts nor the departure record -/
theorem ol_snoc {ev : HEv ℚ} {o' : OSt ℚ} {dfc' : Nat → ℚ} (hl : OL F flow size cfg arrivals a1 base now L o)
    (hs : ostep F flow size cfg o ev = some o') (hnp : obsPuts [ev] = [])
    (hq : QuietE o') (hcr : ∀ f, f < F → o'.credit f = dfc' f) (hct : o'.count = o.count) (hwq : o'.waiting = o.waiting)
    (hpk : ∀ f, f < F → o'.parked f = o.parked f) (hlo : o'.lastOut = o.lastOut) :
    OL F flow size cfg arrivals a1 base now ⟨dfc', L.evs ++ [ev]⟩ o' := by
  refine ⟨?_, hq, hcr, fun f hf => by rw [hct]; exact hl.ct f hf, fun f hf => by rw [hwq]; exact hl.wq f hf,
    fun f hf => by rw [hpk f hf]; exact hl.pk f hf, ?_, ?_⟩
  · show orun F flow size cfg oInit (base ++ (L.evs ++ [ev])) = some o'
    rw [← List.append_assoc]
    exact orun_snoc hl.run hs
  · rcases hl.fresh with h | h
    · exact Or.inl (by rw [hlo]; exact h)
    · right
      intro f hf
      rw [hwq, hpk f hf]
      exact h f hf
  · show obsPuts (base ++ (L.evs ++ [ev])) ++ _ = _
    rw [← List.append_assoc, obsPuts_append, hnp, List.append_nil]
    exact hl.fut

/-- `if count > 0: deficit += quantum` on a backlogged class: the oracle sees the visit begin -/
theorem ol_visit (hm : MidInv F flow size cfg Lmax P a1 now) {m c w : Nat} (hw : cfg.weights[m]? = some (c, w))
    (hl : OL F flow size cfg arrivals a1 base now L o) (hp : Pos cfg.weights o m) (hc : 0 < a1.ccnt c) :
    ∃ o', OL F flow size cfg arrivals a1 base now (visitAdd (qOf cfg) a1.ccnt now c L) o' ∧ CurAt o' m := by
  have hcF : c < F := entry_lt hm.table (List.mem_of_getElem? hw)
  have hpos := posOf_eq hm.table hw
  have hmlt : m < cfg.weights.length := (List.getElem?_eq_some_iff.mp hw).1
  have hok : VisitOK cfg.weights o c := by
    refine ⟨quiet_of hl.quiet, by rw [hpos]; exact hmlt, by rw [hl.ct c hcF]; exact hc, hp.1, ?_⟩
    rw [hpos]; exact hp.2
  have hs : ostep F flow size cfg o (.visit c now) =
      some { o with credit := setQ o.credit c (o.credit c + quantumOf cfg c), cur := some (posOf cfg.weights c), closed := false } := by
    simp only [ostep]; exact if_pos hok
  have hva : visitAdd (qOf cfg) a1.ccnt now c L = ⟨upd L.dfc c (L.dfc c + qOf cfg c), L.evs ++ [.visit c now]⟩ := by
    unfold visitAdd; rw [if_pos hc]
  rw [hva]
  refine ⟨_, ol_snoc hl hs rfl hl.quiet ?_ rfl rfl (fun _ _ => rfl) rfl, by rw [hpos], rfl⟩
  intro f hf
  exact setQ_upd (R := Eq) (hl.cr f hf) c fun _ => by rw [hl.cr c hcF, quantumOf_eq hm.table hw]

/-- the inner `while` of the entry whose visit is in progress -/
theorem ol_inner (hm : MidInv F flow size cfg Lmax P a1 now) {m c w : Nat} (hw : cfg.weights[m]? = some (c, w))
    (hl : OL F flow size cfg arrivals a1 base now L o) (hc : CurAt o m) :
    OLAt F flow size cfg arrivals a1 base now (m + 1) (innerAt size a1.ccnt a1.hol now m c L) := by
  have hcF : c < F := entry_lt hm.table (List.mem_of_getElem? hw)
  have hfa := flowAt_eq hw
  unfold innerAt
  by_cases hcond : Num.zero < L.dfc c ∧ 0 < a1.ccnt c
  · rw [if_pos hcond]
    have hpos : 0 < o.credit c := by rw [hl.cr c hcF, ← zero_eq']; exact hcond.1
    cases hh : a1.hol c with
    | none => exact ⟨o, hl, hc⟩
    | some id =>
      simp only []
      by_cases hle : (Num.ofNat (size id) : ℚ) ≤ L.dfc c
      · rw [if_pos hle]
        exact ⟨o, hl, hc, hpos⟩
      · rw [if_neg hle]
        have hfl : flow id = c := (hm.holOK c hcF id hh).1
        have hpk := hl.pk c hcF
        rw [hh] at hpk
        obtain ⟨x, hx, hxid⟩ := Option.map_eq_some_iff.mp hpk
        have hxf : o.parked (flow id) = some x := by rw [hfl]; exact hx
        have hok : TakeOK F flow cfg.weights o id now :=
          takeOK_of hm.table hl.quiet hc (by rw [hfl]; exact hw) (by rw [hfl]; exact hpos)
            (by unfold IsHead; rw [hxf]; exact hxid) hl.fresh
        have hncr : ¬ (Num.ofNat (size id) : ℚ) ≤ o.credit (flow id) := by rw [hfl, hl.cr c hcF]; exact hle
        have hs : ostep F flow size cfg o (.park id now) =
            some { (takeHead flow o id).1 with
                     parked := setQ (takeHead flow o id).1.parked (flow id) (takeHead flow o id).2, closed := true } := by
          simp only [ostep]; exact if_pos ⟨hok, hncr⟩
        rw [takeHead_parked hxf] at hs
        have hl' := ol_snoc (dfc' := L.dfc) hl hs rfl hl.quiet hl.cr rfl rfl (by
          intro f hf
          show setQ (setQ o.parked (flow id) none) (flow id) (some x) f = o.parked f
          by_cases hff : f = flow id
          · subst hff; rw [setQ_same, hxf]
          · rw [setQ_ne _ _ _ _ hff, setQ_ne _ _ _ _ hff]) rfl
        exact ⟨_, hl', pos_after hc.1 (by simp [VisitOver, hc.1])⟩
  · rw [if_neg hcond]
    refine ⟨o, hl, pos_after hc.1 ?_⟩
    simp only [VisitOver, hc.1, hfa]
    right
    rw [hl.cr c hcF, hl.ct c hcF]
    by_cases h1 : Num.zero < L.dfc c
    · exact Or.inr (fun h2 => hcond ⟨h1, h2⟩)
    · exact Or.inl h1

/-- one iteration of the `for` loop -/
theorem ol_iter (hm : MidInv F flow size cfg Lmax P a1 now) (m c w : Nat) (L : LS) (hw : cfg.weights[m]? = some (c, w))
    (h : ∃ o, OL F flow size cfg arrivals a1 base now L o ∧ Pos cfg.weights o m) :
    OLAt F flow size cfg arrivals a1 base now (m + 1) (innerAt size a1.ccnt a1.hol now m c (visitAdd (qOf cfg) a1.ccnt now c L)) := by
  obtain ⟨o, hl, hp⟩ := h
  have hcF : c < F := entry_lt hm.table (List.mem_of_getElem? hw)
  by_cases hc : 0 < a1.ccnt c
  · obtain ⟨o1, hl1, hc1⟩ := ol_visit hm hw hl hp hc
    exact ol_inner hm hw hl1 hc1
  · rw [visitAdd_dfc_skip c L hc]
    have hin : innerAt size a1.ccnt a1.hol now m c L = (L, none) := by
      unfold innerAt
      rw [if_neg (fun h => hc h.2)]
    rw [hin]
    exact ⟨o, hl, pos_skip hp (by rw [flowAt_eq hw, hl.ct c hcF]; exact hc)⟩

/-- a piece of the `for` loop that the oracle has followed to the end of the loop: it is back at the top of the loops -/
theorem OLAt.wrap {m : Nat} {p : LS × Option LoopEnd} (h : OLAt F flow size cfg arrivals a1 base now m p)
    (hm : m = cfg.weights.length) : OLAt F flow size cfg arrivals a1 base now 0 p :=
  Post.imp h fun _ ⟨o, hl, hp⟩ => ⟨o, hl, pos_wrap (hm ▸ hp)⟩

theorem heldH_none {a : A} (h : ∀ g m id q0, a.run ≠ .H g m id q0) (f : Nat) : heldH flow a f = [] := by
  unfold heldH
  cases hr : a.run <;> first | rfl | exact absurd hr (h _ _ _ _)

theorem book_dfc (a : A) (c : Nat) (id : Int) : (a.book size c id).dfc =
    if a.ccnt c + -1 = 0 then upd a.dfc c 0 else upd a.dfc c (a.dfc c - Num.ofNat (size id)) := by
  unfold A.book; split <;> rfl

/-- `run` holds a packet just taken from its store: the oracle has it at the head of the waiting packets of its class, nothing of
the class is parked, and it may be taken now -/
theorem oinv_held {g : EvId} {m : Nat} {id : Int} (hi : AInv flow F size cfg Lmax P a q.time)
    (ho : OInv F flow size cfg arrivals a q.time hist o) (h : a.run = .H g m id q) :
    ∃ x r, o.parked (flow id) = none ∧ o.waiting (flow id) = x :: r ∧ x.1 = id ∧ r.map (·.1) = a.items (flow id) ∧
      TakeOK F flow cfg.weights o id q.time := by
  have hrun := hi.run
  have hph := ho.ph
  rw [h] at hrun hph
  obtain ⟨-, -, -, hpk, ⟨w, hw⟩, hhol, hdpos⟩ := hrun
  obtain ⟨hq, hfr, hc⟩ := hph
  have hwq := ho.wq (flow id) hpk.1
  simp only [heldH, h, if_true, List.singleton_append] at hwq
  have hpn : o.parked (flow id) = none := by
    have := ho.pk (flow id) hpk.1
    rw [hhol] at this
    exact Option.map_eq_none_iff.mp this
  cases hwt : o.waiting (flow id) with
  | nil => rw [hwt] at hwq; simp at hwq
  | cons x r =>
    rw [hwt] at hwq
    simp only [List.map_cons, List.cons.injEq] at hwq
    exact ⟨x, r, hpn, rfl, hwq.1, hwq.2, takeOK_of hi.table hq hc hw (by rw [ho.cr _ hpk.1]; exact hdpos)
      (by unfold IsHead; rw [hpn]; simp [hwt, hwq.1]) hfr⟩

/-- **the oracle where a burst enters the loops**: it has accepted what is observed before them (the packet parked, or the
transmission booked and the class reset), and follows the piece of the `for` loop the burst starts with -/
theorem ol_enter {en : Entry} {e0 : List (HEv ℚ)} {piece : LS × Option LoopEnd} (hi : AInv flow F size cfg Lmax P a q.time)
    (ho : OInv F flow size cfg arrivals a q.time hist o) (hen : Enters flow size cfg a q q.time en a1 e0 piece)
    (hm : MidInv F flow size cfg Lmax P a1 q.time) :
    OLAt F flow size cfg arrivals a1 (hist ++ e0) q.time 0 piece := by
  have hph := ho.ph
  have hrun := hi.run
  cases hen with
  | top hst =>
    have hH : ∀ g m id q0, a.run ≠ .H g m id q0 := by
      rcases hst with h | ⟨g, h⟩ <;> simp [h]
    have hph' : QuietE o ∧ AllNow F q.time o ∧ o.cur = none := by
      rcases hst with h | ⟨g, h⟩ <;> (rw [h] at hph; exact hph)
    obtain ⟨hq, han, hcur⟩ := hph'
    exact ⟨o, ⟨by simpa using ho.run, hq, ho.cr, ho.ct,
      fun f hf => by have := ho.wq f hf; rwa [heldH_none hH, List.nil_append] at this, ho.pk, Or.inr han, by simpa using ho.fut⟩,
      pos_start hcur⟩
  | @got g m id w rest h hd hle =>
    rw [h] at hrun hph
    obtain ⟨-, -, -, hpk, ⟨w', hw⟩, hhol, hdpos⟩ := hrun
    obtain ⟨hq, hfr, hc⟩ := hph
    -- the oracle sees the packet parked
    obtain ⟨x, r, hpn, hxr, hxid, hrmap, hok⟩ := oinv_held hi ho h
    have hncr : ¬ (Num.ofNat (size id) : ℚ) ≤ o.credit (flow id) := by rw [ho.cr _ hpk.1]; exact hle
    have hs : ostep F flow size cfg o (.park id q.time) =
        some { (takeHead flow o id).1 with
                 parked := setQ (takeHead flow o id).1.parked (flow id) (takeHead flow o id).2, closed := true } := by
      simp only [ostep]; exact if_pos ⟨hok, hncr⟩
    rw [takeHead_waiting hpn, hxr] at hs
    simp only [List.tail_cons, List.head?_cons] at hs
    have hl1 : OL F flow size cfg arrivals { a with hol := upd a.hol (flow id) (some id) } (hist ++ [.park id q.time]) q.time
        ⟨a.dfc, []⟩
        { o with waiting := setQ o.waiting (flow id) r, parked := setQ o.parked (flow id) (some x), closed := true } := by
      refine ⟨by simpa using orun_snoc ho.run hs, hq, ho.cr, ho.ct, ?_, ?_, ?_, ?_⟩
      · intro f hf
        show (setQ o.waiting (flow id) r f).map (·.1) = a.items f
        by_cases hff : f = flow id
        · subst hff; rw [setQ_same]; exact hrmap
        · rw [setQ_ne _ _ _ _ hff]
          have := ho.wq f hf
          simpa [heldH, h, Ne.symm hff] using this
      · intro f hf
        exact setQ_upd (R := fun (x : Option (Int × ℚ)) y => x.map (·.1) = y) (ho.pk f hf) _ fun _ => by simp [hxid]
      · rcases hfr with hfr | hfr
        · exact Or.inl hfr
        · right
          intro f hf
          have hx2 : x.2 = q.time := (hfr _ hpk.1).1 x (by rw [hxr]; simp)
          exact ⟨setQ_pred (P := fun l => ∀ y ∈ l, y.2 = q.time) (hfr f hf).1 _ fun hff y hy =>
              (hfr _ hpk.1).1 y (by rw [hxr]; exact List.mem_cons_of_mem _ hy),
            setQ_pred (P := fun (p : Option (Int × ℚ)) => ∀ y, p = some y → y.2 = q.time) (hfr f hf).2 _ fun _ y hy => by cases hy; exact hx2⟩
      · simpa [obsPuts_append, obsPuts] using ho.fut
    have hp1 := pos_after (ws := cfg.weights)
      (o := { o with waiting := setQ o.waiting (flow id) r, parked := setQ o.parked (flow id) (some x), closed := true })
      hc.1 (by simp [VisitOver, hc.1])
    exact OLAt.wrap (visitFrom_ind (ol_iter hm) rest (m + 1) _ (KExec.drop_cons hd).2 ⟨_, hl1, hp1⟩) (length_of_drop hd)
  | @done p m id w rest h hd =>
    rw [h] at hrun hph
    obtain ⟨-, -, -, hpk, ⟨w', hw⟩, hhol, hle⟩ := hrun
    obtain ⟨hb, htb, htr, hlo, hc⟩ := hph
    have hH : ∀ g m id q0, a.run ≠ .H g m id q0 := by simp [h]
    have hsb := sameBut_book (size := size) a (flow id) id
    have hcnt : o.count (flow id) = a.ccnt (flow id) := ho.ct _ hpk.1
    -- the oracle sees the packet booked (and the class reset when it has emptied)
    have hs1 : ostep F flow size cfg o (.done id q.time) =
        some { o with credit := setQ o.credit (flow id) (o.credit (flow id) - Num.ofNat (size id)),
                      count := setQ o.count (flow id) (o.count (flow id) - 1), toBook := none,
                      toReset := if o.count (flow id) - 1 = 0 then some (flow id) else none } := by
      simp only [ostep]; exact if_pos ⟨htb, by rw [htr]; rfl⟩
    have hrc : ∃ C : Nat → ℚ, orun F flow size cfg oInit (hist ++ bookEvs a (flow id) id q.time ++ []) =
          some { o with credit := C, count := setQ o.count (flow id) (o.count (flow id) - 1), toBook := none, toReset := none } ∧
        ∀ f, f < F → C f = (a.book size (flow id) id).dfc f := by
      by_cases hz : a.ccnt (flow id) + -1 = 0
      · have hz' : o.count (flow id) - 1 = 0 := by rw [hcnt]; omega
        rw [if_pos hz'] at hs1
        have hs2 : ostep F flow size cfg
            { o with credit := setQ o.credit (flow id) (o.credit (flow id) - Num.ofNat (size id)),
                     count := setQ o.count (flow id) (o.count (flow id) - 1), toBook := none, toReset := some (flow id) }
            (.reset (flow id) q.time) =
            some { o with credit := setQ (setQ o.credit (flow id) (o.credit (flow id) - Num.ofNat (size id))) (flow id) Num.zero,
                          count := setQ o.count (flow id) (o.count (flow id) - 1), toBook := none, toReset := none } := by
          simp [ostep]
        have hrun2 := orun_snoc (orun_snoc ho.run hs1) hs2
        rw [List.append_assoc] at hrun2
        refine ⟨_, by simpa [bookEvs, hz] using hrun2, fun f hf => ?_⟩
        rw [book_dfc, if_pos hz]
        show setQ (setQ o.credit (flow id) _) (flow id) Num.zero f = upd a.dfc (flow id) 0 f
        by_cases hff : f = flow id
        · subst hff; rw [setQ_same, upd_same, zero_eq']
        · rw [setQ_ne _ _ _ _ hff, setQ_ne _ _ _ _ hff, upd_ne _ _ _ _ hff]; exact ho.cr f hf
      · have hz' : ¬ o.count (flow id) - 1 = 0 := by rw [hcnt]; omega
        rw [if_neg hz'] at hs1
        refine ⟨_, by simpa [bookEvs, hz] using orun_snoc ho.run hs1, fun f hf => ?_⟩
        rw [book_dfc, if_neg hz]
        exact setQ_upd (R := Eq) (ho.cr f hf) _ fun _ => by rw [ho.cr _ hpk.1]
    obtain ⟨C, hrunC, hcr⟩ := hrc
    have hl1 : OL F flow size cfg arrivals (a.book size (flow id) id) (hist ++ bookEvs a (flow id) id q.time) q.time
        ⟨(a.book size (flow id) id).dfc, []⟩
        { o with credit := C, count := setQ o.count (flow id) (o.count (flow id) - 1), toBook := none, toReset := none } := by
      refine ⟨hrunC, ⟨hb, rfl, rfl⟩, hcr, ?_, ?_, fun f hf => by rw [book_hol]; exact ho.pk f hf, Or.inl hlo, ?_⟩
      · intro f hf
        rw [book_ccnt]
        exact setQ_upd (R := Eq) (ho.ct f hf) _ fun _ => by rw [hcnt]; ring
      · intro f hf
        rw [hsb.items]
        have := ho.wq f hf
        rwa [heldH_none hH, List.nil_append] at this
      · rw [hsb.src, List.append_nil, obsPuts_append,
          show obsPuts (bookEvs a (flow id) id q.time) = [] by unfold bookEvs; split <;> rfl, List.append_nil]
        exact ho.fut
    exact OLAt.wrap (donePiece_ind (ol_iter hm) (KExec.drop_cons hd).2 (ol_inner hm hw hl1 hc)) (length_of_drop hd)

/-- **a burst of `run`, seen by the oracle**: it sends the packet it has just taken, or the loops work on a configuration in
which `run` holds nothing and the oracle accepts what they let observe -/
theorem ol_burst {en : Entry} (hi : AInv flow F size cfg Lmax P a q.time) (hst : StartsAt a q en)
    (ho : OInv F flow size cfg arrivals a q.time hist o) :
    (∃ g m id, en = .got m id ∧ a.run = .H g m id q ∧ (Num.ofNat (size id) : ℚ) ≤ a.dfc (flow id) ∧
      a.burst F (qOf cfg) size cfg.weights P q.time en = ⟨a, [], .send m (flow id) id false⟩) ∨
    (∃ a1 e0 Lf fin o', MidInv F flow size cfg Lmax P a1 q.time ∧ SameBut a a1 ∧ fin ≠ .hang ∧
      EndOK size a1.ccnt a1.hol (a1.total F) cfg.weights Lf (some fin) ∧
      a.burst F (qOf cfg) size cfg.weights P q.time en = ⟨finA a1 Lf (some fin), e0 ++ Lf.evs, fin⟩ ∧
      OL F flow size cfg arrivals a1 (hist ++ e0) q.time Lf o' ∧ EndCur o' (some fin)) := by
  rcases burst_enters hi hst with h | ⟨a1, e0, piece, hen, hm, -, hsb, hE, hmono, hbe⟩
  · exact Or.inl h
  · obtain ⟨hnh, hE', -⟩ := loop_post (t := q.time) hm piece hE hmono
    obtain ⟨o', hl', he'⟩ := thenPasses_ind (ol_iter hm) (fun _ ⟨o, hl, hp⟩ => ⟨o, hl, pos_wrap hp⟩)
      (fun _ ⟨o, hl, _⟩ _ => ⟨o, hl, trivial⟩) P piece (ol_enter hi ho hen hm) hnh
    exact Or.inr ⟨a1, e0, _, _, o', hm, hsb, hnh, hE', hbe, hl', he'⟩

/-- the loops end with `total_packets == 0`: the oracle notes the idle period -/
theorem oinv_idle (hm : MidInv F flow size cfg Lmax P a1 now) {Lf : LS} {o' : OSt ℚ}
    (hl : OL F flow size cfg arrivals a1 base now Lf o') (htot : a1.total F = 0) (r : RPhase)
    (hr : (∃ g, r = .W g) ∨ ∃ g q0, r = .K g q0) (tk : Nat) :
    ∃ o'', OInv F flow size cfg arrivals { (finA a1 Lf (some .idle)) with run := r, tokens := tk } now
      (base ++ Lf.evs ++ [.idle now]) o'' := by
  have hemp := mid_empty hm htot
  have hw : ∀ f, f < F → o'.waiting f = [] := by
    intro f hf
    have := hl.wq f hf
    rw [(hemp f hf).1] at this
    exact List.map_eq_nil_iff.mp this
  have hpn : ∀ f, f < F → o'.parked f = none := by
    intro f hf
    have := hl.pk f hf
    rw [(hemp f hf).2] at this
    exact Option.map_eq_none_iff.mp this
  have hok : IdleOK F o' := by
    refine ⟨quiet_of hl.quiet, ?_⟩
    intro f hf
    rw [hw f (List.mem_range.mp hf), hpn f (List.mem_range.mp hf)]
    exact ⟨rfl, rfl⟩
  have hs : ostep F flow size cfg o' (.idle now) = some { o' with cur := none, closed := false } := by
    simp only [ostep]; exact if_pos hok
  have hH : ∀ f, heldH flow ({ (finA a1 Lf (some .idle)) with run := r, tokens := tk } : A) f = [] := by
    intro f
    rcases hr with ⟨g, rfl⟩ | ⟨g, q0, rfl⟩ <;> rfl
  have han : AllNow F now { o' with cur := none, closed := false } := by
    intro f hf
    refine ⟨?_, ?_⟩
    · intro x hx
      change x ∈ o'.waiting f at hx
      rw [hw f hf] at hx; cases hx
    · intro x hx
      change o'.parked f = some x at hx
      rw [hpn f hf] at hx; cases hx
  refine ⟨_, orun_snoc hl.run hs, ?_, hl.pk, hl.cr, hl.ct, ?_, ?_⟩
  · intro f hf
    rw [hH f, List.nil_append]
    exact hl.wq f hf
  · rcases hr with ⟨g, rfl⟩ | ⟨g, q0, rfl⟩ <;> exact ⟨hl.quiet, han, rfl⟩
  · rw [obsPuts_append]
    have := hl.fut
    simpa [obsPuts, finA] using this

theorem oinv_put (ho : OInv F flow size cfg arrivals a q.time hist o) {id : Int}
    {arr : List (ℚ × Int)} (h : a.src = .wait id arr q) (a' : A) (hrun : a'.run = a.run)
    (hitems : a'.items = upd a.items (flow id) (a.items (flow id) ++ [id])) (hhol : a'.hol = a.hol) (hdfc : a'.dfc = a.dfc)
    (hccnt : a'.ccnt = upd a.ccnt (flow id) (a.ccnt (flow id) + 1)) (eid ev : Nat)
    (hsrc : a'.src = srcNext q.time eid ev arr) :
    ∃ o', OInv F flow size cfg arrivals a' q.time (hist ++ [.put id q.time]) o' := by
  have hph := ho.ph
  have htr : o.toReset = none := by
    cases hr : a.run <;> rw [hr] at hph
    · exact hph.1.2.2
    · exact hph.1.2.2
    · exact hph.1.2.2
    · exact hph.1.2.2
    · exact hph.2.2.1
    · obtain ⟨s0, -, -, -, h4, -⟩ := hph; exact h4
    · exact hph.2.2.1
  have hs : ostep F flow size cfg o (.put id q.time) =
      some { o with waiting := setQ o.waiting (flow id) (o.waiting (flow id) ++ [(id, q.time)]),
                    count := setQ o.count (flow id) (o.count (flow id) + 1) } := by
    simp only [ostep]; exact if_pos (by rw [htr]; rfl)
  have han : AllNow F q.time o → AllNow F q.time { o with
      waiting := setQ o.waiting (flow id) (o.waiting (flow id) ++ [(id, q.time)]),
      count := setQ o.count (flow id) (o.count (flow id) + 1) } := fun h0 f hf =>
    ⟨fun x hx => (MQK.mem_upd_append hx).elim ((h0 f hf).1 x) fun h => h ▸ rfl, (h0 f hf).2⟩
  refine ⟨_, orun_snoc ho.run hs, ?_, ?_, ?_, ?_, ?_, ?_⟩
  · intro f hf
    have hH : heldH flow a' f = heldH flow a f := by simp [heldH, hrun]
    rw [hH, hitems]
    exact MQK.map_upd_append (·.1) (flow id) (id, q.time) (ho.wq f hf)
  · intro f hf; rw [hhol]; exact ho.pk f hf
  · intro f hf; rw [hdfc]; exact ho.cr f hf
  · intro f hf
    rw [hccnt]
    exact setQ_upd (R := Eq) (ho.ct f hf) _ fun hfc => by rw [← hfc, ho.ct f hf]
  · rw [hrun]
    cases hr : a.run with
    | init q0 => rw [hr] at hph; exact ⟨hph.1, han hph.2.1, hph.2.2⟩
    | W g => rw [hr] at hph; exact ⟨hph.1, han hph.2.1, hph.2.2⟩
    | K g q0 => rw [hr] at hph; exact ⟨hph.1, han hph.2.1, hph.2.2⟩
    | H g m0 id0 q0 =>
      rw [hr] at hph
      refine ⟨hph.1, ?_, hph.2.2⟩
      rcases hph.2.1 with h2 | h2
      · exact Or.inl h2
      · exact Or.inr (han h2)
    | _ => rw [hr] at hph; exact hph
  · rw [obsPuts_append, hsrc, srcFuture_srcNext]
    have := ho.fut
    rw [h] at this
    simp only [srcFuture] at this
    simp only [obsPuts, List.append_assoc, List.cons_append, List.nil_append]
    exact this

/-- a step without observations: the oracle's invariant reads of the configuration the stores with the packet `run` holds,
`head_of_line`, the credits, the class counts, the phase of `run` and what the source has still to do -/
theorem OInv.silent {a' : A} (ho : OInv F flow size cfg arrivals a now hist o) (hi : a'.items = a.items) (hh : a'.hol = a.hol)
    (hd : a'.dfc = a.dfc) (hc : a'.ccnt = a.ccnt) (hH : ∀ f, heldH flow a' f = heldH flow a f) (hph : PhO F size cfg now o a'.run)
    (hs : srcFuture now a'.src = srcFuture now a.src) : OInv F flow size cfg arrivals a' now (hist ++ []) o := by
  rw [List.append_nil]
  exact ⟨ho.run, fun f hf => by rw [hH, hi]; exact ho.wq f hf, by rw [hh]; exact ho.pk, by rw [hd]; exact ho.cr,
    by rw [hc]; exact ho.ct, hph, by rw [hs]; exact ho.fut⟩

/-- **every configuration step keeps the oracle's invariant**: the observations of the step are accepted -/
theorem oinv_step {a' : A} {new : List (HEv ℚ)} {n e : Nat} (hi : AInv flow F size cfg Lmax P a q.time)
    (ho : OInv F flow size cfg arrivals a q.time hist o) (hs : AStep F flow size cfg P n e a q a' new) :
    ∃ o', OInv F flow size cfg arrivals a' q.time (hist ++ new) o' := by
  have hrun := hi.run
  have hph := ho.ph
  cases hs with
  | burst en r _ _ hst hb hend =>
    rcases ol_burst hi hst ho with ⟨g, m, id, rfl, h, hle, hbe⟩ | ⟨a1, e0, Lf, fin, o', hm, hsb, hnh, hE, hbe, hl, hec⟩
    · -- the packet just taken from its store is sent
      rw [hbe] at hb; subst hb
      cases hend with
      | get _ _ _ _ hfin => cases hfin
      | block hfin => cases hfin
      | tok _ hfin => cases hfin
      | send m' c' id' pk hfin =>
        simp only [LoopEnd.send.injEq] at hfin
        obtain ⟨rfl, rfl, rfl, rfl⟩ := hfin
        rw [h] at hrun hph
        obtain ⟨-, -, -, hpk, ⟨w, hw⟩, hhol, hdpos⟩ := hrun
        obtain ⟨hq, hfr, hc⟩ := hph
        obtain ⟨x, r, hpn, hxr, hxid, hrmap, hok⟩ := oinv_held hi ho h
        have hcr : (Num.ofNat (size id) : ℚ) ≤ o.credit (flow id) := by rw [ho.cr _ hpk.1]; exact hle
        have hs : ostep F flow size cfg o (.serve id q.time) = some { (takeHead flow o id).1 with busy := some (id, q.time) } := by
          simp only [ostep]; exact if_pos ⟨hok, hcr⟩
        rw [takeHead_waiting hpn, hxr] at hs
        simp only [List.tail_cons] at hs
        refine ⟨{ o with waiting := setQ o.waiting (flow id) r, busy := some (id, q.time) }, by simpa using orun_snoc ho.run hs, ?_,
          ho.pk, ho.cr, ho.ct, ⟨rfl, hq.2.1, hq.2.2, hc⟩, ?_⟩
        · intro f hf
          show (setQ o.waiting (flow id) r f).map (·.1) = _
          simp only [heldH, List.nil_append]
          by_cases hff : f = flow id
          · subst hff; rw [setQ_same]; exact hrmap
          · rw [setQ_ne _ _ _ _ hff]
            have := ho.wq f hf
            simpa [heldH, h, Ne.symm hff] using this
        · simpa [obsPuts_append, obsPuts] using ho.fut
    · rw [hbe] at hb; subst hb
      have heq : ∀ ev : HEv ℚ, hist ++ (e0 ++ Lf.evs ++ [ev]) = hist ++ e0 ++ Lf.evs ++ [ev] := fun ev => by
        simp [List.append_assoc]
      cases hend with
      | get m' c' id' is hfin hc' hit =>
        simp only at hfin
        subst hfin
        obtain ⟨⟨w, hw⟩, hhol, hdpos, hcpos⟩ := hE
        have hfl : flow id' = c' := (hm.flowOK c' hc' id' (by rw [hsb.items, hit]; simp)).1
        refine ⟨o', by rw [← List.append_assoc]; exact hl.run, ?_, hl.pk, hl.cr, hl.ct, ⟨hl.quiet, hl.fresh, hec⟩,
          by rw [← List.append_assoc]; exact hl.fut⟩
        intro f hf
        show _ = heldH flow _ f ++ upd a1.items c' is f
        simp only [heldH, hfl]
        rw [hl.wq f hf]
        exact MQK.take_split (hsb.items ▸ hit) f
      | send m' c' id' pk hfin =>
        -- the parked head of the class is sent
        simp only at hfin
        subst hfin
        obtain ⟨rfl, ⟨w, hw⟩, hhol, hle, hcpos⟩ := hE
        obtain ⟨hc, hcrpos⟩ := hec
        have hcF : c' < F := entry_lt hm.table (List.mem_of_getElem? hw)
        have hfl : flow id' = c' := (hm.holOK c' hcF id' hhol).1
        have hpk := hl.pk c' hcF
        rw [hhol] at hpk
        obtain ⟨x, hx, hxid⟩ := Option.map_eq_some_iff.mp hpk
        have hxf : o'.parked (flow id') = some x := by rw [hfl]; exact hx
        have hok : TakeOK F flow cfg.weights o' id' q.time :=
          takeOK_of hm.table hl.quiet hc (by rw [hfl]; exact hw) (by rw [hfl]; exact hcrpos)
            (by unfold IsHead; rw [hxf]; exact hxid) hl.fresh
        have hcr : (Num.ofNat (size id') : ℚ) ≤ o'.credit (flow id') := by rw [hfl, hl.cr c' hcF]; exact hle
        have hs : ostep F flow size cfg o' (.serve id' q.time) = some { (takeHead flow o' id').1 with busy := some (id', q.time) } := by
          simp only [ostep]; exact if_pos ⟨hok, hcr⟩
        rw [takeHead_parked hxf] at hs
        refine ⟨{ o' with parked := setQ o'.parked (flow id') none, busy := some (id', q.time) }, ?_, ?_, ?_, hl.cr, hl.ct,
          ⟨rfl, hl.quiet.2.1, hl.quiet.2.2, hc⟩, ?_⟩
        · have := orun_snoc hl.run hs
          simpa [List.append_assoc] using this
        · intro f hf
          simp only [heldH, List.nil_append]
          exact hl.wq f hf
        · intro f hf
          show (setQ o'.parked (flow id') none f).map (·.1) = upd a1.hol c' none f
          rw [hfl]
          exact setQ_upd (R := fun (x : Option (Int × ℚ)) y => x.map (·.1) = y) (hl.pk f hf) _ fun _ => rfl
        · have := hl.fut
          simp only [obsPuts_append, obsPuts, List.append_nil, List.append_assoc] at this ⊢
          exact this
      | block hfin htk =>
        simp only at hfin
        subst hfin
        rw [heq]; exact oinv_idle hm hl hE (.W n) (Or.inl ⟨n, rfl⟩) a1.tokens
      | tok t hfin htk =>
        simp only at hfin
        subst hfin
        rw [heq]; exact oinv_idle hm hl hE (.K n ⟨q.time, NORMAL, e, n⟩) (Or.inr ⟨_, _, rfl⟩) t
  | sendInit p m id h =>
    rw [h] at hph
    exact ⟨o, ho.silent rfl rfl rfl rfl (fun f => by simp [heldH, h]) ⟨q.time, hph.1, rfl, hph.2⟩ rfl⟩
  | sendFire p t m id h =>
    rw [h] at hph
    obtain ⟨s0, hb, hq0, htb, htr, hcur⟩ := hph
    have hok : OutOK size cfg.rate o id q.time := by
      simp only [OutOK, hb, htb, htr, true_and]
      exact ⟨(eqT_iff _ _).mpr hq0, rfl, rfl⟩
    have hs : ostep F flow size cfg o (.out id q.time) = some { o with busy := none, lastOut := some q.time, toBook := some id } := by
      simp only [ostep]; exact if_pos hok
    refine ⟨_, orun_snoc ho.run hs, ?_, ho.pk, ho.cr, ho.ct, ⟨rfl, rfl, htr, rfl, hcur⟩, ?_⟩
    · intro f hf
      have := ho.wq f hf
      simp only [heldH, h] at this
      simpa [heldH] using this
    · simpa [obsPuts_append, obsPuts] using ho.fut
  | srcInit arr h => exact ⟨o, ho.silent rfl rfl rfl rfl (fun _ => rfl) ho.ph (by rw [h, srcFuture_srcNext]; rfl)⟩
  | srcPutTok id arr h htot => exact oinv_put ho h _ rfl rfl rfl rfl rfl _ _ rfl
  | srcPutPlain id arr h htot => exact oinv_put ho h _ rfl rfl rfl rfl rfl _ _ rfl
  | srcEnd h => exact ⟨o, ho.silent rfl rfl rfl rfl (fun _ => rfl) ho.ph (by rw [h]; rfl)⟩
  | pendNoop r l1 l2 hpe hno => exact ⟨o, ho.silent rfl rfl rfl rfl (fun _ => rfl) ho.ph rfl⟩
  | pendHand g t l1 l2 hpe h htk =>
    rw [h] at hph
    exact ⟨o, ho.silent rfl rfl rfl rfl (fun f => by simp [heldH, h]) hph rfl⟩

/-- **letting the clock advance to the next entry changes nothing** -/
theorem OInv.advance (hi : AInv flow F size cfg Lmax P a now) (hq : IsMin a q) (ho : OInv F flow size cfg arrivals a now hist o) :
    OInv F flow size cfg arrivals a q.time hist o := by
  rcases eq_or_lt_of_le (hi.now_le hq) with h | h
  · rw [← h]; exact ho
  obtain ⟨hr, hs, -⟩ := hi.waits hq h
  have hp := hi.run
  have hph := ho.ph
  refine ⟨ho.run, ho.wq, ho.pk, ho.cr, ho.ct, ?_, ?_⟩
  · rcases hr with ⟨⟨g, hr⟩, htk⟩ | ⟨p, t, m, id, q0, hr⟩ <;> rw [hr] at hp hph ⊢
    · -- nothing waits, nothing is parked
      refine ⟨hph.1, fun f hf => ?_, hph.2.2⟩
      have hw0 : o.waiting f = [] := by
        have := ho.wq f hf
        rw [show heldH flow a f = [] by simp [heldH, hr], hp.1 htk f hf] at this
        exact List.map_eq_nil_iff.mp this
      have hp0 : o.parked f = none := by
        have := ho.pk f hf
        rw [hp.2.2.2 f hf] at this
        exact Option.map_eq_none_iff.mp this
      exact ⟨fun x hx => (by rw [hw0] at hx; cases hx), fun x hx => (by rw [hp0] at hx; cases hx)⟩
    · exact hph
  · have := ho.fut
    rcases hs with ⟨id, rest, q0, hs⟩ | hs <;> (rw [hs] at this ⊢; exact this)

/-- the kernel state is a sound configuration, the run so far an admissible run of the LTS, and its history is accepted by
the oracle, which stands where the configuration says -/
structure Inv3 (F : Nat) (flow size : Int → Nat) (cfg : DRR.Cfg ℚ) (Lmax P : Nat) (arrivals : List (ℚ × Int)) (s : KS) (a : A) :
    Prop where
  i : Inv2 F flow size cfg Lmax P s a
  o : ∃ o, OInv F flow size cfg arrivals a s.now (histOf s.trace) o

theorem oinv_init (arrivals : List (ℚ × Int)) :
    OInv F flow size cfg arrivals (a0 arrivals) (initState F cfg arrivals : KS).now (histOf (initState F cfg arrivals : KS).trace) oInit := by
  rw [initState_now, initState_trace, histOf_empty]
  refine ⟨rfl, fun f _ => rfl, fun f _ => rfl, fun f _ => zero_eq', fun f _ => rfl, ⟨⟨rfl, rfl, rfl⟩, ?_, rfl⟩, rfl⟩
  intro f _
  exact ⟨fun x hx => (by cases hx), fun x hx => (by cases hx)⟩

theorem reach_inv3 (fuel : Nat) {arrivals : List (ℚ × Int)} (hw : WorkOK flow F size Lmax arrivals) (ht : FlowsOK F cfg)
    (hr : 0 < cfg.rate) (hP : ∃ k, P = k + 1 ∧ Lmax ≤ 1500 * k) {s : KS}
    (h : KReach (prog F flow size cfg P) (fuel + 1) (initState F cfg arrivals) s) :
    ∃ a, Inv3 F flow size cfg Lmax P arrivals s a := by
  refine KReach.of_step (x0 := a0 arrivals) ⟨⟨inv_init arrivals hw ht hr hP, ?_, ?_⟩, oInit, oinv_init arrivals⟩ ?_ h
  · rw [initState_trace, histOf_empty]
    exact ⟨rfl, rfl, fun c hc => absurd rfl hc, fun _ _ => rfl⟩
  · rw [initState_trace, histOf_empty]; exact evsOK_nil
  · rintro s a q rest ⟨hi, o, ho⟩ hp
    obtain ⟨s', a', new, h1, h2, -, h4, h5, h6, -⟩ := inv_step_lts fuel hi hp
    have hmin := (min_of_pop hi.i.k.ag hp).1
    obtain ⟨o', ho'⟩ := oinv_step (hi.i.a.advance hmin) (ho.advance hi.i.a hmin) h4
    exact ⟨s', a', h1, h2, o', by rw [h5, h6]; exact ho'⟩

/-- a state with an empty agenda: the oracle is drained and has seen exactly the workload -/
theorem oinv_final {s : KS} (hi : Inv2 F flow size cfg Lmax P s a) {arrivals : List (ℚ × Int)}
    (ho : OInv F flow size cfg arrivals a s.now (histOf s.trace) o) (hag : s.agenda = []) :
    drained F o = true ∧ obsPuts (histOf s.trace) = arrivalsFrom 0 arrivals ∧
      ∀ c, MQ.heldC (DRR.sched cfg) (toM cfg.flows flow size a (histOf s.trace) s.now) c = [] := by
  have hperm := hi.i.k.ag
  rw [hag] at hperm
  have hent : a.entries = [] := hperm.nil_eq.symm
  simp only [A.entries, List.append_eq_nil_iff] at hent
  obtain ⟨hre, hse, hpe⟩ := hent
  have hpend : a.pend = [] := by simpa [pendEntries] using hpe
  have hrun := hi.i.a.run
  have hph := ho.ph
  cases hr : a.run with
  | init q0 => rw [hr] at hre; simp [RPhase.entries] at hre
  | K g q0 => rw [hr] at hre; simp [RPhase.entries] at hre
  | H g m id q0 => rw [hr] at hre; simp [RPhase.entries] at hre
  | S p m id q0 => rw [hr] at hre; simp [RPhase.entries] at hre
  | T p t m id q0 => rw [hr] at hre; simp [RPhase.entries] at hre
  | F p m id q0 => rw [hr] at hre; simp [RPhase.entries] at hre
  | W g =>
    rw [hr] at hrun hph
    obtain ⟨⟨hb, htb, htr⟩, -, -⟩ := hph
    have htk : a.tokens = 0 := by
      by_contra hc
      obtain ⟨u, hu⟩ := hrun.2.1 hc
      rw [hpend] at hu; cases hu
    have hH : ∀ f, heldH flow a f = [] := fun f => by simp [heldH, hr]
    have hw0 : ∀ f, f < F → o.waiting f = [] := by
      intro f hf
      have := ho.wq f hf
      rw [hH, hrun.1 htk f hf] at this
      exact List.map_eq_nil_iff.mp this
    have hp0 : ∀ f, f < F → o.parked f = none := by
      intro f hf
      have := ho.pk f hf
      rw [hrun.2.2.2 f hf] at this
      exact Option.map_eq_none_iff.mp this
    refine ⟨?_, ?_⟩
    · simp only [drained, hb, htb, htr, Option.isNone_none, Bool.and_self, Bool.true_and, List.all_eq_true, List.mem_range,
        Bool.and_eq_true]
      intro f hf
      rw [hw0 f hf, hp0 f hf]
      exact ⟨rfl, rfl⟩
    · have := ho.fut
      cases hs : a.src with
      | init q0 arr => rw [hs] at hse; simp [SPhase.entries] at hse
      | wait id rest q0 => rw [hs] at hse; simp [SPhase.entries] at hse
      | ending q0 => rw [hs] at hse; simp [SPhase.entries] at hse
      | done =>
        rw [hs] at this
        refine ⟨by simpa [srcFuture] using this, ?_⟩
        intro c
        have hst : MQ.storeOf (toM cfg.flows flow size a (histOf s.trace) s.now).stores c = [] := by
          simp only [MQ.storeOf, MQ.lookupD, toM, mst, lookup_dictOf]
          by_cases hc : c ∈ a.keys
          · simp [hc, hrun.1 htk c (hi.i.a.keysOK.1 c hc)]
          · simp [hc]
        have hho : MQ.lookupD (toM cfg.flows flow size a (histOf s.trace) s.now).hol c none = none := by
          simp only [MQ.lookupD, toM, mst, lookup_dictOf]
          by_cases hc : c ∈ parkKeys flow (histOf s.trace)
          · simp [hc, hrun.2.2.2 c (hok_parkKeys hi.h c hc)]
          · simp [hc]
        simp only [MQ.heldC, hst, hho]
        simp [MQ.inHand, toM, mst, phaseOf, hr]

end DRRK
