import OnlVerif.Lemmas.VCKAbs
import OnlVerif.Lemmas.VCKAttr
/-!
# The VirtualClock scheduler on the kernel model: what each kernel operation of the program does

What single calls and the small pieces of the program do to a kernel state, what the `PriorityStore` hands out (`listMin`, the
integers of the waiting packets), and that the attribute cells are pairwise different.
-/

namespace VCK
open VCOnK
open TimerK (lookup)

theorem getD_set_same (a : Array ResRec) (r : Nat) (x : ResRec) (h : r < a.size) :
    (a.setIfInBounds r x).getD r default = x := by
  rw [getD_setIfInBounds]; simp [h]

@[simp] theorem isStoreKind_pstore : isStoreKind .pstore = true := rfl
@[simp] theorem isPrioKind_pstore : isPrioKind .pstore = false := rfl
@[simp] theorem pstore_beq_preemptive : (ResKind.pstore == ResKind.preemptive) = false := rfl
@[simp] theorem pstore_beq_fstore : (ResKind.pstore == ResKind.fstore) = false := rfl

theorem doCall_load (s : KS) (self : EvId) (k : Nat) : doCall s self (.load k) = (s, .val (lookup s.shared k)) := rfl

theorem doCall_store (s : KS) (self : EvId) (k : Nat) (v : Val) :
    doCall s self (.store k v) = ({ s with shared := (k, v) :: s.shared.filter (·.1 != k) }, .unit) := rfl

theorem doCall_log (s : KS) (self : EvId) (what : String) (i : Int) :
    doCall s self (.log what (.int i)) = ({ s with trace := s.trace.push (.log self what (.int i) s.now) }, .unit) := rfl

theorem doCall_log_none (s : KS) (self : EvId) (what : String) :
    doCall s self (.log what .none) = ({ s with trace := s.trace.push (.log self what .none s.now) }, .unit) := rfl

theorem doCall_log_enc (s : KS) (self : EvId) (what : String) (x : ℚ) :
    doCall s self (.log what (TimeCell.enc x)) =
      ({ s with trace := s.trace.push (.log self what (TimeCell.enc x) s.now) }, .unit) := rfl

theorem listMin_spec : ∀ l : List Int, l ≠ [] → ∃ m, listMin l = some m ∧ m ∈ l ∧ ∀ x ∈ l, m ≤ x
  | [], h => absurd rfl h
  | [x], _ => ⟨x, by simp [listMin], by simp, by simp⟩
  | x :: y :: ys, _ => by
    obtain ⟨m, h1, h2, h3⟩ := listMin_spec (y :: ys) (by simp)
    by_cases hlt : m < x
    · refine ⟨m, by rw [listMin, h1]; simp [hlt], List.mem_cons_of_mem _ h2, ?_⟩
      intro z hz
      rcases List.mem_cons.mp hz with rfl | hz
      · exact le_of_lt hlt
      · exact h3 z hz
    · refine ⟨x, by rw [listMin, h1]; simp [hlt], List.mem_cons_self, ?_⟩
      intro z hz
      rcases List.mem_cons.mp hz with rfl | hz
      · exact le_refl _
      · exact le_trans (not_lt.mp hlt) (h3 z hz)

theorem listMin_of_least {l : List Int} {m : Int} (hm : m ∈ l) (hle : ∀ x ∈ l, m ≤ x) : listMin l = some m := by
  obtain ⟨m', h1, h2, h3⟩ := listMin_spec l (List.ne_nil_of_mem hm)
  rw [h1, le_antisymm (h3 m hm) (hle m' h2)]

variable {N scale : Nat}

/-- the store hands out the integer of a least waiting packet -/
theorem listMin_codes {l : List PutRec} {w : PutRec} (hw : IsLeast N scale l w) :
    listMin (l.map (codeOf N scale)) = some (codeOf N scale w) := by
  refine listMin_of_least (List.mem_map.mpr ⟨w, hw.1, rfl⟩) ?_
  intro x hx
  obtain ⟨y, hy, rfl⟩ := List.mem_map.mp hx
  exact hw.2 y hy

/-- taking that integer out is taking the packet out (the codes of the waiting packets are pairwise different at `w`) -/
theorem erase_codes {l : List PutRec} {w : PutRec} (hinj : ∀ x ∈ l, codeOf N scale x = codeOf N scale w → x = w) :
    (l.map (codeOf N scale)).erase (codeOf N scale w) = (l.erase w).map (codeOf N scale) := by
  induction l with
  | nil => rfl
  | cons x xs ih =>
    by_cases hx : x = w
    · subst hx; simp
    · have hc : codeOf N scale x ≠ codeOf N scale w := fun h => hx (hinj x List.mem_cons_self h)
      rw [List.map_cons, List.erase_cons_tail (by simpa using hc), List.erase_cons_tail (by simpa using hx), List.map_cons,
        ih (fun y hy => hinj y (List.mem_cons_of_mem _ hy))]

theorem exists_isLeast : ∀ l : List PutRec, l ≠ [] → ∃ w, IsLeast N scale l w := by
  intro l hl
  obtain ⟨m, _, h2, h3⟩ := listMin_spec (l.map (codeOf N scale)) (by simpa using hl)
  obtain ⟨w, hw, rfl⟩ := List.mem_map.mp h2
  exact ⟨w, hw, fun x hx => h3 _ (List.mem_map.mpr ⟨x, hx, rfl⟩)⟩

/-- the attribute cells are pairwise different (in the form `simp` uses) -/
@[vck] theorem cells_ne (f f' : Nat) :
    (cCount f = cCount f') = (f = f') ∧ (cCount f = cBytes f') = False ∧ (cCount f = cVc f') = False ∧
    (cCount f = cAux f') = False ∧ (cBytes f = cCount f') = False ∧ (cBytes f = cBytes f') = (f = f') ∧
    (cBytes f = cVc f') = False ∧ (cBytes f = cAux f') = False ∧ (cVc f = cCount f') = False ∧
    (cVc f = cBytes f') = False ∧ (cVc f = cVc f') = (f = f') ∧ (cVc f = cAux f') = False ∧
    (cAux f = cCount f') = False ∧ (cAux f = cBytes f') = False ∧ (cAux f = cVc f') = False ∧
    (cAux f = cAux f') = (f = f') := by
  simp only [cCount, cBytes, cVc, cAux, eq_iff_iff, iff_false]
  omega

@[vck] theorem cRecv_ne_cCur : (cRecv = cCur) = False ∧ (cCur = cRecv) = False := by
  simp only [cRecv, cCur, eq_iff_iff, iff_false]
  omega

@[vck] theorem cells_ne_fixed (f : Nat) :
    (cRecv = cCount f) = False ∧ (cRecv = cBytes f) = False ∧
    (cRecv = cVc f) = False ∧ (cRecv = cAux f) = False ∧
    (cCur = cCount f) = False ∧ (cCur = cBytes f) = False ∧ (cCur = cVc f) = False ∧
    (cCur = cAux f) = False ∧ (cCount f = cRecv) = False ∧ (cCount f = cCur) = False ∧
    (cBytes f = cRecv) = False ∧ (cBytes f = cCur) = False ∧ (cVc f = cRecv) = False ∧
    (cVc f = cCur) = False ∧ (cAux f = cRecv) = False ∧ (cAux f = cCur) = False := by
  simp only [cRecv, cCur, cCount, cBytes, cVc, cAux, eq_iff_iff, iff_false]
  omega

@[vck] theorem pst_eq : pst = 0 := rfl

theorem runBurst_call (p : EvId) (c : Call ℚ St) (k : Reply → Burst ℚ St) (S : KS) :
    runBurst p (.call c k) S = runBurst p (k (doCall S p c).2) (noteErr p (doCall S p c)) := rfl

theorem runBurst_loadInt (p : EvId) (k : Nat) (n : Int) (cont : Int → Burst ℚ St) (S : KS)
    (h : lookup S.shared k = .int n) : runBurst p (loadInt k cont) S = runBurst p (cont n) S := by
  simp [loadInt, runBurst_call, doCall_load, noteErr, h]

theorem runBurst_addInt (p : EvId) (k : Nat) (n d : Int) (cont : Burst ℚ St) (S : KS)
    (h : lookup S.shared k = .int n) :
    runBurst p (addInt k d cont) S =
      runBurst p cont { S with shared := (k, .int (n + d)) :: S.shared.filter (·.1 != k) } := by
  simp [addInt, loadInt, runBurst_call, doCall_load, doCall_store, noteErr, h]

/-- `d[class_id]` on a dict of scalars whose cell holds `x` -/
theorem runBurst_loadKey (p : EvId) (k : Nat) (x : ℚ) (cont : ℚ → Burst ℚ St) (S : KS)
    (h : lookup S.shared k = TimeCell.enc x) : runBurst p (loadKey k cont) S = runBurst p (cont x) S := by
  simp [loadKey, runBurst_call, doCall_load, noteErr, h, TimerK.dec_enc]

/-- a resumption starts with the attribute cells of the state before the step -/
theorem burst_shared (s : KS) (q : QEntry ℚ) (rest : List (QEntry ℚ)) (p e : EvId) (r : Resume) (t : ℚ) :
    ((deliverSt (openEvent s q rest) p e).emit (.resumed p r t)).shared = s.shared := by
  unfold deliverSt
  split <;> rfl

end VCK
