import OnlVerif.Lemmas.TBKRun
import OnlVerif.Lemmas.Fifo
import OnlVerif.Lemmas.FifoKCommon
/-!
# The token bucket on the kernel model: every configuration step is accepted by the FifoServer LTS of the shaper

`toF a now lg ol` is the LTS state (`Net/Fifo.lean` with `TokenBucket.dev`) a configuration stands for, with `lg`, `ol` in the
ghost fields of the device state (`log`, `outLog`: written by the LTS for its own theorems, read by no decision).  For each
constructor of `AStep` the LTS accepts the corresponding action (`init`, `put`, `handoff`, `resume`, `fire`, or nothing)
from `toF a` to `toF a'`, whatever the ghost values; and the clock advance is an accepted `tick`.
-/

set_option linter.unusedSimpArgs false

namespace TBK
open TBOnK QEntry

variable {size : Int → Nat} {cfg : TbCfg ℚ}
variable {a : A} {now : ℚ} {q : QEntry ℚ} {n e : Nat}

/-- **the LTS state a configuration stands for** -/
def toF (size : Int → Nat) (a : A) (now : ℚ) (lg ol : List (ℚ × Nat)) : FState ℚ (TbSt ℚ) :=
  { now := now
    dev := { level := a.level, upd := a.upd, received := a.cts.length, sent := a.sent.toNat,
             tokWait := match a.run with | .T1 _ _ _ => true | _ => false, log := lg, outLog := ol }
    items := a.items.map (pktOf size)
    getPending := match a.run with | .W _ _ => true | _ => false
    handed := match a.run with | .H _ id _ _ => some (pktOf size id) | _ => none
    tx := match a.run with
      | .T1 _ id q => some (pktOf size id, q.time, 0)
      | .T2 _ id q k => some (pktOf size id, q.time, k)
      | _ => none
    started := match a.run with | .init _ => false | _ => true }

/-- what the LTS side of a configuration step delivers: from every ghost value, an accepted action sequence into the new
configuration's LTS state with some ghost value, with the packets that entered and left -/
def LtsOK (size : Int → Nat) (cfg : TbCfg ℚ) (a : A) (t : ℚ) (a' : A) (ins outs : List Nat) : Prop :=
  ∀ lg ol, ∃ lg' ol' acts, Fifo.runActs (TokenBucket.dev cfg) (toF size a t lg ol) acts = .ok (toF size a' t lg' ol', ins, outs)

theorem ltsOK_nothing {a' : A} {t : ℚ} (h : ∀ lg ol, toF size a' t lg ol = toF size a t lg ol) :
    LtsOK size cfg a t a' [] [] := by
  intro lg ol
  exact ⟨lg, ol, [], by rw [h]; rfl⟩

theorem ltsOK_one {a' : A} {t : ℚ} (act : FAct ℚ) (ins outs : List Nat)
    (h : ∀ lg ol, ∃ lg' ol' o, Fifo.step (TokenBucket.dev cfg) (toF size a t lg ol) act = .ok (toF size a' t lg' ol', o) ∧
      Fifo.entered act o = ins ∧ Fifo.left o = outs) : LtsOK size cfg a t a' ins outs := by
  intro lg ol
  obtain ⟨lg', ol', o, h1, h2, h3⟩ := h lg ol
  refine ⟨lg', ol', [act], ?_⟩
  simp only [Fifo.runActs, h1, h2, h3, List.append_nil]

/-- the ids of the packets put / sent out in a step -/
def putIds : List (HEv ℚ) → List Nat
  | [] => []
  | .put id _ :: r => id.toNat :: putIds r
  | _ :: r => putIds r

def outIds : List (HEv ℚ) → List Nat
  | [] => []
  | .out id _ :: r => id.toNat :: outIds r
  | _ :: r => outIds r

theorem putIds_append (l1 l2 : List (HEv ℚ)) : putIds (l1 ++ l2) = putIds l1 ++ putIds l2 := by
  induction l1 with
  | nil => rfl
  | cons x r ih => cases x <;> simp [putIds, ih]

theorem outIds_append (l1 l2 : List (HEv ℚ)) : outIds (l1 ++ l2) = outIds l1 ++ outIds l2 := by
  induction l1 with
  | nil => rfl
  | cons x r ih => cases x <;> simp [outIds, ih]

theorem refill_eq (lg ol : List (ℚ × Nat)) (w : Bool) :
    TokenBucket.refillLevel cfg
      ({ level := a.level, upd := a.upd, received := a.cts.length, sent := a.sent.toNat, tokWait := w, log := lg,
         outLog := ol } : TbSt ℚ) q.time = refillA cfg a q.time := rfl

/-- **`run` calls `store.get()`**: the LTS's `issueGet` between two packets is `A.get` -/
theorem toF_get (a : A) (t : ℚ) (lg ol : List (ℚ × Nat)) :
    Fifo.issueGet ({ now := t, items := a.items.map (pktOf size), started := true
                     dev := { level := a.level, upd := a.upd, received := a.cts.length, sent := a.sent.toNat, log := lg,
                              outLog := ol } } : FState ℚ (TbSt ℚ)) = toF size (a.get n e t) t lg ol := by
  unfold A.get Fifo.issueGet
  cases a.items <;> rfl

/-- **every configuration step is accepted by the LTS of the shaper**, whatever the ghost values -/
theorem lts_step {a' : A} {new : List (HEv ℚ)} (hi : AInv cfg a q.time) (hsent : 0 ≤ a.sent)
    (hs : AStep size cfg n e a q a' new) : LtsOK size cfg a q.time a' (putIds new) (outIds new) := by
  have hrun := hi.run
  have hsn : (a.sent + 1).toNat = a.sent.toNat + 1 := by omega
  cases hs with
  | runInit h =>
    rw [h] at hrun
    refine ltsOK_one .init [] [] (fun lg ol => ⟨lg, ol, .nothing, ?_, rfl, rfl⟩)
    rw [← toF_get]
    simp [Fifo.step, toF, h]
  | serveTok g id t0 h hlt =>
    refine ltsOK_one (.resume 0 0) [] [] (fun lg ol => ⟨lg, ol, .nothing, ?_, rfl, rfl⟩)
    have hlt' : refillA cfg a q.time < Num.ofNat (pktOf (τ := ℚ) size id).size := by rw [Num.ofNat_rat]; exact hlt
    simp [Fifo.step, toF, h, Fifo.proceed, TokenBucket.dev, TokenBucket.onResume, refill_eq, hlt', TokenBucket.startWait,
      TokenBucket.refill]
  | serveDebit g id t0 h hlt =>
    have hlt' : ¬ refillA cfg a q.time < Num.ofNat (pktOf (τ := ℚ) size id).size := by rw [Num.ofNat_rat]; exact hlt
    unfold A.afterDebit
    cases hpeak : TokenBucket.peakOn cfg with
    | some k =>
      refine ltsOK_one (.resume 0 0) [] [] (fun lg ol => ⟨(q.time, size id) :: lg, ol, .nothing, ?_, rfl, rfl⟩)
      simp [Fifo.step, toF, h, Fifo.proceed, TokenBucket.dev, TokenBucket.onResume, refill_eq, hlt', hlt, TokenBucket.afterDebit,
        hpeak, TokenBucket.debitNow, TokenBucket.refill, pktOf, Num.ofNat_rat]
    | none =>
      refine ltsOK_one (.resume 0 0) [] [id.toNat]
        (fun lg ol => ⟨(q.time, size id) :: lg, (q.time, size id) :: ol, .depart (pktOf size id), ?_, rfl, rfl⟩)
      rw [← toF_get]
      simp [Fifo.step, toF, h, Fifo.proceed, TokenBucket.dev, TokenBucket.onResume, refill_eq, hlt', hlt, TokenBucket.afterDebit,
        hpeak, TokenBucket.debitNow, TokenBucket.refill, TokenBucket.logOut, TokenBucket.onDone, hsn, pktOf, Num.ofNat_rat]
  | tok t id h =>
    unfold A.afterDebit
    cases hpeak : TokenBucket.peakOn cfg with
    | some k =>
      refine ltsOK_one .fire [] [] (fun lg ol => ⟨(q.time, size id) :: lg, ol, .nothing, ?_, rfl, rfl⟩)
      simp [Fifo.step, toF, h, Fifo.proceed, TokenBucket.dev, TokenBucket.onFire, TokenBucket.afterDebit, hpeak,
        TokenBucket.debitAfterWait, pktOf, zero_eq']
    | none =>
      refine ltsOK_one .fire [] [id.toNat]
        (fun lg ol => ⟨(q.time, size id) :: lg, (q.time, size id) :: ol, .depart (pktOf size id), ?_, rfl, rfl⟩)
      rw [← toF_get]
      simp [Fifo.step, toF, h, Fifo.proceed, TokenBucket.dev, TokenBucket.onFire, TokenBucket.afterDebit, hpeak,
        TokenBucket.debitAfterWait, TokenBucket.logOut, TokenBucket.onDone, hsn, pktOf, zero_eq']
  | peak t id k h =>
    refine ltsOK_one .fire [] [id.toNat]
      (fun lg ol => ⟨lg, (q.time, size id) :: ol, .depart (pktOf size id), ?_, rfl, rfl⟩)
    rw [← toF_get]
    simp [Fifo.step, toF, h, Fifo.proceed, TokenBucket.dev, TokenBucket.onFire, TokenBucket.logOut, TokenBucket.onDone, hsn, pktOf]
  | srcInit arr h => exact ltsOK_nothing (fun _ _ => rfl)
  | srcPut next arr h =>
    refine ltsOK_one (.put (pktOf size (next : Int))) [next] [] (fun lg ol => ⟨lg, ol, .accepted, ?_, by simp [Fifo.entered, pktOf], rfl⟩)
    simp only [Fifo.step, toF, TokenBucket.dev, TokenBucket.admitPkt, if_true, List.map_append, List.map_cons, List.map_nil,
      List.length_append, List.length_singleton]
  | srcEnd h => exact ltsOK_nothing (fun _ _ => rfl)
  | pendNoop l1 l2 hpe hno => exact ltsOK_nothing (fun _ _ => rfl)
  | pendHand g t0 i is l1 l2 hpe h hit =>
    refine ltsOK_one .handoff [] [] (fun lg ol => ⟨lg, ol, .nothing, ?_, rfl, rfl⟩)
    simp [Fifo.step, toF, h, hit]

theorem A.get_sent (a : A) (n e : Nat) (now : ℚ) : (a.get n e now).sent = a.sent := by
  unfold A.get; split <;> rfl

theorem sent_debit (h : 0 ≤ a.sent) (lv up : ℚ) (now : ℚ) (id : Int) (k : Nat) :
    0 ≤ (A.afterDebit size cfg { a with level := lv, upd := up } n e now id k).1.sent := by
  unfold A.afterDebit
  split
  · exact h
  · rw [A.get_sent]; exact Int.add_nonneg h (by decide)

theorem sent_step {a' : A} {new : List (HEv ℚ)} (h : 0 ≤ a.sent) (hs : AStep size cfg n e a q a' new) : 0 ≤ a'.sent := by
  cases hs with
  | runInit => rwa [A.get_sent]
  | serveDebit => exact sent_debit h ..
  | tok => exact sent_debit h ..
  | peak => rw [A.get_sent]; exact Int.add_nonneg h (by decide)
  | _ => exact h

/-- the LTS accepts the clock advance to the next entry, whatever the ghost values -/
theorem lts_tick (hi : AInv cfg a now) (hq : IsMin a q) (h : now < q.time) (lg ol : List (ℚ × Nat)) :
    Fifo.step (TokenBucket.dev cfg) (toF size a now lg ol) (.tick q.time) = .ok (toF size a q.time lg ol, .nothing) := by
  have hr := (hi.idle hq h).2.1.2
  have hnlt : ¬ q.time < now := not_lt.mpr (le_of_lt h)
  cases hrun : a.run with
  | init q0 => rw [hrun] at hr; exact hr.elim
  | H g id q0 t0 => rw [hrun] at hr; exact hr.elim
  | W g t0 => rw [hrun] at hr; simp [Fifo.step, toF, hrun, hnlt, hr]
  | T1 t id q0 | T2 t id q0 k =>
    have h2 : ¬ q0.time < q.time := not_lt.mpr (not_keyLt_time (hq.2 q0 (mem_run (by simp [hrun, RPhase.entries]))))
    simp [Fifo.step, toF, hrun, hnlt, h2]

/-- zero or one `tick` brings the LTS to the instant of the next entry -/
theorem lts_advance (hi : AInv cfg a now) (hq : IsMin a q) (lg ol : List (ℚ × Nat)) :
    ∃ acts, Fifo.runActs (TokenBucket.dev cfg) (toF size a now lg ol) acts = .ok (toF size a q.time lg ol, [], []) := by
  rcases eq_or_lt_of_le (hi.now_le hq) with h | h
  · exact ⟨[], by rw [← h]; rfl⟩
  · refine ⟨[.tick q.time], ?_⟩
    simp [Fifo.runActs, lts_tick hi hq h lg ol, Fifo.entered, Fifo.left]

/-- **a configuration step with the clock advance before it** is a sequence of actions the LTS accepts from `toF a` to `toF a'`,
whatever the ghost values, in which the packets that entered / left are those the step reports -/
theorem lts_astep {a' : A} {new : List (HEv ℚ)} (hi : AInv cfg a now) (hq : IsMin a q) (hsent : 0 ≤ a.sent)
    (hs : AStep size cfg n e a q a' new) (lg ol : List (ℚ × Nat)) :
    ∃ lg' ol' acts, Fifo.runActs (TokenBucket.dev cfg) (toF size a now lg ol) acts =
      .ok (toF size a' q.time lg' ol', putIds new, outIds new) := by
  obtain ⟨acts0, h0⟩ := lts_advance (size := size) hi hq lg ol
  obtain ⟨lg', ol', acts, h1⟩ := lts_step (hi.advance hq) hsent hs lg ol
  exact ⟨lg', ol', acts0 ++ acts, by simpa using Fifo.runActs_append _ _ _ _ _ _ _ _ _ _ h0 h1⟩

theorem toF_a0 (arrivals : List ℚ) :
    toF size (a0 cfg arrivals) 0 [] [] = Fifo.init (TokenBucket.st0 cfg) 0 := by
  simp [toF, a0, Fifo.init, TokenBucket.st0, zero_eq']

end TBK
