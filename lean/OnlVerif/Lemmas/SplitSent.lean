import OnlVerif.Lemmas.SplitRename
import OnlVerif.Lemmas.KernelRel
/-!
# The state of a run that carries a `run(until=t)` sentinel (C03, stage 3): the transformation `T`

`c.T queued s` is the state of the split run that corresponds to the state `s` of the uninterrupted run: one extra
(sentinel) event record at index `c.u`, every event id renamed by `shAt c.u`, the `eid` counter one ahead, and — while
the sentinel is queued — one extra agenda entry `(c.t, URGENT, c.eid0, c.u)` at its insertion-stable position.
This file: the definition, the reads, and the leaf updates.  `Inv c s` (`c.u ≤ events.size`, `c.eid0 ≤ eid`) holds for
every state after the split; it is monotone along every transformer of the model (`Grow.krel`).
-/

variable {σ : Type}

structure SplitCfg (σ : Type) where
  /-- index of the sentinel record = `events.size` at the split -/
  u : Nat
  upos : 0 < u
  /-- value of the `eid` counter at the split = `eid` of the sentinel's agenda entry -/
  eid0 : Nat
  /-- the `until` time -/
  t : ℚ
  /-- renaming of the event ids kept in local process states -/
  rσ : σ → σ

namespace SplitCfg
variable (c : SplitCfg σ)

def ρ : EvId → EvId := shAt c.u

theorem ρ_inj : ∀ a b, c.ρ a = c.ρ b → a = b := fun _ _ h => shAt_inj c.u h
theorem ρ_zero : c.ρ 0 = 0 := shAt_of_lt c.upos
theorem ρ_ne_u (e : Nat) : c.ρ e ≠ c.u := shAt_ne c.u e
theorem ρ_ge {e : EvId} (h : c.u ≤ e) : c.ρ e = e + 1 := shAt_of_ge h
theorem ρ_lt {e : EvId} (h : e < c.u) : c.ρ e = e := shAt_of_lt h
theorem ρ_beq (a b : EvId) : (c.ρ a == c.ρ b) = (a == b) := by
  rw [Bool.eq_iff_iff, beq_iff_eq, beq_iff_eq]
  exact ⟨c.ρ_inj a b, congrArg c.ρ⟩

def rnEntry (q : QEntry ℚ) : QEntry ℚ :=
  { q with ev := c.ρ q.ev, eid := if c.eid0 ≤ q.eid then q.eid + 1 else q.eid }

def sentEntry : QEntry ℚ := { time := c.t, prio := URGENT, eid := c.eid0, ev := c.u }

/-- the sentinel entry sits behind every entry pushed after it and in front of every entry pushed before it -/
def insSent : List (QEntry ℚ) → List (QEntry ℚ)
  | [] => [c.sentEntry]
  | x :: xs => if x.eid < c.eid0 then c.sentEntry :: (x :: xs).map c.rnEntry else c.rnEntry x :: insSent xs

def agT (queued : Bool) (l : List (QEntry ℚ)) : List (QEntry ℚ) := if queued then c.insSent l else l.map c.rnEntry

/-- the sentinel's record: while queued it carries the stop; once popped it is processed (dead) -/
def deadRec (queued : Bool) : EvRec ℚ :=
  { kind := .sentinel, cbs := if queued then some [.stop] else none, out := some (.ok .none) }

def T (queued : Bool) (s : KState ℚ σ) : KState ℚ σ :=
  { now := s.now
    agenda := c.agT queued s.agenda
    eid := s.eid + 1
    events := (s.events.map (rnRec c.ρ)).insertIdxIfInBounds c.u (deadRec queued)
    procs := s.procs.map (fun pr => (c.ρ pr.1, rnProc c.ρ c.rσ pr.2))
    active := s.active.map c.ρ
    trace := s.trace.map (rnObs c.ρ)
    shared := s.shared.map (fun kv => (kv.1, rnVal c.ρ kv.2))
    resources := s.resources.map (rnRes c.ρ)
    nlabel := s.nlabel }

structure Inv (s : KState ℚ σ) : Prop where
  size : c.u ≤ s.events.size
  eid : c.eid0 ≤ s.eid

end SplitCfg

def Grow (s s' : KState ℚ σ) : Prop := s.eid ≤ s'.eid ∧ s.events.size ≤ s'.events.size

theorem KState.size_setEv (s : KState ℚ σ) (e : EvId) (r : EvRec ℚ) : (s.setEv e r).events.size = s.events.size :=
  Array.size_setIfInBounds

theorem Grow.refl (s : KState ℚ σ) : Grow s s := ⟨Nat.le_refl _, Nat.le_refl _⟩
/-- an update of one event record (`setOut`, `defuse`, `bumpCount`, `setUsage`, `eraseCb`, `addCb` are such) -/
theorem Grow.setEv (s : KState ℚ σ) (e : EvId) (r : EvRec ℚ) : Grow s (s.setEv e r) :=
  ⟨Nat.le_refl _, Nat.le_of_eq (s.size_setEv e r).symm⟩
theorem Grow.push (s : KState ℚ σ) (r : EvRec ℚ) (nl : Nat) : Grow s { s with events := s.events.push r, nlabel := nl } :=
  ⟨Nat.le_refl _, (Array.size_push r).symm ▸ Nat.le_succ _⟩

/-- a relation that looks only at the agenda, the `eid` counter and the length of the event table is checked on three
leaves: an update that keeps all three, a pushed record, a scheduled entry -/
theorem KRel.of_counters {R : KState ℚ σ → KState ℚ σ → Prop} (refl : ∀ s, R s s)
    (trans : ∀ {s1 s2 s3}, R s1 s2 → R s2 s3 → R s1 s3)
    (frame : ∀ s s' : KState ℚ σ, s'.agenda = s.agenda → s'.eid = s.eid → s'.events.size = s.events.size → R s s')
    (push : ∀ (s : KState ℚ σ) r nl, R s { s with events := s.events.push r, nlabel := nl })
    (schedule : ∀ (s : KState ℚ σ) e p d, R s (s.schedule e p d)) : KRel R where
  refl := refl
  trans := trans
  emit _ _ := frame _ _ rfl rfl rfl
  active _ _ := frame _ _ rfl rfl rfl
  shared _ _ := frame _ _ rfl rfl rfl
  setProc _ _ _ := frame _ _ rfl rfl rfl
  newEv s r _ := push s r _
  newLabelled s _ _ := push s _ _
  newReq s _ _ _ _ := push s _ _
  schedule s e p d _ _ := schedule s e p d
  setOut s e _ := frame _ _ rfl rfl (s.size_setEv e _)
  defuse s e := frame _ _ rfl rfl (s.size_setEv e _)
  bumpCount s e := frame _ _ rfl rfl (s.size_setEv e _)
  setUsage s e := frame _ _ rfl rfl (s.size_setEv e _)
  eraseCb s e _ := frame _ _ rfl rfl (s.size_setEv e _)
  addCb s e _ _ := frame _ _ rfl rfl (s.size_setEv e _)
  eraseUser _ _ _ := frame _ _ rfl rfl rfl
  addUser _ _ _ _ _ := frame _ _ rfl rfl rfl
  addLevel _ _ _ _ _ := frame _ _ rfl rfl rfl
  subLevel _ _ _ _ _ := frame _ _ rfl rfl rfl
  addItem _ _ _ _ _ := frame _ _ rfl rfl rfl
  tailItems _ _ := frame _ _ rfl rfl rfl
  eraseItem _ _ _ := frame _ _ rfl rfl rfl
  dropPutQ _ _ _ := frame _ _ rfl rfl rfl
  dropGetQ _ _ _ := frame _ _ rfl rfl rfl
  enqPut _ _ _ _ := frame _ _ rfl rfl rfl
  enqGet _ _ _ _ := frame _ _ rfl rfl rfl

theorem Grow.krel : KRel (Grow (σ := σ)) :=
  KRel.of_counters Grow.refl (fun h1 h2 => ⟨Nat.le_trans h1.1 h2.1, Nat.le_trans h1.2 h2.2⟩)
    (fun _ _ _ he hs => ⟨Nat.le_of_eq he.symm, Nat.le_of_eq hs.symm⟩) Grow.push
    (fun _ _ _ _ => ⟨Nat.le_succ _, Nat.le_refl _⟩)

theorem getElem?_setIfInBounds_eq {α : Type} (a : Array α) (i j : Nat) (v : α) :
    (a.setIfInBounds i v)[j]? = if i = j then (a[j]?).map (fun _ => v) else a[j]? := by
  rw [Array.getElem?_setIfInBounds]
  split
  · rename_i hij
    subst hij
    split
    · rename_i hlt; rw [Array.getElem?_eq_getElem hlt]; rfl
    · rename_i hge; rw [Array.getElem?_eq_none (Nat.le_of_not_lt hge)]; rfl
  · rfl

theorem SplitCfg.Inv.mono {c : SplitCfg σ} {s s' : KState ℚ σ} (h : c.Inv s) (g : Grow s s') : c.Inv s' :=
  ⟨Nat.le_trans h.size g.2, Nat.le_trans h.eid g.1⟩

namespace SplitCfg
section inv
variable {c : SplitCfg σ} {s : KState ℚ σ}

theorem Inv.of_eq {s' : KState ℚ σ} (h : c.Inv s) (h1 : s'.events.size = s.events.size) (h2 : s'.eid = s.eid) : c.Inv s' :=
  ⟨h1 ▸ h.size, h2 ▸ h.eid⟩

@[ksent] theorem Inv.setEv (h : c.Inv s) (e : Nat) (r : EvRec ℚ) : c.Inv (s.setEv e r) :=
  h.of_eq (s.size_setEv e r) rfl
@[ksent] theorem Inv.setOut (h : c.Inv s) (e : Nat) (o : Outcome) : c.Inv (s.setOut e o) := h.setEv _ _
@[ksent] theorem Inv.defuse (h : c.Inv s) (e : Nat) : c.Inv (s.defuse e) := h.setEv _ _
@[ksent] theorem Inv.bumpCount (h : c.Inv s) (e : Nat) : c.Inv (s.bumpCount e) := h.setEv _ _
@[ksent] theorem Inv.setUsage (h : c.Inv s) (e : Nat) : c.Inv (s.setUsage e) := h.setEv _ _
@[ksent] theorem Inv.eraseCb (h : c.Inv s) (e : Nat) (cb : Cb) : c.Inv (s.eraseCb e cb) := h.setEv _ _
@[ksent] theorem Inv.addCb (h : c.Inv s) (e : Nat) (cb : Cb) : c.Inv (s.addCb e cb) := h.setEv _ _
@[ksent] theorem Inv.schedule (h : c.Inv s) (e p : Nat) (d : ℚ) : c.Inv (s.schedule e p d) :=
  ⟨h.size, Nat.le_succ_of_le h.eid⟩
@[ksent] theorem Inv.trigger (h : c.Inv s) (e : Nat) (o : Outcome) : c.Inv (s.trigger e o) := (h.setOut e o).schedule _ _ _
@[ksent] theorem Inv.newEv (h : c.Inv s) (r : EvRec ℚ) : c.Inv (s.newEv r).1 := h.mono (Grow.push s r _)
@[ksent] theorem Inv.newLabelled (h : c.Inv s) (r : EvRec ℚ) : c.Inv (s.newLabelled r).1 := h.mono (Grow.push s _ _)
@[ksent] theorem Inv.emit (h : c.Inv s) (o : Obs ℚ) : c.Inv (s.emit o) := h.of_eq rfl rfl
@[ksent] theorem Inv.setProc (h : c.Inv s) (p : Nat) (r : ProcRec σ) : c.Inv (s.setProc p r) := h.of_eq rfl rfl
@[ksent] theorem Inv.setRes (h : c.Inv s) (r : ResId) (x : ResRec) : c.Inv (s.setRes r x) := h.of_eq rfl rfl
@[ksent] theorem Inv.setUsers (h : c.Inv s) (r : ResId) (l : List EvId) : c.Inv (s.setUsers r l) := h.of_eq rfl rfl
@[ksent] theorem Inv.setLevel (h : c.Inv s) (r : ResId) (x : Int) : c.Inv (s.setLevel r x) := h.of_eq rfl rfl
@[ksent] theorem Inv.setItems (h : c.Inv s) (r : ResId) (l : List Int) : c.Inv (s.setItems r l) := h.of_eq rfl rfl
@[ksent] theorem Inv.setPutQ (h : c.Inv s) (r : ResId) (l : List EvId) : c.Inv (s.setPutQ r l) := h.of_eq rfl rfl
@[ksent] theorem Inv.setGetQ (h : c.Inv s) (r : ResId) (l : List EvId) : c.Inv (s.setGetQ r l) := h.of_eq rfl rfl
@[ksent] theorem Inv.withActive (h : c.Inv s) (a : Option EvId) : c.Inv ({ s with active := a } : KState ℚ σ) := h.of_eq rfl rfl
@[ksent] theorem Inv.withShared (h : c.Inv s) (l : List (Nat × Val)) : c.Inv ({ s with shared := l } : KState ℚ σ) :=
  h.of_eq rfl rfl

end inv

variable (c : SplitCfg σ) (q : Bool) (s : KState ℚ σ)

theorem rnRec_default (ρ : EvId → EvId) : rnRec ρ (default : EvRec ℚ) = default := rfl
theorem rnRes_default (ρ : EvId → EvId) : rnRes ρ (default : ResRec) = default := rfl

theorem getElem?_T (h : c.Inv s) (j : Nat) :
    (c.T q s).events[j]? =
      if j < c.u then (s.events[j]?).map (rnRec c.ρ)
      else if j = c.u then some (deadRec q) else (s.events[j - 1]?).map (rnRec c.ρ) := by
  have hs : c.u ≤ (s.events.map (rnRec c.ρ)).size := by simp; exact h.size
  show ((s.events.map (rnRec c.ρ)).insertIdxIfInBounds c.u (deadRec q))[j]? = _
  unfold Array.insertIdxIfInBounds
  rw [dif_pos hs, Array.getElem?_insertIdx hs]
  simp only [Array.getElem?_map, Array.size_map]
  have hsz := h.size
  split
  · rfl
  · split
    · rename_i h1 h2; rw [if_pos (by omega)]
    · rfl

@[ksent] theorem r_size (h : c.Inv s) : (c.T q s).events.size = s.events.size + 1 := by
  have hs : c.u ≤ (s.events.map (rnRec c.ρ)).size := by simp; exact h.size
  show ((s.events.map (rnRec c.ρ)).insertIdxIfInBounds c.u (deadRec q)).size = _
  unfold Array.insertIdxIfInBounds
  rw [dif_pos hs, Array.size_insertIdx hs, Array.size_map]

theorem idx_T (j : Nat) : j = c.u ∨ ∃ e, c.ρ e = j := by
  rcases Nat.lt_trichotomy j c.u with h | h | h
  · exact Or.inr ⟨j, c.ρ_lt h⟩
  · exact Or.inl h
  · obtain ⟨i, rfl⟩ := Nat.exists_eq_succ_of_ne_zero (Nat.ne_of_gt (Nat.lt_of_le_of_lt (Nat.zero_le _) h))
    exact Or.inr ⟨i, c.ρ_ge (Nat.le_of_lt_succ h)⟩

/-! The split table is read at `c.u` and at the images `c.ρ i`; with `idx_T`, equations between tables are checked at these. -/

theorem getElem?_T_u (h : c.Inv s) : (c.T q s).events[c.u]? = some (deadRec q) := by
  rw [c.getElem?_T q s h, if_neg (Nat.lt_irrefl _), if_pos rfl]

theorem getElem?_T_ρ (h : c.Inv s) (i : Nat) : (c.T q s).events[c.ρ i]? = (s.events[i]?).map (rnRec c.ρ) := by
  rw [c.getElem?_T q s h]
  by_cases hi : i < c.u
  · rw [c.ρ_lt hi, if_pos hi]
  · have hge : c.u ≤ i := Nat.not_lt.mp hi
    rw [c.ρ_ge hge, if_neg (by omega), if_neg (by omega), Nat.add_sub_cancel]

@[ksent] theorem r_ev (h : c.Inv s) (e : Nat) : (c.T q s).ev (c.ρ e) = rnRec c.ρ (s.ev e) := by
  simp only [KState.ev, Array.getD_eq_getD_getElem?, c.getElem?_T_ρ q s h]
  cases s.events[e]? <;> rfl

theorem ev_T_u (h : c.Inv s) : (c.T q s).ev c.u = deadRec q := by
  simp only [KState.ev, Array.getD_eq_getD_getElem?, c.getElem?_T_u q s h]
  rfl

@[ksent] theorem r_ρ_size (h : c.Inv s) : c.ρ s.events.size = s.events.size + 1 := c.ρ_ge h.size

@[ksent] theorem r_res (r : ResId) : (c.T q s).res r = rnRes c.ρ (s.res r) := by
  show (s.resources.map (rnRes c.ρ)).getD r default = rnRes c.ρ (s.resources.getD r default)
  simp only [Array.getD_eq_getD_getElem?, Array.getElem?_map]
  cases s.resources[r]? <;> rfl

@[ksent] theorem r_proc? (p : Nat) : (c.T q s).proc? (c.ρ p) = (s.proc? p).map (rnProc c.ρ c.rσ) := by
  show ((s.procs.map (fun pr => (c.ρ pr.1, rnProc c.ρ c.rσ pr.2))).find? (·.1 == c.ρ p)).map (·.2) = _
  unfold KState.proc?
  induction s.procs with
  | nil => rfl
  | cons x xs ih =>
    simp only [List.map_cons, List.find?_cons, c.ρ_beq]
    cases x.1 == p
    · exact ih
    · rfl

theorem size_T (h : c.Inv s) : (c.T q s).events.size = s.events.size + 1 := c.r_size q s h
theorem ev_T (h : c.Inv s) (e : Nat) : (c.T q s).ev (c.ρ e) = rnRec c.ρ (s.ev e) := c.r_ev q s h e
theorem res_T (r : ResId) : (c.T q s).res r = rnRes c.ρ (s.res r) := c.r_res q s r
theorem proc?_T (p : Nat) : (c.T q s).proc? (c.ρ p) = (s.proc? p).map (rnProc c.ρ c.rσ) := c.r_proc? q s p
theorem now_T : (c.T q s).now = s.now := rfl
theorem eid_T : (c.T q s).eid = s.eid + 1 := rfl
theorem nlabel_T : (c.T q s).nlabel = s.nlabel := rfl
theorem active_T : (c.T q s).active = s.active.map c.ρ := rfl

theorem out_T (h : c.Inv s) (e : Nat) : ((c.T q s).ev (c.ρ e)).out = (s.ev e).out.map (rnOutcome c.ρ) := by
  rw [c.r_ev q s h]; rfl
theorem kind_T (h : c.Inv s) (e : Nat) : ((c.T q s).ev (c.ρ e)).kind = rnKind c.ρ (s.ev e).kind := by
  rw [c.r_ev q s h]; rfl
theorem cbs_T (h : c.Inv s) (e : Nat) : ((c.T q s).ev (c.ρ e)).cbs = (s.ev e).cbs.map (·.map (rnCb c.ρ)) := by
  rw [c.r_ev q s h]; rfl
theorem defused_T (h : c.Inv s) (e : Nat) : ((c.T q s).ev (c.ρ e)).defused = (s.ev e).defused := by
  rw [c.r_ev q s h]; rfl
theorem count_T (h : c.Inv s) (e : Nat) : ((c.T q s).ev (c.ρ e)).count = (s.ev e).count := by
  rw [c.r_ev q s h]; rfl
theorem label_T (h : c.Inv s) (e : Nat) : ((c.T q s).ev (c.ρ e)).label = (s.ev e).label := by
  rw [c.r_ev q s h]; rfl
theorem req_T (h : c.Inv s) (e : Nat) : ((c.T q s).ev (c.ρ e)).req = (s.ev e).req.map (rnReq c.ρ) := by
  rw [c.r_ev q s h]; rfl
@[ksent] theorem r_triggered (h : c.Inv s) (e : Nat) : (c.T q s).triggered (c.ρ e) = s.triggered e := by
  unfold KState.triggered; rw [c.out_T q s h]; cases (s.ev e).out <;> rfl
@[ksent] theorem r_processed (h : c.Inv s) (e : Nat) : (c.T q s).processed (c.ρ e) = s.processed e := by
  unfold KState.processed; rw [c.cbs_T q s h]; cases (s.ev e).cbs <;> rfl

@[ksent] theorem i_setEv (h : c.Inv s) (e : Nat) (r : EvRec ℚ) :
    c.T q (s.setEv e r) = (c.T q s).setEv (c.ρ e) (rnRec c.ρ r) := by
  have h' : c.Inv (s.setEv e r) := h.setEv e r
  have hev : (c.T q (s.setEv e r)).events = (c.T q s).events.setIfInBounds (c.ρ e) (rnRec c.ρ r) := by
    apply Array.ext_getElem?
    intro j
    rw [getElem?_setIfInBounds_eq]
    rcases c.idx_T j with rfl | ⟨i, rfl⟩
    · rw [if_neg (c.ρ_ne_u e), c.getElem?_T_u q _ h', c.getElem?_T_u q s h]
    · rw [c.getElem?_T_ρ q _ h', c.getElem?_T_ρ q s h]
      show ((s.events.setIfInBounds e r)[i]?).map _ = _
      rw [getElem?_setIfInBounds_eq]
      by_cases hei : e = i
      · rw [if_pos hei, if_pos (congrArg c.ρ hei)]
        cases s.events[i]? <;> rfl
      · rw [if_neg hei, if_neg (fun hc => hei (c.ρ_inj _ _ hc))]
  show _ = ({ (c.T q s) with events := _ } : KState ℚ σ)
  rw [← hev]
  rfl

theorem T_setEv (h : c.Inv s) (e : Nat) (r : EvRec ℚ) :
    (c.T q s).setEv (c.ρ e) (rnRec c.ρ r) = c.T q (s.setEv e r) :=
  (c.i_setEv q s h e r).symm

theorem T_push (h : c.Inv s) (r : EvRec ℚ) :
    (c.T q s).events.push (rnRec c.ρ r) =
      ((s.events.push r).map (rnRec c.ρ)).insertIdxIfInBounds c.u (deadRec q) := by
  have h' : c.Inv (s.newEv r).1 := h.newEv r
  show _ = (c.T q (s.newEv r).1).events
  apply Array.ext_getElem?
  intro j
  rw [Array.getElem?_push, c.r_size q s h, ← c.r_ρ_size s h]
  rcases c.idx_T j with rfl | ⟨i, rfl⟩
  · rw [if_neg (fun hc => c.ρ_ne_u _ hc.symm), c.getElem?_T_u q _ h', c.getElem?_T_u q s h]
  · rw [c.getElem?_T_ρ q _ h', c.getElem?_T_ρ q s h]
    show _ = ((s.events.push r)[i]?).map _
    rw [Array.getElem?_push]
    by_cases hi : i = s.events.size
    · rw [if_pos hi, if_pos (congrArg c.ρ hi)]; rfl
    · rw [if_neg hi, if_neg (fun hc => hi (c.ρ_inj _ _ hc))]

theorem T_newEv (h : c.Inv s) (r : EvRec ℚ) :
    (c.T q s).newEv (rnRec c.ρ r) = (c.T q (s.newEv r).1, c.ρ (s.newEv r).2) := by
  unfold KState.newEv
  simp only [c.r_size q s h, c.r_ρ_size s h, c.T_push q s h]
  rfl

theorem T_newLabelled (h : c.Inv s) (r : EvRec ℚ) :
    (c.T q s).newLabelled (rnRec c.ρ r) = (c.T q (s.newLabelled r).1, c.ρ (s.newLabelled r).2) := by
  unfold KState.newLabelled
  have := c.T_push q s h { r with label := s.nlabel + 1 }
  simp only [c.r_size q s h, c.r_ρ_size s h]
  show (({ (c.T q s) with events := (c.T q s).events.push (rnRec c.ρ { r with label := s.nlabel + 1 }), nlabel := s.nlabel + 1 } : KState ℚ σ), _) = _
  rw [this]
  rfl

theorem agT_cons (x : QEntry ℚ) (l : List (QEntry ℚ)) (h : c.eid0 ≤ x.eid) :
    c.agT q (x :: l) = c.rnEntry x :: c.agT q l := by
  unfold agT
  cases q
  · rfl
  · simp only [if_true]
    rw [insSent, if_neg (by omega)]

@[ksent] theorem i_schedule (h : c.Inv s) (e p : Nat) (d : ℚ) :
    c.T q (s.schedule e p d) = (c.T q s).schedule (c.ρ e) p d := by
  symm
  have : c.agT q ({ time := s.now + d, prio := p, eid := s.eid, ev := e } :: s.agenda) =
      { time := s.now + d, prio := p, eid := s.eid + 1, ev := c.ρ e } :: c.agT q s.agenda := by
    rw [c.agT_cons q _ _ h.eid]
    unfold rnEntry
    simp only [h.eid, if_true]
  unfold KState.schedule T
  simp only [this]

@[ksent] theorem i_emit (o : Obs ℚ) : c.T q (s.emit o) = (c.T q s).emit (rnObs c.ρ o) := by
  symm
  unfold KState.emit T
  simp only [Array.map_push]

@[ksent] theorem i_setProc (p : Nat) (r : ProcRec σ) :
    c.T q (s.setProc p r) = (c.T q s).setProc (c.ρ p) (rnProc c.ρ c.rσ r) := by
  symm
  unfold KState.setProc T
  simp only [List.map_cons, List.filter_map]
  congr 3
  apply List.filter_congr
  intro x _
  show (!(c.ρ x.1 == c.ρ p)) = !(x.1 == p)
  rw [c.ρ_beq]

@[ksent] theorem i_setRes (r : ResId) (x : ResRec) : c.T q (s.setRes r x) = (c.T q s).setRes r (rnRes c.ρ x) := by
  symm
  show ({ c.T q s with resources := (s.resources.map (rnRes c.ρ)).setIfInBounds r (rnRes c.ρ x) } : KState ℚ σ) = _
  rw [← Array.map_setIfInBounds]
  rfl

theorem T_withActive (a : Option EvId) :
    ({ c.T q s with active := a.map c.ρ } : KState ℚ σ) = c.T q { s with active := a } := rfl

theorem T_withShared (l : List (Nat × Val)) :
    ({ c.T q s with shared := l.map (fun kv => (kv.1, rnVal c.ρ kv.2)) } : KState ℚ σ) = c.T q { s with shared := l } := rfl

end SplitCfg

/-! ## the simp set `ksent`

Orientation: `c.T q` and the renamings are pushed *inward* through updates (`c.T q (s.setOut e o)` becomes
`(c.T q s).setOut (c.ρ e) (rnOutcome c.ρ o)`); reads of `c.T q s` are expressed by reads of `s`. -/

attribute [ksent] List.map_cons List.map_nil List.map_append Option.map_some Option.map_none List.length_map

namespace SplitCfg

variable (c : SplitCfg σ) (q : Bool) (s : KState ℚ σ)

@[ksent] theorem r_now : (c.T q s).now = s.now := rfl
@[ksent] theorem r_eid : (c.T q s).eid = s.eid + 1 := rfl
@[ksent] theorem r_nlabel : (c.T q s).nlabel = s.nlabel := rfl
@[ksent] theorem r_active : (c.T q s).active = s.active.map c.ρ := rfl
@[ksent] theorem r_ρ_size1 (h : c.Inv s) : c.ρ (s.events.size + 1) = s.events.size + 1 + 1 := c.ρ_ge (Nat.le_succ_of_le h.size)
@[ksent] theorem r_ρ_zero : c.ρ 0 = 0 := c.ρ_zero
@[ksent] theorem r_active_eq (p : Nat) : (Option.map c.ρ s.active == some (c.ρ p)) = (s.active == some p) := by
  cases s.active with
  | none => rfl
  | some a => exact c.ρ_beq a p
@[ksent] theorem r_shared_find (k : Nat) :
    ((c.T q s).shared.find? (·.1 == k)).map (·.2) = ((s.shared.find? (·.1 == k)).map (·.2)).map (rnVal c.ρ) := by
  show ((s.shared.map (fun kv => (kv.1, rnVal c.ρ kv.2))).find? (·.1 == k)).map (·.2) = _
  induction s.shared with
  | nil => rfl
  | cons x xs ih =>
    simp only [List.map_cons, List.find?_cons]
    cases x.1 == k
    · exact ih
    · rfl
@[ksent] theorem r_shared_filter (k : Nat) :
    (c.T q s).shared.filter (·.1 != k) = (s.shared.filter (·.1 != k)).map (fun kv => (kv.1, rnVal c.ρ kv.2)) := by
  show (s.shared.map (fun kv => (kv.1, rnVal c.ρ kv.2))).filter (·.1 != k) = _
  rw [List.filter_map]
  rfl

@[ksent] theorem r_erase (l : List EvId) (a : EvId) : (l.erase a).map c.ρ = (l.map c.ρ).erase (c.ρ a) :=
  (map_erase_inj c.ρ_inj l a).symm
@[ksent] theorem r_contains (l : List EvId) (a : EvId) : (l.map c.ρ).contains (c.ρ a) = l.contains a :=
  map_contains_inj c.ρ_inj l a
@[ksent] theorem r_eraseCb (l : List Cb) (a : Cb) : (l.erase a).map (rnCb c.ρ) = (l.map (rnCb c.ρ)).erase (rnCb c.ρ a) :=
  (mapCb_erase_inj c.ρ_inj l a).symm
@[ksent] theorem r_containsCb (l : List Cb) (a : Cb) : (l.map (rnCb c.ρ)).contains (rnCb c.ρ a) = l.contains a :=
  mapCb_contains_inj c.ρ_inj l a
omit c q s in
@[ksent] theorem r_tail {α β : Type} (f : α → β) (l : List α) : l.tail.map f = (l.map f).tail := by
  cases l <;> rfl

@[ksent] theorem i_ite (p : Prop) [Decidable p] (a b : KState ℚ σ) :
    c.T q (if p then a else b) = if p then c.T q a else c.T q b := apply_ite _ _ _ _

@[ksent] theorem i_setOut (h : c.Inv s) (e : Nat) (o : Outcome) :
    c.T q (s.setOut e o) = (c.T q s).setOut (c.ρ e) (rnOutcome c.ρ o) := by
  unfold KState.setOut
  rw [c.i_setEv q s h, c.r_ev q s h]
  rfl
@[ksent] theorem i_defuse (h : c.Inv s) (e : Nat) : c.T q (s.defuse e) = (c.T q s).defuse (c.ρ e) := by
  unfold KState.defuse
  rw [c.i_setEv q s h, c.r_ev q s h]
  rfl
@[ksent] theorem i_bumpCount (h : c.Inv s) (e : Nat) : c.T q (s.bumpCount e) = (c.T q s).bumpCount (c.ρ e) := by
  unfold KState.bumpCount
  rw [c.i_setEv q s h, c.r_ev q s h]
  rfl
@[ksent] theorem i_setUsage (h : c.Inv s) (e : Nat) : c.T q (s.setUsage e) = (c.T q s).setUsage (c.ρ e) := by
  unfold KState.setUsage
  rw [c.i_setEv q s h, c.r_ev q s h]
  show _ = (c.T q s).setEv (c.ρ e) _
  congr 1
  simp only [rnRec, Option.map_map]
  rfl
@[ksent] theorem i_eraseCb (h : c.Inv s) (e : Nat) (cb : Cb) :
    c.T q (s.eraseCb e cb) = (c.T q s).eraseCb (c.ρ e) (rnCb c.ρ cb) := by
  unfold KState.eraseCb
  rw [c.i_setEv q s h, c.r_ev q s h]
  congr 1
  simp only [rnRec, Option.map_map]
  congr 2
  funext l
  exact (mapCb_erase_inj c.ρ_inj l cb).symm
@[ksent] theorem i_addCb (h : c.Inv s) (e : Nat) (cb : Cb) :
    c.T q (s.addCb e cb) = (c.T q s).addCb (c.ρ e) (rnCb c.ρ cb) := by
  unfold KState.addCb
  rw [c.i_setEv q s h, c.r_ev q s h]
  congr 1
  simp only [rnRec, Option.map_map]
  congr 2
  funext l
  simp [Function.comp]
@[ksent] theorem i_trigger (h : c.Inv s) (e : Nat) (o : Outcome) :
    c.T q (s.trigger e o) = (c.T q s).trigger (c.ρ e) (rnOutcome c.ρ o) := by
  unfold KState.trigger
  rw [c.i_schedule q _ (h.setOut e o), c.i_setOut q s h]
@[ksent] theorem i_newEv (h : c.Inv s) (r : EvRec ℚ) : c.T q (s.newEv r).1 = ((c.T q s).newEv (rnRec c.ρ r)).1 := by
  rw [c.T_newEv q s h]
@[ksent] theorem i_newLabelled (h : c.Inv s) (r : EvRec ℚ) :
    c.T q (s.newLabelled r).1 = ((c.T q s).newLabelled (rnRec c.ρ r)).1 := by
  rw [c.T_newLabelled q s h]
@[ksent] theorem i_setUsers (r : ResId) (l : List EvId) : c.T q (s.setUsers r l) = (c.T q s).setUsers r (l.map c.ρ) := by
  unfold KState.setUsers
  rw [c.i_setRes, c.r_res]
  rfl
@[ksent] theorem i_setLevel (r : ResId) (x : Int) : c.T q (s.setLevel r x) = (c.T q s).setLevel r x := by
  unfold KState.setLevel
  rw [c.i_setRes, c.r_res]
  rfl
@[ksent] theorem i_setItems (r : ResId) (l : List Int) : c.T q (s.setItems r l) = (c.T q s).setItems r l := by
  unfold KState.setItems
  rw [c.i_setRes, c.r_res]
  rfl
@[ksent] theorem i_setPutQ (r : ResId) (l : List EvId) : c.T q (s.setPutQ r l) = (c.T q s).setPutQ r (l.map c.ρ) := by
  unfold KState.setPutQ
  rw [c.i_setRes, c.r_res]
  rfl
@[ksent] theorem i_setGetQ (r : ResId) (l : List EvId) : c.T q (s.setGetQ r l) = (c.T q s).setGetQ r (l.map c.ρ) := by
  unfold KState.setGetQ
  rw [c.i_setRes, c.r_res]
  rfl
@[ksent] theorem i_withActive (a : Option EvId) :
    c.T q ({ s with active := a } : KState ℚ σ) = { c.T q s with active := a.map c.ρ } := rfl
@[ksent] theorem i_withShared (l : List (Nat × Val)) :
    c.T q ({ s with shared := l } : KState ℚ σ) = { c.T q s with shared := l.map (fun kv => (kv.1, rnVal c.ρ kv.2)) } := rfl

end SplitCfg
