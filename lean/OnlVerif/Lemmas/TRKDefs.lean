import OnlVerif.Lemmas.TimerKFrame
import OnlVerif.Lemmas.TwoRate
import OnlVerif.Net.TwoRateOnK
/-!
# The two-rate token bucket on the kernel model: canonical configurations (definitions)

`A` is an abstract description of a kernel state of the program `TwoRateOnK.body`: where the two processes are suspended, which
agenda entries exist, what the store holds, the instant of the `put` of every packet, the token level.  `KInv s a` says that
the kernel state `s` *is* the configuration `a`; `AInv` is what holds of the configurations of a run.
-/

namespace TRK
open TwoRateOnK
open TimerK (lookup)

abbrev St := TrS ℚ
abbrev KS := KState ℚ St

/-- where `TokenBucket.run` is -/
inductive RPhase where
  /-- not started: its `Initialize` entry `q` is in the agenda -/
  | init (q : QEntry ℚ)
  /-- blocked in `store.get()` (event `g`), called at `t0` -/
  | W (g : EvId) (t0 : ℚ)
  /-- `store.get()` (event `g`, called at `t0`) has been served with packet `id`: entry `q` -/
  | H (g : EvId) (id : Int) (q : QEntry ℚ) (t0 : ℚ)
  /-- waiting for tokens for packet `id`: sleeping on timeout `t`, entry `q` -/
  | T1 (t : EvId) (id : Int) (q : QEntry ℚ)

/-- where the source is -/
inductive SPhase where
  | init (q : QEntry ℚ) (arr : List ℚ)
  /-- sleeping on the timeout (entry `q`) after which it puts packet `next`; `rest` still to come -/
  | wait (next : Nat) (rest : List ℚ) (q : QEntry ℚ)
  /-- the generator has returned: the process event (entry `q`) is triggered -/
  | ending (q : QEntry ℚ)
  | done

structure A where
  run : RPhase
  src : SPhase
  /-- the `StorePut` events that are triggered and not yet processed -/
  pend : List (QEntry ℚ)
  /-- `store.items` -/
  items : List Int
  /-- the instants of the `put`s so far (packet `k` is the `k`-th) -/
  cts : List ℚ
  /-- `current_bucket_commit` -/
  commit : ℚ
  /-- `current_bucket_peak` (`none` = `None`) -/
  peak : Option ℚ
  /-- `update_time` -/
  upd : ℚ
  /-- `packets_sent` -/
  sent : Int

def RPhase.entries : RPhase → List (QEntry ℚ)
  | .init q => [q]
  | .W _ _ => []
  | .H _ _ q _ => [q]
  | .T1 _ _ q => [q]

def SPhase.entries : SPhase → List (QEntry ℚ)
  | .init q _ => [q]
  | .wait _ _ q => [q]
  | .ending q => [q]
  | .done => []

def A.entries (a : A) : List (QEntry ℚ) := a.run.entries ++ (a.src.entries ++ a.pend)

/-- the events a configuration talks about (pairwise different); the process event of `run` is 0, of the source 2 -/
def RPhase.ids : RPhase → List EvId
  | .init _ => [0, 1]
  | .W g _ => [0, g]
  | .H g _ _ _ => [0, g]
  | .T1 t _ _ => [0, t]

def SPhase.ids : SPhase → List EvId
  | .init _ _ => [2, 3]
  | .wait _ _ q => [2, q.ev]
  | .ending _ => [2]
  | .done => []

def pendIds (l : List (QEntry ℚ)) : List EvId := l.map (·.ev)

def A.ids (a : A) : List EvId := a.run.ids ++ (a.src.ids ++ pendIds a.pend)

def RPhase.getQ : RPhase → List EvId
  | .W g _ => [g]
  | _ => []

/-- kind, callbacks and outcome of a live event -/
def EvIs (s : KS) (e : EvId) (k : Kind) (cbs : List Cb) (out : Option Outcome) : Prop :=
  (s.ev e).kind = k ∧ (s.ev e).cbs = some cbs ∧ (s.ev e).out = out

/-- the record of the shaper's `Store` -/
def storeRec (getQ : List EvId) (items : List Int) : ResRec :=
  { kind := .store, capacity := none, getQ := getQ, items := items }

/-! ## the kernel side of a configuration -/

def RunEv (s : KS) : RPhase → Prop
  | .init q => q.ev = 1 ∧ EvIs s 1 (.init 0) [.resume 0] (some (.ok .none)) ∧
      s.proc? 0 = some { st := .bStart q.time, target := some 1 } ∧ EvIs s 0 .proc [] none
  | .W g t0 => EvIs s g (.get 0) [.trigPut 0, .resume 0] none ∧
      s.proc? 0 = some { st := .bGet t0, target := some g } ∧ EvIs s 0 .proc [] none
  | .H g id q t0 => q.ev = g ∧ EvIs s g (.get 0) [.trigPut 0, .resume 0] (some (.ok (.int id))) ∧
      s.proc? 0 = some { st := .bGet t0, target := some g } ∧ EvIs s 0 .proc [] none
  | .T1 t id q => q.ev = t ∧ EvIs s t .timeout [.resume 0] (some (.ok .none)) ∧
      s.proc? 0 = some { st := .bTok id q.time, target := some t } ∧ EvIs s 0 .proc [] none

def SrcEv (s : KS) : SPhase → Prop
  | .init q arr => q.ev = 3 ∧ EvIs s 3 (.init 2) [.resume 2] (some (.ok .none)) ∧
      s.proc? 2 = some { st := .src q.time false 0 arr, target := some 3 } ∧ EvIs s 2 .proc [] none
  | .wait next rest q => EvIs s q.ev .timeout [.resume 2] (some (.ok .none)) ∧
      s.proc? 2 = some { st := .src q.time true next rest, target := some q.ev } ∧ EvIs s 2 .proc [] none
  | .ending q => q.ev = 2 ∧ EvIs s 2 .proc [] (some (.ok .none))
  | .done => True

/-- the kernel state `s` has the configuration `a` -/
structure KInv (s : KS) (a : A) : Prop where
  wf : AgendaWF s
  ag : s.agenda.Perm a.entries
  rsz : 0 < s.resources.size
  res : s.res 0 = storeRec a.run.getQ a.items
  run : RunEv s a.run
  src : SrcEv s a.src
  pend : ∀ u ∈ a.pend, EvIs s u.ev (.put 0) [.trigGet 0] (some (.ok .none))
  nd : a.ids.Nodup
  c0 : lookup s.shared cRecv = .int a.cts.length
  c1 : lookup s.shared cSent = .int a.sent
  c2 : lookup s.shared cCommit = TimeCell.enc a.commit
  c3 : lookup s.shared cUpd = TimeCell.enc a.upd
  c4 : lookup s.shared cPeak = encOpt a.peak
  /-- (ghost cells) the instant of every `put` so far -/
  ct : ∀ k, k < a.cts.length → lookup s.shared (10 + k) = TimeCell.enc (a.cts.getD k 0)

/-! ## the abstract side -/

/-- the instant packet `id` was put -/
def A.ctOf (a : A) (id : Int) : ℚ := a.cts.getD id.toNat 0

def GapsOK (l : List ℚ) : Prop := ∀ x ∈ l, 0 ≤ x

def RunA (a : A) (now : ℚ) : RPhase → Prop
  | .init q => q.time = now ∧ q.prio = URGENT ∧ a.items = [] ∧ a.pend = [] ∧ a.cts = []
  | .W _ t0 => t0 ≤ now ∧ (∀ i ∈ a.items, a.ctOf i = now) ∧ (a.items ≠ [] → a.pend ≠ [])
  | .H _ id q t0 => q.time = now ∧ q.prio = NORMAL ∧ max t0 (a.ctOf id) = now ∧ 0 ≤ id ∧ id.toNat < a.cts.length
  | .T1 _ id q => q.prio = NORMAL ∧ 0 ≤ id ∧ id.toNat < a.cts.length

def SrcA (a : A) (now : ℚ) : SPhase → Prop
  | .init q arr => q.time = now ∧ q.prio = URGENT ∧ GapsOK arr ∧ a.cts = []
  | .wait next rest q => q.prio = NORMAL ∧ GapsOK rest ∧ next = a.cts.length
  | .ending q => q.time = now ∧ q.prio = NORMAL
  | .done => True

/-- what holds of a configuration at instant `now` -/
structure AInv (cfg : TrCfg ℚ) (a : A) (now : ℚ) : Prop where
  run : RunA a now a.run
  src : SrcA a now a.src
  pend : ∀ u ∈ a.pend, u.time = now ∧ u.prio = NORMAL
  due : ∀ x ∈ a.entries, now ≤ x.time
  /-- the packets in the store are known packets, put no later than now -/
  its : ∀ i ∈ a.items, 0 ≤ i ∧ i.toNat < a.cts.length ∧ a.ctOf i ≤ now
  good : TwoRate.Good cfg
  /-- with PIR the peak bucket holds a number -/
  pk : ∀ k, TwoRate.pirOn cfg = some k → ∃ pl, a.peak = some pl

/-- what `run` decides for packet `id` taken at `now` -/
def verdictA (size : Int → Nat) (cfg : TrCfg ℚ) (a : A) (now : ℚ) (id : Int) : Except String (Dec ℚ) :=
  verdict cfg a.commit a.peak a.upd now (pktOf size id)

/-- number of kernel steps a configuration still needs (an upper bound) -/
def RPhase.mu : RPhase → Nat
  | .init _ => 1
  | .W _ _ => 0
  | .H _ _ _ _ => 2
  | .T1 _ _ _ => 1

def SPhase.mu : SPhase → Nat
  | .init _ arr => 5 * arr.length + 2
  | .wait _ rest _ => 5 * rest.length + 6
  | .ending _ => 1
  | .done => 0

def A.mu (a : A) : Nat := a.run.mu + a.src.mu + a.pend.length + 3 * a.items.length

end TRK
