import OnlVerif.Lemmas.KernelExt
/-! # One kernel step: the pop and the callback loop -/

variable {σ : Type}

/-- agenda invariant: nothing is due in the past, all `eid`s were issued by the counter and are pairwise different -/
structure AgendaWF (s : KState ℚ σ) : Prop where
  due : ∀ q ∈ s.agenda, s.now ≤ q.time
  eid_lt : ∀ q ∈ s.agenda, q.eid < s.eid
  distinct : s.agenda.Pairwise (fun a b => a.eid ≠ b.eid)

theorem AgendaWF.ext {s s' : KState ℚ σ} (h : AgendaWF s) (hx : Ext s s') : AgendaWF s' := by
  obtain ⟨hn, he, ⟨new, ha, hp⟩, ⟨new', ha', hf⟩⟩ := hx
  have : new' = new := List.append_cancel_right (ha'.symm.trans ha)
  subst this
  refine ⟨?_, ?_, ?_⟩
  · intro q hq
    rw [ha] at hq
    rcases List.mem_append.mp hq with hq | hq
    · rw [hn]; exact (hp q hq).1
    · rw [hn]; exact h.due q hq
  · intro q hq
    rw [ha] at hq
    rcases List.mem_append.mp hq with hq | hq
    · exact (hp q hq).2.2
    · exact Nat.lt_of_lt_of_le (h.eid_lt q hq) he
  · rw [ha, List.pairwise_append]
    refine ⟨hf.imp (fun h => Nat.ne_of_gt h), h.distinct, ?_⟩
    intro a ha b hb
    exact Nat.ne_of_gt (Nat.lt_of_lt_of_le (h.eid_lt b hb) (hp a ha).2.1)

/-- the state in which a step ended, if it processed an event -/
def StepResult.state? : StepResult ℚ σ → Option (KState ℚ σ)
  | .ok s => some s
  | .stopped _ s => some s
  | .crash _ s => some s
  | .empty => none

theorem not_keyLt_time {x q : QEntry ℚ} (h : ¬ QEntry.KeyLt x q) : q.time ≤ x.time := by
  by_contra hc
  exact h (Or.inl (not_le.mp hc))

namespace QEntry
section

/-! The agenda of a configuration is a list `es` of entries, all due at `now` or later, of which `popMin` returns a minimal one
`q` (`min_of_pop`; a family's `IsMin a q` unfolds to the second hypothesis, its `AInv.due` is the first). -/

variable {es : List (QEntry ℚ)} {now : ℚ} {q : QEntry ℚ}

theorem min_time_eq (hd : ∀ x ∈ es, now ≤ x.time) (hq : q ∈ es ∧ ∀ x ∈ es, ¬ KeyLt x q) {x : QEntry ℚ} (hx : x ∈ es)
    (hxt : x.time = now) : q.time = now :=
  le_antisymm (hxt ▸ not_keyLt_time (hq.2 x hx)) (hd q hq.1)

theorem min_not_prio_lt (hd : ∀ x ∈ es, now ≤ x.time) (hq : q ∈ es ∧ ∀ x ∈ es, ¬ KeyLt x q) {x : QEntry ℚ} (hx : x ∈ es)
    (hxt : x.time = now) (hp : x.prio < q.prio) : False :=
  hq.2 x hx (keyLt_of_now hxt (hd q hq.1) (Or.inr (Or.inl hp)))

theorem min_not_eid_lt (hd : ∀ x ∈ es, now ≤ x.time) (hq : q ∈ es ∧ ∀ x ∈ es, ¬ KeyLt x q) {x : QEntry ℚ} (hx : x ∈ es)
    (hxt : x.time = now) (hp : x.prio = q.prio) (he : x.eid < q.eid) : False :=
  hq.2 x hx (keyLt_of_now hxt (hd q hq.1) (Or.inr (Or.inr ⟨hp, he⟩)))

/-- when the clock has to move before `q` is due, no entry is due now -/
theorem min_ne_now (hd : ∀ x ∈ es, now ≤ x.time) (hq : q ∈ es ∧ ∀ x ∈ es, ¬ KeyLt x q) (h : now < q.time) :
    ∀ x ∈ es, x.time ≠ now :=
  fun _ hx hxt => absurd (min_time_eq hd hq hx hxt) (ne_of_gt h)

end
end QEntry

theorem openEvent_wf (s : KState ℚ σ) (q : QEntry ℚ) (rest : List (QEntry ℚ)) (h : AgendaWF s)
    (hp : popMin s.agenda = some (q, rest)) : AgendaWF (openEvent s q rest) ∧ s.now ≤ q.time := by
  have sp := popMin_spec _ _ _ hp
  have hsub : ∀ x ∈ rest, x ∈ s.agenda := fun x hx => sp.1.symm.subset (List.mem_cons_of_mem _ hx)
  refine ⟨⟨?_, ?_, ?_⟩, h.due q (sp.1.symm.subset List.mem_cons_self)⟩
  · intro x hx; exact not_keyLt_time (sp.2 x hx)
  · intro x hx; exact h.eid_lt x (hsub x hx)
  · have := (List.Perm.pairwise_iff (R := fun a b : QEntry ℚ => a.eid ≠ b.eid) (fun {a b} h => h.symm) sp.1).mp h.distinct
    exact (List.pairwise_cons.mp this).2

theorem closeEvent_state (l : LoopSt ℚ σ) (e : EvId) : (closeEvent l e).state? = some l.s := by
  unfold closeEvent
  split
  · rfl
  · split
    · split <;> rfl
    · rfl

/-- what one `step` does to clock and agenda: it pops the minimum `q`, jumps to `q.time`, and the callback
loop only adds fresh entries due at `q.time` or later -/
theorem step_shape (body : σ → Resume → Burst ℚ σ) (fuel : Nat) (s s' : KState ℚ σ)
    (hs : (step body fuel s).state? = some s') :
    ∃ q rest, popMin s.agenda = some (q, rest) ∧ Ext (openEvent s q rest) s' := by
  unfold step at hs
  split at hs
  · cases hs
  · rename_i q rest hq
    refine ⟨q, rest, hq, ?_⟩
    split at hs
    · cases hs; exact Ext.refl _
    · rename_i cbs _
      rw [closeEvent_state] at hs
      cases hs
      exact ext_foldCbs body fuel q.ev cbs { s := openEvent s q rest }
