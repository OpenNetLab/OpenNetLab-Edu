import OnlVerif.Lemmas.Fifo
/-! # What the device proofs (Port, Wire, TokenBucket, TwoRate) use of the FifoServer LTS besides conservation:
`store.get()` leaves clock, device state and timeout alone; `resume` and `fire` computed; one step seen from the device -/

namespace Fifo
variable {δ : Type}

theorem issueGet_dev' (s : FState ℚ δ) : (issueGet s).dev = s.dev := by
  unfold issueGet; split <;> rfl

theorem issueGet_tx' (s : FState ℚ δ) : (issueGet s).tx = s.tx := by
  unfold issueGet; split <;> rfl

theorem issueGet_now (s : FState ℚ δ) : (issueGet s).now = s.now := by
  unfold issueGet; split <;> rfl

theorem issueGet_started (s : FState ℚ δ) : (issueGet s).started = s.started := by
  unfold issueGet; split <;> rfl

/-- the server has issued its next `get` (it is blocked in it or already served) and sleeps on nothing -/
def AtGet (s : FState ℚ δ) : Prop := (s.getPending = true ∨ s.handed.isSome) ∧ s.tx = none

theorem issueGet_atGet (s : FState ℚ δ) (ht : s.tx = none) : AtGet (issueGet s) := by
  rcases issueGet_cases s with ⟨p, rest, _, h⟩ | ⟨_, h⟩
  · rw [h]; exact ⟨Or.inr rfl, ht⟩
  · rw [h]; exact ⟨Or.inl rfl, ht⟩

theorem step_resume {d : Dev ℚ δ} {s : FState ℚ δ} {x y : ℚ} {p : Pkt ℚ} (hp : s.handed = some p) :
    step d s (.resume x y) =
      proceed d { s with handed := none, dev := (d.onResume s.dev s.now x y p).1 } (d.onResume s.dev s.now x y p).2.1 0
        (d.onResume s.dev s.now x y p).2.2 := by
  simp only [step, hp]

theorem step_fire {d : Dev ℚ δ} {s : FState ℚ δ} {p : Pkt ℚ} {k : Nat} (htx : s.tx = some (p, s.now, k)) :
    step d s .fire =
      proceed d { s with tx := none, dev := (d.onFire s.dev s.now k p).1 } (d.onFire s.dev s.now k p).2.1 (k + 1)
        (d.onFire s.dev s.now k p).2.2 := by
  simp only [step, htx, lt_irrefl, if_false]

/-- a sleeping server: `fire` is accepted exactly at the due instant and is then the server's continuation with what
`onFire` answers; the clock cannot pass the due instant -/
theorem fire_due {d : Dev ℚ δ} {s : FState ℚ δ} {p : Pkt ℚ} {due : ℚ} {k : Nat} (htx : s.tx = some (p, due, k)) :
    (∀ s' o, step d s .fire = .ok (s', o) → s.now = due ∧
      proceed d { s with tx := none, dev := (d.onFire s.dev due k p).1 } (d.onFire s.dev due k p).2.1 (k + 1)
        (d.onFire s.dev due k p).2.2 = .ok (s', o)) ∧
    ∀ t s' o, step d s (.tick t) = .ok (s', o) → t ≤ due := by
  refine ⟨fun s' o h => ?_, fun t s' o h => (tickOk_of_step h).2.2.2.2 p due k htx⟩
  simp only [step, htx] at h
  by_cases h1 : s.now < due
  · rw [if_pos h1] at h; cases h
  by_cases h2 : due < s.now
  · rw [if_neg h1, if_pos h2] at h; cases h
  rw [if_neg h1, if_neg h2] at h
  cases le_antisymm (not_lt.mp h2) (not_lt.mp h1)
  exact ⟨rfl, h⟩

theorem put_dropped_iff (d : Dev ℚ δ) (s : FState ℚ δ) (p : Pkt ℚ) :
    (∃ s', step d s (.put p) = .ok (s', .dropped)) ↔ (d.admitPkt s.dev s.now s.items.length p).2.1 = false := by
  simp only [step]
  cases (d.admitPkt s.dev s.now s.items.length p).2.1
  · exact ⟨fun _ => rfl, fun _ => ⟨_, rfl⟩⟩
  · exact ⟨fun ⟨_, h⟩ => (by cases h), nofun⟩

theorem put_accepted_iff (d : Dev ℚ δ) (s : FState ℚ δ) (p : Pkt ℚ) :
    (∃ s', step d s (.put p) = .ok (s', .accepted)) ↔ (d.admitPkt s.dev s.now s.items.length p).2.1 = true := by
  simp only [step]
  cases (d.admitPkt s.dev s.now s.items.length p).2.1
  · exact ⟨fun ⟨_, h⟩ => (by cases h), nofun⟩
  · exact ⟨fun _ => rfl, fun _ => ⟨_, rfl⟩⟩

/-! ### One step, seen from the device

Apart from the store, a step changes the clock, the device state and the server's timeout, and produces an output.
`step_dev` reduces a statement `R` about these after a step from `s` to statements about the four device functions: the invariants of the
concrete devices and the descriptions of their ghost logs are instances. -/

/-- `Q` holds of what the server does once `onResume` / `onFire` has returned `r` at `now` (`k` timeouts taken by
then): the packet leaves and the server is back at its `get`, or it sleeps -/
def Served (d : Dev ℚ δ) (Q : ℚ → δ → Option (Pkt ℚ × ℚ × Nat) → FOut ℚ → Prop) (now : ℚ) (r : δ × Pkt ℚ × Next ℚ)
    (k : Nat) : Prop :=
  match r.2.2 with
  | .emit => Q now (d.onDone r.1 r.2.1) none (.depart r.2.1)
  | .lose => Q now (d.onDone r.1 r.2.1) none (.lost r.2.1)
  | .wait dt => Q now r.1 (some (r.2.1, now + dt, k)) .nothing
  | .fail _ => True

theorem step_dev {d : Dev ℚ δ} {s s' : FState ℚ δ} {a : FAct ℚ} {o : FOut ℚ} (h : step d s a = .ok (s', o))
    (R : ℚ → δ → Option (Pkt ℚ × ℚ × Nat) → FOut ℚ → Prop)
    (hidle : a = .init ∨ a = .handoff → R s.now s.dev s.tx .nothing)
    (hput : ∀ p, a = .put p → R s.now (d.admitPkt s.dev s.now s.items.length p).1 s.tx
      (if (d.admitPkt s.dev s.now s.items.length p).2.1 then .accepted else .dropped))
    (hresume : ∀ x y p, a = .resume x y → s.handed = some p → Served d R s.now (d.onResume s.dev s.now x y p) 0)
    (hfire : ∀ p k, a = .fire → s.tx = some (p, s.now, k) → Served d R s.now (d.onFire s.dev s.now k p) (k + 1))
    (htick : ∀ t, a = .tick t → s.now ≤ t → (∀ p due k, s.tx = some (p, due, k) → t ≤ due) → R t s.dev s.tx .nothing) :
    R s'.now s'.dev s'.tx o := by
  have go : ∀ (s1 : FState ℚ δ) (r : δ × Pkt ℚ × Next ℚ) (k : Nat), s1.now = s.now → s1.dev = r.1 → Served d R s.now r k →
      Go d (fun s' o => R s'.now s'.dev s'.tx o) s1 r.2.1 k r.2.2 := by
    rintro s1 ⟨dv, p, nx⟩ k e1 e2 hs
    cases nx with
    | fail m => trivial
    | _ => simp only [Go, issueGet_now, issueGet_dev', issueGet_tx', e1, e2]; exact hs
  refine step_elim h (R := fun s' o => R s'.now s'.dev s'.tx o) ?_ ?_ ?_ ?_ ?_ ?_ ?_
  · intro ha _
    rw [issueGet_now, issueGet_dev', issueGet_tx']; exact hidle (Or.inl ha)
  · intro p ha hc
    have := hput p ha; rw [hc] at this; exact this
  · intro p ha hc
    have := hput p ha; rw [hc] at this; exact this
  · exact fun _ _ ha _ _ => hidle (Or.inr ha)
  · exact fun x y p ha hp => go _ _ 0 rfl rfl (hresume x y p ha hp)
  · exact fun p k ha htx => go _ _ (k + 1) rfl rfl (hfire p k ha htx)
  · exact fun t ha ht => htick t ha ht.1 ht.2.2.2.2

/-- a device that admits every packet and never says `lose` neither refuses nor discards -/
theorem lossless {d : Dev ℚ δ} (hadmit : ∀ dv now w p, (d.admitPkt dv now w p).2.1 = true)
    (hresume : ∀ dv now x y p, (d.onResume dv now x y p).2.2 ≠ .lose) (hfire : ∀ dv now k p, (d.onFire dv now k p).2.2 ≠ .lose)
    {s s' : FState ℚ δ} {a : FAct ℚ} {o : FOut ℚ} (h : step d s a = .ok (s', o)) : o ≠ .dropped ∧ ∀ q, o ≠ .lost q := by
  have ok : ∀ {o : FOut ℚ}, (o = .nothing ∨ o = .accepted ∨ ∃ q, o = .depart q) → o ≠ .dropped ∧ ∀ q, o ≠ .lost q := by
    rintro _ (rfl | rfl | ⟨q, rfl⟩) <;> exact ⟨nofun, fun _ => nofun⟩
  have go : ∀ (s1 : FState ℚ δ) (p : Pkt ℚ) (k : Nat) (nx : Next ℚ), nx ≠ .lose →
      Go d (fun _ o => o ≠ .dropped ∧ ∀ q, o ≠ .lost q) s1 p k nx := by
    intro s1 p k nx hn
    cases nx with
    | emit => exact ok (Or.inr (Or.inr ⟨_, rfl⟩))
    | wait dt => exact ok (Or.inl rfl)
    | lose => exact absurd rfl hn
    | fail m => trivial
  exact step_elim h (fun _ _ => ok (Or.inl rfl)) (fun _ _ _ => ok (Or.inr (Or.inl rfl)))
    (fun p _ hc => by rw [hadmit] at hc; cases hc) (fun _ _ _ _ _ => ok (Or.inl rfl))
    (fun _ _ _ _ _ => go _ _ _ _ (hresume _ _ _ _ _)) (fun _ _ _ _ => go _ _ _ _ (hfire _ _ _ _)) (fun _ _ _ => ok (Or.inl rfl))

theorem run_prefix (d : Dev ℚ δ) (as bs : List (FAct ℚ)) (s s' : FState ℚ δ) (ins outs : List Nat)
    (h : runActs d s (as ++ bs) = .ok (s', ins, outs)) :
    ∃ s1 i1 o1, runActs d s as = .ok (s1, i1, o1) ∧ ∃ i2 o2, runActs d s1 bs = .ok (s', i2, o2) := by
  induction as generalizing s ins outs with
  | nil => exact ⟨s, [], [], rfl, ins, outs, h⟩
  | cons a as ih =>
    obtain ⟨s1, o, ins1, outs1, h1, h2, _, _⟩ := runActs_cons_ok h
    obtain ⟨s3, i1, o1, h3, h4⟩ := ih s1 ins1 outs1 h2
    exact ⟨s3, entered a o ++ i1, left o ++ o1, by simp only [runActs, h1, h3], h4⟩

end Fifo
