import OnlVerif.Lemmas.OnceQL
import OnlVerif.Lemmas.EventMono
import Mathlib.Data.List.Perm.Basic
/-! # The invariant through interrupts, resource scans and request creation -/

namespace Once
variable {σ : Type}

/-- refused (dead victim, or the caller itself), or a fresh pre-failed `Interruption` scheduled URGENT -/
theorem mkInterrupt_cases (s : KState ℚ σ) (p : EvId) (c : Val) :
    (_root_.mkInterrupt s p c).1 = s ∨
    (_root_.mkInterrupt s p c).1 =
      (s.newEv { kind := .intr p, cbs := some [.intr s.events.size], out := some (.fail ⟨"Interrupt", [c]⟩),
                 defused := true }).1.schedule s.events.size URGENT Num.zero := by
  unfold _root_.mkInterrupt
  by_cases h1 : s.triggered p = true
  · rw [if_pos h1]; exact Or.inl rfl
  · rw [if_neg h1]
    by_cases h2 : (s.active == some p) = true
    · rw [if_pos h2]; exact Or.inl rfl
    · rw [if_neg h2]; exact Or.inr rfl

theorem mkInterrupt_ok {s : KState ℚ σ} {p : EvId} {c : Val} (h : (_root_.mkInterrupt s p c).2 = none) :
    (_root_.mkInterrupt s p c).1 =
      (s.newEv { kind := .intr p, cbs := some [.intr s.events.size], out := some (.fail ⟨"Interrupt", [c]⟩),
                 defused := true }).1.schedule s.events.size URGENT Num.zero := by
  unfold _root_.mkInterrupt at h ⊢
  by_cases h1 : s.triggered p = true
  · rw [if_pos h1] at h; cases h
  · rw [if_neg h1] at h ⊢
    by_cases h2 : (s.active == some p) = true
    · rw [if_pos h2] at h; cases h
    · rw [if_neg h2]

theorem Inv.mkInterrupt {g : Ghost} {s : KState ℚ σ} (hi : Inv g s) (p : EvId) (c : Val) :
    Inv g (_root_.mkInterrupt s p c).1 := by
  rcases mkInterrupt_cases s p c with h | h <;> rw [h]
  · exact hi
  · refine InvX.schedule (hi.newEv _ [.intr s.events.size] rfl (fun p hm => by simp at hm)
        (fun iv hm => by simpa using hm) (fun c hm => by simp at hm)) _ _ ?_ ?_ ?_
    · rw [KState.ev_newEv, if_pos rfl]; simp
    · rw [KState.ev_newEv, if_pos rfl]; simp
    · intro b hb
      exact Nat.ne_of_lt (hi.c.agenda_lt b hb)

/-- bookkeeping outside the event table, `usage_since`, a fresh `Interruption` for an evicted user, and the trigger of
a pending request event — in any order -/
inductive Grants : KState ℚ σ → KState ℚ σ → Prop
  | refl (s) : Grants s s
  | trans {s1 s2 s3} : Grants s1 s2 → Grants s2 s3 → Grants s1 s3
  | events {s s'} : s'.events = s.events → Grants s s'
  | usage (s e) : Grants s (s.setUsage e)
  | intr (s p c) : Grants s (_root_.mkInterrupt s p c).1
  | grant (s e o) : (s.ev e).out = none → ((∃ r, (s.ev e).kind = .put r) ∨ (∃ r, (s.ev e).kind = .get r)) →
      Grants s (s.trigger e o)

theorem Grants.after {s s' s'' : KState ℚ σ} (g : Grants s' s'') (h : s'.events = s.events) : Grants s s'' :=
  (Grants.events h).trans g

/-- what the resource layer does apart from granting requests: it keeps the invariant (whatever the ghost) and both
queues of every resource, and is `Grants` work -/
structure Quiet (s s' : KState ℚ σ) : Prop where
  inv : ∀ g, Inv g s → Inv g s'
  queues : ∀ r, (s'.res r).putQ = (s.res r).putQ ∧ (s'.res r).getQ = (s.res r).getQ
  grants : Grants s s'

theorem Quiet.refl (s : KState ℚ σ) : Quiet s s := ⟨fun _ h => h, fun _ => ⟨rfl, rfl⟩, .refl s⟩

theorem Quiet.trans {s1 s2 s3 : KState ℚ σ} (h1 : Quiet s1 s2) (h2 : Quiet s2 s3) : Quiet s1 s3 :=
  ⟨fun g h => h2.inv g (h1.inv g h),
    fun r => ⟨(h2.queues r).1.trans (h1.queues r).1, (h2.queues r).2.trans (h1.queues r).2⟩, h1.grants.trans h2.grants⟩

/-- `users`, `level`, `items` -/
theorem Quiet.setRes (s : KState ℚ σ) (r : ResId) (x : ResRec) (hp : x.putQ = (s.res r).putQ)
    (hg : x.getQ = (s.res r).getQ) : Quiet s (s.setRes r x) :=
  ⟨fun _ h => h.setRes_same r x hp hg, fun r' => queues_setRes s r r' x hp hg, .events rfl⟩

theorem Quiet.setUsers (s : KState ℚ σ) (r : ResId) (l : List EvId) : Quiet s (s.setUsers r l) := .setRes s r _ rfl rfl

theorem Quiet.setUsage (s : KState ℚ σ) (e : EvId) : Quiet s (s.setUsage e) :=
  ⟨fun _ h => h.setUsage e, fun _ => ⟨rfl, rfl⟩, .usage s e⟩

theorem Quiet.mkInterrupt (s : KState ℚ σ) (p : EvId) (c : Val) : Quiet s (_root_.mkInterrupt s p c).1 :=
  ⟨fun _ h => h.mkInterrupt p c, fun r => by rw [res_mkInterrupt]; exact ⟨rfl, rfl⟩, .intr s p c⟩

theorem Quiet.preemptStep (s : KState ℚ σ) (r : ResId) (e : EvId) : Quiet s (_root_.preemptStep s r e) := by
  unfold _root_.preemptStep
  simp only
  split
  · split
    · exact .refl s
    · split
      · split
        · exact (Quiet.setUsers s r _).trans (.mkInterrupt _ _ _)
        · exact .setRes s r _ rfl rfl
      · exact .refl s
  · exact .refl s

theorem preemptStep_shape (s : KState ℚ σ) (r : ResId) (e : EvId) :
    (∀ g, Inv g s → Inv g (_root_.preemptStep s r e)) ∧
    (∀ r', ((_root_.preemptStep s r e).res r').putQ = (s.res r').putQ ∧
      ((_root_.preemptStep s r e).res r').getQ = (s.res r').getQ) ∧
    Grants s (_root_.preemptStep s r e) :=
  ⟨(Quiet.preemptStep s r e).inv, (Quiet.preemptStep s r e).queues, (Quiet.preemptStep s r e).grants⟩

theorem Inv.preemptStep {g : Ghost} {s : KState ℚ σ} (hi : Inv g s) (r : ResId) (e : EvId) :
    Inv g (_root_.preemptStep s r e) :=
  (Quiet.preemptStep s r e).inv g hi

theorem Quiet.prePut (s : KState ℚ σ) (r : ResId) (e : EvId) : Quiet s (_root_.prePut s r e) := by
  unfold _root_.prePut
  split
  · exact .preemptStep s r e
  · exact .refl s

theorem Inv.prePut {g : Ghost} {s : KState ℚ σ} (hi : Inv g s) (r : ResId) (e : EvId) : Inv g (_root_.prePut s r e) :=
  (Quiet.prePut s r e).inv g hi

theorem prePut_queues (s : KState ℚ σ) (r : ResId) (e : EvId) (r' : ResId) :
    ((_root_.prePut s r e).res r').putQ = (s.res r').putQ ∧ ((_root_.prePut s r e).res r').getQ = (s.res r').getQ :=
  (Quiet.prePut s r e).queues r'

/-- `applyPut` is a resource update (and `usage_since`) followed by the trigger of the request -/
theorem applyPut_shape (s : KState ℚ σ) (r : ResId) (e : EvId) :
    ∃ X : KState ℚ σ, _root_.applyPut s r e = X.trigger e (.ok .none) ∧ Quiet s X ∧ X.events.size = s.events.size := by
  have users : ∀ l, ∃ X : KState ℚ σ, ((s.setUsers r l).setUsage e).trigger e (.ok .none) = X.trigger e (.ok .none) ∧
      Quiet s X ∧ X.events.size = s.events.size := fun l =>
    ⟨_, rfl, (Quiet.setUsers s r l).trans (.setUsage _ e), size_setEv _ _ _⟩
  unfold _root_.applyPut
  simp only
  split
  · exact users _
  · exact users _
  · exact users _
  · exact ⟨_, rfl, .setRes s r _ rfl rfl, rfl⟩
  · exact ⟨_, rfl, .setRes s r _ rfl rfl, rfl⟩
  · exact ⟨_, rfl, .setRes s r _ rfl rfl, rfl⟩
  · exact ⟨_, rfl, .setRes s r _ rfl rfl, rfl⟩

theorem takeOut_shape (s : KState ℚ σ) (r : ResId) (e : EvId) (v : Val) :
    Quiet s (_root_.takeOut s r e v) ∧ (_root_.takeOut s r e v).events.size = s.events.size := by
  unfold _root_.takeOut
  simp only
  split
  · exact ⟨.setRes s r _ rfl rfl, rfl⟩
  · exact ⟨.setRes s r _ rfl rfl, rfl⟩
  · exact ⟨.setRes s r _ rfl rfl, rfl⟩
  · exact ⟨.setRes s r _ rfl rfl, rfl⟩
  · exact ⟨.setRes s r _ rfl rfl, rfl⟩
  · split
    · exact ⟨.setRes s r _ rfl rfl, rfl⟩
    · exact ⟨.refl s, rfl⟩
  · split
    · exact ⟨.setRes s r _ rfl rfl, rfl⟩
    · exact ⟨.refl s, rfl⟩

/-- only existing resources have requests queued -/
theorem lt_of_mem_queue {s : KState ℚ σ} {r : ResId} {e : EvId} (h : e ∈ (s.res r).putQ ∨ e ∈ (s.res r).getQ) :
    r < s.resources.size := by
  by_contra hc
  rw [res_default s r hc] at h
  exact h.elim (by simp [default]) (by simp [default])

theorem InvQ.sub {s s' : KState ℚ σ} (hi : InvQ s)
    (hp : ∀ r, ((s'.res r).putQ).Sublist (s.res r).putQ) (hg : ∀ r, ((s'.res r).getQ).Sublist (s.res r).getQ)
    (hev : ∀ r x, x ∈ (s'.res r).putQ ∨ x ∈ (s'.res r).getQ →
      (s'.ev x).kind = (s.ev x).kind ∧ (s'.ev x).out = (s.ev x).out) : InvQ s' := by
  refine hi.transfer (fun r => (hi.putQ r).1.sublist (hp r)) (fun r => (hi.getQ r).1.sublist (hg r)) ?_ ?_
  · intro r x hx
    obtain ⟨h1, h2⟩ := hev r x (Or.inl hx)
    exact ⟨(hp r).subset hx, h1, h2.trans ((hi.putQ r).2 x ((hp r).subset hx)).2⟩
  · intro r x hx
    obtain ⟨h1, h2⟩ := hev r x (Or.inr hx)
    exact ⟨(hg r).subset hx, h1, h2.trans ((hi.getQ r).2 x ((hg r).subset hx)).2⟩

theorem Inv.setQueues {g : Ghost} {s s' : KState ℚ σ} (hi : Inv g s) (h : SameC s s') (hq : InvQ s') : Inv g s' :=
  ⟨hi.c.congr h, hq, hi.l.congr h, hi.s.congr h⟩

theorem Inv.subQueues {g : Ghost} {s s' : KState ℚ σ} (hi : Inv g s) (h : SameC s s')
    (hp : ∀ r, ((s'.res r).putQ).Sublist (s.res r).putQ) (hg : ∀ r, ((s'.res r).getQ).Sublist (s.res r).getQ) :
    Inv g s' :=
  hi.setQueues h (hi.q.sub hp hg (fun _ x _ => ⟨h.kind x, h.out x⟩))

/-- **a queued request is granted**: it is triggered, and leaves every queue (it is in one only) -/
theorem Inv.grant {g : Ghost} {s s' : KState ℚ σ} (hi : Inv g s) (e : EvId) (o : Outcome)
    (hq : (∃ r, e ∈ (s.res r).putQ) ∨ ∃ r, e ∈ (s.res r).getQ) (h : SameC (s.trigger e o) s')
    (hp : ∀ r, (s'.res r).putQ = (s.res r).putQ.erase e) (hg : ∀ r, (s'.res r).getQ = (s.res r).getQ.erase e) :
    Inv g s' := by
  obtain ⟨ho, hk⟩ : (s.ev e).out = none ∧ ((∃ r, (s.ev e).kind = .put r) ∨ ∃ r, (s.ev e).kind = .get r) := by
    rcases hq with ⟨r, hr⟩ | ⟨r, hr⟩
    · exact ⟨((hi.q.putQ r).2 e hr).2, Or.inl ⟨r, ((hi.q.putQ r).2 e hr).1⟩⟩
    · exact ⟨((hi.q.getQ r).2 e hr).2, Or.inr ⟨r, ((hi.q.getQ r).2 e hr).1⟩⟩
  have hnp : (s.ev e).kind ≠ .proc := by
    rcases hk with ⟨r, hr⟩ | ⟨r, hr⟩ <;> rw [hr] <;> simp
  refine ⟨(hi.c.trigger e o (lt_of_req s e hk) ho hnp).congr h,
    hi.q.sub (fun r => by rw [hp]; exact List.erase_sublist) (fun r => by rw [hg]; exact List.erase_sublist) ?_,
    (hi.l.trigger e o).congr h, (hi.s.trigger e o).congr h⟩
  intro r x hx
  have hxe : x ≠ e := by
    rintro rfl
    rw [hp, hg] at hx
    exact hx.elim (hi.q.putQ r).1.not_mem_erase (hi.q.getQ r).1.not_mem_erase
  rw [h.kind, h.out, ev_trigger_ne s e x o hxe]
  exact ⟨rfl, rfl⟩

theorem triggered_trigger (s : KState ℚ σ) (e : EvId) (o : Outcome) (h : e < s.events.size) :
    (s.trigger e o).triggered e = true := by
  unfold KState.triggered
  rw [ev_trigger, if_pos ⟨rfl, h⟩]; rfl

theorem Inv.dropPutQ {g : Ghost} {s : KState ℚ σ} (hi : Inv g s) (r : ResId) (e : EvId) : Inv g (_root_.dropPutQ s r e) := by
  refine hi.subQueues (SameC.of_events rfl rfl rfl) (fun r' => ?_) (fun r' => ?_)
  · show (((s.setPutQ r _).res r').putQ).Sublist _
    rw [(res_setPutQ s r r' _).1]; split
    · rename_i h; rw [h.1]; exact List.erase_sublist
    · exact List.Sublist.refl _
  · show (((s.setPutQ r _).res r').getQ).Sublist _
    rw [(res_setPutQ s r r' _).2]

theorem Inv.dropGetQ {g : Ghost} {s : KState ℚ σ} (hi : Inv g s) (r : ResId) (e : EvId) : Inv g (_root_.dropGetQ s r e) := by
  refine hi.subQueues (SameC.of_events rfl rfl rfl) (fun r' => ?_) (fun r' => ?_)
  · show (((s.setGetQ r _).res r').putQ).Sublist _
    rw [(res_setGetQ s r r' _).2]
  · show (((s.setGetQ r _).res r').getQ).Sublist _
    rw [(res_setGetQ s r r' _).1]; split
    · rename_i h; rw [h.1]; exact List.erase_sublist
    · exact List.Sublist.refl _

theorem Inv.trigger_dropPut {g : Ghost} {s : KState ℚ σ} (hi : Inv g s) (r : ResId) (e : EvId) (o : Outcome)
    (he : e ∈ (s.res r).putQ) :
    Inv g (_root_.dropPutQ (s.trigger e o) r e) ∧
    ∀ x ∈ (s.res r).putQ, x ≠ e → x ∈ ((_root_.dropPutQ (s.trigger e o) r e).res r).putQ := by
  have hk := ((hi.q.putQ r).2 e he).1
  have hlt : r < (s.trigger e o).resources.size := lt_of_mem_queue (Or.inl he)
  refine ⟨hi.grant e o (Or.inl ⟨r, he⟩) (SameC.of_events rfl rfl rfl) (fun r' => ?_) (fun r' => ?_), fun x hx hne => ?_⟩
  · show (((s.trigger e o).setPutQ r _).res r').putQ = _
    rw [(res_setPutQ _ r r' _).1]; split
    · rename_i h; rw [h.1]; rfl
    · rename_i h
      exact (List.erase_of_not_mem fun h' =>
        h ⟨Kind.put.inj (((hi.q.putQ r').2 e h').1.symm.trans hk), hlt⟩).symm
  · show (((s.trigger e o).setPutQ r _).res r').getQ = _
    rw [(res_setPutQ _ r r' _).2]
    exact (List.erase_of_not_mem fun h' => Kind.noConfusion (((hi.q.getQ r').2 e h').1.symm.trans hk)).symm
  · show x ∈ (((s.trigger e o).setPutQ r _).res r).putQ
    rw [(res_setPutQ _ r r _).1, if_pos ⟨rfl, hlt⟩]
    exact (List.mem_erase_of_ne hne).mpr hx

theorem Inv.trigger_dropGet {g : Ghost} {s : KState ℚ σ} (hi : Inv g s) (r : ResId) (e : EvId) (o : Outcome)
    (he : e ∈ (s.res r).getQ) :
    Inv g (_root_.dropGetQ (s.trigger e o) r e) ∧
    ∀ x ∈ (s.res r).getQ, x ≠ e → x ∈ ((_root_.dropGetQ (s.trigger e o) r e).res r).getQ := by
  have hk := ((hi.q.getQ r).2 e he).1
  have hlt : r < (s.trigger e o).resources.size := lt_of_mem_queue (Or.inr he)
  refine ⟨hi.grant e o (Or.inr ⟨r, he⟩) (SameC.of_events rfl rfl rfl) (fun r' => ?_) (fun r' => ?_), fun x hx hne => ?_⟩
  · show (((s.trigger e o).setGetQ r _).res r').putQ = _
    rw [(res_setGetQ _ r r' _).2]
    exact (List.erase_of_not_mem fun h' => Kind.noConfusion (((hi.q.putQ r').2 e h').1.symm.trans hk)).symm
  · show (((s.trigger e o).setGetQ r _).res r').getQ = _
    rw [(res_setGetQ _ r r' _).1]; split
    · rename_i h; rw [h.1]; rfl
    · rename_i h
      exact (List.erase_of_not_mem fun h' =>
        h ⟨Kind.get.inj (((hi.q.getQ r').2 e h').1.symm.trans hk), hlt⟩).symm
  · show x ∈ (((s.trigger e o).setGetQ r _).res r).getQ
    rw [(res_setGetQ _ r r _).1, if_pos ⟨rfl, hlt⟩]
    exact (List.mem_erase_of_ne hne).mpr hx

/-- **`_trigger_put`**: every request it grants was pending, and leaves the queue at once -/
theorem Inv.scanPut {g : Ghost} (r : ResId) : ∀ (q : List EvId) (s : KState ℚ σ), Inv g s → q.Nodup →
    (∀ e ∈ q, e ∈ (s.res r).putQ) → Inv g (_root_.scanPut r q s) ∧ Grants s (_root_.scanPut r q s)
  | [], s, hi, _, _ => ⟨hi, .refl s⟩
  | e :: rest, s, hi, hnd, hsub => by
    unfold _root_.scanPut
    simp only
    have qP := Quiet.prePut s r e
    have h0 := qP.inv g hi
    have hq0 : ∀ x ∈ e :: rest, x ∈ ((_root_.prePut s r e).res r).putQ := by
      intro x hx; rw [(qP.queues r).1]; exact hsub x hx
    have he0 := hq0 e List.mem_cons_self
    have hnd' := List.nodup_cons.mp hnd
    cases hcan : canPut (_root_.prePut s r e) r e with
    | true =>
      have hd : _root_.doPut s r e = (_root_.applyPut (_root_.prePut s r e) r e, true) := by
        unfold _root_.doPut; rw [if_pos hcan]
      obtain ⟨X, hX, qX, _⟩ := applyPut_shape (_root_.prePut s r e) r e
      rw [hd]
      simp only
      rw [hX]
      have heX : e ∈ (X.res r).putQ := by rw [(qX.queues r).1]; exact he0
      have hiX := qX.inv g h0
      have hkX := (hiX.q.putQ r).2 e heX
      rw [triggered_trigger X e _ (hiX.q.mem_put_lt r e heX)]
      simp only [if_true]
      obtain ⟨h1, h2⟩ := hiX.trigger_dropPut r e (.ok .none) heX
      obtain ⟨h3, g3⟩ := Inv.scanPut r rest _ h1 hnd'.2 (fun x hx =>
        h2 x (by rw [(qX.queues r).1]; exact hq0 x (List.mem_cons_of_mem _ hx)) (fun hxe => hnd'.1 (hxe ▸ hx)))
      exact ⟨h3, qP.grants.trans (qX.grants.trans
        ((Grants.grant X e (.ok .none) hkX.2 (Or.inl ⟨r, hkX.1⟩)).trans (g3.after rfl)))⟩
    | false =>
      have hd : _root_.doPut s r e = (_root_.prePut s r e, false) := by
        unfold _root_.doPut; rw [if_neg (by rw [hcan]; exact Bool.false_ne_true)]
      rw [hd]
      simp only
      have : (_root_.prePut s r e).triggered e = false := by
        unfold KState.triggered
        rw [((h0.q.putQ r).2 e he0).2]; rfl
      rw [this]
      simp only [Bool.false_eq_true, if_false]
      exact ⟨h0, qP.grants⟩

theorem Inv.scanGet {g : Ghost} (r : ResId) : ∀ (q : List EvId) (s : KState ℚ σ), Inv g s → q.Nodup →
    (∀ e ∈ q, e ∈ (s.res r).getQ) → Inv g (_root_.scanGet r q s) ∧ Grants s (_root_.scanGet r q s)
  | [], s, hi, _, _ => ⟨hi, .refl s⟩
  | e :: rest, s, hi, hnd, hsub => by
    unfold _root_.scanGet
    simp only
    have he0 := hsub e List.mem_cons_self
    have hnd' := List.nodup_cons.mp hnd
    have hnt : s.triggered e = false := by
      unfold KState.triggered
      rw [((hi.q.getQ r).2 e he0).2]; rfl
    unfold _root_.doGet
    split
    · rename_i v hv
      obtain ⟨qT, _⟩ := takeOut_shape s r e v
      simp only
      have heX : e ∈ ((_root_.takeOut s r e v).res r).getQ := by rw [(qT.queues r).2]; exact he0
      have hiX := qT.inv g hi
      have hkX := (hiX.q.getQ r).2 e heX
      rw [triggered_trigger _ e _ (hiX.q.mem_get_lt r e heX)]
      simp only [if_true]
      obtain ⟨h1, h2⟩ := hiX.trigger_dropGet r e (.ok v) heX
      obtain ⟨h3, g3⟩ := Inv.scanGet r rest _ h1 hnd'.2 (fun x hx =>
        h2 x (by rw [(qT.queues r).2]; exact hsub x (List.mem_cons_of_mem _ hx)) (fun hxe => hnd'.1 (hxe ▸ hx)))
      exact ⟨h3, qT.grants.trans
        ((Grants.grant (_root_.takeOut s r e v) e (.ok v) hkX.2 (Or.inr ⟨r, hkX.1⟩)).trans (g3.after rfl))⟩
    · simp only
      rw [hnt]
      simp only [Bool.false_eq_true, if_false]
      split
      · exact Inv.scanGet r rest s hi hnd'.2 (fun x hx => hsub x (List.mem_cons_of_mem _ hx))
      · exact ⟨hi, .refl s⟩

theorem Inv.triggerPut {g : Ghost} {s : KState ℚ σ} (hi : Inv g s) (r : ResId) : Inv g (_root_.triggerPut s r) :=
  (Inv.scanPut r _ s hi (hi.q.putQ r).1 (fun _ h => h)).1

theorem Inv.triggerGet {g : Ghost} {s : KState ℚ σ} (hi : Inv g s) (r : ResId) : Inv g (_root_.triggerGet s r) :=
  (Inv.scanGet r _ s hi (hi.q.getQ r).1 (fun _ h => h)).1

theorem Grants.triggerPut {g : Ghost} {s : KState ℚ σ} (hi : Inv g s) (r : ResId) : Grants s (_root_.triggerPut s r) :=
  (Inv.scanPut r _ s hi (hi.q.putQ r).1 (fun _ h => h)).2

theorem Grants.triggerGet {g : Ghost} {s : KState ℚ σ} (hi : Inv g s) (r : ResId) : Grants s (_root_.triggerGet s r) :=
  (Inv.scanGet r _ s hi (hi.q.getQ r).1 (fun _ h => h)).2

/-- a pending request event that is in no queue joins one queue of its kind, at any position -/
theorem Inv.enqueue {g : Ghost} {s s' : KState ℚ σ} (hi : Inv g s) (x : EvId) (ho : (s.ev x).out = none)
    (hfresh : ∀ r, x ∉ (s.res r).putQ ∧ x ∉ (s.res r).getQ) (h : SameC s s')
    (hp : ∀ r, (s'.res r).putQ = (s.res r).putQ ∨
      ((s.ev x).kind = .put r ∧ ((s'.res r).putQ).Perm (x :: (s.res r).putQ)))
    (hg : ∀ r, (s'.res r).getQ = (s.res r).getQ ∨
      ((s.ev x).kind = .get r ∧ ((s'.res r).getQ).Perm (x :: (s.res r).getQ))) : Inv g s' := by
  have key : ∀ (Q Q' : List EvId) (k : Kind), (Q.Nodup ∧ ∀ e ∈ Q, (s.ev e).kind = k ∧ (s.ev e).out = none) → x ∉ Q →
      (Q' = Q ∨ ((s.ev x).kind = k ∧ Q'.Perm (x :: Q))) →
      Q'.Nodup ∧ ∀ e ∈ Q', (s'.ev e).kind = k ∧ (s'.ev e).out = none := by
    intro Q Q' k hQ hx hQ'
    simp only [h.kind, h.out]
    rcases hQ' with rfl | ⟨hk, hperm⟩
    · exact hQ
    · refine ⟨hperm.nodup_iff.mpr (List.nodup_cons.mpr ⟨hx, hQ.1⟩), fun e he => ?_⟩
      rcases List.mem_cons.mp (hperm.mem_iff.mp he) with rfl | he
      · exact ⟨hk, ho⟩
      · exact hQ.2 e he
  exact hi.setQueues h ⟨fun r => key _ _ _ (hi.q.putQ r) (hfresh r).1 (hp r),
    fun r => key _ _ _ (hi.q.getQ r) (hfresh r).2 (hg r)⟩

theorem Inv.newPut {g : Ghost} {s : KState ℚ σ} (hi : Inv g s) (r : ResId) (rq : ReqData ℚ) :
    Inv g (_root_.enqPut (s.newLabelled { kind := .put r, cbs := some [.trigGet r], out := none, req := some rq }).1 r s.events.size) := by
  have hev : (s.newLabelled { kind := .put r, cbs := some [.trigGet r], out := none, req := some rq }).1.ev s.events.size =
      { kind := .put r, cbs := some [.trigGet r], out := none, req := some rq, label := s.nlabel + 1 } := by
    rw [KState.ev_newLabelled, if_pos rfl]
  refine (hi.newLabelled_pending _ [.trigGet r] rfl (fun p hm => by simp at hm) (fun iv hm => by simp at hm)
    (fun c hm => by simp at hm) rfl).enqueue s.events.size (by rw [hev]) hi.q.fresh (SameC.of_events rfl rfl rfl)
    (fun r' => ?_) (fun r' => Or.inl (res_setPutQ _ r r' _).2)
  unfold _root_.enqPut
  rw [(res_setPutQ _ r r' _).1]
  split
  · rename_i h
    rw [h.1]
    refine Or.inr ⟨by rw [hev], ?_⟩
    split
    · exact insertSorted_perm _ _ _
    · exact List.perm_append_singleton _ _
  · exact Or.inl rfl

theorem Inv.newGet {g : Ghost} {s : KState ℚ σ} (hi : Inv g s) (r : ResId) (rq : ReqData ℚ) :
    Inv g (_root_.enqGet (s.newLabelled { kind := .get r, cbs := some [.trigPut r], out := none, req := some rq }).1 r s.events.size) := by
  have hev : (s.newLabelled { kind := .get r, cbs := some [.trigPut r], out := none, req := some rq }).1.ev s.events.size =
      { kind := .get r, cbs := some [.trigPut r], out := none, req := some rq, label := s.nlabel + 1 } := by
    rw [KState.ev_newLabelled, if_pos rfl]
  refine (hi.newLabelled_pending _ [.trigPut r] rfl (fun p hm => by simp at hm) (fun iv hm => by simp at hm)
    (fun c hm => by simp at hm) rfl).enqueue s.events.size (by rw [hev]) hi.q.fresh (SameC.of_events rfl rfl rfl)
    (fun r' => Or.inl (res_setGetQ _ r r' _).2) (fun r' => ?_)
  unfold _root_.enqGet
  rw [(res_setGetQ _ r r' _).1]
  split
  · rename_i h
    rw [h.1]
    exact Or.inr ⟨by rw [hev], List.perm_append_singleton _ _⟩
  · exact Or.inl rfl

theorem Inv.mkPut {g : Ghost} {s : KState ℚ σ} (hi : Inv g s) (r : ResId) (rq : ReqData ℚ) : Inv g (_root_.mkPut s r rq).1 := by
  unfold _root_.mkPut
  exact (hi.newPut r rq).triggerPut r

theorem Inv.mkGet {g : Ghost} {s : KState ℚ σ} (hi : Inv g s) (r : ResId) (rq : ReqData ℚ) : Inv g (_root_.mkGet s r rq).1 := by
  unfold _root_.mkGet
  exact (hi.newGet r rq).triggerGet r

/-- refused or no request, or the request leaves its queue and the queue is scanned -/
theorem cancelReq_cases (s : KState ℚ σ) (e : EvId) :
    (_root_.cancelReq s e).1 = s ∨ (∃ r, (_root_.cancelReq s e).1 = _root_.triggerPut (_root_.dropPutQ s r e) r) ∨
      ∃ r, (_root_.cancelReq s e).1 = _root_.triggerGet (_root_.dropGetQ s r e) r := by
  unfold _root_.cancelReq
  split
  · exact Or.inl rfl
  · split
    · rename_i r _
      split
      · exact Or.inr (Or.inl ⟨r, rfl⟩)
      · exact Or.inl rfl
    · rename_i r _
      split
      · exact Or.inr (Or.inr ⟨r, rfl⟩)
      · exact Or.inl rfl
    · exact Or.inl rfl

theorem Inv.cancelReq {g : Ghost} {s : KState ℚ σ} (hi : Inv g s) (e : EvId) : Inv g (_root_.cancelReq s e).1 := by
  rcases cancelReq_cases s e with h | ⟨r, h⟩ | ⟨r, h⟩ <;> rw [h]
  · exact hi
  · exact (hi.dropPutQ _ _).triggerPut _
  · exact (hi.dropGetQ _ _).triggerGet _

end Once
