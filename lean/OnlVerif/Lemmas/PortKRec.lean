import OnlVerif.Lemmas.PortKDefs
/-! # The departure recurrence, by index -/

namespace PortK
open PortOnK

variable (size : Int → Nat) (rate : ℚ)

theorem departures_length : ∀ (arr : List (ℚ × Int)) (prev : Option ℚ) (t : ℚ),
    (departures size rate prev t arr).length = arr.length
  | [], _, _ => rfl
  | (gap, id) :: rest, prev, t => by
    simp only [departures, List.length_cons, departures_length rest]

/-- packet `k` of `arr` leaves `departures prev t arr` at `max(a_k, d_{k-1}) + tx_k`, where `d_{-1} = prev` -/
theorem departures_getD : ∀ (arr : List (ℚ × Int)) (prev : Option ℚ) (t : ℚ) (k : Nat), k < arr.length →
    ((departures size rate prev t arr).getD k (0, 0)).1 = (arr.getD k (0, 0)).2 ∧
    ((departures size rate prev t arr).getD k (0, 0)).2 =
      (match (if k = 0 then prev else some ((departures size rate prev t arr).getD (k - 1) (0, 0)).2) with
        | none => arrivalAt t arr k
        | some d => max (arrivalAt t arr k) d) + txDelay size rate (arr.getD k (0, 0)).2
  | [], _, _, k, hk => absurd hk (Nat.not_lt_zero _)
  | (gap, id) :: rest, prev, t, 0, _ => by
    cases prev with
    | none => exact ⟨rfl, rfl⟩
    | some d => exact ⟨rfl, congrArg (· + _) (Num.pymax_eq _ _)⟩
  | (gap, id) :: rest, prev, t, k + 1, hk => by
    have hk' : k < rest.length := by simpa using hk
    cases prev with
    | none =>
      have ih := departures_getD rest (some (t + gap + txDelay size rate id)) (t + gap) k hk'
      simp only [departures, List.getD_cons_succ, arrivalAt, Nat.add_sub_cancel, Nat.succ_ne_zero, if_false] at ih ⊢
      refine ⟨ih.1, ?_⟩
      rw [ih.2]
      cases k <;> rfl
    | some d =>
      have ih := departures_getD rest (some (Num.pymax (t + gap) d + txDelay size rate id)) (t + gap) k hk'
      simp only [departures, List.getD_cons_succ, arrivalAt, Nat.add_sub_cancel, Nat.succ_ne_zero, if_false] at ih ⊢
      refine ⟨ih.1, ?_⟩
      rw [ih.2]
      cases k <;> rfl

end PortK
