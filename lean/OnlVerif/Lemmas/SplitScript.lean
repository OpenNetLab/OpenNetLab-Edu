import OnlVerif.Lemmas.SplitRename
import OnlVerif.Kernel.Script
import OnlVerif.Lemmas.SplitWFStep
section
/-!
# Script programs treat event ids as opaque tokens (C03, stage 3)

Every program of the script language of `Kernel/Script.lean` — the programs the correspondence check generates and runs
on the real kernel — satisfies `BodySim ρ id` for every renaming `ρ`: event ids flow only from API replies into the shared
slots and from there into API calls; a script's local state holds no id.  The only proviso is that the value literals
written in the program text are not event ids (`ProgsClosed`; the generator writes integers and `None`).

Second part: script programs name no id they have not been given (`ScopedProg`).
-/

set_option linter.unusedSectionVars false

variable {τ : Type} [Num τ]

def Val.idFree : Val → Bool
  | .ev _ => false
  | .cv _ => false
  | .preempted _ _ _ => false
  | _ => true

theorem rnVal_idFree (ρ : EvId → EvId) (v : Val) (h : v.idFree = true) : rnVal ρ v = v := by
  cases v <;> first | rfl | cases h

def Instr.closed : Instr τ → Bool
  | .timeout _ _ v => v.idFree
  | .succeed _ v => v.idFree
  | .ret v => v.idFree
  | _ => true

def ProgsClosed (progs : Progs τ) : Prop := ∀ p, ∀ i ∈ (progs.getD p #[]).toList, Instr.closed i = true

variable (ρ : EvId → EvId)

theorem logS_sim (what : String) (v : Val) (k k' : Burst τ SSt) (h : BurstSim ρ id k k') :
    BurstSim ρ id (logS what v k) (logS what (rnVal ρ v) k') :=
  BurstSim.call (.log what v) _ _ (fun _ => h)

theorem bindSlot_sim (slot : Nat) (r : Reply) (next next' : Burst τ SSt) (h : BurstSim ρ id next next') :
    BurstSim ρ id (bindSlot slot r next) (bindSlot slot (rnReply ρ r) next') := by
  cases r with
  | ev e => exact BurstSim.call (.store slot (.ev e)) _ _ (fun _ => h)
  | _ => exact h

theorem withSlot_sim (slot : Nat) (next next' : Burst τ SSt) (f f' : EvId → Burst τ SSt)
    (hn : BurstSim ρ id next next') (hf : ∀ e, BurstSim ρ id (f e) (f' (ρ e))) :
    BurstSim ρ id (withSlot slot next f) (withSlot slot next' f') := by
  refine BurstSim.call (.load slot) _ _ ?_
  intro r
  cases r with
  | val v => cases v <;> first | exact hn | exact hf _
  | _ => exact hn

theorem loadAll_sim (sl : List Nat) (acc : List EvId) (k k' : List EvId → Burst τ SSt)
    (hk : ∀ es, BurstSim ρ id (k es) (k' (es.map ρ))) :
    BurstSim ρ id (loadAll sl acc k) (loadAll sl (acc.map ρ) k') := by
  induction sl generalizing acc with
  | nil =>
    have := hk acc.reverse
    rw [List.map_reverse] at this
    exact this
  | cons s rest ih =>
    refine BurstSim.call (.load s) _ _ ?_
    intro r
    cases r with
    | val v =>
      cases v with
      | ev e => exact ih (e :: acc)
      | _ => exact ih acc
    | _ => exact ih acc

theorem execL_sim (name prog : Nat) (pc : Nat) (is : List (Instr τ)) (hc : ∀ i ∈ is, Instr.closed i = true) :
    BurstSim ρ id (execL name prog pc is) (execL name prog pc is) := by
  induction is generalizing pc with
  | nil => exact BurstSim.ret .none
  | cons i is ih =>
    have hnext := ih (pc + 1) (fun j hj => hc j (List.mem_cons_of_mem _ hj))
    have hi := hc i List.mem_cons_self
    cases i with
    | timeout slot d v =>
      have hv := rnVal_idFree ρ v hi
      have := BurstSim.call (ρ := ρ) (rσ := id) (.timeout d v) (fun r => bindSlot slot r (execL name prog (pc + 1) is))
        (fun r => bindSlot slot r (execL name prog (pc + 1) is)) (fun r => bindSlot_sim ρ slot r _ _ hnext)
      simp only [rnCall, hv] at this
      exact this
    | event slot => exact BurstSim.call .event _ _ (fun r => bindSlot_sim ρ slot r _ _ hnext)
    | succeed slot v =>
      have hv := rnVal_idFree ρ v hi
      refine withSlot_sim ρ slot _ _ _ _ hnext ?_
      intro e
      have := BurstSim.call (ρ := ρ) (rσ := id) (.succeed e v) (fun _ => execL name prog (pc + 1) is)
        (fun _ => execL name prog (pc + 1) is) (fun _ => hnext)
      simp only [rnCall, hv] at this
      exact this
    | fail slot ty arg =>
      refine withSlot_sim ρ slot _ _ _ _ hnext ?_
      intro e
      exact BurstSim.call (.fail e ⟨ty, [.int arg]⟩) _ _ (fun _ => hnext)
    | spawn slot p nm =>
      exact BurstSim.call (Call.spawn ({ name := nm, prog := p, pc := 0 } : SSt)) _ _
        (fun r => bindSlot_sim ρ slot r _ _ hnext)
    | interrupt slot cause =>
      refine withSlot_sim ρ slot _ _ _ _ hnext ?_
      intro e
      exact BurstSim.call (.interrupt e (.int cause)) _ _ (fun _ => hnext)
    | probe slot tag =>
      refine withSlot_sim ρ slot _ _ _ _ hnext ?_
      intro e
      exact BurstSim.call (.probe e tag) _ _ (fun _ => hnext)
    | log tag => exact logS_sim ρ "log" (.int tag) _ _ hnext
    | yield slot h =>
      refine withSlot_sim ρ slot _ _ _ _ hnext ?_
      intro e
      exact BurstSim.yield e _
    | cond all slot ops =>
      refine loadAll_sim ρ ops [] _ _ ?_
      intro es
      exact BurstSim.call (.cond all es) _ _ (fun r => bindSlot_sim ρ slot r _ _ hnext)
    | request slot res prio pre =>
      exact BurstSim.call (.request res prio pre) _ _ (fun r => bindSlot_sim ρ slot r _ _ hnext)
    | release slot res rs =>
      refine withSlot_sim ρ rs _ _ _ _ hnext ?_
      intro e
      exact BurstSim.call (.release res e) _ _ (fun r => bindSlot_sim ρ slot r _ _ hnext)
    | cancel slot =>
      refine withSlot_sim ρ slot _ _ _ _ hnext ?_
      intro e
      exact BurstSim.call (.cancel e) _ _ (fun _ => hnext)
    | exit slot res =>
      refine withSlot_sim ρ slot _ _ _ _ hnext ?_
      intro e
      refine BurstSim.call (.cancel e) _ _ ?_
      intro r
      cases r with
      | err x => exact hnext
      | _ => exact BurstSim.call (.release res e) _ _ (fun _ => hnext)
    | cput slot res a => exact BurstSim.call (.cput res a) _ _ (fun r => bindSlot_sim ρ slot r _ _ hnext)
    | cget slot res a => exact BurstSim.call (.cget res a) _ _ (fun r => bindSlot_sim ρ slot r _ _ hnext)
    | sput slot res it => exact BurstSim.call (.sput res it) _ _ (fun r => bindSlot_sim ρ slot r _ _ hnext)
    | sget slot res f => exact BurstSim.call (.sget res f) _ _ (fun r => bindSlot_sim ρ slot r _ _ hnext)
    | ret v =>
      have hv := rnVal_idFree ρ v hi
      have := BurstSim.ret (τ := τ) (σ := SSt) (ρ := ρ) (rσ := id) v
      rw [hv] at this
      exact this
    | raise ty arg => exact BurstSim.raise ⟨ty, [.int arg]⟩
    | retev slot =>
      refine withSlot_sim ρ slot _ _ _ _ (BurstSim.ret .none) ?_
      intro e
      exact BurstSim.ret (.ev e)

theorem cont_sim (progs : Progs τ) (h : ProgsClosed progs) (st : SSt) : BurstSim ρ id (cont progs st) (cont progs st) := by
  unfold cont
  apply execL_sim
  intro i hi
  exact h st.prog i (List.mem_of_mem_drop hi)

theorem script_bodySim (progs : Progs τ) (h : ProgsClosed progs) : BodySim ρ id (body progs) := by
  intro st r
  show BurstSim ρ id (body progs st r) (body progs st (rnResume ρ r))
  cases r with
  | start => exact logS_sim ρ "start" .none _ _ (cont_sim ρ progs h st)
  | value v => exact logS_sim ρ "got" v _ _ (cont_sim ρ progs h st)
  | exc x =>
    show BurstSim ρ id (logS s!"exc {x.ty}" (x.args.headD .none) _) (logS s!"exc {(rnExc ρ x).ty}" ((rnExc ρ x).args.headD .none) _)
    have hh : (rnExc ρ x).args.headD .none = rnVal ρ (x.args.headD .none) := by
      show (x.args.map (rnVal ρ)).headD .none = _
      cases x.args <;> rfl
    rw [hh]
    refine logS_sim ρ _ _ _ _ ?_
    cases hp : st.pend with
    | none => exact cont_sim ρ progs h st
    | some sh =>
      obtain ⟨slot, hd⟩ := sh
      split
      · refine withSlot_sim ρ _ _ _ _ _ (cont_sim ρ progs h st) ?_
        intro e
        exact BurstSim.yield e _
      · exact BurstSim.ret (.int 0)
      · exact BurstSim.raise x
      · split
        · exact cont_sim ρ progs h _
        · exact cont_sim ρ progs h st
      · exact cont_sim ρ progs h st

end

section
/-!
# Script programs name no id they have not been given (C03, stage 3)

Every program of the script language satisfies `ScopedProg (IdSt.none SSt)`: event ids flow only from API replies into
the shared slots and from there into API calls; local states hold no id; the value literals of the program text are not
event ids (`ProgsClosed`).  So the domain hypothesis `ScopedRun` holds for every script run from a well-scoped state.
-/

namespace SplitWF

abbrev IS : IdSt SSt := IdSt.none SSt

theorem valBelow_idFree (n : Nat) (v : Val) (h : v.idFree = true) : valBelow n v := by
  cases v <;> first | trivial | cases h

theorem logS_scoped (n : Nat) (what : String) (v : Val) (k : Burst ℚ SSt) (hv : valBelow n v)
    (hk : ∀ m, BurstScoped IS m k) : BurstScoped IS n (logS what v k) :=
  BurstScoped.call n (.log what v) _ hv (fun m _ _ _ => hk m)

theorem bindSlot_scoped (n : Nat) (slot : Nat) (r : Reply) (next : Burst ℚ SSt) (hr : replyBelow n r)
    (hn : ∀ m, BurstScoped IS m next) : BurstScoped IS n (bindSlot slot r next) := by
  cases r with
  | ev e => exact BurstScoped.call n (.store slot (.ev e)) _ hr (fun m _ _ _ => hn m)
  | _ => exact hn n

theorem withSlot_scoped (n : Nat) (slot : Nat) (next : Burst ℚ SSt) (f : EvId → Burst ℚ SSt)
    (hn : ∀ m, BurstScoped IS m next) (hf : ∀ m e, e < m → BurstScoped IS m (f e)) :
    BurstScoped IS n (withSlot slot next f) := by
  refine BurstScoped.call n (.load slot) _ trivial ?_
  intro m r _ hr
  cases r with
  | val v =>
    cases v with
    | ev e => exact hf m e hr
    | _ => exact hn m
  | _ => exact hn m

theorem loadAll_scoped (sl : List Nat) : ∀ (n : Nat) (acc : List EvId) (k : List EvId → Burst ℚ SSt),
    (∀ e ∈ acc, e < n) → (∀ m es, (∀ e ∈ es, e < m) → BurstScoped IS m (k es)) → BurstScoped IS n (loadAll sl acc k) := by
  induction sl with
  | nil =>
    intro n acc k hacc hk
    exact hk n acc.reverse (fun e he => hacc e (List.mem_reverse.mp he))
  | cons s rest ih =>
    intro n acc k hacc hk
    refine BurstScoped.call n (.load s) _ trivial ?_
    intro m r hnm hr
    have hacc' : ∀ e ∈ acc, e < m := fun e he => Nat.lt_of_lt_of_le (hacc e he) hnm
    cases r with
    | val v =>
      cases v with
      | ev e =>
        refine ih m (e :: acc) k ?_ hk
        intro x hx
        rcases List.mem_cons.mp hx with rfl | hx
        · exact hr
        · exact hacc' x hx
      | _ => exact ih m acc k hacc' hk
    | _ => exact ih m acc k hacc' hk

theorem excBelow_int (n : Nat) (ty : String) (arg : Int) : excBelow n ⟨ty, [.int arg]⟩ := by
  intro v hv
  simp only [List.mem_singleton] at hv
  subst hv
  trivial

theorem execL_scoped (name prog : Nat) : ∀ (is : List (Instr ℚ)) (pc : Nat), (∀ i ∈ is, Instr.closed i = true) →
    ∀ n, BurstScoped IS n (execL name prog pc is) := by
  intro is
  induction is with
  | nil => intro pc _ n; exact BurstScoped.ret n .none trivial
  | cons i is ih =>
    intro pc hc n
    have hnext : ∀ m, BurstScoped IS m (execL name prog (pc + 1) is) :=
      ih (pc + 1) (fun j hj => hc j (List.mem_cons_of_mem _ hj))
    have hi := hc i List.mem_cons_self
    cases i with
    | timeout slot d v =>
      exact BurstScoped.call n (.timeout d v) _ (valBelow_idFree n v hi) (fun m r _ hr => bindSlot_scoped m slot r _ hr hnext)
    | event slot => exact BurstScoped.call n .event _ trivial (fun m r _ hr => bindSlot_scoped m slot r _ hr hnext)
    | succeed slot v =>
      refine withSlot_scoped n slot _ _ hnext ?_
      intro m e he
      exact BurstScoped.call m (.succeed e v) _ ⟨he, valBelow_idFree m v hi⟩ (fun m' _ _ _ => hnext m')
    | fail slot ty arg =>
      refine withSlot_scoped n slot _ _ hnext ?_
      intro m e he
      exact BurstScoped.call m (.fail e ⟨ty, [.int arg]⟩) _ ⟨he, excBelow_int m ty arg⟩ (fun m' _ _ _ => hnext m')
    | spawn slot p nm =>
      exact BurstScoped.call n (Call.spawn ({ name := nm, prog := p, pc := 0 } : SSt)) _ trivial
        (fun m r _ hr => bindSlot_scoped m slot r _ hr hnext)
    | interrupt slot cause =>
      refine withSlot_scoped n slot _ _ hnext ?_
      intro m e _
      exact BurstScoped.call m (.interrupt e (.int cause)) _ trivial (fun m' _ _ _ => hnext m')
    | probe slot tag =>
      refine withSlot_scoped n slot _ _ hnext ?_
      intro m e _
      exact BurstScoped.call m (.probe e tag) _ trivial (fun m' _ _ _ => hnext m')
    | log tag => exact logS_scoped n "log" (.int tag) _ trivial hnext
    | yield slot h =>
      refine withSlot_scoped n slot _ _ hnext ?_
      intro m e he
      exact BurstScoped.yield m e _ he trivial
    | cond all slot ops =>
      refine loadAll_scoped ops n [] _ (fun e he => by cases he) ?_
      intro m es hes
      exact BurstScoped.call m (.cond all es) _ hes (fun m' r _ hr => bindSlot_scoped m' slot r _ hr hnext)
    | request slot res prio pre =>
      exact BurstScoped.call n (.request res prio pre) _ trivial (fun m r _ hr => bindSlot_scoped m slot r _ hr hnext)
    | release slot res rs =>
      refine withSlot_scoped n rs _ _ hnext ?_
      intro m e he
      exact BurstScoped.call m (.release res e) _ he (fun m' r _ hr => bindSlot_scoped m' slot r _ hr hnext)
    | cancel slot =>
      refine withSlot_scoped n slot _ _ hnext ?_
      intro m e _
      exact BurstScoped.call m (.cancel e) _ trivial (fun m' _ _ _ => hnext m')
    | exit slot res =>
      refine withSlot_scoped n slot _ _ hnext ?_
      intro m e he
      refine BurstScoped.call m (.cancel e) _ trivial ?_
      intro m' r hm' _
      have he' : e < m' := Nat.lt_of_lt_of_le he hm'
      cases r with
      | err x => exact hnext m'
      | _ => exact BurstScoped.call m' (.release res e) _ he' (fun m'' _ _ _ => hnext m'')
    | cput slot res a => exact BurstScoped.call n (.cput res a) _ trivial (fun m r _ hr => bindSlot_scoped m slot r _ hr hnext)
    | cget slot res a => exact BurstScoped.call n (.cget res a) _ trivial (fun m r _ hr => bindSlot_scoped m slot r _ hr hnext)
    | sput slot res it => exact BurstScoped.call n (.sput res it) _ trivial (fun m r _ hr => bindSlot_scoped m slot r _ hr hnext)
    | sget slot res f => exact BurstScoped.call n (.sget res f) _ trivial (fun m r _ hr => bindSlot_scoped m slot r _ hr hnext)
    | ret v => exact BurstScoped.ret n v (valBelow_idFree n v hi)
    | raise ty arg => exact BurstScoped.raise n _ (excBelow_int n ty arg)
    | retev slot =>
      refine withSlot_scoped n slot _ _ (fun m => BurstScoped.ret m .none trivial) ?_
      intro m e he
      exact BurstScoped.ret m (.ev e) he

theorem cont_scoped (progs : Progs ℚ) (h : ProgsClosed progs) (st : SSt) (n : Nat) : BurstScoped IS n (cont progs st) := by
  unfold cont
  apply execL_scoped
  intro i hi
  exact h st.prog i (List.mem_of_mem_drop hi)

theorem script_scopedProg (progs : Progs ℚ) (h : ProgsClosed progs) : ScopedProg IS (_root_.body progs) := by
  intro n st r _ hr
  cases r with
  | start => exact logS_scoped n "start" .none _ trivial (cont_scoped progs h st)
  | value v => exact logS_scoped n "got" v _ hr (cont_scoped progs h st)
  | exc x =>
    show BurstScoped IS n (logS s!"exc {x.ty}" (x.args.headD .none) _)
    have hh : valBelow n (x.args.headD .none) := by
      have hx : excBelow n x := hr
      cases ha : x.args with
      | nil => trivial
      | cons a as => exact hx a (by rw [ha]; exact List.mem_cons_self)
    refine BurstScoped.call n _ _ hh ?_
    intro m _ hnm _
    cases hp : st.pend with
    | none => exact cont_scoped progs h st m
    | some sh =>
      obtain ⟨slot, hd⟩ := sh
      split
      · refine withSlot_scoped m _ _ _ (cont_scoped progs h st) ?_
        intro m' e he
        exact BurstScoped.yield m' e _ he trivial
      · exact BurstScoped.ret m (.int 0) trivial
      · exact BurstScoped.raise m x (excBelow.mono hr hnm)
      · split
        · exact cont_scoped progs h _ m
        · exact cont_scoped progs h st m
      · exact cont_scoped progs h st m

theorem script_scopedRun (progs : Progs ℚ) (h : ProgsClosed progs) (fuel : Nat) (s0 : KState ℚ SSt) (h0 : WS IS s0) :
    ScopedRun IS (_root_.body progs) fuel s0 :=
  ScopedProg.run (script_scopedProg progs h) fuel s0 h0

end SplitWF

end
