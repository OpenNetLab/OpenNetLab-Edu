import OnlVerif.Lemmas.ConserveEffects
import OnlVerif.Lemmas.CallShape
/-!
# Conservation / ordering proofs: the engine over atomic resource units

`CRel R`: `R` is reflexive, transitive, implies `Base`, and contains

* `frame`   — every bookkeeping update (`Frame`);
* `alloc`   — a fresh event that is not a request;
* `trigNR`  — an outcome written to an event that is not a request;
* `grantPut`— `_do_put` grants the request at the **head** of the put queue, which leaves the queue;
* `grantGet`— `_do_get` grants a queued get; every queue member in front of it was passed over by the scan of a
              `FilterStore` because nothing matches its filter;
* `newPut` / `newGet` — `Put/Get.__init__`: the request record is created and enqueued;
* `cancelPut` / `cancelGet` — a pending, queued request leaves the queue.

The theorems below show, once, that from a well-formed state `R` relates `s` to `f s` for every transformer `f`
of the model, provided the program does not call `succeed`/`fail` on request events (`callOK … stepOK`).
-/

variable {σ : Type}

namespace Conserve

structure CRel (R : KState ℚ σ → KState ℚ σ → Prop) : Prop where
  refl : ∀ s, R s s
  trans : ∀ {s1 s2 s3}, R s1 s2 → R s2 s3 → R s1 s3
  toBase : ∀ {s s'}, R s s' → Base s s'
  frame : ∀ s s', WF s → Frame s s' → R s s'
  alloc : ∀ s s' (x : EvRec ℚ), WF s → s'.events = s.events.push x → nonReqKind x.kind = true →
    (∀ l, x.cbs = some l → ∀ cb ∈ l, cbPlain cb = true) → s'.resources = s.resources → s'.procs = s.procs → R s s'
  trigNR : ∀ s e o, WF s → isReq s e = false → R s (s.setOut e o)
  grantPut : ∀ s r e rest, WF s → (s.res r).putQ = e :: rest → canPut s r e = true → R s (grantPutSt s r e)
  grantGet : ∀ s r e v pre rest, WF s → (s.res r).getQ = pre ++ e :: rest → getItem s r e = some v →
    (∀ a ∈ pre, (s.res r).kind = .fstore ∧ getItem s r a = none) → R s (grantGetSt s r e v)
  newPut : ∀ s r rq, WF s → R s (newPutSt s r rq)
  newGet : ∀ s r rq, WF s → R s (newGetSt s r rq)
  cancelPut : ∀ s r e, WF s → (s.ev e).out = none → (s.ev e).kind = .put r → e ∈ (s.res r).putQ → R s (dropPutQ s r e)
  cancelGet : ∀ s r e, WF s → (s.ev e).out = none → (s.ev e).kind = .get r → e ∈ (s.res r).getQ → R s (dropGetQ s r e)

theorem GetEffect.stillNone {s s' : KState ℚ σ} {r : ResId} {e : EvId} {v : Val} (hE : GetEffect s s' r e v) (a : EvId)
    (hk : (s.res r).kind = .fstore) (hn : getItem s r a = none) : getItem s' r a = none := by
  obtain ⟨x, _, _, hit⟩ := hE.itemsS (by rw [hk]; rfl)
  unfold getItem at hn ⊢
  simp only [hE.rkind, hk, Option.map_eq_none_iff] at hn ⊢
  rw [hit, filter_of_core (hE.core a)]
  rw [List.find?_eq_none] at hn ⊢
  exact fun y hy => hn y (List.mem_of_mem_erase hy)

theorem CRel.of_quiet {R : KState ℚ σ → KState ℚ σ → Prop} (refl : ∀ s, R s s)
    (trans : ∀ {s1 s2 s3}, R s1 s2 → R s2 s3 → R s1 s3) (toBase : ∀ {s s'}, R s s' → Base s s')
    (quiet : ∀ s s', WF s → Quiet s s' → R s s')
    (grantPut : ∀ s r e rest, WF s → (s.res r).putQ = e :: rest → canPut s r e = true →
      PutEffect s (grantPutSt s r e) r e → Granted s (grantPutSt s r e) e (.ok .none) → R s (grantPutSt s r e))
    (grantGet : ∀ s r e v pre rest, WF s → (s.res r).getQ = pre ++ e :: rest → getItem s r e = some v →
      (∀ a ∈ pre, (s.res r).kind = .fstore ∧ getItem s r a = none) → GetEffect s (grantGetSt s r e v) r e v →
      Granted s (grantGetSt s r e v) e (.ok v) → R s (grantGetSt s r e v)) : CRel R where
  refl := refl
  trans := trans
  toBase := toBase
  frame s s' hW h := quiet s s' hW (.of_frame h)
  alloc s s' x hW he hk hc hr hp := quiet s s' hW (.of_alloc x he hk hc hr hp)
  trigNR s e o hW hn := quiet _ _ hW (.of_trigNR s e o hn)
  grantPut s r e rest hW hq hc :=
    have hE := Base.putEffect_of_guard hW hq
    grantPut s r e rest hW hq hc hE (hE.granted hW (by rw [hq]; exact List.mem_cons_self))
  grantGet s r e v pre rest hW hq hg hp :=
    have hE := Base.getEffect_of_guard hW hq hg
    grantGet s r e v pre rest hW hq hg hp hE (hE.granted hW (by rw [hq]; simp))
  newPut s r rq hW := quiet _ _ hW (.of_newPut s r rq)
  newGet s r rq hW := quiet _ _ hW (.of_newGet s r rq)
  cancelPut s r e hW _ _ _ := quiet _ _ hW (.of_cancelPut s r e)
  cancelGet s r e hW _ _ _ := quiet _ _ hW (.of_cancelGet s r e)

/-- a callback list of an event the kernel allocates: no `_check`, no `_build_value` -/
theorem plain_of_all (l0 : List Cb) (h : l0.all cbPlain = true) :
    ∀ l, some l0 = some l → ∀ cb ∈ l, cbPlain cb = true := by
  intro l hl cb hcb
  cases hl
  exact List.all_eq_true.mp h cb hcb

namespace CRel
variable {R : KState ℚ σ → KState ℚ σ → Prop} (K : CRel R)
include K

theorem wf {s s' : KState ℚ σ} (hW : WF s) (h : R s s') : WF s' := (K.toBase h).keepWF hW

theorem seq {s s1 s2 : KState ℚ σ} (hW : WF s) (h1 : R s s1) (h2 : WF s1 → R s1 s2) : R s s2 :=
  K.trans h1 (h2 (K.wf hW h1))

theorem schedule (s : KState ℚ σ) (hW : WF s) (e : EvId) (p : Nat) (d : ℚ) : R s (s.schedule e p d) :=
  K.frame _ _ hW (Frame.schedule s e p d)

theorem trigger (s : KState ℚ σ) (hW : WF s) (e : EvId) (o : Outcome) (hn : isReq s e = false) : R s (s.trigger e o) := by
  unfold KState.trigger
  exact K.seq hW (K.trigNR s e o hW hn) (fun hW1 => K.schedule _ hW1 _ _ _)

theorem newLabelled (s : KState ℚ σ) (hW : WF s) (x : EvRec ℚ) (hk : nonReqKind x.kind = true)
    (hc : ∀ l, x.cbs = some l → ∀ cb ∈ l, cbPlain cb = true) : R s (s.newLabelled x).1 :=
  K.alloc s _ { x with label := s.nlabel + 1 } hW rfl hk hc rfl rfl

theorem newEv (s : KState ℚ σ) (hW : WF s) (x : EvRec ℚ) (hk : nonReqKind x.kind = true)
    (hc : ∀ l, x.cbs = some l → ∀ cb ∈ l, cbPlain cb = true) : R s (s.newEv x).1 :=
  K.alloc s _ x hW rfl hk hc rfl rfl

theorem mkInterrupt (s : KState ℚ σ) (hW : WF s) (p : EvId) (c : Val) : R s (mkInterrupt s p c).1 := by
  unfold _root_.mkInterrupt
  split
  · exact K.refl s
  · split
    · exact K.refl s
    · refine K.seq hW (K.newEv s hW _ rfl ?_) (fun hW1 => K.schedule _ hW1 _ _ _)
      exact plain_of_all [.intr _] rfl

theorem preemptStep (s : KState ℚ σ) (hW : WF s) (r : ResId) (e : EvId) : R s (preemptStep s r e) := by
  rcases preemptStep_cases s r e with h | ⟨w, h | ⟨vp, c, h⟩⟩ <;> rw [h]
  · exact K.refl s
  · exact K.frame _ _ hW (Frame.setUsers s r _)
  · exact K.seq hW (K.frame _ _ hW (Frame.setUsers s r _)) (fun hW1 => K.mkInterrupt _ hW1 _ _)

theorem prePut (s : KState ℚ σ) (hW : WF s) (r : ResId) (e : EvId) : R s (prePut s r e) := by
  unfold _root_.prePut
  split
  · exact K.preemptStep s hW r e
  · exact K.refl s

/-- **the put scan**: it always works on the head of the queue -/
theorem scanPut (r : ResId) (q : List EvId) (s : KState ℚ σ) (hW : WF s) (hq : (s.res r).putQ = q) :
    R s (scanPut r q s) := by
  induction q generalizing s with
  | nil => exact K.refl s
  | cons e rest ih =>
    have hp : R s (_root_.prePut s r e) := K.prePut s hW r e
    have hWp : WF (_root_.prePut s r e) := K.wf hW hp
    have hqp : ((_root_.prePut s r e).res r).putQ = e :: rest := by rw [(prePut_res s r e r).putQ, hq]
    have hmem : e ∈ ((_root_.prePut s r e).res r).putQ := by rw [hqp]; exact List.mem_cons_self
    have hew := hWp.putQ r e hmem
    have hlt : e < (_root_.prePut s r e).events.size := lt_size_of_kind (by rw [hew.1]; simp)
    unfold _root_.scanPut
    simp only
    unfold _root_.doPut
    by_cases hc : canPut (_root_.prePut s r e) r e = true
    · have ht : (applyPut (_root_.prePut s r e) r e).triggered e = true := by
        unfold KState.triggered; rw [(applyPut_evTrig _ r e).outE hlt]; rfl
      simp only [hc, if_true, ht]
      have hg : R (_root_.prePut s r e) (grantPutSt (_root_.prePut s r e) r e) := K.grantPut _ r e rest hWp hqp hc
      have hWg := K.wf hWp hg
      have hqg : ((grantPutSt (_root_.prePut s r e) r e).res r).putQ = rest := by
        rw [(Base.putEffect_of_guard hWp hqp).putQ, hqp, List.erase_cons_head]
      exact K.trans hp (K.trans hg (ih _ hWg hqg))
    · have hun : (_root_.prePut s r e).triggered e = false := by
        unfold KState.triggered; rw [hew.2]; rfl
      simp only [hc, hun, Bool.false_eq_true, if_false]
      exact hp

/-- **the get scan**: the members it has passed over belong to a `FilterStore` and match nothing -/
theorem scanGet (r : ResId) (q pre : List EvId) (s : KState ℚ σ) (hW : WF s) (hq : (s.res r).getQ = pre ++ q)
    (hpre : ∀ a ∈ pre, (s.res r).kind = .fstore ∧ getItem s r a = none) : R s (scanGet r q s) := by
  induction q generalizing s pre with
  | nil => exact K.refl s
  | cons e rest ih =>
    have hmem : e ∈ (s.res r).getQ := by rw [hq]; simp
    have hew := hW.getQ r e hmem
    have hlt : e < s.events.size := lt_size_of_kind (by rw [hew.1]; simp)
    unfold _root_.scanGet
    simp only
    unfold _root_.doGet
    cases hg : getItem s r e with
    | some v =>
      have ht : ((takeOut s r e v).trigger e (.ok v)).triggered e = true :=
        KState.triggered_trigger _ _ _ (by rw [takeOut_events]; exact hlt)
      simp only [ht, if_true]
      have hE := Base.getEffect_of_guard hW hq hg
      have hR : R s (grantGetSt s r e v) := K.grantGet s r e v pre rest hW hq hg hpre
      have hWg := K.wf hW hR
      have hqg : ((grantGetSt s r e v).res r).getQ = pre ++ rest := by
        rw [hE.getQ, List.erase_mid_of_nodup hq (hW.getNodup r)]
      refine K.trans hR (ih pre _ hWg hqg ?_)
      intro a ha
      have := hpre a ha
      exact ⟨by rw [hE.rkind]; exact this.1, hE.stillNone a this.1 this.2⟩
    | none =>
      have hun : s.triggered e = false := by unfold KState.triggered; rw [hew.2]; rfl
      simp only [hun, Bool.false_eq_true, if_false]
      split
      · rename_i hf
        have hk : (s.res r).kind = .fstore := by
          cases hkk : (s.res r).kind <;> rw [hkk] at hf <;> first | rfl | exact absurd hf (by decide)
        refine ih (pre ++ [e]) s hW (by rw [hq]; simp) ?_
        intro a ha
        rcases List.mem_append.mp ha with ha | ha
        · exact hpre a ha
        · rw [List.mem_singleton] at ha; subst ha; exact ⟨hk, hg⟩
      · exact K.refl s

theorem triggerPut (s : KState ℚ σ) (hW : WF s) (r : ResId) : R s (triggerPut s r) := K.scanPut r _ s hW rfl
theorem triggerGet (s : KState ℚ σ) (hW : WF s) (r : ResId) : R s (triggerGet s r) :=
  K.scanGet r _ [] s hW rfl (fun _ h => by cases h)

theorem mkPut (s : KState ℚ σ) (hW : WF s) (r : ResId) (rq : ReqData ℚ) : R s (mkPut s r rq).1 := by
  unfold _root_.mkPut
  simp only
  exact K.seq hW (K.newPut s r rq hW) (fun hW1 => K.triggerPut _ hW1 r)

theorem mkGet (s : KState ℚ σ) (hW : WF s) (r : ResId) (rq : ReqData ℚ) : R s (mkGet s r rq).1 := by
  unfold _root_.mkGet
  simp only
  exact K.seq hW (K.newGet s r rq hW) (fun hW1 => K.triggerGet _ hW1 r)

theorem cancelReq (s : KState ℚ σ) (hW : WF s) (e : EvId) : R s (cancelReq s e).1 := by
  unfold _root_.cancelReq
  split
  · exact K.refl s
  · rename_i ht
    have hout : (s.ev e).out = none := by
      unfold KState.triggered at ht
      cases ho : (s.ev e).out with
      | none => rfl
      | some o => rw [ho] at ht; exact absurd rfl ht
    split
    · rename_i r hk
      split
      · rename_i hc
        dsimp only
        exact K.seq hW (K.cancelPut s r e hW hout hk (by simpa using hc)) (fun hW1 => K.triggerPut _ hW1 r)
      · exact K.refl s
    · rename_i r hk
      split
      · rename_i hc
        dsimp only
        exact K.seq hW (K.cancelGet s r e hW hout hk (by simpa using hc)) (fun hW1 => K.triggerGet _ hW1 r)
      · exact K.refl s
    · exact K.refl s

theorem condCheck (s : KState ℚ σ) (hW : WF s) (c e : EvId) (hc : isCond s c = true) : R s (condCheck s c e) := by
  unfold _root_.condCheck
  split
  · exact K.refl s
  · have hb : R s (s.bumpCount c) := K.frame _ _ hW (Frame.bumpCount s c)
    have hcb : isCond (s.bumpCount c) c = true := (K.toBase hb).isCond_keep hc
    split
    · have hd : R s ((s.bumpCount c).defuse e) :=
        K.seq hW hb (fun hW1 => K.frame _ _ hW1 (Frame.defuse _ e))
      have hcd : isCond ((s.bumpCount c).defuse e) c = true := (K.toBase hd).isCond_keep hc
      exact K.seq hW hd (fun hW1 => K.trigger _ hW1 _ _ (not_isReq_of_isCond hcd))
    · split
      · exact K.seq hW hb (fun hW1 => K.trigger _ hW1 _ _ (not_isReq_of_isCond hcb))
      · exact hb

theorem eraseCheck (s : KState ℚ σ) (hW : WF s) (c e : EvId) : R s (eraseCheck s c e) := by
  unfold _root_.eraseCheck
  split
  · split
    · exact K.frame _ _ hW (Frame.eraseCb s _ _)
    · exact K.refl s
  · exact K.refl s

theorem foldl {α : Type} (f : KState ℚ σ → α → KState ℚ σ) (P : KState ℚ σ → Prop)
    (hP : ∀ s s', P s → R s s' → P s') (hf : ∀ s a, WF s → P s → R s (f s a)) (l : List α) (s : KState ℚ σ)
    (hW : WF s) (h0 : P s) : R s (l.foldl f s) := by
  induction l generalizing s with
  | nil => exact K.refl s
  | cons a l ih =>
    have h1 := hf s a hW h0
    exact K.trans h1 (ih _ (K.wf hW h1) (hP _ _ h0 h1))

theorem removeChecks (fuel : Nat) (c : EvId) (s : KState ℚ σ) (hW : WF s) : R s (removeChecks fuel c s) := by
  induction fuel generalizing c s with
  | zero => exact K.refl s
  | succ n ih =>
    unfold _root_.removeChecks
    apply K.foldl _ (fun _ => True) (fun _ _ _ _ => trivial) _ _ _ hW trivial
    intro s e hW _
    split
    · exact K.seq hW (K.eraseCheck s hW c e) (fun hW1 => ih _ _ hW1)
    · exact K.eraseCheck s hW c e

theorem condBuild (s : KState ℚ σ) (hW : WF s) (c : EvId) (hc : isCond s c = true) : R s (condBuild s c) := by
  unfold _root_.condBuild
  simp only
  have h1 := K.removeChecks (c + 1) c s hW
  have hc1 : isCond (_root_.removeChecks (c + 1) c s) c = true := (K.toBase h1).isCond_keep hc
  split
  · exact K.seq hW h1 (fun hW1 => K.trigNR _ _ _ hW1 (not_isReq_of_isCond hc1))
  · exact h1

theorem condOpsFold (c : EvId) (ops : List EvId) (t : KState ℚ σ) (hW : WF t) (hc : isCond t c = true) :
    R t (ops.foldl (fun s e => if s.processed e then _root_.condCheck s c e else s.addCb e (.check c)) t) := by
  refine K.foldl _ (fun t => isCond t c = true) (fun t t' hP hR => (K.toBase hR).isCond_keep hP) ?_ ops t hW hc
  intro t e hWt hPt
  split
  · exact K.condCheck t hWt _ _ hPt
  · exact K.frame _ _ hWt (Frame.addCb _ _ _ hPt)

theorem mkCond (s : KState ℚ σ) (hW : WF s) (all : Bool) (ops : List EvId) : R s (mkCond s all ops).1 := by
  unfold _root_.mkCond
  simp only
  have h1 : R s (s.newLabelled { kind := .cond all ops, cbs := some [], out := none }).1 :=
    K.newLabelled s hW _ rfl (plain_of_all [] rfl)
  have hW1 := K.wf hW h1
  have hc1 : isCond (s.newLabelled { kind := .cond all ops, cbs := some [], out := none }).1 s.events.size = true := by
    unfold isCond
    rw [KState.ev_newLabelled, if_pos rfl]
  split
  · exact K.trans h1 (K.trigger _ hW1 _ _ (not_isReq_of_isCond hc1))
  · have h2 := K.condOpsFold s.events.size ops _ hW1 hc1
    refine K.trans h1 (K.seq hW1 h2 (fun hW2 => K.frame _ _ hW2 (Frame.addCb _ _ _ ?_)))
    exact (K.toBase h2).isCond_keep hc1

theorem doCall (s : KState ℚ σ) (hW : WF s) (self : EvId) (c : Call ℚ σ) (hok : callOK s c) : R s (doCall s self c).1 := by
  refine doCall_state_cases (R s) s self c (K.refl s) ?_ (K.newLabelled s hW _ rfl (plain_of_all [] rfl))
    (fun e v hc => K.trigger s hW _ _ (by subst hc; exact hok)) (fun e x hc => K.trigger s hW _ _ (by subst hc; exact hok)) ?_
    (K.mkInterrupt s hW) (fun e tag => K.frame _ _ hW (Frame.addCb s _ _ trivial)) (K.mkCond s hW) (K.mkPut s hW)
    (K.mkGet s hW) (K.cancelReq s hW) (fun o => K.frame _ _ hW (Frame.emit s o)) (fun l => K.frame _ _ hW (Frame.shared s l))
  · exact fun d v => K.seq hW (K.newLabelled s hW _ rfl (plain_of_all [] rfl)) (fun hW1 => K.schedule _ hW1 _ _ _)
  · intro st
    have h1 : R s (s.newLabelled { kind := .proc, cbs := some [], out := none }).1 :=
      K.newLabelled s hW _ rfl (plain_of_all [] rfl)
    have hk1 : ((s.newLabelled { kind := .proc, cbs := some [], out := none }).1.ev s.events.size).kind = .proc := by
      rw [KState.ev_newLabelled, if_pos rfl]
    exact K.seq hW h1 (fun hW1 => K.seq hW1 (K.frame _ _ hW1 (Frame.setProc _ _ _ hk1)) (fun hW2 =>
      K.seq hW2 (K.newEv _ hW2 _ rfl (plain_of_all [.resume _] rfl)) (fun hW3 => K.schedule _ hW3 _ _ _)))

theorem noteErr (self : EvId) (sr : KState ℚ σ × Reply) (hW : WF sr.1) : R sr.1 (noteErr self sr) := by
  unfold _root_.noteErr
  split
  · exact K.frame _ _ hW (Frame.emit _ _)
  · exact K.refl _

theorem runBurst (self : EvId) (b : Burst ℚ σ) (s : KState ℚ σ) (hW : WF s) (hok : burstOK self b s) :
    R s (runBurst self b s).1 := by
  induction b generalizing s with
  | call c k ih =>
    simp only [_root_.runBurst]
    obtain ⟨hc, hrest⟩ := hok
    have h1 := K.doCall s hW self c hc
    have hW1 := K.wf hW h1
    have h2 := K.noteErr self (_root_.doCall s self c) hW1
    exact K.trans (K.trans h1 h2) (ih _ _ (K.wf hW1 h2) hrest)
  | yield e st => exact K.refl s
  | ret v => exact K.refl s
  | raise x => exact K.refl s

theorem deliver (s : KState ℚ σ) (hW : WF s) (p e : EvId) : R s (deliver s p e).1 := by
  show R s (deliverSt s p e)
  unfold deliverSt
  split
  · exact K.seq hW (K.frame _ _ hW (Frame.active s _)) (fun hW1 => K.frame _ _ hW1 (Frame.defuse _ _))
  · exact K.frame _ _ hW (Frame.active s _)

theorem finishProc (s : KState ℚ σ) (hW : WF s) (p : EvId) (pr : ProcRec σ) (o : Outcome)
    (hp : (s.ev p).kind = .proc) : R s (finishProc s p pr o) := by
  unfold _root_.finishProc
  have h1 := K.trigger s hW p o (not_isReq_of_proc hp)
  have hp1 := (K.toBase h1).proc_keep hp
  refine K.seq hW h1 (fun hW1 => K.seq hW1 (K.frame _ _ hW1 (Frame.emit _ _)) (fun hW2 =>
    K.seq hW2 (K.frame _ _ hW2 (Frame.setProc _ _ _ ?_)) (fun hW3 => K.frame _ _ hW3 (Frame.active _ _))))
  exact hp1

theorem register (s s' : KState ℚ σ) (hW : WF s) (p e' : EvId) (h : register s p e' = some s') : R s s' := by
  unfold _root_.register at h
  split at h
  · cases h
  · cases h
    exact K.seq hW (K.frame _ _ hW (Frame.addCb s e' (.resume p) trivial)) (fun hW1 => K.frame _ _ hW1 (Frame.active _ _))

theorem resume (body : σ → Resume → Burst ℚ σ) (p : EvId) (fuel : Nat) (e : EvId) (s : KState ℚ σ) (hW : WF s)
    (hok : resumeOK body p fuel e s) : R s (resume body p fuel e s) := by
  induction fuel generalizing e s with
  | zero => exact K.refl s
  | succ n ih =>
    unfold _root_.resume
    unfold resumeOK at hok
    split
    · exact K.refl s
    · rename_i pr hpr
      simp only [hpr] at hok
      obtain ⟨hbok, hrest⟩ := hok
      simp only
      have hpk : (s.ev p).kind = .proc := hW.procs p pr hpr
      have hd : R s ((_root_.deliver s p e).1.emit (.resumed p (_root_.deliver s p e).2 (_root_.deliver s p e).1.now)) :=
        K.seq hW (K.deliver s hW p e) (fun hW1 => K.frame _ _ hW1 (Frame.emit _ _))
      have hb : R s (_root_.runBurst p (body pr.st (_root_.deliver s p e).2)
          ((_root_.deliver s p e).1.emit (.resumed p (_root_.deliver s p e).2 (_root_.deliver s p e).1.now))).1 :=
        K.seq hW hd (fun hW1 => K.runBurst _ _ _ hW1 hbok)
      have hWb := K.wf hW hb
      have hpb := (K.toBase hb).proc_keep hpk
      split
      · exact K.trans hb (K.finishProc _ hWb _ _ _ hpb)
      · exact K.trans hb (K.finishProc _ hWb _ _ _ hpb)
      · rename_i e' st' hy
        rw [hy] at hrest
        simp only at hrest
        have hsp := K.frame _ _ hWb (Frame.setProc _ p { st := st', target := some e' } hpb)
        have hWs := K.wf hWb hsp
        split
        · rename_i s3 hr
          exact K.trans (K.trans hb hsp) (K.register _ _ hWs _ _ hr)
        · rename_i hr
          rw [hr] at hrest
          exact K.trans (K.trans hb hsp) (ih _ _ hWs hrest)

theorem deliverInterrupt (body : σ → Resume → Burst ℚ σ) (fuel : Nat) (iv p : EvId) (s : KState ℚ σ) (hW : WF s)
    (hok : deliverInterruptOK body fuel iv p s) : R s (deliverInterrupt body fuel iv p s) := by
  unfold _root_.deliverInterrupt
  unfold deliverInterruptOK at hok
  split
  · exact K.refl s
  · rename_i ht
    simp only [ht] at hok
    split
    · exact K.refl s
    · rename_i pr hpr
      simp only [hpr] at hok
      split
      · rename_i t htg
        simp only [htg] at hok
        exact K.seq hW (K.frame _ _ hW (Frame.eraseCb s _ _)) (fun hW1 => K.resume _ _ _ _ _ hW1 hok)
      · rename_i htg
        simp only [htg] at hok
        exact K.resume _ _ _ _ _ hW hok

theorem runCb (body : σ → Resume → Burst ℚ σ) (fuel : Nat) (e : EvId) (l : LoopSt ℚ σ) (cb : Cb) (hW : WF l.s)
    (hcb : CbOK l.s cb) (hok : runCbOK body fuel e l cb) : R l.s (runCb body fuel e l cb).s := by
  unfold _root_.runCb
  simp only
  cases cb with
  | resume p => exact K.resume _ _ _ _ _ hW hok
  | probe tag => exact K.frame _ _ hW (Frame.emit _ _)
  | stop => exact K.refl _
  | intr iv =>
    simp only
    unfold runCbOK at hok
    split
    · rename_i p hk
      simp only [hk] at hok
      exact K.deliverInterrupt _ _ _ _ _ hW hok
    · exact K.refl _
  | check c => exact K.condCheck _ hW _ _ hcb
  | build c => dsimp only; exact K.condBuild _ hW _ hcb
  | trigPut r => exact K.triggerPut _ hW _
  | trigGet r => exact K.triggerGet _ hW _

theorem foldCbs (body : σ → Resume → Burst ℚ σ) (fuel : Nat) (e : EvId) (cbs : List Cb) (l : LoopSt ℚ σ) (hW : WF l.s)
    (hcbs : ∀ cb ∈ cbs, CbOK l.s cb) (hok : foldOK body fuel e cbs l) : R l.s (cbs.foldl (_root_.runCb body fuel e) l).s := by
  induction cbs generalizing l with
  | nil => exact K.refl _
  | cons c cs ih =>
    obtain ⟨h1ok, hrest⟩ := hok
    have h1 := K.runCb body fuel e l c hW (hcbs c List.mem_cons_self) h1ok
    refine K.trans h1 (ih _ (K.wf hW h1) ?_ hrest)
    intro cb hcb
    exact (K.toBase h1).cbOK_keep (hcbs cb (List.mem_cons_of_mem _ hcb))

theorem step (body : σ → Resume → Burst ℚ σ) (fuel : Nat) (s s' : KState ℚ σ) (hW : WF s)
    (hok : stepOK body fuel s) (hs : (step body fuel s).state? = some s') : R s s' := by
  unfold _root_.step at hs
  unfold stepOK at hok
  split at hs
  · cases hs
  · rename_i q rest hq
    simp only [hq] at hok
    have ho := K.frame _ _ hW (Frame.openEvent s q rest)
    split at hs
    · cases hs; exact ho
    · rename_i cbs hcbs
      simp only [hcbs] at hok
      rw [closeEvent_state] at hs
      cases hs
      refine K.trans ho (K.foldCbs body fuel q.ev cbs { s := openEvent s q rest } (K.wf hW ho) ?_ hok)
      intro cb hcb
      exact (K.toBase ho).cbOK_keep (hW.cbs q.ev cbs hcbs cb hcb)

theorem reach (body : σ → Resume → Burst ℚ σ) (fuel : Nat) (s0 s : KState ℚ σ) (hW : WF s0)
    (hr : SafeReach body fuel s0 s) : R s0 s := by
  induction hr with
  | init => exact K.refl _
  | step _ hok hs ih => exact K.trans ih (K.step body fuel _ _ (K.wf hW ih) hok hs)

end CRel

end Conserve
