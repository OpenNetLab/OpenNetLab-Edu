import OnlVerif.Lemmas.TcpSender
/-!
# The sender of a finite flow: the invariant behind the liveness results of C16

`SInv n s`: the sender invariant `Inv` plus what a flow of `n = k · MSS` bytes adds: `next_seq`, `send_buffer` are
aligned and bounded, `last_ack ≤ next_seq`, **the segment at `last_ack` is under a timer while anything is
outstanding**, **a blocked `run` with no wake-up token pending has something outstanding**, a finished `run` has sent
everything, every timer is live and not overdue, the congestion-control object's MSS is at least the generator's.

Every accepted action keeps it, provided the ACKs are the ones the closed loop delivers (`GoodAck`).
-/

open TcpScalar TcpSpec TcpCC TcpSender Sender

namespace AL
variable {β : Type}

theorem mem_keys_of_mem {l : List (Nat × β)} {kv : Nat × β} (h : kv ∈ l) : kv.1 ∈ keys l :=
  List.mem_map.mpr ⟨kv, h, rfl⟩

end AL

namespace TcpLive

theorem ccBeforeNew_mss (s : Sender ℚ) : (ccBeforeNew s).mss = s.cc.mss := by
  unfold ccBeforeNew; split_ifs <;> rfl

structure SInv (n : Nat) (s : Sender ℚ) : Prop where
  inv : Inv s
  size : s.size = some n
  npos : 0 < n
  mpos : 0 < s.mss
  dvd : s.mss ∣ n
  /-- the congestion-control object counts in segments at least as large as the generator's -/
  ccmss : (s.mss : ℚ) ≤ s.cc.mss
  ns_al : s.mss ∣ s.next_seq
  ns_le : s.next_seq ≤ n
  sb : s.send_buffer = s.next_seq ∨ s.send_buffer = s.next_seq + s.mss
  la_le : s.last_ack ≤ s.next_seq
  /-- while anything is outstanding, the first unacknowledged segment is under a timer -/
  tm : s.last_ack < s.next_seq → s.last_ack ∈ AL.keys s.timers
  /-- `run` waits for a wake-up token only while something is outstanding (or a token is already there) -/
  blk : s.proc = .blocked → 0 < s.tokens ∨ s.last_ack < s.next_seq
  finished : s.proc = .finished → s.next_seq = n
  live : ∀ kv ∈ s.timers, kv.2.live = true ∧ kv.2.wake = kv.2.expiry ∧ s.now ≤ kv.2.wake
  tk : ∀ q ∈ AL.keys s.timers, s.mss ∣ q ∧ q < s.next_seq
  /-- timers exist only for segments not below the acknowledged mark -/
  tge : ∀ q ∈ AL.keys s.timers, s.last_ack ≤ q

theorem al_succ {m a b : Nat} (ha : m ∣ a) (hb : m ∣ b) (h : a < b) : a + m ≤ b :=
  Nat.le_of_lt_add_of_dvd (Nat.add_lt_add_right h m) (Dvd.dvd.add ha (Nat.dvd_refl m)) hb

variable {n : Nat} {s : Sender ℚ}

theorem flowDone_iff (h : SInv n s) : s.flowDone = true ↔ s.next_seq = n := by
  unfold Sender.flowDone
  rw [h.size]
  have := h.npos; have := h.ns_le
  simp
  omega

theorem refill_eq (h : SInv n s) (hd : s.next_seq < n) : s.refill = { s with send_buffer := s.next_seq + s.mss } := by
  have hp : s.pktSize = s.mss := by
    unfold Sender.pktSize
    rw [h.size]
    have := al_succ h.ns_al h.dvd hd
    have := h.npos
    simp
    omega
  unfold Sender.refill
  rcases h.sb with e | e
  · rw [if_pos (by omega), hp, e]
  · rw [if_neg (by have := h.mpos; omega)]
    cases s
    simp only at e
    subst e
    rfl

/-- the three outcomes of one iteration of the sending loop, for a finite flow -/
theorem sendStep_cases (h : SInv n s) :
    (s.next_seq = n ∧ s.sendStep = .done { s with proc := .finished }) ∨
    (s.next_seq < n ∧ ((s.next_seq : ℚ) + s.mss ≤ s.last_ack + s.cc.cwnd) ∧
      s.sendStep = .sent { s with send_buffer := s.next_seq + s.mss, sent := AL.set s.next_seq s.now s.sent,
                                  next_seq := s.next_seq + s.mss,
                                  timers := AL.set s.next_seq { expiry := s.now + s.est.rto, wake := s.now + s.est.rto, live := true } s.timers }
                         { seq := s.next_seq, size := s.mss, stamp := s.now, kind := .new }) ∨
    (s.next_seq < n ∧ ¬ ((s.next_seq : ℚ) + s.mss ≤ s.last_ack + s.cc.cwnd) ∧
      s.sendStep = .yielded ({ s with send_buffer := s.next_seq + s.mss } : Sender ℚ).getToken) := by
  by_cases hd : s.next_seq = n
  · left
    refine ⟨hd, ?_⟩
    unfold Sender.sendStep
    rw [if_pos ((flowDone_iff h).mpr hd)]
  · right
    have hlt : s.next_seq < n := lt_of_le_of_ne h.ns_le hd
    have hfd : ¬ s.flowDone = true := fun e => hd ((flowDone_iff h).mp e)
    have hg : ({ s with send_buffer := s.next_seq + s.mss } : Sender ℚ).guard = true ↔
        (s.next_seq : ℚ) + s.mss ≤ s.last_ack + s.cc.cwnd := by
      rw [guard_iff]
      unfold InWindow
      simp only [Nat.cast_add, le_min_iff, le_refl, true_and]
    unfold Sender.sendStep
    rw [if_neg hfd]
    simp only [refill_eq h hlt]
    by_cases hw : (s.next_seq : ℚ) + s.mss ≤ s.last_ack + s.cc.cwnd
    · left
      refine ⟨hlt, hw, ?_⟩
      rw [if_pos (hg.mpr hw), emit_ok (by exact h.inv.rto_pos), arm_eq _ _ h.inv.rto_pos]
    · right
      refine ⟨hlt, hw, ?_⟩
      rw [if_neg (fun e => hw (hg.mp e))]

/-- the window is open whenever nothing is outstanding: `cwnd ≥ cc.mss ≥ MSS` -/
theorem window_open (h : SInv n s) (he : s.next_seq ≤ s.last_ack) :
    (s.next_seq : ℚ) + s.mss ≤ s.last_ack + s.cc.cwnd := by
  have h1 := h.ccmss
  have h2 := h.inv.cc.cwnd_ge
  have h3 : (s.next_seq : ℚ) ≤ s.last_ack := by exact_mod_cast he
  linarith

theorem sinv_done (h : SInv n s) (hd : s.next_seq = n) : SInv n ({ s with proc := .finished } : Sender ℚ) :=
  { h with inv := h.inv.transfer rfl rfl rfl rfl rfl h.inv.buf, blk := fun e => (by cases e), finished := fun _ => hd }

theorem sinv_sent (h : SInv n s) (hd : s.next_seq < n) :
    SInv n ({ s with send_buffer := s.next_seq + s.mss, sent := AL.set s.next_seq s.now s.sent,
                     next_seq := s.next_seq + s.mss,
                     timers := AL.set s.next_seq { expiry := s.now + s.est.rto, wake := s.now + s.est.rto, live := true } s.timers } : Sender ℚ) := by
  have hm := h.mpos
  have hle := al_succ h.ns_al h.dvd hd
  have hla := h.la_le
  refine ⟨?_, h.size, h.npos, h.mpos, h.dvd, h.ccmss, ?_, hle, Or.inl rfl, ?_, ?_, ?_, ?_, ?_, ?_, ?_⟩
  · exact ⟨h.inv.cc, AL.keys_set_congr _ _ _ h.inv.keys, AL.nodup_keys_set _ _ _ h.inv.nodup, h.inv.rto_pos,
      h.inv.srtt_pos, h.inv.dev_nonneg, Nat.le_refl _⟩
  · exact Dvd.dvd.add h.ns_al (Nat.dvd_refl _)
  · show s.last_ack ≤ s.next_seq + s.mss
    omega
  · intro _
    show s.last_ack ∈ AL.keys (AL.set _ _ _)
    rw [AL.mem_keys_set]
    by_cases e : s.last_ack < s.next_seq
    · exact Or.inl (h.tm e)
    · exact Or.inr (by omega)
  · intro _
    right
    show s.last_ack < s.next_seq + s.mss
    omega
  · intro e
    have := h.finished e
    omega
  · intro kv hkv
    rcases AL.mem_set hkv with e | e
    · rw [e]
      have := h.inv.rto_pos
      exact ⟨rfl, rfl, by show s.now ≤ s.now + s.est.rto; linarith⟩
    · exact h.live kv e
  · intro q hq
    rcases AL.mem_keys_set.mp hq with e | e
    · obtain ⟨a, b⟩ := h.tk q e
      exact ⟨a, by show q < s.next_seq + s.mss; omega⟩
    · subst e
      exact ⟨h.ns_al, by show s.next_seq < s.next_seq + s.mss; omega⟩
  · intro q hq
    rcases AL.mem_keys_set.mp hq with e | e
    · exact h.tge q e
    · subst e; exact hla

theorem sinv_yield (h : SInv n s) (_hd : s.next_seq < n) (hw : ¬ ((s.next_seq : ℚ) + s.mss ≤ s.last_ack + s.cc.cwnd)) :
    SInv n ({ s with send_buffer := s.next_seq + s.mss } : Sender ℚ).getToken := by
  have hout : s.last_ack < s.next_seq := by
    by_contra hc
    exact hw (window_open h (by omega))
  have base : SInv n ({ s with send_buffer := s.next_seq + s.mss } : Sender ℚ) :=
    { h with inv := h.inv.transfer rfl rfl rfl rfl rfl (Nat.le_add_right _ _), sb := Or.inr rfl }
  unfold Sender.getToken
  split_ifs with ht
  · exact { base with inv := base.inv.transfer rfl rfl rfl rfl rfl base.inv.buf, blk := fun e => (by cases e),
                      finished := fun e => by cases e }
  · exact { base with inv := base.inv.transfer rfl rfl rfl rfl rfl base.inv.buf, blk := fun _ => Or.inr hout,
                      finished := fun e => by cases e }

theorem getToken_spec (X : Sender ℚ) :
    X.getToken.timers = X.timers ∧
    2 * X.getToken.tokens + (if X.getToken.proc = .runnable then 1 else 0) < 2 * X.tokens + 1 := by
  by_cases ht : X.tokens > 0
  · have e : X.getToken = { X with tokens := X.tokens - 1, proc := .runnable } := by
      unfold Sender.getToken; rw [if_pos ht]
    rw [e]
    refine ⟨rfl, ?_⟩
    show 2 * (X.tokens - 1) + (if Proc.runnable = Proc.runnable then 1 else 0) < 2 * X.tokens + 1
    rw [if_pos rfl]
    omega
  · have e : X.getToken = { X with proc := .blocked } := by
      unfold Sender.getToken; rw [if_neg ht]
    rw [e]
    refine ⟨rfl, ?_⟩
    show 2 * X.tokens + (if Proc.blocked = Proc.runnable then 1 else 0) < 2 * X.tokens + 1
    rw [if_neg (by decide)]
    omega

/-- what one resumption of `run` (`wake`) does: it sends the next `k` segments and stops -/
structure WakeSpec (n : Nat) (s : Sender ℚ) (new : List (Tx ℚ)) (s' : Sender ℚ) : Prop where
  sinv : SInv n s'
  last_ack : s'.last_ack = s.last_ack
  now : s'.now = s.now
  mss : s'.mss = s.mss
  est : s'.est = s.est
  dupack : s'.dupack = s.dupack
  cc : s'.cc = s.cc
  next_seq : s'.next_seq = s.next_seq + new.length * s.mss
  outs : ∀ i (hi : i < new.length), new[i] = { seq := s.next_seq + i * s.mss, size := s.mss, stamp := s.now, kind := .new }
  keys : ∀ q, q ∈ AL.keys s'.timers ↔ q ∈ AL.keys s.timers ∨ ∃ i, i < new.length ∧ q = s.next_seq + i * s.mss
  quiet : new = [] → s'.timers = s.timers
  /-- the process either consumed a token, or blocked, or finished -/
  procm : s.proc = .runnable → 2 * s'.tokens + (if s'.proc = .runnable then 1 else 0) < 2 * s.tokens + 1

theorem emits_sinv {new : List (Tx ℚ)} {s' : Sender ℚ} (he : Emits s new s') (h : SInv n s) :
    SInv n s' ∧ (new = [] → s'.timers = s.timers) ∧
    (s.proc = .runnable → 2 * s'.tokens + (if s'.proc = .runnable then 1 else 0) < 2 * s.tokens + 1) := by
  induction he with
  | @stop s s' hs =>
    rcases sendStep_cases h with ⟨hd, e⟩ | ⟨_, _, e⟩ | ⟨hd, hw, e⟩
    · rw [e] at hs
      rcases hs with hs | hs
      · cases hs
      injection hs with hs
      subst hs
      exact ⟨sinv_done h hd, fun _ => rfl, fun _ => by simp⟩
    · rw [e] at hs
      rcases hs with hs | hs <;> cases hs
    · rw [e] at hs
      rcases hs with hs | hs
      swap
      · cases hs
      injection hs with hs
      subst hs
      obtain ⟨g1, g2⟩ := getToken_spec ({ s with send_buffer := s.next_seq + s.mss } : Sender ℚ)
      exact ⟨sinv_yield h hd hw, fun _ => g1, fun _ => g2⟩
  | @send s s1 s' tx rest hs _ ih =>
    rcases sendStep_cases h with ⟨_, e⟩ | ⟨hd, _, e⟩ | ⟨_, _, e⟩
    · rw [e] at hs; cases hs
    · rw [e] at hs
      injection hs with h1 _
      subst h1
      obtain ⟨a, _, c⟩ := ih (sinv_sent h hd)
      exact ⟨a, fun e => (by cases e), c⟩
    · rw [e] at hs; cases hs

theorem wake_spec {fuel : Nat} {s' : Sender ℚ} {outs : List (Tx ℚ)} (h : SInv n s) (hs : s.wakeStep fuel = .ok s' outs) :
    s.proc = .runnable ∧ WakeSpec n s outs s' := by
  obtain ⟨hp, hem⟩ := (wakeStep_safe h.inv fuel).2 _ _ hs
  have b := emits_burst hem h.inv
  obtain ⟨hi, hq, hm⟩ := emits_sinv hem h
  exact ⟨hp, hi, b.last_ack, b.now, b.mss, b.est, b.dupack, b.cc, b.next_seq, b.outs, b.keys, hq, hm⟩

theorem handoff_spec {s' : Sender ℚ} {outs : List (Tx ℚ)} (hs : s.handoffStep = .ok s' outs) :
    s.proc = .blocked ∧ 0 < s.tokens ∧ s' = { s with tokens := s.tokens - 1, proc := .runnable } ∧ outs = [] :=
  (handoffStep_safe s).2 _ _ hs

theorem tick_spec {t : ℚ} {s' : Sender ℚ} {outs : List (Tx ℚ)} (hs : s.tickStep t = .ok s' outs) :
    s.now ≤ t ∧ s.proc ≠ .runnable ∧ ¬ (s.proc = .blocked ∧ s.tokens > 0) ∧ s.overdue t = false ∧
    s' = { s with now := t } ∧ outs = [] :=
  (tickStep_safe s t).2 _ _ hs

theorem fire_spec {seq : Nat} {s' : Sender ℚ} {outs : List (Tx ℚ)} (h : Inv s) (hs : s.fireStep seq = .ok s' outs) :
    ∃ tr S, AL.get? seq s.timers = some tr ∧ tr.live = true ∧ tr.wake = s.now ∧ ¬ s.now < tr.expiry ∧
      AL.keys S = AL.keys s.sent ∧
      s' = { s with cc := CC.timerExpired s.kind s.cc, sent := S, est := { s.est with rto := s.est.rto * 2 },
                    timers := AL.set seq { expiry := s.now + s.est.rto * 2, wake := s.now + s.est.rto * 2, live := true } s.timers } ∧
      outs = [{ seq := seq, size := s.mss, stamp := s.now, kind := .resend }] :=
  (fireStep_cases h seq).2 _ _ hs

theorem fire_enabled {seq : Nat} {tr : TimerRec ℚ} (ht : AL.get? seq s.timers = some tr)
    (hdue : tr.live = true ∧ tr.wake = s.now ∧ ¬ s.now < tr.expiry) : ∃ s' outs, s.fireStep seq = .ok s' outs := by
  obtain ⟨S, r, _⟩ := fireStep_spec s seq tr ht hdue
  exact ⟨_, _, r⟩

/-- what the loop guarantees about the ACK at the head of the ACK path -/
structure GoodAck (s : Sender ℚ) (x : AckIn ℚ) : Prop where
  fid : 10000 ≤ x.fid
  ptime : x.ptime ≤ s.now
  ge : s.last_ack ≤ x.ackno
  le : x.ackno ≤ s.next_seq
  ne : x.pid ≠ x.ackno
  timed : x.ackno < s.next_seq → x.ackno ∈ AL.keys s.timers

theorem GoodAck.ok {x : AckIn ℚ} (g : GoodAck s x) : AckOk s x := ⟨g.fid, g.ptime⟩

theorem ack_cases {x : AckIn ℚ} {s' : Sender ℚ} {outs : List (Tx ℚ)} (h : Inv s) (hok : AckOk s x)
    (hs : s.ackStep x = .ok s' outs) : AckCase s x s' outs :=
  ((ackStep_cases h x hok.1).2 _ _ hs).2

/-! ## every accepted action keeps `SInv`; what it does to the numbers the loop invariant talks about -/

structure Eff (n : Nat) (s : Sender ℚ) (a : Act ℚ) (s' : Sender ℚ) (outs : List (Tx ℚ)) : Prop where
  sinv : SInv n s'
  mss : s'.mss = s.mss
  la : s'.last_ack = s.last_ack ∨ ∃ x, a = .ack x ∧ s'.last_ack = x.ackno
  ns : s.next_seq ≤ s'.next_seq
  ns_ack : ∀ x, a = .ack x → s'.next_seq = s.next_seq
  now : s.now ≤ s'.now
  keep : ∀ q ∈ AL.keys s.timers, q ∈ AL.keys s'.timers ∨ ∃ x, a = .ack x ∧ (q < x.ackno ∨ q = x.pid)
  fresh : ∀ q, s.mss ∣ q → s.next_seq ≤ q → q < s'.next_seq → q ∈ AL.keys s'.timers
  outs : ∀ tx ∈ outs, tx.size = s.mss ∧ s.mss ∣ tx.seq ∧ tx.seq < s'.next_seq ∧ tx.stamp ≤ s'.now

theorem eff_wake {fuel : Nat} {s' : Sender ℚ} {outs : List (Tx ℚ)} (h : SInv n s) (hs : s.wakeStep fuel = .ok s' outs) :
    Eff n s (.wake fuel) s' outs := by
  obtain ⟨_, w⟩ := wake_spec h hs
  have hm := h.mpos
  refine ⟨w.sinv, w.mss, Or.inl w.last_ack, (by rw [w.next_seq]; exact Nat.le_add_right _ _), fun x e => (by cases e),
    (by rw [w.now]), fun q hq => Or.inl ((w.keys q).mpr (Or.inl hq)), ?_, ?_⟩
  · intro q hq h1 h2
    rw [w.next_seq] at h2
    obtain ⟨i, hi⟩ := (Nat.dvd_sub hq h.ns_al : s.mss ∣ q - s.next_seq)
    refine (w.keys q).mpr (Or.inr ⟨i, ?_, by rw [Nat.mul_comm] at hi; omega⟩)
    by_contra hc
    have := Nat.mul_le_mul_left s.mss (Nat.le_of_not_lt hc)
    rw [Nat.mul_comm s.mss outs.length] at this
    omega
  · intro tx htx
    obtain ⟨i, hi, rfl⟩ := List.getElem_of_mem htx
    rw [w.outs i hi, w.next_seq, w.now]
    refine ⟨rfl, Dvd.dvd.add h.ns_al (Dvd.intro_left i rfl), ?_, le_refl _⟩
    show s.next_seq + i * s.mss < s.next_seq + outs.length * s.mss
    have := Nat.mul_lt_mul_of_pos_right hi hm
    omega

/-- an action that sends no new segment: `next_seq` stays, and what it sends are copies of timed segments -/
theorem Eff.same {a : Act ℚ} {s' : Sender ℚ} {outs : List (Tx ℚ)} (h : SInv n s) (m : Moved s a s' outs)
    (hi : SInv n s') (hns : s'.next_seq = s.next_seq) (hnow : s.now ≤ s'.now)
    (ho : ∀ tx ∈ outs, tx.seq ∈ AL.keys s.timers ∧ tx.stamp ≤ s'.now) : Eff n s a s' outs :=
  ⟨hi, m.mss, m.la.imp_right fun ⟨x, e, _, e'⟩ => ⟨x, e, e'⟩, hns ▸ Nat.le_refl _, fun _ _ => hns, hnow,
   fun q hq => (m.keep q hq).imp_right fun ⟨x, e, _, c⟩ => ⟨x, e, c⟩, fun q _ h1 h2 => absurd h2 (by rw [hns]; omega),
   fun tx htx => ⟨m.size tx htx, (h.tk _ (ho tx htx).1).1, hns ▸ (h.tk _ (ho tx htx).1).2, (ho tx htx).2⟩⟩

theorem step_eff {a : Act ℚ} {s' : Sender ℚ} {outs : List (Tx ℚ)} (h : SInv n s) (ha : ∀ x, a = .ack x → GoodAck s x)
    (hs : s.step a = .ok s' outs) : Eff n s a s' outs := by
  have m : Moved s a s' outs := by
    refine (step_moved h.inv a ?_).2 _ _ hs
    cases a with
    | ack x => exact (ha x rfl).fid
    | _ => trivial
  have none : ∀ tx ∈ ([] : List (Tx ℚ)), tx.seq ∈ AL.keys s.timers ∧ tx.stamp ≤ s'.now :=
    fun _ htx => absurd htx List.not_mem_nil
  cases a with
  | wake fuel => exact eff_wake h hs
  | handoff =>
    obtain ⟨_, _, rfl, rfl⟩ := handoff_spec hs
    exact .same h m { h with inv := m.inv, blk := fun e => (by cases e), finished := fun e => (by cases e) } rfl (le_refl _)
      none
  | tick t =>
    obtain ⟨h1, _, _, h4, rfl, rfl⟩ := tick_spec hs
    exact .same h m { h with inv := m.inv, live := fun kv hkv => ⟨(h.live kv hkv).1, (h.live kv hkv).2.1,
                               (overdue_false_iff s t).mp h4 kv hkv (h.live kv hkv).1⟩ } rfl h1 none
  | fire seq =>
    obtain ⟨tr, S, ht, _, _, _, hk, rfl, rfl⟩ := fire_spec h.inv hs
    have hmem : seq ∈ AL.keys s.timers := AL.mem_of_get?_some ht
    have hkeys : AL.keys (AL.set seq ({ expiry := s.now + s.est.rto * 2, wake := s.now + s.est.rto * 2, live := true } : TimerRec ℚ)
        s.timers) = AL.keys s.timers := AL.keys_set_of_mem _ _ _ hmem
    have hrto := h.inv.rto_pos
    refine .same h m { h with inv := m.inv, ccmss := ?_, tm := fun e => hkeys.symm ▸ h.tm e, live := ?_,
                              tk := fun q hq => h.tk q (hkeys ▸ hq), tge := fun q hq => h.tge q (hkeys ▸ hq) }
      rfl (le_refl _) (fun tx htx => by rw [List.mem_singleton.mp htx]; exact ⟨hmem, le_refl _⟩)
    · show (s.mss : ℚ) ≤ (CC.timerExpired s.kind s.cc).mss
      rw [timerExpired_mss]; exact h.ccmss
    · intro kv hkv
      rcases AL.mem_set hkv with e | e
      · rw [e]
        exact ⟨rfl, rfl, by show s.now ≤ s.now + s.est.rto * 2; linarith⟩
      · exact h.live kv e
  | ack x =>
    have g := ha x rfl
    cases ack_cases h.inv g.ok hs with
    | stale hlt _ _ => exact absurd hlt (Nat.not_lt.mpr g.ge)
    | early hd h2 e1 e2 => subst e1 e2; exact .same h m { h with inv := m.inv } rfl (le_refl _) none
    | dup c S hd h2 hc hci hk e1 e2 _ =>
      subst e1
      refine .same h m { h with inv := m.inv, ccmss := (by show (s.mss : ℚ) ≤ c.mss; rw [hc]; exact h.ccmss) } rfl
        (le_refl _) fun tx htx => ?_
      rcases e2 with e2 | ⟨hm, e2⟩ <;> subst e2
      · exact none tx htx
      · rw [List.mem_singleton.mp htx]; exact ⟨h.inv.keys ▸ hm, le_refl _⟩
    | new T S hd e1 _ _ hT hsub e2 =>
      subst e1 e2
      refine .same h m { h with inv := m.inv, ccmss := ?_, la_le := g.le, tm := ?_, blk := fun _ => Or.inl (Nat.succ_pos _),
                                live := fun kv hkv => h.live kv (hsub kv hkv), tk := fun q hq => h.tk q ((hT q).mp hq).1,
                                tge := fun q hq => (by have := ((hT q).mp hq).2; show x.ackno ≤ q; omega) }
        rfl (le_refl _) none
      · show (s.mss : ℚ) ≤ (CC.ackReceived s.kind (ccBeforeNew s) _ s.now).mss
        rw [ackReceived_mss, ccBeforeNew_mss]; exact h.ccmss
      · intro e
        have e' : x.ackno < s.next_seq := e
        show x.ackno ∈ AL.keys T
        exact (hT _).mpr ⟨g.timed e', fun hc => by rcases hc with hc | hc; exact absurd hc (Nat.lt_irrefl _); exact g.ne hc.symm⟩

end TcpLive
