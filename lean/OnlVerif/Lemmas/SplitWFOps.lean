import OnlVerif.Lemmas.SplitWFLeaf
section
/-!
# Well-scopedness is kept by every operation of `Kernel/Ops.lean` (C03, stage 3)

For every state transformer `f` of the model: `WS I s → (the ids passed to f exist) → WS I (f s …)`; ids read back from a
well-scoped state exist.  The bound only grows (`Grow`), so guards established in `s` stay valid in every later state.

Second part: every API call and whole bursts (`ws_doCall`, `ws_runBurst`).
-/

variable {σ : Type}

namespace SplitWF
variable {I : IdSt σ} {s : KState ℚ σ}

theorem size_le_of_grow {s s' : KState ℚ σ} (g : Grow s s') : s.events.size ≤ s'.events.size := g.2

theorem ws_mkInterrupt (h : WS I s) (p : EvId) (c : Val) (hp : p < s.events.size) (hc : valBelow s.events.size c) :
    WS I (mkInterrupt s p c).1 := by
  unfold mkInterrupt
  split
  · exact h
  · split
    · exact h
    · refine ws_schedule (ws_newEv h _ ?_) _ _ _ (lt_size_newEv s _)
      exact recBelow_mk (Nat.lt_succ_of_lt hp) (List.forall_mem_singleton.mpr (Nat.lt_succ_self _))
        (fun _ ho => Option.some.inj ho ▸ List.forall_mem_singleton.mpr (hc.mono (Nat.le_succ _))) (fun _ h => nomatch h)

theorem ws_preemptStep (h : WS I s) (r : ResId) (e : EvId) (he : e < s.events.size) : WS I (preemptStep s r e) := by
  unfold preemptStep
  simp only
  have hpos : 0 < s.events.size := Nat.lt_of_le_of_lt (Nat.zero_le _) he
  split
  · split
    · exact h
    · rename_i w hw
      have hwm := worstUser_mem s _ w hw
      have hwlt : w < s.events.size := (h.resources r).users w hwm
      have herase : ∀ x ∈ (s.res r).users.erase w, x < s.events.size :=
        fun x hx => (h.resources r).users x (List.mem_of_mem_erase hx)
      split
      · split
        · rename_i vp hvp
          have hvp' : vp < s.events.size := (SB.reqOf h w hpos).1 vp hvp
          have h1 : WS I (s.setUsers r ((s.res r).users.erase w)) := SB.setUsers h r _ herase
          exact ws_mkInterrupt h1 vp _ hvp' ⟨(SB.reqOf h e hpos).1, hwlt⟩
        · exact SB.setUsers h r _ herase
      · exact h
  · exact h

theorem ws_prePut (h : WS I s) (r : ResId) (e : EvId) (he : e < s.events.size) : WS I (prePut s r e) := by
  unfold prePut
  split
  · exact ws_preemptStep h r e he
  · exact h

theorem ws_applyPut (h : WS I s) (r : ResId) (e : EvId) (he : e < s.events.size) : WS I (applyPut s r e) := by
  refine WS.of_le ?_ (SplitCfg.grow_applyPut s r e).2
  unfold applyPut
  simp only
  have hu : ∀ x ∈ (s.res r).users ++ [e], x < s.events.size := by
    intro x hx
    rcases List.mem_append.mp hx with hx | hx
    · exact (h.resources r).users x hx
    · rw [List.mem_singleton] at hx; subst hx; exact he
  split
  iterate 3 exact ((SB.setUsers h r _ hu).setUsage e).trigger e _ he trivial
  · exact (SB.setLevel h r _).trigger e _ he trivial
  iterate 3 exact (SB.setItems h r _).trigger e _ he trivial

theorem ws_doPut (h : WS I s) (r : ResId) (e : EvId) (he : e < s.events.size) : WS I (doPut s r e).1 := by
  unfold doPut
  have h1 := ws_prePut h r e he
  have hg : s.events.size ≤ (prePut s r e).events.size := (Grow.krel.prePut s r e).2
  split
  · show WS I (applyPut (prePut s r e) r e)
    exact ws_applyPut h1 r e (Nat.lt_of_lt_of_le he hg)
  · exact h1

theorem getItem_below (s : KState ℚ σ) (r : ResId) (e : EvId) (v : Val) (n : Nat) (hv : getItem s r e = some v) :
    valBelow n v := by
  rcases SplitCfg.getItem_simple s r e v hv with rfl | ⟨i, rfl⟩ <;> trivial

theorem sb_takeOut {n : Nat} (h : SB I n s) (r : ResId) (e : EvId) (v : Val) : SB I n (takeOut s r e v) := by
  unfold takeOut
  simp only
  have herase : ∀ w, ∀ x ∈ (s.res r).users.erase w, x < n :=
    fun w x hx => (h.resources r).users x (List.mem_of_mem_erase hx)
  split
  · exact h.setUsers r _ (herase _)
  · exact h.setUsers r _ (herase _)
  · exact h.setUsers r _ (herase _)
  · exact h.setLevel r _
  · exact h.setItems r _
  · split
    · exact h.setItems r _
    · exact h
  · split
    · exact h.setItems r _
    · exact h

theorem ws_doGet (h : WS I s) (r : ResId) (e : EvId) (he : e < s.events.size) : WS I (doGet s r e).1 := by
  unfold doGet
  split
  · rename_i v hv
    refine WS.of_le ((sb_takeOut h r e v).trigger e _ he (getItem_below s r e v _ hv)) ?_
    exact (Grow.krel.doGet s r e |> fun g => by
      have := g.2
      unfold doGet at this
      rw [hv] at this
      exact this)
  · exact h

theorem sb_dropPutQ {n : Nat} (h : SB I n s) (r : ResId) (e : EvId) : SB I n (dropPutQ s r e) :=
  h.setPutQ r _ (fun x hx => (h.resources r).putQ x (List.mem_of_mem_erase hx))

theorem sb_dropGetQ {n : Nat} (h : SB I n s) (r : ResId) (e : EvId) : SB I n (dropGetQ s r e) :=
  h.setGetQ r _ (fun x hx => (h.resources r).getQ x (List.mem_of_mem_erase hx))

/-- Stated for a variable state: with a composite state in place of `s` the unifier would unfold that state to see
that dropping a queue entry leaves the event table alone. -/
theorem ws_dropPutQ (h : WS I s) (r : ResId) (e : EvId) : WS I (dropPutQ s r e) := sb_dropPutQ h r e
theorem ws_dropGetQ (h : WS I s) (r : ResId) (e : EvId) : WS I (dropGetQ s r e) := sb_dropGetQ h r e

/-- a granted request leaves the queue; the event table is not touched -/
theorem ws_dropPutQ_if (h : WS I s) (b : Bool) (r : ResId) (e : EvId) :
    WS I (if b then dropPutQ s r e else s) ∧ (if b then dropPutQ s r e else s).events.size = s.events.size := by
  cases b
  · exact ⟨h, rfl⟩
  · exact ⟨ws_dropPutQ h r e, rfl⟩

theorem ws_dropGetQ_if (h : WS I s) (b : Bool) (r : ResId) (e : EvId) :
    WS I (if b then dropGetQ s r e else s) ∧ (if b then dropGetQ s r e else s).events.size = s.events.size := by
  cases b
  · exact ⟨h, rfl⟩
  · exact ⟨ws_dropGetQ h r e, rfl⟩

theorem ws_scanPut (r : ResId) : ∀ (l : List EvId) (s : KState ℚ σ), WS I s → (∀ e ∈ l, e < s.events.size) →
    WS I (scanPut r l s)
  | [], s, h, _ => h
  | e :: rest, s, h, hl => by
    unfold scanPut
    simp only
    have hg : s.events.size ≤ (doPut s r e).1.events.size := (Grow.krel.doPut s r e).2
    obtain ⟨h2, hs2⟩ := ws_dropPutQ_if (ws_doPut h r e (hl e List.mem_cons_self)) ((doPut s r e).1.triggered e) r e
    split
    · exact ws_scanPut r rest _ h2 (fun x hx => Nat.lt_of_lt_of_le (hl x (List.mem_cons_of_mem _ hx)) (Nat.le_trans hg (Nat.le_of_eq hs2.symm)))
    · exact h2

theorem ws_scanGet (r : ResId) : ∀ (l : List EvId) (s : KState ℚ σ), WS I s → (∀ e ∈ l, e < s.events.size) →
    WS I (scanGet r l s)
  | [], s, h, _ => h
  | e :: rest, s, h, hl => by
    unfold scanGet
    simp only
    have hg : s.events.size ≤ (doGet s r e).1.events.size := (Grow.krel.doGet s r e).2
    obtain ⟨h2, hs2⟩ := ws_dropGetQ_if (ws_doGet h r e (hl e List.mem_cons_self)) ((doGet s r e).1.triggered e) r e
    split
    · exact ws_scanGet r rest _ h2 (fun x hx => Nat.lt_of_lt_of_le (hl x (List.mem_cons_of_mem _ hx)) (Nat.le_trans hg (Nat.le_of_eq hs2.symm)))
    · exact h2

theorem ws_triggerPut (h : WS I s) (r : ResId) : WS I (triggerPut s r) :=
  ws_scanPut r _ s h (h.resources r).putQ

theorem ws_triggerGet (h : WS I s) (r : ResId) : WS I (triggerGet s r) :=
  ws_scanGet r _ s h (h.resources r).getQ

theorem sb_enqPut {n : Nat} (h : SB I n s) (r : ResId) (e : EvId) (he : e < n) : SB I n (enqPut s r e) := by
  unfold enqPut
  refine h.setPutQ r _ ?_
  intro x hx
  split at hx
  · rcases List.mem_cons.mp ((insertSorted_perm s e _).subset hx) with hx | hx
    · rw [hx]; exact he
    · exact (h.resources r).putQ x hx
  · rcases List.mem_append.mp hx with hx | hx
    · exact (h.resources r).putQ x hx
    · rw [List.mem_singleton] at hx; rw [hx]; exact he

theorem sb_enqGet {n : Nat} (h : SB I n s) (r : ResId) (e : EvId) (he : e < n) : SB I n (enqGet s r e) := by
  unfold enqGet
  refine h.setGetQ r _ ?_
  intro x hx
  rcases List.mem_append.mp hx with hx | hx
  · exact (h.resources r).getQ x hx
  · rw [List.mem_singleton] at hx; rw [hx]; exact he

theorem ws_enqPut (h : WS I s) (r : ResId) (e : EvId) (he : e < s.events.size) : WS I (enqPut s r e) := sb_enqPut h r e he
theorem ws_enqGet (h : WS I s) (r : ResId) (e : EvId) (he : e < s.events.size) : WS I (enqGet s r e) := sb_enqGet h r e he

theorem ws_mkPut (h : WS I s) (r : ResId) (rq : ReqData ℚ) (hrq : reqBelow (s.events.size + 1) rq) : WS I (mkPut s r rq).1 := by
  unfold mkPut
  simp only
  refine ws_triggerPut (ws_enqPut (ws_newLabelled h _ ?_) r _ (lt_size_newLabelled s _)) r
  exact recBelow_mk trivial (List.forall_mem_singleton.mpr trivial) (fun _ h => nomatch h) (fun _ h => Option.some.inj h ▸ hrq)

theorem ws_mkGet (h : WS I s) (r : ResId) (rq : ReqData ℚ) (hrq : reqBelow (s.events.size + 1) rq) : WS I (mkGet s r rq).1 := by
  unfold mkGet
  simp only
  refine ws_triggerGet (ws_enqGet (ws_newLabelled h _ ?_) r _ (lt_size_newLabelled s _)) r
  exact recBelow_mk trivial (List.forall_mem_singleton.mpr trivial) (fun _ h => nomatch h) (fun _ h => Option.some.inj h ▸ hrq)

theorem size_mkPut (s : KState ℚ σ) (r : ResId) (rq : ReqData ℚ) :
    (mkPut s r rq).2 = s.events.size ∧ s.events.size + 1 ≤ (mkPut s r rq).1.events.size := by
  unfold mkPut
  simp only
  refine ⟨trivial, ?_⟩
  refine Nat.le_trans ?_ (Grow.krel.triggerPut _ r).2
  exact Nat.le_of_eq (size_newLabelled s _).symm

theorem size_mkGet (s : KState ℚ σ) (r : ResId) (rq : ReqData ℚ) :
    (mkGet s r rq).2 = s.events.size ∧ s.events.size + 1 ≤ (mkGet s r rq).1.events.size := by
  unfold mkGet
  simp only
  refine ⟨trivial, ?_⟩
  refine Nat.le_trans ?_ (Grow.krel.triggerGet _ r).2
  exact Nat.le_of_eq (size_newLabelled s _).symm

theorem ws_cancelReq (h : WS I s) (e : EvId) : WS I (cancelReq s e).1 := by
  unfold cancelReq
  split
  · exact h
  · split
    · split
      · rename_i r _ _
        show WS I (triggerPut (dropPutQ s r e) r)
        exact ws_triggerPut (ws_dropPutQ h r e) r
      · exact h
    · split
      · rename_i r _ _
        show WS I (triggerGet (dropGetQ s r e) r)
        exact ws_triggerGet (ws_dropGetQ h r e) r
      · exact h
    · exact h

theorem cancelReq_err_below (s : KState ℚ σ) (e : EvId) (x : Exc) (n : Nat) (hx : (cancelReq s e).2 = some x) : excBelow n x := by
  obtain ⟨m, rfl⟩ := SplitCfg.cancelReq_err s e x hx
  exact excBelow_valueErr n m

theorem mkInterrupt_err_below (s : KState ℚ σ) (p : EvId) (c : Val) (x : Exc) (n : Nat) (hx : (mkInterrupt s p c).2 = some x) :
    excBelow n x := by
  obtain ⟨m, rfl⟩ := SplitCfg.mkInterrupt_err s p c x hx
  exact excBelow_runtimeErr n m

theorem sb_condCheck {n : Nat} (h : SB I n s) (c e : EvId) (hc : c < n) : SB I n (condCheck s c e) := by
  unfold condCheck
  split
  · exact h
  · split
    · rename_i x hx
      exact ((h.bumpCount c).defuse e).trigger c _ hc (h.out_below e _ hx)
    · split
      · exact (h.bumpCount c).trigger c _ hc trivial
      · exact h.bumpCount c

theorem sb_eraseCheck {n : Nat} (h : SB I n s) (c e : EvId) : SB I n (eraseCheck s c e) := by
  unfold eraseCheck
  split
  · split
    · exact h.eraseCb e _
    · exact h
  · exact h

theorem sb_foldl {α : Type} {n : Nat} (f : KState ℚ σ → α → KState ℚ σ) (hf : ∀ s a, SB I n s → SB I n (f s a)) (l : List α)
    (s : KState ℚ σ) (h : SB I n s) : SB I n (l.foldl f s) := by
  induction l generalizing s with
  | nil => exact h
  | cons a l ih => exact ih _ (hf s a h)

theorem sb_removeChecks {n : Nat} (fuel : Nat) (c : EvId) (s : KState ℚ σ) (h : SB I n s) : SB I n (removeChecks fuel c s) := by
  induction fuel generalizing c s with
  | zero => exact h
  | succ k ih =>
    unfold removeChecks
    apply sb_foldl
    · intro s e hs
      split
      · exact ih _ _ (sb_eraseCheck hs c e)
      · exact sb_eraseCheck hs c e
    · exact h

/-- the operands of an allocated condition are allocated (and older) -/
theorem condOps_below (h : WS I s) (c : EvId) : ∀ o ∈ (condOps s c).2, o < s.events.size := by
  unfold condOps
  cases hk : (s.ev c).kind with
  | cond all ops =>
    intro o ho
    have h1 : @LT.lt Nat _ o c := by
      have := (h.events c).kind
      rw [hk] at this
      exact this o ho
    have h2 : c < s.events.size := Once.lt_of_kind s c (by rw [hk]; simp)
    exact Nat.lt_trans h1 h2
  | _ => intro o ho; cases ho

theorem populate_below (h : WS I s) (fuel : Nat) (c : EvId) : ∀ k ∈ populate fuel s c, k < s.events.size := by
  induction fuel generalizing c with
  | zero => intro k hk; cases hk
  | succ f ih =>
    intro k hk
    unfold populate at hk
    rw [List.mem_flatMap] at hk
    obtain ⟨e, he, hke⟩ := hk
    split at hke
    · exact ih e k hke
    · split at hke
      · rw [List.mem_singleton] at hke
        rw [hke]
        exact condOps_below h c e he
      · cases hke

theorem ws_condBuild (h : WS I s) (c : EvId) : WS I (condBuild s c) := by
  unfold condBuild
  simp only
  have h1 : WS I (removeChecks (c + 1) c s) :=
    WS.of_le (sb_removeChecks (c + 1) c s h) (Grow.krel.removeChecks (c + 1) c s).2
  split
  · exact WS.of_le (SB.setOut h1 c _ (populate_below h1 (c + 1) c)) (Grow.krel.setOut _ _ _).2
  · exact h1

/-- the state `mkCond` builds in the non-empty case, with its size -/
theorem size_mkCond_aux (s : KState ℚ σ) (all : Bool) (ops : List EvId) :
    True ∧ s.events.size + 1 ≤ ((ops.foldl (fun st e => if st.processed e then condCheck st s.events.size e
      else st.addCb e (.check s.events.size)) (s.newLabelled { kind := .cond all ops, cbs := some [], out := none }).1).addCb
        s.events.size (.build s.events.size)).events.size := by
  refine ⟨trivial, ?_⟩
  have hge := Nat.le_of_eq (size_newLabelled s { kind := .cond all ops, cbs := some [], out := none }).symm
  have hf := (Grow.krel.foldl (σ := σ) (fun st e => if st.processed e then condCheck st s.events.size e
      else st.addCb e (.check s.events.size)) (fun st e => by
        show Grow st (if st.processed e then condCheck st s.events.size e else st.addCb e (.check s.events.size))
        split
        · exact Grow.krel.condCheck _ _ _
        · exact Grow.krel.addCb _ _ _ (by simp)) ops
      (s.newLabelled { kind := .cond all ops, cbs := some [], out := none }).1).2
  exact Nat.le_trans hge (Nat.le_trans hf (Grow.krel.addCb _ _ _ (by simp)).2)

theorem size_mkCond (s : KState ℚ σ) (all : Bool) (ops : List EvId) :
    (mkCond s all ops).2 = s.events.size ∧ s.events.size + 1 ≤ (mkCond s all ops).1.events.size := by
  unfold mkCond
  simp only
  split
  · exact ⟨rfl, Nat.le_trans (Nat.le_of_eq (size_newLabelled s _).symm) (Grow.krel.trigger _ _ _).2⟩
  · exact ⟨rfl, (size_mkCond_aux s all ops).2⟩

theorem ws_mkCond (h : WS I s) (all : Bool) (ops : List EvId) (hops : ∀ o ∈ ops, o < s.events.size) :
    WS I (mkCond s all ops).1 := by
  unfold mkCond
  simp only
  have h1 : SB I (s.events.size + 1) s := SB.mono h (Nat.le_succ _)
  have h2 : SB I (s.events.size + 1) (s.newLabelled { kind := .cond all ops, cbs := some [], out := none }).1 :=
    h1.newLabelled _ (recBelow_mk hops (fun _ h => nomatch h) (fun _ h => nomatch h) (fun _ h => nomatch h))
  have hc : (s.newLabelled { kind := .cond all ops, cbs := some [], out := none }).2 = s.events.size := rfl
  rw [hc]
  split
  · exact WS.of_le (h2.trigger _ _ (Nat.lt_succ_self _) (fun k hk => by cases hk))
      (Nat.le_trans (Nat.le_of_eq (size_newLabelled s _).symm) (Grow.krel.trigger _ _ _).2)
  · have h3 := sb_foldl (I := I) (n := s.events.size + 1)
      (fun st e => if st.processed e then condCheck st s.events.size e else st.addCb e (.check s.events.size))
      (by
        intro st e hst
        split
        · exact sb_condCheck hst _ _ (Nat.lt_succ_self _)
        · exact hst.addCb _ _ (Nat.lt_succ_self _)) ops _ h2
    refine WS.of_le (h3.addCb _ _ (Nat.lt_succ_self _)) ?_
    exact (size_mkCond_aux s all ops).2

end SplitWF

end

section
/-!
# Well-scopedness is kept by every API call and by whole bursts (C03, stage 3)

`ws_doCall`: a call that names existing ids only leaves a well-scoped state, and its reply names existing ids only.
`ws_runBurst`: the same for a whole burst under the run-level hypothesis `ScopedBurst`.
-/

variable {σ : Type}

namespace SplitWF
variable {I : IdSt σ} {s : KState ℚ σ}

theorem freezeVal_below (s : KState ℚ σ) (n : Nat) (v : Val) (h : valBelow n v) : valBelow n (freezeVal s v) := by
  cases v <;> first | exact h | trivial

theorem size_spawn (s : KState ℚ σ) (self : EvId) (st : σ) : (doCall s self (.spawn st)).1.events.size = s.events.size + 2 := by
  simp only [doCall, KState.schedule, KState.newEv, KState.setProc, KState.newLabelled, Array.size_push]

/-- What an API call has to deliver: a well-scoped state and a reply that names existing ids only.  (A predicate on the
pair, so that the cases of `doCall`, which build the pair, are met syntactically.) -/
def CallOK (I : IdSt σ) (sr : KState ℚ σ × Reply) : Prop := WS I sr.1 ∧ replyBelow sr.1.events.size sr.2

/-- a call that creates an event (`mkPut`, `mkGet`, `mkCond`) replies with the id of that event -/
theorem callOK_of_mk (p : KState ℚ σ × EvId) (hw : WS I p.1)
    (hsz : p.2 = s.events.size ∧ s.events.size + 1 ≤ p.1.events.size) : CallOK I (p.1, .ev p.2) :=
  ⟨hw, Nat.lt_of_lt_of_le (Nat.lt_of_le_of_lt (Nat.le_of_eq hsz.1) (Nat.lt_succ_self _)) hsz.2⟩

theorem reqBelow_of_active (h : WS I s) (rq : ReqData ℚ) (hp : rq.proc = s.active) (hr : rq.releaseOf < s.events.size + 1) :
    reqBelow (s.events.size + 1) rq :=
  ⟨fun p hpp => Nat.lt_succ_of_lt (h.active p (hp ▸ hpp)), hr⟩

theorem ws_request (h : WS I s) (r : ResId) (rq : ReqData ℚ) (hp : rq.proc = s.active) (hr : rq.releaseOf < s.events.size + 1) :
    CallOK I ((mkPut s r rq).1, .ev (mkPut s r rq).2) :=
  callOK_of_mk _ (ws_mkPut h r rq (reqBelow_of_active h rq hp hr)) (size_mkPut s r rq)

theorem ws_get (h : WS I s) (r : ResId) (rq : ReqData ℚ) (hp : rq.proc = s.active) (hr : rq.releaseOf < s.events.size + 1) :
    CallOK I ((mkGet s r rq).1, .ev (mkGet s r rq).2) :=
  callOK_of_mk _ (ws_mkGet h r rq (reqBelow_of_active h rq hp hr)) (size_mkGet s r rq)

/-- **every API call that names existing ids only keeps the state well-scoped, and its reply names existing ids only** -/
theorem ws_doCall (h : WS I s) (self : EvId) (c : Call ℚ σ) (hself : ∀ w v, c = .log w v → self < s.events.size)
    (hc : callBelow I s.events.size c) :
    WS I (doCall s self c).1 ∧ replyBelow (doCall s self c).1.events.size (doCall s self c).2 := by
  show CallOK I (doCall s self c)
  cases c <;> dsimp only [doCall]
  case timeout d v =>
    split
    · exact ⟨h, excBelow_valueErr _ _⟩
    · refine ⟨ws_schedule (ws_newLabelled h _ ?_) _ _ _ (lt_size_newLabelled s _), lt_size_newLabelled s _⟩
      exact recBelow_mk trivial (fun _ h => nomatch h) (fun _ hx => Option.some.inj hx ▸ valBelow.mono hc (Nat.le_succ _))
        (fun _ h => nomatch h)
  case event =>
    exact ⟨ws_newLabelled h _ (recBelow_mk trivial (fun _ h => nomatch h) (fun _ h => nomatch h) (fun _ h => nomatch h)),
      lt_size_newLabelled s _⟩
  case succeed e v =>
    split
    · exact ⟨h, excBelow_runtimeErr _ _⟩
    · exact ⟨WS.of_le (SB.trigger h e _ hc.1 hc.2) (Grow.krel.trigger s e _).2, trivial⟩
  case fail e x =>
    split
    · exact ⟨h, excBelow_runtimeErr _ _⟩
    · exact ⟨WS.of_le (SB.trigger h e _ hc.1 hc.2) (Grow.krel.trigger s e _).2, trivial⟩
  case spawn st =>
    have h2 : SB I (s.events.size + 2) s := SB.mono h (Nat.le_add_right _ _)
    have ha := h2.newLabelled { kind := .proc, cbs := some [], out := none } (recBelow_mk trivial (fun _ h => nomatch h) (fun _ h => nomatch h) (fun _ h => nomatch h))
    have hb := ha.setProc s.events.size { st := st, target := some (s.events.size + 1) }
      (Nat.lt_add_of_pos_right (by decide))
      (fun t ht => Option.some.inj ht ▸ Nat.lt_succ_self _) (I.mono hc (Nat.le_add_right _ _))
    have hsz : ((s.newLabelled { kind := .proc, cbs := some [], out := none }).1.setProc s.events.size
        { st := st, target := some (s.events.size + 1) }).events.size = s.events.size + 1 := by
      simp [KState.newLabelled, KState.setProc]
    have hlt : s.events.size < s.events.size + 2 := Nat.lt_add_of_pos_right (by decide)
    have hc' := hb.newEv { kind := .init s.events.size, cbs := some [.resume s.events.size], out := some (.ok .none) }
      (hsz ▸ recBelow_mk hlt (List.forall_mem_singleton.mpr hlt) (fun _ ho => Option.some.inj ho ▸ trivial) (fun _ h => nomatch h))
    exact ⟨WS.of_le (hc'.schedule (s.events.size + 1) URGENT Num.zero (Nat.lt_succ_self _))
      (Nat.le_of_eq (size_spawn s self st).symm), Nat.lt_of_lt_of_eq hlt (size_spawn s self st).symm⟩
  case interrupt p cause =>
    split
    · exact ⟨h, trivial⟩
    · rename_i hk
      have hp : p < s.events.size := Once.lt_of_proc s p (by simpa using hk)
      have hw := ws_mkInterrupt h p cause hp hc
      have he := mkInterrupt_err_below s p cause
      generalize mkInterrupt s p cause = r at hw he ⊢
      obtain ⟨s1, o⟩ := r
      cases o with
      | none => exact ⟨hw, trivial⟩
      | some x => exact ⟨hw, he x _ rfl⟩
  case probe e tag =>
    split
    · exact ⟨h, trivial⟩
    · exact ⟨WS.of_le (SB.addCb h e _ trivial) (Grow.setEv _ _ _).2, trivial⟩
  case cond all ops => exact callOK_of_mk _ (ws_mkCond h all ops hc) (size_mkCond s all ops)
  case request r prio pre =>
    split
    · exact ⟨h, excBelow_attrErr _⟩
    · exact ws_request h r _ rfl (Nat.succ_pos _)
  case release r req =>
    split
    · exact ⟨h, excBelow_attrErr _⟩
    · exact ws_get h r _ rfl (Nat.lt_succ_of_lt hc)
  case cancel e =>
    have hw := ws_cancelReq h e
    have he := cancelReq_err_below s e
    generalize cancelReq s e = r at hw he ⊢
    obtain ⟨s1, o⟩ := r
    cases o with
    | none => exact ⟨hw, trivial⟩
    | some x => exact ⟨hw, he x _ rfl⟩
  case cput r a =>
    split
    · exact ⟨h, excBelow_attrErr _⟩
    · split
      · exact ⟨h, excBelow_valueErr _ _⟩
      · exact ws_request h r _ rfl (Nat.succ_pos _)
  case cget r a =>
    split
    · exact ⟨h, excBelow_attrErr _⟩
    · split
      · exact ⟨h, excBelow_valueErr _ _⟩
      · exact ws_get h r _ rfl (Nat.succ_pos _)
  case sput r it =>
    split
    · exact ⟨h, excBelow_attrErr _⟩
    · exact ws_request h r _ rfl (Nat.succ_pos _)
  case sget r f =>
    split
    · exact ⟨h, excBelow_attrErr _⟩
    · exact ws_get h r _ rfl (Nat.succ_pos _)
  case log what v =>
    exact ⟨SB.emit h _ ⟨hself what v rfl, freezeVal_below s _ v hc⟩, trivial⟩
  case load k =>
    refine ⟨h, ?_⟩
    cases hf : s.shared.find? (·.1 == k) with
    | none => trivial
    | some kv => exact h.shared kv (List.mem_of_find?_eq_some hf)
  case store k v =>
    refine ⟨SB.withShared h _ ?_, trivial⟩
    intro kv hkv
    rcases List.mem_cons.mp hkv with rfl | hm
    · exact hc
    · exact h.shared kv (List.mem_of_mem_filter hm)

theorem ws_noteErr (self : EvId) (sr : KState ℚ σ × Reply) (h : WS I sr.1) (hself : self < sr.1.events.size)
    (hr : replyBelow sr.1.events.size sr.2) : WS I (noteErr self sr) := by
  unfold noteErr
  split
  · rename_i x hx
    rw [hx] at hr
    exact SB.emit h _ ⟨hself, hr⟩
  · exact h

theorem size_noteErr (self : EvId) (sr : KState ℚ σ × Reply) : (noteErr self sr).events.size = sr.1.events.size := by
  unfold noteErr
  split <;> rfl

/-- **a burst that names existing ids only keeps the state well-scoped, and what it ends with names existing ids only** -/
theorem ws_runBurst (self : EvId) (b : Burst ℚ σ) (s : KState ℚ σ) (h : WS I s) (hself : self < s.events.size)
    (hb : ScopedBurst I self b s) :
    WS I (runBurst self b s).1 ∧ termBelow I (runBurst self b s).1.events.size (runBurst self b s).2 := by
  induction b generalizing s with
  | call c k ih =>
    simp only [runBurst]
    obtain ⟨hc, hrest⟩ := hb
    have hd := ws_doCall h self c (fun _ _ _ => hself) hc
    have hg : s.events.size ≤ (doCall s self c).1.events.size := (Grow.krel.doCall s self c).2
    have hself' : self < (doCall s self c).1.events.size := Nat.lt_of_lt_of_le hself hg
    refine ih _ _ (ws_noteErr self _ hd.1 hself' hd.2) ?_ hrest
    rw [size_noteErr]
    exact hself'
  | _ => exact ⟨h, hb⟩

end SplitWF

end
