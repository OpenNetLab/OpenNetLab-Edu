import Mathlib.Tactic.FieldSimp
import OnlVerif.Lemmas.FifoAux
import OnlVerif.Lemmas.Envelope
import OnlVerif.Lemmas.Truthy
import OnlVerif.Net.TwoRate
/-! # Invariants of the TwoRateTokenBucket model -/

namespace TwoRate
open Fifo Envelope

@[simp] theorem dev_admit (c : TrCfg ℚ) : (dev c).admitPkt = admitPkt := rfl
@[simp] theorem dev_onResume (c : TrCfg ℚ) : (dev c).onResume = onResume c := rfl
@[simp] theorem dev_onFire (c : TrCfg ℚ) : (dev c).onFire = onFire c := rfl
@[simp] theorem dev_onDone (c : TrCfg ℚ) : (dev c).onDone = onDone := rfl

theorem refillLevel_eq (cap level rate upd now : ℚ) :
    refillLevel cap level rate upd now = min cap (level + rate * (now - upd) / 8) := by
  unfold refillLevel
  rw [Num.pymin_eq, Num.ofNat_rat, Nat.cast_ofNat]

theorem tokenWait_eq (level rate : ℚ) (p : Pkt ℚ) : tokenWait level rate p = ((p.size : ℚ) - level) * 8 / rate := by
  unfold tokenWait
  rw [Num.ofNat_rat 8, Nat.cast_ofNat]; rfl

/-- committed level after the refill at `now` -/
def cmOf (c : TrCfg ℚ) (d : TrSt ℚ) (now : ℚ) : ℚ := min c.cbs (d.commit + c.cir * (now - d.upd) / 8)

/-- level of a bucket `(b, k)` holding `pl` after the refill at `now` -/
def pkOf (b k pl : ℚ) (d : TrSt ℚ) (now : ℚ) : ℚ := min b (pl + k * (now - d.upd) / 8)

/-- the three outcomes with PIR -/
theorem resumePir_cases (c : TrCfg ℚ) (d : TrSt ℚ) (now : ℚ) (p : Pkt ℚ) (k b pl : ℚ) :
    (pkOf b k pl d now < p.size ∧
      resumePir c d now p k b pl = (setLevels d (cmOf c d now) (some (pkOf b k pl d now)) now, p,
        .wait (tokenWait (pkOf b k pl d now) k p))) ∨
    (¬ pkOf b k pl d now < p.size ∧ cmOf c d now < p.size ∧
      resumePir c d now p k b pl = (payPeak d (pkOf b k pl d now) now p, paint p yellow, .emit)) ∨
    (¬ pkOf b k pl d now < p.size ∧ ¬ cmOf c d now < p.size ∧
      resumePir c d now p k b pl = (payBoth d (cmOf c d now) (pkOf b k pl d now) now p, paint p green, .emit)) := by
  unfold resumePir cmOf pkOf
  simp only [refillLevel_eq]
  by_cases h1 : min b (pl + k * (now - d.upd) / 8) < (Num.ofNat p.size : ℚ)
  · left; exact ⟨h1, (by rw [if_pos h1])⟩
  · right
    rw [if_neg h1]
    by_cases h2 : min c.cbs (d.commit + c.cir * (now - d.upd) / 8) < (Num.ofNat p.size : ℚ)
    · left; exact ⟨h1, h2, (by rw [if_pos h2])⟩
    · right; exact ⟨h1, h2, (by rw [if_neg h2])⟩

/-- the two outcomes without PIR -/
theorem resumeCir_cases (c : TrCfg ℚ) (d : TrSt ℚ) (now : ℚ) (p : Pkt ℚ) :
    (cmOf c d now < p.size ∧
      resumeCir c d now p = (setLevels d (cmOf c d now) d.peak now, p, .wait (tokenWait (cmOf c d now) c.cir p))) ∨
    (¬ cmOf c d now < p.size ∧ resumeCir c d now p = (payCommit d (cmOf c d now) now p, paint p green, .emit)) := by
  unfold resumeCir cmOf
  simp only [refillLevel_eq]
  by_cases h2 : min c.cbs (d.commit + c.cir * (now - d.upd) / 8) < (Num.ofNat p.size : ℚ)
  · left; exact ⟨h2, (by rw [if_pos h2])⟩
  · right; exact ⟨h2, (by rw [if_neg h2])⟩

theorem onResume_pir (c : TrCfg ℚ) (d : TrSt ℚ) (now x y : ℚ) (p : Pkt ℚ) (k b pl : ℚ) (hk : pirOn c = some k)
    (hb : pbsOn c = some b) (hpl : d.peak = some pl) : onResume c d now x y p = resumePir c d now p k b pl := by
  unfold onResume
  simp only [hk, hb, hpl]

theorem onResume_cir (c : TrCfg ℚ) (d : TrSt ℚ) (now x y : ℚ) (p : Pkt ℚ) (hk : pirOn c = none) :
    onResume c d now x y p = resumeCir c d now p := by
  unfold onResume
  simp only [hk]

theorem onFire_pir (c : TrCfg ℚ) (d : TrSt ℚ) (now : ℚ) (n : Nat) (p : Pkt ℚ) (k : ℚ) (hk : pirOn c = some k) :
    onFire c d now n p = (fireRed d now p, paint p red, .emit) := by
  unfold onFire
  simp only [hk]

theorem onFire_cir (c : TrCfg ℚ) (d : TrSt ℚ) (now : ℚ) (n : Nat) (p : Pkt ℚ) (hk : pirOn c = none) :
    onFire c d now n p = (fireYellow d now p, paint p yellow, .emit) := by
  unfold onFire
  simp only [hk]

/-- whatever the configuration, `onResume` fails, or keeps the packet and the log and waits, or paints the packet, logs
the debit and forwards -/
theorem onResume_shape (c : TrCfg ℚ) (d : TrSt ℚ) (now x y : ℚ) (p : Pkt ℚ) :
    (∃ m, onResume c d now x y p = (d, p, .fail m)) ∨
    (∃ d' dt, onResume c d now x y p = (d', p, .wait dt) ∧ d'.log = d.log) ∨
    (∃ d' col, onResume c d now x y p = (d', paint p col, .emit) ∧ d'.log = (now, p.size, col) :: d.log) := by
  unfold onResume
  cases pirOn c with
  | none =>
    simp only
    rcases resumeCir_cases c d now p with ⟨_, h⟩ | ⟨_, h⟩ <;> rw [h]
    · exact Or.inr (Or.inl ⟨_, _, rfl, rfl⟩)
    · exact Or.inr (Or.inr ⟨_, _, rfl, rfl⟩)
  | some k =>
    cases pbsOn c with
    | none => exact Or.inl ⟨_, rfl⟩
    | some b =>
      cases hpl : d.peak with
      | none => exact Or.inl ⟨_, rfl⟩
      | some pl =>
        simp only
        rcases resumePir_cases c d now p k b pl with ⟨_, h⟩ | ⟨_, _, h⟩ | ⟨_, _, h⟩ <;> rw [h]
        · exact Or.inr (Or.inl ⟨_, _, rfl, rfl⟩)
        · exact Or.inr (Or.inr ⟨_, _, rfl, rfl⟩)
        · exact Or.inr (Or.inr ⟨_, _, rfl, rfl⟩)

theorem idPreserving (c : TrCfg ℚ) : IdPreserving (dev c) := by
  refine ⟨?_, ?_, ?_⟩
  · intro s now w p; rfl
  · intro s now x y p
    rcases onResume_shape c s now x y p with ⟨_, h⟩ | ⟨_, _, h, _⟩ | ⟨_, _, h, _⟩ <;> simp only [dev_onResume, h]
    rfl
  · intro s now k p
    simp only [dev_onFire, onFire]
    cases pirOn c <;> rfl

/-- the configurations the property speaks about: positive rates, non-negative bucket sizes, and a PBS
(necessarily non-zero: `assert self.pbs`) whenever a PIR is given -/
structure Good (c : TrCfg ℚ) : Prop where
  cir : 0 < c.cir
  cbs : 0 ≤ c.cbs
  pir : ∀ k, pirOn c = some k → 0 < k ∧ ∃ b, pbsOn c = some b ∧ 0 < b

/-- (instant, size) of every debit -/
def alls (l : List (ℚ × ℕ × ℕ)) : List (ℚ × ℕ) := l.map (fun e => (e.1, e.2.1))

/-- (instant, size) of the debits of green packets -/
def greens (l : List (ℚ × ℕ × ℕ)) : List (ℚ × ℕ) := alls (l.filter (fun e => e.2.2 == green))

@[simp] theorem alls_cons (t : ℚ) (s col : ℕ) (l : List (ℚ × ℕ × ℕ)) : alls ((t, s, col) :: l) = (t, s) :: alls l := rfl
theorem greens_green (t : ℚ) (s : ℕ) (l : List (ℚ × ℕ × ℕ)) : greens ((t, s, green) :: l) = (t, s) :: greens l := by
  simp [greens, alls, green]
theorem greens_skip {col : ℕ} (hc : col ≠ green) (t : ℚ) (s : ℕ) (l : List (ℚ × ℕ × ℕ)) :
    greens ((t, s, col) :: l) = greens l := by
  simp [greens, hc]

/-- the bucket all traffic is shaped against: (PBS, PIR, peak level) when a PIR is given, else (CBS, CIR, committed
level) -/
def Shaper (c : TrCfg ℚ) (d : TrSt ℚ) (B r lvl : ℚ) : Prop :=
  (pirOn c = some r ∧ pbsOn c = some B ∧ d.peak = some lvl) ∨ (pirOn c = none ∧ r = c.cir ∧ B = c.cbs ∧ lvl = d.commit)

theorem Shaper.pos {c : TrCfg ℚ} (hg : Good c) {d : TrSt ℚ} {B r lvl : ℚ} (h : Shaper c d B r lvl) : 0 < r ∧ 0 ≤ B := by
  rcases h with ⟨hk, hb, _⟩ | ⟨_, rfl, rfl, _⟩
  · obtain ⟨hk0, b, hb', hb0⟩ := hg.pir r hk
    rw [hb] at hb'; cases hb'
    exact ⟨hk0, hb0.le⟩
  · exact ⟨hg.cir, hg.cbs⟩

/-- the invariant, over the clock, the device state and the server's timeout: the green debits against (CBS, CIR), all
debits against the shaping bucket, and a sleeping server waits for exactly the tokens the shaping bucket lacks -/
structure P (c : TrCfg ℚ) (now : ℚ) (d : TrSt ℚ) (tx : Option (Pkt ℚ × ℚ × Nat)) : Prop where
  updLe : d.upd ≤ now
  cB : d.commit ≤ c.cbs
  green : Bucket c.cbs c.cir d.commit d.upd (greens d.log)
  shaped : ∃ B r lvl, Shaper c d B r lvl ∧ Bucket B r lvl d.upd (alls d.log) ∧
    ∀ p due n, tx = some (p, due, n) → due = d.upd + ((p.size : ℚ) - lvl) * 8 / r ∧ lvl < p.size

section events
variable {c : TrCfg ℚ} (hg : Good c) {now : ℚ} {d d' : TrSt ℚ} {p : Pkt ℚ} {B r lvl : ℚ}
include hg

/-- the shaping tokens are short: both buckets are refilled, the server starts to wait for exactly the missing ones -/
theorem P_wait (h : P c now d none) (hS : Shaper c d B r lvl) (hb : Bucket B r lvl d.upd (alls d.log))
    (hS' : Shaper c d' B r (pkOf B r lvl d now)) (hs : pkOf B r lvl d now < p.size)
    (e1 : d'.commit = cmOf c d now) (e3 : d'.upd = now) (e4 : d'.log = d.log) :
    P c now d' (some (p, now + tokenWait (pkOf B r lvl d now) r p, 0)) := by
  obtain ⟨hr, hB⟩ := hS.pos hg
  refine ⟨e3.le, e1.trans_le (min_le_left _ _), ?_, _, _, _, hS', ?_, ?_⟩
  · rw [e1, e3, e4]; exact h.green.refill hg.cbs hg.cir.le h.updLe
  · rw [e3, e4]; exact hb.refill hB hr.le h.updLe
  · intro q due n hq
    cases hq
    exact ⟨by rw [e3, tokenWait_eq], hs⟩

/-- the shaping bucket covers the packet: it is debited at once; the committed bucket pays too (green) or is emptied
(yellow) -/
theorem P_pay (col : ℕ) (h : P c now d none) (hb : Bucket B r lvl d.upd (alls d.log))
    (hs : ¬ pkOf B r lvl d now < p.size)
    (hS' : Shaper c d' B r (pkOf B r lvl d now - p.size))
    (hcol : (col = green ∧ ¬ cmOf c d now < p.size ∧ d'.commit = cmOf c d now - p.size) ∨
            (col = yellow ∧ d'.commit = 0))
    (e3 : d'.upd = now) (e4 : d'.log = (now, p.size, col) :: d.log) : P c now d' none := by
  refine ⟨e3.le, ?_, ?_, _, _, _, hS', ?_, fun _ _ _ hx => (nomatch hx)⟩
  · rcases hcol with ⟨_, _, e1⟩ | ⟨_, e1⟩ <;> rw [e1]
    · exact (sub_le_self _ (Nat.cast_nonneg _)).trans (min_le_left _ _)
    · exact hg.cbs
  · rcases hcol with ⟨rfl, hc, e1⟩ | ⟨rfl, e1⟩ <;> rw [e1, e3, e4]
    · rw [greens_green]; exact h.green.debit p.size (not_lt.mp hc)
    · rw [greens_skip (by decide)]; exact h.green.lower hg.cir.le h.updLe (le_refl _) h.green.lvl0
  · rw [e3, e4, alls_cons]; exact hb.debit p.size (not_lt.mp hs)

/-- the wait is over: the shaping bucket is empty; the packet is not green, the committed bucket keeps its level (red) or
is emptied (yellow) -/
theorem P_fire {n : Nat} (col : ℕ) (h : P c now d (some (p, now, n))) (hS : Shaper c d B r lvl)
    (hb : Bucket B r lvl d.upd (alls d.log)) (hw : now = d.upd + ((p.size : ℚ) - lvl) * 8 / r) (hS' : Shaper c d' B r 0)
    (hcol : col ≠ green) (e1 : d'.commit = d.commit ∨ d'.commit = 0) (e3 : d'.upd = now)
    (e4 : d'.log = (now, p.size, col) :: d.log) : P c now d' none := by
  have hc : 0 ≤ d'.commit ∧ d'.commit ≤ d.commit := by
    rcases e1 with e1 | e1 <;> rw [e1]
    · exact ⟨h.green.lvl0, le_refl _⟩
    · exact ⟨le_refl _, h.green.lvl0⟩
  refine ⟨e3.le, hc.2.trans h.cB, ?_, _, _, _, hS', ?_, fun _ _ _ hx => (nomatch hx)⟩
  · rw [e3, e4, greens_skip hcol]; exact h.green.lower hg.cir.le h.updLe hc.1 hc.2
  · rw [e3, e4, alls_cons]; exact hb.wait_debit p.size (hS.pos hg).1 hw

end events

def Inv (c : TrCfg ℚ) (s : FState ℚ (TrSt ℚ)) : Prop := P c s.now s.dev s.tx

theorem zero' : (Num.zero : ℚ) = 0 := zero_eq'

/-- what `resume` computes, by configuration, in a state that satisfies the invariant -/
theorem onResume_good (c : TrCfg ℚ) (s : FState ℚ (TrSt ℚ)) (hi : Inv c s) (x y : ℚ) (p : Pkt ℚ) :
    (∃ k b pl, pirOn c = some k ∧ pbsOn c = some b ∧ s.dev.peak = some pl ∧
      onResume c s.dev s.now x y p = resumePir c s.dev s.now p k b pl) ∨
    (pirOn c = none ∧ onResume c s.dev s.now x y p = resumeCir c s.dev s.now p) := by
  obtain ⟨B, r, lvl, hS, _⟩ := hi.shaped
  rcases hS with ⟨hk, hb, hpl⟩ | ⟨hk, _⟩
  · exact Or.inl ⟨r, B, lvl, hk, hb, hpl, onResume_pir c s.dev s.now x y p r B lvl hk hb hpl⟩
  · exact Or.inr ⟨hk, onResume_cir c s.dev s.now x y p hk⟩

theorem step_inv (c : TrCfg ℚ) (hg : Good c) (s s' : FState ℚ (TrSt ℚ)) (a : FAct ℚ) (o : FOut ℚ)
    (hsh : Shape s) (hi : Inv c s) (hstep : step (dev c) s a = .ok (s', o)) : Inv c s' := by
  refine step_dev hstep (fun now' d' tx' _ => P c now' d' tx') (fun _ => hi) (fun _ _ => ⟨hi.updLe, hi.cB, hi.green, hi.shaped⟩) ?_ ?_ ?_
  · intro x y p _ hp
    have hP : P c s.now s.dev none := (shape_of_handed hsh hp).2.2 ▸ hi
    obtain ⟨B, r, lvl, hS, hbk, _⟩ := hi.shaped
    rw [dev_onResume]
    rcases hS with ⟨hk, hb, hpl⟩ | ⟨hk, rfl, rfl, rfl⟩
    · have hS : Shaper c s.dev B r lvl := Or.inl ⟨hk, hb, hpl⟩
      rw [onResume_pir c s.dev s.now x y p r B lvl hk hb hpl]
      rcases resumePir_cases c s.dev s.now p r B lvl with ⟨h1, h⟩ | ⟨h1, _, h⟩ | ⟨h1, h2, h⟩ <;> rw [h]
      · exact P_wait hg hP hS hbk (Or.inl ⟨hk, hb, rfl⟩) h1 rfl rfl rfl
      · exact P_pay hg (p := p) yellow hP hbk h1 (Or.inl ⟨hk, hb, rfl⟩) (Or.inr ⟨rfl, zero'⟩) rfl rfl
      · exact P_pay hg (p := p) green hP hbk h1 (Or.inl ⟨hk, hb, rfl⟩) (Or.inl ⟨rfl, h2, rfl⟩) rfl rfl
    · have hS : Shaper c s.dev c.cbs c.cir s.dev.commit := Or.inr ⟨hk, rfl, rfl, rfl⟩
      rw [onResume_cir c s.dev s.now x y p hk]
      rcases resumeCir_cases c s.dev s.now p with ⟨h1, h⟩ | ⟨h2, h⟩ <;> rw [h]
      · exact P_wait hg hP hS hbk (Or.inr ⟨hk, rfl, rfl, rfl⟩) h1 rfl rfl rfl
      · exact P_pay hg (p := p) green hP hbk h2 (Or.inr ⟨hk, rfl, rfl, rfl⟩) (Or.inl ⟨rfl, h2, rfl⟩) rfl rfl
  · intro p n _ htx
    have hP : P c s.now s.dev (some (p, s.now, n)) := htx ▸ hi
    obtain ⟨B, r, lvl, hS, hbk, hw⟩ := hi.shaped
    have hw := (hw p s.now n htx).1
    rw [dev_onFire]
    rcases hS with ⟨hk, hb, hpl⟩ | ⟨hk, hr, hB, hl⟩
    · rw [onFire_pir c s.dev s.now n p r hk]
      exact P_fire hg (p := p) red hP (Or.inl ⟨hk, hb, hpl⟩) hbk hw (Or.inl ⟨hk, hb, congrArg some zero'⟩) (by decide)
        (Or.inl rfl) rfl rfl
    · rw [onFire_cir c s.dev s.now n p hk]
      exact P_fire hg (p := p) yellow hP (Or.inr ⟨hk, hr, hB, hl⟩) hbk hw (Or.inr ⟨hk, hr, hB, zero'.symm⟩) (by decide)
        (Or.inr zero') rfl rfl
  · intro t _ h1 _
    exact ⟨le_trans hi.updLe h1, hi.cB, hi.green, hi.shaped⟩

theorem init_inv (c : TrCfg ℚ) (hg : Good c) (t0 : ℚ) (h0 : 0 ≤ t0) : Inv c (Fifo.init (st0 c) t0) := by
  refine ⟨(le_of_eq zero_eq').trans h0, le_refl _, Bucket.nil hg.cbs, ?_⟩
  cases hk : pirOn c with
  | some k =>
    obtain ⟨_, b, hb, hb0⟩ := hg.pir k hk
    exact ⟨b, k, b, Or.inl ⟨hk, hb, ((Num.optOn_iff c.pbs b).mp hb).1⟩, Bucket.nil hb0.le, fun _ _ _ hx => (nomatch hx)⟩
  | none => exact ⟨c.cbs, c.cir, c.cbs, Or.inr ⟨hk, rfl, rfl, rfl⟩, Bucket.nil hg.cbs, fun _ _ _ hx => (nomatch hx)⟩

theorem run_inv (c : TrCfg ℚ) (hg : Good c) (t0 : ℚ) (h0 : 0 ≤ t0) (as : List (FAct ℚ)) (s : FState ℚ (TrSt ℚ))
    (ins outs : List Nat) (h : runActs (dev c) (Fifo.init (st0 c) t0) as = .ok (s, ins, outs)) :
    Shape s ∧ Inv c s := by
  refine run_induct (dev c) (fun s => Shape s ∧ Inv c s) ?_ as _ s ins outs
    ⟨Fifo.init_shape _ _, init_inv c hg t0 h0⟩ h
  intro s a s' o hP hs
  exact ⟨(step_conserves (dev c) (idPreserving c) s s' a o hP.1 hs).2, step_inv c hg s s' a o hP.1 hP.2 hs⟩

/-- how one step changes the ghost log: it grows exactly when a packet is forwarded, by (now, size, colour) -/
def LogStep (s s' : FState ℚ (TrSt ℚ)) (o : FOut ℚ) : Prop :=
  match o with
  | .depart q => s'.dev.log = (s.now, q.size, q.color) :: s.dev.log
  | _ => s'.dev.log = s.dev.log

theorem log_step (c : TrCfg ℚ) (s s' : FState ℚ (TrSt ℚ)) (a : FAct ℚ) (o : FOut ℚ)
    (hstep : step (dev c) s a = .ok (s', o)) : LogStep s s' o ∧ o ≠ .dropped ∧ ∀ q, o ≠ .lost q := by
  refine step_dev hstep (fun _ d' _ o => LogStep s { s with dev := d' } o ∧ o ≠ .dropped ∧ ∀ q, o ≠ .lost q)
    (fun _ => ⟨rfl, nofun, fun _ => nofun⟩) (fun _ _ => ⟨rfl, nofun, fun _ => nofun⟩) ?_ ?_
    (fun _ _ _ _ => ⟨rfl, nofun, fun _ => nofun⟩)
  · intro x y p _ _
    rw [dev_onResume]
    rcases onResume_shape c s.dev s.now x y p with ⟨_, h⟩ | ⟨_, _, h, hl⟩ | ⟨_, _, h, hl⟩ <;> rw [h]
    · trivial
    · exact ⟨hl, nofun, fun _ => nofun⟩
    · exact ⟨hl, nofun, fun _ => nofun⟩
  · intro p n _ _
    rw [dev_onFire]
    unfold onFire
    cases pirOn c <;> exact ⟨rfl, nofun, fun _ => nofun⟩

end TwoRate
