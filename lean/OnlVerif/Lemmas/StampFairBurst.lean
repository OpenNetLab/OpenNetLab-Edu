import OnlVerif.Lemmas.StampFairRun
/-!
# WFQ with a static backlog that arrives as a *burst* at one instant `t0`

`StampFairRun.Static` wants all arrivals before any other action.  On the simulation kernel the arrivals of one
instant are interleaved with the other actions of that instant: the first packet is handed to the blocked loop
(`handoff`, `resume`, `sendInit`) before the second arrives.  No transmission can end within the instant (sizes are
positive), so at most one packet — the *early* packet `e` — is taken out of the store before all arrivals are in.

`FairB c L t0 s outs`: invariant of runs from a fresh scheduler in which every `put` is executed at instant `t0`
(`fairB_step_put` has the premise `s.now = t0`), with arbitrary interleaving of the other actions
(`fairB_step_noput`).  `fairB_bound`: for two backlogged classes the normalised service taken differs by at most
`8L/w_i + 8L/w_j`.
-/

namespace WFQ
open Stamp

theorem bitsOf_perm (c : WfqCfg ℚ) (k : Nat) {l1 l2 : List SPkt} (h : l1.Perm l2) : bitsOf c k l1 = bitsOf c k l2 := by
  induction h with
  | nil => rfl
  | cons x _ ih => simp [ih]
  | swap x y l => simp only [bitsOf_cons]; ring
  | trans _ _ ih1 ih2 => rw [ih1, ih2]

theorem bitsOf_le_of_short (c : WfqCfg ℚ) (k : Nat) (L : Nat) (e : List SPkt) (h1 : e.length ≤ 1)
    (h2 : ∀ x ∈ e, x.size ≤ L) : bitsOf c k e ≤ 8 * (L : ℚ) := by
  have hL : (0 : ℚ) ≤ 8 * (L : ℚ) := mul_nonneg (by norm_num) (Nat.cast_nonneg L)
  match e, h1, h2 with
  | [], _, _ => exact hL
  | [x], _, h2 =>
    rw [bitsOf_cons, bitsOf_nil, add_zero]
    split
    · exact mul_le_mul_of_nonneg_left (by exact_mod_cast h2 x (by simp)) (by norm_num)
    · exact hL
  | _ :: _ :: _, h1, _ => simp at h1

/-- **burst phase** (the instant `t0` has not been left): nothing has departed, no transmission has ended, a
transmission in progress ends strictly after `t0`; and once something has arrived, the clock stands at `t0`,
virtual time is still 0, the last event was at `t0`, and the finish time of every class is the normalised size of
all its packets (taken or waiting) -/
def BurstC (c : WfqCfg ℚ) (t0 : ℚ) (s : WState) (outs : List SPkt) : Prop :=
  outs = [] ∧ s.fin = none ∧ (∀ p due, s.tx = some (p, due) → t0 < due) ∧
    (held s ≠ [] → s.now = t0 ∧ s.sch.vtime = 0 ∧ s.sch.lastTime = t0 ∧
      ∀ k w, lookup c.weights k = some w →
        ∃ F, lookup s.sch.finish k = some F ∧ F * c.rate * w = bitsOf c k (held s))

/-- invariant of burst runs: `outs` = the packets that have left so far -/
structure FairB (c : WfqCfg ℚ) (L : Nat) (t0 : ℚ) (s : WState) (outs : List SPkt) : Prop where
  ginv : GInv s
  winv : WInv c s
  conf : ∀ it ∈ s.items, ∃ k w, clsOf c it.pkt.flow = some k ∧ lookup c.weights k = some w
  size : ∀ it ∈ s.items, 0 < it.pkt.size ∧ it.pkt.size ≤ L
  hand : ∀ m ∈ inHand s, 0 < m.size ∧ m.size ≤ L
  /-- stamps are the cumulative normalised service of the class (every arrival saw virtual time 0) -/
  chain : ∀ k w, lookup c.weights k = some w → Chain c k w (bitsOf c k (outs ++ inHand s)) s.items
  /-- the early packets `e` (at most one): apart from them, nothing taken so far had a stamp above any waiting
  stamp; while the instant `t0` has not been left, everything taken is early -/
  early : ∃ e : List SPkt, e.length ≤ 1 ∧ (∀ x ∈ e, x.size ≤ L) ∧
    (∀ k w, lookup c.weights k = some w → ∀ y ∈ s.items,
      bitsOf c k (outs ++ inHand s) - bitsOf c k e ≤ y.stamp * c.rate * w) ∧
    (s.now ≤ t0 → e = inHand s)
  burst : s.now ≤ t0 → BurstC c t0 s outs

theorem fairB_started_le {c : WfqCfg ℚ} (hp : Pos c) {L : Nat} {t0 : ℚ} {s : WState} {outs : List SPkt}
    (h : FairB c L t0 s outs) (i j : Nat) (wi wj : ℚ) (hwi : lookup c.weights i = some wi)
    (hwj : lookup c.weights j = some wj) (hbi : Backlogged c s i) :
    bitsOf c j (outs ++ inHand s) / wj - bitsOf c i (outs ++ inHand s) / wi ≤
      8 * (L : ℚ) / wi + 8 * (L : ℚ) / wj := by
  obtain ⟨e, he1, he2, he3, _⟩ := h.early
  have h1 := FairL.started_le hp (e := e) ⟨h.conf, h.size, h.chain, he3⟩ hwj hwi hbi
  have h2 := div_le_div_of_nonneg_right (bitsOf_le_of_short c j L e he1 he2) (hp.w j wj hwj).le
  rw [sub_div] at h1
  linarith only [h1, h2]

/-- **the bound, service started**: two backlogged classes differ in normalised service taken by at most one
maximal packet each -/
theorem fairB_bound {c : WfqCfg ℚ} (hp : Pos c) {L : Nat} {t0 : ℚ} {s : WState} {outs : List SPkt}
    (h : FairB c L t0 s outs) (i j : Nat) (wi wj : ℚ) (hwi : lookup c.weights i = some wi)
    (hwj : lookup c.weights j = some wj) (hbi : Backlogged c s i) (hbj : Backlogged c s j) :
    |bitsOf c i (outs ++ inHand s) / wi - bitsOf c j (outs ++ inHand s) / wj| ≤
      8 * (L : ℚ) / wi + 8 * (L : ℚ) / wj := by
  exact abs_sub_le_iff.mpr ⟨(fairB_started_le hp h j i wj wi hwj hwi hbj).trans_eq (add_comm _ _),
    fairB_started_le hp h i j wi wj hwi hwj hbi⟩

theorem burstC_of_perm {c : WfqCfg ℚ} {t0 : ℚ} {s s' : WState} {outs : List SPkt} (hb : BurstC c t0 s outs)
    (hsch : s'.sch = s.sch) (hfin : s'.fin = s.fin) (htx : ∀ p due, s'.tx = some (p, due) → t0 < due)
    (hnow : s'.now = s.now) (hperm : (held s).Perm (held s')) : BurstC c t0 s' outs := by
  obtain ⟨h1, h2, _, h4⟩ := hb
  refine ⟨h1, by rw [hfin]; exact h2, htx, ?_⟩
  intro hne
  have hne0 : held s ≠ [] := by
    intro hc
    rw [hc] at hperm
    exact hne hperm.symm.eq_nil
  obtain ⟨a1, a2, a3, a4⟩ := h4 hne0
  rw [hnow, hsch]
  refine ⟨a1, a2, a3, fun k w hw => ?_⟩
  obtain ⟨F, hF, hFe⟩ := a4 k w hw
  exact ⟨F, hF, by rw [hFe]; exact bitsOf_perm c k hperm⟩

theorem txTime_pos {c : WfqCfg ℚ} (hp : Pos c) (p : SPkt) (hs : 0 < p.size) : 0 < txTime (sched c) p :=
  show (0 : ℚ) < ((p.size * 8 : ℕ) : ℚ) / c.rate from
    div_pos (Nat.cast_pos.mpr (Nat.mul_pos hs (by norm_num))) hp.rate

/-- a step that is no arrival and does not leave the instant `t0` keeps the burst phase: no transmission can end
(sizes are positive), so nothing departs and nothing is booked out -/
theorem burstC_step {c : WfqCfg ℚ} (hp : Pos c) {L : Nat} {t0 : ℚ} {s s' : WState} {a : StAct ℚ} {o : StOut}
    {outs : List SPkt} (h : FairB c L t0 s outs) (ht : Trans (sched c) s a s' o) (hnp : ∀ p, a ≠ .put p)
    (hle : s'.now ≤ t0) : s.now ≤ t0 ∧ left o = [] ∧ BurstC c t0 s' outs := by
  have hperm := ht.held_perm h.ginv.shape
  cases ht with
  | put p sch stamp h1 => exact absurd rfl (hnp p)
  | sendFire p due h1 h2 => exact absurd ((h.burst hle).2.2.1 p due h1) (not_lt.mpr (h2 ▸ hle))
  | doneBlock p sch h1 h2 h3 => exact absurd ((h.burst hle).2.1 ▸ h1) (by simp)
  | doneServe p sch id it rest h1 h2 h3 => exact absurd ((h.burst hle).2.1 ▸ h1) (by simp)
  | tick t h1 =>
    have hle0 : s.now ≤ t0 := h1.1.trans hle
    obtain ⟨b1, b2, b3, b4⟩ := h.burst hle0
    refine ⟨hle0, rfl, b1, b2, b3, fun hne => ?_⟩
    obtain ⟨a1, a2, a3, a4⟩ := b4 hne
    exact ⟨le_antisymm hle (a1 ▸ h1.1), a2, a3, a4⟩
  | sendInit p h1 h2 h3 =>
    have hn0 := ((h.burst hle).2.2.2 (by simp [held, inHand, h1])).1
    have htp := txTime_pos hp p (h.hand p (by simp [inHand, h1])).1
    refine ⟨hle, rfl, burstC_of_perm (h.burst hle) rfl rfl ?_ rfl (by simpa [entered, left] using hperm)⟩
    intro q due heq
    cases heq
    exact hn0 ▸ lt_add_of_pos_right _ htp
  | sample b => exact ⟨hle, rfl, h.burst hle⟩
  | initBlock | initServe | handoff | resume =>
    exact ⟨hle, rfl, burstC_of_perm (h.burst hle) rfl rfl (h.burst hle).2.2.1 rfl
      (by simpa [entered, left] using hperm)⟩

/-- **`FairB` is kept by every step that is not an arrival.**  A service decision within the instant `t0` takes
the early packet; every other one is minimal among all packets of the backlog that have not been taken. -/
theorem fairB_step_noput {c : WfqCfg ℚ} (hp : Pos c) {L : Nat} {t0 : ℚ} {s s' : WState} {a : StAct ℚ} {o : StOut}
    {outs : List SPkt} (h : FairB c L t0 s outs) (ht : Trans (sched c) s a s' o) (hnp : ∀ p, a ≠ .put p) :
    FairB c L t0 s' (outs ++ left o) := by
  have hg' := (step_ginv h.ginv ht).1
  have hw' := step_winv h.ginv h.winv ht
  have hb := burstC_step hp h ht hnp
  obtain ⟨e, he1, he2, he3, he4⟩ := h.early
  have hfl : FairL c L e (outs ++ inHand s) s.items := ⟨h.conf, h.size, h.chain, he3⟩
  rcases ht.move h.ginv.shape with ⟨p, _, _, rfl, _⟩ | ⟨_, hl, hin, hnow, id, it, rest, hpk, hit, hin'⟩ | ⟨_, hit, hin⟩
  · exact absurd rfl (hnp p)
  · obtain ⟨pre, post, hpl, rfl, _, hmin⟩ := hpk
    have hmem : it ∈ s.items := by rw [hpl]; simp
    rw [hin, List.append_nil, hpl] at hfl
    have hfl' := (fairL_pick hp hfl (hpl ▸ hmin)).1
    obtain ⟨e', h1, h2, h3, h4⟩ : ∃ e' : List SPkt, e'.length ≤ 1 ∧ (∀ x ∈ e', x.size ≤ L) ∧
        FairL c L e' (outs ++ [it.pkt]) (pre ++ post) ∧ (s.now ≤ t0 → e' = [it.pkt]) := by
      by_cases hle : s.now ≤ t0
      · obtain rfl : e = [] := (he4 hle).trans hin
        exact ⟨[it.pkt], by simp, by simp [(h.size it hmem).2], hfl'.early [it.pkt], fun _ => rfl⟩
      · exact ⟨e, he1, he2, hfl', fun hc => absurd hc hle⟩
    rw [← hit, ← hin'] at h3
    rw [hl, List.append_nil]
    refine ⟨hg', hw', h3.conf, h3.size, fun m hm => ?_, h3.chain,
      ⟨e', h1, h2, h3.low, fun hle => hin' ▸ h4 (hnow ▸ hle)⟩, fun hle => (hb hle).2.2⟩
    cases List.mem_singleton.mp (hin' ▸ hm)
    exact h.size it hmem
  · have hr : outs ++ left o ++ inHand s' = outs ++ inHand s := by rw [hin, List.append_assoc]
    rw [← hr, ← hit] at hfl
    refine ⟨hg', hw', hfl.conf, hfl.size, fun m hm => h.hand m (hin ▸ List.mem_append_right _ hm), hfl.chain,
      ⟨e, he1, he2, hfl.low, fun hle => ?_⟩, fun hle => ?_⟩
    · obtain ⟨hle0, hl, _⟩ := hb hle
      rw [he4 hle0, hin, hl, List.nil_append]
    · obtain ⟨_, hl, hbc⟩ := hb hle
      rw [hl, List.append_nil]
      exact hbc

theorem fairB_step_put {c : WfqCfg ℚ} (hp : Pos c) {L : Nat} {t0 : ℚ} {s s' : WState} {p : SPkt} {o : StOut}
    {outs : List SPkt} (h : FairB c L t0 s outs) (hnow : s.now = t0) (hsz : 0 < p.size ∧ p.size ≤ L)
    (ht : Trans (sched c) s (.put p) s' o) : FairB c L t0 s' outs ∧ o = .accepted := by
  subst hnow
  have hg' := (step_ginv h.ginv ht).1
  have hw' := step_winv h.ginv h.winv ht
  obtain ⟨hout, hfin, htx, hlive⟩ := h.burst le_rfl
  subst hout
  obtain ⟨e, he1, he2, he3, he4⟩ := h.early
  obtain rfl := he4 le_rfl
  have hfl : FairL c L (inHand s) (inHand s) s.items := ⟨h.conf, h.size, h.chain, he3⟩
  cases ht with
  | put _ sch stamp h1 =>
    obtain ⟨⟨k, w, hk, hwt, hstamp⟩, hst0, hv, hl, hfinish⟩ := put_burst hp h1 (R := held s)
      (fun h0 => h.winv.tot.zero_iff.mp h0)
      (fun hne => (hlive fun hc => hne (h.winv.tot.zero_iff.mpr hc)).2)
    have hfl' := fairL_snoc hp hfl (y := { stamp := stamp, arr := s.now, pkt := p }) hk hwt hsz hstamp hst0
    exact ⟨⟨hg', hw', hfl'.conf, hfl'.size, h.hand, hfl'.chain, ⟨inHand s, he1, he2, hfl'.low, fun _ => rfl⟩,
      fun _ => ⟨rfl, hfin, htx, fun _ => ⟨rfl, hv, hl, held_enqueue s sch stamp p ▸ hfinish⟩⟩⟩, rfl⟩

/-- a scheduler that accounts for no packet (after whatever history) is the start of a burst run: `outs` counts
the departures from here on -/
theorem fairB_of_empty {c : WfqCfg ℚ} {L : Nat} {t0 : ℚ} {s : WState} (hg : GInv s) (hw : WInv c s)
    (he : held' s = []) : FairB c L t0 s [] := by
  obtain ⟨hh, hf⟩ := List.append_eq_nil_iff.mp he
  have hin := (List.append_eq_nil_iff.mp hh).1
  have hit := items_of_held_nil hh
  have hfin : s.fin = none := by
    cases hx : s.fin with
    | none => rfl
    | some x => simp [finL, hx] at hf
  have htx : ∀ p due, s.tx = some (p, due) → t0 < due := fun p due hx => by simp [inHand, hx] at hin
  have hno : ∀ {P : Item ℚ → Prop}, ∀ it ∈ s.items, P it := fun it h => absurd (hit ▸ h) List.not_mem_nil
  exact ⟨hg, hw, hno, hno, fun m h => absurd (hin ▸ h) List.not_mem_nil, fun _ _ _ => hit ▸ trivial,
    ⟨[], Nat.zero_le _, fun _ h => absurd h List.not_mem_nil, fun _ _ _ => hno, fun _ => hin.symm⟩,
    fun _ => ⟨rfl, hfin, htx, fun hne => absurd hh hne⟩⟩

theorem fairB_start' (c : WfqCfg ℚ) (L : Nat) (t0 t : ℚ) : FairB c L t0 (WFQ.start t) [] :=
  fairB_of_empty (init_ginv _ _) (init_winv c t) rfl

theorem fairB_start (c : WfqCfg ℚ) (L : Nat) (t0 : ℚ) (_h0 : 0 ≤ t0) : FairB c L t0 (WFQ.start 0) [] :=
  fairB_start' c L t0 0

/-- along the run of `as` from `s`, every `put` is executed at the instant `t0` and carries a size in `(0, L]` -/
def PutsAt (c : WfqCfg ℚ) (L : Nat) (t0 : ℚ) : WState → List (StAct ℚ) → Prop
  | _, [] => True
  | s, a :: as => (∀ p, a = .put p → s.now = t0 ∧ 0 < p.size ∧ p.size ≤ L) ∧
      ∀ s1 o, step (sched c) s a = .ok (s1, o) → PutsAt c L t0 s1 as

theorem putsAt_of_noPut (c : WfqCfg ℚ) (L : Nat) (t0 : ℚ) (as : List (StAct ℚ)) (hnp : NoPut as) (s : WState) :
    PutsAt c L t0 s as := by
  induction as generalizing s with
  | nil => trivial
  | cons a as ih =>
    refine ⟨fun p hpa => absurd hpa (hnp a (by simp) p), fun s1 _ _ => ?_⟩
    exact ih (fun b hb => hnp b (List.mem_cons_of_mem _ hb)) s1

theorem fairB_runActs {c : WfqCfg ℚ} (hp : Pos c) {L : Nat} {t0 : ℚ} (as : List (StAct ℚ))
    {s s' : WState} {outs ins outs' : List SPkt} (h : FairB c L t0 s outs) (hpa : PutsAt c L t0 s as)
    (hr : runActs (sched c) s as = .ok (s', ins, outs')) : FairB c L t0 s' (outs ++ outs') := by
  induction as generalizing s outs ins outs' with
  | nil =>
    simp only [runActs, Except.ok.injEq, Prod.mk.injEq] at hr
    obtain ⟨rfl, _, rfl⟩ := hr
    simpa using h
  | cons a as ih =>
    obtain ⟨s1, o, ins2, outs2, hstep, h2, _, rfl⟩ := runActs_cons_ok hr
    have ht := step_trans _ _ _ _ _ hstep
    have h1 : FairB c L t0 s1 (outs ++ left o) := by
      by_cases hput : ∃ p, a = .put p
      · obtain ⟨p, rfl⟩ := hput
        obtain ⟨hn, hsz⟩ := hpa.1 p rfl
        obtain ⟨hf, rfl⟩ := fairB_step_put hp h hn hsz ht
        simpa [left] using hf
      · exact fairB_step_noput hp h ht (fun p hc => hput ⟨p, hc⟩)
    have := ih h1 (hpa.2 s1 o hstep) h2
    rwa [List.append_assoc] at this

theorem fairB_runActs_noput {c : WfqCfg ℚ} (hp : Pos c) {L : Nat} {t0 : ℚ} (as : List (StAct ℚ)) (hnp : NoPut as)
    {s s' : WState} {outs ins outs' : List SPkt} (h : FairB c L t0 s outs)
    (hr : runActs (sched c) s as = .ok (s', ins, outs')) : FairB c L t0 s' (outs ++ outs') :=
  fairB_runActs hp as h (putsAt_of_noPut c L t0 as hnp s) hr

/-- **Static-backlog fairness for a burst, service started**: from a fresh scheduler, all arrivals at one instant
`t0` — interleaved at will with the other actions of that instant —, sizes in `(0, L]`: two classes that are still
backlogged differ in normalised service taken by at most `8L/w_i + 8L/w_j`. -/
theorem burst_backlog_fair_started (c : WfqCfg ℚ) (hp : Pos c) (L : Nat) (t0 t : ℚ) (as : List (StAct ℚ))
    (hpa : PutsAt c L t0 (start t) as) (s : WState) (ins outs : List SPkt)
    (hr : runActs (sched c) (start t) as = .ok (s, ins, outs))
    (i j : Nat) (wi wj : ℚ) (hwi : lookup c.weights i = some wi) (hwj : lookup c.weights j = some wj)
    (hbi : Backlogged c s i) (hbj : Backlogged c s j) :
    |bitsOf c i (outs ++ inHand s) / wi - bitsOf c j (outs ++ inHand s) / wj| ≤
      8 * (L : ℚ) / wi + 8 * (L : ℚ) / wj := by
  have hf := fairB_runActs hp as (fairB_start' c L t0 t) hpa hr
  rw [List.nil_append] at hf
  exact fairB_bound hp hf i j wi wj hwi hwj hbi hbj

end WFQ
