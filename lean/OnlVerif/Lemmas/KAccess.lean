import OnlVerif.Kernel.Step
/-! # Reading events and resources back after a leaf update (core Lean only) -/

variable {τ σ : Type}

theorem getD_setIfInBounds {α} (a : Array α) (i j : Nat) (x d : α) :
    (a.setIfInBounds i x).getD j d = if j = i ∧ i < a.size then x else a.getD j d := by
  simp only [Array.getD_eq_getD_getElem?, Array.getElem?_setIfInBounds]
  by_cases h1 : i = j
  · subst h1
    by_cases h2 : i < a.size
    · simp [h2]
    · simp [h2]
  · have : ¬ j = i := fun h => h1 h.symm
    simp [h1, this]

theorem getD_push {α} (a : Array α) (j : Nat) (x d : α) :
    (a.push x).getD j d = if j = a.size then x else a.getD j d := by
  simp only [Array.getD_eq_getD_getElem?, Array.getElem?_push]
  by_cases h : j = a.size
  · simp [h]
  · simp [h]

namespace KState

theorem ev_setEv (s : KState τ σ) (e e' : EvId) (r : EvRec τ) :
    (s.setEv e r).ev e' = if e' = e ∧ e < s.events.size then r else s.ev e' := by
  simp only [ev, setEv, getD_setIfInBounds]

theorem res_setRes (s : KState τ σ) (r r' : ResId) (x : ResRec) :
    (s.setRes r x).res r' = if r' = r ∧ r < s.resources.size then x else s.res r' := by
  simp only [res, setRes, getD_setIfInBounds]

theorem ev_newEv (s : KState τ σ) (r : EvRec τ) (e' : EvId) :
    (s.newEv r).1.ev e' = if e' = s.events.size then r else s.ev e' := by
  simp only [ev, newEv, getD_push]

theorem ev_newLabelled (s : KState τ σ) (r : EvRec τ) (e' : EvId) :
    (s.newLabelled r).1.ev e' = if e' = s.events.size then { r with label := s.nlabel + 1 } else s.ev e' := by
  simp only [ev, newLabelled, getD_push]

@[simp] theorem res_setEv (s : KState τ σ) (e : EvId) (x : EvRec τ) (r : ResId) : (s.setEv e x).res r = s.res r := rfl
@[simp] theorem res_newEv (s : KState τ σ) (x : EvRec τ) (r : ResId) : (s.newEv x).1.res r = s.res r := rfl
@[simp] theorem res_newLabelled (s : KState τ σ) (x : EvRec τ) (r : ResId) : (s.newLabelled x).1.res r = s.res r := rfl
@[simp] theorem res_schedule [Num τ] (s : KState τ σ) (e : EvId) (p : Nat) (d : τ) (r : ResId) : (s.schedule e p d).res r = s.res r := rfl
@[simp] theorem res_emit (s : KState τ σ) (o : Obs τ) (r : ResId) : (s.emit o).res r = s.res r := rfl
@[simp] theorem res_setProc (s : KState τ σ) (p : EvId) (x : ProcRec σ) (r : ResId) : (s.setProc p x).res r = s.res r := rfl
@[simp] theorem ev_setRes (s : KState τ σ) (r : ResId) (x : ResRec) (e : EvId) : (s.setRes r x).ev e = s.ev e := rfl
@[simp] theorem ev_schedule [Num τ] (s : KState τ σ) (e' : EvId) (p : Nat) (d : τ) (e : EvId) : (s.schedule e' p d).ev e = s.ev e := rfl
@[simp] theorem ev_emit (s : KState τ σ) (o : Obs τ) (e : EvId) : (s.emit o).ev e = s.ev e := rfl
@[simp] theorem ev_setProc (s : KState τ σ) (p : EvId) (x : ProcRec σ) (e : EvId) : (s.setProc p x).ev e = s.ev e := rfl

/-- the `req` field of every event is untouched by an update of `e` that keeps `req` -/
theorem req_setEv_keep (s : KState τ σ) (e e' : EvId) (r : EvRec τ) (h : r.req = (s.ev e).req) :
    ((s.setEv e r).ev e').req = (s.ev e').req := by
  rw [ev_setEv]
  split
  · rename_i hc; rw [hc.1]; exact h
  · rfl

end KState

/-- the eviction step of a `PreemptiveResource` touches only `users` (and allocates the `Interruption`) -/
theorem res_mkInterrupt [Num τ] (s : KState τ σ) (p : EvId) (c : Val) (r : ResId) : (mkInterrupt s p c).1.res r = s.res r := by
  unfold mkInterrupt
  split
  · rfl
  · split <;> rfl

theorem listMin_eq_none : ∀ (l : List Int), listMin l = none → l = [] := by
  intro l h
  cases l with
  | nil => rfl
  | cons x xs =>
    unfold listMin at h
    cases h2 : listMin xs <;> rw [h2] at h
    · cases h
    · simp only at h; split at h <;> cases h
