import OnlVerif.Lemmas.NetworkThm
/-!
# Networks of local transition systems refine the network of accounts

`Corr`: every node's invariant holds and the packets it holds locally are (a permutation of) the `held` list of its account.
`lstep_legal`: under `NodeLaw` and `IdPreserving`, every global step of the network of local transition systems is a *legal*
step of the account network and keeps `Corr`; hence (`C08.network_refines`) every run projects to an accepted run of `Net.run`.
-/

namespace Net
variable {ι π κ σ : Type} [DecidableEq ι] [DecidableEq π] [DecidableEq κ]

def Corr (nd : ι → Node π σ) (L : LState ι π σ) : Prop :=
  ∀ a, (nd a).Inv (L.loc a) ∧ ((nd a).heldOf (L.loc a)).Perm (L.g.recs (.held a))

theorem corr_upd (nd : ι → Node π σ) (loc : ι → σ) (g g' : GState ι π) (a : ι) (s' : σ) (hc : Corr nd ⟨loc, g⟩)
    (hsame : ∀ a', a' ≠ a → g'.recs (.held a') = g.recs (.held a'))
    (hinv : (nd a).Inv s') (hperm : ((nd a).heldOf s').Perm (g'.recs (.held a))) : Corr nd ⟨upd loc a s', g'⟩ := by
  intro a'
  by_cases h : a' = a
  · subst h; simp only [upd, if_true]; exact ⟨hinv, hperm⟩
  · simp only [upd, if_neg h]; rw [hsame a' h]; exact hc a'

theorem corr_same (nd : ι → Node π σ) (loc : ι → σ) (g g' : GState ι π) (hc : Corr nd ⟨loc, g⟩)
    (hsame : ∀ a', g'.recs (.held a') = g.recs (.held a')) : Corr nd ⟨loc, g'⟩ := by
  intro a'; rw [hsame a']; exact hc a'

theorem recs_arrive_held (g : GState ι π) (d : Dest ι) (p : π) (o : Outcome) (a' : ι) :
    (g.arrive d p o).recs (.held a') =
      if d = .node a' ∧ o = .acc then g.recs (.held a') ++ [p] else g.recs (.held a') := by
  cases d <;> cases o <;>
    simp only [GState.arrive, recs_app, reduceCtorEq, if_false, Slot.held.injEq, Dest.node.injEq, and_true, and_false]
  rename_i b
  by_cases h : a' = b
  · subst h; simp
  · have : ¬ b = a' := fun e => h e.symm
    simp [h, this]

theorem corr_arrive (nd : ι → Node π σ) (law : ∀ a, NodeLaw (nd a)) (loc loc' : ι → σ) (g : GState ι π) (d : Dest ι)
    (p : π) (o : Outcome) (hc : Corr nd ⟨loc, g⟩) (ha : Arrives nd loc d p o loc') : Corr nd ⟨loc', g.arrive d p o⟩ := by
  cases d with
  | sink k =>
    rw [ha.2]
    exact corr_same nd loc g _ hc (fun a' => by rw [recs_arrive_held]; simp)
  | node b =>
    obtain ⟨s', hs, rfl⟩ := ha
    cases o with
    | acc =>
      have hl := (law b).recv_acc _ _ _ (hc b).1 hs
      refine corr_upd nd loc g _ b s' hc (fun a' hne => ?_) hl.1 ?_
      · rw [recs_arrive_held]
        have : ¬ (Dest.node b = Dest.node a' ∧ Outcome.acc = Outcome.acc) := fun e => hne (Dest.node.inj e.1).symm
        rw [if_neg this]
      · rw [recs_arrive_held, if_pos ⟨rfl, rfl⟩]
        exact hl.2.trans ((hc b).2.append_right _)
    | ref r =>
      have hl := (law b).recv_ref _ _ _ _ (hc b).1 hs
      refine corr_upd nd loc g _ b s' hc (fun a' _ => ?_) hl.1 ?_
      · rw [recs_arrive_held]; simp
      · rw [recs_arrive_held]; simp only [reduceCtorEq, and_false, if_false]
        exact hl.2.trans (hc b).2

theorem corr_release (nd : ι → Node π σ) (loc : ι → σ) (g g1 : GState ι π) (a : ι) (p : π) (s1 : σ)
    (hc : Corr nd ⟨loc, g⟩) (hmem : p ∈ (nd a).heldOf (loc a)) (hinv : (nd a).Inv s1)
    (hperm : ((nd a).heldOf (loc a)).Perm (p :: (nd a).heldOf s1))
    (hg1 : ∀ a', g1.recs (.held a') = (g.del a p).recs (.held a')) :
    p ∈ (g.acct a).held ∧ Corr nd ⟨upd loc a s1, g1⟩ := by
  have hp : p ∈ (g.acct a).held := ((hc a).2.mem_iff).mp hmem
  refine ⟨hp, corr_upd nd loc g g1 a s1 hc (fun a' hne => ?_) hinv ?_⟩
  · rw [hg1, recs_del]
    have : ¬ (Slot.held a' = Slot.held a) := fun e => hne (Slot.held.inj e)
    rw [if_neg this]
  · rw [hg1, recs_del, if_pos rfl]
    have h1 : (p :: (nd a).heldOf s1).Perm (p :: (g.recs (.held a)).erase p) :=
      hperm.symm.trans ((hc a).2.trans (List.perm_cons_erase hp))
    exact (List.perm_cons p).mp h1

theorem lstep_legal (n : Wiring ι π κ) (nd : ι → Node π σ) (law : ∀ a, NodeLaw (nd a)) (hid : ∀ a, IdPreserving (nd a))
    (L L' : LState ι π σ) (e : GEv ι π) (hc : Corr nd L) (hs : LStep n nd L e L') :
    step n L.g e = .ok L'.g ∧ Corr nd L' := by
  cases hs with
  | inject a p o s' fresh h =>
    refine ⟨step_ok_iff.mpr ⟨illegal_inject.mpr fresh, rfl⟩, ?_⟩
    simp only [apply]
    have hc0 : Corr nd ⟨L.loc, ({ L.g with injected := L.g.injected ++ [p] } : GState ι π)⟩ :=
      corr_same nd L.loc L.g _ hc (fun a' => recs_with_injected _ _ _)
    exact corr_arrive nd law L.loc _ _ (.node a) p o hc0 ⟨s', h, rfl⟩
  | fwd a p o s1 loc' h h2 =>
    have hmem := hid a _ _ _ (hc a).1 (Or.inl h)
    have hl := (law a).emit _ _ _ (hc a).1 h hmem
    obtain ⟨hp, hc1⟩ := corr_release nd L.loc L.g ((L.g.del a p).app (.out a) p) a p s1 hc hmem hl.1 hl.2
      (fun a' => by rw [recs_app]; simp)
    refine ⟨step_ok_iff.mpr ⟨illegal_fwd.mpr ⟨hp, fun k hd => ?_⟩, rfl⟩, ?_⟩
    · rw [hd] at h2; exact h2.1
    simp only [apply]
    exact corr_arrive nd law _ _ _ _ p o hc1 h2
  | drop a p r s' h =>
    have hmem := hid a _ _ _ (hc a).1 (Or.inr ⟨r, h⟩)
    have hl := (law a).discard _ _ _ _ (hc a).1 h hmem
    obtain ⟨hp, hc1⟩ := corr_release nd L.loc L.g ((L.g.del a p).app (.dropped a) p r) a p s' hc hmem hl.1 hl.2
      (fun a' => by rw [recs_app]; simp)
    exact ⟨step_ok_iff.mpr ⟨illegal_drop.mpr hp, rfl⟩, hc1⟩
  | copy a p c s' hsp hcp fresh h =>
    have hl := (law a).make _ _ _ _ (hc a).1 h
    have hp : p ∈ (L.g.acct a).held := ((hc a).2.mem_iff).mp hl.2.1
    refine ⟨step_ok_iff.mpr ⟨illegal_copy.mpr ⟨hsp, hp, hcp, fresh⟩, rfl⟩, ?_⟩
    simp only [apply]
    refine corr_upd nd L.loc L.g _ a s' hc (fun a' hne => ?_) hl.1 ?_
    · rw [recs_app, recs_app, recs_with_copies]
      have : ¬ (Slot.held a' = Slot.held a) := fun e => hne (Slot.held.inj e)
      simp [this]
    · rw [recs_app, recs_app, recs_with_copies]
      simp only [reduceCtorEq, if_false, if_true]
      exact hl.2.2.trans ((hc a).2.append_right _)
  | tau a s' h =>
    have hl := (law a).tau _ _ (hc a).1 h
    exact ⟨rfl, corr_upd nd L.loc L.g L.g a s' hc (fun _ _ => rfl) hl.1 (hl.2.trans (hc a).2)⟩

end Net
