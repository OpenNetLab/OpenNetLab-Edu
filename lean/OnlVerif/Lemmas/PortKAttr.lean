import Lean.Meta.Tactic.Simp.RegisterCommand
/-! the simp set `ksimp` (PortKFrame.lean) rewrites with; nothing is tagged -/
register_simp_attr portk
