import OnlVerif.Lemmas.MultiQueueRun
/-!
# RR: the loop visits `flows` cyclically in declaration order, skips the classes that are not backlogged and sends
one packet per visit
-/

namespace RR
open MQ

/-- entry `l` of `flows` is not backlogged under the counters `cn` -/
def Skips (cfg : Cfg ℚ) (cn : Nat → Int) (l : Nat) : Prop := ∀ f, cfg.flows[l]? = some f → ¬ 0 < cn f

/-- every index cyclically from `i` (inclusive) to `j` (exclusive) is skipped -/
def CyclicSkips (cfg : Cfg ℚ) (cn : Nat → Int) (i j : Nat) : Prop :=
  (i ≤ j ∧ ∀ l, i ≤ l → l < j → Skips cfg cn l) ∨
  (j < i ∧ (∀ l, i ≤ l → Skips cfg cn l) ∧ ∀ l, l < j → Skips cfg cn l)

theorem skips_of_len (cfg : Cfg ℚ) (cn : Nat → Int) {m l : Nat} (hm : cfg.flows.length ≤ m) (hl : m ≤ l) :
    Skips cfg cn l := fun f hf => by
  rw [List.getElem?_eq_none (le_trans hm hl)] at hf; cases hf

/-- the index at which the scan of a decision burst starts -/
def resumeIndex (s : MQState ℚ Pc) : Nat :=
  match s.ctl with
  | .sent j => j + 1
  | _ => 0

/-- **The decision bursts of RR** (started at entry 0 by a loop resting there, or at the entry after the one just served):
the loop ends resting at entry 0, or with the oldest packet of the first backlogged flow cyclically from its resume index
in hand. -/
theorem decision (cfg : Cfg ℚ) (s : MQState ℚ Pc) (k : Pc) (s' : MQState ℚ Pc)
    (hk : (k = s.ctl ∧ s.ctl = .at 0) ∨ ∃ p, (sched cfg).onDone s.ctl p = .ok k)
    (hr : resumeLoop (sched cfg) { s with ctl := k } = .ok s') :
    RestsAt (.at 0) s' ∧
    (∀ c p, s'.phase = .pktHanded c p → ∃ j rest, s'.ctl = .got j ∧ cfg.flows[j]? = some c ∧ 0 < cnt s.queueCount c ∧
        CyclicSkips cfg (cnt s.queueCount) (resumeIndex s) j ∧ storeOf s.stores c = p :: rest) := by
  have hi : k = .at (resumeIndex s) := by
    rcases hk with ⟨rfl, hk⟩ | ⟨p, hk⟩
    · simp only [resumeIndex, hk]
    · simp only [sched, onDone] at hk
      split at hk <;> cases hk
      rename_i j hj
      simp only [resumeIndex, hj]
  have h := resumeLoop_scan (sched cfg) { s with ctl := k } s'
    (fun k => ∃ w m, (k = .at m ∨ (k = .endPass ∧ cfg.flows.length ≤ m)) ∧
      Vis (Skips cfg (cnt s.queueCount)) (resumeIndex s) m w)
    (fun c k' => ∃ j, k' = .got j ∧ cfg.flows[j]? = some c ∧ 0 < cnt s.queueCount c ∧
      CyclicSkips cfg (cnt s.queueCount) (resumeIndex s) j)
    (.at 0) ?_ hr ⟨false, resumeIndex s, .inl hi, vis_fresh _ _⟩
  · refine ⟨h.1, fun c p hph => ?_⟩
    obtain ⟨rest, ⟨j, h1, h2, h3, h4⟩, h5, _⟩ := h.2 c p hph
    exact ⟨j, rest, h1, h2, h3, h4, h5⟩
  · rintro k v hv ⟨w, m, rfl | ⟨rfl, hlen⟩, hvis⟩
    · show ScanMove _ _ _ (micro cfg (.at m) v)
      rcases micro_at_cases cfg m v with ⟨hn, e⟩ | ⟨f, hf, hno, e⟩ | ⟨f, hf, hpos, e | ⟨_, e⟩⟩ <;> rw [e]
      · have : cfg.flows.length ≤ m := by
          by_contra hc
          rw [List.getElem?_eq_getElem (not_le.mp hc)] at hn; cases hn
        exact ⟨w, m, .inr ⟨rfl, this⟩, hvis⟩
      · rw [hv.1 f] at hno
        exact ⟨w, m + 1, .inl rfl, vis_succ hvis fun f' hf' => by rw [hf] at hf'; cases hf'; exact hno⟩
      · rw [hv.1 f] at hpos
        exact ⟨m, rfl, hf, hpos, vis_cyclic hvis fun hsk => hsk f hf hpos⟩
      · trivial
    · show ScanMove _ _ _ (micro cfg .endPass v)
      simp only [micro]
      split
      · rfl
      · exact ⟨true, 0, .inl rfl, vis_wrap hvis fun l hl => skips_of_len cfg _ hlen hl⟩

end RR
