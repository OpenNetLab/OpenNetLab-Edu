import Mathlib.Tactic.SplitIfs
import OnlVerif.Lemmas.GenScalar
import OnlVerif.Net.TokenBucket
import OnlVerif.Net.TwoRate
import OnlVerif.Generated.Bucket
/-!
# Bridge between the *generated* token-bucket code and the hand-written models (`Net/TokenBucket.lean`, `Net/TwoRate.lean`)

`Generated/Bucket.lean` is rewritten from `onl/netdev/token_bucket.py` and `two_level_token_bucket.py` on every `./check C11`:
`put`, and one round of the server generator `run` split at its `yield env.timeout(…)` statements (`run_resume`: from the
`get` to the first yield or to the end of the round; `run_after_i`: from the resumption after yield `i` on).  The model has
the same bursts as `onResume` / `onFire` / `onDone` returning `(state, packet, Next)`.  `GenBucket.tbObj` encodes a model
state as the Python object (an `out` is attached, nothing raised), `GenBucket.tbAfter` encodes the result of a burst:
`.wait dt` ↦ suspended in the yield with `yield_dt = dt`, `.emit` ↦ round complete after `onDone`, one more `out.put`.
The model's ghost fields (`log`, `outLog`) have no counterpart in the object.  Over exact rationals.
The bridge theorems are `C11.tb_generated_eq_model` and `C11.tworate_generated_eq_model`.
-/

namespace GenBucket
open TokenBucket

/-- the `TokenBucket` object for model configuration `c` and state `d`, with `out` attached and nothing raised -/
def tbObj (c : TbCfg ℚ) (d : TbSt ℚ) (puts outs ya : Nat) (ydt : ℚ) : Gen.TbObj ℚ :=
  { rate := c.rate, bucket_size := c.bucket, peak := c.peak, out := true, current_bucket := d.level,
    update_time := d.upd, packets_received := d.received, packets_sent := d.sent,
    eff_store_put := puts, eff_out_put := outs, raised := 0, yield_at := ya, yield_dt := ydt }

/-- what a burst of the model's server (`onResume` / `onFire`) leaves, as the Python object: sleeping in the token wait
(yield 1) or the peak-rate wait (yield 2), or the round complete with the packet forwarded -/
def tbAfter (c : TbCfg ℚ) (r : TbSt ℚ × Pkt ℚ × Next ℚ) (puts outs : Nat) : Option (Gen.TbObj ℚ) :=
  match r.2.2 with
  | .wait dt => some (tbObj c r.1 puts outs (if r.1.tokWait then 1 else 2) dt)
  | .emit => some (tbObj c (TokenBucket.onDone r.1 r.2.1) puts (outs + 1) 0 0)
  | _ => none

/-- the `TwoRateTokenBucket` object for model configuration `c` and state `d`: `out` attached; `col` = the colour last
written to `packet.color`, `paints` the number of such writes; `raised`, `yield_at`, `yield_dt` as given -/
def trObj (c : TrCfg ℚ) (d : TrSt ℚ) (puts outs paints : Nat) (col : Int) (raised ya : Nat) (ydt : ℚ) : Gen.TrObj ℚ :=
  { cir := c.cir, cbs := c.cbs, pir := c.pir, pbs := c.pbs, out := true, current_bucket_commit := d.commit,
    current_bucket_peak := d.peak, update_time := d.upd, packets_received := d.received, packets_sent := d.sent,
    color := col, eff_store_put := puts, eff_out_put := outs, eff_paint := paints, raised := raised, yield_at := ya,
    yield_dt := ydt }

/-- Python exception ↦ the code the generated `raised` field carries -/
def raisedCode (m : String) : Nat :=
  if m = "AssertionError" then 1 else if m = "ValueError" then 2 else if m = "TypeError" then 3 else 0

/-- the object `g` is what a burst of the model's server leaves: sleeping (in yield 1 with PIR, yield 2 without) with the
model's state and timeout; or the round complete after `onDone`, the packet painted with the model's colour and forwarded;
or the round ended by the exception the model names -/
def TrAgrees (c : TrCfg ℚ) (g : Gen.TrObj ℚ) (r : TrSt ℚ × Pkt ℚ × Next ℚ) (puts outs paints : Nat) (col : Int) : Prop :=
  match r.2.2 with
  | .wait dt => g = trObj c r.1 puts outs paints col 0 (if (TwoRate.pirOn c).isSome then 1 else 2) dt
  | .emit => g = trObj c (TwoRate.onDone r.1 r.2.1) puts (outs + 1) (paints + 1) r.2.1.color 0 0 0
  | .fail m => g.raised = raisedCode m ∧ raisedCode m ≠ 0 ∧ g.yield_at = 0 ∧ g.eff_out_put = outs
  | .lose => False

end GenBucket
