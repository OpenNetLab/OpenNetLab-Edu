import OnlVerif.Lemmas.ConserveSum
/-!
# C07: a Container's level = initial level + granted puts − granted gets, along every run
-/

variable {σ : Type}

namespace Conserve

/-- the put requests of resource `r` that have been granted (= triggered), in creation order -/
def grantedPuts (s : KState ℚ σ) (r : ResId) : List EvId :=
  (List.range s.events.size).filter (fun e => decide ((s.ev e).kind = .put r) && s.triggered e)

def grantedGets (s : KState ℚ σ) (r : ResId) : List EvId :=
  (List.range s.events.size).filter (fun e => decide ((s.ev e).kind = .get r) && s.triggered e)

def amountSum (s : KState ℚ σ) (l : List EvId) : Int := (l.map (fun e => (reqOf s e).amount)).sum

def wPutAmt (r : ResId) : Weight := fun k o c => if k = .put r ∧ o.isSome = true then c.amount else 0
def wGetAmt (r : ResId) : Weight := fun k o c => if k = .get r ∧ o.isSome = true then c.amount else 0

theorem wPutAmt_ok (r : ResId) : (wPutAmt r).Ok :=
  .of_ite (K := .put r) rfl (fun o _ => o.isSome = true) (fun _ h => by cases h) _

theorem wGetAmt_ok (r : ResId) : (wGetAmt r).Ok :=
  .of_ite (K := .get r) rfl (fun o _ => o.isSome = true) (fun _ h => by cases h) _

theorem tot_wPutAmt (s : KState ℚ σ) (r : ResId) : tot (wPutAmt r) s = amountSum s (grantedPuts s r) := by
  unfold tot amountSum grantedPuts
  rw [← sumTo_eq_list]
  apply sumTo_congr
  intro a _
  unfold wt wPutAmt KState.triggered
  by_cases h1 : (s.ev a).kind = .put r <;> by_cases h2 : (s.ev a).out.isSome = true <;> simp [h1, h2] <;> rfl

theorem tot_wGetAmt (s : KState ℚ σ) (r : ResId) : tot (wGetAmt r) s = amountSum s (grantedGets s r) := by
  unfold tot amountSum grantedGets
  rw [← sumTo_eq_list]
  apply sumTo_congr
  intro a _
  unfold wt wGetAmt KState.triggered
  by_cases h1 : (s.ev a).kind = .get r <;> by_cases h2 : (s.ev a).out.isSome = true <;> simp [h1, h2] <;> rfl

def levelPot (s : KState ℚ σ) (r : ResId) : Int := (s.res r).level - tot (wPutAmt r) s + tot (wGetAmt r) s

def LevelCons (s s' : KState ℚ σ) : Prop := ∀ r, (s.res r).kind = .container → levelPot s' r = levelPot s r

def LevelRel (s s' : KState ℚ σ) : Prop := Base s s' ∧ (WF s → LevelCons s s')

theorem levelPot_of_same {s s' : KState ℚ σ} {r : ResId} (hl : (s'.res r).level = (s.res r).level)
    (hp : tot (wPutAmt r) s' = tot (wPutAmt r) s) (hg : tot (wGetAmt r) s' = tot (wGetAmt r) s) :
    levelPot s' r = levelPot s r := by
  unfold levelPot; rw [hl, hp, hg]

theorem LevelRel.crel : CRel (LevelRel (σ := σ)) := by
  refine CRel.of_quiet (fun s => ⟨Base.refl s, fun _ _ _ => rfl⟩) ?_ (fun h => h.1) ?_ ?_ ?_
  · intro s1 s2 s3 h12 h23
    refine ⟨h12.1.trans h23.1, ?_⟩
    intro hW r hk
    have hk2 : (s2.res r).kind = .container := by rw [h12.1.resKind]; exact hk
    rw [h23.2 (h12.1.keepWF hW) r hk2, h12.2 hW r hk]
  · exact fun s s' _ h => ⟨Base.of_quiet h, fun _ r _ =>
      levelPot_of_same (h.res r).2.2.1 (tot_quiet (wPutAmt_ok r) h) (tot_quiet (wGetAmt_ok r) h)⟩
  · intro s r0 e rest hW hq _ hE hG
    have hk0 : (s.ev e).kind = .put r0 := (hW.putQ r0 e (by rw [hq]; exact List.mem_cons_self)).1
    refine ⟨Base.of_granted hW hG, fun _ r hk => ?_⟩
    unfold levelPot
    rw [hG.tot (wPutAmt_ok r), hG.tot (wGetAmt_ok r), hk0]
    have hg0 : wGetAmt r (.put r0) (some (.ok .none)) (coreOf s e) = 0 := if_neg (fun h => Kind.noConfusion h.1)
    rw [hg0]
    by_cases hrr : r = r0
    · subst hrr
      have hp1 : wPutAmt r (.put r) (some (.ok .none)) (coreOf s e) = (reqOf s e).amount := if_pos ⟨rfl, rfl⟩
      rw [hp1, hE.levelC hk]; ring
    · have hp0 : wPutAmt r (.put r0) (some (.ok .none)) (coreOf s e) = 0 :=
        if_neg (fun h => hrr (Kind.put.inj h.1).symm)
      rw [hp0, hE.resOther r hrr]; ring
  · intro s r0 e v pre rest hW hq _ _ hE hG
    have hk0 : (s.ev e).kind = .get r0 := (hW.getQ r0 e (by rw [hq]; simp)).1
    refine ⟨Base.of_granted hW hG, fun _ r hk => ?_⟩
    unfold levelPot
    rw [hG.tot (wPutAmt_ok r), hG.tot (wGetAmt_ok r), hk0]
    have hp0 : wPutAmt r (.get r0) (some (.ok v)) (coreOf s e) = 0 := if_neg (fun h => Kind.noConfusion h.1)
    rw [hp0]
    by_cases hrr : r = r0
    · subst hrr
      have hg1 : wGetAmt r (.get r) (some (.ok v)) (coreOf s e) = (reqOf s e).amount := if_pos ⟨rfl, rfl⟩
      rw [hg1, hE.levelC hk]; ring
    · have hg0 : wGetAmt r (.get r0) (some (.ok v)) (coreOf s e) = 0 :=
        if_neg (fun h => hrr (Kind.get.inj h.1).symm)
      rw [hg0, hE.resOther r hrr]; ring

theorem reach_levelCons (body : σ → Resume → Burst ℚ σ) (fuel : Nat) (s0 s : KState ℚ σ) (hW : WF s0)
    (hr : SafeReach body fuel s0 s) (r : ResId) (hk : (s.res r).kind = .container) :
    (s.res r).level - amountSum s (grantedPuts s r) + amountSum s (grantedGets s r) =
      (s0.res r).level - amountSum s0 (grantedPuts s0 r) + amountSum s0 (grantedGets s0 r) := by
  have h := LevelRel.crel.reach body fuel s0 s hW hr
  have hk0 : (s0.res r).kind = .container := by rw [← h.1.resKind]; exact hk
  have := h.2 hW r hk0
  unfold levelPot at this
  rw [tot_wPutAmt, tot_wGetAmt, tot_wPutAmt, tot_wGetAmt] at this
  exact this

theorem grantedPuts_noReq (s : KState ℚ σ) (r : ResId) (h : ∀ e, isReq s e = false) : grantedPuts s r = [] := by
  unfold grantedPuts
  rw [List.filter_eq_nil_iff]
  intro a _
  simp [(kind_ne_of_noReq h a r).1]

theorem grantedGets_noReq (s : KState ℚ σ) (r : ResId) (h : ∀ e, isReq s e = false) : grantedGets s r = [] := by
  unfold grantedGets
  rw [List.filter_eq_nil_iff]
  intro a _
  simp [(kind_ne_of_noReq h a r).2]

end Conserve
