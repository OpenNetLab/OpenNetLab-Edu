import Mathlib.Algebra.Order.Archimedean.Basic
import OnlVerif.Lemmas.TcpLiveInv
/-!
# The termination measure of fair runs of the closed loop (C16)

Lexicographically:

1. `muA`: bytes the sink's contiguous prefix, the sender's `last_ack` and `next_seq` still have to go;
2. `muG`: 0 if progress is already in the pipeline (a copy of the segment at `last_ack` is in flight, or an ACK
   beyond `last_ack`), else 1;
3. while not: how many more timer expiries can precede the expiry of the timer of `last_ack`
   (`need`: doublings of the RTO until a re-armed timer lands beyond it; `cnt`: timers still before it);
4. timers not yet due (twice) and due;
5. the weight of the packets in flight (a data packet outweighs the ACK it causes, which outweighs the retransmission
   a duplicate ACK may cause) plus the pending work of `run`.
-/

open TcpScalar TcpSender TcpSink TcpLoop

namespace AL
variable {β : Type}

theorem get?_set_ne {k q : Nat} (v : β) (l : List (Nat × β)) (h : q ≠ k) : get? q (set k v l) = get? q l := by
  rw [get?_set, if_neg (Ne.symm h)]

/-- replacing the value of a present key moves one unit of a count -/
theorem countP_set (p : Nat × β → Bool) {k : Nat} {v0 : β} (v : β) :
    ∀ {l : List (Nat × β)}, get? k l = some v0 →
      (set k v l).countP p + (if p (k, v0) then 1 else 0) = l.countP p + (if p (k, v) then 1 else 0) := by
  intro l h
  obtain ⟨a, b, rfl, hs, _⟩ := split_of_get? h
  rw [hs, List.countP_append, List.countP_append, List.countP_cons, List.countP_cons]
  omega

theorem length_set_of_mem {k : Nat} {v0 : β} (v : β) : ∀ {l : List (Nat × β)}, get? k l = some v0 → (set k v l).length = l.length := by
  intro l h
  obtain ⟨a, b, rfl, hs, _⟩ := split_of_get? h
  rw [hs, List.length_append, List.length_append]
  rfl

end AL

namespace TcpLive

/-! ## `need`: how many doublings of the RTO until `now + 2·rto` passes `w` -/

theorem exists_need (w now rto : ℚ) (hr : 0 < rto) : ∃ k : Nat, w < now + 2 ^ (k + 1) * rto := by
  obtain ⟨k, hk⟩ := pow_unbounded_of_one_lt ((w - now) / rto) (one_lt_two (α := ℚ))
  have h1 := (div_lt_iff₀ hr).mp hk
  have h2 : (0 : ℚ) < 2 ^ k * rto := by positivity
  exact ⟨k, by rw [pow_succ]; linarith⟩

open Classical in
noncomputable def need (w now rto : ℚ) : Nat := if h : ∃ k : Nat, w < now + 2 ^ (k + 1) * rto then Nat.find h else 0

theorem need_spec (w now rto : ℚ) (hr : 0 < rto) : w < now + 2 ^ (need w now rto + 1) * rto := by
  unfold need
  rw [dif_pos (exists_need w now rto hr)]
  exact Nat.find_spec (exists_need w now rto hr)

theorem need_le (w now rto : ℚ) (k : Nat) (hk : w < now + 2 ^ (k + 1) * rto) : need w now rto ≤ k := by
  unfold need
  rw [dif_pos ⟨k, hk⟩]
  exact Nat.find_le hk

theorem need_mono_now (w now now' rto : ℚ) (hr : 0 < rto) (h : now ≤ now') : need w now' rto ≤ need w now rto := by
  apply need_le
  have := need_spec w now rto hr
  linarith

/-- a timer expiry doubles the RTO: one doubling fewer is needed -/
theorem need_double (w now rto : ℚ) (hr : 0 < rto) (h : 0 < need w now rto) :
    need w now (rto * 2) + 1 ≤ need w now rto := by
  have hs := need_spec w now rto hr
  have : need w now (rto * 2) ≤ need w now rto - 1 := by
    apply need_le
    have e : need w now rto - 1 + 1 = need w now rto := by omega
    rw [e]
    have : (2 : ℚ) ^ (need w now rto + 1) * rto = 2 ^ need w now rto * (rto * 2) := by ring
    linarith
  omega

theorem need_double_le (w now rto : ℚ) (hr : 0 < rto) : need w now (rto * 2) ≤ need w now rto := by
  apply need_le
  have hs := need_spec w now rto hr
  have h2 : (0:ℚ) < 2 ^ (need w now rto + 1) := by positivity
  nlinarith

theorem need_zero (w now rto : ℚ) (hr : 0 < rto) (h : need w now rto = 0) : w < now + rto * 2 := by
  have := need_spec w now rto hr
  rw [h] at this
  norm_num at this
  linarith

/-- the sink's contiguous prefix, read off a sorted buffer (what `TcpSink.ackOf` returns) -/
def pfx : List Range → Nat
  | [] => 0
  | r :: _ => if r.1 == 0 then r.2 else 0

theorem pfx_isPrefix {L : List Range} (h : Sep L) : IsPrefix L (pfx L) := by
  cases L with
  | nil => exact ⟨fun b hb => absurd hb (Nat.not_lt_zero b), covers_nil 0⟩
  | cons r rest =>
    obtain ⟨p, hp, hpre⟩ := ackOf_isPrefix (r :: rest) h (by simp)
    have : p = pfx (r :: rest) := by
      unfold ackOf at hp
      injection hp with hp
      exact hp.symm
    exact this ▸ hpre

/-- wake-up instant of the timer of segment `q` -/
def wakeOf (T : List (Nat × TimerRec ℚ)) (q : Nat) : ℚ :=
  match AL.get? q T with
  | some tr => tr.wake
  | none => 0

/-- timers other than `P`'s that wake no later than `w` -/
def cnt (T : List (Nat × TimerRec ℚ)) (P : Nat) (w : ℚ) : Nat :=
  T.countP fun kv => decide (kv.1 ≠ P) && decide (kv.2.wake ≤ w)

/-- timers that wake after `now` -/
def fut (T : List (Nat × TimerRec ℚ)) (now : ℚ) : Nat := T.countP fun kv => decide (now < kv.2.wake)

/-- timers that are due -/
def due (T : List (Nat × TimerRec ℚ)) (now : ℚ) : Nat := T.countP fun kv => decide (kv.2.wake ≤ now)

theorem fut_add_due (T : List (Nat × TimerRec ℚ)) (now : ℚ) : fut T now + due T now = T.length := by
  unfold fut due
  rw [List.length_eq_countP_add_countP (fun kv : Nat × TimerRec ℚ => decide (now < kv.2.wake))]
  simp only [not_lt, decide_eq_true_eq]

theorem due_zero {T : List (Nat × TimerRec ℚ)} {now t : ℚ} (hlt : now < t) (hge : ∀ kv ∈ T, t ≤ kv.2.wake) :
    due T now = 0 := by
  unfold due
  rw [List.countP_eq_zero]
  intro kv hkv
  simpa using lt_of_lt_of_le hlt (hge kv hkv)

theorem due_pos {T : List (Nat × TimerRec ℚ)} {kv : Nat × TimerRec ℚ} {t : ℚ} (hkv : kv ∈ T) (he : kv.2.wake = t) :
    0 < due T t := by
  unfold due
  rw [List.countP_pos_iff]
  exact ⟨kv, hkv, by simp [he]⟩

theorem due_set_lt {T : List (Nat × TimerRec ℚ)} {q : Nat} {tr nt : TimerRec ℚ} {now : ℚ}
    (ht : AL.get? q T = some tr) (hw : tr.wake ≤ now) (hn : now < nt.wake) : due (AL.set q nt T) now < due T now := by
  have hc := AL.countP_set (fun kv : Nat × TimerRec ℚ => decide (kv.2.wake ≤ now)) nt ht
  rw [if_pos (decide_eq_true hw), if_neg (by simpa using hn)] at hc
  unfold due
  omega

theorem wakeOf_set_ne {T : List (Nat × TimerRec ℚ)} {q P : Nat} (nt : TimerRec ℚ) (h : q ≠ P) :
    wakeOf (AL.set q nt T) P = wakeOf T P := by
  unfold wakeOf
  rw [AL.get?_set_ne _ _ (Ne.symm h)]

theorem now_le_wakeOf {n : Nat} {s : Sender ℚ} (h : SInv n s) (hP : s.last_ack ∈ AL.keys s.timers) :
    s.now ≤ wakeOf s.timers s.last_ack := by
  obtain ⟨trP, hg⟩ := AL.get?_isSome_of_mem hP
  unfold wakeOf
  rw [hg]
  exact (h.live _ (AL.pair_mem_of_get?_some hg)).2.2

/-- the expiry of a timer counted by `g`, re-armed one doubled RTO ahead: fewer expiries can still precede `τ` -/
theorem fire_V {T : List (Nat × TimerRec ℚ)} {q : Nat} {tr nt : TimerRec ℚ} {τ now rto : ℚ} (g : Nat → Bool)
    (ht : AL.get? q T = some tr) (hg : g q = true) (hw : tr.wake = now) (hτ : now ≤ τ) (hnt : nt.wake = now + rto * 2)
    (hr : 0 < rto) :
    need τ now (rto * 2) + (AL.set q nt T).countP (fun kv => g kv.1 && decide (kv.2.wake ≤ τ)) <
      need τ now rto + T.countP (fun kv => g kv.1 && decide (kv.2.wake ≤ τ)) := by
  have hc := AL.countP_set (fun kv : Nat × TimerRec ℚ => g kv.1 && decide (kv.2.wake ≤ τ)) nt ht
  rw [if_pos (by rw [hg, hw, Bool.true_and]; exact decide_eq_true hτ)] at hc
  by_cases hN : need τ now rto = 0
  · have hz := need_zero _ _ _ hr hN
    rw [if_neg (by rw [hg, hnt, Bool.true_and]; simpa using hz)] at hc
    have := need_double_le τ now rto hr
    omega
  · have := need_double τ now rto hr (Nat.pos_of_ne_zero hN)
    split_ifs at hc <;> omega

theorem fire_V_P {T : List (Nat × TimerRec ℚ)} {q P : Nat} {tr nt : TimerRec ℚ} {τ now rto : ℚ}
    (ht : AL.get? q T = some tr) (hq : q ≠ P) (hw : tr.wake = now) (hτ : now ≤ τ) (hnt : nt.wake = now + rto * 2)
    (hr : 0 < rto) :
    need τ now (rto * 2) + cnt (AL.set q nt T) P τ < need τ now rto + cnt T P τ :=
  fire_V (fun k => decide (k ≠ P)) ht (decide_eq_true hq) hw hτ hnt hr
/-- progress is already in the pipeline: a copy of the segment at `last_ack` is in flight, or an ACK beyond it -/
def InPipe (l : Loop ℚ) : Prop :=
  (∃ tx ∈ l.data, tx.seq = l.snd.last_ack) ∨ (∃ a ∈ l.acks, l.snd.last_ack < a.ackno)

/-- weight of the data path -/
def wd (P : Nat) (data : List (Tx ℚ)) : Nat := (data.map fun tx => if tx.seq = P then 1 else 3).sum

/-- weight of the ACK path -/
def wa (P : Nat) (acks : List (AckIn ℚ)) : Nat := (acks.map fun a => if a.ackno = P then 2 else 0).sum

/-- pending work of `run` -/
def pm (s : Sender ℚ) : Nat := 2 * s.tokens + if s.proc = .runnable then 1 else 0

def muA (n : Nat) (l : Loop ℚ) : Nat := (n - pfx l.sink) + (n - l.snd.last_ack) + (n - l.snd.next_seq)

open Classical in
noncomputable def muG (l : Loop ℚ) : Nat := if InPipe l then 0 else 1

open Classical in
noncomputable def muV (l : Loop ℚ) : Nat :=
  if InPipe l then 0
  else need (wakeOf l.snd.timers l.snd.last_ack) l.snd.now l.snd.est.rto +
       cnt l.snd.timers l.snd.last_ack (wakeOf l.snd.timers l.snd.last_ack)

open Classical in
noncomputable def muC (l : Loop ℚ) : Nat :=
  if InPipe l then due l.snd.timers l.snd.now else 2 * fut l.snd.timers l.snd.now + due l.snd.timers l.snd.now

def muW (l : Loop ℚ) : Nat := wd l.snd.last_ack l.data + wa l.snd.last_ack l.acks + pm l.snd

noncomputable def mu (n : Nat) (l : Loop ℚ) : Nat × Nat × Nat × Nat × Nat := (muA n l, muG l, muV l, muC l, muW l)

def Lt5 : Nat × Nat × Nat × Nat × Nat → Nat × Nat × Nat × Nat × Nat → Prop :=
  Prod.Lex (· < ·) (Prod.Lex (· < ·) (Prod.Lex (· < ·) (Prod.Lex (· < ·) (· < ·))))

theorem lt5_wf : WellFounded Lt5 :=
  WellFounded.prod_lex Nat.lt_wfRel.wf (WellFounded.prod_lex Nat.lt_wfRel.wf (WellFounded.prod_lex Nat.lt_wfRel.wf
    (WellFounded.prod_lex Nat.lt_wfRel.wf Nat.lt_wfRel.wf)))

/-- a relation that keeps `I` and lowers a measure in `Lt5` has no infinite chain from a point of `I` -/
theorem acc_of_lt5 {α : Type} {r : α → α → Prop} {I : α → Prop} (m : α → Nat × Nat × Nat × Nat × Nat)
    (hstep : ∀ a b, I a → r a b → I b ∧ Lt5 (m b) (m a)) {a : α} (h : I a) : Acc (fun b a => r a b) a := by
  have key : ∀ v, ∀ a, I a → m a = v → Acc (fun b a => r a b) a := by
    intro v
    induction v using lt5_wf.induction with
    | _ v ih =>
      intro a h e
      refine Acc.intro _ fun b hr => ?_
      obtain ⟨hb, hlt⟩ := hstep a b h hr
      exact ih (m b) (e ▸ hlt) b hb rfl
  exact key _ a h rfl

/-- ... nor when its steps are interleaved with at most `k` steps of another kind that keep `I`: every `B`-step from
`(k, a)` is an `r`-step at the same budget or spends one unit of it -/
theorem acc_budget {α : Type} {r : α → α → Prop} {I : α → Prop} {B : Nat × α → Nat × α → Prop}
    (hr : ∀ a, I a → Acc (fun b a => r a b) a)
    (hB : ∀ k a y, I a → B (k, a) y → I y.2 ∧ ((y.1 = k ∧ r a y.2) ∨ y.1 + 1 = k)) :
    ∀ k a, I a → Acc (fun y x => B x y) (k, a) := by
  intro k
  induction k using Nat.strong_induction_on with
  | _ k ihk =>
    intro a h
    have hacc := hr a h
    induction hacc with
    | intro a _ ih =>
      refine Acc.intro _ fun y hy => ?_
      obtain ⟨k', a'⟩ := y
      obtain ⟨hI, ⟨e, hra⟩ | e⟩ := hB k a _ h hy
      · dsimp only at e hra hI
        subst e
        exact ih a' hra hI
      · dsimp only at e hI
        exact ihk k' (by omega) a' hI

theorem lt5_iff (a b : Nat × Nat × Nat × Nat × Nat) :
    Lt5 a b ↔ a.1 < b.1 ∨ a.1 = b.1 ∧ (a.2.1 < b.2.1 ∨ a.2.1 = b.2.1 ∧ (a.2.2.1 < b.2.2.1 ∨ a.2.2.1 = b.2.2.1 ∧
      (a.2.2.2.1 < b.2.2.2.1 ∨ a.2.2.2.1 = b.2.2.2.1 ∧ a.2.2.2.2 < b.2.2.2.2))) := by
  unfold Lt5
  simp only [Prod.lex_def]

theorem lex_of_le {β : Type} {r : β → β → Prop} {a b : Nat} {x y : β} (h : a ≤ b) (hr : r x y) :
    Prod.Lex (· < ·) r (a, x) (b, y) := by
  rcases Nat.lt_or_eq_of_le h with h | rfl
  · exact .left _ _ h
  · exact .right _ hr

section
variable {a1 a2 a3 a4 a5 b1 b2 b3 b4 b5 : Nat}

/-! `Lt5` from a strict decrease in one place and no increase before it -/

theorem lt5_1 (h1 : a1 < b1) : Lt5 (a1, a2, a3, a4, a5) (b1, b2, b3, b4, b5) :=
  .left _ _ h1

theorem lt5_2 (h1 : a1 ≤ b1) (h2 : a2 < b2) : Lt5 (a1, a2, a3, a4, a5) (b1, b2, b3, b4, b5) :=
  lex_of_le h1 (.left _ _ h2)

theorem lt5_3 (h1 : a1 ≤ b1) (h2 : a2 ≤ b2) (h3 : a3 < b3) : Lt5 (a1, a2, a3, a4, a5) (b1, b2, b3, b4, b5) :=
  lex_of_le h1 (lex_of_le h2 (.left _ _ h3))

theorem lt5_4 (h1 : a1 ≤ b1) (h2 : a2 ≤ b2) (h3 : a3 ≤ b3) (h4 : a4 < b4) :
    Lt5 (a1, a2, a3, a4, a5) (b1, b2, b3, b4, b5) :=
  lex_of_le h1 (lex_of_le h2 (lex_of_le h3 (.left _ _ h4)))

theorem lt5_5 (h1 : a1 ≤ b1) (h2 : a2 ≤ b2) (h3 : a3 ≤ b3) (h4 : a4 ≤ b4) (h5 : a5 < b5) :
    Lt5 (a1, a2, a3, a4, a5) (b1, b2, b3, b4, b5) :=
  lex_of_le h1 (lex_of_le h2 (lex_of_le h3 (lex_of_le h4 h5)))

end

/-- the facts about the three marks that `muA` needs -/
theorem marks (n : Nat) {l : Loop ℚ} (h : LInv n l) :
    l.snd.last_ack ≤ pfx l.sink ∧ pfx l.sink ≤ l.snd.next_seq ∧ l.snd.next_seq ≤ n := by
  have hp := pfx_isPrefix h.sink
  refine ⟨?_, ?_, h.s.ns_le⟩
  · by_contra hc
    exact hp.2 (h.lap _ (Nat.lt_of_not_le hc))
  · by_contra hc
    have := h.sinkb _ (hp.1 _ (Nat.lt_of_not_le hc))
    omega

end TcpLive
