import OnlVerif.Lemmas.SndKDefs
/-!
# The TCP sender on the kernel model: the kernel calls of the program that read and write cells and log, on kernel states

`Call.store` is the *named* state operation `setCell`; `txsOf` under one more observation.
-/

namespace SndK
open SenderOnK
open TimerK (lookup lookup_store)

/-- `Call.store k v` -/
def setCell (s : KS) (k : Nat) (v : Val) : KS := { s with shared := (k, v) :: s.shared.filter (·.1 != k) }

theorem lookup_setCell (s : KS) (k k' : Nat) (v : Val) :
    lookup (setCell s k v).shared k' = if k' = k then v else lookup s.shared k' := lookup_store _ _ _ _

theorem lookup_setCell_ne (s : KS) {k k' : Nat} (v : Val) (h : k' ≠ k) :
    lookup (setCell s k v).shared k' = lookup s.shared k' := by rw [lookup_setCell, if_neg h]

@[simp] theorem setCell_now (s : KS) (k : Nat) (v : Val) : (setCell s k v).now = s.now := rfl
@[simp] theorem setCell_agenda (s : KS) (k : Nat) (v : Val) : (setCell s k v).agenda = s.agenda := rfl
@[simp] theorem setCell_eid (s : KS) (k : Nat) (v : Val) : (setCell s k v).eid = s.eid := rfl
@[simp] theorem setCell_events (s : KS) (k : Nat) (v : Val) : (setCell s k v).events = s.events := rfl
@[simp] theorem setCell_procs (s : KS) (k : Nat) (v : Val) : (setCell s k v).procs = s.procs := rfl
@[simp] theorem setCell_active (s : KS) (k : Nat) (v : Val) : (setCell s k v).active = s.active := rfl
@[simp] theorem setCell_trace (s : KS) (k : Nat) (v : Val) : (setCell s k v).trace = s.trace := rfl
@[simp] theorem setCell_resources (s : KS) (k : Nat) (v : Val) : (setCell s k v).resources = s.resources := rfl
@[simp] theorem setCell_ev (s : KS) (k : Nat) (v : Val) (e : EvId) : (setCell s k v).ev e = s.ev e := rfl
@[simp] theorem setCell_proc? (s : KS) (k : Nat) (v : Val) (p : EvId) : (setCell s k v).proc? p = s.proc? p := rfl
@[simp] theorem setCell_res (s : KS) (k : Nat) (v : Val) (r : ResId) : (setCell s k v).res r = s.res r := rfl

theorem doCall_load (s : KS) (self : EvId) (k : Nat) : doCall s self (.load k) = (s, .val (lookup s.shared k)) := rfl

theorem doCall_store (s : KS) (self : EvId) (k : Nat) (v : Val) : doCall s self (.store k v) = (setCell s k v, .unit) := rfl

theorem doCall_log_int (s : KS) (self : EvId) (what : String) (i : Int) :
    doCall s self (.log what (.int i)) = (s.emit (.log self what (.int i) s.now), .unit) := rfl

theorem enc_ne_none (x : ℚ) : (TimeCell.enc x : Val) ≠ .none := by
  show Val.preempted _ _ _ ≠ Val.none
  intro h; cases h

@[simp] theorem isStoreKind_store : isStoreKind .store = true := rfl
@[simp] theorem isPrioKind_store : isPrioKind .store = false := rfl
@[simp] theorem store_beq_preemptive : (ResKind.store == ResKind.preemptive) = false := rfl
@[simp] theorem store_beq_fstore : (ResKind.store == ResKind.fstore) = false := rfl

theorem txsOf_push (tr : Array (Obs ℚ)) (o : Obs ℚ) : txsOf (tr.push o) = txsOf tr ++ (txOf1 o).toList :=
  KExec.filterMap_push _ tr o

@[simp] theorem txOf1_resumed (p : EvId) (r : Resume) (t : ℚ) : txOf1 (Obs.resumed p r t) = none := rfl
@[simp] theorem txOf1_ended (p : EvId) (o : Outcome) (t : ℚ) : txOf1 (Obs.ended p o t) = none := rfl
@[simp] theorem txOf1_callErr (p : EvId) (x : Exc) (t : ℚ) : txOf1 (Obs.callErr p x t) = none := rfl

end SndK
