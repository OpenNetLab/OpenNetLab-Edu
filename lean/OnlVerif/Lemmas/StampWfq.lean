import OnlVerif.Lemmas.StampWfqFun
/-!
# Invariants of WFQ on the StampServer

`WInv`: `class_count` counts the packets of each class the scheduler still accounts for, `active_set` is exactly
the set of classes with a positive count, finish times exist for every weighted class while anything is active,
and virtual time and all finish times are 0 whenever nothing is.
-/

namespace WFQ
open Stamp

abbrev WState := StState ℚ (WfqSt ℚ)

def clsOf (c : WfqCfg ℚ) (f : Nat) : Option Nat := lookup c.flow2class f
def cind (c : WfqCfg ℚ) (k : Nat) (p : SPkt) : Int := if clsOf c p.flow = some k then 1 else 0
/-- `class_count[k]` (0 when absent) -/
def ccOf (st : WfqSt ℚ) (k : Nat) : Int := (lookup st.classCount k).getD 0

theorem msum_cind (c : WfqCfg ℚ) (k : Nat) (l : List SPkt) :
    msum (cind c k) l = ((l.filter fun p => clsOf c p.flow = some k).length : Int) :=
  (msum_filter (fun p => clsOf c p.flow = some k) (fun _ => 1) l).trans (msum_one _)

theorem msum_cind_pos_iff (c : WfqCfg ℚ) (k : Nat) (l : List SPkt) :
    0 < msum (cind c k) l ↔ ∃ p ∈ l, clsOf c p.flow = some k := by
  rw [msum_cind, Int.natCast_pos, List.length_pos_iff_exists_mem]
  simp only [List.mem_filter, decide_eq_true_eq]

structure WInv (c : WfqCfg ℚ) (s : WState) : Prop where
  tot : Tot s
  cc : ∀ k, ccOf s.sch k = msum (cind c k) (held' s)
  act : ∀ k, k ∈ s.sch.active ↔ 0 < ccOf s.sch k
  sorted : s.sch.active.Pairwise (· < ·)
  conf : ∀ p ∈ held' s, ∃ k w, clsOf c p.flow = some k ∧ lookup c.weights k = some w
  fkeys : s.sch.active ≠ [] → ∀ k w, lookup c.weights k = some w → ∃ F, lookup s.sch.finish k = some F
  fsub : ∀ k F, lookup s.sch.finish k = some F → (lookup c.weights k).isSome
  zero : s.sch.active = [] → s.sch.vtime = 0 ∧ ∀ k F, lookup s.sch.finish k = some F → F = 0

def start (t0 : ℚ) : WState := Stamp.init WFQ.init0 t0

theorem init_winv (c : WfqCfg ℚ) (t0 : ℚ) : WInv c (start t0) := by
  refine ⟨init_tot _ _, ?_, ?_, ?_, ?_, ?_, ?_, ?_⟩
  · intro k; simp [start, Stamp.init, init0, ccOf, lookup, held', held, inHand, waiting, finL]
  · intro k; simp [start, Stamp.init, init0, ccOf, lookup]
  · simp [start, Stamp.init, init0]
  · intro p hp; simp [start, Stamp.init, held', held, inHand, waiting, finL] at hp
  · intro h; simp [start, Stamp.init, init0] at h
  · intro k F h; simp [start, Stamp.init, init0, lookup] at h
  · intro _
    refine ⟨by simp [start, Stamp.init, init0, zero_eq_q], ?_⟩
    intro k F h; simp [start, Stamp.init, init0, lookup] at h

theorem WInv.active_iff {c : WfqCfg ℚ} {s : WState} (h : WInv c s) (k : Nat) :
    k ∈ s.sch.active ↔ ∃ p ∈ held' s, clsOf c p.flow = some k := by
  rw [h.act k, h.cc k, msum_cind_pos_iff]

theorem WInv.active_nil_iff {c : WfqCfg ℚ} {s : WState} (h : WInv c s) : s.sch.active = [] ↔ held' s = [] := by
  constructor
  · intro ha
    by_contra hne
    obtain ⟨p, hp⟩ := List.exists_mem_of_ne_nil _ hne
    obtain ⟨k, w, hk, _⟩ := h.conf p hp
    exact absurd ((h.active_iff k).mpr ⟨p, hp, hk⟩) (ha ▸ List.not_mem_nil)
  · intro he
    refine List.eq_nil_iff_forall_not_mem.mpr fun k hk => ?_
    obtain ⟨p, hp, _⟩ := (h.active_iff k).mp hk
    exact absurd (he ▸ hp) List.not_mem_nil

theorem WInv.active_weighted {c : WfqCfg ℚ} {s : WState} (h : WInv c s) (k : Nat) (hk : k ∈ s.sch.active) :
    (lookup c.weights k).isSome := by
  obtain ⟨p, hp, hc⟩ := (h.active_iff k).mp hk
  obtain ⟨k', w, hk', hw⟩ := h.conf p hp
  rw [hc] at hk'
  cases hk'
  simp [hw]

theorem WInv.active_ne_of_total {c : WfqCfg ℚ} {s : WState} (h : WInv c s) (hne : qcTotal s.queueCount ≠ 0) :
    s.sch.active ≠ [] := by
  intro hc
  have he := h.active_nil_iff.mp hc
  simp only [held', List.append_eq_nil_iff] at he
  exact hne (h.tot.zero_iff.mpr he.1)

theorem getD_match (o : Option Int) : (match o with | some n => n | none => 0) = o.getD 0 := by
  cases o <;> rfl

theorem ccOf_commit (st : WfqSt ℚ) (k k' : Nat) (F now : ℚ) :
    ccOf (commit st k F now) k' = ccOf st k' + if k' = k then 1 else 0 := by
  simp only [ccOf, commit, lookup_setKey]
  by_cases h : k' = k
  · subst h
    cases lookup st.classCount k' <;> simp
  · simp [h]

theorem cind_of_cls (c : WfqCfg ℚ) (k k' : Nat) (p : SPkt) (hk : clsOf c p.flow = some k) :
    cind c k' p = if k' = k then 1 else 0 := by
  simp only [cind, hk, Option.some.injEq]
  by_cases h : k' = k
  · subst h; simp
  · have : ¬ k = k' := fun e => h e.symm
    simp [h, this]

theorem winv_of_same {c : WfqCfg ℚ} {s s' : WState} (h : WInv c s) (htot : Tot s') (hsch : s'.sch = s.sch)
    (hperm : (held' s).Perm (held' s')) : WInv c s' := by
  refine ⟨htot, ?_, ?_, ?_, ?_, ?_, ?_, ?_⟩
  · intro k; rw [hsch, ← msum_perm _ hperm]; exact h.cc k
  · intro k; rw [hsch]; exact h.act k
  · rw [hsch]; exact h.sorted
  · intro p hp; exact h.conf p (hperm.mem_iff.mpr hp)
  · rw [hsch]; exact h.fkeys
  · rw [hsch]; exact h.fsub
  · rw [hsch]; exact h.zero

theorem step_winv {c : WfqCfg ℚ} {s s' : WState} {a : StAct ℚ} {o : StOut} (hg : GInv s) (hw : WInv c s)
    (ht : Trans (sched c) s a s' o) : WInv c s' := by
  have hperm := ht.held'_perm hg.shape
  have htot := step_tot hg ht hw.tot
  rcases ht.store with ⟨p, sch, stamp, rfl, rfl, rfl, h1⟩ | ⟨he, _, hdone⟩
  · obtain ⟨k, st1, f, w, hk, ha, hf, hwt, hz, rfl, rfl⟩ := put_spec c _ _ _ _ _ _ h1
    have hst1 : st1.classCount = s.sch.classCount ∧ st1.active = s.sch.active := by
      rcases advance_spec c _ _ _ _ ha with ⟨_, rfl⟩ | ⟨_, _, _, rfl⟩ <;> exact ⟨rfl, rfl⟩
    have hcc1 : ∀ k', ccOf st1 k' = ccOf s.sch k' := fun k' => by simp [ccOf, hst1.1]
    refine ⟨htot, ?_, ?_, ?_, ?_, ?_, ?_, ?_⟩
    · intro k'
      have := msum_perm (cind c k') hperm
      simp only [entered, booked, msum_append, msum_cons, msum_nil, add_zero, zero_add] at this
      show ccOf (commit st1 k _ s.now) k' = _
      rw [← this, ccOf_commit, hcc1, hw.cc k', cind_of_cls c k k' p hk]
    · intro k'
      show k' ∈ insertAsc k st1.active ↔ 0 < ccOf (commit st1 k _ s.now) k'
      rw [mem_insertAsc, hst1.2, hw.act k', ccOf_commit, hcc1]
      have h0 : 0 ≤ ccOf s.sch k' := by rw [hw.cc k', msum_cind]; exact Int.natCast_nonneg _
      by_cases h : k' = k
      · simp only [h, if_true, true_or, true_iff]; rw [h] at h0; omega
      · simp [h]
    · show (insertAsc k st1.active).Pairwise (· < ·)
      rw [hst1.2]; exact sorted_insertAsc k _ hw.sorted
    · intro q hq
      rcases List.mem_append.mp (hperm.mem_iff.mpr (List.mem_append_right _ hq)) with h | h
      · exact hw.conf q h
      · simp only [entered, List.mem_singleton] at h
        subst h
        exact ⟨k, w, hk, hwt⟩
    · intro _ k' w' hw'
      show ∃ F, lookup (setKey st1.finish k _) k' = some F
      rw [lookup_setKey]
      by_cases h : k' = k
      · simp [h]
      · simp only [h, if_false]
        rcases advance_spec c _ _ _ _ ha with ⟨_, rfl⟩ | ⟨hne, _, _, rfl⟩
        · simp [resetVtime, lookup_zeroFinish, hw']
        · exact hw.fkeys (hw.active_ne_of_total hne) k' w' hw'
    · intro k' F' hF
      change lookup (setKey st1.finish k _) k' = some F' at hF
      rw [lookup_setKey] at hF
      by_cases h : k' = k
      · subst h; simp [hwt]
      · simp only [h, if_false] at hF
        rcases advance_spec c _ _ _ _ ha with ⟨_, rfl⟩ | ⟨_, _, _, rfl⟩
        · simp only [resetVtime, lookup_zeroFinish] at hF
          by_cases hs : (lookup c.weights k').isSome
          · exact hs
          · simp only [hs] at hF
            exact hw.fsub k' F' hF
        · exact hw.fsub k' F' hF
    · intro hnil
      exact absurd hnil (insertAsc_ne_nil k _)
  · rw [he, List.append_nil] at hperm
    rcases hdone with ⟨hsch, hb⟩ | ⟨p, h1, hb, h2⟩ <;> rw [hb] at hperm
    · exact winv_of_same hw htot hsch hperm
    · exact step_winv_done hw htot h1 h2 hperm
where
  step_winv_done {c : WfqCfg ℚ} {s s' : WState} {p : SPkt} (hw : WInv c s) (htot : Tot s') (h1 : s.fin = some p)
      (h2 : (sched c).onDone s.sch s.now p = .ok s'.sch) (hperm : (held' s).Perm (p :: held' s')) : WInv c s' := by
    obtain ⟨k, n, hk, hn, hcc, hact, -, hzero, hkeep⟩ := done_spec c _ _ _ _ h2
    have hpm : p ∈ held' s := by simp [held', finL, h1]
    have hnk : ccOf s.sch k = n := by rw [ccOf, hn]; rfl
    have hn1 : 0 < n := by rw [← hnk, hw.cc k, msum_cind_pos_iff]; exact ⟨p, hpm, hk⟩
    have hcc2 : ∀ k', ccOf s'.sch k' = ccOf s.sch k' - if k' = k then 1 else 0 := by
      intro k'
      rw [ccOf, hcc, lookup_setKey]
      split
      · next h => rw [h, hnk]; rfl
      · rw [sub_zero]; rfl
    have hsub : ∀ k', k' ∈ s'.sch.active → k' ∈ s.sch.active := by
      intro k' hk'
      rw [hact] at hk'
      split at hk'
      · exact (List.mem_filter.mp hk').1
      · exact hk'
    have hfsub : ∀ k' F', lookup s'.sch.finish k' = some F' →
        (lookup c.weights k').isSome ∧ (s'.sch.active = [] → F' = 0) := by
      intro k' F' hF
      by_cases hnil : s'.sch.active = []
      · rw [(hzero hnil).2, lookup_zeroFinish] at hF
        split at hF
        · next hs => exact ⟨hs, fun _ => (Option.some.inj hF).symm⟩
        · next hs => exact absurd (hw.fsub k' F' hF) hs
      · rw [(hkeep hnil).2] at hF
        exact ⟨hw.fsub k' F' hF, fun hc => absurd hc hnil⟩
    refine ⟨htot, fun k' => ?_, fun k' => ?_, ?_, fun q hq => hw.conf q (hperm.mem_iff.mpr (List.mem_cons_of_mem _ hq)), fun hne => ?_,
      fun k' F' hF => (hfsub k' F' hF).1, fun hnil => ⟨(hzero hnil).1, fun k' F' hF => (hfsub k' F' hF).2 hnil⟩⟩
    · rw [hcc2, hw.cc k', msum_perm _ hperm, msum_cons, cind_of_cls c k k' p hk, add_sub_cancel_left]
    · rw [hcc2, hact]
      by_cases h : k' = k
      · subst h
        rw [if_pos rfl, hnk]
        split
        · next h0 =>
          rw [h0]
          exact ⟨fun hm => absurd rfl (of_decide_eq_true (List.mem_filter.mp hm).2), fun hc => absurd hc (lt_irrefl 0)⟩
        · next h0 => rw [hw.act k', hnk]; omega
      · rw [if_neg h, sub_zero, ← hw.act k']
        split
        · simp [List.mem_filter, h]
        · rfl
    · rw [hact]
      split
      · exact hw.sorted.sublist List.filter_sublist
      · exact hw.sorted
    · rw [(hkeep hne).2]
      obtain ⟨x, hx⟩ := List.exists_mem_of_ne_nil _ hne
      exact hw.fkeys (List.ne_nil_of_mem (hsub x hx))

end WFQ
