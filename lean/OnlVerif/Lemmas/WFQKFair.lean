import OnlVerif.Lemmas.WFQKFinal
import OnlVerif.Lemmas.StampFairBurst
/-!
# The WFQ scheduler on the kernel model: a burst of arrivals at one instant (static backlog), step by step on the LTS image
-/


namespace WFQK
open WFQOnK QEntry Stamp

variable {N scale F : Nat} {flow size : Int → Nat} {cfg : WfqCfg ℚ} {d1 L : Nat} {arrivals : List (ℚ × Int)}
variable {s : KS} {a a' : A} {q : QEntry ℚ} {rest : List (QEntry ℚ)} {n e : Nat} {new : List (HEv ℚ)}

theorem noPut_of_ins_nil {σ : Type} (d : Sched ℚ σ) : ∀ (as : List (StAct ℚ)) (s s' : StState ℚ σ) (outs : List SPkt),
    runActs d s as = .ok (s', [], outs) → WFQ.NoPut as
  | [], _, _, _, _ => by intro a ha; cases ha
  | x :: as, s, s', outs, h => by
    obtain ⟨s1, o, i2, o2, h1, h2, h3, -⟩ := runActs_cons_ok h
    obtain ⟨he, rfl⟩ := List.append_eq_nil_iff.mp h3.symm
    have ih := noPut_of_ins_nil d as s1 s' o2 h2
    intro b hb p hbp
    rcases List.mem_cons.mp hb with rfl | hb'
    · subst hbp
      -- an accepted `put` answers `.accepted`: the packet has entered
      cases step_trans _ _ _ _ _ h1
      cases he
    · exact ih b hb' p hbp

/-- the workload is one burst: every packet arrives at the instant `t0` (all gaps but the first are 0), sizes lie in
`(0, Lm]` -/
structure BurstOK (size : Int → Nat) (Lm : Nat) (t0 : ℚ) (arrivals : List (ℚ × Int)) : Prop where
  inst : ∀ x ∈ arrivalsFrom 0 arrivals, x.2 = t0
  sz : ∀ id, 0 < size id ∧ size id ≤ Lm

structure InvF (N scale F : Nat) (flow size : Int → Nat) (cfg : WfqCfg ℚ) (d1 L : Nat) (arrivals : List (ℚ × Int))
    (Lm : Nat) (t0 : ℚ) (s : KS) (a : A) : Prop where
  i : Inv3 N scale F flow size cfg d1 L arrivals s a
  f : WFQ.FairB cfg Lm t0 (toM size F flow cfg a s.now) (outPk size flow (histOf s.trace))

theorem pos_of_cfgOK (hc : CfgOK F cfg) : WFQ.Pos cfg := by
  refine ⟨hc.rate, ?_⟩
  intro k v hk
  have hkF : k < F := hc.keys _ (lookup_mem _ _ _ hk)
  obtain ⟨m, h1, h2⟩ := hc.w k hkF
  rw [hk] at h2
  cases h2
  exact_mod_cast h1

theorem fairB_noput {Lm : Nat} {t0 : ℚ} {outs : List SPkt} (hc : CfgOK F cfg)
    (hf : WFQ.FairB cfg Lm t0 (toM size F flow cfg a q.time) outs)
    (hacts : ∃ acts, runActs (WFQ.sched cfg) (toM size F flow cfg a q.time) acts =
      .ok (toM size F flow cfg a' q.time, [], outPk size flow new)) :
    WFQ.FairB cfg Lm t0 (toM size F flow cfg a' q.time) (outs ++ outPk size flow new) := by
  obtain ⟨acts, hr⟩ := hacts
  exact WFQ.fairB_runActs_noput (pos_of_cfgOK hc) acts (noPut_of_ins_nil _ _ _ _ _ hr) hf hr

theorem invF_step {Lm : Nat} {t0 : ℚ} (fuel : Nat) (hb : BurstOK size Lm t0 arrivals)
    (h : InvF N scale F flow size cfg d1 L arrivals Lm t0 s a) (hp : popMin s.agenda = some (q, rest)) :
    ∃ s' a', _root_.step (prog F flow size cfg N scale) (fuel + 1) s = .ok s' ∧
      InvF N scale F flow size cfg d1 L arrivals Lm t0 s' a' := by
  obtain ⟨s', a', new, h1, hi3, -, h4, h5, h6⟩ := inv3_step fuel h.i hp
  have hmin := (min_of_pop h.i.i.k.ag hp).1
  have hia := h.i.i.ai.advance hmin
  have hc := hia.cfgOK
  refine ⟨s', a', h1, hi3, ?_⟩
  obtain ⟨acts0, h0⟩ := lts_advance (size := size) h.i.i.ai hmin
  have hf0 : WFQ.FairB cfg Lm t0 (toM size F flow cfg a q.time) (outPk size flow (histOf s.trace)) := by
    have := WFQ.fairB_runActs_noput (pos_of_cfgOK hc) acts0 (noPut_of_ins_nil _ _ _ _ _ h0) h.f h0
    simpa using this
  rw [h5, h6, outPk_append]
  have hnp : putPk size flow new = [] → WFQ.FairB cfg Lm t0 (toM size F flow cfg a' q.time)
      (outPk size flow (histOf s.trace) ++ outPk size flow new) := by
    intro hnil
    obtain ⟨acts, hr2⟩ := ltsOK_step hia h4
    rw [hnil] at hr2
    exact fairB_noput hc hf0 ⟨acts, hr2⟩
  cases h4 with
  | srcPut id arr h0s =>
    have hstep := lts_put (e := s.eid) (n := s.events.size) hia h0s
    have ht := step_trans _ _ _ _ _ hstep
    have hq : q.time = t0 := by
      have hpi := h.i.p
      unfold PInv at hpi
      rw [h0s] at hpi
      have hm : (id, q.time) ∈ arrivalsFrom 0 arrivals := by
        rw [← hpi]; simp [remaining]
      exact hb.inst _ hm
    have hsz : 0 < (pktOf flow size id).size ∧ (pktOf flow size id).size ≤ Lm := hb.sz id
    obtain ⟨hf1, -⟩ := WFQ.fairB_step_put (pos_of_cfgOK hc) hf0 (by show q.time = t0; exact hq) hsz ht
    have : outPk size flow [HEv.put id q.time, HEv.vtime (a.advV F cfg q.time),
        HEv.stamp (putRec size F flow cfg a q.time id).2.2] = [] := rfl
    rw [this, List.append_nil]
    exact hf1
  | _ => exact hnp rfl

theorem invF_init {Lm : Nat} {t0 : ℚ} (hc : CfgOK F cfg) (hg : GridOK scale size F cfg d1 L arrivals)
    (hw : WorkOK N size F flow cfg d1 arrivals) :
    InvF N scale F flow size cfg d1 L arrivals Lm t0 (initState F arrivals) (a0 arrivals) := by
  obtain ⟨-, h2, h3⟩ := kinv_init (N := N) (scale := scale) (size := size) (cfg := cfg) (F := F) arrivals
  refine ⟨inv3_init hc hg hw, ?_⟩
  rw [h2, h3, toM_a0]
  exact WFQ.fairB_start' cfg Lm t0 0

theorem reach_invF {Lm : Nat} {t0 : ℚ} (fuel : Nat) (hc : CfgOK F cfg) (hg : GridOK scale size F cfg d1 L arrivals)
    (hw : WorkOK N size F flow cfg d1 arrivals) (hb : BurstOK size Lm t0 arrivals)
    (h : KReach (prog F flow size cfg N scale) (fuel + 1) (initState F arrivals) s) :
    ∃ a, InvF N scale F flow size cfg d1 L arrivals Lm t0 s a :=
  KReach.of_step (invF_init hc hg hw) (fun _ _ _ _ hi hp => invF_step fuel hb hi hp) h

end WFQK
