import OnlVerif.Lemmas.CondCheck
/-!
# `Condition.__init__`: what it does to the state (`MkSpec`), and that it keeps the counting invariant
-/

namespace Cond
variable {σ : Type}

open Once (lt_of_isCond isCond_congr lt_of_cbs_some ev_default)

/-- what `Condition.__init__(all, ops)` has done when it returns (`c = s.events.size` is the new condition) -/
structure MkSpec (s : KState ℚ σ) (all : Bool) (l : List EvId) (s' : KState ℚ σ) : Prop where
  size : s'.events.size = s.events.size + 1
  kind_c : (s'.ev s.events.size).kind = .cond all l
  kind_old : ∀ y, y ≠ s.events.size → (s'.ev y).kind = (s.ev y).kind
  out_old : ∀ y, y ≠ s.events.size → (s'.ev y).out = (s.ev y).out
  count_old : ∀ y, y ≠ s.events.size → (s'.ev y).count = (s.ev y).count
  def_old : ∀ y, y ≠ s.events.size → (s.ev y).defused = true → (s'.ev y).defused = true
  /-- one `_check` appended per operand position to every unprocessed operand -/
  cbs_old : ∀ y, y ≠ s.events.size →
    (s'.ev y).cbs = (s.ev y).cbs.map (· ++ List.replicate (l.count y) (Cb.check s.events.size))
  cbs_c : ∃ Lc, (s'.ev s.events.size).cbs = some Lc ∧ (∀ d, Cb.check d ∉ Lc) ∧
    (∀ d, Cb.build d ∈ Lc → d = s.events.size ∧ l ≠ []) ∧ (l ≠ [] → Lc.count (.build s.events.size) = 1)
  c_pending : (s'.ev s.events.size).out = none →
    (s'.ev s.events.size).count = l.countP (fun e => s.processed e) ∧
    (∀ e ∈ l, s.processed e = true → ∀ z, (s.ev e).out ≠ some (.fail z)) ∧
    evaluate all l.length (s'.ev s.events.size).count = false
  c_ok : ∀ v, (s'.ev s.events.size).out = some (.ok v) → evaluate all l.length (l.countP (fun e => s.processed e)) = true
  c_fail : ∀ z, (s'.ev s.events.size).out = some (.fail z) →
    ∃ e ∈ l, s.processed e = true ∧ (s.ev e).out = some (.fail z) ∧ (s'.ev e).defused = true

theorem condOps_of_kind {s : KState ℚ σ} {c : EvId} {all : Bool} {l : List EvId} (h : (s.ev c).kind = .cond all l) :
    ops s c = l ∧ isAll s c = all ∧ isCond s c = true := by
  unfold ops isAll condOps isCond
  rw [h]
  exact ⟨rfl, rfl, rfl⟩

theorem map_none_iff {α} (f : α → α) (o : Option α) : o.map f = none ↔ o = none := by
  cases o <;> simp

theorem CInv.of_mkSpec {rem : List Cb} {e0 : EvId} {s s' : KState ℚ σ} {all : Bool} {l : List EvId}
    (hc : CInv rem e0 s) (hl : ∀ e ∈ l, e < s.events.size) (h : MkSpec s all l s') :
    CInv rem e0 s' ∧ Mono rem s s' := by
  obtain ⟨hopsC, hallC, hcondC⟩ := condOps_of_kind h.kind_c
  have hne_of_lt : ∀ y, y < s.events.size → y ≠ s.events.size := fun y hy => Nat.ne_of_lt hy
  have hcs : isCond s s.events.size = false := isCond_default (Nat.lt_irrefl _)
  have hopsS : ops s s.events.size = [] := ops_nil_of_not_cond hcs
  have hold_ops : ∀ d, d ≠ s.events.size → ops s' d = ops s d := fun d hd => ops_congr (h.kind_old d hd)
  have hold_cond : ∀ d, d ≠ s.events.size → isCond s' d = isCond s d := fun d hd => isCond_congr (h.kind_old d hd)
  have hcond_ne : ∀ d, isCond s d = true → d ≠ s.events.size := fun d hd => hne_of_lt d (lt_of_isCond s d hd)
  have hnopar : ∀ d, s.events.size ∉ ops s' d := by
    intro d hm
    by_cases hd : d = s.events.size
    · rw [hd, hopsC] at hm
      exact Nat.lt_irrefl _ (hl _ hm)
    · rw [hold_ops d hd] at hm
      exact Nat.lt_irrefl _ (hc.op_lt hm)
  have hproc : ∀ y, y ≠ s.events.size → s'.processed y = s.processed y := by
    intro y hy
    apply processed_congr
    rw [h.cbs_old y hy, map_none_iff]
  obtain ⟨Lc, hLc, hLc1, hLc2, hLc3⟩ := h.cbs_c
  have hprocC : s'.processed s.events.size = false := by
    unfold KState.processed; rw [hLc]; rfl
  have hlist : ∀ y L', y ≠ s.events.size → (s'.ev y).cbs = some L' →
      ∃ L, (s.ev y).cbs = some L ∧ L' = L ++ List.replicate (l.count y) (Cb.check s.events.size) := by
    intro y L' hy hL'
    rw [h.cbs_old y hy] at hL'
    cases hL : (s.ev y).cbs with
    | none => rw [hL] at hL'; cases hL'
    | some L => rw [hL] at hL'; simp only [Option.map_some, Option.some.injEq] at hL'; exact ⟨L, rfl, hL'.symm⟩
  have hU1 : ∀ d a, Under s d a → Under s' d a := by
    intro d a hu
    induction hu with
    | self => exact Under.self _
    | nest he _ ih =>
      refine Under.nest ?_ ih
      rw [hold_ops _ (hcond_ne _ (isCond_of_mem_ops he))]; exact he
  have hU2 : ∀ d a, Under s' d a → a ≠ s.events.size → Under s d a := by
    intro d a hu
    induction hu with
    | self => intro _; exact Under.self _
    | @nest e m he _ ih =>
      intro hm
      have he' : e ∈ ops s m := by rw [← hold_ops m hm]; exact he
      refine Under.nest he' (ih ?_)
      intro hec; rw [hec] at he; exact hnopar m he
  have hB : ∀ a, Built rem s' a ↔ Built rem s a := by
    intro a
    unfold Built
    by_cases ha : a = s.events.size
    · rw [ha, hcs, hLc]; simp
    · rw [hold_cond a ha, h.cbs_old a ha, map_none_iff]
  have hgone : ∀ d, Gone rem s' d ↔ Gone rem s d := by
    intro d
    constructor
    · rintro ⟨a, hu, hb⟩
      have hbs := (hB a).mp hb
      exact ⟨a, hU2 d a hu (hcond_ne a hbs.1), hbs⟩
    · rintro ⟨a, hu, hb⟩
      exact ⟨a, hU1 d a hu, (hB a).mpr hb⟩
  have hgoneC : ¬ Gone rem s s.events.size := by
    rintro ⟨a, hu, hb⟩
    have h1 := hu.le hc.older
    have h2 := lt_of_isCond s a hb.1
    exact absurd (Nat.lt_of_le_of_lt h1 h2) (Nat.lt_irrefl _)
  have hremchk : Cb.check s.events.size ∉ rem := by
    intro hm
    have := hc.rem_att _ hm
    rw [hopsS] at this; cases this
  have hnPC : nProcessed s' s.events.size = l.countP (fun e => s.processed e) := by
    unfold nProcessed
    rw [hopsC]
    exact List.countP_congr (fun e he => by rw [hproc e (hne_of_lt e (hl e he))])
  constructor
  · have hremb : ∀ d, Cb.build d ∈ rem → d = e0 ∧ ops s' d ≠ [] := by
      intro d hm
      obtain ⟨h1, h2⟩ := hc.rem_bld_own d hm
      exact ⟨h1, by rw [hold_ops d (hcond_ne d (isCond_of_ops_ne_nil h2))]; exact h2⟩
    refine CInv.of_counted ?_ ?_ ?_ ?_ ?_ ?_ ?_ hremb hc.rem_bld_cnt ?_ (fun d hcond => ?_)
    · -- older
      intro d e he
      by_cases hd : d = s.events.size
      · rw [hd, hopsC] at he; rw [hd]; exact hl e he
      · rw [hold_ops d hd] at he; exact hc.older d e he
    · -- chk_att
      intro d hg e L' hL'
      have hgs : ¬ Gone rem s d := fun hh => hg ((hgone d).mpr hh)
      by_cases he : e = s.events.size
      · rw [he, hLc] at hL'; cases hL'
        rw [List.count_eq_zero.mpr (hLc1 d), he]
        exact (List.count_eq_zero.mpr (hnopar d)).symm
      · obtain ⟨L, hL, hLL⟩ := hlist e L' he hL'
        rw [hLL, List.count_append, List.count_replicate]
        by_cases hd : d = s.events.size
        · rw [hd, hopsC]
          have := hc.chk_att _ hgoneC e L hL
          rw [hopsS] at this
          simp only [List.count_nil] at this
          rw [this]; simp
        · rw [hold_ops d hd, hc.chk_att d hgs e L hL]
          have : ¬ (Cb.check s.events.size == Cb.check d) = true := by
            intro hh; rw [beq_iff_eq] at hh; cases hh; exact hd rfl
          simp [this]
    · -- chk_gone
      intro d hg e L' hL'
      have hgs : Gone rem s d := (hgone d).mp hg
      by_cases he : e = s.events.size
      · rw [he, hLc] at hL'; cases hL'; exact hLc1 d
      · obtain ⟨L, hL, hLL⟩ := hlist e L' he hL'
        rw [hLL, List.mem_append]
        rintro (hm | hm)
        · exact hc.chk_gone d hgs e L hL hm
        · have := (List.mem_replicate.mp hm).2
          cases this
          exact hgoneC hgs
    · -- rem_att
      intro d hm
      have := hc.rem_att d hm
      rw [hold_ops d (hcond_ne d (isCond_of_mem_ops this))]; exact this
    · intro d hg; exact hc.rem_gone d ((hgone d).mp hg)
    · -- bld_own
      intro e L' d hL' hm
      by_cases he : e = s.events.size
      · rw [he, hLc] at hL'; cases hL'
        obtain ⟨h1, h2⟩ := hLc2 d hm
        rw [he, h1, hopsC]; exact ⟨rfl, h2⟩
      · obtain ⟨L, hL, hLL⟩ := hlist e L' he hL'
        rw [hLL, List.mem_append] at hm
        rcases hm with hm | hm
        · obtain ⟨h1, h2⟩ := hc.bld_own e L d hL hm
          refine ⟨h1, ?_⟩
          rw [hold_ops d (h1 ▸ he)]; exact h2
        · have := (List.mem_replicate.mp hm).2
          cases this
    · -- bld_cnt
      intro d L' hL' hne
      by_cases hd : d = s.events.size
      · rw [hd, hLc] at hL'; cases hL'
        rw [hd, hopsC] at hne
        rw [hd]; exact hLc3 hne
      · obtain ⟨L, hL, hLL⟩ := hlist d L' hd hL'
        rw [hold_ops d hd] at hne
        rw [hLL, List.count_append, List.count_replicate]
        simp only [beq_iff_eq, reduceCtorEq, if_false, Nat.add_zero]
        exact hc.bld_cnt d L hL hne
    · -- e0_done
      intro hne
      obtain ⟨h1, h2⟩ := hc.e0_done hne
      refine ⟨by rw [h.size]; exact Nat.lt_succ_of_lt h1, ?_⟩
      rw [h.cbs_old e0 (hne_of_lt e0 h1), h2]; rfl
    · by_cases hd : d = s.events.size
      · -- the new condition
        rw [hd]
        cases ho : (s'.ev s.events.size).out with
        | none =>
          obtain ⟨p1, p2, p3⟩ := h.c_pending ho
          refine Counted.of_pending ho (fun _ => by rw [hnPC, List.count_eq_zero.mpr hremchk]; exact p1) ?_
            (by rw [hallC, hopsC]; exact p3)
          intro _ e he hp x hx
          rw [hopsC] at he
          have hec := hne_of_lt e (hl e he)
          rw [hproc e hec] at hp
          rw [h.out_old e hec] at hx
          exact absurd hx (p2 e he hp x)
        | some o =>
          cases o with
          | ok v => exact Counted.of_ok ho (by rw [hallC, hopsC, hnPC]; exact h.c_ok v ho)
          | fail x =>
            obtain ⟨e, he, hp, hx, hdf⟩ := h.c_fail x ho
            have hec := hne_of_lt e (hl e he)
            exact Counted.of_fail ho ⟨e, by rw [hopsC]; exact he, by rw [hproc e hec]; exact hp,
              by rw [h.out_old e hec]; exact hx, hdf⟩
      · rw [hold_cond d hd] at hcond
        have hop : ∀ e ∈ ops s d, e ≠ s.events.size := fun e he => hne_of_lt e (hc.op_lt he)
        exact (hc.counted hcond).congr (h.kind_old d hd) (h.out_old d hd) (h.count_old d hd) (hgone d).mpr rfl
          (fun e he => hproc e (hop e he)) (fun e he _ x => by rw [h.out_old e (hop e he)])
          (fun e he => h.def_old e (hop e he))
  · refine Mono.of_keep (fun x ho => ?_) (fun d hd ho _ => by rw [h.out_old d (hcond_ne d hd)]; exact ho)
    have hx := hne_of_lt x (Once.lt_of_out s x ho)
    exact ⟨h.out_old x hx, h.count_old x hx⟩

/-- what the operands `pre` checked so far have made of the new condition `c` (`s`: the state before the constructor) -/
structure FoldOut (c : EvId) (s : KState ℚ σ) (all : Bool) (l pre : List EvId) (x : KState ℚ σ) : Prop where
  c_pending : (x.ev c).out = none →
    (x.ev c).count = pre.countP (fun e => s.processed e) ∧
    (∀ e ∈ pre, s.processed e = true → ∀ z, (s.ev e).out ≠ some (.fail z)) ∧
    evaluate all l.length (x.ev c).count = false
  c_ok : ∀ v, (x.ev c).out = some (.ok v) →
    ∃ k, k ≤ pre.countP (fun e => s.processed e) ∧ evaluate all l.length k = true
  c_fail : ∀ z, (x.ev c).out = some (.fail z) →
    ∃ e ∈ pre, s.processed e = true ∧ (s.ev e).out = some (.fail z) ∧ (x.ev e).defused = true

/-- an operand that does not count (it is unprocessed, or `c` is triggered already) -/
theorem FoldOut.keep {c : EvId} {s : KState ℚ σ} {all : Bool} {l pre : List EvId} {x x' : KState ℚ σ}
    (h : FoldOut c s all l pre x) (e : EvId) (hc : x'.ev c = x.ev c)
    (hd : ∀ y, (x.ev y).defused = true → (x'.ev y).defused = true)
    (he : (x.ev c).out = none → s.processed e = false) : FoldOut c s all l (pre ++ [e]) x' := by
  refine ⟨?_, ?_, ?_⟩
  · intro ho
    rw [hc] at ho ⊢
    obtain ⟨p1, p2, p3⟩ := h.c_pending ho
    refine ⟨by rw [p1, List.countP_append, List.countP_singleton, he ho]; rfl, ?_, p3⟩
    intro e' he' hpe' z hz
    rcases List.mem_append.mp he' with h1 | h1
    · exact p2 e' h1 hpe' z hz
    · rw [List.mem_singleton] at h1
      rw [h1, he ho] at hpe'; cases hpe'
  · intro v ho
    rw [hc] at ho
    obtain ⟨k, hk1, hk2⟩ := h.c_ok v ho
    exact ⟨k, Nat.le_trans hk1 (by rw [List.countP_append]; exact Nat.le_add_right _ _), hk2⟩
  · intro z ho
    rw [hc] at ho
    obtain ⟨e', h1, h2, h3, h4⟩ := h.c_fail z ho
    exact ⟨e', List.mem_append_left _ h1, h2, h3, hd e' h4⟩

/-- the state `x` after the operands `pre` have been subscribed (unprocessed ones) or checked (processed ones); `s1` is
the state in which the record of the new condition `c` has just been pushed -/
structure FoldSpec (c : EvId) (s s1 : KState ℚ σ) (all : Bool) (l pre : List EvId) (x : KState ℚ σ) : Prop where
  touch : Touch c s1 x
  cbs : ∀ y, (x.ev y).cbs = (s1.ev y).cbs.map (· ++ List.replicate (pre.count y) (Cb.check c))
  res : FoldOut c s all l pre x

theorem cbs_snoc {s1 x x' : KState ℚ σ} {pre : List EvId} {cb : Cb}
    (h : ∀ y, (x.ev y).cbs = (s1.ev y).cbs.map (· ++ List.replicate (pre.count y) cb)) (e : EvId)
    (h' : ∀ y, (x'.ev y).cbs = if y = e then (x.ev e).cbs.map (· ++ [cb]) else (x.ev y).cbs) (y : EvId) :
    (x'.ev y).cbs = (s1.ev y).cbs.map (· ++ List.replicate ((pre ++ [e]).count y) cb) := by
  rw [h']
  by_cases hy : y = e
  · rw [if_pos hy, h e, hy, List.count_append, List.count_singleton_self, List.replicate_succ']
    cases (s1.ev e).cbs with
    | none => rfl
    | some L => simp
  · rw [if_neg hy, h y, List.count_append, List.count_singleton]
    have : ¬ (e == y) = true := by intro hh; rw [beq_iff_eq] at hh; exact hy hh.symm
    simp [this]

theorem FoldSpec.step {c : EvId} {s s1 : KState ℚ σ} {all : Bool} {l pre : List EvId} {x : KState ℚ σ}
    (h : FoldSpec c s s1 all l pre x) (hk : (s1.ev c).kind = .cond all l) (hlt : c < s1.events.size) (e : EvId)
    (hec : e ≠ c) (hse : s1.ev e = s.ev e) :
    FoldSpec c s s1 all l (pre ++ [e]) (if x.processed e then condCheck x c e else x.addCb e (.check c)) := by
  have hpe : x.processed e = s.processed e := by
    have : s1.processed e = s.processed e := by unfold KState.processed; rw [hse]
    rw [← this]
    exact processed_congr (by rw [h.cbs, map_none_iff])
  obtain ⟨hopsC, hallC, _⟩ := condOps_of_kind ((h.touch.kind c).trans hk)
  -- a processed operand has no callback list to append to
  have hnone : s.processed e = true → ∀ y, (x.ev y).cbs = if y = e then (x.ev e).cbs.map (· ++ [Cb.check c]) else (x.ev y).cbs := by
    intro hp y
    split
    · rename_i hy; rw [hy, processed_iff.mp (hpe.trans hp)]; rfl
    · rfl
  cases hp : s.processed e with
  | false =>
    rw [hpe, hp]
    simp only [Bool.false_eq_true, if_false]
    have hxc : (x.addCb e (.check c)).ev c = x.ev c := by
      unfold KState.addCb; rw [KState.ev_setEv, if_neg (fun hh => hec hh.1.symm)]
    exact ⟨h.touch.trans (Touch.addCb c x e _), cbs_snoc h.cbs e (fun y => Once.cbs_addCb x e y _),
      h.res.keep e hxc (Touch.addCb c x e _).defused (fun _ => hp)⟩
  | true =>
    rw [hpe, hp]
    simp only [if_true]
    cases hu : (x.ev c).out with
    | some o =>
      rw [condCheck_of_out hu]
      exact ⟨h.touch, cbs_snoc h.cbs e (hnone hp), h.res.keep e rfl (fun _ hd => hd) (fun hn => by rw [hu] at hn; cases hn)⟩
    | none =>
      have sp := condCheck_spec x c e hu (by rw [h.touch.size]; exact hlt) hec
      refine ⟨h.touch.trans sp.touch, cbs_snoc h.cbs e (fun y => by rw [sp.cbs]; exact hnone hp y), ?_⟩
      obtain ⟨p1, p2, p3⟩ := h.res.c_pending hu
      have hoe : (x.ev e).out = (s.ev e).out := by rw [h.touch.out e hec, hse]
      have hcountP : (pre ++ [e]).countP (fun e => s.processed e) = pre.countP (fun e => s.processed e) + 1 := by
        rw [List.countP_append, List.countP_singleton, hp]; rfl
      have hcs := sp.cases
      rw [hallC, hopsC] at hcs
      rcases hcs with ⟨z, hz, ho', hd'⟩ | ⟨hnf, ⟨hev, ho'⟩ | ⟨hev, ho'⟩⟩
      · refine ⟨fun hn => (by rw [ho'] at hn; cases hn), fun v hv => (by rw [ho'] at hv; cases hv), fun z' hz' => ?_⟩
        rw [ho'] at hz'; cases hz'
        exact ⟨e, by simp, hp, by rw [← hoe]; exact hz, hd'⟩
      · refine ⟨fun hn => (by rw [ho'] at hn; cases hn), fun v _ => ⟨_, ?_, hev⟩, fun z hz => (by rw [ho'] at hz; cases hz)⟩
        rw [hcountP, p1]
      · refine ⟨fun _ => ⟨by rw [sp.count_c, p1, hcountP], ?_, by rw [sp.count_c]; exact hev⟩,
          fun v hv => (by rw [ho'] at hv; cases hv), fun z hz => (by rw [ho'] at hz; cases hz)⟩
        intro e' he' hpe' z hz
        rcases List.mem_append.mp he' with h1 | h1
        · exact p2 e' h1 hpe' z hz
        · rw [List.mem_singleton] at h1
          rw [h1, ← hoe] at hz
          exact hnf z hz

theorem FoldSpec.fold {c : EvId} {s s1 : KState ℚ σ} {all : Bool} {l : List EvId} (hk : (s1.ev c).kind = .cond all l)
    (hlt : c < s1.events.size) : ∀ (post pre : List EvId) (x : KState ℚ σ),
    FoldSpec c s s1 all l pre x → (∀ e ∈ post, e ≠ c ∧ s1.ev e = s.ev e) →
    FoldSpec c s s1 all l (pre ++ post)
      (post.foldl (fun x e => if x.processed e then condCheck x c e else x.addCb e (.check c)) x)
  | [], pre, x, h, _ => by simpa using h
  | e :: post, pre, x, h, hl => by
    simp only [List.foldl_cons]
    have := FoldSpec.fold hk hlt post (pre ++ [e]) _
      (h.step hk hlt e (hl e List.mem_cons_self).1 (hl e List.mem_cons_self).2)
      (fun e' he' => hl e' (List.mem_cons_of_mem _ he'))
    simpa using this

theorem ev_newLabelled_cond (s : KState ℚ σ) (all : Bool) (l : List EvId) (y : EvId) :
    (s.newLabelled { kind := .cond all l, cbs := some [], out := none }).1.ev y =
      if y = s.events.size then { kind := .cond all l, cbs := some [], out := none, label := s.nlabel + 1 } else s.ev y :=
  KState.ev_newLabelled s _ y

theorem mkCond_spec (s : KState ℚ σ) (all : Bool) (l : List EvId) (hl : ∀ e ∈ l, e < s.events.size) :
    MkSpec s all l (mkCond s all l).1 := by
  rw [Once.mkCond_eq]
  have h1 := ev_newLabelled_cond s all l
  have hsz1 : (s.newLabelled { kind := .cond all l, cbs := some [], out := none }).1.events.size = s.events.size + 1 := by
    simp [KState.newLabelled]
  generalize (s.newLabelled { kind := .cond all l, cbs := some [], out := none }).1 = s1 at h1 hsz1
  have hold : ∀ y, y ≠ s.events.size → s1.ev y = s.ev y := fun y hy => by rw [h1, if_neg hy]
  have hnew : s1.ev s.events.size = { kind := .cond all l, cbs := some [], out := none, label := s.nlabel + 1 } := by
    rw [h1, if_pos rfl]
  have hlt : s.events.size < s1.events.size := by rw [hsz1]; exact Nat.lt_succ_self _
  have old : ∀ {x : KState ℚ σ}, Touch s.events.size s1 x →
      (∀ y, y ≠ s.events.size → (x.ev y).kind = (s.ev y).kind) ∧ (∀ y, y ≠ s.events.size → (x.ev y).out = (s.ev y).out) ∧
      (∀ y, y ≠ s.events.size → (x.ev y).count = (s.ev y).count) ∧
      (∀ y, y ≠ s.events.size → (s.ev y).defused = true → (x.ev y).defused = true) :=
    fun T => ⟨fun y hy => by rw [T.kind, hold y hy], fun y hy => by rw [T.out y hy, hold y hy],
      fun y hy => by rw [T.count y hy, hold y hy], fun y hy hd => T.defused y (by rw [hold y hy]; exact hd)⟩
  cases l with
  | nil =>
    simp only [List.isEmpty_nil, if_true]
    have hc : (s1.trigger s.events.size (.ok (.cv []))).ev s.events.size =
        { s1.ev s.events.size with out := some (.ok (.cv [])) } := by rw [ev_trigger, if_pos ⟨rfl, hlt⟩]
    have T := Touch.trigger s.events.size s1 (.ok (.cv []))
    obtain ⟨o1, o2, o3, o4⟩ := old T
    refine ⟨by rw [T.size, hsz1], by rw [T.kind, hnew], o1, o2, o3, o4, ?_, ?_, ?_, ?_, ?_⟩
    · intro y hy; rw [Once.cbs_trigger, hold y hy]
      cases (s.ev y).cbs <;> simp
    · refine ⟨[], by rw [hc, hnew], (fun d hd => by cases hd), (fun d hd => by cases hd), fun hh => absurd rfl hh⟩
    · intro ho; rw [hc] at ho; cases ho
    · intro v _; unfold evaluate; cases all <;> simp
    · intro z ho; rw [hc] at ho; cases ho
  | cons a l' =>
    simp only [List.isEmpty_cons, Bool.false_eq_true, if_false]
    have hne : a :: l' ≠ [] := by simp
    have h0 : FoldSpec s.events.size s s1 all (a :: l') [] s1 := by
      refine ⟨Touch.refl _ _, fun y => by cases (s1.ev y).cbs <;> simp, fun _ => ?_, fun v ho => (by rw [hnew] at ho; cases ho),
        fun z ho => (by rw [hnew] at ho; cases ho)⟩
      rw [hnew]
      refine ⟨rfl, (fun e he => by cases he), ?_⟩
      unfold evaluate; cases all <;> simp
    have hf := FoldSpec.fold (by rw [hnew]) hlt (a :: l') [] s1 h0
      (fun e he => ⟨Nat.ne_of_lt (hl e he), hold e (Nat.ne_of_lt (hl e he))⟩)
    simp only [List.nil_append] at hf
    generalize (List.foldl (fun x e => if x.processed e then condCheck x s.events.size e
      else x.addCb e (.check s.events.size)) s1 (a :: l')) = x at hf
    have T := hf.touch.trans (Touch.addCb s.events.size x s.events.size (.build s.events.size))
    have hxc : (x.addCb s.events.size (.build s.events.size)).ev s.events.size =
        { x.ev s.events.size with cbs := (x.ev s.events.size).cbs.map (· ++ [.build s.events.size]) } := by
      unfold KState.addCb; rw [KState.ev_setEv, if_pos ⟨rfl, by rw [hf.touch.size]; exact hlt⟩]
    obtain ⟨o1, o2, o3, o4⟩ := old T
    refine ⟨by rw [T.size, hsz1], by rw [T.kind, hnew], o1, o2, o3, o4, ?_, ?_, ?_, ?_, ?_⟩
    · intro y hy; rw [Once.cbs_addCb, if_neg hy, hf.cbs y, hold y hy]
    · refine ⟨[.build s.events.size], ?_, ?_, ?_, ?_⟩
      · rw [Once.cbs_addCb, if_pos rfl, hf.cbs, hnew,
          List.count_eq_zero.mpr (fun hm => Nat.lt_irrefl _ (hl _ hm))]
        rfl
      · intro d hd; rw [List.mem_singleton] at hd; cases hd
      · intro d hd; rw [List.mem_singleton] at hd; cases hd; exact ⟨rfl, hne⟩
      · intro _; simp
    · rw [hxc]; exact hf.res.c_pending
    · intro v ho
      rw [hxc] at ho
      obtain ⟨k, hk1, hk2⟩ := hf.res.c_ok v ho
      exact evaluate_mono hk2 hk1 List.countP_le_length
    · intro z ho
      rw [hxc] at ho
      obtain ⟨e, h2, h3, h4, h5⟩ := hf.res.c_fail z ho
      exact ⟨e, h2, h3, h4, (Touch.addCb s.events.size x _ _).defused e h5⟩

theorem CInv.mkCond {rem : List Cb} {e0 : EvId} {s : KState ℚ σ} (hc : CInv rem e0 s) (all : Bool) (l : List EvId)
    (hl : ∀ e ∈ l, e < s.events.size) : CInv rem e0 (mkCond s all l).1 ∧ Mono rem s (mkCond s all l).1 :=
  hc.of_mkSpec hl (mkCond_spec s all l hl)

end Cond
