import OnlVerif.Lemmas.ConserveBase
import Mathlib.Tactic.Ring
/-!
# Conservation proofs: sums over the event table

`tot W s = Σ_{a < s.events.size} W (kind a) (out a) (request data of a)` for a weight `W` that vanishes on events
that are not requests and on untriggered events.  A unit that grants nothing leaves `tot W` alone; a grant adds the
weight of the granted request.
-/

variable {σ : Type}

namespace Conserve

def sumTo (f : Nat → Int) : Nat → Int
  | 0 => 0
  | n + 1 => sumTo f n + f n

theorem sumTo_succ (f : Nat → Int) (n : Nat) : sumTo f (n + 1) = sumTo f n + f n := rfl

theorem sumTo_congr {f g : Nat → Int} : ∀ n, (∀ i, i < n → g i = f i) → sumTo g n = sumTo f n
  | 0, _ => rfl
  | n + 1, h => by
    unfold sumTo
    rw [sumTo_congr n (fun i hi => h i (Nat.lt_succ_of_lt hi)), h n (Nat.lt_succ_self n)]

theorem sumTo_update {f g : Nat → Int} (e : Nat) : ∀ n, e < n → (∀ i, i < n → i ≠ e → g i = f i) →
    sumTo g n = sumTo f n + (g e - f e)
  | 0, he, _ => absurd he (Nat.not_lt_zero _)
  | n + 1, he, h => by
    unfold sumTo
    by_cases hen : e = n
    · subst hen
      rw [sumTo_congr e (fun i hi => h i (Nat.lt_succ_of_lt hi) (Nat.ne_of_lt hi))]
      ring
    · have hlt : e < n := by omega
      rw [sumTo_update e n hlt (fun i hi hne => h i (Nat.lt_succ_of_lt hi) hne), h n (Nat.lt_succ_self n) (fun hc => hen hc.symm)]
      ring

theorem sumTo_extend {f g : Nat → Int} {n : Nat} (hold : ∀ i, i < n → g i = f i) :
    ∀ m, n ≤ m → (∀ i, n ≤ i → i < m → g i = 0) → sumTo g m = sumTo f n
  | 0, h, _ => by rw [Nat.le_zero.mp h]; rfl
  | m + 1, h, hnew => by
    rcases Nat.eq_or_lt_of_le h with heq | hlt
    · rw [← heq]; exact sumTo_congr n hold
    · have hm := Nat.le_of_lt_succ hlt
      rw [sumTo_succ, sumTo_extend hold m hm (fun i h1 h2 => hnew i h1 (Nat.lt_succ_of_lt h2)),
        hnew m hm (Nat.lt_succ_self m), Int.add_zero]

theorem sumTo_zero {f : Nat → Int} : ∀ n, (∀ i, i < n → f i = 0) → sumTo f n = 0
  | 0, _ => rfl
  | n + 1, h => by
    unfold sumTo
    rw [sumTo_zero n (fun i hi => h i (Nat.lt_succ_of_lt hi)), h n (Nat.lt_succ_self n)]; rfl

theorem sumTo_eq_list (p : Nat → Bool) (g : Nat → Int) : ∀ n,
    sumTo (fun i => if p i then g i else 0) n = (((List.range n).filter p).map g).sum
  | 0 => rfl
  | n + 1 => by
    unfold sumTo
    rw [sumTo_eq_list p g n, List.range_succ, List.filter_append, List.map_append, List.sum_append]
    congr 1
    by_cases hp : p n = true
    · simp [hp]
    · simp [hp]

abbrev Weight := Kind → Option Outcome → ReqData ℚ → Int

def wt (W : Weight) (s : KState ℚ σ) (a : EvId) : Int := W (s.ev a).kind (s.ev a).out (coreOf s a)

def tot (W : Weight) (s : KState ℚ σ) : Int := sumTo (wt W s) s.events.size

structure Weight.Ok (W : Weight) : Prop where
  nonReq : ∀ k o c, nonReqKind k = true → W k o c = 0
  pending : ∀ k c, W k none c = 0

theorem Weight.Ok.of_ite {K : Kind} (hK : nonReqKind K = false) (P : Option Outcome → ReqData ℚ → Prop)
    [∀ o c, Decidable (P o c)] (hP : ∀ c, ¬ P none c) (f : ReqData ℚ → Int) :
    Weight.Ok (fun k o c => if k = K ∧ P o c then f c else 0) :=
  ⟨fun _ _ _ hk => if_neg (fun h => by rw [h.1, hK] at hk; cases hk), fun _ c => if_neg (fun h => hP c h.2)⟩

theorem nonReqKind_of_notReq {s : KState ℚ σ} {e : EvId} (h : isReq s e = false) : nonReqKind (s.ev e).kind = true := by
  cases hb : nonReqKind (s.ev e).kind with
  | true => rfl
  | false => rw [isReq_eq_not_nonReq, hb] at h; cases h

theorem wt_same {W : Weight} {s s' : KState ℚ σ} {a : EvId} (hk : (s'.ev a).kind = (s.ev a).kind)
    (ho : (s'.ev a).out = (s.ev a).out) (hc : coreOf s' a = coreOf s a) : wt W s' a = wt W s a := by
  unfold wt; rw [hk, ho, hc]

theorem tot_quiet {W : Weight} (hW : W.Ok) {s s' : KState ℚ σ} (h : Quiet s s') : tot W s' = tot W s := by
  unfold tot
  refine sumTo_extend (fun a ha => ?_) _ h.size_le (fun a ha _ => ?_)
  · cases hr : isReq s a with
    | true => exact wt_same (h.kind a ha) (h.out a hr) (h.core a ha)
    | false =>
      have hk := nonReqKind_of_notReq hr
      unfold wt
      rw [h.kind a ha, hW.nonReq _ _ _ hk, hW.nonReq _ _ _ hk]
  · unfold wt
    cases hr : isReq s' a with
    | true => rw [h.fresh a ha hr]; exact hW.pending _ _
    | false => exact hW.nonReq _ _ _ (nonReqKind_of_notReq hr)

theorem tot_frame {W : Weight} {s s' : KState ℚ σ} (h : Frame s s') : tot W s' = tot W s := by
  unfold tot
  rw [h.size]
  exact sumTo_congr _ (fun a _ => wt_same (h.kind a) (h.out a) (h.core a))

theorem tot_sameEv {W : Weight} {s s' : KState ℚ σ} (h : ∀ a, s'.ev a = s.ev a) (hs : s'.events.size = s.events.size) :
    tot W s' = tot W s := by
  unfold tot
  rw [hs]
  exact sumTo_congr _ (fun a _ => by unfold wt coreOf reqOf; rw [h a])

theorem tot_alloc {W : Weight} (hW : W.Ok) {s s' : KState ℚ σ} (x : EvRec ℚ) (he : s'.events = s.events.push x)
    (hk : nonReqKind x.kind = true) : tot W s' = tot W s := by
  have hnew : wt W s' s.events.size = 0 := by unfold wt; rw [KState.ev_of_push he, if_pos rfl]; exact hW.nonReq _ _ _ hk
  unfold tot
  rw [he, Array.size_push, sumTo_succ, hnew, Int.add_zero]
  exact sumTo_congr _ (fun a ha => by unfold wt coreOf reqOf; rw [KState.ev_of_push he, if_neg (Nat.ne_of_lt ha)])

theorem tot_trigNR {W : Weight} (hW : W.Ok) (s : KState ℚ σ) (e : EvId) (o : Outcome) (hn : isReq s e = false) :
    tot W (s.setOut e o) = tot W s :=
  tot_quiet hW (.of_trigNR s e o hn)

theorem tot_grant {W : Weight} (hW : W.Ok) {s s' : KState ℚ σ} {e : EvId} {o : Outcome} (hsize : s'.events.size = s.events.size)
    (hlt : e < s.events.size) (hkind : ∀ a, (s'.ev a).kind = (s.ev a).kind) (hcore : ∀ a, coreOf s' a = coreOf s a)
    (houtE : (s'.ev e).out = some o) (hout : ∀ a, a ≠ e → (s'.ev a).out = (s.ev a).out) (hpend : (s.ev e).out = none) :
    tot W s' = tot W s + W (s.ev e).kind (some o) (coreOf s e) := by
  unfold tot
  rw [hsize, sumTo_update e _ hlt (fun a _ hne => wt_same (hkind a) (hout a hne) (hcore a))]
  congr 1
  unfold wt
  rw [hkind, hcore, houtE, hpend, hW.pending, Int.sub_zero]

theorem Granted.tot {W : Weight} (hW : W.Ok) {s s' : KState ℚ σ} {e : EvId} {o : Outcome} (hG : Granted s s' e o) :
    tot W s' = tot W s + W (s.ev e).kind (some o) (coreOf s e) :=
  tot_grant hW hG.size hG.lt hG.kind hG.core hG.outE hG.outOther hG.pend

theorem tot_noReq {W : Weight} (hW : W.Ok) (s : KState ℚ σ) (h : ∀ e, isReq s e = false) : tot W s = 0 := by
  unfold tot
  apply sumTo_zero
  intro a _
  unfold wt
  exact hW.nonReq _ _ _ (nonReqKind_of_notReq (h a))

end Conserve
