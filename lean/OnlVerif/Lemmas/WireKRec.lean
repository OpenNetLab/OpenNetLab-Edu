import OnlVerif.Lemmas.WireKDefs
/-!
# The wire's own arithmetic is the delivery recurrence of C10

`deliv` follows the code: a packet is taken from the store at `g = max(arrival, instant the server became free)`, a lost
one is dropped at once, another one leaves at `g + (d - (g - arrival))` if `g - arrival < d` and at `g` otherwise.  For
arrivals in time order and non-negative delays this is `max(arrival + d, previous delivery)`, and lost packets delay nobody.
-/

namespace WireK
open WireOnK

variable {cfg : WireCfg ℚ} {losses delays : List ℚ}

/-- the instant a packet that is not lost leaves: `max(arrival + d, taken)` -/
theorem leave_eq (g a d : ℚ) : (if g - a < d then a + d else g) = max (a + d) g := by
  split
  · rename_i hw
    exact (max_eq_left (sub_lt_iff_lt_add'.mp hw).le).symm
  · rename_i hw
    exact (max_eq_right (le_sub_iff_add_le'.mp (not_lt.mp hw))).symm

theorem deliv_future (hd : ∀ k, 0 ≤ draw delays k) (gaps : List ℚ) (hg : GapsOK gaps) :
    ∀ (fr t : ℚ) (prev : Option ℚ) (k nl nd : Nat), (prev = none → fr ≤ t) →
      (∀ p, prev = some p → p ≤ fr ∧ fr ≤ max p t) →
      deliv cfg losses delays fr nl nd (futureOf t k gaps) = deliveries cfg losses delays prev t k nl nd gaps := by
  induction gaps with
  | nil => intro fr t prev k nl nd _ _; simp [futureOf, deliv, deliveries]
  | cons gap rest ih =>
    intro fr t prev k nl nd h1 h2
    have hgap : 0 ≤ gap := hg gap (by simp)
    have hrest : GapsOK rest := fun x hx => hg x (List.mem_cons_of_mem _ hx)
    have hdd := hd nd
    have ih' := ih hrest
    simp only [futureOf, deliv, deliveries]
    by_cases hl : isLost cfg (draw losses nl) = true
    · simp only [hl, if_true]
      refine ih' (max fr (t + gap)) (t + gap) prev (k + 1) (nlNext cfg nl) nd ?_ ?_
      · intro hp
        have := h1 hp
        exact max_le (le_add_of_le_of_nonneg this hgap) (le_refl _)
      · intro p hp
        obtain ⟨h3, h4⟩ := h2 p hp
        refine ⟨le_trans h3 (le_max_left _ _), max_le ?_ (le_max_right _ _)⟩
        exact le_trans h4 (max_le (le_max_left _ _) (le_trans (le_add_of_nonneg_right hgap) (le_max_right _ _)))
    · simp only [hl, Bool.false_eq_true, if_false]
      rw [leave_eq]
      cases prev with
      | none =>
        have h1' := h1 rfl
        have e : max (t + gap + draw delays nd) (max fr (t + gap)) = t + gap + draw delays nd := by
          rw [max_eq_right (le_add_of_le_of_nonneg h1' hgap)]
          exact max_eq_left (le_add_of_nonneg_right hdd)
        simp only [e]
        congr 1
        refine ih' _ _ _ _ _ _ (by intro h; cases h) ?_
        intro p hp
        simp only [Option.some.injEq] at hp
        subst hp
        exact ⟨le_refl _, le_max_left _ _⟩
      | some p =>
        obtain ⟨h3, h4⟩ := h2 p rfl
        have e : max (t + gap + draw delays nd) (max fr (t + gap)) = Num.pymax (t + gap + draw delays nd) p := by
          rw [Num.pymax_eq]
          apply le_antisymm
          · refine max_le (le_max_left _ _) (max_le ?_ (le_trans (le_add_of_nonneg_right hdd) (le_max_left _ _)))
            exact le_trans h4 (max_le (le_max_right _ _) (le_trans
              ((le_add_of_nonneg_right hgap).trans (le_add_of_nonneg_right hdd)) (le_max_left _ _)))
          · exact max_le (le_max_left _ _) (le_trans h3 (le_trans (le_max_left _ _) (le_max_right _ _)))
        simp only [e]
        congr 1
        refine ih' _ _ _ _ _ _ (by intro h; cases h) ?_
        intro p' hp
        simp only [Option.some.injEq] at hp
        subst hp
        exact ⟨le_refl _, le_max_left _ _⟩

/-- **the wire's arithmetic on the whole workload is the delivery recurrence** -/
theorem deliv_eq_deliveries (hd : ∀ k, 0 ≤ draw delays k) (arrivals : List ℚ) (hg : GapsOK arrivals) :
    deliv cfg losses delays 0 0 0 (futureOf 0 0 arrivals) = deliveries cfg losses delays none 0 0 0 0 arrivals :=
  deliv_future hd arrivals hg 0 0 none 0 0 0 (fun _ => le_refl _) (fun p hp => by cases hp)

end WireK
