import OnlVerif.Lemmas.TcpLiveSender
import OnlVerif.Lemmas.TcpLiveSink
import OnlVerif.Lemmas.TcpLoop
import OnlVerif.Tcp.LoopLive
/-!
# The closed loop of a finite flow: the invariant behind `C16.quiescent_implies_complete`

`LInv n l` strengthens the safety invariant `TcpLoop.J`:

* the sender invariant `SInv n` (`TcpLiveSender.lean`);
* the sink holds only bytes below `next_seq`, whole MSS blocks, in non-empty ranges; every segment below `next_seq`
  is at the sink or under a timer; everything below `last_ack` is at the sink;
* packets in flight are aligned MSS-sized segments below `next_seq`, stamped in the past;
* the ACK path is sorted by ACK number, all numbers `≥ last_ack`, aligned; **the segment at the number of an ACK in
  flight is still under its timer**, and no ACK queued before it (nor itself) answers that segment - so a cumulative
  cancellation never removes the timer that the next ACK relies on.
-/

open TcpScalar TcpSender TcpSink TcpLoop

namespace TcpLive

structure AckInv (l : Loop ℚ) (a : AckIn ℚ) : Prop where
  fid : 10000 ≤ a.fid
  below : ∀ b, b < a.ackno → Covers l.sink b
  pid : Covers l.sink a.pid
  ne : a.pid ≠ a.ackno
  ge : l.snd.last_ack ≤ a.ackno
  al : l.snd.mss ∣ a.ackno
  ptime : a.ptime ≤ l.snd.now
  timed : a.ackno < l.snd.next_seq → a.ackno ∈ AL.keys l.snd.timers

theorem AckInv.transfer {l l' : Loop ℚ} {a : AckIn ℚ} (h : AckInv l a) (hs : l'.snd = l.snd) (hk : l'.sink = l.sink) :
    AckInv l' a :=
  ⟨h.fid, by rw [hk]; exact h.below, by rw [hk]; exact h.pid, h.ne, by rw [hs]; exact h.ge, by rw [hs]; exact h.al,
   by rw [hs]; exact h.ptime, by rw [hs]; exact h.timed⟩

structure LInv (n : Nat) (l : Loop ℚ) : Prop where
  s : SInv n l.snd
  sink : Sep l.sink
  sinkne : ∀ r ∈ l.sink, r.1 < r.2
  sinkb : ∀ b, Covers l.sink b → b < l.snd.next_seq
  sinkal : ∀ b, Covers l.sink b ↔ Covers l.sink (l.snd.mss * (b / l.snd.mss))
  seg : ∀ q, l.snd.mss ∣ q → q < l.snd.next_seq → Covers l.sink q ∨ q ∈ AL.keys l.snd.timers
  lap : ∀ b, b < l.snd.last_ack → Covers l.sink b
  data : ∀ tx ∈ l.data, tx.size = l.snd.mss ∧ l.snd.mss ∣ tx.seq ∧ tx.seq < l.snd.next_seq ∧ tx.stamp ≤ l.snd.now
  acks : ∀ a ∈ l.acks, AckInv l a
  ackord : l.acks.Pairwise (fun y a => y.ackno ≤ a.ackno ∧ y.pid ≠ a.ackno)

variable {n : Nat}

theorem AckInv.le {l : Loop ℚ} {a : AckIn ℚ} (h : LInv n l) (ha : AckInv l a) : a.ackno ≤ l.snd.next_seq := by
  by_contra hc
  have := h.sinkb _ (ha.below l.snd.next_seq (Nat.lt_of_not_le hc))
  omega

theorem AckInv.good {l : Loop ℚ} {a : AckIn ℚ} (h : LInv n l) (ha : AckInv l a) : GoodAck l.snd a :=
  ⟨ha.fid, ha.ptime, ha.ge, ha.le h, ha.ne, ha.timed⟩

/-- a freshly constructed sender of a finite flow -/
structure Fresh (n : Nat) (s : Sender ℚ) : Prop where
  inv : Inv s
  size : s.size = some n
  npos : 0 < n
  mpos : 0 < s.mss
  dvd : s.mss ∣ n
  ccmss : (s.mss : ℚ) ≤ s.cc.mss
  next_seq : s.next_seq = 0
  send_buffer : s.send_buffer = 0
  last_ack : s.last_ack = 0
  timers : s.timers = []
  proc : s.proc = .runnable

theorem fresh_init (kind : CCKind) (cc : CCState ℚ) (rtt : ℚ) (mss n : Nat) (now : ℚ) (hcc : TcpCC.CCInv kind cc)
    (hr : 0 < rtt) (hn : 0 < n) (hm : 0 < mss) (hd : mss ∣ n) (hc : (mss : ℚ) ≤ cc.mss) :
    Fresh n (Sender.init kind cc rtt mss (some n) now) :=
  ⟨inv_init _ _ _ _ _ _ hcc hr, rfl, hn, hm, hd, hc, rfl, rfl, rfl, rfl, rfl⟩

theorem SInv_fresh {s : Sender ℚ} (f : Fresh n s) : SInv n s := by
  refine ⟨f.inv, f.size, f.npos, f.mpos, f.dvd, f.ccmss, ?_, ?_, ?_, ?_, ?_, ?_, ?_, ?_, ?_, ?_⟩
  · rw [f.next_seq]; exact Nat.dvd_zero _
  · rw [f.next_seq]; exact Nat.zero_le _
  · left; rw [f.next_seq, f.send_buffer]
  · rw [f.next_seq, f.last_ack]
  · intro e; rw [f.next_seq] at e; omega
  · intro e; rw [f.proc] at e; cases e
  · intro e; rw [f.proc] at e; cases e
  · intro kv hkv; rw [f.timers] at hkv; simp at hkv
  · intro q hq; rw [f.timers] at hq; simp [AL.keys] at hq
  · intro q hq; rw [f.timers] at hq; simp [AL.keys] at hq

theorem LInv_init {s : Sender ℚ} (f : Fresh n s) : LInv n (Loop.init s) := by
  have hs := SInv_fresh f
  refine ⟨hs, sep_nil, fun r hr => by simp [Loop.init] at hr, fun b hb => absurd hb (covers_nil b), ?_, ?_, ?_,
    fun tx htx => by simp [Loop.init] at htx, fun a ha => by simp [Loop.init] at ha, by simp [Loop.init]⟩
  · intro b
    exact ⟨fun hb => absurd hb (covers_nil b), fun hb => absurd hb (covers_nil _)⟩
  · intro q _ hq
    have : (Loop.init s).snd.next_seq = 0 := f.next_seq
    omega
  · intro b hb
    have : (Loop.init s).snd.last_ack = 0 := f.last_ack
    omega

/-- a sender step with effect `Eff` keeps `LInv`, given - if it is the arrival of an ACK `x` - what the loop knows of
`x` and that the ACKs that stay on the path are not below `x` and do not wait for the segment `x` answers -/
theorem LInv_eff {l : Loop ℚ} {a : Act ℚ} {s' : Sender ℚ} {outs : List (Tx ℚ)} {acks' : List (AckIn ℚ)} {iss : List Nat}
    (h : LInv n l) (e : Eff n l.snd a s' outs) (hsub : ∀ y ∈ acks', y ∈ l.acks)
    (hord : acks'.Pairwise (fun y a => y.ackno ≤ a.ackno ∧ y.pid ≠ a.ackno))
    (hx : ∀ x, a = .ack x → AckInv l x ∧ ∀ y ∈ acks', x.ackno ≤ y.ackno ∧ x.pid ≠ y.ackno) :
    LInv n { snd := s', sink := l.sink, data := l.data ++ outs, acks := acks', issued := iss } := by
  refine ⟨e.sinv, h.sink, h.sinkne, fun b hb => Nat.lt_of_lt_of_le (h.sinkb b hb) e.ns, ?_, ?_, ?_, ?_, ?_, hord⟩
  · show ∀ b, Covers l.sink b ↔ Covers l.sink (s'.mss * (b / s'.mss))
    rw [e.mss]; exact h.sinkal
  · intro q hq h1
    have hq' : l.snd.mss ∣ q := e.mss ▸ hq
    by_cases hlt : q < l.snd.next_seq
    · rcases h.seg q hq' hlt with c | c
      · exact Or.inl c
      · rcases e.keep q c with k | ⟨x, ex, k⟩
        · exact Or.inr k
        · have ox := (hx x ex).1
          rcases k with k | k
          · exact Or.inl (ox.below q k)
          · exact Or.inl (k ▸ ox.pid)
    · exact Or.inr (e.fresh q hq' (Nat.le_of_not_lt hlt) h1)
  · intro b hb
    rcases e.la with e1 | ⟨x, ex, e1⟩
    · exact h.lap b (e1 ▸ hb)
    · exact (hx x ex).1.below b (e1 ▸ hb)
  · intro tx htx
    show tx.size = s'.mss ∧ s'.mss ∣ tx.seq ∧ tx.seq < s'.next_seq ∧ tx.stamp ≤ s'.now
    rw [e.mss]
    rcases List.mem_append.mp htx with h1 | h1
    · obtain ⟨a1, a2, a3, a4⟩ := h.data tx h1
      exact ⟨a1, a2, Nat.lt_of_lt_of_le a3 e.ns, le_trans a4 e.now⟩
    · exact e.outs tx h1
  · intro y hy
    have o := h.acks y (hsub y hy)
    refine ⟨o.fid, o.below, o.pid, o.ne, ?_, by show s'.mss ∣ _; rw [e.mss]; exact o.al, le_trans o.ptime e.now, ?_⟩
    · show s'.last_ack ≤ y.ackno
      rcases e.la with e1 | ⟨x, ex, e1⟩
      · rw [e1]; exact o.ge
      · rw [e1]; exact ((hx x ex).2 y hy).1
    · intro hlt
      by_cases hl : y.ackno < l.snd.next_seq
      · rcases e.keep _ (o.timed hl) with k | ⟨x, ex, k⟩
        · exact k
        · obtain ⟨r1, r2⟩ := (hx x ex).2 y hy
          rcases k with k | k
          · omega
          · exact absurd k.symm r2
      · exact e.fresh _ o.al (Nat.le_of_not_lt hl) hlt

theorem LInv_step {l l' : Loop ℚ} {a : LAct ℚ} (h : LInv n l) (hs : l.step a = some l') : LInv n l' := by
  have hm := h.s.mpos
  cases a with
  | own act =>
    obtain ⟨s', outs, hack, hst, rfl⟩ := own_eq hs
    have hna := (isAck_false hack).2
    exact LInv_eff h (step_eff h.s (fun x ex => absurd ex (hna x)) hst) (fun _ hy => hy) h.ackord
      (fun x ex => absurd ex (hna x))
  | deliver =>
    obtain ⟨tx, rest, p, hd, hp, rfl⟩ := deliver_eq h.sink hs
    obtain ⟨hsep', hcov'⟩ := packetArrived_spec l.sink tx.seq tx.size h.sink
    obtain ⟨t1, t2, t3, t4⟩ := h.data tx (by rw [hd]; exact List.mem_cons_self)
    have hmono : ∀ b, Covers l.sink b → Covers (packetArrived l.sink tx.seq tx.size) b :=
      fun b hb => (hcov' b).mpr (Or.inl hb)
    have hself : Covers (packetArrived l.sink tx.seq tx.size) tx.seq :=
      (hcov' _).mpr (Or.inr ⟨Nat.le_refl _, by rw [t1]; omega⟩)
    obtain ⟨k, hk⟩ := t2
    have hcovk : ∀ b, Covers (packetArrived l.sink tx.seq tx.size) b ↔
        Covers l.sink b ∨ (l.snd.mss * k ≤ b ∧ b < l.snd.mss * k + l.snd.mss) := by
      intro b; rw [hcov' b, t1, hk]
    have hal' := block_const_arrival hm l.sink _ k h.sinkal hcovk
    have hpal : l.snd.mss ∣ p := prefix_aligned hm _ hal' p hp
    have hpge : l.snd.last_ack ≤ p := by
      by_contra hc
      exact hp.2 (hmono _ (h.lap p (Nat.lt_of_not_le hc)))
    refine ⟨h.s, hsep', packetArrived_nonempty _ _ _ h.sinkne (by rw [t1]; exact hm), ?_, hal', ?_,
      fun b hb => hmono b (h.lap b hb), fun t ht => h.data t (by rw [hd]; exact List.mem_cons_of_mem _ ht), ?_, ?_⟩
    · intro b hb
      rcases (hcov' b).mp hb with c | ⟨_, c2⟩
      · exact h.sinkb b c
      · have := al_succ ⟨k, hk⟩ h.s.ns_al t3
        rw [t1] at c2
        show b < l.snd.next_seq
        omega
    · intro q hq h1
      rcases h.seg q hq h1 with c | c
      · exact Or.inl (hmono q c)
      · exact Or.inr c
    · intro a ha
      rcases List.mem_append.mp ha with e | e
      · have o := h.acks a e
        exact ⟨o.fid, fun b hb => hmono b (o.below b hb), hmono _ o.pid, o.ne, o.ge, o.al, o.ptime, o.timed⟩
      · simp only [List.mem_singleton] at e
        subst e
        refine ⟨Nat.le_refl _, hp.1, hself, ?_, hpge, hpal, t4, ?_⟩
        · intro e
          have e' : tx.seq = p := e
          exact hp.2 (e' ▸ hself)
        · intro hlt
          have hlt' : p < l.snd.next_seq := hlt
          rcases h.seg p hpal hlt' with c | c
          · exact absurd (hmono p c) hp.2
          · exact c
    · show (l.acks ++ [Loop.ackFor tx p]).Pairwise _
      rw [List.pairwise_append]
      refine ⟨h.ackord, List.pairwise_singleton _ _, ?_⟩
      intro y hy z hz
      simp only [List.mem_singleton] at hz
      subst hz
      have o := h.acks y hy
      constructor
      · show y.ackno ≤ p
        by_contra hc
        exact hp.2 (hmono _ (o.below p (Nat.lt_of_not_le hc)))
      · show y.pid ≠ p
        intro e
        exact hp.2 (e ▸ hmono _ o.pid)
  | ackArrive =>
    obtain ⟨x, rest, s', outs, hd, hst, rfl⟩ := ackArrive_eq hs
    have ox := h.acks x (by rw [hd]; exact List.mem_cons_self)
    have hord := List.pairwise_cons.mp (hd ▸ h.ackord)
    exact LInv_eff h (step_eff h.s (fun y ey => by injection ey with ey; subst ey; exact ox.good h) hst)
      (fun y hy => by rw [hd]; exact List.mem_cons_of_mem _ hy) hord.2
      (fun y ey => by injection ey with ey; subst ey; exact ⟨ox, hord.1⟩)
  | dropData i =>
    obtain ⟨_, rfl⟩ := dropData_eq hs
    exact ⟨h.s, h.sink, h.sinkne, h.sinkb, h.sinkal, h.seg, h.lap,
      fun tx htx => h.data tx (List.mem_of_mem_eraseIdx htx), fun a ha => (h.acks a ha).transfer rfl rfl, h.ackord⟩
  | dropAck i =>
    obtain ⟨_, rfl⟩ := dropAck_eq hs
    exact ⟨h.s, h.sink, h.sinkne, h.sinkb, h.sinkal, h.seg, h.lap, h.data,
      fun a ha => (h.acks a (List.mem_of_mem_eraseIdx ha)).transfer rfl rfl,
      h.ackord.sublist (List.eraseIdx_sublist _ _)⟩

theorem step_mss {l l' : Loop ℚ} {a : LAct ℚ} (h : LInv n l) (hs : l.step a = some l') : l'.snd.mss = l.snd.mss := by
  cases a with
  | own act =>
    obtain ⟨s', outs, hack, hst, rfl⟩ := own_eq hs
    exact ((step_moved h.s.inv act (isAck_false hack).1).2 _ _ hst).mss
  | deliver => obtain ⟨_, _, _, _, _, rfl⟩ := deliver_eq h.sink hs; rfl
  | ackArrive =>
    obtain ⟨x, rest, s', outs, hd, hst, rfl⟩ := ackArrive_eq hs
    exact ((step_moved h.s.inv (.ack x) (h.acks x (by rw [hd]; exact List.mem_cons_self)).fid).2 _ _ hst).mss
  | dropData i => obtain ⟨_, rfl⟩ := dropData_eq hs; rfl
  | dropAck i => obtain ⟨_, rfl⟩ := dropAck_eq hs; rfl

theorem reach_mss {l0 l : Loop ℚ} (h0 : LInv n l0) (hr : LReach l0 l) : LInv n l ∧ l.snd.mss = l0.snd.mss := by
  induction hr with
  | init => exact ⟨h0, rfl⟩
  | step _ hs ih => exact ⟨LInv_step ih.1 hs, (step_mss ih.1 hs).trans ih.2⟩

theorem reach_LInv {l0 l : Loop ℚ} (h0 : LInv n l0) (hr : LReach l0 l) : LInv n l :=
  (reach_mss h0 hr).1

end TcpLive
