import OnlVerif.Lemmas.WireKStep
import OnlVerif.Lemmas.WireKAbsStep
import OnlVerif.Lemmas.WireKRec
import OnlVerif.Lemmas.KRun
/-!
# The Wire on the kernel model: every kernel step is a configuration step; whole runs
-/

namespace WireK
open WireOnK QEntry
open TimerK (lookup)

variable {cfg : WireCfg ℚ} {losses delays : List ℚ} {arrivals : List ℚ}
variable {s : KS} {a : A} {q : QEntry ℚ} {rest : List (QEntry ℚ)}

theorem StepsTo.astep {fuel : Nat} {a' : A} {new : List (Int × ℚ)} {lf : List Int}
    (h : StepsTo cfg losses delays fuel s q a' new lf) (hs : AStep cfg losses delays a q a' new lf) :
    ∃ s' a' new lf, step (body cfg losses delays) (fuel + 1) s = .ok s' ∧ KInv s' a' ∧ AStep cfg losses delays a q a' new lf ∧
      s'.now = q.time ∧ outsOf s'.trace = outsOf s.trace ++ new ∧ leftsOf s'.trace = leftsOf s.trace ++ lf :=
  let ⟨s', h1, h2, h3, h4, h5⟩ := h
  ⟨s', a', new, lf, h1, h2, hs, h3, h4, h5⟩

/-- **one kernel step = one configuration step**: the step is computed on the configuration of processes behind `a`
(`Lemmas/WireKStep.lean`), by cases on whose entry is popped -/
theorem kstep (fuel : Nat) {outs : List (Int × ℚ)} (hk : KInv s a)
    (hi : AInv cfg losses delays arrivals a s.now outs) (hp : popMin s.agenda = some (q, rest)) :
    ∃ s' a' new lf, step (body cfg losses delays) (fuel + 1) s = .ok s' ∧ KInv s' a' ∧ AStep cfg losses delays a q a' new lf ∧
      s'.now = q.time ∧ outsOf s'.trace = outsOf s.trace ++ new ∧ leftsOf s'.trace = leftsOf s.trace ++ lf := by
  obtain ⟨hmin, hperm⟩ := min_of_pop hk.ag hp
  have hq := hmin.1
  simp only [A.entries, List.mem_append] at hq
  rcases hq with hq | hq | hq
  · -- an entry of the wire process
    have hpa := hi.wire
    cases hwire : a.wire with
    | W g t0 nl nd => simp [hwire, WPhase.entries] at hq
    | init q0 =>
      simp only [hwire, WPhase.entries, List.mem_singleton] at hq; subst hq
      rw [hwire] at hpa
      exact StepsTo.astep ((wire_gets fuel hk hwire rfl rfl hp .init).1 hpa.2.2.1) (.wireInit a q _ hwire)
    | H g id q0 t0 nl nd =>
      simp only [hwire, WPhase.entries, List.mem_singleton] at hq; subst hq
      rw [hwire] at hpa
      obtain ⟨hqt, -, hmax, -, hid⟩ := hpa
      have hnow : max t0 (a.ctOf id) = q.time := by rw [hmax, hqt]
      cases hl : isLost cfg (draw losses nl) with
      | true =>
        have hg := wire_gets fuel hk hwire rfl rfl hp (.serveLost (delays := delays) hk hid hnow hl)
        cases hit : a.items with
        | nil => exact StepsTo.astep (hg.1 hit) (.serveLostIdle a q g _ id t0 nl nd hwire hl hit)
        | cons i is => exact StepsTo.astep (hg.2 i is hit) (.serveLostNext a q _ g _ id t0 nl nd i is hwire hl hit ⟨rfl, rfl⟩)
      | false =>
        by_cases hw : q.time - a.ctOf id < draw delays nd
        · exact StepsTo.astep (kstep_serveWait hk hid hnow fuel hwire hl hw hp)
            (.serveWait a q _ g _ id t0 nl nd hwire hl hw ⟨rfl, rfl⟩)
        · have hg := wire_gets fuel hk hwire rfl rfl hp (.serveOut hk hid hnow hl hw)
          cases hit : a.items with
          | nil => exact StepsTo.astep (hg.1 hit) (.serveOutIdle a q g _ id t0 nl nd hwire hl hw hit)
          | cons i is => exact StepsTo.astep (hg.2 i is hit) (.serveOutNext a q _ g _ id t0 nl nd i is hwire hl hw hit ⟨rfl, rfl⟩)
    | T t id q0 nl nd =>
      simp only [hwire, WPhase.entries, List.mem_singleton] at hq; subst hq
      have hg := wire_gets (cfg := cfg) (losses := losses) (delays := delays) fuel hk hwire rfl rfl hp (.fire id nl nd)
      cases hit : a.items with
      | nil => exact StepsTo.astep (hg.1 hit) (.fireIdle a q t _ id nl nd hwire hit)
      | cons i is => exact StepsTo.astep (hg.2 i is hit) (.fireNext a q _ t _ id nl nd i is hwire hit ⟨rfl, rfl⟩)
  · -- an entry of the source process
    have hsa := hi.src
    cases hsrc : a.src with
    | done => simp [hsrc, SPhase.entries] at hq
    | init q0 arr =>
      simp only [hsrc, SPhase.entries, List.mem_singleton] at hq; subst hq
      rw [hsrc] at hsa
      have h := kstep_srcInit (cfg := cfg) (losses := losses) (delays := delays) fuel hk hsrc hsa.2.2.1 hp
      cases arr with
      | nil => exact StepsTo.astep h (.srcInitEnd a q _ hsrc rfl rfl)
      | cons gap arr => exact StepsTo.astep h (.srcInitWait a q _ gap arr hsrc rfl rfl)
    | ending q0 =>
      simp only [hsrc, SPhase.entries, List.mem_singleton] at hq; subst hq
      exact StepsTo.astep (kstep_srcEnd fuel hk hsrc hp) (.srcEnd a q hsrc)
    | wait next arr q0 =>
      simp only [hsrc, SPhase.entries, List.mem_singleton] at hq; subst hq
      rw [hsrc] at hsa
      have hn : a.pend = none := by
        cases hpe : a.pend with
        | none => rfl
        | some u =>
          exfalso
          have hu := hi.pend u hpe
          exact min_not_eid_lt hi.due hmin (mem_pend hpe) hu.1 (hu.2.trans hsa.1.symm) (hsa.2.2.2 u hpe)
      have h := kstep_srcPut (cfg := cfg) (losses := losses) (delays := delays) fuel hk hsrc hn hsa.2.2.1 hsa.2.1 hp
      cases arr with
      | nil => exact StepsTo.astep h (.srcPutEnd a q _ _ next hsrc hn ⟨rfl, rfl⟩ ⟨rfl, rfl⟩)
      | cons gap arr =>
        exact StepsTo.astep h (.srcPutWait a q _ _ next gap arr hsrc hn ⟨rfl, rfl⟩ ⟨rfl, rfl⟩ (Nat.lt_succ_self _))
  · -- the pending `StorePut` event
    have hpe : a.pend = some q := Option.mem_toList.mp hq
    by_cases hw : ∃ g t0 nl nd i is, a.wire = .W g t0 nl nd ∧ a.items = i :: is
    · obtain ⟨g, t0, nl, nd, i, is, hwire, hit⟩ := hw
      exact StepsTo.astep (kstep_putHand fuel hk hpe hwire hit hp) (.putHand a q _ g t0 nl nd i is hpe hwire hit ⟨rfl, rfl⟩)
    · have hw' : a.wire.getQ = [] ∨ a.items = [] := by
        cases hwire : a.wire with
        | W g t0 nl nd =>
          right
          cases hit : a.items with
          | nil => rfl
          | cons i is => exact absurd ⟨g, t0, nl, nd, i, is, hwire, hit⟩ hw
        | _ => left; rfl
      exact StepsTo.astep (kstep_putIdle fuel hk hpe hw' hp) (.putIdle a q hpe hw')

/-- the kernel state `s` of the run on `arrivals` is the configuration `a`, and `a` is sound -/
structure Inv (cfg : WireCfg ℚ) (losses delays arrivals : List ℚ) (s : KS) (a : A) : Prop where
  k : KInv s a
  a : AInv cfg losses delays arrivals a s.now (outsOf s.trace)

/-- **one kernel step**: it is `.ok`, keeps the invariant and uses one unit of the step budget -/
theorem inv_step (fuel : Nat) (h : Inv cfg losses delays arrivals s a) (hp : popMin s.agenda = some (q, rest)) :
    ∃ s' a', step (body cfg losses delays) (fuel + 1) s = .ok s' ∧ Inv cfg losses delays arrivals s' a' ∧ a'.mu + 1 ≤ a.mu := by
  obtain ⟨s', a', new, lf, h1, h2, h3, h4, h5, -⟩ := kstep fuel h.k h.a hp
  obtain ⟨g1, g2⟩ := astep_sound h.a (min_of_pop h.k.ag hp).1 h3
  refine ⟨s', a', h1, ⟨h2, ?_⟩, g2⟩
  rw [h4, h5]; exact g1

/-- with an empty agenda everything has been served: the trace holds exactly what the wire's arithmetic prescribes -/
theorem inv_final (h : Inv cfg losses delays arrivals s a) (he : s.agenda = []) :
    outsOf s.trace = deliv cfg losses delays 0 0 0 (futureOf 0 0 arrivals) ∧ a.items = [] ∧ a.mu = 0 := by
  have hent : a.entries = [] := List.Perm.eq_nil (he ▸ h.k.ag).symm
  have hsrc : a.src = .done := by
    cases hs : a.src with
    | done => rfl
    | _ => simp [A.entries, hs, SPhase.entries] at hent
  obtain ⟨hpe, ⟨t, id, q0, nl, nd, e⟩ | ⟨⟨g, t0, nl, nd, e⟩, hit⟩⟩ := h.a.quiet (hent ▸ nofun)
  · simp [A.entries, e, WPhase.entries] at hent
  · refine ⟨?_, hit, ?_⟩
    · simpa [pred, e, A.waiting, hit, hsrc, SPhase.future, deliv] using h.a.ghost
    · simp [A.mu, e, hsrc, hpe, hit, WPhase.mu, SPhase.mu]

/-- **`run()` returns**: with more step budget than the configuration needs, `runLoop` ends with an empty agenda -/
theorem run_returns (fuel : Nat) (n : Nat) (s : KS) (a : A) (h : Inv cfg losses delays arrivals s a) (hmu : a.mu < n) :
    ∃ sF aF, runLoop (body cfg losses delays) (fuel + 1) none n s = .returned .none sF ∧
      Inv cfg losses delays arrivals sF aF ∧ sF.agenda = [] :=
  let ⟨sF, aF, h1, h2, h3, _⟩ := runLoop_returns (I := Inv cfg losses delays arrivals) A.mu
    (fun _ _ _ _ hi hp => inv_step fuel hi hp) s n s a h hmu .init
  ⟨sF, aF, h1, h2, h3⟩

/-- the configuration of the initial state -/
def a0 (arrivals : List ℚ) : A :=
  { wire := .init ⟨0, URGENT, 0, 1⟩, src := .init ⟨0, URGENT, 1, 3⟩ arrivals, pend := none, items := [], cts := [] }

theorem inv_init (arrivals : List ℚ) (hg : GapsOK arrivals) :
    Inv cfg losses delays arrivals (initState arrivals) (a0 arrivals) := by
  have h0 := KProc.GInv.empty (σ := St)
    { now := Num.zero, resources := #[{ kind := .store, capacity := none }], shared := [(cRec, .int 0)] }
    rfl (fun r => if r = 0 then some {} else none)
    (KProc.stores_one ⟨Nat.one_pos, rfl⟩)
  obtain ⟨S1, hd1, -, h1⟩ := h0.call (self := 0) (cl := .spawn (.wStart Num.zero)) rfl
  obtain ⟨S2, hd2, -, h2⟩ := h1.call (self := 0) (cl := .spawn (.src Num.zero false 0 arrivals)) rfl
  have hS : initState arrivals = S2 := by
    simp only [initState, List.foldl, hd1, hd2]
  rw [hS]
  have hnow : S2.now = 0 := (congrArg KProc.Regs.now h2.reg).symm
  have htr : S2.trace = #[] := (congrArg KProc.Regs.trace h2.reg).symm
  refine ⟨.of_ginv (st0 := .wStart 0) (h2.untrack (p := 0) fun th hth _ _ _ hw => ?_)
    ⟨rfl, rfl, fun _ => rfl, rfl, rfl, rfl, rfl, fun _ hk => absurd hk (Nat.not_lt_zero _)⟩, ?_⟩
  · simp only [List.nil_append, List.cons_append, List.mem_cons, List.not_mem_nil, or_false] at hth
    rcases hth with rfl | rfl <;> cases hw
  rw [hnow, htr]
  refine ⟨⟨rfl, rfl, rfl, rfl, rfl⟩, ⟨rfl, rfl, hg, rfl, rfl⟩, nofun, fun _ h => absurd rfl h, ?_, nofun, ?_⟩
  · intro x hx
    simp [A.entries, a0, WPhase.entries, SPhase.entries] at hx
    rcases hx with rfl | rfl <;> simp
  · simp [outsOf, pred, a0, A.waiting, SPhase.future]

end WireK
