import OnlVerif.Lemmas.TBKAbs
import OnlVerif.Lemmas.TBTRCommon
/-!
# The token bucket on the kernel model: every configuration step keeps `AInv` and lowers the step bound
-/

namespace TBK
open TBOnK QEntry

variable {size : Int → Nat} {cfg : TbCfg ℚ}
variable {a : A} {now : ℚ} {q : QEntry ℚ} {n e : Nat}

/-- a step of the shaper that leaves the store alone: it sleeps -/
theorem ainv_sleep (hi : AInv cfg a q.time) (r : RPhase) (lv up : ℚ) (hr : RunA a q.time r)
    (hdue : ∀ x ∈ r.entries, q.time ≤ x.time) :
    AInv cfg { a with run := r, level := lv, upd := up } q.time :=
  .of hr hi.src hi.pend hdue hi.due_src hi.its hi.good hi.peak

/-- the shaper calls `store.get()`: the invariant and the step bound, whatever the cells now hold -/
theorem sound_get (hi : AInv cfg a q.time) (hr : 1 ≤ a.run.mu) (lv up : ℚ) (sn : Int) :
    AInv cfg (({ a with level := lv, upd := up, sent := sn } : A).get n e q.time) q.time ∧
      (({ a with level := lv, upd := up, sent := sn } : A).get n e q.time).mu + 1 ≤ a.mu := by
  obtain ⟨its, hit⟩ : ∃ its, a.items = its := ⟨_, rfl⟩
  cases its with
  | nil =>
    simp only [A.get, hit]
    refine ⟨.of ⟨le_refl _, nofun, fun h => absurd rfl h⟩ hi.src hi.pend nofun hi.due_src nofun hi.good hi.peak, ?_⟩
    have h0 : (RPhase.W n q.time).mu = 0 := rfl
    simp only [A.mu, h0, hit, List.length_nil]
    omega
  | cons i is =>
    simp only [A.get, hit]
    obtain ⟨h1, h2, h3⟩ := hi.its i (by rw [hit]; simp)
    refine ⟨.of ⟨rfl, rfl, max_eq_left h3, h1, h2⟩ hi.src hi.pend (by simp [RPhase.entries]) hi.due_src
      (fun j hj => hi.its j (by rw [hit]; exact List.mem_cons_of_mem _ hj)) hi.good hi.peak, ?_⟩
    have h0 : (RPhase.H n i ⟨q.time, NORMAL, e, n⟩ q.time).mu = 3 := rfl
    simp only [A.mu, h0, hit, List.length_cons]
    omega

/-- the tokens are debited: the invariant and the step bound -/
theorem sound_debit (hi : AInv cfg a q.time) (hr : 2 ≤ a.run.mu) (lv up : ℚ) {id : Int} (hid : 0 ≤ id ∧ id.toNat < a.cts.length)
    (k : Nat) :
    AInv cfg (A.afterDebit size cfg { a with level := lv, upd := up } n e q.time id k).1 q.time ∧
      (A.afterDebit size cfg { a with level := lv, upd := up } n e q.time id k).1.mu + 1 ≤ a.mu := by
  unfold A.afterDebit
  cases hpeak : TokenBucket.peakOn cfg with
  | none => exact sound_get hi (by omega) lv up _
  | some pk =>
    have hd := peakWait_nonneg (size := size) (hi.peak pk hpeak) id
    refine ⟨ainv_sleep hi _ _ _ ⟨rfl, hid⟩ (by
      simp only [RPhase.entries, List.mem_singleton]; rintro x rfl; exact le_add_of_nonneg_right hd), ?_⟩
    have h0 : ∀ x : QEntry ℚ, (RPhase.T2 n id x k).mu = 1 := fun _ => rfl
    simp only [A.mu, h0]
    omega

theorem srcNext_ok (hg : GapsOK arr) (t : ℚ) (eid ev next : Nat) :
    (∀ a' : A, next = a'.cts.length → SrcA a' t (srcNext t eid ev next arr)) ∧
    (∀ x ∈ (srcNext t eid ev next arr).entries, t ≤ x.time) ∧ (srcNext t eid ev next arr).mu ≤ 6 * arr.length + 1 := by
  cases arr with
  | nil => exact ⟨fun _ _ => ⟨rfl, rfl⟩, by simp [srcNext, SPhase.entries], by simp [srcNext, SPhase.mu]⟩
  | cons gap r =>
    refine ⟨fun _ hn => ⟨rfl, fun y hy => hg y (List.mem_cons_of_mem _ hy), hn⟩, ?_, by simp [srcNext, SPhase.mu]; omega⟩
    simp only [srcNext, SPhase.entries, List.mem_singleton]
    rintro y rfl
    exact le_add_of_nonneg_right (hg gap (by simp))

/-- **every configuration step is sound**: it keeps `AInv` and lowers the bound on the steps still to come -/
theorem astep_sound {a' : A} {new : List (HEv ℚ)} (hi0 : AInv cfg a now) (hq : IsMin a q)
    (hs : AStep size cfg n e a q a' new) : AInv cfg a' q.time ∧ a'.mu + 1 ≤ a.mu := by
  have hi := hi0.advance hq
  have hrun := hi.run
  cases hs with
  | runInit h => exact sound_get hi (by rw [h]; exact Nat.le_refl 1) a.level a.upd a.sent
  | serveTok g id t0 h hlt =>
    rw [h] at hrun
    have hd := tokenWait_nonneg (size := size) hi.good _ id hlt
    refine ⟨ainv_sleep hi _ _ _ ⟨rfl, hrun.2.2.2.1, hrun.2.2.2.2⟩
      (by simp only [RPhase.entries, List.mem_singleton]; rintro x rfl; exact le_add_of_nonneg_right hd), ?_⟩
    simp only [A.mu, h, RPhase.mu]; omega
  | serveDebit g id t0 h hlt => rw [h] at hrun; exact sound_debit hi (by rw [h]; exact Nat.le_succ 2) _ _ hrun.2.2.2 0
  | tok t id h => rw [h] at hrun; exact sound_debit hi (by rw [h]; exact Nat.le_refl 2) _ _ hrun.2 1
  | peak t id k h => exact sound_get hi (by rw [h]; exact Nat.le_refl 1) a.level a.upd _
  | srcInit arr h =>
    have hs := hi.src
    rw [h] at hs
    obtain ⟨h1, h2, h3⟩ := srcNext_ok (arr := arr) hs.2.2.1 q.time e n 0
    refine ⟨.of hi.run (h1 _ (by simp [hs.2.2.2])) hi.pend hi.due_run h2 hi.its hi.good hi.peak, ?_⟩
    have hm : (SPhase.init q arr).mu = 6 * arr.length + 2 := rfl
    simp only [A.mu, h, hm]; omega
  | srcPut next arr h =>
    have hs := hi.src
    rw [h] at hs
    obtain ⟨hqp, hgaps, rfl⟩ := hs
    obtain ⟨h1, h2, h3⟩ := srcNext_ok (arr := arr) hgaps q.time (e + 1) (n + 1) (a.cts.length + 1)
    have hlen : ∀ k, k < a.cts.length → k < (a.cts ++ [q.time]).length := fun k hk => by rw [List.length_append]; omega
    have hk : ∀ i ∈ a.items, i.toNat < a.cts.length := fun i hi' => (hi.its i hi').2.1
    refine ⟨.of ?_ (h1 _ (by simp)) ?_ hi.due_run h2 ?_ hi.good hi.peak, ?_⟩
    · cases hr : a.run with
      | init q0 =>
        rw [hr] at hrun
        exact (min_not_prio_lt hi.due hq (mem_run (by simp [hr, RPhase.entries])) hrun.1 (by rw [hrun.2.1, hqp]; decide)).elim
      | W g t0 =>
        rw [hr] at hrun
        exact ⟨hrun.1, PutLog.forall_put (P := fun _ t => t = q.time) hk hrun.2.1 rfl, fun _ => by simp⟩
      | H g id q0 t0 =>
        rw [hr] at hrun
        obtain ⟨g1, g2, g3, g4, g5⟩ := hrun
        exact ⟨g1, g2, (congrArg (max t0) (PutLog.getD_put_lt g5)).trans g3, g4, hlen _ g5⟩
      | T1 t id q0 | T2 t id q0 k => rw [hr] at hrun; exact ⟨hrun.1, hrun.2.1, hlen _ hrun.2.2⟩
    · intro u hu
      rcases List.mem_append.mp hu with hu | hu
      · exact hi.pend u hu
      · rw [List.mem_singleton.mp hu]; exact ⟨rfl, rfl⟩
    · exact PutLog.forall_put (P := fun i t => 0 ≤ i ∧ i.toNat < (a.cts ++ [q.time]).length ∧ t ≤ q.time) hk
        (fun i hi' => let ⟨g1, g2, g3⟩ := hi.its i hi'; ⟨g1, hlen _ g2, g3⟩) ⟨Int.natCast_nonneg _, by simp, le_rfl⟩
    · have hm : (SPhase.wait a.cts.length arr q).mu = 6 * arr.length + 7 := rfl
      simp only [A.mu, h, hm, List.length_append, List.length_singleton]; omega
  | srcEnd h =>
    refine ⟨.of hi.run trivial hi.pend hi.due_run nofun hi.its hi.good hi.peak, ?_⟩
    have hm : (SPhase.ending q).mu = 1 := rfl
    have hm' : SPhase.done.mu = 0 := rfl
    simp only [A.mu, h, hm, hm']; omega
  | pendNoop l1 l2 hpe hno =>
    have hsub : l1 ++ l2 ⊆ a.pend := hpe ▸ ((List.sublist_cons_self q l2).append_left l1).subset
    refine ⟨.of ?_ hi.src (fun u hu => hi.pend u (hsub hu)) hi.due_run hi.due_src hi.its hi.good hi.peak, ?_⟩
    · cases hr : a.run with
      | init q0 =>
        rw [hr] at hrun
        rw [hrun.2.2.2.1] at hpe
        simp at hpe
      | W g t0 =>
        rw [hr] at hrun
        have hit : a.items = [] := by_contra fun hc => hno ⟨⟨g, t0, hr⟩, hc⟩
        exact ⟨hrun.1, hrun.2.1, fun hc => absurd hit hc⟩
      | _ => rw [hr] at hrun; exact hrun
    · simp only [A.mu, hpe, List.length_append, List.length_cons]; omega
  | pendHand g t0 i is l1 l2 hpe h hit =>
    have hsub : l1 ++ l2 ⊆ a.pend := hpe ▸ ((List.sublist_cons_self q l2).append_left l1).subset
    rw [h] at hrun
    obtain ⟨g1, g2, g3⟩ := hi.its i (by rw [hit]; simp)
    have hct : a.ctOf i = q.time := hrun.2.1 i (by rw [hit]; simp)
    refine ⟨.of ⟨rfl, rfl, (congrArg (max t0) hct).trans (max_eq_right hrun.1), g1, g2⟩ hi.src (fun u hu => hi.pend u (hsub hu))
      (by simp [RPhase.entries]) hi.due_src (fun j hj => hi.its j (by rw [hit]; exact List.mem_cons_of_mem _ hj)) hi.good hi.peak, ?_⟩
    simp only [A.mu, h, hpe, hit, RPhase.mu, List.length_append, List.length_cons]; omega

end TBK
