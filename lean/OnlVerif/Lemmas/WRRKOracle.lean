import OnlVerif.Lemmas.WRRKRefine
import Mathlib.Data.List.Nodup
/-!
# The WRR scheduler on the kernel model: the put / serve / out history of every run passes the property's oracle

`OInv` relates the state of the oracle (`WRROnK.ostep`) after the history so far to the configuration: its waiting queues are
the per-flow stores (plus the packet `run` has taken and not yet printed), its packet in transmission is the sender's, and
what the next `serve` / `out` observation must satisfy is already determined by the phase of `run`.
-/

namespace WRRK
open WRROnK

variable (F : Nat) (flow size : Int → Nat) (cfg : WRR.Cfg ℚ)

/-- the packet `run` has taken from `stores[f]` whose `serve` observation is still to come -/
def heldH (a : A) (f : Nat) : List Int :=
  match a.run with
  | .H _ _ _ id _ => if flow id = f then [id] else []
  | _ => []

/-- the arrivals the source has still to make -/
def srcFuture (now : ℚ) : SPhase → List (Int × ℚ)
  | .init _ arr => arrivalsFrom now arr
  | .wait id rest q => (id, q.time) :: arrivalsFrom q.time rest
  | _ => []

def obsPuts : List (HEv ℚ) → List (Int × ℚ)
  | [] => []
  | .put id t :: r => (id, t) :: obsPuts r
  | _ :: r => obsPuts r

/-- the decision that led to the packet of entry `m`, iteration `jj`, seen from the oracle's visit `(cm, cj)`: the visit goes
on, or it is over and every entry in between has nothing waiting from an earlier instant -/
def Decided (now : ℚ) (o : OSt ℚ) (m jj : Nat) : Prop :=
  (m = o.cm ∧ jj = o.cj ∧ o.cj < weightAt cfg.weights o.cm) ∨
  (jj = 0 ∧ (m ≠ o.cm ∨ weightAt cfg.weights o.cm ≤ o.cj) ∧
    (weightAt cfg.weights o.cm ≤ o.cj ∨ ∀ x ∈ o.waiting (flowAt cfg.weights o.cm), x.2 = now) ∧
    ∀ j' ∈ skipped cfg.weights.length (o.cm + 1) m, ∀ x ∈ o.waiting (flowAt cfg.weights j'), x.2 = now)

/-- what the phase of `run` says about the oracle -/
def PhO (now : ℚ) (o : OSt ℚ) : RPhase → Prop
  | .init _ => o.busy = none ∧ (∀ f, f < F → ∀ x ∈ o.waiting f, x.2 = now) ∧ o.cm = 0 ∧ o.cj = 0
  | .W _ => o.busy = none ∧ (∀ f, f < F → ∀ x ∈ o.waiting f, x.2 = now) ∧ o.cm = 0 ∧ o.cj = 0
  | .K _ _ => o.busy = none ∧ (∀ f, f < F → ∀ x ∈ o.waiting f, x.2 = now) ∧ o.cm = 0 ∧ o.cj = 0
  | .H _ m jj _ _ => o.busy = none ∧ (o.lastOut = some now ∨ ∀ f, f < F → ∀ x ∈ o.waiting f, x.2 = now) ∧
      Decided cfg now o m jj
  | .S _ m jj id _ => o.busy = some (id, now) ∧ o.cm = m ∧ o.cj = jj + 1
  | .T _ _ m jj id q => ∃ s0, o.busy = some (id, s0) ∧ q.time = s0 + txTime size cfg.rate id ∧ o.cm = m ∧ o.cj = jj + 1
  | .F _ m jj _ _ => o.busy = none ∧ o.lastOut = some now ∧ o.cm = m ∧ o.cj = jj + 1

/-- the oracle has accepted the history and is in the state the configuration stands for -/
structure OInv (arrivals : List (ℚ × Int)) (a : A) (now : ℚ) (hist : List (HEv ℚ)) (o : OSt ℚ) : Prop where
  run : orun F flow size cfg oInit hist = some o
  wq : ∀ f, f < F → (o.waiting f).map (·.1) = heldH flow a f ++ a.items f
  wt : ∀ f, f < F → ∀ x ∈ o.waiting f, x.2 ≤ now
  ph : PhO F size cfg now o a.run
  fut : obsPuts hist ++ srcFuture now a.src = arrivalsFrom 0 arrivals

variable {F flow size cfg}

theorem orun_append (o : OSt ℚ) (l1 l2 : List (HEv ℚ)) :
    orun F flow size cfg o (l1 ++ l2) = (orun F flow size cfg o l1).bind fun o' => orun F flow size cfg o' l2 :=
  KExec.optRun_append (fun _ => rfl) (fun _ _ _ => rfl) o l1 l2

theorem obsPuts_append (l1 l2 : List (HEv ℚ)) : obsPuts (l1 ++ l2) = obsPuts l1 ++ obsPuts l2 := by
  induction l1 with
  | nil => rfl
  | cons x r ih => cases x <;> simp [obsPuts, ih]

theorem eqT_iff (x y : ℚ) : eqT x y ↔ x = y := incomp_iff x y

theorem srcFuture_srcNext (t : ℚ) (eid ev : Nat) (arr : List (ℚ × Int)) (now : ℚ) :
    srcFuture now (srcNext t eid ev arr) = arrivalsFrom t arr := by
  cases arr with
  | nil => rfl
  | cons x r => obtain ⟨gap, id⟩ := x; rfl

variable {arrivals : List (ℚ × Int)} {a : A} {now : ℚ} {q : QEntry ℚ} {hist : List (HEv ℚ)} {o : OSt ℚ}

/-- a waiting queue whose ids are `[]` is empty -/
theorem waiting_nil (ho : OInv F flow size cfg arrivals a now hist o) {f : Nat} (hf : f < F) (hh : heldH flow a f = [])
    (hi : a.items f = []) : o.waiting f = [] := by
  have := ho.wq f hf
  rw [hh, hi] at this
  exact List.map_eq_nil_iff.mp this

/-- **letting the clock advance to the next entry changes nothing** -/
theorem OInv.advance (hi : AInv flow F cfg a now) (hq : IsMin a q) (ho : OInv F flow size cfg arrivals a now hist o) :
    OInv F flow size cfg arrivals a q.time hist o := by
  rcases eq_or_lt_of_le (hi.now_le hq) with h | h
  · rw [← h]; exact ho
  obtain ⟨hrun, hsrc, -⟩ := hi.quiet hq h
  have hp := hi.run
  have hph := ho.ph
  refine ⟨ho.run, ho.wq, fun f hf x hx => le_trans (ho.wt f hf x hx) (le_of_lt h), ?_, ?_⟩
  · rcases hrun with ⟨⟨g, hr⟩, htk⟩ | ⟨p, t, m, jj, id, q0, hr⟩
    · rw [hr] at hp hph ⊢
      refine ⟨hph.1, ?_, hph.2.2⟩
      intro f hf x hx
      have := waiting_nil ho hf (by simp [heldH, hr]) (hp.1 htk f hf)
      rw [this] at hx; cases hx
    · rw [hr] at hph ⊢; exact hph
  · have := ho.fut
    rcases hsrc with ⟨id, rest, q0, hr⟩ | hr <;> (rw [hr] at this ⊢; exact this)

theorem mem_skipped_lt {n c j j' : Nat} (hj : j < n) (h : j' ∈ skipped n c j) : j' < n := by
  unfold skipped at h
  split at h
  · have := List.mem_range'_1.mp h; omega
  · rcases List.mem_append.mp h with h | h
    · have := List.mem_range'_1.mp h; omega
    · have := List.mem_range.mp h; omega

theorem getElem?_drop_sub {β : Type} (l : List β) (p j' : Nat) (h : p ≤ j') : (l.drop p)[j' - p]? = l[j']? := by
  rw [List.getElem?_drop]; congr 1; omega

/-- **the decision of `run`**: resuming at entry `m0`, iteration `j0`, it either goes on with this visit, or the visit is over
(allowance used up, or the class not backlogged) and no entry the cyclic order visits before the entry it serves has a
positive weight and a backlog -/
theorem loop_hit_cases {a : A} {ws : List (Nat × Nat)} {m0 j0 m' jj' f : Nat} (h : a.loop F ws m0 j0 = .hit m' jj' f) :
    (m' = m0 ∧ jj' = j0) ∨
    (jj' = 0 ∧ (m' ≠ m0 ∨ ∀ f0 w0, ws[m0]? = some (f0, w0) → w0 ≤ j0) ∧
      (∀ f0 w0, ws[m0]? = some (f0, w0) → w0 ≤ j0 ∨ ¬ 0 < a.cnt f0) ∧
      ∀ j' ∈ skipped ws.length (m0 + 1) m', ∀ e, ws[j']? = some e → ¬ (0 < e.2 ∧ 0 < a.cnt e.1)) := by
  have hhead : ∀ {P : Nat → Nat → Prop}, (∀ f0 w0, (ws.drop m0)[0]? = some (f0, w0) → P f0 w0) →
      ∀ f0 w0, ws[m0]? = some (f0, w0) → P f0 w0 := by
    intro P hP f0 w0 h0
    exact hP f0 w0 (by rw [List.getElem?_drop]; simpa using h0)
  rcases loop_hit_iff.mp h with h1 | ⟨h1, -, h2⟩
  · obtain ⟨hle, -, -, hc⟩ := firstHit_spec _ _ _ _ _ _ _ h1
    rcases hc with hc | ⟨hlt, hj, hh, hb⟩
    · exact Or.inl hc
    · refine Or.inr ⟨hj, Or.inl (by omega), ?_, ?_⟩
      · intro f0 w0 h0
        have := hhead (P := fun f0 w0 => ¬ (j0 < w0 ∧ 0 < a.cnt f0)) hh f0 w0 h0
        by_cases hw : w0 ≤ j0
        · exact Or.inl hw
        · exact Or.inr (fun hp => this ⟨by omega, hp⟩)
      · intro j' hj' e he
        unfold skipped at hj'
        rw [if_pos (by omega)] at hj'
        have hr := List.mem_range'_1.mp hj'
        exact hb (j' - m0) (by omega) (by omega) e (by rw [getElem?_drop_sub _ _ _ (by omega)]; exact he)
  · obtain ⟨-, hj, ⟨w, g1, gw⟩, g2, g3⟩ := firstHit_spec0 _ _ _ _ _ _ h2
    simp only [Nat.sub_zero] at g1 g3
    obtain ⟨hh, htail⟩ := firstHit_none _ _ _ _ h1
    have hlater : ∀ k, m0 < k → ∀ e, ws[k]? = some e → ¬ (0 < e.2 ∧ 0 < a.cnt e.1) := by
      intro k hk e he
      apply htail e
      rw [List.tail_drop]
      exact List.mem_of_getElem? (by rw [getElem?_drop_sub _ _ _ (show m0 + 1 ≤ k by omega)]; exact he)
    have hle : m' ≤ m0 := by
      by_contra hgt
      exact hlater m' (by omega) _ g1 ⟨gw, g2⟩
    refine Or.inr ⟨hj, ?_, ?_, ?_⟩
    · by_cases hmm : m' = m0
      · right
        intro f0 w0 h0
        subst hmm
        rw [g1] at h0
        simp only [Option.some.injEq, Prod.mk.injEq] at h0
        obtain ⟨rfl, rfl⟩ := h0
        have := hhead (P := fun f0 w0 => ¬ (j0 < w0 ∧ 0 < a.cnt f0)) hh _ _ g1
        by_contra hw
        exact this ⟨by omega, g2⟩
      · exact Or.inl hmm
    · intro f0 w0 h0
      have := hhead (P := fun f0 w0 => ¬ (j0 < w0 ∧ 0 < a.cnt f0)) hh f0 w0 h0
      by_cases hw : w0 ≤ j0
      · exact Or.inl hw
      · exact Or.inr (fun hp => this ⟨by omega, hp⟩)
    · intro j' hj' e he
      unfold skipped at hj'
      rw [if_neg (by omega)] at hj'
      rcases List.mem_append.mp hj' with hm | hm
      · exact hlater j' (by have := (List.mem_range'_1.mp hm).1; omega) e he
      · exact g3 j' (List.mem_range.mp hm) e he

theorem heldH_none {a : A} (h : ∀ g m jj id q0, a.run ≠ .H g m jj id q0) (f : Nat) : heldH flow a f = [] := by
  unfold heldH
  cases hr : a.run with
  | H => exact absurd hr (h _ _ _ _ _)
  | _ => rfl

theorem getD_of_lt (ws : List (Nat × Nat)) {j : Nat} (h : j < ws.length) : ws[j]? = some (ws.getD j (0, 0)) := by
  rw [List.getD_eq_getElem?_getD, List.getElem?_eq_getElem h]; rfl

theorem weightAt_of_ge (ws : List (Nat × Nat)) {j : Nat} (h : ws.length ≤ j) : weightAt ws j = 0 := by
  unfold weightAt
  rw [List.getD_eq_getElem?_getD, List.getElem?_eq_none_iff.mpr h]; rfl

/-- the new configuration after the server has taken the head of `stores[f]`: the oracle does not move -/
theorem oinv_hit (hi : AInv flow F cfg a q.time) (ho : OInv F flow size cfg arrivals a q.time hist o) {m jj f : Nat} {id : Int}
    {is : List Int} (hh : ∀ g m jj id q0, a.run ≠ .H g m jj id q0) (hbusy : o.busy = none)
    (hwc : o.lastOut = some q.time ∨ ∀ f, f < F → ∀ x ∈ o.waiting f, x.2 = q.time)
    (hdec : Decided cfg q.time o m jj) (hf : f < F) (hit : a.items f = id :: is) :
    ∃ o', OInv F flow size cfg arrivals { a with run := .H n m jj id ⟨q.time, NORMAL, e, n⟩, items := upd a.items f is } q.time (hist ++ []) o' := by
  have hfl : flow id = f := hi.flowOK f hf id (by rw [hit]; simp)
  rw [List.append_nil]
  refine ⟨o, ho.run, ?_, ho.wt, ⟨hbusy, hwc, hdec⟩, ho.fut⟩
  intro f' hf'
  have := ho.wq f' hf'
  rw [heldH_none hh] at this
  simp only [heldH, hfl]
  exact this.trans (MQK.take_split hit f')

/-- nothing waits in the store of a flow that is not backlogged while `run` holds no packet -/
theorem waiting_nil_of_cnt (hi : AInv flow F cfg a q.time) (ho : OInv F flow size cfg arrivals a q.time hist o)
    (hh : ∀ g m jj id q0, a.run ≠ .H g m jj id q0) (hheld : a.run.held = none) {f : Nat} (hf : f < F) (hc : ¬ 0 < a.cnt f) :
    o.waiting f = [] :=
  waiting_nil ho hf (heldH_none hh _) (hi.store.empty_of_not_pos hheld hf hc)

/-- what the oracle knows of a decision taken after a transmission (its visit is the loop's resume point) -/
theorem decided_of_loop (hi : AInv flow F cfg a q.time) (ho : OInv F flow size cfg arrivals a q.time hist o)
    (hh : ∀ g m jj id q0, a.run ≠ .H g m jj id q0) (hheld : a.run.held = none) {m' jj' f : Nat}
    (hs : a.loop F cfg.weights o.cm o.cj = .hit m' jj' f) : Decided cfg q.time o m' jj' := by
  obtain ⟨⟨w, hw1, hw2⟩, hpos⟩ := loop_hit_spec hs
  have hmn : m' < cfg.weights.length := (List.getElem?_eq_some_iff.mp hw1).1
  rcases loop_hit_cases hs with ⟨rfl, rfl⟩ | ⟨hj, hne, hov, hsk⟩
  · left
    refine ⟨rfl, rfl, ?_⟩
    have : weightAt cfg.weights o.cm = w := by
      unfold weightAt
      rw [List.getD_eq_getElem?_getD, hw1]; rfl
    rw [this]; exact hw2
  · right
    refine ⟨hj, ?_, ?_, ?_⟩
    · rcases hne with hne | hne
      · exact Or.inl hne
      · by_cases hlt : o.cm < cfg.weights.length
        · exact Or.inr (hne _ _ (getD_of_lt _ hlt))
        · exact Or.inr (by rw [weightAt_of_ge _ (by omega)]; exact Nat.zero_le _)
    · by_cases hlt : o.cm < cfg.weights.length
      · rcases hov _ _ (getD_of_lt _ hlt) with h1 | h1
        · exact Or.inl h1
        · right
          intro x hx
          have hfF : flowAt cfg.weights o.cm < F := entry_lt hi (List.mem_of_getElem? (getD_of_lt _ hlt))
          rw [waiting_nil_of_cnt hi ho hh hheld hfF h1] at hx
          cases hx
      · exact Or.inl (by rw [weightAt_of_ge _ (by omega)]; exact Nat.zero_le _)
    · intro j' hj' x hx
      have hlt := mem_skipped_lt hmn hj'
      have he := getD_of_lt cfg.weights hlt
      have hfF : flowAt cfg.weights j' < F := entry_lt hi (List.mem_of_getElem? he)
      have hnp := hsk j' hj' _ he
      have hwpos := hi.table.2 _ (List.mem_of_getElem? he)
      rw [waiting_nil_of_cnt hi ho hh hheld hfF (fun hp => hnp ⟨hwpos, hp⟩)] at hx
      cases hx

/-- a step with one observation `ev` that the oracle accepts: what is to be said is the new oracle state's queues and what the
new phase knows of it -/
theorem OInv.next {a' : A} {o' : OSt ℚ} {ev : HEv ℚ} (ho : OInv F flow size cfg arrivals a now hist o)
    (hstep : ostep F flow size cfg o ev = some o')
    (hwq : ∀ f, f < F → (o'.waiting f).map (·.1) = heldH flow a' f ++ a'.items f)
    (hwt : ∀ f, f < F → ∀ x ∈ o'.waiting f, x.2 ≤ now) (hph : PhO F size cfg now o' a'.run)
    (hfut : obsPuts [ev] ++ srcFuture now a'.src = srcFuture now a.src := by rfl) :
    ∃ o', OInv F flow size cfg arrivals a' now (hist ++ [ev]) o' :=
  ⟨o', by rw [orun_append, ho.run]; simp only [Option.bind_some, orun, hstep], hwq, hwt, hph,
    by rw [obsPuts_append, List.append_assoc, hfut]; exact ho.fut⟩

/-- a step the oracle does not see: the stores, the packet awaiting its `serve` and what the source still has to do stay -/
theorem OInv.silent {a' : A} (ho : OInv F flow size cfg arrivals a now hist o) (hph : PhO F size cfg now o a'.run)
    (hH : ∀ f, heldH flow a' f = heldH flow a f) (hi : a'.items = a.items := by rfl)
    (hs : srcFuture now a'.src = srcFuture now a.src := by rfl) :
    ∃ o', OInv F flow size cfg arrivals a' now (hist ++ []) o' :=
  ⟨o, by rw [List.append_nil]; exact ⟨ho.run, fun f hf => by rw [hH, hi]; exact ho.wq f hf, ho.wt, hph, hs ▸ ho.fut⟩⟩

/-- the server goes idle (blocks or takes a token) with every store empty: the oracle notes the idle period -/
theorem oinv_idle (ho : OInv F flow size cfg arrivals a q.time hist o) (r : RPhase)
    (hr : (∃ g, r = .W g) ∨ (∃ g q0, r = .K g q0)) (hh : ∀ g m jj id q0, a.run ≠ .H g m jj id q0) (hbusy : o.busy = none)
    (hall : ∀ f, f < F → a.items f = []) (tk : Nat) :
    ∃ o', OInv F flow size cfg arrivals { a with run := r, tokens := tk } q.time (hist ++ [.idle q.time]) o' := by
  have hw : ∀ f, f < F → o.waiting f = [] := fun f hf => waiting_nil ho hf (heldH_none hh f) (hall f hf)
  have hH : ∀ f, heldH flow ({ a with run := r, tokens := tk } : A) f = [] := by
    intro f
    rcases hr with ⟨g, rfl⟩ | ⟨g, q0, rfl⟩ <;> rfl
  have hok : IdleOK F o := by
    refine ⟨by simp [hbusy], ?_⟩
    intro f hf
    rw [hw f (List.mem_range.mp hf)]; rfl
  refine ho.next (o' := { o with cm := 0, cj := 0 }) (by simp [ostep, hok]) (fun f hf => ?_) ho.wt ?_
  · rw [hH f, ← heldH_none hh f]
    exact ho.wq f hf
  · have hemp : ∀ f, f < F → ∀ x ∈ o.waiting f, x.2 = q.time := by
      intro f hf x hx; rw [hw f hf] at hx; cases hx
    rcases hr with ⟨g, rfl⟩ | ⟨g, q0, rfl⟩ <;> exact ⟨hbusy, hemp, rfl, rfl⟩

/-- `setQ` is function update: the queue lemmas of `Lemmas/MQKLts.lean` speak of it -/
theorem setQ_eq (w : Nat → List (Int × ℚ)) (f : Nat) (l : List (Int × ℚ)) : setQ w f l = MQK.upd w f l := rfl

theorem setQ_same (w : Nat → List (Int × ℚ)) (f : Nat) (l : List (Int × ℚ)) : setQ w f l f = l := by simp [setQ]
theorem setQ_ne (w : Nat → List (Int × ℚ)) (f f' : Nat) (l : List (Int × ℚ)) (h : f' ≠ f) : setQ w f l f' = w f' := by
  simp [setQ, h]

/-- the oracle after a `put` -/
theorem oinv_put (ho : OInv F flow size cfg arrivals a q.time hist o) {id : Int}
    {arr : List (ℚ × Int)} (h : a.src = .wait id arr q) (a' : A) (hrun : a'.run = a.run)
    (hitems : a'.items = upd a.items (flow id) (a.items (flow id) ++ [id])) (eid ev : Nat)
    (hsrc : a'.src = srcNext q.time eid ev arr) :
    ∃ o', OInv F flow size cfg arrivals a' q.time (hist ++ [.put id q.time]) o' := by
  have hmem : ∀ f, ∀ x ∈ setQ o.waiting (flow id) (o.waiting (flow id) ++ [(id, q.time)]) f,
      x ∈ o.waiting f ∨ x.2 = q.time := by
    intro f x hx
    rw [setQ_eq] at hx
    exact (MQK.mem_upd_append hx).imp (fun h => h) fun h => by rw [h]
  have hkeep : ∀ {f}, (∀ x ∈ o.waiting f, x.2 = q.time) →
      ∀ x ∈ setQ o.waiting (flow id) (o.waiting (flow id) ++ [(id, q.time)]) f, x.2 = q.time :=
    fun h x hx => (hmem _ x hx).elim (h x) fun h' => h'
  refine ho.next (o' := { o with waiting := setQ o.waiting (flow id) (o.waiting (flow id) ++ [(id, q.time)]) }) rfl
    (fun f hf => ?_) (fun f hf x hx => ?_) ?_ ?_
  · have hH : heldH flow a' f = heldH flow a f := by simp [heldH, hrun]
    rw [hH, hitems]
    exact MQK.map_upd_append (·.1) (flow id) (id, q.time) (ho.wq f hf)
  · exact (hmem f x hx).elim (ho.wt f hf x) (fun h => h ▸ le_refl _)
  · have hph := ho.ph
    rw [hrun]
    cases hr : a.run with
    | init | W | K => rw [hr] at hph; exact ⟨hph.1, fun f hf => hkeep (hph.2.1 f hf), hph.2.2⟩
    | H g m0 j0 id0 q0 =>
      rw [hr] at hph
      exact ⟨hph.1, hph.2.1.imp (fun h => h) fun h f hf => hkeep (h f hf), hph.2.2.imp (fun h => h) fun ⟨g1, g2, g3, g4⟩ =>
        ⟨g1, g2, g3.imp (fun h => h) fun h => hkeep h, fun j' hj' => hkeep (g4 j' hj')⟩⟩
    | S | T | F => rw [hr] at hph; exact hph
  · rw [hsrc, srcFuture_srcNext, h]; rfl

/-- **every configuration step keeps the oracle's invariant**: the observations of the step are accepted -/
theorem oinv_step {a' : A} {new : List (HEv ℚ)} (hi : AInv flow F cfg a q.time)
    (ho : OInv F flow size cfg arrivals a q.time hist o) (hs : AStep F flow size cfg n e a q a' new) :
    ∃ o', OInv F flow size cfg arrivals a' q.time (hist ++ new) o' := by
  have hrun := hi.run
  have hph := ho.ph
  cases hs with
  | runInit h =>
    rw [h] at hph hrun
    exact oinv_idle (size := size) ho (.W n) (Or.inl ⟨n, rfl⟩) (by simp [h]) hph.1 (fun f _ => hrun.2.2.2.2.1 f) a.tokens
  | wakeHit g m' jj' f id is h hs hf hit =>
    rw [h] at hph
    have hs' : a.loop F cfg.weights o.cm o.cj = .hit m' jj' f := by rw [hph.2.2.1, hph.2.2.2]; exact hs
    have hdec := decided_of_loop hi ho (by simp [h]) (by rw [h]; rfl) hs'
    exact (oinv_hit hi ho (by simp [h]) hph.1 (Or.inr hph.2.1) hdec hf hit)
  | wakeBlock g h hs htk | doneBlock p m jj id0 h hs htk =>
    rw [h] at hph
    exact oinv_idle (size := size) ho (.W n) (Or.inl ⟨n, rfl⟩) (by simp [h]) hph.1
      (empty_of_total_zero hi (loop_idle_total hs)) a.tokens
  | wakeTok g t h hs htk | doneTok p m jj id0 t h hs htk =>
    rw [h] at hph
    exact oinv_idle (size := size) ho (.K n ⟨q.time, NORMAL, e, n⟩) (Or.inr ⟨_, _, rfl⟩) (by simp [h]) hph.1
      (empty_of_total_zero hi (loop_idle_total hs)) t
  | pktResume g m jj id h =>
    rw [h] at hph hrun
    obtain ⟨h1, h2, h6⟩ := hph
    have hfid := hrun.2.2.2.1
    obtain ⟨w, hpos, hjw⟩ := hrun.2.2.2.2
    have hmlt : m < cfg.weights.length := (List.getElem?_eq_some_iff.mp hpos).1
    have hidx : posOf cfg.weights (flow id) = m := by
      have hget : (cfg.weights.map (·.1))[m]? = some (flow id) := by simp [hpos]
      have hlt' : m < (cfg.weights.map (·.1)).length := by simpa using hmlt
      have hg : (cfg.weights.map (·.1))[m] = flow id := (List.getElem?_eq_some_iff.mp hget).2
      unfold posOf
      rw [← hg]
      exact List.Nodup.idxOf_getElem (flows_nodup hi) m hlt'
    have hwq := ho.wq (flow id) hfid
    simp only [heldH, h, if_true, List.singleton_append] at hwq
    have hwq' : ∀ f, f < F → (setQ o.waiting (flow id) (o.waiting (flow id)).tail f).map (·.1) = a.items f := fun f hf =>
      MQK.map_upd_tail (w := o.waiting) (fl := flow id) (fun x : Int × ℚ => x.1) hwq fun hff => by
        have := ho.wq f hf
        simp only [heldH, h, Ne.symm hff, if_false, List.nil_append] at this
        exact this
    have hcont : Continues cfg.weights o m ↔ (m = o.cm ∧ jj = o.cj ∧ o.cj < weightAt cfg.weights o.cm) := by
      unfold Continues
      constructor
      · rintro ⟨g1, g2⟩
        rcases h6 with h6 | ⟨-, g3, -⟩
        · exact h6
        · rcases g3 with g3 | g3
          · exact absurd g1 g3
          · omega
      · rintro ⟨g1, -, g3⟩; exact ⟨g1, g3⟩
    have hok : ServeOK F flow cfg.weights o id q.time := by
      refine ⟨by simp [h1], ?_, ⟨by rw [hidx]; exact hmlt, ?_⟩, ?_⟩
      · rw [← List.head?_map, hwq]; rfl
      · rw [hidx]
        rcases h6 with h6 | ⟨-, -, g3, g4⟩
        · exact Or.inl (hcont.mpr h6)
        · right
          refine ⟨?_, ?_⟩
          · rcases g3 with g3 | g3
            · exact Or.inl g3
            · exact Or.inr (fun x hx => by rw [g3 x hx]; exact lt_irrefl _)
          · intro j' hj' x hx
            rw [g4 j' hj' x hx]
            exact lt_irrefl _
      · rcases h2 with h2 | h2
        · left; rw [h2]; exact (eqT_iff _ _).mpr rfl
        · right; intro f hf x hx; exact (eqT_iff _ _).mpr (h2 f (List.mem_range.mp hf) x hx)
    by_cases hc : Continues cfg.weights o m
    · obtain ⟨g1, g2, g3⟩ := hcont.mp hc
      exact ho.next (o' := { o with waiting := setQ o.waiting (flow id) (o.waiting (flow id)).tail, busy := some (id, q.time),
                                    cj := o.cj + 1 })
        (by simp [ostep, hok, hidx, hc]) hwq' (fun f hf x hx => ho.wt f hf x (MQK.mem_upd_tail hx))
        ⟨rfl, g1.symm, by show o.cj + 1 = jj + 1; omega⟩
    · have hj0 : jj = 0 := by
        rcases h6 with h6 | ⟨g1, -⟩
        · exact absurd (hcont.mpr h6) hc
        · exact g1
      exact ho.next (o' := { o with waiting := setQ o.waiting (flow id) (o.waiting (flow id)).tail, busy := some (id, q.time),
                                    cm := posOf cfg.weights (flow id), cj := 1 })
        (by simp [ostep, hok, hidx, hc]) hwq' (fun f hf x hx => ho.wt f hf x (MQK.mem_upd_tail hx))
        ⟨rfl, hidx, by show 1 = jj + 1; omega⟩
  | sendInit p m jj id h =>
    rw [h] at hph
    exact ho.silent ⟨q.time, hph.1, rfl, hph.2⟩ fun f => (heldH_none (by simp [h]) f).symm
  | sendFire p t m jj id h =>
    rw [h] at hph
    obtain ⟨s0, hb, hq0, hcur⟩ := hph
    have hok : OutOK size cfg.rate o id q.time := by
      simp only [OutOK, hb, true_and]
      exact (eqT_iff _ _).mpr hq0
    refine ho.next (o' := { o with busy := none, lastOut := some q.time }) (by simp [ostep, hok]) (fun f hf => ?_) ho.wt ⟨rfl, rfl, hcur⟩
    have := ho.wq f hf
    rw [heldH_none (by simp [h]) f] at this
    exact this
  | doneHit p m jj id0 m' jj' f id is h hs hf hit =>
    rw [h] at hph
    have hs' : a.loop F cfg.weights o.cm o.cj = .hit m' jj' f := by rw [hph.2.2.1, hph.2.2.2]; exact hs
    have hdec := decided_of_loop hi ho (by simp [h]) (by rw [h]; rfl) hs'
    exact (oinv_hit hi ho (by simp [h]) hph.1 (Or.inl hph.2.1) hdec hf hit)
  | srcInit arr h => exact ho.silent ho.ph (fun _ => rfl) (hs := by rw [h, srcFuture_srcNext]; rfl)
  | srcPutTok id arr h htot | srcPutPlain id arr h htot => exact oinv_put ho h _ rfl rfl _ _ rfl
  | srcEnd h => exact ho.silent ho.ph (fun _ => rfl) (hs := by rw [h]; rfl)
  | pendNoop r l1 l2 hpe hno => exact ho.silent ho.ph fun _ => rfl
  | pendHand g t l1 l2 hpe h htk =>
    rw [h] at hph
    exact ho.silent hph fun f => (heldH_none (by simp [h]) f).symm

end WRRK
