import OnlVerif.Lemmas.SchedDRR
/-!
# DRR: the credit of every class stays within `[0, quantum + Lmax)`

`Credit` is the inductive invariant: credits are non-negative; the class whose visit is in progress has less than
`quantum + Lmax`; every other class has credit 0 or a parked head-of-line packet larger than its credit; a class
without backlog has no credit; the packet being sent was affordable.
-/

namespace DRR
open MQ

theorem keys_setKey_present {β : Type} (m : List (Nat × β)) (c : Nat) (v v0 : β) (h : lookup m c = some v0) :
    (setKey m c v).map (·.1) = m.map (·.1) := by
  induction m with
  | nil => simp [lookup] at h
  | cons a r ih =>
    obtain ⟨k1, v1⟩ := a
    by_cases hk : k1 = c
    · simp [setKey, hk]
    · simp only [lookup, hk, if_false] at h
      simp [setKey, hk, ih h]

theorem lookup_of_getElem {β : Type} (m : List (Nat × β)) (hn : (m.map (·.1)).Nodup) (i c : Nat) (v : β)
    (h : m[i]? = some (c, v)) : lookup m c = some v := by
  induction m generalizing i with
  | nil => simp at h
  | cons a r ih =>
    obtain ⟨k1, v1⟩ := a
    simp only [List.map_cons, List.nodup_cons] at hn
    cases i with
    | zero =>
      simp only [List.getElem?_cons_zero, Option.some.injEq, Prod.mk.injEq] at h
      obtain ⟨rfl, rfl⟩ := h
      simp [lookup]
    | succ j =>
      simp only [List.getElem?_cons_succ] at h
      have hmem : c ∈ r.map (·.1) := by
        have := List.mem_of_getElem? h
        exact List.mem_map.mpr ⟨(c, v), this, rfl⟩
      have hne : k1 ≠ c := fun hx => hn.1 (hx ▸ hmem)
      simp only [lookup, hne, if_false]
      exact ih hn.2 j h

theorem mem_of_lookup {β : Type} (m : List (Nat × β)) (c : Nat) (v : β) (h : lookup m c = some v) : (c, v) ∈ m := by
  induction m with
  | nil => simp [lookup] at h
  | cons a r ih =>
    obtain ⟨k1, v1⟩ := a
    by_cases hk : k1 = c
    · simp only [lookup, hk, if_true, Option.some.injEq] at h; subst h; subst hk; simp
    · simp only [lookup, hk, if_false] at h
      exact List.mem_cons_of_mem _ (ih h)

theorem keyAt_congr {k k' : Ctl ℚ} (h : k'.classCount.map (·.1) = k.classCount.map (·.1)) (i : Nat) :
    keyAt k' i = keyAt k i := by
  simp only [keyAt]
  rw [← List.getElem?_map, ← List.getElem?_map, h]

/-- the class whose visit is in progress -/
def curKey (k : Ctl ℚ) : Option Nat :=
  match k.pc with
  | .inner i => keyAt k i
  | .gotPkt i => keyAt k i
  | .sent i => keyAt k i
  | _ => none

theorem curKey_ne {k : Ctl ℚ} {cls c : Nat} (hck : curKey k = some cls) (hc : c ≠ cls) : curKey k ≠ some c :=
  fun hx => hc (Option.some.inj (hck.symm.trans hx)).symm

/-- `p` is the packet of the sender process -/
def inTx (s : St) (p : MPkt) : Prop := s.phase = .spawned p ∨ (∃ d, s.phase = .sending p d) ∨ s.phase = .finished p

theorem inTx_spawn {s : St} {p p' : MPkt} {e : Bool} (h : inTx (spawn s p e) p') : p' = p := by
  rcases h with h | ⟨_, h⟩ | h <;> cases h
  rfl

structure Credit (cfg : Cfg ℚ) (L : ℚ) (s : St) : Prop where
  nodup : (s.ctl.classCount.map (·.1)).Nodup
  nonneg : ∀ cls d, lookup s.ctl.deficit cls = some d → 0 ≤ d
  visited : ∀ cls d q, lookup s.ctl.deficit cls = some d → curKey s.ctl = some cls → quantum cfg cls = some q → d < q + L
  resting : ∀ cls d, lookup s.ctl.deficit cls = some d → curKey s.ctl ≠ some cls →
    d ≤ 0 ∨ ∃ p, lookupD s.hol cls none = some p ∧ d < p.size
  forgot : ∀ cls n d, lookup s.ctl.classCount cls = some n → lookup s.ctl.deficit cls = some d → n ≤ 0 → d ≤ 0
  afford : ∀ i p cls d, s.ctl.pc = .sent i → inTx s p → keyAt s.ctl i = some cls → lookup s.ctl.deficit cls = some d →
    (p.size : ℚ) ≤ d
  holSmall : ∀ c p, lookupD s.hol c none = some p → (p.size : ℚ) ≤ L
  handKey : ∀ c p i, s.phase = .pktHanded c p → s.ctl.pc = .gotPkt i → keyAt s.ctl i = some c
  txClass : ∀ i p, s.ctl.pc = .sent i → inTx s p → classOf cfg p.flow = keyAt s.ctl i ∧ (p.size : ℚ) ≤ L

variable (cfg : Cfg ℚ) (L : ℚ)

theorem credit_move (s s' : St) (h : Credit cfg L s)
    (h1 : s'.ctl.deficit = s.ctl.deficit) (h2 : s'.ctl.classCount = s.ctl.classCount) (h3 : s'.hol = s.hol)
    (h4 : curKey s'.ctl = curKey s.ctl)
    (h5 : ∀ i p, s'.ctl.pc = .sent i → inTx s' p → s.ctl.pc = .sent i ∧ inTx s p)
    (h6 : ∀ c p i, s'.phase = .pktHanded c p → s'.ctl.pc = .gotPkt i → keyAt s'.ctl i = some c) : Credit cfg L s' := by
  refine ⟨by rw [h2]; exact h.nodup, by rw [h1]; exact h.nonneg, ?_, ?_, by rw [h1, h2]; exact h.forgot, ?_,
    by rw [h3]; exact h.holSmall, h6, ?_⟩
  · rw [h1, h4]; exact h.visited
  · rw [h1, h3, h4]; exact h.resting
  · intro i p cls d hpc htx hk hd
    obtain ⟨hpc', htx'⟩ := h5 i p hpc htx
    have hk' : keyAt s.ctl i = some cls := by unfold keyAt at hk ⊢; rwa [h2] at hk
    exact h.afford i p cls d hpc' htx' hk' (by rw [← h1]; exact hd)
  · intro i p hpc htx
    obtain ⟨hpc', htx'⟩ := h5 i p hpc htx
    have := h.txClass i p hpc' htx'
    unfold keyAt at this ⊢
    rwa [h2]

/-- the loop sends the packet `p` of the class in progress, affordable and of size at most `L`; `hol'` are the parked
packets afterwards: those of the other classes unchanged, none of them larger than `L` -/
theorem credit_spawn (s : St) (h : Credit cfg L s) (i cls : Nat) (d : ℚ) (p : MPkt) (hol' : List (Nat × Option MPkt))
    (hkey : keyAt s.ctl i = some cls) (hck : curKey s.ctl = some cls) (hd : lookup s.ctl.deficit cls = some d)
    (hcl : classOf cfg p.flow = some cls) (hle : (p.size : ℚ) ≤ d) (hpL : (p.size : ℚ) ≤ L)
    (hne : ∀ c, c ≠ cls → lookupD hol' c none = lookupD s.hol c none)
    (hsm : ∀ c q, lookupD hol' c none = some q → (q.size : ℚ) ≤ L) :
    Credit cfg L (spawn { s with ctl := { s.ctl with pc := .sent i }, hol := hol' } p true) := by
  refine ⟨h.nodup, h.nonneg, ?_, ?_, h.forgot, ?_, hsm, fun c p i hx _ => (by cases hx), ?_⟩
  rotate_right
  · intro i' p' hx htx
    cases hx
    cases inTx_spawn htx
    exact ⟨by rw [hcl]; exact hkey.symm, hpL⟩
  · intro c d' q hd' hk hqq
    exact h.visited c d' q hd' (hck.trans (hkey.symm.trans hk)) hqq
  · intro c d' hd' hk
    have hc : c ≠ cls := fun hx => hk (hx ▸ hkey)
    rcases h.resting c d' hd' (curKey_ne hck hc) with h1 | ⟨p', hp', h1⟩
    · exact Or.inl h1
    · exact Or.inr ⟨p', (hne c hc).trans hp', h1⟩
  · intro i' p' c d' hx htx hk hd'
    cases hx
    cases inTx_spawn htx
    cases Option.some.inj (hkey.symm.trans hk)
    cases hd.symm.trans hd'
    exact hle

/-- the loop parks the unaffordable packet `p` of the class in progress and moves on; `hol'` are the parked packets
afterwards: `p` for that class, those of the other classes unchanged -/
theorem credit_park (s : St) (h : Credit cfg L s) (i cls : Nat) (d : ℚ) (p : MPkt) (ph : Phase ℚ)
    (hol' : List (Nat × Option MPkt)) (hck : curKey s.ctl = some cls) (hd : lookup s.ctl.deficit cls = some d)
    (hle : ¬ (p.size : ℚ) ≤ d) (hpL : (p.size : ℚ) ≤ L) (hcls : lookupD hol' cls none = some p)
    (hne : ∀ c, c ≠ cls → lookupD hol' c none = lookupD s.hol c none) :
    Credit cfg L { s with phase := ph, ctl := { s.ctl with pc := .visit (i + 1) }, hol := hol' } := by
  refine ⟨h.nodup, h.nonneg, ?_, ?_, h.forgot, fun i p cls d hx => (by cases hx), ?_, fun c p i _ hx => (by cases hx),
    fun i p hx => (by cases hx)⟩
  · intro c d' q _ hk; simp [curKey] at hk
  · intro c d' hd' _
    by_cases hc : c = cls
    · subst hc
      cases hd.symm.trans (hd' : lookup s.ctl.deficit c = some d')
      exact Or.inr ⟨p, hcls, not_le.mp hle⟩
    · rcases h.resting c d' hd' (curKey_ne hck hc) with h1 | ⟨p', hp', h1⟩
      · exact Or.inl h1
      · exact Or.inr ⟨p', (hne c hc).trans hp', h1⟩
  · intro c p' hp'
    by_cases hc : c = cls
    · subst hc
      cases hcls.symm.trans hp'
      exact hpL
    · exact h.holSmall c p' ((hne c hc).symm.trans hp')

variable (hL : 0 < L) (hq : ∀ cls q, quantum cfg cls = some q → 0 < q)
include hL hq

theorem dsettles_credit (s s' : St) (hs : DSettles cfg s s') (h : Credit cfg L s) : Credit cfg L s' := by
  induction hs with
  | topGo s s' hpc _ _ ih | topSpin s s' hpc _ _ _ ih | roundEnd s _ s' hpc _ _ ih =>
    apply ih
    exact credit_move cfg L s _ h rfl rfl rfl (by simp [curKey, hpc]) (fun i p hx _ => (by cases hx)) (fun c p i _ hx => (by cases hx))
  | topBlock s hpc ht =>
    obtain ⟨n, ph, hph, e⟩ := blockOnToken_eq ({ s with ctl := { s.ctl with pc := Pc.top } } : St)
    rw [e]
    exact credit_move cfg L s _ h rfl rfl rfl (by simp [curKey, hpc]) (fun i p hx _ => (by cases hx))
      (fun c p i hx _ => (by rcases hph with rfl | rfl <;> cases hx))
  | visitAdd s i cls n d q s' hpc hcc hn hd hqq _ ih =>
    apply ih
    have hck : curKey s.ctl = none := by simp [curKey, hpc]
    have hkey : keyAt s.ctl i = some cls := by simp [keyAt, hcc]
    have hcn : lookup s.ctl.classCount cls = some n := lookup_of_getElem _ h.nodup i cls n hcc
    refine ⟨h.nodup, ?_, ?_, ?_, ?_, fun i p cls d hx => (by cases hx), h.holSmall, fun c p i _ hx => (by cases hx), fun i p hx => (by cases hx)⟩
    · intro c d' hd'
      rcases lookup_setKey_some hd' with ⟨rfl, rfl⟩ | ⟨_, hd'⟩
      · exact add_nonneg (h.nonneg c d hd) (hq c q hqq).le
      · exact h.nonneg c d' hd'
    · intro c d' q' hd' hk hq'
      cases Option.some.inj (hkey.symm.trans hk)
      rcases lookup_setKey_some hd' with ⟨_, rfl⟩ | ⟨hc, _⟩
      · cases hqq.symm.trans hq'
        rw [add_comm q L]
        rcases h.resting cls d hd (by rw [hck]; simp) with h1 | ⟨p, hp, h1⟩
        · exact add_lt_add_left (lt_of_le_of_lt h1 hL) q
        · exact add_lt_add_left (lt_of_lt_of_le h1 (h.holSmall cls p hp)) q
      · exact absurd rfl hc
    · intro c d' hd' hk
      rcases lookup_setKey_some hd' with ⟨rfl, _⟩ | ⟨_, hd'⟩
      · exact absurd hkey hk
      · exact h.resting c d' hd' (by rw [hck]; simp)
    · intro c n' d' hn' hd' hle
      rcases lookup_setKey_some hd' with ⟨rfl, _⟩ | ⟨_, hd'⟩
      · cases hcn.symm.trans hn'; omega
      · exact h.forgot c n' d' hn' hd' hle
  | visitSkip s i cls n s' hpc hcc hn _ ih =>
    apply ih
    have hck : curKey s.ctl = none := by simp [curKey, hpc]
    have hkey : keyAt s.ctl i = some cls := by simp [keyAt, hcc]
    refine ⟨h.nodup, h.nonneg, ?_, ?_, h.forgot, fun i p cls d hx => (by cases hx), h.holSmall, fun c p i _ hx => (by cases hx), fun i p hx => (by cases hx)⟩
    · intro c d q hd hk hqq
      rcases h.resting c d hd (by rw [hck]; simp) with h1 | ⟨p, hp, h1⟩
      · exact lt_of_le_of_lt h1 (add_pos (hq c q hqq) hL)
      · exact lt_trans (lt_of_lt_of_le h1 (h.holSmall c p hp)) (lt_add_of_pos_left L (hq c q hqq))
    · intro c d hd hk
      exact h.resting c d hd (by rw [hck]; simp)
  | innerExit s i cls n d s' hpc hcc hd hcond _ ih =>
    apply ih
    have hkey : keyAt s.ctl i = some cls := by simp [keyAt, hcc]
    have hck : curKey s.ctl = some cls := by simp [curKey, hpc, hkey]
    have hcn : lookup s.ctl.classCount cls = some n := lookup_of_getElem _ h.nodup i cls n hcc
    refine ⟨h.nodup, h.nonneg, ?_, ?_, h.forgot, fun i p cls d hx => (by cases hx), h.holSmall, fun c p i _ hx => (by cases hx), fun i p hx => (by cases hx)⟩
    · intro c d' q _ hk; simp [curKey] at hk
    · intro c d' hd' _
      by_cases hc : c = cls
      · subst hc
        rw [hd] at hd'; cases hd'
        left
        by_cases hdp : 0 < d
        · have : ¬ 0 < n := fun hx => hcond ⟨hdp, hx⟩
          exact h.forgot c n d hcn hd (not_lt.mp this)
        · exact not_lt.mp hdp
      · exact h.resting c d' hd' (curKey_ne hck hc)
  | innerGet s i cls n d s' hpc hcc hd hdp hnp hhol hg =>
    have hkey : keyAt s.ctl i = some cls := by simp [keyAt, hcc]
    obtain ⟨p, rest, _, rfl⟩ := issueGet_ok hg
    refine credit_move cfg L s _ h rfl rfl rfl (by simp [curKey, hpc, keyAt]) (fun i p hx _ => (by cases hx)) ?_
    intro c p i' hph hx
    cases hph; cases hx
    exact hkey
  | takeSend s i cls n d p hpc hcc hd hdp hnp hhol hcl hle =>
    have hkey : keyAt s.ctl i = some cls := by simp [keyAt, hcc]
    refine credit_spawn cfg L s h i cls d p _ hkey (by simp [curKey, hpc, hkey]) hd hcl hle (h.holSmall cls p hhol)
      (fun c hc => lookupD_setKey_ne _ _ _ _ _ hc) (fun c q hq => ?_)
    rw [lookupD_setKey] at hq
    split at hq
    · cases hq
    · exact h.holSmall c q hq
  | takePark s i cls n d p s' hpc hcc hd hdp hnp hhol hcl hle _ ih =>
    have hkey : keyAt s.ctl i = some cls := by simp [keyAt, hcc]
    exact ih (credit_park cfg L s h i cls d p s.phase _ (by simp [curKey, hpc, hkey]) hd hle (h.holSmall cls p hhol)
      (lookupD_setKey_same _ _ _ _)
      (fun c hc => (lookupD_setKey_ne _ _ _ _ _ hc).trans (lookupD_setKey_ne _ _ _ _ _ hc)))

theorem dtrans_credit (s s' : St) (a : MAct ℚ) (o : MOut ℚ) (ht : DTrans cfg s a s' o) (h : Credit cfg L s)
    (hsz : ∀ c p, s.phase = .pktHanded c p → (p.size : ℚ) ≤ L) : Credit cfg L s' := by
  cases ht with
  | init _ hp hs | wake _ hp hs =>
    apply dsettles_credit cfg L hL hq _ s' hs
    exact credit_move cfg L s _ h rfl rfl rfl rfl
      (fun i p _ htx => (by rcases htx with h1 | ⟨_, h1⟩ | h1 <;> cases h1)) (fun c p i hx _ => (by cases hx))
  | put p cls n hcl hn =>
    obtain ⟨m, _, e⟩ :=
      put_eq ({ s with ctl := { s.ctl with classCount := setKey s.ctl.classCount cls (n + 1) } } : St) p cls
    rw [e]
    have hkeys := keys_setKey_present s.ctl.classCount cls (n + 1) n hn
    have hka : ∀ i, keyAt ({ s.ctl with classCount := setKey s.ctl.classCount cls (n + 1) } : Ctl ℚ) i = keyAt s.ctl i :=
      keyAt_congr hkeys
    have hck : curKey ({ s.ctl with classCount := setKey s.ctl.classCount cls (n + 1) } : Ctl ℚ) = curKey s.ctl := by
      simp only [curKey]; split <;> simp only [hka]
    refine ⟨hkeys ▸ h.nodup, h.nonneg, fun c d q hd hk => h.visited c d q hd (hck ▸ hk),
      fun c d hd hk => h.resting c d hd (hck ▸ hk), ?_, fun i q c d hpc htx hk hd => h.afford i q c d hpc htx (hka i ▸ hk) hd,
      h.holSmall, fun c q i hx hpc => (hka i).symm ▸ h.handKey c q i hx hpc,
      fun i q hpc htx => (hka i).symm ▸ h.txClass i q hpc htx⟩
    intro c n' d hn' hd hle
    rcases lookup_setKey_some hn' with ⟨rfl, rfl⟩ | ⟨_, hn'⟩
    · exact h.forgot c n d hn hd (by omega)
    · exact h.forgot c n' d hn' hd hle
  | tokenHandoff n hp htk =>
    exact credit_move cfg L s _ h rfl rfl rfl rfl
      (fun i p _ htx => (by rcases htx with h1 | ⟨_, h1⟩ | h1 <;> cases h1)) (fun c p i hx _ => (by cases hx))
  | resumeSend cls p i d hp hpc hd hcl hle =>
    have hkey := h.handKey cls p i hp hpc
    exact credit_spawn cfg L s h i cls d p s.hol hkey (by simp [curKey, hpc, hkey]) hd hcl hle (hsz cls p hp)
      (fun _ _ => rfl) h.holSmall
  | resumePark cls p i d _ hp hpc hd hcl hle hnone hs =>
    have hkey := h.handKey cls p i hp hpc
    exact dsettles_credit cfg L hL hq _ s' hs (credit_park cfg L s h i cls d p .running _ (by simp [curKey, hpc, hkey])
      hd hle (hsz cls p hp) (lookupD_setKey_same _ _ _ _) (fun c hc => lookupD_setKey_ne _ _ _ _ _ hc))
  | sendInit p hp =>
    refine credit_move cfg L s _ h rfl rfl rfl rfl (fun i q hpc htx => ⟨hpc, ?_⟩) (fun c p i hx _ => (by cases hx))
    rcases htx with h1 | ⟨_, h1⟩ | h1 <;> cases h1
    exact .inl hp
  | sendFire p due hp hnow =>
    refine credit_move cfg L s _ h rfl rfl rfl rfl (fun i q hpc htx => ⟨hpc, ?_⟩) (fun c p i hx _ => (by cases hx))
    rcases htx with h1 | ⟨_, h1⟩ | h1 <;> cases h1
    exact .inr (.inl ⟨due, hp⟩)
  | sendDone p i cls n d _ hp hpc hcc hd hs =>
    apply dsettles_credit cfg L hL hq _ s' hs
    have hkey : keyAt s.ctl i = some cls := by simp [keyAt, hcc]
    have hck : curKey s.ctl = some cls := by simp [curKey, hpc, hkey]
    have hcn : lookup s.ctl.classCount cls = some n := lookup_of_getElem _ h.nodup i cls n hcc
    have hle : (p.size : ℚ) ≤ d := h.afford i p cls d hpc (Or.inr (Or.inr hp)) hkey hd
    have hd0 := h.nonneg cls d hd
    have hp0 : (0 : ℚ) ≤ p.size := Nat.cast_nonneg _
    have hkeys : (book s.ctl cls d n p).classCount.map (·.1) = s.ctl.classCount.map (·.1) := by
      rw [book_classCount]; exact keys_setKey_present _ _ _ _ hcn
    have hka : keyAt ({ book s.ctl cls d n p with pc := Pc.inner i } : Ctl ℚ) i = some cls := (keyAt_congr hkeys i).trans hkey
    refine ⟨hkeys ▸ h.nodup, ?_, ?_, ?_, ?_, fun i p cls d hx => (by cases hx), h.holSmall, fun c p i hx _ => (by cases hx), fun i p hx => (by cases hx)⟩
    · intro c d' hd'
      dsimp only at hd'
      rw [book_deficit] at hd'
      rcases lookup_setKey_some hd' with ⟨rfl, rfl⟩ | ⟨_, hd'⟩
      · split
        · exact le_refl 0
        · exact sub_nonneg.mpr hle
      · exact h.nonneg c d' hd'
    · intro c d' q hd' hk hqq
      cases Option.some.inj (hka.symm.trans hk)
      dsimp only at hd'
      rw [book_deficit, lookup_setKey_same] at hd'
      cases hd'
      have := h.visited cls d q hd hck hqq
      split
      · exact lt_of_le_of_lt hd0 this
      · exact lt_of_le_of_lt (sub_le_self d hp0) this
    · intro c d' hd' hk
      have hc : c ≠ cls := fun hx => hk (hx ▸ hka)
      dsimp only at hd'
      rw [book_deficit, lookup_setKey_ne _ _ _ _ hc] at hd'
      exact h.resting c d' hd' (curKey_ne hck hc)
    · intro c n' d' hn' hd' hle'
      dsimp only at hn' hd'
      rw [book_classCount] at hn'
      rw [book_deficit] at hd'
      rcases lookup_setKey_some hn' with ⟨rfl, rfl⟩ | ⟨hc, hn'⟩
      · rw [lookup_setKey_same] at hd'
        cases hd'
        split
        · exact le_refl 0
        · exact le_trans (sub_le_self d hp0) (h.forgot c n d hcn hd (by omega))
      · rw [lookup_setKey_ne _ _ _ _ hc] at hd'
        exact h.forgot c n' d' hn' hd' hle'
  | tickIdle | tickBusy =>
    exact ⟨h.nodup, h.nonneg, h.visited, h.resting, h.forgot, h.afford, h.holSmall, h.handKey, h.txClass⟩
  | sample inc => exact h

end DRR
