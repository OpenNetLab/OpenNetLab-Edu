import OnlVerif.Lemmas.KernelStep
import OnlVerif.Lemmas.ResStep
/-! # Order of processing along whole runs (C01) -/

namespace Once
variable {σ : Type}
open QEntry

theorem step_agenda (body : σ → Resume → Burst ℚ σ) (fuel : Nat) (s s' : KState ℚ σ) (h : AgendaWF s)
    (hs : (step body fuel s).state? = some s') :
    AgendaWF s' ∧ s.eid ≤ s'.eid ∧ ∀ x ∈ s'.agenda, x ∈ s.agenda ∨ s.eid ≤ x.eid := by
  obtain ⟨q, rest, hq, hx⟩ := step_shape body fuel s s' hs
  have ho := openEvent_wf s q rest h hq
  have sp := popMin_spec _ _ _ hq
  refine ⟨ho.1.ext hx, hx.eid_le, ?_⟩
  obtain ⟨new, ha, hp⟩ := hx.grows
  intro x hxm
  rw [ha] at hxm
  rcases List.mem_append.mp hxm with hm | hm
  · exact Or.inr (hp x hm).2.1
  · exact Or.inl (sp.1.symm.subset (List.mem_cons_of_mem _ hm))

theorem reach_agenda (body : σ → Resume → Burst ℚ σ) (fuel : Nat) (s s2 : KState ℚ σ) (h : AgendaWF s)
    (hr : KReach body fuel s s2) :
    AgendaWF s2 ∧ s.eid ≤ s2.eid ∧ ∀ x ∈ s2.agenda, x ∈ s.agenda ∨ s.eid ≤ x.eid := by
  induction hr with
  | init => exact ⟨h, Nat.le_refl _, fun x hx => Or.inl hx⟩
  | step _ hs ih =>
    obtain ⟨h1, h2, h3⟩ := ih
    obtain ⟨k1, k2, k3⟩ := step_agenda body fuel _ _ h1 hs
    refine ⟨k1, Nat.le_trans h2 k2, ?_⟩
    intro x hx
    rcases k3 x hx with hm | hm
    · exact h3 x hm
    · exact Or.inr (Nat.le_trans h2 hm)

theorem reach_now_mono (body : σ → Resume → Burst ℚ σ) (fuel : Nat) (s s2 : KState ℚ σ) (h : AgendaWF s)
    (hr : KReach body fuel s s2) : s.now ≤ s2.now := by
  induction hr with
  | init => exact le_refl _
  | step hr' hs ih =>
    have hw := (reach_agenda body fuel s _ h hr').1
    obtain ⟨q, rest, hq, hx⟩ := step_shape body fuel _ _ hs
    have ho := openEvent_wf _ q rest hw hq
    exact le_trans ih (by rw [hx.now_eq]; exact ho.2)

/-- **processing order**: if a step pops entry `qi` and a later step pops entry `qj`, then `qi` comes strictly before
`qj` in `(time, priority, eid)` order — unless `qj` was pushed only after `qi` had been popped -/
theorem processed_order (body : σ → Resume → Burst ℚ σ) (fuel : Nat) (s0 s s' s2 : KState ℚ σ) (h0 : AgendaWF s0)
    (hr : KReach body fuel s0 s) (qi : QEntry ℚ) (resti : List (QEntry ℚ)) (hqi : popMin s.agenda = some (qi, resti))
    (hs : (step body fuel s).state? = some s') (hr2 : KReach body fuel s' s2)
    (qj : QEntry ℚ) (restj : List (QEntry ℚ)) (hqj : popMin s2.agenda = some (qj, restj)) :
    KeyLt qi qj ∨ (qj ∉ s.agenda ∧ s.eid ≤ qj.eid) := by
  have hw : AgendaWF s := (reach_agenda body fuel s0 s h0 hr).1
  obtain ⟨q, rest, hq, hx⟩ := step_shape body fuel s s' hs
  rw [hqi] at hq
  cases hq
  have sp := popMin_spec _ _ _ hqi
  have hw' : AgendaWF s' := (openEvent_wf s qi resti hw hqi).1.ext hx
  obtain ⟨new, ha, hp⟩ := hx.grows
  have hnew : ∀ x, s.eid ≤ x.eid → x ∉ s.agenda := fun x hle hm => Nat.lt_irrefl _ (Nat.lt_of_lt_of_le (hw.eid_lt x hm) hle)
  have hqjm : qj ∈ s2.agenda := (popMin_spec _ _ _ hqj).1.symm.subset List.mem_cons_self
  have hd := (List.Perm.pairwise_iff (R := fun a b : QEntry ℚ => a.eid ≠ b.eid) (fun {a b} h => h.symm) sp.1).mp hw.distinct
  rcases (reach_agenda body fuel s' s2 hw' hr2).2.2 qj hqjm with hm | hm
  · rw [ha] at hm
    rcases List.mem_append.mp hm with hm | hm
    · exact Or.inr ⟨hnew qj (hp qj hm).2.1, (hp qj hm).2.1⟩
    · -- `qj` was pending when `qi` was popped: the pop is the strict minimum
      left
      have hne : qi.eid ≠ qj.eid := (List.pairwise_cons.mp hd).1 qj hm
      rcases KeyLt.total hne with h1 | h1
      · exact h1
      · exact absurd h1 (sp.2 qj hm)
  · have : s.eid ≤ qj.eid := Nat.le_trans hx.eid_le hm
    exact Or.inr ⟨hnew qj this, this⟩

end Once
