import OnlVerif.Lemmas.SplitWFDefs
import OnlVerif.Lemmas.SplitFuel
import OnlVerif.Lemmas.SplitTime
import OnlVerif.Lemmas.OnceAccess
/-!
# Well-scoped states: monotonicity of the bound, and the leaf updates (C03, stage 3)

`SB I n s` is a pure bound ("every id mentioned in `s` is `< n`"): it is monotone in `n`, and every leaf update of the model
keeps it as long as the ids it writes are `< n`.
-/

variable {σ : Type}

namespace SplitWF

theorem valBelow.mono {n m : Nat} {v : Val} (h : valBelow n v) (hnm : n ≤ m) : valBelow m v := by
  cases v <;> simp only [valBelow] at h ⊢
  case ev e => exact Nat.lt_of_lt_of_le h hnm
  case cv keys => intro k hk; exact Nat.lt_of_lt_of_le (h k hk) hnm
  case preempted b r res => exact ⟨fun p hp => Nat.lt_of_lt_of_le (h.1 p hp) hnm, Nat.lt_of_lt_of_le h.2 hnm⟩

theorem excBelow.mono {n m : Nat} {x : Exc} (h : excBelow n x) (hnm : n ≤ m) : excBelow m x :=
  fun v hv => (h v hv).mono hnm

theorem outBelow.mono {n m : Nat} {o : Outcome} (h : outBelow n o) (hnm : n ≤ m) : outBelow m o := by
  cases o with
  | ok v => exact valBelow.mono h hnm
  | fail x => exact excBelow.mono h hnm

theorem cbBelow.mono {n m : Nat} {cb : Cb} (h : cbBelow n cb) (hnm : n ≤ m) : cbBelow m cb := by
  cases cb <;> simp only [cbBelow] at h ⊢ <;> exact Nat.lt_of_lt_of_le h hnm

theorem kindBelow.mono {n m i : Nat} {k : Kind} (h : kindBelow n i k) (hnm : n ≤ m) : kindBelow m i k := by
  cases k <;> simp only [kindBelow] at h ⊢ <;> first | exact Nat.lt_of_lt_of_le h hnm | exact h

theorem reqBelow.mono {n m : Nat} {rq : ReqData ℚ} (h : reqBelow n rq) (hnm : n ≤ m) : reqBelow m rq :=
  ⟨fun p hp => Nat.lt_of_lt_of_le (h.1 p hp) hnm, Nat.lt_of_lt_of_le h.2 hnm⟩

theorem recBelow.mono {n m i : Nat} {r : EvRec ℚ} (h : recBelow n i r) (hnm : n ≤ m) : recBelow m i r :=
  ⟨h.kind.mono hnm, fun l hl cb hcb => (h.cbs l hl cb hcb).mono hnm, fun o ho => (h.out o ho).mono hnm,
    fun rq hrq => (h.req rq hrq).mono hnm⟩

theorem resBelow.mono {n m : Nat} {x : ResRec} (h : resBelow n x) (hnm : n ≤ m) : resBelow m x :=
  ⟨fun e he => Nat.lt_of_lt_of_le (h.putQ e he) hnm, fun e he => Nat.lt_of_lt_of_le (h.getQ e he) hnm,
    fun e he => Nat.lt_of_lt_of_le (h.users e he) hnm⟩

theorem resumeBelow.mono {n m : Nat} {r : Resume} (h : resumeBelow n r) (hnm : n ≤ m) : resumeBelow m r := by
  cases r with
  | start => trivial
  | value v => exact valBelow.mono h hnm
  | exc x => exact excBelow.mono h hnm

theorem replyBelow.mono {n m : Nat} {r : Reply} (h : replyBelow n r) (hnm : n ≤ m) : replyBelow m r := by
  cases r with
  | ev e => exact Nat.lt_of_lt_of_le h hnm
  | unit => trivial
  | err x => exact excBelow.mono h hnm
  | val v => exact valBelow.mono h hnm

theorem obsBelow.mono {n m : Nat} {o : Obs ℚ} (h : obsBelow n o) (hnm : n ≤ m) : obsBelow m o := by
  cases o <;> simp only [obsBelow] at h ⊢
  case resumed p r t => exact ⟨Nat.lt_of_lt_of_le h.1 hnm, h.2.mono hnm⟩
  case log p w v t => exact ⟨Nat.lt_of_lt_of_le h.1 hnm, h.2.mono hnm⟩
  case probe tag e o t => exact ⟨Nat.lt_of_lt_of_le h.1 hnm, h.2.mono hnm⟩
  case callErr p x t => exact ⟨Nat.lt_of_lt_of_le h.1 hnm, h.2.mono hnm⟩
  case ended p o t => exact ⟨Nat.lt_of_lt_of_le h.1 hnm, h.2.mono hnm⟩

theorem termBelow.mono {I : IdSt σ} {n m : Nat} {t : Term σ} (h : termBelow I n t) (hnm : n ≤ m) : termBelow I m t := by
  cases t with
  | yielded e st => exact ⟨Nat.lt_of_lt_of_le h.1 hnm, I.mono h.2 hnm⟩
  | returned v => exact valBelow.mono h hnm
  | raised x => exact excBelow.mono h hnm

variable {I : IdSt σ} {n : Nat} {s : KState ℚ σ}

theorem SB.mono {m : Nat} (h : SB I n s) (hnm : n ≤ m) : SB I m s where
  events i := (h.events i).mono hnm
  agenda q hq := Nat.lt_of_lt_of_le (h.agenda q hq) hnm
  procs pr hpr := ⟨Nat.lt_of_lt_of_le (h.procs pr hpr).1 hnm,
    fun t ht => Nat.lt_of_lt_of_le ((h.procs pr hpr).2.1 t ht) hnm, I.mono (h.procs pr hpr).2.2 hnm⟩
  active p hp := Nat.lt_of_lt_of_le (h.active p hp) hnm
  trace o ho := (h.trace o ho).mono hnm
  shared kv hkv := (h.shared kv hkv).mono hnm
  resources r := (h.resources r).mono hnm

theorem WS.of_le {s' : KState ℚ σ} (h : SB I n s') (hn : n ≤ s'.events.size) : WS I s' := h.mono hn

theorem recBelow_default (n i : Nat) : recBelow n i (default : EvRec ℚ) :=
  ⟨trivial, fun l hl => (by cases hl), fun o ho => (by cases ho), fun rq hrq => (by cases hrq)⟩

theorem recBelow_mk {n i : Nat} {k : Kind} {l : List Cb} {o : Option Outcome} {rq : Option (ReqData ℚ)} {d : Bool} {c lb : Nat}
    (hk : kindBelow n i k) (hl : ∀ cb ∈ l, cbBelow n cb) (ho : ∀ x, o = some x → outBelow n x)
    (hrq : ∀ x, rq = some x → reqBelow n x) : recBelow n i ⟨k, some l, o, d, c, lb, rq⟩ :=
  ⟨hk, fun _ h => Option.some.inj h ▸ hl, ho, hrq⟩

theorem recBelow_fresh (n i : Nat) (k : Kind) (hk : kindBelow n i k) (o : Option Outcome) (ho : ∀ x, o = some x → outBelow n x) :
    recBelow n i { kind := k, cbs := some [], out := o } :=
  recBelow_mk hk (fun _ h => nomatch h) ho (fun _ h => nomatch h)

theorem excBelow_runtimeErr (n : Nat) (m : String) : excBelow n (runtimeErr m) := by
  intro v hv
  simp only [runtimeErr, List.mem_singleton] at hv
  subst hv; trivial

theorem excBelow_valueErr (n : Nat) (m : String) : excBelow n (valueErr m) := by
  intro v hv
  simp only [valueErr, List.mem_singleton] at hv
  subst hv; trivial

theorem excBelow_attrErr (n : Nat) : excBelow n attrErr := by
  intro v hv
  simp [attrErr] at hv

theorem SB.setEv (h : SB I n s) (e : EvId) (r : EvRec ℚ) (hr : recBelow n e r) : SB I n (s.setEv e r) where
  __ := h
  events i := by
    rw [KState.ev_setEv]
    split
    · rename_i hc; rw [hc.1]; exact hr
    · exact h.events i

theorem SB.setOut (h : SB I n s) (e : EvId) (o : Outcome) (ho : outBelow n o) : SB I n (s.setOut e o) :=
  h.setEv e _ ⟨(h.events e).kind, (h.events e).cbs, fun o' ho' => by cases ho'; exact ho, (h.events e).req⟩

theorem SB.defuse (h : SB I n s) (e : EvId) : SB I n (s.defuse e) :=
  h.setEv e _ ⟨(h.events e).kind, (h.events e).cbs, (h.events e).out, (h.events e).req⟩

theorem SB.bumpCount (h : SB I n s) (e : EvId) : SB I n (s.bumpCount e) :=
  h.setEv e _ ⟨(h.events e).kind, (h.events e).cbs, (h.events e).out, (h.events e).req⟩

theorem SB.setUsage (h : SB I n s) (e : EvId) : SB I n (s.setUsage e) := by
  refine h.setEv e _ ⟨(h.events e).kind, (h.events e).cbs, (h.events e).out, ?_⟩
  intro rq hrq
  obtain ⟨rq0, hq, rfl⟩ := Option.map_eq_some_iff.mp hrq
  exact (h.events e).req rq0 hq

theorem SB.eraseCb (h : SB I n s) (e : EvId) (cb : Cb) : SB I n (s.eraseCb e cb) := by
  refine h.setEv e _ ⟨(h.events e).kind, ?_, (h.events e).out, (h.events e).req⟩
  intro l hl cb' hcb'
  obtain ⟨l0, hc, rfl⟩ := Option.map_eq_some_iff.mp hl
  exact (h.events e).cbs l0 hc cb' (List.mem_of_mem_erase hcb')

theorem SB.addCb (h : SB I n s) (e : EvId) (cb : Cb) (hcb : cbBelow n cb) : SB I n (s.addCb e cb) := by
  unfold KState.addCb
  refine h.setEv e _ ⟨(h.events e).kind, ?_, (h.events e).out, (h.events e).req⟩
  intro l hl cb' hcb'
  obtain ⟨l0, hc, rfl⟩ := Option.map_eq_some_iff.mp hl
  rcases List.mem_append.mp hcb' with hm | hm
  · exact (h.events e).cbs l0 hc cb' hm
  · rw [List.mem_singleton] at hm; subst hm; exact hcb

theorem SB.newEv (h : SB I n s) (r : EvRec ℚ) (hr : recBelow n s.events.size r) : SB I n (s.newEv r).1 where
  __ := h
  events i := by
    rw [KState.ev_newEv]
    split
    · rename_i hc; rw [hc]; exact hr
    · exact h.events i

theorem SB.newLabelled (h : SB I n s) (r : EvRec ℚ) (hr : recBelow n s.events.size r) : SB I n (s.newLabelled r).1 where
  __ := h
  events i := by
    rw [KState.ev_newLabelled]
    split
    · rename_i hc; rw [hc]; exact ⟨hr.kind, hr.cbs, hr.out, hr.req⟩
    · exact h.events i

theorem SB.schedule (h : SB I n s) (e : EvId) (p : Nat) (d : ℚ) (he : e < n) : SB I n (s.schedule e p d) where
  events := h.events
  agenda q hq := by
    rcases List.mem_cons.mp hq with rfl | hq
    · exact he
    · exact h.agenda q hq
  procs := h.procs
  active := h.active
  trace := h.trace
  shared := h.shared
  resources := h.resources

theorem SB.scheduleAt (h : SB I n s) (e : EvId) (p : Nat) (t : ℚ) (he : e < n) : SB I n (s.scheduleAt e p t) where
  __ := h
  agenda q hq := by
    rcases List.mem_cons.mp hq with rfl | hq
    · exact he
    · exact h.agenda q hq

theorem SB.trigger (h : SB I n s) (e : EvId) (o : Outcome) (he : e < n) (ho : outBelow n o) : SB I n (s.trigger e o) :=
  (h.setOut e o ho).schedule e _ _ he

theorem SB.emit (h : SB I n s) (o : Obs ℚ) (ho : obsBelow n o) : SB I n (s.emit o) where
  __ := h
  trace o' ho' := by
    have : o' ∈ s.trace.toList ++ [o] := by simpa [KState.emit] using ho'
    rcases List.mem_append.mp this with hm | hm
    · exact h.trace o' hm
    · rw [List.mem_singleton] at hm; subst hm; exact ho

theorem SB.setProc (h : SB I n s) (p : EvId) (r : ProcRec σ) (hp : p < n) (ht : ∀ t, r.target = some t → t < n)
    (hs : I.below n r.st) : SB I n (s.setProc p r) where
  __ := h
  procs pr hpr := by
    rcases List.mem_cons.mp hpr with rfl | hm
    · exact ⟨hp, ht, hs⟩
    · exact h.procs pr (List.mem_of_mem_filter hm)

theorem SB.withActive (h : SB I n s) (a : Option EvId) (ha : ∀ p, a = some p → p < n) :
    SB I n ({ s with active := a } : KState ℚ σ) where
  __ := h
  active := ha

theorem SB.withShared (h : SB I n s) (l : List (Nat × Val)) (hl : ∀ kv ∈ l, valBelow n kv.2) :
    SB I n ({ s with shared := l } : KState ℚ σ) where
  __ := h
  shared := hl

theorem SB.setRes (h : SB I n s) (r : ResId) (x : ResRec) (hx : resBelow n x) : SB I n (s.setRes r x) where
  __ := h
  resources r' := by
    rw [KState.res_setRes]
    split
    · exact hx
    · exact h.resources r'

theorem SB.setUsers (h : SB I n s) (r : ResId) (l : List EvId) (hl : ∀ e ∈ l, e < n) : SB I n (s.setUsers r l) :=
  h.setRes r _ ⟨(h.resources r).putQ, (h.resources r).getQ, hl⟩
theorem SB.setLevel (h : SB I n s) (r : ResId) (x : Int) : SB I n (s.setLevel r x) :=
  h.setRes r _ ⟨(h.resources r).putQ, (h.resources r).getQ, (h.resources r).users⟩
theorem SB.setItems (h : SB I n s) (r : ResId) (l : List Int) : SB I n (s.setItems r l) :=
  h.setRes r _ ⟨(h.resources r).putQ, (h.resources r).getQ, (h.resources r).users⟩
theorem SB.setPutQ (h : SB I n s) (r : ResId) (l : List EvId) (hl : ∀ e ∈ l, e < n) : SB I n (s.setPutQ r l) :=
  h.setRes r _ ⟨hl, (h.resources r).getQ, (h.resources r).users⟩
theorem SB.setGetQ (h : SB I n s) (r : ResId) (l : List EvId) (hl : ∀ e ∈ l, e < n) : SB I n (s.setGetQ r l) :=
  h.setRes r _ ⟨(h.resources r).putQ, hl, (h.resources r).users⟩

theorem size_newEv (s : KState ℚ σ) (r : EvRec ℚ) : (s.newEv r).1.events.size = s.events.size + 1 := Array.size_push _
theorem size_newLabelled (s : KState ℚ σ) (r : EvRec ℚ) : (s.newLabelled r).1.events.size = s.events.size + 1 :=
  Array.size_push _
theorem lt_size_newEv (s : KState ℚ σ) (r : EvRec ℚ) : s.events.size < (s.newEv r).1.events.size :=
  Nat.lt_of_lt_of_eq (Nat.lt_succ_self _) (size_newEv s r).symm
theorem lt_size_newLabelled (s : KState ℚ σ) (r : EvRec ℚ) : s.events.size < (s.newLabelled r).1.events.size :=
  Nat.lt_of_lt_of_eq (Nat.lt_succ_self _) (size_newLabelled s r).symm

theorem ws_newEv (h : WS I s) (r : EvRec ℚ) (hr : recBelow (s.events.size + 1) s.events.size r) : WS I (s.newEv r).1 :=
  WS.of_le ((SB.mono h (Nat.le_succ _)).newEv r hr) (Nat.le_of_eq (size_newEv s r).symm)
theorem ws_newLabelled (h : WS I s) (r : EvRec ℚ) (hr : recBelow (s.events.size + 1) s.events.size r) :
    WS I (s.newLabelled r).1 :=
  WS.of_le ((SB.mono h (Nat.le_succ _)).newLabelled r hr) (Nat.le_of_eq (size_newLabelled s r).symm)

/-- scheduling leaves the event table alone; stated for a variable state (with a composite state in place of `s` the
unifier would unfold it to see that the table is the same) -/
theorem ws_schedule (h : WS I s) (e : EvId) (p : Nat) (d : ℚ) (he : e < s.events.size) : WS I (s.schedule e p d) :=
  h.schedule e p d he

theorem SB.reqOf (h : SB I n s) (e : EvId) (hn : 0 < n) : reqBelow n (reqOf s e) := by
  unfold _root_.reqOf
  cases hq : (s.ev e).req with
  | none => exact ⟨fun p hp => (by cases hp), hn⟩
  | some rq => exact (h.events e).req rq hq

theorem SB.out_below (h : SB I n s) (e : EvId) (o : Outcome) (ho : (s.ev e).out = some o) : outBelow n o :=
  (h.events e).out o ho

/-- an index whose record is not the default record is allocated -/
theorem lt_size_of_req (s : KState ℚ σ) (e : EvId) (rq : ReqData ℚ) (h : (s.ev e).req = some rq) : e < s.events.size := by
  apply Classical.byContradiction
  intro hc
  rw [Once.ev_default s e hc] at h
  cases h

end SplitWF
