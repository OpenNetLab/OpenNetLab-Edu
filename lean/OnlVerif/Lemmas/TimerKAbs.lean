import OnlVerif.Lemmas.TimerKDefs
/-!
# The Timer on the kernel model: configuration steps (no kernel terms here)

`AStep a q a' new`: processing the agenda entry `q` takes the configuration `a` to `a'` and appends `new` to the call/fire
history.  The clock can advance to the next entry without changing anything else (`AInv.advance`), and the Timer LTS
accepts that as a `tick` (`lts_tick`): no URGENT event is pending and no sleeping process is due earlier.
-/

namespace TimerK
open TimerOnK QEntry
open Timer (CbOp PStat UEv)

variable (auto : Bool) (arg : Int) (cbs : List (Option Op)) (T : ℚ)

/-- the loop test of `Timer.run` at `now`: `self.proc` sleeps until `expire_time` (timeout event `e`), or the generator
returns; the twin of `ctlNext` -/
def tmNext (now : ℚ) (eid : Nat) (e : EvId) (a : A) : A :=
  if now < a.expire then { a with ph := .sleep e ⟨a.expire, NORMAL, eid, e⟩ }
  else { a with ph := .dead, noop := a.noop ++ [⟨now, NORMAL, eid, a.cur⟩] }

/-- `restart(τ)` at `now` from outside on a `self.proc` that sleeps on the timeout `t` (entry `qt`): the attributes are
written, the `Interruption` (event `n`, entry `eid`) is on its way to it, and event `n + 1` is the new `self.proc`, with its
`Initialize` (event `n + 2`, entry `eid + 1`) -/
abbrev respawn (now tau : ℚ) (eid n : Nat) (t : EvId) (qt : QEntry ℚ) (a : A) : A :=
  { a with start := now, timeout := tau, expire := now + tau, old := some ⟨n, a.cur, t, ⟨now, URGENT, eid, n⟩, qt⟩,
           cur := n + 1, ph := .init ⟨now, URGENT, eid + 1, n + 1 + 1⟩ }

/-- **one kernel step, seen on configurations**: the agenda entry `q` is processed; `new` is appended to the history;
`eid`/`n` are the next free `eid` and event index of the kernel state -/
inductive AStep : A → QEntry ℚ → A → List (HEv ℚ) → Prop
  /-- `Timer.run` starts: the loop test -/
  | tmInit (a : A) (q : QEntry ℚ) (eid n : Nat) (hph : a.ph = .init q) (hold : a.old = none) :
      AStep a q (tmNext q.time eid n a) []
  /-- the `Interruption` reaches the previous process: it ends -/
  | intr (a : A) (q : QEntry ℚ) (eid : Nat) (o : Old) (hold : a.old = some o) (hq : q = o.qi) :
      AStep a q { a with old := none, dead := a.dead ++ [o.p], noop := a.noop ++ [o.qt, ⟨q.time, NORMAL, eid, o.p⟩] } []
  /-- `self.proc` wakes up (the callback fires unless `stopped`): the loop test -/
  | wake (a : A) (q : QEntry ℚ) (eid n : Nat) (t : EvId) (hph : a.ph = .sleep t q) (hold : a.old = none) :
      AStep a q (tmNext q.time eid n (wakeCells auto cbs q.time a)) (wakeFires a q.time)
  /-- an entry with nothing left to do -/
  | noop (a : A) (q : QEntry ℚ) (l1 l2 : List (QEntry ℚ)) (hq : a.noop = l1 ++ q :: l2) :
      AStep a q { a with noop := l1 ++ l2 } []
  /-- the controller starts -/
  | ctlInit (a : A) (q : QEntry ℚ) (eid n : Nat) (sc : List (ℚ × Op)) (hctl : a.ctl = .init q sc) :
      AStep a q (ctlNext q.time eid n a sc) []
  /-- the controller calls `stop()` -/
  | ctlStop (a : A) (q : QEntry ℚ) (eid n : Nat) (sc : List (ℚ × Op)) (hctl : a.ctl = .wait .stop sc q) :
      AStep a q (ctlNext q.time eid n { a with stopped := true, expire := q.time } sc) [.call q.time .stop]
  /-- the controller calls `restart(τ)`, `self.proc` has finished -/
  | ctlRestartDead (a : A) (q : QEntry ℚ) (eid n : Nat) (sc : List (ℚ × Op)) (tau : ℚ)
      (hctl : a.ctl = .wait (.restart tau) sc q) (hph : a.ph = .dead) :
      AStep a q (ctlNext q.time eid n { a with start := q.time, timeout := tau, expire := q.time + tau } sc)
        [.call q.time (.restart tau)]
  /-- the controller calls `restart(τ)`, `self.proc` sleeps: it is interrupted and replaced -/
  | ctlRestartAlive (a : A) (q : QEntry ℚ) (eid n : Nat) (sc : List (ℚ × Op)) (tau : ℚ) (t : EvId) (qt : QEntry ℚ)
      (hctl : a.ctl = .wait (.restart tau) sc q) (hph : a.ph = .sleep t qt) (hold : a.old = none) :
      AStep a q (ctlNext q.time (eid + 1 + 1) (n + 1 + 1 + 1) (respawn q.time tau eid n t qt a) sc)
        [.call q.time (.restart tau)]

variable {auto arg cbs T}

theorem mem_ph {a : A} {ph : TPhase} {x : QEntry ℚ} (h : a.ph = ph) (hx : x ∈ ph.entries) : x ∈ a.entries :=
  List.mem_append_left _ (h ▸ hx)

theorem mem_old {a : A} {o : Old} {x : QEntry ℚ} (h : a.old = some o) (hx : x ∈ o.entries) : x ∈ a.entries :=
  List.mem_append_right _ (List.mem_append_left _ (h ▸ hx))

theorem mem_ctl {a : A} {c : CPhase} {x : QEntry ℚ} (h : a.ctl = c) (hx : x ∈ c.entries) : x ∈ a.entries :=
  List.mem_append_right _ (List.mem_append_right _ (List.mem_append_left _ (h ▸ hx)))

theorem mem_noop {a : A} {x : QEntry ℚ} (h : x ∈ a.noop) : x ∈ a.entries := by
  simp [A.entries, h]

theorem A.forall_entries {a : A} {P : QEntry ℚ → Prop} : (∀ x ∈ a.entries, P x) ↔
    (∀ x ∈ a.ph.entries, P x) ∧ (∀ x ∈ oldEntries a.old, P x) ∧ (∀ x ∈ a.ctl.entries, P x) ∧ ∀ x ∈ a.noop, P x := by
  simp only [A.entries, List.forall_mem_append]

/-- `q` is a minimal entry of the configuration: what `popMin` returns -/
def IsMin (a : A) (q : QEntry ℚ) : Prop := q ∈ a.entries ∧ ∀ x ∈ a.entries, ¬ KeyLt x q

variable {a : A} {now : ℚ} {hist : List (HEv ℚ)} {q : QEntry ℚ}

theorem AInv.now_le (hi : AInv auto cbs T a now hist) (hq : IsMin a q) : now ≤ q.time := hi.due q hq.1

/-- when the controller's timeout is the next entry `self.proc` has started: its `Initialize` is URGENT and due now -/
theorem AInv.started_of_wait (hi : AInv auto cbs T a now hist) (hq : IsMin a q) {op : Op} {sc : List (ℚ × Op)}
    (hctl : a.ctl = .wait op sc q) : ∀ q0, a.ph ≠ .init q0 := by
  intro q0 hph
  have hp := hi.ph
  have hcp := hi.cprio
  rw [hph] at hp
  rw [hctl] at hcp
  refine min_not_prio_lt hi.due hq (mem_ph hph List.mem_cons_self) hp.1 ?_
  rw [hp.2.1, show q.prio = NORMAL from hcp]; decide

/-- when the clock can advance nothing URGENT is pending: `self.proc` has started and no interrupt is on its way -/
theorem AInv.quiet (hi : AInv auto cbs T a now hist) (hq : IsMin a q) (h : now < q.time) :
    a.old = none ∧ (∀ q0, a.ph ≠ .init q0) ∧ (∀ q0 sc, a.ctl ≠ .init q0 sc) := by
  have hne : ∀ x ∈ a.entries, x.time ≠ now := min_ne_now hi.due hq h
  refine ⟨?_, ?_, ?_⟩
  · cases ho : a.old with
    | none => rfl
    | some o => exact absurd (hi.old o ho).1 (hne o.qi (mem_old ho List.mem_cons_self))
  · intro q0 hph
    have := hi.ph
    rw [hph] at this
    exact hne q0 (mem_ph hph List.mem_cons_self) this.1
  · intro q0 sc hc
    have := hi.ctl
    rw [hc] at this
    exact hne q0 (mem_ctl hc List.mem_cons_self) this.1

theorem AInv.advance (hi : AInv auto cbs T a now hist) (hq : IsMin a q) : AInv auto cbs T a q.time hist := by
  rcases eq_or_lt_of_le (hi.now_le hq) with h | h
  · rw [← h]; exact hi
  obtain ⟨ho, hph, hctl⟩ := hi.quiet hq h
  refine ⟨?_, ?_, ?_, hi.cprio, hi.nprio, ?_, hi.tpos, hi.orc⟩
  · have hp := hi.ph
    cases hp' : a.ph with
    | init q0 => exact absurd hp' (hph q0)
    | sleep t q0 => rw [hp'] at hp; exact hp
    | dead => rw [hp'] at hp; exact hp
  · intro o ho'; rw [ho] at ho'; cases ho'
  · have hc := hi.ctl
    cases hc' : a.ctl with
    | init q0 sc => exact absurd hc' (hctl q0 sc)
    | wait op sc q0 => rw [hc'] at hc; exact hc
    | done => trivial
  · intro x hx; exact not_keyLt_time (hq.2 x hx)

theorem noneDueBefore_finished (t : ℚ) (l : List EvId) :
    Timer.noneDueBefore t (l.map fun _ => (PStat.finished : PStat ℚ)) = true := by
  induction l with
  | nil => rfl
  | cons x xs ih => simpa [Timer.noneDueBefore] using ih

theorem noneDueBefore_append (t : ℚ) (l l' : List (PStat ℚ)) :
    Timer.noneDueBefore t (l ++ l') = (Timer.noneDueBefore t l && Timer.noneDueBefore t l') := by
  induction l with
  | nil => simp [Timer.noneDueBefore]
  | cons x xs ih =>
    cases x <;> simp [Timer.noneDueBefore, ih, Bool.and_assoc]

theorem toT_uq_nil (auto : Bool) (arg : Int) (now : ℚ) (hold : a.old = none) (hph : ∀ q0, a.ph ≠ .init q0) :
    (toT auto arg a now).uq = [] := by
  simp only [toT, hold]
  cases hp' : a.ph with
  | init q0 => exact absurd hp' (hph q0)
  | sleep t q0 => rfl
  | dead => rfl

theorem lts_tick (hi : AInv auto cbs T a now hist) (hq : IsMin a q) (h : now < q.time) :
    Timer.step (toT auto arg a now) (.tick q.time) = .ok (toT auto arg a q.time) [] := by
  obtain ⟨ho, hph, hctl⟩ := hi.quiet hq h
  have hnd : Timer.noneDueBefore q.time (toT auto arg a now).procs = true := by
    simp only [toT, ho, oldStat, List.nil_append, noneDueBefore_append, noneDueBefore_finished, Bool.true_and]
    cases hp' : a.ph with
    | init q0 => exact absurd hp' (hph q0)
    | sleep t q0 =>
      have : ¬ q0.time < q.time := not_lt.mpr (not_keyLt_time (hq.2 q0 (mem_ph hp' List.mem_cons_self)))
      simp [TPhase.stat, Timer.noneDueBefore, this]
    | dead => simp [TPhase.stat, Timer.noneDueBefore]
  have huq := toT_uq_nil auto arg now ho hph
  simp only [Timer.step, Timer.doTick, huq, hnd]
  have : (toT auto arg a now).now < q.time := h
  simp only [this, decide_true, Bool.and_self, if_true]
  rw [show toT auto arg a q.time = { toT auto arg a now with now := q.time } from rfl]
  simp [huq]

theorem run_append_of {s s1 s2 : Timer.State ℚ} {o1 o2 : List (Timer.Out ℚ)} :
    ∀ {as bs : List (Timer.Action ℚ)}, Timer.run s as = .ok s1 o1 → Timer.run s1 bs = .ok s2 o2 →
      Timer.run s (as ++ bs) = .ok s2 (o1 ++ o2) := by
  intro as
  induction as generalizing s o1 with
  | nil =>
    intro bs h1 h2
    simp only [Timer.run, Timer.Res.ok.injEq] at h1
    obtain ⟨rfl, rfl⟩ := h1
    simpa using h2
  | cons x xs ih =>
    intro bs h1 h2
    obtain ⟨s', o, o', hs, hr, rfl⟩ := Timer.run_cons_ok h1
    rw [List.cons_append, List.append_assoc]
    exact Timer.run_cons_of hs (ih hr h2)

theorem lts_advance (hi : AInv auto cbs T a now hist) (hq : IsMin a q) :
    ∃ acts, Timer.run (toT auto arg a now) acts = .ok (toT auto arg a q.time) [] := by
  rcases eq_or_lt_of_le (hi.now_le hq) with h | h
  · exact ⟨[], by rw [← h]; rfl⟩
  · exact ⟨[.tick q.time], Timer.run_cons_of (lts_tick hi hq h) rfl⟩

end TimerK
