import OnlVerif.Lemmas.TcpLoop
import OnlVerif.Lemmas.TcpAckMono
/-!
# The closed loop over a return path that reorders ACKs: safety

`RStep` extends the steps of `Loop` (sender bursts, deliveries, FIFO ACK arrivals, losses on both paths) by the arrival of *any*
ACK in flight (`Loop.ackArriveAt i`).  The joint invariant `TcpLoop.J` does not depend on the order of the ACK path and is kept;
on top of it: the acknowledged mark never moves back, and every byte below it is at the sink - the mark is a *correct* cumulative
acknowledgement whatever the order in which ACKs come back.
-/

open TcpScalar TcpSender TcpSink TcpLoop

namespace TcpReorder

theorem J_ackArriveAt {l l' : Loop ℚ} {i : Nat} (h : J l) (hs : l.ackArriveAt i = some l') : J l' := by
  obtain ⟨x, s', outs, hmem, hst, rfl⟩ := ackArriveAt_eq hs
  exact J_ack h hmem hst (fun a ha => List.mem_of_mem_eraseIdx ha)

/-- a step of the closed loop over a return path that may reorder -/
inductive RStep : Loop ℚ → Loop ℚ → Prop
  | fifo {l l' : Loop ℚ} {a : LAct ℚ} : l.step a = some l' → RStep l l'
  | any {l l' : Loop ℚ} {i : Nat} : l.ackArriveAt i = some l' → RStep l l'

inductive RReach (l0 : Loop ℚ) : Loop ℚ → Prop
  | init : RReach l0 l0
  | step {l l' : Loop ℚ} : RReach l0 l → RStep l l' → RReach l0 l'

theorem reach_J {l0 l : Loop ℚ} (h0 : J l0) (hr : RReach l0 l) : J l := by
  induction hr with
  | init => exact h0
  | step _ hs ih =>
    cases hs with
    | fifo hs => exact J_step ih hs
    | any hs => exact J_ackArriveAt ih hs

/-- the mark and what lies below it: `last_ack` did not move back, and every byte below the new mark is at the sink provided
every byte below the old one was -/
structure Mark (l l' : Loop ℚ) : Prop where
  mono : l.snd.last_ack ≤ l'.snd.last_ack
  held : (∀ b, b < l.snd.last_ack → Covers l.sink b) → ∀ b, b < l'.snd.last_ack → Covers l'.sink b

theorem mark_of_ack {l : Loop ℚ} {x : AckIn ℚ} {s' : Sender ℚ} {outs : List (Tx ℚ)} {acks' : List (AckIn ℚ)} (h : J l)
    (hmem : x ∈ l.acks) (hst : l.snd.step (.ack x) = .ok s' outs) :
    Mark l { l with snd := s', acks := acks', data := l.data ++ outs } := by
  obtain ⟨x1, x2, _⟩ := h.acks x hmem
  have haok : ActOk (.ack x : Act ℚ) := x1
  rcases step_last_ack_cases h.snd haok hst with e | ⟨y, hy, hlt, e⟩
  · exact ⟨Nat.le_of_eq e.symm, fun hb b hlt => hb b (by rw [← e]; exact hlt)⟩
  · injection hy with hy; subst hy
    exact ⟨by show l.snd.last_ack ≤ s'.last_ack; rw [e]; exact Nat.le_of_lt hlt,
      fun _ b hb => x2 b (by rw [← e]; exact hb)⟩

theorem mark_step {l l' : Loop ℚ} (h : J l) (hs : RStep l l') : Mark l l' := by
  have same : ∀ {l' : Loop ℚ}, l'.snd = l.snd → l'.sink = l.sink → Mark l l' :=
    fun e1 e2 => ⟨by rw [e1], fun hb => by rw [e1, e2]; exact hb⟩
  cases hs with
  | @any i hs =>
    obtain ⟨x, s', outs, hmem, hst, rfl⟩ := ackArriveAt_eq hs
    exact mark_of_ack h hmem hst
  | @fifo a hs =>
    cases a with
    | own act =>
      obtain ⟨s', outs, hack, hst, rfl⟩ := own_eq hs
      obtain ⟨haok, hna⟩ := isAck_false hack
      rcases step_last_ack_cases h.snd haok hst with e | ⟨y, hy, _, _⟩
      · exact ⟨Nat.le_of_eq e.symm, fun hb b hlt => hb b (by rw [← e]; exact hlt)⟩
      · exact absurd hy (hna y)
    | deliver =>
      obtain ⟨tx, rest, n, _, _, rfl⟩ := deliver_eq h.sink hs
      obtain ⟨_, hcov'⟩ := packetArrived_spec l.sink tx.seq tx.size h.sink
      exact ⟨Nat.le_refl _, fun hb b hlt => (hcov' b).mpr (Or.inl (hb b hlt))⟩
    | ackArrive =>
      obtain ⟨x, rest, s', outs, hd, hst, rfl⟩ := ackArrive_eq hs
      exact mark_of_ack h (by rw [hd]; exact List.mem_cons_self) hst
    | dropData i => obtain ⟨_, rfl⟩ := dropData_eq hs; exact same rfl rfl
    | dropAck i => obtain ⟨_, rfl⟩ := dropAck_eq hs; exact same rfl rfl

theorem reach_mark {l0 l : Loop ℚ} (h0 : J l0) (hr : RReach l0 l) : Mark l0 l := by
  induction hr with
  | init => exact ⟨Nat.le_refl _, fun hb => hb⟩
  | step hr' hs ih =>
    have m := mark_step (reach_J h0 hr') hs
    exact ⟨Nat.le_trans ih.mono m.mono, fun hb => m.held (ih.held hb)⟩

/-- run a list of steps (`inl a`: an action of `Loop.step`; `inr i`: the `i`-th ACK in flight arrives) - for the `example`s -/
def runR (l : Loop ℚ) : List (Sum (LAct ℚ) Nat) → Option (Loop ℚ)
  | [] => some l
  | .inl a :: rest => (l.step a).bind fun l' => runR l' rest
  | .inr i :: rest => (l.ackArriveAt i).bind fun l' => runR l' rest

theorem runR_sound {l0 : Loop ℚ} : ∀ (acts : List (Sum (LAct ℚ) Nat)) (l l' : Loop ℚ), RReach l0 l → runR l acts = some l' →
    RReach l0 l'
  | [], l, l', hr, h => by
    unfold runR at h; injection h with h; subst h; exact hr
  | .inl a :: rest, l, l', hr, h => by
    unfold runR at h
    cases hs : l.step a with
    | none => rw [hs] at h; cases h
    | some l1 => rw [hs] at h; exact runR_sound rest l1 l' (.step hr (.fifo hs)) h
  | .inr i :: rest, l, l', hr, h => by
    unfold runR at h
    cases hs : l.ackArriveAt i with
    | none => rw [hs] at h; cases h
    | some l1 => rw [hs] at h; exact runR_sound rest l1 l' (.step hr (.any hs)) h

end TcpReorder
