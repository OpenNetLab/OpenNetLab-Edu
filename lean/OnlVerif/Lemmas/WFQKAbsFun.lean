import OnlVerif.Lemmas.WFQKAbs
import OnlVerif.Lemmas.VCKAbsFun
import OnlVerif.Lemmas.WFQKCfg
/-!
# The WFQ scheduler on the kernel model: the abstraction function `absWFQ` reads the configuration's LTS state off
the kernel state
-/


namespace WFQK
open WFQOnK QEntry
open TimerK (lookup)

variable {N scale F : Nat} {flow size : Int → Nat} {cfg : WfqCfg ℚ} {d1 L : Nat}
variable {s : KS} {a : A}

theorem cellVal_eq (k : Nat) : cellVal s k = lookup s.shared k := rfl

theorem putsOf_linv {tr : Array (Obs ℚ)} (hl : LInv a (histOf tr)) : putsOf tr = a.puts.map fun w => (w.1, w.2.1) := by
  rw [← hl.puts]
  unfold putsOf
  apply List.filterMap_congr
  intro x _
  cases x <;> rfl

theorem stampsOf_linv {tr : Array (Obs ℚ)} (hl : LInv a (histOf tr)) : stampsOf tr = a.puts.map fun w => w.2.2 := by
  rw [← hl.stamps]
  unfold stampsOf
  apply List.filterMap_congr
  intro x _
  cases x <;> rfl

/-- the `k`-th `put` goes with the `k`-th `stamp`: the key of a packet that was `put` -/
theorem keyOf_eq {tr : Array (Obs ℚ)} (hl : LInv a (histOf tr)) (hp : StampK.PutsOK N scale a.puts) {w : PutRec}
    (hw : w ∈ a.puts) : keyOf tr w.1 = (w.2.2, w.2.1) := by
  unfold keyOf
  rw [putsOf_linv hl, stampsOf_linv hl, hp.find_zip hw]

theorem itemOf_eq {tr : Array (Obs ℚ)} (hl : LInv a (histOf tr)) (hp : StampK.PutsOK N scale a.puts) {w : PutRec}
    (hw : w ∈ a.puts) :
    itemOf flow size N tr (codeOf N scale w) = itemW size flow w := by
  unfold itemOf itemW
  rw [show itemPkt N (codeOf N scale w) = w.1 from VCK.itemPkt_codeOf (hp.ok w hw).1 (hp.ok w hw).2.1, keyOf_eq hl hp hw]

theorem entry_of_ev (hk : KInv N scale size cfg.rate F s a) {q0 : QEntry ℚ} (hq0 : a.run.entries = [q0]) :
    ∀ x ∈ s.agenda, x.ev = q0.ev → x = q0 := by
  intro x hx hxe
  obtain ⟨st0, hg⟩ := hk.g
  exact hg.entry_of_ev rfl (hg.ag.subset hx) (entries_cfgOf.symm.subset (mem_run (hq0 ▸ List.mem_singleton_self _))) hxe

theorem absWFQ_eq (hk : KInv N scale size cfg.rate F s a) (hi : AInv N scale size F flow cfg d1 L a s.now)
    (hl : LInv a (histOf s.trace)) : absWFQ F flow size cfg N s = toM size F flow cfg a s.now := by
  have hkeys : keysOf flow ((putsOf s.trace).map (·.1)) = a.keys flow := by
    have e1 := putsOf_linv hl
    unfold A.keys
    rw [e1, List.map_map]; rfl
  have hitem : ∀ w ∈ a.puts, itemOf flow size N s.trace (codeOf N scale w) = itemW size flow w := fun w hw =>
    itemOf_eq hl hi.putsOK hw
  have hph : absPhase s =
      { started := match a.run with | .init _ => false | _ => true
        getPending := match a.run with | .W _ => true | _ => false
        handed := match a.run with | .H _ w _ => some (codeOf N scale w) | _ => none
        spawned := match a.run with | .S _ id _ => some id | _ => none
        tx := match a.run with | .T _ _ id q => some (id, q.time) | _ => none
        fin := match a.run with | .F _ id _ => some id | _ => none } := by
    obtain ⟨st0, hg⟩ := hk.g
    have h0 := hg.th _ List.mem_cons_self
    have hsnd : ∀ th ∈ sendThreads a.run, KProc.TInv s th := fun th hth => hg.th th (mem_sendTh hth)
    have hok := hk.run
    unfold absPhase
    cases hrun : a.run with
    | init q0 =>
      rw [hrun] at h0
      simp [runProc, runThread, show s.proc? 0 = _ from h0.proc _ rfl]
    | W g =>
      rw [hrun] at h0
      simp [runProc, runThread, show s.proc? 0 = _ from h0.proc _ rfl, show (s.ev g).out = none from h0.ev.2.2]
    | H g w q0 =>
      rw [hrun] at h0 hok
      obtain rfl : q0.ev = g := hok
      simp [runProc, runThread, show s.proc? 0 = _ from h0.proc _ rfl, show (s.ev q0.ev).out = _ from h0.ev.2.2]
    | S p id q0 =>
      rw [hrun] at h0 hsnd
      have hc := hsnd _ (List.mem_singleton_self _)
      simp [runProc, runThread, show s.proc? 0 = _ from h0.proc _ rfl, show (s.ev p).out = none from (hc.own _ rfl).2.2,
        show s.proc? p = _ from hc.proc _ rfl]
    | F p id q0 =>
      rw [hrun] at h0 hsnd
      simp [runProc, runThread, show s.proc? 0 = _ from h0.proc _ rfl,
        show (s.ev p).out = _ from ((hsnd _ (List.mem_singleton_self _)).own _ rfl).2.2, KProc.Wait.outcome]
    | T p t id q0 =>
      rw [hrun] at h0 hsnd hok
      obtain rfl : q0.ev = t := hok
      have hc := hsnd _ (List.mem_singleton_self _)
      have hdue : dueOf s q0.ev = q0.time := by
        unfold dueOf
        rw [StampK.find_ev (hk.ag.symm.subset (mem_run (by simp [hrun, RPhase.entries])))
          (entry_of_ev hk (q0 := q0) (by simp [hrun, RPhase.entries]))]
        rfl
      simp [runProc, runThread, show s.proc? 0 = _ from h0.proc _ rfl, show (s.ev p).out = none from (hc.own _ rfl).2.2,
        show s.proc? p = _ from hc.proc _ rfl, hdue]
  have hkF := hi.cfgOK.keys
  have hkeyF := hi.keys_lt
  unfold absWFQ toM
  simp only [hkeys, hph, dictOf]
  congr 1
  · congr 1
    · simp only [cellNum, cellVal_eq, hk.cells.cvt, TimerK.dec_enc, Option.getD_some]
    · simp only [cellNum, cellVal_eq, hk.cells.cl, TimerK.dec_enc, Option.getD_some]
    · unfold absFinish
      by_cases hfs : a.fset = true
      · simp only [hfs, if_true]
        rw [← List.filterMap_eq_map]
        apply List.filterMap_congr
        intro kv hkv
        have := hk.cells.cf kv.1 (hkF kv hkv)
        simp only [hfs, if_true] at this
        simp only [cellVal_eq, this, TimerK.dec_enc, Option.map_some, Function.comp]
      · have hfs' : a.fset = false := by simpa using hfs
        simp only [hfs', Bool.false_eq_true, if_false]
        rw [List.filterMap_eq_nil_iff]
        intro kv hkv
        have := hk.cells.cf kv.1 (hkF kv hkv)
        simp only [hfs', Bool.false_eq_true, if_false] at this
        simp only [cellVal_eq, this]
        rfl
    · apply List.filter_congr
      intro c hc
      have hcF : c < F := List.mem_range.mp hc
      simp only [cellInt, cellVal_eq, hk.cells.cact c hcF]
      cases a.act c <;> simp
    · apply List.map_congr_left
      intro c hc
      have := hk.cells.ck c (hkeyF c hc)
      simp only [cellInt, cellVal_eq, this]
      cases a.cls c <;> rfl
  · show (s.res 0).items.map _ = _
    rw [hk.st]
    simp only [pstoreRec, List.map_map]
    apply List.map_congr_left
    intro w hw
    exact hitem w (hi.sub.subset hw)
  · cases hrun : a.run with
    | H g w q0 =>
      have := hi.run
      rw [hrun] at this
      simp only [Option.map_some]
      rw [hitem w this.2.2.2.1]
    | _ => rfl
  · cases hrun : a.run <;> rfl
  · cases hrun : a.run <;> rfl
  · cases hrun : a.run <;> rfl
  · rw [cellVal_eq, hk.cells.c1]
    cases a.cur <;> rfl
  · apply List.map_congr_left
    intro f hf
    simp only [cellInt, cellVal_eq, hk.cells.cc f (hkeyF f hf)]
  · apply List.map_congr_left
    intro f hf
    simp only [cellInt, cellVal_eq, hk.cells.cb f (hkeyF f hf)]

end WFQK
