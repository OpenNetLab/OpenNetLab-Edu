import OnlVerif.Lemmas.TRKLts
import OnlVerif.Lemmas.TRKOracle
/-!
# The two-rate token bucket on the kernel model: the invariant along runs, and what holds when `run()` has returned
-/

set_option linter.unusedSimpArgs false

namespace TRK
open TwoRateOnK QEntry
open KExec (doCall_spawn)

variable {size : Int → Nat} {cfg : TrCfg ℚ} {arrivals : List ℚ}
variable {s : KS} {a : A} {q : QEntry ℚ} {rest : List (QEntry ℚ)}

/-- what holds along runs -/
structure Inv3 (size : Int → Nat) (cfg : TrCfg ℚ) (arrivals : List ℚ) (s : KS) (a : A) : Prop where
  i : Inv cfg s a
  o : ∃ o, OInv size cfg arrivals a s.now (histOf s.trace) o
  sent : 0 ≤ a.sent
  /-- the run so far is an admissible run of the shaper's LTS into `toF a` -/
  l : ∃ acts lg, Fifo.runActs (TwoRate.dev cfg) (Fifo.init (TwoRate.st0 cfg) 0) acts =
    .ok (toF size a s.now lg, putIds (histOf s.trace), outIds (histOf s.trace))

theorem inv3_step (fuel : Nat) (h : Inv3 size cfg arrivals s a) (hp : popMin s.agenda = some (q, rest)) :
    ∃ s' a' new, step (body size cfg) (fuel + 1) s = .ok s' ∧ Inv3 size cfg arrivals s' a' ∧ a'.mu + 1 ≤ a.mu ∧
      AStep size cfg s.events.size s.eid a q a' new ∧ s'.now = q.time ∧ histOf s'.trace = histOf s.trace ++ new := by
  obtain ⟨s', a', new, h1, h2, h3, h4, h5, h6⟩ := inv_step (size := size) fuel h.i hp
  have hmin := (min_of_pop h.i.k.ag hp).1
  obtain ⟨o, ho⟩ := h.o
  obtain ⟨o', ho'⟩ := oinv_step (h.i.a.advance hmin) (ho.advance h.i.a hmin) h4
  obtain ⟨acts, lg, hl⟩ := h.l
  obtain ⟨lg', acts', hl'⟩ := lts_astep h.i.a hmin h.sent h4 lg
  refine ⟨s', a', new, h1, ⟨h2, ⟨o', ?_⟩, sent_step h.sent h4, acts ++ acts', lg', ?_⟩, h3, h4, h5, h6⟩
  · rw [h5, h6]; exact ho'
  · rw [h5, h6, putIds_append, outIds_append]; exact Fifo.runActs_append _ _ _ _ _ _ _ _ _ _ hl hl'

theorem initState_now (arrivals : List ℚ) : (initState cfg arrivals : KS).now = 0 := by
  simp [initState, doCall_spawn, zero_eq']

theorem initState_trace (arrivals : List ℚ) : (initState cfg arrivals : KS).trace = #[] := by
  simp [initState, doCall_spawn]

theorem inv3_init (hg : GapsOK arrivals) (hgood : TwoRate.Good cfg) :
    Inv3 size cfg arrivals (initState cfg arrivals) (a0 cfg arrivals) := by
  refine ⟨inv_init arrivals hg hgood, ⟨oInit cfg, ?_⟩, le_refl _, [], [], ?_⟩ <;> rw [initState_trace, initState_now]
  · exact ⟨rfl, rfl, ⟨by simp [oInit, zero_eq'], rfl, rfl, by simp [oInit, a0, zero_eq']⟩, rfl⟩
  · rw [toF_a0]; rfl

/-- **every state reachable by kernel steps satisfies the invariant** -/
theorem reach_inv3 (fuel : Nat) (hg : GapsOK arrivals) (hgood : TwoRate.Good cfg)
    (h : KReach (body size cfg) (fuel + 1) (initState cfg arrivals) s) : ∃ a, Inv3 size cfg arrivals s a :=
  KReach.of_step (inv3_init hg hgood)
    (fun _ _ _ _ hi hp => let ⟨s', a', _, h1, h2, _⟩ := inv3_step fuel hi hp; ⟨s', a', h1, h2⟩) h

/-- **every state reachable by kernel steps is a sound configuration, and the run so far is an admissible run of the
shaper's LTS** from its initial state to the configuration's LTS state (with some ghost value), in which the packets that
entered are those handed to `put` and the packets that left are those handed to `out.put`, in order -/
theorem reach_lts (fuel : Nat) (hg : GapsOK arrivals) (hgood : TwoRate.Good cfg)
    (h : KReach (body size cfg) (fuel + 1) (initState cfg arrivals) s) :
    ∃ a acts lg, Inv3 size cfg arrivals s a ∧ 0 ≤ a.sent ∧
      Fifo.runActs (TwoRate.dev cfg) (Fifo.init (TwoRate.st0 cfg) 0) acts =
        .ok (toF size a s.now lg, putIds (histOf s.trace), outIds (histOf s.trace)) :=
  let ⟨a, hi⟩ := reach_inv3 fuel hg hgood h
  let ⟨acts, lg, hl⟩ := hi.l
  ⟨a, acts, lg, hi, hi.sent, hl⟩

/-- **`run()` returns** -/
theorem run_returns3 (fuel : Nat) (s0 : KS) : ∀ (n : Nat) (s : KS) (a : A), Inv3 size cfg arrivals s a → a.mu < n →
    KReach (body size cfg) (fuel + 1) s0 s →
    ∃ sF aF, runLoop (body size cfg) (fuel + 1) none n s = .returned .none sF ∧
      Inv3 size cfg arrivals sF aF ∧ sF.agenda = [] ∧ KReach (body size cfg) (fuel + 1) s0 sF :=
  runLoop_returns A.mu (fun _ _ _ _ hi hp => let ⟨s', a', _, h1, h2, h3, _⟩ := inv3_step fuel hi hp; ⟨s', a', h1, h2, h3⟩) s0

/-- with an empty agenda everything has been forwarded -/
theorem inv3_final (h : Inv3 size cfg arrivals s a) (he : s.agenda = []) :
    ∃ o, orun size cfg (oInit cfg) (histOf s.trace) = some o ∧ o.waiting = [] ∧
      obsPuts (histOf s.trace) = arrivalsFrom 0 0 arrivals := by
  have hag := h.i.k.ag
  rw [he] at hag
  have hent : a.entries = [] := List.Perm.eq_nil hag.symm
  simp only [A.entries, List.append_eq_nil_iff] at hent
  obtain ⟨hro, hsr, hpe⟩ := hent
  obtain ⟨o, ho⟩ := h.o
  have hi := h.i.a
  cases hrun : a.run with
  | W g t0 =>
    cases hsrc : a.src with
    | done =>
      have hp := hi.run
      rw [hrun] at hp
      have hit : a.items = [] := by_contra fun hc => hp.2.2 hc hpe
      refine ⟨o, ho.run, ?_, ?_⟩
      · rw [ho.wq]; simp [waitingOf, RPhase.held, hrun, hit]
      · have := ho.fut
        rw [hsrc] at this
        simpa [srcFuture] using this
    | _ => simp [hsrc, SPhase.entries] at hsr
  | _ => simp [hrun, RPhase.entries] at hro

end TRK
