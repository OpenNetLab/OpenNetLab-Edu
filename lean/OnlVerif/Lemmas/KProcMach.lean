import OnlVerif.Lemmas.KProcDefs
/-!
# What the machine of `KProcDefs` does, on an arbitrary configuration

The end of a burst (`hend`) for the ways a burst of the device programs ends — it returns, sleeps, calls `get` — and the three
outcomes of a pending `StorePut`, each stated for a configuration `c` of which only the parts that are read are known.  A
step lemma can evaluate a whole burst at once, or, as the Port and the Wire do, compose these with what the pieces of its
program do (`hrun p piece c = hrun p rest c'`, `hend_congr`).  `stores_upd`, `stores_one`, `pend_perm` are for a device with the
one store `0`.  Also: what a burst never does to a configuration (`hrun_grows`).
-/

namespace KProc

variable {σ : Type} {c c' : Cfg σ} {p : EvId}

theorem hresume_eq (body : σ → Resume → Burst ℚ σ) (c : Cfg σ) (th : Thread σ) {q : QEntry ℚ} {arg : Resume}
    (hw : th.wait.resumes = some (q, arg)) : hresume body c th = hend (hbegin c th.pid q arg) th.pid (body th.st arg) := by
  simp only [hresume, hw, Option.bind_some, hburst]

theorem hend_congr {b b' : Burst ℚ σ} (h : hrun p b c = hrun p b' c') : hend c p b = hend c' p b' := by
  unfold hend
  rw [h]

/-- the generator returns -/
theorem hend_ret (v : Val) (h : (c.threads.find? (·.pid == p)).any (·.cbs.isSome) = true) :
    hend c p (.ret v) = some { c with
      reg := { c.reg with active := none, eid := c.reg.eid + 1, trace := c.reg.trace.push (.ended p (.ok v) c.reg.now) }
      threads := modTh c.threads p fun th => { th with wait := .ending ⟨c.reg.now, NORMAL, c.reg.eid, p⟩ v }
      cur := none } := by
  simp only [hend, hrun, Option.bind_some, hafter, h, if_true, Option.map_some]

/-- `yield env.timeout(d)` -/
theorem hend_sleep {d : ℚ} {k : Reply → Burst ℚ σ} {st : σ} (hd : 0 ≤ d) (hk : k (.ev c.reg.evSize) = .yield c.reg.evSize st) :
    hend c p (.call (.timeout d .none) k) = some { c with
      reg := { c.reg with evSize := c.reg.evSize + 1, eid := c.reg.eid + 1, active := none }
      threads := modTh c.threads p fun th =>
        { th with st := st, wait := .sleep ⟨c.reg.now + d, NORMAL, c.reg.eid, c.reg.evSize⟩ }
      cur := none } := by
  simp only [hend, hrun, hcall, hd, if_true, Option.bind_some, hk, hafter, Wait.ids, Option.map_some]

/-- `yield store.get()` on a store that has nothing to hand out: the process is blocked -/
theorem hend_get_miss {r : ResId} {k : Reply → Burst ℚ σ} {st : σ} {hs : HStore} (hst : c.stores r = some hs)
    (hq : hs.getQ = []) (ht : hs.take = none) (hk : k (.ev c.reg.evSize) = .yield c.reg.evSize st) :
    hend c p (.call (.sget r 0) k) = some { c with
      reg := { c.reg with evSize := c.reg.evSize + 1, active := none }
      stores := upd c.stores r (some { hs with getQ := [c.reg.evSize] })
      threads := modTh c.threads p fun th => { th with st := st, wait := .getW r c.reg.evSize }
      cur := none } := by
  simp only [hend, hrun, hcall, hst, hq, ht, if_true, Option.bind_some, hk, hafter, Wait.ids, Option.map_some]

/-- `yield store.get()` served at once with `v` -/
theorem hend_get_hit {r : ResId} {k : Reply → Burst ℚ σ} {st : σ} {hs : HStore} {v : Int} {its : List Int}
    (hst : c.stores r = some hs) (hq : hs.getQ = []) (ht : hs.take = some (v, its))
    (hk : k (.ev c.reg.evSize) = .yield c.reg.evSize st) :
    hend c p (.call (.sget r 0) k) = some { c with
      reg := { c.reg with evSize := c.reg.evSize + 1, eid := c.reg.eid + 1, active := none }
      stores := upd c.stores r (some { hs with items := its })
      threads := modTh c.threads p fun th =>
        { th with st := st, wait := .getH r ⟨c.reg.now, NORMAL, c.reg.eid, c.reg.evSize⟩ v }
      cur := none } := by
  simp only [hend, hrun, hcall, hst, hq, ht, if_true, Option.bind_some, hk, hafter, Wait.ids, Option.map_some]

/-- the process event of a process that has returned and that nobody has joined -/
theorem hfinish_alone (body : σ → Resume → Burst ℚ σ) {th : Thread σ} (q : QEntry ℚ) (v : Val) (h : th.cbs = some []) :
    hfinish body c th q v = some { c with reg := { c.reg with now := q.time }, threads := c.threads.filter (·.pid != th.pid) } := by
  simp only [hfinish, h]

/-- the stores of a device with the one store `0`, after that store was written -/
theorem stores_upd (x : Option HStore) (v : HStore) (r : ResId) :
    upd (fun r => if r = 0 then x else none) 0 (some v) r = if r = 0 then some v else none := by
  simp only [upd]
  split <;> rfl

/-- what holds of the one store `0` holds of every store of such a device -/
theorem stores_one {x : HStore} {P : ResId → HStore → Prop} (h : P 0 x) :
    ∀ r st, (if r = 0 then some x else none) = some st → P r st := by
  intro r st hst
  split at hst <;> cases hst
  subst r
  exact h

section pend
variable {u : QEntry ℚ × ResId} {pend' : List (QEntry ℚ × ResId)} {hs : HStore} (hst : c.stores u.2 = some hs)
include hst

/-- `_trigger_get` with nobody waiting -/
theorem hpend_none (hq : hs.getQ = []) : hpend c u pend' = some { c with reg := { c.reg with now := u.1.time }, pend := pend' } := by
  simp only [hpend, hst, hq, Option.bind_some]

/-- `_trigger_get` with a consumer waiting and nothing to hand out -/
theorem hpend_empty {g : EvId} {th : Thread σ} (hq : hs.getQ = [g]) (hf : c.threads.find? (·.wait.isGetW u.2 g) = some th)
    (ht : hs.take = none) : hpend c u pend' = some { c with reg := { c.reg with now := u.1.time }, pend := pend' } := by
  simp only [hpend, hst, hq, hf, ht, Option.bind_some, Option.map_some]

/-- `_trigger_get` hands `v` to the waiting consumer -/
theorem hpend_hand {g : EvId} {th : Thread σ} {v : Int} {its : List Int} (hq : hs.getQ = [g])
    (hf : c.threads.find? (·.wait.isGetW u.2 g) = some th) (ht : hs.take = some (v, its)) :
    hpend c u pend' = some { c with
      reg := { c.reg with now := u.1.time, eid := c.reg.eid + 1 }
      pend := pend'
      stores := upd c.stores u.2 (some { hs with getQ := [], items := its })
      threads := modTh c.threads th.pid fun th => { th with wait := .getH u.2 ⟨u.1.time, NORMAL, c.reg.eid, g⟩ v } } := by
  simp only [hpend, hst, hq, hf, ht, Option.bind_some, Option.map_some]

end pend

/-- the pending puts of a device with the one store `0`, one of them in front -/
theorem pend_perm {q : QEntry ℚ} {pend l1 l2 : List (QEntry ℚ)} (hpe : pend = l1 ++ q :: l2) :
    (pend.map fun x => (x, (0 : ResId))).Perm ((q, 0) :: (l1 ++ l2).map fun x => (x, 0)) := by
  rw [hpe, List.map_append, List.map_append, List.map_cons]
  exact List.perm_middle

/-! ## what a burst never does: it keeps the event whose callbacks are running and loses no thread -/

theorem hcall_grows {self : EvId} {cl : Call ℚ σ} {rp : Reply} (hc : hcall c self cl = some (c', rp)) :
    c'.cur = c.cur ∧ ∀ th ∈ c.threads, th ∈ c'.threads := by
  cases cl with
  | timeout d v =>
    cases v <;> simp only [hcall, reduceCtorEq] at hc
    split at hc <;> cases hc
    exact ⟨rfl, fun _ h => h⟩
  | sput r item =>
    obtain ⟨st, -, hc⟩ := Option.map_eq_some_iff.mp hc
    cases hc
    exact ⟨rfl, fun _ h => h⟩
  | sget r f =>
    cases f <;> simp only [hcall, reduceCtorEq] at hc
    obtain ⟨st, -, hc⟩ := Option.bind_eq_some_iff.mp hc
    split at hc
    · split at hc <;> cases hc <;> exact ⟨rfl, fun _ h => h⟩
    · cases hc
  | load k => cases hc; exact ⟨rfl, fun _ h => h⟩
  | store k v => cases hc; exact ⟨rfl, fun _ h => h⟩
  | log what v => cases v <;> simp only [hcall, reduceCtorEq] at hc <;> cases hc <;> exact ⟨rfl, fun _ h => h⟩
  | spawn st => cases hc; exact ⟨rfl, fun _ h => List.mem_append_left _ h⟩
  | _ => simp only [hcall, reduceCtorEq] at hc

theorem hrun_grows {self : EvId} {b : Burst ℚ σ} {t : Term σ} (hr : hrun self b c = some (c', t)) :
    c'.cur = c.cur ∧ ∀ th ∈ c.threads, th ∈ c'.threads := by
  induction b generalizing c with
  | call cl k ih =>
    rw [hrun] at hr
    split at hr
    · rename_i cr hc
      obtain ⟨h1, h2⟩ := hcall_grows (c' := cr.1) (rp := cr.2) hc
      obtain ⟨h3, h4⟩ := ih cr.2 hr
      exact ⟨h3.trans h1, fun th h => h4 th (h2 th h)⟩
    · obtain ⟨x, -, hr'⟩ := Option.bind_eq_some_iff.mp hr
      have := ih (.err x) hr'
      exact this
  | yield e st => cases hr; exact ⟨rfl, fun _ h => h⟩
  | ret v => cases hr; exact ⟨rfl, fun _ h => h⟩
  | raise x => cases hr; exact ⟨rfl, fun _ h => h⟩

theorem hafter_cur {p : EvId} {t : Term σ} (ha : hafter c p t = some c') : c'.cur = c.cur := by
  cases t with
  | yielded e st =>
    simp only [hafter] at ha
    split at ha
    · split at ha <;> cases ha; rfl
    · split at ha <;> cases ha; rfl
  | returned v =>
    simp only [hafter] at ha
    split at ha <;> cases ha; rfl
  | raised x => cases ha

end KProc
