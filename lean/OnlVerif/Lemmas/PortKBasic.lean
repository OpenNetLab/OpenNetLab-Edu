import OnlVerif.Lemmas.PortKDefs
import OnlVerif.Lemmas.PortKAttr
import OnlVerif.Lemmas.KExec
/-!
# The Port on the kernel model: the attribute cells and the calls that read and write them; `Port.put` in one piece
-/

namespace PortK
open PortOnK

/-- `lookup` after a `Call.store` -/
theorem lookup_store (l : List (Nat × Val)) (k k' : Nat) (v : Val) :
    lookup ((k', v) :: l.filter (·.1 != k')) k = if k = k' then v else lookup l k := by
  unfold lookup
  by_cases h : k = k'
  · subst h; simp
  · rw [if_neg h, List.find?_cons_of_neg (by simpa using Ne.symm h), KExec.find?_filter_ne _ _ _ (Ne.symm h)]

def plookup {σ} (l : List (EvId × ProcRec σ)) (p : EvId) : Option (ProcRec σ) := (l.find? (·.1 == p)).map (·.2)

theorem proc?_eq {σ} (s : KState ℚ σ) (p : EvId) : s.proc? p = plookup s.procs p := rfl

theorem getD0_set (a : Array ResRec) (x : ResRec) (h : 0 < a.size) : (a.setIfInBounds 0 x).getD 0 default = x := by
  rw [getD_setIfInBounds]; simp [h]

@[simp] theorem isStoreKind_store : isStoreKind .store = true := rfl
@[simp] theorem isPrioKind_store : isPrioKind .store = false := rfl
@[simp] theorem store_beq_preemptive : (ResKind.store == ResKind.preemptive) = false := rfl
@[simp] theorem store_beq_fstore : (ResKind.store == ResKind.fstore) = false := rfl

theorem doCall_load (s : KS) (self : EvId) (k : Nat) : doCall s self (.load k) = (s, .val (lookup s.shared k)) := rfl

theorem doCall_store (s : KS) (self : EvId) (k : Nat) (v : Val) :
    doCall s self (.store k v) = ({ s with shared := (k, v) :: s.shared.filter (·.1 != k) }, .unit) := rfl

theorem doCall_log (s : KS) (self : EvId) (what : String) (i : Int) :
    doCall s self (.log what (.int i)) = ({ s with trace := s.trace.push (.log self what (.int i) s.now) }, .unit) := rfl

/-- the tail-drop test of `Port.put` for a byte limit: `qlimit is not None and byte_count > qlimit` -/
def refuses (ql : Option Int) (byteCount : Int) : Bool :=
  match ql with
  | none => false
  | some l => decide (l < byteCount)

/-- `Port.put` with its two accepting branches merged -/
theorem portPut_eq (size : Int → Nat) (ql : Option Int) (id : Int) (cont : Burst ℚ St) :
    portPut size ql id cont =
      loadInt cReceived fun n =>
      .call (.store cReceived (.int (n + 1))) fun _ =>
      loadInt cByteSize fun b =>
      if refuses ql (b + (size id : Int)) then
        loadInt cDropped fun d => .call (.store cDropped (.int (d + 1))) fun _ => cont
      else portAccept size id b cont := by
  cases ql with
  | none => simp [portPut, refuses]
  | some l => simp [portPut, refuses]

end PortK
