import OnlVerif.Lemmas.SchedDRRQuantum
/-!
# DRR: the setting of the C15 theorems (initial state, reachability, well-formed configuration) and a decidable
check that exhibits concrete windows
-/

namespace DRR
open MQ

/-- the state of a `DRR` scheduler after `__init__` -/
def start (cfg : Cfg ℚ) (t0 : ℚ) : St := MQ.init (ctl0 cfg) t0 (counts0 cfg)

/-- reached from the initial state by an admissible action sequence whose packets are at most `L` bytes -/
def Reached (cfg : Cfg ℚ) (L : ℚ) (t0 : ℚ) (s : St) : Prop :=
  ∃ as ins outs, (∀ a ∈ as, ActOk L a) ∧ runActs (sched cfg) (start cfg t0) as = .ok (s, ins, outs)

/-- the configuration is a Python dict of positive weights -/
structure CfgOk (cfg : Cfg ℚ) : Prop where
  nodup : (cfg.weights.map (·.1)).Nodup
  pos : ∀ e ∈ cfg.weights, 0 < e.2

theorem quantum_pos (cfg : Cfg ℚ) (hc : CfgOk cfg) (cls : Nat) (q : ℚ) (h : quantum cfg cls = some q) : 0 < q := by
  have := quantum_ge cfg hc.pos cls q h; linarith

theorem good_of_reached (cfg : Cfg ℚ) (hc : CfgOk cfg) (L : ℚ) (hL : 0 < L) (t0 : ℚ) (s : St)
    (h : Reached cfg L t0 s) : Good cfg L s := by
  obtain ⟨as, ins, outs, ha, hr⟩ := h
  exact good_run cfg L hL (quantum_pos cfg hc) as _ s ins outs (good_init cfg L hc.nodup t0) ha hr


def lastPost (s : St) : List (Entry (Ctl ℚ)) → St
  | [] => s
  | e :: r => lastPost e.post r

theorem window_of_log (cfg : Cfg ℚ) (L : ℚ) (P : St → Prop) (as : List (MAct ℚ)) (s : St)
    (l : List (Entry (Ctl ℚ))) (hr : runLog (sched cfg) s as = .ok l) (ha : ∀ a ∈ as, ActOk L a) (hs : P s)
    (hp : ∀ e ∈ l, P e.post) : Window cfg L P s (l.map (·.out)) (lastPost s l) := by
  induction as generalizing s l with
  | nil =>
    simp only [runLog, Except.ok.injEq] at hr
    subst hr
    exact Window.nil s hs
  | cons a as ih =>
    obtain ⟨s1, o, l2, h1, h2, rfl⟩ := runLog_cons_ok hr
    exact Window.cons s a s1 o _ _ hs (ha a (by simp)) h1
      (ih s1 l2 h2 (fun a' ha' => ha a' (List.mem_cons_of_mem _ ha')) (hp ⟨s, a, o, s1⟩ (by simp))
        (fun e he => hp e (List.mem_cons_of_mem _ he)))

def bothB (ia ib a b : Nat) (s : St) : Bool :=
  match s.ctl.classCount[ia]?, s.ctl.classCount[ib]? with
  | some (a', na), some (b', nb) => a' == a && b' == b && decide (0 < na) && decide (0 < nb)
  | _, _ => false

theorem both_of_bothB (ia ib a b : Nat) (s : St) (h : bothB ia ib a b s = true) : Both ia ib a b s := by
  unfold bothB at h
  split at h
  · rename_i a' na b' nb h1 h2
    simp only [Bool.and_eq_true, beq_iff_eq, decide_eq_true_eq] at h
    obtain ⟨⟨⟨rfl, rfl⟩, h3⟩, h4⟩ := h
    exact ⟨na, nb, h1, h2, h3, h4⟩
  · cases h

/-- decidable form of `ActOk` for an integral bound -/
def actOkB (L : Nat) (a : MAct ℚ) : Bool :=
  match a with
  | .put p => decide (p.size ≤ L)
  | _ => true

theorem actOk_of_actOkB (L : Nat) (a : MAct ℚ) (h : actOkB L a = true) : ActOk (L : ℚ) a := by
  intro p hp
  subst hp
  simp only [actOkB, decide_eq_true_eq] at h
  exact_mod_cast h

/-- checks, by running the model, that after the prefix `pre` the stretch `win` is a window in which the classes at
entries `ia`, `ib` stay backlogged, and returns the departed bytes of both classes in it -/
def demoWindow (cfg : Cfg ℚ) (L ia ib a b : Nat) (pre win : List (MAct ℚ)) : Option (Int × Int) :=
  match runActs (sched cfg) (start cfg 0) pre with
  | .error _ => none
  | .ok (s1, _, _) =>
    match runLog (sched cfg) s1 win with
    | .error _ => none
    | .ok l =>
      if bothB ia ib a b s1 && l.all (fun e => bothB ia ib a b e.post) && (pre ++ win).all (actOkB L) then
        some (bytesOut cfg a (l.map (·.out)), bytesOut cfg b (l.map (·.out)))
      else none

/-- what `demoWindow` establishes: the hypotheses of `drr_fair` and `drr_visits_alternate` -/
theorem demoWindow_sound (cfg : Cfg ℚ) (L ia ib a b : Nat) (pre win : List (MAct ℚ)) (r : Int × Int)
    (h : demoWindow cfg L ia ib a b pre win = some r) :
    ∃ s1 s2 outs, Reached cfg (L : ℚ) 0 s1 ∧ Window cfg (L : ℚ) (Both ia ib a b) s1 outs s2 ∧
      bytesOut cfg a outs = r.1 ∧ bytesOut cfg b outs = r.2 := by
  unfold demoWindow at h
  split at h
  · cases h
  · rename_i s1 ins outs hpre
    split at h
    · cases h
    · rename_i l hlog
      split at h
      · rename_i hc
        simp only [Bool.and_eq_true, List.all_eq_true, List.mem_append] at hc
        obtain ⟨⟨h1, h2⟩, h3⟩ := hc
        simp only [Option.some.injEq] at h
        subst h
        refine ⟨s1, lastPost s1 l, l.map (·.out), ⟨pre, ins, outs, fun a' ha' => actOk_of_actOkB L a' (h3 a' (Or.inl ha')), hpre⟩, ?_, rfl, rfl⟩
        exact window_of_log cfg L _ win s1 l hlog (fun a' ha' => actOk_of_actOkB L a' (h3 a' (Or.inr ha')))
          (both_of_bothB ia ib a b s1 h1) (fun e he => both_of_bothB ia ib a b e.post (h2 e he))
      · cases h


end DRR
