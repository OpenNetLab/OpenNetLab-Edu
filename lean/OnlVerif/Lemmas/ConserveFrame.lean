import OnlVerif.Lemmas.ConserveDefs
/-!
# Conservation / ordering proofs: the bookkeeping updates are `Frame`s; shape of the resource units

Concrete facts about the model's leaf updates, proved by unfolding (no relation involved).
-/

variable {σ : Type}

namespace Conserve

namespace Frame

theorem refl (s : KState ℚ σ) : Frame s s :=
  ⟨rfl, fun _ => rfl, fun _ => rfl, fun _ => rfl, fun e l' h cb hc => Or.inr ⟨l', h, hc⟩,
   fun p pr' h => Or.inr ⟨pr', h⟩, rfl, fun r => ResSame.rfl' _⟩

theorem of_fields {s s' t : KState ℚ σ} (h : Frame s t) (he : s'.events = t.events)
    (hr : s'.resources = t.resources) (hp : s'.procs = t.procs) : Frame s s' := by
  have hev : ∀ e, s'.ev e = t.ev e := fun e => by simp only [KState.ev, he]
  have hres : ∀ r, s'.res r = t.res r := fun r => by simp only [KState.res, hr]
  have hpr : ∀ p, s'.proc? p = t.proc? p := fun p => by simp only [KState.proc?, hp]
  have hcore : ∀ e, coreOf s' e = coreOf t e := fun e => by simp only [coreOf, reqOf, hev]
  refine ⟨by rw [he]; exact h.size, ?_, ?_, ?_, ?_, ?_, by rw [hr]; exact h.rsize, ?_⟩
  · intro e; rw [hev]; exact h.kind e
  · intro e; rw [hev]; exact h.out e
  · intro e; rw [hcore]; exact h.core e
  · intro e l'; rw [hev]; exact h.cbs e l'
  · intro p pr'; rw [hpr]; exact h.procs p pr'
  · intro r; rw [hres]; exact h.res r

theorem emit (s : KState ℚ σ) (o : Obs ℚ) : Frame s (s.emit o) := (refl s).of_fields rfl rfl rfl
theorem active (s : KState ℚ σ) (a : Option EvId) : Frame s { s with active := a } := (refl s).of_fields rfl rfl rfl
theorem shared (s : KState ℚ σ) (l : List (Nat × Val)) : Frame s { s with shared := l } := (refl s).of_fields rfl rfl rfl
theorem schedule (s : KState ℚ σ) (e : EvId) (p : Nat) (d : ℚ) : Frame s (s.schedule e p d) :=
  (refl s).of_fields rfl rfl rfl

theorem setEv (s : KState ℚ σ) (e : EvId) (x : EvRec ℚ) (hk : x.kind = (s.ev e).kind) (ho : x.out = (s.ev e).out)
    (hq : ({ (x.req.getD { res := 0, time := Num.zero }) with usageSince := none } : ReqData ℚ) = coreOf s e)
    (hcb : ∀ l', x.cbs = some l' → ∀ cb ∈ l', CbOK s cb ∨ ∃ l, (s.ev e).cbs = some l ∧ cb ∈ l) :
    Frame s (s.setEv e x) := by
  refine ⟨by simp [KState.setEv], KState.ev_setEv_congr (·.kind) s e x hk, KState.ev_setEv_congr (·.out) s e x ho,
    KState.ev_setEv_congr (fun r => ({ (r.req.getD { res := 0, time := Num.zero }) with usageSince := none } : ReqData ℚ)) s e x hq,
    ?_, fun p pr' h => Or.inr ⟨pr', h⟩, rfl, fun r => ResSame.rfl' _⟩
  intro e' l'
  rw [KState.ev_setEv]
  split
  · rename_i h; rw [h.1]; exact hcb l'
  · intro h cb hc; exact Or.inr ⟨l', h, hc⟩

theorem defuse (s : KState ℚ σ) (e : EvId) : Frame s (s.defuse e) :=
  setEv s e _ rfl rfl rfl (fun l' h cb hc => Or.inr ⟨l', h, hc⟩)

theorem bumpCount (s : KState ℚ σ) (e : EvId) : Frame s (s.bumpCount e) :=
  setEv s e _ rfl rfl rfl (fun l' h cb hc => Or.inr ⟨l', h, hc⟩)

theorem setUsage (s : KState ℚ σ) (e : EvId) : Frame s (s.setUsage e) := by
  refine setEv s e _ rfl rfl ?_ (fun l' h cb hc => Or.inr ⟨l', h, hc⟩)
  unfold coreOf reqOf
  cases (s.ev e).req <;> rfl

theorem eraseCb (s : KState ℚ σ) (e : EvId) (cb : Cb) : Frame s (s.eraseCb e cb) := by
  refine setEv s e _ rfl rfl rfl ?_
  intro l' h cb' hc
  cases hl : (s.ev e).cbs with
  | none => simp [hl] at h
  | some l =>
    simp only [hl, Option.map_some, Option.some.injEq] at h
    subst h
    exact Or.inr ⟨l, rfl, List.mem_of_mem_erase hc⟩

theorem addCb (s : KState ℚ σ) (e : EvId) (cb : Cb) (hok : CbOK s cb) : Frame s (s.addCb e cb) := by
  unfold KState.addCb
  refine setEv s e _ rfl rfl rfl ?_
  intro l' h cb' hc
  cases hl : (s.ev e).cbs with
  | none => simp [hl] at h
  | some l =>
    simp only [hl, Option.map_some, Option.some.injEq] at h
    subst h
    rcases List.mem_append.mp hc with hc | hc
    · exact Or.inr ⟨l, rfl, hc⟩
    · rw [List.mem_singleton] at hc; subst hc; exact Or.inl hok

/-- `event.callbacks = None` (the pop of `step`), together with clock and agenda -/
theorem openEvent (s : KState ℚ σ) (q : QEntry ℚ) (rest : List (QEntry ℚ)) : Frame s (openEvent s q rest) := by
  have h : Frame s (s.setEv q.ev { s.ev q.ev with cbs := none }) :=
    setEv s q.ev _ rfl rfl rfl (fun l' h => by cases h)
  exact h.of_fields rfl rfl rfl

theorem setProc (s : KState ℚ σ) (p : EvId) (x : ProcRec σ) (hp : (s.ev p).kind = .proc) : Frame s (s.setProc p x) := by
  refine ⟨rfl, fun _ => rfl, fun _ => rfl, fun _ => rfl, fun e l' h cb hc => Or.inr ⟨l', h, hc⟩, ?_, rfl,
    fun r => ResSame.rfl' _⟩
  intro p' pr' h
  rw [proc?_setProc] at h
  split at h
  · rename_i hpp; subst hpp; exact Or.inl hp
  · exact Or.inr ⟨pr', h⟩

theorem setUsers (s : KState ℚ σ) (r : ResId) (l : List EvId) : Frame s (s.setUsers r l) := by
  refine ⟨rfl, fun _ => rfl, fun _ => rfl, fun _ => rfl, fun e l' h cb hc => Or.inr ⟨l', h, hc⟩,
    fun p pr' h => Or.inr ⟨pr', h⟩, by simp [KState.setUsers, KState.setRes], ?_⟩
  intro r'
  unfold KState.setUsers
  rw [KState.res_setRes]
  split
  · rename_i h; rw [h.1]; exact ⟨rfl, rfl, rfl, rfl, rfl, rfl⟩
  · exact ResSame.rfl' _

end Frame

section access

@[simp] theorem KState.res_setOut (s : KState ℚ σ) (e : EvId) (o : Outcome) (r : ResId) : (s.setOut e o).res r = s.res r := rfl
@[simp] theorem KState.res_trigger (s : KState ℚ σ) (e : EvId) (o : Outcome) (r : ResId) : (s.trigger e o).res r = s.res r := rfl
@[simp] theorem KState.res_setUsage (s : KState ℚ σ) (e : EvId) (r : ResId) : (s.setUsage e).res r = s.res r := rfl
@[simp] theorem KState.ev_trigger (s : KState ℚ σ) (e : EvId) (o : Outcome) (e' : EvId) :
    (s.trigger e o).ev e' = (s.setOut e o).ev e' := rfl
@[simp] theorem KState.events_setRes (s : KState ℚ σ) (r : ResId) (x : ResRec) : (s.setRes r x).events = s.events := rfl
@[simp] theorem KState.events_schedule (s : KState ℚ σ) (e : EvId) (p : Nat) (d : ℚ) : (s.schedule e p d).events = s.events := rfl
@[simp] theorem KState.procs_setRes (s : KState ℚ σ) (r : ResId) (x : ResRec) : (s.setRes r x).procs = s.procs := rfl
@[simp] theorem KState.rsize_setRes (s : KState ℚ σ) (r : ResId) (x : ResRec) : (s.setRes r x).resources.size = s.resources.size := by
  simp [KState.setRes]
@[simp] theorem KState.esize_setEv (s : KState ℚ σ) (e : EvId) (x : EvRec ℚ) : (s.setEv e x).events.size = s.events.size := by
  simp [KState.setEv]

theorem KState.ev_setOut (s : KState ℚ σ) (e e' : EvId) (o : Outcome) :
    (s.setOut e o).ev e' = if e' = e ∧ e < s.events.size then { s.ev e with out := some o } else s.ev e' := by
  unfold KState.setOut; rw [KState.ev_setEv]

theorem KState.triggered_trigger (s : KState ℚ σ) (e : EvId) (o : Outcome) (h : e < s.events.size) :
    (s.trigger e o).triggered e = true := by
  unfold KState.triggered
  rw [KState.ev_trigger, KState.ev_setOut, if_pos ⟨rfl, h⟩]; rfl

theorem preemptStep_res (s : KState ℚ σ) (r : ResId) (e : EvId) (r' : ResId) :
    ResSame (s.res r') ((preemptStep s r e).res r') := by
  rcases preemptStep_cases s r e with h | ⟨w, h | ⟨vp, c, h⟩⟩ <;> rw [h]
  · exact ResSame.rfl' _
  · exact (Frame.setUsers s r _).res r'
  · rw [res_mkInterrupt]; exact (Frame.setUsers s r _).res r'

theorem prePut_res (s : KState ℚ σ) (r : ResId) (e : EvId) (r' : ResId) : ResSame (s.res r') ((prePut s r e).res r') := by
  unfold prePut
  split
  · exact preemptStep_res s r e r'
  · exact ResSame.rfl' _

end access

end Conserve
