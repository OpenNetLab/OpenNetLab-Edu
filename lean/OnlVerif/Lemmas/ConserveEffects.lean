import OnlVerif.Lemmas.ConserveFrame
/-!
# Conservation / ordering proofs: what each atomic resource unit does to the state

The units the engine (`ConserveEngine.lean`) is built from fall into two groups, each described once here by
unfolding the model; the instances of the engine use only these descriptions.

* `Quiet s s'` — a unit that grants nothing (bookkeeping, a fresh non-request event, an outcome written to a
  non-request event, `Put/Get.__init__`, `cancel`): old events keep kind and request data, requests keep their outcome,
  a fresh request is untriggered, levels and items are untouched, and every queue changes in one of three ways
  (`QChange`).
* `PutEffect` / `GetEffect` — a granted `_do_put` / `_do_get`; `Granted` — what the two have in common once the state is
  well-formed (the request gets its outcome and is erased from every queue), which is all that `Base`, the queue order
  and the sums over the event table need.
-/

variable {σ : Type}

namespace Conserve

def nonReqKind : Kind → Bool
  | .put _ => false
  | .get _ => false
  | _ => true

/-- `_do_put` on the head of the queue, granted -/
def grantPutSt (s : KState ℚ σ) (r : ResId) (e : EvId) : KState ℚ σ := dropPutQ (applyPut s r e) r e
/-- `_do_get`, granted with value `v` -/
def grantGetSt (s : KState ℚ σ) (r : ResId) (e : EvId) (v : Val) : KState ℚ σ :=
  dropGetQ ((takeOut s r e v).trigger e (.ok v)) r e
/-- `Put.__init__` up to the scan -/
def newPutSt (s : KState ℚ σ) (r : ResId) (rq : ReqData ℚ) : KState ℚ σ :=
  enqPut (s.newLabelled { kind := .put r, cbs := some [.trigGet r], out := none, req := some rq }).1 r s.events.size
/-- `Get.__init__` up to the scan -/
def newGetSt (s : KState ℚ σ) (r : ResId) (rq : ReqData ℚ) : KState ℚ σ :=
  enqGet (s.newLabelled { kind := .get r, cbs := some [.trigPut r], out := none, req := some rq }).1 r s.events.size

structure PutEffect (s s' : KState ℚ σ) (r : ResId) (e : EvId) : Prop where
  size : s'.events.size = s.events.size
  kind : ∀ a, (s'.ev a).kind = (s.ev a).kind
  cbs : ∀ a, (s'.ev a).cbs = (s.ev a).cbs
  core : ∀ a, coreOf s' a = coreOf s a
  outE : (s'.ev e).out = some (.ok .none)
  outOther : ∀ a, a ≠ e → (s'.ev a).out = (s.ev a).out
  procs : s'.procs = s.procs
  rsize : s'.resources.size = s.resources.size
  resOther : ∀ r', r' ≠ r → s'.res r' = s.res r'
  rkind : (s'.res r).kind = (s.res r).kind
  rcap : (s'.res r).capacity = (s.res r).capacity
  putQ : (s'.res r).putQ = (s.res r).putQ.erase e
  getQ : (s'.res r).getQ = (s.res r).getQ
  levelC : (s.res r).kind = .container → (s'.res r).level = (s.res r).level + (reqOf s e).amount
  levelN : (s.res r).kind ≠ .container → (s'.res r).level = (s.res r).level
  itemsS : isStoreKind (s.res r).kind = true → (s'.res r).items = (s.res r).items ++ [(reqOf s e).item]
  itemsN : isStoreKind (s.res r).kind = false → (s'.res r).items = (s.res r).items

structure GetEffect (s s' : KState ℚ σ) (r : ResId) (e : EvId) (v : Val) : Prop where
  size : s'.events.size = s.events.size
  kind : ∀ a, (s'.ev a).kind = (s.ev a).kind
  cbs : ∀ a, (s'.ev a).cbs = (s.ev a).cbs
  core : ∀ a, coreOf s' a = coreOf s a
  outE : (s'.ev e).out = some (.ok v)
  outOther : ∀ a, a ≠ e → (s'.ev a).out = (s.ev a).out
  procs : s'.procs = s.procs
  rsize : s'.resources.size = s.resources.size
  resOther : ∀ r', r' ≠ r → s'.res r' = s.res r'
  rkind : (s'.res r).kind = (s.res r).kind
  rcap : (s'.res r).capacity = (s.res r).capacity
  putQ : (s'.res r).putQ = (s.res r).putQ
  getQ : (s'.res r).getQ = (s.res r).getQ.erase e
  levelC : (s.res r).kind = .container → (s'.res r).level = (s.res r).level - (reqOf s e).amount
  levelN : (s.res r).kind ≠ .container → (s'.res r).level = (s.res r).level
  itemsS : isStoreKind (s.res r).kind = true →
    ∃ x, v = .int x ∧ x ∈ (s.res r).items ∧ (s'.res r).items = (s.res r).items.erase x
  itemsN : isStoreKind (s.res r).kind = false → (s'.res r).items = (s.res r).items

structure Granted (s s' : KState ℚ σ) (e : EvId) (o : Outcome) : Prop where
  lt : e < s.events.size
  pend : (s.ev e).out = none
  queued : ∀ r, ((s.ev e).kind = .put r → e ∈ (s.res r).putQ) ∧ ((s.ev e).kind = .get r → e ∈ (s.res r).getQ)
  size : s'.events.size = s.events.size
  kind : ∀ a, (s'.ev a).kind = (s.ev a).kind
  cbs : ∀ a, (s'.ev a).cbs = (s.ev a).cbs
  core : ∀ a, coreOf s' a = coreOf s a
  outE : (s'.ev e).out = some o
  outOther : ∀ a, a ≠ e → (s'.ev a).out = (s.ev a).out
  procs : s'.procs = s.procs
  rsize : s'.resources.size = s.resources.size
  rkind : ∀ r, (s'.res r).kind = (s.res r).kind
  rcap : ∀ r, (s'.res r).capacity = (s.res r).capacity
  putQ : ∀ r, (s'.res r).putQ = (s.res r).putQ.erase e
  getQ : ∀ r, (s'.res r).getQ = (s.res r).getQ.erase e

theorem WF.not_mem {s : KState ℚ σ} (hW : WF s) {e : EvId} {k : Kind} (hk : (s.ev e).kind = k) (r : ResId) :
    (k ≠ .put r → e ∉ (s.res r).putQ) ∧ (k ≠ .get r → e ∉ (s.res r).getQ) :=
  ⟨fun hne hm => hne (hk.symm.trans (hW.putQ r e hm).1), fun hne hm => hne (hk.symm.trans (hW.getQ r e hm).1)⟩

theorem PutEffect.granted {s s' : KState ℚ σ} {r : ResId} {e : EvId} (hW : WF s) (hm : e ∈ (s.res r).putQ)
    (hE : PutEffect s s' r e) : Granted s s' e (.ok .none) := by
  have hk := (hW.putQ r e hm).1
  refine ⟨lt_size_of_kind (by rw [hk]; simp), (hW.putQ r e hm).2,
    fun r' => ⟨fun h => Kind.put.inj (hk.symm.trans h) ▸ hm, fun h => Kind.noConfusion (hk.symm.trans h)⟩, hE.size, hE.kind, hE.cbs, hE.core, hE.outE, hE.outOther,
    hE.procs, hE.rsize, ?_, ?_, ?_, ?_⟩ <;> intro r' <;> by_cases hr : r' = r
  · rw [hr]; exact hE.rkind
  · rw [hE.resOther r' hr]
  · rw [hr]; exact hE.rcap
  · rw [hE.resOther r' hr]
  · rw [hr]; exact hE.putQ
  · rw [hE.resOther r' hr, List.erase_of_not_mem ((hW.not_mem hk r').1 (fun h => hr (Kind.put.inj h).symm))]
  · rw [hr, hE.getQ, List.erase_of_not_mem ((hW.not_mem hk r).2 Kind.noConfusion)]
  · rw [hE.resOther r' hr, List.erase_of_not_mem ((hW.not_mem hk r').2 Kind.noConfusion)]

theorem GetEffect.granted {s s' : KState ℚ σ} {r : ResId} {e : EvId} {v : Val} (hW : WF s) (hm : e ∈ (s.res r).getQ)
    (hE : GetEffect s s' r e v) : Granted s s' e (.ok v) := by
  have hk := (hW.getQ r e hm).1
  refine ⟨lt_size_of_kind (by rw [hk]; simp), (hW.getQ r e hm).2,
    fun r' => ⟨fun h => Kind.noConfusion (hk.symm.trans h), fun h => Kind.get.inj (hk.symm.trans h) ▸ hm⟩, hE.size, hE.kind, hE.cbs, hE.core, hE.outE, hE.outOther,
    hE.procs, hE.rsize, ?_, ?_, ?_, ?_⟩ <;> intro r' <;> by_cases hr : r' = r
  · rw [hr]; exact hE.rkind
  · rw [hE.resOther r' hr]
  · rw [hr]; exact hE.rcap
  · rw [hE.resOther r' hr]
  · rw [hr, hE.putQ, List.erase_of_not_mem ((hW.not_mem hk r).1 Kind.noConfusion)]
  · rw [hE.resOther r' hr, List.erase_of_not_mem ((hW.not_mem hk r').1 Kind.noConfusion)]
  · rw [hr]; exact hE.getQ
  · rw [hE.resOther r' hr, List.erase_of_not_mem ((hW.not_mem hk r').2 (fun h => hr (Kind.get.inj h).symm))]

section evfacts

theorem ev_default_of_ge {s : KState ℚ σ} {a : EvId} (h : s.events.size ≤ a) : s.ev a = default :=
  KState.ev_of_size_le s a h

theorem not_isReq_of_ge {s : KState ℚ σ} {a : EvId} (h : s.events.size ≤ a) : isReq s a = false := by
  unfold isReq; rw [ev_default_of_ge h]; rfl

theorem isReq_eq_not_nonReq (s : KState ℚ σ) (a : EvId) : isReq s a = !nonReqKind (s.ev a).kind := by
  unfold isReq nonReqKind
  cases (s.ev a).kind <;> rfl

theorem resources_trigger (s : KState ℚ σ) (e : EvId) (o : Outcome) : (s.trigger e o).resources = s.resources := rfl

theorem ev_setOut_eq (s : KState ℚ σ) (e : EvId) (o : Outcome) (a : EvId) :
    (s.setOut e o).ev a = { s.ev a with out := if a = e ∧ e < s.events.size then some o else (s.ev a).out } := by
  rw [KState.ev_setOut]
  split
  · rename_i h; rw [h.1]
  · rfl

theorem reqOf_setOut (s : KState ℚ σ) (e : EvId) (o : Outcome) (a : EvId) : reqOf (s.setOut e o) a = reqOf s a := by
  unfold reqOf; rw [ev_setOut_eq]

theorem coreOf_setOut (s : KState ℚ σ) (e : EvId) (o : Outcome) (a : EvId) : coreOf (s.setOut e o) a = coreOf s a := by
  unfold coreOf; rw [reqOf_setOut]

theorem kind_setOut (s : KState ℚ σ) (e : EvId) (o : Outcome) (a : EvId) : ((s.setOut e o).ev a).kind = (s.ev a).kind :=
  congrArg (·.kind) (ev_setOut_eq s e o a)

theorem cbs_setOut (s : KState ℚ σ) (e : EvId) (o : Outcome) (a : EvId) : ((s.setOut e o).ev a).cbs = (s.ev a).cbs :=
  congrArg (·.cbs) (ev_setOut_eq s e o a)

theorem out_setOut_other (s : KState ℚ σ) (e : EvId) (o : Outcome) (a : EvId) (h : a ≠ e) :
    ((s.setOut e o).ev a).out = (s.ev a).out :=
  (congrArg (·.out) (ev_setOut_eq s e o a)).trans (if_neg (fun hc => h hc.1))

theorem cbs_setUsage (s : KState ℚ σ) (e a : EvId) : ((s.setUsage e).ev a).cbs = (s.ev a).cbs := by
  unfold KState.setUsage
  rw [KState.ev_setEv]; split
  · rename_i h; rw [h.1]
  · rfl

theorem procQ_of_procs {s s' : KState ℚ σ} (hp : s'.procs = s.procs) (p : EvId) : s'.proc? p = s.proc? p := by
  unfold KState.proc?; rw [hp]

end evfacts

/-- events-side description of `x.trigger e o` where `x` differs from `s` by resource updates and possibly `setUsage e` -/
structure EvTrig (s s' : KState ℚ σ) (e : EvId) (o : Outcome) : Prop where
  size : s'.events.size = s.events.size
  kind : ∀ a, (s'.ev a).kind = (s.ev a).kind
  cbs : ∀ a, (s'.ev a).cbs = (s.ev a).cbs
  core : ∀ a, coreOf s' a = coreOf s a
  outE : e < s.events.size → (s'.ev e).out = some o
  outOther : ∀ a, a ≠ e → (s'.ev a).out = (s.ev a).out
  procs : s'.procs = s.procs

theorem EvTrig.of_same {s x : KState ℚ σ} (e : EvId) (o : Outcome) (hs : x.events.size = s.events.size)
    (hk : ∀ a, (x.ev a).kind = (s.ev a).kind) (hc : ∀ a, (x.ev a).cbs = (s.ev a).cbs)
    (hq : ∀ a, coreOf x a = coreOf s a) (ho : ∀ a, (x.ev a).out = (s.ev a).out) (hp : x.procs = s.procs) :
    EvTrig s (x.trigger e o) e o := by
  refine ⟨?_, ?_, ?_, ?_, ?_, ?_, hp⟩
  · show (x.setOut e o).events.size = _
    unfold KState.setOut; rw [KState.esize_setEv, hs]
  · intro a; rw [KState.ev_trigger, kind_setOut, hk]
  · intro a; rw [KState.ev_trigger, cbs_setOut, hc]
  · intro a
    have : coreOf (x.trigger e o) a = coreOf (x.setOut e o) a := rfl
    rw [this, coreOf_setOut, hq]
  · intro h; rw [KState.ev_trigger, KState.out_setOut _ _ _ (by rw [hs]; exact h)]
  · intro a ha; rw [KState.ev_trigger, out_setOut_other _ _ _ _ ha, ho]

theorem EvTrig.of_resOnly (s x : KState ℚ σ) (e : EvId) (o : Outcome) (hev : x.events = s.events) (hp : x.procs = s.procs) :
    EvTrig s (x.trigger e o) e o := by
  have hxe : ∀ a, x.ev a = s.ev a := fun a => by simp only [KState.ev, hev]
  exact EvTrig.of_same e o (by rw [hev]) (fun a => by rw [hxe]) (fun a => by rw [hxe])
    (fun a => by simp only [coreOf, reqOf, hxe]) (fun a => by rw [hxe]) hp

theorem EvTrig.setRes {s t : KState ℚ σ} {e : EvId} {o : Outcome} (h : EvTrig s t e o) (r : ResId) (y : ResRec) :
    EvTrig s (t.setRes r y) e o :=
  ⟨h.size, h.kind, h.cbs, h.core, h.outE, h.outOther, h.procs⟩

theorem dropPutQ_res (s : KState ℚ σ) (r : ResId) (e : EvId) (r' : ResId) :
    (dropPutQ s r e).res r' = if r' = r ∧ r < s.resources.size then { s.res r with putQ := (s.res r).putQ.erase e } else s.res r' := by
  unfold dropPutQ KState.setPutQ
  rw [KState.res_setRes]

theorem dropGetQ_res (s : KState ℚ σ) (r : ResId) (e : EvId) (r' : ResId) :
    (dropGetQ s r e).res r' = if r' = r ∧ r < s.resources.size then { s.res r with getQ := (s.res r).getQ.erase e } else s.res r' := by
  unfold dropGetQ KState.setGetQ
  rw [KState.res_setRes]

theorem applyPut_evTrig (s : KState ℚ σ) (r : ResId) (e : EvId) : EvTrig s (applyPut s r e) e (.ok .none) := by
  rw [applyPut_eq]
  cases isResKind (s.res r).kind
  · exact EvTrig.of_resOnly s _ e _ rfl rfl
  · have hF := Frame.setUsage (s.setRes r (recAfterPut s r e)) e
    exact EvTrig.of_same e _ hF.size hF.kind (cbs_setUsage _ e) hF.core hF.out rfl

theorem applyPut_resources (s : KState ℚ σ) (r : ResId) (e : EvId) :
    (applyPut s r e).resources = (s.setRes r (recAfterPut s r e)).resources := by
  rw [applyPut_eq]
  cases isResKind (s.res r).kind <;> rfl

theorem applyPut_res (s : KState ℚ σ) (r : ResId) (e : EvId) (r' : ResId) :
    (applyPut s r e).res r' = if r' = r ∧ r < s.resources.size then recAfterPut s r e else s.res r' := by
  unfold KState.res
  rw [applyPut_resources]
  exact KState.res_setRes s r r' _

theorem applyPut_rsize (s : KState ℚ σ) (r : ResId) (e : EvId) : (applyPut s r e).resources.size = s.resources.size := by
  rw [applyPut_resources, KState.rsize_setRes]

theorem grantPut_effect (s : KState ℚ σ) (r : ResId) (e : EvId) (he : e < s.events.size) (hr : r < s.resources.size) :
    PutEffect s (grantPutSt s r e) r e := by
  have hT : EvTrig s (grantPutSt s r e) e (.ok .none) := (applyPut_evTrig s r e).setRes r _
  have hres : ∀ r', (grantPutSt s r e).res r' = (dropPutQ (applyPut s r e) r e).res r' := fun _ => rfl
  have hx := hres r
  rw [dropPutQ_res, if_pos ⟨rfl, by rw [applyPut_rsize]; exact hr⟩, applyPut_res, if_pos ⟨rfl, hr⟩] at hx
  refine ⟨hT.size, hT.kind, hT.cbs, hT.core, hT.outE he, hT.outOther, hT.procs, ?_, ?_, congrArg (·.kind) hx,
    congrArg (·.capacity) hx, congrArg (·.putQ) hx, congrArg (·.getQ) hx, fun h => ?_, fun h => ?_, fun h => ?_, fun h => ?_⟩
  · unfold grantPutSt dropPutQ KState.setPutQ
    rw [KState.rsize_setRes, applyPut_rsize]
  · intro r' h
    rw [hres, dropPutQ_res, if_neg (fun hc => h hc.1), applyPut_res, if_neg (fun hc => h hc.1)]
  · exact (congrArg (·.level) hx).trans (if_pos (by rw [h]; rfl))
  · refine (congrArg (·.level) hx).trans (if_neg ?_)
    cases hk : (s.res r).kind <;> first | exact absurd hk h | exact Bool.false_ne_true
  · exact (congrArg (·.items) hx).trans (if_pos h)
  · exact (congrArg (·.items) hx).trans (if_neg (by rw [h]; exact Bool.false_ne_true))

theorem takeOut_procs (s : KState ℚ σ) (r : ResId) (e : EvId) (v : Val) : (takeOut s r e v).procs = s.procs := by
  unfold takeOut
  simp only
  split <;> try rfl
  all_goals split <;> rfl

theorem takeOut_events (s : KState ℚ σ) (r : ResId) (e : EvId) (v : Val) : (takeOut s r e v).events = s.events := by
  unfold takeOut
  simp only
  split <;> try rfl
  all_goals split <;> rfl

theorem takeOut_rsize (s : KState ℚ σ) (r : ResId) (e : EvId) (v : Val) : (takeOut s r e v).resources.size = s.resources.size := by
  unfold takeOut
  simp only
  split <;> try (simp only [KState.setUsers, KState.setLevel, KState.setItems, KState.rsize_setRes])
  all_goals split <;> simp only [KState.rsize_setRes]

theorem takeOut_resOther (s : KState ℚ σ) (r : ResId) (e : EvId) (v : Val) (r' : ResId) (h : r' ≠ r) :
    (takeOut s r e v).res r' = s.res r' := by
  have hset : ∀ y, (s.setRes r y).res r' = s.res r' := fun y => by rw [KState.res_setRes, if_neg (fun hc => h hc.1)]
  unfold takeOut
  simp only
  split
  · exact hset _
  · exact hset _
  · exact hset _
  · exact hset _
  · exact hset _
  · split
    · exact hset _
    · rfl
  · split
    · exact hset _
    · rfl

theorem listMin_le : ∀ (l : List Int) (m : Int), listMin l = some m → m ∈ l ∧ ∀ y ∈ l, m ≤ y
  | [], m, h => by simp [listMin] at h
  | x :: xs, m, h => by
    unfold listMin at h
    cases hx : listMin xs with
    | none =>
      rw [hx] at h; simp only [Option.some.injEq] at h; subst h
      have : xs = [] := by
        cases xs with
        | nil => rfl
        | cons y ys =>
          unfold listMin at hx
          cases h2 : listMin ys <;> rw [h2] at hx <;> simp at hx
          split at hx <;> simp at hx
      subst this; simp
    | some m' =>
      rw [hx] at h
      have ih := listMin_le xs m' hx
      simp only at h
      split at h
      · rename_i hlt
        simp only [Option.some.injEq] at h; subst h
        refine ⟨List.mem_cons_of_mem _ ih.1, ?_⟩
        intro y hy
        rcases List.mem_cons.mp hy with rfl | hy
        · exact Int.le_of_lt hlt
        · exact ih.2 y hy
      · rename_i hnlt
        simp only [Option.some.injEq] at h; subst h
        refine ⟨List.mem_cons_self, ?_⟩
        intro y hy
        rcases List.mem_cons.mp hy with rfl | hy
        · exact Int.le_refl _
        · exact Int.le_trans (Int.not_lt.mp hnlt) (ih.2 y hy)

theorem getItem_store (s : KState ℚ σ) (r : ResId) (e : EvId) (v : Val) (hk : isStoreKind (s.res r).kind = true)
    (hg : getItem s r e = some v) : ∃ x, v = .int x ∧ x ∈ (s.res r).items := by
  unfold getItem at hg
  cases hkk : (s.res r).kind <;> rw [hkk] at hk <;> try exact absurd hk (by decide)
  all_goals
    simp only [hkk, Option.map_eq_some_iff] at hg
    obtain ⟨x, hx, hv⟩ := hg
    refine ⟨x, hv.symm, ?_⟩
  · exact List.mem_of_mem_head? hx
  · exact (listMin_le _ _ hx).1
  · exact List.mem_of_find?_eq_some hx

theorem takeOut_res_N (s : KState ℚ σ) (r : ResId) (e : EvId) (v : Val) (hr : r < s.resources.size)
    (hS : isStoreKind (s.res r).kind = false) :
    (takeOut s r e v).res r = { s.res r with
      users := if isResKind (s.res r).kind then (s.res r).users.erase (reqOf s e).releaseOf else (s.res r).users
      level := if (s.res r).kind == .container then (s.res r).level - (reqOf s e).amount else (s.res r).level } := by
  cases hk : (s.res r).kind <;> rw [hk] at hS <;> first
    | exact Bool.noConfusion hS
    | (simp only [takeOut, hk, KState.setUsers, KState.setLevel]; rw [KState.res_setRes, if_pos ⟨rfl, hr⟩]; rfl)

theorem getItem_store_head {s : KState ℚ σ} {r : ResId} {e : EvId} {v : Val} (hk : (s.res r).kind = .store)
    (hg : getItem s r e = some v) : ∃ x tl, v = .int x ∧ (s.res r).items = x :: tl := by
  unfold getItem at hg
  simp only [hk, Option.map_eq_some_iff] at hg
  obtain ⟨x, hx, hv⟩ := hg
  cases hi : (s.res r).items with
  | nil => rw [hi] at hx; cases hx
  | cons y ys => rw [hi] at hx; cases hx; exact ⟨_, ys, hv.symm, rfl⟩

theorem takeOut_res_S (s : KState ℚ σ) (r : ResId) (e : EvId) (x : Int) (hr : r < s.resources.size)
    (hk : isStoreKind (s.res r).kind = true) (hg : getItem s r e = some (.int x)) :
    (takeOut s r e (.int x)).res r = { s.res r with items := (s.res r).items.erase x } := by
  cases hkk : (s.res r).kind <;> rw [hkk] at hk <;> try exact absurd hk (by decide)
  · unfold takeOut
    simp only [hkk, KState.setItems]
    rw [KState.res_setRes, if_pos ⟨rfl, hr⟩]
    obtain ⟨y, tl, hy, hi⟩ := getItem_store_head hkk hg
    cases hy
    rw [hi, List.tail_cons, List.erase_cons_head]
  · unfold takeOut
    simp only [hkk, KState.setItems]
    rw [KState.res_setRes, if_pos ⟨rfl, hr⟩]
  · unfold takeOut
    simp only [hkk, KState.setItems]
    rw [KState.res_setRes, if_pos ⟨rfl, hr⟩]

theorem grantGet_effect (s : KState ℚ σ) (r : ResId) (e : EvId) (v : Val) (he : e < s.events.size)
    (hr : r < s.resources.size) (hg : getItem s r e = some v) : GetEffect s (grantGetSt s r e v) r e v := by
  have hT : EvTrig s (grantGetSt s r e v) e (.ok v) :=
    (EvTrig.of_resOnly s _ e _ (takeOut_events s r e v) (takeOut_procs s r e v)).setRes r _
  have hres : ∀ r', (grantGetSt s r e v).res r' = (dropGetQ ((takeOut s r e v).trigger e (.ok v)) r e).res r' :=
    fun _ => rfl
  have hx := hres r
  rw [dropGetQ_res, if_pos ⟨rfl, by rw [resources_trigger, takeOut_rsize]; exact hr⟩, KState.res_trigger] at hx
  have hrs : (grantGetSt s r e v).resources.size = s.resources.size := by
    unfold grantGetSt dropGetQ KState.setGetQ
    rw [KState.rsize_setRes, resources_trigger, takeOut_rsize]
  have hoth : ∀ r', r' ≠ r → (grantGetSt s r e v).res r' = s.res r' := fun r' h => by
    rw [hres, dropGetQ_res, if_neg (fun hc => h hc.1), KState.res_trigger, takeOut_resOther _ _ _ _ _ h]
  cases hS : isStoreKind (s.res r).kind
  · rw [takeOut_res_N s r e v hr hS] at hx
    refine ⟨hT.size, hT.kind, hT.cbs, hT.core, hT.outE he, hT.outOther, hT.procs, hrs, hoth, by rw [hx], by rw [hx],
      by rw [hx], by rw [hx], fun h => ?_, fun h => ?_, fun h => Bool.noConfusion (hS.symm.trans h), fun _ => by rw [hx]⟩
    · rw [hx]; exact if_pos (by rw [h]; rfl)
    · rw [hx]; cases hk : (s.res r).kind <;> first | exact absurd hk h | rfl
  · obtain ⟨y, rfl, hy⟩ := getItem_store s r e v hS hg
    rw [takeOut_res_S s r e y hr hS hg] at hx
    exact ⟨hT.size, hT.kind, hT.cbs, hT.core, hT.outE he, hT.outOther, hT.procs, hrs, hoth, by rw [hx], by rw [hx],
      by rw [hx], by rw [hx], fun h => (by rw [h] at hS; cases hS), fun _ => by rw [hx], fun _ => ⟨y, rfl, hy, by rw [hx]⟩,
      fun h => Bool.noConfusion (hS.symm.trans h)⟩

theorem Base.putEffect_of_guard {s : KState ℚ σ} {r : ResId} {e : EvId} {rest : List EvId} (hW : WF s)
    (hq : (s.res r).putQ = e :: rest) : PutEffect s (grantPutSt s r e) r e := by
  have hmem : e ∈ (s.res r).putQ := by rw [hq]; exact List.mem_cons_self
  exact grantPut_effect s r e (lt_size_of_kind (by rw [(hW.putQ r e hmem).1]; simp)) (lt_rsize_of_putQ (by rw [hq]; simp))

theorem Base.getEffect_of_guard {s : KState ℚ σ} {r : ResId} {e : EvId} {v : Val} {pre rest : List EvId} (hW : WF s)
    (hq : (s.res r).getQ = pre ++ e :: rest) (hg : getItem s r e = some v) : GetEffect s (grantGetSt s r e v) r e v := by
  have hmem : e ∈ (s.res r).getQ := by rw [hq]; simp
  exact grantGet_effect s r e v (lt_size_of_kind (by rw [(hW.getQ r e hmem).1]; simp))
    (lt_rsize_of_getQ (by rw [hq]; simp)) hg

theorem mem_insertSorted (s : KState ℚ σ) (e : EvId) (l : List EvId) (a : EvId) :
    a ∈ insertSorted s e l ↔ a = e ∨ a ∈ l :=
  (insertSorted_perm s e l).mem_iff.trans List.mem_cons

theorem sublist_insertSorted (s : KState ℚ σ) (e : EvId) (l : List EvId) : l.Sublist (insertSorted s e l) := by
  induction l with
  | nil => simp [insertSorted]
  | cons x xs ih =>
    unfold insertSorted
    split
    · exact List.sublist_cons_self _ _
    · exact List.Sublist.cons_cons x ih

theorem nodup_insertSorted (s : KState ℚ σ) (e : EvId) (l : List EvId) (hn : l.Nodup) (he : e ∉ l) :
    (insertSorted s e l).Nodup :=
  (insertSorted_perm s e l).nodup_iff.mpr (List.nodup_cons.mpr ⟨he, hn⟩)

/-- `insertSorted` reads only the request data, which the resource table does not hold -/
theorem insertSorted_congr (s t : KState ℚ σ) (h : ∀ a, reqOf s a = reqOf t a) (e : EvId) (l : List EvId) :
    insertSorted s e l = insertSorted t e l := by
  induction l with
  | nil => rfl
  | cons x xs ih => unfold insertSorted; rw [h e, h x, ih]

/-- how a unit that grants nothing changes a queue of requests of kind `k`: not at all; a member leaves (`cancel`); or
the request `n` just created enters (`Put/Get.__init__`; `prio`: the queue is a `SortedQueue`, ranks read in `s'`) -/
inductive QChange (s' : KState ℚ σ) (n : EvId) (k : Kind) (prio : Bool) (Q : List EvId) : List EvId → Prop
  | same : QChange s' n k prio Q Q
  | erase (e : EvId) : QChange s' n k prio Q (Q.erase e)
  | enter : (s'.ev n).kind = k → QChange s' n k prio Q (if prio then insertSorted s' n Q else Q ++ [n])

namespace QChange
variable {s' : KState ℚ σ} {n : EvId} {k : Kind} {prio : Bool} {Q Q' : List EvId}

theorem mem (h : QChange s' n k prio Q Q') {b : EvId} (hb : b ∈ Q') : b ∈ Q ∨ (b = n ∧ (s'.ev n).kind = k) := by
  cases h with
  | same => exact Or.inl hb
  | erase e => exact Or.inl (List.mem_of_mem_erase hb)
  | enter hk =>
    split at hb
    · exact ((mem_insertSorted _ _ _ _).mp hb).symm.imp_right (⟨·, hk⟩)
    · exact (List.mem_append.mp hb).imp_right (⟨List.mem_singleton.mp ·, hk⟩)

theorem nodup (h : QChange s' n k prio Q Q') (hn : Q.Nodup) (hnot : n ∉ Q) : Q'.Nodup := by
  cases h with
  | same => exact hn
  | erase e => exact hn.erase e
  | enter _ =>
    split
    · exact nodup_insertSorted _ _ _ hn hnot
    · exact List.nodup_append.mpr ⟨hn, List.pairwise_singleton _ n, fun a ha b hb => by
        rw [List.mem_singleton] at hb; subst hb; exact fun hc => hnot (hc ▸ ha)⟩

end QChange

structure Quiet (s s' : KState ℚ σ) : Prop where
  size_le : s.events.size ≤ s'.events.size
  kind : ∀ a, a < s.events.size → (s'.ev a).kind = (s.ev a).kind
  core : ∀ a, a < s.events.size → coreOf s' a = coreOf s a
  out : ∀ a, isReq s a = true → (s'.ev a).out = (s.ev a).out
  fresh : ∀ a, s.events.size ≤ a → isReq s' a = true → (s'.ev a).out = none
  cbs : ∀ e l', (s'.ev e).cbs = some l' → ∀ cb ∈ l', CbOK s cb ∨ ∃ l, (s.ev e).cbs = some l ∧ cb ∈ l
  procs : ∀ p pr', s'.proc? p = some pr' → (s.ev p).kind = .proc ∨ ∃ pr, s.proc? p = some pr
  rsize : s'.resources.size = s.resources.size
  res : ∀ r, (s'.res r).kind = (s.res r).kind ∧ (s'.res r).capacity = (s.res r).capacity ∧
    (s'.res r).level = (s.res r).level ∧ (s'.res r).items = (s.res r).items
  putQ : ∀ r, QChange s' s.events.size (.put r) (isPrioKind (s.res r).kind) (s.res r).putQ (s'.res r).putQ
  getQ : ∀ r, QChange s' s.events.size (.get r) false (s.res r).getQ (s'.res r).getQ

namespace Quiet

theorem fresh_of_size {s s' : KState ℚ σ} (h : s'.events.size = s.events.size) (a : EvId) (ha : s.events.size ≤ a)
    (hr : isReq s' a = true) : (s'.ev a).out = none :=
  absurd (lt_size_of_isReq hr) (by rw [h]; exact Nat.not_lt.mpr ha)

theorem of_frame {s s' : KState ℚ σ} (h : Frame s s') : Quiet s s' where
  size_le := Nat.le_of_eq h.size.symm
  kind a _ := h.kind a
  core a _ := h.core a
  out a _ := h.out a
  fresh := fresh_of_size h.size
  cbs := h.cbs
  procs := h.procs
  rsize := h.rsize
  res r := ⟨(h.res r).kind, (h.res r).capacity, (h.res r).level, (h.res r).items⟩
  putQ r := by rw [(h.res r).putQ]; exact .same
  getQ r := by rw [(h.res r).getQ]; exact .same

theorem of_trigNR (s : KState ℚ σ) (e : EvId) (o : Outcome) (hn : isReq s e = false) : Quiet s (s.setOut e o) where
  size_le := Nat.le_of_eq (by unfold KState.setOut; rw [KState.esize_setEv])
  kind a _ := kind_setOut s e o a
  core a _ := coreOf_setOut s e o a
  out a ha := out_setOut_other s e o a (fun hc => by rw [hc, hn] at ha; cases ha)
  fresh := fresh_of_size (by unfold KState.setOut; rw [KState.esize_setEv])
  cbs a l' hl cb hcb := Or.inr ⟨l', by rw [← cbs_setOut s e o a]; exact hl, hcb⟩
  procs p pr' h := Or.inr ⟨pr', h⟩
  rsize := rfl
  res _ := ⟨rfl, rfl, rfl, rfl⟩
  putQ _ := .same
  getQ _ := .same

theorem of_push {s s' : KState ℚ σ} (x : EvRec ℚ) (he : s'.events = s.events.push x)
    (hx : nonReqKind x.kind = true ∨ x.out = none) (hc : ∀ l, x.cbs = some l → ∀ cb ∈ l, cbPlain cb = true)
    (hp : s'.procs = s.procs) (hrs : s'.resources.size = s.resources.size)
    (hres : ∀ r, (s'.res r).kind = (s.res r).kind ∧ (s'.res r).capacity = (s.res r).capacity ∧
      (s'.res r).level = (s.res r).level ∧ (s'.res r).items = (s.res r).items)
    (hput : ∀ r, QChange s' s.events.size (.put r) (isPrioKind (s.res r).kind) (s.res r).putQ (s'.res r).putQ)
    (hget : ∀ r, QChange s' s.events.size (.get r) false (s.res r).getQ (s'.res r).getQ) : Quiet s s' := by
  have hold : ∀ a, a < s.events.size → s'.ev a = s.ev a := fun a ha => by
    rw [KState.ev_of_push he, if_neg (Nat.ne_of_lt ha)]
  refine ⟨by rw [he, Array.size_push]; exact Nat.le_succ _, fun a ha => by rw [hold a ha],
    fun a ha => by unfold coreOf reqOf; rw [hold a ha], fun a ha => by rw [hold a (lt_size_of_isReq ha)], ?_, ?_,
    fun p pr' h => Or.inr ⟨pr', by rw [← procQ_of_procs hp]; exact h⟩, hrs, hres, hput, hget⟩
  · intro a ha hr
    rcases Nat.eq_or_lt_of_le ha with rfl | hlt
    · rw [isReq_eq_not_nonReq, KState.ev_of_push he, if_pos rfl] at hr
      rw [KState.ev_of_push he, if_pos rfl]
      exact hx.resolve_left (fun h => by rw [h] at hr; cases hr)
    · rw [not_isReq_of_ge (by rw [he, Array.size_push]; exact hlt)] at hr; cases hr
  · intro a l' hl cb hcb
    rw [KState.ev_of_push he] at hl
    split at hl
    · exact Or.inl (CbOK_of_plain s (hc l' hl cb hcb))
    · exact Or.inr ⟨l', hl, hcb⟩

theorem of_alloc {s s' : KState ℚ σ} (x : EvRec ℚ) (he : s'.events = s.events.push x) (hk : nonReqKind x.kind = true)
    (hc : ∀ l, x.cbs = some l → ∀ cb ∈ l, cbPlain cb = true) (hr : s'.resources = s.resources)
    (hp : s'.procs = s.procs) : Quiet s s' := by
  have hres : ∀ r, s'.res r = s.res r := fun r => by simp only [KState.res, hr]
  exact of_push x he (Or.inl hk) hc hp (by rw [hr]) (fun r => by rw [hres]; exact ⟨rfl, rfl, rfl, rfl⟩)
    (fun r => by rw [hres]; exact .same) (fun r => by rw [hres]; exact .same)

theorem newPut_res (s : KState ℚ σ) (r : ResId) (rq : ReqData ℚ) (r' : ResId) :
    (newPutSt s r rq).res r' = if r' = r ∧ r < s.resources.size then
      { s.res r with putQ := if isPrioKind (s.res r).kind then insertSorted (newPutSt s r rq) s.events.size (s.res r).putQ
                             else (s.res r).putQ ++ [s.events.size] } else s.res r' := by
  rw [insertSorted_congr (newPutSt s r rq) (s.newLabelled
    { kind := .put r, cbs := some [.trigGet r], out := none, req := some rq }).1 (fun _ => rfl)]
  unfold newPutSt enqPut KState.setPutQ
  rw [KState.res_setRes]
  rfl

theorem newGet_res (s : KState ℚ σ) (r : ResId) (rq : ReqData ℚ) (r' : ResId) :
    (newGetSt s r rq).res r' = if r' = r ∧ r < s.resources.size then
      { s.res r with getQ := (s.res r).getQ ++ [s.events.size] } else s.res r' := by
  unfold newGetSt enqGet KState.setGetQ
  rw [KState.res_setRes]
  rfl

theorem res_of_setRes {s s' : KState ℚ σ} {r : ResId} {y : ResRec}
    (h : ∀ r', s'.res r' = if r' = r ∧ r < s.resources.size then y else s.res r')
    (hy : y.kind = (s.res r).kind ∧ y.capacity = (s.res r).capacity ∧ y.level = (s.res r).level ∧ y.items = (s.res r).items)
    (hp : QChange s' s.events.size (.put r) (isPrioKind (s.res r).kind) (s.res r).putQ y.putQ)
    (hg : QChange s' s.events.size (.get r) false (s.res r).getQ y.getQ) :
    (∀ r', (s'.res r').kind = (s.res r').kind ∧ (s'.res r').capacity = (s.res r').capacity ∧
      (s'.res r').level = (s.res r').level ∧ (s'.res r').items = (s.res r').items) ∧
    (∀ r', QChange s' s.events.size (.put r') (isPrioKind (s.res r').kind) (s.res r').putQ (s'.res r').putQ) ∧
    (∀ r', QChange s' s.events.size (.get r') false (s.res r').getQ (s'.res r').getQ) := by
  refine ⟨fun r' => ?_, fun r' => ?_, fun r' => ?_⟩ <;> rw [h r'] <;> split
  · rename_i hc; rw [hc.1]; exact hy
  · exact ⟨rfl, rfl, rfl, rfl⟩
  · rename_i hc; rw [hc.1]; exact hp
  · exact .same
  · rename_i hc; rw [hc.1]; exact hg
  · exact .same

theorem of_newPut (s : KState ℚ σ) (r : ResId) (rq : ReqData ℚ) : Quiet s (newPutSt s r rq) := by
  have hn : ((newPutSt s r rq).ev s.events.size).kind = .put r := by
    show ((s.newLabelled _).1.ev s.events.size).kind = _
    rw [KState.ev_newLabelled, if_pos rfl]
  obtain ⟨h1, h2, h3⟩ := res_of_setRes (newPut_res s r rq) ⟨rfl, rfl, rfl, rfl⟩ (.enter hn) .same
  refine of_push { kind := .put r, cbs := some [.trigGet r], out := none, req := some rq, label := s.nlabel + 1 } rfl
    (Or.inr rfl) (fun l hl cb hcb => by cases hl; rw [List.mem_singleton] at hcb; subst hcb; rfl) rfl ?_ h1 h2 h3
  unfold newPutSt enqPut KState.setPutQ; rw [KState.rsize_setRes]; rfl

theorem of_newGet (s : KState ℚ σ) (r : ResId) (rq : ReqData ℚ) : Quiet s (newGetSt s r rq) := by
  have hn : ((newGetSt s r rq).ev s.events.size).kind = .get r := by
    show ((s.newLabelled _).1.ev s.events.size).kind = _
    rw [KState.ev_newLabelled, if_pos rfl]
  obtain ⟨h1, h2, h3⟩ := res_of_setRes (newGet_res s r rq) ⟨rfl, rfl, rfl, rfl⟩ .same (.enter hn)
  refine of_push { kind := .get r, cbs := some [.trigPut r], out := none, req := some rq, label := s.nlabel + 1 } rfl
    (Or.inr rfl) (fun l hl cb hcb => by cases hl; rw [List.mem_singleton] at hcb; subst hcb; rfl) rfl ?_ h1 h2 h3
  unfold newGetSt enqGet KState.setGetQ; rw [KState.rsize_setRes]; rfl

theorem of_cancelPut (s : KState ℚ σ) (r : ResId) (e : EvId) : Quiet s (dropPutQ s r e) := by
  obtain ⟨h1, h2, h3⟩ := res_of_setRes (dropPutQ_res s r e) ⟨rfl, rfl, rfl, rfl⟩ (.erase e) .same
  refine ⟨Nat.le_refl _, fun _ _ => rfl, fun _ _ => rfl, fun _ _ => rfl, fresh_of_size rfl,
    fun a l' h cb hcb => Or.inr ⟨l', h, hcb⟩, fun p pr' h => Or.inr ⟨pr', h⟩, ?_, h1, h2, h3⟩
  unfold dropPutQ KState.setPutQ; rw [KState.rsize_setRes]

theorem of_cancelGet (s : KState ℚ σ) (r : ResId) (e : EvId) : Quiet s (dropGetQ s r e) := by
  obtain ⟨h1, h2, h3⟩ := res_of_setRes (dropGetQ_res s r e) ⟨rfl, rfl, rfl, rfl⟩ .same (.erase e)
  refine ⟨Nat.le_refl _, fun _ _ => rfl, fun _ _ => rfl, fun _ _ => rfl, fresh_of_size rfl,
    fun a l' h cb hcb => Or.inr ⟨l', h, hcb⟩, fun p pr' h => Or.inr ⟨pr', h⟩, ?_, h1, h2, h3⟩
  unfold dropGetQ KState.setGetQ; rw [KState.rsize_setRes]

end Quiet

theorem newPut_resOther (s : KState ℚ σ) (r : ResId) (rq : ReqData ℚ) (r' : ResId) (h : r' ≠ r) :
    (newPutSt s r rq).res r' = s.res r' := by
  rw [Quiet.newPut_res, if_neg (fun hc => h hc.1)]

theorem newGet_resOther (s : KState ℚ σ) (r : ResId) (rq : ReqData ℚ) (r' : ResId) (h : r' ≠ r) :
    (newGetSt s r rq).res r' = s.res r' := by
  rw [Quiet.newGet_res, if_neg (fun hc => h hc.1)]

theorem newPut_res_in (s : KState ℚ σ) (r : ResId) (rq : ReqData ℚ) (hr : r < s.resources.size) :
    (newPutSt s r rq).res r =
      { s.res r with putQ := if isPrioKind (s.res r).kind then insertSorted (newPutSt s r rq) s.events.size (s.res r).putQ
                             else (s.res r).putQ ++ [s.events.size] } := by
  rw [Quiet.newPut_res, if_pos ⟨rfl, hr⟩]

theorem newPut_res_out (s : KState ℚ σ) (r : ResId) (rq : ReqData ℚ) (hr : ¬ r < s.resources.size) :
    (newPutSt s r rq).res r = s.res r := by
  rw [Quiet.newPut_res, if_neg (fun hc => hr hc.2)]

theorem newGet_res_in (s : KState ℚ σ) (r : ResId) (rq : ReqData ℚ) (hr : r < s.resources.size) :
    (newGetSt s r rq).res r = { s.res r with getQ := (s.res r).getQ ++ [s.events.size] } := by
  rw [Quiet.newGet_res, if_pos ⟨rfl, hr⟩]

theorem newGet_res_out (s : KState ℚ σ) (r : ResId) (rq : ReqData ℚ) (hr : ¬ r < s.resources.size) :
    (newGetSt s r rq).res r = s.res r := by
  rw [Quiet.newGet_res, if_neg (fun hc => hr hc.2)]

theorem newPut_resLI (s : KState ℚ σ) (r : ResId) (rq : ReqData ℚ) (r' : ResId) :
    ((newPutSt s r rq).res r').level = (s.res r').level ∧ ((newPutSt s r rq).res r').items = (s.res r').items :=
  ((Quiet.of_newPut s r rq).res r').2.2

theorem newGet_resLI (s : KState ℚ σ) (r : ResId) (rq : ReqData ℚ) (r' : ResId) :
    ((newGetSt s r rq).res r').level = (s.res r').level ∧ ((newGetSt s r rq).res r').items = (s.res r').items :=
  ((Quiet.of_newGet s r rq).res r').2.2

theorem dropPutQ_resLI (s : KState ℚ σ) (r : ResId) (e : EvId) (r' : ResId) :
    ((dropPutQ s r e).res r').level = (s.res r').level ∧ ((dropPutQ s r e).res r').items = (s.res r').items :=
  ((Quiet.of_cancelPut s r e).res r').2.2

theorem dropGetQ_resLI (s : KState ℚ σ) (r : ResId) (e : EvId) (r' : ResId) :
    ((dropGetQ s r e).res r').level = (s.res r').level ∧ ((dropGetQ s r e).res r').items = (s.res r').items :=
  ((Quiet.of_cancelGet s r e).res r').2.2

end Conserve
