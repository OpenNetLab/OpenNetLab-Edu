import OnlVerif.Lemmas.TBKRun
/-!
# The token bucket on the kernel model: the put / out history of every run passes the oracle of the C11 recurrence

`OInv` relates the state of the oracle (`TBOnK.ostep`) after the history so far to the configuration: its waiting queue is
the packet `run` holds followed by the store, its level / update instant are the attribute cells while `run` is between
packets, and while `run` sleeps for a packet the departure the recurrence prescribes for it is already the instant of the
pending timeout (plus the peak spacing still to come).
-/

namespace TBK
open TBOnK QEntry

variable (size : Int → Nat) (cfg : TbCfg ℚ)

/-- the packet `run` holds -/
def RPhase.held : RPhase → Option Int
  | .H _ id _ _ => some id
  | .T1 _ id _ => some id
  | .T2 _ id _ _ => some id
  | _ => none

/-- the packets the oracle waits for: the one `run` holds, then the store -/
def waitingOf (a : A) : List (Int × ℚ) :=
  (match a.run.held with | some id => [(id, a.ctOf id)] | none => []) ++ a.items.map fun i => (i, a.ctOf i)

/-- the arrivals the source has still to make -/
def srcFuture (now : ℚ) : SPhase → List (Int × ℚ)
  | .init _ arr => arrivalsFrom now 0 arr
  | .wait next rest q => ((next : Int), q.time) :: arrivalsFrom q.time (next + 1) rest
  | _ => []

def obsPuts : List (HEv ℚ) → List (Int × ℚ)
  | [] => []
  | .put id t :: r => (id, t) :: obsPuts r
  | _ :: r => obsPuts r

/-- the peak spacing behind instant `t` -/
def pk (id : Int) (t : ℚ) : ℚ :=
  match TokenBucket.peakOn cfg with
  | some k => t + TokenBucket.peakWait k (pktOf size id)
  | none => t

/-- what the phase of `run` says about the oracle -/
def PhO (a : A) (o : OSt ℚ) : RPhase → Prop
  | .init q => o.free = q.time ∧ o.level = a.level ∧ o.upd = a.upd
  | .W _ t0 => o.free = t0 ∧ o.level = a.level ∧ o.upd = a.upd
  | .H _ _ _ t0 => o.free = t0 ∧ o.level = a.level ∧ o.upd = a.upd
  | .T1 _ id q => oOut size cfg o id (a.ctOf id) = (pk size cfg id q.time, 0, q.time)
  | .T2 _ id q _ => oOut size cfg o id (a.ctOf id) = (q.time, a.level, a.upd)

/-- the oracle has accepted the history and is in the state the configuration stands for -/
structure OInv (arrivals : List ℚ) (a : A) (now : ℚ) (hist : List (HEv ℚ)) (o : OSt ℚ) : Prop where
  run : orun size cfg (oInit cfg) hist = some o
  wq : o.waiting = waitingOf a
  ph : PhO size cfg a o a.run
  fut : obsPuts hist ++ srcFuture now a.src = arrivalsFrom 0 0 arrivals

variable {size cfg}

theorem orun_append (o : OSt ℚ) (l1 l2 : List (HEv ℚ)) :
    orun size cfg o (l1 ++ l2) = (orun size cfg o l1).bind fun o' => orun size cfg o' l2 :=
  KExec.optRun_append (fun _ => rfl) (fun _ _ _ => rfl) o l1 l2

theorem obsPuts_append (l1 l2 : List (HEv ℚ)) : obsPuts (l1 ++ l2) = obsPuts l1 ++ obsPuts l2 := by
  induction l1 with
  | nil => rfl
  | cons x r ih => cases x <;> simp [obsPuts, ih]

theorem eqT_iff (x y : ℚ) : eqT x y ↔ x = y := incomp_iff x y

theorem srcFuture_srcNext (t : ℚ) (eid ev next : Nat) (arr : List ℚ) (now : ℚ) :
    srcFuture now (srcNext t eid ev next arr) = arrivalsFrom t next arr := by
  cases arr with
  | nil => rfl
  | cons x r => rfl

variable {arrivals : List ℚ} {a : A} {now : ℚ} {q : QEntry ℚ} {hist : List (HEv ℚ)} {o : OSt ℚ}

/-- **letting the clock advance to the next entry changes nothing** -/
theorem OInv.advance (hi : AInv cfg a now) (hq : IsMin a q) (ho : OInv size cfg arrivals a now hist o) :
    OInv size cfg arrivals a q.time hist o := by
  rcases eq_or_lt_of_le (hi.now_le hq) with h | h
  · rw [← h]; exact ho
  refine ⟨ho.run, ho.wq, ho.ph, ?_⟩
  have hs := (hi.idle hq h).2.2.2
  have hf := ho.fut
  cases hsrc : a.src with
  | init q0 arr => rw [hsrc] at hs; exact hs.elim
  | _ => rw [hsrc] at hf; exact hf

/-- what the recurrence prescribes when `run` has just taken packet `id` at `now = max(free, put instant)` -/
theorem oOut_at (ho : o.level = a.level ∧ o.upd = a.upd) {id : Int} {t0 : ℚ} (hf : o.free = t0)
    (hnow : max t0 (a.ctOf id) = q.time) :
    oOut size cfg o id (a.ctOf id) =
      if refillA cfg a q.time < (size id : ℚ) then
        (pk size cfg id (q.time + TokenBucket.tokenWait cfg (refillA cfg a q.time) (pktOf size id)), 0,
          q.time + TokenBucket.tokenWait cfg (refillA cfg a q.time) (pktOf size id))
      else (pk size cfg id q.time, refillA cfg a q.time - (size id : ℚ), q.time) := by
  unfold oOut pk refillA
  simp only [hf, Num.pymax_eq, hnow, ho.1, ho.2, Num.ofNat_rat, Nat.cast_zero]
  split <;> cases TokenBucket.peakOn cfg <;> rfl

variable {n e : Nat}

theorem oOut_waiting (o : OSt ℚ) (w : List (Int × ℚ)) (id : Int) (tp : ℚ) :
    oOut size cfg { o with waiting := w } id tp = oOut size cfg o id tp := rfl

/-- the oracle accepts the departure of the head packet at the prescribed instant -/
theorem ostep_out {id : Int} {tp t : ℚ} {rest : List (Int × ℚ)} (hw : o.waiting = (id, tp) :: rest)
    (ht : t = (oOut size cfg o id tp).1) :
    ostep size cfg o (.out id t) =
      some { waiting := rest, level := (oOut size cfg o id tp).2.1, upd := (oOut size cfg o id tp).2.2, free := t } := by
  simp [ostep, hw, (eqT_iff _ _).mpr ht]

theorem A.get_src (a : A) (n e : Nat) (now : ℚ) : (a.get n e now).src = a.src := by
  unfold A.get; split <;> rfl

theorem waitingOf_get (a : A) (n e : Nat) (now : ℚ) : waitingOf (a.get n e now) = a.items.map fun i => (i, a.ctOf i) := by
  unfold A.get; split <;> rename_i h <;> simp only [waitingOf, RPhase.held, h, A.ctOf, List.nil_append, List.map_cons,
    List.singleton_append]

theorem waitingOf_held {id : Int} (h : a.run.held = some id) :
    waitingOf a = (id, a.ctOf id) :: a.items.map fun i => (i, a.ctOf i) := by
  rw [waitingOf, h]; rfl

/-- the packet `run` holds is a known packet -/
theorem RunA.held_lt {r : RPhase} {id : Int} (hr : RunA a now r) (hh : r.held = some id) : id.toNat < a.cts.length := by
  cases r with
  | init => cases hh
  | W => cases hh
  | H => cases hh; exact hr.2.2.2.2
  | T1 => cases hh; exact hr.2.2
  | T2 => cases hh; exact hr.2.2

theorem pho_get (a : A) (n e : Nat) (now : ℚ) (h : o.free = now ∧ o.level = a.level ∧ o.upd = a.upd) :
    PhO size cfg (a.get n e now) o (a.get n e now).run := by
  unfold A.get; split <;> exact h

/-- a step that shows the oracle nothing leaves its state alone -/
theorem OInv.silent {a' : A} (ho : OInv size cfg arrivals a now hist o) (hw : waitingOf a' = waitingOf a)
    (hp : PhO size cfg a' o a'.run) (hf : srcFuture now a'.src = srcFuture now a.src) :
    ∃ o', OInv size cfg arrivals a' now (hist ++ []) o' :=
  ⟨o, by rw [List.append_nil]; exact ho.run, ho.wq.trans hw.symm, hp, by rw [List.append_nil, hf]; exact ho.fut⟩

/-- the oracle accepts the departure of the packet `run` holds at the instant the recurrence prescribes; `run` then calls
`store.get()` -/
theorem oinv_out (ho : OInv size cfg arrivals a q.time hist o) {id : Int} (hh : a.run.held = some id) {lv up : ℚ}
    (hout : oOut size cfg o id (a.ctOf id) = (q.time, lv, up)) (sn : Int) :
    ∃ o', OInv size cfg arrivals (({ a with level := lv, upd := up, sent := sn } : A).get n e q.time) q.time
      (hist ++ [.out id q.time]) o' := by
  refine ⟨{ waiting := a.items.map fun i => (i, a.ctOf i), level := lv, upd := up, free := q.time }, ?_,
    (waitingOf_get { a with level := lv, upd := up, sent := sn } n e q.time).symm,
    pho_get _ _ _ _ ⟨rfl, rfl, rfl⟩, ?_⟩
  · rw [orun_append, ho.run]
    simp only [Option.bind_some, orun]
    rw [ostep_out (ho.wq.trans (waitingOf_held hh)) (by rw [hout]), hout]
    rfl
  · rw [A.get_src]
    simpa [obsPuts_append, obsPuts] using ho.fut

/-- the oracle after the tokens for the packet `run` holds are debited: nothing to accept yet (peak spacing) or the departure -/
theorem oinv_debit (ho : OInv size cfg arrivals a q.time hist o) {id : Int} (hh : a.run.held = some id) {lv up : ℚ}
    (hout : oOut size cfg o id (a.ctOf id) = (pk size cfg id q.time, lv, up)) (k : Nat) :
    ∃ o', OInv size cfg arrivals (A.afterDebit size cfg { a with level := lv, upd := up } n e q.time id k).1 q.time
      (hist ++ (A.afterDebit size cfg { a with level := lv, upd := up } n e q.time id k).2) o' := by
  unfold A.afterDebit
  unfold pk at hout
  cases hpeak : TokenBucket.peakOn cfg with
  | none =>
    rw [hpeak] at hout
    exact oinv_out ho hh hout _
  | some x =>
    rw [hpeak] at hout
    exact ho.silent (by rw [waitingOf_held hh, waitingOf_held (id := id) (show RPhase.held (A.run _) = _ from rfl)]; rfl) hout rfl

/-- **every configuration step keeps the oracle's invariant**: the observations of the step are accepted -/
theorem oinv_step {a' : A} {new : List (HEv ℚ)} (hi : AInv cfg a q.time)
    (ho : OInv size cfg arrivals a q.time hist o) (hs : AStep size cfg n e a q a' new) :
    ∃ o', OInv size cfg arrivals a' q.time (hist ++ new) o' := by
  have hrun := hi.run
  have hph := ho.ph
  have hwq := ho.wq
  cases hs with
  | runInit h =>
    rw [h] at hph
    exact ho.silent (by rw [waitingOf_get]; simp only [waitingOf, RPhase.held, h, List.nil_append]) (pho_get _ _ _ _ hph)
      (by rw [A.get_src])
  | serveTok g id t0 h hlt =>
    rw [h] at hph hrun
    refine ho.silent (by simp only [waitingOf, RPhase.held, h, A.ctOf]) ?_ rfl
    show oOut size cfg o id (a.ctOf id) = _
    rw [oOut_at hph.2 hph.1 hrun.2.2.1, if_pos hlt]
  | serveDebit g id t0 h hlt =>
    rw [h] at hph hrun
    exact oinv_debit ho (by rw [h]; rfl) (by rw [oOut_at hph.2 hph.1 hrun.2.2.1, if_neg hlt]) 0
  | tok t id h =>
    rw [h] at hph
    exact oinv_debit ho (by rw [h]; rfl) hph 1
  | peak t id k h =>
    rw [h] at hph
    exact oinv_out ho (by rw [h]; rfl) hph _
  | srcInit arr h =>
    exact ho.silent rfl hph ((srcFuture_srcNext ..).trans (by rw [h]; rfl))
  | srcPut next arr h =>
    have hs := hi.src
    rw [h] at hs
    obtain ⟨-, -, rfl⟩ := hs
    refine ⟨{ o with waiting := o.waiting ++ [((a.cts.length : Int), q.time)] }, ?_, ?_, ?_, ?_⟩
    · rw [orun_append, ho.run]; rfl
    · show o.waiting ++ [((a.cts.length : Int), q.time)] = _
      rw [hwq]
      simp only [waitingOf, A.ctOf, PutLog.map_put Prod.mk fun i hi' => (hi.its i hi').2.1, List.append_assoc]
      congr 1
      cases hh : a.run.held with
      | none => rfl
      | some id => simp only [PutLog.getD_put_lt (hrun.held_lt hh)]
    · cases hr : a.run with
      | T1 t id q0 | T2 t id q0 k =>
        rw [hr] at hph hrun
        show oOut size cfg _ id ((a.cts ++ [q.time]).getD id.toNat 0) = _
        rw [PutLog.getD_put_lt hrun.2.2]; exact hph
      | _ => rw [hr] at hph; exact hph
    · rw [obsPuts_append]
      show _ ++ srcFuture q.time (srcNext q.time (e + 1) (n + 1) (a.cts.length + 1) arr) = _
      rw [srcFuture_srcNext]
      have := ho.fut
      rw [h] at this
      simp only [srcFuture] at this
      simp only [obsPuts, List.append_assoc, List.cons_append, List.nil_append]
      exact this
  | srcEnd h =>
    exact ho.silent rfl hph (by rw [h]; rfl)
  | pendNoop l1 l2 hpe hno => exact ho.silent rfl hph rfl
  | pendHand g t0 i is l1 l2 hpe h hit =>
    rw [h] at hph
    exact ho.silent (by simp only [waitingOf, RPhase.held, h, hit, A.ctOf, List.nil_append, List.map_cons, List.singleton_append])
      hph rfl

end TBK
