import OnlVerif.Lemmas.SndKGoal
/-!
# The TCP sender on the kernel model: kernel steps of the `Timer` processes

Each lemma executes `Environment.step` of the kernel model on a state with configuration `a` whose next agenda entry belongs
to the `Timer` process of a segment (its `Initialize`, its sleep timeout, its process event once it has returned) and shows
that the resulting state has the configuration the lemma names, that the sender LTS accepts the corresponding action
(`fire seq`, or none) and that the invariants are kept.
-/

namespace SndK
open SenderOnK TcpSender TcpScalar
open KProc (GInv Thread hrun)

/-- `while env.now < self.expire_time: yield self.env.timeout(self.expire_time - env.now)` at the end of a burst of the
`Timer` process of `seq`: it sleeps until `expire_time`, or returns; either is where the process of a stopped timer may be -/
theorem tm_loop_end {c : KProc.Cfg St} {a : A} {p : EvId} (h : Mid p c a) {seq : Nat} (hs : seq ∈ a.tks) (htp : a.tmp seq = p)
    (hcb : (tmTh seq p (a.tph seq)).cbs = some []) :
    ∃ ph', Ends p (tmLoop seq c.reg.now) c { a with tph := upd a.tph seq ph' } ∧ (∀ t, ph'.dead t) ∧
      (c.reg.now < (a.tmc seq).expire → ∀ t, ph'.live t (a.tmc seq).expire) := by
  subst htp
  have hsw := Swap.tm (κ := kernOf a) hs h.k.knd rfl
  by_cases hlt : c.reg.now < (a.tmc seq).expire
  · refine ⟨.sleep c.reg.evSize ⟨_, NORMAL, c.reg.eid, c.reg.evSize⟩, .congr ?_ (h.sleeps (sub_nonneg.mpr hlt.le)
      (.tmSleep seq (c.reg.now + ((a.tmc seq).expire - c.reg.now))) (pid_tmTh ..)
      ((hsw _).to hcb (by rw [pid_tmTh]; rfl)) ⟨rfl, rfl⟩), fun _ => rfl, fun _ _ => ⟨add_sub_cancel _ _, rfl⟩⟩
    unfold tmLoop
    rw [hr_loadTime (h.c.slot (.tm .expire seq) hs), if_pos hlt]
    rfl
  · refine ⟨.ending ⟨c.reg.now, NORMAL, c.reg.eid, a.tmp seq⟩, .congr ?_ (h.returns (pid_tmTh ..) (congrArg Option.isSome hcb)
      ((hsw _).to hcb (by rw [pid_tmTh]; rfl)) ⟨rfl, rfl⟩), fun _ => rfl, fun hl => absurd hl hlt⟩
    unfold tmLoop
    rw [hr_loadTime (h.c.slot (.tm .expire seq) hs), if_neg hlt]

/-- the `Timer` process of a stopped timer has returned and its process event is processed -/
theorem kstep_tmEnding {cfg : Cfg} (fuel : Nat) {s : KS} {a : A} {q : QEntry ℚ} {rest : List (QEntry ℚ)} {seq : Nat}
    (hk : KI none s a) (hiT : AInv cfg (aTick a q.time)) (hp : popMin s.agenda = some (q, rest)) (hs : seq ∈ a.tks)
    (hph : a.tph seq = .ending q) : StepGoal cfg fuel s (aTick a q.time).S a.txs :=
  .quiet (a' := { aTick a q.time with tph := upd a.tph seq .gone })
    (hk.retire fuel (Swap.tm (κ := kernOf a) hs hk.k.knd hph .gone) rfl rfl hp ⟨rfl, rfl⟩)
    (hiT.set_tph seq trivial fun hs hl => ((hiT.tm seq hs).live hph hl).elim) rfl rfl

/-- the `Initialize` event of a `Timer` process: `Timer.run` starts, reads `expire_time` and sleeps until then (a timer that
was stopped in the instant of its creation returns at once) -/
theorem kstep_tmInit {cfg : Cfg} (fuel : Nat) {s : KS} {a : A} {q : QEntry ℚ} {rest : List (QEntry ℚ)} {seq : Nat}
    (hk : KI none s a) (hiT : AInv cfg (aTick a q.time)) (hp : popMin s.agenda = some (q, rest)) (hs : seq ∈ a.tks)
    (hph : a.tph seq = .init q) : StepGoal cfg fuel s (aTick a q.time).S a.txs := by
  have hth := mem_threads_tm (κ := kernOf a) hs hph
  obtain ⟨ph', e1, e2, e3⟩ := tm_loop_end (hk.begin hth q .start) (a := aTick a q.time) hs rfl
    (by rw [show (aTick a q.time).tph seq = _ from hph]; rfl)
  exact .quiet (hk.resume fuel hth rfl (fun _ _ _ hh => nomatch hh) hp e1)
    (hiT.set_tph seq (e2 _) fun hs hl => e3 ((hiT.tm seq hs).live hph hl).2.2 _) rfl rfl

/-! ## `fire`, LTS side: what `Sender.fireStep` does to the state, in the form `frag_timeout` builds it -/

/-- `timeout_callback` changes the window, the stamp of the segment, the RTO and the timer of the segment only -/
theorem sFire_fields (S : Sender ℚ) (seq : Nat) :
    (sFire S seq).kind = S.kind ∧ (sFire S seq).mss = S.mss ∧ (sFire S seq).size = S.size ∧
    (sFire S seq).next_seq = S.next_seq ∧ (sFire S seq).send_buffer = S.send_buffer ∧ (sFire S seq).last_ack = S.last_ack ∧
    (sFire S seq).dupack = S.dupack ∧ (sFire S seq).tokens = S.tokens ∧ (sFire S seq).proc = S.proc ∧
    (sFire S seq).now = S.now ∧ (sFire S seq).est = TCPPacketGenerator.timeout_backoff S.est ∧
    (sFire S seq).timers = AL.set seq (Sender.arm S.now (TCPPacketGenerator.timeout_backoff S.est).rto) S.timers := by
  obtain ⟨X, e, _⟩ := resend_frame ({ S with cc := CC.timerExpired S.kind S.cc } : Sender ℚ) seq
  unfold sFire
  simp only [e, and_self]

theorem fireStep_eq (S : Sender ℚ) (seq : Nat) (e : ℚ) (hg : AL.get? seq S.timers = some ⟨e, e, true⟩) (he : e = S.now) :
    S.fireStep seq = .ok (sFire S seq) (oFire S seq) := by
  unfold Sender.fireStep
  rw [hg]
  have hd : (!(true : Bool) || !Num.eqb e S.now || decide (S.now < e)) = false := by
    rw [(eqb_iff _ _).mpr he, he]
    simp
  simp only [hd, Bool.false_eq_true, if_false]
  have hg2 : AL.get? seq ({ (({ S with cc := CC.timerExpired S.kind S.cc } : Sender ℚ).resend seq).1 with
      est := TCPPacketGenerator.timeout_backoff (({ S with cc := CC.timerExpired S.kind S.cc } : Sender ℚ).resend seq).1.est }
      : Sender ℚ).timers = some ⟨e, e, true⟩ := by
    show AL.get? seq (Sender.resend _ seq).1.timers = _
    rw [resend_timers]; exact hg
  rw [hg2]
  rfl

/-- the sleep timeout of the `Timer` process of `seq` is processed -/
theorem kstep_tmWake {cfg : Cfg} (fuel : Nat) {s : KS} {a : A} {q : QEntry ℚ} {rest : List (QEntry ℚ)} {seq : Nat} {t : EvId}
    (hk : KI none s a) (hiT : AInv cfg (aTick a q.time)) (hp : popMin s.agenda = some (q, rest)) (hs : seq ∈ a.tks)
    (hph : a.tph seq = .sleep t q) : StepGoal cfg fuel s (aTick a q.time).S a.txs := by
  have hth := mem_threads_tm (κ := kernOf a) hs hph
  have h1 := hk.begin hth q (.value .none)
  have hcb : ∀ a' : A, a'.tph = a.tph → (tmTh seq (a.tmp seq) (a'.tph seq)).cbs = some [] := fun a' e => by
    rw [e, hph]; rfl
  have ht := hiT.tm seq hs
  have hphT : (aTick a q.time).tph seq = .sleep t q := hph
  have hst1 := h1.c.slot (.tm .stopped seq) hs
  cases hg : AL.get? seq (aTick a q.time).S.timers with
  | none =>
    -- a stopped timer: the callback is suppressed and `Timer.run` returns
    obtain ⟨d1, -, -⟩ := (tmA_dead hg).mp ht
    obtain ⟨ph', e1, e2, -⟩ := tm_loop_end h1 hs rfl (hcb _ rfl)
    refine .quiet (hk.resume fuel hth rfl (fun _ _ _ hh => nomatch hh) hp (.congr ?_ e1))
      (hiT.set_tph seq (e2 _) fun _ hl => by rw [hg] at hl; cases hl) rfl rfl
    show hrun _ (tmWake cfg seq q.time) _ = _
    unfold tmWake
    rw [hr_loadBit (b := (a.tmc seq).stopped) hst1, show (a.tmc seq).stopped = true from d1]
    rfl
  | some r =>
    -- a live timer: `timeout_callback` runs, the timer is re-armed and the process sleeps again
    obtain ⟨l1, l2, l3⟩ := (tmA_live hg).mp ht
    rw [hphT] at l3
    have hin : (AL.get? seq (aTick a q.time).S.timers).isSome = true := by rw [hg]; rfl
    obtain ⟨c2, r2, h2⟩ := frag_timeout (cfg := cfg) h1 hs hth rfl rfl rfl hiT.kind hin
    have hnow2 : c2.reg.now = q.time := h2.k.now.trans (sFire_fields _ seq).2.2.2.2.2.2.2.2.2.1
    obtain ⟨ph', e1, -, e3⟩ := tm_loop_end h2 hs rfl (hcb _ rfl)
    have hstep := hk.resume (cfg := cfg) fuel hth rfl (fun _ _ _ hh => nomatch hh) hp (.congr (by
        show hrun _ (tmWake cfg seq q.time) _ = _
        unfold tmWake
        rw [hr_loadBit (b := (a.tmc seq).stopped) hst1, show (a.tmc seq).stopped = false from l1, hnow2]
        exact r2 _) e1)
    have hfire : (aTick a q.time).S.fireStep seq = .ok (sFire (aTick a q.time).S seq) (oFire (aTick a q.time).S seq) :=
      fireStep_eq _ seq _ (l2 ▸ hg) l3.1.symm
    obtain ⟨f1, f2, f3, f4, f5, f6, f7, f8, f9, f10, f11, f12⟩ := sFire_fields (aTick a q.time).S seq
    have hinv := (fireStep_safe hiT.inv seq).2 _ _ hfire
    have hrto : 0 < (sFire (aTick a q.time).S seq).est.rto := hinv.rto_pos
    have harm : Sender.arm q.time (TCPPacketGenerator.timeout_backoff (aTick a q.time).S.est).rto =
        ⟨q.time + (sFire (aTick a q.time).S seq).est.rto, q.time + (sFire (aTick a q.time).S seq).est.rto, true⟩ := by
      rw [f11]
      exact arm_eq _ _ (by rw [f11] at hrto; exact hrto)
    refine .one (x := .fire seq) hstep ?_ trivial hfire rfl
    have hlive : ∀ t, ph'.live t (q.time + (sFire (aTick a q.time).S seq).est.rto) := fun t => by
      have := e3 (by rw [hnow2]; show q.time < (upd a.tmc seq _ seq).expire
                     rw [upd_same]; exact lt_add_of_pos_right _ hrto) t
      rwa [show ((aFire (aTick a q.time) seq).tmc seq).expire = _ from congrArg TmC.expire (upd_same ..)] at this
    refine hiT.of_timers _ _ _ hinv f8 ⟨f1, f2, f3, f4, f5, f9, f10⟩ ?_ ?_
    · show (AL.keys (sFire _ seq).timers).Sublist a.tks
      rw [f12, AL.keys_set_of_mem _ _ _ (AL.mem_of_get?_some hg)]
      exact hiT.tkeys
    · intro seq' hs'
      by_cases he : seq' = seq
      · subst he
        have hg' : AL.get? seq' (sFire (aTick a q.time).S seq').timers =
            some ⟨q.time + (sFire (aTick a q.time).S seq').est.rto, q.time + (sFire (aTick a q.time).S seq').est.rto, true⟩ := by
          rw [f12, AL_get?_set, if_pos rfl]
          exact congrArg some harm
        exact TmA.of_live_at (upd_same ..) (upd_same ..) hg' l1 (hlive _)
      · refine (hiT.tm seq' hs').congr ?_ (upd_ne _ _ _ _ he) (upd_ne _ _ _ _ he) f10
        show AL.get? seq' (sFire _ seq).timers = _
        rw [f12, AL_get?_set, if_neg he]

end SndK
