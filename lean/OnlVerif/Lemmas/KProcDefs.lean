import OnlVerif.Lemmas.KExec
import OnlVerif.Kernel.TimeCell
import OnlVerif.Lemmas.KProcAttr
/-!
# Kernel states as configurations of cooperating processes (definitions)

The device programs use a small part of `K`: a process sleeps on a timeout, waits on a `get` of an unbounded `Store` or
`PriorityStore` that has one consumer, `put`s into such a store, reads and writes cells, logs, spawns a child and joins it,
and has an `interrupt` of itself or of a finished process refused.
`Cfg σ` describes a kernel state of such a program: the registers (clock, counters, cells, trace), the processes
(`Thread`: where each one waits, or that it is running, or has returned), the pending `StorePut` events, the stores.
`GInv s c` says that the kernel state `s` *is* the configuration `c`.  The abstract machine (`hcall`, `hrefused`, `hrun`,
`hafter`, `hend` for a burst; `hresume`, `hfinish`/`hretire`, `hpend` for the three kinds of agenda entry: a waiting process,
the process event of a process that has returned, a pending `StorePut`) computes on configurations what `doCall`, `runBurst`,
`_resume` and `step` do on kernel states; `Lemmas/KProc.lean` proves that it does, once and for every program.
-/

namespace KProc

variable {σ : Type}

/-- kind, callbacks and outcome of a live event -/
def EvIs (s : KState ℚ σ) (e : EvId) (k : Kind) (cbs : List Cb) (out : Option Outcome) : Prop :=
  (s.ev e).kind = k ∧ (s.ev e).cbs = some cbs ∧ (s.ev e).out = out

/-- what a process is suspended on -/
inductive Wait where
  /-- not started: the `Initialize` event has the entry `q` -/
  | init (q : QEntry ℚ)
  /-- a timeout with the entry `q` -/
  | sleep (q : QEntry ℚ)
  /-- the `StoreGet` event `g`, queued on store `r` -/
  | getW (r : ResId) (g : EvId)
  /-- the `StoreGet` event of the entry `q` on store `r`, served with `v` -/
  | getH (r : ResId) (q : QEntry ℚ) (v : Int)
  /-- the process event `c` of another process -/
  | join (c : EvId)
  /-- nothing: the generator has returned `v`, the process event has the entry `q` -/
  | ending (q : QEntry ℚ) (v : Val)
  /-- nothing: it is in the middle of its burst -/
  | running
  /-- nothing: it has returned `v` and its process event `p` (its pid) is processed -/
  | gone (p : EvId) (v : Val)

structure Thread (σ : Type) where
  pid : EvId
  st : σ
  wait : Wait
  /-- the callbacks of the process event; `none` once the kernel has processed the event (`Wait.gone`), and for a
  process whose generator never returns, whose event nobody looks at -/
  cbs : Option (List Cb) := some []

structure HStore where
  /-- a `PriorityStore` -/
  prio : Bool := false
  getQ : List EvId := []
  items : List Int := []

def HStore.toRes (st : HStore) : ResRec :=
  { kind := bif st.prio then .pstore else .store, capacity := none, getQ := st.getQ, items := st.items }

/-- what `get()` hands out, and what is left -/
def HStore.take (st : HStore) : Option (Int × List Int) :=
  bif st.prio then (listMin st.items).map fun m => (m, st.items.erase m)
  else match st.items with
    | [] => none
    | i :: is => some (i, is)

structure Regs where
  now : ℚ
  eid : Nat
  evSize : Nat
  active : Option EvId
  cells : Nat → Val
  trace : Array (Obs ℚ)

def Regs.of (s : KState ℚ σ) : Regs :=
  { now := s.now, eid := s.eid, evSize := s.events.size, active := s.active,
    cells := fun k => ((s.shared.find? (·.1 == k)).map (·.2)).getD .none, trace := s.trace }

structure Cfg (σ : Type) where
  reg : Regs
  threads : List (Thread σ)
  /-- the `StorePut` events that are triggered and not yet processed, with their store -/
  pend : List (QEntry ℚ × ResId)
  stores : ResId → Option HStore
  /-- events the running burst has created and not yet yielded on (as `sleep`, `getW`, `getH`) -/
  loose : List Wait := []
  /-- the event whose callbacks are running -/
  cur : Option EvId := none

def Wait.entries : Wait → List (QEntry ℚ)
  | .init q => [q]
  | .sleep q => [q]
  | .getH _ q _ => [q]
  | .ending q _ => [q]
  | _ => []

/-- the events this wait makes the configuration responsible for: the awaited event (not the process event of a child, which
is the child's), and for a process that is gone its own process event (`Thread.ids` adds the process event of a live process
whose `cbs` are known) -/
def Wait.ids : Wait → List EvId
  | .init q => [q.ev]
  | .sleep q => [q.ev]
  | .getW _ g => [g]
  | .getH _ q _ => [q.ev]
  | .gone p _ => [p]
  | _ => []

/-- `Process._target` -/
def Wait.target : Wait → Option EvId
  | .init q => some q.ev
  | .sleep q => some q.ev
  | .getW _ g => some g
  | .getH _ q _ => some q.ev
  | .join c => some c
  | _ => none

def Wait.isLoose : Wait → Bool
  | .sleep _ => true
  | .getW _ _ => true
  | .getH _ _ _ => true
  | _ => false

def Thread.ids (th : Thread σ) : List EvId := (if th.cbs.isSome then [th.pid] else []) ++ th.wait.ids

def Cfg.entries (c : Cfg σ) : List (QEntry ℚ) :=
  c.threads.flatMap (·.wait.entries) ++ (c.loose.flatMap Wait.entries ++ c.pend.map (·.1))

/-- the events the configuration talks about -/
def Cfg.ids (c : Cfg σ) : List EvId :=
  c.threads.flatMap Thread.ids ++ (c.loose.flatMap Wait.ids ++ c.pend.map (·.1.ev))

/-- the awaited event, with the callbacks `tail` behind those of its kind (`[_resume]` once the process waits on it) -/
def Wait.Ev (s : KState ℚ σ) (pid : EvId) (tail : List Cb) : Wait → Prop
  | .init q => q.ev = pid + 1 ∧ EvIs s q.ev (.init pid) tail (some (.ok .none))
  | .sleep q => EvIs s q.ev .timeout tail (some (.ok .none))
  | .getW r g => EvIs s g (.get r) (.trigPut r :: tail) none
  | .getH r q v => EvIs s q.ev (.get r) (.trigPut r :: tail) (some (.ok (.int v)))
  | .ending q _ => q.ev = pid
  | .gone p v => p = pid ∧ (s.ev p).kind = .proc ∧ (s.ev p).cbs = none ∧ (s.ev p).out = some (.ok v)
  | _ => True

/-- the outcome of the process event -/
def Wait.outcome : Wait → Option Outcome
  | .ending _ v => some (.ok v)
  | _ => none

/-- what the kernel state says about one process -/
structure TInv (s : KState ℚ σ) (th : Thread σ) : Prop where
  ev : th.wait.Ev s th.pid [.resume th.pid]
  proc : ∀ t, th.wait.target = some t → s.proc? th.pid = some { st := th.st, target := some t }
  own : ∀ l, th.cbs = some l → EvIs s th.pid .proc l th.wait.outcome
  tracked : ∀ q v, th.wait = .ending q v → th.cbs.isSome = true

/-- the kernel state `s` is the configuration `c` -/
structure GInv (s : KState ℚ σ) (c : Cfg σ) : Prop where
  reg : c.reg = Regs.of s
  wf : AgendaWF s
  ag : s.agenda.Perm c.entries
  nd : c.ids.Nodup
  pids : (c.threads.map (·.pid)).Nodup
  plt : ∀ th ∈ c.threads, th.pid < s.events.size
  th : ∀ th ∈ c.threads, TInv s th
  loose : ∀ w ∈ c.loose, w.isLoose = true ∧ w.Ev s 0 []
  pend : ∀ u ∈ c.pend, EvIs s u.1.ev (.put u.2) [.trigGet u.2] (some (.ok .none))
  stores : ∀ r st, c.stores r = some st → r < s.resources.size ∧ s.res r = st.toRes
  cur : ∀ e, c.cur = some e → e ∉ c.ids ∧ ∃ v, (s.ev e).out = some (.ok v)

/-! ## the abstract machine -/

/-- `g x := v` -/
def upd {α β : Type} [DecidableEq α] (g : α → β) (x : α) (v : β) : α → β := fun y => if y = x then v else g y

/-- apply `f` to the thread of process `p` -/
def modTh (l : List (Thread σ)) (p : EvId) (f : Thread σ → Thread σ) : List (Thread σ) :=
  l.map fun th => if th.pid = p then f th else th

theorem modTh_nil (p : EvId) (f : Thread σ → Thread σ) : modTh [] p f = [] := rfl

theorem modTh_cons (x : Thread σ) (l : List (Thread σ)) (p : EvId) (f : Thread σ → Thread σ) :
    modTh (x :: l) p f = (if x.pid = p then f x else x) :: modTh l p f := rfl

/-- a kernel call of process `self` -/
def hcall (c : Cfg σ) (self : EvId) : Call ℚ σ → Option (Cfg σ × Reply)
  | .timeout d .none =>
    if 0 ≤ d then
      some ({ c with reg := { c.reg with evSize := c.reg.evSize + 1, eid := c.reg.eid + 1 }
                     loose := .sleep ⟨c.reg.now + d, NORMAL, c.reg.eid, c.reg.evSize⟩ :: c.loose }, .ev c.reg.evSize)
    else none
  | .sput r item =>
    (c.stores r).map fun st =>
      ({ c with reg := { c.reg with evSize := c.reg.evSize + 1, eid := c.reg.eid + 1 }
                stores := upd c.stores r (some { st with items := st.items ++ [item] })
                pend := c.pend ++ [(⟨c.reg.now, NORMAL, c.reg.eid, c.reg.evSize⟩, r)] }, .ev c.reg.evSize)
  | .sget r 0 =>
    (c.stores r).bind fun st =>
      if st.getQ = [] then
        match st.take with
        | none =>
          some ({ c with reg := { c.reg with evSize := c.reg.evSize + 1 }
                         stores := upd c.stores r (some { st with getQ := [c.reg.evSize] })
                         loose := .getW r c.reg.evSize :: c.loose }, .ev c.reg.evSize)
        | some (v, its) =>
          some ({ c with reg := { c.reg with evSize := c.reg.evSize + 1, eid := c.reg.eid + 1 }
                         stores := upd c.stores r (some { st with items := its })
                         loose := .getH r ⟨c.reg.now, NORMAL, c.reg.eid, c.reg.evSize⟩ v :: c.loose }, .ev c.reg.evSize)
      else none
  | .load k => some (c, .val (c.reg.cells k))
  | .store k v => some ({ c with reg := { c.reg with cells := upd c.reg.cells k v } }, .unit)
  | .log _ (.cv _) => none      -- a `ConditionValue` is frozen in the state it is logged in: not modelled
  | .log what v => some ({ c with reg := { c.reg with trace := c.reg.trace.push (.log self what v c.reg.now) } }, .unit)
  | .spawn st =>
    some ({ c with reg := { c.reg with evSize := c.reg.evSize + 2, eid := c.reg.eid + 1 }
                   threads := c.threads ++
                     [{ pid := c.reg.evSize, st := st, wait := .init ⟨c.reg.now, URGENT, c.reg.eid, c.reg.evSize + 1⟩ }] },
      .ev c.reg.evSize)
  | _ => none

/-- the configuration with other cells and another trace: what the part of a burst does that only reads and writes cells and logs.
`c.wr c.reg.cells c.reg.trace` is `c` (by `rfl`): a step lemma writes the configuration in which a burst starts in this form, so
that the lemmas about the pieces of a program, stated on `c.wr f tr` for variable `f` and `tr`, apply to it -/
def Cfg.wr (c : Cfg σ) (f : Nat → Val) (tr : Array (Obs ℚ)) : Cfg σ := { c with reg := { c.reg with cells := f, trace := tr } }

/-- `Process.interrupt` of process `p` is refused: `p` is the active process, or has terminated -/
def hrefused (c : Cfg σ) : Call ℚ σ → Option Exc
  | .interrupt p _ =>
    (c.threads.find? (·.pid == p)).bind fun th =>
      match th.wait with
      | .gone _ _ => some (runtimeErr "terminated")
      | .ending _ _ => if th.cbs.isSome then some (runtimeErr "terminated") else none
      | _ => if th.cbs.isSome ∧ c.reg.active = some p then some (runtimeErr "self") else none
  | _ => none

/-- one burst of process `self`; a refused call is logged (`.callErr`, as `noteErr` does in `runBurst`) and the caller resumes
with the exception -/
def hrun (self : EvId) : Burst ℚ σ → Cfg σ → Option (Cfg σ × Term σ)
  | .call cl k, c =>
    match hcall c self cl with
    | some cr => hrun self (k cr.2) cr.1
    | none =>
      (hrefused c cl).bind fun x =>
        hrun self (k (.err x)) { c with reg := { c.reg with trace := c.reg.trace.push (.callErr self x c.reg.now) } }
  | .yield e st, c => some (c, .yielded e st)
  | .ret v, c => some (c, .returned v)
  | .raise x, c => some (c, .raised x)

/-- the end of a burst of process `p`: it waits for the event it has created last, or for another process, or has returned -/
def hafter (c : Cfg σ) (p : EvId) : Term σ → Option (Cfg σ)
  | .yielded e st =>
    match c.loose with
    | w :: rest =>
      if w.ids = [e] then
        some { c with reg := { c.reg with active := none }
                      threads := modTh c.threads p fun th => { th with st := st, wait := w }
                      loose := rest }
      else none
    | [] =>
      if e ≠ p ∧ (c.threads.find? (·.pid == e)).any (·.cbs.isSome) then
        some { c with reg := { c.reg with active := none }
                      threads := modTh (modTh c.threads e fun th => { th with cbs := th.cbs.map (· ++ [.resume p]) }) p
                        fun th => { th with st := st, wait := .join e } }
      else none
  | .returned v =>
    if (c.threads.find? (·.pid == p)).any (·.cbs.isSome) then
      some { c with
        reg := { c.reg with active := none, eid := c.reg.eid + 1, trace := c.reg.trace.push (.ended p (.ok v) c.reg.now) }
        threads := modTh c.threads p fun th => { th with wait := .ending ⟨c.reg.now, NORMAL, c.reg.eid, p⟩ v } }
    else none
  | .raised _ => none

/-- the entry `q` is popped, process `p` starts its burst with `arg` -/
def hbegin (c : Cfg σ) (p : EvId) (q : QEntry ℚ) (arg : Resume) : Cfg σ :=
  { c with reg := { c.reg with now := q.time, active := some p, trace := c.reg.trace.push (.resumed p arg q.time) }
           threads := modTh c.threads p fun th => { th with wait := .running }
           cur := some q.ev }

/-- the burst `b` of the running process `p` to its end, and the end of the kernel step -/
def hend (c : Cfg σ) (p : EvId) (b : Burst ℚ σ) : Option (Cfg σ) :=
  (hrun p b c).bind fun ct => (hafter ct.1 p ct.2).map fun c' => { c' with cur := none }

/-- the burst of process `p` (local state `st`) resumed with `arg` by the entry `q` -/
def hburst (body : σ → Resume → Burst ℚ σ) (c : Cfg σ) (p : EvId) (st : σ) (q : QEntry ℚ) (arg : Resume) : Option (Cfg σ) :=
  hend (hbegin c p q arg) p (body st arg)

/-- the entry that resumes a waiting process, and what `_resume` sends into the generator -/
def Wait.resumes : Wait → Option (QEntry ℚ × Resume)
  | .init q => some (q, .start)
  | .sleep q => some (q, .value .none)
  | .getH _ q v => some (q, .value (.int v))
  | _ => none

/-- a step on the entry of a waiting process -/
def hresume (body : σ → Resume → Burst ℚ σ) (c : Cfg σ) (th : Thread σ) : Option (Cfg σ) :=
  th.wait.resumes.bind fun qa => hburst body c th.pid th.st qa.1 qa.2

/-- a step on the process event (entry `q`) of a process that has returned `v`: nobody has joined it, or its parent has -/
def hfinish (body : σ → Resume → Burst ℚ σ) (c : Cfg σ) (th : Thread σ) (q : QEntry ℚ) (v : Val) : Option (Cfg σ) :=
  match th.cbs with
  | some [] => some { c with reg := { c.reg with now := q.time }, threads := c.threads.filter (·.pid != th.pid) }
  | some [.resume p] =>
    (c.threads.find? (·.pid == p)).bind fun par =>
      match par.wait with
      | .join e =>
        if e = th.pid then hburst body { c with threads := c.threads.filter (·.pid != th.pid) } p par.st q (.value v) else none
      | _ => none
  | _ => none

/-- the same step when nobody has joined, for a process that is remembered (a later `Process.interrupt` of it is refused) -/
def hretire (c : Cfg σ) (th : Thread σ) (q : QEntry ℚ) (v : Val) : Option (Cfg σ) :=
  match th.cbs with
  | some [] =>
    some { c with reg := { c.reg with now := q.time }
                  threads := modTh c.threads th.pid fun th => { th with wait := .gone th.pid v, cbs := none } }
  | _ => none

def Wait.isGetW (r : ResId) (g : EvId) : Wait → Bool
  | .getW r' g' => r' == r && g' == g
  | _ => false

/-- a step on the pending `StorePut` event `u` (`pend'` = the others): `_trigger_get` serves the consumer if one waits and the
store is not empty -/
def hpend (c : Cfg σ) (u : QEntry ℚ × ResId) (pend' : List (QEntry ℚ × ResId)) : Option (Cfg σ) :=
  (c.stores u.2).bind fun st =>
    let c0 : Cfg σ := { c with reg := { c.reg with now := u.1.time }, pend := pend' }
    match st.getQ with
    | [] => some c0
    | [g] =>
      (c.threads.find? (·.wait.isGetW u.2 g)).map fun th =>
        match st.take with
        | none => c0
        | some (v, its) =>
          { c0 with reg := { c0.reg with eid := c.reg.eid + 1 }
                    stores := upd c.stores u.2 (some { st with getQ := [], items := its })
                    threads := modTh c.threads th.pid fun th => { th with wait := .getH u.2 ⟨u.1.time, NORMAL, c.reg.eid, g⟩ v } }
    | _ => none

/-- `simp` looks at the scrutinee of a `match` first and at the continuation only once it is a `some`: with `bind`/`map` it would
simplify the continuation (the rest of the burst) under the binder, and again after the reduction -/
theorem bind_match {α β : Type} (x : Option α) (f : α → Option β) :
    x.bind f = match x with | some a => f a | none => none := by cases x <;> rfl

theorem map_match {α β : Type} (x : Option α) (f : α → β) :
    x.map f = match x with | some a => some (f a) | none => none := by cases x <;> rfl

/-- `log` of a value that is written as a term, not as a constructor -/
theorem hcall_log (c : Cfg σ) (self : EvId) (what : String) {v : Val} (hv : ∀ keys, v ≠ .cv keys) :
    hcall c self (.log what v) =
      some ({ c with reg := { c.reg with trace := c.reg.trace.push (.log self what v c.reg.now) } }, .unit) := by
  cases v <;> first | rfl | exact absurd rfl (hv _)

theorem hcall_log_enc (c : Cfg σ) (self : EvId) (what : String) (x : ℚ) :
    hcall c self (.log what (TimeCell.enc x)) =
      some ({ c with reg := { c.reg with trace := c.reg.trace.push (.log self what (TimeCell.enc x) c.reg.now) } }, .unit) :=
  hcall_log c self what fun _ h => by cases h

attribute [kproc ↓] bind_match map_match hcall_log_enc

attribute [kproc] hresume hburst hend hbegin hrun hcall hrefused hafter hfinish hretire hpend Wait.resumes Wait.ids Wait.isGetW modTh_nil modTh_cons upd Cfg.wr
  HStore.take Option.bind_some Option.map_some Option.bind_none Option.map_none Option.any_some Option.isSome_some
  Option.isSome_none List.map_cons List.map_nil List.find?_cons List.find?_nil List.filter_cons List.filter_nil beq_iff_eq
  if_true if_false ite_true ite_false Bool.false_eq_true Bool.and_true Bool.true_and Bool.and_false Bool.false_and
  bne_iff_ne ne_eq not_true_eq_false not_false_eq_true cond_true cond_false

/-- run the machine: `simp only` with the equations `kproc`, comparisons of numerals, and what the caller adds (the program, the
configuration, the cells that are read) -/
macro "heval" " [" args:Lean.Parser.Tactic.simpLemma,* "]" : tactic =>
  `(tactic| simp only [kproc, Nat.reduceBEq, Nat.reduceEqDiff, Nat.reduceBNe, reduceCtorEq, $args,*])

end KProc
