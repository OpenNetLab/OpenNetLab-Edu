import OnlVerif.Lemmas.ResStep
/-!
# Whole runs from one step

For any program: if every kernel step from a state with the invariant `I s x` succeeds in a state with `I s' x'`
(`x` = whatever the invariant is about: a configuration, with the LTS run behind it, an oracle state …), then every reachable
state has the invariant (`KReach.of_step`); if moreover the step lowers a measure `mu x`, `run()` returns within `mu x + 1`
steps, with an empty agenda (`runLoop_returns`).
-/

variable {σ α : Type} {body : σ → Resume → Burst ℚ σ} {fuel : Nat} {I : KState ℚ σ → α → Prop}

theorem KReach.of_step {s0 s : KState ℚ σ} {x0 : α} (h0 : I s0 x0)
    (hstep : ∀ s x q rest, I s x → popMin s.agenda = some (q, rest) → ∃ s' x', _root_.step body fuel s = .ok s' ∧ I s' x')
    (h : KReach body fuel s0 s) : ∃ x, I s x := by
  induction h with
  | init => exact ⟨x0, h0⟩
  | @step s s' _ hs ih =>
    obtain ⟨x, hi⟩ := ih
    cases hp : popMin s.agenda with
    | none => simp [_root_.step, hp, StepResult.state?] at hs
    | some qr =>
      obtain ⟨s'', x', h1, h2⟩ := hstep s x qr.1 qr.2 hi hp
      rw [h1] at hs
      exact ⟨x', Option.some.inj hs ▸ h2⟩

theorem runLoop_returns (mu : α → Nat)
    (hstep : ∀ s x q rest, I s x → popMin s.agenda = some (q, rest) →
      ∃ s' x', step body fuel s = .ok s' ∧ I s' x' ∧ mu x' + 1 ≤ mu x) (s0 : KState ℚ σ) :
    ∀ (n : Nat) (s : KState ℚ σ) (x : α), I s x → mu x < n → KReach body fuel s0 s →
      ∃ sF xF, runLoop body fuel none n s = .returned .none sF ∧ I sF xF ∧ sF.agenda = [] ∧ KReach body fuel s0 sF
  | 0, _, _, _, hmu, _ => absurd hmu (Nat.not_lt_zero _)
  | n + 1, s, x, h, hmu, hre => by
    cases hp : popMin s.agenda with
    | none =>
      refine ⟨s, x, ?_, h, (popMin_none_iff _).mp hp, hre⟩
      simp [runLoop, step, hp]
    | some qr =>
      obtain ⟨s', x', h1, h2, h3⟩ := hstep s x qr.1 qr.2 h hp
      have := runLoop_returns mu hstep s0 n s' x' h2 (by omega) (KReach.step hre (by rw [h1]; rfl))
      simpa [runLoop, h1] using this
