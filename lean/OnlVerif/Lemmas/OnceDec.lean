import OnlVerif.Lemmas.OnceRun
/-!
# The domain hypothesis is decidable; finite runs

`SafeStep body fuel s` can be evaluated for a concrete program and state (`decide +kernel`), and a run that ends
(empty agenda) after `N` steps satisfies `SafeRun` as soon as its `N` states satisfy `SafeStep`.
-/

namespace Once
variable {σ : Type}

instance instDecSafeTarget (s : KState ℚ σ) (e : EvId) : Decidable (SafeTarget s e) := by
  unfold SafeTarget; exact inferInstance

instance instDecSafeCall (s : KState ℚ σ) : (c : Call ℚ σ) → Decidable (SafeCall s c)
  | .succeed e _ => inferInstanceAs (Decidable (SafeTarget s e))
  | .fail e _ => inferInstanceAs (Decidable (SafeTarget s e))
  | .timeout .. | .event | .spawn .. | .interrupt .. | .probe .. | .cond .. | .request .. | .release .. | .cancel ..
  | .cput .. | .cget .. | .sput .. | .sget .. | .log .. | .load .. | .store .. => isTrue trivial

instance instDecSafeYield (s : KState ℚ σ) (self e : EvId) : Decidable (SafeYield s self e) := by
  unfold SafeYield; exact inferInstance

def SafeBurst.dec (self : EvId) : (b : Burst ℚ σ) → (s : KState ℚ σ) → Decidable (SafeBurst self b s)
  | .call c k, s => @instDecidableAnd _ _ (instDecSafeCall s c) (SafeBurst.dec self (k _) _)
  | .yield e _, s => instDecSafeYield s self e
  | .ret _, _ => isTrue trivial
  | .raise _, _ => isTrue trivial

instance (self : EvId) (b : Burst ℚ σ) (s : KState ℚ σ) : Decidable (SafeBurst self b s) := SafeBurst.dec self b s

def SafeResume.dec (body : σ → Resume → Burst ℚ σ) (p : EvId) : (fuel : Nat) → (e : EvId) → (s : KState ℚ σ) →
    Decidable (SafeResume body p fuel e s)
  | 0, _, _ => isTrue trivial
  | fuel + 1, e, s => by
    unfold SafeResume
    split
    · exact isTrue trivial
    · refine @instDecidableAnd _ _ inferInstance ?_
      split
      · split
        · exact isTrue trivial
        · exact SafeResume.dec body p fuel _ _
      · exact isTrue trivial

instance (body : σ → Resume → Burst ℚ σ) (p : EvId) (fuel : Nat) (e : EvId) (s : KState ℚ σ) :
    Decidable (SafeResume body p fuel e s) := SafeResume.dec body p fuel e s

instance (body : σ → Resume → Burst ℚ σ) (fuel : Nat) (iv p : EvId) (s : KState ℚ σ) : Decidable (SafeIntr body fuel iv p s) := by
  unfold SafeIntr
  split
  · exact isTrue trivial
  · split
    · exact isTrue trivial
    · split <;> exact inferInstance

instance instDecSafeCb (body : σ → Resume → Burst ℚ σ) (fuel : Nat) (e : EvId) (s : KState ℚ σ) : (cb : Cb) → Decidable (SafeCb body fuel e s cb)
  | .resume p => inferInstanceAs (Decidable (SafeResume body p fuel e s))
  | .intr iv => by
    simp only [SafeCb]
    split
    · exact inferInstance
    · exact isTrue trivial
  | .probe _ | .stop | .check _ | .build _ | .trigPut _ | .trigGet _ => isTrue trivial

def SafeCbs.dec (body : σ → Resume → Burst ℚ σ) (fuel : Nat) (e : EvId) : (cbs : List Cb) → (l : LoopSt ℚ σ) → Decidable (SafeCbs body fuel e cbs l)
  | [], _ => isTrue trivial
  | cb :: cbs, l => @instDecidableAnd _ _ (instDecSafeCb body fuel e l.s cb) (SafeCbs.dec body fuel e cbs _)

instance (body : σ → Resume → Burst ℚ σ) (fuel : Nat) (s : KState ℚ σ) : Decidable (SafeStep body fuel s) := by
  unfold SafeStep
  split
  · exact isTrue trivial
  · split
    · exact isTrue trivial
    · exact SafeCbs.dec body fuel _ _ _


def NoHangResume.dec (body : σ → Resume → Burst ℚ σ) (p : EvId) : (fuel : Nat) → (e : EvId) → (s : KState ℚ σ) →
    Decidable (NoHangResume body p fuel e s)
  | 0, _, _ => isFalse (fun h => h)
  | fuel + 1, e, s => by
    unfold NoHangResume
    split
    · exact isTrue trivial
    · split
      · split
        · exact isTrue trivial
        · exact NoHangResume.dec body p fuel _ _
      · exact isTrue trivial

instance (body : σ → Resume → Burst ℚ σ) (p : EvId) (fuel : Nat) (e : EvId) (s : KState ℚ σ) :
    Decidable (NoHangResume body p fuel e s) := NoHangResume.dec body p fuel e s

instance (body : σ → Resume → Burst ℚ σ) (fuel : Nat) (iv p : EvId) (s : KState ℚ σ) : Decidable (NoHangIntr body fuel iv p s) := by
  unfold NoHangIntr
  split
  · exact isTrue trivial
  · split
    · exact isTrue trivial
    · split <;> exact inferInstance

instance instDecNoHangCb (body : σ → Resume → Burst ℚ σ) (fuel : Nat) (e : EvId) (s : KState ℚ σ) :
    (cb : Cb) → Decidable (NoHangCb body fuel e s cb)
  | .resume p => inferInstanceAs (Decidable (NoHangResume body p fuel e s))
  | .intr iv => by
    simp only [NoHangCb]
    split
    · exact inferInstance
    · exact isTrue trivial
  | .probe _ | .stop | .check _ | .build _ | .trigPut _ | .trigGet _ => isTrue trivial

def NoHangCbs.dec (body : σ → Resume → Burst ℚ σ) (fuel : Nat) (e : EvId) : (cbs : List Cb) → (l : LoopSt ℚ σ) →
    Decidable (NoHangCbs body fuel e cbs l)
  | [], _ => isTrue trivial
  | cb :: cbs, l => @instDecidableAnd _ _ (instDecNoHangCb body fuel e l.s cb) (NoHangCbs.dec body fuel e cbs _)

instance (body : σ → Resume → Burst ℚ σ) (fuel : Nat) (s : KState ℚ σ) : Decidable (NoHangStep body fuel s) := by
  unfold NoHangStep
  split
  · exact isTrue trivial
  · split
    · exact isTrue trivial
    · exact NoHangCbs.dec body fuel _ _ _

/-- the state after `n` steps (`none`: the run has ended before) -/
def iter (body : σ → Resume → Burst ℚ σ) (fuel : Nat) : Nat → KState ℚ σ → Option (KState ℚ σ)
  | 0, s => some s
  | n + 1, s => (iter body fuel n s).bind fun x => (step body fuel x).state?

theorem reach_iter {body : σ → Resume → Burst ℚ σ} {fuel : Nat} {s0 s : KState ℚ σ} (hr : KReach body fuel s0 s) :
    ∃ n, iter body fuel n s0 = some s := by
  induction hr with
  | init => exact ⟨0, rfl⟩
  | step _ hs ih =>
    obtain ⟨n, hn⟩ := ih
    exact ⟨n + 1, by simp only [iter, hn, Option.bind_some]; exact hs⟩

theorem iter_none_of_le {body : σ → Resume → Burst ℚ σ} {fuel : Nat} {s0 : KState ℚ σ} {N : Nat}
    (h : iter body fuel N s0 = none) : ∀ n, N ≤ n → iter body fuel n s0 = none := by
  intro n hn
  induction hn with
  | refl => exact h
  | step _ ih => simp only [iter, ih, Option.bind_none]

def UpTo (P : KState ℚ σ → Prop) (body : σ → Resume → Burst ℚ σ) (fuel : Nat) (s0 : KState ℚ σ) (N : Nat) : Prop :=
  (iter body fuel N s0).isNone = true ∧
  ∀ n, n < N → match iter body fuel n s0 with
    | some s => P s
    | none => True

instance (P : KState ℚ σ → Prop) [DecidablePred P] (body : σ → Resume → Burst ℚ σ) (fuel : Nat) (s0 : KState ℚ σ)
    (N : Nat) : Decidable (UpTo P body fuel s0 N) := by
  unfold UpTo
  refine @instDecidableAnd _ _ inferInstance (@Nat.decidableBallLT N _ (fun n _ => ?_))
  split
  · exact inferInstance
  · exact isTrue trivial

theorem UpTo.reach {P : KState ℚ σ → Prop} {body : σ → Resume → Burst ℚ σ} {fuel : Nat} {s0 : KState ℚ σ} {N : Nat}
    (h : UpTo P body fuel s0 N) (s : KState ℚ σ) (hr : KReach body fuel s0 s) : P s := by
  obtain ⟨n, hn⟩ := reach_iter hr
  have hend : iter body fuel N s0 = none := by
    cases hc : iter body fuel N s0 with
    | none => rfl
    | some x => have := h.1; rw [hc] at this; cases this
  by_cases hlt : n < N
  · have := h.2 n hlt
    rw [hn] at this
    exact this
  · have := iter_none_of_le hend n (by omega)
    rw [hn] at this; cases this

abbrev SafeUpTo (body : σ → Resume → Burst ℚ σ) (fuel : Nat) := UpTo (SafeStep body fuel) body fuel
abbrev NoHangUpTo (body : σ → Resume → Burst ℚ σ) (fuel : Nat) := UpTo (NoHangStep body fuel) body fuel

theorem SafeUpTo.safeRun {body : σ → Resume → Burst ℚ σ} {fuel : Nat} {s0 : KState ℚ σ} {N : Nat}
    (h : SafeUpTo body fuel s0 N) : SafeRun body fuel s0 := h.reach

theorem NoHangUpTo.noHangRun {body : σ → Resume → Burst ℚ σ} {fuel : Nat} {s0 : KState ℚ σ} {N : Nat}
    (h : NoHangUpTo body fuel s0 N) : NoHangRun body fuel s0 := h.reach

end Once
