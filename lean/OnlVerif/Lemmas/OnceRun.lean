import OnlVerif.Lemmas.OnceStep
/-! # The invariant along whole runs; what it says between steps; at the end, `EvMono` and any `KRel` along a step and a run -/

namespace Once
variable {σ : Type}

def g0 (lv strict : Bool) : Ghost := { rem := [], e0 := 0, run := none, lv := lv, strict := strict }

/-- the invariant as it holds between steps (`lv`: with the "no live process is lost" clause; `strict`: for runs
whose `_resume` loops never run out of fuel) -/
def Inv0 (lv : Bool) (s : KState ℚ σ) (strict : Bool := false) : Prop := Inv (g0 lv strict) s

/-- **an event is in the agenda at most once, and only while it is triggered and unprocessed** -/
structure AgendaOnce (s : KState ℚ σ) : Prop where
  nodup : (s.agenda.map (·.ev)).Nodup
  live : ∀ q ∈ s.agenda, (s.ev q.ev).out ≠ none ∧ (s.ev q.ev).cbs ≠ none
  sched : ∀ e, (s.ev e).out ≠ none → (s.ev e).cbs ≠ none → ∃ q ∈ s.agenda, q.ev = e

/-- **the registration invariant**: a `_resume p` in the callbacks of `e` means that `p` is an unfinished process
whose current target is `e`, and it is there exactly once -/
def RegOnce (s : KState ℚ σ) : Prop :=
  ∀ e L p, (s.ev e).cbs = some L → Cb.resume p ∈ L →
    (s.ev p).out = none ∧ (∃ pr, s.proc? p = some pr ∧ pr.target = some e) ∧ L.count (.resume p) = 1

/-- no unfinished process is lost: it has a target that exists, and is registered there unless the target is
already processed (possible between steps only if the `_resume` loop ran out of fuel on that process) -/
def NoneLost (s : KState ℚ σ) : Prop :=
  ∀ p pr, s.proc? p = some pr → (s.ev p).out = none →
    ∃ t, pr.target = some t ∧ t < s.events.size ∧ ((s.ev t).cbs = none ∨ ∃ L, (s.ev t).cbs = some L ∧ Cb.resume p ∈ L)

/-- …and if no `_resume` loop ever runs out of fuel: every unfinished process is registered on its target -/
def AllRegistered (s : KState ℚ σ) : Prop :=
  ∀ p pr, s.proc? p = some pr → (s.ev p).out = none →
    ∃ t L, pr.target = some t ∧ (s.ev t).cbs = some L ∧ Cb.resume p ∈ L

theorem Inv0.weaken {strict : Bool} {s : KState ℚ σ} (h : Inv0 true s strict) : Inv0 false s strict :=
  ⟨h.c.idle, h.q, ⟨fun hl => by cases hl⟩, h.s⟩

theorem Inv0.strict_irrel {lv a b : Bool} {s : KState ℚ σ} (h : Inv0 lv s a)
    (hreg : lv = true → b = true → AllRegistered s) : Inv0 lv s b := by
  refine ⟨h.c.idle, h.q, ⟨?_⟩, h.s⟩
  intro hl p pr hp ho _
  obtain ⟨t, h1, h2, h3⟩ := h.l.live hl p pr hp ho (by simp [g0])
  refine ⟨t, h1, h2, ?_⟩
  rcases Bool.eq_false_or_eq_true b with hb | hb
  · obtain ⟨t', L, h4, h5, h6⟩ := hreg hl hb p pr hp ho
    rw [h1] at h4; cases h4
    exact Or.inr (Or.inl ⟨L, h5, h6⟩)
  · rcases h3 with ⟨_, h3⟩ | h3 | ⟨_, h3⟩
    · cases h3
    · exact Or.inr (Or.inl h3)
    · exact Or.inr (Or.inr ⟨hb, h3⟩)

theorem Inv0.agendaOnce {lv strict : Bool} {s : KState ℚ σ} (h : Inv0 lv s strict) : AgendaOnce s :=
  ⟨by rw [List.Nodup, List.pairwise_map]; exact h.c.ag_distinct, h.c.ag_live, h.s⟩

theorem Inv0.regOnce {lv strict : Bool} {s : KState ℚ σ} (h : Inv0 lv s strict) : RegOnce s := by
  intro e L p hL hm
  obtain ⟨h1, h2, h3, _⟩ := h.c.reg e L p hL hm
  exact ⟨h1, h2, h3⟩

theorem Inv0.noneLost {strict : Bool} {s : KState ℚ σ} (h : Inv0 true s strict) : NoneLost s := by
  intro p pr hp ho
  obtain ⟨t, h1, h2, h3⟩ := h.l.live rfl p pr hp ho (by simp [g0])
  refine ⟨t, h1, h2, ?_⟩
  rcases h3 with ⟨_, h3⟩ | h3 | ⟨_, h3⟩
  · cases h3
  · exact Or.inr h3
  · exact Or.inl h3

theorem Inv0.allRegistered {s : KState ℚ σ} (h : Inv0 true s true) : AllRegistered s := by
  intro p pr hp ho
  obtain ⟨t, h1, _, h3⟩ := h.l.live rfl p pr hp ho (by simp [g0])
  rcases h3 with ⟨_, h3⟩ | ⟨L, h3, h4⟩ | ⟨h3, _⟩
  · cases h3
  · exact ⟨t, L, h1, h3, h4⟩
  · cases h3

theorem Inv.e0 {g : Ghost} {s : KState ℚ σ} (hi : Inv g s) (hrem : g.rem = []) (x : EvId) : Inv { g with e0 := x } s := by
  refine ⟨⟨hi.c.ag_distinct, hi.c.ag_live, hi.c.done_trig, hi.c.procs, hi.c.reg, hi.c.intr, hi.c.check, hi.c.pend, ?_,
    hi.c.rem_check, ?_, hi.c.rem_count⟩, hi.q, hi.l.ghost (fun _ h => h) (fun h => h) ?_, hi.s⟩
  · intro p hp
    have : Cb.resume p ∈ g.rem := hp
    rw [hrem] at this; cases this
  · intro iv hv
    have : Cb.intr iv ∈ g.rem := hv
    rw [hrem] at this; cases this
  · intro p t h _
    rcases h with ⟨_, h2⟩ | h | h
    · rw [hrem] at h2; cases h2
    · exact Or.inr (Or.inl h)
    · exact Or.inr (Or.inr h)

/-- **the pop keeps the invariant**: the processes that waited for the popped event become the pending ones -/
theorem Inv.openEvent {lv strict : Bool} {s : KState ℚ σ} (hi : Inv0 lv s strict) (q : QEntry ℚ) (rest : List (QEntry ℚ))
    (hq : popMin s.agenda = some (q, rest)) (L : List Cb) (hL : (s.ev q.ev).cbs = some L) :
    Inv { rem := L, e0 := q.ev, run := none, lv := lv, strict := strict } (_root_.openEvent s q rest) := by
  have sp := popMin_spec _ _ _ hq
  have hqmem : q ∈ s.agenda := sp.1.symm.subset List.mem_cons_self
  have hsub : ∀ b ∈ rest, b ∈ s.agenda := fun b hb => sp.1.symm.subset (List.mem_cons_of_mem _ hb)
  have hpw := (List.Perm.pairwise_iff (R := fun a b : QEntry ℚ => a.ev ≠ b.ev) (fun {a b} h => h.symm) sp.1).mp
    hi.c.ag_distinct
  have hlt : q.ev < s.events.size := lt_of_cbs_some s _ L hL
  have hev : ∀ x, (_root_.openEvent s q rest).ev x = (s.setEv q.ev { s.ev q.ev with cbs := none }).ev x := fun _ => rfl
  have hk : ∀ x, ((_root_.openEvent s q rest).ev x).kind = (s.ev x).kind := fun x => by
    rw [hev]; exact kind_setEv s q.ev x _ rfl
  have ho : ∀ x, ((_root_.openEvent s q rest).ev x).out = (s.ev x).out := fun x => by
    rw [hev]; exact out_setEv s q.ev x _ rfl
  have hcb : ∀ x, ((_root_.openEvent s q rest).ev x).cbs = if x = q.ev then none else (s.ev x).cbs := by
    intro x
    rw [hev, KState.ev_setEv]
    by_cases hx : x = q.ev
    · rw [if_pos ⟨hx, hlt⟩, if_pos hx]
    · rw [if_neg (fun h => hx h.1), if_neg hx]
  have hsz : (_root_.openEvent s q rest).events.size = s.events.size := by
    show (s.setEv q.ev _).events.size = _
    exact size_setEv _ _ _
  have hcond : ∀ c, isCond (_root_.openEvent s q rest) c = isCond s c := fun c => isCond_congr (hk c)
  have hcbsome : ∀ x L', ((_root_.openEvent s q rest).ev x).cbs = some L' → x ≠ q.ev ∧ (s.ev x).cbs = some L' := by
    intro x L' h
    rw [hcb] at h
    split at h
    · cases h
    · rename_i hx; exact ⟨hx, h⟩
  refine ⟨⟨?_, ?_, ?_, ?_, ?_, ?_, ?_, ?_, ?_, ?_, ?_, ?_⟩, ?_, ?_, ?_⟩
  rotate_right
  · -- whatever is triggered and unprocessed after the pop was so before, and is not the popped event
    intro e h1 h2
    rw [ho] at h1
    rw [hcb] at h2
    split at h2
    · exact absurd rfl h2
    · rename_i hne
      obtain ⟨b, hb, hbe⟩ := hi.s e h1 h2
      rcases List.mem_cons.mp (sp.1.subset hb) with hbq | hbr
      · exact absurd (by rw [← hbe, hbq]) hne
      · exact ⟨b, hbr, hbe⟩
  · exact (List.pairwise_cons.mp hpw).2
  · intro b hb
    have hne : b.ev ≠ q.ev := ((List.pairwise_cons.mp hpw).1 b hb).symm
    rw [ho, hcb, if_neg hne]
    exact hi.c.ag_live b (hsub b hb)
  · intro e he hc
    rw [ho]
    rw [hcb] at hc
    split at hc
    · rename_i hx; rw [hx]; exact (hi.c.ag_live q hqmem).1
    · exact hi.c.done_trig e (by rw [← hsz]; exact he) hc
  · intro p pr hp; rw [hk]; exact hi.c.procs p pr hp
  · intro e L' p hL' hm
    obtain ⟨_, hs⟩ := hcbsome e L' hL'
    obtain ⟨h1, h2, h3, h4⟩ := hi.c.reg e L' p hs hm
    exact ⟨by rw [ho]; exact h1, h2, h3, by rw [hk]; exact h4⟩
  · intro e L' iv hL' hm
    exact hi.c.intr e L' iv (hcbsome e L' hL').2 hm
  · intro e L' c hL' hm
    rw [hcond]; exact hi.c.check e L' c (hcbsome e L' hL').2 hm
  · intro p hp
    rcases hp with hp | hp
    · obtain ⟨h1, ⟨pr, h2, h3⟩, _, _⟩ := hi.c.reg q.ev L p hL hp
      refine ⟨by rw [ho]; exact h1, by rw [hk]; exact hi.c.procs p pr h2, ?_⟩
      intro e L' hL' hm
      obtain ⟨hne, hs⟩ := hcbsome e L' hL'
      exact hne (Option.some.inj ((hi.c.reg_target hs hm h2).symm.trans h3))
    · cases hp
  · intro p hp
    refine ⟨by rw [hsz]; exact hlt, ?_⟩
    rw [hk]; exact (hi.c.reg q.ev L p hL hp).2.2.2
  · intro c hc; rw [hcond]; exact hi.c.check q.ev L c hL hc
  · intro iv hv; exact hi.c.intr q.ev L iv hL hv
  · intro p
    by_cases hm : Cb.resume p ∈ L
    · exact Nat.le_of_eq (hi.c.reg q.ev L p hL hm).2.2.1
    · rw [List.count_eq_zero.mpr hm]; exact Nat.zero_le _
  · exact hi.q.keep (fun _ => rfl) (fun _ => rfl) (fun e h _ => ⟨hk e, by rw [ho]; exact h⟩)
  · refine hi.l.transfer' (by rw [hsz]) (fun _ => rfl) (fun p hp => by rw [← ho]; exact hp) (fun _ h => h) (fun h => h) ?_
    intro p t h _ _
    rcases h with ⟨_, h2⟩ | ⟨L', h1, h2⟩ | ⟨h1, h2⟩
    · cases h2
    · by_cases ht : t = q.ev
      · subst ht
        rw [hL] at h1; cases h1
        exact Or.inl ⟨rfl, h2⟩
      · exact Or.inr (Or.inl ⟨L', by rw [hcb, if_neg ht]; exact h1, h2⟩)
    · refine Or.inr (Or.inr ⟨h1, ?_⟩)
      rw [hcb]; split
      · rfl
      · exact h2

theorem Inv0.pop_unprocessed {lv strict : Bool} {s : KState ℚ σ} (hi : Inv0 lv s strict) (q : QEntry ℚ) (rest : List (QEntry ℚ))
    (hq : popMin s.agenda = some (q, rest)) : (s.ev q.ev).cbs ≠ none :=
  (hi.c.ag_live q ((popMin_spec _ _ _ hq).1.symm.subset List.mem_cons_self)).2

theorem Inv0.step (body : σ → Resume → Burst ℚ σ) (fuel : Nat) {lv strict : Bool} {s s' : KState ℚ σ} (hi : Inv0 lv s strict)
    (hfuel : lv = true → 0 < fuel) (hsafe : SafeStep body fuel s) (hnh : strict = true → NoHangStep body fuel s)
    (hs : (step body fuel s).state? = some s') : Inv0 lv s' strict := by
  unfold _root_.step at hs
  unfold SafeStep at hsafe
  unfold NoHangStep at hnh
  split at hs
  · cases hs
  · rename_i q rest hq
    rw [hq] at hsafe hnh
    simp only at hsafe hnh
    split at hs
    · rename_i hnone
      exact absurd hnone (hi.pop_unprocessed q rest hq)
    · rename_i L hL
      rw [hL] at hsafe hnh
      simp only at hsafe hnh
      rw [closeEvent_state] at hs
      cases hs
      have h1 := Inv.openEvent hi q rest hq L hL
      have h2 := Inv.foldCbs body fuel L { rem := L, e0 := q.ev, run := none, lv := lv, strict := strict }
        { s := _root_.openEvent s q rest } rfl rfl hfuel h1 hsafe hnh
      exact h2.e0 rfl 0

theorem KReach.trans {body : σ → Resume → Burst ℚ σ} {fuel : Nat} {s0 s1 s2 : KState ℚ σ}
    (h1 : KReach body fuel s0 s1) (h2 : KReach body fuel s1 s2) : KReach body fuel s0 s2 := by
  induction h2 with
  | init => exact h1
  | step _ hs ih => exact KReach.step ih hs

/-- **the invariant holds in every state of every safe run** -/
theorem Inv0.reach (body : σ → Resume → Burst ℚ σ) (fuel : Nat) {lv strict : Bool} {s0 s : KState ℚ σ} (h0 : Inv0 lv s0 strict)
    (hfuel : lv = true → 0 < fuel) (hsafe : SafeRun body fuel s0) (hnh : strict = true → NoHangRun body fuel s0)
    (hr : KReach body fuel s0 s) : Inv0 lv s strict := by
  induction hr with
  | init => exact h0
  | step hr' hs ih => exact ih.step body fuel hfuel (hsafe _ hr') (fun h => hnh h _ hr') hs

theorem SafeProg.resume {body : σ → Resume → Burst ℚ σ} (h : SafeProg body) (p : EvId) :
    ∀ (fuel : Nat) (e : EvId) (s : KState ℚ σ), SafeResume body p fuel e s
  | 0, _, _ => trivial
  | fuel + 1, e, s => by
    unfold SafeResume
    split
    · trivial
    · refine ⟨h _ _ _ _, ?_⟩
      split
      · split
        · trivial
        · exact SafeProg.resume h p fuel _ _
      · trivial

theorem SafeProg.intr {body : σ → Resume → Burst ℚ σ} (h : SafeProg body) (fuel : Nat) (iv p : EvId) (s : KState ℚ σ) :
    SafeIntr body fuel iv p s := by
  unfold SafeIntr
  split
  · trivial
  · split
    · trivial
    · split <;> exact h.resume p fuel _ _

theorem SafeProg.cb {body : σ → Resume → Burst ℚ σ} (h : SafeProg body) (fuel : Nat) (e : EvId) (s : KState ℚ σ) (cb : Cb) :
    SafeCb body fuel e s cb := by
  cases cb <;> simp only [SafeCb]
  case resume p => exact h.resume p fuel e s
  case intr iv =>
    split
    · exact h.intr fuel iv _ s
    · trivial

theorem SafeProg.cbs {body : σ → Resume → Burst ℚ σ} (h : SafeProg body) (fuel : Nat) (e : EvId) :
    ∀ (cbs : List Cb) (l : LoopSt ℚ σ), SafeCbs body fuel e cbs l
  | [], _ => trivial
  | cb :: cbs, l => ⟨h.cb fuel e l.s cb, SafeProg.cbs h fuel e cbs _⟩

theorem SafeProg.step {body : σ → Resume → Burst ℚ σ} (h : SafeProg body) (fuel : Nat) (s : KState ℚ σ) :
    SafeStep body fuel s := by
  unfold SafeStep
  split
  · trivial
  · split
    · trivial
    · exact h.cbs fuel _ _ _

theorem SafeProg.run {body : σ → Resume → Burst ℚ σ} (h : SafeProg body) (fuel : Nat) (s0 : KState ℚ σ) :
    SafeRun body fuel s0 := fun s _ => h.step fuel s

theorem Inv0.init (lv : Bool) (t0 : ℚ) (rs : Array ResRec)
    (h : ∀ r, (rs.getD r default).putQ = [] ∧ (rs.getD r default).getQ = []) (strict : Bool := false) :
    Inv0 lv ({ now := t0, resources := rs } : KState ℚ σ) strict := by
  have hev : ∀ e, ({ now := t0, resources := rs } : KState ℚ σ).ev e = default := fun e => by simp [KState.ev]
  have hpr : ∀ p, ({ now := t0, resources := rs } : KState ℚ σ).proc? p = none := fun p => rfl
  refine ⟨⟨?_, ?_, ?_, ?_, ?_, ?_, ?_, ?_, ?_, ?_, ?_, ?_⟩, ⟨?_, ?_⟩, ⟨?_⟩, ?_⟩
  rotate_right
  · intro e h1; rw [hev] at h1; exact absurd rfl h1
  · exact List.Pairwise.nil
  · intro q hq; cases hq
  · intro e he; exact absurd he (Nat.not_lt_zero _)
  · intro p pr hp; rw [hpr] at hp; cases hp
  · intro e L p hL; rw [hev] at hL; cases hL
  · intro e L iv hL; rw [hev] at hL; cases hL
  · intro e L c hL; rw [hev] at hL; cases hL
  · intro p hp; rcases hp with hp | hp <;> cases hp
  · intro p hp; cases hp
  · intro c hc; cases hc
  · intro iv hv; cases hv
  · intro p; simp [g0]
  · intro r
    show (rs.getD r default).putQ.Nodup ∧ ∀ e ∈ (rs.getD r default).putQ, _
    rw [(h r).1]; exact ⟨List.nodup_nil, fun e he => by cases he⟩
  · intro r
    show (rs.getD r default).getQ.Nodup ∧ ∀ e ∈ (rs.getD r default).getQ, _
    rw [(h r).2]; exact ⟨List.nodup_nil, fun e he => by cases he⟩
  · intro _ p pr hp; rw [hpr] at hp; cases hp

/-- starting a process from outside (`env.process(...)` in the main program) keeps the invariant -/
theorem Inv0.spawn {lv strict : Bool} {s : KState ℚ σ} (hi : Inv0 lv s strict) (self : EvId) (st : σ) :
    Inv0 lv (doCall s self (.spawn st)).1 strict := Inv.spawn hi self st

/-- `run(until=event)` subscribes `StopSimulation.callback` to the event: the invariant is kept -/
theorem Inv0.until_event {lv strict : Bool} {s : KState ℚ σ} (hi : Inv0 lv s strict) (e : EvId) : Inv0 lv (s.addCb e .stop) strict :=
  Inv.addCb hi e .stop (fun p h => by cases h) (fun iv h => by cases h) (fun c h => by cases h)

end Once

namespace Once
variable {σ : Type}

/-- `run(until=number)`: a fresh pre-triggered sentinel, pushed URGENT for the absolute time `at_`, with
`StopSimulation.callback` subscribed — the invariant is kept (the set-up of `runUntilTime`) -/
theorem Inv0.until_time {lv strict : Bool} {s : KState ℚ σ} (hi : Inv0 lv s strict) (at_ : ℚ) :
    Inv0 lv (((s.newEv { kind := .sentinel, cbs := some [], out := some (.ok .none) }).1.scheduleAt s.events.size URGENT at_).addCb
      s.events.size .stop) strict := by
  have h1 : InvX s.events.size (g0 lv strict) (s.newEv { kind := .sentinel, cbs := some [], out := some (.ok .none) }).1 :=
    Inv.newEv hi _ [] rfl (fun p hm => by simp at hm) (fun iv hm => by simp at hm) (fun c hm => by simp at hm)
  exact Inv.addCb (h1.scheduleAt URGENT at_ (by rw [KState.ev_newEv, if_pos rfl]; simp)
    (by rw [KState.ev_newEv, if_pos rfl]; simp) (fun b hb => Nat.ne_of_lt (hi.c.agenda_lt b hb))) _ .stop
    (fun p h => by cases h) (fun iv h => by cases h) (fun c h => by cases h)

/-- a step is the pop followed by leaf updates: whatever relation contains those relates the popped state to the end -/
theorem step_krel {R : KState ℚ σ → KState ℚ σ → Prop} (K : KRel R) (body : σ → Resume → Burst ℚ σ) (fuel : Nat)
    (s s' : KState ℚ σ) (hs : (step body fuel s).state? = some s') :
    ∃ q rest, popMin s.agenda = some (q, rest) ∧ R (_root_.openEvent s q rest) s' := by
  unfold _root_.step at hs
  split at hs
  · cases hs
  · rename_i q rest hq
    refine ⟨q, rest, hq, ?_⟩
    split at hs
    · cases hs; exact K.refl _
    · rename_i cbs _
      rw [closeEvent_state] at hs
      cases hs
      exact K.foldCbs body fuel q.ev cbs { s := _root_.openEvent s q rest }

theorem evMono_openEvent (s : KState ℚ σ) (q : QEntry ℚ) (rest : List (QEntry ℚ)) :
    EvMono s (_root_.openEvent s q rest) :=
  have := EvMono.of_setEv s q.ev { s.ev q.ev with cbs := none } rfl (fun _ => rfl)
  ⟨this.size_le, this.kind, this.processed⟩

theorem step_processes (body : σ → Resume → Burst ℚ σ) (fuel : Nat) (s s' : KState ℚ σ) (q : QEntry ℚ)
    (rest : List (QEntry ℚ)) (hq : popMin s.agenda = some (q, rest)) (hlt : q.ev < s.events.size)
    (hs : (step body fuel s).state? = some s') : (s'.ev q.ev).cbs = none ∧ q.ev < s'.events.size := by
  obtain ⟨q', rest', hq', h⟩ := step_krel EvMono.krel body fuel s s' hs
  rw [hq] at hq'; cases hq'
  have hlt' := Nat.lt_of_lt_of_le hlt (evMono_openEvent s q rest).size_le
  refine ⟨h.processed q.ev hlt' ?_, Nat.lt_of_lt_of_le hlt' h.size_le⟩
  show ((s.setEv q.ev { s.ev q.ev with cbs := none }).ev q.ev).cbs = none
  rw [KState.ev_setEv, if_pos ⟨rfl, hlt⟩]

theorem step_evMono (body : σ → Resume → Burst ℚ σ) (fuel : Nat) (s s' : KState ℚ σ)
    (hs : (step body fuel s).state? = some s') : EvMono s s' := by
  obtain ⟨q, rest, _, h⟩ := step_krel EvMono.krel body fuel s s' hs
  exact (evMono_openEvent s q rest).trans h

theorem reach_evMono (body : σ → Resume → Burst ℚ σ) (fuel : Nat) (s s' : KState ℚ σ)
    (hr : KReach body fuel s s') : EvMono s s' := by
  induction hr with
  | init => exact EvMono.refl _
  | step _ hs ih => exact ih.trans (step_evMono body fuel _ _ hs)

end Once
