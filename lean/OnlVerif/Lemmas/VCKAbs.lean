import OnlVerif.Lemmas.VCKDefs
import OnlVerif.Lemmas.StampKCommon
import OnlVerif.Lemmas.MQKCommon
/-!
# The VirtualClock scheduler on the kernel model: minimal agenda entries of a configuration, the clock advance; the
facts about dict keys and the `put` history that the later files share
-/


namespace VCK
open VCOnK QEntry

variable {N scale F : Nat} {flow size : Int → Nat} {cfg : VcCfg ℚ}

theorem txTime_nonneg {rate : ℚ} (hrate : 0 < rate) (id : Int) : 0 ≤ txTime size rate id :=
  Num.ofNat_div_nonneg _ hrate

theorem mem_run {a : A} {x : QEntry ℚ} (h : x ∈ a.run.entries) : x ∈ a.entries := by
  simp [A.entries, h]

theorem mem_src {a : A} {x : QEntry ℚ} (h : x ∈ a.src.entries) : x ∈ a.entries := by
  simp [A.entries, h]

theorem mem_pend {a : A} {u : QEntry ℚ} (h : u ∈ a.pend) : u ∈ a.entries := by
  simp [A.entries, h]

def IsMin (a : A) (q : QEntry ℚ) : Prop := q ∈ a.entries ∧ ∀ x ∈ a.entries, ¬ KeyLt x q

variable {a : A} {now : ℚ} {q : QEntry ℚ}

theorem AInv.now_le (hi : AInv N scale F flow cfg a now) (hq : IsMin a q) : now ≤ q.time := hi.due q hq.1

theorem AInv.advance (hi : AInv N scale F flow cfg a now) (hq : IsMin a q) : AInv N scale F flow cfg a q.time := by
  rcases eq_or_lt_of_le (hi.now_le hq) with h | h
  · rw [← h]; exact hi
  have hne : ∀ x ∈ a.entries, x.time ≠ now := min_ne_now hi.due hq h
  refine ⟨?_, ?_, ?_, ?_, hi.sub, hi.mono, ?_, hi.auxG, hi.keysOK, hi.cfgOK, hi.grid⟩
  · have hp := hi.run
    cases hr : a.run with
    | W g | T p t id q0 => rw [hr] at hp; exact hp
    | _ => rw [hr] at hp; exact absurd hp.1 (hne _ (mem_run (by rw [hr]; exact List.mem_cons_self)))
  · have hs := hi.src
    cases hsrc : a.src with
    | wait id rest q0 => rw [hsrc] at hs; exact hs
    | done => trivial
    | _ => rw [hsrc] at hs; exact absurd hs.1 (hne _ (mem_src (by rw [hsrc]; exact List.mem_cons_self)))
  · intro u hu
    exact absurd (hi.pend u hu).1 (hne u (mem_pend hu))
  · intro x hx; exact not_keyLt_time (hq.2 x hx)
  · intro w hw
    obtain ⟨h1, h2, h3, h4, h5⟩ := hi.putOK w hw
    exact ⟨h1, h2, h3, le_trans h4 (le_of_lt h), h5⟩

theorem AInv.items_nil (hi : AInv N scale F flow cfg a now) {g : EvId} (hr : a.run = .W g) (hpe : a.pend = []) :
    a.items = [] := by
  have hp := hi.run
  rw [hr] at hp
  exact Classical.not_not.mp fun hc => hp.1 hc hpe

theorem lookup_mem {β : Type} : ∀ (l : List (Nat × β)) (k : Nat) (v : β), Stamp.lookup l k = some v → (k, v) ∈ l
  | [], _, _, h => by cases h
  | (k', v') :: r, k, v, h => by
    simp only [Stamp.lookup] at h
    split at h
    · rename_i hk
      cases h; subst hk
      exact List.mem_cons_self
    · exact List.mem_cons_of_mem _ (lookup_mem r k v h)

/-! `VCOnK.addKey` is the `addKey` of `Lemmas/MQKCommon.lean` -/

theorem addKey_of_mem (keys : List Nat) (f : Nat) (h : f ∈ keys) : addKey keys f = keys := MQK.addKey_of_mem keys f h

theorem addKey_of_not_mem (keys : List Nat) (f : Nat) (h : f ∉ keys) : addKey keys f = keys ++ [f] :=
  MQK.addKey_of_not_mem keys f h

theorem mem_addKey_iff {l : List Nat} {k f : Nat} : f ∈ addKey l k ↔ f ∈ l ∨ f = k := MQK.mem_addKey l k f

theorem mem_foldl_addKey_iff (flow : Int → Nat) (ids : List Int) : ∀ (l : List Nat) (f : Nat),
    f ∈ ids.foldl (fun l id => addKey l (flow id)) l ↔ f ∈ l ∨ ∃ id ∈ ids, flow id = f := by
  induction ids with
  | nil => intro l f; simp
  | cons i r ih =>
    intro l f
    simp only [List.foldl_cons, ih, mem_addKey_iff, List.mem_cons, exists_eq_or_imp]
    constructor
    · rintro ((h | h) | h)
      · exact Or.inl h
      · exact Or.inr (Or.inl h.symm)
      · exact Or.inr (Or.inr h)
    · rintro (h | h | h)
      · exact Or.inl (Or.inl h)
      · exact Or.inl (Or.inr h.symm)
      · exact Or.inr h

theorem mem_keysOf_iff {flow : Int → Nat} {ids : List Int} {f : Nat} : f ∈ keysOf flow ids ↔ ∃ id ∈ ids, flow id = f := by
  unfold keysOf
  rw [mem_foldl_addKey_iff]
  simp

theorem keysOf_snoc {flow : Int → Nat} (ids : List Int) (id : Int) :
    keysOf flow (ids ++ [id]) = addKey (keysOf flow ids) (flow id) := by
  simp [keysOf, List.foldl_append]

export StampK (mono_cases)

theorem AInv.putsOK {a : A} {now : ℚ} (hi : AInv N scale F flow cfg a now) : StampK.PutsOK N scale a.puts :=
  ⟨hi.grid.1, hi.mono, fun w hw => ⟨(hi.putOK w hw).2.1, (hi.putOK w hw).2.2.1, (hi.putOK w hw).2.2.2.2⟩⟩

theorem AInv.keys_lt {a : A} {now : ℚ} (hi : AInv N scale F flow cfg a now) : ∀ f ∈ a.keys flow, f < F := by
  intro f hf
  obtain ⟨id, hid, rfl⟩ := mem_keysOf_iff.mp hf
  obtain ⟨w, hw, rfl⟩ := List.mem_map.mp hid
  exact (hi.putOK w hw).1

theorem itemPkt_codeOf {w : PutRec} (h0 : 0 ≤ w.1) (hN : w.1 < N) : itemPkt N (codeOf N scale w) = w.1 :=
  itemPkt_stampItem h0 hN

theorem linv_step {a a' : A} {q : QEntry ℚ} {n e : Nat} {new h0 : List (HEv ℚ)} (hl : LInv a h0)
    (h : AStep N scale flow size cfg n e a q a' new) : LInv a' (h0 ++ new) := by
  cases h with
  | srcPut id arr hs =>
    refine ⟨?_, ?_, ?_⟩
    · rw [List.filterMap_append, hl.puts, List.map_append]; rfl
    · rw [List.filterMap_append, hl.stamps, List.map_append]; rfl
    · show a.recv + 1 = ((a.puts ++ [_]).length : Int)
      rw [List.length_append, hl.recv]; rfl
  | _ =>
    exact ⟨by rw [List.filterMap_append, hl.puts]; exact List.append_nil _,
      by rw [List.filterMap_append, hl.stamps]; exact List.append_nil _, hl.recv⟩

end VCK
