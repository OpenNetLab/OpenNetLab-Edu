import OnlVerif.Lemmas.TRKFinal
/-!
# The two-rate token bucket on the kernel model: the abstraction function `absTR` reads the configuration's LTS state off the kernel
state (up to the ghost field)
-/

set_option linter.unusedSimpArgs false

namespace TRK
open TwoRateOnK QEntry
open TimerK (lookup dec_enc)

variable {size : Int → Nat} {cfg : TrCfg ℚ} {arrivals : List ℚ}
variable {s : KS} {a : A}

theorem cellVal_eq (k : Nat) : cellVal s k = lookup s.shared k := rfl

/-- an agenda entry of the shaper is identified by its event -/
theorem entry_of_ev (hk : KInv s a) {q0 : QEntry ℚ} (hq0 : a.run.entries = [q0]) :
    ∀ x ∈ s.agenda, x.ev = q0.ev → x = q0 := by
  intro x hx hxe
  have hg := ((kinv_iff (st0 := .bStart 0)).mp hk).2.1
  exact hg.entry_of_ev rfl (hg.ag.subset hx) (entries_cfgOf ▸ mem_run (hq0 ▸ List.mem_singleton_self _)) hxe

theorem dueOf_eq (hk : KInv s a) {q0 : QEntry ℚ} {t : EvId} (hq0 : a.run.entries = [q0]) (hev : q0.ev = t) :
    dueOf s t = q0.time := by
  unfold dueOf
  have hm : q0 ∈ s.agenda := hk.ag.symm.subset (mem_run (by rw [hq0]; simp))
  have huniq := entry_of_ev hk hq0
  cases hf : s.agenda.find? (·.ev == t) with
  | none =>
    have := List.find?_eq_none.mp hf q0 hm
    simp [hev] at this
  | some x =>
    have h1 := List.mem_of_find?_eq_some hf
    have h2 := List.find?_some hf
    simp only [beq_iff_eq] at h2
    rw [huniq x h1 (by rw [h2, hev])]
    rfl

/-- **the abstraction function reads the configuration's LTS state off the kernel state** (up to the ghost field) -/
theorem absTR_eq (h : Inv3 size cfg arrivals s a) (lg : List (ℚ × Nat × Nat)) :
    setGhost (absTR size s) lg = toF size a s.now lg := by
  have hk := h.i.k
  have h0 : cellNat s cRecv = a.cts.length := by
    unfold cellNat; rw [cellVal_eq, hk.c0]; simp
  have h1 : cellNat s cSent = a.sent.toNat := by
    unfold cellNat; rw [cellVal_eq, hk.c1]
  have h2 : cellTime s cCommit = a.commit := by
    unfold cellTime; rw [cellVal_eq, hk.c2, dec_enc]; rfl
  have h3 : cellTime s cUpd = a.upd := by
    unfold cellTime; rw [cellVal_eq, hk.c3, dec_enc]; rfl
  have h4 : cellOpt s cPeak = a.peak := by
    unfold cellOpt; rw [cellVal_eq, hk.c4]
    cases a.peak with
    | none => rfl
    | some x =>
      have : (TimeCell.dec (TimeCell.enc x : Val) : Option ℚ) = some x := dec_enc x
      simp only [encOpt]
      revert this
      cases (TimeCell.enc x : Val) <;> intro this <;> exact this
  have hit : (s.res storeId).items = a.items := by
    show (s.res 0).items = a.items; rw [hk.res]; rfl
  have hr := hk.run
  unfold absTR setGhost toF
  cases hrun : a.run with
  | init q0 =>
    rw [hrun] at hr
    simp [trProc, hr.2.2.1, h0, h1, h2, h3, h4, hit]
  | W g t0 =>
    rw [hrun] at hr
    simp [trProc, hr.2.1, hr.1.2.2, h0, h1, h2, h3, h4, hit]
  | H g id q0 t0 =>
    rw [hrun] at hr
    simp [trProc, hr.2.2.1, hr.2.1.2.2, h0, h1, h2, h3, h4, hit]
  | T1 t id q0 =>
    rw [hrun] at hr
    have hd := dueOf_eq hk (q0 := q0) (t := t) (by simp [hrun, RPhase.entries]) hr.1
    simp [trProc, hr.2.2.1, hd, h0, h1, h2, h3, h4, hit]

end TRK
