import OnlVerif.Lemmas.TcpLiveTimed
/-!
# The termination measure over paths with delay (C16)

As `mu` (`TcpLiveMeasure.lean`), with the packet that carries the progress made explicit.  Lexicographically:

1. `muA`: what the sink's prefix, `last_ack`, `next_seq` still have to go;
2. `tG`: 0 if an ACK beyond `last_ack` is in flight, 1 if (not, but) a copy of the segment at `last_ack` is in flight,
   else 2;
3. `tV`: how many timer expiries can still precede the `target` instant - the delivery instant of that ACK, of that
   copy, or the wake-up of the timer of `last_ack` (the clock cannot pass any of them);
4. `muW`: weight of the packets in flight plus the pending work of `run`;
5. `tC`: events not yet due (twice) and due.
-/

open TcpScalar TcpSender TcpSink TcpLoop Sender

namespace TcpLive

/-! ## the delivery instant of the first packet with a property -/

def firstT {β : Type} (p : β → Prop) [DecidablePred p] : List β → List ℚ → ℚ
  | x :: xs, t :: ts => if p x then t else firstT p xs ts
  | _, _ => 0

section
variable {β : Type} (p : β → Prop) [DecidablePred p]

theorem firstT_cons_neg {x : β} {xs : List β} {t : ℚ} {ts : List ℚ} (h : ¬ p x) :
    firstT p (x :: xs) (t :: ts) = firstT p xs ts := by
  simp only [firstT, if_neg h]

/-- with a packet that satisfies `p` in flight, `firstT` is one of the given instants and does not look at what is
queued behind -/
theorem firstT_spec : ∀ {xs : List β} {ts : List ℚ}, ts.length = xs.length → (∃ x ∈ xs, p x) →
    firstT p xs ts ∈ ts ∧ ∀ (ys : List β) (us : List ℚ), firstT p (xs ++ ys) (ts ++ us) = firstT p xs ts := by
  intro xs
  induction xs with
  | nil => intro ts _ hex; obtain ⟨x, hx, _⟩ := hex; simp at hx
  | cons x xs ih =>
    intro ts hlen hex
    cases ts with
    | nil => simp at hlen
    | cons t ts =>
      by_cases hp : p x
      · simp [firstT, hp]
      · obtain ⟨h1, h2⟩ := ih (by simpa using hlen) (((List.exists_mem_cons_iff p x xs).mp hex).resolve_left hp)
        rw [firstT_cons_neg p hp]
        refine ⟨List.mem_cons_of_mem _ h1, fun ys us => ?_⟩
        show firstT p (x :: (xs ++ ys)) (t :: (ts ++ us)) = _
        rw [firstT_cons_neg p hp]
        exact h2 ys us

theorem firstT_append {xs : List β} {ts : List ℚ} (ys : List β) (us : List ℚ) (hlen : ts.length = xs.length)
    (hex : ∃ x ∈ xs, p x) : firstT p (xs ++ ys) (ts ++ us) = firstT p xs ts :=
  (firstT_spec p hlen hex).2 ys us

theorem firstT_mem {xs : List β} {ts : List ℚ} (hlen : ts.length = xs.length) (hex : ∃ x ∈ xs, p x) :
    firstT p xs ts ∈ ts :=
  (firstT_spec p hlen hex).1

end

/-- an ACK beyond `last_ack` is in flight -/
def NewAck (L : TLoop ℚ) : Prop := ∃ a ∈ L.l.acks, L.l.snd.last_ack < a.ackno

/-- a copy of the segment at `last_ack` is in flight -/
def DataP (L : TLoop ℚ) : Prop := ∃ tx ∈ L.l.data, tx.seq = L.l.snd.last_ack

open Classical in
noncomputable def tG (L : TLoop ℚ) : Nat := if NewAck L then 0 else if DataP L then 1 else 2

open Classical in
/-- the instant the clock cannot pass before progress is made -/
noncomputable def target (L : TLoop ℚ) : ℚ :=
  if NewAck L then firstT (fun a : AckIn ℚ => L.l.snd.last_ack < a.ackno) L.l.acks L.aT
  else if DataP L then firstT (fun tx : Tx ℚ => tx.seq = L.l.snd.last_ack) L.l.data L.dT
  else wakeOf L.l.snd.timers L.l.snd.last_ack

/-- timers that wake no later than `w` -/
def cntAll (T : List (Nat × TimerRec ℚ)) (w : ℚ) : Nat := T.countP fun kv => decide (kv.2.wake ≤ w)

open Classical in
noncomputable def tV (L : TLoop ℚ) : Nat :=
  need (target L) L.l.snd.now L.l.snd.est.rto +
    if NewAck L ∨ DataP L then cntAll L.l.snd.timers (target L) else cnt L.l.snd.timers L.l.snd.last_ack (target L)

def futL (ds : List ℚ) (now : ℚ) : Nat := ds.countP fun d => decide (now < d)

def dueL (ds : List ℚ) (now : ℚ) : Nat := ds.countP fun d => decide (d ≤ now)

theorem futL_add_dueL (ds : List ℚ) (now : ℚ) : futL ds now + dueL ds now = ds.length := by
  unfold futL dueL
  rw [List.length_eq_countP_add_countP (fun d : ℚ => decide (now < d))]
  simp only [not_lt, decide_eq_true_eq]

def tC (L : TLoop ℚ) : Nat :=
  2 * (fut L.l.snd.timers L.l.snd.now + futL L.dT L.l.snd.now + futL L.aT L.l.snd.now) +
    (due L.l.snd.timers L.l.snd.now + dueL L.dT L.l.snd.now + dueL L.aT L.l.snd.now)

noncomputable def tmu (n : Nat) (L : TLoop ℚ) : Nat × Nat × Nat × Nat × Nat := (muA n L.l, tG L, tV L, muW L.l, tC L)

variable {L L' : TLoop ℚ}

theorem target_new (h : NewAck L) :
    target L = firstT (fun a : AckIn ℚ => L.l.snd.last_ack < a.ackno) L.l.acks L.aT := by
  unfold target; rw [if_pos h]

theorem target_data (h1 : ¬ NewAck L) (h2 : DataP L) :
    target L = firstT (fun tx : Tx ℚ => tx.seq = L.l.snd.last_ack) L.l.data L.dT := by
  unfold target; rw [if_neg h1, if_pos h2]

theorem target_none (h1 : ¬ NewAck L) (h2 : ¬ DataP L) : target L = wakeOf L.l.snd.timers L.l.snd.last_ack := by
  unfold target; rw [if_neg h1, if_neg h2]

theorem tG_zero (h : NewAck L) : tG L = 0 := by unfold tG; rw [if_pos h]

theorem tG_one (h1 : ¬ NewAck L) (h2 : DataP L) : tG L = 1 := by unfold tG; rw [if_neg h1, if_pos h2]

theorem tG_two (h1 : ¬ NewAck L) (h2 : ¬ DataP L) : tG L = 2 := by unfold tG; rw [if_neg h1, if_neg h2]

theorem tG_pos (h1 : ¬ NewAck L) : 0 < tG L := by
  unfold tG
  rw [if_neg h1]
  split_ifs <;> omega

theorem tV_pipe (h : NewAck L ∨ DataP L) :
    tV L = need (target L) L.l.snd.now L.l.snd.est.rto + cntAll L.l.snd.timers (target L) := by
  unfold tV; rw [if_pos h]

theorem tV_none (h1 : ¬ NewAck L) (h2 : ¬ DataP L) :
    tV L = need (target L) L.l.snd.now L.l.snd.est.rto + cnt L.l.snd.timers L.l.snd.last_ack (target L) := by
  unfold tV; rw [if_neg (not_or.mpr ⟨h1, h2⟩)]

theorem tG_congr (hN : NewAck L' ↔ NewAck L) (hD : ¬ NewAck L → (DataP L' ↔ DataP L)) : tG L' = tG L := by
  by_cases h1 : NewAck L
  · rw [tG_zero h1, tG_zero (hN.mpr h1)]
  · by_cases h2 : DataP L
    · rw [tG_one h1 h2, tG_one (mt hN.mp h1) ((hD h1).mpr h2)]
    · rw [tG_two h1 h2, tG_two (mt hN.mp h1) (mt (hD h1).mp h2)]

/-- same stage, and the packet that carries the progress (or else the timer of `last_ack`) keeps its instant: same
target -/
theorem target_stage (hN : NewAck L' ↔ NewAck L) (hD : ¬ NewAck L → (DataP L' ↔ DataP L))
    (hP : L'.l.snd.last_ack = L.l.snd.last_ack)
    (ea : NewAck L → firstT (fun a : AckIn ℚ => L.l.snd.last_ack < a.ackno) L'.l.acks L'.aT =
      firstT (fun a : AckIn ℚ => L.l.snd.last_ack < a.ackno) L.l.acks L.aT)
    (ed : ¬ NewAck L' → DataP L → firstT (fun tx : Tx ℚ => tx.seq = L.l.snd.last_ack) L'.l.data L'.dT =
      firstT (fun tx : Tx ℚ => tx.seq = L.l.snd.last_ack) L.l.data L.dT)
    (ew : ¬ NewAck L → ¬ DataP L → wakeOf L'.l.snd.timers L.l.snd.last_ack = wakeOf L.l.snd.timers L.l.snd.last_ack) :
    target L' = target L := by
  by_cases h1 : NewAck L
  · rw [target_new h1, target_new (hN.mpr h1), hP]
    exact ea h1
  · by_cases h2 : DataP L
    · rw [target_data h1 h2, target_data (mt hN.mp h1) ((hD h1).mpr h2), hP]
      exact ed (mt hN.mp h1) h2
    · rw [target_none h1 h2, target_none (mt hN.mp h1) (mt (hD h1).mp h2), hP]
      exact ew h1 h2

theorem tGV_congr (hN : NewAck L' ↔ NewAck L) (hD : ¬ NewAck L → (DataP L' ↔ DataP L)) (hτ : target L' = target L)
    (hT : L'.l.snd.timers = L.l.snd.timers) (hP : L'.l.snd.last_ack = L.l.snd.last_ack)
    (hn : L'.l.snd.now = L.l.snd.now) (hr : L'.l.snd.est.rto = L.l.snd.est.rto) : tG L' = tG L ∧ tV L' = tV L := by
  refine ⟨tG_congr hN hD, ?_⟩
  by_cases hp : NewAck L ∨ DataP L
  · have hp' : NewAck L' ∨ DataP L' := hp.elim (fun c => Or.inl (hN.mpr c)) fun d =>
      (Classical.em (NewAck L)).elim (fun c => Or.inl (hN.mpr c)) fun c => Or.inr ((hD c).mpr d)
    rw [tV_pipe hp, tV_pipe hp', hτ, hT, hn, hr]
  · obtain ⟨h1, h2⟩ := not_or.mp hp
    rw [tV_none h1 h2, tV_none (mt hN.mp h1) (mt (hD h1).mp h2), hτ, hT, hP, hn, hr]

theorem now_le_target {n : Nat} (h : TInv n L) (hP : L.l.snd.last_ack ∈ AL.keys L.l.snd.timers ∨ NewAck L ∨ DataP L) :
    L.l.snd.now ≤ target L := by
  by_cases h1 : NewAck L
  · rw [target_new h1]
    exact h.age _ (firstT_mem _ h.alen h1)
  · by_cases h2 : DataP L
    · rw [target_data h1 h2]
      exact h.dge _ (firstT_mem _ h.dlen h2)
    · rw [target_none h1 h2]
      rcases hP with hP | hP | hP
      · exact now_le_wakeOf h.inv.s hP
      · exact absurd hP h1
      · exact absurd hP h2

/-! ## a timer expiry makes `tV` smaller -/

theorem fire_V_all {T : List (Nat × TimerRec ℚ)} {q : Nat} {tr nt : TimerRec ℚ} {τ now rto : ℚ}
    (ht : AL.get? q T = some tr) (hw : tr.wake = now) (hτ : now ≤ τ) (hnt : nt.wake = now + rto * 2) (hr : 0 < rto) :
    need τ now (rto * 2) + cntAll (AL.set q nt T) τ < need τ now rto + cntAll T τ :=
  fire_V (fun _ => true) ht rfl hw hτ hnt hr

end TcpLive
