import OnlVerif.Lemmas.VCKRefine
import OnlVerif.Lemmas.VCKOracle
/-!
# The VirtualClock scheduler on the kernel model: the full invariant (sound configuration, LTS run, oracle, workload) along runs,
and what holds when `run()` has returned
-/


namespace VCK
open VCOnK QEntry Stamp

variable {N scale F : Nat} {flow size : Int → Nat} {cfg : VcCfg ℚ} {arrivals : List (ℚ × Int)}
variable {s : KS} {a : A} {q : QEntry ℚ} {rest : List (QEntry ℚ)}

def remaining : SPhase → List (Int × ℚ)
  | .init q arr => arrivalsFrom q.time arr
  | .wait id rest q => (id, q.time) :: arrivalsFrom q.time rest
  | _ => []

def PInv (arrivals : List (ℚ × Int)) (a : A) : Prop :=
  (a.puts.map fun w => (w.1, w.2.1)) ++ remaining a.src = arrivalsFrom 0 arrivals

theorem remaining_srcNext (t : ℚ) (e n : Nat) (arr : List (ℚ × Int)) : remaining (srcNext t e n arr) = arrivalsFrom t arr := by
  cases arr with
  | nil => rfl
  | cons x r => obtain ⟨g, i⟩ := x; rfl

theorem pinv_step {a' : A} {n e : Nat} {new : List (HEv ℚ)} (hp : PInv arrivals a)
    (h : AStep N scale flow size cfg n e a q a' new) : PInv arrivals a' := by
  unfold PInv at hp ⊢
  cases h with
  | srcInit arr h0 =>
    rw [h0] at hp
    show _ ++ remaining (srcNext q.time e n arr) = _
    rw [remaining_srcNext]
    exact hp
  | srcPut id arr h0 =>
    rw [h0] at hp
    show List.map _ (a.puts ++ [putRec flow cfg a q.time id]) ++ remaining (srcNext q.time (e + 1) (n + 1) arr) = _
    rw [remaining_srcNext, List.map_append, List.append_assoc]
    exact hp
  | srcEnd h0 =>
    rw [h0] at hp
    simpa [remaining] using hp
  | _ => exact hp

structure Inv3 (N scale F : Nat) (flow size : Int → Nat) (cfg : VcCfg ℚ) (arrivals : List (ℚ × Int)) (s : KS) (a : A) :
    Prop where
  i : Inv N scale F flow cfg s a
  o : ∃ o, orun flow size cfg oInit (histOf s.trace) = some o ∧ OInv flow size cfg a s.now o
  p : PInv arrivals a
  r : ∃ acts, runActs (VC.sched cfg) (VC.start cfg 0) acts =
    .ok (toM flow size cfg a s.now, putPk flow size (histOf s.trace), outPk flow size (histOf s.trace))

theorem entries_eid (hk : KInv N scale F s a) : ∀ x ∈ a.entries, x.eid < s.eid :=
  fun x hx => hk.wf.eid_lt x (hk.ag.symm.subset hx)

theorem inv3_step (fuel : Nat) (h : Inv3 N scale F flow size cfg arrivals s a) (hp : popMin s.agenda = some (q, rest)) :
    ∃ s' a' new, _root_.step (prog flow size cfg N scale) (fuel + 1) s = .ok s' ∧ Inv3 N scale F flow size cfg arrivals s' a' ∧
      a'.mu + 1 ≤ a.mu ∧ AStep N scale flow size cfg s.events.size s.eid a q a' new ∧ s'.now = q.time ∧
      histOf s'.trace = histOf s.trace ++ new := by
  obtain ⟨s', a', new, h1, h2, h3, h4, h5, h6, acts', h7⟩ := inv_step_lts (size := size) fuel h.i hp
  have hmin := (min_of_pop h.i.k.ag hp).1
  obtain ⟨o, hr, ho⟩ := h.o
  obtain ⟨o', hr', ho'⟩ := oracle_step_hist (h.i.ai.advance hmin) hmin (entries_eid h.i.k) hr
    (oinv_advance h.i.ai hmin ho) h4
  obtain ⟨acts, hrun⟩ := h.r
  exact ⟨s', a', new, h1, ⟨h2, ⟨o', by rw [h6]; exact hr', by rw [h5]; exact ho'⟩, pinv_step h.p h4, acts ++ acts', by
    rw [StampK.runActs_compose hrun h7, h6, putPk_append, outPk_append]⟩, h3, h4, h5, h6⟩

theorem inv3_init (hc : CfgOK F cfg) (hg : GridOK scale cfg arrivals) (hw : WorkOK N scale F flow arrivals) :
    Inv3 N scale F flow size cfg arrivals (initState F cfg arrivals) (a0 arrivals) := by
  obtain ⟨-, h2, h3⟩ := kinv_init (N := N) (scale := scale) hc arrivals
  refine ⟨inv_init hc hg hw, ⟨oInit, ?_, ?_⟩, ?_, [], by rw [h2, h3, toM_a0]; rfl⟩
  · rw [h3]; rfl
  · rw [h2]; exact oinv_init arrivals
  · show _ ++ arrivalsFrom _ arrivals = _
    simp [a0]

theorem reach_inv3 (fuel : Nat) (hc : CfgOK F cfg) (hg : GridOK scale cfg arrivals) (hw : WorkOK N scale F flow arrivals)
    (h : KReach (prog flow size cfg N scale) (fuel + 1) (initState F cfg arrivals) s) :
    ∃ a, Inv3 N scale F flow size cfg arrivals s a :=
  KReach.of_step (inv3_init hc hg hw)
    (fun _ _ _ _ hi hp => let ⟨s', a', _, h1, h2, _⟩ := inv3_step fuel hi hp; ⟨s', a', h1, h2⟩) h

/-- **every state reachable by kernel steps is a sound configuration, and the run so far is an admissible run of the LTS**
from the state of a fresh scheduler to the configuration's LTS state, in which the packets that entered are those handed to
`put` and the packets that left are those handed to `out.put`, in the order of the trace -/
theorem reach_lts (fuel : Nat) (hc : CfgOK F cfg) (hg : GridOK scale cfg arrivals) (hw : WorkOK N scale F flow arrivals)
    {s : KS} (h : KReach (prog flow size cfg N scale) (fuel + 1) (initState F cfg arrivals) s) :
    ∃ a acts, Inv N scale F flow cfg s a ∧
      runActs (VC.sched cfg) (VC.start cfg 0) acts =
        .ok (toM flow size cfg a s.now, putPk flow size (histOf s.trace), outPk flow size (histOf s.trace)) :=
  let ⟨a, hi⟩ := reach_inv3 (size := size) fuel hc hg hw h
  let ⟨acts, hr⟩ := hi.r
  ⟨a, acts, hi.i, hr⟩

theorem run_returns3 (fuel : Nat) (s0 : KS) : ∀ (n : Nat) (s : KS) (a : A), Inv3 N scale F flow size cfg arrivals s a →
    a.mu < n → KReach (prog flow size cfg N scale) (fuel + 1) s0 s →
    ∃ sF aF, runLoop (prog flow size cfg N scale) (fuel + 1) none n s = .returned .none sF ∧
      Inv3 N scale F flow size cfg arrivals sF aF ∧ sF.agenda = [] ∧ KReach (prog flow size cfg N scale) (fuel + 1) s0 sF :=
  runLoop_returns A.mu (fun _ _ _ _ hi hp => let ⟨s', a', _, h1, h2, h3, _⟩ := inv3_step fuel hi hp; ⟨s', a', h1, h2, h3⟩) s0

/-- with an empty agenda everything has been served -/
theorem inv3_final (h : Inv3 N scale F flow size cfg arrivals s a) (he : s.agenda = []) :
    ∃ o, orun flow size cfg oInit (histOf s.trace) = some o ∧ drained o = true ∧
      putsOf s.trace = arrivalsFrom 0 arrivals ∧ held (toM flow size cfg a s.now) = [] := by
  have hag := h.i.k.ag
  rw [he] at hag
  have hent : a.entries = [] := List.Perm.eq_nil (hag.symm)
  obtain ⟨o, hr, ho⟩ := h.o
  refine ⟨o, hr, oinv_final h.i.ai ho hent, ?_, ?_⟩
  · have hp := h.p
    unfold PInv at hp
    have hsrc : a.src = .done := by
      simp only [A.entries, List.append_eq_nil_iff] at hent
      cases hs : a.src with
      | done => rfl
      | _ => rw [hs] at hent; cases hent.2.1
    rw [hsrc] at hp
    simp only [remaining, List.append_nil] at hp
    rw [putsOf_linv h.i.l, hp]
  · simp only [A.entries, List.append_eq_nil_iff] at hent
    cases hr' : a.run with
    | W g => simp [held, inHand, waiting, toM, hr', h.i.ai.items_nil hr' hent.2.2]
    | _ => rw [hr'] at hent; cases hent.1

end VCK
