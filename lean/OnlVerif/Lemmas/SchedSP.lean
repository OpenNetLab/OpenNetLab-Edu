import OnlVerif.Lemmas.MultiQueueRun
/-!
# SP: the priority table is sorted, a scan passes only empty stores, the loop always rescans from the top
-/

namespace SP
open MQ

theorem mem_insertDesc (a x : Nat × Int) (l : List (Nat × Int)) : x ∈ insertDesc a l ↔ x = a ∨ x ∈ l := by
  induction l with
  | nil => simp [insertDesc]
  | cons b r ih =>
    simp only [insertDesc]
    split
    · simp only [List.mem_cons, ih]; exact or_left_comm
    · simp only [List.mem_cons]

theorem mem_sortDesc (x : Nat × Int) (l : List (Nat × Int)) : x ∈ sortDesc l ↔ x ∈ l := by
  induction l with
  | nil => simp [sortDesc]
  | cons a r ih => simp only [sortDesc, mem_insertDesc, ih, List.mem_cons]

theorem pairwise_insertDesc (a : Nat × Int) (l : List (Nat × Int)) (h : l.Pairwise (fun x y => y.2 ≤ x.2)) :
    (insertDesc a l).Pairwise (fun x y => y.2 ≤ x.2) := by
  induction l with
  | nil => simp [insertDesc]
  | cons b r ih =>
    simp only [insertDesc]
    rw [List.pairwise_cons] at h
    split
    · rename_i hlt
      rw [List.pairwise_cons]
      refine ⟨fun x hx => ?_, ih h.2⟩
      rcases (mem_insertDesc a x r).mp hx with rfl | hx
      · exact le_of_lt hlt
      · exact h.1 x hx
    · rename_i hge
      rw [List.pairwise_cons, List.pairwise_cons]
      refine ⟨fun x hx => ?_, h⟩
      rcases List.mem_cons.mp hx with rfl | hx
      · exact not_lt.mp hge
      · exact le_trans (h.1 x hx) (not_lt.mp hge)

theorem pairwise_sortDesc (l : List (Nat × Int)) : (sortDesc l).Pairwise (fun x y => y.2 ≤ x.2) := by
  induction l with
  | nil => simp [sortDesc]
  | cons a r ih => exact pairwise_insertDesc a _ ih

theorem higher_before (l : List (Nat × Int)) (i : Nat) (a b : Nat × Int) (hi : (sortDesc l)[i]? = some a)
    (hb : b ∈ l) (hlt : a.2 < b.2) : ∃ j, j < i ∧ (sortDesc l)[j]? = some b := by
  have hb' : b ∈ sortDesc l := (mem_sortDesc b l).mpr hb
  obtain ⟨j, hj, hjb⟩ := List.getElem_of_mem hb'
  have hil : i < (sortDesc l).length := by
    by_contra hc
    rw [List.getElem?_eq_none (not_lt.mp hc)] at hi; cases hi
  have hia : (sortDesc l)[i] = a := by
    rw [List.getElem?_eq_getElem hil] at hi; exact Option.some.inj hi
  refine ⟨j, ?_, by rw [List.getElem?_eq_getElem hj, hjb]⟩
  by_contra hc
  have hij : i ≤ j := not_lt.mp hc
  rcases Nat.lt_or_eq_of_le hij with hlt' | heq
  · have := (List.pairwise_iff_getElem.mp (pairwise_sortDesc l)) i j hil hj hlt'
    rw [hia, hjb] at this
    omega
  · subst heq
    rw [hia] at hjb; subst hjb; omega

def Scanned (cfg : Cfg ℚ) (i : Nat) (stores : List (Nat × List MPkt)) : Prop :=
  ∀ j, j < i → ∀ f pr, (table cfg)[j]? = some (f, pr) → 0 < pr → storeOf stores f = []

/-- **The decision bursts of SP** (started at the top of the table by a loop resting there, or at the end of a pass after a
transmission): the loop ends resting at the top of the table, or with the oldest packet of an entry in hand, all entries
before it scanned. -/
theorem decision (cfg : Cfg ℚ) (s : MQState ℚ Pc) (k : Pc) (s' : MQState ℚ Pc)
    (hk : (k = s.ctl ∧ s.ctl = .scan 0) ∨ ∃ p, (sched cfg).onDone s.ctl p = .ok k)
    (hr : resumeLoop (sched cfg) { s with ctl := k } = .ok s') :
    RestsAt (.scan 0) s' ∧
    (∀ c p, s'.phase = .pktHanded c p → ∃ i π rest, s'.ctl = .got i ∧ (table cfg)[i]? = some (c, π) ∧ 0 < π ∧
        Scanned cfg i s.stores ∧ storeOf s.stores c = p :: rest ∧ s'.stores = setKey s.stores c rest) := by
  have hP : (∃ i, k = .scan i ∧ Scanned cfg i s.stores) ∨ k = .endPass := by
    rcases hk with ⟨rfl, hk⟩ | ⟨p, hk⟩
    · exact .inl ⟨0, hk, fun j hj => absurd hj (Nat.not_lt_zero j)⟩
    · simp only [sched, onDone] at hk
      split at hk <;> cases hk
      exact .inr rfl
  have h := resumeLoop_scan (sched cfg) { s with ctl := k } s'
    (fun k => (∃ i, k = .scan i ∧ Scanned cfg i s.stores) ∨ k = .endPass)
    (fun c k' => ∃ i π, k' = .got i ∧ (table cfg)[i]? = some (c, π) ∧ 0 < π ∧ Scanned cfg i s.stores)
    (.scan 0) ?_ hr hP
  · refine ⟨h.1, fun c p hph => ?_⟩
    obtain ⟨rest, ⟨i, π, h1, h2, h3, h4⟩, h5, h6⟩ := h.2 c p hph
    exact ⟨i, π, rest, h1, h2, h3, h4, h5, h6⟩
  · rintro k v hv (⟨i, rfl, hsc⟩ | rfl)
    · show ScanMove _ _ _ (micro cfg (.scan i) v)
      rcases micro_scan_cases cfg i v with ⟨_, e⟩ | ⟨f, pr, hf, hemp, e⟩ | ⟨f, pr, hf, hpos, e⟩ <;> rw [e]
      · exact .inr rfl
      · refine .inl ⟨i + 1, rfl, fun j hj f' pr' hf' hpos' => ?_⟩
        rcases Nat.lt_or_eq_of_le (Nat.le_of_lt_succ hj) with hlt | rfl
        · exact hsc j hlt f' pr' hf' hpos'
        · rw [hf] at hf'; cases hf'
          exact List.length_eq_zero_iff.mp ((hv.2 f).symm.trans (hemp hpos'))
      · exact ⟨i, pr, rfl, hf, hpos, hsc⟩
    · show ScanMove _ _ _ (micro cfg .endPass v)
      simp only [micro]
      split
      · rfl
      · exact .inl ⟨0, rfl, fun j hj => absurd hj (Nat.not_lt_zero j)⟩

end SP
