import OnlVerif.Lemmas.NetworkCount
/-!
# The invariant of a network of accounts, and its preservation by every legal global step
-/

namespace Net
variable {ι π κ : Type} [DecidableEq ι] [DecidableEq π] [DecidableEq κ]

def Bal (g : GState ι π) : Prop :=
  ∀ a q, g.rc (.inn a) q + g.rc (.made a) q = g.rc (.out a) q + g.rc (.dropped a) q + g.rc (.held a) q

structure GInv (n : Wiring ι π κ) (g : GState ι π) : Prop where
  exact : Exact g.rc (· ∈ g.introduced)
  bal : Bal g
  keys : (usedKeys n g).Nodup
  link : ∀ cp ∈ g.copies, cp.2 ∈ g.introduced ∧ n.isCopy cp.2 cp.1 = true
  made : ∀ a q, q ∈ g.recs (.made a) → n.splitter a = true ∧ ∃ o, (q, o) ∈ g.copies
  known : ∀ s q, q ∈ g.recs s → q ∈ g.introduced

def landing (d : Dest ι) (o : Outcome) : Slot ι :=
  match d, o with
  | .node b, .acc => .held b
  | .node b, .ref _ => .dropped b
  | .sink k, _ => .sink k

theorem landing_place (d : Dest ι) (o : Outcome) : (landing d o).isPlace = true := by
  cases d <;> cases o <;> rfl

theorem ind_not_place {s s' : Slot ι} (P : Prop) [Decidable P] (hs : s.isPlace = true) (hs' : s'.isPlace = false) :
    ind (s = s' ∧ P) = 0 := by
  apply ind_false
  rintro ⟨rfl, _⟩
  rw [hs] at hs'; cases hs'

theorem rc_arrive_place (g : GState ι π) (d : Dest ι) (p q : π) (o : Outcome) (s : Slot ι) (hs : s.isPlace = true) :
    (g.arrive d p o).rc s q = g.rc s q + ind (s = landing d o ∧ q = p) := by
  cases d <;> cases o <;> simp only [GState.arrive, rc_app, landing] <;>
    first | rfl | (rw [ind_not_place _ hs rfl]; rfl)

theorem bal_arrive (g : GState ι π) (d : Dest ι) (p : π) (o : Outcome) (h : Bal g) : Bal (g.arrive d p o) := by
  intro a q
  have := h a q
  cases d <;> cases o <;>
    simp only [GState.arrive, rc_app, reduceCtorEq, false_and, Slot.inn.injEq, Slot.held.injEq, Slot.dropped.injEq,
      ind_false not_false] <;>
    omega

theorem arrive_injected (g : GState ι π) (d : Dest ι) (p : π) (o : Outcome) : (g.arrive d p o).injected = g.injected := by
  cases d <;> cases o <;> simp [GState.arrive]
theorem arrive_copies (g : GState ι π) (d : Dest ι) (p : π) (o : Outcome) : (g.arrive d p o).copies = g.copies := by
  cases d <;> cases o <;> simp [GState.arrive]
theorem arrive_introduced (g : GState ι π) (d : Dest ι) (p : π) (o : Outcome) :
    (g.arrive d p o).introduced = g.introduced := by
  simp [GState.introduced, arrive_injected, arrive_copies]

theorem recs_arrive_made (g : GState ι π) (d : Dest ι) (p : π) (o : Outcome) (a : ι) :
    (g.arrive d p o).recs (.made a) = g.recs (.made a) := by
  cases d <;> cases o <;> simp [GState.arrive, recs_app]

theorem mem_of_rc_pos {g : GState ι π} {s : Slot ι} {q : π} : q ∈ g.recs s ↔ 1 ≤ g.rc s q := by
  unfold GState.rc
  rw [← List.count_pos_iff]; exact Iff.rfl

theorem mem_recs_app {g : GState ι π} {s s' : Slot ι} {p q : π} {r : Nat} (h : q ∈ (g.app s p r).recs s') :
    q ∈ g.recs s' ∨ q = p := by
  rw [recs_app] at h
  split at h
  · simpa using h
  · exact Or.inl h

theorem mem_recs_del {g : GState ι π} {a : ι} {s' : Slot ι} {p q : π} (h : q ∈ (g.del a p).recs s') : q ∈ g.recs s' := by
  rw [recs_del] at h
  split at h
  · exact List.mem_of_mem_erase h
  · exact h

theorem mem_recs_arrive {g : GState ι π} {d : Dest ι} {o : Outcome} {s' : Slot ι} {p q : π}
    (h : q ∈ (g.arrive d p o).recs s') : q ∈ g.recs s' ∨ q = p := by
  cases d <;> cases o <;> simp only [GState.arrive] at h
  · rcases mem_recs_app h with h | h
    · exact mem_recs_app h
    · exact Or.inr h
  · rcases mem_recs_app h with h | h
    · exact mem_recs_app h
    · exact Or.inr h
  · exact mem_recs_app h
  · exact mem_recs_app h

theorem recs_with_injected (g : GState ι π) (l : List π) (s : Slot ι) :
    ({ g with injected := l } : GState ι π).recs s = g.recs s := by cases s <;> rfl
theorem recs_with_copies (g : GState ι π) (l : List (π × π)) (s : Slot ι) :
    ({ g with copies := l } : GState ι π).recs s = g.recs s := by cases s <;> rfl

theorem ginv_init (n : Wiring ι π κ) : GInv n ({} : GState ι π) := by
  have hr : ∀ s : Slot ι, ({} : GState ι π).recs s = [] := by intro s; cases s <;> rfl
  refine ⟨fun q => ⟨fun h => by simp [GState.introduced] at h, fun _ s _ => by simp [GState.rc, hr]⟩, ?_, ?_, ?_, ?_, ?_⟩
  · intro a q; simp [GState.rc, hr]
  · simp [usedKeys, GState.introduced]
  · intro cp h; cases h
  · intro a q h; rw [hr] at h; cases h
  · intro s q h; rw [hr] at h; cases h

theorem rc_with_injected (g : GState ι π) (l : List π) (s : Slot ι) (q : π) :
    ({ g with injected := l } : GState ι π).rc s q = g.rc s q := by cases s <;> rfl
theorem rc_with_copies (g : GState ι π) (l : List (π × π)) (s : Slot ι) (q : π) :
    ({ g with copies := l } : GState ι π).rc s q = g.rc s q := by cases s <;> rfl

/-- letting go of a held packet keeps the account equation when it is entered in `out` (the sender's half of a
hand-over) or in `dropped` -/
theorem bal_del_app (g : GState ι π) (a : ι) (p : π) (r : Nat) (hp : p ∈ (g.acct a).held) (h : Bal g) (t : Slot ι)
    (ht : t = .out a ∨ t = .dropped a) : Bal ((g.del a p).app t p r) := by
  intro a' q
  have := h a' q
  have d1 := rc_del g a p q (.inn a') hp
  have d2 := rc_del g a p q (.made a') hp
  have d3 := rc_del g a p q (.out a') hp
  have d4 := rc_del g a p q (.dropped a') hp
  have d5 := rc_del g a p q (.held a') hp
  rcases ht with rfl | rfl <;>
    simp only [rc_app, reduceCtorEq, false_and, Slot.out.injEq, Slot.dropped.injEq, Slot.held.injEq,
      ind_false not_false] at d1 d2 d3 d4 d5 ⊢ <;>
    omega

theorem bal_made_held (g : GState ι π) (a : ι) (c : π) (h : Bal g) :
    Bal ((g.app (.made a) c).app (.held a) c) := by
  intro a' q
  have := h a' q
  simp only [rc_app, reduceCtorEq, false_and, Slot.made.injEq, Slot.held.injEq, ind_false not_false] at this ⊢
  omega

theorem usedKeys_inject (n : Wiring ι π κ) (g : GState ι π) (p : π) :
    (usedKeys n ({ g with injected := g.injected ++ [p] } : GState ι π)).Perm (n.key p :: usedKeys n g) := by
  simp only [usedKeys, GState.introduced, List.map_append, List.map_cons, List.map_nil]
  refine List.Perm.trans ?_ (List.perm_middle)
  simp

theorem usedKeys_copy (n : Wiring ι π κ) (g : GState ι π) (p c : π) :
    (usedKeys n ({ g with copies := g.copies ++ [(c, p)] } : GState ι π)).Perm (n.key c :: usedKeys n g) := by
  simp only [usedKeys, GState.introduced, List.map_append, List.map_cons, List.map_nil]
  have : (List.map n.key g.injected ++ (List.map n.key (List.map (fun x => x.1) g.copies) ++ [n.key c])) =
      (List.map n.key g.injected ++ List.map n.key (List.map (fun x => x.1) g.copies)) ++ [n.key c] := by simp
  rw [this]
  exact List.perm_append_singleton _ _

/-- a step that introduces nothing (it moves or drops a held packet): the invariant follows from the two counting facts
and from "every listed packet was introduced" -/
theorem GInv.of_same_introduced {n : Wiring ι π κ} {g g' : GState ι π} (h : GInv n g)
    (hi : g'.introduced = g.introduced) (hc : g'.copies = g.copies)
    (hm : ∀ a, g'.recs (.made a) = g.recs (.made a)) (hk : ∀ s q, q ∈ g'.recs s → q ∈ g.introduced)
    (he : Exact g'.rc (· ∈ g.introduced)) (hb : Bal g') : GInv n g' := by
  refine ⟨by rw [hi]; exact he, hb, by unfold usedKeys; rw [hi]; exact h.keys, ?_, ?_, by rw [hi]; exact hk⟩
  · intro cp hcp
    rw [hi]; exact h.link cp (hc ▸ hcp)
  · intro a q hq
    rw [hc]; exact h.made a q (hm a ▸ hq)

section Legal
variable {n : Wiring ι π κ} {g g' : GState ι π} {e : GEv ι π} {a : ι} {p c : π} {o : Outcome} {r : Nat}

theorem step_ok_iff : step n g e = .ok g' ↔ illegal n g e = none ∧ g' = apply n g e := by
  unfold step
  cases illegal n g e with
  | none => simp [eq_comm]
  | some m => simp

theorem illegal_inject : illegal n g (.inject a p o) = none ↔ n.key p ∉ usedKeys n g := by
  simp [illegal]

theorem illegal_fwd :
    illegal n g (.fwd a p o) = none ↔ p ∈ (g.acct a).held ∧ ∀ k, n.next a p = .sink k → o = .acc := by
  simp only [illegal]
  by_cases hp : p ∈ (g.acct a).held
  · cases n.next a p <;> cases o <;> simp [hp]
  · simp [hp]

theorem illegal_drop : illegal n g (.drop a p r) = none ↔ p ∈ (g.acct a).held := by
  simp [illegal]

theorem illegal_copy :
    illegal n g (.copy a p c) = none ↔
      n.splitter a = true ∧ p ∈ (g.acct a).held ∧ n.isCopy p c = true ∧ n.key c ∉ usedKeys n g := by
  simp only [illegal]
  cases n.splitter a <;> cases n.isCopy p c <;> by_cases h2 : p ∈ (g.acct a).held <;> simp [h2]

end Legal

theorem step_inv (n : Wiring ι π κ) (g g' : GState ι π) (e : GEv ι π) (h : GInv n g) (hs : step n g e = .ok g') :
    GInv n g' := by
  obtain ⟨hl, rfl⟩ := step_ok_iff.mp hs
  cases e with
  | inject a p o =>
    have hfresh := illegal_inject.mp hl
    have hnew : p ∉ g.introduced := fun hm => hfresh (List.mem_map_of_mem (f := n.key) hm)
    have hintro : ∀ q, q ∈ (apply n g (.inject a p o)).introduced ↔ q ∈ g.introduced ∨ q = p := by
      intro q
      have e : (apply n g (.inject a p o)).introduced = (g.injected ++ [p]) ++ g.copies.map (·.1) := by
        simp only [apply, arrive_introduced]; rfl
      rw [e]
      simp only [GState.introduced, List.mem_append, List.mem_singleton]
      exact or_right_comm
    refine ⟨?_, ?_, ?_, ?_, ?_, ?_⟩
    · refine Exact.add h.exact (landing (.node a) o) (landing_place _ _) p hnew ?_ hintro
      intro s q hsp
      simp only [apply]
      rw [rc_arrive_place _ _ _ _ _ _ hsp, rc_with_injected]
    · exact bal_arrive _ _ _ _ h.bal
    · have hk : usedKeys n (apply n g (.inject a p o)) =
          usedKeys n ({ g with injected := g.injected ++ [p] } : GState ι π) := by
        simp only [usedKeys, apply, arrive_introduced]
      rw [hk, (usedKeys_inject n g p).nodup_iff, List.nodup_cons]
      exact ⟨hfresh, h.keys⟩
    · intro cp hcp
      simp only [apply, arrive_copies] at hcp
      have := h.link cp hcp
      exact ⟨(hintro _).mpr (Or.inl this.1), this.2⟩
    · intro a' q hq
      simp only [apply, recs_arrive_made] at hq
      have := h.made a' q hq
      simpa only [apply, arrive_copies] using this
    · intro s q hq
      simp only [apply] at hq
      rcases mem_recs_arrive hq with hq | rfl
      · rw [recs_with_injected] at hq
        exact (hintro q).mpr (Or.inl (h.known s q hq))
      · exact (hintro q).mpr (Or.inr rfl)
  | fwd a p o =>
    have hheld := (illegal_fwd.mp hl).1
    have hpin : p ∈ g.introduced := h.known (.held a) p hheld
    refine h.of_same_introduced ?_ ?_ ?_ ?_ ?_ (bal_arrive _ _ _ _ (bal_del_app g a p 0 hheld h.bal (.out a) (Or.inl rfl)))
    · simp only [apply, arrive_introduced, app_introduced, del_introduced]
    · simp only [apply, arrive_copies, app_copies, del_copies]
    · intro a'
      simp only [apply, recs_arrive_made, recs_app, recs_del, reduceCtorEq, if_false]
    · intro s q hq
      simp only [apply] at hq
      rcases mem_recs_arrive hq with hq | rfl
      · rcases mem_recs_app hq with hq | rfl
        · exact h.known s q (mem_recs_del hq)
        · exact hpin
      · exact hpin
    · refine Exact.move h.exact (.held a) (landing (n.next a p) o) (landing_place _ _) rfl p
        (mem_of_rc_pos.mp hheld) ?_
      intro s q hsp
      simp only [apply]
      rw [rc_arrive_place _ _ _ _ _ _ hsp, rc_app, ind_not_place _ hsp rfl]
      have := rc_del g a p q s hheld
      omega
  | drop a p r =>
    have hheld := illegal_drop.mp hl
    refine h.of_same_introduced ?_ ?_ ?_ ?_ ?_ (bal_del_app g a p r hheld h.bal (.dropped a) (Or.inr rfl))
    · simp only [apply, app_introduced, del_introduced]
    · simp only [apply, app_copies, del_copies]
    · intro a'
      simp only [apply, recs_app, recs_del, reduceCtorEq, if_false]
    · intro s q hq
      simp only [apply] at hq
      rcases mem_recs_app hq with hq | rfl
      · exact h.known s q (mem_recs_del hq)
      · exact h.known (.held a) q hheld
    · refine Exact.move h.exact (.held a) (.dropped a) rfl rfl p (mem_of_rc_pos.mp hheld) ?_
      intro s q hsp
      simp only [apply]
      rw [rc_app]
      have := rc_del g a p q s hheld
      omega
  | copy a p c =>
    obtain ⟨hsplit, hheld, hcopy, hfresh⟩ := illegal_copy.mp hl
    have hnew : c ∉ g.introduced := fun hm => hfresh (List.mem_map_of_mem (f := n.key) hm)
    have hpin : p ∈ g.introduced := h.known (.held a) p hheld
    have hintro : ∀ q, q ∈ (apply n g (.copy a p c)).introduced ↔ q ∈ g.introduced ∨ q = c := by
      intro q
      have e : (apply n g (.copy a p c)).introduced = g.injected ++ (g.copies ++ [(c, p)]).map (·.1) := by
        simp only [apply, app_introduced]; rfl
      rw [e]
      simp only [GState.introduced, List.map_append, List.map_cons, List.map_nil, List.mem_append,
        List.mem_singleton]
      exact or_assoc.symm
    refine ⟨?_, ?_, ?_, ?_, ?_, ?_⟩
    · refine Exact.add h.exact (.held a) rfl c hnew ?_ hintro
      intro s q hsp
      simp only [apply]
      rw [rc_app, rc_app, ind_not_place _ hsp rfl, rc_with_copies]; rfl
    · exact bal_made_held _ a c h.bal
    · have hk : usedKeys n (apply n g (.copy a p c)) =
          usedKeys n ({ g with copies := g.copies ++ [(c, p)] } : GState ι π) := by
        simp only [usedKeys, apply, app_introduced]
      rw [hk, (usedKeys_copy n g p c).nodup_iff, List.nodup_cons]
      exact ⟨hfresh, h.keys⟩
    · intro cp hcp
      simp only [apply, app_copies, List.mem_append, List.mem_singleton] at hcp
      rcases hcp with hcp | rfl
      · have := h.link cp hcp
        exact ⟨(hintro _).mpr (Or.inl this.1), this.2⟩
      · exact ⟨(hintro _).mpr (Or.inl hpin), hcopy⟩
    · intro a' q hq
      simp only [apply, recs_app, reduceCtorEq, if_false, Slot.made.injEq] at hq
      simp only [apply, app_copies]
      by_cases ha : a' = a
      · subst ha
        rw [if_pos rfl, List.mem_append, List.mem_singleton] at hq
        rcases hq with hq | rfl
        · obtain ⟨h1, o, h2⟩ := h.made a' q hq
          exact ⟨h1, o, List.mem_append_left _ h2⟩
        · exact ⟨hsplit, p, by simp⟩
      · rw [if_neg ha] at hq
        obtain ⟨h1, o, h2⟩ := h.made a' q hq
        exact ⟨h1, o, List.mem_append_left _ h2⟩
    · intro s q hq
      simp only [apply] at hq
      rcases mem_recs_app hq with hq | rfl
      · rcases mem_recs_app hq with hq | rfl
        · rw [recs_with_copies] at hq
          exact (hintro q).mpr (Or.inl (h.known s q hq))
        · exact (hintro q).mpr (Or.inr rfl)
      · exact (hintro q).mpr (Or.inr rfl)
  | tau a => exact h

theorem run_ind {n : Wiring ι π κ} {P : GState ι π → Prop} {es : List (GEv ι π)}
    (hstep : ∀ e ∈ es, ∀ g g', P g → step n g e = .ok g' → P g') {g g' : GState ι π} (h : P g)
    (hr : run n g es = .ok g') : P g' := by
  induction es generalizing g with
  | nil => simp only [run, Except.ok.injEq] at hr; exact hr ▸ h
  | cons e es ih =>
    simp only [run] at hr
    split at hr
    · cases hr
    · rename_i g1 h1
      exact ih (fun e' he' => hstep e' (List.mem_cons_of_mem _ he')) (hstep e List.mem_cons_self g g1 h h1) hr

theorem run_inv (n : Wiring ι π κ) (es : List (GEv ι π)) (g g' : GState ι π) (h : GInv n g) (hr : run n g es = .ok g') :
    GInv n g' :=
  run_ind (fun e _ g g' h hs => step_inv n g g' e h hs) h hr

end Net
