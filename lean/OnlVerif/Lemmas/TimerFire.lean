import Mathlib.Tactic.Ring
import Mathlib.Tactic.NormNum
import OnlVerif.Lemmas.TimerInv
/-!
# Timer LTS: when the callback fires

`Armed s E`: the timer is not stopped and `self.proc` is on its way to wake at exactly `E`.
`Dead s`: every process has finished and nothing is pending.
`Quiet a`: the action is neither a `stop`/`restart` call nor a wake whose callback touches the timer.
-/

namespace Timer

section fields
variable (pid : Nat) (s : State ℚ)

@[simp] theorem loopTest_fields : (loopTest pid s).now = s.now ∧ (loopTest pid s).timeout = s.timeout ∧
    (loopTest pid s).expire = s.expire ∧ (loopTest pid s).stopped = s.stopped ∧ (loopTest pid s).auto = s.auto ∧
    (loopTest pid s).args = s.args ∧ (loopTest pid s).proc = s.proc ∧ (loopTest pid s).uq = s.uq := by
  unfold loopTest; split <;> exact ⟨rfl, rfl, rfl, rfl, rfl, rfl, rfl, rfl⟩

theorem loopTest_procs_lt (h : s.now < s.expire) :
    (loopTest pid s).procs = s.procs.set pid (PStat.sleeping s.expire) := by
  unfold loopTest
  rw [if_pos h]
  show s.procs.set pid (PStat.sleeping (s.now + (s.expire - s.now))) = _
  rw [add_sub_cancel]

theorem loopTest_procs_ge (h : ¬ s.now < s.expire) :
    (loopTest pid s).procs = s.procs.set pid PStat.finished := by
  unfold loopTest
  rw [if_neg h]
  rfl

@[simp] theorem autoRebase_fields : (autoRebase s).now = s.now ∧ (autoRebase s).timeout = s.timeout ∧
    (autoRebase s).stopped = s.stopped ∧ (autoRebase s).auto = s.auto ∧ (autoRebase s).args = s.args ∧
    (autoRebase s).proc = s.proc ∧ (autoRebase s).uq = s.uq ∧ (autoRebase s).procs = s.procs := by
  unfold autoRebase; split <;> exact ⟨rfl, rfl, rfl, rfl, rfl, rfl, rfl, rfl⟩

theorem autoRebase_expire : (autoRebase s).expire = if s.auto then s.now + s.timeout else s.expire := by
  unfold autoRebase; split <;> rfl

end fields

theorem loopTest_sleeping {pid : Nat} {s : State ℚ} {q : Nat} {w : ℚ}
    (h : (loopTest pid s).procs[q]? = some (PStat.sleeping w)) :
    (q = pid ∧ w = s.expire ∧ s.now < s.expire) ∨ (q ≠ pid ∧ s.procs[q]? = some (PStat.sleeping w)) := by
  by_cases hlt : s.now < s.expire
  · rw [loopTest_procs_lt pid s hlt] at h
    rcases get_set_cases h with ⟨hq, he⟩ | ⟨hq, hold⟩
    · cases he; exact Or.inl ⟨hq, rfl, hlt⟩
    · exact Or.inr ⟨hq, hold⟩
  · rw [loopTest_procs_ge pid s hlt] at h
    rcases get_set_cases h with ⟨_, he⟩ | ⟨hq, hold⟩
    · cases he
    · exact Or.inr ⟨hq, hold⟩

def Quiet : Action ℚ → Prop
  | .init _ => True
  | .intr _ => True
  | .tick _ => True
  | .wake _ cb => cb = []
  | .stop => False
  | .restart _ => False

structure Armed (s : State ℚ) (E : ℚ) : Prop where
  inv : Inv s
  not_stopped : s.stopped = false
  expire_eq : s.expire = E
  timeout_pos : 0 < s.timeout
  pending : (s.procs[s.proc]? = some PStat.notStarted ∧ s.now < E) ∨
    (s.procs[s.proc]? = some (PStat.sleeping E) ∧ s.now ≤ E)

theorem Armed.now_le {s : State ℚ} {E : ℚ} (h : Armed s E) : s.now ≤ E := by
  rcases h.pending with ⟨_, h⟩ | ⟨_, h⟩
  · exact le_of_lt h
  · exact h

structure Dead (s : State ℚ) : Prop where
  inv : Inv s
  uq_nil : s.uq = []
  all_fin : ∀ (pid : Nat) (st : PStat ℚ), s.procs[pid]? = some st → st = PStat.finished

/-- one quiet action from an armed state: either nothing fires and the timer stays armed for the same instant, or
the callback fires exactly at `E` with the stored arguments; a one-shot timer is then dead, an auto-restart timer
is armed for `E + timeout`. -/
theorem armed_step {s s' : State ℚ} {o : List (Out ℚ)} {a : Action ℚ} {E : ℚ} (h : Armed s E) (hq : Quiet a)
    (hs : step s a = .ok s' o) :
    s'.auto = s.auto ∧ s'.args = s.args ∧ s'.timeout = s.timeout ∧
    ((o = [] ∧ Armed s' E) ∨
     (o = [.fire E s.args] ∧ s'.now = E ∧
       ((s.auto = false ∧ Dead s') ∨ (s.auto = true ∧ Armed s' (E + s.timeout))))) := by
  have hinv' : Inv s' := step_inv h.inv hs
  cases a with
  | stop | restart tau => exact absurd hq id
  | init pid =>
    obtain ⟨rest, huq, h0, rfl, rfl⟩ := doInit_ok hs
    refine ⟨by simp [popUq], by simp [popUq], by simp [popUq], Or.inl ⟨rfl, ?_⟩⟩
    refine ⟨hinv', by simpa [popUq] using h.not_stopped, by simpa [popUq] using h.expire_eq,
      by simpa [popUq] using h.timeout_pos, ?_⟩
    have hE : (popUq s rest).expire = E := h.expire_eq
    by_cases hp : pid = s.proc
    · subst hp
      rcases h.pending with ⟨_, hlt⟩ | ⟨hsl, _⟩
      · right
        have hlt' : (popUq s rest).now < (popUq s rest).expire := by rw [hE]; exact hlt
        refine ⟨?_, by simpa [popUq] using le_of_lt hlt⟩
        rw [loopTest_procs_lt _ _ hlt', hE]
        simp only [loopTest_fields]
        exact get_set_self (b := PStat.notStarted) h0
      · rw [h0] at hsl; cases hsl
    · have hsame : (loopTest pid (popUq s rest)).procs[s.proc]? = s.procs[s.proc]? := by
        by_cases hlt' : (popUq s rest).now < (popUq s rest).expire
        · rw [loopTest_procs_lt _ _ hlt']; exact List.getElem?_set_ne hp
        · rw [loopTest_procs_ge _ _ hlt']; exact List.getElem?_set_ne hp
      simp only [loopTest_fields]
      show ((loopTest pid (popUq s rest)).procs[s.proc]? = _ ∧ s.now < E) ∨
        ((loopTest pid (popUq s rest)).procs[s.proc]? = _ ∧ s.now ≤ E)
      rw [hsame]
      exact h.pending
  | intr pid =>
    obtain ⟨rest, huq, rfl, hc⟩ := doIntr_ok hs
    have hp : pid ≠ s.proc := by
      intro hc'
      subst hc'
      exact h.inv.no_intr_proc (by rw [huq]; exact List.mem_cons_self)
    rcases hc with ⟨_, rfl⟩ | ⟨w, _, rfl⟩
    · exact ⟨rfl, rfl, rfl, Or.inl ⟨rfl, hinv', h.not_stopped, h.expire_eq, h.timeout_pos, h.pending⟩⟩
    · refine ⟨rfl, rfl, rfl, Or.inl ⟨rfl, hinv', h.not_stopped, h.expire_eq, h.timeout_pos, ?_⟩⟩
      show ((s.procs.set pid PStat.finished)[s.proc]? = _ ∧ s.now < E) ∨
        ((s.procs.set pid PStat.finished)[s.proc]? = _ ∧ s.now ≤ E)
      rw [List.getElem?_set_ne hp]
      exact h.pending
  | tick t =>
    obtain ⟨huq, _, hd, rfl, rfl⟩ := doTick_ok hs
    refine ⟨rfl, rfl, rfl, Or.inl ⟨rfl, hinv', h.not_stopped, h.expire_eq, h.timeout_pos, ?_⟩⟩
    rcases h.pending with ⟨hns, _⟩ | ⟨hsl, _⟩
    · obtain ⟨a, b, hab, _⟩ := h.inv.init_first _ hns
      rw [huq] at hab
      simp at hab
    · exact Or.inr ⟨hsl, hd _ _ hsl⟩
  | wake pid cb =>
    have hcb : cb = [] := hq
    subst hcb
    obtain ⟨hp, huq, hsl, hothers, hw⟩ := wake_ok h.inv hs
    subst hp
    have hnow : s.now = E := by
      rcases h.pending with ⟨hns, _⟩ | ⟨hsl', _⟩
      · rw [hns] at hsl; cases hsl
      · rw [hsl'] at hsl; cases hsl; rfl
    rcases hw with ⟨hst, _⟩ | ⟨_, s1, hrun, rfl, rfl⟩
    · rw [h.not_stopped] at hst; cases hst
    · simp only [runCb, Except.ok.injEq] at hrun
      subst hrun
      refine ⟨by simp, by simp, by simp, Or.inr ⟨by rw [hnow], by simpa using hnow, ?_⟩⟩
      cases hauto : s.auto with
      | false =>
        left
        refine ⟨rfl, hinv', by simpa using huq, ?_⟩
        have hge : ¬ (autoRebase s).now < (autoRebase s).expire := by
          rw [autoRebase_expire, hauto]
          simp only [autoRebase_fields, Bool.false_eq_true, if_false, h.expire_eq, hnow]
          exact lt_irrefl _
        rw [loopTest_procs_ge _ _ hge]
        intro q st hg
        simp only [autoRebase_fields] at hg
        rcases get_set_cases hg with ⟨_, he⟩ | ⟨hqp, hold⟩
        · exact he
        · exact hothers q st hqp hold
      | true =>
        right
        have hexp : (autoRebase s).expire = E + s.timeout := by
          rw [autoRebase_expire, hauto, hnow]; rfl
        have hlt : (autoRebase s).now < (autoRebase s).expire := by
          rw [hexp, (autoRebase_fields s).1, hnow]
          exact lt_add_of_pos_right _ h.timeout_pos
        refine ⟨rfl, hinv', by simpa using h.not_stopped, by simpa using hexp, by simpa using h.timeout_pos, ?_⟩
        right
        refine ⟨?_, ?_⟩
        · rw [loopTest_procs_lt _ _ hlt, hexp]
          simp only [loopTest_fields, autoRebase_fields]
          exact get_set_self hsl
        · simp only [loopTest_fields, autoRebase_fields, hnow]
          exact (lt_add_of_pos_right _ h.timeout_pos).le

theorem dead_step {s s' : State ℚ} {o : List (Out ℚ)} {a : Action ℚ} (h : Dead s) (hq : Quiet a)
    (hs : step s a = .ok s' o) : o = [] ∧ Dead s' ∧ s.now ≤ s'.now := by
  cases a with
  | stop | restart tau => exact absurd hq id
  | init pid =>
    obtain ⟨rest, huq, _⟩ := doInit_ok hs
    rw [h.uq_nil] at huq; cases huq
  | intr pid =>
    obtain ⟨rest, huq, _⟩ := doIntr_ok hs
    rw [h.uq_nil] at huq; cases huq
  | wake pid cb =>
    obtain ⟨_, hsl, _⟩ := doWake_eq hs nofun
    have := h.all_fin _ _ hsl
    cases this
  | tick t =>
    obtain ⟨_, hlt, hd, rfl, rfl⟩ := doTick_ok hs
    exact ⟨rfl, ⟨inv_tick h.inv hd, h.uq_nil, h.all_fin⟩, le_of_lt hlt⟩

theorem dead_run : ∀ {acts : List (Action ℚ)} {s s' : State ℚ} {o : List (Out ℚ)}, Dead s → (∀ a ∈ acts, Quiet a) →
    run s acts = .ok s' o → o = [] ∧ Dead s' ∧ s.now ≤ s'.now
  | [], s, s', o, h, _, hr => by cases hr; exact ⟨rfl, h, le_refl _⟩
  | a :: as, s, s', o, h, hq, hr => by
    obtain ⟨s1, o1, o2, hs, hr', rfl⟩ := run_cons_ok hr
    obtain ⟨rfl, hd, hle⟩ := dead_step h (hq a List.mem_cons_self) hs
    obtain ⟨rfl, hd', hle'⟩ := dead_run hd (fun x hx => hq x (List.mem_cons_of_mem _ hx)) hr'
    exact ⟨rfl, hd', le_trans hle hle'⟩

/-- the firings of an auto-restart timer armed for `E`: `E, E + T, …, E + (k-1)·T` -/
def firesFrom (E T : ℚ) (args : List Int) (k : Nat) : List (Out ℚ) :=
  (List.range k).map fun i : Nat => Out.fire (E + (i : ℚ) * T) args

theorem firesFrom_succ (E T : ℚ) (args : List Int) (k : Nat) :
    firesFrom E T args (k + 1) = Out.fire E args :: firesFrom (E + T) T args k := by
  unfold firesFrom
  rw [List.range_succ_eq_map, List.map_cons, List.map_map]
  congr 1
  · simp
  · apply List.map_congr_left
    intro i _
    simp only [Function.comp, Nat.succ_eq_add_one, Nat.cast_add, Nat.cast_one]
    congr 1
    ring

/-- along a quiet run from a state armed for `E` the callback is invoked exactly at `E, E + T, E + 2T, …` (`T` the timeout)
with the stored arguments.  **auto-restart**: the timer is then armed for the next of them.  **one-shot**: it is invoked at
most once and the timer is dead afterwards; as long as it has not been invoked the timer stays armed for `E`. -/
theorem armed_run_fires : ∀ {acts : List (Action ℚ)} {s s' : State ℚ} {o : List (Out ℚ)} {E : ℚ}, Armed s E →
    (∀ a ∈ acts, Quiet a) → run s acts = .ok s' o →
    ∃ k : Nat, o = firesFrom E s.timeout s.args k ∧ (s.auto = true → Armed s' (E + (k : ℚ) * s.timeout)) ∧
      (s.auto = false → (k = 0 ∧ Armed s' E) ∨ (k = 1 ∧ Dead s' ∧ E ≤ s'.now))
  | [], s, s', o, E, h, _, hr => by
    cases hr
    exact ⟨0, rfl, fun _ => by simpa using h, fun _ => Or.inl ⟨rfl, h⟩⟩
  | a :: as, s, s', o, E, h, hq, hr => by
    obtain ⟨s1, o1, o2, hs, hr', rfl⟩ := run_cons_ok hr
    have hq' : ∀ x ∈ as, Quiet x := fun x hx => hq x (List.mem_cons_of_mem _ hx)
    obtain ⟨ha, hargs, htmo, hc⟩ := armed_step h (hq a List.mem_cons_self) hs
    rcases hc with ⟨rfl, harm⟩ | ⟨rfl, hnow, ⟨hf, hd⟩ | ⟨ht, harm⟩⟩
    · have := armed_run_fires harm hq' hr'
      rwa [ha, hargs, htmo] at this
    · obtain ⟨rfl, hd', hle⟩ := dead_run hd hq' hr'
      refine ⟨1, by simp [firesFrom], fun hc => ?_, fun _ => Or.inr ⟨rfl, hd', hnow ▸ hle⟩⟩
      rw [hf] at hc; cases hc
    · obtain ⟨k, hk, hA, _⟩ := armed_run_fires harm hq' hr'
      rw [hargs, htmo] at hk
      rw [ha, htmo] at hA
      refine ⟨k + 1, by rw [firesFrom_succ, hk]; rfl, fun hc => ?_, fun hc => ?_⟩
      swap
      · rw [ht] at hc; cases hc
      have : E + ((k + 1 : Nat) : ℚ) * s.timeout = E + s.timeout + (k : ℚ) * s.timeout := by
        push_cast; ring
      rw [this]; exact hA hc

theorem runCb_append {pid : Nat} : ∀ (a b : List (CbOp ℚ)) (s : State ℚ),
    runCb pid (a ++ b) s = match runCb pid a s with
      | .ok s' => runCb pid b s'
      | .error e => .error e
  | [], b, s => by simp [runCb]
  | op :: a, b, s => by
    rw [List.cons_append, runCb, runCb]
    cases cbOp pid s op with
    | ok s1 => simp only; exact runCb_append a b s1
    | error e => rfl

/-- a callback that calls `stop()` leaves the timer stopped, whatever else it calls -/
theorem runCb_stop_mem {pid : Nat} {cb : List (CbOp ℚ)} {s s' : State ℚ} (h : Inv s) (hr : runCb pid cb s = .ok s')
    (hm : CbOp.stop ∈ cb) : s'.stopped = true := by
  obtain ⟨a, b, rfl⟩ := List.append_of_mem hm
  rw [runCb_append] at hr
  cases ha : runCb pid a s with
  | error e => rw [ha] at hr; cases hr
  | ok s1 =>
    rw [ha] at hr
    exact (runCb_inv (inv_stopBody (runCb_inv h ha).1) (s := stopBody s1) hr).2.stopped_mono rfl

theorem step_bound {s s' : State ℚ} {o : List (Out ℚ)} {a : Action ℚ} {b : ℚ} (h : Inv s) (hb : b ≤ s.now)
    (hsl : ∀ (pid : Nat) (w : ℚ), s.procs[pid]? = some (PStat.sleeping w) → b < w) (hs : step s a = .ok s' o) :
    (o = [] ∧ b ≤ s'.now ∧ ∀ (pid : Nat) (w : ℚ), s'.procs[pid]? = some (PStat.sleeping w) → b < w) ∨
    (∃ args, o = [.fire s.now args] ∧ b < s.now ∧ s'.now = s.now ∧
      ∀ (pid : Nat) (w : ℚ), s'.procs[pid]? = some (PStat.sleeping w) → s.now < w) := by
  cases a with
  | init pid =>
    obtain ⟨rest, _, _, rfl, rfl⟩ := doInit_ok hs
    refine Or.inl ⟨rfl, by simpa [popUq] using hb, ?_⟩
    intro q w hg
    rcases loopTest_sleeping hg with ⟨_, rfl, hlt⟩ | ⟨_, hold⟩
    · exact lt_of_le_of_lt hb hlt
    · exact hsl q w hold
  | intr pid =>
    obtain ⟨rest, _, rfl, hc⟩ := doIntr_ok hs
    rcases hc with ⟨_, rfl⟩ | ⟨w', _, rfl⟩
    · exact Or.inl ⟨rfl, hb, hsl⟩
    · refine Or.inl ⟨rfl, hb, ?_⟩
      intro q w hg
      rcases get_set_cases hg with ⟨_, he⟩ | ⟨_, hold⟩
      · cases he
      · exact hsl q w hold
  | stop =>
    obtain ⟨rfl, rfl⟩ := step_stop_ok hs
    exact Or.inl ⟨rfl, hb, hsl⟩
  | restart tau =>
    obtain ⟨hr, rfl⟩ := step_restart_ok hs
    have hf := restartCall_frame h hr
    refine Or.inl ⟨rfl, by rw [hf.now_eq]; exact hb, ?_⟩
    intro q w hg
    rcases hf.new_unstarted q _ hg with hold | hc
    · exact hsl q w hold
    · cases hc
  | tick t =>
    obtain ⟨_, hlt, _, rfl, rfl⟩ := doTick_ok hs
    exact Or.inl ⟨rfl, le_trans hb (le_of_lt hlt), hsl⟩
  | wake pid cb =>
    obtain ⟨hp, huq, hsl', hothers, hw⟩ := wake_ok h hs
    rcases hw with ⟨_, _, rfl, rfl⟩ | ⟨_, s1, hrun, rfl, rfl⟩
    · refine Or.inl ⟨rfl, by simpa using hb, ?_⟩
      intro q w hg
      rcases loopTest_sleeping hg with ⟨_, rfl, hlt⟩ | ⟨_, hold⟩
      · exact lt_of_le_of_lt hb hlt
      · exact hsl q w hold
    · obtain ⟨_, hf⟩ := runCb_inv h hrun
      refine Or.inr ⟨s.args, rfl, hsl pid _ hsl', by simp [hf.now_eq], ?_⟩
      intro q w hg
      rcases loopTest_sleeping hg with ⟨_, rfl, hlt⟩ | ⟨hq, hold⟩
      · simpa [hf.now_eq] using hlt
      · simp only [autoRebase_fields] at hold
        rcases hf.new_unstarted q _ hold with hold' | hc
        · have := hothers q _ hq hold'
          cases this
        · cases hc

/-- along every run all firings happen strictly after `b` and at strictly increasing instants -/
theorem run_bound : ∀ {acts : List (Action ℚ)} {s s' : State ℚ} {o : List (Out ℚ)} {b : ℚ}, Inv s → b ≤ s.now →
    (∀ (pid : Nat) (w : ℚ), s.procs[pid]? = some (PStat.sleeping w) → b < w) → run s acts = .ok s' o →
    (∀ x ∈ o, b < x.time) ∧ (o.map Out.time).Pairwise (· < ·)
  | [], s, s', o, b, _, _, _, hr => by
    cases hr
    exact ⟨fun x hx => (by cases hx), List.Pairwise.nil⟩
  | a :: as, s, s', o, b, h, hb, hsl, hr => by
    obtain ⟨s1, o1, o2, hs, hr', rfl⟩ := run_cons_ok hr
    have hi := step_inv h hs
    rcases step_bound h hb hsl hs with ⟨rfl, hb1, hsl1⟩ | ⟨args, rfl, hbn, hn1, hsl1⟩
    · exact run_bound hi hb1 hsl1 hr'
    · obtain ⟨hall, hpw⟩ := run_bound hi (le_of_eq hn1.symm) hsl1 hr'
      refine ⟨?_, ?_⟩
      · intro x hx
        rcases List.mem_cons.mp hx with rfl | hx
        · exact hbn
        · exact lt_trans hbn (hall x hx)
      · show ((Out.fire s.now args :: o2).map Out.time).Pairwise (· < ·)
        rw [List.map_cons, List.pairwise_cons]
        refine ⟨?_, hpw⟩
        intro t ht
        obtain ⟨x, hx, rfl⟩ := List.mem_map.mp ht
        exact hall x hx

/-- `restart(tau)` from another process on a timer that is pending (not stopped, process alive) -/
theorem armed_after_restart {s : State ℚ} {tau : ℚ} (h : Inv s) (hns : s.stopped = false)
    (hal : ∃ st, s.procs[s.proc]? = some st ∧ st ≠ PStat.finished) (htau : 0 < tau) :
    ∃ s1, step s (.restart tau) = .ok s1 [] ∧ Armed s1 (s.now + tau) ∧ s1.auto = s.auto ∧ s1.args = s.args ∧
      s1.timeout = tau ∧ s1.now = s.now := by
  rcases restartCall_spec h none tau with ⟨_, hc⟩ | ⟨_, _, he⟩
  · exfalso
    rcases hc with hc | hc
    · cases hc
    · obtain ⟨st, hg, hne⟩ := hal
      rw [hc] at hg
      exact hne (Option.some.inj hg).symm
  · refine ⟨_, by simp only [step, he, ofExcept], ⟨restartCall_inv h he, hns, rfl, htau, ?_⟩, rfl, rfl, rfl, rfl⟩
    left
    refine ⟨?_, ?_⟩
    · show (s.procs ++ [PStat.notStarted])[s.procs.length]? = some PStat.notStarted
      exact List.getElem?_concat_length
    · exact lt_add_of_pos_right s.now htau

theorem cbOp_self_restart {s : State ℚ} {pid : Nat} (hp : s.proc = pid) (tau : ℚ) :
    cbOp pid s (.restart tau) = .ok (rebase tau s) := by
  simp only [cbOp, restartCall]
  rw [if_pos (by rw [← hp]; rfl)]

/-- calls of `restart` made by the callback of `self.proc` only re-base, and the last one decides -/
theorem runCb_self_restart {pid : Nat} {tau : ℚ} : ∀ (ops : List (CbOp ℚ)) (s : State ℚ), s.proc = pid →
    (∀ op ∈ ops, op ≠ CbOp.stop) → runCb pid (ops ++ [.restart tau]) s = .ok (rebase tau s)
  | [], s, hp, _ => by rw [List.nil_append, runCb, cbOp_self_restart hp]; rfl
  | .stop :: _, _, _, hno => absurd rfl (hno _ List.mem_cons_self)
  | .restart t :: ops, s, hp, hno => by
    rw [List.cons_append, runCb, cbOp_self_restart hp]
    exact runCb_self_restart ops (rebase t s) hp (fun op hop => hno op (List.mem_cons_of_mem _ hop))

/-- `restart(tau)` as the last timer call of the callback (no `stop()` before it) -/
theorem armed_after_cb_restart {s s1 : State ℚ} {o : List (Out ℚ)} {pid : Nat} {ops : List (CbOp ℚ)} {tau : ℚ}
    (h : Inv s) (hno : ∀ op ∈ ops, op ≠ CbOp.stop) (htau : 0 < tau)
    (hs : step s (.wake pid (ops ++ [.restart tau])) = .ok s1 o) :
    o = [.fire s.now s.args] ∧ Armed s1 (s.now + tau) ∧ s1.auto = s.auto ∧ s1.args = s.args ∧
      s1.timeout = tau ∧ s1.now = s.now := by
  have hinv1 := step_inv h hs
  obtain ⟨hp, _, hsl, _, hw⟩ := wake_ok h hs
  rcases hw with ⟨_, hnil, _⟩ | ⟨hns, s2, hrun, rfl, rfl⟩
  · simp at hnil
  · rw [runCb_self_restart ops s hp.symm hno] at hrun
    cases hrun
    have hexp : (autoRebase (rebase tau s)).expire = s.now + tau := by
      rw [autoRebase_expire]
      split <;> rfl
    have hlt : (autoRebase (rebase tau s)).now < (autoRebase (rebase tau s)).expire := by
      rw [hexp]; simp only [autoRebase_fields, rebase]; exact lt_add_of_pos_right _ htau
    refine ⟨rfl, ⟨hinv1, ?_, ?_, ?_, ?_⟩, ?_, ?_, ?_, ?_⟩
    · simp [rebase, hns]
    · simpa using hexp
    · simpa [rebase] using htau
    · right
      refine ⟨?_, by simp [rebase]; exact htau.le⟩
      rw [loopTest_procs_lt _ _ hlt, hexp]
      simp only [loopTest_fields, autoRebase_fields, rebase, ← hp]
      exact get_set_self hsl
    all_goals simp [rebase]

/-! ### frame: the arguments never change, the clock never goes back, a firing is stamped with the current instant -/

theorem step_frame {s s' : State ℚ} {o : List (Out ℚ)} {a : Action ℚ} (h : Inv s) (hs : step s a = .ok s' o) :
    s'.args = s.args ∧ s'.auto = s.auto ∧ s.now ≤ s'.now ∧ (∀ x ∈ o, x = Out.fire s.now s.args) ∧
      (s.stopped = true → o = [] ∧ s'.stopped = true) := by
  cases a with
  | init pid =>
    obtain ⟨rest, _, _, rfl, rfl⟩ := doInit_ok hs
    exact ⟨by simp [popUq], by simp [popUq], by simp [popUq], fun _ hx => (List.not_mem_nil hx).elim,
      fun hst => ⟨rfl, by simpa [popUq] using hst⟩⟩
  | intr pid =>
    obtain ⟨rest, _, rfl, hc⟩ := doIntr_ok hs
    rcases hc with ⟨_, rfl⟩ | ⟨w, _, rfl⟩ <;>
      exact ⟨rfl, rfl, le_refl _, fun _ hx => (List.not_mem_nil hx).elim, fun hst => ⟨rfl, hst⟩⟩
  | stop =>
    obtain ⟨rfl, rfl⟩ := step_stop_ok hs
    exact ⟨rfl, rfl, le_refl _, fun _ hx => (List.not_mem_nil hx).elim, fun _ => ⟨rfl, rfl⟩⟩
  | restart tau =>
    obtain ⟨hr, rfl⟩ := step_restart_ok hs
    have hf := restartCall_frame h hr
    exact ⟨hf.args_eq, hf.auto_eq, hf.now_eq.ge, fun _ hx => (List.not_mem_nil hx).elim, fun hst => ⟨rfl, hf.stopped_mono hst⟩⟩
  | tick t =>
    obtain ⟨_, hlt, _, rfl, rfl⟩ := doTick_ok hs
    exact ⟨rfl, rfl, hlt.le, fun _ hx => (List.not_mem_nil hx).elim, fun hst => ⟨rfl, hst⟩⟩
  | wake pid cb =>
    rcases (wake_ok h hs).2.2.2.2 with ⟨_, _, rfl, rfl⟩ | ⟨hns, s1, hrun, rfl, rfl⟩
    · exact ⟨by simp, by simp, by simp, fun _ hx => (List.not_mem_nil hx).elim, fun hst => ⟨rfl, by simpa using hst⟩⟩
    · obtain ⟨_, hf⟩ := runCb_inv h hrun
      refine ⟨by simp [hf.args_eq], by simp [hf.auto_eq], by simp [hf.now_eq], ?_, ?_⟩
      · intro x hx
        simpa using hx
      · intro hst
        rw [hst] at hns; cases hns

/-- along every run: the stored arguments and the mode never change, the clock never goes back, every firing carries
the stored arguments and an instant between the start and the end of the run; a stopped timer stays stopped and never
fires -/
theorem run_frame : ∀ {acts : List (Action ℚ)} {s s' : State ℚ} {o : List (Out ℚ)}, Inv s → run s acts = .ok s' o →
    s'.args = s.args ∧ s'.auto = s.auto ∧ s.now ≤ s'.now ∧
      (∀ x ∈ o, ∃ t, x = Out.fire t s.args ∧ s.now ≤ t ∧ t ≤ s'.now) ∧
      (s.stopped = true → o = [] ∧ s'.stopped = true)
  | [], s, s', o, _, hr => by cases hr; exact ⟨rfl, rfl, le_refl _, fun _ hx => (List.not_mem_nil hx).elim, fun hst => ⟨rfl, hst⟩⟩
  | a :: as, s, s', o, h, hr => by
    obtain ⟨s1, o1, o2, hs, hr', rfl⟩ := run_cons_ok hr
    obtain ⟨ha, hau, hn, hf, hst⟩ := step_frame h hs
    obtain ⟨ha', hau', hn', hf', hst'⟩ := run_frame (step_inv h hs) hr'
    refine ⟨ha'.trans ha, hau'.trans hau, le_trans hn hn', ?_, ?_⟩
    · intro x hx
      rcases List.mem_append.mp hx with hx | hx
      · exact ⟨s.now, hf x hx, le_refl _, le_trans hn hn'⟩
      · obtain ⟨t, rfl, h1, h2⟩ := hf' x hx
        exact ⟨t, by rw [ha], le_trans hn h1, h2⟩
    · intro h0
      obtain ⟨rfl, h1⟩ := hst h0
      exact hst' h1

/-- the states of a timer: created with a positive timeout, then any enabled actions (any callbacks, any `restart`
arguments, any interleaving the kernel admits) -/
inductive Reachable : State ℚ → Prop
  | create {t0 T : ℚ} {auto : Bool} {a : ArgSpec} {s : State ℚ} : create t0 T auto a = .ok s → Reachable s
  | step {s s' : State ℚ} {act : Action ℚ} {o : List (Out ℚ)} : Reachable s → step s act = .ok s' o → Reachable s'

theorem Reachable.inv {s : State ℚ} (h : Reachable s) : Inv s := by
  induction h with
  | create hc => exact create_inv hc
  | step _ hs ih => exact step_inv ih hs

theorem Reachable.run : ∀ {acts : List (Action ℚ)} {s s' : State ℚ} {o : List (Out ℚ)}, Reachable s →
    run s acts = .ok s' o → Reachable s'
  | [], s, s', o, h, hr => by cases hr; exact h
  | a :: as, s, s', o, h, hr => by
    obtain ⟨s1, o1, o2, hs, hr', _⟩ := run_cons_ok hr
    exact Reachable.run (Reachable.step h hs) hr'

theorem create_armed {t0 T : ℚ} {auto : Bool} {a : ArgSpec} {s : State ℚ} (h : create t0 T auto a = .ok s) :
    Armed s (t0 + T) ∧ s.args = normArgs a ∧ s.auto = auto ∧ s.timeout = T ∧ s.now = t0 := by
  have hinv := create_inv h
  have hT : 0 < T := (create_ok_iff t0 T auto a).mp ⟨s, h⟩
  unfold create at h
  split at h
  · cases h
  · cases h
    refine ⟨⟨hinv, rfl, rfl, hT, Or.inl ⟨rfl, ?_⟩⟩, rfl, rfl, rfl, rfl⟩
    exact lt_add_of_pos_right t0 hT

theorem armed_run {acts : List (Action ℚ)} {s s' : State ℚ} {o : List (Out ℚ)} {E : ℚ} (h : Armed s E)
    (hq : ∀ a ∈ acts, Quiet a) (hr : run s acts = .ok s' o) :
    (s.auto = false → (o = [] ∧ s'.now ≤ E) ∨ (o = [.fire E s.args] ∧ E ≤ s'.now)) ∧
    (s.auto = true → ∃ k : Nat, o = firesFrom E s.timeout s.args k ∧ s'.now ≤ E + (k : ℚ) * s.timeout) := by
  obtain ⟨k, hk, hA, hO⟩ := armed_run_fires h hq hr
  refine ⟨fun ha => ?_, fun ha => ⟨k, hk, (hA ha).now_le⟩⟩
  rcases hO ha with ⟨rfl, h2⟩ | ⟨rfl, _, h3⟩
  · exact Or.inl ⟨hk, h2.now_le⟩
  · exact Or.inr ⟨by rw [hk]; simp [firesFrom], h3⟩

/-! ### evaluating concrete runs (for the non-vacuity examples) -/

def outsOf : Res ℚ → Option (List (Out ℚ))
  | .ok _ o => some o
  | _ => none

def stateOf : Res ℚ → Option (State ℚ)
  | .ok s _ => some s
  | _ => none

end Timer
