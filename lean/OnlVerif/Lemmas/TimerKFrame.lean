import OnlVerif.Lemmas.TimerKBasic
import OnlVerif.Lemmas.EventMono
/-!
# The Timer on the kernel model: what a kernel step leaves alone

The events a configuration talks about are pairwise different (`KInv.nd`); a step that only touches the events in `X`
(and allocates new ones) keeps everything the invariant says about the others (`EvKeep`).  Generic part: a triggered event
stays triggered and no event changes its kind, whatever the program does (`TrigMono`); `EvKeep` carries it, for the
process event of a finished `self.proc`, which may or may not be among the events of the configuration.
-/

namespace TimerK
open TimerOnK

section mono
variable {σ : Type}

structure TrigMono (s s' : KState ℚ σ) : Prop where
  size_le : s.events.size ≤ s'.events.size
  kind : ∀ e, e < s.events.size → (s'.ev e).kind = (s.ev e).kind
  trig : ∀ e, e < s.events.size → (s.ev e).out.isSome = true → (s'.ev e).out.isSome = true

namespace TrigMono

theorem refl (s : KState ℚ σ) : TrigMono s s := ⟨Nat.le_refl _, fun _ _ => rfl, fun _ _ h => h⟩

theorem trans {s1 s2 s3 : KState ℚ σ} (h12 : TrigMono s1 s2) (h23 : TrigMono s2 s3) : TrigMono s1 s3 :=
  ⟨Nat.le_trans h12.size_le h23.size_le,
   fun e he => (h23.kind e (Nat.lt_of_lt_of_le he h12.size_le)).trans (h12.kind e he),
   fun e he hp => h23.trig e (Nat.lt_of_lt_of_le he h12.size_le) (h12.trig e he hp)⟩

theorem of_frame {s s' : KState ℚ σ} (h : s'.events = s.events) : TrigMono s s' := by
  have hev : ∀ e, s'.ev e = s.ev e := fun e => by simp [KState.ev, h]
  exact ⟨by rw [h], fun e _ => by rw [hev], fun e _ hp => by rw [hev]; exact hp⟩

theorem of_setEv (s : KState ℚ σ) (e : EvId) (r : EvRec ℚ) (hk : r.kind = (s.ev e).kind)
    (hc : (s.ev e).out.isSome = true → r.out.isSome = true) : TrigMono s (s.setEv e r) := by
  refine ⟨by simp [KState.setEv], ?_, ?_⟩
  · intro e' _
    rw [KState.ev_setEv]
    split
    · rename_i h; rw [h.1]; exact hk
    · rfl
  · intro e' _ hp
    rw [KState.ev_setEv]
    split
    · rename_i h; rw [h.1] at hp; exact hc hp
    · exact hp

theorem of_push (s : KState ℚ σ) (s' : KState ℚ σ) (r : EvRec ℚ) (h : s'.events = s.events.push r) : TrigMono s s' := by
  have hev : ∀ e, e < s.events.size → s'.ev e = s.ev e := by
    intro e he
    simp only [KState.ev, h, getD_push]
    rw [if_neg (Nat.ne_of_lt he)]
  exact ⟨by rw [h]; simp, fun e he => by rw [hev e he], fun e he hp => by rw [hev e he]; exact hp⟩

theorem krel : KRel (TrigMono (σ := σ)) where
  refl := refl
  trans := trans
  emit _ _ := of_frame rfl
  active _ _ := of_frame rfl
  shared _ _ := of_frame rfl
  setProc _ _ _ := of_frame rfl
  schedule _ _ _ _ _ _ := of_frame rfl
  newEv s r _ := of_push s _ r rfl
  newLabelled s r _ := of_push s _ _ rfl
  newReq s r _ _ _ := of_push s _ _ rfl
  setOut s e o := of_setEv s e _ rfl (fun _ => rfl)
  defuse s e := of_setEv s e _ rfl (fun h => h)
  bumpCount s e := of_setEv s e _ rfl (fun h => h)
  setUsage s e := of_setEv s e _ rfl (fun h => h)
  eraseCb s e cb := of_setEv s e _ rfl (fun h => h)
  addCb s e cb _ := by
    unfold KState.addCb
    exact of_setEv s e _ rfl (fun h => h)
  eraseUser _ _ _ := of_frame rfl
  addUser _ _ _ _ _ := of_frame rfl
  addLevel _ _ _ _ _ := of_frame rfl
  subLevel _ _ _ _ _ := of_frame rfl
  addItem _ _ _ _ _ := of_frame rfl
  tailItems _ _ := of_frame rfl
  eraseItem _ _ _ := of_frame rfl
  dropPutQ _ _ _ := of_frame rfl
  dropGetQ _ _ _ := of_frame rfl
  enqPut _ _ _ _ := of_frame rfl
  enqGet _ _ _ _ := of_frame rfl

end TrigMono

theorem openEvent_trigMono (s : KState ℚ σ) (q : QEntry ℚ) (rest : List (QEntry ℚ)) :
    TrigMono s (openEvent s q rest) := by
  have : openEvent s q rest = { (s.setEv q.ev { s.ev q.ev with cbs := none }) with now := q.time, agenda := rest } := rfl
  rw [this]
  exact TrigMono.trans (TrigMono.of_setEv s q.ev { s.ev q.ev with cbs := none } rfl (fun h => h)) (TrigMono.of_frame rfl)

/-- **one kernel step of any program**: events keep their kind, triggered events stay triggered -/
theorem step_trigMono (body : σ → Resume → Burst ℚ σ) (fuel : Nat) (s s' : KState ℚ σ)
    (hs : (step body fuel s).state? = some s') : TrigMono s s' := by
  unfold step at hs
  split at hs
  · cases hs
  · rename_i q rest hq
    split at hs
    · cases hs; exact openEvent_trigMono s q rest
    · rename_i cbs _
      rw [closeEvent_state] at hs
      cases hs
      exact (openEvent_trigMono s q rest).trans (TrigMono.krel.foldCbs body fuel q.ev cbs { s := openEvent s q rest })

end mono

/-- `S` comes from `s` by operations of the kernel (`mono`) that leave the allocated events outside `X` alone -/
structure EvKeep (s S : KS) (X : List EvId) : Prop where
  mono : TrigMono s S
  keep : ∀ e, e < s.events.size → e ∉ X → S.ev e = s.ev e

/-- nothing allocated has changed -/
theorem EvKeep.of_nil {s S : KS} (hk : ∀ e, e < s.events.size → S.ev e = s.ev e) (hsz : s.events.size ≤ S.events.size) :
    EvKeep s S [] :=
  ⟨⟨hsz, fun e he => by rw [hk e he], fun e he hp => by rw [hk e he]; exact hp⟩, fun e he _ => hk e he⟩

theorem EvIs.lt {s : KS} {e : EvId} {k : Kind} {c : List Cb} {o : Option Outcome} (h : EvIs s e k c o) :
    e < s.events.size := KState.lt_of_cbs h.2.1

theorem EvIs.keep {s S : KS} {X : List EvId} {e : EvId} {k : Kind} {c : List Cb} {o : Option Outcome}
    (h : EvIs s e k c o) (hk : EvKeep s S X) (he : e ∉ X) : EvIs S e k c o := by
  unfold EvIs
  rw [hk.keep e h.lt he]
  exact h

theorem NoopEv.keep {s S : KS} {X : List EvId} {e : EvId} (h : NoopEv s e) (hk : EvKeep s S X) (he : e ∉ X) :
    NoopEv S e := by
  unfold NoopEv
  rw [hk.keep e (KState.lt_of_cbs h.1) he]
  exact h

theorem TmEv.keep {s S : KS} {X : List EvId} {cur : EvId} {ph : TPhase} (h : TmEv s cur ph) (hk : EvKeep s S X)
    (hX : ∀ e ∈ ph.ids cur, e ∉ X) (hp : cur ∈ ph.ids cur → S.proc? cur = s.proc? cur) : TmEv S cur ph := by
  cases ph with
  | init q =>
    obtain ⟨h1, h2, h3, h4⟩ := h
    exact ⟨h1, h2.keep hk (hX _ (h1 ▸ List.mem_cons_of_mem _ List.mem_cons_self)), hp List.mem_cons_self ▸ h3,
      h4.keep hk (hX _ List.mem_cons_self)⟩
  | sleep t q =>
    obtain ⟨h1, h2, h3, h4⟩ := h
    exact ⟨h1, h2.keep hk (hX _ (List.mem_cons_of_mem _ List.mem_cons_self)), hp List.mem_cons_self ▸ h3, h4.keep hk (hX _ List.mem_cons_self)⟩
  | dead =>
    obtain ⟨h1, o, h2⟩ := h
    have hm := hk.mono
    have hlt : cur < s.events.size := KState.lt_of_kind (by rw [h1]; simp)
    refine ⟨by rw [hm.kind cur hlt]; exact h1, ?_⟩
    have := hm.trig cur hlt (by rw [h2]; rfl)
    exact Option.isSome_iff_exists.mp this

theorem OldEv.keep {s S : KS} {X : List EvId} {o : Old} (h : OldEv s o) (hk : EvKeep s S X)
    (hX : ∀ e ∈ oldIds (some o), e ∉ X) (hp : S.proc? o.p = s.proc? o.p) : OldEv S o := by
  obtain ⟨h1, h2, h3, h4, h5, h6, h7⟩ := h
  have hiv : o.iv ∉ X := hX _ List.mem_cons_self
  refine ⟨h1, h2.keep hk hiv, ?_, h4, h5.keep hk (hX _ (List.mem_cons_of_mem _ (List.mem_cons_of_mem _ List.mem_cons_self))),
    hp ▸ h6, h7.keep hk (hX _ (List.mem_cons_of_mem _ List.mem_cons_self))⟩
  rw [hk.keep _ h2.lt hiv]; exact h3

theorem CtlEv.keep {s S : KS} {X : List EvId} {cp : EvId} {ph : CPhase} (h : CtlEv s cp ph) (hk : EvKeep s S X)
    (hX : ∀ e ∈ ph.ids cp, e ∉ X) (hp : cp ∈ ph.ids cp → S.proc? cp = s.proc? cp) : CtlEv S cp ph := by
  cases ph with
  | init q rest =>
    obtain ⟨h1, h2, h3, h4⟩ := h
    exact ⟨h1, h2.keep hk (hX _ (h1 ▸ List.mem_cons_of_mem _ List.mem_cons_self)), hp List.mem_cons_self ▸ h3,
      h4.keep hk (hX _ List.mem_cons_self)⟩
  | wait op rest q =>
    obtain ⟨h2, h3, h4⟩ := h
    exact ⟨h2.keep hk (hX _ (List.mem_cons_of_mem _ List.mem_cons_self)), hp List.mem_cons_self ▸ h3, h4.keep hk (hX _ List.mem_cons_self)⟩
  | done => trivial

theorem mem_evs {l : List (QEntry ℚ)} {e : EvId} : e ∈ evs l ↔ ∃ x ∈ l, x.ev = e := List.mem_map

theorem mem_evs_of {l : List (QEntry ℚ)} {x : QEntry ℚ} (h : x ∈ l) : x.ev ∈ evs l := mem_evs.mpr ⟨x, h, rfl⟩

@[simp] theorem evs_nil : evs [] = [] := rfl
@[simp] theorem evs_cons (x : QEntry ℚ) (l : List (QEntry ℚ)) : evs (x :: l) = x.ev :: evs l := rfl
@[simp] theorem evs_append (l l' : List (QEntry ℚ)) : evs (l ++ l') = evs l ++ evs l' := List.map_append

theorem TPhase.ids_init (cur : EvId) (q : QEntry ℚ) : (TPhase.init q).ids cur = [cur, q.ev] := rfl
theorem TPhase.ids_sleep (cur t : EvId) (q : QEntry ℚ) : (TPhase.sleep t q).ids cur = [cur, t] := rfl
theorem TPhase.ids_dead (cur : EvId) : TPhase.dead.ids cur = [] := rfl
theorem oldIds_none : oldIds none = [] := rfl
theorem oldIds_some (o : Old) : oldIds (some o) = [o.iv, o.p, o.t] := rfl
theorem CPhase.ids_init (cp : EvId) (q : QEntry ℚ) (r : List (ℚ × Op)) : (CPhase.init q r).ids cp = [cp, q.ev] := rfl
theorem CPhase.ids_wait (cp : EvId) (op : Op) (q : QEntry ℚ) (r : List (ℚ × Op)) :
    (CPhase.wait op r q).ids cp = [cp, q.ev] := rfl
theorem CPhase.ids_done (cp : EvId) : CPhase.done.ids cp = [] := rfl

/-- the agenda without the popped entry is the configuration's entries without it -/
theorem KInv.rest_perm {s : KS} {a a' : A} {q : QEntry ℚ} {rest : List (QEntry ℚ)} (hk : KInv s a)
    (hp : popMin s.agenda = some (q, rest)) (hent : a.entries.Perm (q :: a'.entries)) : rest.Perm a'.entries :=
  ((hent.symm.trans (hk.ag.symm.trans (popMin_spec _ _ _ hp).1)).cons_inv).symm

theorem A.ph_ids (a : A) {e : EvId} (h : e ∈ a.ph.ids a.cur) : e ∈ a.ids := List.mem_append_left _ h
theorem A.old_ids (a : A) {e : EvId} (h : e ∈ oldIds a.old) : e ∈ a.ids :=
  List.mem_append_right _ (List.mem_append_left _ h)
theorem A.ctl_ids (a : A) {e : EvId} (h : e ∈ a.ctl.ids a.cp) : e ∈ a.ids :=
  List.mem_append_right _ (List.mem_append_right _ (List.mem_append_left _ h))
theorem A.noop_ids (a : A) {x : QEntry ℚ} (h : x ∈ a.noop) : x.ev ∈ a.ids :=
  List.mem_append_right _ (List.mem_append_right _ (List.mem_append_right _ (mem_evs_of h)))

/-- what a configuration says about the events and process records of a state; `self.proc` is left out (and written
`.dead`) while it is the running process (`run`) -/
structure Parts (s : KS) (a : A) (run : Prop) : Prop where
  tm : run ∧ a.ph = .dead ∨ TmEv s a.cur a.ph
  old : ∀ o, a.old = some o → OldEv s o
  ctl : CtlEv s a.cp a.ctl
  noop : ∀ q ∈ a.noop, NoopEv s q.ev

/-- it survives a change that leaves the events and the process records of the configuration alone -/
theorem Parts.keep {s S : KS} {a : A} {run : Prop} {X : List EvId} (h : Parts s a run) (hk : EvKeep s S X)
    (hX : ∀ e ∈ a.ids, e ∉ X) (hp : ∀ p' ∈ a.ids, S.proc? p' = s.proc? p') : Parts S a run := by
  refine ⟨h.tm.imp_right fun h => ?_, fun o ho => ?_, ?_, fun x hx => (h.noop x hx).keep hk (hX _ (a.noop_ids hx))⟩
  · exact h.keep hk (fun e he => hX e (a.ph_ids he)) (fun he => hp _ (a.ph_ids he))
  · exact (h.old o ho).keep hk (fun e he => hX e (a.old_ids (ho ▸ he)))
      (hp _ (a.old_ids (ho ▸ List.mem_cons_of_mem _ List.mem_cons_self)))
  · exact h.ctl.keep hk (fun e he => hX e (a.ctl_ids he)) (fun he => hp _ (a.ctl_ids he))

/-- the events a configuration talks about are allocated -/
theorem ids_lt {s : KS} {a : A} {run : Prop} (h : Parts s a run) : ∀ e ∈ a.ids, e < s.events.size := by
  have nil : ∀ e ∈ ([] : List EvId), e < s.events.size := fun _ h => absurd h List.not_mem_nil
  simp only [A.ids, List.forall_mem_append]
  refine ⟨?_, ?_, ?_, fun e he => ?_⟩
  · rcases h.tm with hd | htm
    · rw [hd.2]; exact nil
    cases hph : a.ph <;> rw [hph] at htm
    · exact List.forall_mem_cons.mpr ⟨htm.2.2.2.lt, List.forall_mem_cons.mpr ⟨htm.1 ▸ htm.2.1.lt, nil⟩⟩
    · exact List.forall_mem_cons.mpr ⟨htm.2.2.2.lt, List.forall_mem_cons.mpr ⟨htm.2.1.lt, nil⟩⟩
    · exact nil
  · cases ho : a.old with
    | none => exact nil
    | some o =>
      obtain ⟨-, h2, -, -, h5, -, h7⟩ := h.old o ho
      exact List.forall_mem_cons.mpr ⟨h2.lt, List.forall_mem_cons.mpr ⟨h7.lt, List.forall_mem_cons.mpr ⟨h5.lt, nil⟩⟩⟩
  · have ctl := h.ctl
    cases hph : a.ctl <;> rw [hph] at ctl
    · exact List.forall_mem_cons.mpr ⟨ctl.2.2.2.lt, List.forall_mem_cons.mpr ⟨ctl.1 ▸ ctl.2.1.lt, nil⟩⟩
    · exact List.forall_mem_cons.mpr ⟨ctl.2.2.lt, List.forall_mem_cons.mpr ⟨ctl.1.lt, nil⟩⟩
    · exact nil
  · obtain ⟨x, hx, rfl⟩ := mem_evs.mp he
    exact KState.lt_of_cbs (h.noop x hx).1

/-- a permutation goal about explicit concatenations, from a permutation hypothesis, by counting -/
macro "perm_count" h:ident : tactic =>
  `(tactic| (classical
             rw [List.perm_iff_count] at $h:ident ⊢
             intro z
             have hz := $h:ident z
             simp only [List.count_append, List.count_cons, List.count_nil] at hz ⊢
             omega))

export KExec (wf_same wf_push1 wf_push2)

theorem histOf_push (tr : Array (Obs ℚ)) (o : Obs ℚ) : histOf (tr.push o) = histOf tr ++ (histOf1 o).toList :=
  KExec.filterMap_push _ tr o

@[simp] theorem histOf1_resumed (p : EvId) (r : Resume) (t : ℚ) : histOf1 (Obs.resumed p r t) = none := rfl
@[simp] theorem histOf1_ended (p : EvId) (o : Outcome) (t : ℚ) : histOf1 (Obs.ended p o t) = none := rfl
@[simp] theorem histOf1_callErr (p : EvId) (x : Exc) (t : ℚ) : histOf1 (Obs.callErr p x t) = none := rfl
@[simp] theorem histOf1_fire (p : EvId) (v : Val) (t : ℚ) : histOf1 (Obs.log p "fire" v t) = some (.fire t) := by
  simp [histOf1]
@[simp] theorem histOf1_stop (p : EvId) (v : Val) (t : ℚ) : histOf1 (Obs.log p "stop" v t) = some (.call t .stop) := by
  simp [histOf1]
@[simp] theorem histOf1_restart (p : EvId) (tau t : ℚ) :
    histOf1 (Obs.log p "restart" (TimeCell.enc tau) t) = some (.call t (.restart tau)) := by
  simp [histOf1]

end TimerK
