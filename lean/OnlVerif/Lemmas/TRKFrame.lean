import OnlVerif.Lemmas.TRKBasic
import OnlVerif.Lemmas.KProcDefs
/-!
# The two-rate token bucket on the kernel model: the cells and the observations

What the attribute cells of a configuration hold (`Cells`, with one lemma per cell a burst writes), and the history of
observations of a trace that grows.
-/

namespace TRK
open TwoRateOnK
open TimerK (lookup)

theorem pendIds_nil : pendIds [] = [] := rfl
theorem pendIds_cons (u : QEntry ℚ) (l : List (QEntry ℚ)) : pendIds (u :: l) = u.ev :: pendIds l := rfl
theorem RPhase.ids_init (q : QEntry ℚ) : (RPhase.init q).ids = [0, 1] := rfl
theorem RPhase.ids_W (g : EvId) (t0 : ℚ) : (RPhase.W g t0).ids = [0, g] := rfl
theorem RPhase.ids_H (g : EvId) (id : Int) (q : QEntry ℚ) (t0 : ℚ) : (RPhase.H g id q t0).ids = [0, g] := rfl
theorem RPhase.ids_T1 (t : EvId) (id : Int) (q : QEntry ℚ) : (RPhase.T1 t id q).ids = [0, t] := rfl
theorem SPhase.ids_init (q : QEntry ℚ) (arr : List ℚ) : (SPhase.init q arr).ids = [2, 3] := rfl
theorem SPhase.ids_wait (n : Nat) (rest : List ℚ) (q : QEntry ℚ) : (SPhase.wait n rest q).ids = [2, q.ev] := rfl
theorem SPhase.ids_ending (q : QEntry ℚ) : (SPhase.ending q).ids = [2] := rfl
theorem SPhase.ids_done : SPhase.done.ids = [] := rfl

/-- a permutation goal about explicit concatenations, from a permutation hypothesis, by counting -/
macro "perm_count" h:ident : tactic =>
  `(tactic| (classical
             rw [List.perm_iff_count] at $h:ident ⊢
             intro z
             have hz := $h:ident z
             simp only [List.count_append, List.count_cons, List.count_nil] at hz ⊢
             omega))

theorem wf_push3 {s1 S : KS} (h : AgendaWF s1) (x y z : QEntry ℚ) (hn : S.now = s1.now)
    (ha : S.agenda = x :: y :: z :: s1.agenda) (he : S.eid = s1.eid + 3) (hx : x.eid = s1.eid + 2) (hy : y.eid = s1.eid + 1)
    (hz : z.eid = s1.eid) (htx : s1.now ≤ x.time) (hty : s1.now ≤ y.time) (htz : s1.now ≤ z.time) : AgendaWF S :=
  KExec.wf_push3 h x y z hn ha he hx hy hz htx hty htz

/-- the cells hold the two counters, the two levels, their update instant, and the instant of every `put` -/
structure Cells (f : Nat → Val) (cts : List ℚ) (sn : Int) (cm : ℚ) (pk : Option ℚ) (up : ℚ) : Prop where
  c0 : f cRecv = .int cts.length
  c1 : f cSent = .int sn
  c2 : f cCommit = TimeCell.enc cm
  c3 : f cUpd = TimeCell.enc up
  c4 : f cPeak = encOpt pk
  ct : ∀ k, k < cts.length → f (10 + k) = TimeCell.enc (cts.getD k 0)

theorem KInv.cells {s : KS} {a : A} (hk : KInv s a) : Cells (lookup s.shared) a.cts a.sent a.commit a.peak a.upd :=
  ⟨hk.c0, hk.c1, hk.c2, hk.c3, hk.c4, hk.ct⟩

namespace Cells
open KProc (upd)
variable {f : Nat → Val} {cts : List ℚ} {sn : Int} {cm up : ℚ} {pk : Option ℚ} (h : Cells f cts sn cm pk up)
include h

theorem sent (sn' : Int) : Cells (upd f cSent (.int sn')) cts sn' cm pk up :=
  ⟨h.c0, rfl, h.c2, h.c3, h.c4, fun k hk => by simpa [upd, cSent, stamp_ne] using h.ct k hk⟩

theorem commit (cm' : ℚ) : Cells (upd f cCommit (TimeCell.enc cm')) cts sn cm' pk up :=
  ⟨h.c0, h.c1, rfl, h.c3, h.c4, fun k hk => by simpa [upd, cCommit, stamp_ne] using h.ct k hk⟩

theorem upd (up' : ℚ) : Cells (KProc.upd f cUpd (TimeCell.enc up')) cts sn cm pk up' :=
  ⟨h.c0, h.c1, h.c2, rfl, h.c4, fun k hk => by simpa [KProc.upd, cUpd, stamp_ne] using h.ct k hk⟩

theorem peak (pk' : ℚ) : Cells (KProc.upd f cPeak (TimeCell.enc pk')) cts sn cm (some pk') up :=
  ⟨h.c0, h.c1, h.c2, h.c3, rfl, fun k hk => by simpa [KProc.upd, cPeak, stamp_ne] using h.ct k hk⟩

/-- `put` counts the packet and notes its instant in the next ghost cell -/
theorem stamp (t : ℚ) :
    Cells (KProc.upd (KProc.upd f cRecv (.int (cts.length + 1))) (10 + cts.length) (TimeCell.enc t)) (cts ++ [t]) sn cm pk up := by
  refine ⟨by simp [KProc.upd, cRecv, stamp_ne], by simpa [KProc.upd, cSent, cRecv, stamp_ne] using h.c1,
    by simpa [KProc.upd, cCommit, cRecv, stamp_ne] using h.c2, by simpa [KProc.upd, cUpd, cRecv, stamp_ne] using h.c3,
    by simpa [KProc.upd, cPeak, cRecv, stamp_ne] using h.c4, fun k hk => ?_⟩
  rw [List.length_append, List.length_singleton] at hk
  by_cases hkn : k = cts.length
  · simp [KProc.upd, hkn, List.getD_eq_getElem?_getD]
  · have hk2 : k < cts.length := by omega
    simpa [KProc.upd, hkn, cRecv, stamp_ne, List.getD_eq_getElem?_getD, List.getElem?_append_left hk2] using h.ct k hk2

end Cells

theorem histOf_push (tr : Array (Obs ℚ)) (o : Obs ℚ) : histOf (tr.push o) = histOf tr ++ (histOf1 o).toList :=
  KExec.filterMap_push _ tr o

@[simp] theorem histOf1_resumed (p : EvId) (r : Resume) (t : ℚ) : histOf1 (Obs.resumed p r t) = none := rfl
@[simp] theorem histOf1_ended (p : EvId) (o : Outcome) (t : ℚ) : histOf1 (Obs.ended p o t) = none := rfl
@[simp] theorem histOf1_callErr (p : EvId) (x : Exc) (t : ℚ) : histOf1 (Obs.callErr p x t) = none := rfl
@[simp] theorem histOf1_put (p : EvId) (i : Int) (t : ℚ) : histOf1 (Obs.log p "put" (.int i) t) = some (.put i t) := by
  simp [histOf1]
@[simp] theorem histOf1_out (p : EvId) (i : Int) (c : Nat) (t : ℚ) :
    histOf1 (Obs.log p "out" (outVal i c) t) = some (.out (i.toNat : Int) c t) := by
  simp [histOf1, outVal]

end TRK
