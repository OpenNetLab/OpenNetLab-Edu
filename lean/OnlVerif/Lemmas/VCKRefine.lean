import OnlVerif.Lemmas.VCKRun
import OnlVerif.Lemmas.VCKSound
import OnlVerif.Lemmas.VCKLts
import OnlVerif.Lemmas.VCKAbsFun
import OnlVerif.Lemmas.KRun
/-!
# The VirtualClock scheduler on the kernel model: the combined invariant and one kernel step on it (an action sequence the
StampServer LTS accepts); what the store hands out, read off the integers it holds
-/


namespace VCK
open VCOnK QEntry Stamp

variable {N scale F : Nat} {flow size : Int → Nat} {cfg : VcCfg ℚ} {arrivals : List (ℚ × Int)}
variable {s : KS} {a : A} {q : QEntry ℚ} {rest : List (QEntry ℚ)}

structure Inv (N scale F : Nat) (flow : Int → Nat) (cfg : VcCfg ℚ) (s : KS) (a : A) : Prop where
  k : KInv N scale F s a
  ai : AInv N scale F flow cfg a s.now
  l : LInv a (histOf s.trace)

theorem inv_step_lts (fuel : Nat) (h : Inv N scale F flow cfg s a) (hp : popMin s.agenda = some (q, rest)) :
    ∃ s' a' new, step (prog flow size cfg N scale) (fuel + 1) s = .ok s' ∧ Inv N scale F flow cfg s' a' ∧ a'.mu + 1 ≤ a.mu ∧
      AStep N scale flow size cfg s.events.size s.eid a q a' new ∧ s'.now = q.time ∧
      histOf s'.trace = histOf s.trace ++ new ∧
      ∃ acts, runActs (VC.sched cfg) (toM flow size cfg a s.now) acts =
        .ok (toM flow size cfg a' s'.now, putPk flow size new, outPk flow size new) := by
  obtain ⟨a', new, h3, s', h1, h2, h4, h5⟩ := kstep (size := size) fuel h.k h.ai hp
  have hmin := (min_of_pop h.k.ag hp).1
  obtain ⟨g1, g2⟩ := astep_sound h.ai hmin h3
  obtain ⟨acts0, h0⟩ := lts_advance (size := size) h.ai hmin
  obtain ⟨acts, h7⟩ := ltsOK_step (h.ai.advance hmin) h3
  refine ⟨s', a', new, h1, ⟨h2, by rw [h4]; exact g1, by rw [h5]; exact linv_step h.l h3⟩, g2, h3, h4, h5,
    acts0 ++ acts, ?_⟩
  rw [h4]
  simpa using StampK.runActs_compose h0 h7

theorem inv_init (hc : CfgOK F cfg) (hg : GridOK scale cfg arrivals) (hw : WorkOK N scale F flow arrivals) :
    Inv N scale F flow cfg (initState F cfg arrivals) (a0 arrivals) := by
  obtain ⟨h1, h2, h3⟩ := kinv_init (N := N) (scale := scale) hc arrivals
  refine ⟨h1, by rw [h2]; exact ainv_init hc hg hw, by rw [h3]; exact linv_init arrivals⟩

/-- **what the store hands out, read off the integers it holds**: the least integer is the code of `w`, exactly it leaves the
store, and no stored integer stands for an item with a smaller `(stamp, arrival instant)` (`it` is the family's `itemW`,
`itemOf` its reading of a carried integer) -/
theorem decision_key {l items : List PutRec} {w : PutRec} (hp : StampK.PutsOK N scale l) (hs : items.Sublist l)
    (hw : IsLeast N scale items w) {it : PutRec → Item ℚ} {fl sz : PutRec → Nat}
    (hit : ∀ w, it w = ⟨w.2.2, w.2.1, ⟨w.1.toNat, fl w, sz w⟩⟩) {itemOf : Int → Item ℚ}
    (hitem : ∀ x ∈ l, itemOf (codeOf N scale x) = it x) :
    listMin (items.map (codeOf N scale)) = some (codeOf N scale w) ∧ it w = itemOf (codeOf N scale w) ∧
    (items.map (codeOf N scale)).erase (codeOf N scale w) = (items.erase w).map (codeOf N scale) ∧
    ∀ c ∈ items.map (codeOf N scale),
      (it w).stamp < (itemOf c).stamp ∨ ((it w).stamp = (itemOf c).stamp ∧ (it w).arr ≤ (itemOf c).arr) := by
  have hwp := hs.subset hw.1
  refine ⟨listMin_codes hw, (hitem w hwp).symm, erase_codes fun x hx e => hp.code_inj (hs.subset hx) hwp e, ?_⟩
  intro c hc
  obtain ⟨y, hy, rfl⟩ := List.mem_map.mp hc
  obtain ⟨h1, h2⟩ := hp.key_le hwp (hs.subset hy) (hw.2 y hy)
  rw [hitem y (hs.subset hy), hit, hit]
  exact (lt_or_eq_of_le h1).imp id fun e => ⟨e, (h2 e).2⟩

theorem decision_items {l l' : List Int} {c : Int} {it : Item ℚ} {f g : Int → Item ℚ}
    (h1 : listMin l = some c) (h2 : it = f c) (h3 : l' = l.erase c)
    (h4 : ∀ x ∈ l, it.stamp < (f x).stamp ∨ (it.stamp = (f x).stamp ∧ it.arr ≤ (f x).arr)) :
    it ∈ l.map f ∧ (l'.map g).length + 1 = (l.map f).length ∧
      ∀ x ∈ l.map f, it.stamp < x.stamp ∨ (it.stamp = x.stamp ∧ it.arr ≤ x.arr) := by
  have hne : l ≠ [] := fun h0 => by rw [h0] at h1; cases h1
  obtain ⟨m, hm1, hm2, -⟩ := listMin_spec _ hne
  obtain rfl : m = c := Option.some.inj (hm1.symm.trans h1)
  refine ⟨h2 ▸ List.mem_map_of_mem hm2, ?_, fun x hx => ?_⟩
  · rw [List.length_map, List.length_map, h3, List.length_erase_of_mem hm2]
    have := List.length_pos_of_mem hm2
    omega
  · obtain ⟨y, hy, rfl⟩ := List.mem_map.mp hx
    exact h4 y hy

/-- positive rate and vticks: the hypothesis of the C12 / C14 theorems of the LTS -/
theorem pos_of_cfgOK (hc : CfgOK F cfg) : VC.Pos cfg := by
  refine ⟨hc.rate, ?_⟩
  intro k v hk
  have hkF : k < F := hc.keys _ (lookup_mem _ _ _ hk)
  obtain ⟨vt, h1, h2⟩ := hc.vt k hkF
  rw [hk] at h1
  cases h1
  exact h2

end VCK
