import OnlVerif.Lemmas.REDKAbs
import OnlVerif.Lemmas.PortKAbsStep
import Mathlib.Tactic.Ring
/-!
# Generator → REDPort → sink on the kernel model: every configuration step is sound

For each constructor of `AStep`: the abstract invariant is kept (with the views appended), the step budget drops by one,
and the RED LTS accepts the corresponding actions (`init`, `put`, `handoff`, `resume`, `fire`, or nothing).
All statements are at the instant of the processed entry (`AInv.advance` / `lts_advance` bring the clock there).
-/

namespace REDK
open REDOnK QEntry

variable {c : Cfg ℚ} {sizes0 : List Nat} {gaps0 : List ℚ}
variable {a : A} {vs : List (View ℚ)} {q : QEntry ℚ}

@[simp] theorem gensV_append (l1 l2 : List (View ℚ)) : gensV (l1 ++ l2) = gensV l1 ++ gensV l2 := by simp [gensV]
@[simp] theorem usV_append (l1 l2 : List (View ℚ)) : usV (l1 ++ l2) = usV l1 ++ usV l2 := by simp [usV]
@[simp] theorem outsV_append (l1 l2 : List (View ℚ)) : outsV (l1 ++ l2) = outsV l1 ++ outsV l2 := by simp [outsV]
@[simp] theorem sinksV_append (l1 l2 : List (View ℚ)) : sinksV (l1 ++ l2) = sinksV l1 ++ sinksV l2 := by simp [sinksV]
@[simp] theorem gensV_nil : gensV ([] : List (View ℚ)) = [] := rfl
@[simp] theorem usV_nil : usV ([] : List (View ℚ)) = [] := rfl
@[simp] theorem outsV_nil : outsV ([] : List (View ℚ)) = [] := rfl
@[simp] theorem sinksV_nil : sinksV ([] : List (View ℚ)) = [] := rfl
@[simp] theorem gensV_dep (i : Int) (t : ℚ) : gensV [View.out i t, View.sink i t] = [] := rfl
@[simp] theorem usV_dep (i : Int) (t : ℚ) : usV [View.out i t, View.sink i t] = [] := rfl
@[simp] theorem outsV_dep (i : Int) (t : ℚ) : outsV [View.out i t, View.sink i t] = [(i, t)] := rfl
@[simp] theorem sinksV_dep (i : Int) (t : ℚ) : sinksV [View.out i t, View.sink i t] = [(i, t)] := rfl
@[simp] theorem gensV_arr (i : Int) (t x : ℚ) : gensV [View.gen i t, View.u x] = [(i, t)] := rfl
@[simp] theorem usV_arr (i : Int) (t x : ℚ) : usV [View.gen i t, View.u x] = [x] := rfl
@[simp] theorem outsV_arr (i : Int) (t x : ℚ) : outsV [View.gen i t, View.u x] = [] := rfl
@[simp] theorem sinksV_arr (i : Int) (t x : ℚ) : sinksV [View.gen i t, View.u x] = [] := rfl

/-- what a sound configuration step delivers (besides the budget, `AStep.mu_lt`) -/
def StepOK (c : Cfg ℚ) (sizes0 : List Nat) (gaps0 : List ℚ) (a : A) (q : QEntry ℚ) (vs : List (View ℚ))
    (a' : A) (new : List (View ℚ)) : Prop :=
  AInv c sizes0 gaps0 a' q.time (vs ++ new) ∧
  ∃ acts insI, a'.accIds = a.accIds ++ insI ∧
    Fifo.runActs (Port.dev (cfg c)) (toF c sizes0 a q.time (usV vs)) acts =
      .ok (toF c sizes0 a' q.time (usV (vs ++ new)), insI.map Int.toNat, (outsV new).map (·.1.toNat))

/-- a configuration step that logs no draw and accepts nothing: the LTS run is the same whatever the log -/
theorem StepOK.noDraw {a' : A} {new : List (View ℚ)} {acts : List (FAct ℚ)} (hi' : AInv c sizes0 gaps0 a' q.time (vs ++ new))
    (hu : usV new = []) (hacc : a'.accIds = a.accIds)
    (hF : ∀ ulog, Fifo.runActs (Port.dev (cfg c)) (toF c sizes0 a q.time ulog) acts =
      .ok (toF c sizes0 a' q.time ulog, [], (outsV new).map (·.1.toNat))) :
    StepOK c sizes0 gaps0 a q vs a' new :=
  ⟨hi', acts, [], by rw [hacc, List.append_nil], by rw [usV_append, hu, List.append_nil]; exact hF _⟩

/-- a configuration step that appends no view -/
theorem StepOK.silent {a' : A} {acts : List (FAct ℚ)} (hi' : AInv c sizes0 gaps0 a' q.time vs) (hacc : a'.accIds = a.accIds)
    (hF : ∀ ulog, Fifo.runActs (Port.dev (cfg c)) (toF c sizes0 a q.time ulog) acts = .ok (toF c sizes0 a' q.time ulog, [], [])) :
    StepOK c sizes0 gaps0 a q vs a' [] :=
  .noDraw (by rw [List.append_nil]; exact hi') rfl hacc hF

/-- **the generator moves on to `S'`** without an arrival: only its own part of the invariant is to be shown -/
theorem stepOK_src (hi : AInv c sizes0 gaps0 a q.time vs) {S' : SPhase} (hS : SrcA c a.pend q.time S')
    (hdue : ∀ x ∈ S'.entries, q.time ≤ x.time) (hG : GenInv c sizes0 gaps0 S' a.recv (gensV vs)) :
    StepOK c sizes0 gaps0 a q vs { a with src := S' } [] :=
  .silent (acts := []) ⟨hi.port, hS, hi.pend, hi.idle, due_parts hi.due (.inl rfl) (.inr hdue) (.inl rfl), hi.len, hi.held,
    hi.ulen, hG, hi.sink, hi.nacc⟩ rfl fun _ => rfl

/-- the loop head stops: nothing more is emitted -/
theorem emit_genNext_none {t : ℚ} {gaps : List ℚ} {sizes : List Nat} (k : Nat) (h : genNext c t gaps sizes = none) :
    Gen.emit c.finish t k (gaps.zip sizes) = [] := by
  unfold genNext at h
  cases gaps with
  | nil => simp [Gen.emit]
  | cons g gs =>
    cases sizes with
    | nil => simp [Gen.emit]
    | cons z zs =>
      cases hr : Gen.running c.finish t with
      | false => simp [Gen.emit, hr]
      | true => simp [hr] at h

/-- the loop head goes on: the next packet -/
theorem emit_genNext_some {t : ℚ} {gaps : List ℚ} {sizes : List Nat} (k : Nat) {gap : ℚ} {z : Nat} {gaps' : List ℚ}
    {sizes' : List Nat} (h : genNext c t gaps sizes = some (gap, z, gaps', sizes')) :
    gaps = gap :: gaps' ∧ sizes = z :: sizes' ∧
    Gen.emit c.finish t k (gaps.zip sizes) =
      { id := k + 1, time := t + gap, size := z } :: Gen.emit c.finish (t + gap) (k + 1) (gaps'.zip sizes') := by
  unfold genNext at h
  cases gaps with
  | nil => cases hr : Gen.running c.finish t <;> simp [hr] at h
  | cons g gs =>
    cases sizes with
    | nil => cases hr : Gen.running c.finish t <;> simp [hr] at h
    | cons z0 zs =>
      cases hr : Gen.running c.finish t with
      | false => simp [hr] at h
      | true =>
        simp only [hr, if_true, Option.some.injEq, Prod.mk.injEq] at h
        obtain ⟨rfl, rfl, rfl, rfl⟩ := h
        simp [Gen.emit, hr]

theorem AStep.mu_lt {a' : A} {new : List (View ℚ)} (hs : AStep c sizes0 a q a' new) : a'.mu + 1 ≤ a.mu := by
  cases hs with
  | srcDelayWait _ _ _ _ _ _ _ _ _ hnx | srcAccWait _ _ _ _ _ _ _ _ _ _ _ _ _ _ _ hnx | srcDropWait _ _ _ _ _ _ _ _ _ _ _ _ _ _ hnx =>
    obtain ⟨rfl, -, -⟩ := emit_genNext_some (c := c) 0 hnx
    simp +arith only [A.mu, A.arrive, PPhase.mu, SPhase.mu, *, List.length_cons, List.length_append, List.length_nil,
      Option.isSome_some, Option.isSome_none, Bool.false_eq_true, if_true, if_false]
  | _ =>
    simp +arith only [A.mu, A.arrive, PPhase.mu, SPhase.mu, *, List.length_cons, List.length_append, List.length_nil,
      Option.isSome_some, Option.isSome_none, Bool.false_eq_true, if_true, if_false]

/-- the pending `StorePut` event has been processed: the generator's part of the invariant is as before (a generator that
has not begun its loop has no `put` behind it) -/
theorem SrcA.unpend {u : QEntry ℚ} {now : ℚ} : ∀ {S : SPhase}, SrcA c (some u) now S → SrcA c none now S
  | .init .., h => nomatch h.2.2.2.2.2
  | .delay .., h => nomatch h.2.2
  | .wait .., h => ⟨h.1, h.2.1, fun _ hu => (nomatch hu)⟩
  | .ending _, h => h
  | .done, _ => trivial

/-- the sink's books after one more departure -/
theorem SinkInv.depart {scnt sbytes : Nat} {outs sinks : List (Int × ℚ)} (h : SinkInv sizes0 scnt sbytes outs sinks)
    (id : Int) (t : ℚ) :
    SinkInv sizes0 (scnt + 1) (sbytes + szOf sizes0 id) (outs ++ [(id, t)]) (sinks ++ [(id, t)]) := by
  refine ⟨by rw [h.same], by simp [h.cnt], by simp [h.bytes]⟩

/-- **a packet has left and the store is empty**: `Port.run` forwarded packet `id` (after its transmission, or at once
when `rate ≤ 0`) and blocks in the next `store.get()` -/
theorem AInv.departIdle (hi : AInv c sizes0 gaps0 a q.time vs) (hw : a.port.isW = false) (hit : a.items = [])
    (g : EvId) (id : Int) :
    AInv c sizes0 gaps0
      { a with port := .W g, bytes := a.bytes - (szOf sizes0 id : Int), busy := false, bsz := 0, len := a.len - 1, scnt := a.scnt + 1, sbytes := a.sbytes + szOf sizes0 id }
      q.time (vs ++ [.out id q.time, .sink id q.time]) := by
  refine ⟨trivial, hi.src, hi.pend, fun _ hne => absurd hit hne, due_parts hi.due (.inr (List.forall_mem_nil _)) (.inl rfl) (.inl rfl), ?_, ?_,
    by simpa using hi.ulen, by simpa using hi.gen, by simpa using hi.sink.depart id q.time, hi.nacc⟩
  · have := hi.len
    rw [hw, hit] at this
    simp [PPhase.isW, this, hit]
  · intro x hx
    simp [PPhase.inHand, hit] at hx

/-- **a packet has left and the next one is taken at once** -/
theorem AInv.departNext (hi : AInv c sizes0 gaps0 a q.time vs) (hw : a.port.isW = false) {i : Int} {is : List Int}
    (hit : a.items = i :: is) (g : EvId) (id : Int) {q' : QEntry ℚ} (ht : q'.time = q.time ∧ q'.prio = NORMAL) :
    AInv c sizes0 gaps0
      { a with port := .H g i q', items := is, bytes := a.bytes - (szOf sizes0 id : Int), busy := false, bsz := 0, len := a.len - 1, scnt := a.scnt + 1, sbytes := a.sbytes + szOf sizes0 id }
      q.time (vs ++ [.out id q.time, .sink id q.time]) := by
  refine ⟨ht, hi.src, hi.pend, fun hidle => (nomatch hidle),
    due_parts hi.due (.inr (List.forall_mem_singleton.mpr ht.1.ge)) (.inl rfl) (.inl rfl), ?_, ?_,
    by simpa using hi.ulen, by simpa using hi.gen, by simpa using hi.sink.depart id q.time, hi.nacc⟩
  · have := hi.len
    rw [hw, hit] at this
    simp only [PPhase.isW]
    rw [this]; push_cast; simp
  · intro x hx
    apply hi.held
    rw [hit]
    exact List.mem_append_right _ hx

/-- the packets the port holds keep their draw when the log grows -/
theorem pk_ext (ulog : List ℚ) (x : ℚ) (id : Int) (h1 : 1 ≤ id) (h2 : id ≤ (ulog.length : Int)) :
    pk c sizes0 (ulog ++ [x]) id = pk c sizes0 ulog id := by
  have hlt : id.toNat - 1 < ulog.length := by omega
  simp [pk, pktOf, List.getD_eq_getElem?_getD, List.getElem?_append_left hlt]

/-- the draw of the packet that arrives now is the one just logged -/
theorem pk_new (ulog : List ℚ) (x : ℚ) (n : Nat) (h : ulog.length = n) :
    (pk c sizes0 (ulog ++ [x]) ((n : Int) + 1)).draw = x := by
  subst h
  simp [pk, pktOf, List.getD_eq_getElem?_getD]

theorem szOf_succ (n z : Nat) (zs : List Nat) (h : sizes0.drop n = z :: zs) : szOf sizes0 ((n : Int) + 1) = z := by
  have h1 : ((n : Int) + 1).toNat - 1 = n := by omega
  unfold szOf
  rw [h1, List.getD_eq_getElem?_getD]
  have : sizes0[n]? = (sizes0.drop n)[0]? := by rw [List.getElem?_drop]; rfl
  rw [this, h]; rfl

theorem drop_succ_of (n z : Nat) (zs : List Nat) (h : sizes0.drop n = z :: zs) : sizes0.drop (n + 1) = zs := by
  have : sizes0.drop (n + 1) = (sizes0.drop n).drop 1 := by rw [List.drop_drop]
  rw [this, h]; rfl

/-- what the loop head makes of the generator after the arrival of packet `n + 1` at `q.time`: it returns, or sleeps for the
next gap (`us'` = the draws left, `pe` = the `StorePut` event of this arrival, if any: older than the new timeout) -/
def Next (c : Cfg ℚ) (q : QEntry ℚ) (n : Nat) (gaps : List ℚ) (sizes : List Nat) (us' : List ℚ) (pe : Option (QEntry ℚ))
    (S' : SPhase) : Prop :=
  (genNext c q.time gaps sizes = none ∧ ∃ q', S' = .ending q' ∧ q'.time = q.time ∧ q'.prio = NORMAL) ∨
  ∃ gap z' gaps' sizes' q', genNext c q.time gaps sizes = some (gap, z', gaps', sizes') ∧
    S' = .wait (n + 1) z' gaps' sizes' us' q' ∧ q'.time = q.time + gap ∧ q'.prio = NORMAL ∧ ∀ u, pe = some u → u.eid < q'.eid

/-- the generator's books after packet `n + 1` has been created at `q.time` and the loop head has decided -/
theorem GenInv.next {n z : Nat} {gaps : List ℚ} {sizes : List Nat} {us us' : List ℚ} {recv : Nat} {gens : List (Int × ℚ)}
    {pe : Option (QEntry ℚ)} {S' : SPhase}
    (h : GenInv c sizes0 gaps0 (.wait n z gaps sizes us q) recv gens) (hS : Next c q n gaps sizes us' pe S')
    (hus : us.length ≤ us'.length + 1) :
    GenInv c sizes0 gaps0 S' (recv + 1) (gens ++ [((n : Int) + 1, q.time)]) := by
  have hn : n = recv := h.sent n rfl
  have hsz : sizes0.drop n = z :: sizes := h.sizes n _ rfl rfl
  have hz := szOf_succ (sizes0 := sizes0) n z sizes hsz
  have hlaw := h.law
  simp only [SPhase.pred, List.map_cons, gtrip] at hlaw
  rcases hS with ⟨hnx, q', rfl, -, -⟩ | ⟨gap, z', gaps', sizes', q', hnx, rfl, hqt, -, -⟩
  · refine ⟨?_, ?_, ?_, by simp [SPhase.todo], by simp [h.ngen]⟩
    · rw [emit_genNext_none _ hnx] at hlaw
      simp only [SPhase.pred, List.map_append, List.map_cons, List.map_nil, List.append_nil, hz]
      rw [← hlaw]
      simp
    · intro m hm; cases hm
    · intro m l hm; cases hm
  · obtain ⟨rfl, rfl, hem⟩ := emit_genNext_some (c := c) (n + 1) hnx
    refine ⟨?_, ?_, ?_, ?_, by simp [h.ngen]⟩
    · rw [hem] at hlaw
      simp only [SPhase.pred, List.map_append, List.map_cons, List.map_nil, hz, gtrip, hqt]
      rw [← hlaw]
      simp [gtrip]
    · intro m hm; simp only [SPhase.sent, Option.some.injEq] at hm; omega
    · intro m l hm hl
      simp only [SPhase.sent, SPhase.sizesLeft, Option.some.injEq] at hm hl
      subst hm hl
      exact drop_succ_of (sizes0 := sizes0) n z _ hsz
    · have := h.draws
      simp only [SPhase.todo, List.length_cons] at this ⊢
      omega

theorem usAfter_length (avg : ℚ) (us : List ℚ) : us.length ≤ (usAfter c avg us).length + 1 := by
  unfold usAfter
  split
  · rw [List.length_tail]; omega
  · omega

/-- what the invariant needs of the generator's next phase -/
theorem Next.ok {n z : Nat} {gaps : List ℚ} {sizes : List Nat} {us us' : List ℚ} {pe : Option (QEntry ℚ)} {S' : SPhase}
    (hN : Next c q n gaps sizes us' pe S') (hi : AInv c sizes0 gaps0 a q.time vs) (h : a.src = .wait n z gaps sizes us q)
    (hus : us.length ≤ us'.length + 1) :
    SrcA c pe q.time S' ∧ (∀ x ∈ S'.entries, q.time ≤ x.time) ∧
      GenInv c sizes0 gaps0 S' (a.recv + 1) (gensV vs ++ [((n : Int) + 1, q.time)]) := by
  have hG := (h ▸ hi.gen).next hN hus
  have hs := hi.src
  rw [h] at hs
  rcases hN with ⟨-, q', rfl, ht⟩ | ⟨gap, z', gaps', sizes', q', hnx, rfl, ht, hp, ho⟩
  · exact ⟨ht, List.forall_mem_singleton.mpr ht.1.ge, hG⟩
  · obtain ⟨rfl, -, -⟩ := emit_genNext_some (c := c) 0 hnx
    exact ⟨⟨hp, fun x hx => hs.2.1 x (List.mem_cons_of_mem _ hx), ho⟩,
      List.forall_mem_singleton.mpr ((le_add_of_nonneg_right (hs.2.1 gap List.mem_cons_self)).trans_eq ht.symm), hG⟩

/-- the queue figure the program computes is the one the LTS uses -/
theorem cur_eq (hi : AInv c sizes0 gaps0 a q.time vs) (hn : a.pend = none) (d : PortSt ℚ) (hd : d.byteSize = a.bytes) :
    Port.redCur (cfg c) d a.items.length = (Num.ofNat (curOf c a) : ℚ) := by
  unfold Port.redCur curOf cfg
  cases hlb : c.limitBytes with
  | true => simp [hd]
  | false =>
    simp only [Bool.false_eq_true, if_false]
    congr 1
    have hl := hi.len
    cases hw : a.port.isW with
    | false => rw [hl, hw]; simp
    | true =>
      have hit : a.items = [] := by
        by_contra hc
        have hidle : a.port.idle = true := by
          cases hport : a.port <;> simp [hport, PPhase.isW, PPhase.idle] at hw ⊢
        have := hi.idle hidle hc
        rw [hn] at this; cases this
      rw [hl, hw, hit]; simp

theorem toF_ext (a : A) (now : ℚ) (ulog : List ℚ) (x : ℚ)
    (hh : ∀ id ∈ a.port.inHand ++ a.items, 1 ≤ id ∧ id ≤ (ulog.length : Int)) :
    toF c sizes0 a now (ulog ++ [x]) = toF c sizes0 a now ulog := by
  have hitems : a.items.map (pk c sizes0 (ulog ++ [x])) = a.items.map (pk c sizes0 ulog) := by
    apply List.map_congr_left
    intro id hid
    exact pk_ext ulog x id (hh id (by simp [hid])).1 (hh id (by simp [hid])).2
  unfold toF
  rw [hitems]
  cases hport : a.port with
  | init q0 => rfl
  | W g => rfl
  | H g id q0 =>
    have := hh id (by simp [hport, PPhase.inHand])
    simp only [pk_ext ulog x id this.1 this.2]
  | T t id q0 =>
    have := hh id (by simp [hport, PPhase.inHand])
    simp only [pk_ext ulog x id this.1 this.2]

/-- the LTS admission of the arriving packet: `admitRed` computes the program's average and decision -/
theorem admission_eq (hi : AInv c sizes0 gaps0 a q.time vs) (hn : a.pend = none) (ulog : List ℚ) (p : Pkt ℚ) :
    Port.admitPkt (cfg c) (toF c sizes0 a q.time ulog).dev (toF c sizes0 a q.time ulog).now
        (toF c sizes0 a q.time ulog).items.length p =
      if dropQ c (avgNew c a) p.draw then
        ({ byteSize := a.bytes, received := a.recv + 1, dropped := a.dropped + 1, busy := a.busy, busySize := a.bsz,
           avg := avgNew c a }, false, p)
      else
        ({ byteSize := a.bytes + p.size, received := a.recv + 1, dropped := a.dropped, busy := a.busy, busySize := a.bsz,
           avg := avgNew c a }, true, p) := by
  have hcur := cur_eq hi hn
    { byteSize := a.bytes, received := a.recv + 1, dropped := a.dropped, busy := a.busy, busySize := a.bsz, avg := a.avg } rfl
  have hlim : Port.redLimit (cfg c) = (Num.ofNat c.qlimit : ℚ) := by simp [Port.redLimit, cfg]
  show Port.admitPkt (cfg c)
    { byteSize := a.bytes, received := a.recv, dropped := a.dropped, busy := a.busy, busySize := a.bsz, avg := a.avg }
    q.time (List.map _ a.items).length p = _
  rw [List.length_map]
  unfold Port.admitPkt
  simp only [cfg] at hcur hlim ⊢
  simp only [Port.admitRed, hcur, hlim, avgNew, dropQ]
  split <;> rename_i hh <;> simp [Port.refuse, Port.accept, hh]

/-- **the arrival on the LTS**: the `put` of packet `n + 1`, whose draw `x` is the one just logged, is refused or accepted by
the program's decision; the packets already held keep their draws -/
theorem lts_arrive (hi : AInv c sizes0 gaps0 a q.time vs) (hn : a.pend = none) {n z : Nat} (hnr : n = a.recv)
    (hsz : szOf sizes0 ((n : Int) + 1) = z) (x : ℚ) (S' : SPhase) (u : QEntry ℚ) :
    Fifo.runActs (Port.dev (cfg c)) (toF c sizes0 a q.time (usV vs)) [.put (pk c sizes0 (usV vs ++ [x]) ((n : Int) + 1))] =
      if dropQ c (avgNew c a) x then
        .ok (toF c sizes0 { (a.arrive c S') with dropped := a.dropped + 1 } q.time (usV vs ++ [x]), [], [])
      else
        .ok (toF c sizes0 { (a.arrive c S') with pend := some u, items := a.items ++ [(n : Int) + 1], bytes := a.bytes + (z : Int), len := a.len + 1, accIds := a.accIds ++ [(n : Int) + 1] }
          q.time (usV vs ++ [x]), [((n : Int) + 1).toNat], []) := by
  have hheld : ∀ id ∈ a.port.inHand ++ a.items, 1 ≤ id ∧ id ≤ ((usV vs).length : Int) :=
    fun id hid => hi.ulen ▸ hi.held id hid
  have hadm := admission_eq hi hn (usV vs ++ [x]) (pk c sizes0 (usV vs ++ [x]) ((n : Int) + 1))
  rw [pk_new (usV vs) x n (by rw [hi.ulen, hnr]), show (pk c sizes0 (usV vs ++ [x]) ((n : Int) + 1)).size = z from hsz] at hadm
  rw [← toF_ext a q.time (usV vs) x hheld, Fifo.runActs_put, Port.dev_admit, hadm]
  cases dropQ c (avgNew c a) x
  · simp only [Bool.false_eq_true, if_false, if_true, toF, A.arrive, List.map_append, List.map_cons, List.map_nil]
    rfl
  · rfl

/-- **an accepted arrival** (the generator then goes on to `S'`) -/
theorem stepOK_srcAcc (hi : AInv c sizes0 gaps0 a q.time vs) (hq : IsMin a q) (u : QEntry ℚ) (n z : Nat) (gaps : List ℚ)
    (sizes : List Nat) (us : List ℚ) (S' : SPhase) (h : a.src = .wait n z gaps sizes us q) (hn : a.pend = none)
    (hacc : dropQ c (avgNew c a) (uAtt c (avgNew c a) us) = false)
    (hu : u.time = q.time ∧ u.prio = NORMAL) (hN : Next c q n gaps sizes (usAfter c (avgNew c a) us) (some u) S') :
    StepOK c sizes0 gaps0 a q vs
      { (a.arrive c S') with pend := some u, items := a.items ++ [(n : Int) + 1], bytes := a.bytes + (z : Int), len := a.len + 1, accIds := a.accIds ++ [(n : Int) + 1] }
      [.gen ((n : Int) + 1) q.time, .u (uAtt c (avgNew c a) us)] := by
  obtain ⟨hS, hdue, hG⟩ := hN.ok hi h (usAfter_length _ _)
  have hp := hi.port
  have hs := hi.src
  rw [h] at hs
  have hgi := hi.gen
  rw [h] at hgi
  have hnr : n = a.recv := hgi.sent n rfl
  have hnotinit : ∀ q0, a.port ≠ .init q0 := by
    intro q0 hport
    rw [hport] at hp
    refine min_not_prio_lt hi.due hq (mem_port (hport ▸ List.mem_singleton_self q0)) hp.1 ?_
    rw [hp.2.1, hs.1]; decide
  refine ⟨⟨?_, hS, ?_, fun _ _ => rfl,
    due_parts hi.due (.inl rfl) (.inr hdue) (.inr (List.forall_mem_singleton.mpr hu.1.ge)), ?_, ?_, ?_, ?_, ?_, ?_⟩,
    [.put (pk c sizes0 (usV vs ++ [uAtt c (avgNew c a) us]) ((n : Int) + 1))], [(n : Int) + 1], rfl, ?_⟩
  · show PortA (a.items ++ [(n : Int) + 1]) (some u) q.time a.port
    cases hport : a.port with
    | init q0 => exact absurd hport (hnotinit q0)
    | W g => trivial
    | H g i0 q0 => rw [hport] at hp; exact hp
    | T t i0 q0 => rw [hport] at hp; exact hp
  · intro u' hu'; cases hu'; exact hu
  · show a.len + 1 = ((a.items ++ [(n : Int) + 1]).length : Int) - (if a.port.isW then 1 else 0)
    rw [hi.len, List.length_append, List.length_singleton, Nat.cast_add, Nat.cast_one]; ring
  · have hle : (a.recv : Int) ≤ ((a.recv + 1 : Nat) : Int) := Int.ofNat_le.mpr (Nat.le_succ _)
    intro id (hid : id ∈ a.port.inHand ++ (a.items ++ [(n : Int) + 1]))
    rcases List.mem_append.mp (List.append_assoc _ _ _ ▸ hid) with hid | hid
    · exact ⟨(hi.held id hid).1, (hi.held id hid).2.trans hle⟩
    · rw [List.mem_singleton.mp hid, hnr]
      exact ⟨Int.le_add_of_nonneg_left (Int.natCast_nonneg _), Int.le_refl _⟩
  · simp [A.arrive, hi.ulen]
  · simpa [A.arrive] using hG
  · simpa [A.arrive] using hi.sink
  · have := hi.nacc
    simp only [A.arrive, List.length_append, List.length_singleton]
    omega
  · have := lts_arrive hi hn hnr (szOf_succ n z sizes (hgi.sizes n _ rfl rfl)) (uAtt c (avgNew c a) us) S' u
    rw [hacc] at this
    simpa only [usV_append, usV_arr, outsV_arr, List.map_nil, List.map_cons, Bool.false_eq_true, if_false] using this

/-- **a refused arrival** (the generator then goes on to `S'`) -/
theorem stepOK_srcDrop (hi : AInv c sizes0 gaps0 a q.time vs) (n z : Nat) (gaps : List ℚ)
    (sizes : List Nat) (us : List ℚ) (S' : SPhase) (h : a.src = .wait n z gaps sizes us q) (hn : a.pend = none)
    (hdrop : dropQ c (avgNew c a) (uAtt c (avgNew c a) us) = true)
    (hN : Next c q n gaps sizes (usAfter c (avgNew c a) us) none S') :
    StepOK c sizes0 gaps0 a q vs { (a.arrive c S') with dropped := a.dropped + 1 }
      [.gen ((n : Int) + 1) q.time, .u (uAtt c (avgNew c a) us)] := by
  obtain ⟨hS, hdue, hG⟩ := hN.ok hi h (usAfter_length _ _)
  have hgi := hi.gen
  rw [h] at hgi
  refine ⟨⟨hi.port, ?_, hi.pend, hi.idle, due_parts hi.due (.inl rfl) (.inr hdue) (.inl rfl), hi.len, ?_, ?_, ?_, ?_, ?_⟩,
    [.put (pk c sizes0 (usV vs ++ [uAtt c (avgNew c a) us]) ((n : Int) + 1))], [], by simp [A.arrive], ?_⟩
  · show SrcA c a.pend q.time S'
    rw [hn]; exact hS
  · intro id hid
    have := hi.held id hid
    simp only [A.arrive]; push_cast; omega
  · simp [A.arrive, hi.ulen]
  · simpa [A.arrive] using hG
  · simpa [A.arrive] using hi.sink
  · have := hi.nacc
    show a.accIds.length + (a.dropped + 1) = a.recv + 1
    omega
  · have := lts_arrive hi hn (hgi.sent n rfl) (szOf_succ n z sizes (hgi.sizes n _ rfl rfl)) (uAtt c (avgNew c a) us) S' q
    rw [hdrop] at this
    simpa only [usV_append, usV_arr, outsV_arr, List.map_nil, if_true] using this

/-- **every configuration step is sound**: invariant kept, one unit of budget used, accepted by the LTS -/
theorem astep_sound {now : ℚ} {a' : A} {new : List (View ℚ)}
    (hi : AInv c sizes0 gaps0 a now vs) (hq : IsMin a q) (hs : AStep c sizes0 a q a' new) :
    AInv c sizes0 gaps0 a' q.time (vs ++ new) ∧ a'.mu + 1 ≤ a.mu ∧
    ∃ acts insI, a'.accIds = a.accIds ++ insI ∧
      Fifo.runActs (Port.dev (cfg c)) (toF c sizes0 a now (usV vs)) acts =
        .ok (toF c sizes0 a' q.time (usV (vs ++ new)), insI.map Int.toNat, (outsV new).map (·.1.toNat)) := by
  have hi' := hi.advance hq
  obtain ⟨acts0, h0⟩ := lts_advance (usV vs) hi hq
  have key : StepOK c sizes0 gaps0 a q vs a' new := by
    cases hs with
    | portInit g h =>
      have hp := hi'.port
      rw [h] at hp
      obtain ⟨-, -, hit, hpe⟩ := hp
      refine .silent (acts := [.init]) ⟨trivial, hi'.src, hi'.pend, fun _ hne => absurd hit hne,
        due_parts hi'.due (.inr (List.forall_mem_nil _)) (.inl rfl) (.inl rfl), ?_, ?_, hi'.ulen, hi'.gen, hi'.sink, hi'.nacc⟩
        rfl fun ulog => ?_
      · have := hi'.len
        simp only [h, PPhase.isW] at this
        simp [PPhase.isW, this, hit]
      · intro id hid
        apply hi'.held
        simpa [PPhase.inHand, h] using hid
      · rw [toF_init ulog h, Fifo.runActs_init (by rfl), Fifo.issueGet_nil (congrArg (List.map (pk c sizes0 ulog)) hit)]
        rfl
    | srcInit q' gaps sizes us h ht hp =>
      have hs := hi'.src
      rw [h] at hs
      obtain ⟨-, hq0, -, hg, hd, hpe⟩ := hs
      have hgi := hi'.gen
      rw [h] at hgi
      refine stepOK_src hi' ⟨hp, hg, hpe⟩ (List.forall_mem_singleton.mpr ((le_add_of_nonneg_right hd).trans_eq ht.symm))
        ⟨?_, hgi.sent, hgi.sizes, hgi.draws, hgi.ngen⟩
      rw [SPhase.pred, ht, hq0]
      exact hgi.law
    | srcDelayEnd q' gaps sizes us h hn ht =>
      have hgi := hi'.gen
      rw [h] at hgi
      refine stepOK_src hi' ht (List.forall_mem_singleton.mpr ht.1.ge)
        ⟨?_, fun _ hn => (nomatch hn), fun _ _ hn => (nomatch hn), Nat.zero_le _, hgi.ngen⟩
      have := hgi.law
      rw [SPhase.pred, emit_genNext_none 0 hn] at this
      exact this
    | srcDelayWait q' gaps sizes us gap z gaps' sizes' h hn ht =>
      have hs := hi'.src
      rw [h] at hs
      obtain ⟨-, hg, hpe⟩ := hs
      have hgi := hi'.gen
      rw [h] at hgi
      obtain ⟨rfl, rfl, hem⟩ := emit_genNext_some (c := c) 0 hn
      refine stepOK_src hi' ⟨ht.2, fun x hx => hg x (List.mem_cons_of_mem _ hx), fun u hu => (nomatch hpe ▸ hu)⟩
        (List.forall_mem_singleton.mpr ((le_add_of_nonneg_right (hg gap List.mem_cons_self)).trans_eq ht.1.symm))
        ⟨?_, hgi.sent, hgi.sizes, hgi.draws, hgi.ngen⟩
      have := hgi.law
      rw [SPhase.pred, hem] at this
      rw [SPhase.pred, ht.1]
      exact this
    | srcAccEnd u q' n z gaps sizes us h hn hd hacc hnx hu ht =>
      exact stepOK_srcAcc hi' hq u n z gaps sizes us _ h hn hacc hu (.inl ⟨hnx, q', rfl, ht⟩)
    | srcAccWait u q' n z gaps sizes us gap z' gaps' sizes' h hn hd hacc hnx hu ht ho =>
      exact stepOK_srcAcc hi' hq u n z gaps sizes us _ h hn hacc hu
        (.inr ⟨gap, z', gaps', sizes', q', hnx, rfl, ht.1, ht.2, fun _ hu' => Option.some.inj hu' ▸ ho⟩)
    | srcDropEnd q' n z gaps sizes us h hn hd hdrop hnx ht =>
      exact stepOK_srcDrop hi' n z gaps sizes us _ h hn hdrop (.inl ⟨hnx, q', rfl, ht⟩)
    | srcDropWait q' n z gaps sizes us gap z' gaps' sizes' h hn hd hdrop hnx ht =>
      exact stepOK_srcDrop hi' n z gaps sizes us _ h hn hdrop
        (.inr ⟨gap, z', gaps', sizes', q', hnx, rfl, ht.1, ht.2, fun _ hu' => nomatch hu'⟩)
    | putIdle h hw =>
      have hp := hi'.port
      refine .silent ⟨?_, (h ▸ hi'.src).unpend, fun _ hu => (nomatch hu), ?_,
        due_parts hi'.due (.inl rfl) (.inl rfl) (.inr (List.forall_mem_nil _)), hi'.len, hi'.held, hi'.ulen, hi'.gen, hi'.sink,
        hi'.nacc⟩ (acts := []) rfl fun _ => rfl
      · cases hport : a.port with
        | init q0 => rw [hport] at hp; rw [hp.2.2.2] at h; cases h
        | W g => trivial
        | H g id q0 => rw [hport] at hp; exact hp
        | T t id q0 => rw [hport] at hp; exact hp
      · intro hidle hne
        exfalso
        cases hport : a.port with
        | init q0 => rw [hport] at hp; exact hne hp.2.2.1
        | W g => rcases hw with hw | hw
                 · simp [hport, PPhase.getQ] at hw
                 · exact hne hw
        | H g id q0 => simp [hport, PPhase.idle] at hidle
        | T t id q0 => simp [hport, PPhase.idle] at hidle
    | putHand q' g i is h hw hit ht =>
      refine .silent (acts := [.handoff]) ⟨ht, (h ▸ hi'.src).unpend, fun _ hu => (nomatch hu), fun hidle => (nomatch hidle),
        due_parts hi'.due (.inr (List.forall_mem_singleton.mpr ht.1.ge)) (.inl rfl) (.inr (List.forall_mem_nil _)), ?_, ?_,
        hi'.ulen, hi'.gen, hi'.sink, hi'.nacc⟩ rfl fun ulog => ?_
      · have := hi'.len
        simp only [hw, hit, PPhase.isW, List.length_cons] at this
        simp only [PPhase.isW]
        rw [this]; push_cast; simp
      · intro id hid
        apply hi'.held
        simp only [PPhase.inHand, hw, hit, List.nil_append, List.singleton_append] at hid ⊢
        exact hid
      · rw [toF_W ulog hw, Fifo.runActs_handoff (by rfl) (congrArg (List.map (pk c sizes0 ulog)) hit)]
        rfl
    | serveTx q' g t id h hr ht =>
      have htx : 0 ≤ txTime sizes0 c.rate id := by
        unfold txTime; rw [Num.ofNat_rat]; exact div_nonneg (Nat.cast_nonneg _) (le_of_lt hr)
      refine .silent (acts := [.resume 0 0]) ⟨ht.2, hi'.src, hi'.pend, fun hidle => (nomatch hidle),
        due_parts hi'.due (.inr (List.forall_mem_singleton.mpr ((le_add_of_nonneg_right htx).trans_eq ht.1.symm))) (.inl rfl)
          (.inl rfl), ?_, ?_, hi'.ulen, hi'.gen, hi'.sink, hi'.nacc⟩ rfl fun ulog => ?_
      · have := hi'.len
        simpa [h, PPhase.isW] using this
      · intro x hx
        apply hi'.held
        simpa [h, PPhase.inHand] using hx
      · rw [toF_H ulog h, Port.runActs_tx 0 0 (by rfl) (zero_eq' ▸ hr : Num.zero < (cfg c).rate)]
        simp only [toF, ht.1]
        rfl
    | serveNowIdle g g' id h hr hit =>
      refine .noDraw (acts := [.resume 0 0]) (hi'.departIdle (by rw [h]; rfl) hit g' id) rfl rfl fun ulog => ?_
      rw [toF_H ulog h, Port.runActs_now 0 0 (by rfl) (zero_eq' ▸ hr : ¬ Num.zero < (cfg c).rate),
        Fifo.issueGet_nil (congrArg (List.map (pk c sizes0 ulog)) hit)]
      rfl
    | serveNowNext q' g g' id i is h hr hit ht =>
      refine .noDraw (acts := [.resume 0 0]) (hi'.departNext (by rw [h]; rfl) hit g' id ht) rfl rfl fun ulog => ?_
      rw [toF_H ulog h, Port.runActs_now 0 0 (by rfl) (zero_eq' ▸ hr : ¬ Num.zero < (cfg c).rate),
        Fifo.issueGet_cons (congrArg (List.map (pk c sizes0 ulog)) hit)]
      rfl
    | fireIdle t g id h hit =>
      refine .noDraw (acts := [.fire]) (hi'.departIdle (by rw [h]; rfl) hit g id) rfl rfl fun ulog => ?_
      rw [toF_T ulog h, Port.runActs_fire (by rfl), Fifo.issueGet_nil (congrArg (List.map (pk c sizes0 ulog)) hit)]
      rfl
    | fireNext q' t g id i is h hit ht =>
      refine .noDraw (acts := [.fire]) (hi'.departNext (by rw [h]; rfl) hit g id ht) rfl rfl fun ulog => ?_
      rw [toF_T ulog h, Port.runActs_fire (by rfl), Fifo.issueGet_cons (congrArg (List.map (pk c sizes0 ulog)) hit)]
      rfl
    | srcEnd h =>
      have hg := hi'.gen
      rw [h] at hg
      exact stepOK_src hi' trivial (fun _ hx => (nomatch hx))
        ⟨hg.law, fun _ hn => (nomatch hn), fun _ _ hn => (nomatch hn), Nat.zero_le _, hg.ngen⟩
  obtain ⟨h1, acts, insI, h3, h4⟩ := key
  refine ⟨h1, hs.mu_lt, acts0 ++ acts, insI, h3, ?_⟩
  have := Fifo.runActs_append _ _ _ _ _ _ _ _ _ _ h0 h4
  simpa using this

end REDK
