import OnlVerif.Lemmas.WFQKCfg
import OnlVerif.Lemmas.WFQKCells
import OnlVerif.Lemmas.VCKStep
/-!
# The WFQ scheduler on the kernel model: the kernel steps

Each kernel step is computed on the configuration `cfgOf … a s st0` by the machine of `Lemmas/KProcDefs.lean` (what `put` and the
bookkeeping of `run` do with the cells: `Lemmas/WFQKCells.lean`), and `StepTo.of_ginv` reads the configuration `a'` of the
state after the step off the result.
-/

namespace WFQK
open WFQOnK
open KProc hiding upd

variable {N scale F : Nat} {flow size : Int → Nat} {cfg : WfqCfg ℚ}
variable {s : KS} {a : A} {q : QEntry ℚ} {rest : List (QEntry ℚ)} {st0 : St}

/-- the kernel step on `s` processes the entry `q`, ends normally in a state with configuration `a'` at the instant
`q.time`, and appends `new` to the history -/
abbrev StepTo (N scale F : Nat) (flow size : Int → Nat) (cfg : WfqCfg ℚ) (fuel : Nat) (s : KS) (q : QEntry ℚ) (a' : A)
    (new : List (HEv ℚ)) : Prop :=
  ∃ s', step (prog F flow size cfg N scale) (fuel + 1) s = .ok s' ∧ KInv N scale size cfg.rate F s' a' ∧ s'.now = q.time ∧
    histOf s'.trace = histOf s.trace ++ new

/-- a state that is the configuration `c'` the machine has computed has the configuration `a'` that `c'` displays -/
theorem KInv.of_ginv {rate : ℚ} {s' : KS} {c' : Cfg St} {a' : A} (hg : GInv s' c')
    (ht : c'.threads = runThread N scale size rate a'.run :: (srcThreads st0 a'.src ++ sendThreads a'.run))
    (hp : c'.pend = a'.pend.map (·, 0))
    (hs : ∀ r, c'.stores r =
      if r = 0 then some { prio := true, getQ := a'.run.getQ, items := a'.items.map (codeOf N scale) } else none)
    (hl : c'.loose = []) (hcur : c'.cur = none) (hr : a'.run.OK) (hc : Cells F c'.reg.cells a') :
    KInv N scale size rate F s' a' := by
  have hreg := hg.reg
  have hc' : c' = cfgOf N scale size rate a' s' st0 := hg.cfg_eq ht hp hs hl hcur
  exact ⟨hr, ⟨st0, hc' ▸ hg⟩, by rw [hreg] at hc; exact hc⟩

theorem StepTo.of_ginv {fuel : Nat} {c' : Cfg St} {a' : A} {new : List (HEv ℚ)}
    (h : ∃ s', step (prog F flow size cfg N scale) (fuel + 1) s = .ok s' ∧ GInv s' c')
    (ht : c'.threads = runThread N scale size cfg.rate a'.run :: (srcThreads st0 a'.src ++ sendThreads a'.run))
    (hp : c'.pend = a'.pend.map (·, 0))
    (hs : ∀ r, c'.stores r =
      if r = 0 then some { prio := true, getQ := a'.run.getQ, items := a'.items.map (codeOf N scale) } else none)
    (hl : c'.loose = []) (hcur : c'.cur = none) (hr : a'.run.OK) (hc : Cells F c'.reg.cells a')
    (hnow : c'.reg.now = q.time) (hh : histOf c'.reg.trace = histOf s.trace ++ new) :
    StepTo N scale F flow size cfg fuel s q a' new := by
  obtain ⟨s', hstep, hg⟩ := h
  refine ⟨s', hstep, .of_ginv hg ht hp hs hl hcur hr hc, ?_, ?_⟩
  · rw [hg.reg] at hnow; exact hnow
  · rw [hg.reg] at hh; exact hh

/-- only the attribute fields of a configuration matter -/
theorem Cells.frame {g : Nat → Val} (h : Cells F g a) (r : RPhase) (sp : SPhase) (pe : List (QEntry ℚ)) (it : List PutRec) :
    Cells F g { a with run := r, src := sp, pend := pe, items := it } :=
  h.congr rfl rfl rfl rfl rfl rfl rfl rfl rfl rfl

attribute [vck] prog WFQOnK.runLoop runServe sendBegin sendEnd loadKey addInt loadInt srcLoop putStore cfgOf pid_runThread pst_eq

/-! ## the steps of `run` and of its sender -/

/-- `run` starts: it blocks on the empty store -/
theorem kstep_runInit (fuel : Nat) (hk : KInv N scale size cfg.rate F s a) (hph : a.run = .init q) (hit : a.items = [])
    (hp : popMin s.agenda = some (q, rest)) :
    StepTo N scale F flow size cfg fuel s q { a with run := .W s.events.size } [.get q.time] := by
  obtain ⟨hr, ⟨st0, hg⟩, hc⟩ := hk
  exact .of_ginv (st0 := st0) (hg.step_resume (prog F flow size cfg N scale) fuel List.mem_cons_self (by rw [hph]; rfl)
      (fun _ _ _ hh => by rw [hph] at hh; nomatch hh) hp
      (by heval [vck, hph, hit, runThread, sendThreads, RPhase.getQ, skip src_ne0]; rfl))
    rfl rfl (fun r => by heval [hit]; split <;> rfl) rfl rfl trivial (hc.frame _ _ _ _) rfl (by simp [histOf_push, Regs.of])

/-- the `StoreGet` is processed: `run` has the item, decodes the packet, reads the clock off `last_time` and spawns
`send_packet(packet)` -/
theorem kstep_pktResume (fuel : Nat) (hk : KInv N scale size cfg.rate F s a) {g : EvId} {w : PutRec} (hph : a.run = .H g w q)
    (hdec : itemPkt N (codeOf N scale w) = w.1) (hlast : a.last = q.time) (hp : popMin s.agenda = some (q, rest)) :
    StepTo N scale F flow size cfg fuel s q
      { a with run := .S s.events.size w.1 ⟨q.time, URGENT, s.eid, s.events.size + 1⟩ } [.serve w.1 q.time] := by
  obtain ⟨hr, ⟨st0, hg⟩, hc⟩ := hk
  have h0n := zero_ne_size hg
  have hl : (Regs.of s).cells cLast = TimeCell.enc q.time := hlast ▸ hc.cl
  exact .of_ginv (st0 := st0) (hg.step_resume (prog F flow size cfg N scale) fuel List.mem_cons_self (by rw [hph]; rfl)
      (fun _ _ _ hh => by rw [hph] at hh; cases hh; rfl) hp
      (by heval [vck, hph, runThread, sendThreads, RPhase.getQ, skip src_ne0, skip (src_lt hg), hdec, hl, h0n, h0n.symm,
            beq_false_of_ne h0n]
          rfl))
    rfl rfl (fun _ => rfl) rfl rfl rfl (hc.frame _ _ _ _) rfl (by simp [histOf_push, Regs.of])

/-- the `Initialize` event of the sender: `current_packet = packet`, then it sleeps for `8·size/rate` -/
theorem kstep_sendInit (fuel : Nat) (hk : KInv N scale size cfg.rate F s a) (hrate : 0 < cfg.rate) {p : EvId} {id : Int}
    (hph : a.run = .S p id q) (hp : popMin s.agenda = some (q, rest)) :
    StepTo N scale F flow size cfg fuel s q
      { a with run := .T p s.events.size id ⟨q.time + txTime size cfg.rate id, NORMAL, s.eid, s.events.size⟩, cur := some id }
      [] := by
  obtain ⟨hr, ⟨st0, hg⟩, hc⟩ := hk
  have hd := txTime_nonneg (size := size) hrate id
  have hth : (⟨p, .sendStart id, .init q, some [.resume 0]⟩ : Thread St) ∈ sendThreads a.run := by
    rw [hph]; exact List.mem_singleton_self _
  obtain ⟨h0p, hM⟩ : 0 ≠ p ∧ _ := send_ne hg hth
  exact .of_ginv (st0 := st0) (hg.step_resume (prog F flow size cfg N scale) fuel (mem_sendTh hth) rfl
      (fun _ _ _ hh => nomatch hh) hp (by heval [vck, hph, runThread, sendThreads, RPhase.getQ, hd, h0p, skip hM]; rfl))
    rfl rfl (fun _ => rfl) rfl rfl rfl ((hc.set_cur (some id)).frame _ _ _ _) rfl
    (by simp [histOf_push, Regs.of])

/-- the sender's timeout: the counters go down, `out.put(packet)`, `current_packet = None`; the generator returns and its
process event is triggered -/
theorem kstep_sendFire (fuel : Nat) (hk : KInv N scale size cfg.rate F s a) {p t : EvId} {id : Int} (hph : a.run = .T p t id q)
    (hfid : flow id < F) (hp : popMin s.agenda = some (q, rest)) :
    StepTo N scale F flow size cfg fuel s q
      { a with run := .F p id ⟨q.time, NORMAL, s.eid, p⟩, cnt := upd a.cnt (flow id) (a.cnt (flow id) + -1),
               byt := upd a.byt (flow id) (a.byt (flow id) + -(size id : Int)), cur := none }
      [.out id q.time] := by
  obtain ⟨hr, ⟨st0, hg⟩, (hc : Cells F (Regs.of s).cells a)⟩ := hk
  have hth : (⟨p, .sendTx id, .sleep q, some [.resume 0]⟩ : Thread St) ∈ sendThreads a.run := by
    rw [hph]; exact List.mem_singleton_self _
  obtain ⟨h0p, hM⟩ : 0 ≠ p ∧ _ := send_ne hg hth
  have hne : (cBytes (flow id) = cCount (flow id)) = False :=
    eq_false fun e => nomatch Cell.addr_inj (c := .bytes _) (c' := .count _) e
  exact .of_ginv (st0 := st0) (hg.step_resume (prog F flow size cfg N scale) fuel (mem_sendTh hth) rfl
      (fun _ _ _ hh => nomatch hh) hp
      (by heval [vck, hph, runThread, sendThreads, RPhase.getQ, hc.cc _ hfid, hc.cb _ hfid, hne, h0p, beq_false_of_ne h0p,
            skip hM]
          rfl))
    rfl rfl (fun _ => rfl) rfl rfl rfl
    ((((hc.set_cnt (flow id) _).set_byt (flow id) _).set_cur none).frame _ _ _ _) rfl (by simp [histOf_push, Regs.of])

/-- the configuration in which `run` starts its bookkeeping when the process event `q` of its sender is processed -/
def doneCfg (N scale : Nat) (size : Int → Nat) (rate : ℚ) (a : A) (s : KS) (st0 : St) (q : QEntry ℚ) : Cfg St :=
  hbegin { cfgOf N scale size rate a s st0 with threads := runThread N scale size rate a.run :: (srcThreads st0 a.src ++ []) }
    0 q (.value .none)

/-- the process event of the sender resumes `run`, which does its bookkeeping (`runDone`) -/
theorem hfinish_run (hg : GInv s (cfgOf N scale size cfg.rate a s st0)) {p : EvId} {id : Int} (hph : a.run = .F p id q)
    (hth : (⟨p, .sendTx id, .ending q .none, some [.resume 0]⟩ : Thread St) ∈ sendThreads a.run) :
    hfinish (prog F flow size cfg N scale) (cfgOf N scale size cfg.rate a s st0) ⟨p, .sendTx id, .ending q .none, some [.resume 0]⟩
        q .none =
      (hrun 0 (runDone F flow cfg q.time id) ((doneCfg N scale size cfg.rate a s st0 q).wr (Regs.of s).cells
        (s.trace.push (.resumed 0 (.value .none) q.time)))).bind fun ct =>
          (hafter ct.1 0 ct.2).map fun c' => { c' with cur := none } := by
  obtain ⟨h0p, hM⟩ : 0 ≠ p ∧ _ := send_ne hg hth
  heval [vck, doneCfg, hph, runThread, sendThreads, h0p, skip src_ne0, skip hM]
  rfl

section done
variable (fuel : Nat) (hk : KInv N scale size cfg.rate F s a) {p : EvId} {id0 : Int} (hph : a.run = .F p id0 q)
  (hcfg : CfgOK F cfg) (hfid : flow id0 < F) (hfs : a.fset = true) (hws : a.ws F cfg ≠ 0) {n : Int}
  (hcls : a.cls (flow id0) = some n) (hact : n - 1 = 0 → a.act (flow id0) = true) (hp : popMin s.agenda = some (q, rest))
include hk hph hcfg hfid hfs hws hcls hact hp

/-- the process event of the sender: `run` does its bookkeeping, goes on and blocks on the empty store -/
theorem kstep_doneBlock (hit : a.items = []) :
    StepTo N scale F flow size cfg fuel s q { a.afterDone F flow cfg q.time id0 with run := .W s.events.size }
      [.done (a.afterDone F flow cfg q.time id0).vtime, .get q.time] := by
  obtain ⟨hr, ⟨st0, hg⟩, (hc : Cells F (Regs.of s).cells a)⟩ := hk
  have hth : (⟨p, .sendTx id0, .ending q .none, some [.resume 0]⟩ : Thread St) ∈ sendThreads a.run := by
    rw [hph]; exact List.mem_singleton_self _
  obtain ⟨g', heq, hcs⟩ := hrun_runDone (p := 0) (c := doneCfg N scale size cfg.rate a s st0 q)
    (tr := s.trace.push (.resumed 0 (.value .none) q.time)) a q.time id0 hc hcfg hfid hfs hws hcls hact
  exact .of_ginv (st0 := st0) (hg.step_finish (prog F flow size cfg N scale) fuel (mem_sendTh hth) rfl hp
      (by rw [hfinish_run hg hph hth, heq]
          heval [vck, doneCfg, hph, hit, runThread, RPhase.getQ, skip src_ne0]
          rfl))
    rfl rfl (fun r => by heval [hit, A.afterDone]; split <;> rfl) rfl rfl trivial (hcs.frame _ _ _ _) rfl
    (by simp [histOf_push])

/-- the process event of the sender: `run` does its bookkeeping, goes on and is handed the least waiting packet at once -/
theorem kstep_doneHit {w : PutRec} (hw : IsLeast N scale a.items w)
    (hinj : ∀ x ∈ a.items, codeOf N scale x = codeOf N scale w → x = w) :
    StepTo N scale F flow size cfg fuel s q
      { a.afterDone F flow cfg q.time id0 with
        run := .H s.events.size w ⟨q.time, NORMAL, s.eid, s.events.size⟩, items := a.items.erase w }
      [.done (a.afterDone F flow cfg q.time id0).vtime, .get q.time] := by
  obtain ⟨hr, ⟨st0, hg⟩, (hc : Cells F (Regs.of s).cells a)⟩ := hk
  have hth : (⟨p, .sendTx id0, .ending q .none, some [.resume 0]⟩ : Thread St) ∈ sendThreads a.run := by
    rw [hph]; exact List.mem_singleton_self _
  obtain ⟨g', heq, hcs⟩ := hrun_runDone (p := 0) (c := doneCfg N scale size cfg.rate a s st0 q)
    (tr := s.trace.push (.resumed 0 (.value .none) q.time)) a q.time id0 hc hcfg hfid hfs hws hcls hact
  exact .of_ginv (st0 := st0) (hg.step_finish (prog F flow size cfg N scale) fuel (mem_sendTh hth) rfl hp
      (by rw [hfinish_run hg hph hth, heq]
          heval [vck, doneCfg, hph, runThread, RPhase.getQ, skip src_ne0, listMin_codes hw, erase_codes hinj]
          rfl))
    rfl rfl (fun _ => stores_upd ..) rfl rfl rfl (hcs.frame _ _ _ _) rfl
    (by simp [histOf_push])

end done

/-! ## the steps of the source -/

/-- the `Initialize` event of the source: it sleeps until the first arrival, or returns at once -/
theorem kstep_srcInit (fuel : Nat) (hk : KInv N scale size cfg.rate F s a) {arr : List (ℚ × Int)} (hph : a.src = .init q arr)
    (hgap : ∀ x ∈ arr, 0 ≤ x.1) (hp : popMin s.agenda = some (q, rest)) :
    StepTo N scale F flow size cfg fuel s q { a with src := srcNext q.time s.eid s.events.size arr } [] := by
  obtain ⟨hr, ⟨st0, hg⟩, hc⟩ := hk
  have hS := send_ne2 hg (by rw [hph]; rfl) rfl
  have hth : (⟨2, .src q.time none arr, .init q, some []⟩ : Thread St) ∈ srcThreads st0 a.src := by
    rw [hph]; exact List.mem_singleton_self _
  rcases arr with _ | ⟨⟨gap, id⟩, r⟩
  · exact .of_ginv (st0 := .src q.time none []) (hg.step_resume (prog F flow size cfg N scale) fuel (mem_srcTh hth) rfl
        (fun _ _ _ hh => nomatch hh) hp (by heval [vck, hph, srcThreads, skip hS]; rfl))
      rfl rfl (fun _ => rfl) rfl rfl hr (hc.frame _ _ _ _) rfl (by simp [histOf_push, Regs.of])
  · exact .of_ginv (st0 := st0) (hg.step_resume (prog F flow size cfg N scale) fuel (mem_srcTh hth) rfl
        (fun _ _ _ hh => nomatch hh) hp (by heval [vck, hph, srcThreads, skip hS, hgap _ List.mem_cons_self]; rfl))
      rfl rfl (fun _ => rfl) rfl rfl hr (hc.frame _ _ _ _) rfl (by simp [histOf_push, Regs.of])

/-- the source's timeout: `put(packet)` updates the virtual time, stamps the packet, counts it and puts it into the store
(the `StorePut` event is triggered); then the source sleeps until the next arrival or returns -/
theorem kstep_srcPut (fuel : Nat) (hk : KInv N scale size cfg.rate F s a) {id : Int} {arr : List (ℚ × Int)}
    (hph : a.src = .wait id arr q) (hcfg : CfgOK F cfg) (hfid : flow id < F)
    (hfs : a.total F ≠ 0 → a.fset = true) (hws : a.total F ≠ 0 → a.ws F cfg ≠ 0)
    (hrw : cfg.rate * wOf cfg (flow id) ≠ 0) (hgap : ∀ x ∈ arr, 0 ≤ x.1) (hp : popMin s.agenda = some (q, rest)) :
    StepTo N scale F flow size cfg fuel s q
      { a.afterPut size F flow cfg q.time id with
        src := srcNext q.time (s.eid + 1) (s.events.size + 1) arr
        pend := a.pend ++ [⟨q.time, NORMAL, s.eid, s.events.size⟩] }
      [.put id q.time, .vtime (a.advV F cfg q.time), .stamp (putRec size F flow cfg a q.time id).2.2] := by
  obtain ⟨hr, ⟨st0, hg⟩, (hc : Cells F (Regs.of s).cells a)⟩ := hk
  have hS := send_ne2 hg (by rw [hph]; rfl) rfl
  have hth : (⟨2, .src q.time (some id) arr, .sleep q, some []⟩ : Thread St) ∈ srcThreads st0 a.src := by
    rw [hph]; exact List.mem_singleton_self _
  obtain ⟨g', heq, hcs⟩ := hrun_wfqPut (N := N) (scale := scale) (size := size) (p := 2)
    (c := hbegin (cfgOf N scale size cfg.rate a s st0) 2 q (.value .none)) (tr := s.trace.push (.resumed 2 (.value .none) q.time))
    a q.time id (srcLoop q.time arr) hc hcfg hfid hfs hws hrw
  have he : hresume (prog F flow size cfg N scale) (cfgOf N scale size cfg.rate a s st0)
      ⟨2, .src q.time (some id) arr, .sleep q, some []⟩ =
      (hrun 2 (wfqPut F flow size cfg N scale q.time id (srcLoop q.time arr))
        ((hbegin (cfgOf N scale size cfg.rate a s st0) 2 q (.value .none)).wr (Regs.of s).cells
          (s.trace.push (.resumed 2 (.value .none) q.time)))).bind fun ct =>
        (hafter ct.1 2 ct.2).map fun c' => { c' with cur := none } := rfl
  rcases arr with _ | ⟨⟨gap, id'⟩, r⟩
  · exact .of_ginv (st0 := .src q.time (some id) []) (hg.step_resume (prog F flow size cfg N scale) fuel (mem_srcTh hth) rfl
        (fun _ _ _ hh => nomatch hh) hp (by rw [he, heq]; heval [vck, hph, srcThreads, skip hS]; rfl))
      rfl (by simp [Regs.of]) (fun r => by heval [List.map_append, A.afterPut]; split <;> rfl) rfl rfl hr
      (hcs.frame _ _ _ _) rfl (by simp [histOf_push])
  · exact .of_ginv (st0 := st0) (hg.step_resume (prog F flow size cfg N scale) fuel (mem_srcTh hth) rfl
        (fun _ _ _ hh => nomatch hh) hp
        (by rw [he, heq]; heval [vck, hph, srcThreads, skip hS, hgap _ List.mem_cons_self]; rfl))
      rfl (by simp [Regs.of]) (fun r => by heval [List.map_append, A.afterPut]; split <;> rfl) rfl rfl hr
      (hcs.frame _ _ _ _) rfl (by simp [histOf_push])

/-- the process event of the finished source: nobody waits for it -/
theorem kstep_srcEnd (fuel : Nat) (hk : KInv N scale size cfg.rate F s a) (hph : a.src = .ending q)
    (hp : popMin s.agenda = some (q, rest)) : StepTo N scale F flow size cfg fuel s q { a with src := .done } [] := by
  obtain ⟨hr, ⟨st0, hg⟩, hc⟩ := hk
  have hth : (⟨2, st0, .ending q .none, some []⟩ : Thread St) ∈ srcThreads st0 a.src := by
    rw [hph]; exact List.mem_singleton_self _
  exact .of_ginv (st0 := st0) (hg.step_finish (prog F flow size cfg N scale) fuel (mem_srcTh hth) rfl hp
      (by heval [vck, hph, srcThreads, skip (send_ne2 hg (by rw [hph]; rfl) rfl)]; rfl))
    rfl rfl (fun _ => rfl) rfl rfl hr (hc.frame _ _ _ _) rfl (by simp [Regs.of])

/-! ## the pending `StorePut` events -/

/-- a `StorePut` event is processed (`_trigger_get`) and nobody can be served: nothing happens -/
theorem kstep_pendNoop (fuel : Nat) (hk : KInv N scale size cfg.rate F s a) {l1 l2 : List (QEntry ℚ)}
    (hpe : a.pend = l1 ++ q :: l2) (hno : ¬ (a.items ≠ [] ∧ ∃ g, a.run = .W g)) (hp : popMin s.agenda = some (q, rest)) :
    StepTo N scale F flow size cfg fuel s q { a with pend := l1 ++ l2 } [] := by
  obtain ⟨hr, ⟨st0, hg⟩, hc⟩ := hk
  have he : hpend (cfgOf N scale size cfg.rate a s st0) (q, 0) ((l1 ++ l2).map fun x => (x, 0)) =
      some { cfgOf N scale size cfg.rate a s st0 with
        reg := { Regs.of s with now := q.time }, pend := (l1 ++ l2).map fun x => (x, 0) } := by
    cases hrun : a.run with
    | W g =>
      have hit : a.items = [] := by
        by_contra hc
        exact hno ⟨hc, g, hrun⟩
      heval [vck, hrun, hit, runThread, RPhase.getQ]
    | _ => heval [vck, hrun, RPhase.getQ]
  exact .of_ginv (st0 := st0) (hg.step_pend (prog F flow size cfg N scale) (fuel + 1) (u := (q, 0)) (pend_perm hpe) hp he)
    rfl rfl (fun _ => rfl) rfl rfl hr (hc.frame _ _ _ _) rfl (by simp [Regs.of])

/-- a `StorePut` event is processed while `run` is blocked on the store: the least item is handed over, the `StoreGet`
event of `run` is triggered -/
theorem kstep_pendHand (fuel : Nat) (hk : KInv N scale size cfg.rate F s a) {g : EvId} {w : PutRec} {l1 l2 : List (QEntry ℚ)}
    (hpe : a.pend = l1 ++ q :: l2) (hph : a.run = .W g) (hw : IsLeast N scale a.items w)
    (hinj : ∀ x ∈ a.items, codeOf N scale x = codeOf N scale w → x = w) (hp : popMin s.agenda = some (q, rest)) :
    StepTo N scale F flow size cfg fuel s q
      { a with pend := l1 ++ l2, run := .H g w ⟨q.time, NORMAL, s.eid, g⟩, items := a.items.erase w } [] := by
  obtain ⟨hr, ⟨st0, hg⟩, hc⟩ := hk
  exact .of_ginv (st0 := st0) (hg.step_pend (prog F flow size cfg N scale) (fuel + 1) (u := (q, 0)) (pend_perm hpe) hp
      (by heval [vck, hph, runThread, sendThreads, RPhase.getQ, skip src_ne0, listMin_codes hw, erase_codes hinj]; rfl))
    rfl rfl (fun _ => stores_upd ..) rfl rfl rfl (hc.frame _ _ _ _) rfl (by simp [Regs.of])

end WFQK
