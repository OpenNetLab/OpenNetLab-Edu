import OnlVerif.Lemmas.DRRKDefs
/-!
# The DRR scheduler on the kernel model: what each kernel operation of the program does

What the calls that only touch the attribute cells and the trace do to a kernel state, and that the attribute cells are
pairwise different (`drrk`).
-/

namespace DRRK
open DRROnK
open TimerK (lookup)

theorem getD_set_same (a : Array ResRec) (r : Nat) (x : ResRec) (h : r < a.size) :
    (a.setIfInBounds r x).getD r default = x := by
  rw [getD_setIfInBounds]; simp [h]

@[simp] theorem isStoreKind_store : isStoreKind .store = true := rfl
@[simp] theorem isPrioKind_store : isPrioKind .store = false := rfl
@[simp] theorem store_beq_preemptive : (ResKind.store == ResKind.preemptive) = false := rfl
@[simp] theorem store_beq_fstore : (ResKind.store == ResKind.fstore) = false := rfl

theorem doCall_load (s : KS) (self : EvId) (k : Nat) : doCall s self (.load k) = (s, .val (lookup s.shared k)) := rfl

theorem doCall_store (s : KS) (self : EvId) (k : Nat) (v : Val) :
    doCall s self (.store k v) = ({ s with shared := (k, v) :: s.shared.filter (·.1 != k) }, .unit) := rfl

theorem doCall_log (s : KS) (self : EvId) (what : String) (i : Int) :
    doCall s self (.log what (.int i)) = ({ s with trace := s.trace.push (.log self what (.int i) s.now) }, .unit) := rfl

theorem doCall_log_none (s : KS) (self : EvId) (what : String) :
    doCall s self (.log what .none) = ({ s with trace := s.trace.push (.log self what .none s.now) }, .unit) := rfl

export KExec (doCall_spawn)

theorem cell_ne (i j f f' : Nat) (h : i % 7 ≠ j % 7) : (i + 7 * f = j + 7 * f') = False := by
  simp only [eq_iff_iff, iff_false]; omega
theorem cell_inj (i f f' : Nat) : (i + 7 * f = i + 7 * f') = (f = f') := by
  simp only [eq_iff_iff]; omega
theorem low_ne_cell (i j f : Nat) (h : i < j) : (i = j + 7 * f) = False := by
  simp only [eq_iff_iff, iff_false]; omega
theorem cell_ne_low (i j f : Nat) (h : i < j) : (j + 7 * f = i) = False := by
  simp only [eq_iff_iff, iff_false]; omega

@[drrk] theorem cRecv_ne_cCur : (cRecv = cCur) = False := eq_false (by decide)
@[drrk] theorem cCur_ne_cRecv : (cCur = cRecv) = False := eq_false (by decide)
@[drrk] theorem cRecv_ne_cCount (f' : Nat) : (cRecv = cCount f') = False := low_ne_cell 0 10 f' (by decide)
@[drrk] theorem cCount_ne_cRecv (f : Nat) : (cCount f = cRecv) = False := cell_ne_low 0 10 f (by decide)
@[drrk] theorem cRecv_ne_cBytes (f' : Nat) : (cRecv = cBytes f') = False := low_ne_cell 0 11 f' (by decide)
@[drrk] theorem cBytes_ne_cRecv (f : Nat) : (cBytes f = cRecv) = False := cell_ne_low 0 11 f (by decide)
@[drrk] theorem cRecv_ne_cCls (f' : Nat) : (cRecv = cCls f') = False := low_ne_cell 0 12 f' (by decide)
@[drrk] theorem cCls_ne_cRecv (f : Nat) : (cCls f = cRecv) = False := cell_ne_low 0 12 f (by decide)
@[drrk] theorem cRecv_ne_cDef (f' : Nat) : (cRecv = cDef f') = False := low_ne_cell 0 13 f' (by decide)
@[drrk] theorem cDef_ne_cRecv (f : Nat) : (cDef f = cRecv) = False := cell_ne_low 0 13 f (by decide)
@[drrk] theorem cRecv_ne_cHol (f' : Nat) : (cRecv = cHol f') = False := low_ne_cell 0 14 f' (by decide)
@[drrk] theorem cHol_ne_cRecv (f : Nat) : (cHol f = cRecv) = False := cell_ne_low 0 14 f (by decide)
@[drrk] theorem cRecv_ne_cQuant (f' : Nat) : (cRecv = cQuant f') = False := low_ne_cell 0 15 f' (by decide)
@[drrk] theorem cQuant_ne_cRecv (f : Nat) : (cQuant f = cRecv) = False := cell_ne_low 0 15 f (by decide)
@[drrk] theorem cRecv_ne_cForf (f' : Nat) : (cRecv = cForf f') = False := low_ne_cell 0 16 f' (by decide)
@[drrk] theorem cForf_ne_cRecv (f : Nat) : (cForf f = cRecv) = False := cell_ne_low 0 16 f (by decide)
@[drrk] theorem cCur_ne_cCount (f' : Nat) : (cCur = cCount f') = False := low_ne_cell 1 10 f' (by decide)
@[drrk] theorem cCount_ne_cCur (f : Nat) : (cCount f = cCur) = False := cell_ne_low 1 10 f (by decide)
@[drrk] theorem cCur_ne_cBytes (f' : Nat) : (cCur = cBytes f') = False := low_ne_cell 1 11 f' (by decide)
@[drrk] theorem cBytes_ne_cCur (f : Nat) : (cBytes f = cCur) = False := cell_ne_low 1 11 f (by decide)
@[drrk] theorem cCur_ne_cCls (f' : Nat) : (cCur = cCls f') = False := low_ne_cell 1 12 f' (by decide)
@[drrk] theorem cCls_ne_cCur (f : Nat) : (cCls f = cCur) = False := cell_ne_low 1 12 f (by decide)
@[drrk] theorem cCur_ne_cDef (f' : Nat) : (cCur = cDef f') = False := low_ne_cell 1 13 f' (by decide)
@[drrk] theorem cDef_ne_cCur (f : Nat) : (cDef f = cCur) = False := cell_ne_low 1 13 f (by decide)
@[drrk] theorem cCur_ne_cHol (f' : Nat) : (cCur = cHol f') = False := low_ne_cell 1 14 f' (by decide)
@[drrk] theorem cHol_ne_cCur (f : Nat) : (cHol f = cCur) = False := cell_ne_low 1 14 f (by decide)
@[drrk] theorem cCur_ne_cQuant (f' : Nat) : (cCur = cQuant f') = False := low_ne_cell 1 15 f' (by decide)
@[drrk] theorem cQuant_ne_cCur (f : Nat) : (cQuant f = cCur) = False := cell_ne_low 1 15 f (by decide)
@[drrk] theorem cCur_ne_cForf (f' : Nat) : (cCur = cForf f') = False := low_ne_cell 1 16 f' (by decide)
@[drrk] theorem cForf_ne_cCur (f : Nat) : (cForf f = cCur) = False := cell_ne_low 1 16 f (by decide)
@[drrk] theorem cCount_inj (f f' : Nat) : (cCount f = cCount f') = (f = f') := cell_inj 10 f f'
@[drrk] theorem cCount_ne_cBytes (f f' : Nat) : (cCount f = cBytes f') = False := cell_ne 10 11 f f' (by decide)
@[drrk] theorem cCount_ne_cCls (f f' : Nat) : (cCount f = cCls f') = False := cell_ne 10 12 f f' (by decide)
@[drrk] theorem cCount_ne_cDef (f f' : Nat) : (cCount f = cDef f') = False := cell_ne 10 13 f f' (by decide)
@[drrk] theorem cCount_ne_cHol (f f' : Nat) : (cCount f = cHol f') = False := cell_ne 10 14 f f' (by decide)
@[drrk] theorem cCount_ne_cQuant (f f' : Nat) : (cCount f = cQuant f') = False := cell_ne 10 15 f f' (by decide)
@[drrk] theorem cCount_ne_cForf (f f' : Nat) : (cCount f = cForf f') = False := cell_ne 10 16 f f' (by decide)
@[drrk] theorem cBytes_ne_cCount (f f' : Nat) : (cBytes f = cCount f') = False := cell_ne 11 10 f f' (by decide)
@[drrk] theorem cBytes_inj (f f' : Nat) : (cBytes f = cBytes f') = (f = f') := cell_inj 11 f f'
@[drrk] theorem cBytes_ne_cCls (f f' : Nat) : (cBytes f = cCls f') = False := cell_ne 11 12 f f' (by decide)
@[drrk] theorem cBytes_ne_cDef (f f' : Nat) : (cBytes f = cDef f') = False := cell_ne 11 13 f f' (by decide)
@[drrk] theorem cBytes_ne_cHol (f f' : Nat) : (cBytes f = cHol f') = False := cell_ne 11 14 f f' (by decide)
@[drrk] theorem cBytes_ne_cQuant (f f' : Nat) : (cBytes f = cQuant f') = False := cell_ne 11 15 f f' (by decide)
@[drrk] theorem cBytes_ne_cForf (f f' : Nat) : (cBytes f = cForf f') = False := cell_ne 11 16 f f' (by decide)
@[drrk] theorem cCls_ne_cCount (f f' : Nat) : (cCls f = cCount f') = False := cell_ne 12 10 f f' (by decide)
@[drrk] theorem cCls_ne_cBytes (f f' : Nat) : (cCls f = cBytes f') = False := cell_ne 12 11 f f' (by decide)
@[drrk] theorem cCls_inj (f f' : Nat) : (cCls f = cCls f') = (f = f') := cell_inj 12 f f'
@[drrk] theorem cCls_ne_cDef (f f' : Nat) : (cCls f = cDef f') = False := cell_ne 12 13 f f' (by decide)
@[drrk] theorem cCls_ne_cHol (f f' : Nat) : (cCls f = cHol f') = False := cell_ne 12 14 f f' (by decide)
@[drrk] theorem cCls_ne_cQuant (f f' : Nat) : (cCls f = cQuant f') = False := cell_ne 12 15 f f' (by decide)
@[drrk] theorem cCls_ne_cForf (f f' : Nat) : (cCls f = cForf f') = False := cell_ne 12 16 f f' (by decide)
@[drrk] theorem cDef_ne_cCount (f f' : Nat) : (cDef f = cCount f') = False := cell_ne 13 10 f f' (by decide)
@[drrk] theorem cDef_ne_cBytes (f f' : Nat) : (cDef f = cBytes f') = False := cell_ne 13 11 f f' (by decide)
@[drrk] theorem cDef_ne_cCls (f f' : Nat) : (cDef f = cCls f') = False := cell_ne 13 12 f f' (by decide)
@[drrk] theorem cDef_inj (f f' : Nat) : (cDef f = cDef f') = (f = f') := cell_inj 13 f f'
@[drrk] theorem cDef_ne_cHol (f f' : Nat) : (cDef f = cHol f') = False := cell_ne 13 14 f f' (by decide)
@[drrk] theorem cDef_ne_cQuant (f f' : Nat) : (cDef f = cQuant f') = False := cell_ne 13 15 f f' (by decide)
@[drrk] theorem cDef_ne_cForf (f f' : Nat) : (cDef f = cForf f') = False := cell_ne 13 16 f f' (by decide)
@[drrk] theorem cHol_ne_cCount (f f' : Nat) : (cHol f = cCount f') = False := cell_ne 14 10 f f' (by decide)
@[drrk] theorem cHol_ne_cBytes (f f' : Nat) : (cHol f = cBytes f') = False := cell_ne 14 11 f f' (by decide)
@[drrk] theorem cHol_ne_cCls (f f' : Nat) : (cHol f = cCls f') = False := cell_ne 14 12 f f' (by decide)
@[drrk] theorem cHol_ne_cDef (f f' : Nat) : (cHol f = cDef f') = False := cell_ne 14 13 f f' (by decide)
@[drrk] theorem cHol_inj (f f' : Nat) : (cHol f = cHol f') = (f = f') := cell_inj 14 f f'
@[drrk] theorem cHol_ne_cQuant (f f' : Nat) : (cHol f = cQuant f') = False := cell_ne 14 15 f f' (by decide)
@[drrk] theorem cHol_ne_cForf (f f' : Nat) : (cHol f = cForf f') = False := cell_ne 14 16 f f' (by decide)
@[drrk] theorem cQuant_ne_cCount (f f' : Nat) : (cQuant f = cCount f') = False := cell_ne 15 10 f f' (by decide)
@[drrk] theorem cQuant_ne_cBytes (f f' : Nat) : (cQuant f = cBytes f') = False := cell_ne 15 11 f f' (by decide)
@[drrk] theorem cQuant_ne_cCls (f f' : Nat) : (cQuant f = cCls f') = False := cell_ne 15 12 f f' (by decide)
@[drrk] theorem cQuant_ne_cDef (f f' : Nat) : (cQuant f = cDef f') = False := cell_ne 15 13 f f' (by decide)
@[drrk] theorem cQuant_ne_cHol (f f' : Nat) : (cQuant f = cHol f') = False := cell_ne 15 14 f f' (by decide)
@[drrk] theorem cQuant_inj (f f' : Nat) : (cQuant f = cQuant f') = (f = f') := cell_inj 15 f f'
@[drrk] theorem cQuant_ne_cForf (f f' : Nat) : (cQuant f = cForf f') = False := cell_ne 15 16 f f' (by decide)
@[drrk] theorem cForf_ne_cCount (f f' : Nat) : (cForf f = cCount f') = False := cell_ne 16 10 f f' (by decide)
@[drrk] theorem cForf_ne_cBytes (f f' : Nat) : (cForf f = cBytes f') = False := cell_ne 16 11 f f' (by decide)
@[drrk] theorem cForf_ne_cCls (f f' : Nat) : (cForf f = cCls f') = False := cell_ne 16 12 f f' (by decide)
@[drrk] theorem cForf_ne_cDef (f f' : Nat) : (cForf f = cDef f') = False := cell_ne 16 13 f f' (by decide)
@[drrk] theorem cForf_ne_cHol (f f' : Nat) : (cForf f = cHol f') = False := cell_ne 16 14 f f' (by decide)
@[drrk] theorem cForf_ne_cQuant (f f' : Nat) : (cForf f = cQuant f') = False := cell_ne 16 15 f f' (by decide)
@[drrk] theorem cForf_inj (f f' : Nat) : (cForf f = cForf f') = (f = f') := cell_inj 16 f f'

@[drrk] theorem flowStore_ne_zero (f : Nat) : (flowStore f = 0) = False :=
  propext ⟨fun h => by unfold flowStore at h; omega, False.elim⟩
@[drrk] theorem tokStore_eq : tokStore = 0 := rfl

theorem mem_addKey (l : List Nat) (k x : Nat) : x ∈ addKey l k ↔ x ∈ l ∨ x = k := by
  unfold addKey
  split
  · rename_i h
    constructor
    · exact Or.inl
    · rintro (h1 | rfl)
      · exact h1
      · exact List.elem_iff.mp h |> fun h' => by simpa using h
  · simp

theorem fresh_notin {l : List Nat} {n : Nat} (h : ∀ e ∈ l, e < n) (k : Nat) : n + k ∉ l := KExec.fresh_notin h k

/-- a permutation goal about explicit concatenations, from a permutation hypothesis, by counting -/
macro "d_perm_count" h:ident : tactic =>
  `(tactic| (classical
             rw [List.perm_iff_count] at $h:ident ⊢
             intro z
             have hz := $h:ident z
             simp only [List.count_append, List.count_cons, List.count_nil] at hz ⊢
             omega))

end DRRK
