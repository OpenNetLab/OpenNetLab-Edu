import OnlVerif.Lemmas.OnceDefs
/-! # Reading event records, process records and queues back after the leaf updates -/

namespace Once
variable {σ : Type}

theorem ev_default (s : KState ℚ σ) (e : EvId) (h : ¬ e < s.events.size) : s.ev e = default := by
  simp only [KState.ev, Array.getD_eq_getD_getElem?]
  rw [Array.getElem?_eq_none (Nat.le_of_not_lt h)]
  rfl

/-- only existing events have a record that differs from the default one -/
theorem lt_of_ne_default (s : KState ℚ σ) (e : EvId) (h : s.ev e ≠ default) : e < s.events.size := by
  by_contra hc
  exact h (ev_default s e hc)

theorem lt_of_cbs (s : KState ℚ σ) (e : EvId) (h : (s.ev e).cbs ≠ none) : e < s.events.size :=
  lt_of_ne_default s e (fun hd => h (by rw [hd]; rfl))

theorem lt_of_cbs_some (s : KState ℚ σ) (e : EvId) (L : List Cb) (h : (s.ev e).cbs = some L) : e < s.events.size :=
  lt_of_cbs s e (by rw [h]; simp)

theorem lt_of_out (s : KState ℚ σ) (e : EvId) (h : (s.ev e).out ≠ none) : e < s.events.size :=
  lt_of_ne_default s e (fun hd => h (by rw [hd]; rfl))

theorem lt_of_kind (s : KState ℚ σ) (e : EvId) (h : (s.ev e).kind ≠ .plain) : e < s.events.size :=
  lt_of_ne_default s e (fun hd => h (by rw [hd]; rfl))

theorem lt_of_proc (s : KState ℚ σ) (e : EvId) (h : (s.ev e).kind = .proc) : e < s.events.size :=
  lt_of_kind s e (by rw [h]; simp)

theorem lt_of_req (s : KState ℚ σ) (e : EvId) (h : (∃ r, (s.ev e).kind = .put r) ∨ ∃ r, (s.ev e).kind = .get r) :
    e < s.events.size :=
  lt_of_kind s e (by rcases h with ⟨r, hr⟩ | ⟨r, hr⟩ <;> rw [hr] <;> simp)

theorem isCond_congr {s s' : KState ℚ σ} {c : EvId} (h : (s'.ev c).kind = (s.ev c).kind) :
    isCond s' c = isCond s c := by
  unfold isCond; rw [h]

theorem lt_of_isCond (s : KState ℚ σ) (c : EvId) (h : isCond s c = true) : c < s.events.size := by
  apply lt_of_kind
  intro hk
  unfold isCond at h
  rw [hk] at h
  exact absurd h (by simp)

theorem isCond_not_proc (s : KState ℚ σ) (c : EvId) (h : isCond s c = true) : (s.ev c).kind ≠ .proc := by
  intro hk
  unfold isCond at h
  rw [hk] at h
  exact absurd h (by simp)

theorem proc?_setProc (s : KState ℚ σ) (p p' : EvId) (r : ProcRec σ) :
    (s.setProc p r).proc? p' = if p' = p then some r else s.proc? p' := by
  unfold KState.proc? KState.setProc
  simp only [List.find?_cons]
  by_cases h : p' = p
  · subst h; simp
  · have h1 : (p == p') = false := by simpa using fun hh => h hh.symm
    -- a search for `p'` does not see that the records of `p` have been filtered out
    have h2 : ∀ a : EvId × ProcRec σ, decide ((a.1 != p) = true ∧ (a.1 == p') = true) = (a.1 == p') := fun a => by
      by_cases ha : a.1 = p'
      · simp [ha, h]
      · simp [ha]
    rw [h1, if_neg h, List.find?_filter]
    simp only [h2]

@[simp] theorem proc?_setEv (s : KState ℚ σ) (e : EvId) (x : EvRec ℚ) (p : EvId) : (s.setEv e x).proc? p = s.proc? p := rfl
@[simp] theorem proc?_schedule (s : KState ℚ σ) (e : EvId) (pr : Nat) (d : ℚ) (p : EvId) : (s.schedule e pr d).proc? p = s.proc? p := rfl
@[simp] theorem proc?_emit (s : KState ℚ σ) (o : Obs ℚ) (p : EvId) : (s.emit o).proc? p = s.proc? p := rfl
@[simp] theorem proc?_setRes (s : KState ℚ σ) (r : ResId) (x : ResRec) (p : EvId) : (s.setRes r x).proc? p = s.proc? p := rfl
@[simp] theorem proc?_newEv (s : KState ℚ σ) (x : EvRec ℚ) (p : EvId) : (s.newEv x).1.proc? p = s.proc? p := rfl
@[simp] theorem proc?_newLabelled (s : KState ℚ σ) (x : EvRec ℚ) (p : EvId) : (s.newLabelled x).1.proc? p = s.proc? p := rfl

theorem size_setEv (s : KState ℚ σ) (e : EvId) (x : EvRec ℚ) : (s.setEv e x).events.size = s.events.size := by
  simp [KState.setEv]

theorem kind_setEv (s : KState ℚ σ) (e e' : EvId) (x : EvRec ℚ) (h : x.kind = (s.ev e).kind) :
    ((s.setEv e x).ev e').kind = (s.ev e').kind := by
  rw [KState.ev_setEv]; split
  · rename_i hc; rw [hc.1]; exact h
  · rfl

theorem out_setEv (s : KState ℚ σ) (e e' : EvId) (x : EvRec ℚ) (h : x.out = (s.ev e).out) :
    ((s.setEv e x).ev e').out = (s.ev e').out := by
  rw [KState.ev_setEv]; split
  · rename_i hc; rw [hc.1]; exact h
  · rfl

theorem cbs_setEv (s : KState ℚ σ) (e e' : EvId) (x : EvRec ℚ) (h : x.cbs = (s.ev e).cbs) :
    ((s.setEv e x).ev e').cbs = (s.ev e').cbs := by
  rw [KState.ev_setEv]; split
  · rename_i hc; rw [hc.1]; exact h
  · rfl

theorem cbs_setEv_ne (s : KState ℚ σ) (e e' : EvId) (x : EvRec ℚ) (h : e' ≠ e) :
    ((s.setEv e x).ev e').cbs = (s.ev e').cbs := by
  rw [KState.ev_setEv, if_neg (fun hc => h hc.1)]

theorem out_setEv_ne (s : KState ℚ σ) (e e' : EvId) (x : EvRec ℚ) (h : e' ≠ e) :
    ((s.setEv e x).ev e').out = (s.ev e').out := by
  rw [KState.ev_setEv, if_neg (fun hc => h hc.1)]

/-- the callback list of `e` is rewritten by `f` (nothing happens to a processed or non-existent event) -/
theorem cbs_mapCbs (s : KState ℚ σ) (e e' : EvId) (f : List Cb → List Cb) :
    ((s.setEv e { s.ev e with cbs := (s.ev e).cbs.map f }).ev e').cbs =
      if e' = e then (s.ev e).cbs.map f else (s.ev e').cbs := by
  rw [KState.ev_setEv]
  by_cases h : e' = e
  · subst h
    by_cases h2 : e' < s.events.size
    · simp [h2]
    · simp only [h2, and_false, if_false, if_true]
      rw [ev_default s e' h2]; rfl
  · simp [h]

theorem cbs_mapCbs_none (s : KState ℚ σ) (e e' : EvId) (f : List Cb → List Cb) :
    ((s.setEv e { s.ev e with cbs := (s.ev e).cbs.map f }).ev e').cbs = none ↔ (s.ev e').cbs = none := by
  rw [cbs_mapCbs]; split
  · rename_i hx; rw [hx]; exact Option.map_eq_none_iff
  · exact Iff.rfl

theorem out_mapCbs (s : KState ℚ σ) (e e' : EvId) (f : List Cb → List Cb) :
    ((s.setEv e { s.ev e with cbs := (s.ev e).cbs.map f }).ev e').out = (s.ev e').out := out_setEv s e e' _ rfl

theorem kind_mapCbs (s : KState ℚ σ) (e e' : EvId) (f : List Cb → List Cb) :
    ((s.setEv e { s.ev e with cbs := (s.ev e).cbs.map f }).ev e').kind = (s.ev e').kind := kind_setEv s e e' _ rfl

/-- `callbacks.append(cb)` -/
theorem cbs_addCb (s : KState ℚ σ) (e e' : EvId) (cb : Cb) :
    ((s.addCb e cb).ev e').cbs = if e' = e then (s.ev e).cbs.map (· ++ [cb]) else (s.ev e').cbs :=
  cbs_mapCbs s e e' _

/-- `callbacks.remove(cb)` -/
theorem cbs_eraseCb (s : KState ℚ σ) (e e' : EvId) (cb : Cb) :
    ((s.eraseCb e cb).ev e').cbs = if e' = e then (s.ev e).cbs.map (·.erase cb) else (s.ev e').cbs :=
  cbs_mapCbs s e e' _

theorem out_setOut (s : KState ℚ σ) (e e' : EvId) (o : Outcome) :
    ((s.setOut e o).ev e').out = if e' = e ∧ e < s.events.size then some o else (s.ev e').out := by
  unfold KState.setOut
  rw [KState.ev_setEv]
  split <;> rfl

theorem cbs_setOut (s : KState ℚ σ) (e e' : EvId) (o : Outcome) : ((s.setOut e o).ev e').cbs = (s.ev e').cbs :=
  cbs_setEv s e e' _ rfl

theorem kind_setOut (s : KState ℚ σ) (e e' : EvId) (o : Outcome) : ((s.setOut e o).ev e').kind = (s.ev e').kind :=
  kind_setEv s e e' _ rfl

theorem ev_trigger (s : KState ℚ σ) (c x : EvId) (o : Outcome) :
    (s.trigger c o).ev x = if x = c ∧ c < s.events.size then { s.ev c with out := some o } else s.ev x :=
  KState.ev_setEv s c x _

theorem ev_trigger_ne (s : KState ℚ σ) (e x : EvId) (o : Outcome) (h : x ≠ e) : (s.trigger e o).ev x = s.ev x := by
  rw [ev_trigger, if_neg (fun hc => h hc.1)]

theorem cbs_trigger (s : KState ℚ σ) (e e' : EvId) (o : Outcome) : ((s.trigger e o).ev e').cbs = (s.ev e').cbs :=
  cbs_setOut s e e' o

theorem kind_trigger (s : KState ℚ σ) (e e' : EvId) (o : Outcome) : ((s.trigger e o).ev e').kind = (s.ev e').kind :=
  kind_setOut s e e' o

theorem size_trigger (s : KState ℚ σ) (c : EvId) (o : Outcome) : (s.trigger c o).events.size = s.events.size :=
  size_setEv s c _

theorem res_default (s : KState ℚ σ) (r : ResId) (h : ¬ r < s.resources.size) : s.res r = default := by
  simp only [KState.res, Array.getD_eq_getD_getElem?]
  rw [Array.getElem?_eq_none (Nat.le_of_not_lt h)]
  rfl

theorem queues_setRes (s : KState ℚ σ) (r r' : ResId) (x : ResRec) (hp : x.putQ = (s.res r).putQ)
    (hg : x.getQ = (s.res r).getQ) :
    ((s.setRes r x).res r').putQ = (s.res r').putQ ∧ ((s.setRes r x).res r').getQ = (s.res r').getQ := by
  rw [KState.res_setRes]; split
  · rename_i h; rw [h.1]; exact ⟨hp, hg⟩
  · exact ⟨rfl, rfl⟩

theorem res_setPutQ (s : KState ℚ σ) (r r' : ResId) (l : List EvId) :
    ((s.setPutQ r l).res r').putQ = (if r' = r ∧ r < s.resources.size then l else (s.res r').putQ) ∧
    ((s.setPutQ r l).res r').getQ = (s.res r').getQ := by
  unfold KState.setPutQ
  rw [KState.res_setRes]; split
  · rename_i h; rw [h.1]; exact ⟨rfl, rfl⟩
  · exact ⟨rfl, rfl⟩

theorem res_setGetQ (s : KState ℚ σ) (r r' : ResId) (l : List EvId) :
    ((s.setGetQ r l).res r').getQ = (if r' = r ∧ r < s.resources.size then l else (s.res r').getQ) ∧
    ((s.setGetQ r l).res r').putQ = (s.res r').putQ := by
  unfold KState.setGetQ
  rw [KState.res_setRes]; split
  · rename_i h; rw [h.1]; exact ⟨rfl, rfl⟩
  · exact ⟨rfl, rfl⟩

end Once
