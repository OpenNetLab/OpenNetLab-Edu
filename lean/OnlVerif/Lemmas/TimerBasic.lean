import OnlVerif.Lemmas.Scalar
import OnlVerif.Util.Timer
/-!
# Timer LTS: scalar facts over `ℚ`, list look-ups, and the shape of each enabled action
-/

namespace Timer

theorem zero_eq : (Num.zero : ℚ) = 0 := zero_eq'

section lists
variable {β : Type}

theorem lt_of_get {l : List β} {i : Nat} {b : β} (h : l[i]? = some b) : i < l.length := by
  rcases List.getElem?_eq_some_iff.mp h with ⟨h1, _⟩
  exact h1

theorem get_set_self {l : List β} {i : Nat} {a b : β} (h : l[i]? = some b) : (l.set i a)[i]? = some a :=
  List.getElem?_set_self (lt_of_get h)

theorem get_set_cases {l : List β} {i j : Nat} {a b : β} (h : (l.set i a)[j]? = some b) :
    (j = i ∧ b = a) ∨ (j ≠ i ∧ l[j]? = some b) := by
  by_cases hij : i = j
  · subst hij
    rw [List.getElem?_set] at h
    simp only [if_true] at h
    split at h
    · exact Or.inl ⟨rfl, (Option.some.inj h).symm⟩
    · cases h
  · rw [List.getElem?_set_ne hij] at h
    exact Or.inr ⟨fun e => hij e.symm, h⟩

theorem get_append_old {l : List β} {i : Nat} {b : β} (m : List β) (h : l[i]? = some b) : (l ++ m)[i]? = some b := by
  rw [List.getElem?_append_left (lt_of_get h)]; exact h

theorem get_concat_cases {l : List β} {i : Nat} {b x : β} (h : (l ++ [x])[i]? = some b) :
    l[i]? = some b ∨ (i = l.length ∧ b = x) := by
  rcases Nat.lt_trichotomy i l.length with h1 | h1 | h1
  · left; rwa [List.getElem?_append_left h1] at h
  · right; subst h1; simp at h; exact ⟨rfl, h.symm⟩
  · exfalso
    have : (l ++ [x])[i]? = none := by
      apply List.getElem?_eq_none; simp; omega
    rw [this] at h; cases h

end lists

variable {s s' : State ℚ} {o : List (Out ℚ)}

theorem doInit_ok {pid : Nat} (h : doInit pid s = .ok s' o) :
    ∃ rest, s.uq = .init pid :: rest ∧ s.procs[pid]? = some .notStarted ∧
      s' = loopTest pid (popUq s rest) ∧ o = [] := by
  unfold doInit at h
  split at h
  · rename_i p rest huq
    split at h
    · rename_i hp
      subst hp
      split at h
      · rename_i hst
        cases h
        exact ⟨rest, huq, hst, rfl, rfl⟩
      · cases h
    · cases h
  · cases h

theorem doIntr_ok {pid : Nat} (h : doIntr pid s = .ok s' o) :
    ∃ rest, s.uq = .intr pid :: rest ∧ o = [] ∧
      ((s.procs[pid]? = some .finished ∧ s' = popUq s rest) ∨
       (∃ w, s.procs[pid]? = some (.sleeping w) ∧ s' = setStat (popUq s rest) pid .finished)) := by
  unfold doIntr at h
  split at h
  · rename_i p rest huq
    split at h
    · rename_i hp
      subst hp
      split at h
      · rename_i hst; cases h; exact ⟨rest, huq, rfl, Or.inl ⟨hst, rfl⟩⟩
      · rename_i w hst; cases h; exact ⟨rest, huq, rfl, Or.inr ⟨w, hst, rfl⟩⟩
      · cases h
      · cases h
    · cases h
  · cases h

theorem doIntr_raised {pid : Nat} {e : Err} (h : doIntr pid s = .raised e) :
    ∃ rest, s.uq = .intr pid :: rest ∧ s.procs[pid]? = some .notStarted := by
  unfold doIntr at h
  split at h
  · rename_i p rest huq
    split at h
    · rename_i hp
      subst hp
      split at h
      · cases h
      · cases h
      · rename_i hst; exact ⟨rest, huq, hst⟩
      · cases h
    · cases h
  · cases h

theorem wakeBody_ok {pid : Nat} {cb : List (CbOp ℚ)} (h : wakeBody pid cb s = .ok s' o) :
    (s.stopped = true ∧ cb = [] ∧ s' = loopTest pid s ∧ o = []) ∨
    (s.stopped = false ∧ ∃ s1, runCb pid cb s = .ok s1 ∧ s' = loopTest pid (autoRebase s1) ∧
      o = [.fire s.now s.args]) := by
  unfold wakeBody at h
  split at h
  · rename_i hst
    split at h
    · rename_i hc
      cases h
      exact Or.inl ⟨hst, List.isEmpty_iff.mp hc, rfl, rfl⟩
    · cases h
  · rename_i hst
    split at h
    · cases h
    · rename_i s1 hcb
      cases h
      exact Or.inr ⟨by simpa using hst, s1, hcb, rfl, rfl⟩

/-- a wake that is not rejected: nothing URGENT is pending, `pid` sleeps until now, and its generator resumes -/
theorem doWake_eq {pid : Nat} {cb : List (CbOp ℚ)} {r : Res ℚ} (h : doWake pid cb s = r) (hr : r ≠ .reject) :
    s.uq = [] ∧ s.procs[pid]? = some (.sleeping s.now) ∧ wakeBody pid cb s = r := by
  unfold doWake at h
  split at h
  · rename_i huq
    split at h
    · rename_i w hst
      split at h
      · rename_i hw
        rw [(Num.eqb_iff _ _).mp hw] at hst
        exact ⟨huq, hst, h⟩
      · exact absurd h.symm hr
    · exact absurd h.symm hr
  · exact absurd h.symm hr

theorem wakeBody_raised {pid : Nat} {cb : List (CbOp ℚ)} {e : Err} (h : wakeBody pid cb s = .raised e) :
    s.stopped = false ∧ runCb pid cb s = .error e := by
  unfold wakeBody at h
  split at h
  · split at h <;> cases h
  · rename_i hs
    split at h
    · rename_i e' hcb
      cases h
      exact ⟨by simpa using hs, hcb⟩
    · cases h

@[simp] theorem noneDueBefore_nil (t : ℚ) : noneDueBefore t [] = true := rfl
@[simp] theorem noneDueBefore_sleeping (t w : ℚ) (ps : List (PStat ℚ)) :
    noneDueBefore t (PStat.sleeping w :: ps) = (!decide (w < t) && noneDueBefore t ps) := rfl
@[simp] theorem noneDueBefore_finished (t : ℚ) (ps : List (PStat ℚ)) :
    noneDueBefore t (PStat.finished :: ps) = noneDueBefore t ps := rfl
@[simp] theorem noneDueBefore_notStarted (t : ℚ) (ps : List (PStat ℚ)) :
    noneDueBefore t (PStat.notStarted :: ps) = noneDueBefore t ps := rfl

theorem noneDueBefore_spec {t : ℚ} (ps : List (PStat ℚ)) (h : noneDueBefore t ps = true) :
    ∀ (pid : Nat) (w : ℚ), ps[pid]? = some (PStat.sleeping w) → t ≤ w := by
  induction ps with
  | nil => intro pid w hg; simp at hg
  | cons p ps ih =>
    intro pid w hg
    cases pid with
    | zero =>
      simp only [List.getElem?_cons_zero, Option.some.injEq] at hg
      subst hg
      simp only [noneDueBefore, Bool.and_eq_true, Bool.not_eq_true', decide_eq_false_iff_not, not_lt] at h
      exact h.1
    | succ n =>
      simp only [List.getElem?_cons_succ] at hg
      have h' : noneDueBefore t ps = true := by
        cases p with
        | sleeping w' => simp only [noneDueBefore, Bool.and_eq_true] at h; exact h.2
        | notStarted | finished => simpa only [noneDueBefore] using h
      exact ih h' n w hg

theorem doTick_ok {t : ℚ} (h : doTick t s = .ok s' o) :
    s.uq = [] ∧ s.now < t ∧ (∀ (pid : Nat) (w : ℚ), s.procs[pid]? = some (PStat.sleeping w) → t ≤ w) ∧
      s' = { s with now := t } ∧ o = [] := by
  unfold doTick at h
  split at h
  · rename_i huq
    split at h
    · rename_i hc
      simp only [Bool.and_eq_true, decide_eq_true_eq] at hc
      cases h
      exact ⟨huq, hc.1, noneDueBefore_spec _ hc.2, rfl, rfl⟩
    · cases h
  · cases h

theorem step_stop_ok (h : step s .stop = .ok s' o) : s' = stopBody s ∧ o = [] := by
  cases h; exact ⟨rfl, rfl⟩

theorem step_restart_ok {tau : ℚ} (h : step s (.restart tau) = .ok s' o) : restartCall none tau s = .ok s' ∧ o = [] := by
  simp only [step] at h
  cases hr : restartCall none tau s with
  | ok s1 => rw [hr] at h; cases h; exact ⟨rfl, rfl⟩
  | error e => rw [hr] at h; cases h

theorem run_nil (s : State ℚ) : run s [] = .ok s [] := rfl

theorem run_cons_ok {a : Action ℚ} {as : List (Action ℚ)} (h : run s (a :: as) = .ok s' o) :
    ∃ s1 o1 o2, step s a = .ok s1 o1 ∧ run s1 as = .ok s' o2 ∧ o = o1 ++ o2 := by
  rw [run] at h
  cases hs : step s a with
  | ok s1 o1 =>
    rw [hs] at h
    simp only at h
    cases hr : run s1 as with
    | ok s2 o2 =>
      rw [hr] at h
      simp only [Res.ok.injEq] at h
      exact ⟨s1, o1, o2, rfl, by rw [hr, h.1], h.2.symm⟩
    | raised e | reject => rw [hr] at h; cases h
  | raised e | reject => rw [hs] at h; cases h

theorem run_cons_of {a : Action ℚ} {as : List (Action ℚ)} {s1 : State ℚ} {o1 o2 : List (Out ℚ)}
    (h1 : step s a = .ok s1 o1) (h2 : run s1 as = .ok s' o2) : run s (a :: as) = .ok s' (o1 ++ o2) := by
  rw [run, h1]; simp only; rw [h2]

theorem run_append_ok : ∀ {pre : List (Action ℚ)} {post : List (Action ℚ)} {s s' : State ℚ} {o : List (Out ℚ)},
    run s (pre ++ post) = .ok s' o →
    ∃ s1 o1 o2, run s pre = .ok s1 o1 ∧ run s1 post = .ok s' o2 ∧ o = o1 ++ o2
  | [], post, s, s', o, h => ⟨s, [], o, rfl, h, rfl⟩
  | a :: pre, post, s, s', o, h => by
    obtain ⟨s1, o1, o2, hs, hr, ho⟩ := run_cons_ok (as := pre ++ post) h
    obtain ⟨s2, o3, o4, hr1, hr2, ho2⟩ := run_append_ok hr
    refine ⟨s2, o1 ++ o3, o4, run_cons_of hs hr1, hr2, ?_⟩
    rw [ho, ho2, List.append_assoc]

theorem run_raised_cons {a : Action ℚ} {as : List (Action ℚ)} {e : Err} (h : run s (a :: as) = .raised e) :
    step s a = .raised e ∨ ∃ s1 o1, step s a = .ok s1 o1 ∧ run s1 as = .raised e := by
  rw [run] at h
  cases hs : step s a with
  | ok s1 o1 =>
    rw [hs] at h
    simp only at h
    cases hr : run s1 as with
    | ok s2 o2 => rw [hr] at h; cases h
    | raised e' => rw [hr] at h; simp only at h; exact Or.inr ⟨s1, o1, rfl, by rw [hr]; exact h⟩
    | reject => rw [hr] at h; cases h
  | raised e' => rw [hs] at h; exact Or.inl h
  | reject => rw [hs] at h; cases h

end Timer
