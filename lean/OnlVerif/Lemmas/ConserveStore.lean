import OnlVerif.Lemmas.ConserveLevel
import Mathlib.Data.List.Perm.Basic
/-!
# C07: every item a store accepts is handed to exactly one getter exactly once, along every run

For each store `r` and each value `x`:
`count x items + #{granted gets of r that received x} = count x (initial items) + #{granted puts of r that carry x}`.
-/

variable {σ : Type}

namespace Conserve

def gotOf (o : Option Outcome) : Option Int :=
  match o with
  | some (.ok (.int x)) => some x
  | _ => none

def gotItems (s : KState ℚ σ) (r : ResId) : List Int :=
  (List.range s.events.size).filterMap (fun e => if (s.ev e).kind = .get r then gotOf (s.ev e).out else none)

def putItems (s : KState ℚ σ) (r : ResId) : List Int := (grantedPuts s r).map (fun e => (reqOf s e).item)

def wPutItem (r : ResId) (x : Int) : Weight := fun k o c => if k = .put r ∧ o.isSome = true ∧ c.item = x then 1 else 0
def wGotItem (r : ResId) (x : Int) : Weight := fun k o _ => if k = .get r ∧ gotOf o = some x then 1 else 0

theorem succ_le_of_not_lt_ne {a n : Nat} (h1 : ¬ a < n) (h2 : ¬ a = n) : n + 1 ≤ a := by omega

theorem wPutItem_ok (r : ResId) (x : Int) : (wPutItem r x).Ok :=
  .of_ite (K := .put r) rfl (fun o c => o.isSome = true ∧ c.item = x) (fun _ h => by cases h.1) _

theorem wGotItem_ok (r : ResId) (x : Int) : (wGotItem r x).Ok :=
  .of_ite (K := .get r) rfl (fun o _ => gotOf o = some x) (fun _ h => by cases h) _

theorem sumTo_eq_count_filterMap (f : Nat → Option Int) (x : Int) : ∀ n,
    sumTo (fun i => if f i = some x then 1 else 0) n = (((List.range n).filterMap f).count x : Int)
  | 0 => rfl
  | n + 1 => by
    rw [sumTo_succ, sumTo_eq_count_filterMap f x n, List.range_succ, List.filterMap_append, List.count_append]
    push_cast
    congr 1
    cases hf : f n with
    | none => simp [hf]
    | some y =>
      by_cases hy : y = x
      · subst hy; simp [hf]
      · simp [hf, hy]

theorem map_filter_eq_filterMap {α β : Type} (p : α → Bool) (g : α → β) (l : List α) :
    (l.filter p).map g = l.filterMap (fun i => if p i then some (g i) else none) := by
  induction l with
  | nil => rfl
  | cons a l ih =>
    by_cases h : p a = true
    · simp [h, ih]
    · simp [h, ih]

theorem tot_wGotItem (s : KState ℚ σ) (r : ResId) (x : Int) : tot (wGotItem r x) s = ((gotItems s r).count x : Int) := by
  unfold tot gotItems
  rw [← sumTo_eq_count_filterMap]
  apply sumTo_congr
  intro a _
  unfold wt wGotItem
  by_cases h1 : (s.ev a).kind = .get r
  · simp [h1]
  · simp [h1]

theorem tot_wPutItem (s : KState ℚ σ) (r : ResId) (x : Int) : tot (wPutItem r x) s = ((putItems s r).count x : Int) := by
  unfold tot putItems grantedPuts
  rw [map_filter_eq_filterMap, ← sumTo_eq_count_filterMap]
  apply sumTo_congr
  intro a _
  unfold wt wPutItem KState.triggered
  by_cases h1 : (s.ev a).kind = .put r <;> by_cases h2 : (s.ev a).out.isSome = true <;> simp [h1, h2] <;> rfl

theorem wPutItem_put (r : ResId) (x : Int) (o : Outcome) (c : ReqData ℚ) :
    wPutItem r x (.put r) (some o) c = if c.item = x then 1 else 0 := by
  unfold wPutItem; by_cases h : c.item = x <;> simp [h]

theorem wGotItem_get (r : ResId) (x y : Int) (c : ReqData ℚ) :
    wGotItem r x (.get r) (some (.ok (.int y))) c = if y = x then 1 else 0 := by
  unfold wGotItem gotOf; by_cases h : y = x <;> simp [h]

theorem count_snoc (l : List Int) (i x : Int) : ((l ++ [i]).count x : Int) = l.count x + if i = x then 1 else 0 := by
  rw [List.count_append, List.count_singleton]; by_cases h : i = x <;> simp [h]

theorem count_erase_of_mem (l : List Int) {y : Int} (x : Int) (hy : y ∈ l) :
    ((l.erase y).count x : Int) = l.count x - if y = x then 1 else 0 := by
  rw [List.count_erase]
  by_cases h : y = x
  · subst h
    have := List.count_pos_iff.mpr hy
    simp only [beq_self_eq_true, if_true]; omega
  · simp [h]

def itemPot (s : KState ℚ σ) (r : ResId) (x : Int) : Int :=
  ((s.res r).items.count x : Int) + tot (wGotItem r x) s - tot (wPutItem r x) s

def StoreCons (s s' : KState ℚ σ) : Prop := ∀ r x, isStoreKind (s.res r).kind = true → itemPot s' r x = itemPot s r x

def GotInt (s : KState ℚ σ) : Prop :=
  ∀ r e, isStoreKind (s.res r).kind = true → (s.ev e).kind = .get r → (s.ev e).out ≠ none →
    ∃ x, (s.ev e).out = some (.ok (.int x))

def StoreRel (s s' : KState ℚ σ) : Prop := Base s s' ∧ (WF s → StoreCons s s' ∧ (GotInt s → GotInt s'))

theorem itemPot_of_same {s s' : KState ℚ σ} {r : ResId} {x : Int} (hl : (s'.res r).items = (s.res r).items)
    (hp : tot (wGotItem r x) s' = tot (wGotItem r x) s) (hg : tot (wPutItem r x) s' = tot (wPutItem r x) s) :
    itemPot s' r x = itemPot s r x := by
  unfold itemPot; rw [hl, hp, hg]

theorem gotInt_of_quiet {s s' : KState ℚ σ} (h : Quiet s s') (hG : GotInt s) : GotInt s' := by
  intro r e hs hke ho
  have hlt : e < s.events.size := by
    by_contra hc
    exact ho (h.fresh e (Nat.le_of_not_lt hc) (isReq_of_get hke))
  rw [h.kind e hlt] at hke
  rw [h.out e (isReq_of_get hke)] at ho ⊢
  exact hG r e (by rw [← (h.res r).1]; exact hs) hke ho

theorem StoreRel.crel : CRel (StoreRel (σ := σ)) := by
  refine CRel.of_quiet (fun s => ⟨Base.refl s, fun _ => ⟨fun _ _ _ => rfl, fun h => h⟩⟩) ?_ (fun h => h.1) ?_ ?_ ?_
  · intro s1 s2 s3 h12 h23
    refine ⟨h12.1.trans h23.1, ?_⟩
    intro hW
    obtain ⟨c12, g12⟩ := h12.2 hW
    obtain ⟨c23, g23⟩ := h23.2 (h12.1.keepWF hW)
    refine ⟨?_, fun h => g23 (g12 h)⟩
    intro r x hk
    have hk2 : isStoreKind (s2.res r).kind = true := by rw [h12.1.resKind]; exact hk
    rw [c23 r x hk2, c12 r x hk]
  · exact fun s s' _ h => ⟨Base.of_quiet h, fun _ => ⟨fun r x _ =>
      itemPot_of_same (h.res r).2.2.2 (tot_quiet (wGotItem_ok r x) h) (tot_quiet (wPutItem_ok r x) h), gotInt_of_quiet h⟩⟩
  · intro s r0 e rest hW hq _ hE hG
    have hk0 : (s.ev e).kind = .put r0 := (hW.putQ r0 e (by rw [hq]; exact List.mem_cons_self)).1
    have hB := Base.of_granted hW hG
    refine ⟨hB, fun _ => ⟨?_, ?_⟩⟩
    · intro r x hk
      unfold itemPot
      rw [hG.tot (wPutItem_ok r x), hG.tot (wGotItem_ok r x), hk0]
      have hg0 : wGotItem r x (.put r0) (some (.ok .none)) (coreOf s e) = 0 := by
        unfold wGotItem; rw [if_neg]; rintro ⟨h, _⟩; cases h
      rw [hg0]
      by_cases hrr : r = r0
      · subst hrr
        rw [wPutItem_put, hE.itemsS hk, count_snoc]
        show _ + (if (reqOf s e).item = x then 1 else 0) + _ - (_ + if (reqOf s e).item = x then 1 else 0) = _
        ring
      · have hp0 : wPutItem r x (.put r0) (some (.ok .none)) (coreOf s e) = 0 := by
          exact if_neg (fun h => hrr (Kind.put.inj h.1).symm)
        rw [hp0, hE.resOther r hrr]; ring
    · intro hG' r a hs hka ho
      rw [hG.kind] at hka
      have hne : a ≠ e := by
        intro hc; subst hc; rw [hk0] at hka; cases hka
      rw [hG.outOther a hne] at ho ⊢
      exact hG' r a (by rw [← hB.resKind]; exact hs) hka ho
  · intro s r0 e v pre rest hW hq _ _ hE hG
    have hk0 : (s.ev e).kind = .get r0 := (hW.getQ r0 e (by rw [hq]; simp)).1
    have hB := Base.of_granted hW hG
    refine ⟨hB, fun _ => ⟨?_, ?_⟩⟩
    · intro r x hk
      unfold itemPot
      rw [hG.tot (wPutItem_ok r x), hG.tot (wGotItem_ok r x), hk0]
      have hp0 : wPutItem r x (.get r0) (some (.ok v)) (coreOf s e) = 0 := by
        unfold wPutItem; rw [if_neg]; rintro ⟨h, _⟩; cases h
      rw [hp0]
      by_cases hrr : r = r0
      · subst hrr
        obtain ⟨y, hv, hy, hit⟩ := hE.itemsS hk
        subst hv
        rw [wGotItem_get, hit, count_erase_of_mem _ x hy]
        ring
      · have hg0 : wGotItem r x (.get r0) (some (.ok v)) (coreOf s e) = 0 := by
          exact if_neg (fun h => hrr (Kind.get.inj h.1).symm)
        rw [hg0, hE.resOther r hrr]; ring
    · intro hG' r a hs hka ho
      rw [hG.kind] at hka
      by_cases hae : a = e
      · subst hae
        have hr : r = r0 := by rw [hk0] at hka; exact (Kind.get.inj hka).symm
        subst hr
        obtain ⟨y, hv, _, _⟩ := hE.itemsS (by rw [← hB.resKind]; exact hs)
        exact ⟨y, by rw [hG.outE, hv]⟩
      · rw [hG.outOther a hae] at ho ⊢
        exact hG' r a (by rw [← hB.resKind]; exact hs) hka ho

theorem gotItems_noReq (s : KState ℚ σ) (r : ResId) (h : ∀ e, isReq s e = false) : gotItems s r = [] := by
  unfold gotItems
  rw [List.filterMap_eq_nil_iff]
  intro a _
  rw [if_neg (kind_ne_of_noReq h a r).2]

theorem gotInt_noReq (s : KState ℚ σ) (h : ∀ e, isReq s e = false) : GotInt s :=
  fun r e _ hk _ => absurd hk (kind_ne_of_noReq h e r).2

theorem reach_storeCons (body : σ → Resume → Burst ℚ σ) (fuel : Nat) (s0 s : KState ℚ σ) (hW : WF s0)
    (hr : SafeReach body fuel s0 s) (r : ResId) (hk : isStoreKind (s.res r).kind = true) :
    ((s.res r).items ++ gotItems s r ++ putItems s0 r).Perm ((s0.res r).items ++ gotItems s0 r ++ putItems s r) := by
  have h := StoreRel.crel.reach body fuel s0 s hW hr
  have hk0 : isStoreKind (s0.res r).kind = true := by rw [← h.1.resKind]; exact hk
  rw [List.perm_iff_count]
  intro x
  have := (h.2 hW).1 r x hk0
  unfold itemPot at this
  rw [tot_wGotItem, tot_wPutItem, tot_wGotItem, tot_wPutItem] at this
  simp only [List.count_append]
  omega

end Conserve
