import OnlVerif.Lemmas.DRRKBasic
/-!
# The DRR scheduler on the kernel model: bursts of `DRR.run`

The attribute cells under `Call.store`; the observations of a trace; and `Reaches`: a piece of a burst that runs from one
program point to another in a configuration of processes that differs from the one it started in only by the attribute cells
and the observations (used in `DRRKLoop.lean` for the nested loops of `DRR.run`, in `DRRKStep.lean` for `send_packet`).
-/

namespace DRRK
open DRROnK
open TimerK (lookup dec_enc)
open KProc (Cfg hrun)

variable {F : Nat} {Q : Nat → ℚ} {f : Nat → Val} {a : A}

theorem upd_other {k k' : Nat} {v : Val} (h : (k' = k) = False) : KProc.upd f k v k' = f k' := if_neg (of_eq_false h)

/-- a store to the cell of class `c` in a family `cell` of cells that hold `g` through the encoding `enc` -/
theorem upd_cell {β : Type} {cell : Nat → Nat} (hinj : ∀ c c', (cell c = cell c') = (c = c')) {enc : β → Val} {g : Nat → β}
    {c : Nat} {x : β} (h : ∀ c', c' < F → f (cell c') = enc (g c')) :
    ∀ c', c' < F → KProc.upd f (cell c) (enc x) (cell c') = enc (upd g c x c') := by
  intro c' hc'
  unfold KProc.upd upd
  by_cases e : c' = c
  · rw [if_pos (e ▸ rfl), if_pos e]
  · rw [if_neg (hinj c' c ▸ e), if_neg e]
    exact h c' hc'

/-! Each lemma: a store to one cell; the other cells are pairwise different from it. -/

theorem Cells.setRecv (h : Cells F Q f a) (n : Int) :
    Cells F Q (KProc.upd f (cRecv) (.int n)) { a with recv := n } :=
  ⟨if_pos rfl,
   (upd_other cCur_ne_cRecv).trans h.c1,
   fun c' hc' => (upd_other (cCount_ne_cRecv c')).trans (h.cc c' hc'),
   fun c' hc' => (upd_other (cBytes_ne_cRecv c')).trans (h.cb c' hc'),
   fun c' hc' => (upd_other (cCls_ne_cRecv c')).trans (h.cq c' hc'),
   fun c' hc' => (upd_other (cDef_ne_cRecv c')).trans (h.cd c' hc'),
   fun c' hc' => (upd_other (cHol_ne_cRecv c')).trans (h.ch c' hc'),
   fun c' hc' => (upd_other (cQuant_ne_cRecv c')).trans (h.cu c' hc'),
   fun c' hc' => (upd_other (cForf_ne_cRecv c')).trans (h.cf c' hc')⟩

theorem Cells.setCur (h : Cells F Q f a) (o : Option Int) :
    Cells F Q (KProc.upd f (cCur) (optVal o)) { a with cur := o } :=
  ⟨(upd_other cRecv_ne_cCur).trans h.c0,
   if_pos rfl,
   fun c' hc' => (upd_other (cCount_ne_cCur c')).trans (h.cc c' hc'),
   fun c' hc' => (upd_other (cBytes_ne_cCur c')).trans (h.cb c' hc'),
   fun c' hc' => (upd_other (cCls_ne_cCur c')).trans (h.cq c' hc'),
   fun c' hc' => (upd_other (cDef_ne_cCur c')).trans (h.cd c' hc'),
   fun c' hc' => (upd_other (cHol_ne_cCur c')).trans (h.ch c' hc'),
   fun c' hc' => (upd_other (cQuant_ne_cCur c')).trans (h.cu c' hc'),
   fun c' hc' => (upd_other (cForf_ne_cCur c')).trans (h.cf c' hc')⟩

theorem Cells.setCount (h : Cells F Q f a) (c : Nat) (n : Int) :
    Cells F Q (KProc.upd f (cCount c) (.int n)) { a with cnt := upd a.cnt c n } :=
  ⟨(upd_other (cRecv_ne_cCount c)).trans h.c0,
   (upd_other (cCur_ne_cCount c)).trans h.c1,
   upd_cell cCount_inj h.cc,
   fun c' hc' => (upd_other (cBytes_ne_cCount c' c)).trans (h.cb c' hc'),
   fun c' hc' => (upd_other (cCls_ne_cCount c' c)).trans (h.cq c' hc'),
   fun c' hc' => (upd_other (cDef_ne_cCount c' c)).trans (h.cd c' hc'),
   fun c' hc' => (upd_other (cHol_ne_cCount c' c)).trans (h.ch c' hc'),
   fun c' hc' => (upd_other (cQuant_ne_cCount c' c)).trans (h.cu c' hc'),
   fun c' hc' => (upd_other (cForf_ne_cCount c' c)).trans (h.cf c' hc')⟩

theorem Cells.setBytes (h : Cells F Q f a) (c : Nat) (n : Int) :
    Cells F Q (KProc.upd f (cBytes c) (.int n)) { a with byt := upd a.byt c n } :=
  ⟨(upd_other (cRecv_ne_cBytes c)).trans h.c0,
   (upd_other (cCur_ne_cBytes c)).trans h.c1,
   fun c' hc' => (upd_other (cCount_ne_cBytes c' c)).trans (h.cc c' hc'),
   upd_cell cBytes_inj h.cb,
   fun c' hc' => (upd_other (cCls_ne_cBytes c' c)).trans (h.cq c' hc'),
   fun c' hc' => (upd_other (cDef_ne_cBytes c' c)).trans (h.cd c' hc'),
   fun c' hc' => (upd_other (cHol_ne_cBytes c' c)).trans (h.ch c' hc'),
   fun c' hc' => (upd_other (cQuant_ne_cBytes c' c)).trans (h.cu c' hc'),
   fun c' hc' => (upd_other (cForf_ne_cBytes c' c)).trans (h.cf c' hc')⟩

theorem Cells.setCls (h : Cells F Q f a) (c : Nat) (n : Int) :
    Cells F Q (KProc.upd f (cCls c) (.int n)) { a with ccnt := upd a.ccnt c n } :=
  ⟨(upd_other (cRecv_ne_cCls c)).trans h.c0,
   (upd_other (cCur_ne_cCls c)).trans h.c1,
   fun c' hc' => (upd_other (cCount_ne_cCls c' c)).trans (h.cc c' hc'),
   fun c' hc' => (upd_other (cBytes_ne_cCls c' c)).trans (h.cb c' hc'),
   upd_cell cCls_inj h.cq,
   fun c' hc' => (upd_other (cDef_ne_cCls c' c)).trans (h.cd c' hc'),
   fun c' hc' => (upd_other (cHol_ne_cCls c' c)).trans (h.ch c' hc'),
   fun c' hc' => (upd_other (cQuant_ne_cCls c' c)).trans (h.cu c' hc'),
   fun c' hc' => (upd_other (cForf_ne_cCls c' c)).trans (h.cf c' hc')⟩

theorem Cells.setDef (h : Cells F Q f a) (c : Nat) (x : ℚ) :
    Cells F Q (KProc.upd f (cDef c) (TimeCell.enc x)) { a with dfc := upd a.dfc c x } :=
  ⟨(upd_other (cRecv_ne_cDef c)).trans h.c0,
   (upd_other (cCur_ne_cDef c)).trans h.c1,
   fun c' hc' => (upd_other (cCount_ne_cDef c' c)).trans (h.cc c' hc'),
   fun c' hc' => (upd_other (cBytes_ne_cDef c' c)).trans (h.cb c' hc'),
   fun c' hc' => (upd_other (cCls_ne_cDef c' c)).trans (h.cq c' hc'),
   upd_cell cDef_inj h.cd,
   fun c' hc' => (upd_other (cHol_ne_cDef c' c)).trans (h.ch c' hc'),
   fun c' hc' => (upd_other (cQuant_ne_cDef c' c)).trans (h.cu c' hc'),
   fun c' hc' => (upd_other (cForf_ne_cDef c' c)).trans (h.cf c' hc')⟩

theorem Cells.setHol (h : Cells F Q f a) (c : Nat) (o : Option Int) :
    Cells F Q (KProc.upd f (cHol c) (optVal o)) { a with hol := upd a.hol c o } :=
  ⟨(upd_other (cRecv_ne_cHol c)).trans h.c0,
   (upd_other (cCur_ne_cHol c)).trans h.c1,
   fun c' hc' => (upd_other (cCount_ne_cHol c' c)).trans (h.cc c' hc'),
   fun c' hc' => (upd_other (cBytes_ne_cHol c' c)).trans (h.cb c' hc'),
   fun c' hc' => (upd_other (cCls_ne_cHol c' c)).trans (h.cq c' hc'),
   fun c' hc' => (upd_other (cDef_ne_cHol c' c)).trans (h.cd c' hc'),
   upd_cell cHol_inj h.ch,
   fun c' hc' => (upd_other (cQuant_ne_cHol c' c)).trans (h.cu c' hc'),
   fun c' hc' => (upd_other (cForf_ne_cHol c' c)).trans (h.cf c' hc')⟩

theorem Cells.setForf (h : Cells F Q f a) (c : Nat) (x : ℚ) :
    Cells F Q (KProc.upd f (cForf c) (TimeCell.enc x)) { a with forf := upd a.forf c x } :=
  ⟨(upd_other (cRecv_ne_cForf c)).trans h.c0,
   (upd_other (cCur_ne_cForf c)).trans h.c1,
   fun c' hc' => (upd_other (cCount_ne_cForf c' c)).trans (h.cc c' hc'),
   fun c' hc' => (upd_other (cBytes_ne_cForf c' c)).trans (h.cb c' hc'),
   fun c' hc' => (upd_other (cCls_ne_cForf c' c)).trans (h.cq c' hc'),
   fun c' hc' => (upd_other (cDef_ne_cForf c' c)).trans (h.cd c' hc'),
   fun c' hc' => (upd_other (cHol_ne_cForf c' c)).trans (h.ch c' hc'),
   fun c' hc' => (upd_other (cQuant_ne_cForf c' c)).trans (h.cu c' hc'),
   upd_cell cForf_inj h.cf⟩

/-- the cells only say something about the attribute fields of a configuration -/
theorem Cells.congr {a' : A} (h : Cells F Q f a) (h0 : a'.recv = a.recv) (h1 : a'.cur = a.cur) (h2 : a'.cnt = a.cnt)
    (h3 : a'.byt = a.byt) (h4 : a'.ccnt = a.ccnt) (h5 : a'.dfc = a.dfc) (h6 : a'.hol = a.hol) (h7 : a'.forf = a.forf) :
    Cells F Q f a' := by
  refine ⟨?_, ?_, ?_, ?_, ?_, ?_, ?_, ?_, ?_⟩
  · rw [h0]; exact h.c0
  · rw [h1]; exact h.c1
  · rw [h2]; exact h.cc
  · rw [h3]; exact h.cb
  · rw [h4]; exact h.cq
  · rw [h5]; exact h.cd
  · rw [h6]; exact h.ch
  · exact h.cu
  · rw [h7]; exact h.cf

theorem histOf_push (tr : Array (Obs ℚ)) (o : Obs ℚ) : histOf (tr.push o) = histOf tr ++ (histOf1 o).toList :=
  KExec.filterMap_push _ tr o

@[simp] theorem histOf1_resumed (p : EvId) (r : Resume) (t : ℚ) : histOf1 (Obs.resumed p r t) = none := rfl
@[simp] theorem histOf1_ended (p : EvId) (o : Outcome) (t : ℚ) : histOf1 (Obs.ended p o t) = none := rfl
@[simp] theorem histOf1_callErr (p : EvId) (x : Exc) (t : ℚ) : histOf1 (Obs.callErr p x t) = none := rfl
@[simp] theorem histOf1_put (p : EvId) (i : Int) (t : ℚ) : histOf1 (Obs.log p "put" (.int i) t) = some (.put i t) := by
  simp [histOf1]
@[simp] theorem histOf1_serve (p : EvId) (i : Int) (t : ℚ) : histOf1 (Obs.log p "serve" (.int i) t) = some (.serve i t) := by
  simp [histOf1]
@[simp] theorem histOf1_out (p : EvId) (i : Int) (t : ℚ) : histOf1 (Obs.log p "out" (.int i) t) = some (.out i t) := by
  simp [histOf1]
@[simp] theorem histOf1_idle (p : EvId) (t : ℚ) : histOf1 (Obs.log p "idle" .none t) = some (.idle t) := by
  simp [histOf1]
@[simp] theorem histOf1_visit (p : EvId) (c : Nat) (t : ℚ) : histOf1 (Obs.log p "visit" (.int (c : Int)) t) = some (.visit c t) := by
  simp [histOf1]
@[simp] theorem histOf1_park (p : EvId) (i : Int) (t : ℚ) : histOf1 (Obs.log p "park" (.int i) t) = some (.park i t) := by
  simp [histOf1]
@[simp] theorem histOf1_done (p : EvId) (i : Int) (t : ℚ) : histOf1 (Obs.log p "done" (.int i) t) = some (.done i t) := by
  simp [histOf1]
@[simp] theorem histOf1_reset (p : EvId) (c : Nat) (t : ℚ) : histOf1 (Obs.log p "reset" (.int (c : Int)) t) = some (.reset c t) := by
  simp [histOf1]
@[simp] theorem histOf1_credit (p : EvId) (x t : ℚ) : histOf1 (Obs.log p "credit" (TimeCell.enc x) t) = none := rfl

/-- the state `S` with other attribute cells and more observations -/
def wc (S : KS) (sh : List (Nat × Val)) (tr : Array (Obs ℚ)) : KS := { S with shared := sh, trace := tr }

@[simp] theorem wc_shared (S : KS) (sh : List (Nat × Val)) (tr : Array (Obs ℚ)) : (wc S sh tr).shared = sh := rfl
@[simp] theorem wc_trace (S : KS) (sh : List (Nat × Val)) (tr : Array (Obs ℚ)) : (wc S sh tr).trace = tr := rfl
@[simp] theorem wc_now (S : KS) (sh : List (Nat × Val)) (tr : Array (Obs ℚ)) : (wc S sh tr).now = S.now := rfl
@[simp] theorem wc_wc (S : KS) (sh sh' : List (Nat × Val)) (tr tr' : Array (Obs ℚ)) : wc (wc S sh tr) sh' tr' = wc S sh' tr' := rfl
@[simp] theorem wc_self (S : KS) : wc S S.shared S.trace = S := rfl

theorem runBurst_call (p : EvId) (c : Call ℚ St) (k : Reply → Burst ℚ St) (S : KS) :
    runBurst p (.call c k) S = runBurst p (k (doCall S p c).2) (noteErr p (doCall S p c)) := rfl

theorem rb_addInt (p : EvId) (k : Nat) (n d : Int) (cont : Burst ℚ St) (S : KS) (h : lookup S.shared k = .int n) :
    runBurst p (addInt k d cont) S = runBurst p cont (wc S ((k, .int (n + d)) :: S.shared.filter (·.1 != k)) S.trace) := by
  simp [addInt, loadInt, runBurst_call, doCall_load, doCall_store, noteErr, h, wc]

theorem rb_addDD (p : EvId) (k : Nat) (n d : Int) (cont : Burst ℚ St) (S : KS) (h : lookup S.shared k = .int n) :
    runBurst p (addDD k d cont) S = runBurst p cont (wc S ((k, .int (n + d)) :: S.shared.filter (·.1 != k)) S.trace) := by
  simp [addDD, loadDD, runBurst_call, doCall_load, doCall_store, noteErr, h, wc]

theorem doCall_log_enc (s : KS) (self : EvId) (what : String) (x : ℚ) :
    doCall s self (.log what (TimeCell.enc x)) =
      ({ s with trace := s.trace.push (.log self what (TimeCell.enc x) s.now) }, .unit) := rfl

/-! ## the machine of `Lemmas/KProcDefs.lean` on the program -/

variable {p : EvId} {C : Cfg St} {tr : Array (Obs ℚ)}

theorem hrun_sumCounts (cnt : Nat → Int) (k : Int → Burst ℚ St) :
    ∀ (n c0 : Nat) (acc : Int), (∀ j, c0 ≤ j → j < c0 + n → C.reg.cells (cCount j) = .int (cnt j)) →
      hrun p (sumCounts c0 n acc k) C = hrun p (k (acc + sumFrom cnt c0 n)) C
  | 0, c0, acc, _ => by simp [sumCounts, sumFrom]
  | n + 1, c0, acc, h => by
    have h0 : hrun p (sumCounts c0 (n + 1) acc k) C = hrun p (sumCounts (c0 + 1) n (acc + cnt c0) k) C := by
      heval [sumCounts, loadInt, h c0 (Nat.le_refl _) (by omega)]
    rw [h0, hrun_sumCounts cnt k n (c0 + 1) (acc + cnt c0) (fun j h1 h2 => h j (by omega) (by omega))]
    simp [sumFrom, Int.add_assoc]

/-- `self.total_packets` reads the `F` counters -/
theorem hrun_total (cnt : Nat → Int) (k : Int → Burst ℚ St) (h : ∀ c, c < F → C.reg.cells (cCount c) = .int (cnt c)) :
    hrun p (totalPackets F k) C = hrun p (k (sumFrom cnt 0 F)) C := by
  rw [totalPackets, hrun_sumCounts cnt k F 0 0 (fun j _ h2 => h j (by omega))]
  simp

/-- in the configuration `C` with the attribute cells `f` and the trace `tr`, `prog` runs into `fin` with cells that are those of
`a'` and a trace with the history `H`; nothing else of `C` changes -/
def Reaches (F : Nat) (Q : Nat → ℚ) (p : EvId) (C : Cfg St) (f : Nat → Val) (tr : Array (Obs ℚ)) (prog fin : Burst ℚ St)
    (a' : A) (H : List (HEv ℚ)) : Prop :=
  ∃ f' tr', hrun p prog (C.wr f tr) = hrun p fin (C.wr f' tr') ∧ Cells F Q f' a' ∧ histOf tr' = H

variable {prog mid fin : Burst ℚ St} {a' a'' : A} {H H' : List (HEv ℚ)}

theorem Reaches.refl (hc : Cells F Q f a') (hH : histOf tr = H) : Reaches F Q p C f tr prog prog a' H :=
  ⟨f, tr, rfl, hc, hH⟩

/-- a piece that changes cells and observations, then the rest -/
theorem Reaches.of_eq {f1 : Nat → Val} {tr1 : Array (Obs ℚ)} (h : hrun p prog (C.wr f tr) = hrun p mid (C.wr f1 tr1))
    (hr : Reaches F Q p C f1 tr1 mid fin a' H) : Reaches F Q p C f tr prog fin a' H := by
  obtain ⟨f', tr', h1, h2, h3⟩ := hr
  exact ⟨f', tr', h.trans h1, h2, h3⟩

theorem Reaches.trans (h1 : Reaches F Q p C f tr prog mid a' H)
    (h2 : ∀ f1 tr1, Cells F Q f1 a' → histOf tr1 = H → Reaches F Q p C f1 tr1 mid fin a'' H') :
    Reaches F Q p C f tr prog fin a'' H' := by
  obtain ⟨f1, tr1, g1, g2, g3⟩ := h1
  exact .of_eq g1 (h2 f1 tr1 g2 g3)

theorem Reaches.store {k : Nat} {v : Val} {cont : Burst ℚ St} (h : Reaches F Q p C (KProc.upd f k v) tr cont fin a' H) :
    Reaches F Q p C f tr (.call (.store k v) fun _ => cont) fin a' H :=
  .of_eq (by heval []) h

theorem Reaches.logInt {w : String} {i : Int} {cont : Burst ℚ St}
    (h : Reaches F Q p C f (tr.push (.log p w (.int i) C.reg.now)) cont fin a' H) :
    Reaches F Q p C f tr (.call (.log w (.int i)) fun _ => cont) fin a' H :=
  .of_eq (by heval []) h

theorem Reaches.logEnc {w : String} {x : ℚ} {cont : Burst ℚ St}
    (h : Reaches F Q p C f (tr.push (.log p w (TimeCell.enc x) C.reg.now)) cont fin a' H) :
    Reaches F Q p C f tr (.call (.log w (TimeCell.enc x)) fun _ => cont) fin a' H :=
  .of_eq (by heval []) h

theorem Reaches.loadTime {k : Nat} {x : ℚ} {cont : ℚ → Burst ℚ St} (hl : f k = TimeCell.enc x)
    (h : Reaches F Q p C f tr (cont x) fin a' H) : Reaches F Q p C f tr (DRROnK.loadTime k cont) fin a' H :=
  .of_eq (by heval [DRROnK.loadTime, hl, dec_enc]) h

theorem Reaches.loadKey {k : Nat} {n : Int} {cont : Int → Burst ℚ St} (hl : f k = .int n)
    (h : Reaches F Q p C f tr (cont n) fin a' H) : Reaches F Q p C f tr (DRROnK.loadKey k cont) fin a' H :=
  .of_eq (by heval [DRROnK.loadKey, hl]) h

theorem Reaches.addKeyInt {k : Nat} {n d : Int} {cont : Burst ℚ St} (hl : f k = .int n)
    (h : Reaches F Q p C (KProc.upd f k (.int (n + d))) tr cont fin a' H) :
    Reaches F Q p C f tr (DRROnK.addKeyInt k d cont) fin a' H :=
  .of_eq (by heval [DRROnK.addKeyInt, DRROnK.loadKey, hl]) h

end DRRK
