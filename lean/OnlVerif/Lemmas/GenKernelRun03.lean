import OnlVerif.Lemmas.GenKernelDefs
import OnlVerif.Lemmas.KAccess
import OnlVerif.Generated.KernelRun03
/-!
# The generated sentinel entry of `Environment.run(until=<number>)` (`Generated/KernelRun03.lean`) is the model's by definition

The bridge theorem of C03 (`runUntilTime`) is proved where it is stated, `Props/KernelGen03.lean`.
-/

namespace GenKernel
variable {τ σ : Type} [Num τ]

/-- the stop event of `run(until=<number>)` is pushed as the generated tuple -/
theorem scheduleAt_eq (s : KState τ σ) (e : EvId) (t : τ) :
    s.scheduleAt e URGENT t = pushEntry s (Gen.Environment.run_sentinel_entry t s.eid e) := rfl

end GenKernel
