import OnlVerif.Lemmas.MultiQueueStep
import OnlVerif.Net.Sched.SP
import OnlVerif.Net.Sched.RR
import OnlVerif.Net.Sched.WRR
import OnlVerif.Net.Sched.DRR
/-!
# The four scheduler records: the moves of each loop with their conditions; the records are lawful

For each `run()` one case lemma (`micro_*_cases`, for DRR the relation `DMicro`) lists the moves the loop can make at
a control point together with the condition under which it makes them; the burst lemmas of `Sched{SP,RR,WRR,DRR}` and
lawfulness are read off it.  Each `run()` blocks on the wake-up token only behind `if self.total_packets == 0`; SP, RR
and WRR never park a packet, and DRR issues `store.get()` only when no head-of-line packet of that class is parked.
-/

namespace SP
open MQ

theorem neverParks (c : Cfg ℚ) : NeverParks (sched c) := by
  intro k v cl p k' h
  simp only [sched, onPkt] at h
  split at h <;> cases h

/-- the move of the loop at the head of the `for` body: past the last entry; on to the next entry (priority not
positive, or store empty); or take a packet of this entry -/
theorem micro_scan_cases (cfg : Cfg ℚ) (i : Nat) (v : View) :
    ((table cfg)[i]? = none ∧ micro cfg (.scan i) v = .goto .endPass) ∨
    (∃ f pr, (table cfg)[i]? = some (f, pr) ∧ (0 < pr → v.storeLen f = 0) ∧ micro cfg (.scan i) v = .goto (.scan (i + 1))) ∨
    (∃ f pr, (table cfg)[i]? = some (f, pr) ∧ 0 < pr ∧ micro cfg (.scan i) v = .get f (.got i)) := by
  simp only [micro]
  split
  · exact .inl ⟨‹_›, rfl⟩
  · rename_i f pr hf
    by_cases hp : 0 < pr
    · by_cases hl : v.storeLen f = 0
      · exact .inr (.inl ⟨f, pr, hf, fun _ => hl, by rw [if_pos hp, if_pos hl]⟩)
      · exact .inr (.inr ⟨f, pr, hf, hp, by rw [if_pos hp, if_neg hl]⟩)
    · exact .inr (.inl ⟨f, pr, hf, fun h => absurd h hp, by rw [if_neg hp]⟩)

theorem lawful (c : Cfg ℚ) : Lawful (sched c) := by
  refine ⟨fun k v k' h => ?_, fun _ _ _ _ _ => .inr (neverParks c)⟩
  rcases k with i | i | _ | _
  · rcases micro_scan_cases c i v with ⟨_, e⟩ | ⟨_, _, _, _, e⟩ | ⟨_, _, _, _, e⟩ <;> cases e.symm.trans h
  · cases h
  · cases h
  · simp only [sched, micro] at h
    split at h
    · assumption
    · cases h

end SP

namespace RR
open MQ

theorem neverParks (c : Cfg ℚ) : NeverParks (sched c) := by
  intro k v cl p k' h
  simp only [sched, onPkt] at h
  split at h <;> cases h

/-- the move of the loop at the head of the `for` body: past the last entry; on to the next entry (flow not
backlogged); or take a packet of this flow -/
theorem micro_at_cases (cfg : Cfg ℚ) (i : Nat) (v : View) :
    (cfg.flows[i]? = none ∧ micro cfg (.at i) v = .goto .endPass) ∨
    (∃ f, cfg.flows[i]? = some f ∧ ¬ 0 < v.count f ∧ micro cfg (.at i) v = .goto (.at (i + 1))) ∨
    (∃ f, cfg.flows[i]? = some f ∧ 0 < v.count f ∧
      (micro cfg (.at i) v = .get f (.got i) ∨ ∃ m, micro cfg (.at i) v = .fail m)) := by
  simp only [micro]
  split
  · exact .inl ⟨‹_›, rfl⟩
  · rename_i f hf
    by_cases hp : 0 < v.count f
    · refine .inr (.inr ⟨f, hf, hp, ?_⟩)
      rw [if_pos hp]
      split
      · exact .inl rfl
      · exact .inr ⟨_, rfl⟩
    · exact .inr (.inl ⟨f, hf, hp, by rw [if_neg hp]⟩)

theorem lawful (c : Cfg ℚ) : Lawful (sched c) := by
  refine ⟨fun k v k' h => ?_, fun _ _ _ _ _ => .inr (neverParks c)⟩
  rcases k with i | i | i | _
  · rcases micro_at_cases c i v with ⟨_, e⟩ | ⟨_, _, _, e⟩ | ⟨_, _, _, e | ⟨_, e⟩⟩ <;> cases e.symm.trans h
  · cases h
  · cases h
  · simp only [sched, micro] at h
    split at h
    · assumption
    · cases h

end RR

namespace WRR
open MQ

theorem neverParks (c : Cfg ℚ) : NeverParks (sched c) := by
  intro k v cl p k' h
  simp only [sched, onPkt] at h
  split at h <;> cases h

/-- the move of the loop at the head of the inner `for` body: past the last entry; on to the next entry (allowance
used up or class not backlogged); or take a packet of this entry -/
theorem micro_at_cases (cfg : Cfg ℚ) (i j : Nat) (v : View) :
    (cfg.weights[i]? = none ∧ micro cfg (.at i j) v = .goto .endPass) ∨
    (∃ f w, cfg.weights[i]? = some (f, w) ∧ ¬ (j < w ∧ 0 < v.count f) ∧ micro cfg (.at i j) v = .goto (.at (i + 1) 0)) ∨
    (∃ f w, cfg.weights[i]? = some (f, w) ∧ j < w ∧ 0 < v.count f ∧
      (micro cfg (.at i j) v = .get f (.got i j) ∨ ∃ m, micro cfg (.at i j) v = .fail m)) := by
  simp only [micro]
  split
  · exact .inl ⟨‹_›, rfl⟩
  · rename_i f w hf
    by_cases hj : j < w
    · by_cases hp : 0 < v.count f
      · refine .inr (.inr ⟨f, w, hf, hj, hp, ?_⟩)
        rw [if_pos hj, if_pos hp]
        split
        · exact .inl rfl
        · exact .inr ⟨_, rfl⟩
      · exact .inr (.inl ⟨f, w, hf, fun h => hp h.2, by rw [if_pos hj, if_neg hp]⟩)
    · exact .inr (.inl ⟨f, w, hf, fun h => hj h.1, by rw [if_neg hj]⟩)

theorem lawful (c : Cfg ℚ) : Lawful (sched c) := by
  refine ⟨fun k v k' h => ?_, fun _ _ _ _ _ => .inr (neverParks c)⟩
  rcases k with ⟨i, j⟩ | ⟨i, j⟩ | ⟨i, j⟩ | _
  · rcases micro_at_cases c i j v with ⟨_, e⟩ | ⟨_, _, _, _, e⟩ | ⟨_, _, _, _, _, e | ⟨_, e⟩⟩ <;> cases e.symm.trans h
  · cases h
  · cases h
  · simp only [sched, micro] at h
    split at h
    · assumption
    · cases h

end WRR

namespace DRR
open MQ

inductive DMicro (cfg : Cfg ℚ) (k : Ctl ℚ) (v : View) : Micro (Ctl ℚ) → Prop
  | topGo : k.pc = .top → 0 < v.total → DMicro cfg k v (.goto { k with pc := .visit 0 })
  | topBlock : k.pc = .top → v.total = 0 → DMicro cfg k v (.block { k with pc := .top })
  | topSpin : k.pc = .top → ¬ 0 < v.total → v.total ≠ 0 → DMicro cfg k v (.goto { k with pc := .top })
  | roundEnd (i : Nat) : k.pc = .visit i → k.classCount[i]? = none → DMicro cfg k v (.goto { k with pc := .top })
  | visitAdd (i cls : Nat) (n : Int) (d q : ℚ) : k.pc = .visit i → k.classCount[i]? = some (cls, n) → 0 < n →
      lookup k.deficit cls = some d → quantum cfg cls = some q →
      DMicro cfg k v (.goto { addQuantum k cls d q with pc := .inner i })
  | visitSkip (i cls : Nat) (n : Int) : k.pc = .visit i → k.classCount[i]? = some (cls, n) → ¬ 0 < n →
      DMicro cfg k v (.goto { k with pc := .inner i })
  | innerExit (i cls : Nat) (n : Int) (d : ℚ) : k.pc = .inner i → k.classCount[i]? = some (cls, n) →
      lookup k.deficit cls = some d → ¬ (0 < d ∧ 0 < n) → DMicro cfg k v (.goto { k with pc := .visit (i + 1) })
  | innerGet (i cls : Nat) (n : Int) (d : ℚ) : k.pc = .inner i → k.classCount[i]? = some (cls, n) →
      lookup k.deficit cls = some d → 0 < d → 0 < n → v.parked cls = none →
      DMicro cfg k v (.get cls { k with pc := .gotPkt i })
  | innerTake (i cls : Nat) (n : Int) (d : ℚ) : k.pc = .inner i → k.classCount[i]? = some (cls, n) →
      lookup k.deficit cls = some d → 0 < d → 0 < n → DMicro cfg k v (.take cls { k with pc := .gotPkt i })
  | fail (m : String) : DMicro cfg k v (.fail m)

theorem micro_spec (cfg : Cfg ℚ) (k : Ctl ℚ) (v : View) : DMicro cfg k v (micro cfg (quantum cfg) k v) := by
  unfold micro
  split
  · rename_i hpc
    by_cases h1 : 0 < v.total
    · rw [if_pos h1]; exact .topGo hpc h1
    · rw [if_neg h1]
      by_cases h0 : v.total = 0
      · rw [if_pos h0]; exact .topBlock hpc h0
      · rw [if_neg h0]; exact .topSpin hpc h1 h0
  · rename_i i hpc
    split
    · exact .roundEnd i hpc ‹_›
    · rename_i cls n hcc
      by_cases hn : 0 < n
      · rw [if_pos hn]
        split
        · exact .visitAdd i cls n _ _ hpc hcc hn ‹_› ‹_›
        · exact .fail _
      · rw [if_neg hn]; exact .visitSkip i cls n hpc hcc hn
  · rename_i i hpc
    split
    · exact .fail _
    · rename_i cls n hcc
      split
      · exact .fail _
      · rename_i d hd
        rw [zero_eq']
        by_cases hc : 0 < d ∧ 0 < n
        · rw [if_pos hc]
          split
          · exact .innerTake i cls n d hpc hcc hd hc.1 hc.2
          · exact .innerGet i cls n d hpc hcc hd hc.1 hc.2 ‹_›
        · rw [if_neg hc]; exact .innerExit i cls n d hpc hcc hd hc
  · exact .fail _
  · exact .fail _

theorem lawful (c : Cfg ℚ) : Lawful (sched c) := by
  refine ⟨fun k v k' h => ?_, fun k v cl k' h => .inl ?_⟩
  · have h' : micro c (quantum c) k v = .block k' := h
    cases h' ▸ micro_spec c k v with
    | topBlock _ ht => exact ht
  · have h' : micro c (quantum c) k v = .get cl k' := h
    cases h' ▸ micro_spec c k v with
    | innerGet i cls n d _ _ _ _ _ hpk => exact hpk

end DRR
