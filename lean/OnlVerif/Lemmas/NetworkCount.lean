import Mathlib.Data.List.Perm.Basic
import Mathlib.Tactic.SplitIfs
import OnlVerif.Net.Network
/-!
# Counting packets in a network of accounts

`rc g s q` is how often packet `q` occurs in list `s` of the network state `g`.  Every atomic effect of the model changes
exactly one list (`rc_app`, `rc_del`); the abstract lemmas `Exact.move` / `Exact.add` say that moving one occurrence from a
place to a place, or adding a new packet at one place, keeps "every introduced packet is in exactly one place, once".
-/

namespace Net
variable {ι π κ : Type} [DecidableEq ι] [DecidableEq π] [DecidableEq κ]

def ind (b : Prop) [Decidable b] : Nat := if b then 1 else 0

theorem ind_true {b : Prop} [Decidable b] (h : b) : ind b = 1 := by simp [ind, h]
theorem ind_false {b : Prop} [Decidable b] (h : ¬ b) : ind b = 0 := by simp [ind, h]
theorem ind_le_one (b : Prop) [Decidable b] : ind b ≤ 1 := by unfold ind; split <;> omega

def GState.rc (g : GState ι π) (s : Slot ι) (q : π) : Nat := (g.recs s).count q

theorem recs_app (g : GState ι π) (s s' : Slot ι) (p : π) (r : Nat) :
    (g.app s p r).recs s' = if s' = s then g.recs s' ++ [p] else g.recs s' := by
  by_cases h : s' = s
  · subst h
    rw [if_pos rfl]
    cases s' <;> simp [GState.app, GState.recs, GState.modify, upd, List.filter_append]
  · rw [if_neg h]
    cases s with
    | sink k =>
      cases s' with
      | sink k' =>
        have : ¬ k = k' := fun e => h (e ▸ rfl)
        simp [GState.app, GState.recs, List.filter_append, this]
      | _ => rfl
    | _ =>
      -- a node's account is written: either another node's, or another list of the same account
      cases s' <;> simp only [GState.app, GState.recs, GState.modify, upd] <;> split <;>
        first | rfl | (subst_vars; first | rfl | exact absurd rfl h)

theorem recs_del (g : GState ι π) (a : ι) (p : π) (s' : Slot ι) :
    (g.del a p).recs s' = if s' = .held a then (g.recs s').erase p else g.recs s' := by
  by_cases h : s' = .held a
  · subst h
    simp [GState.del, GState.recs, GState.modify, upd]
  · rw [if_neg h]
    cases s' with
    | sink k => rfl
    | _ =>
      simp only [GState.del, GState.recs, GState.modify, upd]
      split <;> first | rfl | (subst_vars; first | rfl | exact absurd rfl h)

theorem count_snoc (l : List π) (p q : π) : (l ++ [p]).count q = l.count q + ind (q = p) := by
  rw [List.count_append, List.count_singleton]
  unfold ind
  by_cases h : q = p
  · subst h; simp
  · have : ¬ p = q := fun e => h e.symm
    simp [h, this]

theorem rc_app (g : GState ι π) (s s' : Slot ι) (p q : π) (r : Nat) :
    (g.app s p r).rc s' q = g.rc s' q + ind (s' = s ∧ q = p) := by
  unfold GState.rc
  rw [recs_app]
  by_cases h : s' = s
  · rw [if_pos h, count_snoc]
    by_cases hq : q = p <;> simp [ind, h, hq]
  · rw [if_neg h]; simp [ind, h]

theorem rc_del (g : GState ι π) (a : ι) (p q : π) (s' : Slot ι) (hp : p ∈ (g.acct a).held) :
    (g.del a p).rc s' q + ind (s' = .held a ∧ q = p) = g.rc s' q := by
  unfold GState.rc
  rw [recs_del]
  by_cases h : s' = .held a
  · subst h
    rw [if_pos rfl, List.count_erase]
    by_cases hq : q = p
    · subst hq
      have : 0 < ((g.recs (.held a)).count q) := List.count_pos_iff.mpr hp
      simp [ind]; omega
    · have : ¬ p = q := fun e => hq e.symm
      simp [ind, hq, this]
  · rw [if_neg h]; simp [ind, h]

@[simp] theorem app_injected (g : GState ι π) (s : Slot ι) (p : π) (r : Nat) : (g.app s p r).injected = g.injected := by
  cases s <;> rfl
@[simp] theorem app_copies (g : GState ι π) (s : Slot ι) (p : π) (r : Nat) : (g.app s p r).copies = g.copies := by
  cases s <;> rfl
@[simp] theorem del_injected (g : GState ι π) (a : ι) (p : π) : (g.del a p).injected = g.injected := rfl
@[simp] theorem del_copies (g : GState ι π) (a : ι) (p : π) : (g.del a p).copies = g.copies := rfl
@[simp] theorem app_introduced (g : GState ι π) (s : Slot ι) (p : π) (r : Nat) : (g.app s p r).introduced = g.introduced := by
  simp [GState.introduced]
@[simp] theorem del_introduced (g : GState ι π) (a : ι) (p : π) : (g.del a p).introduced = g.introduced := rfl

def Exact (c : Slot ι → π → Nat) (U : π → Prop) : Prop :=
  ∀ q, (U q → ∃ s, s.isPlace = true ∧ c s q = 1 ∧ ∀ s', s'.isPlace = true → s' ≠ s → c s' q = 0) ∧
       (¬ U q → ∀ s, s.isPlace = true → c s q = 0)

theorem Exact.at_same {c c' : Slot ι → π → Nat} {U U' : π → Prop} (h : Exact c U) (q : π) (hU : U' q ↔ U q)
    (same : ∀ s, s.isPlace = true → c' s q = c s q) :
    (U' q → ∃ s, s.isPlace = true ∧ c' s q = 1 ∧ ∀ s', s'.isPlace = true → s' ≠ s → c' s' q = 0) ∧
      (¬ U' q → ∀ s, s.isPlace = true → c' s q = 0) := by
  refine ⟨fun hU' => ?_, fun hn s hs => by rw [same s hs]; exact (h q).2 (fun hh => hn (hU.mpr hh)) s hs⟩
  obtain ⟨s0, h0p, h01, h0o⟩ := (h q).1 (hU.mp hU')
  exact ⟨s0, h0p, by rw [same s0 h0p]; exact h01, fun s' hs' hne => by rw [same s' hs']; exact h0o s' hs' hne⟩

theorem Exact.move {c c' : Slot ι → π → Nat} {U : π → Prop} (h : Exact c U) (src dst : Slot ι)
    (hd : dst.isPlace = true) (hsrc : src.isPlace = true) (p : π) (hp : 1 ≤ c src p)
    (hc : ∀ s q, s.isPlace = true → c' s q + ind (s = src ∧ q = p) = c s q + ind (s = dst ∧ q = p)) : Exact c' U := by
  intro q
  by_cases hq : q = p
  · subst hq
    have hU : U q := by
      by_contra hn
      have := (h q).2 hn src hsrc
      omega
    obtain ⟨s0, h0p, h01, h0o⟩ := (h q).1 hU
    have hs0 : s0 = src := by
      by_contra hne
      have := h0o src hsrc (fun e => hne e.symm)
      omega
    subst hs0
    -- before, `q` is at `s0` and nowhere else: `c s q = ind (s = s0)`; so afterwards `c' s q = ind (s = dst)`
    have hc' : ∀ s, s.isPlace = true → c' s q = ind (s = dst) := by
      intro s hs
      have := hc s q hs
      simp only [and_true] at this
      by_cases e : s = s0
      · rw [e, h01, ind_true rfl] at this; rw [e]; omega
      · rw [h0o s hs e, ind_false e] at this; omega
    exact ⟨fun _ => ⟨dst, hd, by rw [hc' dst hd, ind_true rfl], fun s' hs' hne => by rw [hc' s' hs', ind_false hne]⟩,
      fun hn => absurd hU hn⟩
  · refine h.at_same q Iff.rfl fun s hs => ?_
    have := hc s q hs
    rw [ind_false (fun hh => hq hh.2), ind_false (fun hh => hq hh.2)] at this
    omega

theorem Exact.add {c c' : Slot ι → π → Nat} {U U' : π → Prop} (h : Exact c U) (dst : Slot ι)
    (hd : dst.isPlace = true) (p : π) (hp : ¬ U p)
    (hc : ∀ s q, s.isPlace = true → c' s q = c s q + ind (s = dst ∧ q = p))
    (hU : ∀ q, U' q ↔ U q ∨ q = p) : Exact c' U' := by
  intro q
  by_cases hq : q = p
  · subst hq
    refine ⟨fun _ => ⟨dst, hd, ?_, ?_⟩, fun hn => absurd ((hU q).mpr (Or.inr rfl)) hn⟩
    · rw [hc dst q hd, (h q).2 hp dst hd, ind_true ⟨rfl, rfl⟩]
    · intro s' hs' hne
      rw [hc s' q hs', (h q).2 hp s' hs', ind_false (fun hh => hne hh.1)]
  · exact h.at_same q (by rw [hU q]; simp [hq]) fun s hs => by rw [hc s q hs, ind_false (fun hh => hq hh.2)]; rfl

theorem Exact.congr {c c' : Slot ι → π → Nat} {U : π → Prop} (h : Exact c U)
    (hc : ∀ s q, s.isPlace = true → c' s q = c s q) : Exact c' U :=
  fun q => h.at_same q Iff.rfl fun s hs => hc s q hs

end Net
