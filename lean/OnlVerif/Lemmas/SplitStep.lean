import OnlVerif.Kernel.Step
/-!
# Splitting a run into `step()` calls (C03, stage 1)

`stepN n` = `n` successive calls of `Environment.step`, stopping at the first call that does not return normally
(`StopSimulation`, an exception, `EmptySchedule`).  Budgets add up: `n + m` calls are `n` calls followed by `m` calls
from the state reached.  The observation trace is a field of the state, so equality of states is equality of traces.
Core Lean only; every lemma holds for every scalar type.
-/

variable {τ σ : Type} [Num τ]

def stepN (body : σ → Resume → Burst τ σ) (fuel : Nat) : Nat → KState τ σ → StepResult τ σ
  | 0, s => .ok s
  | n + 1, s =>
    match step body fuel s with
    | .ok s' => stepN body fuel n s'
    | r => r

def StepResult.andThen (r : StepResult τ σ) (f : KState τ σ → StepResult τ σ) : StepResult τ σ :=
  match r with
  | .ok s => f s
  | r => r

def RunResult.andThen (r : RunResult τ σ) (f : KState τ σ → RunResult τ σ) : RunResult τ σ :=
  match r with
  | .outOfFuel s => f s
  | r => r

theorem stepN_zero (body : σ → Resume → Burst τ σ) (fuel : Nat) (s : KState τ σ) : stepN body fuel 0 s = .ok s := rfl

theorem stepN_succ (body : σ → Resume → Burst τ σ) (fuel n : Nat) (s : KState τ σ) :
    stepN body fuel (n + 1) s = (step body fuel s).andThen (stepN body fuel n) := by
  rw [stepN]
  unfold StepResult.andThen
  cases step body fuel s <;> rfl

theorem stepN_one (body : σ → Resume → Burst τ σ) (fuel : Nat) (s : KState τ σ) :
    stepN body fuel 1 s = step body fuel s := by
  rw [stepN_succ]
  unfold StepResult.andThen
  cases step body fuel s <;> rfl

theorem stepN_add (body : σ → Resume → Burst τ σ) (fuel n m : Nat) (s : KState τ σ) :
    stepN body fuel (n + m) s = (stepN body fuel n s).andThen (stepN body fuel m) := by
  induction n generalizing s with
  | zero => rw [Nat.zero_add]; rfl
  | succ n ih =>
    rw [Nat.add_right_comm, stepN_succ, stepN_succ]
    cases h : step body fuel s with
    | ok s' => exact ih s'
    | _ => rfl

theorem stepN_add_ok (body : σ → Resume → Burst τ σ) (fuel n m : Nat) (s s' : KState τ σ)
    (h : stepN body fuel n s = .ok s') : stepN body fuel (n + m) s = stepN body fuel m s' := by
  rw [stepN_add, h]; rfl

theorem stepN_succ_last (body : σ → Resume → Burst τ σ) (fuel n : Nat) (s s' : KState τ σ)
    (h : stepN body fuel n s = .ok s') : stepN body fuel (n + 1) s = step body fuel s' := by
  rw [stepN_add_ok body fuel n 1 s s' h, stepN_one]

theorem stepN_cons_ok {body : σ → Resume → Burst τ σ} {fuel j : Nat} {s s1 sj : KState τ σ} (h : step body fuel s = .ok s1)
    (hj : stepN body fuel j s1 = .ok sj) : stepN body fuel (j + 1) s = .ok sj := by
  rw [stepN_succ, h]; exact hj

omit [Num τ] in
theorem StepResult.andThen_eq_ok {r : StepResult τ σ} {f : KState τ σ → StepResult τ σ} {s' : KState τ σ}
    (h : r.andThen f = .ok s') : ∃ s1, r = .ok s1 ∧ f s1 = .ok s' := by
  cases r with
  | ok s1 => exact ⟨s1, rfl, h⟩
  | _ => cases h

theorem stepN_succ_ok {body : σ → Resume → Burst τ σ} {fuel n : Nat} {s s' : KState τ σ}
    (h : stepN body fuel (n + 1) s = .ok s') : ∃ s1, step body fuel s = .ok s1 ∧ stepN body fuel n s1 = .ok s' :=
  StepResult.andThen_eq_ok (stepN_succ body fuel n s ▸ h)

theorem stepN_induct {body : σ → Resume → Burst τ σ} {fuel : Nat} {P : KState τ σ → Prop}
    (hstep : ∀ s s', P s → step body fuel s = .ok s' → P s') : ∀ (n : Nat) (s s' : KState τ σ), P s →
    stepN body fuel n s = .ok s' → P s'
  | 0, _, _, hs, h => by cases h; exact hs
  | n + 1, s, s', hs, h => by
    obtain ⟨s1, hst, h⟩ := stepN_succ_ok h
    exact stepN_induct hstep n s1 s' (hstep s s1 hs hst) h

theorem stepN_ok_prefix (body : σ → Resume → Burst τ σ) (fuel n m : Nat) (s s' : KState τ σ)
    (h : stepN body fuel (n + m) s = .ok s') : ∃ s1, stepN body fuel n s = .ok s1 ∧ stepN body fuel m s1 = .ok s' :=
  StepResult.andThen_eq_ok (stepN_add body fuel n m s ▸ h)

omit [Num τ] in
theorem onStop_ne_outOfFuel (u : Option EvId) (o : Outcome) (s s' : KState τ σ) : onStop u o s ≠ .outOfFuel s' := by
  unfold onStop
  intro h
  split at h
  · cases h
  · split at h <;> cases h

omit [Num τ] in
theorem onStop_andThen (u : Option EvId) (o : Outcome) (s : KState τ σ) (f : KState τ σ → RunResult τ σ) :
    (onStop u o s).andThen f = onStop u o s := by
  unfold onStop
  split
  · rfl
  · split <;> rfl

theorem runLoop_add (body : σ → Resume → Burst τ σ) (fuel : Nat) (u : Option EvId) (n m : Nat) (s : KState τ σ) :
    runLoop body fuel u (n + m) s = (runLoop body fuel u n s).andThen (runLoop body fuel u m) := by
  induction n generalizing s with
  | zero => rw [Nat.zero_add]; rfl
  | succ n ih =>
    rw [Nat.add_right_comm]
    simp only [runLoop]
    cases h : step body fuel s with
    | ok s' => exact ih s'
    | stopped o s' => exact (onStop_andThen u o s' _).symm
    | empty => simp only; split <;> rfl
    | crash x s' => rfl

theorem runLoop_outOfFuel_iff (body : σ → Resume → Burst τ σ) (fuel : Nat) (u : Option EvId) (n : Nat)
    (s s' : KState τ σ) : runLoop body fuel u n s = .outOfFuel s' ↔ stepN body fuel n s = .ok s' := by
  induction n generalizing s with
  | zero =>
    simp only [runLoop, stepN]
    constructor <;> intro h <;> cases h <;> rfl
  | succ n ih =>
    simp only [runLoop, stepN]
    cases h : step body fuel s with
    | ok s1 => exact ih s1
    | stopped o s1 => simp only; exact ⟨fun h2 => absurd h2 (onStop_ne_outOfFuel u o s1 s'), fun h2 => (nomatch h2)⟩
    | empty => simp only; exact ⟨fun h2 => (by split at h2 <;> cases h2), fun h2 => (nomatch h2)⟩
    | crash x s1 => simp only; exact ⟨fun h2 => (nomatch h2), fun h2 => (nomatch h2)⟩

theorem runLoop_of_stepN_ok (body : σ → Resume → Burst τ σ) (fuel : Nat) (u : Option EvId) (k n : Nat)
    (s s' : KState τ σ) (h : stepN body fuel k s = .ok s') :
    runLoop body fuel u (k + n) s = runLoop body fuel u n s' := by
  rw [runLoop_add, (runLoop_outOfFuel_iff body fuel u k s s').mpr h]; rfl

theorem runLoop_ended (body : σ → Resume → Burst τ σ) (fuel : Nat) (u : Option EvId) (n : Nat) (s : KState τ σ)
    (h : ∀ s', runLoop body fuel u n s ≠ .outOfFuel s') :
    ∃ k s1, k < n ∧ stepN body fuel k s = .ok s1 ∧ runLoop body fuel u n s = runLoop body fuel u 1 s1 ∧
      (∀ s2, step body fuel s1 ≠ .ok s2) := by
  induction n generalizing s with
  | zero => exact absurd rfl (h s)
  | succ n ih =>
    cases hs : step body fuel s with
    | ok s1 =>
      have h' : ∀ s', runLoop body fuel u n s1 ≠ .outOfFuel s' := by
        intro s' hc; apply h s'; simp only [runLoop, hs]; exact hc
      obtain ⟨k, s2, hk, h1, h2, h3⟩ := ih s1 h'
      refine ⟨k + 1, s2, Nat.succ_lt_succ hk, ?_, ?_, h3⟩
      · rw [Nat.add_comm, stepN_add, stepN_one, hs]; exact h1
      · rw [← h2]; simp only [runLoop, hs]
    | _ => exact ⟨0, s, Nat.succ_pos _, rfl, by simp only [runLoop, hs], fun s2 hc => by rw [hs] at hc; cases hc⟩

def stepPlan (body : σ → Resume → Burst τ σ) (fuel : Nat) (plan : List Nat) (s : KState τ σ) : StepResult τ σ :=
  plan.foldl (fun r n => r.andThen (stepN body fuel n)) (.ok s)

theorem andThen_foldl_not_ok (body : σ → Resume → Burst τ σ) (fuel : Nat) (plan : List Nat) (r : StepResult τ σ)
    (h : ∀ s, r ≠ .ok s) : plan.foldl (fun r n => r.andThen (stepN body fuel n)) r = r := by
  induction plan with
  | nil => rfl
  | cons n ns ih =>
    rw [List.foldl_cons]
    have : r.andThen (stepN body fuel n) = r := by
      unfold StepResult.andThen
      cases r with
      | ok s => exact absurd rfl (h s)
      | _ => rfl
    rw [this]; exact ih

theorem stepPlan_eq (body : σ → Resume → Burst τ σ) (fuel : Nat) (plan : List Nat) (s : KState τ σ) :
    stepPlan body fuel plan s = stepN body fuel plan.sum s := by
  unfold stepPlan
  induction plan generalizing s with
  | nil => rfl
  | cons n ns ih =>
    rw [List.foldl_cons, List.sum_cons, stepN_add]
    have h0 : (StepResult.ok s).andThen (stepN body fuel n) = stepN body fuel n s := rfl
    rw [h0]
    cases h : stepN body fuel n s with
    | ok s1 => exact ih s1
    | _ => exact andThen_foldl_not_ok body fuel ns _ (by intro s hc; cases hc)
