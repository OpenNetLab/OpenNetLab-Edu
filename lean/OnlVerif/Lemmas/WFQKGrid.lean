import OnlVerif.Lemmas.WFQKAbs
import OnlVerif.Lemmas.VCKGrid
import Mathlib.Tactic.Linarith
import Mathlib.Tactic.Ring
import Mathlib.Tactic.FieldSimp
/-!
# The WFQ scheduler on the kernel model: the two grids

Instants live on `ℤ / d1`; virtual time and finish times on `ℤ / (d1 · L)`.  The weight sum over the active classes is a
natural number between 1 and `wTotal` (`WFQKAbs.lean`; so it divides `L`), hence dividing an instant difference by it, and a transmission time
by a single weight, stays on the fine grid: the grid is closed under what `put` and the bookkeeping of `run` compute.
-/


namespace WFQK
open WFQOnK

variable {d : Nat}

theorem onGrid_zero : OnGrid d 0 := VCK.onGrid_zero

theorem onGrid_add {x y : ℚ} (hx : OnGrid d x) (hy : OnGrid d y) : OnGrid d (x + y) := VCK.onGrid_add hx hy

theorem onGrid_sub {x y : ℚ} (hx : OnGrid d x) (hy : OnGrid d y) : OnGrid d (x - y) := by
  obtain ⟨k, rfl⟩ := hx
  obtain ⟨l, rfl⟩ := hy
  exact ⟨k - l, by push_cast; rw [sub_div]⟩

theorem onGrid_max {x y : ℚ} (hx : OnGrid d x) (hy : OnGrid d y) : OnGrid d (max x y) := VCK.onGrid_max hx hy

theorem onGrid_pymax {x y : ℚ} (hx : OnGrid d x) (hy : OnGrid d y) : OnGrid d (Num.pymax x y) := VCK.onGrid_pymax hx hy

theorem onGrid_fine {d1 L : Nat} {x : ℚ} (hL : 0 < L) (hx : OnGrid d1 x) : OnGrid (d1 * L) x := by
  obtain ⟨k, rfl⟩ := hx
  refine ⟨k * L, ?_⟩
  have hL' : (L : ℚ) ≠ 0 := Nat.cast_ne_zero.mpr (Nat.pos_iff_ne_zero.mp hL)
  push_cast
  rw [mul_div_mul_right _ _ hL']

theorem onGrid_div {d1 L : Nat} {x : ℚ} (hx : OnGrid d1 x) (k : Nat) (hk : 1 ≤ k) (hdiv : k ∣ L) (hd : 0 < d1) (hL : 0 < L) :
    OnGrid (d1 * L) (x / (k : ℚ)) := by
  obtain ⟨m, rfl⟩ := hx
  obtain ⟨j, rfl⟩ := hdiv
  have hj : 0 < j := Nat.pos_of_mul_pos_left (a := k) hL
  refine ⟨m * j, ?_⟩
  have hk' : (k : ℚ) ≠ 0 := Nat.cast_ne_zero.mpr (by omega)
  have hj' : (j : ℚ) ≠ 0 := Nat.cast_ne_zero.mpr (by omega)
  have hd' : (d1 : ℚ) ≠ 0 := Nat.cast_ne_zero.mpr (by omega)
  push_cast
  field_simp

variable {F : Nat} {cfg : WfqCfg ℚ}

variable {scale d1 L : Nat}

theorem onGrid_adv (hc : CfgOK F cfg)
    (hg : 0 < d1 ∧ 0 < L ∧ scale = d1 * L ∧ ∀ k : Nat, 1 ≤ k → k ≤ wTotal F cfg → k ∣ L)
    (a : A) {now : ℚ} (hn : OnGrid d1 now) (hl : OnGrid d1 a.last) (hv : OnGrid scale a.vtime)
    (hact : ∃ c, c < F ∧ a.act c = true) :
    OnGrid scale (a.vtime + (now - a.last) / a.ws F cfg) := by
  obtain ⟨k, e1, e2, e3⟩ := ws_nat_pos hc a hact
  obtain ⟨h1, h2, h3, h4⟩ := hg
  refine onGrid_add hv ?_
  rw [e1, h3]
  exact onGrid_div (onGrid_sub hn hl) k e2 (h4 k e2 e3) h1 h2

theorem stampOf_def (f v w : ℚ) (size : Nat) :
    WFQ.stampOf cfg f v w size = Num.pymax f v + Num.ofNat (size * 8) / (cfg.rate * w) := rfl

theorem stampOf_tx (f v w : ℚ) (size' : Int → Nat) (id : Int) :
    WFQ.stampOf cfg f v w (size' id) = max f v + txTime size' cfg.rate id / w := by
  rw [stampOf_def, Num.pymax_eq]
  unfold txTime
  rw [div_mul_eq_div_div]

theorem onGrid_stamp (hg : 0 < d1 ∧ 0 < L ∧ scale = d1 * L) {f v : ℚ} (hf : OnGrid scale f) (hv : OnGrid scale v)
    (size' : Int → Nat) (id : Int) (htx : OnGrid d1 (txTime size' cfg.rate id)) (k : Nat) (hk : 1 ≤ k) (hdiv : k ∣ L) :
    OnGrid scale (WFQ.stampOf cfg f v (k : ℚ) (size' id)) := by
  rw [stampOf_tx]
  refine onGrid_add (onGrid_max hf hv) ?_
  rw [hg.2.2]
  exact onGrid_div htx k hk hdiv hg.1 hg.2.1

theorem onGrid_stamp_cls (hc : CfgOK F cfg)
    (hg : 0 < d1 ∧ 0 < L ∧ scale = d1 * L ∧ ∀ k : Nat, 1 ≤ k → k ≤ wTotal F cfg → k ∣ L)
    {f v : ℚ} (hf : OnGrid scale f) (hv : OnGrid scale v) (size' : Int → Nat) (id : Int)
    (htx : OnGrid d1 (txTime size' cfg.rate id)) {c : Nat} (hcF : c < F) :
    OnGrid scale (WFQ.stampOf cfg f v (wOf cfg c) (size' id)) := by
  obtain ⟨k, e1, e2, e3⟩ := wOf_le_total hc hcF
  rw [e1]
  exact onGrid_stamp ⟨hg.1, hg.2.1, hg.2.2.1⟩ hf hv size' id htx k e2 (hg.2.2.2 k e2 e3)

end WFQK
