import OnlVerif.Lemmas.OnceCore
/-! # The queue invariant `InvQ` and the liveness invariant `InvL` under each shape of state change;
the combined invariant `Inv` under the leaf updates that do not involve queues or process records -/

namespace Once
variable {σ : Type}

theorem InvQ.transfer {s s' : KState ℚ σ} (hi : InvQ s)
    (hpn : ∀ r, (s'.res r).putQ.Nodup) (hgn : ∀ r, (s'.res r).getQ.Nodup)
    (hp : ∀ r e, e ∈ (s'.res r).putQ → e ∈ (s.res r).putQ ∧ (s'.ev e).kind = (s.ev e).kind ∧ (s'.ev e).out = none)
    (hg : ∀ r e, e ∈ (s'.res r).getQ → e ∈ (s.res r).getQ ∧ (s'.ev e).kind = (s.ev e).kind ∧ (s'.ev e).out = none) :
    InvQ s' := by
  refine ⟨fun r => ⟨hpn r, ?_⟩, fun r => ⟨hgn r, ?_⟩⟩
  · intro e he
    obtain ⟨h1, h2, h3⟩ := hp r e he
    exact ⟨by rw [h2]; exact ((hi.putQ r).2 e h1).1, h3⟩
  · intro e he
    obtain ⟨h1, h2, h3⟩ := hg r e he
    exact ⟨by rw [h2]; exact ((hi.getQ r).2 e h1).1, h3⟩

theorem InvQ.keep {s s' : KState ℚ σ} (hi : InvQ s)
    (hp : ∀ r, (s'.res r).putQ = (s.res r).putQ) (hg : ∀ r, (s'.res r).getQ = (s.res r).getQ)
    (hk : ∀ e, (s.ev e).out = none → ((∃ r, (s.ev e).kind = .put r) ∨ (∃ r, (s.ev e).kind = .get r)) →
      (s'.ev e).kind = (s.ev e).kind ∧ (s'.ev e).out = none) : InvQ s' := by
  refine hi.transfer (fun r => by rw [hp]; exact (hi.putQ r).1) (fun r => by rw [hg]; exact (hi.getQ r).1) ?_ ?_
  · intro r e he
    rw [hp] at he
    have := (hi.putQ r).2 e he
    exact ⟨he, hk e this.2 (Or.inl ⟨r, this.1⟩)⟩
  · intro r e he
    rw [hg] at he
    have := (hi.getQ r).2 e he
    exact ⟨he, hk e this.2 (Or.inr ⟨r, this.1⟩)⟩

theorem InvQ.mem_put_lt {s : KState ℚ σ} (hi : InvQ s) (r : ResId) (e : EvId) (h : e ∈ (s.res r).putQ) :
    e < s.events.size := lt_of_kind s e (by rw [((hi.putQ r).2 e h).1]; simp)

theorem InvQ.mem_get_lt {s : KState ℚ σ} (hi : InvQ s) (r : ResId) (e : EvId) (h : e ∈ (s.res r).getQ) :
    e < s.events.size := lt_of_kind s e (by rw [((hi.getQ r).2 e h).1]; simp)

theorem InvQ.fresh {s : KState ℚ σ} (hi : InvQ s) (r : ResId) :
    s.events.size ∉ (s.res r).putQ ∧ s.events.size ∉ (s.res r).getQ :=
  ⟨fun h => Nat.lt_irrefl _ (hi.mem_put_lt r _ h), fun h => Nat.lt_irrefl _ (hi.mem_get_lt r _ h)⟩

theorem InvL.transfer' {g g' : Ghost} {s s' : KState ℚ σ} (hi : InvL g s)
    (hsz : s.events.size ≤ s'.events.size)
    (hp : ∀ p, s'.proc? p = s.proc? p)
    (ho : ∀ p, (s'.ev p).out = none → (s.ev p).out = none)
    (hrun : ∀ p, g.run = some p → g'.run = some p) (hlv : g'.lv = true → g.lv = true)
    (hH : ∀ p t, Held g s p t → t < s.events.size → g'.run ≠ some p → Held g' s' p t) : InvL g' s' := by
  constructor
  intro hl p pr hpp hout hr
  rw [hp] at hpp
  obtain ⟨t, h1, h2, h3⟩ := hi.live (hlv hl) p pr hpp (ho p hout) (fun h => hr (hrun p h))
  exact ⟨t, h1, Nat.lt_of_lt_of_le h2 hsz, hH p t h3 h2 hr⟩

theorem Held.keep {g g' : Ghost} {s s' : KState ℚ σ} {p t : EvId} (h : Held g s p t) (ht : t < s.events.size)
    (hg : g'.rem = g.rem ∧ g'.e0 = g.e0 ∧ g'.strict = g.strict)
    (hN : ∀ e, e < s.events.size → (s.ev e).cbs = none → (s'.ev e).cbs = none)
    (hL : ∀ e L, (s.ev e).cbs = some L → Cb.resume p ∈ L → ∃ L', (s'.ev e).cbs = some L' ∧ Cb.resume p ∈ L') :
    Held g' s' p t := by
  rcases h with ⟨h1, h2⟩ | ⟨L, h1, h2⟩ | ⟨h1, h2⟩
  · exact Or.inl ⟨by rw [hg.2.1]; exact h1, by rw [hg.1]; exact h2⟩
  · exact Or.inr (Or.inl (hL t L h1 h2))
  · exact Or.inr (Or.inr ⟨by rw [hg.2.2]; exact h1, hN t ht h2⟩)

theorem InvL.transfer {g g' : Ghost} {s s' : KState ℚ σ} (hi : InvL g s)
    (hsz : s.events.size ≤ s'.events.size)
    (hp : ∀ p, s'.proc? p = s.proc? p)
    (ho : ∀ p, (s'.ev p).out = none → (s.ev p).out = none)
    (hrun : ∀ p, g.run = some p → g'.run = some p) (hlv : g'.lv = true → g.lv = true)
    (hN : ∀ e, e < s.events.size → (s.ev e).cbs = none → (s'.ev e).cbs = none)
    (hL : ∀ e L p, (s.ev e).cbs = some L → Cb.resume p ∈ L → g'.run ≠ some p →
      ∃ L', (s'.ev e).cbs = some L' ∧ Cb.resume p ∈ L')
    (hg : g'.rem = g.rem ∧ g'.e0 = g.e0 ∧ g'.strict = g.strict := by exact ⟨rfl, rfl, rfl⟩) : InvL g' s' :=
  hi.transfer' hsz hp ho hrun hlv (fun p _ h ht hr => h.keep ht hg hN (fun e L hLe hm => hL e L p hLe hm hr))

theorem InvL.sameCbs {g : Ghost} {s s' : KState ℚ σ} (hi : InvL g s) (hsz : s.events.size ≤ s'.events.size)
    (hp : ∀ p, s'.proc? p = s.proc? p) (ho : ∀ p, (s'.ev p).out = none → (s.ev p).out = none)
    (hc : ∀ e, (s'.ev e).cbs = (s.ev e).cbs) : InvL g s' :=
  hi.transfer hsz hp ho (fun _ h => h) (fun h => h) (fun e _ h => by rw [hc]; exact h)
    (fun e L p hL hm _ => ⟨L, by rw [hc]; exact hL, hm⟩)

theorem InvL.congr {g : Ghost} {s s' : KState ℚ σ} (hi : InvL g s) (h : SameC s s') : InvL g s' :=
  hi.sameCbs (by rw [h.size]) h.proc (fun p hp => by rw [← h.out]; exact hp) h.cbs

/-- an outcome only ever appears: nobody who was finished becomes live -/
theorem InvL.setOut {g : Ghost} {s : KState ℚ σ} (hi : InvL g s) (e : EvId) (o : Outcome) : InvL g (s.setOut e o) := by
  refine hi.sameCbs (Nat.le_of_eq (size_setEv s e _).symm) (fun _ => rfl) (fun p hp => ?_) (cbs_setOut s e · o)
  rw [out_setOut] at hp
  split at hp
  · cases hp
  · exact hp

theorem InvL.trigger {g : Ghost} {s : KState ℚ σ} (hi : InvL g s) (e : EvId) (o : Outcome) : InvL g (s.trigger e o) :=
  ⟨(hi.setOut e o).live⟩

theorem InvS.transfer {s s' : KState ℚ σ} (hi : InvS s) (hag : ∀ q ∈ s.agenda, q ∈ s'.agenda)
    (h : ∀ e, (s'.ev e).out ≠ none → (s'.ev e).cbs ≠ none →
      ((s.ev e).out ≠ none ∧ (s.ev e).cbs ≠ none) ∨ ∃ q ∈ s'.agenda, q.ev = e) : InvS s' := by
  intro e h1 h2
  rcases h e h1 h2 with ⟨h3, h4⟩ | h3
  · obtain ⟨q, hq, hqe⟩ := hi e h3 h4
    exact ⟨q, hag q hq, hqe⟩
  · exact h3

theorem InvSx.transfer {x : EvId} {s s' : KState ℚ σ} (hi : InvSx x s) (hag : ∀ q ∈ s.agenda, q ∈ s'.agenda)
    (h : ∀ e, e ≠ x → (s'.ev e).out ≠ none → (s'.ev e).cbs ≠ none →
      ((s.ev e).out ≠ none ∧ (s.ev e).cbs ≠ none) ∨ ∃ q ∈ s'.agenda, q.ev = e) : InvSx x s' := by
  intro e hx h1 h2
  rcases h e hx h1 h2 with ⟨h3, h4⟩ | h3
  · obtain ⟨q, hq, hqe⟩ := hi e hx h3 h4
    exact ⟨q, hag q hq, hqe⟩
  · exact h3

theorem InvS.same {s s' : KState ℚ σ} (hi : InvS s) (ha : s'.agenda = s.agenda)
    (ho : ∀ e, (s'.ev e).out = (s.ev e).out) (hc : ∀ e, (s'.ev e).cbs = none ↔ (s.ev e).cbs = none) : InvS s' :=
  hi.transfer (fun q hq => by rw [ha]; exact hq)
    (fun e h1 h2 => Or.inl ⟨by rw [← ho]; exact h1, fun h => h2 ((hc e).mpr h)⟩)

theorem InvS.congr {s s' : KState ℚ σ} (hi : InvS s) (h : SameC s s') : InvS s' :=
  hi.same h.agenda h.out (fun e => by rw [h.cbs])

theorem InvS.toX {s : KState ℚ σ} (hi : InvS s) (x : EvId) : InvSx x s := fun e _ => hi e

/-- `trigger` never leaves an orphan: the event gets its outcome and its agenda entry together -/
theorem InvS.trigger {s : KState ℚ σ} (hi : InvS s) (e : EvId) (o : Outcome) : InvS (s.trigger e o) := by
  refine hi.transfer (fun q hq => List.mem_cons_of_mem _ hq) ?_
  intro e' h1 h2
  by_cases he : e' = e
  · exact Or.inr ⟨_, List.mem_cons_self, he.symm⟩
  · left
    have ho : ((s.trigger e o).ev e').out = (s.ev e').out := by
      show ((s.setOut e o).ev e').out = _
      rw [out_setOut, if_neg (fun h => he h.1)]
    have hc := cbs_trigger s e e' o
    rw [ho] at h1; rw [hc] at h2
    exact ⟨h1, h2⟩

theorem Inv.toX {g : Ghost} {s : KState ℚ σ} (hi : Inv g s) (x : EvId) : InvX x g s := ⟨hi.c, hi.q, hi.l, hi.s.toX x⟩

/-- the exempted event is no orphan (it is untriggered, processed, or scheduled) -/
theorem InvX.toInv {x : EvId} {g : Ghost} {s : KState ℚ σ} (hi : InvX x g s)
    (hx : (s.ev x).out ≠ none → (s.ev x).cbs ≠ none → ∃ q ∈ s.agenda, q.ev = x) : Inv g s := by
  refine ⟨hi.c, hi.q, hi.l, ?_⟩
  intro e h1 h2
  by_cases he : e = x
  · subst he; exact hx h1 h2
  · exact hi.sx e he h1 h2


theorem Inv.congr {g : Ghost} {s s' : KState ℚ σ} (hi : Inv g s) (h : SameC s s')
    (hp : ∀ r, (s'.res r).putQ = (s.res r).putQ) (hg : ∀ r, (s'.res r).getQ = (s.res r).getQ) : Inv g s' :=
  ⟨hi.c.congr h, hi.q.keep hp hg (fun e ho _ => ⟨h.kind e, by rw [h.out]; exact ho⟩), hi.l.congr h, hi.s.congr h⟩

theorem Inv.emit {g : Ghost} {s : KState ℚ σ} (hi : Inv g s) (o : Obs ℚ) : Inv g (s.emit o) :=
  hi.congr (SameC.of_events rfl rfl rfl) (fun _ => rfl) (fun _ => rfl)

theorem Inv.active {g : Ghost} {s : KState ℚ σ} (hi : Inv g s) (a : Option EvId) : Inv g { s with active := a } :=
  hi.congr (SameC.of_events rfl rfl rfl) (fun _ => rfl) (fun _ => rfl)

theorem Inv.shared {g : Ghost} {s : KState ℚ σ} (hi : Inv g s) (l : List (Nat × Val)) : Inv g { s with shared := l } :=
  hi.congr (SameC.of_events rfl rfl rfl) (fun _ => rfl) (fun _ => rfl)

/-- an update of one event record in fields the invariant does not look at (`defused`, `count`, `req`) -/
theorem Inv.setEv_same {g : Ghost} {s : KState ℚ σ} (hi : Inv g s) (e : EvId) (x : EvRec ℚ)
    (hk : x.kind = (s.ev e).kind) (hc : x.cbs = (s.ev e).cbs) (ho : x.out = (s.ev e).out) : Inv g (s.setEv e x) :=
  hi.congr (SameC.of_setEv s e x hk hc ho) (fun _ => rfl) (fun _ => rfl)

theorem Inv.defuse {g : Ghost} {s : KState ℚ σ} (hi : Inv g s) (e : EvId) : Inv g (s.defuse e) :=
  hi.setEv_same e _ rfl rfl rfl

theorem Inv.bumpCount {g : Ghost} {s : KState ℚ σ} (hi : Inv g s) (e : EvId) : Inv g (s.bumpCount e) :=
  hi.setEv_same e _ rfl rfl rfl

theorem Inv.setUsage {g : Ghost} {s : KState ℚ σ} (hi : Inv g s) (e : EvId) : Inv g (s.setUsage e) :=
  hi.setEv_same e _ rfl rfl rfl

theorem Inv.setRes_same {g : Ghost} {s : KState ℚ σ} (hi : Inv g s) (r : ResId) (x : ResRec)
    (hp : x.putQ = (s.res r).putQ) (hg : x.getQ = (s.res r).getQ) : Inv g (s.setRes r x) :=
  hi.congr (SameC.of_events rfl rfl rfl) (fun r' => (queues_setRes s r r' x hp hg).1)
    (fun r' => (queues_setRes s r r' x hp hg).2)

theorem Inv.setUsers {g : Ghost} {s : KState ℚ σ} (hi : Inv g s) (r : ResId) (l : List EvId) : Inv g (s.setUsers r l) :=
  hi.setRes_same r _ rfl rfl
theorem Inv.setLevel {g : Ghost} {s : KState ℚ σ} (hi : Inv g s) (r : ResId) (x : Int) : Inv g (s.setLevel r x) :=
  hi.setRes_same r _ rfl rfl
theorem Inv.setItems {g : Ghost} {s : KState ℚ σ} (hi : Inv g s) (r : ResId) (l : List Int) : Inv g (s.setItems r l) :=
  hi.setRes_same r _ rfl rfl

theorem InvC.agenda_lt {g : Ghost} {s : KState ℚ σ} (hi : InvC g s) : ∀ b ∈ s.agenda, b.ev < s.events.size :=
  fun b hb => lt_of_cbs s _ (hi.ag_live b hb).2

theorem InvX.scheduleAt {g : Ghost} {s : KState ℚ σ} {e : EvId} (hi : InvX e g s) (p : Nat) (t : ℚ)
    (ho : (s.ev e).out ≠ none) (hc : (s.ev e).cbs ≠ none) (hnew : ∀ b ∈ s.agenda, b.ev ≠ e) :
    Inv g (s.scheduleAt e p t) := by
  refine ⟨hi.c.sched { time := t, prio := p, eid := s.eid, ev := e } rfl rfl (fun _ => rfl) (fun _ => rfl) hnew ho hc,
    hi.q.keep (fun _ => rfl) (fun _ => rfl) (fun _ h _ => ⟨rfl, h⟩), ⟨hi.l.live⟩, ?_⟩
  intro e' h1 h2
  by_cases he : e' = e
  · exact ⟨_, List.mem_cons_self, he.symm⟩
  · obtain ⟨q, hq, hqe⟩ := hi.sx e' he h1 h2
    exact ⟨q, List.mem_cons_of_mem _ hq, hqe⟩

theorem InvX.schedule {g : Ghost} {s : KState ℚ σ} {e : EvId} (hi : InvX e g s) (p : Nat) (d : ℚ)
    (ho : (s.ev e).out ≠ none) (hc : (s.ev e).cbs ≠ none) (hnew : ∀ b ∈ s.agenda, b.ev ≠ e) :
    Inv g (s.schedule e p d) :=
  hi.scheduleAt p (s.now + d) ho hc hnew

theorem Inv.setOut {g : Ghost} {s : KState ℚ σ} (hi : Inv g s) (e : EvId) (o : Outcome)
    (h : (s.ev e).out = none → (s.ev e).kind = .plain ∨ isCond s e = true) : InvX e g (s.setOut e o) := by
  have hk := (kind_setOut s e · o)
  have hcb := (cbs_setOut s e · o)
  refine ⟨hi.c.setOut e o ?_, hi.q.keep (fun _ => rfl) (fun _ => rfl) ?_, ?_, ?_⟩
  rotate_right
  · refine (hi.s.toX e).transfer (fun q hq => hq) ?_
    intro e' he h1 h2
    rw [out_setOut, if_neg (fun hh => he hh.1)] at h1
    rw [hcb] at h2
    exact Or.inl ⟨h1, h2⟩
  · intro ho
    rcases h ho with h | h
    · rw [h]; simp
    · exact isCond_not_proc s e h
  · intro e' ho hkind
    refine ⟨hk e', ?_⟩
    rw [out_setOut]
    split
    · rename_i hc
      exfalso
      rw [hc.1] at ho hkind
      rcases h ho with h | h
      · rcases hkind with ⟨r, hr⟩ | ⟨r, hr⟩ <;> rw [h] at hr <;> cases hr
      · unfold isCond at h
        rcases hkind with ⟨r, hr⟩ | ⟨r, hr⟩ <;> rw [hr] at h <;> exact absurd h (by simp)
    · exact ho
  · exact hi.l.setOut e o

theorem Inv.trigger {g : Ghost} {s : KState ℚ σ} (hi : Inv g s) (e : EvId) (o : Outcome)
    (hlt : e < s.events.size) (ho : (s.ev e).out = none)
    (hk : (s.ev e).kind = .plain ∨ isCond s e = true) : Inv g (s.trigger e o) := by
  unfold KState.trigger
  have h1 := hi.setOut e o (fun _ => hk)
  refine h1.schedule NORMAL Num.zero ?_ ?_ ?_
  · rw [out_setOut, if_pos ⟨rfl, hlt⟩]; simp
  · rw [cbs_setOut]
    intro hc; exact hi.c.done_trig e hlt hc ho
  · exact hi.c.not_in_agenda e ho

/-- re-setting the outcome of an event that is already triggered (`Condition._build_value`) -/
theorem Inv.setOut_triggered {g : Ghost} {s : KState ℚ σ} (hi : Inv g s) (e : EvId) (o : Outcome)
    (h : (s.ev e).out ≠ none) : Inv g (s.setOut e o) := by
  refine (hi.setOut e o (fun h' => absurd h' h)).toInv ?_
  intro _ h2
  rw [cbs_setOut] at h2
  exact hi.s e h h2

theorem InvQ.mapCbs {s : KState ℚ σ} (hi : InvQ s) (e : EvId) (f : List Cb → List Cb) :
    InvQ (s.setEv e { s.ev e with cbs := (s.ev e).cbs.map f }) :=
  hi.keep (fun _ => rfl) (fun _ => rfl) (fun x h _ => ⟨kind_mapCbs s e x f, (out_mapCbs s e x f).trans h⟩)

theorem InvS.mapCbs {s : KState ℚ σ} (hi : InvS s) (e : EvId) (f : List Cb → List Cb) :
    InvS (s.setEv e { s.ev e with cbs := (s.ev e).cbs.map f }) :=
  hi.same rfl (out_mapCbs s e · f) (cbs_mapCbs_none s e · f)

theorem InvL.mapCbs {g g' : Ghost} {s : KState ℚ σ} (hi : InvL g s) (e : EvId) (f : List Cb → List Cb)
    (hkeep : ∀ L p, (s.ev e).cbs = some L → Cb.resume p ∈ L → g'.run ≠ some p → Cb.resume p ∈ f L)
    (hrun : ∀ p, g.run = some p → g'.run = some p := by exact fun _ h => h)
    (hlv : g'.lv = true → g.lv = true := by exact fun h => h)
    (hg : g'.rem = g.rem ∧ g'.e0 = g.e0 ∧ g'.strict = g.strict := by exact ⟨rfl, rfl, rfl⟩) :
    InvL g' (s.setEv e { s.ev e with cbs := (s.ev e).cbs.map f }) := by
  refine hi.transfer (Nat.le_of_eq (size_setEv _ _ _).symm) (fun _ => rfl)
    (fun p hp => (out_mapCbs s e p f).symm.trans hp) hrun hlv (fun x _ => (cbs_mapCbs_none s e x f).mpr) ?_ hg
  intro x L p hL hm hr
  rw [cbs_mapCbs]; split
  · rename_i hx; rw [hx] at hL; rw [hL]; exact ⟨f L, rfl, hkeep L p hL hm hr⟩
  · exact ⟨L, hL, hm⟩

theorem Inv.mapCbs {g : Ghost} {s : KState ℚ σ} (hi : Inv g s) (e : EvId) (f : List Cb → List Cb)
    (hf : ∀ L, (s.ev e).cbs = some L → ListStep g s e L (f L))
    (hkeep : ∀ L p, (s.ev e).cbs = some L → Cb.resume p ∈ L → g.run ≠ some p → Cb.resume p ∈ f L) :
    Inv g (s.setEv e { s.ev e with cbs := (s.ev e).cbs.map f }) :=
  ⟨hi.c.mapCbs e f hf, hi.q.mapCbs e f, hi.l.mapCbs e f hkeep, hi.s.mapCbs e f⟩

theorem Inv.addCb {g : Ghost} {s : KState ℚ σ} (hi : Inv g s) (e : EvId) (cb : Cb)
    (h1 : ∀ p, cb ≠ .resume p) (h2 : ∀ iv, cb ≠ .intr iv) (h3 : ∀ c, cb = .check c → isCond s c = true) :
    Inv g (s.addCb e cb) :=
  hi.mapCbs e (· ++ [cb]) (fun L _ => .append L (fun p h => absurd h (h1 p)) h2 h3)
    (fun _ _ _ hm _ => List.mem_append_left _ hm)

theorem Inv.eraseCb_other {g : Ghost} {s : KState ℚ σ} (hi : Inv g s) (e : EvId) (cb : Cb)
    (h1 : ∀ p, cb ≠ .resume p) : Inv g (s.eraseCb e cb) :=
  hi.mapCbs e (·.erase cb) (fun L _ => .erase L h1)
    (fun _ p _ hm _ => (List.mem_erase_of_ne (fun h => h1 p h.symm)).mpr hm)

theorem InvQ.push {s s' : KState ℚ σ} (hi : InvQ s) (rec : EvRec ℚ)
    (hev : ∀ e, s'.ev e = if e = s.events.size then rec else s.ev e)
    (hpq : ∀ r, (s'.res r).putQ = (s.res r).putQ) (hgq : ∀ r, (s'.res r).getQ = (s.res r).getQ) : InvQ s' :=
  hi.keep hpq hgq (fun e ho hk => by rw [hev, if_neg (Nat.ne_of_lt (lt_of_req s e hk))]; exact ⟨rfl, ho⟩)

theorem InvS.push {s s' : KState ℚ σ} (hi : InvS s) (rec : EvRec ℚ) (ha : s'.agenda = s.agenda)
    (hev : ∀ e, s'.ev e = if e = s.events.size then rec else s.ev e) : InvSx s.events.size s' :=
  (hi.toX _).transfer (fun q hq => by rw [ha]; exact hq)
    (fun e he h1 h2 => by rw [hev, if_neg he] at h1 h2; exact Or.inl ⟨h1, h2⟩)

theorem Inv.push {g : Ghost} {s s' : KState ℚ σ} (hi : Inv g s) (rec : EvRec ℚ) (L0 : List Cb)
    (ha : s'.agenda = s.agenda) (hsz : s'.events.size = s.events.size + 1)
    (hev : ∀ e, s'.ev e = if e = s.events.size then rec else s.ev e)
    (hp : ∀ p, s'.proc? p = s.proc? p)
    (hpq : ∀ r, (s'.res r).putQ = (s.res r).putQ) (hgq : ∀ r, (s'.res r).getQ = (s.res r).getQ)
    (hc : rec.cbs = some L0)
    (hres : ∀ p, Cb.resume p ∈ L0 → NewReg g s s.events.size rec.kind L0 p)
    (hintr : ∀ iv, Cb.intr iv ∈ L0 → iv = s.events.size)
    (hcheck : ∀ c, Cb.check c ∉ L0) : InvX s.events.size g s' := by
  have hold : ∀ e, e < s.events.size → s'.ev e = s.ev e := fun e he => by rw [hev, if_neg (Nat.ne_of_lt he)]
  refine ⟨hi.c.push rec L0 ha hsz hev hp hc hres hintr hcheck, hi.q.push rec hev hpq hgq, ?_, hi.s.push rec ha hev⟩
  refine hi.l.transfer (by omega) hp ?_ (fun _ h => h) (fun h => h) (fun e he h => by rw [hold e he]; exact h) ?_
  · intro p hpo
    by_cases h : p < s.events.size
    · rw [hold p h] at hpo; exact hpo
    · rw [ev_default s p h]; rfl
  · intro e L p hL hm _
    rw [hold e (lt_of_cbs_some s e L hL)]; exact ⟨L, hL, hm⟩

/-- **a process is started**: the pending process event `p`, which has no record yet, gets a record whose target is the
event created next, and that event's only callback resumes `p` (the record and the registration appear together) -/
theorem Inv.start {g : Ghost} {s : KState ℚ σ} (hi : Inv g s) (p : EvId) (pr : ProcRec σ) (rec : EvRec ℚ)
    (hk : (s.ev p).kind = .proc) (ho : (s.ev p).out = none) (hnone : s.proc? p = none)
    (hrem : Cb.resume p ∉ g.rem) (hrun : g.run ≠ some p)
    (ht : pr.target = some s.events.size) (hc : rec.cbs = some [.resume p]) (hki : rec.kind ≠ .intr p) :
    InvX s.events.size g ((s.setProc p pr).newEv rec).1 := by
  have hunreg : Unreg s p := fun e L hL hm => by
    obtain ⟨_, ⟨pr', h2, _⟩, _⟩ := hi.c.reg e L p hL hm
    rw [hnone] at h2; cases h2
  have hev : ∀ e, ((s.setProc p pr).newEv rec).1.ev e = if e = s.events.size then rec else s.ev e :=
    KState.ev_newEv (s.setProc p pr) rec
  have hold : ∀ e, e < s.events.size → ((s.setProc p pr).newEv rec).1.ev e = s.ev e :=
    fun e he => by rw [hev, if_neg (Nat.ne_of_lt he)]
  have hsz : ((s.setProc p pr).newEv rec).1.events.size = s.events.size + 1 := by simp [KState.newEv, KState.setProc]
  refine ⟨(hi.c.setProc p pr hk (fun e L hL hm => absurd hm (hunreg e L hL))).newEv rec [.resume p] hc ?_
      (fun iv hm => by simp at hm) (fun c hm => by simp at hm),
    InvQ.push (s := s.setProc p pr) ⟨hi.q.putQ, hi.q.getQ⟩ rec hev (fun _ => rfl) (fun _ => rfl), ⟨?_⟩,
    hi.s.push (s := s.setProc p pr) rec rfl hev⟩
  · intro q hm
    cases List.mem_singleton.mp hm
    exact ⟨ho, ⟨pr, by rw [proc?_setProc, if_pos rfl], ht⟩, by simp, hki, hrem, hrun⟩
  · intro hlv p' pr' hpp hout hr
    have hpp' : (s.setProc p pr).proc? p' = some pr' := hpp
    rw [proc?_setProc] at hpp'
    split at hpp'
    · rename_i hpe
      cases hpp'
      exact ⟨s.events.size, ht, by rw [hsz]; exact Nat.lt_succ_self _,
        Or.inr (Or.inl ⟨[.resume p], by rw [hev, if_pos rfl]; exact hc, by simp [hpe]⟩)⟩
    · have hout' : (s.ev p').out = none := by
        by_cases h : p' < s.events.size
        · rw [hold p' h] at hout; exact hout
        · rw [ev_default s p' h]; rfl
      obtain ⟨t, h1, h2, h3⟩ := hi.l.live hlv p' pr' hpp' hout' hr
      exact ⟨t, h1, by rw [hsz]; exact Nat.lt_succ_of_lt h2,
        h3.keep h2 ⟨rfl, rfl, rfl⟩ (fun e he h => by rw [hold e he]; exact h)
          (fun e L hL hm => ⟨L, by rw [hold e (lt_of_cbs_some s e L hL)]; exact hL, hm⟩)⟩

theorem Inv.newEv {g : Ghost} {s : KState ℚ σ} (hi : Inv g s) (rec : EvRec ℚ) (L0 : List Cb)
    (hc : rec.cbs = some L0)
    (hres : ∀ p, Cb.resume p ∈ L0 → NewReg g s s.events.size rec.kind L0 p)
    (hintr : ∀ iv, Cb.intr iv ∈ L0 → iv = s.events.size)
    (hcheck : ∀ c, Cb.check c ∉ L0) : InvX s.events.size g (s.newEv rec).1 :=
  hi.push rec L0 rfl (by simp [KState.newEv]) (fun e => KState.ev_newEv s rec e) (fun _ => rfl) (fun _ => rfl)
    (fun _ => rfl) hc hres hintr hcheck

theorem Inv.newLabelled {g : Ghost} {s : KState ℚ σ} (hi : Inv g s) (rec : EvRec ℚ) (L0 : List Cb)
    (hc : rec.cbs = some L0) (hres : ∀ p, Cb.resume p ∉ L0) (hintr : ∀ iv, Cb.intr iv ∉ L0)
    (hcheck : ∀ c, Cb.check c ∉ L0) : InvX s.events.size g (s.newLabelled rec).1 :=
  hi.push { rec with label := s.nlabel + 1 } L0 rfl (by simp [KState.newLabelled])
    (fun e => KState.ev_newLabelled s rec e) (fun _ => rfl) (fun _ => rfl) (fun _ => rfl) hc
    (fun p hm => absurd hm (hres p)) (fun iv hm => absurd hm (hintr iv)) hcheck

/-- a fresh *pending* event (no outcome yet): nothing to schedule -/
theorem Inv.newLabelled_pending {g : Ghost} {s : KState ℚ σ} (hi : Inv g s) (rec : EvRec ℚ) (L0 : List Cb)
    (hc : rec.cbs = some L0) (hres : ∀ p, Cb.resume p ∉ L0) (hintr : ∀ iv, Cb.intr iv ∉ L0)
    (hcheck : ∀ c, Cb.check c ∉ L0) (ho : rec.out = none) : Inv g (s.newLabelled rec).1 := by
  refine (hi.newLabelled rec L0 hc hres hintr hcheck).toInv ?_
  intro h1
  rw [KState.ev_newLabelled, if_pos rfl] at h1
  exact absurd ho h1

end Once
