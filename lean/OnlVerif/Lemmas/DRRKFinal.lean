import OnlVerif.Lemmas.DRRKRefine
import OnlVerif.Props.C15
/-!
# The DRR scheduler on the kernel model: windows of kernel runs are windows of the LTS (for the fairness bound)
-/

namespace DRRK
open DRROnK QEntry MQ

variable {F : Nat} {flow size : Int → Nat} {cfg : DRR.Cfg ℚ} {Lmax P : Nat}

inductive KWin (body : St → Resume → Burst ℚ St) (fuel : Nat) (Pr : KS → Prop) : KS → KS → Prop
  | nil (s : KS) : Pr s → KWin body fuel Pr s s
  | cons (s s' s'' : KS) : Pr s → (step body fuel s).state? = some s' → KWin body fuel Pr s' s'' → KWin body fuel Pr s s''

def pkBytes (cfg : DRR.Cfg ℚ) (c : Nat) (l : List MPkt) : Int :=
  (l.map fun p => if DRR.classOf cfg p.flow = some c then (p.size : Int) else 0).sum

theorem pkBytes_append (c : Nat) (l1 l2 : List MPkt) : pkBytes cfg c (l1 ++ l2) = pkBytes cfg c l1 + pkBytes cfg c l2 := by
  simp [pkBytes]

theorem window_append {L : ℚ} {Pr : DRR.St → Prop} {s s' s'' : DRR.St} {o1 o2 : List (MOut ℚ)}
    (h1 : DRR.Window cfg L Pr s o1 s') (h2 : DRR.Window cfg L Pr s' o2 s'') : DRR.Window cfg L Pr s (o1 ++ o2) s'' := by
  induction h1 with
  | nil s hp => exact h2
  | cons s a s1 o outs s2 hp ha hs hw ih => exact DRR.Window.cons s a s1 o (outs ++ o2) s'' hp ha hs (ih h2)

theorem bytesOut_append (c : Nat) (o1 o2 : List (MOut ℚ)) :
    DRR.bytesOut cfg c (o1 ++ o2) = DRR.bytesOut cfg c o1 + DRR.bytesOut cfg c o2 := by
  simp [DRR.bytesOut]

theorem window_short {L : ℚ} {Pr : DRR.St → Prop} {s s' : DRR.St} {acts : List (MAct ℚ)} {ins outs : List MPkt}
    (hlen : acts.length ≤ 1) (ha : ∀ x ∈ acts, DRR.ActOk L x) (hr : runActs (DRR.sched cfg) s acts = .ok (s', ins, outs))
    (hp : Pr s) (hp' : Pr s') :
    ∃ mouts, DRR.Window cfg L Pr s mouts s' ∧ ∀ c, DRR.bytesOut cfg c mouts = pkBytes cfg c outs := by
  match acts, hlen with
  | [], _ =>
    simp only [runActs, Except.ok.injEq, Prod.mk.injEq] at hr
    obtain ⟨rfl, -, rfl⟩ := hr
    exact ⟨[], DRR.Window.nil s hp, fun c => by simp [DRR.bytesOut, pkBytes]⟩
  | [x], _ =>
    simp only [runActs] at hr
    cases hs : MQ.step (DRR.sched cfg) s x with
    | error m => rw [hs] at hr; cases hr
    | ok so =>
      obtain ⟨s1, o⟩ := so
      rw [hs] at hr
      simp only [Except.ok.injEq, Prod.mk.injEq, List.append_nil] at hr
      obtain ⟨rfl, -, rfl⟩ := hr
      refine ⟨[o], DRR.Window.cons s x s1 o [] s1 hp (ha x (by simp)) hs (DRR.Window.nil s1 hp'), ?_⟩
      intro c
      cases o <;> simp [DRR.bytesOut, DRR.depB, pkBytes]

variable {s s' : KS} {a : A} {q : QEntry ℚ} {rest : List (QEntry ℚ)}

theorem toM_ctl (a : A) (hist : List (HEv ℚ)) (t t' : ℚ) :
    (toM cfg.flows flow size a hist t).ctl = (toM cfg.flows flow size a hist t').ctl := rfl

theorem kwin_window (fuel : Nat) (ia ib ca cb : Nat) {s1 s2 : KS} {a1 : A} (h1 : Inv2 F flow size cfg Lmax P s1 a1)
    (hw : KWin (prog F flow size cfg P) (fuel + 1) (fun x => DRR.Both ia ib ca cb (absDRR cfg flow size x)) s1 s2) :
    ∃ a2 mouts new, Inv2 F flow size cfg Lmax P s2 a2 ∧ histOf s2.trace = histOf s1.trace ++ new ∧
      DRR.Window cfg (Lmax : ℚ) (DRR.Both ia ib ca cb) (absDRR cfg flow size s1) mouts (absDRR cfg flow size s2) ∧
      ∀ c, DRR.bytesOut cfg c mouts = pkBytes cfg c (outPk flow size new) := by
  induction hw generalizing a1 with
  | nil s hp => exact ⟨a1, [], [], h1, by simp, DRR.Window.nil _ hp, fun c => by simp [DRR.bytesOut, pkBytes, outPk]⟩
  | cons s s' s'' hp hs hw ih =>
    cases hpop : popMin s.agenda with
    | none => simp [_root_.step, hpop, StepResult.state?] at hs
    | some qr =>
      obtain ⟨q, rest⟩ := qr
      obtain ⟨s1', a', new, g1, g2, -, -, -, g6, acts0, acts, hl0, hl, hact, r0, r1, -⟩ := inv_step_lts fuel h1 hpop
      rw [g1] at hs
      simp only [StepResult.state?, Option.some.injEq] at hs
      subst hs
      obtain ⟨a2, mouts, new2, k1, k2, k3, k4⟩ := ih g2
      have hp' : DRR.Both ia ib ca cb (absDRR cfg flow size s1') := by
        cases hw with
        | nil _ h => exact h
        | cons _ _ _ h _ _ => exact h
      rw [absDRR_eq h1] at hp ⊢
      rw [absDRR_eq g2] at hp' k3
      have hmid : DRR.Both ia ib ca cb (toM cfg.flows flow size a1 (histOf s.trace) s1'.now) := by
        unfold DRR.Both at hp ⊢
        rw [toM_ctl a1 (histOf s.trace) s1'.now s.now]
        exact hp
      obtain ⟨m0, w0, b0⟩ := window_short hl0 (fun x hx => hact x (List.mem_append_left _ hx)) r0 hp hmid
      obtain ⟨m1, w1, b1⟩ := window_short hl (fun x hx => hact x (List.mem_append_right _ hx)) r1 hmid hp'
      refine ⟨a2, m0 ++ m1 ++ mouts, new ++ new2, k1, by rw [k2, g6, List.append_assoc], window_append (window_append w0 w1) k3, ?_⟩
      intro c
      rw [bytesOut_append, bytesOut_append, b0, b1, k4, outPk_append, pkBytes_append]
      simp [pkBytes]

theorem lookup_deficit {F : Nat} (flow size : Int → Nat) {cfg : DRR.Cfg ℚ} (s : KState ℚ (DrrSt ℚ)) (ht : FlowsOK F cfg) {c : Nat}
    (hc : c < F) : lookup (absDRR cfg flow size s).ctl.deficit c = some (cellTime s (cDef c)) := by
  simp only [absDRR]
  exact lookup_dictOf (cfg.weights.map (·.1)) (fun c => cellTime s (cDef c)) c ▸ by
    rw [if_pos ((mem_flows ht c).mpr hc)]

end DRRK
