import OnlVerif.Lemmas.DRRKRun
import OnlVerif.Lemmas.MQKLts
/-!
# The DRR scheduler on the kernel model: every configuration step is accepted by the MultiQueueServer LTS

`toM a hist now` is the LTS state (`Net/MultiQueue.lean` with the record `DRR.sched`) a configuration stands for (`hist` = the
observations so far: the ghost counters `visits`, `sentBytes` and the key orders of the dicts that grow are read off them).
For each constructor of `AStep` the LTS accepts the corresponding action (`init`, `put`, `tokenHandoff`, `wake`, `pktResume`,
`sendInit`, `sendFire`, `sendDone`, or nothing) from `toM a` to `toM a'`; the loops of the LTS (`DRR.micro` under `settle`) are the
functions `innerAt`, `visitFrom`, `passes`; and the clock advance is an accepted `tick`.
-/

namespace DRRK
open DRROnK QEntry MQ
open MQK (insOf outOf)

section dict
variable {β : Type}

def dictOf (keys : List Nat) (g : Nat → β) : List (Nat × β) := keys.map fun f => (f, g f)

theorem lookup_dictOf (keys : List Nat) (g : Nat → β) (f : Nat) :
    MQ.lookup (dictOf keys g) f = if f ∈ keys then some (g f) else none :=
  MQK.lookup_dictOf keys g f

theorem addKey_of_mem (keys : List Nat) (f : Nat) (h : f ∈ keys) : addKey keys f = keys :=
  MQK.addKey_of_mem keys f h

theorem addKey_of_not_mem (keys : List Nat) (f : Nat) (h : f ∉ keys) : addKey keys f = keys ++ [f] :=
  MQK.addKey_of_not_mem keys f h

theorem setKey_dictOf (keys : List Nat) (hn : keys.Nodup) (g : Nat → β) (f : Nat) (v : β) :
    MQ.setKey (dictOf keys g) f v = dictOf (addKey keys f) (upd g f v) :=
  MQK.setKey_dictOf keys hn g f v

theorem bump_dictOf (keys : List Nat) (hn : keys.Nodup) (c : Nat → Int) (f : Nat) (d : Int) (h0 : f ∉ keys → c f = 0) :
    MQ.bump (dictOf keys c) f d = dictOf (addKey keys f) (upd c f (c f + d)) :=
  MQK.bump_dictOf keys hn c f d h0

theorem total_dictOf (keys : List Nat) (c : Nat → Int) : MQ.total (dictOf keys c) = (keys.map c).sum :=
  MQK.total_dictOf keys c

theorem sumFrom_succ_right (c : Nat → Int) : ∀ (n f : Nat), sumFrom c f (n + 1) = sumFrom c f n + c (f + n) :=
  sumFrom_eq ▸ MQK.sumFrom_succ_right c

theorem total_eq (c : Nat → Int) : ∀ (F : Nat) (keys : List Nat), keys.Nodup → (∀ f ∈ keys, f < F) →
    (∀ f, f < F → f ∉ keys → c f = 0) → MQ.total (dictOf keys c) = sumFrom c 0 F :=
  sumFrom_eq ▸ MQK.total_eq c

end dict


theorem visitsOf_snoc (h : List (HEv ℚ)) (ev : HEv ℚ) :
    visitsOf (h ++ [ev]) = match ev with | .visit c _ => MQ.bump (visitsOf h) c 1 | _ => visitsOf h := by
  simp only [visitsOf, List.foldl_append, List.foldl_cons, List.foldl_nil]
  cases ev <;> rfl

theorem sentOf_snoc (flow size : Int → Nat) (h : List (HEv ℚ)) (ev : HEv ℚ) :
    sentOf flow size (h ++ [ev]) = match ev with | .done id _ => MQ.bump (sentOf flow size h) (flow id) (size id) | _ => sentOf flow size h := by
  simp only [sentOf, List.foldl_append, List.foldl_cons, List.foldl_nil]
  cases ev <;> rfl

theorem forfKeys_snoc (h : List (HEv ℚ)) (ev : HEv ℚ) :
    forfKeys (h ++ [ev]) = match ev with | .reset c _ => addKey (forfKeys h) c | _ => forfKeys h := by
  simp only [forfKeys, List.foldl_append, List.foldl_cons, List.foldl_nil]
  cases ev <;> rfl

theorem parkKeys_snoc (flow : Int → Nat) (h : List (HEv ℚ)) (ev : HEv ℚ) :
    parkKeys flow (h ++ [ev]) = match ev with | .park id _ => addKey (parkKeys flow h) (flow id) | _ => parkKeys flow h := by
  simp only [parkKeys, List.foldl_append, List.foldl_cons, List.foldl_nil]
  cases ev <;> rfl

theorem putIds_append (l1 l2 : List (HEv ℚ)) : putIds (l1 ++ l2) = putIds l1 ++ putIds l2 := by
  induction l1 with
  | nil => rfl
  | cons x r ih => cases x <;> simp [putIds, ih]

theorem addKey_nodup (l : List Nat) (k : Nat) (h : l.Nodup) : (addKey l k).Nodup :=
  MQK.addKey_nodup l k h

theorem parkKeys_nodup (flow : Int → Nat) (h : List (HEv ℚ)) : (parkKeys flow h).Nodup :=
  List.foldlRecOn h _ List.nodup_nil fun l hn ev _ => by cases ev <;> first | exact hn | exact addKey_nodup _ _ hn

theorem forfKeys_nodup (h : List (HEv ℚ)) : (forfKeys h).Nodup :=
  List.foldlRecOn h _ List.nodup_nil fun l hn ev _ => by cases ev <;> first | exact hn | exact addKey_nodup _ _ hn

section toM
variable (flows : List Nat) (flow size : Int → Nat)

def pcOf : RPhase → DRR.Pc
  | .H _ m _ _ => .gotPkt m
  | .S _ m _ _ => .sent m
  | .T _ _ m _ _ => .sent m
  | .F _ m _ _ => .sent m
  | _ => .top

def phaseOf : RPhase → Phase ℚ
  | .init _ => .idle
  | .W _ => .waitToken
  | .K _ _ => .tokenHanded
  | .H _ _ id _ => .pktHanded (flow id) (pktOf flow size id)
  | .S _ _ id _ => .spawned (pktOf flow size id)
  | .T _ _ _ id q => .sending (pktOf flow size id) q.time
  | .F _ _ id _ => .finished (pktOf flow size id)

def ctlOf (pc : DRR.Pc) (a : A) (hist : List (HEv ℚ)) : DRR.Ctl ℚ :=
  { pc := pc
    deficit := dictOf flows a.dfc
    classCount := dictOf flows a.ccnt
    visits := visitsOf hist
    sentBytes := sentOf flow size hist
    forfeited := dictOf (forfKeys hist) a.forf }

def mst (a : A) (hist : List (HEv ℚ)) (now : ℚ) (pc : DRR.Pc) (ph : Phase ℚ) : MQState ℚ (DRR.Ctl ℚ) :=
  { now := now
    ctl := ctlOf flows flow size pc a hist
    stores := dictOf a.keys fun f => (a.items f).map (pktOf flow size)
    hol := dictOf (parkKeys flow hist) fun c => (a.hol c).map (pktOf flow size)
    queueCount := dictOf flows a.cnt
    queueBytes := dictOf a.keys a.byt
    tokens := a.tokens
    phase := ph
    currentPacket := a.cur.map (pktOf flow size)
    received := a.recv.toNat }

def toM (a : A) (hist : List (HEv ℚ)) (now : ℚ) : MQState ℚ (DRR.Ctl ℚ) :=
  mst flows flow size a hist now (pcOf a.run) (phaseOf flow size a.run)

end toM

@[reducible] def _root_.DRR.Cfg.flows (cfg : DRR.Cfg ℚ) : List Nat := cfg.weights.map (·.1)

variable {F : Nat} {flow size : Int → Nat} {cfg : DRR.Cfg ℚ} {Lmax P : Nat}

theorem toM_phase (flows : List Nat) (a : A) (hist : List (HEv ℚ)) (t : ℚ) :
    (toM flows flow size a hist t).phase = phaseOf flow size a.run := rfl

theorem total_flows (ht : FlowsOK F cfg) (c : Nat → Int) : MQ.total (dictOf cfg.flows c) = sumFrom c 0 F :=
  total_eq c F cfg.flows (flows_nodup ht) (fun f hf => (mem_flows ht f).mp hf)
    (fun f hf hk => absurd ((mem_flows ht f).mpr hf) hk)

theorem getElem?_dictOf {β : Type} (keys : List Nat) (g : Nat → β) (i : Nat) :
    (dictOf keys g)[i]? = keys[i]?.map fun f => (f, g f) := by
  simp [dictOf]

theorem getElem?_flows {m c w : Nat} (h : cfg.weights[m]? = some (c, w)) : cfg.flows[m]? = some c := by
  simp [DRR.Cfg.flows, h]

theorem lookupD_dictOf {β : Type} (keys : List Nat) (g : Nat → Option β) (c : Nat) (h : c ∉ keys → g c = none) :
    lookupD (dictOf keys g) c none = g c := by
  simp only [lookupD, lookup_dictOf]
  by_cases hk : c ∈ keys
  · simp [hk]
  · simp [hk, h hk]

theorem sched_micro : (DRR.sched cfg).micro = DRR.micro cfg (DRR.quantum cfg) := rfl
theorem sched_onPkt : (DRR.sched cfg).onPkt = DRR.onPkt cfg := rfl
theorem sched_fuel (hol : List (Nat × Option MPkt)) :
    (DRR.sched cfg).fuel hol = (2 * cfg.weights.length + 3) * (DRR.maxSize hol / 1500 + 3) := rfl

theorem settle_goto (n : Nat) (s : MQState ℚ (DRR.Ctl ℚ)) (k : DRR.Ctl ℚ)
    (h : DRR.micro cfg (DRR.quantum cfg) s.ctl (view s) = .goto k) :
    settle (DRR.sched cfg) (n + 1) s = settle (DRR.sched cfg) n { s with ctl := k } := by
  simp only [settle, touch, DRR.sched, h]

theorem settle_get (n : Nat) (s : MQState ℚ (DRR.Ctl ℚ)) (c : Nat) (k : DRR.Ctl ℚ)
    (h : DRR.micro cfg (DRR.quantum cfg) s.ctl (view s) = .get c k) :
    settle (DRR.sched cfg) (n + 1) s = issueGet { s with ctl := k } c := by
  simp only [settle, touch, DRR.sched, h]

theorem settle_block (n : Nat) (s : MQState ℚ (DRR.Ctl ℚ)) (k : DRR.Ctl ℚ)
    (h : DRR.micro cfg (DRR.quantum cfg) s.ctl (view s) = .block k) :
    settle (DRR.sched cfg) (n + 1) s = .ok (blockOnToken { s with ctl := k }) := by
  simp only [settle, touch, DRR.sched, h]

theorem settle_take_send (n : Nat) (s : MQState ℚ (DRR.Ctl ℚ)) (c : Nat) (k k' : DRR.Ctl ℚ) (p : MPkt) (early : Bool)
    (h : DRR.micro cfg (DRR.quantum cfg) s.ctl (view s) = .take c k) (hp : lookupD s.hol c none = some p)
    (hd : DRR.onPkt cfg k (view { s with ctl := k, hol := setKey s.hol c none }) c p = .send early k') :
    settle (DRR.sched cfg) (n + 1) s = .ok (spawn { s with ctl := k', hol := setKey s.hol c none } p early) := by
  simp only [settle, touch, DRR.sched, h, hp, hd]

theorem settle_take_park (n : Nat) (s s2 : MQState ℚ (DRR.Ctl ℚ)) (c : Nat) (k k' : DRR.Ctl ℚ) (p : MPkt)
    (h : DRR.micro cfg (DRR.quantum cfg) s.ctl (view s) = .take c k) (hp : lookupD s.hol c none = some p)
    (hd : DRR.onPkt cfg k (view { s with ctl := k, hol := setKey s.hol c none }) c p = .park k')
    (hpk : park { s with ctl := k', hol := setKey s.hol c none } c p = .ok s2) :
    settle (DRR.sched cfg) (n + 1) s = settle (DRR.sched cfg) n s2 := by
  simp only [settle, touch, DRR.sched, h, hp, hd, hpk]

/-- the LTS state in the middle of a burst on the configuration `a1`: the credits are those of `L`, the observations so far
`H ++ L.evs` -/
def lst (cfg : DRR.Cfg ℚ) (flow size : Int → Nat) (a1 : A) (H : List (HEv ℚ)) (L : LS) (t : ℚ) (pc : DRR.Pc) :
    MQState ℚ (DRR.Ctl ℚ) :=
  mst cfg.flows flow size (finA a1 L none) (H ++ L.evs) t pc .running

theorem mem_flows' (ht : FlowsOK F cfg) {c : Nat} (hc : c < F) : c ∈ cfg.flows := (mem_flows ht c).mpr hc

theorem lookup_flows {β : Type} (ht : FlowsOK F cfg) (g : Nat → β) {c : Nat} (hc : c < F) :
    MQ.lookup (dictOf cfg.flows g) c = some (g c) := by
  rw [lookup_dictOf, if_pos (mem_flows' ht hc)]

theorem setKey_flows {β : Type} (ht : FlowsOK F cfg) (g : Nat → β) {c : Nat} (hc : c < F) (v : β) :
    MQ.setKey (dictOf cfg.flows g) c v = dictOf cfg.flows (upd g c v) := by
  rw [setKey_dictOf _ (flows_nodup ht), addKey_of_mem _ _ (mem_flows' ht hc)]

theorem lts_visit (ht : FlowsOK F cfg) {a1 : A} {H : List (HEv ℚ)} {L : LS} {t : ℚ} {m c w : Nat}
    (hw : cfg.weights[m]? = some (c, w)) (N : Nat) :
    settle (DRR.sched cfg) (N + 1) (lst cfg flow size a1 H L t (.visit m)) =
      settle (DRR.sched cfg) N (lst cfg flow size a1 H (visitAdd (qOf cfg) a1.ccnt t c L) t (.inner m)) := by
  have hcF : c < F := entry_lt ht (List.mem_of_getElem? hw)
  have hcc : (dictOf cfg.flows a1.ccnt)[m]? = some (c, a1.ccnt c) := by
    rw [getElem?_dictOf, getElem?_flows hw]; rfl
  unfold visitAdd
  by_cases hpos : 0 < a1.ccnt c
  · rw [if_pos hpos]
    rw [settle_goto N _ { DRR.addQuantum (lst cfg flow size a1 H L t (.visit m)).ctl c (L.dfc c) (qOf cfg c) with pc := .inner m }
      (by
        simp only [DRR.micro, lst, mst, ctlOf, finA, hcc, hpos, if_true, lookup_flows ht _ hcF, quantum_eq ht hcF])]
    congr 1
    simp only [lst, mst, ctlOf, finA, DRR.addQuantum, setKey_flows ht _ hcF, ← List.append_assoc, visitsOf_snoc, sentOf_snoc,
      forfKeys_snoc, parkKeys_snoc]
  · rw [if_neg hpos]
    rw [settle_goto N _ { (lst cfg flow size a1 H L t (.visit m)).ctl with pc := .inner m }
      (by simp only [DRR.micro, lst, mst, ctlOf, finA, hcc, hpos, if_false])]
    rfl

theorem setKey_setKey_dictOf {β : Type} (keys : List Nat) (hn : keys.Nodup) (g : Nat → β) (c : Nat) (hc : c ∈ keys) (v : β) :
    MQ.setKey (MQ.setKey (dictOf keys g) c v) c (g c) = dictOf keys g := by
  rw [setKey_dictOf _ hn, addKey_of_mem _ _ hc, setKey_dictOf _ hn, addKey_of_mem _ _ hc, upd_upd_self _ _ _ _ rfl]

theorem parked_lst {a1 : A} {H : List (HEv ℚ)} {L : LS} {t : ℚ} {pc : DRR.Pc}
    (hpk : ∀ c', a1.hol c' ≠ none → c' ∈ parkKeys flow (H ++ L.evs)) (c : Nat) :
    lookupD (lst cfg flow size a1 H L t pc).hol c none = (a1.hol c).map (pktOf flow size) := by
  simp only [lst, mst, finA, holAfter]
  rw [lookupD_dictOf]
  intro hc
  have : a1.hol c = none := by
    by_contra hne
    exact hc (hpk c hne)
  rw [this]; rfl

theorem micro_inner (ht : FlowsOK F cfg) {a1 : A} {H : List (HEv ℚ)} {L : LS} {t : ℚ} {m c w : Nat}
    (hw : cfg.weights[m]? = some (c, w)) (hpk : ∀ c', a1.hol c' ≠ none → c' ∈ parkKeys flow (H ++ L.evs)) :
    DRR.micro cfg (DRR.quantum cfg) (lst cfg flow size a1 H L t (.inner m)).ctl (view (lst cfg flow size a1 H L t (.inner m))) =
      if Num.zero < L.dfc c ∧ 0 < a1.ccnt c then
        match a1.hol c with
        | some _ => .take c { (lst cfg flow size a1 H L t (.inner m)).ctl with pc := .gotPkt m }
        | none => .get c { (lst cfg flow size a1 H L t (.inner m)).ctl with pc := .gotPkt m }
      else .goto { (lst cfg flow size a1 H L t (.inner m)).ctl with pc := .visit (m + 1) } := by
  have hcF : c < F := entry_lt ht (List.mem_of_getElem? hw)
  have hcc : (dictOf cfg.flows a1.ccnt)[m]? = some (c, a1.ccnt c) := by
    rw [getElem?_dictOf, getElem?_flows hw]; rfl
  have hp : lookupD (dictOf (parkKeys flow (H ++ L.evs)) fun c => Option.map (pktOf flow size) (holAfter a1.hol none c)) c none =
      (a1.hol c).map (pktOf flow size) := parked_lst (cfg := cfg) (size := size) (t := t) (pc := .inner m) hpk c
  simp only [DRR.micro, lst, mst, ctlOf, finA, hcc, lookup_flows ht _ hcF, view, hp]
  by_cases hcond : Num.zero < L.dfc c ∧ 0 < a1.ccnt c
  · simp only [hcond, and_self, if_true]
    cases a1.hol c <;> rfl
  · simp only [hcond, if_false]

theorem classOf_id (ht : FlowsOK F cfg) (f : Nat) : DRR.classOf cfg f = some f := by
  simp [DRR.classOf, ht.2.2]

theorem onPkt_eq (ht : FlowsOK F cfg) {k : DRR.Ctl ℚ} {m c : Nat} {d : ℚ} {id : Int} (v : MQ.View) (hpc : k.pc = .gotPkt m)
    (hd : MQ.lookup k.deficit c = some d) (hfl : flow id = c) :
    DRR.onPkt cfg k v c (pktOf flow size id) =
      if (Num.ofNat (size id) : ℚ) ≤ d then .send true { k with pc := .sent m } else .park { k with pc := .visit (m + 1) } := by
  simp only [DRR.onPkt, hpc, hd, pktOf, classOf_id ht, hfl, if_true]

/-- how the LTS loop ends when the loops of the configuration end with `e`, the credits being those of `L` -/
def endM (cfg : DRR.Cfg ℚ) (flow size : Int → Nat) (a1 : A) (H : List (HEv ℚ)) (L : LS) (t : ℚ) :
    LoopEnd → Except String (MQState ℚ (DRR.Ctl ℚ))
  | .get m c => issueGet (lst cfg flow size a1 H L t (.gotPkt m)) c
  | .send m c id _ => .ok (spawn { lst cfg flow size a1 H L t (.sent m) with
      hol := setKey (lst cfg flow size a1 H L t (.sent m)).hol c none } (pktOf flow size id) true)
  | .idle => .ok (blockOnToken (lst cfg flow size a1 H L t .top))
  | .hang => .error "hang"

/-- where the loop of the LTS stands, with `N` moves left, after a piece of the loops of the configuration: it has ended as
`endM` says, or is back at the top of the loops -/
def afterM (cfg : DRR.Cfg ℚ) (flow size : Int → Nat) (a1 : A) (H : List (HEv ℚ)) (t : ℚ) (N : Nat) :
    LS × Option LoopEnd → Except String (MQState ℚ (DRR.Ctl ℚ))
  | (L', some e) => endM cfg flow size a1 H L' t e
  | (L', none) => settle (DRR.sched cfg) N (lst cfg flow size a1 H L' t .top)

/-- **the inner `while` of the LTS at its test**: it ends the burst with a `get` or with the transmission of the parked head, or
ends the visit (the class is empty, or out of credit, or its parked head is parked again) -/
theorem lts_inner (ht : FlowsOK F cfg) {a1 : A} {H : List (HEv ℚ)} {L : LS} {t : ℚ} {m c w : Nat}
    (hw : cfg.weights[m]? = some (c, w)) (hpk : ∀ c', a1.hol c' ≠ none → c' ∈ parkKeys flow (H ++ L.evs))
    (hflow : ∀ id, a1.hol c = some id → flow id = c) (N : Nat) :
    settle (DRR.sched cfg) (N + 1) (lst cfg flow size a1 H L t (.inner m)) =
      match innerAt size a1.ccnt a1.hol t m c L with
      | (L', some e) => endM cfg flow size a1 H L' t e
      | (L', none) => settle (DRR.sched cfg) N (lst cfg flow size a1 H L' t (.visit (m + 1))) := by
  have hcF : c < F := entry_lt ht (List.mem_of_getElem? hw)
  have hmic := micro_inner (size := size) (t := t) ht hw hpk
  have hpar := parked_lst (cfg := cfg) (size := size) (t := t) (pc := .inner m) hpk c
  unfold innerAt
  by_cases hcond : Num.zero < L.dfc c ∧ 0 < a1.ccnt c
  · rw [if_pos hcond] at hmic ⊢
    cases hh : a1.hol c with
    | none =>
      rw [hh] at hmic
      exact settle_get N _ c _ hmic
    | some id =>
      rw [hh] at hmic hpar
      have hon := fun v => onPkt_eq (size := size) (id := id) (d := L.dfc c) ht
        (k := { (lst cfg flow size a1 H L t (.inner m)).ctl with pc := .gotPkt m }) v rfl (lookup_flows ht _ hcF) (hflow id hh)
      by_cases hle : (Num.ofNat (size id) : ℚ) ≤ L.dfc c
      · simp only [if_pos hle]
        exact settle_take_send N _ c _ _ _ true hmic hpar ((hon _).trans (if_pos hle))
      · simp only [if_neg hle]
        have hcpk : c ∈ parkKeys flow (H ++ L.evs) := hpk c (by rw [hh]; simp)
        have hnd := parkKeys_nodup flow (H ++ L.evs)
        refine settle_take_park N _ _ c _ _ _ hmic hpar ((hon _).trans (if_neg hle)) ?_
        -- the head is put back where it was: `head_of_line` is unchanged, the history has one more `park`
        have hg : (fun c => Option.map (pktOf flow size) (a1.hol c)) c = some (pktOf flow size id) := by simp [hh]
        simp only [park, lst, mst, finA, holAfter]
        rw [setKey_dictOf _ hnd, addKey_of_mem _ _ hcpk, lookupD_dictOf _ _ _ (fun hc => absurd hcpk hc), upd_same]
        simp only
        congr 2
        · simp only [ctlOf, ← List.append_assoc, visitsOf_snoc, sentOf_snoc, forfKeys_snoc]
        · rw [setKey_dictOf _ hnd, addKey_of_mem _ _ hcpk, upd_upd_self _ _ _ _ hg, ← List.append_assoc, parkKeys_snoc]
          simp only [hflow id hh, addKey_of_mem _ _ hcpk]
  · rw [if_neg hcond] at hmic ⊢
    exact settle_goto N _ _ hmic

theorem mem_parkKeys_snoc (flow : Int → Nat) (h : List (HEv ℚ)) (ev : HEv ℚ) {c : Nat} (hc : c ∈ parkKeys flow h) :
    c ∈ parkKeys flow (h ++ [ev]) := by
  rw [parkKeys_snoc]
  cases ev <;> first | exact hc | exact (mem_addKey _ _ _).mpr (Or.inl hc)

theorem mem_parkKeys_append (flow : Int → Nat) (h : List (HEv ℚ)) : ∀ (l : List (HEv ℚ)) {c : Nat}, c ∈ parkKeys flow h →
    c ∈ parkKeys flow (h ++ l)
  | [], c, hc => by simpa using hc
  | ev :: r, c, hc => by
    have := mem_parkKeys_append flow (h ++ [ev]) r (mem_parkKeys_snoc flow h ev hc)
    simpa using this

theorem evs_innerAt (ccnt : Nat → Int) (hol : Nat → Option Int) (t : ℚ) (m c : Nat) (L : LS) :
    ∃ l, (innerAt size ccnt hol t m c L).1.evs = L.evs ++ l := by
  unfold innerAt
  split
  · split
    · split
      · exact ⟨[], by simp⟩
      · exact ⟨_, rfl⟩
    · exact ⟨[], by simp⟩
  · exact ⟨[], by simp⟩

theorem lts_visitFrom (ht : FlowsOK F cfg) {a1 : A} {H : List (HEv ℚ)} {t : ℚ} (hpk : ∀ c', a1.hol c' ≠ none → c' ∈ parkKeys flow H)
    (hflow : ∀ c, c < F → ∀ id, a1.hol c = some id → flow id = c) (N : Nat) :
    ∀ (ws' : List (Nat × Nat)) (m : Nat) (L : LS), cfg.weights.drop m = ws' →
      settle (DRR.sched cfg) (2 * ws'.length + 1 + N) (lst cfg flow size a1 H L t (.visit m)) =
        afterM cfg flow size a1 H t N (visitFrom (qOf cfg) size a1.ccnt a1.hol t m ws' L)
  | [], m, L, hd => by
    have hnone : cfg.weights[m]? = none := by
      rw [List.getElem?_eq_none_iff]
      exact List.drop_eq_nil_iff.mp hd
    have hcc : (dictOf cfg.flows a1.ccnt)[m]? = none := by
      rw [getElem?_dictOf]; simp [DRR.Cfg.flows, hnone]
    simp only [List.length_nil, Nat.mul_zero, Nat.zero_add, visitFrom]
    rw [show 1 + N = N + 1 by omega, settle_goto N _ { (lst cfg flow size a1 H L t (.visit m)).ctl with pc := .top }
      (by simp only [DRR.micro, lst, mst, ctlOf, finA, hcc])]
    rfl
  | (c, w) :: rest, m, L, hd => by
    have hw := (KExec.drop_cons hd).1
    rw [show 2 * ((c, w) :: rest).length + 1 + N = (2 * rest.length + 1 + N + 1) + 1 by simp only [List.length_cons]; omega,
      lts_visit ht hw, lts_inner ht hw (fun c' h => mem_parkKeys_append flow H _ (hpk c' h))
        (hflow c (entry_lt ht (List.mem_of_getElem? hw))), visitFrom]
    cases hr : innerAt size a1.ccnt a1.hol t m c (visitAdd (qOf cfg) a1.ccnt t c L) with
    | mk L' oe =>
      cases oe with
      | none => exact lts_visitFrom ht hpk hflow N rest (m + 1) L' (KExec.drop_cons hd).2
      | some e => rfl

theorem lts_donePiece (ht : FlowsOK F cfg) {a1 : A} {H : List (HEv ℚ)} {t : ℚ} {m c w : Nat} {rest : List (Nat × Nat)}
    (hw : cfg.weights[m]? = some (c, w)) (hd' : cfg.weights.drop (m + 1) = rest)
    (hpk : ∀ c', a1.hol c' ≠ none → c' ∈ parkKeys flow H) (hflow : ∀ c, c < F → ∀ id, a1.hol c = some id → flow id = c) (N : Nat) :
    settle (DRR.sched cfg) (2 * rest.length + 2 + N) (lst cfg flow size a1 H ⟨a1.dfc, []⟩ t (.inner m)) =
      afterM cfg flow size a1 H t N (donePiece cfg size a1 t m c rest) := by
  rw [show 2 * rest.length + 2 + N = (2 * rest.length + 1 + N) + 1 by omega,
    lts_inner ht hw (by simpa using hpk) (hflow c (entry_lt ht (List.mem_of_getElem? hw))), donePiece]
  cases hr : innerAt size a1.ccnt a1.hol t m c ⟨a1.dfc, []⟩ with
  | mk L' oe =>
    cases oe with
    | none => exact lts_visitFrom ht hpk hflow N rest (m + 1) L' hd'
    | some e => rfl

section
variable {Q : Nat → ℚ} {ccnt : Nat → Int} {hol : Nat → Option Int} {t : ℚ} {total : Int} {ws : List (Nat × Nat)}

theorem passes_mono : ∀ (k k' : Nat) (L : LS), k ≤ k' → (passes Q size ccnt hol t total ws k L).2 ≠ .hang →
    passes Q size ccnt hol t total ws k' L = passes Q size ccnt hol t total ws k L
  | 0, _, _, _, h => absurd rfl h
  | k + 1, 0, _, hk, _ => absurd hk (Nat.not_succ_le_zero k)
  | k + 1, k' + 1, L, hk, h => by
    rw [passes] at h
    rw [passes]
    conv_rhs => rw [passes]
    by_cases hpos : 0 < total
    · rw [if_pos hpos] at h ⊢
      rw [if_pos hpos]
      cases hr : visitFrom Q size ccnt hol t 0 ws L with
      | mk L' oe =>
        rw [hr] at h
        cases oe with
        | some e => rfl
        | none => exact passes_mono k k' L' (Nat.le_of_succ_le_succ hk) h
    · rw [if_neg hpos]
      rw [if_neg hpos]

theorem passes_agree {k k' : Nat} (L : LS) (h : (passes Q size ccnt hol t total ws k L).2 ≠ .hang)
    (h' : (passes Q size ccnt hol t total ws k' L).2 ≠ .hang) :
    passes Q size ccnt hol t total ws k L = passes Q size ccnt hol t total ws k' L :=
  (Nat.le_total k k').elim (fun hle => (passes_mono k k' L hle h).symm) fun hle => passes_mono k' k L hle h'

end

theorem lts_passes (ht : FlowsOK F cfg) {a1 : A} {H : List (HEv ℚ)} {t : ℚ} (hpk : ∀ c', a1.hol c' ≠ none → c' ∈ parkKeys flow H)
    (hflow : ∀ c, c < F → ∀ id, a1.hol c = some id → flow id = c) (N : Nat) :
    ∀ (k : Nat) (L : LS), (passes (qOf cfg) size a1.ccnt a1.hol t (a1.total F) cfg.weights k L).2 ≠ .hang →
      settle (DRR.sched cfg) ((2 * cfg.weights.length + 2) * k + 1 + N) (lst cfg flow size a1 H L t .top) =
        endM cfg flow size a1 H (passes (qOf cfg) size a1.ccnt a1.hol t (a1.total F) cfg.weights k L).1 t
          (passes (qOf cfg) size a1.ccnt a1.hol t (a1.total F) cfg.weights k L).2
  | 0, L, h => absurd rfl h
  | k + 1, L, h => by
    have htot : (view (lst cfg flow size a1 H L t .top)).total = a1.total F := by
      simp only [view, lst, mst, finA]
      exact total_flows ht a1.cnt
    rw [passes] at h ⊢
    by_cases hpos : 0 < a1.total F
    · rw [if_pos hpos] at h ⊢
      rw [show (2 * cfg.weights.length + 2) * (k + 1) + 1 + N =
          (2 * cfg.weights.length + 1 + ((2 * cfg.weights.length + 2) * k + 1 + N)) + 1 by ring,
        settle_goto _ _ { (lst cfg flow size a1 H L t .top).ctl with pc := .visit 0 }
          (by
            have : (lst cfg flow size a1 H L t .top).ctl.pc = .top := rfl
            simp only [DRR.micro, this, htot, hpos, if_true])]
      have hv := lts_visitFrom (size := size) (t := t) ht hpk hflow ((2 * cfg.weights.length + 2) * k + 1 + N) cfg.weights 0 L (by simp)
      rw [show ({ lst cfg flow size a1 H L t .top with ctl := { (lst cfg flow size a1 H L t .top).ctl with pc := .visit 0 } } :
        MQState ℚ (DRR.Ctl ℚ)) = lst cfg flow size a1 H L t (.visit 0) from rfl, hv]
      cases hr : visitFrom (qOf cfg) size a1.ccnt a1.hol t 0 cfg.weights L with
      | mk L' oe =>
        rw [hr] at h
        cases oe with
        | some e => rfl
        | none => exact lts_passes ht hpk hflow N k L' h
    · rw [if_neg hpos] at h ⊢
      by_cases hz : a1.total F = 0
      · rw [if_pos hz]
        rw [show (2 * cfg.weights.length + 2) * (k + 1) + 1 + N = ((2 * cfg.weights.length + 2) * (k + 1) + N) + 1 by ring,
          settle_block _ _ { (lst cfg flow size a1 H L t .top).ctl with pc := .top }
            (by
              have : (lst cfg flow size a1 H L t .top).ctl.pc = .top := rfl
              simp only [DRR.micro, this, htot, hz, lt_irrefl, if_false, if_true])]
        rfl
      · rw [if_neg hz] at h
        exact absurd rfl h

theorem maxSize_ge : ∀ (l : List (Nat × Option MPkt)) (c : Nat) (p : MPkt), (c, some p) ∈ l → p.size ≤ DRR.maxSize l
  | [], _, _, h => by cases h
  | (c0, some p0) :: r, c, p, h => by
    simp only [DRR.maxSize]
    rcases List.mem_cons.mp h with h | h
    · cases h; split <;> omega
    · have := maxSize_ge r c p h
      split <;> omega
  | (c0, none) :: r, c, p, h => by
    simp only [DRR.maxSize]
    rcases List.mem_cons.mp h with h | h
    · cases h
    · exact maxSize_ge r c p h

theorem maxSize_dictOf (keys : List Nat) (g : Nat → Option MPkt) {c : Nat} {p : MPkt} (hc : c ∈ keys) (hg : g c = some p) :
    p.size ≤ DRR.maxSize (dictOf keys g) :=
  maxSize_ge _ c p (by simp only [dictOf, List.mem_map]; exact ⟨c, hc, by rw [hg]⟩)

variable {now : ℚ}

/-- the passes the LTS budgets for (from the parked packets it sees) end the burst -/
theorem passes_k0 {a1 : A} {H : List (HEv ℚ)} {t : ℚ} (hm : MidInv F flow size cfg Lmax P a1 now)
    (hpk : ∀ c', a1.hol c' ≠ none → c' ∈ parkKeys flow H) (L : LS) (hmono : ∀ f, a1.dfc f ≤ L.dfc f) :
    (passes (qOf cfg) size a1.ccnt a1.hol t (a1.total F) cfg.weights
      (DRR.maxSize (dictOf (parkKeys flow H) fun c => (a1.hol c).map (pktOf flow size)) / 1500 + 2) L).2 ≠ .hang := by
  refine mid_no_hang hm L hmono (_ + 1) fun j _ id hid => ?_
  have h1 : (pktOf flow size id).size ≤ DRR.maxSize (dictOf (parkKeys flow H) fun c => (a1.hol c).map (pktOf flow size)) :=
    maxSize_dictOf _ _ (hpk j (by rw [hid]; simp)) (by simp [hid])
  exact le_of_lt (lt_of_le_of_lt h1 (Nat.lt_mul_div_succ _ (by norm_num)))

theorem hflow_of_mid {a1 : A} (hm : MidInv F flow size cfg Lmax P a1 now) : ∀ c, c < F → ∀ id, a1.hol c = some id → flow id = c :=
  fun c hc id h => (hm.holOK c hc id h).1

/-- **the rest of a burst of the LTS**: from the point `pc` of the loops where a piece of the `for` loop starts that takes
`X ≤ 2·n + 1` moves, the budget the LTS computes from its parked packets is enough to reach what `thenPasses` computes -/
theorem lts_rest {a1 : A} {H : List (HEv ℚ)} {t : ℚ} (hm : MidInv F flow size cfg Lmax P a1 now)
    (hpk : ∀ c', a1.hol c' ≠ none → c' ∈ parkKeys flow H) (piece : LS × Option LoopEnd) (pc : DRR.Pc) (X : Nat)
    (hX : X ≤ 2 * cfg.weights.length + 1)
    (hsim : ∀ N, settle (DRR.sched cfg) (X + N) (lst cfg flow size a1 H ⟨a1.dfc, []⟩ t pc) = afterM cfg flow size a1 H t N piece)
    (hmono : ∀ f, a1.dfc f ≤ piece.1.dfc f)
    (hne : (thenPasses (qOf cfg) size a1.ccnt a1.hol t (a1.total F) cfg.weights P piece).2 ≠ .hang) :
    settle (DRR.sched cfg) ((DRR.sched cfg).fuel (lst cfg flow size a1 H ⟨a1.dfc, []⟩ t pc).hol)
        (lst cfg flow size a1 H ⟨a1.dfc, []⟩ t pc) =
      endM cfg flow size a1 H (thenPasses (qOf cfg) size a1.ccnt a1.hol t (a1.total F) cfg.weights P piece).1 t
        (thenPasses (qOf cfg) size a1.ccnt a1.hol t (a1.total F) cfg.weights P piece).2 := by
  have hfu : (DRR.sched cfg).fuel (lst cfg flow size a1 H ⟨a1.dfc, []⟩ t pc).hol = (2 * cfg.weights.length + 3) *
      (DRR.maxSize (dictOf (parkKeys flow H) fun c => (a1.hol c).map (pktOf flow size)) / 1500 + 3) := by
    simp only [sched_fuel, lst, mst, List.append_nil]; rfl
  rw [hfu]
  generalize hM : DRR.maxSize (dictOf (parkKeys flow H) fun c => (a1.hol c).map (pktOf flow size)) / 1500 = M
  have hfuel : (2 * cfg.weights.length + 3) * (M + 3) =
      (2 * cfg.weights.length + 2) * (M + 2) + (2 * cfg.weights.length + 2) + (M + 2) + 1 := by ring
  obtain ⟨L', oe⟩ := piece
  cases oe with
  | some e =>
    obtain ⟨N, hN⟩ : ∃ N, (2 * cfg.weights.length + 3) * (M + 3) = X + N := ⟨(2 * cfg.weights.length + 3) * (M + 3) - X, by omega⟩
    rw [hN, hsim N]
    rfl
  | none =>
    simp only [thenPasses] at hne ⊢
    have hk0 := passes_k0 (t := t) hm hpk L' hmono
    rw [hM] at hk0
    obtain ⟨N, hN⟩ : ∃ N, (2 * cfg.weights.length + 3) * (M + 3) = X + ((2 * cfg.weights.length + 2) * (M + 2) + 1 + N) :=
      ⟨(2 * cfg.weights.length + 3) * (M + 3) - X - ((2 * cfg.weights.length + 2) * (M + 2) + 1), by omega⟩
    rw [hN, hsim _]
    simp only [afterM]
    rw [lts_passes hm.table hpk (hflow_of_mid hm) N (M + 2) L' hk0, passes_agree L' hk0 hne]

theorem upd_map {β γ : Type} (items : Nat → β) (f : Nat) (v : β) (g : β → γ) :
    upd (fun f' => g (items f')) f (g v) = fun f' => g (upd items f v f') := by
  funext f'
  by_cases h : f' = f
  · subst h; simp
  · simp [upd_ne _ _ _ _ h]

theorem storeOf_dictOf (keys : List Nat) (g : Nat → List MPkt) (f : Nat) (h : f ∉ keys → g f = []) :
    storeOf (dictOf keys g) f = g f :=
  MQK.storeOf_dictOf keys g f h

variable {n e : Nat}

theorem endM_get {a1 : A} {H : List (HEv ℚ)} {L : LS} {t : ℚ} {m' c' : Nat} {id' : Int} {is : List Int}
    (hn : a1.keys.Nodup) (hk : c' ∈ a1.keys) (hit : a1.items c' = id' :: is) (hfl : flow id' = c') (q' : QEntry ℚ) (g : EvId) :
    endM cfg flow size a1 H L t (.get m' c') =
      .ok (toM cfg.flows flow size
        { (finA a1 L (some (.get m' c'))) with run := .H g m' id' q', items := upd a1.items c' is } (H ++ L.evs) t) := by
  have hs : storeOf (lst cfg flow size a1 H L t (.gotPkt m')).stores c' = pktOf flow size id' :: is.map (pktOf flow size) := by
    simp only [lst, mst, finA]
    rw [storeOf_dictOf _ _ _ (fun h => absurd hk h), hit]; rfl
  simp only [endM, issueGet, hs]
  congr 1
  simp only [lst, toM, mst, ctlOf, finA, holAfter, pcOf, phaseOf, hfl, setKey_dictOf _ hn, addKey_of_mem _ _ hk]
  congr 1
  rw [← upd_map]

theorem endM_send {a1 : A} {H : List (HEv ℚ)} {L : LS} {t : ℚ} {m' c' : Nat} {id' : Int} {pk : Bool}
    (hpk : c' ∈ parkKeys flow (H ++ L.evs)) (q' : QEntry ℚ) (p : EvId) :
    endM cfg flow size a1 H L t (.send m' c' id' pk) =
      .ok (toM cfg.flows flow size
        { (finA a1 L (some (.send m' c' id' true))) with run := .S p m' id' q', cur := some id' } (H ++ L.evs ++ [.serve id' t]) t) := by
  have hnd := parkKeys_nodup flow (H ++ L.evs)
  simp only [endM, spawn, lst, toM, mst, ctlOf, finA, holAfter, pcOf, phaseOf, if_true, visitsOf_snoc, sentOf_snoc, forfKeys_snoc,
    parkKeys_snoc, setKey_dictOf _ hnd, addKey_of_mem _ _ hpk, Option.map_some]
  congr 2
  exact congrArg (dictOf _) (upd_map a1.hol c' none (Option.map (pktOf flow size)))

theorem endM_idle_zero {a1 : A} {H : List (HEv ℚ)} {L : LS} {t : ℚ} (htk : a1.tokens = 0) (g : EvId) :
    endM cfg flow size a1 H L t .idle =
      .ok (toM cfg.flows flow size { (finA a1 L (some .idle)) with run := .W g } (H ++ L.evs ++ [.idle t]) t) := by
  simp only [endM, blockOnToken, lst, toM, mst, ctlOf, finA, holAfter, pcOf, phaseOf, htk, visitsOf_snoc, sentOf_snoc, forfKeys_snoc,
    parkKeys_snoc]

theorem endM_idle_succ {a1 : A} {H : List (HEv ℚ)} {L : LS} {t : ℚ} {k : Nat} (htk : a1.tokens = k + 1) (g : EvId) (q' : QEntry ℚ) :
    endM cfg flow size a1 H L t .idle =
      .ok (toM cfg.flows flow size { (finA a1 L (some .idle)) with run := .K g q', tokens := k } (H ++ L.evs ++ [.idle t]) t) := by
  simp only [endM, blockOnToken, lst, toM, mst, ctlOf, finA, holAfter, pcOf, phaseOf, htk, visitsOf_snoc, sentOf_snoc, forfKeys_snoc,
    parkKeys_snoc]

def LoopEv (ev : HEv ℚ) : Prop := (∃ c t, ev = .visit c t) ∨ (∃ id t, ev = .park id t)

section
variable {Q : Nat → ℚ} {ccnt : Nat → Int} {hol : Nat → Option Int} {t : ℚ} {total : Int} {ws : List (Nat × Nat)}

variable {Pev : HEv ℚ → Prop}

/-- a property that every visit has, and every parking of a head of line: what a piece of the loops lets observe has it -/
theorem loopEvs_visitAdd (hv : ∀ c, Pev (.visit c t)) (c : Nat) (L : LS) (h : ∀ ev ∈ L.evs, Pev ev) :
    ∀ ev ∈ (visitAdd Q ccnt t c L).evs, Pev ev := by
  unfold visitAdd
  split
  · intro ev hev
    rcases List.mem_append.mp hev with h1 | h1
    · exact h ev h1
    · rw [List.mem_singleton.mp h1]; exact hv c
  · exact h

theorem loopEvs_innerAt (m c : Nat) (L : LS) (hp : ∀ id, hol c = some id → Pev (.park id t)) (h : ∀ ev ∈ L.evs, Pev ev) :
    ∀ ev ∈ (innerAt size ccnt hol t m c L).1.evs, Pev ev := by
  unfold innerAt
  split
  · cases hh : hol c with
    | none => exact h
    | some id =>
      simp only
      split
      · exact h
      · intro ev hev
        rcases List.mem_append.mp hev with h1 | h1
        · exact h ev h1
        · rw [List.mem_singleton.mp h1]; exact hp id hh
  · exact h

theorem loopEvs_iter (hv : ∀ c, Pev (.visit c t)) (hp : ∀ e ∈ ws, ∀ id, hol e.1 = some id → Pev (.park id t)) (m c w : Nat) (L : LS)
    (hw : ws[m]? = some (c, w)) (h : ∀ ev ∈ L.evs, Pev ev) :
    Post (fun L' => ∀ ev ∈ L'.evs, Pev ev) (fun L' _ => ∀ ev ∈ L'.evs, Pev ev)
      (innerAt size ccnt hol t m c (visitAdd Q ccnt t c L)) :=
  have h1 := loopEvs_innerAt (size := size) (ccnt := ccnt) m c _ (hp (c, w) (List.mem_of_getElem? hw))
    (loopEvs_visitAdd (Q := Q) (ccnt := ccnt) hv c L h)
  Post.mk (fun _ _ => h1) fun _ => h1

theorem LoopEv.visit (c : Nat) (t : ℚ) : LoopEv (.visit c t) := Or.inl ⟨c, t, rfl⟩
theorem LoopEv.park (id : Int) (t : ℚ) : LoopEv (.park id t) := Or.inr ⟨id, t, rfl⟩

end

def putPk (flow size : Int → Nat) : List (HEv ℚ) → List MPkt
  | [] => []
  | .put id _ :: r => pktOf flow size id :: putPk flow size r
  | _ :: r => putPk flow size r

def outPk (flow size : Int → Nat) : List (HEv ℚ) → List MPkt
  | [] => []
  | .out id _ :: r => pktOf flow size id :: outPk flow size r
  | _ :: r => outPk flow size r

theorem putPk_append (l1 l2 : List (HEv ℚ)) : putPk flow size (l1 ++ l2) = putPk flow size l1 ++ putPk flow size l2 := by
  induction l1 with
  | nil => rfl
  | cons x r ih => cases x <;> simp [putPk, ih]

theorem outPk_append (l1 l2 : List (HEv ℚ)) : outPk flow size (l1 ++ l2) = outPk flow size l1 ++ outPk flow size l2 := by
  induction l1 with
  | nil => rfl
  | cons x r ih => cases x <;> simp [outPk, ih]

def NoIO (l : List (HEv ℚ)) : Prop := ∀ ev ∈ l, (∀ id t, ev ≠ .put id t) ∧ (∀ id t, ev ≠ .out id t)

theorem NoIO.quiet {l : List (HEv ℚ)} (h : NoIO l) : putPk flow size l = [] ∧ outPk flow size l = [] ∧ putIds l = [] := by
  induction l with
  | nil => exact ⟨rfl, rfl, rfl⟩
  | cons x r ih =>
    have ih' := ih (fun ev hev => h ev (List.mem_cons_of_mem _ hev))
    have hx := h x List.mem_cons_self
    cases x with
    | put id t => exact absurd rfl (hx.1 id t)
    | out id t => exact absurd rfl (hx.2 id t)
    | serve id t => exact ih'
    | idle t => exact ih'
    | visit c t => exact ih'
    | park id t => exact ih'
    | done id t => exact ih'
    | reset c t => exact ih'

theorem NoIO.append {l1 l2 : List (HEv ℚ)} (h1 : NoIO l1) (h2 : NoIO l2) : NoIO (l1 ++ l2) :=
  fun ev hev => (List.mem_append.mp hev).elim (h1 ev) (h2 ev)

theorem noIO_one (ev : HEv ℚ) (h1 : ∀ id t, ev ≠ .put id t) (h2 : ∀ id t, ev ≠ .out id t) : NoIO [ev] := by
  intro x hx
  rw [List.mem_singleton.mp hx]
  exact ⟨h1, h2⟩

theorem noIO_of_loopEv {l : List (HEv ℚ)} (h : ∀ ev ∈ l, LoopEv ev) : NoIO l := by
  intro ev hev
  rcases h ev hev with ⟨c, t, rfl⟩ | ⟨id, t, rfl⟩ <;> exact ⟨fun _ _ h => (nomatch h), fun _ _ h => (nomatch h)⟩

theorem noIO_bookEvs (a : A) (c : Nat) (id : Int) (t : ℚ) : NoIO (bookEvs a c id t) := by
  unfold bookEvs
  split
  · intro ev hev
    simp only [List.mem_cons, List.not_mem_nil, or_false] at hev
    rcases hev with rfl | rfl <;> exact ⟨fun _ _ h => (nomatch h), fun _ _ h => (nomatch h)⟩
  · intro ev hev
    simp only [List.mem_singleton] at hev
    subst hev
    exact ⟨fun _ _ h => (nomatch h), fun _ _ h => (nomatch h)⟩

/-! ## what the LTS side needs of a configuration besides `AInv`: what the observations say -/

structure LInv (flow : Int → Nat) (a : A) (hist : List (HEv ℚ)) : Prop where
  keys : a.keys = keysOf flow (putIds hist)
  recv : a.recv = ((putIds hist).length : Nat)
  /-- a parked head has been seen parked -/
  park : ∀ c, a.hol c ≠ none → c ∈ parkKeys flow hist
  /-- a class that was never reset has forgotten no credit -/
  forf : ∀ c, c ∉ forfKeys hist → a.forf c = 0

theorem keysOf_append (ids : List Int) (id : Int) : keysOf flow (ids ++ [id]) = addKey (keysOf flow ids) (flow id) := by
  simp [keysOf, List.foldl_append]

theorem keysOf_nodup (ids : List Int) : (keysOf flow ids).Nodup :=
  MQK.foldl_addKey_nodup flow ids [] List.nodup_nil

theorem LInv.nodup {a : A} {hist : List (HEv ℚ)} (h : LInv flow a hist) : a.keys.Nodup := by
  rw [h.keys]; exact keysOf_nodup _

theorem LInv.recv_nonneg {a : A} {hist : List (HEv ℚ)} (h : LInv flow a hist) : 0 ≤ a.recv := by
  rw [h.recv]; exact Int.natCast_nonneg _

theorem LInv.silent {a a' : A} {hist : List (HEv ℚ)} (h : LInv flow a hist) (hk : a'.keys = a.keys) (hr : a'.recv = a.recv)
    (hh : a'.hol = a.hol) (hf : a'.forf = a.forf) : LInv flow a' (hist ++ []) := by
  rw [List.append_nil]
  exact ⟨hk ▸ h.keys, hr ▸ h.recv, hh ▸ h.park, hf ▸ h.forf⟩

theorem lst_nil (a : A) (H : List (HEv ℚ)) (t : ℚ) (pc : DRR.Pc) :
    lst cfg flow size a H ⟨a.dfc, []⟩ t pc = mst cfg.flows flow size a H t pc .running := by
  simp only [lst, List.append_nil]
  rfl

theorem snoc2 {β : Type} (l : List β) (x y : β) : l ++ [x, y] = (l ++ [x]) ++ [y] := by simp

theorem acc_dictOf (keys : List Nat) (g : Nat → ℚ) (c : Nat) (h : c ∉ keys → g c = 0) : DRR.acc (dictOf keys g) c = g c := by
  simp only [DRR.acc, lookup_dictOf]
  by_cases hk : c ∈ keys
  · simp [hk]
  · simp [hk, h hk, zero_eq']

theorem NoIO.putIds {l : List (HEv ℚ)} (h : NoIO l) : putIds l = [] := (h.quiet (flow := fun _ => 0) (size := fun _ => 0)).2.2

theorem putIds_noIO {l : List (HEv ℚ)} (h : NoIO l) (hist : List (HEv ℚ)) : putIds (hist ++ l) = putIds hist := by
  rw [putIds_append, h.putIds, List.append_nil]

theorem forfKeys_loopEv (H : List (HEv ℚ)) : ∀ (l : List (HEv ℚ)), (∀ ev ∈ l, LoopEv ev) → forfKeys (H ++ l) = forfKeys H
  | [], _ => by simp
  | ev :: r, h => by
    have h1 : forfKeys (H ++ [ev]) = forfKeys H := by
      rw [forfKeys_snoc]
      rcases h ev List.mem_cons_self with ⟨c, t, rfl⟩ | ⟨id, t, rfl⟩ <;> rfl
    have := forfKeys_loopEv (H ++ [ev]) r (fun x hx => h x (List.mem_cons_of_mem _ hx))
    rw [List.append_assoc, List.singleton_append] at this
    rw [this, h1]

section enters
variable {a a1 : A} {hist e0 : List (HEv ℚ)} {q : QEntry ℚ} {t : ℚ} {en : Entry} {piece : LS × Option LoopEnd}

theorem Enters.noIO (hen : Enters flow size cfg a q t en a1 e0 piece) : NoIO e0 := by
  cases hen with
  | top => exact fun ev hev => nomatch hev
  | got => exact noIO_one _ (fun _ _ h => nomatch h) (fun _ _ h => nomatch h)
  | done => exact noIO_bookEvs _ _ _ _

theorem Enters.loopEvs {Pev : HEv ℚ → Prop} (hen : Enters flow size cfg a q t en a1 e0 piece) (hv : ∀ c, Pev (.visit c t))
    (hp : ∀ e ∈ cfg.weights, ∀ id, a1.hol e.1 = some id → Pev (.park id t))
    (hne : (thenPasses (qOf cfg) size a1.ccnt a1.hol t (a1.total F) cfg.weights P piece).2 ≠ .hang) :
    ∀ ev ∈ (thenPasses (qOf cfg) size a1.ccnt a1.hol t (a1.total F) cfg.weights P piece).1.evs, Pev ev := by
  have hit := loopEvs_iter (Q := qOf cfg) (size := size) (ccnt := a1.ccnt) hv hp
  refine thenPasses_ind (I := fun _ L' => ∀ ev ∈ L'.evs, Pev ev) hit (fun _ h => h) (fun _ h _ => h) P piece ?_ hne
  cases hen with
  | top => exact fun ev hev => nomatch hev
  | got h hd hle => exact visitFrom_ind hit _ _ _ (KExec.drop_cons hd).2 fun ev hev => nomatch hev
  | @done p m id w rest h hd =>
    have h1 := loopEvs_innerAt (size := size) (ccnt := (a.book size (flow id) id).ccnt) m _ ⟨(a.book size (flow id) id).dfc, []⟩
      (hp _ (List.mem_of_getElem? (KExec.drop_cons hd).1)) fun ev hev => nomatch hev
    exact donePiece_ind hit (KExec.drop_cons hd).2 (Post.mk (fun _ _ => h1) fun _ => h1)

theorem Enters.linv (hen : Enters flow size cfg a q t en a1 e0 piece) (hl : LInv flow a hist) : LInv flow a1 (hist ++ e0) := by
  have hk := putIds_noIO hen.noIO hist
  cases hen with
  | top => simpa using hl
  | @got g m id w rest h hd hle =>
    refine ⟨by rw [hk]; exact hl.keys, by rw [hk]; exact hl.recv, fun c' hc' => ?_,
      fun c hc => hl.forf c (by rwa [forfKeys_snoc] at hc)⟩
    rw [parkKeys_snoc]
    by_cases hcc : c' = flow id
    · subst hcc; exact (mem_addKey _ _ _).mpr (Or.inr rfl)
    · change upd a.hol (flow id) (some id) c' ≠ none at hc'
      rw [upd_ne _ _ _ _ hcc] at hc'
      exact (mem_addKey _ _ _).mpr (Or.inl (hl.park c' hc'))
  | @done p m id w rest h hd =>
    have hsb := sameBut_book (size := size) a (flow id) id
    refine ⟨by rw [hk, hsb.keys]; exact hl.keys, by rw [hk, hsb.recv]; exact hl.recv, fun c' hc' => ?_, fun c hc => ?_⟩
    · rw [book_hol] at hc'
      exact mem_parkKeys_append flow hist _ (hl.park c' hc')
    · unfold A.book bookEvs at *
      by_cases hz : a.ccnt (flow id) + -1 = 0
      · simp only [if_pos hz] at hc ⊢
        rw [snoc2, forfKeys_snoc, forfKeys_snoc] at hc
        simp only at hc
        have hcne : c ≠ flow id := fun hh => hc ((mem_addKey _ _ _).mpr (Or.inr hh))
        show upd a.forf (flow id) _ c = 0
        rw [upd_ne _ _ _ _ hcne]
        exact hl.forf c (fun hh => hc ((mem_addKey _ _ _).mpr (Or.inl hh)))
      · simp only [if_neg hz] at hc ⊢
        rw [forfKeys_snoc] at hc
        exact hl.forf c hc

theorem resumeLoop_of {s S : MQState ℚ (DRR.Ctl ℚ)} (h : { s with phase := Phase.running } = S) :
    resumeLoop (DRR.sched cfg) s = settle (DRR.sched cfg) ((DRR.sched cfg).fuel S.hol) S := by
  subst h; rfl

/-- **the action of the LTS that a burst which enters the loops stands for, up to the loops**: `init` or `wake` at the top of
the loops; `pktResume`, in which the packet is parked; `sendDone`, in which the transmission is booked.  The loop of the LTS
then runs from the state of the configuration `a1` at the point `pc`, where the piece `piece` of the loops starts, which it
follows in `X` moves. -/
theorem lts_enter (hi : AInv flow F size cfg Lmax P a t) (hl : LInv flow a hist)
    (hen : Enters flow size cfg a q t en a1 e0 piece) (hm : MidInv F flow size cfg Lmax P a1 t) (hl1 : LInv flow a1 (hist ++ e0)) :
    ∃ act pc X, (∀ p, act ≠ .put p) ∧ X ≤ 2 * cfg.weights.length + 1 ∧
      MQ.step (DRR.sched cfg) (toM cfg.flows flow size a hist t) act =
        withOut .nothing (settle (DRR.sched cfg) ((DRR.sched cfg).fuel (lst cfg flow size a1 (hist ++ e0) ⟨a1.dfc, []⟩ t pc).hol)
          (lst cfg flow size a1 (hist ++ e0) ⟨a1.dfc, []⟩ t pc)) ∧
      ∀ N, settle (DRR.sched cfg) (X + N) (lst cfg flow size a1 (hist ++ e0) ⟨a1.dfc, []⟩ t pc) =
        afterM cfg flow size a1 (hist ++ e0) t N piece := by
  have ht := hi.table
  have hrun := hi.run
  cases hen with
  | top h =>
    have hpc : pcOf a.run = .top := by rcases h with h | ⟨g, h⟩ <;> rw [h] <;> rfl
    -- `init` from the idle phase, `wake` with the token handed over: both enter the loop
    obtain ⟨act, hnp, hact⟩ : ∃ act : MAct ℚ, (∀ p, act ≠ .put p) ∧
        MQ.step (DRR.sched cfg) (toM cfg.flows flow size a hist t) act =
          withOut .nothing (resumeLoop (DRR.sched cfg) (toM cfg.flows flow size a hist t)) := by
      rcases h with h | ⟨g, h⟩
      · exact ⟨.init, fun p hh => (nomatch hh), by simp only [MQ.step, toM_phase, h, phaseOf]⟩
      · exact ⟨.wake, fun p hh => (nomatch hh), by simp only [MQ.step, toM_phase, h, phaseOf]⟩
    refine ⟨act, .top, 0, hnp, Nat.zero_le _, ?_, fun N => by rw [Nat.zero_add]; rfl⟩
    rw [hact]
    refine congrArg (withOut MOut.nothing) (resumeLoop_of ?_)
    rw [lst_nil, List.append_nil]
    simp only [toM, mst, hpc]
  | @got g m id w rest h hd hle =>
    rw [h] at hrun
    obtain ⟨-, -, -, hpk, -, hhol, -⟩ := hrun
    have hcF : flow id < F := hpk.1
    have hlen := length_of_drop hd
    refine ⟨.pktResume, .visit (m + 1), 2 * rest.length + 1, (fun p hh => nomatch hh), by omega, ?_,
      fun N => lts_visitFrom (size := size) (t := t) ht hl1.park (hflow_of_mid hm) N rest (m + 1) ⟨a.dfc, []⟩ (KExec.drop_cons hd).2⟩
    have hpar : lookupD (dictOf (parkKeys flow hist) fun c => (a.hol c).map (pktOf flow size)) (flow id) none = none := by
      rw [lookupD_dictOf _ _ _ (fun hc => by rw [hhol]; rfl), hhol]; rfl
    have hon := fun v => (onPkt_eq (size := size) (id := id) ht (k := (toM cfg.flows flow size a hist t).ctl) v (congrArg pcOf h)
      (lookup_flows ht a.dfc hcF) rfl).trans (if_neg hle)
    simp only [MQ.step, toM_phase, h, phaseOf, doPktResume, sched_onPkt, hon]
    simp only [park, toM, mst, hpar]
    refine congrArg (withOut MOut.nothing) (resumeLoop_of ?_)
    -- the state with the packet parked is that of the configuration with `head_of_line[flow id] = id`
    rw [lst_nil]
    simp only [mst, ctlOf, visitsOf_snoc, sentOf_snoc, forfKeys_snoc, setKey_dictOf _ (parkKeys_nodup flow hist), parkKeys_snoc]
    congr 1
    exact congrArg (dictOf _) (upd_map a.hol (flow id) (some id) (Option.map (pktOf flow size)))
  | @done p m id w rest h hd =>
    rw [h] at hrun
    obtain ⟨-, -, -, hpk, -, hhol, -⟩ := hrun
    have hcF : flow id < F := hpk.1
    have hw := (KExec.drop_cons hd).1
    have hlen := length_of_drop hd
    refine ⟨.sendDone, .inner m, 2 * rest.length + 2, (fun p hh => nomatch hh), by omega, ?_,
      lts_donePiece (size := size) (t := t) ht hw (KExec.drop_cons hd).2 hl1.park (hflow_of_mid hm)⟩
    have hcc : (dictOf cfg.flows a.ccnt)[m]? = some (flow id, a.ccnt (flow id)) := by
      rw [getElem?_dictOf, getElem?_flows hw]; rfl
    have hon : (DRR.sched cfg).onDone (toM cfg.flows flow size a hist t).ctl (pktOf flow size id) =
        .ok { DRR.book (toM cfg.flows flow size a hist t).ctl (flow id) (a.dfc (flow id)) (a.ccnt (flow id)) (pktOf flow size id) with
          pc := .inner m } := by
      simp only [DRR.sched, DRR.onDone, toM, mst, ctlOf, pcOf, h, hcc, lookup_flows ht _ hcF]
    simp only [MQ.step, toM_phase, h, phaseOf, doSendDone, hon]
    refine congrArg (withOut MOut.nothing) (resumeLoop_of ?_)
    -- the booked state is that of the configuration `a.book`
    have hfn := forfKeys_nodup hist
    rw [lst_nil]
    unfold A.book bookEvs DRR.book
    by_cases hz : a.ccnt (flow id) + -1 = 0
    · have hz' : a.ccnt (flow id) - 1 = 0 := by omega
      simp only [if_pos hz, if_pos hz']
      simp only [toM, mst, ctlOf, snoc2, visitsOf_snoc, sentOf_snoc, forfKeys_snoc, parkKeys_snoc, setKey_flows ht _ hcF,
        setKey_dictOf _ hfn, acc_dictOf _ _ _ (hl.forf (flow id)), pktOf, zero_eq', Int.sub_eq_add_neg]
    · have hz' : ¬ a.ccnt (flow id) - 1 = 0 := by omega
      simp only [if_neg hz, if_neg hz']
      simp only [toM, mst, ctlOf, visitsOf_snoc, sentOf_snoc, forfKeys_snoc, parkKeys_snoc, setKey_flows ht _ hcF, pktOf,
        Int.sub_eq_add_neg]

end enters

def LtsOK (flow size : Int → Nat) (cfg : DRR.Cfg ℚ) (Lmax : Nat) (a : A) (hist : List (HEv ℚ)) (t : ℚ) (a' : A)
    (new : List (HEv ℚ)) : Prop :=
  ∃ acts, acts.length ≤ 1 ∧ (∀ x ∈ acts, DRR.ActOk (Lmax : ℚ) x) ∧
    runActs (DRR.sched cfg) (toM cfg.flows flow size a hist t) acts =
      .ok (toM cfg.flows flow size a' (hist ++ new) t, putPk flow size new, outPk flow size new)

theorem ltsOK_nothing {a a' : A} {hist : List (HEv ℚ)} {t : ℚ}
    (h : toM cfg.flows flow size a' (hist ++ []) t = toM cfg.flows flow size a hist t) : LtsOK flow size cfg Lmax a hist t a' [] :=
  ⟨[], Nat.zero_le _, (by intro x hx; cases hx), (by rw [h]; rfl)⟩

theorem ltsOK_one {a a' : A} {hist new : List (HEv ℚ)} {t : ℚ} (act : MAct ℚ) (o : MOut ℚ) (hact : DRR.ActOk (Lmax : ℚ) act)
    (h : MQ.step (DRR.sched cfg) (toM cfg.flows flow size a hist t) act = .ok (toM cfg.flows flow size a' (hist ++ new) t, o))
    (hin : putPk flow size new = insOf act) (hout : outPk flow size new = outOf o) :
    LtsOK flow size cfg Lmax a hist t a' new := by
  refine ⟨[act], Nat.le_refl _, by intro x hx; simp only [List.mem_singleton] at hx; rw [hx]; exact hact, ?_⟩
  rw [hin, hout]
  exact MQK.runActs_one h

theorem actOk_of_not_put {act : MAct ℚ} (h : ∀ p, act ≠ .put p) (L : ℚ) : DRR.ActOk L act := fun p hp => absurd hp (h p)

theorem insOf_of_not_put {act : MAct ℚ} (h : ∀ p, act ≠ .put p) : insOf act = [] := by
  cases act <;> first | rfl | exact absurd rfl (h _)

theorem mem_parkKeys_append' (flow : Int → Nat) (h l : List (HEv ℚ)) {c : Nat} (hc : c ∈ parkKeys flow h) :
    c ∈ parkKeys flow (h ++ l) := mem_parkKeys_append flow h l hc

variable {q : QEntry ℚ}

theorem LInv.quiet {a a' : A} {hist l : List (HEv ℚ)} (h : LInv flow a hist) (hp : putIds l = [])
    (hr : forfKeys (hist ++ l) = forfKeys hist) (hk : a'.keys = a.keys) (hrv : a'.recv = a.recv)
    (hh : ∀ c, a'.hol c ≠ none → a.hol c ≠ none) (hf : a'.forf = a.forf) : LInv flow a' (hist ++ l) :=
  ⟨by rw [hk, putIds_append, hp, List.append_nil]; exact h.keys, by rw [hrv, putIds_append, hp, List.append_nil]; exact h.recv,
    fun c hc => mem_parkKeys_append flow hist l (h.park c (hh c hc)), fun c hc => by rw [hf]; exact h.forf c (hr ▸ hc)⟩

/-- **how a burst ends, for the LTS**: where the loop of the LTS ends (`endM`) is the state of the new configuration, after
the observations of the loops and of the end (`l`: the service start, the idle mark) -/
theorem lts_end {a a1 a' : A} {H new : List (HEv ℚ)} {L : LS} {fin : LoopEnd} {t : ℚ} (hm : MidInv F flow size cfg Lmax P a1 t)
    (hl1 : LInv flow a1 H) (hsb : SameBut a a1) (hloop : ∀ ev ∈ L.evs, LoopEv ev)
    (hE : EndOK size a1.ccnt a1.hol (a1.total F) cfg.weights L (some fin)) (e0 : List (HEv ℚ))
    (hend : BurstEnd F n e t a ⟨finA a1 L (some fin), e0 ++ L.evs, fin⟩ a' new) :
    ∃ l, new = e0 ++ L.evs ++ l ∧ NoIO l ∧
      endM cfg flow size a1 H L t fin = .ok (toM cfg.flows flow size a' (H ++ L.evs ++ l) t) ∧ LInv flow a' (H ++ L.evs ++ l) := by
  have hl2 : LInv flow a1 (H ++ L.evs) :=
    hl1.quiet (noIO_of_loopEv hloop).putIds (forfKeys_loopEv H _ hloop) rfl rfl (fun _ h => h) rfl
  cases hend with
  | get m' c' id' is hfin hc' hit =>
    simp only at hfin
    subst hfin
    rw [← hsb.items] at hit
    have hk : c' ∈ a1.keys := by
      by_contra hk
      have := (hm.keysOK.2 c' hc' hk).1
      rw [hit] at this; cases this
    have hfl' : flow id' = c' := (hm.flowOK c' hc' id' (by rw [hit]; simp)).1
    refine ⟨[], (List.append_nil _).symm, (fun _ h => nomatch h), ?_, hl2.quiet rfl (by rw [List.append_nil]) rfl rfl (fun _ h => h) rfl⟩
    rw [endM_get hl1.nodup hk hit hfl' ⟨t, NORMAL, e, n⟩ n, List.append_nil]
    rfl
  | send m' c' id' pk hfin =>
    simp only at hfin
    subst hfin
    obtain ⟨rfl, -, hhol, -, -⟩ := hE
    have hpk : c' ∈ parkKeys flow (H ++ L.evs) := hl2.park c' (by rw [hhol]; simp)
    refine ⟨[.serve id' t], rfl, noIO_one _ (fun _ _ h => nomatch h) (fun _ _ h => nomatch h), endM_send hpk ⟨t, URGENT, e, n + 1⟩ n,
      hl2.quiet rfl (forfKeys_snoc _ _) rfl rfl (fun c hc => ?_) rfl⟩
    change upd a1.hol c' none c ≠ none at hc
    by_cases hcc : c = c'
    · subst hcc; rw [upd_same] at hc; exact absurd rfl hc
    · rw [upd_ne _ _ _ _ hcc] at hc; exact hc
  | block hfin htk =>
    simp only at hfin
    subst hfin
    exact ⟨[.idle t], rfl, noIO_one _ (fun _ _ h => nomatch h) (fun _ _ h => nomatch h), endM_idle_zero (hsb.tokens ▸ htk) n,
      hl2.quiet rfl (forfKeys_snoc _ _) rfl rfl (fun _ h => h) rfl⟩
  | tok k hfin htk =>
    simp only at hfin
    subst hfin
    exact ⟨[.idle t], rfl, noIO_one _ (fun _ _ h => nomatch h) (fun _ _ h => nomatch h),
      endM_idle_succ (hsb.tokens ▸ htk) n ⟨t, NORMAL, e, n⟩, hl2.quiet rfl (forfKeys_snoc _ _) rfl rfl (fun _ h => h) rfl⟩

/-- **a burst of `run`**: the LTS accepts it — as `pktResume` when the packet in hand is sent at once, else as the action of
`lts_enter`, whose loop runs as the loops of the configuration do — and what the observations say of the new configuration holds -/
theorem lts_burst_end {a a' : A} {hist new : List (HEv ℚ)} {en : Entry} (hi : AInv flow F size cfg Lmax P a q.time)
    (hl : LInv flow a hist) (hst : StartsAt a q en) (r : BurstRes)
    (hb : a.burst F (qOf cfg) size cfg.weights P q.time en = r)
    (hend : BurstEnd F n e q.time a r a' new) :
    LtsOK flow size cfg Lmax a hist q.time a' new ∧ LInv flow a' (hist ++ new) := by
  subst hb
  have ht := hi.table
  rcases burst_enters hi hst with ⟨g, m, id, -, h, hle, hbe⟩ | ⟨a1, e0, piece, hen, hm, -, hsb, hE, hmono, hbe⟩
  · rw [hbe] at hend
    cases hend with
    | get _ _ _ _ h => cases h
    | block h => cases h
    | tok _ h => cases h
    | send m' c' id' pk hfin =>
      simp only [LoopEnd.send.injEq] at hfin
      obtain ⟨rfl, rfl, rfl, rfl⟩ := hfin
      refine ⟨ltsOK_one .pktResume .nothing (fun p hp => by cases hp) ?_ rfl rfl,
        hl.quiet rfl (forfKeys_snoc hist _) rfl rfl (fun _ h => h) rfl⟩
      have hrun := hi.run
      rw [h] at hrun
      have hon := fun v => (onPkt_eq (size := size) (id := id) ht (k := (toM cfg.flows flow size a hist q.time).ctl) v
        (congrArg pcOf h) (lookup_flows ht a.dfc hrun.2.2.2.1.1) rfl).trans (if_pos hle)
      simp only [MQ.step, toM_phase, h, phaseOf, doPktResume, sched_onPkt, hon, spawn]
      simp only [toM, mst, ctlOf, pcOf, phaseOf, h, if_true, visitsOf_snoc, sentOf_snoc, forfKeys_snoc, parkKeys_snoc, Option.map_some,
        List.nil_append]
  · rw [hbe] at hend
    obtain ⟨hnh, hE', -⟩ := loop_post (t := q.time) hm piece hE hmono
    have hl1 := hen.linv hl
    obtain ⟨act, pc, X, hnp, hX, hstep, hsim⟩ := lts_enter hi hl hen hm hl1
    rw [lts_rest hm hl1.park piece pc X hX hsim hmono hnh] at hstep
    have hloop := hen.loopEvs (LoopEv.visit · q.time) (fun _ _ id _ => LoopEv.park id q.time) hnh
    obtain ⟨l, rfl, hnl, hok, hli⟩ := lts_end hm hl1 hsb hloop hE' e0 hend
    have hq := ((hen.noIO.append (noIO_of_loopEv hloop)).append hnl).quiet (flow := flow) (size := size)
    refine ⟨ltsOK_one act .nothing (actOk_of_not_put hnp _) ?_ (by rw [hq.1, insOf_of_not_put hnp]) (by rw [hq.2.1]; rfl), ?_⟩
    · rw [hstep, hok]
      simp only [List.append_assoc]
      rfl
    · simpa only [List.append_assoc] using hli

theorem txTime_eq (id : Int) : MQ.txTime (DRR.sched cfg) (pktOf flow size id) = DRROnK.txTime size cfg.rate id := rfl

theorem lts_put {a : A} {hist : List (HEv ℚ)} (hi : AInv flow F size cfg Lmax P a q.time) (hl : LInv flow a hist) {id : Int}
    {arr : List (ℚ × Int)} (h : a.src = .wait id arr q) (src' : SPhase) (pend' : List (QEntry ℚ × ResId)) (tok' : Nat)
    (htok : tok' = if a.total F = 0 then a.tokens + 1 else a.tokens) (a' : A)
    (ha' : a' = { a with src := src', pend := pend', tokens := tok', items := upd a.items (flow id) (a.items (flow id) ++ [id]),
                         cnt := upd a.cnt (flow id) (a.cnt (flow id) + 1),
                         byt := upd a.byt (flow id) (a.byt (flow id) + (size id : Int)), recv := a.recv + 1,
                         keys := addKey a.keys (flow id), ccnt := upd a.ccnt (flow id) (a.ccnt (flow id) + 1) }) :
    LtsOK flow size cfg Lmax a hist q.time a' [.put id q.time] ∧ LInv flow a' (hist ++ [.put id q.time]) := by
  subst ha'
  have ht := hi.table
  have hn := hl.nodup
  have hfn := flows_nodup ht
  have hs := hi.src
  rw [h] at hs
  obtain ⟨hqp, hpk, -⟩ := hs
  have hfid := hpk.1
  have hkf : flow id ∈ cfg.flows := (mem_flows ht _).mpr hfid
  have hst : storeOf (dictOf a.keys fun f => (a.items f).map (pktOf flow size)) (flow id) = (a.items (flow id)).map (pktOf flow size) :=
    storeOf_dictOf _ _ _ (fun hk => by rw [(hi.keysOK.2 _ hfid hk).1]; rfl)
  have h0b : flow id ∉ a.keys → a.byt (flow id) = 0 := fun hk => (hi.keysOK.2 _ hfid hk).2.2
  have hrc : (a.recv + 1).toNat = a.recv.toNat + 1 := by have := hl.recv_nonneg; omega
  have hactOk : DRR.ActOk (Lmax : ℚ) (.put (pktOf flow size id)) := by
    intro p hp
    cases hp
    exact_mod_cast hpk.2
  refine ⟨ltsOK_one (.put (pktOf flow size id)) .accepted hactOk ?_ rfl rfl, ?_⟩
  · have hon : (DRR.sched cfg).onPut (toM cfg.flows flow size a hist q.time).ctl (flow id) (pktOf flow size id) =
        .ok { (toM cfg.flows flow size a hist q.time).ctl with
          classCount := setKey (toM cfg.flows flow size a hist q.time).ctl.classCount (flow id) (a.ccnt (flow id) + 1) } := by
      simp only [DRR.sched, DRR.onPut, toM, mst, ctlOf, lookup_flows ht _ hfid]
    have hcl : (DRR.sched cfg).classOf (pktOf flow size id).flow = some (flow id) := classOf_id ht _
    simp only [MQ.step, MQ.doPut, hcl, hon]
    have htt : MQ.total ({ toM cfg.flows flow size a hist q.time with
        ctl := { (toM cfg.flows flow size a hist q.time).ctl with
          classCount := setKey (toM cfg.flows flow size a hist q.time).ctl.classCount (flow id) (a.ccnt (flow id) + 1) } } :
        MQState ℚ (DRR.Ctl ℚ)).queueCount = a.total F := by
      simp only [toM, mst]; rw [total_flows ht]; rfl
    subst htok
    by_cases htot : a.total F = 0 <;>
    · simp only [postToken, htt, htot, if_true, if_false, countIn, enqueue]
      simp only [toM, mst, ctlOf, pktOf, hst, setKey_dictOf _ hn, bump_dictOf _ hfn _ _ _ (fun h0 => absurd hkf h0), addKey_of_mem _ _ hkf,
        bump_dictOf _ hn _ _ _ h0b, hrc, setKey_flows ht _ hfid, visitsOf_snoc, sentOf_snoc, forfKeys_snoc, parkKeys_snoc]
      congr 3
      rw [← upd_map]
      simp [pktOf]
  · refine ⟨?_, ?_, ?_, ?_⟩
    · show addKey a.keys _ = _
      rw [putIds_append, hl.keys]
      simp only [putIds]
      rw [keysOf_append]
    · show a.recv + 1 = _
      rw [putIds_append, hl.recv]
      simp [putIds]
    · intro c hc; exact mem_parkKeys_append flow hist _ (hl.park c hc)
    · intro c hc; rw [forfKeys_snoc] at hc; exact hl.forf c hc

theorem lts_step {a a' : A} {hist new : List (HEv ℚ)} (hi : AInv flow F size cfg Lmax P a q.time) (_hmin : IsMin a q)
    (hl : LInv flow a hist) (hs : AStep F flow size cfg P n e a q a' new) :
    LtsOK flow size cfg Lmax a hist q.time a' new ∧ LInv flow a' (hist ++ new) := by
  have hrun := hi.run
  have ht := hi.table
  have hn := hl.nodup
  have hfn := flows_nodup ht
  cases hs with
  | burst en r _ _ hst hb hend => exact lts_burst_end hi hl hst r hb hend
  | sendInit p m id h =>
    refine ⟨ltsOK_one .sendInit (.started (pktOf flow size id) (q.time + DRROnK.txTime size cfg.rate id)) (fun _ hp => by cases hp)
      ?_ rfl rfl, hl.silent rfl rfl rfl rfl⟩
    rw [h] at hrun
    simp only [MQ.step, toM_phase, h, phaseOf, txTime_eq]
    simp only [toM, mst, ctlOf, pcOf, phaseOf, h, Option.map_some, List.append_nil, hrun.2.2.1]
  | sendFire p t m id h =>
    rw [h] at hrun
    obtain ⟨-, hcur, hpk, -⟩ := hrun
    have hfid := hpk.1
    have hheld : a.run.held = some id := by simp [h, RPhase.held]
    have hk := (held_counted hi hheld hfid).2
    have hkf : flow id ∈ cfg.flows := (mem_flows ht _).mpr hfid
    refine ⟨ltsOK_one .sendFire (.depart (pktOf flow size id)) (fun _ hp => by cases hp) ?_ rfl rfl, ?_⟩
    · have hnow : (toM cfg.flows flow size a hist q.time).now = q.time := rfl
      simp only [MQ.step, toM_phase, h, phaseOf, hnow, lt_irrefl, if_false, countOut]
      simp only [toM, mst, ctlOf, pcOf, phaseOf, h, pktOf, bump_dictOf _ hn _ _ _ (fun h0 => absurd hk h0), addKey_of_mem _ _ hk,
        bump_dictOf _ hfn _ _ _ (fun h0 => absurd hkf h0), addKey_of_mem _ _ hkf, Option.map_none, visitsOf_snoc, sentOf_snoc, forfKeys_snoc, parkKeys_snoc]
    · exact hl.quiet rfl (forfKeys_snoc hist _) rfl rfl (fun _ h => h) rfl
  | srcInit arr h => exact ⟨ltsOK_nothing (by simp only [List.append_nil]; rfl), hl.silent rfl rfl rfl rfl⟩
  | srcPutTok id arr h htot => exact lts_put hi hl h _ _ _ (if_pos htot).symm _ rfl
  | srcPutPlain id arr h htot => exact lts_put hi hl h _ _ _ (if_neg htot).symm _ rfl
  | srcEnd h => exact ⟨ltsOK_nothing (by simp only [List.append_nil]; rfl), hl.silent rfl rfl rfl rfl⟩
  | pendNoop r l1 l2 hpe hno => exact ⟨ltsOK_nothing (by simp only [List.append_nil]; rfl), hl.silent rfl rfl rfl rfl⟩
  | pendHand g t l1 l2 hpe h htk =>
    refine ⟨ltsOK_one .tokenHandoff .nothing (fun _ hp => by cases hp) ?_ rfl rfl, hl.silent rfl rfl rfl rfl⟩
    have htk' : (toM cfg.flows flow size a hist q.time).tokens = t + 1 := htk
    simp only [MQ.step, toM_phase, h, phaseOf, htk']
    simp only [toM, mst, ctlOf, pcOf, phaseOf, h, List.append_nil]

theorem lts_tick {a : A} {hist : List (HEv ℚ)} (hi : AInv flow F size cfg Lmax P a now) (hq : IsMin a q) (h : now < q.time) :
    MQ.step (DRR.sched cfg) (toM cfg.flows flow size a hist now) (.tick q.time) = .ok (toM cfg.flows flow size a hist q.time, .nothing) := by
  have hnlt : ¬ q.time < now := not_lt.mpr (le_of_lt h)
  rcases (hi.waits hq h).1 with ⟨⟨g, hr⟩, htk⟩ | ⟨p, t, m, id, q0, hr⟩
  · simp [MQ.step, doTick, toM, mst, phaseOf, pcOf, hr, hnlt, htk]
  · have h2 : ¬ q0.time < q.time := not_lt.mpr (not_keyLt_time (hq.2 q0 (mem_run (by simp [hr, RPhase.entries]))))
    simp [MQ.step, doTick, toM, mst, phaseOf, pcOf, hr, hnlt, h2]

theorem lts_advance {a : A} {hist : List (HEv ℚ)} (hi : AInv flow F size cfg Lmax P a now) (hq : IsMin a q) :
    ∃ acts, acts.length ≤ 1 ∧ (∀ x ∈ acts, DRR.ActOk (Lmax : ℚ) x) ∧
      runActs (DRR.sched cfg) (toM cfg.flows flow size a hist now) acts = .ok (toM cfg.flows flow size a hist q.time, [], []) := by
  rcases eq_or_lt_of_le (hi.now_le hq) with h | h
  · exact ⟨[], Nat.zero_le _, (by intro x hx; cases hx), (by rw [← h]; rfl)⟩
  · refine ⟨[.tick q.time], Nat.le_refl _, (by intro x hx; simp only [List.mem_singleton] at hx; rw [hx]; exact fun p hp => by cases hp), ?_⟩
    simp only [runActs, lts_tick hi hq h]
    rfl

def EvsOK (Pk : Int → Prop) (Pr : Nat → Prop) (l : List (HEv ℚ)) : Prop :=
  ∀ ev ∈ l, (∀ id t, ev = .park id t → Pk id) ∧ (∀ c t, ev = .reset c t → Pr c)

theorem EvsOK.append {Pk : Int → Prop} {Pr : Nat → Prop} {l1 l2 : List (HEv ℚ)} (h1 : EvsOK Pk Pr l1) (h2 : EvsOK Pk Pr l2) :
    EvsOK Pk Pr (l1 ++ l2) :=
  fun ev hev => (List.mem_append.mp hev).elim (h1 ev) (h2 ev)

theorem evsOK_nil {Pk : Int → Prop} {Pr : Nat → Prop} : EvsOK Pk Pr [] := by intro ev hev; cases hev

section
variable {Q : Nat → ℚ} {ccnt : Nat → Int} {hol : Nat → Option Int} {t : ℚ} {total : Int} {ws : List (Nat × Nat)}
variable {Pk : Int → Prop} {Pr : Nat → Prop}

theorem evsOK_visit (c : Nat) (t : ℚ) :
    (∀ id t', HEv.visit c t = .park id t' → Pk id) ∧ ∀ c' t', HEv.visit c t = .reset c' t' → Pr c' :=
  ⟨fun _ _ h => (nomatch h), fun _ _ h => (nomatch h)⟩

theorem evsOK_park {id : Int} (h : Pk id) (t : ℚ) :
    (∀ id' t', HEv.park id t = .park id' t' → Pk id') ∧ ∀ c' t', HEv.park id t = .reset c' t' → Pr c' :=
  ⟨fun _ _ heq => by cases heq; exact h, fun _ _ h => (nomatch h)⟩

end

theorem burst_evs_ok {a : A} {en : Entry} (hi : AInv flow F size cfg Lmax P a now) (hst : StartsAt a q en) :
    EvsOK (fun id => flow id < F) (fun c => c < F) (a.burst F (qOf cfg) size cfg.weights P now en).evs := by
  rcases burst_enters hi hst with ⟨g, m, id, -, -, -, hbe⟩ | ⟨a1, e0, piece, hen, hm, -, -, hE, hmono, hbe⟩
  · rw [hbe]; exact evsOK_nil
  · rw [hbe]
    have hp1 := fun (e : Nat × Nat) (he : e ∈ cfg.weights) (id : Int) (h : a1.hol e.1 = some id) =>
      evsOK_park (Pk := fun id => flow id < F) (Pr := fun c => c < F)
        (show flow id < F by rw [(hm.holOK e.1 (entry_lt hm.table he) id h).1]; exact entry_lt hm.table he) now
    refine EvsOK.append ?_ (hen.loopEvs (fun c => evsOK_visit c now) hp1 (loop_post (t := now) hm piece hE hmono).1)
    -- before the loops: the packet `run` resumed with is parked, or its class is reset
    have hrun := hi.run
    cases hen with
    | top => exact evsOK_nil
    | got h hd hle =>
      rw [h] at hrun
      exact fun ev hev => List.mem_singleton.mp hev ▸ evsOK_park hrun.2.2.2.1.1 now
    | done h hd =>
      rw [h] at hrun
      unfold bookEvs
      split
      · intro ev hev
        simp only [List.mem_cons, List.not_mem_nil, or_false] at hev
        rcases hev with rfl | rfl
        · exact ⟨fun _ _ h => (nomatch h), fun _ _ h => (nomatch h)⟩
        · exact ⟨fun _ _ h => (nomatch h), fun c _ heq => by cases heq; exact hrun.2.2.2.1.1⟩
      · intro ev hev
        rw [List.mem_singleton.mp hev]
        exact ⟨fun _ _ h => (nomatch h), fun _ _ h => (nomatch h)⟩

/-- the classes seen parked or reset so far are declared classes -/
def HOK (F : Nat) (flow : Int → Nat) (hist : List (HEv ℚ)) : Prop := EvsOK (fun id => flow id < F) (fun c => c < F) hist

theorem hok_step {a a' : A} {hist new : List (HEv ℚ)} (hi : AInv flow F size cfg Lmax P a q.time) (hh : HOK F flow hist)
    (hs : AStep F flow size cfg P n e a q a' new) : HOK F flow (hist ++ new) := by
  refine EvsOK.append hh ?_
  have one : ∀ (ev : HEv ℚ), (∀ id t, ev ≠ .park id t) → (∀ c t, ev ≠ .reset c t) →
      EvsOK (fun id => flow id < F) (fun c => c < F) [ev] := by
    intro ev h1 h2 x hx
    simp only [List.mem_singleton] at hx
    subst hx
    exact ⟨fun id t h => absurd h (h1 id t), fun c t h => absurd h (h2 c t)⟩
  cases hs with
  | burst en r _ _ hst hb hend =>
    cases hend with
    | get => exact hb ▸ burst_evs_ok hi hst
    | _ => exact (hb ▸ burst_evs_ok hi hst).append (one _ (fun _ _ h => nomatch h) (fun _ _ h => nomatch h))
  | sendInit p m id h => exact evsOK_nil
  | sendFire p t m id h => exact one _ (fun _ _ h => nomatch h) (fun _ _ h => nomatch h)
  | srcInit arr h => exact evsOK_nil
  | srcPutTok id arr h htot => exact one _ (fun _ _ h => nomatch h) (fun _ _ h => nomatch h)
  | srcPutPlain id arr h htot => exact one _ (fun _ _ h => nomatch h) (fun _ _ h => nomatch h)
  | srcEnd h => exact evsOK_nil
  | pendNoop r l1 l2 hpe hno => exact evsOK_nil
  | pendHand g t l1 l2 hpe h htk => exact evsOK_nil

theorem hok_parkKeys {hist : List (HEv ℚ)} (hh : HOK F flow hist) : ∀ c ∈ parkKeys flow hist, c < F :=
  List.foldlRecOn (motive := fun l => ∀ c ∈ l, c < F) hist _ (fun _ hc => nomatch hc) fun l hl ev hev => by
    cases ev with
    | park id t => exact fun c hc => ((mem_addKey _ _ _).mp hc).elim (hl c) fun h => h ▸ (hh _ hev).1 id t rfl
    | _ => exact hl

theorem hok_forfKeys {hist : List (HEv ℚ)} (hh : HOK F flow hist) : ∀ c ∈ forfKeys hist, c < F :=
  List.foldlRecOn (motive := fun l => ∀ c ∈ l, c < F) hist _ (fun _ hc => nomatch hc) fun l hl ev hev => by
    cases ev with
    | reset c0 t => exact fun c hc => ((mem_addKey _ _ _).mp hc).elim (hl c) fun h => h ▸ (hh _ hev).2 c0 t rfl
    | _ => exact hl

end DRRK
