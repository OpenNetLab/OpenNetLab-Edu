import OnlVerif.Lemmas.SndKOps
import OnlVerif.Lemmas.KProc
/-!
# The TCP sender on the kernel model: its configurations as configurations of cooperating processes

`threads κ` lists the suspended processes of the structure `κ` in the order of their creation (`run`, the script, one `Timer`
process per segment), `cfgOfR κ reg` is `κ` in the terms of `Lemmas/KProcDefs.lean`.  Between two kernel steps the state *is*
that configuration (`KC`); in the middle of a burst of process `p` the configuration the machine has reached is that of a
structure in which `p` still has the phase it was resumed from, with the thread of `p` running (`MidK`).  `Swap` says how the
thread list changes when one process changes its phase.
-/

namespace SndK
open SenderOnK
open KProc (Thread Wait GInv TInv Regs modTh hrun hcall hafter hbegin)

/-- the local state written for a process whose generator has returned (nothing looks at it) -/
def stEnd : St := .runStart 0

def runTh : RPhase → Thread St
  | .init q => ⟨0, .runStart q.time, .init q, some []⟩
  | .blocked g t0 => ⟨0, .runGet t0, .getW 0 g, some []⟩
  | .handed _ t0 q => ⟨0, .runGet t0, .getH 0 q 1, some []⟩
  | .ending q => ⟨0, stEnd, .ending q .none, some []⟩
  | .done => ⟨0, stEnd, .gone 0 .none, none⟩
  | .running => ⟨0, stEnd, .running, some []⟩

def scrTh : SPhase → Thread St
  | .init q rest => ⟨2, .scr q.time none rest, .init q, some []⟩
  | .wait a rest q => ⟨2, .scr q.time (some a) rest, .sleep q, some []⟩
  | .ending q => ⟨2, stEnd, .ending q .none, some []⟩
  | .done => ⟨2, stEnd, .gone 2 .none, none⟩
  | .running => ⟨2, stEnd, .running, some []⟩

def tmTh (seq : Nat) (p : EvId) : TPh → Thread St
  | .init q => ⟨p, .tmStart seq q.time, .init q, some []⟩
  | .sleep _ q => ⟨p, .tmSleep seq q.time, .sleep q, some []⟩
  | .ending q => ⟨p, stEnd, .ending q .none, some []⟩
  | .gone => ⟨p, stEnd, .gone p .none, none⟩
  | .running => ⟨p, stEnd, .running, some []⟩

def tmThs (keys : List Nat) (tmp : Nat → EvId) (tph : Nat → TPh) : List (Thread St) :=
  keys.map fun seq => tmTh seq (tmp seq) (tph seq)

/-- the processes in the order of their creation; one that has returned and whose process event is processed stays, as `gone` -/
def threads (κ : Kern) : List (Thread St) := runTh κ.run :: scrTh κ.scr :: tmThs κ.keys κ.tmp κ.tph

def storesOf (κ : Kern) : ResId → Option KProc.HStore :=
  fun r => if r = 0 then some { getQ := κ.run.getQ, items := List.replicate κ.tokens 1 } else none

def cfgOfR (κ : Kern) (reg : Regs) : KProc.Cfg St :=
  { reg := reg, threads := threads κ, pend := κ.pend.map (·, 0), stores := storesOf κ }

variable {κ κ' : Kern} {s : KS} {c : KProc.Cfg St} {p : EvId}

theorem pid_runTh (r : RPhase) : (runTh r).pid = 0 := by cases r <;> rfl
theorem pid_scrTh (r : SPhase) : (scrTh r).pid = 2 := by cases r <;> rfl
theorem pid_tmTh (seq : Nat) (p : EvId) (ph : TPh) : (tmTh seq p ph).pid = p := by cases ph <;> rfl

def Swap (T T' : List (Thread St)) (t t' : Thread St) : Prop :=
  ∃ A B, T = A ++ t :: B ∧ T' = A ++ t' :: B

theorem Swap.run {r : RPhase} (hph : κ.run = r) (r' : RPhase) :
    Swap (threads κ) (threads { κ with run := r' }) (runTh r) (runTh r') :=
  hph ▸ ⟨[], _, rfl, rfl⟩

theorem Swap.scr {r : SPhase} (hph : κ.scr = r) (r' : SPhase) :
    Swap (threads κ) (threads { κ with scr := r' }) (scrTh r) (scrTh r') :=
  hph ▸ ⟨[_], _, rfl, rfl⟩

theorem tmThs_congr {keys : List Nat} {tmp tmp' : Nat → EvId} {tph tph' : Nat → TPh}
    (h : ∀ seq ∈ keys, tmp' seq = tmp seq ∧ tph' seq = tph seq) : tmThs keys tmp' tph' = tmThs keys tmp tph :=
  List.map_congr_left fun seq hs => by rw [(h seq hs).1, (h seq hs).2]

theorem Swap.tm {seq : Nat} {ph : TPh} (hseq : seq ∈ κ.keys) (hn : κ.keys.Nodup) (hph : κ.tph seq = ph) (ph' : TPh) :
    Swap (threads κ) (threads { κ with tph := upd κ.tph seq ph' }) (tmTh seq (κ.tmp seq) ph) (tmTh seq (κ.tmp seq) ph') := by
  subst hph
  obtain ⟨k1, k2, hkk⟩ := List.append_of_mem hseq
  rw [hkk] at hn
  have hc : ∀ k : List Nat, seq ∉ k → tmThs k κ.tmp (upd κ.tph seq ph') = tmThs k κ.tmp κ.tph := fun k hk' =>
    tmThs_congr fun x hx => ⟨rfl, upd_ne _ _ _ _ fun e => hk' (e ▸ hx)⟩
  refine ⟨runTh κ.run :: scrTh κ.scr :: tmThs k1 κ.tmp κ.tph, tmThs k2 κ.tmp κ.tph, ?_, ?_⟩ <;> unfold threads <;>
    simp only [hkk, tmThs, List.map_append, List.map_cons, List.cons_append]
  rw [show List.map _ k1 = _ from hc k1 fun h => (List.nodup_append.mp hn).2.2 _ h _ List.mem_cons_self rfl,
    show List.map _ k2 = _ from hc k2 (List.nodup_cons.mp (List.nodup_append.mp hn).2.1).1, upd_same]
  rfl

variable {T T' : List (Thread St)}

theorem Swap.to {t t' : Thread St} (h : Swap T T' t t') {st' : St} {w : Wait} (hc : t.cbs = some [])
    (ht : t' = ⟨t.pid, st', w, some []⟩) : Swap T T' t { t with st := st', wait := w } := by
  rw [ht, ← hc] at h
  exact h

theorem mem_threads_run {ph : RPhase} (hph : κ.run = ph) : runTh ph ∈ threads κ := hph ▸ List.mem_cons_self

theorem mem_threads_scr {ph : SPhase} (hph : κ.scr = ph) : scrTh ph ∈ threads κ :=
  hph ▸ List.mem_cons_of_mem _ List.mem_cons_self

theorem mem_threads_tm {seq : Nat} {ph : TPh} (hs : seq ∈ κ.keys) (hph : κ.tph seq = ph) :
    tmTh seq (κ.tmp seq) ph ∈ threads κ :=
  hph ▸ List.mem_cons_of_mem _
    (List.mem_cons_of_mem _ (List.mem_map_of_mem (f := fun seq => tmTh seq (κ.tmp seq) (κ.tph seq)) hs))

theorem Swap.mem {t t' : Thread St} (h : Swap T T' t t') : t ∈ T := by
  obtain ⟨A, B, e, -⟩ := h
  rw [e]
  exact List.mem_append_right _ List.mem_cons_self

theorem Swap.modTh {t : Thread St} {f : Thread St → Thread St} (h : Swap T T' t (f t)) (hn : (T.map (·.pid)).Nodup) :
    modTh T t.pid f = T' := by
  obtain ⟨A, B, rfl, rfl⟩ := h
  exact KProc.modTh_mid f hn

theorem modTh_run (hn : ((threads κ).map (·.pid)).Nodup) (f : Thread St → Thread St) (hf : f (runTh κ.run) = runTh κ'.run)
    (hs : κ'.scr = κ.scr) (hk : κ'.keys = κ.keys) (hp : κ'.tmp = κ.tmp) (hh : κ'.tph = κ.tph) :
    modTh (threads κ) 0 f = threads κ' :=
  pid_runTh κ.run ▸ Swap.modTh ⟨[], _, rfl, by unfold threads; rw [hf, hs, hk, hp, hh]; rfl⟩ hn

theorem entries_cfgOfR (reg : Regs) : (cfgOfR κ reg).entries.Perm κ.entries := by
  have hr : (runTh κ.run).wait.entries = κ.run.entries := by cases κ.run <;> rfl
  have hs : (scrTh κ.scr).wait.entries = κ.scr.entries := by cases κ.scr <;> rfl
  have ht : (tmThs κ.keys κ.tmp κ.tph).flatMap (·.wait.entries) = tmEntries κ.keys κ.tph := by
    unfold tmThs tmEntries
    rw [List.flatMap_map]
    exact List.flatMap_congr fun seq _ => by cases κ.tph seq <;> rfl
  simp only [KProc.Cfg.entries, cfgOfR, threads, List.flatMap_cons, hr, hs, ht, List.flatMap_nil, List.nil_append,
    List.map_map, Kern.entries]
  rw [show ((fun x : QEntry ℚ × ResId => x.1) ∘ fun x => (x, 0)) = id from rfl, List.map_id, List.append_assoc,
    List.append_assoc]
  exact (List.perm_append_comm.append_left _).append_left _

/-- the kernel state `s` has the structure `κ` (between two kernel steps), `act` is the active process -/
structure KC (act : Option EvId) (s : KS) (κ : Kern) : Prop where
  g : GInv s (cfgOfR κ (Regs.of s))
  act : s.active = act
  now : s.now = κ.now
  knd : κ.keys.Nodup
  tx : txsOf s.trace = κ.txs

structure KI (act : Option EvId) (s : KS) (a : A) : Prop where
  k : KC act s (kernOf a)
  c : CellsOK s a

theorem KC.ag {act : Option EvId} (h : KC act s κ) : s.agenda.Perm κ.entries := h.g.ag.trans (entries_cfgOfR _)

theorem KC.tok {act : Option EvId} (h : KC act s κ) : s.res 0 = storeRec κ.run.getQ (List.replicate κ.tokens 1) :=
  (h.g.stores 0 _ rfl).2

/-- the configuration `c` the machine has reached in the middle of a burst of process `p`, when the structure is `κ`, in which
`p` still has the phase it was resumed from -/
structure MidK (p : EvId) (c : KProc.Cfg St) (κ : Kern) : Prop where
  th : c.threads = modTh (threads κ) p fun t => { t with wait := .running }
  pend : c.pend = κ.pend.map (·, 0)
  stores : c.stores = storesOf κ
  loose : c.loose = []
  act : c.reg.active = some p
  now : c.reg.now = κ.now
  tx : txsOf c.reg.trace = κ.txs
  pids : ((threads κ).map (·.pid)).Nodup
  plt : p < c.reg.evSize ∧ ∀ t ∈ threads κ, t.pid < c.reg.evSize
  knd : κ.keys.Nodup

theorem KC.begin (hk : KC none s κ) {th : Thread St} (hth : th ∈ threads κ) (q : QEntry ℚ) (arg : Resume) :
    MidK th.pid (hbegin (cfgOfR κ (Regs.of s)) th.pid q arg) { κ with now := q.time } :=
  ⟨rfl, rfl, rfl, rfl, rfl, rfl, by show txsOf (s.trace.push _) = κ.txs; rw [txsOf_push, hk.tx]; exact List.append_nil _,
    hk.g.pids, ⟨hk.g.plt th hth, hk.g.plt⟩, hk.knd⟩

/-- cells are written, observations appended: the structure looks at the transmissions only -/
theorem MidK.log (h : MidK p c κ) (f : Nat → Val) (tr : Array (Obs ℚ)) {txs' : List (Nat × ℚ)} (htx : txsOf tr = txs') :
    MidK p (c.wr f tr) { κ with txs := txs' } :=
  ⟨h.th, h.pend, h.stores, h.loose, h.act, h.now, htx, h.pids, h.plt, h.knd⟩

theorem MidK.wr (h : MidK p c κ) (f : Nat → Val) (tr : Array (Obs ℚ)) (htx : txsOf tr = κ.txs) : MidK p (c.wr f tr) κ :=
  h.log f tr htx

theorem threads_spawn {seq : Nat} (hseq : seq ∉ κ.keys) (e : EvId) (q : QEntry ℚ) :
    threads { κ with keys := κ.keys ++ [seq], tmp := upd κ.tmp seq e, tph := upd κ.tph seq (.init q) } =
      threads κ ++ [⟨e, .tmStart seq q.time, .init q, some []⟩] := by
  have h1 : tmThs (κ.keys ++ [seq]) (upd κ.tmp seq e) (upd κ.tph seq (.init q)) =
      tmThs κ.keys κ.tmp κ.tph ++ [⟨e, .tmStart seq q.time, .init q, some []⟩] := by
    unfold tmThs
    rw [List.map_append, List.map_singleton, upd_same, upd_same]
    congr 1
    exact tmThs_congr fun x hx => ⟨upd_ne _ _ _ _ fun h => hseq (h ▸ hx), upd_ne _ _ _ _ fun h => hseq (h ▸ hx)⟩
  show runTh κ.run :: scrTh κ.scr :: tmThs (κ.keys ++ [seq]) _ _ = _
  rw [h1]
  rfl

/-- the configuration after `env.process(gen)` with the local state `st` -/
def spawnC (c : KProc.Cfg St) (st : St) : KProc.Cfg St :=
  { c with reg := { c.reg with evSize := c.reg.evSize + 2, eid := c.reg.eid + 1 }
           threads := c.threads ++ [⟨c.reg.evSize, st, .init ⟨c.reg.now, URGENT, c.reg.eid, c.reg.evSize + 1⟩, some []⟩] }

theorem hrun_spawn (c : KProc.Cfg St) (p : EvId) (st : St) (k : Reply → B ℚ) :
    hrun p (.call (.spawn st) k) c = hrun p (k (.ev c.reg.evSize)) (spawnC c st) := rfl

theorem MidK.spawn (h : MidK p c κ) {seq : Nat} (hseq : seq ∉ κ.keys) :
    MidK p (spawnC c (.tmStart seq c.reg.now))
      { κ with keys := κ.keys ++ [seq], tmp := upd κ.tmp seq c.reg.evSize,
               tph := upd κ.tph seq (.init ⟨c.reg.now, URGENT, c.reg.eid, c.reg.evSize + 1⟩) } := by
  refine ⟨?_, h.pend, h.stores, h.loose, h.act, h.now, h.tx, ?_, ⟨Nat.lt_add_right 2 h.plt.1, ?_⟩,
    List.Nodup.append h.knd (List.nodup_singleton _) (by simpa using hseq)⟩
  · show c.threads ++ _ = modTh (threads _) p _
    rw [threads_spawn hseq, KProc.modTh_append, ← h.th, KProc.modTh_cons, if_neg (Nat.ne_of_gt h.plt.1), KProc.modTh_nil]
  · rw [threads_spawn hseq, List.map_append, List.map_cons, List.map_nil]
    refine List.nodup_append.mpr ⟨h.pids, List.nodup_singleton _, fun a ha b hb => ?_⟩
    obtain ⟨t, ht, rfl⟩ := List.mem_map.mp ha
    rw [List.mem_singleton.mp hb]
    exact Nat.ne_of_lt (h.plt.2 t ht)
  · rw [threads_spawn hseq]
    intro t ht
    rcases List.mem_append.mp ht with ht | ht
    · exact Nat.lt_add_right 2 (h.plt.2 t ht)
    · rw [List.mem_singleton.mp ht]
      exact Nat.lt_add_of_pos_right (by decide)

theorem upd_storesOf (κ κ' : Kern) {gq : List EvId} {its : List Int} (hr : κ'.run.getQ = gq)
    (hi : List.replicate κ'.tokens 1 = its) : KProc.upd (storesOf κ) 0 (some { getQ := gq, items := its }) = storesOf κ' := by
  funext r
  unfold KProc.upd storesOf
  split
  · rw [hr, hi]
  · rfl

/-- the configuration after `self.cwnd_avaialbe.put(True)` -/
def sputC (c : KProc.Cfg St) (κ : Kern) : KProc.Cfg St :=
  { c with reg := { c.reg with evSize := c.reg.evSize + 1, eid := c.reg.eid + 1 }
           stores := storesOf { κ with tokens := κ.tokens + 1 }
           pend := c.pend ++ [(⟨c.reg.now, NORMAL, c.reg.eid, c.reg.evSize⟩, 0)] }

theorem MidK.hrun_sput (h : MidK p c κ) (k : Reply → B ℚ) :
    hrun p (.call (.sput tokStore 1) k) c = hrun p (k (.ev c.reg.evSize)) (sputC c κ) := by
  simp only [hrun, hcall, tokStore, h.stores, storesOf, if_true, Option.map_some]
  rw [upd_storesOf κ { κ with tokens := κ.tokens + 1 } rfl List.replicate_succ']
  rfl

theorem MidK.sput (h : MidK p c κ) :
    MidK p (sputC c κ) { κ with pend := κ.pend ++ [⟨c.reg.now, NORMAL, c.reg.eid, c.reg.evSize⟩], tokens := κ.tokens + 1 } :=
  ⟨h.th, by show c.pend ++ _ = _; rw [h.pend, List.map_append]; rfl, rfl, h.loose, h.act, h.now, h.tx, h.pids,
    ⟨Nat.lt_add_right 1 h.plt.1, fun t ht => Nat.lt_add_right 1 (h.plt.2 t ht)⟩, h.knd⟩

/-- `Process.interrupt` of the process that is executing, by itself: the kernel refuses, the caller goes on -/
theorem MidK.hrun_self (h : MidK p c κ) {t : Thread St} (ht : t ∈ threads κ) (hp : t.pid = p)
    (hc : t.cbs.isSome = true) (cause : Val) (k : Reply → B ℚ) :
    hrun p (.call (.interrupt p cause) k) c =
      hrun p (k (.err (runtimeErr "self")))
        (c.wr c.reg.cells (c.reg.trace.push (.callErr p (runtimeErr "self") c.reg.now))) := by
  have hf : c.threads.find? (·.pid == p) = some { t with wait := .running } :=
    h.th ▸ KProc.find?_modTh (f := fun t => { t with wait := .running }) (fun _ => rfl) ht hp h.pids
  simp only [hrun, hcall, KProc.hrefused, hf, Option.bind_some, if_pos (⟨hc, h.act⟩ : _ ∧ _)]
  rfl

end SndK
