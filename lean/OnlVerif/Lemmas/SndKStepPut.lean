import OnlVerif.Lemmas.SndKStepTm
/-!
# The TCP sender on the kernel model: a `StorePut` of the wake-up store is processed (`handoff`, or nothing)
-/


namespace SndK
open SenderOnK TcpSender

theorem pymax_of_le {x y : ℚ} (h : x ≤ y) : Num.pymax x y = y := by
  unfold Num.pymax
  split
  · rfl
  · rename_i hn; exact le_antisymm h (not_lt.mp hn)

theorem le_of_pymax {x y z : ℚ} (h : Num.pymax x y = z) : x ≤ z := by
  unfold Num.pymax at h
  split at h
  · rename_i hl; rw [← h]; exact le_of_lt hl
  · rw [h]

/-- a `StorePut` of the wake-up store is processed: if `run` waits in `get()` and a token is there, the token is handed over
(LTS action `handoff`); otherwise nothing happens -/
theorem kstep_pend {cfg : Cfg} (fuel : Nat) {s : KS} {a : A} {q : QEntry ℚ} {rest : List (QEntry ℚ)}
    (hk : KI none s a) (hiT : AInv cfg (aTick a q.time)) (hp : popMin s.agenda = some (q, rest)) (hu : q ∈ a.pend) :
    StepGoal cfg fuel s (aTick a q.time).S a.txs := by
  have hpendT : ∀ u ∈ a.pend.erase q, u.time = (aTick a q.time).S.now ∧ u.prio = NORMAL :=
    fun u hu' => hiT.pend u (List.mem_of_mem_erase hu')
  -- the invariants when nothing but the list of pending puts changes
  have hquiet : a.run.getQ = [] ∨ a.S.tokens = 0 → RunA { aTick a q.time with pend := a.pend.erase q } a.run →
      StepGoal cfg fuel s (aTick a q.time).S a.txs := by
    intro hq hr
    exact .quiet (a' := { aTick a q.time with pend := a.pend.erase q }) (hk.pend_noop fuel hu hq hp rfl hk.cells)
      ⟨hiT.inv, hiT.kind, hiT.mss, hiT.size, hiT.mpos, hiT.spos, hiT.dvd, hiT.tks, hiT.nmul, hiT.bufle, hiT.tkeys, hiT.cur, hr,
        hiT.scr, hpendT, fun seq hs => (hiT.tm seq hs).congr rfl rfl rfl rfl, hiT.putAt⟩ rfl rfl
  cases hrun : a.run with
  | blocked g t0 =>
    obtain ⟨b1, b2, b3, b4⟩ := hiT.run_at hrun
    cases htk : a.S.tokens with
    | zero =>
      refine hquiet (Or.inr htk) ?_
      rw [hrun]
      exact ⟨b1, b2, by show a.S.tokens ≤ _; omega, fun hpos => by
        have : (0 : Nat) < a.S.tokens := hpos
        omega⟩
    | succ n =>
      have hput : a.putAt = q.time := b4 (by show 0 < a.S.tokens; omega)
      refine .one (x := .handoff) (outs := [])
        (a' := { aTick a q.time with pend := a.pend.erase q, run := .handed g t0 ⟨q.time, NORMAL, s.eid, g⟩,
                                     S := { (aTick a q.time).S with tokens := n, proc := .runnable } })
        (hk.pend_hand fuel hu hrun htk hp rfl hk.cells) ?_ trivial ?_ (List.append_nil _).symm
      · refine ⟨hiT.inv.transfer rfl rfl rfl rfl rfl hiT.inv.buf, hiT.kind, hiT.mss, hiT.size, hiT.mpos, hiT.spos, hiT.dvd, hiT.tks,
          hiT.nmul, hiT.bufle, hiT.tkeys, hiT.cur, ?_, hiT.scr, hpendT, fun seq hs => (hiT.tm seq hs).congr rfl rfl rfl rfl,
          hiT.putAt⟩
        refine ⟨rfl, rfl, rfl, ?_⟩
        show Num.pymax t0 a.putAt = q.time
        rw [hput]
        exact pymax_of_le b2
      · show Sender.handoffStep _ = _
        unfold Sender.handoffStep
        have c1 : (aTick a q.time).S.proc = .blocked := b1
        have c2 : (aTick a q.time).S.tokens > 0 := by show a.S.tokens > 0; omega
        simp only [c1, c2, and_self, if_true]
        have : (aTick a q.time).S.tokens - 1 = n := by show a.S.tokens - 1 = n; omega
        rw [this]
  | _ =>
    have hr : RunA (aTick a q.time) a.run := hiT.run
    rw [hrun] at hr
    exact hquiet (Or.inl (by rw [hrun]; rfl)) (by rw [hrun]; exact hr)

end SndK
