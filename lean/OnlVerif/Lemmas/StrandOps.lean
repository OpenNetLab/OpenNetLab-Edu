import Mathlib.Data.List.Perm.Basic
import OnlVerif.Lemmas.StrandScan
/-!
# The resource operations re-establish the loop invariant

`_trigger_put`, `_trigger_get`, `Put.__init__`, `Get.__init__`, `cancel` are the atomic units: each of them ends with
a complete scan of the queue it disturbed.
-/

variable {σ : Type}

theorem J.tail {s : KState ℚ σ} {rem : List Cb} {cb : Cb} (h : J s (cb :: rem)) (hc : cb.isTrig = false) : J s rem :=
  ⟨h.pkg, fun c hm => h.chk c (List.mem_cons_of_mem _ hm), fun r =>
    ⟨(h.main r).1.tail (fun heq => by rw [← heq] at hc; cases hc), (h.main r).2.tail (fun heq => by rw [← heq] at hc; cases hc)⟩⟩

theorem J.scanPuts {s : KState ℚ σ} {rem : List Cb} {r : ResId} (hp : Pkg s none) (hc : ChkRem s rem)
    (hg : ∀ r', MainG s rem r') (hpo : ∀ r', r' ≠ r → MainP s rem r') :
    J (triggerPut s r) rem ∧ Fr s (triggerPut s r) := by
  obtain ⟨a, b, c, d, e⟩ := triggerPut_post hp r
  refine ⟨⟨a, hc.fr b.fr, fun r' => ⟨?_, ?_⟩⟩, b.fr⟩
  · by_cases hr : r' = r
    · subst hr; exact Or.inl d
    · exact (hpo r' hr).mono hp b.fr (SameContents.of_eq (b.other r' hr)) (by rw [b.other r' hr])
  · by_cases hr : r' = r
    · subst hr
      rcases e with e | e
      · rw [e]; exact hg r'
      · exact Or.inr (e rem)
    · exact (hg r').mono hp b.fr (SameContents.of_eq (b.other r' hr)) (by rw [b.other r' hr])

theorem J.scanGets {s : KState ℚ σ} {rem : List Cb} {r : ResId} (hp : Pkg s none) (hc : ChkRem s rem)
    (hpa : ∀ r', MainP s rem r') (hgo : ∀ r', r' ≠ r → MainG s rem r') :
    J (triggerGet s r) rem ∧ Fr s (triggerGet s r) := by
  obtain ⟨a, b, c, d, e⟩ := triggerGet_post hp r
  refine ⟨⟨a, hc.fr b.fr, fun r' => ⟨?_, ?_⟩⟩, b.fr⟩
  · by_cases hr : r' = r
    · subst hr
      rcases e with e | e
      · rw [e]; exact hpa r'
      · exact Or.inr (e rem)
    · exact (hpa r').mono hp b.fr (SameContents.of_eq (b.other r' hr)) (by rw [b.other r' hr])
  · by_cases hr : r' = r
    · subst hr; exact Or.inl d
    · exact (hgo r' hr).mono hp b.fr (SameContents.of_eq (b.other r' hr)) (by rw [b.other r' hr])

theorem J.cbTrigPut {s : KState ℚ σ} {rem : List Cb} {r : ResId} (h : J s (.trigPut r :: rem)) :
    J (triggerPut s r) rem ∧ Fr s (triggerPut s r) :=
  J.scanPuts h.pkg (fun c hm => h.chk c (List.mem_cons_of_mem _ hm)) (fun r' => (h.main r').2.tail Cb.noConfusion)
    (fun r' hr => (h.main r').1.tail (fun heq => hr (Cb.trigPut.inj heq)))

theorem J.cbTrigGet {s : KState ℚ σ} {rem : List Cb} {r : ResId} (h : J s (.trigGet r :: rem)) :
    J (triggerGet s r) rem ∧ Fr s (triggerGet s r) :=
  J.scanGets h.pkg (fun c hm => h.chk c (List.mem_cons_of_mem _ hm)) (fun r' => (h.main r').1.tail Cb.noConfusion)
    (fun r' hr => (h.main r').2.tail (fun heq => hr (Cb.trigGet.inj heq)))

theorem J.rescanPuts {s : KState ℚ σ} {rem : List Cb} (h : J s rem) (r : ResId) (q : List EvId)
    (hp : Pkg (s.setPutQ r q) none) : J (triggerPut (s.setPutQ r q) r) rem ∧ Fr s (triggerPut (s.setPutQ r q) r) := by
  have fr : Fr s (s.setPutQ r q) := Fr.setRes s r _ rfl rfl
  have hsame : ∀ r', SameContents ((s.setPutQ r q).res r') (s.res r') ∧ ((s.setPutQ r q).res r').getQ = (s.res r').getQ ∧
      (r' ≠ r → (s.setPutQ r q).res r' = s.res r') := by
    intro r'
    unfold KState.setPutQ
    rw [KState.res_setRes]
    split
    · rename_i hc; rw [hc.1]; exact ⟨⟨rfl, rfl, rfl, rfl, rfl⟩, rfl, fun h => absurd rfl h⟩
    · exact ⟨SameContents.rfl' _, rfl, fun _ => rfl⟩
  obtain ⟨j, f⟩ := J.scanPuts hp (h.chk.fr fr) (fun r' => (h.main r').2.mono h.pkg fr (hsame r').1 (hsame r').2.1)
    (fun r' hr => (h.main r').1.mono h.pkg fr (SameContents.of_eq ((hsame r').2.2 hr)) (by rw [(hsame r').2.2 hr]))
  exact ⟨j, fr.trans f⟩

theorem J.rescanGets {s : KState ℚ σ} {rem : List Cb} (h : J s rem) (r : ResId) (q : List EvId)
    (hp : Pkg (s.setGetQ r q) none) : J (triggerGet (s.setGetQ r q) r) rem ∧ Fr s (triggerGet (s.setGetQ r q) r) := by
  have fr : Fr s (s.setGetQ r q) := Fr.setRes s r _ rfl rfl
  have hsame : ∀ r', SameContents ((s.setGetQ r q).res r') (s.res r') ∧ ((s.setGetQ r q).res r').putQ = (s.res r').putQ ∧
      (r' ≠ r → (s.setGetQ r q).res r' = s.res r') := by
    intro r'
    unfold KState.setGetQ
    rw [KState.res_setRes]
    split
    · rename_i hc; rw [hc.1]; exact ⟨⟨rfl, rfl, rfl, rfl, rfl⟩, rfl, fun h => absurd rfl h⟩
    · exact ⟨SameContents.rfl' _, rfl, fun _ => rfl⟩
  obtain ⟨j, f⟩ := J.scanGets hp (h.chk.fr fr) (fun r' => (h.main r').1.mono h.pkg fr (hsame r').1 (hsame r').2.1)
    (fun r' hr => (h.main r').2.mono h.pkg fr (SameContents.of_eq ((hsame r').2.2 hr)) (by rw [(hsame r').2.2 hr]))
  exact ⟨j, fr.trans f⟩

theorem noCheck_of_all (l0 : List Cb) (h : l0.all (fun cb => match cb with | .check _ => false | _ => true) = true) :
    ∀ l c, some l0 = some l → Cb.check c ∉ l := by
  intro l c hl hm
  cases hl
  exact Bool.noConfusion (List.all_eq_true.mp h _ hm)

theorem J.newPut {s : KState ℚ σ} {rem : List Cb} (h : J s rem) (r : ResId) (rq : ReqData ℚ) :
    J (mkPut s r rq).1 rem ∧ Fr s (mkPut s r rq).1 := by
  have hp1 := Pushed.newLabelled s { kind := .put r, cbs := some [.trigGet r], out := none, req := some rq }
  unfold mkPut
  dsimp only
  generalize (s.newLabelled { kind := .put r, cbs := some [.trigGet r], out := none, req := some rq }).1 = s1 at hp1 ⊢
  have pkg1 : Pkg s1 none := hp1.pkg h.pkg (noCheck_of_all [_] rfl)
  have j1 : J s1 rem := h.nr pkg1 hp1.nr
  have hfresh : s.events.size ∉ (s1.res r).putQ := by
    intro hm
    obtain ⟨l, hl, _⟩ := (h.pkg.putQ r _ (hp1.res r ▸ hm)).2.2
    exact Nat.lt_irrefl _ (KState.lt_of_cbs hl)
  have base : (s.events.size :: (s1.res r).putQ).Nodup := List.nodup_cons.mpr ⟨hfresh, pkg1.nodupP r⟩
  obtain ⟨q', hq', hnew, hnd⟩ : ∃ q', enqPut s1 r s.events.size = s1.setPutQ r q' ∧
      (∀ x ∈ q', x = s.events.size ∨ x ∈ (s1.res r).putQ) ∧ q'.Nodup := by
    refine ⟨_, rfl, fun x hx => ?_, ?_⟩
    · split at hx
      · exact List.mem_cons.mp ((insertSorted_perm s1 _ _).subset hx)
      · exact (List.mem_append.mp hx).symm.imp_left List.mem_singleton.mp
    · split
      · exact (insertSorted_perm s1 _ _).nodup_iff.mpr base
      · exact (List.perm_append_singleton _ _).nodup_iff.mpr base
  rw [hq']
  have pkg2 : Pkg (s1.setPutQ r q') none := by
    unfold KState.setPutQ
    refine pkg1.setRes r _ rfl rfl ?_ hnd (fun x hx => Or.inl hx) (pkg1.nodupG r) (pkg1.usersIn r) (pkg1.usersLe r)
    intro x hx
    rcases hnew x hx with hx | hx
    · right
      rw [hx, hp1.ev_new]
      exact ⟨rfl, rfl, [.trigGet r], rfl, List.mem_singleton.mpr rfl⟩
    · exact Or.inl hx
  obtain ⟨j3, f3⟩ := j1.rescanPuts r q' pkg2
  exact ⟨j3, hp1.nr.fr.trans f3⟩

theorem J.newGet {s : KState ℚ σ} {rem : List Cb} (h : J s rem) (r : ResId) (rq : ReqData ℚ) :
    J (mkGet s r rq).1 rem ∧ Fr s (mkGet s r rq).1 := by
  have hp1 := Pushed.newLabelled s { kind := .get r, cbs := some [.trigPut r], out := none, req := some rq }
  unfold mkGet
  dsimp only
  generalize (s.newLabelled { kind := .get r, cbs := some [.trigPut r], out := none, req := some rq }).1 = s1 at hp1 ⊢
  have pkg1 : Pkg s1 none := hp1.pkg h.pkg (noCheck_of_all [_] rfl)
  have j1 : J s1 rem := h.nr pkg1 hp1.nr
  have hfresh : s.events.size ∉ (s1.res r).getQ := by
    intro hm
    obtain ⟨l, hl, _⟩ := (h.pkg.getQ r _ (hp1.res r ▸ hm)).2.2
    exact Nat.lt_irrefl _ (KState.lt_of_cbs hl)
  have hnd : ((s1.res r).getQ ++ [s.events.size]).Nodup :=
    (List.perm_append_singleton _ _).nodup_iff.mpr (List.nodup_cons.mpr ⟨hfresh, pkg1.nodupG r⟩)
  have pkg2 : Pkg (enqGet s1 r s.events.size) none := by
    unfold enqGet KState.setGetQ
    refine pkg1.setRes r _ rfl rfl (fun x hx => Or.inl hx) (pkg1.nodupP r) ?_ hnd (pkg1.usersIn r) (pkg1.usersLe r)
    intro x hx
    rcases List.mem_append.mp hx with hx | hx
    · exact Or.inl hx
    · right
      rw [List.mem_singleton.mp hx, hp1.ev_new]
      exact ⟨rfl, rfl, [.trigPut r], rfl, List.mem_singleton.mpr rfl⟩
  obtain ⟨j3, f3⟩ := j1.rescanGets r _ pkg2
  exact ⟨j3, hp1.nr.fr.trans f3⟩

theorem J.cancel {s : KState ℚ σ} {rem : List Cb} (h : J s rem) (e : EvId) :
    J (cancelReq s e).1 rem ∧ Fr s (cancelReq s e).1 := by
  unfold cancelReq
  by_cases ht : s.triggered e = true
  · rw [if_pos ht]; exact ⟨h, Fr.refl s⟩
  · rw [if_neg ht]
    split
    · rename_i r _
      split
      · have hp := (dropPutQ_pkg h.pkg r e).1
        dsimp only [dropPutQ] at hp ⊢
        exact h.rescanPuts r _ hp
      · exact ⟨h, Fr.refl s⟩
    · rename_i r _
      split
      · have hp := (dropGetQ_pkg h.pkg r e).1
        dsimp only [dropGetQ] at hp ⊢
        exact h.rescanGets r _ hp
      · exact ⟨h, Fr.refl s⟩
    · exact ⟨h, Fr.refl s⟩
