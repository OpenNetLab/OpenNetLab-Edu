import OnlVerif.Lemmas.SplitStripStep
/-!
# `run(until=event)` is transparent (C03, stage 2): the composition

`runUntilEvent e` plants one `.stop` on `e` and then steps.  By the simulation lemma the steps are, up to that stop,
the steps of the uninterrupted run; the step that processes `e` ends with `StopSimulation`, and since `e` is processed
by then, the state in which `run` returns carries no stop any more: it *is* the state of the uninterrupted run.
-/

variable {τ σ : Type} [Num τ]
variable (body : σ → Resume → Burst τ σ) (fuel : Nat)

abbrev AllStopFree (s : KState τ σ) : Prop := StopFree (fun _ => true) s

omit [Num τ] in
theorem allStopFree_of_empty (s : KState τ σ) (h : s.events.size = 0) : AllStopFree s :=
  (StopFree.iff _ _).mpr fun e _ => s.hasStop_default e (h ▸ Nat.zero_le _)

theorem allStopFree_doCall (s : KState τ σ) (self : EvId) (c : Call τ σ) (h : AllStopFree s) :
    AllStopFree (doCall s self c).1 := by
  have := doCall_stripBy (fun _ => true) s self c
  rw [show s.stripBy (fun _ => true) = s from h] at this
  exact (congrArg Prod.fst this).symm

omit [Num τ] in
theorem addCb_stop_strip (s : KState τ σ) (e : EvId) : (s.addCb e .stop).strip = s.strip :=
  KState.addCb_stop_stripBy_of_P (fun _ => true) s e rfl

omit [Num τ] in
theorem addCb_stop_stopFree_except (s : KState τ σ) (e : EvId) (hf : AllStopFree s) :
    StopFree (fun i => i != e) (s.addCb e .stop) := by
  rw [StopFree.iff]
  intro i hi
  have hne : i ≠ e := by simpa using hi
  have : (s.addCb e .stop).ev i = s.ev i := by
    unfold KState.addCb
    rw [KState.ev_setEv, if_neg (fun h => hne h.1)]
  unfold KState.hasStop
  rw [this]
  exact (StopFree.iff _ s).mp hf i rfl

omit [Num τ] in
theorem addCb_stop_hasStop (s : KState τ σ) (e : EvId) (hp : s.processed e = false) : (s.addCb e .stop).hasStop e = true := by
  unfold KState.processed at hp
  have hlt : e < s.events.size := by
    apply Classical.byContradiction
    intro hge
    have : s.ev e = default := by
      unfold KState.ev
      rw [Array.getD_eq_getD_getElem?, Array.getElem?_eq_none (Nat.le_of_not_lt hge)]; rfl
    rw [this] at hp
    cases hp
  unfold KState.hasStop KState.addCb
  rw [KState.ev_setEv, if_pos ⟨rfl, hlt⟩]
  cases hc : (s.ev e).cbs with
  | none => rw [hc] at hp; cases hp
  | some l => simp

/-- **The relational form of the simulation lemma**: if `s2` is `s1` plus stop callbacks on `P`-events
(`s1` itself free of them) and `s1` does a normal step to `s1'`, then `s2` does the same step — to a state that is again
`s1'` plus stop callbacks — ending normally or with `StopSimulation`; the latter exactly when the event it processed
carried a stop in `s2`. -/
theorem step_sim (P : EvId → Bool) (s1 s2 s1' : KState τ σ) (hf : StopFree P s1) (heq : StopEq P s1 s2)
    (h : step body fuel s1 = .ok s1') :
    ∃ s2', (step body fuel s2 = .ok s2' ∨ ∃ o, step body fuel s2 = .stopped o s2') ∧
      StopEq P s1' s2' ∧ StopFree P s1' := by
  have h1 : s1 = s2.stripBy P := heq.eq_stripBy hf
  have hf' : StopFree P s1' := step_stopFree P body fuel s1 s1' hf (by rw [h]; rfl)
  have heq' : ∀ s2', (step body fuel s2).st? = some s2' → StopEq P s1' s2' := by
    intro s2' hs
    have := step_stripBy_st P body fuel s2 s2' hs
    rw [← h1, h] at this
    show s1'.stripBy P = s2'.stripBy P
    rw [Option.some.inj this, KState.stripBy_idem]
  cases hr : step body fuel s2 with
  | ok s2' => exact ⟨s2', Or.inl rfl, heq' s2' (by rw [hr]; rfl), hf'⟩
  | stopped o s2' => exact ⟨s2', Or.inr ⟨o, rfl⟩, heq' s2' (by rw [hr]; rfl), hf'⟩
  | _ =>
    -- a step that crashes or finds the agenda empty does so without the stops as well
    have h2 := step_stripBy P body fuel s2
    rw [← h1, h, hr] at h2
    cases hq : popMin s2.agenda with
    | none => rw [hq] at h2; cases h2
    | some qr =>
      rw [hq] at h2
      simp only at h2
      split at h2 <;> cases h2

theorem last_step_until (s2 s' : KState τ σ) (e : EvId) (o : Outcome)
    (hf : StopFree (fun i => i != e) s2) (h : step body fuel s2 = .stopped o s')
    (hout : ∀ x, (s'.ev e).out ≠ some (.fail x)) :
    step body fuel s2.strip = .ok s' ∧ AllStopFree s' := by
  obtain ⟨q, rest, hq, hs⟩ := (step_stopped_iff body fuel s2).mp ⟨o, s', h⟩
  have hqe : q.ev = e := by
    apply Classical.byContradiction
    intro hne
    have := (StopFree.iff _ s2).mp hf q.ev (by simpa using hne)
    rw [this] at hs
    cases hs
  subst hqe
  have hfree : AllStopFree s' := step_stopFree_after body fuel s2 s' q rest hq hf (by rw [h]; rfl)
  refine ⟨?_, hfree⟩
  have h2 := step_stripBy (fun _ => true) body fuel s2
  rw [hq, h] at h2
  simp only [if_true] at h2
  rw [show s2.stripBy (fun _ => true) = s2.strip from rfl] at h2
  rw [h2]
  show (closeEvent { s := s' } q.ev).mapState _ = _
  have hc : closeEvent { s := s' } q.ev = .ok s' := by
    unfold closeEvent
    cases ho : (s'.ev q.ev).out with
    | none => rfl
    | some oc =>
      cases oc with
      | ok v => rfl
      | fail x => exact absurd ho (hout x)
  rw [hc]
  show StepResult.ok (s'.stripBy (fun _ => true)) = _
  rw [show s'.stripBy (fun _ => true) = s' from hfree]

theorem runUntilEvent_lockstep (k : Nat) (e : EvId) (s s2 : KState τ σ) (hf : AllStopFree s)
    (h : stepN body fuel k (s.addCb e .stop) = .ok s2) :
    stepN body fuel k s = .ok s2.strip ∧ StopFree (fun i => i != e) s2 := by
  constructor
  · have := stepN_stripBy_ok (fun _ => true) body fuel k _ _ h
    rw [show (s.addCb e .stop).stripBy (fun _ => true) = (s.addCb e .stop).strip from rfl, addCb_stop_strip,
      show s.strip = s from hf] at this
    exact this
  · exact stepN_stopFree _ body fuel k _ _ (addCb_stop_stopFree_except s e hf) h

/-- **`run(until=event)` is transparent.**  From a state without stale stops and for an event that is not processed
yet: if `run(until=e)` returns, it returns in exactly the state that `k + 1` uninterrupted `step()` calls reach
(`k + 1 ≤` the step budget) — same events, agenda, clock, processes, resources, **same trace** — and that state
carries no stop callback, so whatever is run next continues the uninterrupted run. -/
theorem runUntilEvent_transparent (n : Nat) (e : EvId) (s s' : KState τ σ) (v : Val)
    (hf : AllStopFree s) (hp : s.processed e = false)
    (h : runUntilEvent body fuel n e s = .returned v s') :
    ∃ k, k < n ∧ stepN body fuel (k + 1) s = .ok s' ∧ AllStopFree s' := by
  unfold runUntilEvent at h
  rw [if_neg (by simp [hp])] at h
  obtain ⟨k, s2, hk, h1, h2, _⟩ := runLoop_ended body fuel (some e) n (s.addCb e .stop)
    (by intro s'' hc; rw [hc] at h; cases h)
  rw [h2] at h
  obtain ⟨h3, hf2⟩ := runUntilEvent_lockstep body fuel k e s s2 hf h1
  simp only [runLoop] at h
  cases hs : step body fuel s2 with
  | ok s3 => rw [hs] at h; cases h
  | crash x s3 => rw [hs] at h; cases h
  | empty => rw [hs] at h; simp only [Option.isSome_some, if_true] at h; cases h
  | stopped o s3 =>
    rw [hs] at h
    simp only at h
    unfold onStop at h
    simp only [Option.bind_some] at h
    have hout : ∀ x, (s3.ev e).out ≠ some (.fail x) := by
      intro x hx
      rw [hx] at h
      cases h
    have hs3 : s3 = s' := by
      split at h
      · cases h
      · split at h <;> cases h <;> rfl
    subst hs3
    obtain ⟨h4, h5⟩ := last_step_until body fuel s2 s3 e o hf2 hs hout
    exact ⟨k, hk, by rw [stepN_succ_last body fuel k s s2.strip h3]; exact h4, h5⟩

/-- **`run(until=e)` that ends with an exception** (a crashing callback, an empty agenda, a failed until-event) has also
followed the uninterrupted run: `k` normal steps in lockstep, then either a step that ends in the same state up to stops
(however it ends), or an empty agenda in the same state. -/
theorem runUntilEvent_raised (n : Nat) (e : EvId) (s s' : KState τ σ) (x : Exc)
    (hf : AllStopFree s) (hp : s.processed e = false)
    (h : runUntilEvent body fuel n e s = .raised x s') :
    ∃ k s1, k < n ∧ stepN body fuel k s = .ok s1 ∧
      ((step body fuel s1).st? = some s'.strip ∨ (step body fuel s1 = .empty ∧ s1 = s'.strip)) := by
  unfold runUntilEvent at h
  rw [if_neg (by simp [hp])] at h
  obtain ⟨k, s2, hk, h1, h2, _⟩ := runLoop_ended body fuel (some e) n (s.addCb e .stop)
    (by intro s'' hc; rw [hc] at h; cases h)
  rw [h2] at h
  have h3 := (runUntilEvent_lockstep body fuel k e s s2 hf h1).1
  refine ⟨k, s2.strip, hk, h3, ?_⟩
  simp only [runLoop] at h
  cases hs : step body fuel s2 with
  | ok s3 => rw [hs] at h; cases h
  | crash y s3 =>
    rw [hs] at h
    cases h
    exact Or.inl (step_stripBy_st _ body fuel s2 s' (by rw [hs]; rfl))
  | empty =>
    rw [hs] at h
    simp only [Option.isSome_some, if_true] at h
    cases h
    right
    refine ⟨?_, rfl⟩
    have := step_stripBy (fun _ => true) body fuel s'
    unfold step at hs
    cases hq : popMin s'.agenda with
    | none => rw [hq] at this; exact this
    | some qr =>
      rw [hq] at hs
      simp only at hs
      split at hs
      · cases hs
      · have := closeEvent_st (List.foldl (runCb body fuel qr.1.ev) { s := openEvent s' qr.1 qr.2 } ‹List Cb›) qr.1.ev
        rw [hs] at this
        cases this
  | stopped o s3 =>
    rw [hs] at h
    simp only at h
    have hs3 : s3 = s' := by
      unfold onStop at h
      split at h
      · cases h; rfl
      · split at h <;> cases h
    subst hs3
    exact Or.inl (step_stripBy_st _ body fuel s2 s3 (by rw [hs]; rfl))
