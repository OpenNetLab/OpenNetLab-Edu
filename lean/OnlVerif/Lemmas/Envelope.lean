import Mathlib.Tactic.Linarith
import Mathlib.Tactic.Ring
import Mathlib.Tactic.FieldSimp
import Mathlib.Algebra.Order.Field.Rat
/-!
# Token-bucket envelopes over a debit log (pure list / ℚ lemmas)

A debit log is a list of `(instant, size)` records, **newest first**.  `Conforms B r l` is the (r, B) envelope
over *every* contiguous stretch of the log: for a stretch that starts with record `ei` (older) and ends with `ej`
(newer), `size_i + … + size_j ≤ max(B, size_i) + r·(t_j − t_i)/8`.  `Cred` is the telescoping invariant that
carries it: the current token level counts as one more, not yet debited, packet.
-/

namespace Envelope

def bytes (l : List (ℚ × ℕ)) : ℚ := (l.map (fun e => (e.2 : ℚ))).sum

@[simp] theorem bytes_nil : bytes [] = 0 := rfl
@[simp] theorem bytes_cons (e : ℚ × ℕ) (l : List (ℚ × ℕ)) : bytes (e :: l) = e.2 + bytes l := by
  simp [bytes]

/-- with `lvl` tokens in the bucket at `upd`, every stretch from a record `ei` up to the newest record, plus the
tokens still there, fits the envelope that starts at `ei` -/
def Cred (B r lvl upd : ℚ) (l : List (ℚ × ℕ)) : Prop :=
  ∀ mid ei older, l = mid ++ ei :: older → bytes mid + ei.2 + lvl ≤ max B ei.2 + r * (upd - ei.1) / 8

/-- every stretch `ei … ej` of the log fits the (r, B) envelope -/
def Conforms (B r : ℚ) (l : List (ℚ × ℕ)) : Prop :=
  ∀ newer ej mid ei older, l = newer ++ ej :: (mid ++ ei :: older) →
    ej.2 + bytes mid + ei.2 ≤ max B ei.2 + r * (ej.1 - ei.1) / 8

theorem cred_nil (B r lvl upd : ℚ) : Cred B r lvl upd [] := by
  intro mid ei older h
  cases mid <;> cases h

theorem conforms_nil (B r : ℚ) : Conforms B r [] := by
  intro newer ej mid ei older h
  cases newer <;> cases h

/-- the level may change by at most the tokens credited for the elapsed time (refill with or without a cap,
emptying a bucket, letting time pass) -/
theorem cred_advance {B r lvl upd lvl' upd' : ℚ} {l : List (ℚ × ℕ)} (h : Cred B r lvl upd l)
    (hl : lvl' ≤ lvl + r * (upd' - upd) / 8) : Cred B r lvl' upd' l := by
  intro mid ei older hd
  calc bytes mid + ei.2 + lvl' ≤ bytes mid + ei.2 + lvl + r * (upd' - upd) / 8 := by
        rw [add_assoc (bytes mid + ei.2)]; exact add_le_add_right hl _
    _ ≤ max B ei.2 + r * (upd - ei.1) / 8 + r * (upd' - upd) / 8 := add_le_add_left (h mid ei older hd) _
    _ = max B ei.2 + r * (upd' - ei.1) / 8 := by ring

/-- a packet of `s` bytes is debited at `upd` from a level that does not exceed `max(B, s)` -/
theorem cred_push {B r lvl upd : ℚ} {l : List (ℚ × ℕ)} (s : ℕ) (h : Cred B r lvl upd l) (hl : lvl ≤ max B s) :
    Cred B r (lvl - s) upd ((upd, s) :: l) := by
  intro mid ei older hd
  rcases List.cons_eq_append_iff.mp hd with ⟨rfl, h2⟩ | ⟨mid', rfl, h2⟩
  · cases h2
    rw [bytes_nil, sub_self, mul_zero, zero_div, add_zero, zero_add, add_sub_cancel]
    exact hl
  · rw [bytes_cons, show (s : ℚ) + bytes mid' + ei.2 + (lvl - s) = bytes mid' + ei.2 + lvl by ring]
    exact h mid' ei older h2

/-- … and if the level covered it, every stretch ending with the new record conforms -/
theorem conforms_push {B r lvl upd : ℚ} {l : List (ℚ × ℕ)} (s : ℕ) (hc : Conforms B r l) (h : Cred B r lvl upd l)
    (hs : (s : ℚ) ≤ lvl) : Conforms B r ((upd, s) :: l) := by
  intro newer ej mid ei older hd
  rcases List.cons_eq_append_iff.mp hd with ⟨rfl, h2⟩ | ⟨newer', rfl, h2⟩
  · cases h2
    refine le_trans ?_ (h mid ei older rfl)
    rw [add_assoc, add_comm]
    exact add_le_add_right hs _
  · exact hc newer' ej mid ei older h2

/-- a bucket holding `lvl ≥ 0` tokens at `upd` whose debit log `l` has conformed so far -/
structure Bucket (B r lvl upd : ℚ) (l : List (ℚ × ℕ)) : Prop where
  lvl0 : 0 ≤ lvl
  cred : Cred B r lvl upd l
  conf : Conforms B r l

/-- the tokens credited for the time since the last update -/
theorem credit_nonneg {r upd now : ℚ} (hr : 0 ≤ r) (hu : upd ≤ now) : 0 ≤ r * (now - upd) / 8 :=
  div_nonneg (mul_nonneg hr (sub_nonneg.mpr hu)) (by norm_num)

/-- waiting `(s − lvl)·8/r` collects exactly the missing tokens, and no shorter wait does -/
theorem wait_exact {r lvl s : ℚ} (hr : 0 < r) :
    lvl + r * ((s - lvl) * 8 / r) / 8 = s ∧ ∀ w', w' < (s - lvl) * 8 / r → lvl + r * w' / 8 < s := by
  have e : r * ((s - lvl) * 8 / r) = (s - lvl) * 8 := mul_div_cancel₀ _ hr.ne'
  refine ⟨by rw [e]; ring, fun w' hw' => ?_⟩
  have := mul_lt_mul_of_pos_left hw' hr
  rw [e] at this
  linarith

namespace Bucket
variable {B r lvl upd now : ℚ} {l : List (ℚ × ℕ)}

theorem nil (h : 0 ≤ lvl) : Bucket B r lvl upd [] := ⟨h, cred_nil _ _ _ _, conforms_nil _ _⟩

/-- refill: `min(B, lvl + r·(now − upd)/8)` -/
theorem refill (h : Bucket B r lvl upd l) (hB : 0 ≤ B) (hr : 0 ≤ r) (hu : upd ≤ now) :
    Bucket B r (min B (lvl + r * (now - upd) / 8)) now l :=
  ⟨le_min hB (add_nonneg h.lvl0 (credit_nonneg hr hu)), cred_advance h.cred (min_le_right _ _), h.conf⟩

/-- the level is lowered (a bucket is emptied) and / or time passes without credit -/
theorem lower {lvl' : ℚ} (h : Bucket B r lvl upd l) (hr : 0 ≤ r) (hu : upd ≤ now) (h0 : 0 ≤ lvl') (hl : lvl' ≤ lvl) :
    Bucket B r lvl' now l :=
  ⟨h0, cred_advance h.cred (hl.trans (le_add_of_nonneg_right (credit_nonneg hr hu))), h.conf⟩

/-- refill at `now`, then debit a packet the refilled level covers -/
theorem debit (h : Bucket B r lvl upd l) (s : ℕ) (hs : (s : ℚ) ≤ min B (lvl + r * (now - upd) / 8)) :
    Bucket B r (min B (lvl + r * (now - upd) / 8) - s) now ((now, s) :: l) :=
  have hc : Cred B r (min B (lvl + r * (now - upd) / 8)) now l := cred_advance h.cred (min_le_right _ _)
  ⟨sub_nonneg.mpr hs, cred_push s hc (le_trans (min_le_left _ _) (le_max_left _ _)), conforms_push s h.conf hc hs⟩

/-- the wait for exactly the missing tokens is over at `now = upd + (s − lvl)·8/r`: debit, the bucket is empty -/
theorem wait_debit (h : Bucket B r lvl upd l) (s : ℕ) (hr : 0 < r) (hn : now = upd + ((s : ℚ) - lvl) * 8 / r) :
    Bucket B r 0 now ((now, s) :: l) := by
  have hfull : lvl + r * (now - upd) / 8 = s := by rw [hn, add_sub_cancel_left]; exact (wait_exact hr).1
  have h1 : Cred B r (s : ℚ) now l := cred_advance h.cred hfull.ge
  have h2 := cred_push s h1 (le_max_right _ _)
  rw [sub_self] at h2
  exact ⟨le_refl _, h2, conforms_push s h.conf h1 (le_refl _)⟩

end Bucket

/-- a stretch of one record conforms trivially -/
theorem single_conforms (B : ℚ) (s : ℕ) : (s : ℚ) ≤ max B s := le_max_right _ _

/-- consecutive records of a departure log (newest first) are at least `8·size/peak` apart -/
def Spaced (pk : ℚ) (l : List (ℚ × ℕ)) : Prop :=
  ∀ newer e2 e1 older, l = newer ++ e2 :: e1 :: older → e1.1 + (e2.2 : ℚ) * 8 / pk ≤ e2.1

theorem spaced_nil (pk : ℚ) : Spaced pk [] := by
  intro newer e2 e1 older h
  cases newer <;> cases h

theorem spaced_push {pk : ℚ} {l : List (ℚ × ℕ)} (t : ℚ) (s : ℕ) (h : Spaced pk l)
    (hl : ∀ e, l.head? = some e → e.1 + (s : ℚ) * 8 / pk ≤ t) : Spaced pk ((t, s) :: l) := by
  intro newer e2 e1 older hd
  rcases List.cons_eq_append_iff.mp hd with ⟨rfl, h2⟩ | ⟨newer', rfl, h2⟩
  · cases h2
    exact hl e1 rfl
  · exact h newer' e2 e1 older h2

end Envelope
