import OnlVerif.Lemmas.TimerKAbs
import OnlVerif.Lemmas.KExec
/-!
# The Timer on the kernel model: every configuration step is sound

For each constructor of `AStep`: the abstract invariant is kept (the history extended by the step's calls/firings still
passes the property's oracle, which ends in the state the new configuration stands for), and the Timer LTS accepts the
corresponding action (`init`, `intr`, `wake … cb`, `stop`, `restart τ`, or nothing) with the same callback invocations.
All statements are at the instant of the processed entry (`AInv.advance` / `lts_advance` bring the clock there).
Three parts: what each LTS action does to `toT a` (`lts_…`), what the oracle does with the step's history (`orc_wake`,
`ostep_call`), and the invariant (`tmNext_ainv`, `ctlNext_ainv`, one `stepOK_…` per constructor).
-/

namespace TimerK
open TimerOnK QEntry
open Timer (CbOp PStat UEv)

variable {auto : Bool} {arg : Int} {cbs : List (Option Op)} {T : ℚ}
variable {a : A} {hist : List (HEv ℚ)} {q : QEntry ℚ}

/-- the callback invocations of a piece of history, as outputs of the LTS -/
def outsOfH (arg : Int) (l : List (HEv ℚ)) : List (Timer.Out ℚ) := l.filterMap fun
  | .fire t => some (.fire t [arg])
  | _ => none

/-- the instants of the callback invocations in a piece of history -/
def firesH (l : List (HEv ℚ)) : List ℚ := l.filterMap fun
  | .fire t => some t
  | _ => none

theorem firesOf_eq (tr : Array (Obs ℚ)) : firesOf tr = firesH (histOf tr) := by
  unfold firesOf firesH
  congr 1
  funext x
  cases x <;> rfl

theorem firesH_append (l l' : List (HEv ℚ)) : firesH (l ++ l') = firesH l ++ firesH l' := by
  simp [firesH, List.filterMap_append]

theorem outsOfH_eq (arg : Int) (l : List (HEv ℚ)) : outsOfH arg l = (firesH l).map fun t => Timer.Out.fire t [arg] := by
  unfold outsOfH firesH
  rw [List.map_filterMap]
  congr 1
  funext x
  cases x <;> rfl

/-- what a sound configuration step delivers -/
def StepOK (auto : Bool) (arg : Int) (cbs : List (Option Op)) (T : ℚ) (a : A) (q : QEntry ℚ) (hist : List (HEv ℚ)) (a' : A)
    (new : List (HEv ℚ)) : Prop :=
  AInv auto cbs T a' q.time (hist ++ new) ∧
  ∃ acts, Timer.run (toT auto arg a q.time) acts = .ok (toT auto arg a' q.time) (outsOfH arg new)

theorem orun_append (o : OSt ℚ) (h1 h2 : List (HEv ℚ)) :
    orun auto cbs o (h1 ++ h2) = (orun auto cbs o h1).bind fun o' => orun auto cbs o' h2 :=
  KExec.optRun_append (step := ostep auto cbs) (fun _ => rfl)
    (fun o e _ => by rw [orun]; cases ostep auto cbs o e <;> rfl) o h1 h2

theorem orun_cons_some {o o' : OSt ℚ} {x : HEv ℚ} {h : List (HEv ℚ)} :
    orun auto cbs o (x :: h) = some o' ↔ ∃ o1, ostep auto cbs o x = some o1 ∧ orun auto cbs o1 h = some o' := by
  rw [orun]
  cases ostep auto cbs o x with
  | none => exact ⟨nofun, fun ⟨_, h, _⟩ => nomatch h⟩
  | some o1 => exact ⟨fun h => ⟨o1, rfl, h⟩, fun ⟨_, h, h'⟩ => Option.some.inj h ▸ h'⟩

theorem orun_append_some {o o' : OSt ℚ} {h1 h2 : List (HEv ℚ)} :
    orun auto cbs o (h1 ++ h2) = some o' ↔ ∃ o1, orun auto cbs o h1 = some o1 ∧ orun auto cbs o1 h2 = some o' := by
  rw [orun_append]
  cases orun auto cbs o h1 with
  | none => exact ⟨nofun, fun ⟨_, h, _⟩ => nomatch h⟩
  | some o1 => exact ⟨fun h => ⟨o1, rfl, h⟩, fun ⟨_, h, h'⟩ => Option.some.inj h ▸ h'⟩

theorem orc_step {o o' : OSt ℚ} {new : List (HEv ℚ)} (h : orun auto cbs (o0 T) hist = some o)
    (h2 : orun auto cbs o new = some o') : orun auto cbs (o0 T) (hist ++ new) = some o' := by
  rw [orun_append, h]; exact h2

theorem run_single {s s' : Timer.State ℚ} {x : Timer.Action ℚ} {o : List (Timer.Out ℚ)} (h : Timer.step s x = .ok s' o) :
    Timer.run s [x] = .ok s' o := by
  have := Timer.run_cons_of (as := []) h rfl
  simpa using this

theorem get_mid {β} (l1 l2 : List β) (x : β) (l3 : List β) : (l1 ++ (l2 ++ x :: l3))[l1.length + l2.length]? = some x := by
  rw [← List.append_assoc, List.getElem?_append_right (by simp)]
  simp

theorem set_mid {β} (l1 l2 : List β) (x y : β) (l3 : List β) :
    (l1 ++ (l2 ++ x :: l3)).set (l1.length + l2.length) y = l1 ++ (l2 ++ y :: l3) := by
  rw [← List.append_assoc, ← List.append_assoc, List.set_append_right _ _ (by simp)]
  simp

theorem dead_len (a : A) : (a.dead.map fun _ => (PStat.finished : PStat ℚ)).length = a.dead.length := by simp

/-! ## the LTS state of a configuration; the LTS accepts each action -/

theorem toT_cur (auto : Bool) (arg : Int) (a : A) (now : ℚ) : (toT auto arg a now).procs[a.nprev]? = some a.ph.stat := by
  have := get_mid (a.dead.map fun _ => (PStat.finished : PStat ℚ)) (oldStat a.old) a.ph.stat []
  rwa [List.length_map] at this

/-- a new status for a `self.proc` that has started or starts now -/
theorem setStat_toT (a : A) (now : ℚ) (hold : a.old = none) {ph' : TPhase} (h' : ∀ q0, ph' ≠ .init q0) :
    Timer.setStat (Timer.popUq (toT auto arg a now) []) a.nprev ph'.stat = toT auto arg { a with ph := ph' } now := by
  have hs : (toT auto arg a now).procs.set a.nprev ph'.stat = (toT auto arg { a with ph := ph' } now).procs := by
    have := set_mid (a.dead.map fun _ => (PStat.finished : PStat ℚ)) (oldStat a.old) a.ph.stat ph'.stat []
    rwa [List.length_map] at this
  unfold Timer.setStat Timer.popUq
  rw [hs, ← toT_uq_nil auto arg (a := { a with ph := ph' }) now hold h']
  rfl

/-- the loop test of `Timer.run` in the LTS -/
theorem loopTest_toT (a : A) (now : ℚ) (eid n : Nat) (hold : a.old = none) :
    Timer.loopTest a.nprev (Timer.popUq (toT auto arg a now) []) = toT auto arg (tmNext now eid n a) now := by
  unfold Timer.loopTest tmNext
  by_cases h : now < a.expire
  · rw [if_pos (show (Timer.popUq (toT auto arg a now) []).now < (Timer.popUq (toT auto arg a now) []).expire from h), if_pos h]
    show Timer.setStat _ a.nprev (PStat.sleeping (now + (a.expire - now))) = _
    rw [add_sub_cancel]
    exact setStat_toT a now hold (ph' := .sleep n ⟨a.expire, NORMAL, eid, n⟩) nofun
  · rw [if_neg (show ¬ (Timer.popUq (toT auto arg a now) []).now < (Timer.popUq (toT auto arg a now) []).expire from h), if_neg h]
    exact setStat_toT a now hold (ph' := .dead) nofun

theorem loopTest_toT' (a : A) (now : ℚ) (eid n : Nat) (hold : a.old = none) (hph : ∀ q0, a.ph ≠ .init q0) :
    Timer.loopTest a.nprev (toT auto arg a now) = toT auto arg (tmNext now eid n a) now := by
  rw [← loopTest_toT a now eid n hold, ← toT_uq_nil auto arg now hold hph]
  rfl

/-- the LTS accepts the start of `self.proc` -/
theorem lts_init {q0 : QEntry ℚ} (hph : a.ph = .init q0) (hold : a.old = none) (now : ℚ) (eid n : Nat) :
    Timer.step (toT auto arg a now) (.init a.nprev) = .ok (toT auto arg (tmNext now eid n a) now) [] := by
  have h1 : (toT auto arg a now).uq = [UEv.init a.nprev] := by simp [toT, hold, hph]
  have h2 := toT_cur auto arg a now
  simp only [hph, TPhase.stat] at h2
  simp only [Timer.step, Timer.doInit, h1, h2, if_true]
  rw [loopTest_toT a now eid n hold]

/-- the LTS accepts the `Interruption` of the previous process, which ends -/
theorem lts_intr {o : Old} {q0 : QEntry ℚ} (hold : a.old = some o) (hph : a.ph = .init q0) (now : ℚ)
    (noop : List (QEntry ℚ)) :
    Timer.step (toT auto arg a now) (.intr a.dead.length) =
      .ok (toT auto arg { a with old := none, dead := a.dead ++ [o.p], noop := noop } now) [] := by
  show _ = Timer.Res.ok _ []
  have h1 : (toT auto arg a now).uq = [UEv.intr a.dead.length, UEv.init a.nprev] := by simp [toT, hold, hph]
  have h2 : (toT auto arg a now).procs[a.dead.length]? = some (PStat.sleeping o.qt.time) := by
    simp only [toT, hold, oldStat]
    simp
  simp only [Timer.step, Timer.doIntr, h1, h2, if_true]
  congr 1
  simp [Timer.setStat, Timer.popUq, toT, A.nprev, hold, hph, oldStat]

/-- the LTS accepts `restart(τ)` from outside on a timer whose process has finished: three assignments -/
theorem lts_restart_dead (hph : a.ph = .dead) (now tau : ℚ) :
    Timer.step (toT auto arg a now) (.restart tau) =
      .ok (toT auto arg { a with start := now, timeout := tau, expire := now + tau } now) [] := by
  show _ = Timer.Res.ok _ []
  have h2 := toT_cur auto arg a now
  simp only [hph, TPhase.stat] at h2
  have h3 : (Timer.rebase tau (toT auto arg a now)).procs[(Timer.rebase tau (toT auto arg a now)).proc]? =
      some PStat.finished := h2
  simp only [Timer.step, Timer.restartCall, h3, Timer.PStat.alive, Timer.ofExcept]
  simp [Timer.rebase, toT, A.nprev]

/-- the LTS accepts `restart(τ)` from outside on a timer whose process sleeps: the interrupt and the start of the new
process are queued -/
theorem lts_restart_alive {t : EvId} {qt : QEntry ℚ} (hph : a.ph = .sleep t qt) (hold : a.old = none) (now tau : ℚ)
    (iv p c : EvId) (qi q' : QEntry ℚ) :
    Timer.step (toT auto arg a now) (.restart tau) =
      .ok (toT auto arg { a with start := now, timeout := tau, expire := now + tau, old := some ⟨iv, p, t, qi, qt⟩,
                                 cur := c, ph := .init q' } now) [] := by
  show _ = Timer.Res.ok _ []
  have h2 := toT_cur auto arg a now
  simp only [hph, TPhase.stat] at h2
  have h3 : (Timer.rebase tau (toT auto arg a now)).procs[(Timer.rebase tau (toT auto arg a now)).proc]? =
      some (PStat.sleeping qt.time) := h2
  simp only [Timer.step, Timer.restartCall, h3, Timer.PStat.alive, Timer.interruptReq, Timer.ofExcept]
  simp [Timer.rebase, Timer.spawn, toT, hold, hph, oldStat, TPhase.stat, A.nprev]

/-- **the wake-up, case by case**: nothing happens to a stopped timer; otherwise the invocation is counted and the
callback leaves its timer alone, stops it, or restarts it; an auto-restart timer re-arms itself unless restarted -/
theorem wakeCells_cases {P : A → Prop} {now : ℚ} (hs : a.stopped = true → P a)
    (hn : a.stopped = false → cbAt cbs (a.fired : Int) = none →
      P { a with fired := a.fired + 1, expire := if auto then now + a.timeout else a.expire })
    (hc : a.stopped = false → cbAt cbs (a.fired : Int) = some .stop →
      P { a with fired := a.fired + 1, stopped := true, expire := if auto then now + a.timeout else now })
    (hr : ∀ tau, a.stopped = false → cbAt cbs (a.fired : Int) = some (.restart tau) →
      P { a with fired := a.fired + 1, start := now, timeout := tau, expire := now + tau }) :
    P (wakeCells auto cbs now a) := by
  unfold wakeCells
  rcases Bool.eq_false_or_eq_true a.stopped with hst | hst
  · rw [if_pos hst]; exact hs hst
  · rw [if_neg (by rw [hst]; exact Bool.false_ne_true)]
    unfold fireA
    rcases hcb : cbAt cbs (a.fired : Int) with _ | (_ | tau)
    · have := hn hst hcb; cases auto <;> exact this
    · have := hc hst hcb; cases auto <;> exact this
    · have := hr tau hst hcb; cases auto <;> exact this

/-- a wake-up changes attributes only -/
theorem wakeCells_eq (auto : Bool) (cbs : List (Option Op)) (now : ℚ) (a : A) :
    ∃ st ex tmo sa fi, wakeCells auto cbs now a =
      { a with stopped := st, expire := ex, timeout := tmo, start := sa, fired := fi } := by
  unfold wakeCells fireA rearm
  cases a.stopped
  · rcases cbAt cbs (a.fired : Int) with _ | (_ | tau) <;> cases auto <;> exact ⟨_, _, _, _, _, rfl⟩
  · exact ⟨_, _, _, _, _, rfl⟩

/-- what the callback does to its timer at this wake-up, as the parameter of the LTS action `wake` -/
def wakeCb (cbs : List (Option Op)) (a : A) : List (CbOp ℚ) :=
  if a.stopped then [] else (cbAt cbs (a.fired : Int)).toList

theorem toT_rearm (a : A) (now : ℚ) :
    Timer.autoRebase (toT auto arg a now) = toT auto arg (rearm auto now a) now := by
  cases auto <;> rfl

/-- the callback's own call in the LTS: a `restart` returns after its three assignments (the caller is `self.proc`) -/
theorem runCb_toT (a : A) (now : ℚ) (op : Option Op) :
    Timer.runCb a.nprev op.toList (toT auto arg a now) = .ok (toT auto arg (cbCells now a op) now) := by
  rcases op with _ | (_ | tau)
  · rfl
  · rfl
  · simp only [Option.toList_some, Timer.runCb, Timer.cbOp, Timer.restartCall]
    rw [if_pos (show some a.nprev = some (Timer.rebase tau (toT auto arg a now)).proc from rfl)]; rfl

/-- the LTS accepts the wake-up of `self.proc`, with the callback's own calls as the parameter of the action -/
theorem lts_wake {t : EvId} (hph : a.ph = .sleep t q) (hold : a.old = none) (eid n : Nat) :
    Timer.step (toT auto arg a q.time) (.wake a.nprev (wakeCb cbs a)) =
      .ok (toT auto arg (tmNext q.time eid n (wakeCells auto cbs q.time a)) q.time) (outsOfH arg (wakeFires a q.time)) := by
  have hni : ∀ q0, a.ph ≠ .init q0 := fun q0 h => by rw [hph] at h; cases h
  have h1 := toT_uq_nil auto arg q.time hold hni
  have h2 := toT_cur auto arg a q.time
  simp only [hph, TPhase.stat] at h2
  have h3 : Num.eqb q.time (toT auto arg a q.time).now = true := (Num.eqb_iff _ _).mpr rfl
  have key : Timer.step (toT auto arg a q.time) (.wake a.nprev (wakeCb cbs a)) =
      .ok (Timer.loopTest a.nprev (toT auto arg (wakeCells auto cbs q.time a) q.time)) (outsOfH arg (wakeFires a q.time)) := by
    simp only [Timer.step, Timer.doWake, h1, h2, h3, if_true]
    unfold wakeCb wakeCells wakeFires Timer.wakeBody
    rw [show (toT auto arg a q.time).stopped = a.stopped from rfl]
    cases a.stopped
    · simp only [Bool.false_eq_true, if_false, fireA]
      rw [show Timer.runCb a.nprev _ (toT auto arg a q.time) = _ from
        runCb_toT { a with fired := a.fired + 1 } q.time (cbAt cbs a.fired)]
      simp only [toT_rearm]; rfl
    · rfl
  -- a wake-up changes attributes only: the loop test is that of `self.proc`
  obtain ⟨st, ex, tmo, sa, fi, hw⟩ := wakeCells_eq auto cbs q.time a
  rw [key, hw]
  exact congrArg (Timer.Res.ok · _) (loopTest_toT' { a with stopped := st, expire := ex, timeout := tmo, start := sa, fired := fi }
    q.time eid n hold hni)

theorem toT_ctlNext (now t : ℚ) (eid n : Nat) (b : A) (sc : List (ℚ × Op)) :
    toT auto arg (ctlNext now eid n b sc) t = toT auto arg b t := by
  cases sc with
  | nil => rfl
  | cons x sc => rfl

/-! ## the oracle -/

theorem oOf_tmNext (now : ℚ) (eid n : Nat) (b : A) : oOf (tmNext now eid n b) =
    { pending := if b.stopped then none else if now < b.expire then some b.expire else none, timeout := b.timeout,
      stopped := b.stopped, fired := b.fired } := by
  unfold tmNext
  split <;> simp [oOf, *]

theorem cbAt_get {k : Int} {op : Op} (h : cbAt cbs k = some op) : cbs[k.toNat]? = some (some op) := by
  unfold cbAt at h
  rw [List.getD_eq_getElem?_getD] at h
  cases hg : cbs[k.toNat]? with
  | none => rw [hg] at h; cases h
  | some x => rw [hg] at h; exact congrArg some h

theorem cbAt_mem {k : Int} {op : Op} (h : cbAt cbs k = some op) : some op ∈ cbs := List.mem_of_getElem? (cbAt_get h)

theorem cbAt_lt {k : Nat} {op : Op} (h : cbAt cbs (k : Int) = some op) : k < cbs.length :=
  let ⟨h', _⟩ := List.getElem?_eq_some_iff.mp (cbAt_get h); h'

/-- the timeout stays positive through a wake-up -/
theorem wakeCells_tpos (hcbs : CbsOK cbs) (now : ℚ) (h : 0 < a.timeout) : 0 < (wakeCells auto cbs now a).timeout :=
  wakeCells_cases (P := fun w => 0 < w.timeout) (fun _ => h) (fun _ _ => h) (fun _ _ => h)
    (fun _ _ hcb => hcbs _ (cbAt_mem hcb))

/-- the oracle accepts the callback invocation of a wake-up (none if `stopped`) and ends in the state of the new
configuration: re-armed iff the loop goes on -/
theorem orc_wake (hcbs : CbsOK cbs) (hi : AInv auto cbs T a q.time hist) {t : EvId} (hph : a.ph = .sleep t q) (eid n : Nat) :
    orun auto cbs (oOf a) (wakeFires a q.time) = some (oOf (tmNext q.time eid n (wakeCells auto cbs q.time a))) := by
  have hp := hi.ph
  rw [hph] at hp
  obtain ⟨-, hexp, -⟩ := hp
  have hT : q.time < q.time + a.timeout := lt_add_of_pos_right _ hi.tpos
  have heq : Num.eqb q.time q.time = true := (Num.eqb_iff _ _).mpr rfl
  have hex := not_lt.mpr hexp
  have htau : ∀ tau, cbAt cbs (a.fired : Int) = some (.restart tau) → q.time < q.time + tau :=
    fun tau h => lt_add_of_pos_right _ (hcbs _ (cbAt_mem h))
  -- in each case both sides compute; a one-shot timer's loop ends unless the callback restarts it
  refine wakeCells_cases (P := fun w => orun auto cbs (oOf a) (wakeFires a q.time) = some (oOf (tmNext q.time eid n w)))
    (fun hst => ?_) (fun hst hcb => ?_) (fun hst hcb => ?_) (fun tau hst hcb => ?_)
  all_goals rw [oOf_tmNext]; cases auto <;> simp [wakeFires, orun, ostep, oOf, *]

/-- no prescribed firing is overdue: the pending instant is the time of an agenda entry, or the expiry a `self.proc`
that starts now will read -/
theorem AInv.pending_le {now : ℚ} (hi : AInv auto cbs T a now hist) : ∀ e, (oOf a).pending = some e → now ≤ e := by
  intro e he
  unfold oOf at he
  cases hst : a.stopped with
  | true => simp [hst] at he
  | false =>
    have hp := hi.ph
    cases hph : a.ph with
    | init q0 =>
      rw [hph] at hp
      simp only [hst, hph, Bool.false_eq_true, if_false, Option.some.injEq] at he
      rw [← he]; exact hp.2.2.1.le
    | sleep t q0 =>
      simp only [hst, hph, Bool.false_eq_true, if_false, Option.some.injEq] at he
      rw [← he]; exact hi.due q0 (mem_ph hph List.mem_cons_self)
    | dead => simp [hst, hph] at he

/-- what the oracle does with a call that finds nothing overdue -/
theorem ostep_call (o : OSt ℚ) (t : ℚ) (op : Op) (h : ∀ e, o.pending = some e → t ≤ e) :
    ostep auto cbs o (.call t op) = some
      (match op with
       | .stop => { o with pending := none, stopped := true }
       | .restart tau =>
         match o.pending with
         | some _ => { o with pending := some (t + tau), timeout := tau }
         | none => { o with timeout := tau }) := by
  unfold ostep
  cases hp : o.pending with
  | none => cases op <;> simp
  | some e =>
    have := h e hp
    cases op <;> simp [not_lt.mpr this]

/-! ## the invariant: every configuration step is sound -/

/-- `self.proc` sleeps until `expire_time`, or returns: the rest of the invariant is untouched -/
theorem tmNext_ainv {b : A} {now : ℚ} (eid n : Nat) (hold : b.old = none) (hc : CtlA now b.ctl) (hcp : b.ctl.prioOK)
    (hn : ∀ x ∈ b.noop, x.prio = NORMAL) (hdc : ∀ x ∈ b.ctl.entries, now ≤ x.time) (hdn : ∀ x ∈ b.noop, now ≤ x.time)
    (ht : 0 < b.timeout) (ho : orun auto cbs (o0 T) hist = some (oOf (tmNext now eid n b))) :
    AInv auto cbs T (tmNext now eid n b) now hist := by
  have hold' : ∀ o, b.old = some o → o.qi.time = now ∧ o.qi.prio = URGENT ∧ o.qt.prio = NORMAL := fun o h => by
    rw [hold] at h; cases h
  have hdo : ∀ x ∈ oldEntries b.old, now ≤ x.time := by rw [hold]; exact fun _ hx => absurd hx List.not_mem_nil
  by_cases h : now < b.expire
  · rw [tmNext, if_pos h] at ho ⊢
    exact ⟨⟨rfl, le_refl _, hold⟩, hold', hc, hcp, hn,
      A.forall_entries.mpr ⟨fun x hx => by obtain rfl := List.mem_singleton.mp hx; exact h.le, hdo, hdc, hdn⟩, ht, ho⟩
  · rw [tmNext, if_neg h] at ho ⊢
    exact ⟨hold, hold', hc, hcp,
      List.forall_mem_append.mpr ⟨hn, fun x hx => by obtain rfl := List.mem_singleton.mp hx; rfl⟩,
      A.forall_entries.mpr ⟨fun _ hx => absurd hx List.not_mem_nil, hdo, hdc,
        List.forall_mem_append.mpr ⟨hdn, fun x hx => by obtain rfl := List.mem_singleton.mp hx; exact le_refl _⟩⟩, ht, ho⟩

theorem stepOK_tmInit (hi : AInv auto cbs T a q.time hist) (eid n : Nat) (hph : a.ph = .init q) (hold : a.old = none) :
    StepOK auto arg cbs T a q hist (tmNext q.time eid n a) [] := by
  have hp := hi.ph
  rw [hph] at hp
  obtain ⟨-, -, hexp, -⟩ := hp
  obtain ⟨-, -, hdc, hdn⟩ := A.forall_entries.mp hi.due
  refine ⟨?_, [.init a.nprev], run_single (lts_init hph hold q.time eid n)⟩
  rw [List.append_nil]
  refine tmNext_ainv eid n hold hi.ctl hi.cprio hi.nprio hdc hdn hi.tpos ?_
  rw [hi.orc, oOf_tmNext, if_pos hexp]
  simp [oOf, hph]

theorem stepOK_intr (hi : AInv auto cbs T a q.time hist) (eid : Nat) (o : Old) (hold : a.old = some o) :
    StepOK auto arg cbs T a q hist
      { a with old := none, dead := a.dead ++ [o.p], noop := a.noop ++ [o.qt, ⟨q.time, NORMAL, eid, o.p⟩] } [] := by
  have hp := hi.ph
  obtain ⟨-, -, hqt⟩ := hi.old o hold
  obtain ⟨dph, dold, dctl, dnoop⟩ := A.forall_entries.mp hi.due
  -- an interrupt is on its way only while the new `self.proc` has not started
  obtain ⟨q0, hph⟩ : ∃ q0, a.ph = .init q0 := by
    cases hph : a.ph with
    | init q0 => exact ⟨q0, rfl⟩
    | sleep t q0 => rw [hph] at hp; rw [hp.2.2] at hold; cases hold
    | dead => rw [hph] at hp; rw [show a.old = none from hp] at hold; cases hold
  rw [hph] at hp
  refine ⟨⟨?_, nofun, hi.ctl, hi.cprio, List.forall_mem_append.mpr ⟨hi.nprio, fun x hx => ?_⟩,
    A.forall_entries.mpr ⟨dph, fun _ hx => absurd hx List.not_mem_nil, dctl,
      List.forall_mem_append.mpr ⟨dnoop, fun x hx => ?_⟩⟩, hi.tpos, ?_⟩, [.intr a.dead.length], ?_⟩
  · show PhA _ q.time a.ph
    rw [hph]
    exact ⟨hp.1, hp.2.1, hp.2.2.1, nofun⟩
  · rcases List.mem_pair.mp hx with rfl | rfl
    · exact hqt
    · rfl
  · rcases List.mem_pair.mp hx with rfl | rfl
    · exact dold _ (by rw [hold]; exact List.mem_cons_of_mem _ List.mem_cons_self)
    · exact le_refl _
  · rw [List.append_nil]
    exact hi.orc
  · exact run_single (lts_intr hold hph q.time _)

theorem stepOK_wake (hcbs : CbsOK cbs) (hi : AInv auto cbs T a q.time hist) (eid n : Nat) (t : EvId)
    (hph : a.ph = .sleep t q) (hold : a.old = none) :
    StepOK auto arg cbs T a q hist (tmNext q.time eid n (wakeCells auto cbs q.time a)) (wakeFires a q.time) := by
  obtain ⟨-, -, hdc, hdn⟩ := A.forall_entries.mp hi.due
  have htp := wakeCells_tpos (auto := auto) hcbs q.time hi.tpos
  have horc := orc_step hi.orc (orc_wake hcbs hi hph eid n)
  refine ⟨?_, [.wake a.nprev (wakeCb cbs a)], run_single (lts_wake hph hold eid n)⟩
  obtain ⟨st, ex, tmo, sa, fi, hw⟩ := wakeCells_eq auto cbs q.time a
  rw [hw] at htp horc ⊢
  exact tmNext_ainv eid n hold hi.ctl hi.cprio hi.nprio hdc hdn htp horc

theorem stepOK_noop (hi : AInv auto cbs T a q.time hist) (l1 l2 : List (QEntry ℚ)) (hq : a.noop = l1 ++ q :: l2) :
    StepOK auto arg cbs T a q hist { a with noop := l1 ++ l2 } [] := by
  have hsub : (l1 ++ l2).Sublist a.noop := hq ▸ (List.Sublist.refl l1).append (List.sublist_cons_self q l2)
  refine ⟨⟨hi.ph, hi.old, hi.ctl, hi.cprio, fun x hx => hi.nprio x (hsub.subset hx), fun x hx => hi.due x ?_, hi.tpos, ?_⟩,
    [], rfl⟩
  · exact ((List.Sublist.refl _).append ((List.Sublist.refl _).append ((List.Sublist.refl _).append hsub))).subset hx
  · rw [List.append_nil]; exact hi.orc

/-- what the invariant says of the configuration without the controller -/
theorem AInv.dropCtl {now : ℚ} (hi : AInv auto cbs T a now hist) : AInv auto cbs T { a with ctl := .done } now hist :=
  have d := A.forall_entries.mp hi.due
  ⟨hi.ph, hi.old, trivial, trivial, hi.nprio,
    A.forall_entries.mpr ⟨d.1, d.2.1, fun _ hx => absurd hx List.not_mem_nil, d.2.2.2⟩, hi.tpos, hi.orc⟩

/-- the controller sleeps until its next call, or returns: the rest of the invariant is untouched -/
theorem ctlNext_ainv {b : A} {now : ℚ} (eid n : Nat) (sc : List (ℚ × Op))
    (h : AInv auto cbs T { b with ctl := .done } now hist) (hsc : ScriptOK sc) :
    AInv auto cbs T (ctlNext now eid n b sc) now hist := by
  obtain ⟨dph, dold, -, dnoop⟩ := A.forall_entries.mp h.due
  cases sc with
  | nil =>
    exact ⟨h.ph, h.old, trivial, trivial,
      List.forall_mem_append.mpr ⟨h.nprio, fun x hx => by obtain rfl := List.mem_singleton.mp hx; rfl⟩,
      A.forall_entries.mpr ⟨dph, dold, fun _ hx => absurd hx List.not_mem_nil,
        List.forall_mem_append.mpr ⟨dnoop, fun x hx => by obtain rfl := List.mem_singleton.mp hx; exact le_refl _⟩⟩,
      h.tpos, h.orc⟩
  | cons x sc =>
    obtain ⟨gap, op⟩ := x
    have h0 := hsc (gap, op) List.mem_cons_self
    exact ⟨h.ph, h.old, ⟨h0.2, fun y hy => hsc y (List.mem_cons_of_mem _ hy)⟩, rfl, h.nprio,
      A.forall_entries.mpr ⟨dph, dold,
        fun x hx => by obtain rfl := List.mem_singleton.mp hx; exact le_add_of_nonneg_right h0.1, dnoop⟩,
      h.tpos, h.orc⟩

theorem stepOK_ctlInit (hi : AInv auto cbs T a q.time hist) (eid n : Nat) (sc : List (ℚ × Op)) (hctl : a.ctl = .init q sc) :
    StepOK auto arg cbs T a q hist (ctlNext q.time eid n a sc) [] := by
  have hc := hi.ctl
  rw [hctl] at hc
  refine ⟨?_, [], ?_⟩
  · rw [List.append_nil]
    exact ctlNext_ainv eid n sc hi.dropCtl hc.2.2
  · rw [toT_ctlNext]; rfl

theorem stepOK_ctlStop (hi : AInv auto cbs T a q.time hist) (hq : IsMin a q) (eid n : Nat) (sc : List (ℚ × Op))
    (hctl : a.ctl = .wait .stop sc q) :
    StepOK auto arg cbs T a q hist (ctlNext q.time eid n { a with stopped := true, expire := q.time } sc)
      [.call q.time .stop] := by
  have hc := hi.ctl
  rw [hctl] at hc
  have hni := hi.started_of_wait hq hctl
  refine ⟨ctlNext_ainv eid n sc ⟨?_, hi.old, trivial, trivial, hi.nprio, hi.dropCtl.due, hi.tpos, ?_⟩ hc.2, [.stop], ?_⟩
  · have hp := hi.ph
    cases hph : a.ph with
    | init q0 => exact absurd hph (hni q0)
    | sleep t q0 =>
      rw [hph] at hp
      exact ⟨hp.1, hi.due q0 (mem_ph hph List.mem_cons_self), hp.2.2⟩
    | dead => rw [hph] at hp; exact hp
  · refine orc_step hi.orc ?_
    simp only [orun, ostep_call _ _ _ hi.pending_le]
    simp [oOf]
  · rw [toT_ctlNext]
    exact run_single rfl

theorem stepOK_ctlRestartDead (hi : AInv auto cbs T a q.time hist) (eid n : Nat) (sc : List (ℚ × Op)) (tau : ℚ)
    (hctl : a.ctl = .wait (.restart tau) sc q) (hph : a.ph = .dead) :
    StepOK auto arg cbs T a q hist
      (ctlNext q.time eid n { a with start := q.time, timeout := tau, expire := q.time + tau } sc)
      [.call q.time (.restart tau)] := by
  have hc := hi.ctl
  rw [hctl] at hc
  have htau : 0 < tau := hc.1
  have hp := hi.ph
  rw [hph] at hp
  have hold : a.old = none := hp
  refine ⟨ctlNext_ainv eid n sc ⟨?_, hi.old, trivial, trivial, hi.nprio, hi.dropCtl.due, htau, ?_⟩ hc.2, [.restart tau], ?_⟩
  · show PhA _ q.time a.ph
    rw [hph]; exact hold
  · refine orc_step hi.orc ?_
    have hpn : (oOf a).pending = none := by simp [oOf, hph]
    simp only [orun, ostep_call _ _ _ hi.pending_le, hpn]
    simp [oOf, hph]
  · rw [toT_ctlNext]
    exact run_single (lts_restart_dead hph q.time tau)

theorem stepOK_ctlRestartAlive (hi : AInv auto cbs T a q.time hist) (eid n : Nat) (sc : List (ℚ × Op)) (tau : ℚ)
    (t : EvId) (qt : QEntry ℚ) (hctl : a.ctl = .wait (.restart tau) sc q) (hph : a.ph = .sleep t qt) (hold : a.old = none) :
    StepOK auto arg cbs T a q hist
      (ctlNext q.time (eid + 1 + 1) (n + 1 + 1 + 1) (respawn q.time tau eid n t qt a) sc)
      [.call q.time (.restart tau)] := by
  have hc := hi.ctl
  rw [hctl] at hc
  have htau : 0 < tau := hc.1
  have hp := hi.ph
  rw [hph] at hp
  have hqt : q.time ≤ qt.time := hi.due qt (mem_ph hph List.mem_cons_self)
  refine ⟨ctlNext_ainv _ _ sc ⟨?_, ?_, trivial, trivial, hi.nprio, ?_, htau, ?_⟩ hc.2, [.restart tau], ?_⟩
  · refine ⟨rfl, rfl, by show q.time < q.time + tau; linarith, ?_⟩
    intro o ho
    obtain rfl := Option.some.inj ho
    exact Nat.lt_succ_self _
  · intro o ho
    obtain rfl := Option.some.inj ho
    exact ⟨rfl, rfl, hp.1⟩
  · exact A.forall_entries.mpr ⟨fun x hx => by obtain rfl := List.mem_singleton.mp hx; exact le_refl _,
      fun x hx => by rcases List.mem_pair.mp hx with rfl | rfl; exacts [le_refl _, hqt],
      fun _ hx => absurd hx List.not_mem_nil, fun x hx => hi.due x (mem_noop hx)⟩
  · refine orc_step hi.orc ?_
    simp only [orun, ostep_call _ _ _ hi.pending_le]
    cases hst : a.stopped with
    | true => simp [oOf, respawn, hst]
    | false => simp [oOf, respawn, hst, hph]
  · rw [toT_ctlNext]
    exact run_single (lts_restart_alive hph hold q.time tau _ _ _ _ _)

/-- **every configuration step is sound**: the invariant is kept at the instant of the processed entry, the history
still passes the oracle, and the Timer LTS accepts the clock advance followed by the step's action -/
theorem astep_sound (hcbs : CbsOK cbs) {now : ℚ} {a' : A} {new : List (HEv ℚ)}
    (hi : AInv auto cbs T a now hist) (hq : IsMin a q) (hs : AStep auto cbs a q a' new) :
    AInv auto cbs T a' q.time (hist ++ new) ∧
    ∃ acts, Timer.run (toT auto arg a now) acts = .ok (toT auto arg a' q.time) (outsOfH arg new) := by
  have hi' := hi.advance hq
  obtain ⟨acts0, h0⟩ := lts_advance (arg := arg) hi hq
  have key : StepOK auto arg cbs T a q hist a' new := by
    cases hs with
    | tmInit eid n hph hold => exact stepOK_tmInit hi' eid n hph hold
    | intr eid o hold _ => exact stepOK_intr hi' eid o hold
    | wake eid n t hph hold => exact stepOK_wake hcbs hi' eid n t hph hold
    | noop l1 l2 hq' => exact stepOK_noop hi' l1 l2 hq'
    | ctlInit eid n sc hctl => exact stepOK_ctlInit hi' eid n sc hctl
    | ctlStop eid n sc hctl => exact stepOK_ctlStop hi' hq eid n sc hctl
    | ctlRestartDead eid n sc tau hctl hph => exact stepOK_ctlRestartDead hi' eid n sc tau hctl hph
    | ctlRestartAlive eid n sc tau t qt hctl hph hold => exact stepOK_ctlRestartAlive hi' eid n sc tau t qt hctl hph hold
  obtain ⟨h1, acts, h2⟩ := key
  refine ⟨h1, acts0 ++ acts, ?_⟩
  have := run_append_of h0 h2
  simpa using this

end TimerK
