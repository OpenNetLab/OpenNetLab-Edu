import OnlVerif.Lemmas.SndKStepRun
/-!
# The TCP sender on the kernel model: every kernel step keeps the invariants, and the initial state has them
-/

namespace SndK

section

open SenderOnK TcpSender

theorem RPhase.of_entry {r : RPhase} {q : QEntry ℚ} (h : q ∈ r.entries) :
    r = .init q ∨ (∃ g t0, r = .handed g t0 q) ∨ r = .ending q := by
  cases r with
  | init _ => exact .inl (List.mem_singleton.mp h ▸ rfl)
  | handed g t0 _ => exact .inr (.inl ⟨g, t0, List.mem_singleton.mp h ▸ rfl⟩)
  | ending _ => exact .inr (.inr (List.mem_singleton.mp h ▸ rfl))
  | _ => exact absurd h List.not_mem_nil

theorem SPhase.of_entry {r : SPhase} {q : QEntry ℚ} (h : q ∈ r.entries) :
    (∃ rest, r = .init q rest) ∨ (∃ x rest, r = .wait x rest q) ∨ r = .ending q := by
  cases r with
  | init _ rest => exact .inl ⟨rest, List.mem_singleton.mp h ▸ rfl⟩
  | wait x rest _ => exact .inr (.inl ⟨x, rest, List.mem_singleton.mp h ▸ rfl⟩)
  | ending _ => exact .inr (.inr (List.mem_singleton.mp h ▸ rfl))
  | _ => exact absurd h List.not_mem_nil

theorem TPh.of_entry {r : TPh} {q : QEntry ℚ} (h : q ∈ r.entries) : r = .init q ∨ (∃ t, r = .sleep t q) ∨ r = .ending q := by
  cases r with
  | init _ => exact .inl (List.mem_singleton.mp h ▸ rfl)
  | sleep t _ => exact .inr (.inl ⟨t, List.mem_singleton.mp h ▸ rfl⟩)
  | ending _ => exact .inr (.inr (List.mem_singleton.mp h ▸ rfl))
  | _ => exact absurd h List.not_mem_nil

/-- **one kernel step**: from a state with a configuration that satisfies the invariants, `Environment.step` is normal, the
new state has such a configuration again, and the sender LTS accepts an action sequence between the two LTS states whose
transmissions are the `tx` observations of the step -/
theorem inv_step {cfg : Cfg} (fuel : Nat) {s : KS} {a : A} {q : QEntry ℚ} {rest : List (QEntry ℚ)} (hk : KI none s a)
    (hi : AInv cfg a) (hp : popMin s.agenda = some (q, rest)) : StepGoal cfg fuel s a.S a.txs := by
  refine StepGoal.of_tick hk hi hp (fun hiT => ?_)
  rcases mem_entries.mp (hk.k.ag.subset ((popMin_spec _ _ _ hp).1.symm.subset List.mem_cons_self)) with
    hq | hq | hq | ⟨seq, hs, hq⟩
  · rcases RPhase.of_entry hq with h | ⟨g, t0, h⟩ | h
    exacts [kstep_runInit fuel hk hiT hp h, kstep_runHanded fuel hk hiT hp h, kstep_runEnding fuel hk hiT hp h]
  · rcases SPhase.of_entry hq with ⟨r, h⟩ | ⟨x, r, h⟩ | h
    exacts [kstep_scrInit fuel hk hiT hp h, kstep_scrWait fuel hk hiT hp h, kstep_scrEnding fuel hk hiT hp h]
  · exact kstep_pend fuel hk hiT hp hq
  · rcases TPh.of_entry hq with h | ⟨t, h⟩ | h
    exacts [kstep_tmInit fuel hk hiT hp hs h, kstep_tmWake fuel hk hiT hp hs h, kstep_tmEnding fuel hk hiT hp hs h]

end

section

open SenderOnK TcpSender TcpCC
open TimerK (lookup)

/-- the configuration of the initial state -/
def a0 (cfg : Cfg) (cc : CCState ℚ) (rtt : ℚ) (script : Script) : A :=
  { S := Sender.init cfg.kind cc rtt cfg.mss (some cfg.size) 0
    run := .init ⟨0, URGENT, 0, 1⟩
    scr := .init ⟨0, URGENT, 1, 3⟩ script
    pend := []
    tks := []
    tmp := fun _ => 0
    tph := fun _ => .gone
    tmc := fun _ => default
    putAt := 0
    txs := []
    cur := none }

/-- the state before the two processes are created -/
def base0 (cc : CCState ℚ) (rtt : ℚ) : KS :=
  { now := Num.zero, resources := #[storeRes],
    shared := [(cNext, .int 0), (cBuf, .int 0), (cLack, .int 0), (cDup, .int 0),
               (cRtt, TimeCell.enc (est0 rtt).rtt_estimate), (cDev, TimeCell.enc (est0 rtt).est_deviation),
               (cRto, TimeCell.enc (est0 rtt).rto)] ++ ccCells cc ++ [(cPutAt, TimeCell.enc (Num.zero : ℚ))] }

theorem lookup_none_of_lt (l : List (Nat × Val)) (n k : Nat) (h : ∀ x ∈ l, x.1 < n) (hk : n ≤ k) : lookup l k = .none := by
  unfold lookup
  have : l.find? (·.1 == k) = none := by
    rw [List.find?_eq_none]
    intro x hx
    have := h x hx
    simp only [beq_iff_eq]
    omega
  rw [this]
  rfl

theorem init_cells_lt (cc : CCState ℚ) (rtt : ℚ) : ∀ x ∈ (base0 cc rtt).shared, x.1 < 24 := by
  intro x hx
  have : x.1 ∈ List.range 24 := List.mem_map_of_mem (f := (·.1)) hx
  exact List.mem_range.mp this

theorem lookup_of_mem {l : List (Nat × Val)} (hn : (l.map (·.1)).Nodup) {x : Nat × Val} (hx : x ∈ l) : lookup l x.1 = x.2 := by
  induction l with
  | nil => cases hx
  | cons y ys ih =>
    rw [List.map_cons, List.nodup_cons] at hn
    rw [show y = (y.1, y.2) from rfl, TimerK.lookup_cons]
    rcases List.mem_cons.mp hx with rfl | hx
    · exact if_pos rfl
    · rw [if_neg (fun e : x.1 = y.1 => hn.1 (e ▸ List.mem_map_of_mem hx)), ih hn.2 hx]

/-- the attribute cells of the initial state are the cells 0 … 23, each listed once -/
theorem init_cells (cc : CCState ℚ) (rtt : ℚ) : ∀ x ∈ (base0 cc rtt).shared, lookup (base0 cc rtt).shared x.1 = x.2 :=
  fun _ hx => lookup_of_mem (show ((base0 cc rtt).shared.map (·.1)).Nodup from List.nodup_range (n := 24)) hx

theorem storeRes_eq : storeRes = storeRec [] [] := rfl

theorem ki_init (cfg : Cfg) (cc : CCState ℚ) (rtt : ℚ) (script : Script) :
    KI none (initState cc rtt script) (a0 cfg cc rtt script) := by
  have h0 := KProc.GInv.empty (base0 cc rtt) rfl (storesOf (kernOf (a0 cfg cc rtt script)))
    (fun r st h => by
      unfold storesOf at h
      split at h <;> cases h
      rename_i h0; subst h0; exact ⟨Nat.one_pos, rfl⟩)
  obtain ⟨S1, hd1, -, h1⟩ := h0.call (self := 0) (cl := .spawn (.runStart Num.zero)) rfl
  obtain ⟨S2, hd2, -, h2⟩ := h1.call (self := 0) (cl := .spawn (.scr Num.zero none script)) rfl
  have hS : initState cc rtt script = S2 := by
    show (doCall (doCall (base0 cc rtt) 0 _).1 0 _).1 = S2
    rw [hd1, hd2]
  rw [hS]
  refine .of_end (reg := { KProc.Regs.of (base0 cc rtt) with evSize := 4, eid := 2 }) h2 rfl zero_eq' List.nodup_nil rfl
    ((cellsOK_iff (s := base0 cc rtt)).mp ?_)
  have hlt := init_cells_lt cc rtt
  obtain ⟨h1, hp⟩ := List.forall_mem_append.mp (init_cells cc rtt)
  obtain ⟨hs, hc⟩ := List.forall_mem_append.mp h1
  refine ⟨hs _ (.head _), hs _ (.tail _ (.head _)), hs _ (.tail _ (.tail _ (.head _))),
    hs _ (.tail _ (.tail _ (.tail _ (.head _)))), hs _ (.tail _ (.tail _ (.tail _ (.tail _ (.head _))))),
    hs _ (.tail _ (.tail _ (.tail _ (.tail _ (.tail _ (.head _)))))),
    hs _ (.tail _ (.tail _ (.tail _ (.tail _ (.tail _ (.tail _ (.head _))))))), hc, hp _ (.head _), fun seq => ?_,
    fun seq => ?_, ?_, ?_, ?_, ?_, ?_⟩
  · exact lookup_none_of_lt _ 24 _ hlt (by simp [cSent]; omega)
  · exact lookup_none_of_lt _ 24 _ hlt (by simp [cTmIn]; omega)
  all_goals (intro seq hs; cases hs)

theorem ainv_init (cfg : Cfg) (cc : CCState ℚ) (rtt : ℚ) (script : Script) (hcc : CCInv cfg.kind cc) (hr : 0 < rtt)
    (hm : 0 < cfg.mss) (hs : 0 < cfg.size) (hd : cfg.mss ∣ cfg.size) (hok : ScriptOK 0 script) :
    AInv cfg (a0 cfg cc rtt script) := by
  refine ⟨inv_init cfg.kind cc rtt cfg.mss (some cfg.size) 0 hcc hr, rfl, rfl, rfl, hm, hs, hd, ?_, ⟨0, by simp [a0, Sender.init]⟩,
    Nat.zero_le _, List.Sublist.refl _, rfl, ⟨rfl, rfl, rfl⟩, ⟨rfl, rfl, hok⟩, (fun u hu => by cases hu),
    (fun seq hs' => by cases hs'), le_refl _⟩
  simp [a0, Sender.init, segKeys]

end

end SndK
