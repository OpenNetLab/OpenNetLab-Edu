import OnlVerif.Lemmas.WFQKAbs
import OnlVerif.Lemmas.VCKBasic
import OnlVerif.Lemmas.KProcDefs
/-!
# The WFQ scheduler on the kernel model: what each kernel operation of the program does

What the calls that touch the attribute cells do to an arbitrary kernel state, what the `PriorityStore` hands out, and what
the pieces of the program that only read and write cells do to a configuration (`Lemmas/KProcDefs.lean`).
-/

namespace WFQK
open WFQOnK
open TimerK (lookup)

theorem getD_set_same (a : Array ResRec) (r : Nat) (x : ResRec) (h : r < a.size) :
    (a.setIfInBounds r x).getD r default = x := by
  rw [getD_setIfInBounds]; simp [h]

@[simp] theorem isStoreKind_pstore : isStoreKind .pstore = true := rfl
@[simp] theorem isPrioKind_pstore : isPrioKind .pstore = false := rfl
@[simp] theorem pstore_beq_preemptive : (ResKind.pstore == ResKind.preemptive) = false := rfl
@[simp] theorem pstore_beq_fstore : (ResKind.pstore == ResKind.fstore) = false := rfl

theorem doCall_load (s : KS) (self : EvId) (k : Nat) : doCall s self (.load k) = (s, .val (lookup s.shared k)) := rfl

theorem doCall_store (s : KS) (self : EvId) (k : Nat) (v : Val) :
    doCall s self (.store k v) = ({ s with shared := (k, v) :: s.shared.filter (·.1 != k) }, .unit) := rfl

theorem doCall_log_none (s : KS) (self : EvId) (what : String) :
    doCall s self (.log what .none) = ({ s with trace := s.trace.push (.log self what .none s.now) }, .unit) := rfl

variable {N scale : Nat}

/-- the store hands out the integer of a least waiting packet -/
theorem listMin_codes {l : List PutRec} {w : PutRec} (hw : IsLeast N scale l w) :
    listMin (l.map (codeOf N scale)) = some (codeOf N scale w) :=
  VCK.listMin_codes hw

/-- taking that integer out is taking the packet out (the codes of the waiting packets are pairwise different at `w`) -/
theorem erase_codes {l : List PutRec} {w : PutRec} (hinj : ∀ x ∈ l, codeOf N scale x = codeOf N scale w → x = w) :
    (l.map (codeOf N scale)).erase (codeOf N scale w) = (l.erase w).map (codeOf N scale) :=
  VCK.erase_codes hinj

/-- a non-empty store has a least packet -/
theorem exists_isLeast : ∀ l : List PutRec, l ≠ [] → ∃ w, IsLeast N scale l w :=
  VCK.exists_isLeast

theorem pst_eq : pst = 0 := rfl

theorem runBurst_addInt (p : EvId) (k : Nat) (n d : Int) (cont : Burst ℚ St) (S : KS)
    (h : lookup S.shared k = .int n) :
    runBurst p (addInt k d cont) S =
      runBurst p cont { S with shared := (k, .int (n + d)) :: S.shared.filter (·.1 != k) } := by
  simp [addInt, loadInt, runBurst, doCall_load, doCall_store, noteErr, h]

/-! ## what the pieces of the program that only read and write cells do to a configuration (`KProc.hrun`) -/

section hrun
open KProc (hrun Cfg)
variable {p : EvId} {c : Cfg St} {g : Nat → Val} {tr : Array (Obs ℚ)}

theorem hrun_loadInt {k : Nat} {n : Int} (cont : Int → Burst ℚ St) (h : g k = .int n) :
    hrun p (loadInt k cont) (c.wr g tr) = hrun p (cont n) (c.wr g tr) := by
  heval [loadInt, h]

theorem hrun_store (k : Nat) (v : Val) (cont : Burst ℚ St) :
    hrun p (.call (.store k v) fun _ => cont) (c.wr g tr) = hrun p cont (c.wr (KProc.upd g k v) tr) := by
  heval []

theorem hrun_addInt {k : Nat} {n : Int} (d : Int) (cont : Burst ℚ St) (h : g k = .int n) :
    hrun p (addInt k d cont) (c.wr g tr) = hrun p cont (c.wr (KProc.upd g k (.int (n + d))) tr) := by
  heval [addInt, loadInt, h]

/-- `d[class_id]` on a dict of scalars whose cell holds `x` -/
theorem hrun_loadKey {k : Nat} {x : ℚ} (cont : ℚ → Burst ℚ St) (h : g k = TimeCell.enc x) :
    hrun p (loadKey k cont) (c.wr g tr) = hrun p (cont x) (c.wr g tr) := by
  heval [loadKey, h, TimerK.dec_enc]

/-- `d.get(class_id)` on a dict of integers -/
theorem hrun_loadIntKey {k : Nat} {o : Option Int} (cont : Option Int → Burst ℚ St) (h : g k = clsVal o) :
    hrun p (loadIntKey k cont) (c.wr g tr) = hrun p (cont o) (c.wr g tr) := by
  cases o <;> heval [loadIntKey, h, clsVal]

theorem hrun_log (what : String) (x : ℚ) (cont : Burst ℚ St) :
    hrun p (.call (.log what (TimeCell.enc x)) fun _ => cont) (c.wr g tr) =
      hrun p cont (c.wr g (tr.push (.log p what (TimeCell.enc x) c.reg.now))) := by
  heval []

theorem hrun_logInt (what : String) (i : Int) (cont : Burst ℚ St) :
    hrun p (.call (.log what (.int i)) fun _ => cont) (c.wr g tr) =
      hrun p cont (c.wr g (tr.push (.log p what (.int i) c.reg.now))) := by
  heval []

variable {F : Nat} {cfg : WfqCfg ℚ}

/-- `sum(self.queue_count.values())` reads the counters -/
theorem hrun_sumCounts (cnt : Nat → Int) (k : Int → Burst ℚ St) :
    ∀ (n f : Nat) (acc : Int), (∀ j, f ≤ j → j < f + n → g (cCount j) = .int (cnt j)) →
      hrun p (sumCounts f n acc k) (c.wr g tr) = hrun p (k (acc + sumFrom cnt f n)) (c.wr g tr)
  | 0, f, acc, _ => by simp [sumCounts, sumFrom]
  | n + 1, f, acc, h => by
    rw [sumCounts, hrun_loadInt _ (h f (Nat.le_refl _) (by omega)),
      hrun_sumCounts cnt k n (f + 1) (acc + cnt f) (fun j h1 h2 => h j (by omega) (by omega))]
    simp [sumFrom, Int.add_assoc]

/-- `for i in self.active_set: weight_sum += self.weights[i]` reads the membership cells -/
theorem hrun_sumWeights (act : Nat → Bool) (k : ℚ → Burst ℚ St) :
    ∀ (n f : Nat) (acc : ℚ), (∀ j, f ≤ j → j < f + n → g (cAct j) = .int (if act j then 1 else 0)) →
      (∀ j, f ≤ j → j < f + n → Stamp.lookup cfg.weights j = some (wOf cfg j)) →
      hrun p (sumWeights cfg f n acc k) (c.wr g tr) = hrun p (k (wsum cfg act f n acc)) (c.wr g tr)
  | 0, f, acc, _, _ => by simp [sumWeights, wsum]
  | n + 1, f, acc, h, hw => by
    have ih := fun acc' => hrun_sumWeights act k n (f + 1) acc' (fun j h1 h2 => h j (by omega) (by omega))
      (fun j h1 h2 => hw j (by omega) (by omega))
    rw [sumWeights, hrun_loadInt _ (h f (Nat.le_refl _) (by omega))]
    cases hc : act f
    · simp only [wsum, hc, Bool.false_eq_true, if_false]
      first | rw [ih] | rw [if_neg (by decide), ih]
    · simp only [wsum, hc, if_true]
      rw [hw f (Nat.le_refl _) (by omega)]
      exact ih _

/-- `len(self.active_set)` reads the membership cells -/
theorem hrun_sumActive (act : Nat → Bool) (k : Int → Burst ℚ St) :
    ∀ (n f : Nat) (acc : Int), (∀ j, f ≤ j → j < f + n → g (cAct j) = .int (if act j then 1 else 0)) →
      hrun p (sumActive f n acc k) (c.wr g tr) = hrun p (k (nAct act f n acc)) (c.wr g tr)
  | 0, f, acc, _ => by simp [sumActive, nAct]
  | n + 1, f, acc, h => by
    rw [sumActive, hrun_loadInt _ (h f (Nat.le_refl _) (by omega)),
      hrun_sumActive act k n (f + 1) _ (fun j h1 h2 => h j (by omega) (by omega))]
    rfl

/-- `for class_id in self.weights.keys(): self.finish_times[class_id] = 0.0` stores `0.0` into the cells of the keys and
leaves every other cell (and everything else) alone -/
theorem hrun_zeroFinish (cont : Burst ℚ St) :
    ∀ (l : List (Nat × ℚ)) (g : Nat → Val), ∃ g',
      hrun p (zeroFinish l cont) (c.wr g tr) = hrun p cont (c.wr g' tr) ∧
      (∀ k, (∀ kv ∈ l, k ≠ cFin kv.1) → g' k = g k) ∧ (∀ kv ∈ l, g' (cFin kv.1) = TimeCell.enc (0 : ℚ))
  | [], g => ⟨g, rfl, fun _ _ => rfl, fun _ h => nomatch h⟩
  | (x, w) :: r, g => by
    obtain ⟨g', h1, h2, h3⟩ := hrun_zeroFinish cont r (KProc.upd g (cFin x) (TimeCell.enc (0 : ℚ)))
    refine ⟨g', ?_, ?_, ?_⟩
    · rw [zeroFinish, zero_eq', hrun_store, h1]
    · intro k hk
      exact (h2 k fun kv hkv => hk kv (List.mem_cons_of_mem _ hkv)).trans (if_neg (hk (x, w) List.mem_cons_self))
    · intro kv hkv
      by_cases hin : ∃ kv' ∈ r, kv'.1 = kv.1
      · obtain ⟨kv', hkv', he⟩ := hin
        rw [← he]; exact h3 kv' hkv'
      · rcases List.mem_cons.mp hkv with rfl | hkv
        · exact (h2 (cFin x) fun kv' hkv' hc =>
            hin ⟨kv', hkv', (Cell.fin.inj (Cell.addr_inj (c := .fin x) (c' := .fin kv'.1) hc)).symm⟩).trans (if_pos rfl)
        · exact absurd ⟨kv, hkv, rfl⟩ hin

end hrun

end WFQK
