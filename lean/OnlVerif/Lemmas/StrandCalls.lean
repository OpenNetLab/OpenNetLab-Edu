import OnlVerif.Lemmas.StrandOps
import OnlVerif.Lemmas.CallShape
/-!
# Everything that is not a resource operation leaves the resources alone

Events, conditions, interrupts, process bookkeeping: each keeps the structural invariant `Pkg` and is a
non-resource frame step `NR`; hence it keeps the loop invariant `J`.  Then: every API call (`doCall`), under the
domain hypothesis `callDom`.
-/

variable {σ : Type}

abbrev Keeps (s s' : KState ℚ σ) : Prop := Pkg s' none ∧ NR s s'

theorem Keeps.refl {s : KState ℚ σ} (h : Pkg s none) : Keeps s s := ⟨h, NR.refl s⟩
theorem Keeps.trans {s1 s2 s3 : KState ℚ σ} (a : Keeps s1 s2) (b : Keeps s2 s3) : Keeps s1 s3 := ⟨b.1, a.2.trans b.2⟩

theorem J.keeps {s s' : KState ℚ σ} {rem : List Cb} (h : J s rem) (k : Keeps s s') : J s' rem ∧ Fr s s' :=
  ⟨h.nr k.1 k.2, k.2.fr⟩

/-- an update outside clock, agenda and the three tables (`emit`, `active`, `shared`) -/
theorem ghost_keeps {s s' : KState ℚ σ} (h : Pkg s none) (hn : s'.now = s.now) (ha : s'.agenda = s.agenda)
    (he : s'.events = s.events) (hp : s'.procs = s.procs) (hr : s'.resources = s.resources) : Keeps s s' :=
  ⟨h.congr ha he hp hr, NR.of_same hn ha he hp hr⟩

theorem Pushed.keeps {s s' : KState ℚ σ} {rec : EvRec ℚ} (hp : Pushed s s' rec) (h : Pkg s none)
    (hchk : ∀ l c, rec.cbs = some l → Cb.check c ∉ l) : Keeps s s' := ⟨hp.pkg h hchk, hp.nr⟩

theorem setMeta_keeps {s : KState ℚ σ} (h : Pkg s none) (x : EvId) (rec : EvRec ℚ) (hk : rec.kind = (s.ev x).kind)
    (hc : rec.cbs = (s.ev x).cbs) (ho : rec.out = (s.ev x).out) (hr : rec.req = (s.ev x).req) :
    Keeps s (s.setEv x rec) := by
  refine ⟨h.setEv x rec hk (fun l hl => ⟨l, by rw [hc]; exact hl, fun _ _ hm => hm⟩)
    (fun l' c hl hm => Or.inl ⟨l', by rw [← hc]; exact hl, hm⟩) (fun h1 => by rw [ho]; exact h1)
    (fun h1 h2 => absurd (ho ▸ h1) h2), ?_⟩
  refine NR.setEv s x rec hk (fun l hl => ⟨l, by rw [hc]; exact hl, fun _ _ hm => hm⟩) (fun h1 => by rw [ho]; exact h1) ?_
  unfold reqOf; rw [hr]

theorem defuse_keeps {s : KState ℚ σ} (h : Pkg s none) (e : EvId) : Keeps s (s.defuse e) :=
  setMeta_keeps h e _ rfl rfl rfl rfl

theorem bumpCount_keeps {s : KState ℚ σ} (h : Pkg s none) (c : EvId) : Keeps s (s.bumpCount c) :=
  setMeta_keeps h c _ rfl rfl rfl rfl

theorem mapCbs_keeps {s : KState ℚ σ} (h : Pkg s none) (x : EvId) (f : List Cb → List Cb)
    (hf : ∀ l cb', cb'.isTrig = true → cb' ∈ l → cb' ∈ f l)
    (hchk : ∀ l c, Cb.check c ∈ f l → Cb.check c ∈ l ∨ isCond s c = true) :
    Keeps s (s.setEv x { s.ev x with cbs := (s.ev x).cbs.map f }) := by
  have hcbs : ∀ l, (s.ev x).cbs = some l → ∃ l', ((s.ev x).cbs.map f) = some l' ∧
      ∀ cb', cb'.isTrig = true → cb' ∈ l → cb' ∈ l' := fun l hl => ⟨f l, by rw [hl]; rfl, hf l⟩
  refine ⟨h.setEv x _ rfl hcbs ?_ (fun h1 => h1) (fun h1 h2 => absurd h1 h2), NR.setEv s x _ rfl hcbs (fun h1 => h1) rfl⟩
  intro l' c hl hm
  cases hx : (s.ev x).cbs with
  | none => rw [hx] at hl; cases hl
  | some l =>
    simp only [hx, Option.map_some, Option.some.injEq] at hl
    subst hl
    exact (hchk l c hm).imp_left (fun hm => ⟨l, rfl, hm⟩)

theorem addCb_keeps {s : KState ℚ σ} (h : Pkg s none) (x : EvId) (cb : Cb)
    (hcb : ∀ c, cb = .check c → isCond s c = true) : Keeps s (s.addCb x cb) :=
  mapCbs_keeps h x (· ++ [cb]) (fun _ _ _ hm => List.mem_append_left _ hm)
    (fun _ c hm => (List.mem_append.mp hm).imp_right (fun hm => hcb c (List.mem_singleton.mp hm).symm))

theorem eraseCb_keeps {s : KState ℚ σ} (h : Pkg s none) (x : EvId) (cb : Cb) (hcb : cb.isTrig = false) :
    Keeps s (s.eraseCb x cb) :=
  mapCbs_keeps h x (·.erase cb)
    (fun _ cb' ht hm => (List.mem_erase_of_ne (fun heq => by rw [heq, hcb] at ht; cases ht)).mpr hm)
    (fun _ _ hm => Or.inl (List.mem_of_mem_erase hm))

theorem noQ_of_kind {s : KState ℚ σ} {ex : Option EvId} (h : Pkg s ex) (x : EvId)
    (hp : ∀ r, (s.ev x).kind ≠ .put r) (hg : ∀ r, (s.ev x).kind ≠ .get r) : NoQ s x :=
  fun r => ⟨fun hm => hp r (h.putQ r x hm).1, fun hm => hg r (h.getQ r x hm).1⟩

theorem noQ_of_isCond {s : KState ℚ σ} {ex : Option EvId} (h : Pkg s ex) (c : EvId) (hc : isCond s c = true) :
    NoQ s c := by
  apply noQ_of_kind h c <;> intro r hk <;> unfold isCond at hc <;> rw [hk] at hc <;> cases hc

theorem trigger_keeps {s : KState ℚ σ} (h : Pkg s none) (x : EvId) (o : Outcome) (hx : x < s.events.size)
    (hq : NoQ s x) : Keeps s (s.trigger x o) :=
  ⟨h.trigger x o hx (fun _ => Or.inl hq), NR.trigger s x o⟩

theorem mkInterrupt_keeps {s : KState ℚ σ} (h : Pkg s none) (p : EvId) (c : Val) : Keeps s (mkInterrupt s p c).1 :=
  ⟨h.mkInterrupt p c, NR.mkInterrupt s p c⟩

theorem isCond_keeps {s s' : KState ℚ σ} (k : Keeps s s') {c : EvId} (hc : isCond s c = true) : isCond s' c = true := by
  rw [isCond_congr (k.2.fr.kind c (isCond_lt hc))]; exact hc

theorem condCheck_keeps {s : KState ℚ σ} (h : Pkg s none) (c e : EvId) (hc : isCond s c = true) :
    Keeps s (condCheck s c e) := by
  have trig : ∀ (s1 : KState ℚ σ) (o : Outcome), Keeps s s1 → Keeps s (s1.trigger c o) := by
    intro s1 o k
    have hc1 := isCond_keeps k hc
    exact k.trans (trigger_keeps k.1 c o (isCond_lt hc1) (noQ_of_isCond k.1 c hc1))
  unfold condCheck
  split
  · exact Keeps.refl h
  · split
    · have k1 := bumpCount_keeps h c
      exact trig _ _ (k1.trans (defuse_keeps k1.1 e))
    · split
      · exact trig _ _ (bumpCount_keeps h c)
      · exact bumpCount_keeps h c

theorem foldl_inv {α : Type} (P : KState ℚ σ → Prop) (f : KState ℚ σ → α → KState ℚ σ)
    (hf : ∀ s a, P s → P (f s a)) : ∀ (l : List α) (s : KState ℚ σ), P s → P (l.foldl f s) := by
  intro l
  induction l with
  | nil => exact fun _ h => h
  | cons a l ih => exact fun s h => ih (f s a) (hf s a h)

theorem eraseCheck_keeps {s : KState ℚ σ} (h : Pkg s none) (c e : EvId) : Keeps s (eraseCheck s c e) := by
  unfold eraseCheck
  split
  · split
    · exact eraseCb_keeps h e _ rfl
    · exact Keeps.refl h
  · exact Keeps.refl h

theorem removeChecks_keeps : ∀ (fuel : Nat) (c : EvId) (s : KState ℚ σ), Pkg s none → Keeps s (removeChecks fuel c s) := by
  intro fuel
  induction fuel with
  | zero => exact fun _ _ h => Keeps.refl h
  | succ fuel ih =>
    intro c s h
    unfold removeChecks
    refine foldl_inv (fun s' => Keeps s s') _ ?_ _ s (Keeps.refl h)
    intro s' e k
    have k1 := eraseCheck_keeps k.1 c e
    split
    · exact k.trans (k1.trans (ih e _ k1.1))
    · exact k.trans k1

theorem condBuild_keeps {s : KState ℚ σ} (h : Pkg s none) (c : EvId) : Keeps s (condBuild s c) := by
  unfold condBuild
  simp only
  have k := removeChecks_keeps (c + 1) c s h
  split
  · rename_i v hv
    refine k.trans ⟨k.1.setOut c _ (fun h1 => ?_), NR.setOut _ c _⟩
    rw [hv] at h1; cases h1
  · exact k

theorem mkCond_keeps {s : KState ℚ σ} (h : Pkg s none) (all : Bool) (ops : List EvId) :
    Keeps s (mkCond s all ops).1 := by
  have hp := Pushed.newLabelled s { kind := .cond all ops, cbs := some [], out := none }
  have k1 := hp.keeps h (noCheck_of_all [] rfl)
  have hc1 : isCond (s.newLabelled { kind := .cond all ops, cbs := some [], out := none }).1 s.events.size = true := by
    unfold isCond; rw [hp.ev_new]
  unfold mkCond
  simp only
  by_cases hops : ops.isEmpty = true
  · rw [if_pos hops]
    exact k1.trans (trigger_keeps k1.1 _ _ (isCond_lt hc1) (noQ_of_isCond k1.1 _ hc1))
  · rw [if_neg hops]
    have hfold := foldl_inv (fun s' => Keeps s s' ∧ isCond s' s.events.size = true)
      (fun t e => if t.processed e then condCheck t s.events.size e else t.addCb e (.check s.events.size))
      (by
        intro s' e ⟨k, hc⟩
        split
        · have k2 := condCheck_keeps k.1 _ e hc
          exact ⟨k.trans k2, isCond_keeps k2 hc⟩
        · have k2 := addCb_keeps k.1 e (.check s.events.size) (fun c' hc' => Cb.check.inj hc' ▸ hc)
          exact ⟨k.trans k2, isCond_keeps k2 hc⟩)
      ops _ ⟨k1, hc1⟩
    exact hfold.1.trans (addCb_keeps hfold.1.1 s.events.size (.build s.events.size) (by intro c' hc'; cases hc'))

theorem deliverSt_keeps {s : KState ℚ σ} (h : Pkg s none) (p e : EvId) : Keeps s (deliverSt s p e) := by
  have k0 : Keeps s { s with active := some p } := ghost_keeps h rfl rfl rfl rfl rfl
  unfold deliverSt
  split
  · exact k0.trans (defuse_keeps k0.1 e)
  · exact k0

theorem finishProc_keeps {s : KState ℚ σ} (h : Pkg s none) (p : EvId) (pr : ProcRec σ) (o : Outcome)
    (hk : (s.ev p).kind = .proc) : Keeps s (finishProc s p pr o) := by
  have hx : p < s.events.size := KState.lt_of_kind (by rw [hk]; simp)
  have k1 := trigger_keeps h p o hx (noQ_of_kind h p (by rw [hk]; simp) (by rw [hk]; simp))
  have k2 : Keeps s ((s.trigger p o).emit (.ended p o s.now)) := k1.trans (ghost_keeps k1.1 rfl rfl rfl rfl rfl)
  have hk2 : ((((s.trigger p o).emit (.ended p o s.now))).ev p).kind = .proc := by
    rw [k2.2.fr.kind p hx]; exact hk
  have k3 : Keeps s (((s.trigger p o).emit (.ended p o s.now)).setProc p { pr with target := none }) :=
    k2.trans ⟨k2.1.setProc p _ hk2, NR.setProc _ p _⟩
  unfold finishProc
  exact k3.trans (ghost_keeps k3.1 rfl rfl rfl rfl rfl)

theorem register_keeps {s s' : KState ℚ σ} (h : Pkg s none) (p e' : EvId) (hr : register s p e' = some s') :
    Keeps s s' := by
  unfold register at hr
  split at hr
  · cases hr
  · cases hr
    have k1 := addCb_keeps h e' (.resume p) (by intro c hc; cases hc)
    exact k1.trans (ghost_keeps k1.1 rfl rfl rfl rfl rfl)

theorem doCall_J {s : KState ℚ σ} {rem : List Cb} (h : J s rem) (self : EvId) (c : Call ℚ σ) (hd : callDom s c) :
    J (doCall s self c).1 rem ∧ Fr s (doCall s self c).1 := by
  refine doCall_state_cases (fun s' => J s' rem ∧ Fr s s') s self c ⟨h, Fr.refl s⟩ ?_ ?_
    (fun e v hc => h.keeps (trigger_keeps h.pkg e _ (by subst hc; exact hd.1) (by subst hc; exact hd.2)))
    (fun e x hc => h.keeps (trigger_keeps h.pkg e _ (by subst hc; exact hd.1) (by subst hc; exact hd.2))) ?_
    (fun p cause => h.keeps (mkInterrupt_keeps h.pkg p cause))
    (fun e tag => h.keeps (addCb_keeps h.pkg e _ (by intro c hc; cases hc)))
    (fun all ops => h.keeps (mkCond_keeps h.pkg all ops)) h.newPut h.newGet h.cancel
    (fun o => h.keeps (ghost_keeps h.pkg rfl rfl rfl rfl rfl)) (fun l => h.keeps (ghost_keeps h.pkg rfl rfl rfl rfl rfl))
  · intro d v
    have hp := Pushed.newLabelled s { kind := .timeout, cbs := some [], out := some (.ok v) }
    have k1 := hp.keeps h.pkg (noCheck_of_all [] rfl)
    exact h.keeps (k1.trans ⟨k1.1.schedule s.events.size _ _ (by rw [hp.ev_new]; simp), NR.schedule _ _ _ _⟩)
  · exact h.keeps ((Pushed.newLabelled s { kind := .plain, cbs := some [], out := none }).keeps h.pkg (noCheck_of_all [] rfl))
  · intro st
    have hp1 := Pushed.newLabelled s { kind := .proc, cbs := some [], out := none }
    have k1 := hp1.keeps h.pkg (noCheck_of_all [] rfl)
    have k2 : Keeps s ((s.newLabelled { kind := .proc, cbs := some [], out := none }).1.setProc s.events.size
        { st := st, target := some (s.events.size + 1) }) :=
      k1.trans ⟨k1.1.setProc _ _ (by rw [hp1.ev_new]), NR.setProc _ _ _⟩
    have hp3 := Pushed.newEv ((s.newLabelled { kind := .proc, cbs := some [], out := none }).1.setProc s.events.size
        { st := st, target := some (s.events.size + 1) })
        { kind := .init s.events.size, cbs := some [.resume s.events.size], out := some (.ok .none) }
    have k3 := k2.trans (hp3.keeps k2.1 (noCheck_of_all [.resume _] rfl))
    refine h.keeps (k3.trans ⟨k3.1.schedule _ _ _ ?_, NR.schedule _ _ _ _⟩)
    have hsz : ((s.newLabelled { kind := .proc, cbs := some [], out := none }).1.setProc s.events.size
        { st := st, target := some (s.events.size + 1) }).events.size = s.events.size + 1 := hp1.size
    have hev := hp3.ev_new
    rw [hsz] at hev
    rw [hev]; simp

theorem noteErr_J {rem : List Cb} (self : EvId) (sr : KState ℚ σ × Reply) (h : J sr.1 rem) :
    J (noteErr self sr) rem ∧ Fr sr.1 (noteErr self sr) := by
  unfold noteErr
  split
  · exact h.keeps (ghost_keeps h.pkg rfl rfl rfl rfl rfl)
  · exact ⟨h, Fr.refl _⟩
