import OnlVerif.Lemmas.SndKStepScr
/-!
# The TCP sender on the kernel model: a burst of `run` (LTS action `wake`)

One iteration of the sending loop, the invariants along the loop (`ARun`), the three ways a burst ends (return, a `get`
that is served at once, a `get` that waits), and the whole burst by induction on the fuel (`frag_run`).
-/

namespace SndK

open SenderOnK TcpSender TcpScalar
open KProc (GInv hrun)

/-- what holds of a configuration while `run` executes its sending loop: `AInv` without the clause about `run` itself -/
structure ARun (cfg : Cfg) (a : A) : Prop where
  inv : Inv a.S
  kind : a.S.kind = cfg.kind
  mss : a.S.mss = cfg.mss
  size : a.S.size = some cfg.size
  mpos : 0 < cfg.mss
  spos : 0 < cfg.size
  dvd : cfg.mss ∣ cfg.size
  tks : a.tks = segKeys cfg.mss a.S.next_seq
  nmul : cfg.mss ∣ a.S.next_seq
  bufle : a.S.send_buffer ≤ cfg.size
  tkeys : (AL.keys a.S.timers).Sublist a.tks
  proc : a.S.proc = .runnable
  scr : ScrA a a.scr
  pend : ∀ u ∈ a.pend, u.time = a.S.now ∧ u.prio = NORMAL
  tm : ∀ seq ∈ a.tks, TmA a seq
  putAt : a.putAt ≤ a.S.now

theorem segKeys_succ {mss next : Nat} (hm : 0 < mss) (hd : mss ∣ next) :
    segKeys mss (next + mss) = segKeys mss next ++ [next] := by
  obtain ⟨k, rfl⟩ := hd
  unfold segKeys
  have e1 : (mss * k + mss) / mss = k + 1 := by
    rw [show mss * k + mss = mss * (k + 1) by ring]
    exact Nat.mul_div_cancel_left _ hm
  have e2 : mss * k / mss = k := Nat.mul_div_cancel_left _ hm
  rw [e1, e2, List.range_succ, List.map_append]
  simp [Nat.mul_comm]

theorem not_mem_segKeys {mss next : Nat} (hm : 0 < mss) : next ∉ segKeys mss next := by
  unfold segKeys
  simp only [List.mem_map, List.mem_range, not_exists, not_and]
  intro i hi he
  have : i * mss < next := by
    calc i * mss < (next / mss) * mss := Nat.mul_lt_mul_of_pos_right hi hm
    _ ≤ next := Nat.div_mul_le_self _ _
  omega

theorem mem_segKeys_lt {mss next k : Nat} (h : k ∈ segKeys mss next) (hm : 0 < mss) : k < next := by
  unfold segKeys at h
  simp only [List.mem_map, List.mem_range] at h
  obtain ⟨i, hi, rfl⟩ := h
  calc i * mss < (next / mss) * mss := Nat.mul_lt_mul_of_pos_right hi hm
  _ ≤ next := Nat.div_mul_le_self _ _

variable {c : KProc.Cfg St} {a : A}

theorem size_ne {cfg : Cfg} (hr : ARun cfg a) : (cfg.size != 0) = true := by
  have := hr.spos
  simp only [bne_iff_ne, ne_eq]; omega

theorem pktSize_eq {cfg : Cfg} (hr : ARun cfg a) : a.S.pktSize = min cfg.mss (cfg.size - a.S.next_seq) ∧
    pktSize cfg a.S.next_seq = min cfg.mss (cfg.size - a.S.next_seq) := by
  unfold Sender.pktSize pktSize
  rw [hr.size, hr.mss]
  simp only [size_ne hr, if_true, and_self]

/-- `while self.next_seq >= self.send_buffer: self.send_buffer += packet_size` -/
theorem frag_refill {cfg : Cfg} {p : EvId} (h : Mid p c a) (hr : ARun cfg a)
    (hnd : ¬ (cfg.size != 0 && decide (a.S.next_seq ≥ cfg.size)) = true) :
    ∃ c', (∀ cont : Nat → B ℚ, hrun p (sndRefill cfg a.S.next_seq (a.S.next_seq + 2) a.S.send_buffer cont) c =
        hrun p (cont a.S.refill.send_buffer) c') ∧ Mid p c' { a with S := a.S.refill } ∧
      c'.reg.evSize = c.reg.evSize ∧ c'.reg.eid = c.reg.eid := by
  obtain ⟨hp1, hp2⟩ := pktSize_eq hr
  have hps : a.S.pktSize = pktSize cfg a.S.next_seq := hp1.trans hp2.symm
  have hlt : a.S.next_seq < cfg.size := by
    rw [size_ne hr, Bool.true_and] at hnd
    simpa using hnd
  have hmp := hr.mpos
  unfold Sender.refill
  by_cases hge : a.S.next_seq ≥ a.S.send_buffer
  · rw [if_pos hge]
    refine ⟨_, fun cont => ?_, (h.set_buf (a.S.send_buffer + a.S.pktSize)), rfl, rfl⟩
    have hn2 : ¬ a.S.next_seq ≥ a.S.send_buffer + pktSize cfg a.S.next_seq := by
      have := hr.inv.buf; omega
    show hrun p (sndRefill cfg a.S.next_seq (a.S.next_seq + 1 + 1) a.S.send_buffer cont) c = _
    rw [sndRefill, if_pos hge, hr_storeNat, sndRefill, if_neg hn2, hps]
  · rw [if_neg hge]
    refine ⟨c, fun cont => ?_, h, rfl, rfl⟩
    show hrun p (sndRefill cfg a.S.next_seq (a.S.next_seq + 1 + 1) a.S.send_buffer cont) c = _
    rw [sndRefill, if_neg hge]

theorem flowDone_eq {cfg : Cfg} (hr : ARun cfg a) :
    a.S.flowDone = (cfg.size != 0 && decide (a.S.next_seq ≥ cfg.size)) := by
  unfold Sender.flowDone
  rw [hr.size]

theorem guard_eq {cfg : Cfg} (hr : ARun cfg a) :
    TCPPacketGenerator.run_send_guard (Num.ofNat a.S.next_seq : ℚ) (Num.ofNat cfg.mss) (Num.ofNat a.S.refill.send_buffer)
      (Num.ofNat a.S.refill.last_ack) a.S.refill.cc.cwnd = a.S.refill.guard := by
  obtain ⟨_, _, _, _, _, ff, _, fh, _, _, _⟩ := refill_frame a.S
  unfold Sender.guard
  rw [ff, fh, hr.mss]

/-- the configuration after one segment has been sent (`P`, `eid`: the next free event index and agenda counter) -/
def aEmit (a : A) (mss : Nat) (P eid : Nat) : A :=
  { a with
    S := { a.S.refill with sent := AL.set a.S.next_seq a.S.now a.S.refill.sent, next_seq := a.S.next_seq + mss,
                            timers := AL.set a.S.next_seq (Sender.arm a.S.now a.S.est.rto) a.S.refill.timers }
    txs := a.txs ++ [(a.S.next_seq, a.S.now)]
    tks := a.tks ++ [a.S.next_seq]
    tmp := upd a.tmp a.S.next_seq P
    tph := upd a.tph a.S.next_seq (.init ⟨a.S.now, URGENT, eid, P + 1⟩)
    tmc := upd a.tmc a.S.next_seq ⟨false, a.S.now + a.S.est.rto, a.S.est.rto, a.S.now⟩ }

theorem run_iter_sent {cfg : Cfg} (h : Mid 0 c a) (hr : ARun cfg a) (n : Nat)
    (hnd : ¬ (cfg.size != 0 && decide (a.S.next_seq ≥ cfg.size)) = true) (hg : a.S.refill.guard = true) :
    ∃ c1, hrun 0 (sndRun cfg a.S.now (n + 1)) c = hrun 0 (sndRun cfg a.S.now n) c1 ∧
      Mid 0 c1 (aEmit a cfg.mss c.reg.evSize c.reg.eid) ∧
      a.S.sendStep = .sent (aEmit a cfg.mss c.reg.evSize c.reg.eid).S
        { seq := a.S.next_seq, size := cfg.mss, stamp := a.S.now, kind := .new } := by
  obtain ⟨fa, fb, fc, fd, fe, ff, fg, fh, fi, fj, fk⟩ := refill_frame a.S
  obtain ⟨c1, r1, h1, hz1, hz2⟩ := frag_refill (p := 0) h hr hnd
  have h2 := h1.set_sent a.S.next_seq a.S.now
  have h3 := h2.log a.S.next_seq
  have h4 := h3.set_next (a.S.next_seq + cfg.mss)
  have hrto : 0 < a.S.est.rto := hr.inv.rto_pos
  have hnx : a.S.next_seq ∉ a.tks := by rw [hr.tks]; exact not_mem_segKeys hr.mpos
  obtain ⟨c5, r5, h5⟩ := frag_mkTimer (seq := a.S.next_seq) (tmo := a.S.est.rto) h4 hnx hrto
  have h6 := h5.set_tin a.S.next_seq (Sender.arm a.S.now a.S.est.rto)
  refine ⟨_, ?_, h6.congr ?_, ?_⟩
  · show hrun 0 (loadNat cNext _) c = _
    rw [hr_loadNat (h.c.slot .next), if_neg hnd, hr_loadNat (h.c.slot .buf), r1, hr_loadNat (h1.c.slot .lack),
      hr_loadTime (cCwnd_cell h1.c.cc)]
    rw [if_pos ((guard_eq hr).trans hg), hr_storeTime, hr_log, hr_storeNat, hr_loadTime (x := a.S.est.rto) ((h4.c.slot .rto).trans (congrArg (fun e : RttEst ℚ => TimeCell.enc e.rto) fe))]
    have := r5 (storeNat (cTmIn a.S.next_seq) 1 (sndRun cfg a.S.now n))
    rw [show ({ a with S := a.S.refill } : A).S.now = a.S.now from fi] at this
    rw [this, hr_storeNat]
    rfl
  · unfold aEmit
    simp only [fi, fe, setC, logC, hz1, hz2]
  · unfold Sender.sendStep
    have hfd : a.S.flowDone = false := by rw [flowDone_eq hr]; simpa using hnd
    rw [hfd]
    simp only [Bool.false_eq_true, if_false, hg, if_true]
    rw [emit_ok (s := a.S.refill) (by rw [fe]; exact hrto)]
    simp only [aEmit, ff, fh, fi, fe, hr.mss]

theorem refill_more (S : Sender ℚ) : S.refill.size = S.size ∧ S.refill.proc = S.proc ∧ S.refill.tokens = S.tokens := by
  unfold Sender.refill
  split <;> exact ⟨rfl, rfl, rfl⟩

theorem refill_buf_le {cfg : Cfg} (hr : ARun cfg a) : a.S.refill.send_buffer ≤ cfg.size := by
  unfold Sender.refill
  split
  · rename_i hge
    show a.S.send_buffer + a.S.pktSize ≤ cfg.size
    have hb := hr.inv.buf
    have hle := hr.bufle
    have := (pktSize_eq hr).1
    omega
  · exact hr.bufle

theorem ARun.emit {cfg : Cfg} (hr : ARun cfg a) (P eid : Nat)
    (hs : a.S.sendStep = .sent (aEmit a cfg.mss P eid).S { seq := a.S.next_seq, size := cfg.mss, stamp := a.S.now, kind := .new }) :
    ARun cfg (aEmit a cfg.mss P eid) := by
  obtain ⟨fa, fb, fc, fd, fe, ff, fg, fh, fi, fj, fk⟩ := refill_frame a.S
  obtain ⟨g1, g2, g3⟩ := refill_more a.S
  obtain ⟨i1, _⟩ := (sendStep_spec hr.inv).2.1 _ _ hs
  have hnx : a.S.next_seq ∉ a.tks := by rw [hr.tks]; exact not_mem_segKeys hr.mpos
  have hnk : a.S.next_seq ∉ AL.keys a.S.timers := fun h => hnx (hr.tkeys.subset h)
  have hrto : 0 < a.S.est.rto := hr.inv.rto_pos
  refine ⟨i1, fa.trans hr.kind, fh.trans hr.mss, g1.trans hr.size, hr.mpos, hr.spos, hr.dvd, ?_, ?_, refill_buf_le hr, ?_,
    g2.trans hr.proc, hr.scr.congr fi, fun u hu => by
      show u.time = a.S.refill.now ∧ _
      rw [fi]; exact hr.pend u hu, ?_, by show a.putAt ≤ a.S.refill.now; rw [fi]; exact hr.putAt⟩
  · show a.tks ++ [a.S.next_seq] = segKeys cfg.mss (a.S.next_seq + cfg.mss)
    rw [segKeys_succ hr.mpos hr.nmul, hr.tks]
  · show cfg.mss ∣ a.S.next_seq + cfg.mss
    exact Dvd.dvd.add hr.nmul (dvd_refl _)
  · show (AL.keys (AL.set a.S.next_seq _ a.S.refill.timers)).Sublist (a.tks ++ [a.S.next_seq])
    rw [fc, AL.keys_set, if_neg hnk]
    exact List.Sublist.append hr.tkeys (List.Sublist.refl _)
  · intro seq hs'
    have hs2 : seq ∈ a.tks ++ [a.S.next_seq] := hs'
    rcases List.mem_append.mp hs2 with h | h
    · have hne : seq ≠ a.S.next_seq := fun e => hnx (e ▸ h)
      refine (hr.tm seq h).congr ?_ (upd_ne _ _ _ _ hne) (upd_ne _ _ _ _ hne) fi
      show AL.get? seq (AL.set a.S.next_seq _ a.S.refill.timers) = _
      rw [AL_get?_set, if_neg hne, fc]
    · simp only [List.mem_singleton] at h
      subst h
      have hg : AL.get? a.S.next_seq (aEmit a cfg.mss P eid).S.timers =
          some ⟨a.S.now + a.S.est.rto, a.S.now + a.S.est.rto, true⟩ := by
        show AL.get? a.S.next_seq (AL.set a.S.next_seq _ a.S.refill.timers) = _
        rw [AL_get?_set, if_pos rfl, arm_eq _ _ hrto]
      exact TmA.of_live_at (upd_same ..) (upd_same ..) hg rfl ⟨fi.symm, rfl, fi ▸ lt_add_of_pos_right _ hrto⟩

theorem ARun.finish {cfg : Cfg} (hr : ARun cfg a) (tk : Nat) (pc : Proc) (ph : RPhase)
    (hrunA : RunA { a with S := { a.S with tokens := tk, proc := pc }, run := ph, cur := none } ph) :
    AInv cfg { a with S := { a.S with tokens := tk, proc := pc }, run := ph, cur := none } :=
  ⟨hr.inv.transfer rfl rfl rfl rfl rfl hr.inv.buf, hr.kind, hr.mss, hr.size, hr.mpos, hr.spos, hr.dvd, hr.tks, hr.nmul, hr.bufle,
    hr.tkeys, rfl, hrunA, hr.scr.congr rfl, hr.pend, fun seq hs => (hr.tm seq hs).congr rfl rfl rfl rfl, hr.putAt⟩

theorem ARun.refill {cfg : Cfg} (hr : ARun cfg a) : ARun cfg { a with S := a.S.refill } := by
  obtain ⟨fa, fb, fc, fd, fe, ff, fg, fh, fi, fj, fk⟩ := refill_frame a.S
  obtain ⟨g1, g2, g3⟩ := refill_more a.S
  refine ⟨inv_refill hr.inv, fa.trans hr.kind, fh.trans hr.mss, g1.trans hr.size, hr.mpos, hr.spos, hr.dvd, ?_, ?_,
    refill_buf_le hr, ?_, g2.trans hr.proc, hr.scr.congr fi, fun u hu => by
      show u.time = a.S.refill.now ∧ _
      rw [fi]; exact hr.pend u hu, fun seq hs => (hr.tm seq hs).congr (by show AL.get? seq a.S.refill.timers = _; rw [fc]) rfl rfl fi,
    by show a.putAt ≤ a.S.refill.now; rw [fi]; exact hr.putAt⟩
  · show a.tks = segKeys cfg.mss a.S.refill.next_seq
    rw [ff]; exact hr.tks
  · show cfg.mss ∣ a.S.refill.next_seq
    rw [ff]; exact hr.nmul
  · show (AL.keys a.S.refill.timers).Sublist a.tks
    rw [fc]; exact hr.tkeys

theorem div_step {x m : Nat} (hm : 0 < m) (h : m ≤ x) : (x - m) / m + 1 = x / m := by
  have : x = (x - m) + m := by omega
  conv_rhs => rw [this]
  rw [Nat.add_div_right _ hm]

/-- **a resumption of `run`**: the program and the LTS go through the sending loop in lockstep; the loop ends (`return`,
or `yield self.cwnd_avaialbe.get()`) before the unrolling bound -/
theorem frag_run {cfg : Cfg} :
    ∀ (n : Nat) (c : KProc.Cfg St) (a : A) (outs : List (Tx ℚ)), Mid 0 c a → ARun cfg a → a.run.getQ = [] →
      (runTh a.run).cbs = some [] → (cfg.size - a.S.next_seq) / cfg.mss + 1 ≤ n →
      ∃ a' new, Ends 0 (sndRun cfg a.S.now n) c a' ∧
        Sender.runLoop n a.S outs = .ok a'.S (outs ++ new) ∧ a'.txs = a.txs ++ new.map txPair ∧ AInv cfg a'
  | 0, _, _, _, _, _, _, _, hn => absurd hn (Nat.not_succ_le_zero _)
  | n + 1, c, a, outs, h, hr, hgq, hcb, hn => by
    obtain ⟨fa, fb, fc, fd, fe, ff, fg, fh, fi, fj, fk⟩ := refill_frame a.S
    by_cases hd : (cfg.size != 0 && decide (a.S.next_seq ≥ cfg.size)) = true
    · -- the flow is done
      refine ⟨{ a with S := { a.S with proc := .finished }, run := .ending ⟨c.reg.now, NORMAL, c.reg.eid, 0⟩, cur := none }, [],
        .congr ?_ (h.returns (pid_runTh _) (congrArg Option.isSome hcb)
        ((Swap.run (κ := kernOf a) rfl _).to hcb (by rw [pid_runTh]; rfl)) ⟨rfl, hgq.symm⟩), ?_, by simp, ?_⟩
      · show hrun 0 (loadNat cNext _) c = _
        rw [hr_loadNat (h.c.slot .next), if_pos hd]
      · unfold Sender.runLoop Sender.sendStep
        rw [flowDone_eq hr, hd]
        simp
      · exact hr.finish a.S.tokens .finished (.ending ⟨c.reg.now, NORMAL, c.reg.eid, 0⟩) ⟨rfl, rfl⟩
    · by_cases hg : a.S.refill.guard = true
      · -- a segment is sent
        obtain ⟨c1, r1, h1, hs1⟩ := run_iter_sent h hr n hd hg
        have hr1 := hr.emit _ _ hs1
        have hle : a.S.next_seq + cfg.mss ≤ cfg.size := by
          have := hr1.inv.buf
          have hb := hr1.bufle
          have e1 : (aEmit a cfg.mss c.reg.evSize c.reg.eid).S.next_seq = a.S.next_seq + cfg.mss := rfl
          rw [e1] at this
          exact le_trans this hb
        have hn1 : (cfg.size - (aEmit a cfg.mss c.reg.evSize c.reg.eid).S.next_seq) / cfg.mss + 1 ≤ n := by
          show (cfg.size - (a.S.next_seq + cfg.mss)) / cfg.mss + 1 ≤ n
          have := div_step hr.mpos (show cfg.mss ≤ cfg.size - a.S.next_seq by omega)
          rw [Nat.sub_add_eq]
          omega
        obtain ⟨a', new, e1, e4, e5, e6⟩ := frag_run n c1 _
          (outs ++ [{ seq := a.S.next_seq, size := cfg.mss, stamp := a.S.now, kind := .new }]) h1 hr1 hgq hcb hn1
        refine ⟨a', { seq := a.S.next_seq, size := cfg.mss, stamp := a.S.now, kind := .new } :: new, ?_, ?_, ?_, e6⟩
        · have : (aEmit a cfg.mss c.reg.evSize c.reg.eid).S.now = a.S.now := fi
          rw [this] at e1
          exact .congr r1 e1
        · unfold Sender.runLoop
          rw [hs1]
          simp only
          rw [e4]
          simp
        · rw [e5]
          show a.txs ++ [(a.S.next_seq, a.S.now)] ++ _ = _
          simp [txPair]
      · -- the window is closed: `yield self.cwnd_avaialbe.get()`
        obtain ⟨c1, r1, h1, hz1, hz2⟩ := frag_refill (p := 0) h hr hd
        have hrr := hr.refill
        obtain ⟨g1, g2, g3⟩ := refill_more a.S
        have hK : hrun 0 (sndRun cfg a.S.now (n + 1)) c = hrun 0 (sndWait a.S.now) c1 := by
          show hrun 0 (loadNat cNext _) c = _
          rw [hr_loadNat (h.c.slot .next), if_neg hd, hr_loadNat (h.c.slot .buf), r1, hr_loadNat (h1.c.slot .lack), hr_loadTime (cCwnd_cell h1.c.cc)]
          rw [if_neg (guard_eq hr ▸ hg)]
        have hL : a.S.sendStep = .yielded a.S.refill.getToken := by
          unfold Sender.sendStep
          have hfd : a.S.flowDone = false := by rw [flowDone_eq hr]; simpa using hd
          rw [hfd]
          simp only [Bool.false_eq_true, if_false, hg]
        have hnow1 : c1.reg.now = a.S.now := h1.k.now.trans fi
        cases htk : a.S.refill.tokens with
        | zero =>
          refine ⟨_, [], .congr hK (h1.get_miss a.S.now hgq hcb htk), ?_, by simp, ?_⟩
          · unfold Sender.runLoop
            rw [hL]
            simp only [List.append_nil]
            unfold Sender.getToken
            simp [htk]
          · exact hrr.finish a.S.refill.tokens .blocked (.blocked c1.reg.evSize a.S.now)
              ⟨rfl, by show a.S.now ≤ a.S.refill.now; rw [fi], by show a.S.refill.tokens ≤ _; omega,
                fun hp => by have : 0 < a.S.refill.tokens := hp; omega⟩
        | succ m =>
          refine ⟨_, [], .congr hK (h1.get_hit a.S.now hgq hcb htk), ?_, by simp, ?_⟩
          · unfold Sender.runLoop
            rw [hL]
            simp only [List.append_nil]
            unfold Sender.getToken
            simp [htk]
          · exact hrr.finish m .runnable (.handed c1.reg.evSize a.S.now ⟨c1.reg.now, NORMAL, c1.reg.eid, c1.reg.evSize⟩)
              ⟨hnow1.trans fi.symm, rfl, rfl, by
                show Num.pymax a.S.now a.putAt = a.S.refill.now
                rw [fi]
                unfold Num.pymax
                rw [if_neg (not_lt.mpr hr.putAt)]⟩

end SndK
