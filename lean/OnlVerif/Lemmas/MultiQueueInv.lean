import OnlVerif.Lemmas.MultiQueue
/-!
# MultiQueueServer: the generic invariant

For every scheduler record that blocks only when `total_packets == 0` and never issues a `get` on a class with a
parked head-of-line packet (`Lawful`), every reachable state satisfies `Inv`:

* the per-flow counters equal the packets/bytes of that flow held (waiting, parked, handed, in transmission),
* `total_packets` equals the number of packets held,
* no lost wake-up: blocked on the token store without a token ⇒ nothing is held,
* `current_packet` is the packet of the sender process,

and every accepted step conserves the packets of every class as *lists* (`step_inv`).
-/

namespace MQ
variable {κ : Type}

/-- the scheduler never parks a packet (SP, RR, WRR) -/
def NeverParks (sc : Sched ℚ κ) : Prop := ∀ k v c p k', sc.onPkt k v c p ≠ .park k'

structure Lawful (sc : Sched ℚ κ) : Prop where
  block_total : ∀ k v k', sc.micro k v = .block k' → v.total = 0
  get_no_hol : ∀ k v c k', sc.micro k v = .get c k' → v.parked c = none ∨ NeverParks sc

/-- the packet the loop / its sender holds outside the stores -/
def inHand (s : MQState ℚ κ) : List MPkt :=
  match s.phase with
  | .pktHanded _ p => [p]
  | .spawned p => [p]
  | .sending p _ => [p]
  | _ => []

def wsum (w : MPkt → Int) (l : List MPkt) : Int := (l.map w).sum

def wOpt (w : MPkt → Int) : Option MPkt → Int
  | some p => w p
  | none => 0

@[simp] theorem wsum_nil (w : MPkt → Int) : wsum w [] = 0 := rfl
@[simp] theorem wsum_cons (w : MPkt → Int) (p : MPkt) (l : List MPkt) : wsum w (p :: l) = w p + wsum w l := by
  simp [wsum]
@[simp] theorem wsum_append (w : MPkt → Int) (l1 l2 : List MPkt) : wsum w (l1 ++ l2) = wsum w l1 + wsum w l2 := by
  simp [wsum]
@[simp] theorem wOpt_none (w : MPkt → Int) : wOpt w none = 0 := rfl
@[simp] theorem wOpt_some (w : MPkt → Int) (p : MPkt) : wOpt w (some p) = w p := rfl

/-- `w`-weight of everything held: in hand, parked, stored -/
def W (w : MPkt → Int) (s : MQState ℚ κ) : Int :=
  wsum w (inHand s) + wsumMap (wOpt w) s.hol + wsumMap (wsum w) s.stores

/-- the packets of class `c` that are held, oldest first -/
def heldC (sc : Sched ℚ κ) (s : MQState ℚ κ) (c : Nat) : List MPkt :=
  (inHand s).filter (fun p => decide (sc.classOf p.flow = some c)) ++ (lookupD s.hol c none).toList ++ storeOf s.stores c

def one (f : Nat) (p : MPkt) : Int := if p.flow = f then 1 else 0
def bytesOf (f : Nat) (p : MPkt) : Int := if p.flow = f then (p.size : Int) else 0

structure Inv (sc : Sched ℚ κ) (s : MQState ℚ κ) : Prop where
  storeClass : ∀ c p, p ∈ storeOf s.stores c → sc.classOf p.flow = some c
  holClass : ∀ c p, lookupD s.hol c none = some p → sc.classOf p.flow = some c
  handClass : ∀ c p, s.phase = .pktHanded c p → sc.classOf p.flow = some c
  count : ∀ f, cnt s.queueCount f = W (one f) s
  bytes : ∀ f, cnt s.queueBytes f = W (bytesOf f) s
  tot : total s.queueCount = W (fun _ => 1) s
  wake : s.phase = .waitToken → s.tokens = 0 → total s.queueCount = 0
  curTx : ∀ p d, s.phase = .sending p d → s.currentPacket = some p
  curOnly : ∀ p, s.currentPacket = some p → s.phase = .spawned p ∨ ∃ d, s.phase = .sending p d
  holNone : NeverParks sc → ∀ c, lookupD s.hol c none = none

theorem W_stores_set (w : MPkt → Int) (m : List (Nat × List MPkt)) (c : Nat) (l : List MPkt) :
    wsumMap (wsum w) (setKey m c l) + wsum w (storeOf m c) = wsumMap (wsum w) m + wsum w l :=
  wsumMap_setKey (wsum w) [] rfl m c l

theorem W_hol_set (w : MPkt → Int) (m : List (Nat × Option MPkt)) (c : Nat) (v : Option MPkt) :
    wsumMap (wOpt w) (setKey m c v) + wOpt w (lookupD m c none) = wsumMap (wOpt w) m + wOpt w v :=
  wsumMap_setKey (wOpt w) none rfl m c v

theorem storeOf_setKey (m : List (Nat × List MPkt)) (c c' : Nat) (l : List MPkt) :
    storeOf (setKey m c l) c' = if c' = c then l else storeOf m c' := lookupD_setKey m c c' l []

/-- a move that keeps the stores, the parked packets, the counters and what is in hand keeps the invariant and every
class's packets, given the facts that depend on phase, tokens and `current_packet` -/
theorem Inv.frame {sc : Sched ℚ κ} {s s' : MQState ℚ κ} (h : Inv sc s)
    (hin : inHand s' = inHand s) (hand : ∀ c p, s'.phase = .pktHanded c p → s.phase = .pktHanded c p)
    (wake : s'.phase = .waitToken → s'.tokens = 0 → total s.queueCount = 0)
    (curTx : ∀ p d, s'.phase = .sending p d → s'.currentPacket = some p)
    (curOnly : ∀ p, s'.currentPacket = some p → s'.phase = .spawned p ∨ ∃ d, s'.phase = .sending p d)
    (hst : s'.stores = s.stores := by rfl) (hhol : s'.hol = s.hol := by rfl)
    (hqc : s'.queueCount = s.queueCount := by rfl) (hqb : s'.queueBytes = s.queueBytes := by rfl) :
    Inv sc s' ∧ ∀ c, heldC sc s' c = heldC sc s c := by
  have hW : ∀ w, W w s' = W w s := fun w => by simp only [W, hin, hhol, hst]
  exact ⟨⟨hst ▸ h.storeClass, hhol ▸ h.holClass, fun c p hp => h.handClass c p (hand c p hp),
    fun f => by rw [hqc, hW]; exact h.count f, fun f => by rw [hqb, hW]; exact h.bytes f,
    by rw [hqc, hW]; exact h.tot, fun h1 h2 => hqc ▸ wake h1 h2, curTx, curOnly,
    fun hn c => by rw [hhol]; exact h.holNone hn c⟩, fun c => by simp only [heldC, hin, hhol, hst]⟩

/-- reading `queue_count[f]` and moving the control point changes nothing the invariant speaks about -/
theorem inv_touch_ctl (sc : Sched ℚ κ) (s : MQState ℚ κ) (k : κ) (h : Inv sc s) :
    Inv sc { touch sc s with ctl := k } := by
  unfold touch
  split
  · exact ⟨h.storeClass, h.holClass, h.handClass,
      fun f => by show cnt (bump s.queueCount _ 0) f = W (one f) s; rw [cnt_bump_zero]; exact h.count f,
      h.bytes, by show total (bump s.queueCount _ 0) = W (fun _ => 1) s; rw [total_bump]; simpa using h.tot,
      fun h1 h2 => by show total (bump s.queueCount _ 0) = 0; rw [total_bump]; simpa using h.wake h1 h2,
      h.curTx, h.curOnly, h.holNone⟩
  · exact ⟨h.storeClass, h.holClass, h.handClass, h.count, h.bytes, h.tot, h.wake, h.curTx, h.curOnly, h.holNone⟩

theorem touch_phase (sc : Sched ℚ κ) (s : MQState ℚ κ) : (touch sc s).phase = s.phase := by
  unfold touch; split <;> rfl
theorem touch_hol (sc : Sched ℚ κ) (s : MQState ℚ κ) : (touch sc s).hol = s.hol := by
  unfold touch; split <;> rfl
theorem touch_stores (sc : Sched ℚ κ) (s : MQState ℚ κ) : (touch sc s).stores = s.stores := by
  unfold touch; split <;> rfl
theorem touch_cur (sc : Sched ℚ κ) (s : MQState ℚ κ) : (touch sc s).currentPacket = s.currentPacket := by
  unfold touch; split <;> rfl
theorem touch_tokens (sc : Sched ℚ κ) (s : MQState ℚ κ) : (touch sc s).tokens = s.tokens := by
  unfold touch; split <;> rfl
theorem touch_now (sc : Sched ℚ κ) (s : MQState ℚ κ) : (touch sc s).now = s.now := by
  unfold touch; split <;> rfl
theorem touch_ctl (sc : Sched ℚ κ) (s : MQState ℚ κ) : (touch sc s).ctl = s.ctl := by
  unfold touch; split <;> rfl
theorem touch_total (sc : Sched ℚ κ) (s : MQState ℚ κ) : total (touch sc s).queueCount = total s.queueCount := by
  unfold touch; split
  · show total (bump s.queueCount _ 0) = _; rw [total_bump]; simp
  · rfl
theorem touch_cnt (sc : Sched ℚ κ) (s : MQState ℚ κ) (f : Nat) : cnt (touch sc s).queueCount f = cnt s.queueCount f := by
  unfold touch; split
  · show cnt (bump s.queueCount _ 0) f = _; rw [cnt_bump_zero]
  · rfl
theorem touch_bytes (sc : Sched ℚ κ) (s : MQState ℚ κ) : (touch sc s).queueBytes = s.queueBytes := by
  unfold touch; split <;> rfl

theorem heldC_touch_ctl (sc : Sched ℚ κ) (s : MQState ℚ κ) (k : κ) (c : Nat) :
    heldC sc { touch sc s with ctl := k } c = heldC sc s c := by
  simp only [heldC, inHand, touch_phase, touch_hol, touch_stores]

theorem cur_none_of (sc : Sched ℚ κ) (s : MQState ℚ κ) (h : Inv sc s)
    (hn : inHand s = [] ∨ ∃ c p, s.phase = .pktHanded c p) : s.currentPacket = none := by
  cases hc : s.currentPacket with
  | none => rfl
  | some q =>
    exfalso
    rcases h.curOnly q hc with h1 | ⟨d, h1⟩ <;> rcases hn with hn | ⟨c, p, hn⟩ <;> simp [inHand, h1] at hn

theorem cur_none_of_running (sc : Sched ℚ κ) (s : MQState ℚ κ) (h : Inv sc s) (hr : s.phase = .running) :
    s.currentPacket = none :=
  cur_none_of sc s h (.inl (by simp [inHand, hr]))

/-- `yield store.get()` on a class without a parked packet -/
theorem inv_issueGet (sc : Sched ℚ κ) (s s' : MQState ℚ κ) (c : Nat) (h : Inv sc s) (hr : s.phase = .running)
    (hh : lookupD s.hol c none = none) (hg : issueGet s c = .ok s') :
    Inv sc s' ∧ ∀ c', heldC sc s' c' = heldC sc s c' := by
  obtain ⟨p, rest, hst, rfl⟩ := issueGet_ok hg
  have hcur := cur_none_of_running sc s h hr
  have hpc : sc.classOf p.flow = some c := h.storeClass c p (by rw [hst]; simp)
  have hW : ∀ w, W w ({ s with stores := setKey s.stores c rest, phase := Phase.pktHanded c p } : MQState ℚ κ) = W w s := by
    intro w
    have := W_stores_set w s.stores c rest
    rw [hst] at this
    simp only [W, inHand, hr, wsum_cons, wsum_nil] at this ⊢
    omega
  refine ⟨⟨?_, h.holClass, ?_, ?_, ?_, ?_, ?_, ?_, ?_, h.holNone⟩, ?_⟩
  · intro c' q hq
    simp only [storeOf_setKey] at hq
    split at hq
    · rename_i hc; subst hc
      exact h.storeClass c' q (by rw [hst]; exact List.mem_cons_of_mem _ hq)
    · exact h.storeClass c' q hq
  · intro c' q hq; cases hq; exact hpc
  · intro f; rw [hW]; exact h.count f
  · intro f; rw [hW]; exact h.bytes f
  · rw [hW]; exact h.tot
  · intro h1; cases h1
  · intro q d h1; cases h1
  · intro q h1; rw [hcur] at h1; cases h1
  · intro c'
    simp only [heldC, inHand, hr, storeOf_setKey, List.filter_cons, List.filter_nil, hpc]
    by_cases hc : c' = c
    · subst hc
      simp [hh, hst]
    · have : (some c = some c') = False := by simp [Ne.symm hc]
      simp [hc, this]

/-- `yield packets_available.get()` with `total_packets == 0` -/
theorem inv_block (sc : Sched ℚ κ) (s : MQState ℚ κ) (h : Inv sc s) (hr : s.phase = .running)
    (ht : total s.queueCount = 0) :
    Inv sc (blockOnToken s) ∧ (∀ c', heldC sc (blockOnToken s) c' = heldC sc s c') := by
  have hcur := cur_none_of_running sc s h hr
  obtain ⟨n, ph, hph, e⟩ := blockOnToken_eq s
  rw [e]
  exact h.frame (by rcases hph with rfl | rfl <;> simp [inHand, hr])
    (fun c p hp => (by rcases hph with rfl | rfl <;> cases hp)) (fun _ _ => ht)
    (fun p d hp => (by rcases hph with rfl | rfl <;> cases hp)) (fun q h1 => (by rw [hcur] at h1; cases h1))

/-- a parked packet is taken and sent -/
theorem inv_takeSend (sc : Sched ℚ κ) (s : MQState ℚ κ) (c : Nat) (p : MPkt) (e : Bool) (k' : κ) (h : Inv sc s)
    (hr : s.phase = .running) (hp : lookupD s.hol c none = some p) :
    Inv sc (spawn { s with ctl := k', hol := setKey s.hol c none } p e) ∧
    (∀ c', heldC sc (spawn { s with ctl := k', hol := setKey s.hol c none } p e) c' = heldC sc s c') := by
  have hcur := cur_none_of_running sc s h hr
  have hpc := h.holClass c p hp
  have hW : ∀ w, W w (spawn { s with ctl := k', hol := setKey s.hol c none } p e) = W w s := by
    intro w
    have := W_hol_set w s.hol c none
    rw [hp] at this
    simp only [W, inHand, hr, spawn, wsum_cons, wsum_nil, wOpt_some, wOpt_none] at this ⊢
    omega
  refine ⟨⟨h.storeClass, ?_, ?_, ?_, ?_, ?_, ?_, ?_, ?_, ?_⟩, ?_⟩
  rotate_left 9
  · intro c'
    simp only [heldC, inHand, hr, spawn, lookupD_setKey, List.filter_cons, List.filter_nil, hpc]
    by_cases hc : c' = c
    · subst hc
      simp [hp]
    · have : (some c = some c') = False := by simp [Ne.symm hc]
      simp [hc, this]
  · intro c' q hq
    simp only [spawn, lookupD_setKey] at hq
    split at hq
    · cases hq
    · exact h.holClass c' q hq
  · intro c' q hq; cases hq
  · intro f; rw [hW]; exact h.count f
  · intro f; rw [hW]; exact h.bytes f
  · rw [hW]; exact h.tot
  · intro h1; cases h1
  · intro q d h1; cases h1
  · intro q h1
    simp only [spawn, hcur] at h1
    split at h1
    · cases h1; exact Or.inl rfl
    · cases h1
  · intro hn c'
    simp only [spawn, lookupD_setKey]
    split
    · rfl
    · exact h.holNone hn c'

/-- a parked packet is taken and parked again -/
theorem inv_park_back (sc : Sched ℚ κ) (s s2 : MQState ℚ κ) (c : Nat) (p : MPkt) (k' : κ) (h : Inv sc s)
    (hr : s.phase = .running) (hp : lookupD s.hol c none = some p)
    (hpk : park { s with ctl := k', hol := setKey s.hol c none } c p = .ok s2) :
    Inv sc s2 ∧ (∀ c', heldC sc s2 c' = heldC sc s c') ∧ s2.phase = .running := by
  unfold park at hpk
  simp only [lookupD_setKey_same] at hpk
  cases hpk
  have hl : ∀ c', lookupD (setKey (setKey s.hol c none) c (some p)) c' none = lookupD s.hol c' none := by
    intro c'
    simp only [lookupD_setKey]
    split
    · rename_i hc; rw [hc, hp]
    · rfl
  have hW : ∀ w, wsumMap (wOpt w) (setKey (setKey s.hol c none) c (some p)) = wsumMap (wOpt w) s.hol := by
    intro w
    have h1 := W_hol_set w s.hol c none
    have h2 := W_hol_set w (setKey s.hol c none) c (some p)
    rw [hp] at h1
    rw [lookupD_setKey_same] at h2
    simp only [wOpt_some, wOpt_none] at h1 h2
    omega
  refine ⟨⟨h.storeClass, ?_, ?_, ?_, ?_, ?_, ?_, ?_, ?_, fun hn c' => by rw [hl]; exact h.holNone hn c'⟩, ?_, hr⟩
  · intro c' q hq; rw [hl] at hq; exact h.holClass c' q hq
  · intro c' q hq; rw [hr] at hq; cases hq
  · intro f; have := h.count f; simp only [W, inHand, hr, hW] at this ⊢; exact this
  · intro f; have := h.bytes f; simp only [W, inHand, hr, hW] at this ⊢; exact this
  · have := h.tot; simp only [W, inHand, hr, hW] at this ⊢; exact this
  · intro h1; rw [hr] at h1; cases h1
  · intro q d h1; rw [hr] at h1; cases h1
  · exact h.curOnly
  · intro c'; simp only [heldC, inHand, hr, hl]

theorem settles_inv (sc : Sched ℚ κ) (L : Lawful sc) (s s' : MQState ℚ κ) (hs : Settles sc s s')
    (hr : s.phase = .running) (h : Inv sc s) :
    Inv sc s' ∧ (∀ c, heldC sc s' c = heldC sc s c) := by
  induction hs with
  | goto s k s' hm _ ih =>
    have := ih (by simp [touch_phase, hr]) (inv_touch_ctl sc s k h)
    exact ⟨this.1, fun c => by rw [this.2 c, heldC_touch_ctl]⟩
  | get s c k s' hm hg =>
    have hh : lookupD (touch sc s).hol c none = none := by
      rcases L.get_no_hol _ _ _ _ hm with hh | hh
      · simpa [view] using hh
      · exact (inv_touch_ctl sc s k h).holNone hh c
    have := inv_issueGet sc { touch sc s with ctl := k } s' c (inv_touch_ctl sc s k h) (by simp [touch_phase, hr])
      hh hg
    exact ⟨this.1, fun c' => by rw [this.2 c', heldC_touch_ctl]⟩
  | block s k hm =>
    have ht := L.block_total _ _ _ hm
    have := inv_block sc { touch sc s with ctl := k } (inv_touch_ctl sc s k h) (by simp [touch_phase, hr])
      (by simpa [view] using ht)
    exact ⟨this.1, fun c' => by rw [this.2 c', heldC_touch_ctl]⟩
  | takeSend s c k p e k' hm hp hd =>
    have := inv_takeSend sc { touch sc s with ctl := k } c p e k' (inv_touch_ctl sc s k h) (by simp [touch_phase, hr]) hp
    exact ⟨this.1, fun c' => by rw [this.2 c', heldC_touch_ctl]⟩
  | takePark s c k p k' s2 s' hm hp hd hpk _ ih =>
    have := inv_park_back sc { touch sc s with ctl := k } s2 c p k' (inv_touch_ctl sc s k h) (by simp [touch_phase, hr]) hp hpk
    have h2 := ih this.2.2 this.1
    exact ⟨h2.1, fun c' => by rw [h2.2 c', this.2.1 c', heldC_touch_ctl]⟩

theorem resumeLoop_settles (sc : Sched ℚ κ) (s s' : MQState ℚ κ) (h : resumeLoop sc s = .ok s') :
    Settles sc { s with phase := Phase.running } s' := settle_settles sc _ _ _ h

end MQ
