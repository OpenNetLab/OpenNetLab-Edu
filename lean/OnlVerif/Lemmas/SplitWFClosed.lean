import OnlVerif.Lemmas.SplitWFStep
/-!
# What well-scopedness gives the split theorems (C03, stage 3)

* `closed_of_ws` — a well-scoped state with a sorted agenda is `Closed` for the split made in it;
* `condWF_of_ws`, `buildAlloc_of_ws`, `fuelAlong_of_ws` — the fuel hypothesis of `Condition._build_value`;
* `ws_T` — the state of the split run that corresponds to a well-scoped state is well-scoped (so the invariants of the
  *uninterrupted* run carry over to every split run, however many numeric stops it has made);
* `sortedAg_T_false`, and the irrelevance of the clock.
-/

variable {σ : Type}

namespace SplitWF
variable {I : IdSt σ} {s : KState ℚ σ}

theorem list_map_eq_self {α : Type} (f : α → α) (l : List α) (h : ∀ a ∈ l, f a = a) : l.map f = l :=
  (List.map_congr_left h).trans (List.map_id _)

theorem array_map_eq_self {α : Type} (f : α → α) (a : Array α) (d : α) (h : ∀ i, i < a.size → f (a.getD i d) = a.getD i d) :
    a.map f = a := by
  apply Array.ext
  · simp
  · intro i _ hi
    rw [Array.getElem_map, Array.getElem_eq_getD d]
    exact h i hi

theorem map_shAt_of_lt (u : Nat) (l : List EvId) (h : ∀ e ∈ l, e < u) : l.map (shAt u) = l :=
  list_map_eq_self _ l fun e he => shAt_of_lt (h e he)

theorem rnVal_of_below (u : Nat) (v : Val) (h : valBelow u v) : rnVal (shAt u) v = v := by
  cases v <;> simp only [rnVal, valBelow] at h ⊢
  case ev e => rw [shAt_of_lt h]
  case cv keys => rw [map_shAt_of_lt u keys h]
  case preempted b r res =>
    rw [shAt_of_lt h.2]
    cases b with
    | none => rfl
    | some p => rw [Option.map_some, shAt_of_lt (h.1 p rfl)]

theorem map_rnVal_of_below (u : Nat) (l : List Val) (h : ∀ v ∈ l, valBelow u v) : l.map (rnVal (shAt u)) = l :=
  list_map_eq_self _ l fun v hv => rnVal_of_below u v (h v hv)

theorem rnExc_of_below (u : Nat) (x : Exc) (h : excBelow u x) : rnExc (shAt u) x = x := by
  unfold rnExc
  rw [map_rnVal_of_below u x.args h]

theorem rnOutcome_of_below (u : Nat) (o : Outcome) (h : outBelow u o) : rnOutcome (shAt u) o = o := by
  cases o with
  | ok v => simp only [rnOutcome, rnVal_of_below u v h]
  | fail x => simp only [rnOutcome, rnExc_of_below u x h]

theorem rnCb_of_below (u : Nat) (cb : Cb) (h : cbBelow u cb) : rnCb (shAt u) cb = cb := by
  cases cb <;> simp only [rnCb, cbBelow] at h ⊢ <;> rw [shAt_of_lt h]

theorem rnKind_of_below (u i : Nat) (k : Kind) (h : kindBelow u i k) (hi : i ≤ u) : rnKind (shAt u) k = k := by
  cases k <;> simp only [rnKind, kindBelow] at h ⊢
  case init p => rw [shAt_of_lt h]
  case intr p => rw [shAt_of_lt h]
  case cond all ops => rw [map_shAt_of_lt u ops (fun o ho => Nat.lt_of_lt_of_le (h o ho) hi)]

theorem rnReq_of_below (u : Nat) (rq : ReqData ℚ) (h : reqBelow u rq) : rnReq (shAt u) rq = rq := by
  unfold rnReq
  rw [shAt_of_lt h.2]
  cases hp : rq.proc with
  | none => simp only [Option.map_none]; cases rq; simp_all
  | some p => simp only [Option.map_some, shAt_of_lt (h.1 p hp)]; cases rq; simp_all

theorem rnRec_of_below (u i : Nat) (r : EvRec ℚ) (h : recBelow u i r) (hi : i ≤ u) : rnRec (shAt u) r = r := by
  obtain ⟨kind, cbs, out, defused, count, label, req⟩ := r
  unfold rnRec
  simp only
  have h1 := rnKind_of_below u i kind h.kind hi
  have h2 : cbs.map (·.map (rnCb (shAt u))) = cbs := by
    cases cbs with
    | none => rfl
    | some l =>
      rw [Option.map_some, list_map_eq_self _ l fun x hx => rnCb_of_below u x (h.cbs l rfl x hx)]
  have h3 : out.map (rnOutcome (shAt u)) = out := by
    cases out with
    | none => rfl
    | some o => simp only [Option.map_some, rnOutcome_of_below u o (h.out o rfl)]
  have h4 : req.map (rnReq (shAt u)) = req := by
    cases req with
    | none => rfl
    | some rq => simp only [Option.map_some, rnReq_of_below u rq (h.req rq rfl)]
  rw [h1, h2, h3, h4]

theorem rnRes_of_below (u : Nat) (x : ResRec) (h : resBelow u x) : rnRes (shAt u) x = x := by
  unfold rnRes
  rw [map_shAt_of_lt u _ h.putQ, map_shAt_of_lt u _ h.getQ, map_shAt_of_lt u _ h.users]

theorem rnResume_of_below (u : Nat) (r : Resume) (h : resumeBelow u r) : rnResume (shAt u) r = r := by
  cases r with
  | start => rfl
  | value v => simp only [rnResume, rnVal_of_below u v h]
  | exc x => simp only [rnResume, rnExc_of_below u x h]

theorem rnObs_of_below (u : Nat) (o : Obs ℚ) (h : obsBelow u o) : rnObs (shAt u) o = o := by
  cases o <;> simp only [rnObs, obsBelow] at h ⊢
  case resumed p r t => rw [shAt_of_lt h.1, rnResume_of_below u r h.2]
  case log p w v t => rw [shAt_of_lt h.1, rnVal_of_below u v h.2]
  case probe tag e o t => rw [shAt_of_lt h.1, rnOutcome_of_below u o h.2]
  case callErr p x t => rw [shAt_of_lt h.1, rnExc_of_below u x h.2]
  case ended p o t => rw [shAt_of_lt h.1, rnOutcome_of_below u o h.2]

theorem closed_of_ws (c : SplitCfg σ) (h : WS I s) (hs : SortedAg s) (hu : c.u = s.events.size) (he : c.eid0 = s.eid)
    (hrσ : c.rσ = I.rn c.u) : c.Closed s := by
  have hρ : c.ρ = shAt s.events.size := by unfold SplitCfg.ρ; rw [hu]
  refine ⟨?_, ?_, ?_, ?_, ?_, ?_, ?_⟩
  · rw [hρ]
    exact array_map_eq_self _ _ default fun i hi => rnRec_of_below _ i (s.ev i) (h.events i) (Nat.le_of_lt hi)
  · apply list_map_eq_self
    intro q hq
    unfold SplitCfg.rnEntry
    rw [hρ, shAt_of_lt (h.agenda q hq), if_neg (by rw [he]; exact Nat.not_le.mpr (hs.below q hq))]
  · apply list_map_eq_self
    intro pr hpr
    obtain ⟨h1, h2, h3⟩ := h.procs pr hpr
    rw [hρ, shAt_of_lt h1]
    have : rnProc (shAt s.events.size) c.rσ pr.2 = pr.2 := by
      obtain ⟨p, ⟨st, tg⟩⟩ := pr
      simp only at h2 h3 ⊢
      unfold rnProc
      simp only
      rw [hrσ, I.rn_below h3 (Nat.le_of_eq hu.symm)]
      cases tg with
      | none => rfl
      | some t => rw [Option.map_some, shAt_of_lt (h2 t rfl)]
    rw [this]
  · cases ha : s.active with
    | none => rfl
    | some p => rw [Option.map_some, hρ, shAt_of_lt (h.active p ha)]
  · rw [hρ]
    exact (Array.map_congr_left fun o ho => rnObs_of_below _ o (h.trace o (Array.mem_def.mp ho))).trans (Array.map_id _)
  · apply list_map_eq_self
    intro kv hkv
    rw [hρ, rnVal_of_below _ _ (h.shared kv hkv)]
  · rw [hρ]
    exact array_map_eq_self _ _ default fun i _ => rnRes_of_below _ (s.res i) (h.resources i)

theorem condWF_of_ws (h : WS I s) : CondWF s := by
  intro N cd _ all ops hk o ho
  have := (h.events cd).kind
  rw [hk] at this
  exact this o ho

theorem buildAlloc_of_ws (h : WS I s) : BuildAlloc s := by
  intro e cbs cd hc hm
  exact (h.events e).cbs cbs hc _ hm

theorem kreach_of_stepN (body : σ → Resume → Burst ℚ σ) (fuel : Nat) : ∀ (j : Nat) (s sj : KState ℚ σ),
    stepN body fuel j s = .ok sj → KReach body fuel s sj :=
  fun j s sj h => stepN_induct (P := KReach body fuel s) (fun _ _ hr hs => KReach.step hr (by rw [hs]; rfl)) j s sj KReach.init h

theorem fuelAlong_of_ws (c : SplitCfg σ) (body : σ → Resume → Burst ℚ σ) (fuel : Nat) (h : WS I s)
    (hS : ScopedRun I body fuel s) : c.FuelAlong body fuel s := by
  intro j sj hj
  have hw := ws_reach body fuel s sj h hS (kreach_of_stepN body fuel j s sj hj)
  exact c.stepFuelOK_of_wf body fuel sj (condWF_of_ws hw) (buildAlloc_of_ws hw)

theorem sb_withNow {n : Nat} (h : SB I n s) (x : ℚ) : SB I n ({ s with now := x } : KState ℚ σ) :=
  ⟨h.events, h.agenda, h.procs, h.active, h.trace, h.shared, h.resources⟩

theorem ws_withNow (h : WS I s) (x : ℚ) : WS I ({ s with now := x } : KState ℚ σ) := sb_withNow h x

theorem sortedAg_withNow (h : SortedAg s) (x : ℚ) : SortedAg ({ s with now := x } : KState ℚ σ) := ⟨h.sorted, h.below⟩

theorem shAt_lt_succ (u : Nat) {i n : Nat} (h : i < n) : shAt u i < n + 1 := by
  unfold shAt
  split
  · exact Nat.lt_succ_of_lt h
  · exact Nat.succ_lt_succ h

theorem valBelow_rn (u n : Nat) (v : Val) (h : valBelow n v) : valBelow (n + 1) (rnVal (shAt u) v) := by
  cases v <;> simp only [rnVal, valBelow] at h ⊢
  case ev e => exact shAt_lt_succ u h
  case cv keys =>
    intro k hk
    obtain ⟨k0, hk0, rfl⟩ := List.mem_map.mp hk
    exact shAt_lt_succ u (h k0 hk0)
  case preempted b r res =>
    refine ⟨?_, shAt_lt_succ u h.2⟩
    intro p hp
    obtain ⟨p0, rfl, rfl⟩ := Option.map_eq_some_iff.mp hp
    exact shAt_lt_succ u (h.1 p0 rfl)

theorem excBelow_rn (u n : Nat) (x : Exc) (h : excBelow n x) : excBelow (n + 1) (rnExc (shAt u) x) := by
  intro v hv
  obtain ⟨v0, hv0, rfl⟩ := List.mem_map.mp hv
  exact valBelow_rn u n v0 (h v0 hv0)

theorem outBelow_rn (u n : Nat) (o : Outcome) (h : outBelow n o) : outBelow (n + 1) (rnOutcome (shAt u) o) := by
  cases o with
  | ok v => exact valBelow_rn u n v h
  | fail x => exact excBelow_rn u n x h

theorem cbBelow_rn (u n : Nat) (cb : Cb) (h : cbBelow n cb) : cbBelow (n + 1) (rnCb (shAt u) cb) := by
  cases cb <;> simp only [rnCb, cbBelow] at h ⊢ <;> exact shAt_lt_succ u h

theorem kindBelow_rn (u n i : Nat) (k : Kind) (h : kindBelow n i k) : kindBelow (n + 1) (shAt u i) (rnKind (shAt u) k) := by
  cases k <;> simp only [rnKind, kindBelow] at h ⊢
  case init p => exact shAt_lt_succ u h
  case intr p => exact shAt_lt_succ u h
  case cond all ops =>
    intro o ho
    obtain ⟨o0, ho0, rfl⟩ := List.mem_map.mp ho
    exact (shAt_lt_iff u o0 i).mpr (h o0 ho0)

theorem reqBelow_rn (u n : Nat) (rq : ReqData ℚ) (h : reqBelow n rq) : reqBelow (n + 1) (rnReq (shAt u) rq) := by
  refine ⟨?_, shAt_lt_succ u h.2⟩
  intro p hp
  obtain ⟨p0, hq, rfl⟩ := Option.map_eq_some_iff.mp hp
  exact shAt_lt_succ u (h.1 p0 hq)

theorem recBelow_rn (u n i : Nat) (r : EvRec ℚ) (h : recBelow n i r) : recBelow (n + 1) (shAt u i) (rnRec (shAt u) r) := by
  refine ⟨kindBelow_rn u n i _ h.kind, ?_, ?_, ?_⟩
  · intro l hl cb hcb
    obtain ⟨l0, hc, rfl⟩ := Option.map_eq_some_iff.mp hl
    obtain ⟨cb0, hcb0, rfl⟩ := List.mem_map.mp hcb
    exact cbBelow_rn u n cb0 (h.cbs l0 hc cb0 hcb0)
  · intro o ho
    obtain ⟨o0, hc, rfl⟩ := Option.map_eq_some_iff.mp ho
    exact outBelow_rn u n o0 (h.out o0 hc)
  · intro rq hrq
    obtain ⟨rq0, hc, rfl⟩ := Option.map_eq_some_iff.mp hrq
    exact reqBelow_rn u n rq0 (h.req rq0 hc)

theorem resumeBelow_rn (u n : Nat) (r : Resume) (h : resumeBelow n r) : resumeBelow (n + 1) (rnResume (shAt u) r) := by
  cases r with
  | start => trivial
  | value v => exact valBelow_rn u n v h
  | exc x => exact excBelow_rn u n x h

theorem obsBelow_rn (u n : Nat) (o : Obs ℚ) (h : obsBelow n o) : obsBelow (n + 1) (rnObs (shAt u) o) := by
  cases o <;> simp only [rnObs, obsBelow] at h ⊢
  case resumed p r t => exact ⟨shAt_lt_succ u h.1, resumeBelow_rn u n r h.2⟩
  case log p w v t => exact ⟨shAt_lt_succ u h.1, valBelow_rn u n v h.2⟩
  case probe tag e o t => exact ⟨shAt_lt_succ u h.1, outBelow_rn u n o h.2⟩
  case callErr p x t => exact ⟨shAt_lt_succ u h.1, excBelow_rn u n x h.2⟩
  case ended p o t => exact ⟨shAt_lt_succ u h.1, outBelow_rn u n o h.2⟩

theorem mem_map_shAt_lt (u n : Nat) (l : List EvId) (h : ∀ e ∈ l, e < n) : ∀ e ∈ l.map (shAt u), e < n + 1 := by
  intro e he
  obtain ⟨e0, he0, rfl⟩ := List.mem_map.mp he
  exact shAt_lt_succ u (h e0 he0)

theorem mem_insSent (c : SplitCfg σ) : ∀ (l : List (QEntry ℚ)) (x : QEntry ℚ), x ∈ c.insSent l →
    x = c.sentEntry ∨ ∃ y ∈ l, x = c.rnEntry y
  | [], x, h => by
    simp only [SplitCfg.insSent, List.mem_singleton] at h
    exact Or.inl h
  | y :: ys, x, h => by
    unfold SplitCfg.insSent at h
    split at h
    · rcases List.mem_cons.mp h with h | h
      · exact Or.inl h
      · obtain ⟨y0, hy0, rfl⟩ := List.mem_map.mp h
        exact Or.inr ⟨y0, hy0, rfl⟩
    · rcases List.mem_cons.mp h with h | h
      · exact Or.inr ⟨y, List.mem_cons_self, h⟩
      · rcases mem_insSent c ys x h with h | ⟨y0, hy0, rfl⟩
        · exact Or.inl h
        · exact Or.inr ⟨y0, List.mem_cons_of_mem _ hy0, rfl⟩

theorem ws_T (c : SplitCfg σ) (q : Bool) (h : WS I s) (hi : c.Inv s) (hrσ : c.rσ = I.rn c.u) : WS I (c.T q s) := by
  have hsz := c.r_size q s hi
  have hρ : c.ρ = shAt c.u := rfl
  show SB I (c.T q s).events.size (c.T q s)
  rw [hsz]
  refine ⟨?_, ?_, ?_, ?_, ?_, ?_, ?_⟩
  · intro j
    rcases c.idx_T j with rfl | ⟨e, rfl⟩
    · rw [c.ev_T_u q s hi]
      refine ⟨trivial, ?_, ?_, fun rq hrq => (by cases hrq)⟩
      · intro l hl cb hcb
        cases q with
        | false => simp [SplitCfg.deadRec] at hl
        | true =>
          simp only [SplitCfg.deadRec, if_true, Option.some.injEq] at hl
          subst hl
          rw [List.mem_singleton] at hcb
          subst hcb
          trivial
      · intro o ho
        simp only [SplitCfg.deadRec, Option.some.injEq] at ho
        subst ho
        trivial
    · rw [c.r_ev q s hi e, hρ]
      exact recBelow_rn c.u _ e _ (h.events e)
  · have hmap : ∀ y ∈ s.agenda, (c.rnEntry y).ev < s.events.size + 1 := fun y hy => shAt_lt_succ c.u (h.agenda y hy)
    show ∀ x ∈ c.agT q s.agenda, _
    cases q with
    | true =>
      intro x hx
      rcases mem_insSent c _ x hx with rfl | ⟨y, hy, rfl⟩
      · exact Nat.lt_succ_of_le hi.size
      · exact hmap y hy
    | false => exact List.forall_mem_map.mpr hmap
  · show ∀ pr ∈ s.procs.map (fun pr => (c.ρ pr.1, rnProc c.ρ c.rσ pr.2)), _
    refine List.forall_mem_map.mpr fun pr0 hpr0 => ?_
    obtain ⟨h1, h2, h3⟩ := h.procs pr0 hpr0
    refine ⟨shAt_lt_succ c.u h1, ?_, ?_⟩
    · intro t ht
      obtain ⟨t0, htg, rfl⟩ := Option.map_eq_some_iff.mp ht
      exact shAt_lt_succ c.u (h2 t0 htg)
    · rw [rnProc_st, hrσ]
      exact I.below_rn h3
  · intro p hp
    obtain ⟨p0, ha, rfl⟩ := Option.map_eq_some_iff.mp (show s.active.map c.ρ = some p from hp)
    exact shAt_lt_succ c.u (h.active p0 ha)
  · show ∀ o ∈ (s.trace.map (rnObs c.ρ)).toList, _
    rw [Array.toList_map]
    exact List.forall_mem_map.mpr fun o0 ho0 => obsBelow_rn c.u _ o0 (h.trace o0 ho0)
  · show ∀ kv ∈ s.shared.map (fun kv => (kv.1, rnVal c.ρ kv.2)), _
    exact List.forall_mem_map.mpr fun kv0 hkv0 => valBelow_rn c.u _ kv0.2 (h.shared kv0 hkv0)
  · intro r
    rw [c.r_res q s r]
    exact ⟨mem_map_shAt_lt c.u _ _ (h.resources r).putQ, mem_map_shAt_lt c.u _ _ (h.resources r).getQ,
      mem_map_shAt_lt c.u _ _ (h.resources r).users⟩

theorem sortedAg_T_false (c : SplitCfg σ) (hs : SortedAg s) : SortedAg (c.T false s) := by
  refine ⟨?_, ?_⟩
  · show (s.agenda.map c.rnEntry).Pairwise _
    rw [List.pairwise_map]
    exact hs.sorted.imp (fun h => (c.rnEntry_eid_lt _ _).mpr h)
  · intro x hx
    have hx' : x ∈ s.agenda.map c.rnEntry := hx
    obtain ⟨y, hy, rfl⟩ := List.mem_map.mp hx'
    show (c.rnEntry y).eid < s.eid + 1
    have := hs.below y hy
    unfold SplitCfg.rnEntry
    simp only
    split <;> omega

end SplitWF
