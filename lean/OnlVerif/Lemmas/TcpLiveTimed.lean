import OnlVerif.Lemmas.TcpLiveRun
/-!
# Paths with delay: invariant and vocabulary (C16)

`TInv n L`: the loop invariant `LInv` of the untimed projection, one delivery instant per packet in flight, none in
the past.  Every step of `TLoop.TStep`/`TBStep` keeps it (each is a step of the untimed loop).
-/

open TcpScalar TcpSender TcpSink TcpLoop Sender

namespace TcpLive

variable {n : Nat}

structure TInv (n : Nat) (L : TLoop ℚ) : Prop where
  inv : LInv n L.l
  dlen : L.dT.length = L.l.data.length
  alen : L.aT.length = L.l.acks.length
  dge : ∀ d ∈ L.dT, L.l.snd.now ≤ d
  age : ∀ d ∈ L.aT, L.l.snd.now ≤ d

theorem TInv_init {s : Sender ℚ} (f : Fresh n s) : TInv n (TLoop.init s) :=
  ⟨LInv_init f, rfl, rfl, fun d hd => by simp [TLoop.init] at hd, fun d hd => by simp [TLoop.init] at hd⟩

theorem TInv_step {L L' : TLoop ℚ} (h : TInv n L) (hs : TLoop.TStep L L') : TInv n L' := by
  cases hs with
  | burst a ts hnt hst hlen hts =>
    have hi := LInv_step h.inv hst
    obtain ⟨s', outs, hack, hss, rfl⟩ := own_eq hst
    have hnow : s'.now = L.l.snd.now := ((step_moved h.inv.s.inv a (isAck_false hack).1).2 _ _ hss).now hnt
    refine ⟨hi, by rw [List.length_append]; exact hlen, h.alen, fun d hd => ?_, fun d hd => ?_⟩
    · show s'.now ≤ d
      rw [hnow]
      exact (List.mem_append.mp hd).elim (h.dge d) (fun e => hnow ▸ hts d e)
    · show s'.now ≤ d
      rw [hnow]; exact h.age d hd
  | tick t hst hlt hd ha _ =>
    have hi := LInv_step h.inv hst
    obtain ⟨s', outs, _, hss, rfl⟩ := own_eq hst
    obtain ⟨_, _, _, _, rfl, rfl⟩ := tick_spec hss
    exact ⟨hi, by show L.dT.length = (L.l.data ++ []).length; rw [List.append_nil]; exact h.dlen, h.alen, hd, ha⟩
  | deliver t hst ht =>
    have hi := LInv_step h.inv hst
    obtain ⟨tx, rest, p, hd, _, rfl⟩ := deliver_eq h.inv.sink hst
    refine ⟨hi, ?_, ?_, fun d hdm => h.dge d (List.mem_of_mem_tail hdm), fun d hdm => ?_⟩
    · show L.dT.tail.length = rest.length
      rw [List.length_tail, h.dlen, hd]; rfl
    · show (L.aT ++ [t]).length = (L.l.acks ++ [_]).length
      rw [List.length_append, List.length_append, h.alen]; rfl
    · rcases List.mem_append.mp hdm with e | e
      · exact h.age d e
      · rw [List.mem_singleton.mp e]; exact ht
  | ackArrive ts hst hlen hts =>
    have hi := LInv_step h.inv hst
    obtain ⟨x, rest, s', outs, hd, hss, rfl⟩ := ackArrive_eq hst
    have ox := h.inv.acks x (by rw [hd]; exact List.mem_cons_self)
    have hnow : s'.now = L.l.snd.now := ((step_moved h.inv.s.inv (.ack x) ox.fid).2 _ _ hss).now (fun t e => by cases e)
    refine ⟨hi, by rw [List.length_append]; exact hlen, ?_, fun d hdm => ?_, fun d hdm => ?_⟩
    · show L.aT.tail.length = rest.length
      rw [List.length_tail, h.alen, hd]; rfl
    · show s'.now ≤ d
      rw [hnow]
      exact (List.mem_append.mp hdm).elim (h.dge d) (fun e => hnow ▸ hts d e)
    · show s'.now ≤ d
      rw [hnow]; exact h.age d (List.mem_of_mem_tail hdm)

theorem TInv_bstep {x y : Nat × TLoop ℚ} (hb : TLoop.TBStep x y) (h : TInv n x.2) : TInv n y.2 := by
  cases hb with
  | step hs => exact TInv_step h hs
  | @dropData k L l' i hs =>
    have hi := LInv_step h.inv hs
    obtain ⟨_, rfl⟩ := dropData_eq hs
    exact ⟨hi, by show (L.dT.eraseIdx i).length = (L.l.data.eraseIdx i).length
                  rw [List.length_eraseIdx, List.length_eraseIdx, h.dlen],
      h.alen, fun d hdm => h.dge d (List.mem_of_mem_eraseIdx hdm), h.age⟩
  | @dropAck k L l' i hs =>
    have hi := LInv_step h.inv hs
    obtain ⟨_, rfl⟩ := dropAck_eq hs
    exact ⟨hi, h.dlen, by show (L.aT.eraseIdx i).length = (L.l.acks.eraseIdx i).length
                          rw [List.length_eraseIdx, List.length_eraseIdx, h.alen],
      h.dge, fun d hdm => h.age d (List.mem_of_mem_eraseIdx hdm)⟩

end TcpLive
