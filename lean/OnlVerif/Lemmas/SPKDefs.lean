import OnlVerif.Lemmas.MQKCommon
import OnlVerif.Lemmas.KProcDefs
import OnlVerif.Lemmas.SchedSP
import OnlVerif.Lemmas.SPKAttr
import OnlVerif.Net.SPOnK
/-!
# The SP scheduler on the kernel model: canonical configurations (definitions)

`A` is an abstract description of a kernel state of the program `SPOnK.prog`: where `SP.run` (and the sender process it has
spawned) and the source are suspended, which agenda entries exist, what the stores hold, the attribute cells.  `cfgOf flow F a s st0` is
`a` as a configuration of cooperating processes (`Lemmas/KProcDefs.lean`); `KInv s a` says that the kernel state `s` *is* that
configuration and that the cells hold the attributes of `a`.  `AInv` is what holds of the configurations of a run.
-/

namespace SPK
open SPOnK
open KProc (Thread Wait Cfg GInv Regs HStore)

abbrev St := SpSt ℚ
abbrev KS := KState ℚ St

/-- where `SP.run` (with the sender it waits for) is -/
inductive RPhase where
  /-- not started: its `Initialize` entry `q` is in the agenda -/
  | init (q : QEntry ℚ)
  /-- blocked in `packets_available.get()` (event `g`) -/
  | W (g : EvId)
  /-- that `get` has been served with a token: entry `q` -/
  | K (g : EvId) (q : QEntry ℚ)
  /-- `stores[flow id].get()` (event `g`, issued at table entry `i`) has been served with packet `id`: entry `q` -/
  | H (g : EvId) (i : Nat) (id : Int) (q : QEntry ℚ)
  /-- the sender process `p` of packet `id` has been created: its `Initialize` entry `q` -/
  | S (p : EvId) (id : Int) (q : QEntry ℚ)
  /-- the sender `p` sleeps on timeout `t` (entry `q`, due at `q.time`) -/
  | T (p t : EvId) (id : Int) (q : QEntry ℚ)
  /-- the sender's generator has returned: its process event `p` is triggered (entry `q`) -/
  | F (p : EvId) (id : Int) (q : QEntry ℚ)

/-- where the source is -/
inductive SPhase where
  | init (q : QEntry ℚ) (arr : List (ℚ × Int))
  /-- sleeping on the timeout (entry `q`) after which it puts packet `id`; `rest` still to come -/
  | wait (id : Int) (rest : List (ℚ × Int)) (q : QEntry ℚ)
  /-- the generator has returned: the process event (entry `q`) is triggered -/
  | ending (q : QEntry ℚ)
  | done

/-- `g x := v` -/
def upd {β : Type} (g : Nat → β) (f : Nat) (v : β) : Nat → β := fun x => if x = f then v else g x

@[simp] theorem upd_same {β : Type} (g : Nat → β) (f : Nat) (v : β) : upd g f v f = v := by simp [upd]
theorem upd_ne {β : Type} (g : Nat → β) (f f' : Nat) (v : β) (h : f' ≠ f) : upd g f v f' = g f' := by simp [upd, h]
theorem upd_apply {β : Type} (g : Nat → β) (f f' : Nat) (v : β) : upd g f v f' = if f' = f then v else g f' := rfl

structure A where
  run : RPhase
  src : SPhase
  /-- the `StorePut` events that are triggered and not yet processed, with their store -/
  pend : List (QEntry ℚ × ResId)
  /-- `len(packets_available.items)` -/
  tokens : Nat
  /-- `stores[f].items` -/
  items : Nat → List Int
  /-- `queue_count[f]` -/
  cnt : Nat → Int
  /-- `queue_byte_size[f]` -/
  byt : Nat → Int
  /-- `packets_received` -/
  recv : Int
  /-- `current_packet` -/
  cur : Option Int
  /-- the keys of the dicts, in insertion order -/
  keys : List Nat

def RPhase.entries : RPhase → List (QEntry ℚ)
  | .init q => [q]
  | .W _ => []
  | .K _ q => [q]
  | .H _ _ _ q => [q]
  | .S _ _ q => [q]
  | .T _ _ _ q => [q]
  | .F _ _ q => [q]

def SPhase.entries : SPhase → List (QEntry ℚ)
  | .init q _ => [q]
  | .wait _ _ q => [q]
  | .ending q => [q]
  | .done => []

def pendEntries (l : List (QEntry ℚ × ResId)) : List (QEntry ℚ) := l.map (·.1)

def A.entries (a : A) : List (QEntry ℚ) := a.run.entries ++ (a.src.entries ++ pendEntries a.pend)

/-- the events a configuration talks about (pairwise different); the process event of `SP.run` is 0, of the source 2 -/
def RPhase.ids : RPhase → List EvId
  | .init _ => [0, 1]
  | .W g => [0, g]
  | .K g _ => [0, g]
  | .H g _ _ _ => [0, g]
  | .S p _ _ => [0, p, p + 1]
  | .T p t _ _ => [0, p, t]
  | .F p _ _ => [0, p]

def SPhase.ids : SPhase → List EvId
  | .init _ _ => [2, 3]
  | .wait _ _ q => [2, q.ev]
  | .ending _ => [2]
  | .done => []

def pendIds (l : List (QEntry ℚ × ResId)) : List EvId := l.map (·.1.ev)

/-- the `get_queue` of the wake-up store -/
def RPhase.getQ : RPhase → List EvId
  | .W g => [g]
  | _ => []

/-- the packet `run` holds or has in transmission (taken from its store, not yet counted out) -/
def RPhase.held : RPhase → Option Int
  | .H _ _ id _ => some id
  | .S _ id _ => some id
  | .T _ _ id _ => some id
  | _ => none

export MQK (storeRec dictOf lookup_dictOf total_dictOf cnt_dictOf runActs_append insOf outOf waitingFrom
  waitingFrom_zero)

/-! ## the kernel side of a configuration -/

variable (flow : Int → Nat)

/-- `SP.run`; while a sender exists it waits for the sender's process event.  Where a phase names an event beside the entry of
that event (`g` in `K g q` and `H g … q`, `t` in `T p t … q`), the thread is that of the entry -/
def runThread : RPhase → Thread St
  | .init q => { pid := 0, st := .runStart, wait := .init q }
  | .W g => { pid := 0, st := .runTok, wait := .getW 0 g }
  | .K _ q => { pid := 0, st := .runTok, wait := .getH 0 q 1 }
  | .H _ i id q => { pid := 0, st := .runGet i, wait := .getH (flowStore (flow id)) q id }
  | .S p id _ => { pid := 0, st := .runSend id, wait := .join p }
  | .T p _ id _ => { pid := 0, st := .runSend id, wait := .join p }
  | .F p id _ => { pid := 0, st := .runSend id, wait := .join p }

/-- the sender process, whose process event resumes `SP.run` -/
def sendThreads : RPhase → List (Thread St)
  | .S p id q => [{ pid := p, st := .sendStart id, wait := .init q, cbs := some [.resume 0] }]
  | .T p _ id q => [{ pid := p, st := .sendTx id, wait := .sleep q, cbs := some [.resume 0] }]
  | .F p id q => [{ pid := p, st := .sendTx id, wait := .ending q .none, cbs := some [.resume 0] }]
  | _ => []

/-- `st0` = the local state the source had when its generator returned (nothing looks at it) -/
def srcThreads (st0 : St) : SPhase → List (Thread St)
  | .init q arr => [{ pid := 2, st := .src none arr, wait := .init q }]
  | .wait id rest q => [{ pid := 2, st := .src (some id) rest, wait := .sleep q }]
  | .ending q => [{ pid := 2, st := st0, wait := .ending q .none }]
  | .done => []

/-- the wake-up store (consumers `gq`, `tokens` tokens) and the `F` per-flow stores -/
def storesOf (F : Nat) (gq : List EvId) (tokens : Nat) (items : Nat → List Int) : Nat → Option HStore := fun r =>
  if r = 0 then some { getQ := gq, items := List.replicate tokens 1 }
  else if r ≤ F then some { items := items (r - 1) } else none

/-- a process spawned by `run` stands behind those that exist from the start -/
def cfgOf (F : Nat) (a : A) (s : KS) (st0 : St) : Cfg St :=
  { reg := Regs.of s, threads := runThread flow a.run :: (srcThreads st0 a.src ++ sendThreads a.run), pend := a.pend
    stores := storesOf F a.run.getQ a.tokens a.items }

/-- the value of the `current_packet` cell -/
def curVal : Option Int → Val
  | some id => .int id
  | none => .none

/-- the cells hold the attributes; cell `cLen f` mirrors `len(stores[f].items)` -/
structure Cells (F : Nat) (f : Nat → Val) (recv : Int) (cur : Option Int) (cnt byt : Nat → Int) (items : Nat → List Int) :
    Prop where
  c0 : f cRecv = .int recv
  c1 : f cCur = curVal cur
  cc : ∀ k, k < F → f (cCount k) = .int (cnt k)
  cb : ∀ k, k < F → f (cBytes k) = .int (byt k)
  cl : ∀ k, k < F → f (cLen k) = .int ((items k).length : Nat)

/-- the kernel state `s` has the configuration `a` -/
structure KInv (F : Nat) (s : KS) (a : A) : Prop where
  g : ∃ st0, GInv s (cfgOf flow F a s st0)
  /-- a pending `StorePut` belongs to one of the `F + 1` stores -/
  pst : ∀ u ∈ a.pend, u.2 < F + 1
  cells : Cells F (Regs.of s).cells a.recv a.cur a.cnt a.byt a.items

/-! ## the abstract side -/

/-- `sum(queue_count.values())` over flows `f, …, f + n - 1` -/
def sumFrom (c : Nat → Int) : Nat → Nat → Int
  | _, 0 => 0
  | f, n + 1 => c f + sumFrom c (f + 1) n

theorem sumFrom_eq : sumFrom = MQK.sumFrom := by
  funext c f n
  induction n generalizing f <;> simp [sumFrom, MQK.sumFrom, *]

/-- `total_packets` of a configuration -/
def A.total (F : Nat) (a : A) : Int := sumFrom a.cnt 0 F

/-- the scan of `SP.run` from entry `i` on: the first entry with a positive priority and a non-empty store -/
def firstHit (ln : Nat → Nat) : Nat → List (Nat × Int) → Option (Nat × Nat)
  | _, [] => none
  | i, (f, pr) :: rest => if 0 < pr then (if ln f = 0 then firstHit ln (i + 1) rest else some (i, f)) else firstHit ln (i + 1) rest

/-- what the scan of a configuration finds -/
def A.scan (a : A) (tbl : List (Nat × Int)) : Option (Nat × Nat) := firstHit (fun f => (a.items f).length) 0 tbl

variable (F : Nat) (size : Int → Nat) (cfg : SP.Cfg ℚ)

/-- a packet of the workload: its flow is one of the `F` flows and has a positive priority -/
def PktOK (id : Int) : Prop := flow id < F ∧ ∃ π, (flow id, π) ∈ cfg.prios ∧ 0 < π

/-- gaps are not negative, packets are configured -/
def WorkOK (l : List (ℚ × Int)) : Prop := ∀ x ∈ l, 0 ≤ x.1 ∧ PktOK flow F cfg x.2

/-- the table names only the `F` flows -/
def TableOK : Prop := ∀ x ∈ cfg.prios, x.1 < F

def RunA (a : A) (now : ℚ) : RPhase → Prop
  | .init q => q.time = now ∧ q.prio = URGENT ∧ a.tokens = 0 ∧ a.pend = [] ∧ (∀ f, a.items f = []) ∧ (∀ f, a.cnt f = 0) ∧
      a.cur = none
  | .W _ => (a.tokens = 0 → ∀ f, f < F → a.items f = []) ∧ (a.tokens ≠ 0 → ∃ u, (u, 0) ∈ a.pend) ∧ a.cur = none
  | .K _ q => q.time = now ∧ q.prio = NORMAL ∧ a.cur = none
  | .H _ _ id q => q.time = now ∧ q.prio = NORMAL ∧ a.cur = none ∧ flow id < F
  | .S _ id q => q.time = now ∧ q.prio = URGENT ∧ a.cur = none ∧ flow id < F
  | .T _ _ id q => q.prio = NORMAL ∧ a.cur = some id ∧ flow id < F
  | .F _ _ q => q.time = now ∧ q.prio = NORMAL ∧ a.cur = none

def SrcA (now : ℚ) : SPhase → Prop
  | .init q arr => q.time = now ∧ q.prio = URGENT ∧ WorkOK flow F cfg arr
  | .wait id rest q => q.prio = NORMAL ∧ PktOK flow F cfg id ∧ WorkOK flow F cfg rest
  | .ending q => q.time = now ∧ q.prio = NORMAL
  | .done => True

/-- the number of packets of flow `f` the server holds (taken from the store, not yet counted out) -/
def heldCnt (a : A) (f : Nat) : Int :=
  match a.run.held with
  | some id => if flow id = f then 1 else 0
  | none => 0

/-- what holds of a configuration at instant `now` -/
structure AInv (a : A) (now : ℚ) : Prop where
  run : RunA flow F a now a.run
  src : SrcA flow F cfg now a.src
  pend : ∀ u ∈ a.pend, u.1.time = now ∧ u.1.prio = NORMAL
  due : ∀ x ∈ a.entries, now ≤ x.time
  /-- the counters are exact -/
  cntOK : ∀ f, f < F → a.cnt f = ((a.items f).length : Nat) + heldCnt flow a f
  /-- the packets in `stores[f]` are packets of flow `f` -/
  flowOK : ∀ f, f < F → ∀ i ∈ a.items f, flow i = f
  /-- a flow with a waiting packet has a positive priority -/
  prioOK : ∀ f, f < F → a.items f ≠ [] → ∃ π, (f, π) ∈ cfg.prios ∧ 0 < π
  /-- the dict keys are flows; a flow that is not a key yet has empty records -/
  keysOK : (∀ f ∈ a.keys, f < F) ∧ ∀ f, f < F → f ∉ a.keys → a.items f = [] ∧ a.cnt f = 0 ∧ a.byt f = 0
  table : TableOK F cfg
  rate : 0 < cfg.rate

/-- number of kernel steps a configuration still needs (an upper bound) -/
def RPhase.mu : RPhase → Nat
  | .init _ => 1
  | .W _ => 0
  | .K _ _ => 1
  | .H _ _ _ _ => 4
  | .S _ _ _ => 3
  | .T _ _ _ _ => 2
  | .F _ _ _ => 1

def SPhase.mu : SPhase → Nat
  | .init _ arr => 10 * arr.length + 2
  | .wait _ rest _ => 10 * rest.length + 11
  | .ending _ => 1
  | .done => 0

def A.mu (F : Nat) (a : A) : Nat := a.run.mu + a.src.mu + a.pend.length + 2 * a.tokens + 4 * waitingFrom a.items 0 F

end SPK
