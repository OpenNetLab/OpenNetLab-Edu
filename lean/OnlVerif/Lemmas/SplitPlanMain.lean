import OnlVerif.Lemmas.SplitPlan
section
/-!
# Split plans on a state in which nothing is queued (C03): the case of an empty event table

`run(until=number)` on an empty event table (`u = 0`) is outside `SplitCfg` (which needs `0 < u`).  It is covered here, more
generally for every state whose agenda is empty: `step()` raises `EmptySchedule`, `run(until=event)` returns at once or
raises, `run(until=number)` only advances the clock (and leaves one dead sentinel record) — trace and process table are
untouched, so a split plan on such a state observes exactly what the uninterrupted run (zero steps) observes.
A well-scoped state with an empty event table has an empty agenda, an empty trace and no process.

Second part: the assembled statements for reachable states (`Reach`, `initState`, `plan_transparent`).
-/

variable {σ : Type}

namespace SplitPlan
open SplitWF SplitCfg

theorem ev_plant (t : ℚ) (s : KState ℚ σ) :
    (plant t s).ev s.events.size = { kind := .sentinel, cbs := some [.stop], out := some (.ok .none) } := by
  unfold plant KState.addCb
  have hev : ((s.newEv { kind := .sentinel, cbs := some [], out := some (.ok .none) }).1.scheduleAt s.events.size URGENT t).ev
      s.events.size = { kind := .sentinel, cbs := some [], out := some (.ok .none) } := by
    show (s.newEv _).1.ev s.events.size = _
    rw [KState.ev_newEv, if_pos rfl]
  rw [hev, KState.ev_setEv, if_pos ⟨rfl, by simp [KState.scheduleAt, KState.newEv]⟩]
  rfl

/-- the state in which `run(until=t)` returns when nothing is queued -/
def inertAfter (t : ℚ) (s : KState ℚ σ) : KState ℚ σ :=
  openEvent (plant t s) { time := t, prio := URGENT, eid := s.eid, ev := s.events.size } []

theorem step_plant_inert (body : σ → Resume → Burst ℚ σ) (fuel : Nat) (t : ℚ) (s : KState ℚ σ) (hag : s.agenda = []) :
    step body fuel (plant t s) = .stopped (.ok .none) (inertAfter t s) := by
  have ha : (plant t s).agenda = [{ time := t, prio := URGENT, eid := s.eid, ev := s.events.size }] := by
    show { time := t, prio := URGENT, eid := s.eid, ev := s.events.size } :: s.agenda = _
    rw [hag]
  have hpop : popMin (plant t s).agenda =
      some ({ time := t, prio := URGENT, eid := s.eid, ev := s.events.size }, []) := by rw [ha]; rfl
  unfold step
  rw [hpop]
  simp only
  rw [ev_plant]
  simp only
  have hout : ((inertAfter t s).ev s.events.size).out = some (.ok .none) := by
    show ((openEvent (plant t s) _ []).ev s.events.size).out = _
    have : (openEvent (plant t s) { time := t, prio := URGENT, eid := s.eid, ev := s.events.size } []).ev s.events.size =
        ((plant t s).setEv s.events.size { (plant t s).ev s.events.size with cbs := none }).ev s.events.size := rfl
    rw [this, KState.ev_setEv]
    split
    · rw [ev_plant]
    · rw [ev_plant]
  show closeEvent ([Cb.stop].foldl (runCb body fuel s.events.size) { s := inertAfter t s }) s.events.size = _
  simp only [List.foldl_cons, List.foldl_nil, runCb, hout, Option.getD_some]
  rfl

theorem runUntilTime_inert (body : σ → Resume → Burst ℚ σ) (fuel n : Nat) (t : ℚ) (s s' : KState ℚ σ) (v : Val)
    (hag : s.agenda = []) (h : runUntilTime body fuel n t s = .returned v s') :
    v = .none ∧ s' = inertAfter t s := by
  have hlt : s.now < t := runUntilTime_returned_lt h
  rw [runUntilTime_eq body fuel n t s hlt] at h
  cases n with
  | zero => cases h
  | succ n =>
    simp only [runLoop, step_plant_inert body fuel t s hag] at h
    have hout : ((inertAfter t s).ev s.events.size).out = some (.ok .none) := by
      have : (inertAfter t s).ev s.events.size =
          ((plant t s).setEv s.events.size { (plant t s).ev s.events.size with cbs := none }).ev s.events.size := rfl
      rw [this, KState.ev_setEv]
      split
      · rw [ev_plant]
      · rw [ev_plant]
    unfold onStop at h
    simp only [Option.bind_some, hout] at h
    cases h
    exact ⟨rfl, rfl⟩

theorem inertAfter_facts (t : ℚ) (s : KState ℚ σ) :
    (inertAfter t s).trace = s.trace ∧ (inertAfter t s).procs = s.procs ∧ (inertAfter t s).agenda = [] ∧
      (inertAfter t s).now = t ∧ (inertAfter t s).shared = s.shared ∧ (inertAfter t s).resources = s.resources :=
  ⟨rfl, rfl, rfl, rfl, rfl, rfl⟩

theorem piece_inert (body : σ → Resume → Burst ℚ σ) (fuel budget : Nat) (p : Piece) (s s' : KState ℚ σ) (hag : s.agenda = [])
    (h : p.run body fuel budget s = some s') : s'.trace = s.trace ∧ s'.procs = s.procs ∧ s'.agenda = [] := by
  have hempty : ∀ s1 : KState ℚ σ, s1.agenda = [] → step body fuel s1 = .empty := by
    intro s1 h1; unfold step; rw [h1]; rfl
  have h := Piece.run_eq_some h
  cases p with
  | step n =>
    simp only at h
    cases n with
    | zero => cases h; exact ⟨rfl, rfl, hag⟩
    | succ n => rw [stepN_succ, hempty s hag] at h; cases h
  | untilEvent e =>
    obtain ⟨v, hr⟩ := h
    unfold runUntilEvent at hr
    split at hr
    · split at hr <;> (cases hr; exact ⟨rfl, rfl, hag⟩)
    · cases budget with
      | zero => cases hr
      | succ b => simp only [runLoop, hempty (s.addCb e .stop) hag, Option.isSome_some, if_true] at hr; cases hr
  | untilTime t =>
    obtain ⟨v, hr⟩ := h
    obtain ⟨_, rfl⟩ := runUntilTime_inert body fuel budget t s s' v hag hr
    exact ⟨rfl, rfl, rfl⟩

theorem execPlan_inert (body : σ → Resume → Burst ℚ σ) (fuel budget : Nat) : ∀ (plan : List Piece) (s s' : KState ℚ σ),
    s.agenda = [] → execPlan body fuel budget plan s = some s' → s'.trace = s.trace ∧ s'.procs = s.procs ∧ s'.agenda = []
  | [], s, s', hag, h => by cases h; exact ⟨rfl, rfl, hag⟩
  | p :: ps, s, s', hag, h => by
    unfold execPlan at h
    cases hp : p.run body fuel budget s with
    | none => rw [hp] at h; cases h
    | some s1 =>
      rw [hp] at h
      simp only [Option.bind_some] at h
      obtain ⟨h1, h2, h3⟩ := piece_inert body fuel budget p s s1 hag hp
      obtain ⟨h4, h5, h6⟩ := execPlan_inert body fuel budget ps s1 s' h3 h
      exact ⟨h4.trans h1, h5.trans h2, h6⟩

theorem empty_table_inert {I : IdSt σ} (s : KState ℚ σ) (h : WS I s) (h0 : s.events.size = 0) :
    s.agenda = [] ∧ s.procs = [] ∧ s.trace = #[] := by
  refine ⟨?_, ?_, ?_⟩
  · apply List.eq_nil_iff_forall_not_mem.mpr
    intro q hq
    have := h.agenda q hq
    rw [h0] at this
    exact Nat.not_lt_zero _ this
  · apply List.eq_nil_iff_forall_not_mem.mpr
    intro pr hpr
    have := (h.procs pr hpr).1
    rw [h0] at this
    exact Nat.not_lt_zero _ this
  · have : s.trace.toList = [] := by
      apply List.eq_nil_iff_forall_not_mem.mpr
      intro o ho
      have := h.trace o ho
      rw [h0] at this
      cases o <;> exact Nat.not_lt_zero _ this.1
    exact Array.toList_eq_nil_iff.mp this

end SplitPlan

end

section
/-!
# Split transparency for reachable states: the assembled statements (C03)

* `Reach I body fuel s` — `s` is reachable from an empty environment by outside spawns, set-ups of `run(until=…)` and kernel
  steps that name existing ids only; every such state is well-scoped and its agenda is sorted (`Reach.ws`, `Reach.sorted`);
* `initState` — an empty environment plus processes started from outside; it is well-scoped, sorted, stop-free;
* `runUntilTime_transparent_ws` — `run(until=number)` from a well-scoped state, all invariant hypotheses discharged;
* `plan_transparent`, `plan_observations` — the chained theorem for whole split plans.
-/

variable {σ : Type}

namespace SplitWF
variable {I : IdSt σ}

inductive Reach (I : IdSt σ) (body : σ → Resume → Burst ℚ σ) (fuel : Nat) : KState ℚ σ → Prop
  | init (t0 : ℚ) (rs : Array ResRec)
      (hrs : ∀ r, (rs.getD r default).putQ = [] ∧ (rs.getD r default).getQ = [] ∧ (rs.getD r default).users = []) :
      Reach I body fuel { now := t0, resources := rs }
  | spawn {s : KState ℚ σ} (self : EvId) (st : σ) : Reach I body fuel s → I.below s.events.size st →
      Reach I body fuel (doCall s self (.spawn st)).1
  | step {s s' : KState ℚ σ} : Reach I body fuel s → ScopedStep I body fuel s → (step body fuel s).state? = some s' →
      Reach I body fuel s'
  | untilEvent {s : KState ℚ σ} (e : EvId) : Reach I body fuel s → Reach I body fuel (s.addCb e .stop)
  | untilTime {s : KState ℚ σ} (t : ℚ) : Reach I body fuel s → Reach I body fuel (SplitCfg.plant t s)

theorem Reach.ws {body : σ → Resume → Burst ℚ σ} {fuel : Nat} {s : KState ℚ σ} (h : Reach I body fuel s) : WS I s := by
  induction h with
  | init t0 rs hrs => exact ws_init t0 rs hrs
  | spawn self st _ hst ih => exact ws_spawn ih self st hst
  | step _ hS hs ih => exact ws_step _ _ _ _ ih hS hs
  | untilEvent e _ ih => exact ws_until_event ih e
  | untilTime t _ ih => exact ws_until_time ih t

theorem sortedAg_plant (t : ℚ) (s : KState ℚ σ) (h : SortedAg s) : SortedAg (SplitCfg.plant t s) :=
  h.push { time := t, prio := URGENT, eid := s.eid, ev := s.events.size } rfl rfl rfl

theorem Reach.sorted {body : σ → Resume → Burst ℚ σ} {fuel : Nat} {s : KState ℚ σ} (h : Reach I body fuel s) : SortedAg s := by
  induction h with
  | init t0 rs hrs => exact ⟨List.Pairwise.nil, fun x hx => by cases hx⟩
  | spawn self st _ _ ih => exact SortedAg.krel.doCall _ self _ ih
  | step _ _ hs ih => exact SplitCfg.sortedAg_step _ _ _ _ ih (by rw [st?_eq_state?]; exact hs)
  | untilEvent e _ ih => exact ⟨ih.sorted, ih.below⟩
  | untilTime t _ ih => exact sortedAg_plant t _ ih

def initState (t0 : ℚ) (rs : Array ResRec) (mains : List σ) : KState ℚ σ :=
  mains.foldl (fun s st => (doCall s 0 (.spawn st)).1) { now := t0, resources := rs }

theorem spawns_facts (mains : List σ) : ∀ (s : KState ℚ σ), WS I s → SortedAg s → AllStopFree s →
    (∀ st ∈ mains, I.below s.events.size st) →
    WS I (mains.foldl (fun s st => (doCall s 0 (.spawn st)).1) s) ∧
      SortedAg (mains.foldl (fun s st => (doCall s 0 (.spawn st)).1) s) ∧
      AllStopFree (mains.foldl (fun s st => (doCall s 0 (.spawn st)).1) s) ∧
      s.events.size + 2 * mains.length ≤ (mains.foldl (fun s st => (doCall s 0 (.spawn st)).1) s).events.size := by
  induction mains with
  | nil => intro s h1 h2 h3 _; exact ⟨h1, h2, h3, Nat.le_refl _⟩
  | cons st rest ih =>
    intro s h1 h2 h3 hm
    rw [List.foldl_cons]
    have hsz := size_spawn s 0 st
    obtain ⟨a, b, c, d⟩ := ih (doCall s 0 (.spawn st)).1 (ws_spawn h1 0 st (hm st List.mem_cons_self))
      (SortedAg.krel.doCall s 0 _ h2) (allStopFree_doCall s 0 _ h3)
      (fun st' hst' => I.mono (hm st' (List.mem_cons_of_mem _ hst')) (by rw [hsz]; exact Nat.le_add_right _ _))
    refine ⟨a, b, c, ?_⟩
    rw [hsz] at d
    rw [List.length_cons]
    omega

/-- **the initial states of the correspondence check** are well-scoped, sorted and stop-free -/
theorem initState_facts (t0 : ℚ) (rs : Array ResRec) (mains : List σ)
    (hrs : ∀ r, (rs.getD r default).putQ = [] ∧ (rs.getD r default).getQ = [] ∧ (rs.getD r default).users = [])
    (hm : ∀ st ∈ mains, I.below 0 st) :
    WS I (initState t0 rs mains) ∧ SortedAg (initState t0 rs mains) ∧ AllStopFree (initState t0 rs mains) ∧
      2 * mains.length ≤ (initState t0 rs mains).events.size := by
  obtain ⟨a, b, c, d⟩ := spawns_facts (I := I) mains { now := t0, resources := rs } (ws_init t0 rs hrs)
    ⟨List.Pairwise.nil, fun x hx => by cases hx⟩ (allStopFree_of_empty _ rfl) hm
  refine ⟨a, b, c, ?_⟩
  have : ({ now := t0, resources := rs } : KState ℚ σ).events.size = 0 := rfl
  rw [this, Nat.zero_add] at d
  exact d

/-- **`run(until=number)` from a well-scoped state is transparent up to the renaming of ids**, under the run-level
id-opacity hypothesis `SimAlong`: the statement of `SplitCfg.runUntilTime_transparent_run` with `Closed` and `FuelAlong`
discharged, and `now < t` read off the normal return -/
theorem runUntilTime_transparent_ws_run (body : σ → Resume → Burst ℚ σ) (fuel n : Nat) (t : ℚ) (s s' : KState ℚ σ) (v : Val)
    (hpos : 0 < s.events.size) (hws : WS I s) (hS : ScopedRun I body fuel s) (hs : SortedAg s) (hns : AllStopFree s)
    (hsim : (SplitCfg.at s hpos t (I.rn s.events.size)).SimAlong body fuel s)
    (h : runUntilTime body fuel n t s = .returned v s') :
    s.now < t ∧ v = .none ∧ ∃ k sk, k < n ∧ stepN body fuel k s = .ok sk ∧
      s' = (SplitCfg.at s hpos t (I.rn s.events.size)).afterSentinel sk ∧
      (SplitCfg.at s hpos t (I.rn s.events.size)).Inv sk ∧ AllStopFree s' ∧
      (∀ j, j < k → ∀ sj m rest, stepN body fuel j s = .ok sj → popMin sj.agenda = some (m, rest) →
        (m.time < t ∨ (m.time = t ∧ m.prio = URGENT ∧ m.eid < s.eid))) ∧
      (∀ m rest, popMin sk.agenda = some (m, rest) → ¬ (m.time < t ∨ (m.time = t ∧ m.prio = URGENT ∧ m.eid < s.eid))) := by
  have hlt : s.now < t := SplitCfg.runUntilTime_returned_lt h
  let c : SplitCfg σ := SplitCfg.at s hpos t (I.rn s.events.size)
  obtain ⟨hv, k, sk, hk, h1, h2, h3, _, _, h5, h6, h7⟩ := c.runUntilTime_transparent_run body fuel n s s' v rfl rfl hlt
    (closed_of_ws c hws hs rfl rfl rfl) hs hns hsim (fuelAlong_of_ws c body fuel hws hS) h
  exact ⟨hlt, hv, k, sk, hk, h1, h2, h3, h5, h6, h7⟩

theorem runUntilTime_transparent_ws (body : σ → Resume → Burst ℚ σ) (fuel n : Nat) (t : ℚ) (s s' : KState ℚ σ) (v : Val)
    (hpos : 0 < s.events.size) (hws : WS I s) (hS : ScopedRun I body fuel s) (hs : SortedAg s) (hns : AllStopFree s)
    (hB : BodySim (shAt s.events.size) (I.rn s.events.size) body)
    (h : runUntilTime body fuel n t s = .returned v s') :
    s.now < t ∧ v = .none ∧ ∃ k sk, k < n ∧ stepN body fuel k s = .ok sk ∧
      s' = (SplitCfg.at s hpos t (I.rn s.events.size)).afterSentinel sk ∧
      (SplitCfg.at s hpos t (I.rn s.events.size)).Inv sk ∧ AllStopFree s' ∧
      (∀ j, j < k → ∀ sj m rest, stepN body fuel j s = .ok sj → popMin sj.agenda = some (m, rest) →
        (m.time < t ∨ (m.time = t ∧ m.prio = URGENT ∧ m.eid < s.eid))) ∧
      (∀ m rest, popMin sk.agenda = some (m, rest) → ¬ (m.time < t ∨ (m.time = t ∧ m.prio = URGENT ∧ m.eid < s.eid))) :=
  runUntilTime_transparent_ws_run body fuel n t s s' v hpos hws hS hs hns
    (SplitCfg.simAlong_of_bodySim (SplitCfg.at s hpos t (I.rn s.events.size)) body hB fuel s) h

end SplitWF

namespace SplitPlan
open SplitWF
variable {I : IdSt σ}

/-- **split plans are transparent** (at least one event exists), under the run-level id-opacity hypothesis `PlanSim`: the
split execution ends in the state of `K` uninterrupted steps, transformed once per numeric stop (`stackT`), with some clock -/
theorem plan_transparent_run (body : σ → Resume → Burst ℚ σ) (fuel budget : Nat) (plan : List Piece) (s0 S' : KState ℚ σ)
    (h0 : WS I s0) (hs0 : SortedAg s0) (hns0 : AllStopFree s0) (hpos : 0 < s0.events.size) (hS : ScopedRun I body fuel s0)
    (hsim : PlanSim I body fuel budget plan s0)
    (h : execPlan body fuel budget plan s0 = some S') :
    ∃ K sK cs x, stepN body fuel K s0 = .ok sK ∧ cs.length = numStops plan ∧ StackOK I cs sK ∧ S' = splitState cs sK x ∧
      S'.trace = sK.trace.map (rnObs (stackρ cs)) ∧ viewTrace S' = viewTrace sK ∧ viewProcs S' = viewProcs sK ∧
      AllStopFree S' ∧ SortedAg S' ∧ WS I S' ∧ WS I sK := by
  have r0 : Rel I body fuel [] s0 s0 := ⟨h0, hS, trivial, trivial, ⟨s0.now, rfl⟩, hs0, hns0⟩
  obtain ⟨K, sK, cs, h1, r, hl⟩ := execPlan_stack body fuel budget plan [] s0 s0 S' r0 hpos hsim h
  obtain ⟨x, hx⟩ := r.eq
  refine ⟨K, sK, cs, x, h1, by simpa using hl, r.ok, hx, ?_, ?_, ?_, r.nostop, r.sorted, r.wsS, r.ws⟩
  · rw [hx]
    exact trace_stackT cs sK
  · rw [hx, viewTrace_splitState, viewTrace_stackT cs sK r.ok]
  · rw [hx, viewProcs_splitState, viewProcs_stackT cs sK r.ok]

theorem plan_transparent (body : σ → Resume → Burst ℚ σ) (fuel budget : Nat)
    (hB : ∀ u, 0 < u → BodySim (shAt u) (I.rn u) body) (plan : List Piece) (s0 S' : KState ℚ σ)
    (h0 : WS I s0) (hs0 : SortedAg s0) (hns0 : AllStopFree s0) (hpos : 0 < s0.events.size) (hS : ScopedRun I body fuel s0)
    (h : execPlan body fuel budget plan s0 = some S') :
    ∃ K sK cs x, stepN body fuel K s0 = .ok sK ∧ cs.length = numStops plan ∧ StackOK I cs sK ∧ S' = splitState cs sK x ∧
      S'.trace = sK.trace.map (rnObs (stackρ cs)) ∧ viewTrace S' = viewTrace sK ∧ viewProcs S' = viewProcs sK ∧
      AllStopFree S' ∧ SortedAg S' ∧ WS I S' ∧ WS I sK :=
  plan_transparent_run body fuel budget plan s0 S' h0 hs0 hns0 hpos hS (planSim_of_bodySim body fuel budget hB plan s0) h

/-- **what a split plan lets the program and the harness observe is what the uninterrupted run lets them observe**, from
every well-scoped state (with or without events), under the run-level hypothesis -/
theorem plan_observations_run (body : σ → Resume → Burst ℚ σ) (fuel budget : Nat) (plan : List Piece) (s0 S' : KState ℚ σ)
    (h0 : WS I s0) (hs0 : SortedAg s0) (hns0 : AllStopFree s0) (hS : ScopedRun I body fuel s0)
    (hsim : PlanSim I body fuel budget plan s0)
    (h : execPlan body fuel budget plan s0 = some S') :
    ∃ K sK, stepN body fuel K s0 = .ok sK ∧ viewTrace S' = viewTrace sK ∧ viewProcs S' = viewProcs sK ∧
      S'.procs.length = sK.procs.length := by
  by_cases hpos : 0 < s0.events.size
  · obtain ⟨K, sK, cs, x, h1, _, _, _, _, h6, h7, _⟩ := plan_transparent_run body fuel budget plan s0 S' h0 hs0 hns0 hpos hS hsim h
    refine ⟨K, sK, h1, h6, h7, ?_⟩
    have := congrArg List.length h7
    simpa [viewProcs] using this
  · have hz : s0.events.size = 0 := Nat.eq_zero_of_not_pos hpos
    obtain ⟨a, b, c⟩ := empty_table_inert s0 h0 hz
    obtain ⟨d, e, _⟩ := execPlan_inert body fuel budget plan s0 S' a h
    refine ⟨0, s0, rfl, ?_, ?_, by rw [e]⟩
    · unfold viewTrace; rw [d, c]; rfl
    · unfold viewProcs; rw [e, b]; rfl

theorem plan_observations (body : σ → Resume → Burst ℚ σ) (fuel budget : Nat)
    (hB : ∀ u, 0 < u → BodySim (shAt u) (I.rn u) body) (plan : List Piece) (s0 S' : KState ℚ σ)
    (h0 : WS I s0) (hs0 : SortedAg s0) (hns0 : AllStopFree s0) (hS : ScopedRun I body fuel s0)
    (h : execPlan body fuel budget plan s0 = some S') :
    ∃ K sK, stepN body fuel K s0 = .ok sK ∧ viewTrace S' = viewTrace sK ∧ viewProcs S' = viewProcs sK ∧
      S'.procs.length = sK.procs.length :=
  plan_observations_run body fuel budget plan s0 S' h0 hs0 hns0 hS (planSim_of_bodySim body fuel budget hB plan s0) h

end SplitPlan

end
