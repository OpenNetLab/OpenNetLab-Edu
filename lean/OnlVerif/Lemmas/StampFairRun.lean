import OnlVerif.Lemmas.StampFair
/-!
# WFQ with a static backlog, along runs

Phase 2 (`Static`): from an empty scheduler, packets arrive at one instant: virtual time stays 0 and every finish
time is the cumulative normalised size of its class.  Phase 3 (`Fair`): no more arrivals; every service decision
takes a minimal stamp.  The fairness bounds are read off `Fair`.
-/

namespace WFQ
open Stamp

def NoPut (as : List (StAct ℚ)) : Prop := ∀ a ∈ as, ∀ p, a ≠ .put p

structure Fair (c : WfqCfg ℚ) (L : Nat) (s : WState) (outs : List SPkt) : Prop where
  shape : Shape s
  fl : FairL c L [] (outs ++ inHand s) s.items
  hand : ∀ m ∈ inHand s, (0 < m.size ∧ m.size ≤ L) ∧ ∃ k w, clsOf c m.flow = some k ∧ lookup c.weights k = some w
  /-- the class of the packet taken last leads in normalised service taken -/
  lead : ∀ m ∈ inHand s, ∀ km wm, clsOf c m.flow = some km → lookup c.weights km = some wm →
    ∀ k w, lookup c.weights k = some w →
      bitsOf c k (outs ++ inHand s) / w ≤ bitsOf c km (outs ++ inHand s) / wm

theorem step_fair {c : WfqCfg ℚ} (hp : Pos c) {L : Nat} {s s' : WState} {a : StAct ℚ} {o : StOut} {outs : List SPkt}
    (h : Fair c L s outs) (ht : Trans (sched c) s a s' o) (hnp : ∀ p, a ≠ .put p) : Fair c L s' (outs ++ left o) := by
  have hs' := step_shape h.shape ht
  rcases ht.move h.shape with ⟨p, _, _, rfl, _⟩ | ⟨_, hl, hin, _, id, it, rest, hpk, hit, hin'⟩ | ⟨_, hit, hin⟩
  · exact absurd rfl (hnp p)
  · obtain ⟨pre, post, hpl, rfl, _, hmin⟩ := hpk
    have hfl := h.fl
    rw [hin, List.append_nil, hpl] at hfl
    obtain ⟨h1, h2⟩ := fairL_pick hp hfl (hpl ▸ hmin)
    have hmem : it ∈ s.items := by rw [hpl]; simp
    rw [← hit, ← hin'] at h1
    rw [hl, List.append_nil]
    refine ⟨hs', h1, fun m hm => ?_, fun m hm => ?_⟩
    · cases List.mem_singleton.mp (hin' ▸ hm)
      exact ⟨h.fl.size it hmem, h.fl.conf it hmem⟩
    · cases List.mem_singleton.mp (hin' ▸ hm)
      intro km wm hkm hwm k w hw
      have := h2 km wm hkm hwm k w hw
      rwa [bitsOf_nil, sub_zero, ← hin'] at this
  · have hr : outs ++ left o ++ inHand s' = outs ++ inHand s := by rw [hin, List.append_assoc]
    have hsub : ∀ m ∈ inHand s', m ∈ inHand s := fun m hm => hin ▸ List.mem_append_right _ hm
    exact ⟨hs', by rw [hr, hit]; exact h.fl, fun m hm => h.hand m (hsub m hm), fun m hm => hr ▸ h.lead m (hsub m hm)⟩

theorem run_fair {c : WfqCfg ℚ} (hp : Pos c) {L : Nat} (as : List (StAct ℚ)) (hnp : NoPut as) (s s' : WState)
    (o1 ins outs : List SPkt) (h : Fair c L s o1) (hr : runActs (sched c) s as = .ok (s', ins, outs)) :
    Fair c L s' (o1 ++ outs) := by
  induction as generalizing s o1 ins outs with
  | nil =>
    simp only [runActs, Except.ok.injEq, Prod.mk.injEq] at hr
    obtain ⟨rfl, _, rfl⟩ := hr
    simpa using h
  | cons a as ih =>
    obtain ⟨s1, o, ins2, outs2, hstep, h2, _, rfl⟩ := runActs_cons_ok hr
    have h1 := step_fair hp h (step_trans _ _ _ _ _ hstep) (hnp a (by simp))
    have := ih (fun b hb => hnp b (List.mem_cons_of_mem _ hb)) s1 (o1 ++ left o) ins2 outs2 h1 h2
    rwa [List.append_assoc] at this

def Backlogged (c : WfqCfg ℚ) (s : WState) (k : Nat) : Prop := ∃ y ∈ s.items, clsOf c y.pkt.flow = some k

/-- service *taken* (transmission started or completed): one direction -/
theorem fair_started_le {c : WfqCfg ℚ} (hp : Pos c) {L : Nat} {s : WState} {outs : List SPkt} (h : Fair c L s outs)
    (i j : Nat) (wi wj : ℚ) (hwi : lookup c.weights i = some wi) (hwj : lookup c.weights j = some wj)
    (hbj : Backlogged c s j) :
    bitsOf c i (outs ++ inHand s) / wi ≤ bitsOf c j (outs ++ inHand s) / wj + 8 * (L : ℚ) / wj := by
  have := h.fl.started_le hp hwi hwj hbj
  rwa [bitsOf_nil, sub_zero] at this

theorem Pos.slack_nonneg {c : WfqCfg ℚ} (hp : Pos c) (L : Nat) {i : Nat} {w : ℚ} (hw : lookup c.weights i = some w) :
    0 ≤ 8 * (L : ℚ) / w :=
  div_nonneg (mul_nonneg (by norm_num) (Nat.cast_nonneg L)) (hp.w i w hw).le

theorem abs_sub_le_add {x y a b : ℚ} (h1 : x ≤ y + b) (h2 : y ≤ x + a) (ha : 0 ≤ a) (hb : 0 ≤ b) : |x - y| ≤ a + b :=
  abs_le.mpr ⟨by linarith, by linarith⟩

/-- service *completed* (departed packets): one direction -/
theorem fair_completed_le {c : WfqCfg ℚ} (hp : Pos c) {L : Nat} {s : WState} {outs : List SPkt} (h : Fair c L s outs)
    (i j : Nat) (wi wj : ℚ) (hwi : lookup c.weights i = some wi) (hwj : lookup c.weights j = some wj)
    (hbj : Backlogged c s j) :
    bitsOf c i outs / wi ≤ bitsOf c j outs / wj + 8 * (L : ℚ) / wj := by
  have hst := fair_started_le hp h i j wi wj hwi hwj hbj
  have hwip := hp.w i wi hwi
  have hwjp := hp.w j wj hwj
  simp only [bitsOf_append, add_div] at hst
  have hei : 0 ≤ bitsOf c i (inHand s) / wi := div_nonneg (bitsOf_nonneg _ _ _) (le_of_lt hwip)
  rcases h.shape.inHand_cases with hnil | ⟨m, hm⟩
  · simp only [hnil, bitsOf_nil, zero_div, add_zero] at hst
    exact hst
  · by_cases hmj : clsOf c m.flow = some j
    · -- the packet in hand belongs to class j: class j leads in service taken
      have hmem : m ∈ inHand s := by rw [hm]; simp
      have hl := h.lead m hmem j wj hmj hwj i wi hwi
      simp only [bitsOf_append, add_div] at hl
      have hej : bitsOf c j (inHand s) / wj ≤ 8 * (L : ℚ) / wj := by
        apply div_le_div_of_nonneg_right _ (le_of_lt hwjp)
        rw [hm]
        simp only [bitsOf_cons, bitsOf_nil, add_zero, if_pos hmj]
        exact mul_le_mul_of_nonneg_left (by exact_mod_cast (h.hand m hmem).1.2) (by norm_num)
      exact (le_add_of_nonneg_right hei).trans (hl.trans (add_le_add_right hej _))
    · have hej : bitsOf c j (inHand s) = 0 := by
        rw [hm]; simp [hmj]
      rw [hej, zero_div, add_zero] at hst
      exact (le_add_of_nonneg_right hei).trans hst

structure Static (c : WfqCfg ℚ) (L : Nat) (s : WState) : Prop where
  ginv : GInv s
  winv : WInv c s
  /-- nothing has been taken out of the store (a packet that has already left may still await its booking-out) -/
  idle : inHand s = []
  fl : FairL c L [] [] s.items
  /-- while packets wait: virtual time is still 0, the last event was now, and the finish time of every class is
  the normalised size of all its packets -/
  live : s.items ≠ [] → s.sch.vtime = 0 ∧ s.sch.lastTime = s.now ∧
    ∀ k w, lookup c.weights k = some w → ∃ F, lookup s.sch.finish k = some F ∧ F * c.rate * w = bitsOf c k (waiting s)

theorem static_of_empty {c : WfqCfg ℚ} {L : Nat} {s : WState} (hg : GInv s) (hw : WInv c s) (he : held s = []) :
    Static c L s := by
  have hit := items_of_held_nil he
  refine ⟨hg, hw, (List.append_eq_nil_iff.mp he).1, ?_, fun h => absurd hit h⟩
  rw [hit]
  exact ⟨fun _ h => absurd h List.not_mem_nil, fun _ h => absurd h List.not_mem_nil, fun _ _ _ => trivial,
    fun _ _ _ _ h => absurd h List.not_mem_nil⟩

theorem step_static {c : WfqCfg ℚ} (hp : Pos c) {L : Nat} {s s' : WState} {p : SPkt} {o : StOut} (h : Static c L s)
    (hsz : 0 < p.size ∧ p.size ≤ L) (ht : Trans (sched c) s (.put p) s' o) : Static c L s' ∧ o = .accepted := by
  have hg' := (step_ginv h.ginv ht).1
  have hw' := step_winv h.ginv h.winv ht
  cases ht with
  | put _ sch stamp h1 =>
    obtain ⟨⟨k, w, hk, hwt, hstamp⟩, hst0, hv, hl, hfin⟩ := put_burst hp h1 (R := waiting s)
      (fun h0 => by rw [waiting, h.winv.items_nil_of_total h0]; rfl)
      (fun hne => h.live fun hc => hne (h.winv.tot.zero_iff.mpr (by rw [held, h.idle, waiting, hc]; rfl)))
    exact ⟨⟨hg', hw', h.idle, fairL_snoc hp h.fl hk hwt hsz hstamp hst0,
      fun _ => ⟨hv, hl, waiting_enqueue s sch stamp p ▸ hfin⟩⟩, rfl⟩

theorem Static.fair {c : WfqCfg ℚ} {L : Nat} {s : WState} (h : Static c L s) : Fair c L s [] := by
  refine ⟨h.ginv.shape, ?_, ?_, ?_⟩
  · rw [h.idle]; exact h.fl
  · intro m hm; rw [h.idle] at hm; simp at hm
  · intro m hm; rw [h.idle] at hm; simp at hm

theorem static_run {c : WfqCfg ℚ} (hp : Pos c) {L : Nat} (ps : List SPkt) (hps : ∀ p ∈ ps, 0 < p.size ∧ p.size ≤ L)
    (as : List (StAct ℚ)) (hnp : NoPut as) (s s' : WState) (ins outs : List SPkt) (h : Static c L s)
    (hr : runActs (sched c) s (ps.map .put ++ as) = .ok (s', ins, outs)) : Fair c L s' outs := by
  induction ps generalizing s ins outs with
  | nil =>
    have := run_fair hp as hnp s s' [] ins outs h.fair hr
    simpa using this
  | cons p ps ih =>
    obtain ⟨s1, o, ins2, outs2, hstep, h2, _, rfl⟩ := runActs_cons_ok hr
    obtain ⟨hs1, rfl⟩ := step_static hp h (hps p (by simp)) (step_trans _ _ _ _ _ hstep)
    exact ih (fun q hq => hps q (List.mem_cons_of_mem _ hq)) s1 ins2 outs2 hs1 h2

end WFQ
