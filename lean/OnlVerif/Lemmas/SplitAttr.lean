import Lean.Meta.Tactic.Simp.RegisterCommand
/-! # The simp sets of C03: `kstrip`, "erasing `StopSimulation.callback`s commutes with this function" (stage 2), and `ksent` (stage 3) -/

/-- lemmas of the form `f (s.stripBy P) = (f s).stripBy P` / `read (s.stripBy P) = read s` -/
register_simp_attr kstrip

/-- lemmas that push the sentinel transformation `c.T q` and the renamings toward the leaves (C03, stage 3) -/
register_simp_attr ksent
