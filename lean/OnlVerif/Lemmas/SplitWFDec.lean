import OnlVerif.Lemmas.SplitPlanMain
import OnlVerif.Lemmas.OnceDec
import OnlVerif.Lemmas.SplitDemo
/-!
# The run-level hypotheses are decidable per concrete run (C03, stage 3)

`ScopedStep I body fuel s` (the program names existing ids only) and `c.SimStep body fuel s` (run-level id-opacity) can be
evaluated for a concrete program and state (`decide +kernel`), given decidable equality on local states and a decidable
`I.below`.  A run that ends (empty agenda) after `N` steps satisfies `ScopedRun` / `SimAlong` as soon as its `N` states
satisfy `ScopedStep` / `SimStep` (`AllUpTo.runAll`).
-/

deriving instance DecidableEq for Call
deriving instance DecidableEq for Term

variable {σ : Type}

namespace SplitWF

/-! ## the mirror predicates are decidable when their parameter is -/

section mirror
variable (P : EvId → σ → Resume → KState ℚ σ → Prop) [∀ p st r s, Decidable (P p st r s)] (body : σ → Resume → Burst ℚ σ)

def ResumeAll.dec (p : EvId) : (fuel : Nat) → (e : EvId) → (s : KState ℚ σ) → Decidable (ResumeAll P body p fuel e s)
  | 0, _, _ => isTrue trivial
  | fuel + 1, e, s => by
    unfold ResumeAll
    split
    · exact isTrue trivial
    · refine @instDecidableAnd _ _ inferInstance ?_
      split
      · split
        · exact isTrue trivial
        · exact ResumeAll.dec p fuel _ _
      · exact isTrue trivial

instance (p : EvId) (fuel : Nat) (e : EvId) (s : KState ℚ σ) : Decidable (ResumeAll P body p fuel e s) :=
  ResumeAll.dec P body p fuel e s

instance (fuel : Nat) (iv p : EvId) (s : KState ℚ σ) : Decidable (IntrAll P body fuel iv p s) := by
  unfold IntrAll
  split
  · exact isTrue trivial
  · split
    · exact isTrue trivial
    · split <;> exact inferInstance

instance instDecCbAll (fuel : Nat) (e : EvId) (s : KState ℚ σ) : (cb : Cb) → Decidable (CbAll P body fuel e s cb)
  | .resume p => inferInstanceAs (Decidable (ResumeAll P body p fuel e s))
  | .intr iv => by
    simp only [CbAll]
    split
    · exact inferInstance
    · exact isTrue trivial
  | .probe _ => isTrue trivial
  | .stop => isTrue trivial
  | .check _ => isTrue trivial
  | .build _ => isTrue trivial
  | .trigPut _ => isTrue trivial
  | .trigGet _ => isTrue trivial

def CbsAll.dec (fuel : Nat) (e : EvId) : (cbs : List Cb) → (l : LoopSt ℚ σ) → Decidable (CbsAll P body fuel e cbs l)
  | [], _ => isTrue trivial
  | cb :: cbs, l => @instDecidableAnd _ _ (instDecCbAll P body fuel e l.s cb) (CbsAll.dec fuel e cbs _)

instance instDecStepAll (fuel : Nat) (s : KState ℚ σ) : Decidable (StepAll P body fuel s) := by
  unfold StepAll
  split
  · exact isTrue trivial
  · split
    · exact isTrue trivial
    · exact CbsAll.dec P body fuel _ _ _

def AllUpTo (fuel : Nat) (s0 : KState ℚ σ) (N : Nat) : Prop :=
  (Once.iter body fuel N s0).isNone = true ∧
  ∀ n, n < N → match Once.iter body fuel n s0 with
    | some s => StepAll P body fuel s
    | none => True

instance (fuel : Nat) (s0 : KState ℚ σ) (N : Nat) : Decidable (AllUpTo P body fuel s0 N) := by
  unfold AllUpTo
  refine @instDecidableAnd _ _ inferInstance (@Nat.decidableBallLT N _ (fun n _ => ?_))
  split
  · exact inferInstance
  · exact isTrue trivial

omit [∀ p st r s, Decidable (P p st r s)] in
theorem AllUpTo.runAll {fuel : Nat} {s0 : KState ℚ σ} {N : Nat} (h : AllUpTo P body fuel s0 N) : RunAll P body fuel s0 := by
  intro s hr
  obtain ⟨n, hn⟩ := Once.reach_iter hr
  have hend : Once.iter body fuel N s0 = none := by
    cases hc : Once.iter body fuel N s0 with
    | none => rfl
    | some x => have := h.1; rw [hc] at this; cases this
  by_cases hlt : n < N
  · have := h.2 n hlt
    rw [hn] at this
    exact this
  · have := Once.iter_none_of_le hend n (by omega)
    rw [hn] at this; cases this

end mirror

instance instDecValBelow (n : Nat) : (v : Val) → Decidable (valBelow n v)
  | .ev e => inferInstanceAs (Decidable (e < n))
  | .cv keys => inferInstanceAs (Decidable (∀ k ∈ keys, k < n))
  | .preempted b r _ =>
    match b with
    | none => decidable_of_iff (r < n) ⟨fun h => ⟨fun p hp => (by cases hp), h⟩, fun h => h.2⟩
    | some p0 => decidable_of_iff (p0 < n ∧ r < n)
        ⟨fun h => ⟨fun p hp => (by cases hp; exact h.1), h.2⟩, fun h => ⟨h.1 p0 rfl, h.2⟩⟩
  | .none => isTrue trivial
  | .int _ => isTrue trivial
  | .str _ => isTrue trivial
  | .frozen _ => isTrue trivial

instance instDecExcBelow (n : Nat) (x : Exc) : Decidable (excBelow n x) :=
  inferInstanceAs (Decidable (∀ v ∈ x.args, valBelow n v))

instance instDecCallBelow (I : IdSt σ) [∀ n st, Decidable (I.below n st)] (n : Nat) : (c : Call ℚ σ) → Decidable (callBelow I n c)
  | .timeout _ v => inferInstanceAs (Decidable (valBelow n v))
  | .succeed e v => inferInstanceAs (Decidable (e < n ∧ valBelow n v))
  | .fail e x => inferInstanceAs (Decidable (e < n ∧ excBelow n x))
  | .spawn st => inferInstanceAs (Decidable (I.below n st))
  | .interrupt _ cause => inferInstanceAs (Decidable (valBelow n cause))
  | .cond _ ops => inferInstanceAs (Decidable (∀ o ∈ ops, o < n))
  | .release _ req => inferInstanceAs (Decidable (req < n))
  | .log _ v => inferInstanceAs (Decidable (valBelow n v))
  | .store _ v => inferInstanceAs (Decidable (valBelow n v))
  | .event => isTrue trivial
  | .probe _ _ => isTrue trivial
  | .request _ _ _ => isTrue trivial
  | .cancel _ => isTrue trivial
  | .cput _ _ => isTrue trivial
  | .cget _ _ => isTrue trivial
  | .sput _ _ => isTrue trivial
  | .sget _ _ => isTrue trivial
  | .load _ => isTrue trivial

def ScopedBurst.dec (I : IdSt σ) [∀ n st, Decidable (I.below n st)] (self : EvId) : (b : Burst ℚ σ) → (s : KState ℚ σ) →
    Decidable (ScopedBurst I self b s)
  | .call c k, s => @instDecidableAnd _ _ (instDecCallBelow I s.events.size c) (ScopedBurst.dec I self (k _) _)
  | .yield e st, s => inferInstanceAs (Decidable (e < s.events.size ∧ I.below s.events.size st))
  | .ret v, s => inferInstanceAs (Decidable (valBelow s.events.size v))
  | .raise x, s => inferInstanceAs (Decidable (excBelow s.events.size x))

instance (I : IdSt σ) [∀ n st, Decidable (I.below n st)] (self : EvId) (b : Burst ℚ σ) (s : KState ℚ σ) :
    Decidable (ScopedBurst I self b s) := ScopedBurst.dec I self b s

instance (I : IdSt σ) [∀ n st, Decidable (I.below n st)] (body : σ → Resume → Burst ℚ σ) (fuel : Nat) (s : KState ℚ σ) :
    Decidable (ScopedStep I body fuel s) :=
  instDecStepAll (fun p st r s => ScopedBurst I p (body st r) s) body fuel s

instance (n : Nat) (st : SSt) : Decidable ((IdSt.none SSt).below n st) := isTrue trivial

theorem scopedRun_of_upTo (I : IdSt σ) (body : σ → Resume → Burst ℚ σ) (fuel : Nat) (s0 : KState ℚ σ) (N : Nat)
    (h : AllUpTo (fun p st r s => ScopedBurst I p (body st r) s) body fuel s0 N) : ScopedRun I body fuel s0 :=
  AllUpTo.runAll _ body h

end SplitWF

def SimBurst.dec [DecidableEq σ] (ρ : EvId → EvId) (rσ : σ → σ) (self : EvId) : (b b' : Burst ℚ σ) → (s : KState ℚ σ) →
    Decidable (SimBurst ρ rσ self b b' s)
  | .call c k, .call c' k', s =>
    @instDecidableAnd _ _ (inferInstanceAs (Decidable (c' = rnCall ρ rσ c))) (SimBurst.dec ρ rσ self (k _) (k' _) _)
  | .call _ _, .yield _ _, _ => isFalse (fun h => h)
  | .call _ _, .ret _, _ => isFalse (fun h => h)
  | .call _ _, .raise _, _ => isFalse (fun h => h)
  | .yield e st, .yield e' st', _ => inferInstanceAs (Decidable (e' = ρ e ∧ st' = rσ st))
  | .yield _ _, .call _ _, _ => isFalse (fun h => h)
  | .yield _ _, .ret _, _ => isFalse (fun h => h)
  | .yield _ _, .raise _, _ => isFalse (fun h => h)
  | .ret v, .ret v', _ => inferInstanceAs (Decidable (v' = rnVal ρ v))
  | .ret _, .call _ _, _ => isFalse (fun h => h)
  | .ret _, .yield _ _, _ => isFalse (fun h => h)
  | .ret _, .raise _, _ => isFalse (fun h => h)
  | .raise x, .raise x', _ => inferInstanceAs (Decidable (x' = rnExc ρ x))
  | .raise _, .call _ _, _ => isFalse (fun h => h)
  | .raise _, .yield _ _, _ => isFalse (fun h => h)
  | .raise _, .ret _, _ => isFalse (fun h => h)

instance [DecidableEq σ] (ρ : EvId → EvId) (rσ : σ → σ) (self : EvId) (b b' : Burst ℚ σ) (s : KState ℚ σ) :
    Decidable (SimBurst ρ rσ self b b' s) := SimBurst.dec ρ rσ self b b' s

instance [DecidableEq σ] (c : SplitCfg σ) (body : σ → Resume → Burst ℚ σ) (fuel : Nat) (s : KState ℚ σ) :
    Decidable (c.SimStep body fuel s) :=
  SplitWF.instDecStepAll (c.simP body) body fuel s

theorem SplitCfg.simAlong_of_upTo (c : SplitCfg σ) (body : σ → Resume → Burst ℚ σ) (fuel : Nat) (s0 : KState ℚ σ) (N : Nat)
    (h : SplitWF.AllUpTo (c.simP body) body fuel s0 N) : c.SimAlong body fuel s0 :=
  fun j sj hj => SplitWF.AllUpTo.runAll _ body h sj (SplitWF.kreach_of_stepN body fuel j s0 sj hj)

namespace SplitPlan
open SplitWF
variable {I : IdSt σ}

/-- `PlanSim` with `SimAlong` replaced by its finite check `AllUpTo … N` -/
def PlanSimUpTo (I : IdSt σ) (body : σ → Resume → Burst ℚ σ) (fuel budget N : Nat) : List Piece → KState ℚ σ → Prop
  | [], _ => True
  | p :: ps, S =>
    (match p with
      | .untilTime t =>
        if hpos : 0 < S.events.size then AllUpTo ((SplitCfg.at S hpos t (I.rn S.events.size)).simP body) body fuel S N else True
      | _ => True) ∧
    match p.run body fuel budget S with
    | some S1 => PlanSimUpTo I body fuel budget N ps S1
    | none => True

def PlanSimUpTo.dec [DecidableEq σ] (I : IdSt σ) (body : σ → Resume → Burst ℚ σ) (fuel budget N : Nat) :
    (plan : List Piece) → (S : KState ℚ σ) → Decidable (PlanSimUpTo I body fuel budget N plan S)
  | [], _ => isTrue trivial
  | p :: ps, S => by
    unfold PlanSimUpTo
    refine @instDecidableAnd _ _ ?_ ?_
    · cases p with
      | untilTime t =>
        simp only
        split
        · exact inferInstance
        · exact isTrue trivial
      | step n => exact isTrue trivial
      | untilEvent e => exact isTrue trivial
    · split
      · exact PlanSimUpTo.dec I body fuel budget N ps _
      · exact isTrue trivial

instance [DecidableEq σ] (I : IdSt σ) (body : σ → Resume → Burst ℚ σ) (fuel budget N : Nat) (plan : List Piece) (S : KState ℚ σ) :
    Decidable (PlanSimUpTo I body fuel budget N plan S) := PlanSimUpTo.dec I body fuel budget N plan S

theorem PlanSimUpTo.planSim (body : σ → Resume → Burst ℚ σ) (fuel budget N : Nat) : ∀ (plan : List Piece) (S : KState ℚ σ),
    PlanSimUpTo I body fuel budget N plan S → PlanSim I body fuel budget plan S
  | [], _, _ => trivial
  | p :: ps, S, h => by
    obtain ⟨h1, h2⟩ := h
    refine ⟨?_, ?_⟩
    · cases p with
      | untilTime t =>
        intro hpos
        simp only [dif_pos hpos] at h1
        exact SplitCfg.simAlong_of_upTo _ body fuel S N h1
      | _ => trivial
    · cases hp : p.run body fuel budget S with
      | none => trivial
      | some S1 =>
        rw [hp] at h2
        exact PlanSimUpTo.planSim body fuel budget N ps S1 h2

end SplitPlan
