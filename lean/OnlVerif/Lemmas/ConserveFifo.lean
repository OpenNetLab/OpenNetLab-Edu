import OnlVerif.Lemmas.ConserveStore
import OnlVerif.Lemmas.ConserveTrace
/-!
# C07: a `Store` is first-in first-out across the whole run

For a `Store` `r`, as **lists**:
`initial items ++ items of the granted puts (by creation order of the puts)
   = items handed to the getters (by creation order of the gets) ++ items still held`.
Since puts and gets of a Store are granted in creation order, this says: the k-th granted get receives the k-th
accepted item.
-/

variable {σ : Type}

namespace Conserve

theorem filterMap_range_extend {f f' : Nat → Option Int} {n : Nat} (hold : ∀ i, i < n → f' i = f i) :
    ∀ n', n ≤ n' → (∀ i, n ≤ i → i < n' → f' i = none) → (List.range n').filterMap f' = (List.range n).filterMap f := by
  intro n' h
  induction n', h using Nat.le_induction with
  | base =>
    intro _
    apply List.filterMap_congr
    intro i hi
    exact hold i (List.mem_range.mp hi)
  | succ m hm ih =>
    intro hnew
    rw [List.range_succ, List.filterMap_append, ih (fun i h1 h2 => hnew i h1 (Nat.lt_succ_of_lt h2))]
    simp [hnew m hm (Nat.lt_succ_self m)]

/-- one entry changes from `none` to `some x`, and no later entry is present: `x` is appended -/
theorem filterMap_range_grant {f f' : Nat → Option Int} {e : Nat} {x : Int} (hfe : f e = none) (hfe' : f' e = some x)
    (hother : ∀ i, i ≠ e → f' i = f i) : ∀ n, e < n → (∀ i, e < i → i < n → f i = none) →
    (List.range n).filterMap f' = (List.range n).filterMap f ++ [x]
  | 0, he, _ => absurd he (Nat.not_lt_zero _)
  | n + 1, he, hlater => by
    rw [List.range_succ, List.filterMap_append, List.filterMap_append]
    by_cases hen : e = n
    · subst hen
      have h1 : (List.range e).filterMap f' = (List.range e).filterMap f := by
        apply List.filterMap_congr
        intro i hi
        exact hother i (Nat.ne_of_lt (List.mem_range.mp hi))
      rw [h1]
      simp [hfe, hfe']
    · have hlt : e < n := by omega
      rw [filterMap_range_grant hfe hfe' hother n hlt (fun i h1 h2 => hlater i h1 (Nat.lt_succ_of_lt h2))]
      have hn : f n = none := hlater n hlt (Nat.lt_succ_self n)
      have hn' : f' n = none := by rw [hother n (fun hc => hen hc.symm)]; exact hn
      simp [hn, hn']

def entry (K : Kind) (f : Outcome → ReqData ℚ → Option Int) (s : KState ℚ σ) (a : EvId) : Option Int :=
  if (s.ev a).kind = K then (s.ev a).out.bind (fun o => f o (coreOf s a)) else none

/-- the values read off the granted requests of kind `K`, in creation order -/
def entries (K : Kind) (f : Outcome → ReqData ℚ → Option Int) (s : KState ℚ σ) : List Int :=
  (List.range s.events.size).filterMap (entry K f s)

theorem putItems_eq (s : KState ℚ σ) (r : ResId) : putItems s r = entries (.put r) (fun _ c => some c.item) s := by
  unfold putItems grantedPuts entries
  rw [map_filter_eq_filterMap]
  apply List.filterMap_congr
  intro a _
  unfold entry KState.triggered
  by_cases hk : (s.ev a).kind = .put r <;> cases ho : (s.ev a).out <;> simp [hk] <;> rfl

theorem gotItems_eq (s : KState ℚ σ) (r : ResId) : gotItems s r = entries (.get r) (fun o _ => gotOf (some o)) s := by
  unfold gotItems entries
  apply List.filterMap_congr
  intro a _
  unfold entry
  by_cases hk : (s.ev a).kind = .get r <;> cases ho : (s.ev a).out <;> simp [hk] <;> rfl

section entry
variable {K : Kind} {f : Outcome → ReqData ℚ → Option Int}

theorem entry_same {s s' : KState ℚ σ} {a : EvId} (hk : (s'.ev a).kind = (s.ev a).kind)
    (ho : (s'.ev a).out = (s.ev a).out) (hc : coreOf s' a = coreOf s a) : entry K f s' a = entry K f s a := by
  unfold entry
  rw [hk, ho, hc]

theorem entry_none_of {s : KState ℚ σ} {a : EvId} (h : (s.ev a).kind = K → (s.ev a).out = none) :
    entry K f s a = none := by
  unfold entry
  split
  · rename_i hk; rw [h hk]; rfl
  · rfl

theorem isReq_of_kind_eq {s : KState ℚ σ} {a : EvId} (hK : nonReqKind K = false) (hk : (s.ev a).kind = K) :
    isReq s a = true := by
  rw [isReq_eq_not_nonReq, hk, hK]; rfl

theorem entries_quiet {s s' : KState ℚ σ} (hK : nonReqKind K = false) (h : Quiet s s') : entries K f s' = entries K f s := by
  refine filterMap_range_extend (fun a ha => ?_) _ h.size_le
    (fun i hi _ => entry_none_of (fun hki => h.fresh i hi (isReq_of_kind_eq hK hki)))
  by_cases hk : (s.ev a).kind = K
  · exact entry_same (h.kind a ha) (h.out a (isReq_of_kind_eq hK hk)) (h.core a ha)
  · rw [entry_none_of (fun h' => absurd h' hk), entry_none_of (fun h' => absurd (by rw [← h.kind a ha]; exact h') hk)]

theorem entries_same {s s' : KState ℚ σ} {e : EvId} {o : Outcome} (hG : Granted s s' e o) (hne : (s.ev e).kind ≠ K) :
    entries K f s' = entries K f s := by
  unfold entries
  rw [hG.size]
  apply List.filterMap_congr
  intro a _
  by_cases hae : a = e
  · subst hae
    rw [entry_none_of (fun h => absurd h hne), entry_none_of (fun h => absurd (by rw [← hG.kind]; exact h) hne)]
  · exact entry_same (hG.kind a) (hG.outOther a hae) (hG.core a)

theorem entries_grant {s s' : KState ℚ σ} {e : EvId} {o : Outcome} {x : Int} (hG : Granted s s' e o)
    (hk : (s.ev e).kind = K) (hx : f o (coreOf s e) = some x)
    (hlater : ∀ i, e < i → (s.ev i).kind = K → (s.ev i).out = none) : entries K f s' = entries K f s ++ [x] := by
  unfold entries
  rw [hG.size]
  apply filterMap_range_grant (e := e) (entry_none_of (fun _ => hG.pend)) ?_
    (fun i hie => entry_same (hG.kind i) (hG.outOther i hie) (hG.core i)) _ hG.lt
    (fun i hi _ => entry_none_of (hlater i hi))
  unfold entry
  rw [hG.kind, if_pos hk, hG.outE, hG.core]
  exact hx

end entry

/-- in a `Store`, every granted put (get) is older than every waiting put (get) -/
def FifoInv (s : KState ℚ σ) : Prop :=
  ∀ r, (s.res r).kind = .store →
    (∀ a, (s.ev a).kind = .put r → (s.ev a).out ≠ none → ∀ b ∈ (s.res r).putQ, a < b) ∧
    (∀ a, (s.ev a).kind = .get r → (s.ev a).out ≠ none → ∀ b ∈ (s.res r).getQ, a < b)

def FifoEqn (base : List Int) (s : KState ℚ σ) (r : ResId) : Prop :=
  base ++ putItems s r = gotItems s r ++ (s.res r).items

def FifoStep (s s' : KState ℚ σ) : Prop :=
  FifoInv s' ∧ ∀ r base, (s.res r).kind = .store → FifoEqn base s r → FifoEqn base s' r

def FifoRel (s s' : KState ℚ σ) : Prop := QueueRel s s' ∧ (WF s → QSorted s → FifoInv s → FifoStep s s')

theorem fifoStep_quiet {s s' : KState ℚ σ} (hI : FifoInv s) (h : Quiet s s') : FifoStep s s' := by
  have hlt : ∀ a, isReq s' a = true → (s'.ev a).out ≠ none → a < s.events.size := fun a hr ho =>
    Nat.lt_of_not_le (fun hc => ho (h.fresh a hc hr))
  refine ⟨?_, ?_⟩
  · intro r hkr
    rw [(h.res r).1] at hkr
    obtain ⟨hP, hG⟩ := hI r hkr
    refine ⟨?_, ?_⟩
    · intro a hka ho b hb
      have ha := hlt a (isReq_of_put hka) ho
      rw [h.kind a ha] at hka
      rw [h.out a (isReq_of_put hka)] at ho
      rcases (h.putQ r).mem hb with hb | ⟨rfl, _⟩
      · exact hP a hka ho b hb
      · exact ha
    · intro a hka ho b hb
      have ha := hlt a (isReq_of_get hka) ho
      rw [h.kind a ha] at hka
      rw [h.out a (isReq_of_get hka)] at ho
      rcases (h.getQ r).mem hb with hb | ⟨rfl, _⟩
      · exact hG a hka ho b hb
      · exact ha
  · intro r base _ heq
    unfold FifoEqn at heq ⊢
    have hp : putItems s' r = putItems s r := by rw [putItems_eq, putItems_eq, entries_quiet rfl h]
    have hg : gotItems s' r = gotItems s r := by rw [gotItems_eq, gotItems_eq, entries_quiet rfl h]
    rw [hp, hg, (h.res r).2.2.2]; exact heq

theorem fifoInv_grant {s s' : KState ℚ σ} {e : EvId} {o : Outcome} (hI : FifoInv s) (hG : Granted s s' e o)
    (heP : ∀ r, (s.res r).kind = .store → (s.ev e).kind = .put r → ∀ b ∈ (s'.res r).putQ, e < b)
    (heG : ∀ r, (s.res r).kind = .store → (s.ev e).kind = .get r → ∀ b ∈ (s'.res r).getQ, e < b) : FifoInv s' := by
  intro r hkr
  rw [hG.rkind] at hkr
  obtain ⟨hP, hGt⟩ := hI r hkr
  refine ⟨fun a hka ho' b hb => ?_, fun a hka ho' b hb => ?_⟩
  · rw [hG.kind] at hka
    by_cases hae : a = e
    · subst hae; exact heP r hkr hka b hb
    · rw [hG.outOther a hae] at ho'
      exact hP a hka ho' b (List.mem_of_mem_erase (hG.putQ r ▸ hb))
  · rw [hG.kind] at hka
    by_cases hae : a = e
    · subst hae; exact heG r hkr hka b hb
    · rw [hG.outOther a hae] at ho'
      exact hGt a hka ho' b (List.mem_of_mem_erase (hG.getQ r ▸ hb))

theorem FifoRel.crel : CRel (FifoRel (σ := σ)) := by
  refine CRel.of_quiet (fun s => ⟨QueueRel.crel.refl s, fun _ _ hI => ⟨hI, fun _ _ _ h => h⟩⟩) ?_ (fun h => h.1.1)
    (fun s s' _ h => ⟨queueRel_of_quiet h, fun _ _ hI => fifoStep_quiet hI h⟩) ?_ ?_
  · intro s1 s2 s3 h12 h23
    refine ⟨QueueRel.crel.trans h12.1 h23.1, ?_⟩
    intro hW hS hI
    have hW2 := h12.1.1.keepWF hW
    have hS2 := (h12.1.2 hW).2 hS
    obtain ⟨hI2, e12⟩ := h12.2 hW hS hI
    obtain ⟨hI3, e23⟩ := h23.2 hW2 hS2 hI2
    refine ⟨hI3, ?_⟩
    intro r base hk h
    exact e23 r base (by rw [h12.1.1.resKind]; exact hk) (e12 r base hk h)
  · intro s r0 e rest hW hq hc hE hG
    refine ⟨QueueRel.crel.grantPut s r0 e rest hW hq hc, fun _ hS hI => ?_⟩
    have hmem : e ∈ (s.res r0).putQ := by rw [hq]; exact List.mem_cons_self
    have hew := hW.putQ r0 e hmem
    refine ⟨fifoInv_grant hI hG ?_ (fun r _ hk => absurd (hew.1.symm.trans hk) Kind.noConfusion), ?_⟩
    · -- the granted head is older than the rest of the queue (queue in creation order)
      intro r hkr hk b hb
      obtain rfl : r0 = r := Kind.put.inj (hew.1.symm.trans hk)
      have hsorted := hS.put r0
      rw [show isPrioKind (s.res r0).kind = false by rw [hkr]; rfl, hq] at hsorted
      rw [hE.putQ, hq, List.erase_cons_head] at hb
      exact (rankLt_false s e b).mp ((List.pairwise_cons.mp hsorted).1 b hb)
    · intro r base hkr heq
      unfold FifoEqn at heq ⊢
      have hg : gotItems (grantPutSt s r0 e) r = gotItems s r := by
        rw [gotItems_eq, gotItems_eq, entries_same hG (by rw [hew.1]; exact Kind.noConfusion)]
      by_cases hr : r = r0
      · subst hr
        obtain ⟨hP, _⟩ := hI r hkr
        have hp : putItems (grantPutSt s r e) r = putItems s r ++ [(reqOf s e).item] := by
          rw [putItems_eq, putItems_eq]
          exact entries_grant hG hew.1 rfl (fun i hi hki => by_contra fun hoi => absurd (hP i hki hoi e hmem) (Nat.lt_asymm hi))
        have hs : isStoreKind (s.res r).kind = true := by rw [hkr]; decide
        rw [hp, hg, hE.itemsS hs, ← List.append_assoc, heq, List.append_assoc]
      · have hp : putItems (grantPutSt s r0 e) r = putItems s r := by
          rw [putItems_eq, putItems_eq, entries_same hG (by rw [hew.1]; exact fun h => hr (Kind.put.inj h).symm)]
        rw [hp, hg, hE.resOther r hr]; exact heq
  · intro s r0 e v pre rest hW hq hgi hpre hE hG
    refine ⟨QueueRel.crel.grantGet s r0 e v pre rest hW hq hgi hpre, fun _ hS hI => ?_⟩
    have hmem : e ∈ (s.res r0).getQ := by rw [hq]; simp
    have hew := hW.getQ r0 e hmem
    -- in a Store the scan has passed over nobody
    have hpre0 : (s.res r0).kind = .store → pre = [] := by
      intro hk
      cases pre with
      | nil => rfl
      | cons p ps => have := (hpre p List.mem_cons_self).1; rw [hk] at this; cases this
    refine ⟨fifoInv_grant hI hG (fun r _ hk => absurd (hew.1.symm.trans hk) Kind.noConfusion) ?_, ?_⟩
    · intro r hkr hk b hb
      obtain rfl : r0 = r := Kind.get.inj (hew.1.symm.trans hk)
      have hsorted := hS.get r0
      rw [hq, hpre0 hkr, List.nil_append] at hsorted
      rw [hE.getQ, hq, hpre0 hkr, List.nil_append, List.erase_cons_head] at hb
      exact (List.pairwise_cons.mp hsorted).1 b hb
    · intro r base hkr heq
      unfold FifoEqn at heq ⊢
      have hp : putItems (grantGetSt s r0 e v) r = putItems s r := by
        rw [putItems_eq, putItems_eq, entries_same hG (by rw [hew.1]; exact Kind.noConfusion)]
      by_cases hr : r = r0
      · subst hr
        obtain ⟨_, hGt⟩ := hI r hkr
        obtain ⟨x, tl, hv, hitems⟩ := getItem_store_head hkr hgi
        subst hv
        have hs : isStoreKind (s.res r).kind = true := by rw [hkr]; decide
        obtain ⟨y, hy, _, hit⟩ := hE.itemsS hs
        cases hy
        have hg : gotItems (grantGetSt s r e (.int x)) r = gotItems s r ++ [x] := by
          rw [gotItems_eq, gotItems_eq]
          exact entries_grant hG hew.1 rfl (fun i hi hki => by_contra fun hoi => absurd (hGt i hki hoi e hmem) (Nat.lt_asymm hi))
        rw [hp, hg, hit, hitems, heq, hitems]
        simp
      · have hg : gotItems (grantGetSt s r0 e v) r = gotItems s r := by
          rw [gotItems_eq, gotItems_eq, entries_same hG (by rw [hew.1]; exact fun h => hr (Kind.get.inj h).symm)]
        rw [hp, hg, hE.resOther r hr]; exact heq

theorem fifoInv_noReq (s : KState ℚ σ) (h : ∀ e, isReq s e = false) : FifoInv s :=
  fun r _ => ⟨fun a hk => absurd hk (kind_ne_of_noReq h a r).1, fun a hk => absurd hk (kind_ne_of_noReq h a r).2⟩

/-- **the FIFO equation in every state reachable inside the domain from a state without requests** -/
theorem reach_fifo (body : σ → Resume → Burst ℚ σ) (fuel : Nat) (s0 s : KState ℚ σ) (hW : WF s0) (hS : QSorted s0)
    (h0 : ∀ e, isReq s0 e = false) (hr : SafeReach body fuel s0 s) (r : ResId) (hk : (s.res r).kind = .store) :
    (s0.res r).items ++ putItems s r = gotItems s r ++ (s.res r).items := by
  have h := FifoRel.crel.of_unitSeq (reach_units body fuel s0 s hW hr)
  have hk0 : (s0.res r).kind = .store := by rw [← h.1.1.resKind]; exact hk
  have hstep := h.2 hW hS (fifoInv_noReq s0 h0)
  apply hstep.2 r _ hk0
  unfold FifoEqn
  have hp0 : putItems s0 r = [] := by unfold putItems; rw [grantedPuts_noReq s0 r h0]; rfl
  rw [hp0, gotItems_noReq s0 r h0]; simp

end Conserve
