import OnlVerif.Lemmas.KExec
import OnlVerif.Lemmas.StrandFrame
/-!
# A kernel step that resumes a process, as one burst (for any program)

`step` on an event whose callback resumes a process is rewritten into `closeEvent` of `afterBurst` of the burst run on
`began`, the state in which the burst starts (`step_resume`; `step_get_resume` for a `StoreGet` event, whose other callback
`_trigger_put` finds nothing to do); `closeEvent` on a successful event changes nothing.
-/

namespace KStepChain
open KExec (afterBurst resume_eq step_eq)

variable {σ : Type}

/-- the state in which process `p` starts its burst: the event `q` is popped and detached, `p` is active and has
logged its resumption -/
def began (s : KState ℚ σ) (q : QEntry ℚ) (rest : List (QEntry ℚ)) (p : EvId) (arg : Resume) : KState ℚ σ :=
  { s with now := q.time, agenda := rest, events := s.events.setIfInBounds q.ev { s.ev q.ev with cbs := none },
           active := some p, trace := s.trace.push (.resumed p arg q.time) }

/-- `_resume` of process `p` with the successful event `q.ev` -/
theorem resume_ok (body : σ → Resume → Burst ℚ σ) (fuel : Nat) (s : KState ℚ σ) (q : QEntry ℚ)
    (rest : List (QEntry ℚ)) (p : EvId) (pr : ProcRec σ) (v : Val) (arg : Resume)
    (ho : (s.ev q.ev).out = some (.ok v)) (ha : arg = if (s.ev q.ev).kind = .init p then .start else .value v)
    (hproc : s.proc? p = some pr) :
    resume body p (fuel + 1) q.ev (openEvent s q rest) =
      afterBurst body p fuel pr (runBurst p (body pr.st arg) (began s q rest p arg)) := by
  rw [resume_eq _ _ _ _ _ _ (show (openEvent s q rest).proc? p = _ from hproc)]
  have hopen := (openEvent_ev s q rest q.ev).trans (if_pos rfl)
  have h1 : resumeArg (openEvent s q rest) p q.ev = arg := by
    simp only [resumeArg, hopen, ho, ha]
  have h2 : deliverSt (openEvent s q rest) p q.ev = { openEvent s q rest with active := some p } := by
    simp only [deliverSt, hopen, ho]
  rw [h1, h2]
  rfl

/-- processing an event whose only callback resumes process `p` -/
theorem step_resume (body : σ → Resume → Burst ℚ σ) (fuel : Nat) (s : KState ℚ σ) (q : QEntry ℚ)
    (rest : List (QEntry ℚ)) (p : EvId) (pr : ProcRec σ) (v : Val) (arg : Resume)
    (hp : popMin s.agenda = some (q, rest)) (hc : (s.ev q.ev).cbs = some [.resume p])
    (ho : (s.ev q.ev).out = some (.ok v)) (ha : arg = if (s.ev q.ev).kind = .init p then .start else .value v)
    (hproc : s.proc? p = some pr) :
    step body (fuel + 1) s =
      closeEvent { s := afterBurst body p fuel pr (runBurst p (body pr.st arg) (began s q rest p arg)) } q.ev := by
  rw [step_eq _ _ _ _ _ _ hp hc]
  simp only [List.foldl, runCb]
  rw [resume_ok _ _ _ _ _ _ _ _ _ ho ha hproc]

/-- processing the `StoreGet` event of process `p` when `_trigger_put` finds nothing to do -/
theorem step_get_resume (body : σ → Resume → Burst ℚ σ) (fuel : Nat) (s : KState ℚ σ) (q : QEntry ℚ)
    (rest : List (QEntry ℚ)) (r : ResId) (p : EvId) (pr : ProcRec σ) (v : Val) (arg : Resume)
    (hp : popMin s.agenda = some (q, rest)) (hc : (s.ev q.ev).cbs = some [.trigPut r, .resume p])
    (htp : triggerPut (openEvent s q rest) r = openEvent s q rest)
    (ho : (s.ev q.ev).out = some (.ok v)) (ha : arg = if (s.ev q.ev).kind = .init p then .start else .value v)
    (hproc : s.proc? p = some pr) :
    step body (fuel + 1) s =
      closeEvent { s := afterBurst body p fuel pr (runBurst p (body pr.st arg) (began s q rest p arg)) } q.ev := by
  rw [step_eq _ _ _ _ _ _ hp hc]
  simp only [List.foldl, runCb]
  rw [htp, resume_ok _ _ _ _ _ _ _ _ _ ho ha hproc]

theorem closeEvent_ok (S : KState ℚ σ) (e : EvId) (v : Val) (hout : (S.ev e).out = some (.ok v)) :
    closeEvent { s := S } e = .ok S := by
  simp only [closeEvent, hout]

theorem ok_of_state {bd : σ → Resume → Burst ℚ σ} {fl : Nat} {s s' s'' : KState ℚ σ}
    (hs : (step bd fl s).state? = some s') (h : step bd fl s = .ok s'') : s'' = s' := by
  rw [h] at hs
  exact Option.some.inj hs

end KStepChain
