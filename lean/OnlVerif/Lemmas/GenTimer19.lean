import OnlVerif.Generated.Timer19
import OnlVerif.Util.Timer
/-!
# Bridge lemmas: `Generated/Timer19.lean` (py2lean's translation of `onl/utils/timer.py`) against the model `Util/Timer.lean`

Polymorphic in the scalar (`[Num α]`): generated code and model perform the same operations in the same order.
`withModel o s` is the Python object `o` with the five modelled attributes taken from the model state `s`; the other fields of
`o` (effect counters, `raised`, where the generator is suspended) are what a call adds to.
-/

namespace GenTimer19
open Timer
variable {α : Type} [Num α]

def withModel (o : Gen.TimerObj α) (s : State α) : Gen.TimerObj α :=
  { o with timeout := s.timeout, start_time := s.start, expire_time := s.expire, auto_restart := s.auto, stopped := s.stopped }

/-- the `args` of the model's constructor as the Python value (a tuple is `tupleOf`) -/
def pyArgs : ArgSpec → Gen.PyArgs
  | .none => .none
  | .scalar v => .other v
  | .list vs => .list vs

/-- where the generated burst left the generator, as the model's process status: ended (`yield_at = 0`) or suspended in
`yield self.env.timeout(yield_dt)` created at `now`, hence due at `now + yield_dt` -/
def statOf (g : Gen.TimerObj α) (now : α) : PStat α :=
  if g.yield_at = 0 then .finished else .sleeping (now + g.yield_dt)

def suspendedAs (o g : Gen.TimerObj α) : Gen.TimerObj α := { o with yield_at := g.yield_at, yield_dt := g.yield_dt }

theorem loopTest_eq (pid : Nat) (o : Gen.TimerObj α) (s : State α) :
    loopTest pid s = setStat s pid (statOf (Gen.Timer.run_start (withModel o s) s.now) s.now) ∧
    Gen.Timer.run_start (withModel o s) s.now = suspendedAs (withModel o s) (Gen.Timer.run_start (withModel o s) s.now) := by
  unfold loopTest Gen.Timer.run_start statOf suspendedAs withModel
  by_cases h : s.now < s.expire
  · simp only [h, if_true]; exact ⟨rfl, trivial⟩
  · simp only [h, if_false]; exact ⟨rfl, trivial⟩

theorem interruptReq_now {active : Option Nat} {pid : Nat} {s s2 : State α} (h : interruptReq active pid s = .ok s2) :
    s2.now = s.now := by
  unfold interruptReq at h
  split at h
  · cases h
  · cases h
  · split at h
    · cases h
    · cases h; rfl

theorem restartCall_now {active : Option Nat} {tau : α} {s s' : State α} (h : restartCall active tau s = .ok s') :
    s'.now = s.now := by
  unfold restartCall at h
  simp only at h
  split at h
  · cases h; rfl
  · split at h
    · cases h
    · split at h
      · split at h
        · rename_i s2 h2
          cases h
          exact (interruptReq_now h2 : s2.now = (rebase tau s).now)
        · cases h
      · cases h; rfl

theorem runCb_now {pid : Nat} : ∀ {cb : List (CbOp α)} {s s' : State α}, runCb pid cb s = .ok s' → s'.now = s.now
  | [], s, s', h => by cases h; rfl
  | op :: ops, s, s', h => by
    rw [runCb] at h
    split at h
    · rename_i s1 h1
      have h2 := runCb_now h
      cases op with
      | stop => cases h1; exact h2
      | restart tau => rw [h2]; exact restartCall_now h1
    · cases h

/-- what a `restart(τ)` that interrupts and respawns adds to the Python object -/
def respawned (o : Gen.TimerObj α) : Gen.TimerObj α :=
  { o with eff_interrupt := o.eff_interrupt + 1, intr_new := o.proc_new, eff_spawn := o.eff_spawn + 1, proc_new := true }

/-- `if self.auto_restart: self.expire_time = env.now + self.timeout` on the Python object -/
def autoG (now : α) (x : Gen.TimerObj α) : Gen.TimerObj α :=
  if x.auto_restart = true then { x with expire_time := now + x.timeout } else x

theorem run_wake_running (g : Gen.TimerObj α) (now : α) (f : Gen.TimerObj α → Gen.TimerObj α) (h : g.stopped = false) :
    Gen.Timer.run_wake g now f =
      if now < (autoG now (f { g with yield_at := 0, yield_dt := Num.ofNat 0, eff_callback := g.eff_callback + 1 })).expire_time then
        { autoG now (f { g with yield_at := 0, yield_dt := Num.ofNat 0, eff_callback := g.eff_callback + 1 }) with
          yield_at := 1,
          yield_dt := (autoG now (f { g with yield_at := 0, yield_dt := Num.ofNat 0, eff_callback := g.eff_callback + 1 })).expire_time - now }
      else autoG now (f { g with yield_at := 0, yield_dt := Num.ofNat 0, eff_callback := g.eff_callback + 1 }) := by
  obtain ⟨a1, a2, a3, a4, st, a6, a7, a8, a9, a10, a11, a12, a13⟩ := g
  simp only at h
  subst h
  unfold Gen.Timer.run_wake autoG
  simp only [Bool.false_eq_true, not_false_eq_true, if_true]

theorem autoG_withModel (o : Gen.TimerObj α) (s : State α) : autoG s.now (withModel o s) = withModel o (autoRebase s) := by
  unfold autoG autoRebase
  cases ha : s.auto with
  | false =>
    have : (withModel o s).auto_restart = false := ha
    simp only [this, Bool.false_eq_true, if_false]
  | true =>
    have : (withModel o s).auto_restart = true := ha
    simp only [this, if_true]
    rfl

end GenTimer19
