import OnlVerif.Lemmas.OnceAccess
import Mathlib.Data.List.Count
/-! # The core invariant `InvC` under each shape of state change -/

namespace Once
variable {σ : Type}

structure SameC (s s' : KState ℚ σ) : Prop where
  agenda : s'.agenda = s.agenda
  size : s'.events.size = s.events.size
  kind : ∀ e, (s'.ev e).kind = (s.ev e).kind
  cbs : ∀ e, (s'.ev e).cbs = (s.ev e).cbs
  out : ∀ e, (s'.ev e).out = (s.ev e).out
  proc : ∀ p, s'.proc? p = s.proc? p

theorem SameC.of_events {s s' : KState ℚ σ} (ha : s'.agenda = s.agenda) (he : s'.events = s.events)
    (hp : s'.procs = s.procs) : SameC s s' := by
  have hev : ∀ e, s'.ev e = s.ev e := fun e => by simp [KState.ev, he]
  exact ⟨ha, by rw [he], fun e => by rw [hev], fun e => by rw [hev], fun e => by rw [hev],
    fun p => by simp [KState.proc?, hp]⟩

theorem SameC.of_setEv (s : KState ℚ σ) (e : EvId) (x : EvRec ℚ) (hk : x.kind = (s.ev e).kind)
    (hc : x.cbs = (s.ev e).cbs) (ho : x.out = (s.ev e).out) : SameC s (s.setEv e x) :=
  ⟨rfl, size_setEv s e x, fun e' => kind_setEv s e e' x hk, fun e' => cbs_setEv s e e' x hc,
    fun e' => out_setEv s e e' x ho, fun _ => rfl⟩

/-- `_resume p` in the list `L` of event `e` (of kind `k`) is a correct registration of a process that is neither
pending nor running -/
structure NewReg (g : Ghost) (s : KState ℚ σ) (e : EvId) (k : Kind) (L : List Cb) (p : EvId) : Prop where
  pending : (s.ev p).out = none
  target : ∃ pr, s.proc? p = some pr ∧ pr.target = some e
  once : L.count (.resume p) = 1
  notIntr : k ≠ .intr p
  notRem : Cb.resume p ∉ g.rem
  notRun : g.run ≠ some p

/-- how the callback list `L` of event `e` may turn into `L'`: `_resume` entries that stay keep their multiplicity; one
that appears is a correct registration of a process that is neither pending nor running; `_interrupt` and `_check`
entries only disappear, or are checks of conditions -/
structure ListStep (g : Ghost) (s : KState ℚ σ) (e : EvId) (L L' : List Cb) : Prop where
  resume : ∀ p, Cb.resume p ∈ L' → (Cb.resume p ∈ L ∧ L'.count (.resume p) = L.count (.resume p)) ∨
    NewReg g s e (s.ev e).kind L' p
  intr : ∀ iv, Cb.intr iv ∈ L' → Cb.intr iv ∈ L
  check : ∀ c, Cb.check c ∈ L' → Cb.check c ∈ L ∨ isCond s c = true

theorem ListStep.append {g : Ghost} {s : KState ℚ σ} {e : EvId} (L : List Cb) {cb : Cb}
    (h1 : ∀ p, cb = .resume p → NewReg g s e (s.ev e).kind (L ++ [cb]) p) (h2 : ∀ iv, cb ≠ .intr iv)
    (h3 : ∀ c, cb = .check c → isCond s c = true) : ListStep g s e L (L ++ [cb]) := by
  refine ⟨fun p hm => ?_, fun iv hm => ?_, fun c hm => ?_⟩
  · by_cases hne : cb = Cb.resume p
    · exact Or.inr (h1 p hne)
    · rw [List.mem_append, List.mem_singleton] at hm
      have h0 : [cb].count (Cb.resume p) = 0 := List.count_eq_zero.mpr (by simpa using fun h => hne h.symm)
      exact Or.inl ⟨hm.resolve_right fun h => hne h.symm, by rw [List.count_append, h0, Nat.add_zero]⟩
  · rw [List.mem_append, List.mem_singleton] at hm
    exact hm.resolve_right (fun h => h2 iv h.symm)
  · rw [List.mem_append, List.mem_singleton] at hm
    exact hm.imp_right (fun h => h3 c h.symm)

theorem ListStep.erase {g : Ghost} {s : KState ℚ σ} {e : EvId} (L : List Cb) {cb : Cb} (h1 : ∀ p, cb ≠ .resume p) :
    ListStep g s e L (L.erase cb) :=
  ⟨fun p hm => Or.inl ⟨List.mem_of_mem_erase hm, List.count_erase_of_ne (fun h => h1 p h.symm)⟩,
    fun _ hm => List.mem_of_mem_erase hm, fun _ hm => Or.inl (List.mem_of_mem_erase hm)⟩

theorem InvC.modCbs {g : Ghost} {s s' : KState ℚ σ} (hi : InvC g s)
    (ha : s'.agenda = s.agenda) (hsz : s'.events.size = s.events.size)
    (hk : ∀ e, (s'.ev e).kind = (s.ev e).kind) (ho : ∀ e, (s'.ev e).out = (s.ev e).out)
    (hp : ∀ p, s'.proc? p = s.proc? p)
    (hN : ∀ e, (s'.ev e).cbs = none ↔ (s.ev e).cbs = none)
    (hL : ∀ e L', (s'.ev e).cbs = some L' → ∃ L, (s.ev e).cbs = some L ∧ ListStep g s e L L') : InvC g s' := by
  have hcond : ∀ c, isCond s' c = isCond s c := fun c => isCond_congr (hk c)
  refine ⟨?_, ?_, ?_, ?_, ?_, ?_, ?_, ?_, ?_, ?_, hi.rem_intr, hi.rem_count⟩
  · rw [ha]; exact hi.ag_distinct
  · intro q hq; rw [ha] at hq; rw [ho]
    exact ⟨(hi.ag_live q hq).1, fun h => (hi.ag_live q hq).2 ((hN _).mp h)⟩
  · intro e he hce; rw [hsz] at he; rw [ho]; exact hi.done_trig e he ((hN e).mp hce)
  · intro p pr hpp; rw [hp] at hpp; rw [hk]; exact hi.procs p pr hpp
  · intro e L' p hL' hm
    obtain ⟨L, hLs, hr, _, _⟩ := hL e L' hL'
    rw [ho, hk, hp]
    rcases hr p hm with ⟨hmL, hcnt⟩ | ⟨h1, h2, h3, h4, _⟩
    · obtain ⟨h1, h2, h3, h4⟩ := hi.reg e L p hLs hmL
      exact ⟨h1, h2, by rw [hcnt]; exact h3, h4⟩
    · exact ⟨h1, h2, h3, h4⟩
  · intro e L' iv hL' hm
    obtain ⟨L, hLs, _, hiv, _⟩ := hL e L' hL'
    exact hi.intr e L iv hLs (hiv iv hm)
  · intro e L' c hL' hm
    obtain ⟨L, hLs, _, _, hch⟩ := hL e L' hL'
    rw [hcond]
    exact (hch c hm).elim (hi.check e L c hLs) id
  · intro p hpp
    obtain ⟨h1, h2, h3⟩ := hi.pend p hpp
    refine ⟨by rw [ho]; exact h1, by rw [hk]; exact h2, ?_⟩
    intro e L' hL' hm
    obtain ⟨L, hLs, hr, _, _⟩ := hL e L' hL'
    rcases hr p hm with ⟨hmL, _⟩ | ⟨_, _, _, _, h5, h6⟩
    · exact h3 e L hLs hmL
    · exact hpp.elim h5 h6
  · intro p hpp; rw [hsz, hk]; exact hi.pend_intr p hpp
  · intro c hcc; rw [hcond]; exact hi.rem_check c hcc

/-- the callback list of one event is rewritten by `f` (`addCb`, `eraseCb`) -/
theorem InvC.mapCbs {g : Ghost} {s : KState ℚ σ} (hi : InvC g s) (e : EvId) (f : List Cb → List Cb)
    (hf : ∀ L, (s.ev e).cbs = some L → ListStep g s e L (f L)) :
    InvC g (s.setEv e { s.ev e with cbs := (s.ev e).cbs.map f }) := by
  refine hi.modCbs rfl (size_setEv _ _ _) (kind_mapCbs s e · f) (out_mapCbs s e · f) (fun _ => rfl)
    (cbs_mapCbs_none s e · f) ?_
  intro x L' h
  rw [cbs_mapCbs] at h
  split at h
  · rename_i hx
    obtain ⟨L, h1, h2⟩ := Option.map_eq_some_iff.mp h
    rw [hx, ← h2]
    exact ⟨L, h1, hf L h1⟩
  · exact ⟨L', h, fun p hm => Or.inl ⟨hm, rfl⟩, fun _ hm => hm, fun _ hm => Or.inl hm⟩

theorem InvC.addCb {g : Ghost} {s : KState ℚ σ} (hi : InvC g s) (e : EvId) (cb : Cb)
    (h1 : ∀ p, cb ≠ .resume p) (h2 : ∀ iv, cb ≠ .intr iv) (h3 : ∀ c, cb = .check c → isCond s c = true) :
    InvC g (s.addCb e cb) :=
  hi.mapCbs e (· ++ [cb]) (fun L _ => .append L (fun p h => absurd h (h1 p)) h2 h3)

theorem InvC.eraseCb_other {g : Ghost} {s : KState ℚ σ} (hi : InvC g s) (e : EvId) (cb : Cb)
    (h1 : ∀ p, cb ≠ .resume p) : InvC g (s.eraseCb e cb) :=
  hi.mapCbs e (·.erase cb) (fun L _ => .erase L h1)

theorem InvC.congr {g : Ghost} {s s' : KState ℚ σ} (hi : InvC g s) (h : SameC s s') : InvC g s' :=
  hi.modCbs h.agenda h.size h.kind h.out h.proc (fun e => by rw [h.cbs])
    (fun e L' hL' => ⟨L', (h.cbs e).symm.trans hL', fun _ hm => Or.inl ⟨hm, rfl⟩, fun _ hm => hm, fun _ hm => Or.inl hm⟩)

theorem InvC.sched {g : Ghost} {s s' : KState ℚ σ} (hi : InvC g s) (q : QEntry ℚ)
    (ha : s'.agenda = q :: s.agenda) (hsz : s'.events.size = s.events.size) (hev : ∀ e, s'.ev e = s.ev e)
    (hp : ∀ p, s'.proc? p = s.proc? p)
    (hnew : ∀ b ∈ s.agenda, b.ev ≠ q.ev) (ho : (s.ev q.ev).out ≠ none) (hc : (s.ev q.ev).cbs ≠ none) :
    InvC g s' := by
  have hs : SameC s { s' with agenda := s.agenda } :=
    ⟨rfl, hsz, fun e => by show (s'.ev e).kind = _; rw [hev], fun e => by show (s'.ev e).cbs = _; rw [hev],
      fun e => by show (s'.ev e).out = _; rw [hev], hp⟩
  have h0 : InvC g { s' with agenda := s.agenda } := hi.congr hs
  refine ⟨?_, ?_, h0.done_trig, h0.procs, h0.reg, h0.intr, h0.check, h0.pend, h0.pend_intr, h0.rem_check,
    h0.rem_intr, h0.rem_count⟩
  · rw [ha, List.pairwise_cons]
    exact ⟨fun b hb => (hnew b hb).symm, hi.ag_distinct⟩
  · intro b hb
    rw [ha] at hb
    rw [hev]
    rcases List.mem_cons.mp hb with rfl | hb
    · exact ⟨ho, hc⟩
    · exact hi.ag_live b hb

theorem InvC.schedule {g : Ghost} {s : KState ℚ σ} (hi : InvC g s) (e : EvId) (p : Nat) (d : ℚ)
    (ho : (s.ev e).out ≠ none) (hc : (s.ev e).cbs ≠ none) (hnew : ∀ b ∈ s.agenda, b.ev ≠ e) :
    InvC g (s.schedule e p d) :=
  hi.sched { time := s.now + d, prio := p, eid := s.eid, ev := e } rfl rfl (fun _ => rfl) (fun _ => rfl) hnew ho hc

theorem InvC.not_in_agenda {g : Ghost} {s : KState ℚ σ} (hi : InvC g s) (e : EvId) (h : (s.ev e).out = none) :
    ∀ b ∈ s.agenda, b.ev ≠ e := by
  intro b hb hbe
  exact (hi.ag_live b hb).1 (by rw [hbe]; exact h)

theorem InvC.modOut {g : Ghost} {s s' : KState ℚ σ} (hi : InvC g s)
    (ha : s'.agenda = s.agenda) (hsz : s'.events.size = s.events.size)
    (hk : ∀ e, (s'.ev e).kind = (s.ev e).kind) (hc : ∀ e, (s'.ev e).cbs = (s.ev e).cbs)
    (hp : ∀ p, s'.proc? p = s.proc? p)
    (hmono : ∀ e, (s.ev e).out ≠ none → (s'.ev e).out ≠ none)
    (hnew : ∀ e, (s.ev e).out = none → (s'.ev e).out ≠ none →
      (s.ev e).kind ≠ .proc ∨ (Unreg s e ∧ Cb.resume e ∉ g.rem ∧ g.run ≠ some e)) : InvC g s' := by
  have hcond : ∀ c, isCond s' c = isCond s c := fun c => isCond_congr (hk c)
  have hkeep : ∀ p, (s.ev p).out = none → (s.ev p).kind = .proc →
      ((∃ e L, (s.ev e).cbs = some L ∧ Cb.resume p ∈ L) ∨ Cb.resume p ∈ g.rem ∨ g.run = some p) → (s'.ev p).out = none := by
    intro p h1 h2 h4
    by_contra h3
    rcases hnew p h1 h3 with h | ⟨hu, hr, hn⟩
    · exact h h2
    · rcases h4 with ⟨e, L, hL, hm⟩ | h4 | h4
      · exact hu e L hL hm
      · exact hr h4
      · exact hn h4
  refine ⟨?_, ?_, ?_, ?_, ?_, ?_, ?_, ?_, ?_, ?_, hi.rem_intr, hi.rem_count⟩
  · rw [ha]; exact hi.ag_distinct
  · intro q hq; rw [ha] at hq; rw [hc]; exact ⟨hmono _ (hi.ag_live q hq).1, (hi.ag_live q hq).2⟩
  · intro e he hce; rw [hsz] at he; rw [hc] at hce; exact hmono _ (hi.done_trig e he hce)
  · intro p pr hpp; rw [hp] at hpp; rw [hk]; exact hi.procs p pr hpp
  · intro e L p hL hm; rw [hc] at hL; rw [hk]
    obtain ⟨h1, ⟨pr, h2, h3⟩, h4, h5⟩ := hi.reg e L p hL hm
    exact ⟨hkeep p h1 (hi.procs p pr h2) (Or.inl ⟨e, L, hL, hm⟩), ⟨pr, by rw [hp]; exact h2, h3⟩, h4, h5⟩
  · intro e L iv hL hm; rw [hc] at hL; exact hi.intr e L iv hL hm
  · intro e L c hL hm; rw [hc] at hL; rw [hcond]; exact hi.check e L c hL hm
  · intro p hpp
    obtain ⟨h1, h2, h3⟩ := hi.pend p hpp
    refine ⟨hkeep p h1 h2 (Or.inr hpp), by rw [hk]; exact h2, ?_⟩
    intro e L hL; rw [hc] at hL; exact h3 e L hL
  · intro p hpp; rw [hsz, hk]; exact hi.pend_intr p hpp
  · intro c hcc; rw [hcond]; exact hi.rem_check c hcc

theorem InvC.setOut' {g : Ghost} {s : KState ℚ σ} (hi : InvC g s) (e : EvId) (o : Outcome)
    (h : (s.ev e).out = none → (s.ev e).kind ≠ .proc ∨ (Unreg s e ∧ Cb.resume e ∉ g.rem ∧ g.run ≠ some e)) :
    InvC g (s.setOut e o) := by
  refine hi.modOut rfl (size_setEv _ _ _) (kind_setOut s e · o) (cbs_setOut s e · o)
    (fun _ => rfl) ?_ ?_
  · intro e' h1
    rw [out_setOut]; split
    · simp
    · exact h1
  · intro e' h1 h2
    rw [out_setOut] at h2
    split at h2
    · rename_i hc; rw [hc.1] at h1 ⊢; exact h h1
    · exact absurd h1 h2

theorem InvC.setOut {g : Ghost} {s : KState ℚ σ} (hi : InvC g s) (e : EvId) (o : Outcome)
    (h : (s.ev e).out = none → (s.ev e).kind ≠ .proc) : InvC g (s.setOut e o) :=
  hi.setOut' e o (fun ho => Or.inl (h ho))

theorem InvC.trigger' {g : Ghost} {s : KState ℚ σ} (hi : InvC g s) (e : EvId) (o : Outcome)
    (hlt : e < s.events.size) (ho : (s.ev e).out = none)
    (hk : (s.ev e).kind ≠ .proc ∨ (Unreg s e ∧ Cb.resume e ∉ g.rem ∧ g.run ≠ some e)) :
    InvC g (s.trigger e o) := by
  refine (hi.setOut' e o (fun _ => hk)).schedule e NORMAL Num.zero ?_ ?_ (hi.not_in_agenda e ho)
  · rw [out_setOut, if_pos ⟨rfl, hlt⟩]; simp
  · rw [cbs_setOut]
    exact fun hc => hi.done_trig e hlt hc ho

theorem InvC.trigger {g : Ghost} {s : KState ℚ σ} (hi : InvC g s) (e : EvId) (o : Outcome)
    (hlt : e < s.events.size) (ho : (s.ev e).out = none) (hk : (s.ev e).kind ≠ .proc) :
    InvC g (s.trigger e o) :=
  hi.trigger' e o hlt ho (Or.inl hk)

theorem InvC.push {g : Ghost} {s s' : KState ℚ σ} (hi : InvC g s) (rec : EvRec ℚ) (L0 : List Cb)
    (ha : s'.agenda = s.agenda) (hsz : s'.events.size = s.events.size + 1)
    (hev : ∀ e, s'.ev e = if e = s.events.size then rec else s.ev e)
    (hp : ∀ p, s'.proc? p = s.proc? p)
    (hc : rec.cbs = some L0)
    (hres : ∀ p, Cb.resume p ∈ L0 → NewReg g s s.events.size rec.kind L0 p)
    (hintr : ∀ iv, Cb.intr iv ∈ L0 → iv = s.events.size)
    (hcheck : ∀ c, Cb.check c ∉ L0) : InvC g s' := by
  have hold : ∀ e, e < s.events.size → s'.ev e = s.ev e := fun e he => by rw [hev, if_neg (Nat.ne_of_lt he)]
  have hnew : s'.ev s.events.size = rec := by rw [hev, if_pos rfl]
  have hproc_lt : ∀ p, (s.ev p).kind = .proc → p < s.events.size := fun p h => lt_of_proc s p h
  have hcond : ∀ c, isCond s c = true → isCond s' c = true := by
    intro c h
    rw [isCond_congr (s' := s') (s := s) (by rw [hold c (lt_of_isCond s c h)])]; exact h
  refine ⟨?_, ?_, ?_, ?_, ?_, ?_, ?_, ?_, ?_, ?_, hi.rem_intr, hi.rem_count⟩
  · rw [ha]; exact hi.ag_distinct
  · intro q hq; rw [ha] at hq
    have := hi.ag_live q hq
    rw [hold _ (lt_of_cbs s _ this.2)]; exact this
  · intro e he hce
    by_cases h : e = s.events.size
    · subst h; rw [hnew, hc] at hce; cases hce
    · have : e < s.events.size := by omega
      rw [hold e this] at hce ⊢; exact hi.done_trig e this hce
  · intro p pr hpp; rw [hp] at hpp
    have := hi.procs p pr hpp
    rw [hold p (hproc_lt p this)]; exact this
  · intro e L p hL hm
    by_cases h : e = s.events.size
    · subst h
      rw [hnew, hc] at hL; cases hL
      obtain ⟨h1, ⟨pr, h2, h3⟩, h4, h5, _⟩ := hres p hm
      have hpl := hproc_lt p (hi.procs p pr h2)
      exact ⟨by rw [hold p hpl]; exact h1, ⟨pr, by rw [hp]; exact h2, h3⟩, h4, by rw [hnew]; exact h5⟩
    · rw [hev e, if_neg h] at hL ⊢
      obtain ⟨h1, ⟨pr, h2, h3⟩, h4, h5⟩ := hi.reg e L p hL hm
      have hpl := hproc_lt p (hi.procs p pr h2)
      exact ⟨by rw [hold p hpl]; exact h1, ⟨pr, by rw [hp]; exact h2, h3⟩, h4, h5⟩
  · intro e L iv hL hm
    by_cases h : e = s.events.size
    · subst h; rw [hnew, hc] at hL; cases hL; exact hintr iv hm
    · rw [hev, if_neg h] at hL; exact hi.intr e L iv hL hm
  · intro e L c hL hm
    by_cases h : e = s.events.size
    · subst h; rw [hnew, hc] at hL; cases hL; exact absurd hm (hcheck c)
    · rw [hev, if_neg h] at hL; exact hcond c (hi.check e L c hL hm)
  · intro p hpp
    obtain ⟨h1, h2, h3⟩ := hi.pend p hpp
    have hpl := hproc_lt p h2
    refine ⟨by rw [hold p hpl]; exact h1, by rw [hold p hpl]; exact h2, ?_⟩
    intro e L hL hm
    by_cases h : e = s.events.size
    · subst h; rw [hnew, hc] at hL; cases hL
      obtain ⟨_, _, _, _, h5, h6⟩ := hres p hm
      rcases hpp with hpp | hpp
      · exact h5 hpp
      · exact h6 hpp
    · rw [hev, if_neg h] at hL; exact h3 e L hL hm
  · intro p hpp
    have := hi.pend_intr p hpp
    rw [hold _ this.1, hsz]; exact ⟨Nat.lt_succ_of_lt this.1, this.2⟩
  · intro c hcc; exact hcond c (hi.rem_check c hcc)

theorem InvC.newEv {g : Ghost} {s : KState ℚ σ} (hi : InvC g s) (rec : EvRec ℚ) (L0 : List Cb)
    (hc : rec.cbs = some L0)
    (hres : ∀ p, Cb.resume p ∈ L0 → NewReg g s s.events.size rec.kind L0 p)
    (hintr : ∀ iv, Cb.intr iv ∈ L0 → iv = s.events.size)
    (hcheck : ∀ c, Cb.check c ∉ L0) : InvC g (s.newEv rec).1 :=
  hi.push rec L0 rfl (by simp [KState.newEv]) (fun e => KState.ev_newEv s rec e) (fun _ => rfl) hc hres hintr hcheck

theorem InvC.newLabelled {g : Ghost} {s : KState ℚ σ} (hi : InvC g s) (rec : EvRec ℚ) (L0 : List Cb)
    (hc : rec.cbs = some L0) (hres : ∀ p, Cb.resume p ∉ L0) (hintr : ∀ iv, Cb.intr iv ∉ L0)
    (hcheck : ∀ c, Cb.check c ∉ L0) : InvC g (s.newLabelled rec).1 :=
  hi.push { rec with label := s.nlabel + 1 } L0 rfl (by simp [KState.newLabelled])
    (fun e => KState.ev_newLabelled s rec e) (fun _ => rfl) hc (fun p hm => absurd hm (hres p))
    (fun iv hm => absurd hm (hintr iv)) hcheck

theorem InvC.setProc {g : Ghost} {s : KState ℚ σ} (hi : InvC g s) (p : EvId) (pr : ProcRec σ)
    (hk : (s.ev p).kind = .proc)
    (ht : ∀ e L, (s.ev e).cbs = some L → Cb.resume p ∈ L → pr.target = some e) : InvC g (s.setProc p pr) := by
  refine ⟨hi.ag_distinct, hi.ag_live, hi.done_trig, ?_, ?_, hi.intr, hi.check, hi.pend, hi.pend_intr, hi.rem_check,
    hi.rem_intr, hi.rem_count⟩
  · intro p' pr' hpp
    rw [proc?_setProc] at hpp
    split at hpp
    · rename_i h; subst h; exact hk
    · exact hi.procs p' pr' hpp
  · intro e L p' hL hm
    obtain ⟨h1, ⟨pr', h2, h3⟩, h4, h5⟩ := hi.reg e L p' hL hm
    refine ⟨h1, ?_, h4, h5⟩
    show ∃ x, (s.setProc p pr).proc? p' = some x ∧ _
    rw [proc?_setProc]
    by_cases h : p' = p
    · subst h; rw [if_pos rfl]; exact ⟨pr, rfl, ht e L hL hm⟩
    · rw [if_neg h]; exact ⟨pr', h2, h3⟩

theorem InvC.ghost {g g' : Ghost} {s : KState ℚ σ} (hi : InvC g s)
    (hrem : ∀ cb, cb ∈ g'.rem → cb ∈ g.rem) (hcount : ∀ p, g'.rem.count (.resume p) ≤ 1) (he0 : g'.e0 = g.e0)
    (hrun : ∀ p, g'.run = some p → (s.ev p).out = none ∧ (s.ev p).kind = .proc ∧ Unreg s p) : InvC g' s := by
  refine ⟨hi.ag_distinct, hi.ag_live, hi.done_trig, hi.procs, hi.reg, hi.intr, hi.check, ?_, ?_, ?_, ?_, hcount⟩
  · intro p hp
    rcases hp with hp | hp
    · exact hi.pend p (Or.inl (hrem _ hp))
    · exact hrun p hp
  · intro p hp; rw [he0]; exact hi.pend_intr p (hrem _ hp)
  · intro c hc; exact hi.rem_check c (hrem _ hc)
  · intro iv hv; rw [he0]; exact hi.rem_intr iv (hrem _ hv)

theorem InvC.idle {g g' : Ghost} {s : KState ℚ σ} (hi : InvC g s) (hrem : g'.rem = g.rem := by rfl)
    (he0 : g'.e0 = g.e0 := by rfl) (hrun : g'.run = none := by rfl) : InvC g' s :=
  hi.ghost (fun _ h => hrem ▸ h) (hrem ▸ hi.rem_count) he0 (fun p hp => by rw [hrun] at hp; cases hp)

theorem InvC.reg_target {g : Ghost} {s : KState ℚ σ} (hi : InvC g s) {e p : EvId} {L : List Cb} {pr : ProcRec σ}
    (hL : (s.ev e).cbs = some L) (hm : Cb.resume p ∈ L) (hp : s.proc? p = some pr) : pr.target = some e := by
  obtain ⟨_, ⟨pr', h2, h3⟩, _⟩ := hi.reg e L p hL hm
  rw [hp] at h2; cases h2
  exact h3

end Once
