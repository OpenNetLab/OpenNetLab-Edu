import Mathlib.Tactic.Linarith
import Mathlib.Data.List.Basic
import OnlVerif.Tcp.Sink
/-!
# Lemmas about the TCPSink receive buffer

Specification vocabulary (independent of sorting and merging): a byte `b` is *covered* by a list of ranges if
some range contains it; `n` is the *length of the contiguous prefix* if every byte below `n` is covered and
byte `n` is not.  The buffer invariant `Sep`: every range is well-formed (`start ≤ end`) and for any two ranges
in list order the earlier one ends strictly before the later one starts (sorted and non-touching).
-/

namespace TcpSink

def Covers (rs : List Range) (b : Nat) : Prop := ∃ r ∈ rs, r.1 ≤ b ∧ b < r.2

/-- `n` is the length of the contiguous prefix `[0, n)` of the union of `rs` (the greatest `n` with every byte below
it covered: bytes `< n` are covered and byte `n` is not) -/
def IsPrefix (rs : List Range) (n : Nat) : Prop := (∀ b, b < n → Covers rs b) ∧ ¬ Covers rs n

/-- sorted, pairwise non-touching, well-formed -/
def Sep (l : List Range) : Prop := (∀ r ∈ l, r.1 ≤ r.2) ∧ l.Pairwise (fun a b => a.2 < b.1)

/-- the byte ranges of a sequence of `(seq, size)` arrivals -/
def rangesOf (arr : List (Nat × Nat)) : List Range := arr.map fun p => (p.1, p.1 + p.2)

theorem covers_nil (b : Nat) : ¬ Covers [] b := by rintro ⟨r, hr, _⟩; simp at hr

theorem covers_cons (r : Range) (l : List Range) (b : Nat) :
    Covers (r :: l) b ↔ (r.1 ≤ b ∧ b < r.2) ∨ Covers l b :=
  List.exists_mem_cons_iff _ r l

theorem covers_append (l₁ l₂ : List Range) (b : Nat) : Covers (l₁ ++ l₂) b ↔ Covers l₁ b ∨ Covers l₂ b := by
  unfold Covers
  simp only [List.mem_append, or_and_right, exists_or]

theorem covers_of_mem_iff {l₁ l₂ : List Range} (h : ∀ x, x ∈ l₁ ↔ x ∈ l₂) (b : Nat) : Covers l₁ b ↔ Covers l₂ b := by
  unfold Covers
  simp only [h]

theorem isPrefix_congr {l₁ l₂ : List Range} (h : ∀ b, Covers l₁ b ↔ Covers l₂ b) (n : Nat) :
    IsPrefix l₁ n ↔ IsPrefix l₂ n := by
  unfold IsPrefix
  simp only [h]

theorem isPrefix_unique {l : List Range} {n m : Nat} (hn : IsPrefix l n) (hm : IsPrefix l m) : n = m := by
  rcases Nat.lt_trichotomy n m with h | h | h
  · exact absurd (hm.1 n h) hn.2
  · exact h
  · exact absurd (hn.1 m h) hm.2

theorem isPrefix_mono {l₁ l₂ : List Range} {n m : Nat} (hn : IsPrefix l₁ n) (hm : IsPrefix l₂ m)
    (h : ∀ b, Covers l₁ b → Covers l₂ b) : n ≤ m := by
  by_contra hlt
  exact hm.2 (h m (hn.1 m (Nat.lt_of_not_le hlt)))

theorem mem_insertR (r x : Range) (l : List Range) : x ∈ insertR r l ↔ x = r ∨ x ∈ l := by
  induction l with
  | nil => simp [insertR]
  | cons y ys ih =>
    unfold insertR
    split
    · simp
    · simp only [List.mem_cons, ih, or_left_comm]

theorem mem_sortR (x : Range) (l : List Range) : x ∈ sortR l ↔ x ∈ l := by
  induction l with
  | nil => simp [sortR]
  | cons y ys ih =>
    show x ∈ insertR y (sortR ys) ↔ _
    rw [mem_insertR, ih]; simp

theorem leR_start {a b : Range} (h : leR a b = true) : a.1 ≤ b.1 := by
  unfold leR at h
  simp only [Bool.or_eq_true, Bool.and_eq_true, decide_eq_true_eq, beq_iff_eq] at h
  rcases h with h | ⟨h, _⟩
  · exact Nat.le_of_lt h
  · exact Nat.le_of_eq h

theorem not_leR_start {a b : Range} (h : ¬ leR a b = true) : b.1 ≤ a.1 := by
  unfold leR at h
  simp only [Bool.or_eq_true, Bool.and_eq_true, decide_eq_true_eq, beq_iff_eq, not_or, not_and, not_lt] at h
  exact h.1

def StartSorted (l : List Range) : Prop := l.Pairwise (fun a b => a.1 ≤ b.1)

theorem insertR_sorted (r : Range) (l : List Range) (h : StartSorted l) : StartSorted (insertR r l) := by
  induction l with
  | nil => simp [insertR, StartSorted]
  | cons y ys ih =>
    unfold StartSorted at h ⊢
    have hy := List.pairwise_cons.mp h
    unfold insertR
    split
    · rename_i hle
      refine List.pairwise_cons.mpr ⟨?_, h⟩
      intro x hx
      rcases List.mem_cons.mp hx with rfl | hx
      · exact leR_start hle
      · exact Nat.le_trans (leR_start hle) (hy.1 x hx)
    · rename_i hle
      refine List.pairwise_cons.mpr ⟨?_, ih hy.2⟩
      intro x hx
      rcases (mem_insertR r x ys).mp hx with rfl | hx
      · exact not_leR_start hle
      · exact hy.1 x hx

theorem sortR_sorted (l : List Range) : StartSorted (sortR l) := by
  induction l with
  | nil => simp [sortR, StartSorted]
  | cons y ys ih => exact insertR_sorted y _ ih

theorem mergeFrom_spec (rest : List Range) : ∀ (cur : Range), cur.1 ≤ cur.2 → (∀ r ∈ rest, r.1 ≤ r.2) →
    (∀ r ∈ rest, cur.1 ≤ r.1) → StartSorted rest →
    (∀ b, Covers (mergeFrom cur rest) b ↔ (cur.1 ≤ b ∧ b < cur.2) ∨ Covers rest b) ∧
    Sep (mergeFrom cur rest) ∧ (∀ x ∈ mergeFrom cur rest, cur.1 ≤ x.1) := by
  induction rest with
  | nil =>
    intro cur h1 _ _ _
    refine ⟨fun b => ?_, ⟨?_, ?_⟩, ?_⟩
    · simp [mergeFrom, covers_cons, covers_nil]
    · intro r hr; simp [mergeFrom] at hr; subst hr; exact h1
    · simp [mergeFrom]
    · intro x hx; simp [mergeFrom] at hx; subst hx; exact Nat.le_refl _
  | cons r rest ih =>
    intro cur h1 h2 h3 h4
    have hs := List.pairwise_cons.mp h4
    have hr12 : r.1 ≤ r.2 := h2 r List.mem_cons_self
    have hcr : cur.1 ≤ r.1 := h3 r List.mem_cons_self
    unfold mergeFrom
    split
    · rename_i htouch
      have := ih (cur.1, max cur.2 r.2) (Nat.le_trans h1 (Nat.le_max_left _ _))
        (fun x hx => h2 x (List.mem_cons_of_mem _ hx)) (fun x hx => h3 x (List.mem_cons_of_mem _ hx)) hs.2
      obtain ⟨c, s, m⟩ := this
      refine ⟨fun b => ?_, s, m⟩
      rw [c b, covers_cons]
      simp only
      constructor
      · rintro (⟨ha, hb⟩ | h)
        · by_cases hb2 : b < cur.2
          · exact Or.inl ⟨ha, hb2⟩
          · have : b < r.2 := by
              rcases Nat.lt_or_ge b r.2 with h | h
              · exact h
              · exact absurd (Nat.max_le.mpr ⟨Nat.le_of_not_lt hb2, h⟩) (Nat.not_le_of_lt hb)
            exact Or.inr (Or.inl ⟨Nat.le_trans htouch (Nat.le_of_not_lt hb2), this⟩)
        · exact Or.inr (Or.inr h)
      · rintro (⟨ha, hb⟩ | ⟨ha, hb⟩ | h)
        · exact Or.inl ⟨ha, Nat.lt_of_lt_of_le hb (Nat.le_max_left _ _)⟩
        · exact Or.inl ⟨Nat.le_trans hcr ha, Nat.lt_of_lt_of_le hb (Nat.le_max_right _ _)⟩
        · exact Or.inr h
    · rename_i hgap
      have hgap' : cur.2 < r.1 := Nat.lt_of_not_le hgap
      obtain ⟨c, s, m⟩ := ih r hr12 (fun x hx => h2 x (List.mem_cons_of_mem _ hx)) hs.1 hs.2
      refine ⟨fun b => ?_, ⟨?_, ?_⟩, ?_⟩
      · rw [covers_cons, c b, covers_cons]
      · intro x hx
        rcases List.mem_cons.mp hx with rfl | hx
        · exact h1
        · exact s.1 x hx
      · refine List.pairwise_cons.mpr ⟨?_, s.2⟩
        intro x hx
        exact Nat.lt_of_lt_of_le hgap' (m x hx)
      · intro x hx
        rcases List.mem_cons.mp hx with rfl | hx
        · exact Nat.le_refl _
        · exact Nat.le_trans hcr (m x hx)

theorem mergeAll_spec (l : List Range) (hwf : ∀ r ∈ l, r.1 ≤ r.2) (hs : StartSorted l) :
    (∀ b, Covers (mergeAll l) b ↔ Covers l b) ∧ Sep (mergeAll l) := by
  cases l with
  | nil => exact ⟨fun b => Iff.rfl, ⟨fun r hr => by simp [mergeAll] at hr, by simp [mergeAll]⟩⟩
  | cons r rest =>
    have hp := List.pairwise_cons.mp hs
    obtain ⟨c, s, _⟩ := mergeFrom_spec rest r (hwf r List.mem_cons_self)
      (fun x hx => hwf x (List.mem_cons_of_mem _ hx)) hp.1 hp.2
    exact ⟨fun b => by rw [show mergeAll (r :: rest) = mergeFrom r rest from rfl, c b, covers_cons], s⟩

/-- **`packet_arrived` keeps the buffer sorted and non-touching and adds exactly the bytes of the packet.** -/
theorem packetArrived_spec (buf : List Range) (seq size : Nat) (h : Sep buf) :
    Sep (packetArrived buf seq size) ∧
    ∀ b, Covers (packetArrived buf seq size) b ↔ Covers buf b ∨ (seq ≤ b ∧ b < seq + size) := by
  have hwf : ∀ r ∈ sortR (buf ++ [(seq, seq + size)]), r.1 ≤ r.2 := by
    intro r hr
    rcases List.mem_append.mp ((mem_sortR r _).mp hr) with h1 | h1
    · exact h.1 r h1
    · simp at h1; subst h1; exact Nat.le_add_right _ _
  obtain ⟨c, s⟩ := mergeAll_spec _ hwf (sortR_sorted _)
  refine ⟨s, fun b => ?_⟩
  unfold packetArrived
  rw [c b, covers_of_mem_iff (mem_sortR · _) b, covers_append, covers_cons]
  simp [covers_nil]

theorem mergeFrom_ne_nil (l : List Range) : ∀ c : Range, mergeFrom c l ≠ [] := by
  induction l with
  | nil => intro c; simp [mergeFrom]
  | cons y ys ih =>
    intro c; unfold mergeFrom; split
    · exact ih _
    · simp

theorem packetArrived_ne_nil (buf : List Range) (seq size : Nat) : packetArrived buf seq size ≠ [] := by
  unfold packetArrived
  have hm : (seq, seq + size) ∈ sortR (buf ++ [(seq, seq + size)]) := (mem_sortR _ _).mpr (by simp)
  cases hl : sortR (buf ++ [(seq, seq + size)]) with
  | nil => rw [hl] at hm; simp at hm
  | cons r rest => exact mergeFrom_ne_nil rest r

/-- **On a sorted, non-touching, non-empty buffer the ACK computed by `put` is the length of the contiguous
prefix.** -/
theorem ackOf_isPrefix (buf : List Range) (h : Sep buf) (hne : buf ≠ []) :
    ∃ n, ackOf buf = .ok n ∧ IsPrefix buf n := by
  cases buf with
  | nil => exact absurd rfl hne
  | cons r rest =>
    have hp := List.pairwise_cons.mp h.2
    have hr : r.1 ≤ r.2 := h.1 r List.mem_cons_self
    refine ⟨_, rfl, ?_⟩
    by_cases h0 : r.1 = 0
    · simp only [h0, beq_self_eq_true, if_true]
      refine ⟨fun b hb => ⟨r, List.mem_cons_self, by omega, hb⟩, ?_⟩
      rintro ⟨x, hx, hx1, hx2⟩
      rcases List.mem_cons.mp hx with rfl | hx
      · exact Nat.lt_irrefl _ hx2
      · have := hp.1 x hx; omega
    · have hb : (r.1 == 0) = false := by simpa using h0
      simp only [hb, Bool.false_eq_true, ↓reduceIte]
      refine ⟨fun b hb => absurd hb (Nat.not_lt_zero _), ?_⟩
      rintro ⟨x, hx, hx1, hx2⟩
      rcases List.mem_cons.mp hx with rfl | hx
      · omega
      · have := hp.1 x hx; omega

/-- `put` does not fail on a sorted non-touching buffer: it answers with the prefix of its new buffer -/
theorem put_ok (buf : List Range) (seq size : Nat) (h : Sep buf) :
    ∃ p, put buf seq size = (packetArrived buf seq size, .ok p) ∧ IsPrefix (packetArrived buf seq size) p := by
  obtain ⟨p, hn, hp⟩ := ackOf_isPrefix _ (packetArrived_spec buf seq size h).1 (packetArrived_ne_nil buf seq size)
  exact ⟨p, by unfold put; simp only [hn], hp⟩

theorem sep_nil : Sep [] := ⟨fun r hr => by simp at hr, List.Pairwise.nil⟩

/-- the run-level invariant: starting from a buffer `buf` that is sorted/non-touching and covers exactly what the
ranges `rs` cover, after the first `k+1` arrivals of `arr` the ACK is the prefix length of `rs` plus those arrivals,
and the buffer is again sorted/non-touching with exactly that coverage -/
theorem run_spec (arr : List (Nat × Nat)) : ∀ (buf rs : List Range), Sep buf → (∀ b, Covers buf b ↔ Covers rs b) →
    ∀ k, k < arr.length →
    (∃ n, (acks buf arr)[k]? = some (.ok n) ∧ IsPrefix (rs ++ rangesOf (arr.take (k + 1))) n) ∧
    (∃ B, (buffers buf arr)[k]? = some B ∧ Sep B ∧ B ≠ [] ∧
      ∀ b, Covers B b ↔ Covers (rs ++ rangesOf (arr.take (k + 1))) b) := by
  induction arr with
  | nil => intro _ _ _ _ k hk; simp at hk
  | cons p rest ih =>
    intro buf rs hsep hcov k hk
    obtain ⟨seq, size⟩ := p
    obtain ⟨hsep', hcov'⟩ := packetArrived_spec buf seq size hsep
    have hc1 : ∀ b, Covers (packetArrived buf seq size) b ↔ Covers (rs ++ [(seq, seq + size)]) b := by
      intro b
      rw [hcov' b, covers_append, hcov b, covers_cons]
      simp [covers_nil]
    cases k with
    | zero =>
      obtain ⟨n, hn, hp⟩ := ackOf_isPrefix _ hsep' (packetArrived_ne_nil buf seq size)
      refine ⟨⟨n, ?_, ?_⟩, ⟨packetArrived buf seq size, ?_, hsep', packetArrived_ne_nil buf seq size, ?_⟩⟩
      · simp only [acks, put, List.getElem?_cons_zero, hn]
      · exact (isPrefix_congr (by simpa [rangesOf] using hc1) n).mp hp
      · simp only [buffers, put, List.getElem?_cons_zero]
      · simpa [rangesOf] using hc1
    | succ k =>
      have hk' : k < rest.length := by simpa using hk
      obtain ⟨⟨n, hn, hp⟩, ⟨B, hB, hBs, hBne, hBc⟩⟩ := ih (packetArrived buf seq size) (rs ++ [(seq, seq + size)]) hsep' hc1 k hk'
      have e : rs ++ rangesOf (((seq, size) :: rest).take (k + 1 + 1)) =
          (rs ++ [(seq, seq + size)]) ++ rangesOf (rest.take (k + 1)) := by
        simp [rangesOf]
      refine ⟨⟨n, ?_, ?_⟩, ⟨B, ?_, hBs, hBne, ?_⟩⟩
      · simpa only [acks, put, List.getElem?_cons_succ] using hn
      · rw [e]; exact hp
      · simpa only [buffers, put, List.getElem?_cons_succ] using hB
      · rw [e]; exact hBc

end TcpSink
