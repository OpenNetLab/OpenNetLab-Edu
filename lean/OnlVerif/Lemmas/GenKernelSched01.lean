import OnlVerif.Lemmas.GenKernelDefs
import OnlVerif.Lemmas.KAccess
import OnlVerif.Generated.KernelSched01
/-!
# The generated scheduling constants and queue entry (`Generated/KernelSched01.lean`) are the model's by definition

The bridge theorems of C01 (`Timeout.__init__`, the order on queue tuples, the priority per call site) are proved where they are
stated, `Props/KernelGen01.lean`.
-/

namespace GenKernel
variable {τ σ : Type} [Num τ]

/-! ## constants, queue entries -/

theorem urgent_eq : Gen.URGENT = URGENT := rfl
theorem normal_eq : Gen.NORMAL = NORMAL := rfl

/-- `Environment.schedule` pushes the generated tuple -/
theorem schedule_eq (s : KState τ σ) (e : EvId) (prio : Nat) (delay : τ) :
    s.schedule e prio delay = pushEntry s (Gen.Environment.schedule_entry s.now delay prio s.eid e) := rfl

end GenKernel
