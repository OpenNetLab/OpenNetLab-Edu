import Mathlib.Data.List.Basic
import Mathlib.Data.List.Nodup
import Mathlib.Tactic.Linarith
import OnlVerif.Lemmas.Route
import OnlVerif.Net.FatTree
/-! # Lemmas about `generate_fib` (`OnlVerif/Net/FatTree.lean`), for an arbitrary graph -/

namespace FatTree
open Route

/-! ### the enumerate loop: `port_to_nexthop` / `nexthop_to_port` -/

theorem enumPorts_flow (i : Nat) (l : List Nat) (t : NodeTab) :
    (enumPorts i l t).flowToPort = t.flowToPort ∧ (enumPorts i l t).flowToNexthop = t.flowToNexthop := by
  induction l generalizing i t with
  | nil => simp [enumPorts]
  | cons x r ih => simp [enumPorts, ih, NodeTab.addPort]

theorem enumPorts_ptn (i : Nat) (l : List Nat) (t : NodeTab) (q : Nat) :
    dget (enumPorts i l t).portToNexthop q = if i ≤ q ∧ q < i + l.length then l[q - i]? else dget t.portToNexthop q := by
  induction l generalizing i t with
  | nil =>
    have : ¬ (i ≤ q ∧ q < i + 0) := by omega
    simp [enumPorts]
  | cons x r ih =>
    simp only [enumPorts, ih, NodeTab.addPort, dget_dset, List.length_cons]
    by_cases h1 : i + 1 ≤ q ∧ q < i + 1 + r.length
    · have h2 : i ≤ q ∧ q < i + (r.length + 1) := by omega
      rw [if_pos h1, if_pos h2]
      have : q - i = (q - (i + 1)) + 1 := by omega
      rw [this, List.getElem?_cons_succ]
    · rw [if_neg h1]
      by_cases h3 : i = q
      · subst h3
        simp
      · have h2 : ¬ (i ≤ q ∧ q < i + (r.length + 1)) := by omega
        rw [if_neg h3, if_neg h2]

theorem enumPorts_ntp (i : Nat) (l : List Nat) (t : NodeTab) (z : Nat) (hn : l.Nodup) :
    dget (enumPorts i l t).nexthopToPort z = if z ∈ l then some (i + l.idxOf z) else dget t.nexthopToPort z := by
  induction l generalizing i t with
  | nil => simp [enumPorts]
  | cons x r ih =>
    have hx : x ∉ r := (List.nodup_cons.mp hn).1
    simp only [enumPorts, ih _ _ (List.nodup_cons.mp hn).2, NodeTab.addPort, dget_dset, List.mem_cons]
    by_cases hz : z ∈ r
    · have hne : z ≠ x := fun e => hx (e ▸ hz)
      have hne' : ¬ x = z := fun e => hne e.symm
      simp [hz, List.idxOf_cons_ne _ hne']
      omega
    · by_cases e : x = z
      · subst e; simp [hz]
      · have : ¬ z = x := fun e' => e e'.symm
        simp [hz, e, this]

theorem initTab_ptn (ns : List Nat) (q : Nat) : dget (initTab ns).portToNexthop q = ns[q]? := by
  unfold initTab
  rw [enumPorts_ptn]
  by_cases h : q < ns.length
  · simp [h]
  · simp [h, dget]

theorem initTab_ntp (ns : List Nat) (z : Nat) (hn : ns.Nodup) :
    dget (initTab ns).nexthopToPort z = if z ∈ ns then some (ns.idxOf z) else none := by
  unfold initTab
  rw [enumPorts_ntp _ _ _ _ hn]
  simp [dget]

theorem initTab_flow (ns : List Nat) : (initTab ns).flowToPort = [] ∧ (initTab ns).flowToNexthop = [] := by
  unfold initTab
  simpa using enumPorts_flow 0 ns {}

theorem getElem?_eq_some_iff_idxOf (ns : List Nat) (hn : ns.Nodup) (p z : Nat) :
    ns[p]? = some z ↔ (z ∈ ns ∧ ns.idxOf z = p) := by
  constructor
  · intro h
    obtain ⟨hp, rfl⟩ := List.getElem?_eq_some_iff.mp h
    exact ⟨List.getElem_mem hp, List.Nodup.idxOf_getElem hn p hp⟩
  · rintro ⟨hz, rfl⟩
    have hlt : ns.idxOf z < ns.length := List.idxOf_lt_length_iff.mpr hz
    rw [List.getElem?_eq_getElem hlt]
    simp

theorem dget_initTables (g : Graph) (n : Nat) : dget (initTables g) n = (dget g n).map initTab := by
  unfold initTables
  exact dget_map g initTab n

def Adj (g : Graph) (a z : Nat) : Prop := ∃ ns, dget g a = some ns ∧ z ∈ ns

/-- neighbour lists have no duplicates (true of every `networkx` adjacency) -/
def GraphOK (g : Graph) : Prop := ∀ n ns, dget g n = some ns → ns.Nodup

def IsWalk (g : Graph) (path : List Nat) : Prop := ∀ seg ∈ segments path, Adj g seg.1 seg.2 ∧ Adj g seg.2 seg.1

theorem init_ntp (g : Graph) (hg : GraphOK g) (a z : Nat) (ns : List Nat) (h : dget g a = some ns) (hz : z ∈ ns) :
    nexthopToPort (initTables g) a z = some (ns.idxOf z) := by
  simp [nexthopToPort, dget_initTables, h, initTab_ntp _ _ (hg a ns h), hz]

theorem init_ptn (g : Graph) (a p : Nat) (ns : List Nat) (h : dget g a = some ns) :
    portToNexthop (initTables g) a p = ns[p]? := by
  simp [portToNexthop, dget_initTables, h, initTab_ptn]

theorem init_flow (g : Graph) (n k : Nat) : nexthopOf (initTables g) n k = none ∧ portOf (initTables g) n k = none := by
  unfold nexthopOf portOf
  rw [dget_initTables]
  cases dget g n with
  | none => simp
  | some ns => simp [initTab_flow, dget]

theorem init_port_roundtrip (g : Graph) (hg : GraphOK g) (a z : Nat) (h : Adj g a z) :
    ∃ i, nexthopToPort (initTables g) a z = some i ∧ portToNexthop (initTables g) a i = some z := by
  obtain ⟨ns, hns, hz⟩ := h
  refine ⟨ns.idxOf z, init_ntp g hg a z ns hns hz, ?_⟩
  rw [init_ptn g a _ ns hns]
  exact (getElem?_eq_some_iff_idxOf ns (hg a ns hns) _ z).mpr ⟨hz, rfl⟩

theorem setFlow_spec (t : Tables) (a key z : Nat) (h : (nexthopToPort t a z).isSome) :
    ∃ t' port, setFlow t a key z = .ok t' ∧ nexthopToPort t a z = some port ∧
      (∀ n z', nexthopToPort t' n z' = nexthopToPort t n z') ∧
      (∀ n p, portToNexthop t' n p = portToNexthop t n p) ∧
      (∀ n k, nexthopOf t' n k = if a = n ∧ key = k then some z else nexthopOf t n k) ∧
      (∀ n k, portOf t' n k = if a = n ∧ key = k then some port else portOf t n k) := by
  unfold nexthopToPort at h
  cases hta : dget t a with
  | none => simp [hta] at h
  | some tab =>
    simp only [hta] at h
    obtain ⟨port, hport⟩ := Option.isSome_iff_exists.mp h
    refine ⟨dset t a (tab.setFlow key port z), port, ?_, ?_, ?_, ?_, ?_, ?_⟩
    · simp [setFlow, hta, hport]
    · simp [nexthopToPort, hta, hport]
    · intro n z'
      unfold nexthopToPort
      rw [dget_dset]
      by_cases e : a = n
      · subst e; simp [hta, NodeTab.setFlow]
      · simp [e]
    · intro n p
      unfold portToNexthop
      rw [dget_dset]
      by_cases e : a = n
      · subst e; simp [hta, NodeTab.setFlow]
      · simp [e]
    · intro n k
      unfold nexthopOf
      rw [dget_dset]
      by_cases e : a = n
      · subst e
        simp only [hta, NodeTab.setFlow, dget_dset, true_and, if_true]
      · simp [e]
    · intro n k
      unfold portOf
      rw [dget_dset]
      by_cases e : a = n
      · subst e
        simp only [hta, NodeTab.setFlow, dget_dset, true_and, if_true]
      · simp [e]

/-! ### `generate_fib` as one fold over the list of table writes -/

/-- a table write `(node, key, next hop)` -/
abbrev Write := Nat × Nat × Nat

def writeStep (t : Tables) (w : Write) : Except PyErr Tables := setFlow t w.1 w.2.1 w.2.2

def writesOf (tcp : Bool) (fid : Nat) (seg : Nat × Nat) : List Write :=
  (seg.1, fid, seg.2) :: (if tcp then [(seg.2, ackClass fid, seg.1)] else [])

def flowWrites (tcp : Bool) (fl : FlowRec) : List Write := (segments fl.path).flatMap (writesOf tcp fl.fid)

def allWrites (flows : List FlowRec) (tcp : Bool) : List Write := flows.flatMap (flowWrites tcp)

theorem foldE_append {σ α : Type} (f : σ → α → Except PyErr σ) (s : σ) (a b : List α) :
    foldE f s (a ++ b) = match foldE f s a with
      | .error e => .error e
      | .ok s' => foldE f s' b := by
  induction a generalizing s with
  | nil => simp [foldE]
  | cons x r ih =>
    simp only [List.cons_append, foldE]
    cases f s x with
    | error e => simp
    | ok s' => simp [ih]

theorem foldE_flatMap {σ α β : Type} (f : σ → α → Except PyErr σ) (g : β → List α) (s : σ) (l : List β) :
    foldE f s (l.flatMap g) = foldE (fun s x => foldE f s (g x)) s l := by
  induction l generalizing s with
  | nil => simp [foldE]
  | cons x r ih =>
    simp only [List.flatMap_cons, foldE_append, foldE]
    cases foldE f s (g x) with
    | error e => simp
    | ok s' => simp [ih]

theorem segStep_eq (tcp : Bool) (fid : Nat) (t : Tables) (seg : Nat × Nat) :
    segStep tcp fid t seg = foldE writeStep t (writesOf tcp fid seg) := by
  unfold segStep writesOf
  cases tcp
  · simp only [foldE, writeStep]
    cases setFlow t seg.1 fid seg.2 <;> simp [foldE]
  · simp only [foldE, writeStep, if_true]
    cases setFlow t seg.1 fid seg.2 with
    | error e => simp
    | ok t1 =>
      simp only
      cases setFlow t1 seg.2 (ackClass fid) seg.1 <;> simp

theorem generateFib_eq (g : Graph) (flows : List FlowRec) (tcp : Bool) :
    generateFib g flows tcp = foldE writeStep (initTables g) (allWrites flows tcp) := by
  unfold generateFib allWrites
  rw [foldE_flatMap]
  congr 1
  funext t fl
  unfold flowStep flowWrites
  rw [foldE_flatMap]
  congr 1
  funext t seg
  exact segStep_eq tcp fl.fid t seg

def lastWrite : List Write → Nat → Nat → Option Nat
  | [], _, _ => none
  | w :: r, n, k =>
    match lastWrite r n k with
    | some z => some z
    | none => if w.1 = n ∧ w.2.1 = k then some w.2.2 else none

theorem foldE_writes (ws : List Write) (t : Tables) (h : ∀ w ∈ ws, (nexthopToPort t w.1 w.2.2).isSome) :
    ∃ t', foldE writeStep t ws = .ok t' ∧
      (∀ n z, nexthopToPort t' n z = nexthopToPort t n z) ∧
      (∀ n p, portToNexthop t' n p = portToNexthop t n p) ∧
      (∀ n k, nexthopOf t' n k = match lastWrite ws n k with
        | some z => some z
        | none => nexthopOf t n k) ∧
      (∀ n k, portOf t' n k = match lastWrite ws n k with
        | some z => nexthopToPort t n z
        | none => portOf t n k) := by
  induction ws generalizing t with
  | nil => exact ⟨t, rfl, fun _ _ => rfl, fun _ _ => rfl, fun _ _ => rfl, fun _ _ => rfl⟩
  | cons w r ih =>
    obtain ⟨a, key, z⟩ := w
    obtain ⟨t1, port, hok, hport, hntp, hptn, hnh, hpo⟩ := setFlow_spec t a key z (h _ List.mem_cons_self)
    have h1 : ∀ w ∈ r, (nexthopToPort t1 w.1 w.2.2).isSome := by
      intro w hw
      rw [hntp]
      exact h w (List.mem_cons_of_mem _ hw)
    obtain ⟨t', hok', hntp', hptn', hnh', hpo'⟩ := ih t1 h1
    refine ⟨t', ?_, ?_, ?_, ?_, ?_⟩
    · simp only [foldE, writeStep, hok, hok']
    · intro n z'; rw [hntp', hntp]
    · intro n p; rw [hptn', hptn]
    · intro n k
      rw [hnh']
      simp only [lastWrite]
      cases lastWrite r n k with
      | some z' => rfl
      | none =>
        simp only [hnh]
        by_cases e : a = n ∧ key = k <;> simp [e]
    · intro n k
      rw [hpo']
      simp only [lastWrite]
      cases lastWrite r n k with
      | some z' => simp only [hntp]
      | none =>
        simp only [hpo]
        by_cases e : a = n ∧ key = k
        · obtain ⟨rfl, rfl⟩ := e
          simp [hport]
        · simp [e]

/-! ### which write is the last one: entries are keyed by flow id, so distinct ids do not interfere -/

theorem lastWrite_append (a b : List Write) (n k : Nat) :
    lastWrite (a ++ b) n k = match lastWrite b n k with
      | some z => some z
      | none => lastWrite a n k := by
  induction a with
  | nil => simp [lastWrite]; cases lastWrite b n k <;> rfl
  | cons w r ih =>
    simp only [List.cons_append, lastWrite, ih]
    cases lastWrite b n k <;> simp

theorem lastWrite_none_of_keys (ws : List Write) (n k : Nat) (h : ∀ w ∈ ws, w.2.1 ≠ k) : lastWrite ws n k = none := by
  induction ws with
  | nil => rfl
  | cons w r ih =>
    have h1 := ih (fun w hw => h w (List.mem_cons_of_mem _ hw))
    have h2 := h w List.mem_cons_self
    simp [lastWrite, h1, h2]

theorem flowWrites_keys (tcp : Bool) (fl : FlowRec) :
    ∀ w ∈ flowWrites tcp fl, w.2.1 = fl.fid ∨ w.2.1 = ackClass fl.fid := by
  intro w hw
  unfold flowWrites at hw
  obtain ⟨seg, _, hw⟩ := List.mem_flatMap.mp hw
  unfold writesOf at hw
  cases tcp <;> simp at hw
  · left; rw [hw]
  · rcases hw with rfl | rfl
    · left; rfl
    · right; rfl

def nextIn : List Nat → Nat → Option Nat
  | a :: z :: r, n => if n = a then some z else nextIn (z :: r) n
  | _, _ => none

theorem nextIn_mem (p : List Nat) (n z : Nat) (h : nextIn p n = some z) : n ∈ p := by
  induction p with
  | nil => simp [nextIn] at h
  | cons a r ih =>
    cases r with
    | nil => simp [nextIn] at h
    | cons b r' =>
      simp only [nextIn] at h
      by_cases e : n = a
      · subst e; exact List.mem_cons_self
      · rw [if_neg e] at h; exact List.mem_cons_of_mem _ (ih h)

theorem nextIn_none_of_notMem (p : List Nat) (n : Nat) (h : n ∉ p) : nextIn p n = none := by
  cases hh : nextIn p n with
  | none => rfl
  | some z => exact absurd (nextIn_mem p n z hh) h

theorem segments_mem (p : List Nat) (a z : Nat) (h : (a, z) ∈ segments p) : a ∈ p ∧ z ∈ p.tail := by
  induction p with
  | nil => simp [segments] at h
  | cons x r ih =>
    cases r with
    | nil => simp [segments] at h
    | cons y r' =>
      simp only [segments, List.mem_cons, Prod.mk.injEq] at h
      rcases h with ⟨rfl, rfl⟩ | h
      · simp
      · have := ih h
        exact ⟨List.mem_cons_of_mem _ this.1, by simp only [List.tail_cons] at this ⊢; exact List.mem_cons_of_mem _ this.2⟩

theorem nextIn_of_segment (p : List Nat) (hn : p.Nodup) (a z : Nat) (h : (a, z) ∈ segments p) : nextIn p a = some z := by
  induction p with
  | nil => simp [segments] at h
  | cons x r ih =>
    cases r with
    | nil => simp [segments] at h
    | cons y r' =>
      simp only [segments, List.mem_cons, Prod.mk.injEq] at h
      rcases h with ⟨rfl, rfl⟩ | h
      · simp [nextIn]
      · have hm := (segments_mem _ a z h).1
        have hx : a ≠ x := fun e => (List.nodup_cons.mp hn).1 (e ▸ hm)
        simp only [nextIn, if_neg hx]
        exact ih (List.nodup_cons.mp hn).2 h

theorem lastWrite_flow_fwd (tcp : Bool) (fid : Nat) (path : List Nat) (hn : path.Nodup) (n : Nat) :
    lastWrite ((segments path).flatMap (writesOf tcp fid)) n fid = nextIn path n := by
  induction path with
  | nil => simp [segments, lastWrite, nextIn]
  | cons a r ih =>
    cases r with
    | nil => simp [segments, lastWrite, nextIn]
    | cons z r' =>
      have hn' := List.nodup_cons.mp hn
      simp only [segments, List.flatMap_cons, lastWrite_append, ih hn'.2, nextIn]
      have hack : ackClass fid ≠ fid := by unfold ackClass; omega
      by_cases e : n = a
      · subst e
        rw [nextIn_none_of_notMem _ _ hn'.1]
        cases tcp <;> simp [writesOf, lastWrite, hack]
      · rw [if_neg e]
        cases nextIn (z :: r') n with
        | some x => rfl
        | none =>
          have e' : ¬ a = n := fun h => e h.symm
          cases tcp <;> simp [writesOf, lastWrite, hack, e']

theorem nextIn_last (p : List Nat) (hn : p.Nodup) (d : Nat) (hd : p.getLast? = some d) : nextIn p d = none := by
  induction p with
  | nil => simp [nextIn]
  | cons a r ih =>
    cases r with
    | nil => simp [nextIn]
    | cons z r' =>
      have hn' := List.nodup_cons.mp hn
      have hd' : (z :: r').getLast? = some d := by simpa [List.getLast?_cons_cons] using hd
      have hm : d ∈ z :: r' := List.mem_of_getLast? hd'
      have hne : d ≠ a := fun e => hn'.1 (e ▸ hm)
      simp only [nextIn, if_neg hne]
      exact ih hn'.2 hd'

theorem nextIn_snoc (q : List Nat) (a : Nat) (hq : q ≠ []) (hn : (q ++ [a]).Nodup) (n : Nat) :
    nextIn (q ++ [a]) n = if n = q.getLast hq then some a else nextIn q n := by
  induction q with
  | nil => exact absurd rfl hq
  | cons x r ih =>
    cases r with
    | nil =>
      by_cases e : n = x <;> simp [nextIn, e]
    | cons y r' =>
      have hn' := List.nodup_cons.mp hn
      have ih' := ih (by simp) hn'.2
      simp only [List.cons_append, nextIn] at ih' ⊢
      rw [List.getLast_cons (by simp)]
      by_cases e : n = x
      · subst e
        have : n ≠ (y :: r').getLast (by simp) := by
          intro h
          apply hn'.1
          rw [h]
          exact List.mem_append_left _ (List.getLast_mem _)
        simp [this]
      · simp only [if_neg e]
        exact ih'

theorem segments_snoc (q : List Nat) (a : Nat) (hq : q ≠ []) :
    segments (q ++ [a]) = segments q ++ [(q.getLast hq, a)] := by
  induction q with
  | nil => exact absurd rfl hq
  | cons x r ih =>
    cases r with
    | nil => simp [segments]
    | cons y r' =>
      have := ih (by simp)
      simp only [List.cons_append, segments, List.getLast_cons_cons] at this ⊢
      rw [this]

theorem segments_reverse (p : List Nat) (x y : Nat) : (x, y) ∈ segments p.reverse ↔ (y, x) ∈ segments p := by
  induction p with
  | nil => simp [segments]
  | cons a r ih =>
    cases r with
    | nil => simp [segments]
    | cons z r' =>
      have hne : (z :: r').reverse ≠ [] := by simp
      rw [List.reverse_cons, segments_snoc _ _ hne]
      have hl : (z :: r').reverse.getLast hne = z := by simp
      rw [hl, List.mem_append, ih, List.mem_singleton]
      show _ ↔ (y, x) ∈ (a, z) :: segments (z :: r')
      rw [List.mem_cons]
      constructor
      · rintro (h | h)
        · exact Or.inr h
        · left; cases h; rfl
      · rintro (h | h)
        · right; cases h; rfl
        · exact Or.inl h

theorem lastWrite_flow_ack (fid : Nat) (path : List Nat) (hn : path.Nodup) (n : Nat) :
    lastWrite ((segments path).flatMap (writesOf true fid)) n (ackClass fid) = nextIn path.reverse n := by
  induction path with
  | nil => simp [segments, lastWrite, nextIn]
  | cons a r ih =>
    cases r with
    | nil => simp [segments, lastWrite, nextIn]
    | cons z r' =>
      have hn' := List.nodup_cons.mp hn
      have hne : (z :: r').reverse ≠ [] := by simp
      have hnd : ((z :: r').reverse ++ [a]).Nodup := by
        rw [← List.reverse_cons]; exact List.nodup_reverse.mpr hn
      have hl : (z :: r').reverse.getLast hne = z := by simp
      rw [List.reverse_cons, nextIn_snoc _ _ hne hnd, hl]
      simp only [segments, List.flatMap_cons, lastWrite_append, ih hn'.2]
      have hack : fid ≠ ackClass fid := by unfold ackClass; omega
      by_cases e : n = z
      · subst e
        rw [nextIn_last _ (List.nodup_reverse.mpr hn'.2) n (by simp)]
        simp [writesOf, lastWrite]
      · rw [if_neg e]
        cases nextIn (z :: r').reverse n with
        | some x => rfl
        | none =>
          have e' : ¬ z = n := fun h => e h.symm
          simp [writesOf, lastWrite, hack, e']

theorem lastWrite_all (flows : List FlowRec) (tcp : Bool)
    (hd : flows.Pairwise fun x y => x.fid ≠ y.fid) (hlt : ∀ fl ∈ flows, fl.fid < 10000) :
    ∀ fl ∈ flows, ∀ n k, (k = fl.fid ∨ k = ackClass fl.fid) →
      lastWrite (allWrites flows tcp) n k = lastWrite (flowWrites tcp fl) n k := by
  -- the keys `fid`, `fid + 10000` of two flows with different ids below 10000 are disjoint
  have apart : ∀ f g : FlowRec, f.fid ≠ g.fid → f.fid < 10000 → g.fid < 10000 → ∀ k, (k = f.fid ∨ k = ackClass f.fid) →
      ∀ w ∈ flowWrites tcp g, w.2.1 ≠ k := by
    intro f g hne hf hg k hk w hw
    have := flowWrites_keys tcp g w hw
    unfold ackClass at *
    omega
  induction flows with
  | nil => simp
  | cons f0 rest ih =>
    intro fl hfl n k hk
    have hd' := List.pairwise_cons.mp hd
    simp only [allWrites, List.flatMap_cons] at ih ⊢
    rw [lastWrite_append]
    rcases List.mem_cons.mp hfl with rfl | hin
    · -- `fl` is the first flow: no later flow writes its keys
      rw [lastWrite_none_of_keys _ n k fun w hw => by
        obtain ⟨g, hg, hw⟩ := List.mem_flatMap.mp hw
        exact apart fl g (hd'.1 g hg) (hlt fl List.mem_cons_self) (hlt g (List.mem_cons_of_mem _ hg)) k hk w hw]
    · rw [ih hd'.2 (fun g hg => hlt g (List.mem_cons_of_mem _ hg)) fl hin n k hk]
      cases lastWrite (flowWrites tcp fl) n k with
      | some z => rfl
      | none =>
        exact lastWrite_none_of_keys _ n k
          (apart fl f0 (hd'.1 fl hin).symm (hlt fl hfl) (hlt f0 List.mem_cons_self) k hk)

theorem walk_nextIn (nh : Nat → Option Nat) (rest : List Nat) :
    ∀ src fuel, (src :: rest).Nodup → (∀ n ∈ src :: rest, nh n = nextIn (src :: rest) n) →
      (src :: rest).length ≤ fuel + 1 → walk nh fuel src = src :: rest := by
  induction rest with
  | nil =>
    intro src fuel _ hnh _
    have : nh src = none := by rw [hnh src List.mem_cons_self]; simp [nextIn]
    cases fuel <;> simp [walk, this]
  | cons z r ih =>
    intro src fuel hn hnh hf
    have hn' := List.nodup_cons.mp hn
    cases fuel with
    | zero => simp at hf
    | succ f =>
      have h1 : nh src = some z := by rw [hnh src List.mem_cons_self]; simp [nextIn]
      simp only [walk, h1]
      congr 1
      apply ih z f hn'.2
      · intro n hm
        have hne : n ≠ src := fun e => hn'.1 (e ▸ hm)
        rw [hnh n (List.mem_cons_of_mem _ hm)]
        simp [nextIn, hne]
      · simp only [List.length_cons] at hf ⊢; omega

end FatTree
