import OnlVerif.Lemmas.NetworkThm
/-!
# Order along chains of order-preserving nodes

`Link n sel a b`: the wiring sends every selected packet (`sel`: a flow, a source, …) that `a` forwards to `b`, and nobody else
sends selected packets to `b`.  Then (`link_inv`) in every reachable state the selected packets handed to `b` are, in order,
exactly the selected packets `a` forwarded.  `chain_order` composes this with the per-node order preservation along a chain.
-/

namespace Net
variable {ι π κ : Type} [DecidableEq ι] [DecidableEq π] [DecidableEq κ]

structure Link (n : Wiring ι π κ) (sel : π → Bool) (a b : ι) : Prop where
  fwd_to : ∀ p, sel p = true → n.next a p = .node b
  only_from : ∀ c p, sel p = true → n.next c p = .node b → c = a

def NoInject (es : List (GEv ι π)) (sel : π → Bool) (b : ι) : Prop :=
  ∀ p o, GEv.inject b p o ∈ es → sel p = false

def OrderPreserving (g : GState ι π) (sel : π → Bool) (c : ι) : Prop :=
  ((g.recs (.out c)).filter sel).Sublist ((g.recs (.inn c)).filter sel)

def ChainOK (R : ι → ι → Prop) : ι → List ι → Prop
  | _, [] => True
  | a, b :: l => R a b ∧ ChainOK R b l

def lastOf : ι → List ι → ι
  | a, [] => a
  | _, b :: l => lastOf b l

theorem recs_arrive_inn (g : GState ι π) (d : Dest ι) (p : π) (o : Outcome) (b : ι) :
    (g.arrive d p o).recs (.inn b) = if d = .node b then g.recs (.inn b) ++ [p] else g.recs (.inn b) := by
  cases d with
  | sink k => cases o <;> simp [GState.arrive, recs_app]
  | node c =>
    cases o <;>
      simp only [GState.arrive, recs_app, reduceCtorEq, if_false, Slot.inn.injEq, Dest.node.injEq] <;>
      (by_cases h : b = c
       · subst h; simp
       · have : ¬ c = b := fun e => h e.symm
         simp [h, this])

theorem recs_arrive_out (g : GState ι π) (d : Dest ι) (p : π) (o : Outcome) (a : ι) :
    (g.arrive d p o).recs (.out a) = g.recs (.out a) := by
  cases d <;> cases o <;> simp [GState.arrive, recs_app]

theorem filter_snoc (sel : π → Bool) (l : List π) (p : π) :
    (l ++ [p]).filter sel = if sel p = true then l.filter sel ++ [p] else l.filter sel := by
  rw [List.filter_append]
  by_cases h : sel p = true <;> simp [h]

theorem link_step (n : Wiring ι π κ) (sel : π → Bool) (a b : ι) (hl : Link n sel a b) (g : GState ι π) (e : GEv ι π)
    (hinj : ∀ p o, e = GEv.inject b p o → sel p = false)
    (h : (g.recs (.inn b)).filter sel = (g.recs (.out a)).filter sel) :
    ((apply n g e).recs (.inn b)).filter sel = ((apply n g e).recs (.out a)).filter sel := by
  cases e with
  | inject a' p o =>
    simp only [apply, recs_arrive_inn, recs_arrive_out, recs_with_injected, Dest.node.injEq]
    by_cases hab : a' = b
    · subst hab
      rw [if_pos rfl, filter_snoc, hinj p o rfl]
      simpa using h
    · rw [if_neg hab]; exact h
  | fwd c p o =>
    simp only [apply, recs_arrive_inn, recs_arrive_out, recs_app, recs_del, reduceCtorEq, if_false, Slot.out.injEq]
    by_cases hs : sel p = true
    · by_cases hca : a = c
      · subst hca
        rw [if_pos (hl.fwd_to p hs), if_pos rfl, filter_snoc, filter_snoc, if_pos hs, if_pos hs, h]
      · have : ¬ n.next c p = .node b := fun e => hca (hl.only_from c p hs e).symm
        rw [if_neg this, if_neg hca]; exact h
    · have hf : ∀ l : List π, (l ++ [p]).filter sel = l.filter sel := by
        intro l; rw [filter_snoc, if_neg hs]
      split <;> split <;> simp only [hf, h]
  | drop c p r =>
    simp only [apply, recs_app, recs_del, reduceCtorEq, if_false]; exact h
  | copy c p q =>
    simp only [apply, recs_app, reduceCtorEq, if_false, recs_with_copies]; exact h
  | tau c => exact h

theorem link_inv (n : Wiring ι π κ) (sel : π → Bool) (a b : ι) (hl : Link n sel a b) (es : List (GEv ι π))
    (hni : NoInject es sel b) (g0 g : GState ι π) (hr : run n g0 es = .ok g)
    (h : (g0.recs (.inn b)).filter sel = (g0.recs (.out a)).filter sel) :
    (g.recs (.inn b)).filter sel = (g.recs (.out a)).filter sel := by
  refine run_ind (P := fun g => (g.recs (.inn b)).filter sel = (g.recs (.out a)).filter sel) ?_ h hr
  intro e he g g' hg hs
  rw [(step_ok_iff.mp hs).2]
  exact link_step n sel a b hl g e (fun p o e' => hni p o (e' ▸ he)) hg

theorem chain_order (n : Wiring ι π κ) (sel : π → Bool) (es : List (GEv ι π)) (g : GState ι π)
    (hr : run n {} es = .ok g) (chain : List ι) (a0 : ι)
    (hc : ChainOK (fun a b => Link n sel a b ∧ NoInject es sel b ∧ OrderPreserving g sel a) a0 chain) :
    ((g.recs (.inn (lastOf a0 chain))).filter sel).Sublist ((g.recs (.inn a0)).filter sel) := by
  induction chain generalizing a0 with
  | nil => exact List.Sublist.refl _
  | cons b rest ih =>
    obtain ⟨⟨hl, hni, ho⟩, hrest⟩ := hc
    have h1 := ih b hrest
    have h2 := link_inv n sel a0 b hl es hni {} g hr rfl
    show ((g.recs (.inn (lastOf b rest))).filter sel).Sublist _
    exact h1.trans (h2 ▸ ho)

end Net
