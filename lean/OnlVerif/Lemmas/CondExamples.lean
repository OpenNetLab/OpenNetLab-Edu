import OnlVerif.Lemmas.CondDec
/-!
# Concrete programs for the non-vacuity examples of the global condition theorems

Local state of every program: `(program counter, events it holds)`.  Event ids in the runs below: `0` the main
process, `1` its `Initialize`, then the events in creation order.
-/

namespace Cond

abbrev St := Nat × List EvId

def getEv : Reply → EvId
  | .ev e => e
  | _ => 0

def nth (body : St → Resume → Burst ℚ St) (s0 : KState ℚ St) (n : Nat) : KState ℚ St :=
  (Once.iter body 5 n s0).getD s0

def outIs (s : KState ℚ St) (e : EvId) (o : Option Outcome) : Bool := (s.ev e).out == o

def hasCheck (s : KState ℚ St) (c : EvId) : Bool :=
  s.events.any fun r => match r.cbs with
    | some L => L.contains (.check c)
    | none => false

/-- the main process has been started from outside, as `env.process(...)` does -/
def start : KState ℚ St := (doCall ({ now := 0 } : KState ℚ St) 0 (.spawn (0, []))).1

theorem start_once : Once.Inv0 false start :=
  (Once.Inv0.init false 0 #[] (fun r => by simp [default])).spawn 0 (0, [])

theorem start_cond : Inv0 start :=
  (Inv0.outside (Once.Inv0.init false 0 #[] (fun r => by simp [default])) (Inv0.init 0 #[]) 0 (.spawn (0, [])) trivial trivial).2

/-! ## `all_of` over two timeouts that complete at the same instant -/

/-- `t1 = timeout(1, 10); t2 = timeout(1, 20); yield t1 & t2` (events 2, 3; condition 4) -/
def allBody : St → Resume → Burst ℚ St
  | (0, _), _ => .call (.timeout 1 (.int 10)) fun r1 => .call (.timeout 1 (.int 20)) fun r2 =>
      .call (.cond true [getEv r1, getEv r2]) fun r3 => .yield (getEv r3) (1, [getEv r3])
  | _, _ => .ret .none

theorem all_safe : SafeRun allBody 5 start := SafeUpTo.safeRun (N := 6) (by decide +kernel)

/-! ## `any_of` over an operand that is already processed -/

/-- `e = event(); e.succeed(7); yield e` — then, with `e` processed: `t = timeout(5); yield e | t`
(event 2, timeout 3, condition 4) -/
def anyBody : St → Resume → Burst ℚ St
  | (0, _), _ => .call .event fun r1 => .call (.succeed (getEv r1) (.int 7)) fun _ => .yield (getEv r1) (1, [getEv r1])
  | (1, [e]), _ => .call (.timeout 5 .none) fun r2 =>
      .call (.cond false [e, getEv r2]) fun r3 => .yield (getEv r3) (2, [getEv r3])
  | _, _ => .ret .none

theorem any_safe : SafeRun anyBody 5 start := SafeUpTo.safeRun (N := 7) (by decide +kernel)

/-! ## an operand fails before the condition is met -/

/-- main: `e = event(); t = timeout(2); c = e & t; start child(e); yield c` (event 2, timeout 3, condition 4, child 5);
child: `yield timeout(1); e.fail(KeyError(3))` -/
def failBody : St → Resume → Burst ℚ St
  | (0, _), _ => .call .event fun r1 => .call (.timeout 2 .none) fun r2 =>
      .call (.cond true [getEv r1, getEv r2]) fun r3 => .call (.spawn (10, [getEv r1])) fun _ =>
        .yield (getEv r3) (1, [getEv r3])
  | (10, [e]), _ => .call (.timeout 1 .none) fun r => .yield (getEv r) (11, [e])
  | (11, [e]), _ => .call (.fail e ⟨"KeyError", [.int 3]⟩) fun _ => .ret .none
  | _, _ => .ret .none

theorem fail_safe : SafeRun failBody 5 start := SafeUpTo.safeRun (N := 10) (by decide +kernel)

/-! ## an operand fails after the condition was met, before the condition is processed -/

/-- `e1 = event(); e2 = event(); c = e1 | e2; e1.succeed(1); e2.fail(KeyError(4)); yield c`
(events 2, 3; condition 4): `c` is triggered by `e1`; the failure of `e2`, processed next, is **not** defused by `c` -/
def lateBody : St → Resume → Burst ℚ St
  | (0, _), _ => .call .event fun r1 => .call .event fun r2 =>
      .call (.cond false [getEv r1, getEv r2]) fun r3 => .call (.succeed (getEv r1) (.int 1)) fun _ =>
        .call (.fail (getEv r2) ⟨"KeyError", [.int 4]⟩) fun _ => .yield (getEv r3) (1, [getEv r3])
  | _, _ => .ret .none

theorem late_safe : SafeRun lateBody 5 start := SafeUpTo.safeRun (N := 6) (by decide +kernel)

/-! ## a nested condition whose outer condition fires first -/

/-- `a = timeout(1); b = timeout(3); x = timeout(2); inner = a & b; outer = inner | x; yield outer`
(events 2, 3, 4; inner 5; outer 6) -/
def nestBody : St → Resume → Burst ℚ St
  | (0, _), _ => .call (.timeout 1 (.int 1)) fun ra => .call (.timeout 3 (.int 3)) fun rb =>
      .call (.timeout 2 (.int 2)) fun rx => .call (.cond true [getEv ra, getEv rb]) fun ri =>
        .call (.cond false [getEv ri, getEv rx]) fun ro => .yield (getEv ro) (1, [getEv ro])
  | _, _ => .ret .none

theorem nest_safe : SafeRun nestBody 5 start := SafeUpTo.safeRun (N := 8) (by decide +kernel)

/-- `(a | b) & x` with `a = timeout(1)`, `b = timeout(4)`, `x = timeout(2)`: the inner `any_of` fires at 1, the outer
`all_of` at 2 -/
def nest2Body : St → Resume → Burst ℚ St
  | (0, _), _ => .call (.timeout 1 (.int 1)) fun ra => .call (.timeout 4 (.int 4)) fun rb =>
      .call (.timeout 2 (.int 2)) fun rx => .call (.cond false [getEv ra, getEv rb]) fun ri =>
        .call (.cond true [getEv ri, getEv rx]) fun ro => .yield (getEv ro) (1, [getEv ro])
  | _, _ => .ret .none

theorem nest2_safe : SafeRun nest2Body 5 start := SafeUpTo.safeRun (N := 9) (by decide +kernel)

/-! ## outside the domain: a condition triggered by hand -/

/-- `t = timeout(1); c = all_of([t]); c.succeed()` -/
def handBody : St → Resume → Burst ℚ St
  | (0, _), _ => .call (.timeout 1 .none) fun r1 => .call (.cond true [getEv r1]) fun r2 =>
      .call (.succeed (getEv r2) .none) fun _ => .ret .none
  | _, _ => .ret .none

theorem hand_unsafe : ¬ DomStep handBody 5 start := by decide +kernel

theorem reach_nth (body : St → Resume → Burst ℚ St) (n : Nat) (h : (Once.iter body 5 n start).isSome = true) :
    KReach body 5 start (nth body start n) := by
  unfold nth
  cases hn : Once.iter body 5 n start with
  | none => rw [hn] at h; cases h
  | some x => exact reach_of_iter n x hn

end Cond
