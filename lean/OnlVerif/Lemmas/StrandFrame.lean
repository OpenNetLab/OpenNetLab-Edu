import Mathlib.Data.List.Basic
import OnlVerif.Lemmas.StrandDefs
/-!
# Frame lemmas for the "never strand a request" invariant

How the structural invariant `Pkg` and the frame relations `Fr` / `NR` behave under the leaf updates of the model.
-/

variable {σ : Type}

theorem isCond_congr {s s' : KState ℚ σ} {c : EvId} (h : (s'.ev c).kind = (s.ev c).kind) : isCond s' c = isCond s c := by
  unfold isCond; rw [h]

theorem isCond_lt {s : KState ℚ σ} {c : EvId} (h : isCond s c = true) : c < s.events.size := by
  apply KState.lt_of_kind
  intro hk
  unfold isCond at h
  rw [hk] at h
  cases h

theorem reqOf_congr {s s' : KState ℚ σ} {x : EvId} (h : (s'.ev x).req = (s.ev x).req) : reqOf s' x = reqOf s x := by
  unfold reqOf; rw [h]

namespace Fr

theorem refl (s : KState ℚ σ) : Fr s s :=
  ⟨rfl, ⟨[], rfl⟩, Nat.le_refl _, fun _ _ => rfl, fun _ l h => ⟨l, h, fun _ _ hm => hm⟩, fun _ h => h,
    fun _ _ => rfl, fun _ h => h, fun _ => ⟨rfl, rfl⟩⟩

theorem trans {s1 s2 s3 : KState ℚ σ} (a : Fr s1 s2) (b : Fr s2 s3) : Fr s1 s3 := by
  refine ⟨b.now_eq.trans a.now_eq, ?_, Nat.le_trans a.size_le b.size_le, ?_, ?_, ?_, ?_, ?_, ?_⟩
  · obtain ⟨n1, h1⟩ := a.agenda
    obtain ⟨n2, h2⟩ := b.agenda
    exact ⟨n2 ++ n1, by rw [h2, h1, List.append_assoc]⟩
  · intro x hx
    exact (b.kind x (Nat.lt_of_lt_of_le hx a.size_le)).trans (a.kind x hx)
  · intro x l hl
    obtain ⟨l2, hl2, m2⟩ := a.cbs x l hl
    obtain ⟨l3, hl3, m3⟩ := b.cbs x l2 hl2
    exact ⟨l3, hl3, fun cb ht hm => m3 cb ht (m2 cb ht hm)⟩
  · intro x h; exact b.out x (a.out x h)
  · intro x hx
    exact (b.req x (Nat.lt_of_lt_of_le hx a.size_le)).trans (a.req x hx)
  · intro p h; exact b.procs p (a.procs p h)
  · intro r
    exact ⟨(b.resKind r).1.trans (a.resKind r).1, (b.resKind r).2.trans (a.resKind r).2⟩

end Fr

namespace NR

theorem refl (s : KState ℚ σ) : NR s s := ⟨Fr.refl s, rfl⟩
theorem trans {s1 s2 s3 : KState ℚ σ} (a : NR s1 s2) (b : NR s2 s3) : NR s1 s3 :=
  ⟨a.fr.trans b.fr, b.res.trans a.res⟩

theorem res_eq {s s' : KState ℚ σ} (h : NR s s') (r : ResId) : s'.res r = s.res r := by
  unfold KState.res; rw [h.res]

end NR

theorem Pkg.congr {s s' : KState ℚ σ} {ex : Option EvId} (ha : s'.agenda = s.agenda) (he : s'.events = s.events)
    (hp : s'.procs = s.procs) (hr : s'.resources = s.resources) (h : Pkg s ex) : Pkg s' ex := by
  have hev : ∀ x, s'.ev x = s.ev x := fun x => by unfold KState.ev; rw [he]
  have hres : ∀ r, s'.res r = s.res r := fun r => by unfold KState.res; rw [hr]
  have hpr : ∀ p, s'.proc? p = s.proc? p := fun p => by unfold KState.proc?; rw [hp]
  have hc : ∀ c, isCond s' c = isCond s c := fun c => isCond_congr (by rw [hev])
  refine ⟨?_, ?_, ?_, ?_, ?_, ?_, ?_, ?_, ?_⟩
  · intro q hq; rw [hev]; exact h.agTrig q (ha ▸ hq)
  · intro p hpp; rw [hev]; exact h.procKind p (by rwa [hpr] at hpp)
  · intro x l c hl hm; rw [hc]; rw [hev] at hl; exact h.checkKind x l c hl hm
  · intro r e hm; rw [hev]; rw [hres] at hm; exact h.putQ r e hm
  · intro r e hm; rw [hev]; rw [hres] at hm; exact h.getQ r e hm
  · intro r; rw [hres]; exact h.nodupP r
  · intro r; rw [hres]; exact h.nodupG r
  · intro r w hm; rw [hres] at hm; rw [he]; exact h.usersIn r w hm
  · intro r c; rw [hres]; exact h.usersLe r c

theorem NR.of_same {s s' : KState ℚ σ} (hn : s'.now = s.now) (ha : s'.agenda = s.agenda) (he : s'.events = s.events)
    (hp : s'.procs = s.procs) (hr : s'.resources = s.resources) : NR s s' := by
  have hev : ∀ x, s'.ev x = s.ev x := fun x => by unfold KState.ev; rw [he]
  have hres : ∀ r, s'.res r = s.res r := fun r => by unfold KState.res; rw [hr]
  have hpr : ∀ p, s'.proc? p = s.proc? p := fun p => by unfold KState.proc?; rw [hp]
  refine ⟨⟨hn, ⟨[], by simp [ha]⟩, by rw [he], ?_, ?_, ?_, ?_, ?_, ?_⟩, hr⟩
  · intro x _; rw [hev]
  · intro x l hl; exact ⟨l, by rw [hev]; exact hl, fun _ _ hm => hm⟩
  · intro x hx; rw [hev]; exact hx
  · intro x _; exact congrArg ReqData.strip (reqOf_congr (by rw [hev]))
  · intro p hpp; rw [hpr]; exact hpp
  · intro r; rw [hres]; exact ⟨rfl, rfl⟩

theorem Pkg.weaken {s : KState ℚ σ} {ex : Option EvId} (h : Pkg s none) : Pkg s ex :=
  ⟨h.agTrig, h.procKind, h.checkKind,
    fun r e hm => ⟨(h.putQ r e hm).1, Or.inl ((h.putQ r e hm).2.1.resolve_right (by simp)), (h.putQ r e hm).2.2⟩,
    fun r e hm => ⟨(h.getQ r e hm).1, Or.inl ((h.getQ r e hm).2.1.resolve_right (by simp)), (h.getQ r e hm).2.2⟩,
    h.nodupP, h.nodupG, h.usersIn, h.usersLe⟩

/-- the exemption can be dropped once the exempted request has left every queue -/
theorem Pkg.unexempt {s : KState ℚ σ} {e : EvId} (h : Pkg s (some e)) (hq : NoQ s e) : Pkg s none :=
  ⟨h.agTrig, h.procKind, h.checkKind,
    fun r x hm => ⟨(h.putQ r x hm).1, Or.inl ((h.putQ r x hm).2.1.resolve_right (by
      intro hc; cases hc; exact (hq r).1 hm)), (h.putQ r x hm).2.2⟩,
    fun r x hm => ⟨(h.getQ r x hm).1, Or.inl ((h.getQ r x hm).2.1.resolve_right (by
      intro hc; cases hc; exact (hq r).2 hm)), (h.getQ r x hm).2.2⟩,
    h.nodupP, h.nodupG, h.usersIn, h.usersLe⟩

theorem Pkg.setEv {s : KState ℚ σ} {ex : Option EvId} (h : Pkg s ex) (x : EvId) (rec : EvRec ℚ)
    (hk : rec.kind = (s.ev x).kind)
    (hcbs : ∀ l, (s.ev x).cbs = some l → ∃ l', rec.cbs = some l' ∧ ∀ cb, cb.isTrig = true → cb ∈ l → cb ∈ l')
    (hchk : ∀ l' c, rec.cbs = some l' → Cb.check c ∈ l' →
      (∃ l, (s.ev x).cbs = some l ∧ Cb.check c ∈ l) ∨ isCond s c = true)
    (hout : (s.ev x).out ≠ none → rec.out ≠ none)
    (hq : (s.ev x).out = none → rec.out ≠ none → NoQ s x ∨ ex = some x) :
    Pkg (s.setEv x rec) ex := by
  have hkind : ∀ y, ((s.setEv x rec).ev y).kind = (s.ev y).kind := KState.ev_setEv_congr (·.kind) s x rec hk
  have hc : ∀ c, isCond (s.setEv x rec) c = isCond s c := fun c => isCond_congr (hkind c)
  have hqueue : ∀ (r : ResId) (e : EvId) (cb : Cb), cb.isTrig = true → (e ∈ (s.res r).putQ ∨ e ∈ (s.res r).getQ) →
      ((s.ev e).out = none ∨ ex = some e) → (∃ l, (s.ev e).cbs = some l ∧ cb ∈ l) →
      (((s.setEv x rec).ev e).out = none ∨ ex = some e) ∧ ∃ l, ((s.setEv x rec).ev e).cbs = some l ∧ cb ∈ l := by
    intro r e cb ht hm ho hl
    rw [KState.ev_setEv]
    split
    · rename_i hcx
      obtain ⟨rfl, _⟩ := hcx
      refine ⟨?_, ?_⟩
      · by_cases hro : rec.out = none
        · exact Or.inl hro
        · rcases ho with ho | ho
          · rcases hq ho hro with hn | hn
            · exact absurd hm (by rintro (hm | hm); exact (hn r).1 hm; exact (hn r).2 hm)
            · exact Or.inr hn
          · exact Or.inr ho
      · obtain ⟨l, hl, hml⟩ := hl
        obtain ⟨l', hl', hm'⟩ := hcbs l hl
        exact ⟨l', hl', hm' cb ht hml⟩
    · exact ⟨ho, hl⟩
  refine ⟨?_, ?_, ?_, ?_, ?_, ?_, ?_, ?_, ?_⟩
  · intro q hqm
    have := h.agTrig q hqm
    rw [KState.ev_setEv]; split
    · rename_i hcx; rw [hcx.1] at this; exact hout this
    · exact this
  · intro p hp; rw [hkind]; exact h.procKind p hp
  · intro y l c hl hm
    rw [hc]
    rw [KState.ev_setEv] at hl
    split at hl
    · rename_i hcx
      rcases hchk l c hl hm with ⟨l0, hl0, hm0⟩ | hcc
      · exact h.checkKind x l0 c hl0 hm0
      · exact hcc
    · exact h.checkKind y l c hl hm
  · intro r e hm
    have := h.putQ r e hm
    exact ⟨by rw [hkind]; exact this.1, hqueue r e _ rfl (Or.inl hm) this.2.1 this.2.2⟩
  · intro r e hm
    have := h.getQ r e hm
    exact ⟨by rw [hkind]; exact this.1, hqueue r e _ rfl (Or.inr hm) this.2.1 this.2.2⟩
  · exact h.nodupP
  · exact h.nodupG
  · intro r w hm
    have := h.usersIn r w hm
    simpa [KState.setEv] using this
  · exact h.usersLe

theorem NR.setEv (s : KState ℚ σ) (x : EvId) (rec : EvRec ℚ)
    (hk : rec.kind = (s.ev x).kind)
    (hcbs : ∀ l, (s.ev x).cbs = some l → ∃ l', rec.cbs = some l' ∧ ∀ cb, cb.isTrig = true → cb ∈ l → cb ∈ l')
    (hout : (s.ev x).out ≠ none → rec.out ≠ none)
    (hreq : (rec.req.getD { res := 0, time := Num.zero }).strip = (reqOf s x).strip) :
    NR s (s.setEv x rec) := by
  refine ⟨⟨rfl, ⟨[], rfl⟩, by simp [KState.setEv], fun y _ => KState.ev_setEv_congr (·.kind) s x rec hk y, ?_, ?_,
    fun y _ => KState.ev_setEv_congr (fun r => (r.req.getD { res := 0, time := Num.zero }).strip) s x rec hreq y,
    fun _ hp => hp, fun _ => ⟨rfl, rfl⟩⟩, rfl⟩
  · intro y l hl
    rw [KState.ev_setEv]; split
    · rename_i hc; rw [hc.1] at hl; exact hcbs l hl
    · exact ⟨l, hl, fun _ _ hm => hm⟩
  · intro y hy
    rw [KState.ev_setEv]; split
    · rename_i hc; rw [hc.1] at hy; exact hout hy
    · exact hy

/-- `s'` is `s` with one more event record (`newEv` / `newLabelled`) -/
structure Pushed (s s' : KState ℚ σ) (rec : EvRec ℚ) : Prop where
  now_eq : s'.now = s.now
  agenda : s'.agenda = s.agenda
  events : s'.events = s.events.push rec
  procs : s'.procs = s.procs
  resources : s'.resources = s.resources

theorem Pushed.newEv (s : KState ℚ σ) (rec : EvRec ℚ) : Pushed s (s.newEv rec).1 rec := ⟨rfl, rfl, rfl, rfl, rfl⟩
theorem Pushed.newLabelled (s : KState ℚ σ) (rec : EvRec ℚ) :
    Pushed s (s.newLabelled rec).1 { rec with label := s.nlabel + 1 } := ⟨rfl, rfl, rfl, rfl, rfl⟩

theorem Pushed.ev {s s' : KState ℚ σ} {rec : EvRec ℚ} (hp : Pushed s s' rec) (y : EvId) :
    s'.ev y = if y = s.events.size then rec else s.ev y := KState.ev_of_push hp.events y

theorem Pushed.ev_old {s s' : KState ℚ σ} {rec : EvRec ℚ} (hp : Pushed s s' rec) {y : EvId} (hy : y < s.events.size) :
    s'.ev y = s.ev y := by
  rw [hp.ev, if_neg (Nat.ne_of_lt hy)]

theorem Pushed.ev_new {s s' : KState ℚ σ} {rec : EvRec ℚ} (hp : Pushed s s' rec) : s'.ev s.events.size = rec := by
  rw [hp.ev, if_pos rfl]

theorem Pushed.res {s s' : KState ℚ σ} {rec : EvRec ℚ} (hp : Pushed s s' rec) (r : ResId) : s'.res r = s.res r := by
  unfold KState.res; rw [hp.resources]

theorem Pushed.size {s s' : KState ℚ σ} {rec : EvRec ℚ} (hp : Pushed s s' rec) : s'.events.size = s.events.size + 1 := by
  rw [hp.events]; simp

theorem Pushed.pkg {s s' : KState ℚ σ} {rec : EvRec ℚ} {ex : Option EvId} (hp : Pushed s s' rec) (h : Pkg s ex)
    (hchk : ∀ l c, rec.cbs = some l → Cb.check c ∉ l) : Pkg s' ex := by
  have hpr : ∀ p, s'.proc? p = s.proc? p := fun p => by unfold KState.proc?; rw [hp.procs]
  have hcond : ∀ c, isCond s c = true → isCond s' c = true := by
    intro c hc
    rw [isCond_congr (s := s) (by rw [hp.ev_old (isCond_lt hc)])]; exact hc
  refine ⟨?_, ?_, ?_, ?_, ?_, ?_, ?_, ?_, ?_⟩
  · intro q hq
    rw [hp.agenda] at hq
    have := h.agTrig q hq
    rw [hp.ev_old (KState.lt_of_out this)]; exact this
  · intro p hpp
    rw [hpr] at hpp
    have := h.procKind p hpp
    rw [hp.ev_old (KState.lt_of_kind (by rw [this]; simp))]; exact this
  · intro y l c hl hm
    rw [hp.ev] at hl
    split at hl
    · exact absurd hm (hchk l c hl)
    · exact hcond c (h.checkKind y l c hl hm)
  · intro r e hm
    rw [hp.res] at hm
    have := h.putQ r e hm
    obtain ⟨l, hl, _⟩ := this.2.2
    rw [hp.ev_old (KState.lt_of_cbs hl)]; exact this
  · intro r e hm
    rw [hp.res] at hm
    have := h.getQ r e hm
    obtain ⟨l, hl, _⟩ := this.2.2
    rw [hp.ev_old (KState.lt_of_cbs hl)]; exact this
  · intro r; rw [hp.res]; exact h.nodupP r
  · intro r; rw [hp.res]; exact h.nodupG r
  · intro r w hm
    rw [hp.res] at hm
    rw [hp.size]; exact Nat.lt_succ_of_lt (h.usersIn r w hm)
  · intro r c; rw [hp.res]; exact h.usersLe r c

theorem Pushed.nr {s s' : KState ℚ σ} {rec : EvRec ℚ} (hp : Pushed s s' rec) : NR s s' := by
  have hpr : ∀ p, s'.proc? p = s.proc? p := fun p => by unfold KState.proc?; rw [hp.procs]
  refine ⟨⟨hp.now_eq, ⟨[], by simp [hp.agenda]⟩, by rw [hp.size]; exact Nat.le_succ _, ?_, ?_, ?_, ?_, ?_, ?_⟩,
    hp.resources⟩
  · intro y hy; rw [hp.ev_old hy]
  · intro y l hl; exact ⟨l, by rw [hp.ev_old (KState.lt_of_cbs hl)]; exact hl, fun _ _ hm => hm⟩
  · intro y hy; rw [hp.ev_old (KState.lt_of_out hy)]; exact hy
  · intro y hy; exact congrArg ReqData.strip (reqOf_congr (by rw [hp.ev_old hy]))
  · intro p hpp; rw [hpr]; exact hpp
  · intro r; rw [hp.res]; exact ⟨rfl, rfl⟩

theorem Pkg.scheduleAt {s : KState ℚ σ} {ex : Option EvId} (h : Pkg s ex) (x : EvId) (p : Nat) (t : ℚ)
    (hx : (s.ev x).out ≠ none) : Pkg (s.scheduleAt x p t) ex := by
  refine ⟨?_, h.procKind, h.checkKind, h.putQ, h.getQ, h.nodupP, h.nodupG, h.usersIn, h.usersLe⟩
  intro q hq
  rcases List.mem_cons.mp hq with rfl | hq
  · exact hx
  · exact h.agTrig q hq

/-- the clock is not among what `Fr` compares, so the time of the new entry does not matter -/
theorem NR.scheduleAt (s : KState ℚ σ) (x : EvId) (p : Nat) (t : ℚ) : NR s (s.scheduleAt x p t) :=
  ⟨⟨rfl, ⟨[_], rfl⟩, Nat.le_refl _, fun _ _ => rfl, fun _ l hl => ⟨l, hl, fun _ _ hm => hm⟩, fun _ h => h,
    fun _ _ => rfl, fun _ h => h, fun _ => ⟨rfl, rfl⟩⟩, rfl⟩

theorem Pkg.schedule {s : KState ℚ σ} {ex : Option EvId} (h : Pkg s ex) (x : EvId) (p : Nat) (d : ℚ)
    (hx : (s.ev x).out ≠ none) : Pkg (s.schedule x p d) ex := h.scheduleAt x p _ hx

theorem NR.schedule (s : KState ℚ σ) (x : EvId) (p : Nat) (d : ℚ) : NR s (s.schedule x p d) := NR.scheduleAt s x p _

theorem Pkg.setProc {s : KState ℚ σ} {ex : Option EvId} (h : Pkg s ex) (p : EvId) (r : ProcRec σ)
    (hk : (s.ev p).kind = .proc) : Pkg (s.setProc p r) ex := by
  refine ⟨h.agTrig, ?_, h.checkKind, h.putQ, h.getQ, h.nodupP, h.nodupG, h.usersIn, h.usersLe⟩
  intro p' hp'
  rw [proc?_setProc] at hp'
  split at hp'
  · rename_i hc; subst hc; exact hk
  · exact h.procKind p' hp'

theorem NR.setProc (s : KState ℚ σ) (p : EvId) (r : ProcRec σ) : NR s (s.setProc p r) := by
  refine ⟨⟨rfl, ⟨[], rfl⟩, Nat.le_refl _, fun _ _ => rfl, fun _ l hl => ⟨l, hl, fun _ _ hm => hm⟩, fun _ h => h,
    fun _ _ => rfl, ?_, fun _ => ⟨rfl, rfl⟩⟩, rfl⟩
  intro p' hp'
  rw [proc?_setProc]
  split
  · simp
  · exact hp'

theorem Fr.setRes (s : KState ℚ σ) (r : ResId) (x : ResRec) (hk : x.kind = (s.res r).kind)
    (hc : x.capacity = (s.res r).capacity) : Fr s (s.setRes r x) := by
  refine ⟨rfl, ⟨[], rfl⟩, Nat.le_refl _, fun _ _ => rfl, fun _ l hl => ⟨l, hl, fun _ _ hm => hm⟩, fun _ h => h,
    fun _ _ => rfl, fun _ h => h, ?_⟩
  intro r'
  rw [KState.res_setRes]
  split
  · rename_i hcx; rw [hcx.1]; exact ⟨hk, hc⟩
  · exact ⟨rfl, rfl⟩

theorem Pkg.setRes {s : KState ℚ σ} {ex : Option EvId} (h : Pkg s ex) (r : ResId) (x : ResRec)
    (hk : x.kind = (s.res r).kind) (hc : x.capacity = (s.res r).capacity)
    (hp : ∀ e ∈ x.putQ, e ∈ (s.res r).putQ ∨ ((s.ev e).kind = .put r ∧ (s.ev e).out = none ∧
      ∃ l, (s.ev e).cbs = some l ∧ Cb.trigGet r ∈ l))
    (hnp : x.putQ.Nodup)
    (hg : ∀ e ∈ x.getQ, e ∈ (s.res r).getQ ∨ ((s.ev e).kind = .get r ∧ (s.ev e).out = none ∧
      ∃ l, (s.ev e).cbs = some l ∧ Cb.trigPut r ∈ l))
    (hng : x.getQ.Nodup)
    (hu : ∀ w ∈ x.users, w < s.events.size)
    (hle : ∀ c, isResKind x.kind = true → x.capacity = some c → x.users.length ≤ c) :
    Pkg (s.setRes r x) ex := by
  refine ⟨h.agTrig, h.procKind, h.checkKind, ?_, ?_, ?_, ?_, ?_, ?_⟩
  · intro r' e hm
    simp only [KState.ev_setRes]
    rw [KState.res_setRes] at hm
    split at hm
    · rename_i hcx
      obtain ⟨rfl, _⟩ := hcx
      rcases hp e hm with h1 | ⟨h1, h2, h3⟩
      · exact h.putQ _ e h1
      · exact ⟨h1, Or.inl h2, h3⟩
    · exact h.putQ r' e hm
  · intro r' e hm
    simp only [KState.ev_setRes]
    rw [KState.res_setRes] at hm
    split at hm
    · rename_i hcx
      obtain ⟨rfl, _⟩ := hcx
      rcases hg e hm with h1 | ⟨h1, h2, h3⟩
      · exact h.getQ _ e h1
      · exact ⟨h1, Or.inl h2, h3⟩
    · exact h.getQ r' e hm
  · intro r'
    rw [KState.res_setRes]; split
    · exact hnp
    · exact h.nodupP r'
  · intro r'
    rw [KState.res_setRes]; split
    · exact hng
    · exact h.nodupG r'
  · intro r' w hm
    rw [KState.res_setRes] at hm
    split at hm
    · exact hu w hm
    · exact h.usersIn r' w hm
  · intro r' c
    rw [KState.res_setRes]; split
    · exact hle c
    · exact h.usersLe r' c
