import OnlVerif.Lemmas.ResInv
import OnlVerif.Lemmas.KernelStep
/-! # The resource invariant along whole runs; the resource operations by class

`step_keepsRes`, `KReach`, `reach_resInv`; then what the class-dependent operations do, stated once for the theories that
follow: the eviction step (`preemptStep_cases`), a granted `_do_put` (`applyPut_eq`), the guards of `_do_put`/`_do_get`. -/

variable {σ : Type}

theorem openEvent_keepsRes (s : KState ℚ σ) (q : QEntry ℚ) (rest : List (QEntry ℚ)) (h : ResInv s) :
    ResInv (openEvent s q rest) :=
  keepsRes_of_frame (s := s) (s' := openEvent s q rest) (fun _ => rfl)
    (fun e => KState.req_setEv_keep s q.ev e { s.ev q.ev with cbs := none } rfl) h

/-- one kernel step keeps the resource invariant, however it ends -/
theorem step_keepsRes (body : σ → Resume → Burst ℚ σ) (fuel : Nat) (s s' : KState ℚ σ)
    (h : ResInv s) (hs : (step body fuel s).state? = some s') : ResInv s' := by
  unfold step at hs
  split at hs
  · cases hs
  · rename_i q rest hq
    split at hs
    · cases hs; exact openEvent_keepsRes s q rest h
    · rename_i cbs _
      rw [closeEvent_state] at hs
      cases hs
      exact KeepsRes.krel.foldCbs body fuel q.ev cbs { s := openEvent s q rest } (openEvent_keepsRes s q rest h)

/-- states reachable by kernel steps (each step may end normally, by `StopSimulation` or by an exception) -/
inductive KReach (body : σ → Resume → Burst ℚ σ) (fuel : Nat) (s0 : KState ℚ σ) : KState ℚ σ → Prop
  | init : KReach body fuel s0 s0
  | step {s s'} : KReach body fuel s0 s → (step body fuel s).state? = some s' → KReach body fuel s0 s'

theorem reach_resInv (body : σ → Resume → Burst ℚ σ) (fuel : Nat) (s0 s : KState ℚ σ)
    (h0 : ResInv s0) (hr : KReach body fuel s0 s) : ResInv s := by
  induction hr with
  | init => exact h0
  | step _ hs ih => exact step_keepsRes body fuel _ _ ih hs

/-- the eviction step of a `PreemptiveResource` leaves the state alone, or removes one user, whose process (if it has
one) is sent an `Interruption` -/
theorem preemptStep_cases (s : KState ℚ σ) (r : ResId) (e : EvId) :
    preemptStep s r e = s ∨ ∃ w, preemptStep s r e = s.setUsers r ((s.res r).users.erase w) ∨
      ∃ vp c, preemptStep s r e = (mkInterrupt (s.setUsers r ((s.res r).users.erase w)) vp c).1 := by
  unfold preemptStep
  dsimp only
  by_cases h1 : ((s.res r).capacity.any (fun c => decide (c ≤ (s.res r).users.length)) && (reqOf s e).preempt) = true
  · rw [if_pos h1]
    cases worstUser s (s.res r).users with
    | none => exact Or.inl rfl
    | some w =>
      dsimp only
      by_cases h2 : keyLt (reqOf s e) (reqOf s w) = true
      · rw [if_pos h2]
        cases (reqOf s w).proc with
        | none => exact Or.inr ⟨w, Or.inl rfl⟩
        | some vp => exact Or.inr ⟨w, Or.inr ⟨vp, _, rfl⟩⟩
      · rw [if_neg h2]; exact Or.inl rfl
  · rw [if_neg h1]; exact Or.inl rfl

/-- the record of `r` after a granted `_do_put` of `e`: one of three fields changes, by the class of the resource -/
def recAfterPut (s : KState ℚ σ) (r : ResId) (e : EvId) : ResRec :=
  { s.res r with
    users := if isResKind (s.res r).kind then (s.res r).users ++ [e] else (s.res r).users
    level := if (s.res r).kind == .container then (s.res r).level + (reqOf s e).amount else (s.res r).level
    items := if isStoreKind (s.res r).kind then (s.res r).items ++ [(reqOf s e).item] else (s.res r).items }

/-- a granted `_do_put`, for all classes at once: the record of `r` is rewritten, the `Resource` classes stamp
`usage_since`, the request is triggered -/
theorem applyPut_eq (s : KState ℚ σ) (r : ResId) (e : EvId) :
    applyPut s r e = (if isResKind (s.res r).kind then (s.setRes r (recAfterPut s r e)).setUsage e
      else s.setRes r (recAfterPut s r e)).trigger e (.ok .none) := by
  unfold applyPut recAfterPut KState.setUsers KState.setLevel KState.setItems
  generalize s.res r = x
  rcases x with ⟨k, c, p, g, u, l, i⟩
  cases k <;> rfl

theorem worstUser_mem (s : KState ℚ σ) : ∀ (l : List EvId) (w : EvId), worstUser s l = some w → w ∈ l := by
  intro l
  induction l with
  | nil => intro w h; cases h
  | cons u us ih =>
    intro w h
    unfold worstUser at h
    cases hw : worstUser s us with
    | none =>
      rw [hw] at h
      cases h; exact List.mem_cons_self
    | some w' =>
      rw [hw] at h
      simp only at h
      split at h
      · cases h; exact List.mem_cons_self
      · cases h; exact List.mem_cons_of_mem _ (ih _ hw)

/-- `SortedQueue.append` inserts the new request somewhere -/
theorem insertSorted_perm (s : KState ℚ σ) (e : EvId) : ∀ q : List EvId, (insertSorted s e q).Perm (e :: q) := by
  intro q
  induction q with
  | nil => exact List.Perm.refl _
  | cons x xs ih =>
    unfold insertSorted
    split
    · exact List.Perm.refl _
    · exact (ih.cons x).trans (List.Perm.swap _ _ _)

/-- `_do_put`'s guard, by class: a free slot for the `Resource` classes, room for one more item for the stores -/
theorem canPut_of_resKind (s : KState ℚ σ) (r : ResId) (e : EvId) (hk : isResKind (s.res r).kind = true) :
    canPut s r e = hasRoom (s.res r).capacity (s.res r).users.length := by
  cases hkk : (s.res r).kind <;> rw [hkk] at hk <;> first | exact absurd hk (by decide) | simp only [canPut, hkk]

theorem canPut_of_storeKind (s : KState ℚ σ) (r : ResId) (e : EvId) (hk : isStoreKind (s.res r).kind = true) :
    canPut s r e = hasRoom (s.res r).capacity (s.res r).items.length := by
  cases hkk : (s.res r).kind <;> rw [hkk] at hk <;> first | exact absurd hk (by decide) | simp only [canPut, hkk]

/-- a `Release` is always served -/
theorem getItem_of_resKind (s : KState ℚ σ) (r : ResId) (e : EvId) (hk : isResKind (s.res r).kind = true) :
    getItem s r e = some .none := by
  cases hkk : (s.res r).kind <;> rw [hkk] at hk <;> first | exact absurd hk (by decide) | simp only [getItem, hkk]

/-- `Release` on one of the three resource classes: `users.remove(request)` if present, then succeed -/
theorem doGet_resKind (s : KState ℚ σ) (r : ResId) (e : EvId) (hk : isResKind (s.res r).kind = true) :
    doGet s r e = ((s.setUsers r ((s.res r).users.erase (reqOf s e).releaseOf)).trigger e (.ok .none), true) := by
  unfold isResKind at hk
  cases hkk : (s.res r).kind <;> rw [hkk] at hk <;> first
    | exact absurd hk (by decide)
    | simp only [doGet, getItem, takeOut, hkk]
