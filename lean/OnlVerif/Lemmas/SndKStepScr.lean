import OnlVerif.Lemmas.SndKFragPut
/-!
# The TCP sender on the kernel model: kernel steps of the network script

Its start, the end of a burst, its process event, and the delivery of an ACK into `put` (LTS action `ack`).
-/

namespace SndK

open SenderOnK TcpSender
open KProc (GInv Thread hrun)

/-- the script loop at the end of a burst: it sleeps until the next delivery, or returns -/
theorem scr_loop_end {c : KProc.Cfg St} {a : A} (h : Mid 2 c a) (hcb : (scrTh a.scr).cbs = some []) {r : Script}
    (hok : ScriptOK c.reg.now r) :
    ∃ ph', Ends 2 (scrLoop c.reg.now r) c { a with scr := ph' } ∧
      ((r = [] ∧ ph' = .ending ⟨c.reg.now, NORMAL, c.reg.eid, 2⟩) ∨
       (∃ gap x r', r = (gap, x) :: r' ∧ ph' = .wait x r' ⟨c.reg.now + gap, NORMAL, c.reg.eid, c.reg.evSize⟩)) := by
  have hsw := Swap.scr (κ := kernOf a) rfl
  cases r with
  | nil =>
    exact ⟨_, h.returns (pid_scrTh _) (congrArg Option.isSome hcb)
      ((hsw (.ending ⟨c.reg.now, NORMAL, c.reg.eid, 2⟩)).to hcb (by rw [pid_scrTh]; rfl)) ⟨rfl, rfl⟩, .inl ⟨rfl, rfl⟩⟩
  | cons y r' =>
    obtain ⟨gap, x⟩ := y
    exact ⟨_, h.sleeps hok.1 (.scr (c.reg.now + gap) (some x) r') (pid_scrTh _)
      ((hsw (.wait x r' ⟨c.reg.now + gap, NORMAL, c.reg.eid, c.reg.evSize⟩)).to hcb (by rw [pid_scrTh]; rfl))
      ⟨rfl, rfl⟩, .inr ⟨gap, x, r', rfl, rfl⟩⟩

/-- what the script does after a delivery (or at its start): the phase it ends the burst in satisfies `ScrA` -/
theorem scrA_next {a : A} {now : ℚ} {eid : Nat} {e : EvId} {r : Script} {ph' : SPhase} (hok : ScriptOK now r)
    (h : (r = [] ∧ ph' = .ending ⟨now, NORMAL, eid, 2⟩) ∨
       (∃ gap x r', r = (gap, x) :: r' ∧ ph' = .wait x r' ⟨now + gap, NORMAL, eid, e⟩)) : ScrA a ph' := by
  rcases h with ⟨_, rfl⟩ | ⟨gap, x, r', rfl, rfl⟩
  · exact rfl
  · obtain ⟨_, o2, o3, o4⟩ := hok
    exact ⟨rfl, o2, o3, o4⟩

/-- the `Initialize` event of the script: it sleeps until the first delivery (or returns, if there is none) -/
theorem kstep_scrInit {cfg : Cfg} (fuel : Nat) {s : KS} {a : A} {q : QEntry ℚ} {rest : List (QEntry ℚ)} {r : Script}
    (hk : KI none s a) (hiT : AInv cfg (aTick a q.time)) (hp : popMin s.agenda = some (q, rest))
    (hph : a.scr = .init q r) : StepGoal cfg fuel s (aTick a q.time).S a.txs := by
  have hth := mem_threads_scr (κ := kernOf a) hph
  have hok : ScriptOK q.time r := (hiT.scr_at hph).2.2
  obtain ⟨ph', e1, e4⟩ := scr_loop_end (hk.begin hth q .start) (a := aTick a q.time)
    (by rw [show (aTick a q.time).scr = _ from hph]; rfl) hok
  exact .quiet (hk.resume fuel hth rfl (fun _ _ _ hh => nomatch hh) hp e1) (hiT.set_scr ph' (scrA_next hok e4)) rfl rfl

/-- the process event of the script, once it has returned -/
theorem kstep_scrEnding {cfg : Cfg} (fuel : Nat) {s : KS} {a : A} {q : QEntry ℚ} {rest : List (QEntry ℚ)}
    (hk : KI none s a) (hiT : AInv cfg (aTick a q.time)) (hp : popMin s.agenda = some (q, rest))
    (hph : a.scr = .ending q) : StepGoal cfg fuel s (aTick a q.time).S a.txs := by
  exact .quiet (a' := { aTick a q.time with scr := .done })
    (hk.retire fuel (Swap.scr (κ := kernOf a) hph .done) rfl rfl hp ⟨rfl, rfl⟩) (hiT.set_scr .done trivial) rfl rfl

/-- the timeout before a delivery is processed: the script calls `put(ack)` and sleeps until the next delivery -/
theorem kstep_scrWait {cfg : Cfg} (fuel : Nat) {s : KS} {a : A} {q : QEntry ℚ} {rest : List (QEntry ℚ)} {x : Ack} {r : Script}
    (hk : KI none s a) (hiT : AInv cfg (aTick a q.time)) (hp : popMin s.agenda = some (q, rest))
    (hph : a.scr = .wait x r q) : StepGoal cfg fuel s (aTick a q.time).S a.txs := by
  have hth := mem_threads_scr (κ := kernOf a) hph
  obtain ⟨_, w2, w3, w4⟩ := hiT.scr_at hph
  obtain ⟨c2, a2, outs, r2, h2, hack, htxs, hi2, hscr, hnow⟩ := frag_put (cfg := cfg) (hk.begin hth q (.value .none)) hiT x
    ⟨w2, w3⟩
  have hnow2 : c2.reg.now = q.time := h2.k.now.trans hnow
  obtain ⟨ph', e1, e4⟩ := scr_loop_end h2 (by rw [hscr]; show (scrTh a.scr).cbs = _; rw [hph]; rfl) (r := r)
    (by rw [hnow2]; exact w4)
  exact .one (x := .ack x) (hk.resume fuel hth rfl (fun _ _ _ hh => nomatch hh) hp (.congr (by rw [hnow2]; exact r2 _) e1))
    (hi2.set_scr ph' (scrA_next (by rw [hnow2]; exact w4) e4)) w2 hack htxs

end SndK
