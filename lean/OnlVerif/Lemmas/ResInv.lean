import OnlVerif.Lemmas.KernelRel
import OnlVerif.Lemmas.KAccess
/-!
# Resource bounds hold in every state every program can reach

`ResInv`: a Resource never has more users than its capacity, a Container's level stays in
`[0, capacity]`, a Store never holds more than `capacity` items — and, as the auxiliary fact that makes
the container bounds inductive, no request record carries a negative amount.

The file opens with the reads of the state that the resource theories (`ResInv`, `Conserve.*`, the never-strand invariant)
all need: records outside the tables are the default ones, one write to the event table, the process table after `setProc`.
-/

variable {σ : Type}

/-! ## reads outside the tables; accessor facts the resource theories share -/

theorem KState.ev_of_size_le (s : KState ℚ σ) (x : EvId) (h : s.events.size ≤ x) : s.ev x = default := by
  unfold KState.ev
  simp only [Array.getD_eq_getD_getElem?]
  rw [Array.getElem?_eq_none h]; rfl

/-- the event table once the popped entry's event is detached from its callbacks; where `q.ev` is outside the table nothing
is written, and the default record has no callback list either -/
theorem openEvent_ev (s : KState ℚ σ) (q : QEntry ℚ) (rest : List (QEntry ℚ)) (e : EvId) :
    (openEvent s q rest).ev e = if e = q.ev then { s.ev q.ev with cbs := none } else s.ev e := by
  refine (getD_setIfInBounds ..).trans ?_
  by_cases h : e = q.ev
  · by_cases h2 : q.ev < s.events.size
    · rw [if_pos ⟨h, h2⟩, if_pos h]
    · rw [if_neg (fun hh => h2 hh.2), if_pos h, h]
      show s.ev q.ev = _
      rw [KState.ev_of_size_le s q.ev (Nat.le_of_not_lt h2)]; rfl
  · rw [if_neg (fun hh => h hh.1), if_neg h]; rfl

theorem KState.res_of_size_le (s : KState ℚ σ) (r : ResId) (h : s.resources.size ≤ r) : s.res r = default := by
  unfold KState.res
  simp only [Array.getD_eq_getD_getElem?]
  rw [Array.getElem?_eq_none h]; rfl

theorem KState.lt_of_out {s : KState ℚ σ} {x : EvId} (h : (s.ev x).out ≠ none) : x < s.events.size := by
  by_contra hc
  rw [KState.ev_of_size_le s x (Nat.le_of_not_lt hc)] at h
  exact h rfl

theorem KState.lt_of_cbs {s : KState ℚ σ} {x : EvId} {l : List Cb} (h : (s.ev x).cbs = some l) : x < s.events.size := by
  by_contra hc
  rw [KState.ev_of_size_le s x (Nat.le_of_not_lt hc)] at h
  cases h

theorem KState.lt_of_kind {s : KState ℚ σ} {x : EvId} (h : (s.ev x).kind ≠ .plain) : x < s.events.size := by
  by_contra hc
  rw [KState.ev_of_size_le s x (Nat.le_of_not_lt hc)] at h
  exact h rfl

/-- kinds other than the default one live inside the resource table; so do non-empty queues -/
theorem res_lt_of_kind {s : KState ℚ σ} {r : ResId} (h : (s.res r).kind ≠ .resource) : r < s.resources.size := by
  by_contra hc
  rw [KState.res_of_size_le s r (Nat.le_of_not_lt hc)] at h
  exact h rfl

theorem res_lt_of_putQ {s : KState ℚ σ} {r : ResId} (h : (s.res r).putQ ≠ []) : r < s.resources.size := by
  by_contra hc
  rw [KState.res_of_size_le s r (Nat.le_of_not_lt hc)] at h
  exact h rfl

theorem res_lt_of_getQ {s : KState ℚ σ} {r : ResId} (h : (s.res r).getQ ≠ []) : r < s.resources.size := by
  by_contra hc
  rw [KState.res_of_size_le s r (Nat.le_of_not_lt hc)] at h
  exact h rfl

theorem KState.ev_of_push {s s' : KState ℚ σ} {x : EvRec ℚ} (he : s'.events = s.events.push x) (a : EvId) :
    s'.ev a = if a = s.events.size then x else s.ev a := by
  simp only [KState.ev, he, getD_push]

/-- whatever the new record shares with the old one is unchanged in the whole table -/
theorem KState.ev_setEv_congr {β : Sort _} (g : EvRec ℚ → β) (s : KState ℚ σ) (e : EvId) (x : EvRec ℚ)
    (h : g x = g (s.ev e)) (e' : EvId) : g ((s.setEv e x).ev e') = g (s.ev e') := by
  rw [KState.ev_setEv]
  split
  · rename_i hc; rw [hc.1]; exact h
  · rfl

theorem KState.out_setOut (s : KState ℚ σ) (x : EvId) (o : Outcome) (hx : x < s.events.size) :
    ((s.setOut x o).ev x).out = some o := by
  unfold KState.setOut
  rw [KState.ev_setEv, if_pos ⟨rfl, hx⟩]

theorem proc?_setProc (s : KState ℚ σ) (p p' : EvId) (r : ProcRec σ) :
    (s.setProc p r).proc? p' = if p' = p then some r else s.proc? p' := by
  unfold KState.proc? KState.setProc
  simp only [List.find?_cons]
  by_cases h : p' = p
  · subst h; simp
  · have h1 : (p == p') = false := by simpa using fun hc => h hc.symm
    simp only [h1, if_neg h]
    congr 1
    induction s.procs with
    | nil => rfl
    | cons a l ih =>
      simp only [List.filter_cons]
      by_cases ha : a.1 = p
      · have : (a.1 != p) = false := by simp [ha]
        have h2 : (a.1 == p') = false := by simpa [ha] using fun hc => h hc.symm
        simp only [this, List.find?_cons, h2]
        exact ih
      · have : (a.1 != p) = true := by simp [ha]
        simp only [this, if_true, List.find?_cons]
        split
        · rfl
        · exact ih

/-- erasing a member of a duplicate-free list -/
theorem List.erase_mid_of_nodup {α : Type} [BEq α] [LawfulBEq α] {pre rest : List α} {e : α} {l : List α}
    (hl : l = pre ++ e :: rest) (hn : l.Nodup) : l.erase e = pre ++ rest := by
  subst hl
  rw [List.erase_append_right _ (fun hc => (List.nodup_append.mp hn).2.2 e hc e List.mem_cons_self rfl),
    List.erase_cons_head]

theorem hasRoom_some (c n : Nat) : hasRoom (some c) n = decide (n < c) := rfl

/-- where there is room, one more fits -/
theorem length_snoc_le_of_hasRoom {α : Type} (l : List α) (x : α) {cap : Option Nat} {c : Nat}
    (hroom : hasRoom cap l.length = true) (hc : cap = some c) : (l ++ [x]).length ≤ c := by
  rw [hc, hasRoom_some, decide_eq_true_eq] at hroom
  rw [List.length_append, List.length_singleton]
  exact hroom

/-! ## the resource bounds -/

structure ResInv (s : KState ℚ σ) : Prop where
  users : ∀ r c, isResKind (s.res r).kind = true → (s.res r).capacity = some c → (s.res r).users.length ≤ c
  level : ∀ r, (s.res r).kind = .container →
    0 ≤ (s.res r).level ∧ ∀ c, (s.res r).capacity = some c → (s.res r).level ≤ (c : Int)
  items : ∀ r c, isStoreKind (s.res r).kind = true → (s.res r).capacity = some c → (s.res r).items.length ≤ c
  amounts : ∀ e rq, (s.ev e).req = some rq → 0 ≤ rq.amount

def KeepsRes (s s' : KState ℚ σ) : Prop := ResInv s → ResInv s'

theorem keepsRes_of_frame {s s' : KState ℚ σ} (hr : ∀ r, s'.res r = s.res r)
    (he : ∀ e, (s'.ev e).req = (s.ev e).req) : KeepsRes s s' := by
  intro h
  refine ⟨?_, ?_, ?_, ?_⟩
  · intro r c; rw [hr]; exact h.users r c
  · intro r; rw [hr]; exact h.level r
  · intro r c; rw [hr]; exact h.items r c
  · intro e rq; rw [he]; exact h.amounts e rq

theorem keepsRes_setRes (s : KState ℚ σ) (r : ResId) (x : ResRec)
    (hk : x.kind = (s.res r).kind) (hc : x.capacity = (s.res r).capacity)
    (hu : ∀ c, isResKind x.kind = true → x.capacity = some c → ResInv s → x.users.length ≤ c)
    (hl : x.kind = .container → ResInv s → 0 ≤ x.level ∧ ∀ c, x.capacity = some c → x.level ≤ (c : Int))
    (hi : ∀ c, isStoreKind x.kind = true → x.capacity = some c → ResInv s → x.items.length ≤ c) :
    KeepsRes s (s.setRes r x) := by
  intro h
  refine ⟨?_, ?_, ?_, ?_⟩
  · intro r' c
    rw [KState.res_setRes]
    split
    · intro h1 h2; exact hu c h1 h2 h
    · exact h.users r' c
  · intro r'
    rw [KState.res_setRes]
    split
    · intro h1; exact hl h1 h
    · exact h.level r'
  · intro r' c
    rw [KState.res_setRes]
    split
    · intro h1 h2; exact hi c h1 h2 h
    · exact h.items r' c
  · intro e rq; exact h.amounts e rq

theorem KeepsRes.krel : KRel (KeepsRes (σ := σ)) := by
  -- an update that leaves the resources alone: only the request records it writes matter
  have events : ∀ {s s' : KState ℚ σ}, s'.resources = s.resources →
      (ResInv s → ∀ e rq, (s'.ev e).req = some rq → 0 ≤ rq.amount) → KeepsRes s s' := by
    intro s s' hr he h
    have hres : ∀ r, s'.res r = s.res r := fun r => by unfold KState.res; rw [hr]
    refine ⟨?_, ?_, ?_, he h⟩
    · intro r c; rw [hres]; exact h.users r c
    · intro r; rw [hres]; exact h.level r
    · intro r c; rw [hres]; exact h.items r c
  -- updates of one field of one resource record: the bound of that field is all there is to show
  have users : ∀ (s : KState ℚ σ) (r : ResId) (l : List EvId),
      (ResInv s → ∀ c, isResKind (s.res r).kind = true → (s.res r).capacity = some c → l.length ≤ c) →
      KeepsRes s (s.setUsers r l) := fun s r l hl =>
    keepsRes_setRes s r _ rfl rfl (fun c h1 h2 h => hl h c h1 h2) (fun h1 h => h.level r h1)
      (fun c h1 h2 h => h.items r c h1 h2)
  have level : ∀ (s : KState ℚ σ) (r : ResId) (v : Int),
      (ResInv s → (s.res r).kind = .container → 0 ≤ v ∧ ∀ c, (s.res r).capacity = some c → v ≤ (c : Int)) →
      KeepsRes s (s.setLevel r v) := fun s r v hv =>
    keepsRes_setRes s r _ rfl rfl (fun c h1 h2 h => h.users r c h1 h2) (fun h1 h => hv h h1)
      (fun c h1 h2 h => h.items r c h1 h2)
  have items : ∀ (s : KState ℚ σ) (r : ResId) (l : List Int),
      (ResInv s → ∀ c, isStoreKind (s.res r).kind = true → (s.res r).capacity = some c → l.length ≤ c) →
      KeepsRes s (s.setItems r l) := fun s r l hl =>
    keepsRes_setRes s r _ rfl rfl (fun c h1 h2 h => h.users r c h1 h2) (fun h1 h => h.level r h1)
      (fun c h1 h2 h => hl h c h1 h2)
  have queues : ∀ (s : KState ℚ σ) (r : ResId) (x : ResRec), x.kind = (s.res r).kind →
      x.capacity = (s.res r).capacity → x.users = (s.res r).users → x.level = (s.res r).level →
      x.items = (s.res r).items → KeepsRes s (s.setRes r x) := by
    intro s r x hk hc hu hl hi
    refine keepsRes_setRes s r x hk hc ?_ ?_ ?_
    · intro c; rw [hk, hc, hu]; exact fun h1 h2 h => h.users r c h1 h2
    · rw [hk, hc, hl]; exact fun h1 h => h.level r h1
    · intro c; rw [hk, hc, hi]; exact fun h1 h2 h => h.items r c h1 h2
  have record : ∀ (s : KState ℚ σ) (e : EvId) (x : EvRec ℚ), x.req = (s.ev e).req → KeepsRes s (s.setEv e x) :=
    fun s e x hx => keepsRes_of_frame (fun _ => rfl) (fun e' => KState.req_setEv_keep s e e' x hx)
  have amount : ∀ {s : KState ℚ σ}, ResInv s → ∀ e, 0 ≤ (reqOf s e).amount := by
    intro s h e
    unfold reqOf
    cases hq : (s.ev e).req with
    | none => exact Int.le_refl 0
    | some rq => exact h.amounts e rq hq
  exact {
  refl := fun _ h => h
  trans := fun h1 h2 h => h2 (h1 h)
  emit := fun _ _ => keepsRes_of_frame (fun _ => rfl) (fun _ => rfl)
  active := fun _ _ => keepsRes_of_frame (fun _ => rfl) (fun _ => rfl)
  shared := fun _ _ => keepsRes_of_frame (fun _ => rfl) (fun _ => rfl)
  setProc := fun _ _ _ => keepsRes_of_frame (fun _ => rfl) (fun _ => rfl)
  schedule := fun _ _ _ _ _ _ => keepsRes_of_frame (fun _ => rfl) (fun _ => rfl)
  newEv := fun s r hr => events rfl fun h e rq => by
    rw [KState.ev_newEv]
    split
    · rw [hr]; intro hc; cases hc
    · exact h.amounts e rq
  newLabelled := fun s r hr => events rfl fun h e rq => by
    rw [KState.ev_newLabelled]
    split
    · show r.req = some rq → _; rw [hr]; intro hc; cases hc
    · exact h.amounts e rq
  newReq := fun s r rq0 hr hpos => events rfl fun h e rq => by
    rw [KState.ev_newLabelled]
    split
    · show r.req = some rq → _; rw [hr]; intro hc; cases hc; exact hpos
    · exact h.amounts e rq
  setOut := fun s e o => record s e _ rfl
  defuse := fun s e => record s e _ rfl
  bumpCount := fun s e => record s e _ rfl
  eraseCb := fun s e _ => record s e _ rfl
  addCb := fun s e _ _ => record s e _ rfl
  setUsage := fun s e => events rfl fun h e' rq => by
    unfold KState.setUsage
    rw [KState.ev_setEv]
    split
    · cases hq : (s.ev e).req with
      | none => intro hc; cases hc
      | some rq0 => intro hc; cases hc; exact h.amounts e rq0 hq
    · exact h.amounts e' rq
  eraseUser := fun s r w => users s r _ fun h c h1 h2 =>
    Nat.le_trans List.length_erase_le (h.users r c h1 h2)
  addUser := fun s r e _ hroom => users s r _ fun _ c _ h2 => length_snoc_le_of_hasRoom _ e hroom h2
  addLevel := fun s r e hk hcan => level s r _ fun h _ => by
    have hl := h.level r hk
    have ha := amount h e
    refine ⟨by omega, fun c hc => ?_⟩
    unfold canPut at hcan
    simp only [hk, hc, decide_eq_true_eq] at hcan
    omega
  subLevel := fun s r e hk hle => level s r _ fun h _ => by
    have hl := h.level r hk
    have ha := amount h e
    refine ⟨by omega, fun c hc => ?_⟩
    have := hl.2 c hc
    omega
  addItem := fun s r x _ hroom => items s r _ fun _ c _ h2 => length_snoc_le_of_hasRoom _ x hroom h2
  tailItems := fun s r => items s r _ fun h c h1 h2 => by
    have := h.items r c h1 h2
    simp only [List.length_tail]; omega
  eraseItem := fun s r x => items s r _ fun h c h1 h2 =>
    Nat.le_trans List.length_erase_le (h.items r c h1 h2)
  dropPutQ := fun s r e => queues s r _ rfl rfl rfl rfl rfl
  dropGetQ := fun s r e => queues s r _ rfl rfl rfl rfl rfl
  enqPut := fun s r e _ => queues s r _ rfl rfl rfl rfl rfl
  enqGet := fun s r e _ => queues s r _ rfl rfl rfl rfl rfl }
