import Mathlib.Tactic.FieldSimp
import OnlVerif.Lemmas.SchedDRRWindow
/-! # DRR: the quantum `1500·w/min w` -/

namespace DRR
open MQ

theorem minWeight_spec (l : List (Nat × Nat)) (h : l ≠ []) :
    (∃ e ∈ l, minWeight l = e.2) ∧ ∀ e ∈ l, minWeight l ≤ e.2 := by
  induction l with
  | nil => exact absurd rfl h
  | cons a r ih =>
    obtain ⟨c, w⟩ := a
    cases r with
    | nil => exact ⟨⟨(c, w), by simp, rfl⟩, fun e he => by simp only [List.mem_singleton] at he; subst he; exact Nat.le_refl _⟩
    | cons b r' =>
      obtain ⟨⟨e, he, hm⟩, hle⟩ := ih (by simp)
      simp only [minWeight]
      split
      · rename_i hlt
        refine ⟨⟨e, List.mem_cons_of_mem _ he, hm⟩, fun e' he' => ?_⟩
        rcases List.mem_cons.mp he' with rfl | he'
        · exact Nat.le_of_lt hlt
        · exact hle e' he'
      · rename_i hge
        refine ⟨⟨(c, w), by simp, rfl⟩, fun e' he' => ?_⟩
        rcases List.mem_cons.mp he' with rfl | he'
        · exact Nat.le_refl _
        · exact Nat.le_trans (Nat.le_of_not_lt hge) (hle e' he')
/-- with positive weights every quantum is at least `MIN_QUANTUM = 1500` -/
theorem quantum_ge (cfg : Cfg ℚ) (hpos : ∀ e ∈ cfg.weights, 0 < e.2) (cls : Nat) (q : ℚ)
    (h : quantum cfg cls = some q) : 1500 ≤ q := by
  simp only [quantum, Option.map_eq_some_iff] at h
  obtain ⟨w, hw, rfl⟩ := h
  have hmem := mem_of_lookup _ _ _ hw
  have hne : cfg.weights ≠ [] := List.ne_nil_of_mem hmem
  obtain ⟨⟨e, he, hm⟩, hall⟩ := minWeight_spec cfg.weights hne
  have hmpos : 0 < minWeight cfg.weights := hm ▸ hpos e he
  have hle : minWeight cfg.weights ≤ w := hall (cls, w) hmem
  simp only [quantumW, Num.ofNat]
  rw [le_div_iff₀ (by exact_mod_cast hmpos)]
  have : (minWeight cfg.weights : ℚ) ≤ (w : ℚ) := by exact_mod_cast hle
  push_cast
  linarith

end DRR
