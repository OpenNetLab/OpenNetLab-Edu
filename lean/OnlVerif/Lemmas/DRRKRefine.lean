import OnlVerif.Lemmas.DRRKLts
/-!
# The DRR scheduler on the kernel model: every reachable kernel state is the image of an admissible run of the LTS, and
the abstraction function `absDRR` reads the configuration's LTS state off the kernel state
-/

set_option linter.unusedSimpArgs false

namespace DRRK
open DRROnK QEntry MQ
open TimerK (lookup dec_enc)

variable {F : Nat} {flow size : Int → Nat} {cfg : DRR.Cfg ℚ} {Lmax P : Nat}
variable {s : KS} {a : A} {q : QEntry ℚ} {rest : List (QEntry ℚ)}

structure Inv2 (F : Nat) (flow size : Int → Nat) (cfg : DRR.Cfg ℚ) (Lmax P : Nat) (s : KS) (a : A) : Prop where
  i : Inv F flow size cfg Lmax P s a
  l : LInv flow a (histOf s.trace)
  h : HOK F flow (histOf s.trace)

theorem inv_step_lts (fuel : Nat) (h : Inv2 F flow size cfg Lmax P s a) (hp : popMin s.agenda = some (q, rest)) :
    ∃ s' a' new, step (prog F flow size cfg P) (fuel + 1) s = .ok s' ∧ Inv2 F flow size cfg Lmax P s' a' ∧ a'.mu F + 1 ≤ a.mu F ∧
      AStep F flow size cfg P s.events.size s.eid a q a' new ∧ s'.now = q.time ∧
      histOf s'.trace = histOf s.trace ++ new ∧
      ∃ acts0 acts, acts0.length ≤ 1 ∧ acts.length ≤ 1 ∧ (∀ x ∈ acts0 ++ acts, DRR.ActOk (Lmax : ℚ) x) ∧
        runActs (DRR.sched cfg) (toM cfg.flows flow size a (histOf s.trace) s.now) acts0 =
          .ok (toM cfg.flows flow size a (histOf s.trace) s'.now, [], []) ∧
        runActs (DRR.sched cfg) (toM cfg.flows flow size a (histOf s.trace) s'.now) acts =
          .ok (toM cfg.flows flow size a' (histOf s'.trace) s'.now, putPk flow size new, outPk flow size new) ∧
        runActs (DRR.sched cfg) (toM cfg.flows flow size a (histOf s.trace) s.now) (acts0 ++ acts) =
          .ok (toM cfg.flows flow size a' (histOf s'.trace) s'.now, putPk flow size new, outPk flow size new) := by
  obtain ⟨s', a', new, h1, h2, h3, h4, h5, h6⟩ := inv_step fuel h.i hp
  have hmin := (min_of_pop h.i.k.ag hp).1
  obtain ⟨acts0, hlen0, ha0, h0⟩ := lts_advance (size := size) (hist := histOf s.trace) h.i.a hmin
  obtain ⟨⟨acts, hlen, ha, h7⟩, hl'⟩ := lts_step (h.i.a.advance hmin) hmin h.l h4
  have hh' := hok_step (h.i.a.advance hmin) h.h h4
  refine ⟨s', a', new, h1, ⟨h2, by rw [h6]; exact hl', by rw [h6]; exact hh'⟩, h3, h4, h5, h6, acts0, acts, hlen0, hlen, ?_, ?_, ?_, ?_⟩
  · intro x hx
    rcases List.mem_append.mp hx with hx | hx
    · exact ha0 x hx
    · exact ha x hx
  · rw [h5]; exact h0
  · rw [h5, h6]; exact h7
  · rw [h5, h6]
    have := MQK.runActs_append _ _ _ _ _ _ _ _ _ _ h0 h7
    simpa using this

theorem toM_a0 (arrivals : List (ℚ × Int)) :
    toM cfg.flows flow size (a0 arrivals) [] 0 = DRR.start cfg 0 := by
  simp only [toM, mst, ctlOf, a0, pcOf, phaseOf, DRR.start, MQ.init, DRR.ctl0, DRR.counts0, dictOf, DRR.Cfg.flows, List.map_map,
    visitsOf, sentOf, forfKeys, parkKeys, keysOf, List.foldl_nil, List.map_nil]
  rfl

theorem initState_now (arrivals : List (ℚ × Int)) : (initState F cfg arrivals : KS).now = 0 := by
  simp [initState, doCall_spawn, zero_eq']

theorem initState_trace (arrivals : List (ℚ × Int)) : (initState F cfg arrivals : KS).trace = #[] := by
  simp [initState, doCall_spawn]

theorem histOf_empty : histOf (#[] : Array (Obs ℚ)) = [] := rfl

/-- **every state reachable by kernel steps is a sound configuration, and the run so far is an admissible run of the LTS**
(packets of at most `Lmax` bytes) from the state of a fresh `DRR` to the configuration's LTS state, in which the packets that
entered are those handed to `put` and the packets that left are those handed to `out.put`, in the order of the trace -/
theorem reach_lts (fuel : Nat) {arrivals : List (ℚ × Int)} (hw : WorkOK flow F size Lmax arrivals) (ht : FlowsOK F cfg)
    (hr : 0 < cfg.rate) (hP : ∃ k, P = k + 1 ∧ Lmax ≤ 1500 * k) {s : KS}
    (h : KReach (prog F flow size cfg P) (fuel + 1) (initState F cfg arrivals) s) :
    ∃ a acts, Inv2 F flow size cfg Lmax P s a ∧ (∀ x ∈ acts, DRR.ActOk (Lmax : ℚ) x) ∧
      runActs (DRR.sched cfg) (DRR.start cfg 0) acts =
        .ok (toM cfg.flows flow size a (histOf s.trace) s.now, putPk flow size (histOf s.trace), outPk flow size (histOf s.trace)) := by
  refine (KReach.of_step (I := fun s (x : A × List (MAct ℚ)) => Inv2 F flow size cfg Lmax P s x.1 ∧
      (∀ y ∈ x.2, DRR.ActOk (Lmax : ℚ) y) ∧ runActs (DRR.sched cfg) (DRR.start cfg 0) x.2 =
        .ok (toM cfg.flows flow size x.1 (histOf s.trace) s.now, putPk flow size (histOf s.trace), outPk flow size (histOf s.trace)))
    (x0 := (a0 arrivals, [])) ⟨⟨inv_init arrivals hw ht hr hP, ?_, ?_⟩, nofun, ?_⟩ ?_ h).elim fun x hx => ⟨x.1, x.2, hx⟩
  · rw [initState_trace, histOf_empty]
    exact ⟨rfl, rfl, fun c hc => absurd rfl hc, fun _ _ => rfl⟩
  · rw [initState_trace, histOf_empty]; exact evsOK_nil
  · rw [initState_now, initState_trace, histOf_empty, toM_a0]; rfl
  · rintro s ⟨a, acts⟩ q rest ⟨hi, hact, hrun⟩ hp
    obtain ⟨s', a', new, h1, h2, -, -, -, h6, acts0, acts1, -, -, hact', -, -, h7⟩ := inv_step_lts fuel hi hp
    refine ⟨s', (a', acts ++ (acts0 ++ acts1)), h1, h2, fun x hx => (List.mem_append.mp hx).elim (hact x) (hact' x), ?_⟩
    rw [MQK.runActs_append _ _ _ _ _ _ _ _ _ _ hrun h7, h6, putPk_append, outPk_append]

theorem cellVal_eq (k : Nat) : cellVal s k = (KProc.Regs.of s).cells k := rfl

theorem absDRR_eq (h : Inv2 F flow size cfg Lmax P s a) :
    absDRR cfg flow size s = toM cfg.flows flow size a (histOf s.trace) s.now := by
  have hk := h.i.k
  have hi := h.i.a
  have ht := hi.table
  have hkeys : keysOf flow (putIds (histOf s.trace)) = a.keys := h.l.keys.symm
  have hlt := hi.keysOK.1
  have hfl : ∀ c ∈ cfg.flows, c < F := fun c hc => (mem_flows ht c).mp hc
  have hpl := hok_parkKeys h.h
  have hfkl := hok_forfKeys h.h
  have hph : absPhase flow size s = (phaseOf flow size a.run, pcOf a.run) := by
    obtain ⟨hT, hC⟩ := hk.threads
    have hok := hk.ok
    unfold absPhase
    cases hrun : a.run with
    | init q0 =>
      rw [hrun] at hT
      have hp0 : s.proc? 0 = some { st := .runStart, target := some q0.ev } := hT.proc _ rfl
      simp [runProc, hp0, phaseOf, pcOf]
    | W g =>
      rw [hrun] at hT
      have hp0 : s.proc? 0 = some { st := .runTok, target := some g } := hT.proc _ rfl
      have hout : (s.ev g).out = none := hT.ev.2.2
      simp [runProc, hp0, hout, phaseOf, pcOf]
    | K g q0 =>
      rw [hrun] at hT hok
      obtain rfl : q0.ev = g := hok
      have hp0 : s.proc? 0 = some { st := .runTok, target := some q0.ev } := hT.proc _ rfl
      have hout : (s.ev q0.ev).out = some (.ok (.int 1)) := hT.ev.2.2
      simp [runProc, hp0, hout, phaseOf, pcOf]
    | H g m id q0 =>
      rw [hrun] at hT hok
      obtain rfl : q0.ev = g := hok
      have hp0 : s.proc? 0 = some { st := .runGet m, target := some q0.ev } := hT.proc _ rfl
      have hout : (s.ev q0.ev).out = some (.ok (.int id)) := hT.ev.2.2
      simp [runProc, hp0, hout, phaseOf, pcOf]
    | S p m id q0 =>
      rw [hrun] at hT hC
      have hc := hC _ (List.mem_singleton_self _)
      have hp0 : s.proc? 0 = some { st := .runSend id m, target := some p } := hT.proc _ rfl
      have hout : (s.ev p).out = none := (hc.own _ rfl).2.2
      have hpp : s.proc? p = some { st := .sendStart id, target := some q0.ev } := hc.proc _ rfl
      simp [runProc, hp0, hout, hpp, phaseOf, pcOf]
    | F p m id q0 =>
      rw [hrun] at hT hC
      have hc := hC _ (List.mem_singleton_self _)
      have hp0 : s.proc? 0 = some { st := .runSend id m, target := some p } := hT.proc _ rfl
      have hout : (s.ev p).out = some (.ok .none) := (hc.own _ rfl).2.2
      simp [runProc, hp0, hout, phaseOf, pcOf]
    | T p t m id q0 =>
      rw [hrun] at hT hC hok
      have hc := hC _ (List.mem_singleton_self _)
      have hp0 : s.proc? 0 = some { st := .runSend id m, target := some p } := hT.proc _ rfl
      have hout : (s.ev p).out = none := (hc.own _ rfl).2.2
      have hpp : s.proc? p = some { st := .sendTx id, target := some q0.ev } := hc.proc _ rfl
      have hqt : q0.ev = t := hok
      have hdue : dueOf s t = q0.time := by
        unfold dueOf
        have hmem : q0 ∈ s.agenda := hk.ag.symm.subset (mem_run (by simp [hrun, RPhase.entries]))
        cases hf : s.agenda.find? (·.ev == t) with
        | none =>
          have := List.find?_eq_none.mp hf q0 hmem
          simp [hqt] at this
        | some x =>
          have h1 := List.mem_of_find?_eq_some hf
          have h2 := List.find?_some hf
          simp only [beq_iff_eq] at h2
          rw [hk.entry_of_ev h1 hmem (h2.trans hqt.symm)]
          rfl
      simp [runProc, hp0, hout, hpp, hqt, hdue, phaseOf, pcOf]
  unfold absDRR toM mst ctlOf
  simp only [hkeys, hph, dictOf]
  congr 1
  · congr 1
    · apply List.map_congr_left
      intro c hc
      have := hk.cells.cd c (hfl c hc)
      simp only [cellTime, cellVal_eq, this, dec_enc, Option.getD_some]
    · apply List.map_congr_left
      intro c hc
      simp only [cellInt, cellVal_eq, hk.cells.cq c (hfl c hc)]
    · apply List.map_congr_left
      intro c hc
      have := hk.cells.cf c (hfkl c hc)
      simp only [cellTime, cellVal_eq, this, dec_enc, Option.getD_some]
  · apply List.map_congr_left
    intro f hf
    rw [hk.res_flow (hlt f hf)]; rfl
  · apply List.map_congr_left
    intro c hc
    have := hk.cells.ch c (hpl c hc)
    simp only [holOf, cellVal_eq, this]
    cases a.hol c <;> rfl
  · apply List.map_congr_left
    intro c hc
    simp only [cellInt, cellVal_eq, hk.cells.cc c (hfl c hc)]
  · apply List.map_congr_left
    intro f hf
    simp only [cellInt, cellVal_eq, hk.cells.cb f (hlt f hf)]
  · show (s.res 0).items.length = a.tokens
    rw [hk.res_tok]; simp [KProc.HStore.toRes]
  · rw [cellVal_eq, hk.cells.c1]
    cases a.cur <;> rfl
  · simp only [cellInt, cellVal_eq, hk.cells.c0]

end DRRK
