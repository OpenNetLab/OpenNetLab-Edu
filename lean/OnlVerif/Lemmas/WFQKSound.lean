import OnlVerif.Lemmas.WFQKGrid
/-!
# The WFQ scheduler on the kernel model: every configuration step keeps `AInv` and lowers the step bound; the initial
configuration
-/


namespace WFQK
open WFQOnK QEntry

variable {N scale F : Nat} {flow size : Int → Nat} {cfg : WfqCfg ℚ} {d1 L : Nat}
variable {a a' : A} {now : ℚ} {q : QEntry ℚ} {n e : Nat} {new : List (HEv ℚ)}

theorem flow_mem_keys {w : PutRec} (hw : w ∈ a.puts) : flow w.1 ∈ keysOf flow (a.puts.map (·.1)) :=
  mem_keysOf (List.mem_map_of_mem hw)

theorem ind_none (f : Nat) : ind flow none f = 0 := rfl

theorem nItems_snoc (l : List PutRec) (w : PutRec) (f : Nat) :
    nItems flow (l ++ [w]) f = nItems flow l f + (if flow w.1 = f then 1 else 0) := by
  unfold nItems
  rw [List.filter_append, List.length_append]
  by_cases h : flow w.1 = f <;> simp [h]

theorem nItems_hand {l : List PutRec} {w : PutRec} (hw : w ∈ l) (f : Nat) :
    nItems flow (l.erase w) f + ind flow (some w.1) f = nItems flow l f := by
  unfold nItems ind
  rw [((List.perm_cons_erase hw).filter (fun w => decide (flow w.1 = f))).length_eq]
  by_cases h : flow w.1 = f <;> simp [h]

theorem cls_nonneg (hi : AInv N scale size F flow cfg d1 L a now) {c : Nat} (hc : c < F) : 0 ≤ (a.cls c).getD 0 := by
  rw [hi.clsOK c hc]
  have := nItems_nonneg (flow := flow) a.items c
  have := ind_nonneg (flow := flow) a.run.heldC c
  omega

theorem workOK_tail {x : ℚ × Int} {l : List (ℚ × Int)} (hw : WorkOK N size F flow cfg d1 (x :: l)) : WorkOK N size F flow cfg d1 l :=
  ⟨fun y hy => hw.gap y (List.mem_cons_of_mem _ hy), (List.pairwise_cons.mp hw.inc).2⟩

theorem workOK_head_lt {g : ℚ} {id : Int} {l : List (ℚ × Int)} (hw : WorkOK N size F flow cfg d1 ((g, id) :: l)) :
    ∀ x ∈ l, id < x.2 :=
  fun x hx => (List.pairwise_cons.mp hw.inc).1 x.2 (List.mem_map_of_mem hx)

theorem srcA_congr {a a' : A} (h : a'.puts = a.puts) {s : SPhase} (hs : SrcA N size F flow cfg a now d1 s) :
    SrcA N size F flow cfg a' now d1 s := by
  cases s with
  | init q arr => exact ⟨hs.1, hs.2.1, hs.2.2.1, hs.2.2.2.1, h.trans hs.2.2.2.2⟩
  | wait id rest q => exact ⟨hs.1, hs.2.1, hs.2.2.1, fun w hw => hs.2.2.2 w (h ▸ hw)⟩
  | ending q => exact hs
  | done => trivial

theorem RunA.congr {a a' : A} {r : RPhase} (h : RunA size F flow cfg a now d1 r) (hinit : ∀ q0, r ≠ .init q0)
    (hcur : a'.cur = a.cur) (hputs : ∀ w ∈ a.puts, w ∈ a'.puts) (hW : ∀ g, r = .W g → a'.items ≠ [] → a'.pend ≠ [])
    (hH : ∀ g w q0, r = .H g w q0 → w ∈ a.puts → w ∉ a.items → a.last = now → w ∉ a'.items ∧ a'.last = now) :
    RunA size F flow cfg a' now d1 r := by
  cases r with
  | init q0 => exact absurd rfl (hinit q0)
  | W g => exact ⟨hW g rfl, hcur ▸ h.2⟩
  | H g w q0 =>
    obtain ⟨h1, h2, h3, h4, h5, h6⟩ := h
    exact ⟨h1, h2, hcur ▸ h3, hputs w h4, hH g w q0 rfl h4 h5 h6⟩
  | S p id q0 =>
    exact ⟨h.1, h.2.1, hcur ▸ h.2.2.1, h.2.2.2.1, h.2.2.2.2.1.imp fun w hw => ⟨hputs w hw.1, hw.2⟩, h.2.2.2.2.2⟩
  | T p t id q0 => exact ⟨h.1, hcur ▸ h.2.1, h.2.2.1, h.2.2.2.imp fun w hw => ⟨hputs w hw.1, hw.2⟩⟩
  | F p id q0 => exact ⟨h.1, h.2.1, hcur ▸ h.2.2.1, h.2.2.2.1, h.2.2.2.2.imp fun w hw => ⟨hputs w hw.1, hw.2⟩⟩

theorem srcNext_ok {arr : List (ℚ × Int)} (hw : WorkOK N size F flow cfg d1 arr) (t : ℚ) (ht : OnGrid d1 t) (eid ev : Nat)
    (hp : ∀ x ∈ arr, ∀ w ∈ a.puts, w.1 < x.2) :
    SrcA N size F flow cfg a t d1 (srcNext t eid ev arr) ∧
    ∀ x ∈ (srcNext t eid ev arr).entries, t ≤ x.time ∧ OnGrid d1 x.time := by
  cases arr with
  | nil => exact ⟨⟨rfl, rfl⟩, fun x hx => by rw [List.mem_singleton.mp hx]; exact ⟨le_refl t, ht⟩⟩
  | cons x r =>
    obtain ⟨gap, id⟩ := x
    have h1 := hw.gap (gap, id) (by simp)
    refine ⟨⟨rfl, ⟨?_, hw.inc⟩, onGrid_add ht h1.2.2.2.2.1, hp (gap, id) (by simp)⟩, ?_⟩
    · intro y hy
      rcases List.mem_cons.mp hy with rfl | hy
      · exact ⟨le_refl _, h1.2.1, h1.2.2.1, h1.2.2.2.1, onGrid_zero, h1.2.2.2.2.2⟩
      · exact hw.gap y (List.mem_cons_of_mem _ hy)
    · intro y hy
      rw [List.mem_singleton.mp hy]
      exact ⟨le_add_of_nonneg_right h1.1, onGrid_add ht h1.2.2.2.2.1⟩

theorem srcNext_mu (t : ℚ) (eid ev : Nat) (arr : List (ℚ × Int)) : (srcNext t eid ev arr).mu ≤ 6 * arr.length + 1 := by
  cases arr with
  | nil => exact Nat.le_refl 1
  | cons x r => show 6 * r.length + 7 ≤ 6 * (r.length + 1) + 1; omega

theorem entries_ok {a' : A} {t : ℚ} (hr : ∀ x ∈ a'.run.entries, t ≤ x.time ∧ OnGrid d1 x.time)
    (hs : ∀ x ∈ a'.src.entries, t ≤ x.time ∧ OnGrid d1 x.time) (hp : ∀ x ∈ a'.pend, t ≤ x.time ∧ OnGrid d1 x.time) :
    ∀ x ∈ a'.entries, t ≤ x.time ∧ OnGrid d1 x.time :=
  List.forall_mem_append.mpr ⟨hr, List.forall_mem_append.mpr ⟨hs, hp⟩⟩

theorem AInv.ent (hi : AInv N scale size F flow cfg d1 L a now) : ∀ x ∈ a.entries, now ≤ x.time ∧ OnGrid d1 x.time :=
  fun x hx => ⟨hi.due x hx, hi.entG x hx⟩

theorem AInv.cnt_eq (hi : AInv N scale size F flow cfg d1 L a now) {o : Option Int} (h : a.run.held = o) {f : Nat} (hf : f < F) :
    a.cnt f = nItems flow a.items f + ind flow o f := h ▸ hi.cntOK f hf

theorem AInv.cls_eq (hi : AInv N scale size F flow cfg d1 L a now) {o : Option Int} (h : a.run.heldC = o) {c : Nat} (hc : c < F) :
    (a.cls c).getD 0 = nItems flow a.items c + ind flow o c := h ▸ hi.clsOK c hc

theorem AInv.cnt_hand (hi : AInv N scale size F flow cfg d1 L a now) (h : a.run.held = none) {w : PutRec} (hw : w ∈ a.items)
    {f : Nat} (hf : f < F) : a.cnt f = nItems flow (a.items.erase w) f + ind flow (some w.1) f :=
  (hi.cnt_eq h hf).trans ((add_zero _).trans (nItems_hand hw f).symm)

theorem AInv.cls_hand (hi : AInv N scale size F flow cfg d1 L a now) (h : a.run.heldC = none) {w : PutRec} (hw : w ∈ a.items)
    {c : Nat} (hc : c < F) : (a.cls c).getD 0 = nItems flow (a.items.erase w) c + ind flow (some w.1) c :=
  (hi.cls_eq h hc).trans ((add_zero _).trans (nItems_hand hw c).symm)

/-- a step that leaves the `put` history alone: what is not said stays as it is (source, pending events, `items`, the
attributes, the counters of flows that are not dict keys) -/
theorem ainv_gen (hi : AInv N scale size F flow cfg d1 L a q.time) (a' : A)
    (hr : RunA size F flow cfg a' q.time d1 a'.run) (hrd : ∀ x ∈ a'.run.entries, q.time ≤ x.time ∧ OnGrid d1 x.time)
    (hcnt : ∀ f, f < F → a'.cnt f = nItems flow a'.items f + ind flow a'.run.held f)
    (hcls : ∀ c, c < F → (a.cls c).getD 0 = nItems flow a'.items c + ind flow a'.run.heldC c)
    (hs : SrcA N size F flow cfg a' q.time d1 a'.src := by exact srcA_congr rfl hi.src)
    (hsd : ∀ x ∈ a'.src.entries, q.time ≤ x.time ∧ OnGrid d1 x.time := by exact fun x hx => hi.ent x (mem_src hx))
    (hpend : ∀ u ∈ a'.pend, u ∈ a.pend := by exact fun u hu => hu) (hputs : a'.puts = a.puts := by rfl)
    (hattr : a'.vtime = a.vtime ∧ a'.last = a.last ∧ a'.fset = a.fset ∧ a'.fin = a.fin ∧ a'.cls = a.cls ∧ a'.act = a.act := by
      exact ⟨rfl, rfl, rfl, rfl, rfl, rfl⟩)
    (hitems : a'.items.Sublist a.items := by exact List.Sublist.refl _)
    (hkeys : ∀ f, f ∉ keysOf flow (a.puts.map (·.1)) → a'.cnt f = a.cnt f ∧ a'.byt f = a.byt f := by
      exact fun f _ => ⟨rfl, rfl⟩) :
    AInv N scale size F flow cfg d1 L a' q.time := by
  obtain ⟨e1, e2, e3, e4, e5, e6⟩ := hattr
  have hent := entries_ok hrd hsd fun x hx => hi.ent x (mem_pend (hpend x hx))
  refine ⟨hr, hs, fun u hu => hi.pend u (hpend u hu), fun x hx => (hent x hx).1, ?_, ?_, ?_, ?_, hcnt, ?_, ?_, ?_, ?_, ?_,
    ?_, ?_, ?_, fun x hx => (hent x hx).2, hi.cfgOK, hi.grid⟩
  · rw [hputs]; exact hitems.trans hi.sub
  · rw [hputs]; exact hi.mono
  · rw [hputs]; exact hi.putOK
  · intro f hf
    rw [hputs, e5]
    refine ⟨fun hk => ?_, (hi.keysOK f hf).2⟩
    obtain ⟨h1, h2⟩ := hkeys f hk
    rw [h1, h2]; exact (hi.keysOK f hf).1 hk
  · intro c hc; rw [e5]; exact hcls c hc
  · intro c hc; rw [e5, e6]; exact hi.actOK c hc
  · rw [hputs, e3]; exact hi.fsetOK
  · intro hpe
    rw [e2]
    apply hi.pendLast
    obtain ⟨u, hu⟩ := List.exists_mem_of_ne_nil _ hpe
    exact List.ne_nil_of_mem (hpend u hu)
  · rw [e2]; exact hi.lastG
  · rw [e2]; exact hi.lastLe
  · rw [e1]; exact hi.vtG
  · rw [e4]; exact hi.finG

theorem ainv_done (hi : AInv N scale size F flow cfg d1 L a q.time) {p : EvId} {id0 : Int} (h0 : a.run = .F p id0 q) (a' : A)
    (e_src : a'.src = a.src) (e_pend : a'.pend = a.pend) (e_cnt : a'.cnt = a.cnt) (e_byt : a'.byt = a.byt)
    (e_puts : a'.puts = a.puts) (e_fset : a'.fset = a.fset) (e_last : a'.last = q.time)
    (e_vt : a'.vtime = if nAct (actAfter a (flow id0)) 0 F 0 = 0 then 0 else a.vtime + (q.time - a.last) / a.ws F cfg)
    (e_fin : a'.fin = if nAct (actAfter a (flow id0)) 0 F 0 = 0 then fun _ => 0 else a.fin)
    (e_cls : a'.cls = upd a.cls (flow id0) (some ((a.cls (flow id0)).getD 0 - 1)))
    (e_act : a'.act = actAfter a (flow id0))
    (hr : RunA size F flow cfg a' q.time d1 a'.run) (hrd : ∀ x ∈ a'.run.entries, q.time ≤ x.time ∧ OnGrid d1 x.time)
    (hitems : a'.items.Sublist a.items)
    (hcnt : ∀ f, f < F → a.cnt f = nItems flow a'.items f + ind flow a'.run.held f)
    (hcls : ∀ c, c < F → nItems flow a.items c = nItems flow a'.items c + ind flow a'.run.heldC c) :
    AInv N scale size F flow cfg d1 L a' q.time := by
  have hrun := hi.run
  rw [h0] at hrun
  obtain ⟨-, -, -, hfid, w0, hw0, hw0id⟩ := hrun
  have hqe : q ∈ a.entries := mem_run (by simp [h0, RPhase.entries])
  have hqG : OnGrid d1 q.time := hi.entG q hqe
  have hkey : flow id0 ∈ keysOf flow (a.puts.map (·.1)) := hw0id ▸ flow_mem_keys hw0
  have hc0 : (a.cls (flow id0)).getD 0 = nItems flow a.items (flow id0) + 1 := by
    have := hi.clsOK (flow id0) hfid
    rw [h0] at this
    rw [this]
    show _ + ind flow (some id0) (flow id0) = _
    rw [ind_some, if_pos rfl]
  have hact0 : a.act (flow id0) = true := by
    refine (hi.actOK _ hfid).mpr ?_
    have := nItems_nonneg (flow := flow) a.items (flow id0)
    omega
  have hent := entries_ok hrd (fun x hx => hi.ent x (mem_src (e_src ▸ hx))) fun x hx => hi.ent x (mem_pend (e_pend ▸ hx))
  refine ⟨hr, ?_, ?_, fun x hx => (hent x hx).1, ?_, ?_, ?_, ?_, ?_, ?_, ?_, ?_, fun _ => e_last, ?_, ?_, ?_, ?_,
    fun x hx => (hent x hx).2, hi.cfgOK, hi.grid⟩
  · rw [e_src]; exact srcA_congr e_puts hi.src
  · rw [e_pend]; exact hi.pend
  · rw [e_puts]; exact hitems.trans hi.sub
  · rw [e_puts]; exact hi.mono
  · rw [e_puts]; exact hi.putOK
  · intro f hf
    rw [e_puts, e_cnt, e_byt, e_cls]
    constructor
    · intro hk
      have hne : f ≠ flow id0 := fun h1 => hk (h1 ▸ hkey)
      rw [upd_ne _ _ _ _ hne]
      exact (hi.keysOK f hf).1 hk
    · intro hk
      rw [upd_apply]
      split
      · exact ⟨_, rfl⟩
      · exact (hi.keysOK f hf).2 hk
  · intro f hf; rw [e_cnt]; exact hcnt f hf
  · intro c hc
    rw [e_cls, hi.cls_after h0 hc]
    exact hcls c hc
  · intro c hc
    rw [e_act, e_cls, hi.cls_after h0 hc]
    exact hi.act_after h0 hc
  · rw [e_puts, e_fset]; exact hi.fsetOK
  · rw [e_last]; exact hqG
  · rw [e_last]
  · rw [e_vt]
    split
    · exact onGrid_zero
    · exact onGrid_adv hi.cfgOK hi.grid a hqG hi.lastG hi.vtG ⟨flow id0, hfid, hact0⟩
  · intro c hc
    rw [e_fin]
    split
    · exact onGrid_zero
    · exact hi.finG c hc

theorem ainv_put (hi : AInv N scale size F flow cfg d1 L a q.time) (hq : IsMin a q) {id : Int} {arr : List (ℚ × Int)}
    (h : a.src = .wait id arr q) (pr : PutRec) (hpr1 : pr.1 = id) (hpr2 : pr.2.1 = q.time)
    (hpr3 : pr.2.2 = WFQ.stampOf cfg (a.advFin F (flow id)) (a.advV F cfg q.time) (wOf cfg (flow id)) (size id)) (a' : A)
    (e_run : a'.run = a.run) (e_src : a'.src = srcNext q.time (e + 1) (n + 1) arr)
    (e_pend : a'.pend = a.pend ++ [⟨q.time, NORMAL, e, n⟩]) (e_items : a'.items = a.items ++ [pr])
    (e_cnt : a'.cnt = upd a.cnt (flow id) (a.cnt (flow id) + 1))
    (e_byt : a'.byt = upd a.byt (flow id) (a.byt (flow id) + (size id : Int))) (e_cur : a'.cur = a.cur)
    (e_vt : a'.vtime = a.advV F cfg q.time) (e_last : a'.last = q.time) (e_fset : a'.fset = true)
    (e_fin : a'.fin = upd (a.advFin F) (flow id) pr.2.2)
    (e_cls : a'.cls = upd a.cls (flow id) (some ((a.cls (flow id)).getD 0 + 1))) (e_act : a'.act = upd a.act (flow id) true)
    (e_puts : a'.puts = a.puts ++ [pr]) : AInv N scale size F flow cfg d1 L a' q.time := by
  have hs := hi.src
  rw [h] at hs
  obtain ⟨hqp, hwk, hqG, hlt⟩ := hs
  have hid := hwk.gap (0, id) (by simp)
  have hfid : flow id < F := hid.2.1
  have hvG : OnGrid scale (a.advV F cfg q.time) := by
    unfold A.advV
    split
    · exact onGrid_zero
    · rename_i ht
      exact onGrid_adv hi.cfgOK hi.grid a hqG hi.lastG hi.vtG (act_of_total hi ht)
  have hfG : ∀ c, c < F → OnGrid scale (a.advFin F c) := by
    intro c hc
    unfold A.advFin
    split
    · exact onGrid_zero
    · exact hi.finG c hc
  have hstamp : OnGrid scale pr.2.2 := by
    rw [hpr3]
    exact onGrid_stamp_cls hi.cfgOK hi.grid (hfG _ hfid) hvG size id hid.2.2.2.2.2 hfid
  have hlt' := workOK_head_lt hwk
  have hnext := srcNext_ok (a := a') (workOK_tail hwk) q.time hqG (e + 1) (n + 1) fun x hx => e_puts ▸
    List.forall_mem_append.mpr ⟨fun w hw => lt_trans (hlt w hw) (hlt' x hx), List.forall_mem_singleton.mpr (hpr1 ▸ hlt' x hx)⟩
  have hrun := hi.run
  have hent : ∀ x ∈ a'.entries, q.time ≤ x.time ∧ OnGrid d1 x.time :=
    entries_ok (fun x hx => hi.ent x (mem_run (e_run ▸ hx))) (fun x hx => hnext.2 x (e_src ▸ hx)) (e_pend ▸
      List.forall_mem_append.mpr ⟨fun x hx => hi.ent x (mem_pend hx), List.forall_mem_singleton.mpr ⟨le_refl _, hqG⟩⟩)
  refine ⟨?_, ?_, ?_, fun x hx => (hent x hx).1, ?_, ?_, ?_, ?_, ?_, ?_, ?_, fun _ => e_fset, fun _ => e_last, ?_, ?_, ?_, ?_,
    fun x hx => (hent x hx).2, hi.cfgOK, hi.grid⟩
  · rw [e_run]
    refine hrun.congr (fun q0 hr => ?_) e_cur (fun w hw => e_puts ▸ List.mem_append_left _ hw)
      (fun _ _ _ => by rw [e_pend]; simp) fun g w q0 _ h4 h5 _ => ⟨fun h7 => ?_, e_last⟩
    · rw [hr] at hrun
      exact min_not_prio_lt hi.due hq (mem_run (by simp [hr, RPhase.entries])) hrun.1 (by rw [hrun.2.1, hqp]; decide)
    · rw [e_items] at h7
      rcases List.mem_append.mp h7 with h7 | h7
      · exact h5 h7
      · exact lt_irrefl _ (hpr1 ▸ List.mem_singleton.mp h7 ▸ hlt w h4)
  · rw [e_src]; exact hnext.1
  · exact e_pend ▸ List.forall_mem_append.mpr ⟨hi.pend, List.forall_mem_singleton.mpr ⟨rfl, rfl⟩⟩
  · rw [e_items, e_puts]; exact List.Sublist.append hi.sub (List.Sublist.refl _)
  · rw [e_puts]
    exact List.pairwise_append.mpr ⟨hi.mono, List.pairwise_singleton _ _, fun x hx =>
      List.forall_mem_singleton.mpr (hpr1 ▸ hpr2 ▸ ⟨hlt x hx, (hi.putOK x hx).2.2.2.1⟩)⟩
  · rw [e_puts]
    refine List.forall_mem_append.mpr ⟨hi.putOK, List.forall_mem_singleton.mpr ?_⟩
    rw [hpr1, hpr2]
    exact ⟨hfid, hid.2.2.1, hid.2.2.2.1, le_refl _, hstamp, hid.2.2.2.2.2⟩
  · intro f hf
    rw [e_puts, List.map_append, List.map_singleton, keysOf_snoc, hpr1, mem_addKey, not_or, e_cnt, e_byt, e_cls]
    constructor
    · intro hn
      rw [upd_ne _ _ _ _ hn.2, upd_ne _ _ _ _ hn.2, upd_ne _ _ _ _ hn.2]
      exact (hi.keysOK f hf).1 hn.1
    · intro hm
      rw [upd_apply]
      split
      · exact ⟨_, rfl⟩
      · rename_i hne
        exact (hi.keysOK f hf).2 (hm.resolve_right hne)
  · intro f hf
    rw [e_cnt, e_items, e_run, nItems_snoc, hpr1, upd_add]
    have := hi.cntOK f hf
    omega
  · intro c hc
    rw [e_cls, e_items, e_run, nItems_snoc, hpr1, upd_some_add]
    have := hi.clsOK c hc
    omega
  · intro c hc
    rw [e_act, e_cls, upd_apply, upd_apply]
    by_cases hcc : c = flow id
    · subst hcc
      rw [if_pos rfl, if_pos rfl]
      show _ ↔ 0 < (a.cls (flow id)).getD 0 + 1
      have := cls_nonneg hi hc
      constructor
      · intro _; omega
      · intro _; rfl
    · rw [if_neg hcc, if_neg hcc]
      exact hi.actOK c hc
  · rw [e_last]; exact hqG
  · rw [e_last]
  · rw [e_vt]; exact hvG
  · intro c hc
    rw [e_fin, upd_apply]
    split
    · exact hstamp
    · exact hfG c hc

theorem astep_sound (hi : AInv N scale size F flow cfg d1 L a now) (hq : IsMin a q)
    (h : AStep N scale size F flow cfg n e a q a' new) : AInv N scale size F flow cfg d1 L a' q.time ∧ a'.mu + 1 ≤ a.mu := by
  have hi := hi.advance hq
  have hrun := hi.run
  have hqG : OnGrid d1 q.time := hi.entG q hq.1
  have hrun0 : ∀ x ∈ a.run.entries, q.time ≤ x.time ∧ OnGrid d1 x.time := fun x hx => hi.ent x (mem_run hx)
  have hnow : ∀ {p : Nat} {k ev : Nat}, ∀ x ∈ [(⟨q.time, p, k, ev⟩ : QEntry ℚ)], q.time ≤ x.time ∧ OnGrid d1 x.time :=
    fun x hx => List.mem_singleton.mp hx ▸ ⟨le_refl _, hqG⟩
  cases h with
  | runInit h0 =>
    rw [h0] at hrun
    obtain ⟨-, -, hpe, hit, hcur, hpu⟩ := hrun
    refine ⟨ainv_gen hi _ ⟨fun h1 => absurd hit h1, hcur⟩ (fun _ hx => nomatch hx)
      (fun f hf => hi.cnt_eq (by rw [h0]; rfl) hf) (fun c hc => hi.cls_eq (by rw [h0]; rfl) hc), ?_⟩
    simp only [A.mu, RPhase.mu, h0]; omega
  | pktResume g w h0 =>
    rw [h0] at hrun
    obtain ⟨-, -, hcur, hwp, -, -⟩ := hrun
    refine ⟨ainv_gen hi _ ⟨rfl, rfl, hcur, (hi.putOK w hwp).1, ⟨w, hwp, rfl⟩, (hi.putOK w hwp).2.2.2.2.2⟩ hnow
      (fun f hf => hi.cnt_eq (by rw [h0]; rfl) hf) (fun c hc => hi.cls_eq (by rw [h0]; rfl) hc), ?_⟩
    simp only [A.mu, RPhase.mu, h0]; omega
  | sendInit p id h0 =>
    rw [h0] at hrun
    obtain ⟨-, -, hcur, hfid, hex, htx⟩ := hrun
    refine ⟨ainv_gen hi _ ⟨rfl, rfl, hfid, hex⟩ ?_
      (fun f hf => hi.cnt_eq (by rw [h0]; rfl) hf) (fun c hc => hi.cls_eq (by rw [h0]; rfl) hc), ?_⟩
    · intro x hx
      rw [List.mem_singleton.mp hx]
      exact ⟨le_add_of_nonneg_right (txTime_nonneg hi.cfgOK.rate id), onGrid_add hqG htx⟩
    · simp only [A.mu, RPhase.mu, h0]; omega
  | sendFire p t id h0 =>
    rw [h0] at hrun
    obtain ⟨-, hcur, hfid, w, hwp, hwid⟩ := hrun
    refine ⟨ainv_gen hi _ ⟨rfl, rfl, rfl, hfid, w, hwp, hwid⟩ hnow ?_ (fun c hc => hi.cls_eq (by rw [h0]; rfl) hc)
      (hkeys := ?_), ?_⟩
    · intro f hf
      have := hi.cnt_eq (o := some id) (by rw [h0]; rfl) hf
      show upd a.cnt (flow id) (a.cnt (flow id) + -1) f = nItems flow a.items f + 0
      rw [ind_some] at this
      rw [upd_add]
      omega
    · intro f hf
      have hff : f ≠ flow id := by
        rintro rfl
        exact hf (hwid ▸ flow_mem_keys hwp)
      exact ⟨upd_ne _ _ _ _ hff, upd_ne _ _ _ _ hff⟩
    · simp only [A.mu, RPhase.mu, h0]; omega
  | doneHit p id0 w h0 hw =>
    rw [h0] at hrun
    obtain ⟨-, -, hcur, -⟩ := hrun
    refine ⟨ainv_done hi h0 _ rfl rfl rfl rfl rfl rfl rfl rfl rfl rfl rfl
      ⟨rfl, rfl, hcur, hi.sub.subset hw.1, (hi.sub.nodup hi.putsOK.nodup).not_mem_erase, rfl⟩ hnow List.erase_sublist
      (fun f hf => hi.cnt_hand (by rw [h0]; rfl) hw.1 hf) (fun c _ => (nItems_hand hw.1 c).symm), ?_⟩
    have := List.length_erase_of_mem hw.1
    have hpos := List.length_pos_of_mem hw.1
    simp only [A.mu, RPhase.mu, h0, this, A.afterDone]; omega
  | doneBlock p id0 h0 hit =>
    rw [h0] at hrun
    obtain ⟨-, -, hcur, -⟩ := hrun
    refine ⟨ainv_done hi h0 _ rfl rfl rfl rfl rfl rfl rfl rfl rfl rfl rfl
      ⟨fun h1 => absurd hit h1, hcur⟩ (fun _ hx => nomatch hx) (List.Sublist.refl _)
      (fun f hf => hi.cnt_eq (by rw [h0]; rfl) hf) (fun c _ => (add_zero _).symm), ?_⟩
    simp only [A.mu, RPhase.mu, h0, A.afterDone]; omega
  | srcInit arr h0 =>
    have hs := hi.src
    rw [h0] at hs
    obtain ⟨-, ht0, -, hwk, hpu⟩ := hs
    have hnext := srcNext_ok (a := { a with src := srcNext q.time e n arr }) hwk q.time hqG e n
      (by intro x _ w hw; rw [show ({ a with src := srcNext q.time e n arr } : A).puts = a.puts from rfl, hpu] at hw; cases hw)
    refine ⟨ainv_gen hi _ hi.run hrun0 hi.cntOK hi.clsOK hnext.1 hnext.2, ?_⟩
    have := srcNext_mu q.time e n arr
    simp only [A.mu, SPhase.mu, h0] at this ⊢; omega
  | srcPut id arr h0 =>
    refine ⟨ainv_put hi hq h0 _ rfl rfl rfl _ rfl rfl rfl rfl rfl rfl rfl rfl rfl rfl rfl rfl rfl rfl, ?_⟩
    have := srcNext_mu q.time (e + 1) (n + 1) arr
    simp only [A.mu, SPhase.mu, h0, A.afterPut, List.length_append, List.length_singleton] at this ⊢; omega
  | srcEnd h0 =>
    refine ⟨ainv_gen hi _ hi.run hrun0 hi.cntOK hi.clsOK trivial (fun _ hx => nomatch hx), ?_⟩
    simp only [A.mu, SPhase.mu, h0]; omega
  | pendNoop l1 l2 hpe hno =>
    refine ⟨ainv_gen hi _ (hrun.congr (fun q0 hr => ?_) rfl (fun _ h => h) (fun g hr h1 => (hno ⟨h1, g, hr⟩).elim)
      fun _ _ _ _ _ h5 h6 => ⟨h5, h6⟩) hrun0 hi.cntOK hi.clsOK (hpend := KExec.mem_of_split hpe), ?_⟩
    · rw [hr] at hrun
      rw [hrun.2.2.1] at hpe
      simp at hpe
    · simp only [A.mu, hpe, List.length_append, List.length_cons]; omega
  | pendHand g w l1 l2 hpe h0 hw =>
    rw [h0] at hrun
    have hlast : a.last = q.time := hi.pendLast (by rw [hpe]; simp)
    refine ⟨ainv_gen hi _ ⟨rfl, rfl, hrun.2, hi.sub.subset hw.1, (hi.sub.nodup hi.putsOK.nodup).not_mem_erase, hlast⟩ hnow
      (fun f hf => hi.cnt_hand (by rw [h0]; rfl) hw.1 hf) (fun c hc => hi.cls_hand (by rw [h0]; rfl) hw.1 hc)
      (hpend := KExec.mem_of_split hpe) (hitems := List.erase_sublist), ?_⟩
    have := List.length_erase_of_mem hw.1
    have hpos := List.length_pos_of_mem hw.1
    simp only [A.mu, RPhase.mu, h0, hpe, this, List.length_append, List.length_cons]; omega

theorem LInv.keep {h0 new : List (HEv ℚ)} {a a' : A} (hl : LInv a h0) (hp : a'.puts = a.puts) (hr : a'.recv = a.recv)
    (h1 : (new.filterMap fun | HEv.put id t => some (id, t) | _ => none) = [])
    (h2 : (new.filterMap fun | HEv.stamp x => some x | _ => none) = []) : LInv a' (h0 ++ new) :=
  ⟨by rw [List.filterMap_append, hl.puts, hp]; exact (congrArg (_ ++ ·) h1).trans (List.append_nil _),
    by rw [List.filterMap_append, hl.stamps, hp]; exact (congrArg (_ ++ ·) h2).trans (List.append_nil _),
    by rw [hr, hl.recv, hp]⟩

theorem linv_step {h0 : List (HEv ℚ)} (hl : LInv a h0) (h : AStep N scale size F flow cfg n e a q a' new) :
    LInv a' (h0 ++ new) := by
  cases h with
  | srcPut id arr hs =>
    refine ⟨?_, ?_, ?_⟩
    · rw [List.filterMap_append, hl.puts]; exact (List.map_append (l₂ := [putRec size F flow cfg a q.time id])).symm
    · rw [List.filterMap_append, hl.stamps]; exact (List.map_append (l₂ := [putRec size F flow cfg a q.time id])).symm
    · show a.recv + 1 = ((a.puts ++ [_]).length : Int)
      rw [List.length_append, hl.recv]; rfl
  | _ => exact hl.keep rfl rfl rfl rfl

theorem ainv_init {arrivals : List (ℚ × Int)} (hc : CfgOK F cfg) (hg : GridOK scale size F cfg d1 L arrivals)
    (hw : WorkOK N size F flow cfg d1 arrivals) : AInv N scale size F flow cfg d1 L (a0 arrivals) 0 := by
  refine ⟨⟨rfl, rfl, rfl, rfl, rfl, rfl⟩, ⟨rfl, rfl, rfl, hw, rfl⟩, ?_, ?_, List.Sublist.refl _, List.Pairwise.nil, ?_,
    fun _ _ => ⟨fun _ => ⟨rfl, rfl, rfl⟩, fun h => by simp [a0, keysOf] at h⟩, ?_, ?_, ?_, fun h => absurd rfl h,
    fun h => absurd rfl h, onGrid_zero, le_refl _, onGrid_zero, fun _ _ => onGrid_zero, ?_, hc,
    ⟨hg.d1pos, hg.Lpos, hg.sc, hg.div⟩⟩
  · intro u hu; simp [a0] at hu
  · intro x hx
    simp [A.entries, a0, RPhase.entries, SPhase.entries] at hx
    rcases hx with rfl | rfl <;> exact le_refl _
  · intro w hw; simp [a0] at hw
  · intro f _; rfl
  · intro c _; rfl
  · intro c _
    show (false = true ↔ (0 : Int) < 0)
    simp
  · intro x hx
    simp [A.entries, a0, RPhase.entries, SPhase.entries] at hx
    rcases hx with rfl | rfl <;> exact onGrid_zero

theorem linv_init (arrivals : List (ℚ × Int)) : LInv (a0 arrivals) [] := ⟨rfl, rfl, rfl⟩

theorem a0_mu (arrivals : List (ℚ × Int)) : (a0 arrivals).mu = 6 * arrivals.length + 3 := by
  show 1 + (6 * arrivals.length + 2) + 0 + 4 * 0 = _; omega

end WFQK
