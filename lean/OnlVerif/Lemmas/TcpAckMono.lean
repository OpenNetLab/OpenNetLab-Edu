import OnlVerif.Lemmas.TcpSender
/-!
# The sender's acknowledged mark never moves back

`last_ack` is written in one place, the new-ACK block of `put` (`self.last_ack = ackno`), and `put` returns early on an
acknowledgement below the mark (`if ackno < self.last_ack: return`).  So for *every* order in which acknowledgements reach the
sender - no FIFO hypothesis on the return path - `last_ack` is non-decreasing along every run of the sender LTS.
-/

open TcpScalar TcpSpec TcpCC

namespace TcpSender
open Sender

/-- what an accepted action does to the acknowledged mark: nothing, or it is a new ACK (`ackno > last_ack`) and the mark moves
forward to its number -/
theorem step_last_ack_cases {s s' : Sender ℚ} {a : Act ℚ} {outs : List (Tx ℚ)} (h : Inv s) (ha : ActOk a)
    (hs : s.step a = .ok s' outs) :
    s'.last_ack = s.last_ack ∨ ∃ x, a = .ack x ∧ s.last_ack < x.ackno ∧ s'.last_ack = x.ackno :=
  ((step_moved h a ha).2 _ _ hs).la

/-- **an accepted action never moves the acknowledged mark back** - ACKs in any order, with any numbers -/
theorem step_last_ack_mono {s s' : Sender ℚ} {a : Act ℚ} {outs : List (Tx ℚ)} (h : Inv s) (ha : ActOk a)
    (hs : s.step a = .ok s' outs) : s.last_ack ≤ s'.last_ack := by
  rcases step_last_ack_cases h ha hs with e | ⟨x, _, hlt, e⟩
  · exact Nat.le_of_eq e.symm
  · rw [e]; exact Nat.le_of_lt hlt

/-- along every run from a state satisfying the invariant -/
theorem reach_last_ack_mono {s0 s : Sender ℚ} (h0 : Inv s0) (hr : Reach s0 s) : s0.last_ack ≤ s.last_ack := by
  induction hr with
  | init => exact Nat.le_refl _
  | step hr' ha hs ih => exact Nat.le_trans ih (step_last_ack_mono (reach_inv h0 hr') ha hs)

/-- run a list of actions through the sender LTS (`none` as soon as one is not accepted); used by the `example`s of
`Props/C16.lean` -/
def runActs (s : Sender ℚ) : List (Act ℚ) → Option (Sender ℚ)
  | [] => some s
  | a :: rest =>
    match s.step a with
    | .ok s' _ => runActs s' rest
    | _ => none

end TcpSender
