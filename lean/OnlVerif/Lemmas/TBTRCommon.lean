/-!
# The two shapers on the kernel model (TBK, TRK): what a `put` does to the record of put instants

Both kinds of configuration keep `cts`, the instant of the `put` of every packet so far (packet `k` is the `k`-th), and
`items`, the packets in the store.  The next `put` appends the packet `cts.length` to `items` and its instant `x` to `cts`;
what that does to the facts that read `cts` at the stored packets is said here once, on the lists.
-/

namespace PutLog
variable {α β : Type} {cts : List α} {items : List Int} {x d : α}

theorem getD_put_lt {k : Nat} (h : k < cts.length) : (cts ++ [x]).getD k d = cts.getD k d := by
  simp only [List.getD_eq_getElem?_getD, List.getElem?_append_left h]

theorem getD_put_new : (cts ++ [x]).getD (cts.length : Int).toNat d = x := by
  simp [List.getD_eq_getElem?_getD]

/-- what holds of the instants of the stored packets (all known) still holds after a `put` if it holds of the new instant -/
theorem forall_put {P : Int → α → Prop} (hk : ∀ i ∈ items, i.toNat < cts.length) (h : ∀ i ∈ items, P i (cts.getD i.toNat d))
    (hx : P cts.length x) : ∀ i ∈ items ++ [(cts.length : Int)], P i ((cts ++ [x]).getD i.toNat d) := by
  intro i hi
  rcases List.mem_append.mp hi with hi | hi
  · rw [getD_put_lt (hk i hi)]; exact h i hi
  · rw [List.mem_singleton.mp hi, getD_put_new]; exact hx

theorem map_put (f : Int → α → β) (hk : ∀ i ∈ items, i.toNat < cts.length) :
    (items ++ [(cts.length : Int)]).map (fun i => f i ((cts ++ [x]).getD i.toNat d)) =
      items.map (fun i => f i (cts.getD i.toNat d)) ++ [f cts.length x] := by
  rw [List.map_append, List.map_singleton, getD_put_new]
  exact congrArg (· ++ _) (List.map_congr_left fun i hi => by rw [getD_put_lt (hk i hi)])

end PutLog
