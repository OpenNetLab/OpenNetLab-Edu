import OnlVerif.Lemmas.OnceCall
/-! # The invariant through `_resume`, interrupt delivery and the callback loop -/

namespace Once
variable {σ : Type}

theorem InvL.ghost {g g' : Ghost} {s : KState ℚ σ} (hi : InvL g s) (hrun : ∀ p, g.run = some p → g'.run = some p)
    (hlv : g'.lv = true → g.lv = true)
    (hH : ∀ p t, Held g s p t → g'.run ≠ some p → Held g' s p t) : InvL g' s :=
  hi.transfer' (Nat.le_refl _) (fun _ => rfl) (fun _ h => h) hrun hlv (fun p t h _ hr => hH p t h hr)

theorem Inv.ghost_rem {g : Ghost} {s : KState ℚ σ} (hi : Inv g s) (rest : List Cb)
    (hsub : ∀ cb, cb ∈ rest → cb ∈ g.rem) (hcount : ∀ p, rest.count (.resume p) ≤ 1)
    (hkeep : ∀ p, Cb.resume p ∈ g.rem → Cb.resume p ∈ rest) :
    Inv { g with rem := rest } s := by
  refine ⟨hi.c.ghost hsub hcount rfl (fun p hp => hi.c.pend p (Or.inr hp)), hi.q,
    hi.l.ghost (fun _ h => h) (fun h => h) ?_, hi.s⟩
  intro p t h _
  rcases h with ⟨h1, h2⟩ | h | h
  · exact Or.inl ⟨h1, hkeep p h2⟩
  · exact Or.inr (Or.inl h)
  · exact Or.inr (Or.inr h)

theorem Inv.ghost_run {g : Ghost} {s : KState ℚ σ} (hi : Inv g s) (p : EvId)
    (h : (s.ev p).out = none ∧ (s.ev p).kind = .proc ∧ Unreg s p) (hg : g.run = none) :
    Inv { g with run := some p } s :=
  ⟨hi.c.ghost (fun _ h => h) hi.c.rem_count rfl (fun p' hp' => by cases hp'; exact h), hi.q,
    hi.l.ghost (fun p' hp' => by rw [hg] at hp'; cases hp') (fun h => h) (fun _ _ h _ => h), hi.s⟩

theorem Inv.ghost_pop_run {g : Ghost} {s : KState ℚ σ} (hi : Inv g s) (p : EvId) (rest : List Cb)
    (hrem : g.rem = .resume p :: rest) (hg : g.run = none) : Inv { g with rem := rest, run := some p } s := by
  have hsub : ∀ c, c ∈ rest → c ∈ g.rem := fun c hc => by rw [hrem]; exact List.mem_cons_of_mem _ hc
  have hcnt : ∀ q, rest.count (.resume q) ≤ 1 := by
    intro q
    have := hi.c.rem_count q
    rw [hrem, List.count_cons] at this
    omega
  refine ⟨hi.c.ghost hsub hcnt rfl ?_, hi.q, hi.l.ghost (fun p' hp' => by rw [hg] at hp'; cases hp') (fun h => h) ?_, hi.s⟩
  · intro p' hp'
    cases hp'
    exact hi.c.pend p (Or.inl (by rw [hrem]; exact List.mem_cons_self))
  · intro q t h hr
    rcases h with ⟨h1, h2⟩ | h | h
    · refine Or.inl ⟨h1, ?_⟩
      rw [hrem] at h2
      rcases List.mem_cons.mp h2 with h2 | h2
      · cases h2; exact absurd rfl hr
      · exact h2
    · exact Or.inr (Or.inl h)
    · exact Or.inr (Or.inr h)

theorem InvL.unrun {g : Ghost} {s : KState ℚ σ} (hi : InvL g s) (p : EvId) (hg : g.run = some p)
    (h : g.lv = true → ∀ pr, s.proc? p = some pr → (s.ev p).out = none → ∃ t, pr.target = some t ∧ t < s.events.size ∧
      Held { g with run := none } s p t) :
    InvL { g with run := none } s := by
  constructor
  intro hlv p' pr hpp hout _
  by_cases hp : p' = p
  · subst hp; exact h hlv pr hpp hout
  · exact hi.live hlv p' pr hpp hout (by rw [hg]; intro hc; cases hc; exact hp rfl)

theorem Inv.ghost_unrun {g : Ghost} {s : KState ℚ σ} (hi : Inv g s) (p : EvId) (hg : g.run = some p)
    (h : g.lv = true → ∀ pr, s.proc? p = some pr → (s.ev p).out = none → ∃ t, pr.target = some t ∧ t < s.events.size ∧
      Held { g with run := none } s p t) :
    Inv { g with run := none } s :=
  ⟨hi.c.idle, hi.q, hi.l.unrun p hg h, hi.s⟩

theorem Inv.deliver {g : Ghost} {s : KState ℚ σ} (hi : Inv g s) (p e : EvId) : Inv g (deliver s p e).1 := by
  show Inv g (deliverSt s p e)
  unfold deliverSt
  split
  · exact (hi.active _).defuse e
  · exact hi.active _

theorem Inv.register {g : Ghost} {s s3 : KState ℚ σ} (p e' : EvId) (hg : g.run = some p) (hi : Inv g s)
    (hnr : Cb.resume p ∉ g.rem) (hy : SafeYield s p e')
    (hpr : ∃ pr, s.proc? p = some pr ∧ pr.target = some e') (hr : _root_.register s p e' = some s3) :
    Inv { g with run := none } s3 := by
  unfold _root_.register at hr
  split at hr
  · cases hr
  · rename_i hnp
    cases hr
    apply Inv.active
    obtain ⟨L, hL⟩ : ∃ L, (s.ev e').cbs = some L := by
      cases hc : (s.ev e').cbs with
      | none => exact absurd (by unfold KState.processed; rw [hc]; rfl) hnp
      | some L => exact ⟨L, rfl⟩
    obtain ⟨hout, _, hunreg⟩ := hi.c.pend p (Or.inr hg)
    refine ⟨hi.c.idle.mapCbs e' (· ++ [Cb.resume p]) ?_, hi.q.mapCbs e' _,
      (hi.l.mapCbs e' _ (fun _ _ _ hm _ => List.mem_append_left _ hm)).unrun p hg ?_, hi.s.mapCbs e' _⟩
    · -- the appended `_resume p` is the one registration of `p`
      intro L1 hL1
      rw [hL] at hL1; cases hL1
      refine .append L (fun q hq => ?_) (fun iv h => by cases h) (fun c h => by cases h)
      cases hq
      refine ⟨hout, hpr, ?_, hy.2, hnr, by simp⟩
      rw [List.count_append, List.count_eq_zero.mpr (hunreg e' L hL)]; simp
    · -- `p` is held by its new target
      intro _ pr hpp _
      obtain ⟨pr0, hp0, ht0⟩ := hpr
      have hpp' : s.proc? p = some pr := hpp
      rw [hp0] at hpp'; cases hpp'
      exact ⟨e', ht0, by rw [size_setEv]; exact hy.1,
        Or.inr (Or.inl ⟨L ++ [.resume p], by rw [cbs_mapCbs, if_pos rfl, hL]; rfl, by simp⟩)⟩

theorem Inv.setProc_unreg {g : Ghost} {s : KState ℚ σ} (hi : Inv g s) (p : EvId) (pr : ProcRec σ)
    (hk : (s.ev p).kind = .proc) (hu : Unreg s p) (hl : (s.ev p).out ≠ none ∨ g.run = some p) :
    Inv g (s.setProc p pr) := by
  refine ⟨hi.c.setProc p pr hk (fun e L hL hm => absurd hm (hu e L hL)),
    hi.q.keep (fun _ => rfl) (fun _ => rfl) (fun e h _ => ⟨rfl, h⟩), ⟨?_⟩,
    hi.s.same rfl (fun _ => rfl) (fun _ => Iff.rfl)⟩
  intro hlv p' pr' hpp hout hrun
  rw [proc?_setProc] at hpp
  split at hpp
  · rename_i h; subst h
    rcases hl with h | h
    · exact absurd hout h
    · exact absurd h hrun
  · exact hi.l.live hlv p' pr' hpp hout hrun

theorem Inv.setProc_run {g : Ghost} {s : KState ℚ σ} (p : EvId) (pr : ProcRec σ) (hg : g.run = some p) (hi : Inv g s) :
    Inv g (s.setProc p pr) :=
  have hpend := hi.c.pend p (Or.inr hg)
  hi.setProc_unreg p pr hpend.2.1 hpend.2.2 (Or.inr hg)

/-- **`finishProc`**: the process's own event is triggered — it was pending, and is scheduled for the first time -/
theorem Inv.finishProc {g : Ghost} {s : KState ℚ σ} (p : EvId) (pr : ProcRec σ) (o : Outcome) (hg : g.run = some p)
    (hi : Inv g s) (hnr : Cb.resume p ∉ g.rem) : Inv { g with run := none } (_root_.finishProc s p pr o) := by
  obtain ⟨hout, hkind, hunreg⟩ := hi.c.pend p (Or.inr hg)
  have hlt : p < s.events.size := lt_of_proc s p hkind
  have hcb := (cbs_trigger s p · o)
  have hk := (kind_trigger s p · o)
  have hop : ((s.trigger p o).ev p).out ≠ none := by rw [ev_trigger, if_pos ⟨rfl, hlt⟩]; simp
  -- the trigger: `p` stops being the running process in the moment it is finished
  have h1 : Inv { g with run := none } (s.trigger p o) := by
    refine ⟨hi.c.idle.trigger' p o hlt hout (Or.inr ⟨hunreg, hnr, by simp⟩),
      hi.q.keep (fun _ => rfl) (fun _ => rfl) ?_,
      (hi.l.trigger p o).unrun p hg (fun _ _ _ ho => absurd ho hop), hi.s.trigger p o⟩
    intro e ho hreq
    have hne : e ≠ p := by
      rintro rfl
      rw [hkind] at hreq
      rcases hreq with ⟨r, hr⟩ | ⟨r, hr⟩ <;> cases hr
    rw [ev_trigger_ne s p e o hne]; exact ⟨rfl, ho⟩
  unfold _root_.finishProc
  exact ((h1.emit _).setProc_unreg p _ (by rw [← hkind]; exact hk p)
    (fun e L hL => hunreg e L (by rw [← hcb]; exact hL)) (Or.inl hop)).active none

/-- **`_resume` keeps the invariant**: the process that runs is registered nowhere; when the loop ends it is
registered exactly once on its new target, or finished and scheduled exactly once. -/
theorem Inv.resume (body : σ → Resume → Burst ℚ σ) (p : EvId) {g : Ghost} (hg : g.run = some p)
    (hnr : Cb.resume p ∉ g.rem) : ∀ (fuel : Nat) (e : EvId) (s : KState ℚ σ), Inv g s →
    (fuel = 0 → g.lv = true → ∀ pr, s.proc? p = some pr → (s.ev p).out = none → ∃ t, pr.target = some t ∧ t < s.events.size ∧
      (s.ev t).cbs = none) →
    SafeResume body p fuel e s → (g.strict = true → NoHangResume body p fuel e s) →
    Inv { g with run := none } (_root_.resume body p fuel e s)
  | 0, e, s, hi, h0, _, hh => by
    refine hi.ghost_unrun p hg ?_
    intro hlv pr hpp hout
    rcases Bool.eq_false_or_eq_true g.strict with hst | hst
    · exact absurd (hh hst) (by simp [NoHangResume])
    · obtain ⟨t, h1, h2, h3⟩ := h0 rfl hlv pr hpp hout
      exact ⟨t, h1, h2, Or.inr (Or.inr ⟨hst, h3⟩)⟩
  | fuel + 1, e, s, hi, _, hs, hh => by
    unfold _root_.resume
    unfold SafeResume at hs
    unfold NoHangResume at hh
    split
    · rename_i hp
      exact hi.ghost_unrun p hg (fun _ pr hpp => by rw [hp] at hpp; cases hpp)
    · rename_i pr hp
      rw [hp] at hs hh
      simp only at hs hh ⊢
      obtain ⟨hsb, hs2⟩ := hs
      have hi1 : Inv g ((_root_.deliver s p e).1.emit (.resumed p (_root_.deliver s p e).2 (_root_.deliver s p e).1.now)) :=
        (hi.deliver p e).emit _
      have hib := Inv.runBurst p _ _ hi1 hsb
      have hy := SafeBurst.yielded p _ _ hsb
      generalize _root_.runBurst p (body pr.st (_root_.deliver s p e).2)
        ((_root_.deliver s p e).1.emit (.resumed p (_root_.deliver s p e).2 (_root_.deliver s p e).1.now)) = bt at hib hy hs2 hh ⊢
      split
      · exact Inv.finishProc p pr _ hg hib hnr
      · exact Inv.finishProc p pr _ hg hib hnr
      · rename_i e' st' hbt
        rw [hbt] at hs2 hh
        simp only at hs2 hh
        have hye := hy e' st' hbt
        have hi2 : Inv g (bt.1.setProc p { st := st', target := some e' }) := Inv.setProc_run p _ hg hib
        have hye2 : SafeYield (bt.1.setProc p { st := st', target := some e' }) p e' := hye
        have hpr2 : ∃ pr', (bt.1.setProc p { st := st', target := some e' }).proc? p = some pr' ∧ pr'.target = some e' :=
          ⟨_, by rw [proc?_setProc, if_pos rfl], rfl⟩
        split
        · rename_i s3 hr
          exact Inv.register p e' hg hi2 hnr hye2 hpr2 hr
        · rename_i hr
          rw [hr] at hs2 hh
          simp only at hs2 hh
          refine Inv.resume body p hg hnr fuel e' _ hi2 ?_ hs2 hh
          intro _ _ pr' hpp' _
          have hpp2 : (bt.1.setProc p { st := st', target := some e' }).proc? p = some pr' := hpp'
          rw [proc?_setProc, if_pos rfl] at hpp2
          cases hpp2
          -- `register` refused: the yielded event is processed already
          refine ⟨e', rfl, hye.1, ?_⟩
          unfold _root_.register at hr
          split at hr
          · rename_i hproc
            exact Option.isNone_iff_eq_none.mp hproc
          · cases hr

theorem Inv.detach {g : Ghost} {s : KState ℚ σ} (hi : Inv g s) (p t : EvId) (pr : ProcRec σ) (hg : g.run = none)
    (hp : s.proc? p = some pr) (ht : pr.target = some t) (hout : (s.ev p).out = none) :
    Inv { g with run := some p } (s.eraseCb t (.resume p)) := by
  have hgone : ∀ L, (s.ev t).cbs = some L → Cb.resume p ∉ L.erase (.resume p) := by
    intro L hL hm
    have hc := (hi.c.reg t L p hL (List.mem_of_mem_erase hm)).2.2.1
    have : (L.erase (.resume p)).count (.resume p) = 0 := by rw [List.count_erase_self, hc]
    exact absurd hm (List.count_eq_zero.mp this)
  have hunreg : Unreg (s.eraseCb t (.resume p)) p := by
    intro e L' hL' hm
    rw [cbs_eraseCb] at hL'
    split at hL'
    · obtain ⟨L, h1, h2⟩ := Option.map_eq_some_iff.mp hL'
      rw [← h2] at hm; exact hgone L h1 hm
    · rename_i he
      exact he (Option.some.inj ((hi.c.reg_target hL' hm hp).symm.trans ht))
  have hc1 : InvC g (s.eraseCb t (.resume p)) := by
    refine hi.c.mapCbs t (·.erase (.resume p)) (fun L hL => ⟨fun q hm => Or.inl ⟨List.mem_of_mem_erase hm, ?_⟩,
      fun iv hm => List.mem_of_mem_erase hm, fun c hm => Or.inl (List.mem_of_mem_erase hm)⟩)
    by_cases hq : q = p
    · rw [hq] at hm; exact absurd hm (hgone L hL)
    · exact List.count_erase_of_ne (fun h => hq (by cases h; rfl))
  refine ⟨hc1.ghost (fun _ h => h) hi.c.rem_count rfl ?_, hi.q.mapCbs t _,
    hi.l.mapCbs t _ ?_ (fun q hq => by rw [hg] at hq; cases hq), hi.s.mapCbs t _⟩
  · intro p' hp'
    cases hp'
    exact ⟨(out_mapCbs s t p _).trans hout, (kind_mapCbs s t p _).trans (hi.c.procs p pr hp), hunreg⟩
  · intro L q _ hm hrun
    exact (List.mem_erase_of_ne (fun h => by cases h; exact hrun rfl)).mpr hm

theorem Inv.ghost_run_idle {g : Ghost} {s : KState ℚ σ} (hi : Inv g s) (p : EvId) (pr : ProcRec σ) (hg : g.run = none)
    (hp : s.proc? p = some pr) (ht : pr.target = none) (hout : (s.ev p).out = none) :
    Inv { g with run := some p } s := by
  refine hi.ghost_run p ⟨hout, hi.c.procs p pr hp, ?_⟩ hg
  intro e L hL hm
  cases (hi.c.reg_target hL hm hp).symm.trans ht

theorem Inv.resume_idle (body : σ → Resume → Burst ℚ σ) (p : EvId) {g : Ghost} (hg : g.run = none)
    (hnr : Cb.resume p ∉ g.rem) {fuel : Nat} (hfuel : g.lv = true → 0 < fuel) (e : EvId) (s : KState ℚ σ)
    (hi : Inv { g with run := some p } s) (hs : SafeResume body p fuel e s)
    (hh : g.strict = true → NoHangResume body p fuel e s) : Inv g (_root_.resume body p fuel e s) := by
  have hback : ({ { g with run := some p } with run := none } : Ghost) = g := by
    cases g; simp only at hg; subst hg; rfl
  rw [← hback]
  refine Inv.resume body p (g := { g with run := some p }) rfl hnr fuel e s hi ?_ hs hh
  intro hf hlv
  exact absurd (hfuel hlv) (by rw [hf]; exact Nat.lt_irrefl 0)

theorem Inv.deliverInterrupt (body : σ → Resume → Burst ℚ σ) (fuel : Nat) (iv p : EvId) {g : Ghost} {s : KState ℚ σ}
    (hi : Inv g s) (hg : g.run = none) (hnr : Cb.resume p ∉ g.rem) (hfuel : g.lv = true → 0 < fuel)
    (hs : SafeIntr body fuel iv p s) (hh : g.strict = true → NoHangIntr body fuel iv p s) :
    Inv g (_root_.deliverInterrupt body fuel iv p s) := by
  unfold _root_.deliverInterrupt
  unfold SafeIntr at hs
  unfold NoHangIntr at hh
  split
  · exact hi
  · rename_i hnt
    rw [if_neg hnt] at hs hh
    have hout := out_none_of_not_triggered s p hnt
    split
    · exact hi
    · rename_i pr hp
      rw [hp] at hs hh
      simp only at hs hh
      split
      · rename_i t ht
        rw [ht] at hs hh
        exact Inv.resume_idle body p hg hnr hfuel iv _ (hi.detach p t pr hg hp ht hout) hs hh
      · rename_i ht
        rw [ht] at hs hh
        exact Inv.resume_idle body p hg hnr hfuel iv _ (hi.ghost_run_idle p pr hg hp ht hout) hs hh

theorem count_le_one_tail {cb : Cb} {rest : List Cb} (h : ∀ p, (cb :: rest).count (.resume p) ≤ 1) :
    ∀ p, rest.count (.resume p) ≤ 1 := by
  intro p
  have := h p
  rw [List.count_cons] at this
  omega

theorem not_mem_tail_of_count {p : EvId} {rest : List Cb} (h : (Cb.resume p :: rest).count (.resume p) ≤ 1) :
    Cb.resume p ∉ rest := by
  rw [List.count_cons_self] at h
  intro hm
  have := List.count_pos_iff.mpr hm
  omega

theorem Inv.ghost_drop {g : Ghost} {s : KState ℚ σ} (hi : Inv g s) (cb : Cb) (rest : List Cb)
    (hrem : g.rem = cb :: rest) (hne : ∀ p, cb ≠ .resume p) : Inv { g with rem := rest } s := by
  refine hi.ghost_rem rest (fun c hc => by rw [hrem]; exact List.mem_cons_of_mem _ hc)
    (count_le_one_tail (by rw [← hrem]; exact hi.c.rem_count)) ?_
  intro p hp
  rw [hrem] at hp
  exact (List.mem_cons.mp hp).resolve_left (fun h => hne p h.symm)

theorem Inv.runCb (body : σ → Resume → Burst ℚ σ) (fuel : Nat) {g : Ghost} (l : LoopSt ℚ σ) (cb : Cb) (rest : List Cb)
    (hrem : g.rem = cb :: rest) (hg : g.run = none) (hfuel : g.lv = true → 0 < fuel)
    (hi : Inv g l.s) (hs : SafeCb body fuel g.e0 l.s cb) (hh : g.strict = true → NoHangCb body fuel g.e0 l.s cb) :
    Inv { g with rem := rest } (_root_.runCb body fuel g.e0 l cb).s := by
  have hsub : ∀ c, c ∈ rest → c ∈ g.rem := fun c hc => by rw [hrem]; exact List.mem_cons_of_mem _ hc
  have hw : (∀ p, cb ≠ .resume p) → Inv { g with rem := rest } l.s := hi.ghost_drop cb rest hrem
  unfold _root_.runCb
  simp only
  cases cb with
  | resume p =>
    simp only
    have hnr : Cb.resume p ∉ rest := not_mem_tail_of_count (by rw [← hrem]; exact hi.c.rem_count p)
    exact Inv.resume_idle body p (g := { g with rem := rest }) hg hnr hfuel g.e0 l.s (hi.ghost_pop_run p rest hrem hg) hs hh
  | probe tag => exact (hw (fun p h => by cases h)).emit _
  | stop => exact hw (fun p h => by cases h)
  | intr iv =>
    simp only
    simp only [SafeCb] at hs
    simp only [NoHangCb] at hh
    have hw' := hw (fun p h => by cases h)
    split
    · rename_i p hk
      rw [hk] at hs hh
      simp only at hs hh
      have hiv : iv = g.e0 := hi.c.rem_intr iv (by rw [hrem]; exact List.mem_cons_self)
      have hnr : Cb.resume p ∉ rest := by
        intro hm
        have := (hi.c.pend_intr p (hsub _ hm)).2
        rw [← hiv, hk] at this
        exact this rfl
      exact Inv.deliverInterrupt body fuel iv p hw' hg hnr hfuel hs hh
    · exact hw'
  | check c =>
    exact (hw (fun p h => by cases h)).condCheck c _ (hi.c.rem_check c (by rw [hrem]; exact List.mem_cons_self))
  | build c => exact (hw (fun p h => by cases h)).condBuild c
  | trigPut r => exact (hw (fun p h => by cases h)).triggerPut r
  | trigGet r => exact (hw (fun p h => by cases h)).triggerGet r

theorem Inv.foldCbs (body : σ → Resume → Burst ℚ σ) (fuel : Nat) : ∀ (cbs : List Cb) (g : Ghost) (l : LoopSt ℚ σ),
    g.rem = cbs → g.run = none → (g.lv = true → 0 < fuel) → Inv g l.s → SafeCbs body fuel g.e0 cbs l →
    (g.strict = true → NoHangCbs body fuel g.e0 cbs l) →
    Inv { g with rem := [] } (cbs.foldl (_root_.runCb body fuel g.e0) l).s
  | [], g, l, hrem, _, _, hi, _, _ => by
    have : ({ g with rem := [] } : Ghost) = g := by cases g; simp only at hrem; subst hrem; rfl
    rw [this]; exact hi
  | cb :: rest, g, l, hrem, hg, hfuel, hi, hs, hh => by
    simp only [List.foldl_cons]
    have h1 := Inv.runCb body fuel l cb rest hrem hg hfuel hi hs.1 (fun h => (hh h).1)
    exact Inv.foldCbs body fuel rest { g with rem := rest } _ rfl hg hfuel h1 hs.2 (fun h => (hh h).2)

end Once
