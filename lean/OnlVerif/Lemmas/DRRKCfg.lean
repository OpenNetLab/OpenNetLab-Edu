import OnlVerif.Lemmas.DRRKLoop
import OnlVerif.Lemmas.DRRKAbs
import OnlVerif.Lemmas.KProc
/-!
# The DRR scheduler on the kernel model: its configurations as configurations of cooperating processes

What `cfgOf a` (the thread of `run`, the threads of the source and of the sender, the pending `StorePut` events, the `F + 1`
stores) says about the kernel state (`KInv.ag`, `KInv.res_tok`, `KInv.res_flow`), how its pieces behave under the operations of
the machine of `Lemmas/KProcDefs.lean`, and `StepsTo.of_ginv`: a kernel step that ends in a state which is the configuration
`c'` the machine has computed ends in the configuration `a'` that `c'` displays.
-/

namespace DRRK
open DRROnK
open KProc

variable {flow : Int → Nat} {F : Nat} {Q : Nat → ℚ} {s : KS} {a : A} {st0 : St} {reg : Regs}

/-! ## the stores -/

theorem storesOf_tok (gq : List EvId) (tk : Nat) (items : Nat → List Int) :
    storesOf F gq tk items 0 = some { getQ := gq, items := List.replicate tk 1 } := rfl

theorem storesOf_flow (gq : List EvId) (tk : Nat) (items : Nat → List Int) {c : Nat} (hc : c < F) :
    storesOf F gq tk items (flowStore c) = some { items := items c } := by
  rw [flowStore, Nat.add_comm]
  exact if_pos hc

/-- the stores after `l` has become the content of the store of class `c` -/
theorem storesOf_set_flow (gq : List EvId) (tk : Nat) (items : Nat → List Int) {c : Nat} (hc : c < F) (l : List Int) :
    KProc.upd (storesOf F gq tk items) (flowStore c) (some { items := l }) = storesOf F gq tk (upd items c l) := by
  funext r
  cases r with
  | zero => exact if_neg (show ¬ 0 = 1 + c by omega)
  | succ r' =>
    show (if r' + 1 = flowStore c then _ else _) = if r' < F then some ({ items := upd items c l r' } : HStore) else none
    unfold flowStore upd
    by_cases h : r' = c
    · subst h; rw [if_pos (Nat.add_comm _ _), if_pos hc, if_pos rfl]
    · rw [if_neg (show ¬ r' + 1 = 1 + c by omega), if_neg h]; rfl

/-- the stores after a change of the wake-up store -/
theorem storesOf_set_tok (gq gq' : List EvId) (tk tk' : Nat) (items : Nat → List Int) :
    KProc.upd (storesOf F gq tk items) 0 (some { getQ := gq', items := List.replicate tk' 1 }) = storesOf F gq' tk' items := by
  funext r
  cases r <;> rfl

/-! ## the threads -/

theorem pid_runThread (r : RPhase) : (runThread flow r).pid = 0 := by cases r <;> rfl

theorem pid_srcThreads {sp : SPhase} {th : Thread St} (h : th ∈ srcThreads st0 sp) : th.pid = 2 := by
  cases sp <;> simp only [srcThreads, List.mem_singleton, List.not_mem_nil] at h <;> subst h <;> rfl

theorem src_mem {th : Thread St} (h : th ∈ srcThreads st0 a.src) : th ∈ (cfgOf flow F a reg st0).threads :=
  List.mem_cons_of_mem _ (List.mem_append_left _ h)

theorem child_mem {th : Thread St} (h : th ∈ childThreads a.run) : th ∈ (cfgOf flow F a reg st0).threads :=
  List.mem_cons_of_mem _ (List.mem_append_right _ h)

theorem getQ_eq_nil {r : RPhase} (h : ¬ ∃ g, r = .W g) : r.getQ = [] := by
  cases r <;> first | rfl | exact absurd ⟨_, rfl⟩ h

theorem entries_cfgOf : (cfgOf flow F a reg st0).entries.Perm a.entries := by
  have h2 : (srcThreads st0 a.src).flatMap (·.wait.entries) = a.src.entries := by cases a.src <;> rfl
  simp only [Cfg.entries, cfgOf, List.flatMap_cons, List.flatMap_append, h2, List.flatMap_nil, List.nil_append, A.entries,
    pendEntries]
  cases a.run <;>
    simp only [runThread, childThreads, Wait.entries, RPhase.entries, List.flatMap_cons, List.flatMap_nil, List.append_nil,
      List.nil_append, List.append_assoc, List.Perm.refl]
  all_goals exact List.perm_append_comm_assoc ..

theorem KInv.ag (hk : KInv flow F Q s a) : s.agenda.Perm a.entries :=
  let ⟨_, hg⟩ := hk.cfg
  hg.ag.trans entries_cfgOf

theorem KInv.res_tok (hk : KInv flow F Q s a) :
    s.res 0 = HStore.toRes { getQ := a.run.getQ, items := List.replicate a.tokens 1 } :=
  let ⟨_, hg⟩ := hk.cfg
  (hg.stores 0 _ rfl).2

theorem KInv.res_flow (hk : KInv flow F Q s a) {c : Nat} (hc : c < F) : s.res (flowStore c) = HStore.toRes { items := a.items c } :=
  let ⟨_, hg⟩ := hk.cfg
  (hg.stores (flowStore c) _ (storesOf_flow _ _ _ hc)).2

theorem srcThreads_ne_zero {sp : SPhase} : ∀ th ∈ srcThreads st0 sp, th.pid ≠ 0 := fun th h => by
  rw [pid_srcThreads h]; decide

/-- between steps an agenda entry is identified by its event -/
theorem KInv.entry_of_ev (hk : KInv flow F Q s a) {x y : QEntry ℚ} (hx : x ∈ s.agenda) (hy : y ∈ s.agenda) (he : x.ev = y.ev) :
    x = y :=
  let ⟨_, hg⟩ := hk.cfg
  hg.entry_of_ev rfl (hg.ag.subset hx) (hg.ag.subset hy) he

/-- what the kernel state says about `run` and about its sender -/
theorem KInv.threads (hk : KInv flow F Q s a) : TInv s (runThread flow a.run) ∧ ∀ th ∈ childThreads a.run, TInv s th :=
  let ⟨_, hg⟩ := hk.cfg
  ⟨hg.th _ List.mem_cons_self, fun th h => hg.th th (child_mem h)⟩

/-- the processes of a configuration are older than the next event, and the sender is neither `run` nor the source -/
theorem pids_cfgOf (hg : GInv s (cfgOf flow F a reg st0)) :
    0 ≠ s.events.size ∧ (∀ th ∈ srcThreads st0 a.src, th.pid ≠ s.events.size) ∧
    ∀ th ∈ childThreads a.run, th.pid ≠ 0 ∧ th.pid ≠ s.events.size ∧ ∀ th' ∈ srcThreads st0 a.src, th.pid ≠ th'.pid := by
  have hnd := hg.pids
  simp only [cfgOf, List.map_cons, List.map_append, pid_runThread, List.nodup_cons, List.mem_append, List.mem_map, not_or,
    not_exists, not_and, List.nodup_append] at hnd
  obtain ⟨⟨-, h0c⟩, -, -, hsc⟩ := hnd
  have hlt := fun th h => Nat.ne_of_lt (hg.plt th h)
  exact ⟨(pid_runThread (flow := flow) a.run) ▸ hlt _ List.mem_cons_self,
    fun th h => hlt th (List.mem_cons_of_mem _ (List.mem_append_left _ h)),
    fun th h => ⟨fun e => h0c th h e, hlt th (List.mem_cons_of_mem _ (List.mem_append_right _ h)),
      fun th' h' e => hsc _ ⟨th', h', rfl⟩ _ ⟨th, h, rfl⟩ e.symm⟩⟩

end DRRK
