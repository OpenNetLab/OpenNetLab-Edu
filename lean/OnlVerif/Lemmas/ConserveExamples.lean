import OnlVerif.Lemmas.ConserveStore
import OnlVerif.Lemmas.ConserveTrace
import OnlVerif.Lemmas.ConserveFifo
import OnlVerif.Lemmas.ConserveDecide
/-!
# Concrete runs used as non-vacuity witnesses by `Props/C06.lean` and `Props/C07.lean`

Each example is a real program (`body`) run by the model's `step` from an initial environment that holds one
spawned process; everything about the resulting states is evaluated by `decide`.
-/

namespace Conserve

theorem noReq_of_bounded {σ : Type} (s : KState ℚ σ) (h : ∀ e, e < s.events.size → isReq s e = false) :
    ∀ e, isReq s e = false := by
  intro e
  by_cases he : e < s.events.size
  · exact h e he
  · cases hr : isReq s e with
    | false => rfl
    | true => exact absurd (lt_size_of_isReq hr) he

def stepSt {σ : Type} (body : σ → Resume → Burst ℚ σ) (fuel : Nat) (s : KState ℚ σ) : KState ℚ σ :=
  ((step body fuel s).state?).getD s

theorem stepSt_spec {σ : Type} (body : σ → Resume → Burst ℚ σ) (fuel : Nat) (s : KState ℚ σ)
    (h : ((step body fuel s).state?).isSome = true) : (step body fuel s).state? = some (stepSt body fuel s) := by
  obtain ⟨s1, h1⟩ := Option.isSome_iff_exists.mp h
  unfold stepSt; rw [h1]; rfl

/-- the environment after `env.process(body(st))` on a fresh environment with resources `rs` -/
def spawned {σ : Type} (rs : Array ResRec) (st : σ) : KState ℚ σ :=
  (doCall ({ now := 0, resources := rs } : KState ℚ σ) 0 (.spawn st)).1

theorem spawned_wf {σ : Type} (rs : Array ResRec) (st : σ)
    (h : ∀ r, (rs.getD r default).putQ = [] ∧ (rs.getD r default).getQ = []) : WF (spawned rs st) :=
  (Base.crel.doCall _ (WF.init 0 rs h) 0 (.spawn st) trivial).keepWF (WF.init 0 rs h)

theorem spawned_noReq {σ : Type} (rs : Array ResRec) (st : σ) : ∀ e, isReq (spawned rs st) e = false := by
  apply noReq_of_bounded
  intro e he
  have hsz : (spawned rs st).events.size = 2 := rfl
  rw [hsz] at he
  have : e = 0 ∨ e = 1 := by omega
  rcases this with h | h <;> subst h <;> rfl

theorem queues_empty_of_all (rs : Array ResRec) (h : ∀ i, i < rs.size → (rs.getD i default).putQ = [] ∧ (rs.getD i default).getQ = []) :
    ∀ r, (rs.getD r default).putQ = [] ∧ (rs.getD r default).getQ = [] := by
  intro r
  by_cases hr : r < rs.size
  · exact h r hr
  · have : rs.getD r default = default := by
      simp only [Array.getD_eq_getD_getElem?]
      rw [Array.getElem?_eq_none (Nat.le_of_not_lt hr)]; rfl
    rw [this]; exact ⟨rfl, rfl⟩

namespace ExContainer

/-- `yield c.put(3); yield c.put(2); yield c.get(4)` issued in one burst on `Container(capacity=10, init=1)` -/
def body : Nat → Resume → Burst ℚ Nat := fun _ _ =>
  .call (.cput 0 3) fun _ => .call (.cput 0 2) fun _ => .call (.cget 0 4) fun _ => .ret .none

def rs : Array ResRec := #[{ kind := .container, capacity := some 10, level := 1 }]
def s0 : KState ℚ Nat := spawned rs 0
def s1 : KState ℚ Nat := stepSt body 5 s0

theorem noTrig : ∀ st rs, NoTrig (body st rs) := fun _ _ =>
  .call _ _ rfl fun _ => .call _ _ rfl fun _ => .call _ _ rfl fun _ => .ret _

theorem wf0 : WF s0 := spawned_wf rs 0 (queues_empty_of_all rs (by decide))
theorem noReq0 : ∀ e, isReq s0 e = false := spawned_noReq rs 0

theorem reach : SafeReach body 5 s0 s1 :=
  SafeReach.step SafeReach.init (stepOK_of_noTrig body noTrig 5 s0) (stepSt_spec body 5 s0 (by decide))

end ExContainer

namespace ExStore

/-- `yield st.put(7); yield st.put(5); yield st.put(9); yield st.get()` issued in one burst on `Store(capacity=2)`:
the third put has to wait until the get has taken the oldest item -/
def body : Nat → Resume → Burst ℚ Nat := fun _ _ =>
  .call (.sput 0 7) fun _ => .call (.sput 0 5) fun _ => .call (.sput 0 9) fun _ => .call (.sget 0 0) fun _ => .ret .none

def rs : Array ResRec := #[{ kind := .store, capacity := some 2 }]
def s0 : KState ℚ Nat := spawned rs 0
def s1 : KState ℚ Nat := stepSt body 5 s0
def s2 : KState ℚ Nat := stepSt body 5 s1
def s3 : KState ℚ Nat := stepSt body 5 s2
def s4 : KState ℚ Nat := stepSt body 5 s3

theorem noTrig : ∀ st rs, NoTrig (body st rs) := fun _ _ =>
  .call _ _ rfl fun _ => .call _ _ rfl fun _ => .call _ _ rfl fun _ => .call _ _ rfl fun _ => .ret _

theorem wf0 : WF s0 := spawned_wf rs 0 (queues_empty_of_all rs (by decide))
theorem noReq0 : ∀ e, isReq s0 e = false := spawned_noReq rs 0

theorem sorted0 : QSorted s0 := QSorted.of_empty s0 (queues_empty_of_all rs (by decide))

theorem reach1 : SafeReach body 5 s0 s1 :=
  SafeReach.step SafeReach.init (stepOK_of_noTrig body noTrig 5 s0) (stepSt_spec body 5 s0 (by decide))
theorem reach2 : SafeReach body 5 s0 s2 :=
  SafeReach.step reach1 (stepOK_of_noTrig body noTrig 5 s1) (stepSt_spec body 5 s1 (by decide +kernel))
theorem reach3 : SafeReach body 5 s0 s3 :=
  SafeReach.step reach2 (stepOK_of_noTrig body noTrig 5 s2) (stepSt_spec body 5 s2 (by decide +kernel))
theorem reach4 : SafeReach body 5 s0 s4 :=
  SafeReach.step reach3 (stepOK_of_noTrig body noTrig 5 s3) (stepSt_spec body 5 s3 (by decide +kernel))

end ExStore

namespace ExPrio

/-- `PriorityResource(capacity=1)`: one burst issues `request(priority=2)` (granted at once), then `request(priority=1)`,
`request(priority=0)`, `request(priority=1)` (queued, sorted by priority, ties in arrival order), then releases the first -/
def body : Nat → Resume → Burst ℚ Nat := fun _ _ =>
  .call (.request 0 2 false) fun _ => .call (.request 0 1 false) fun _ => .call (.request 0 0 false) fun _ =>
  .call (.request 0 1 false) fun _ => .call (.release 0 2) fun _ => .ret .none

def rs : Array ResRec := #[{ kind := .priority, capacity := some 1 }]
def s0 : KState ℚ Nat := spawned rs 0
def s1 : KState ℚ Nat := stepSt body 5 s0
def s2 : KState ℚ Nat := stepSt body 5 s1
def s3 : KState ℚ Nat := stepSt body 5 s2

theorem noTrig : ∀ st rs, NoTrig (body st rs) := fun _ _ =>
  .call _ _ rfl fun _ => .call _ _ rfl fun _ => .call _ _ rfl fun _ => .call _ _ rfl fun _ => .call _ _ rfl fun _ => .ret _

theorem wf0 : WF s0 := spawned_wf rs 0 (queues_empty_of_all rs (by decide))
theorem noReq0 : ∀ e, isReq s0 e = false := spawned_noReq rs 0
theorem sorted0 : QSorted s0 := QSorted.of_empty s0 (queues_empty_of_all rs (by decide))

theorem reach1 : SafeReach body 5 s0 s1 :=
  SafeReach.step SafeReach.init (stepOK_of_noTrig body noTrig 5 s0) (stepSt_spec body 5 s0 (by decide +kernel))
theorem reach13 : SafeReach body 5 s1 s3 :=
  SafeReach.step (SafeReach.step SafeReach.init (stepOK_of_noTrig body noTrig 5 s1) (stepSt_spec body 5 s1 (by decide +kernel)))
    (stepOK_of_noTrig body noTrig 5 s2) (stepSt_spec body 5 s2 (by decide +kernel))

end ExPrio

namespace ExSucceed

/-- inside the domain although it calls `succeed`: the target is a plain event -/
def body : Nat → Resume → Burst ℚ Nat := fun _ _ =>
  .call .event fun rp => match rp with
    | .ev e => .call (.succeed e (.int 1)) fun _ => .call (.cput 0 3) fun _ => .ret .none
    | _ => .ret .none

def s0 : KState ℚ Nat := spawned ExContainer.rs 0
def s1 : KState ℚ Nat := stepSt body 5 s0

theorem wf0 : WF s0 := ExContainer.wf0
theorem noReq0 : ∀ e, isReq s0 e = false := ExContainer.noReq0
theorem reach : SafeReach body 5 s0 s1 :=
  SafeReach.step SafeReach.init (by decide +kernel) (stepSt_spec body 5 s0 (by decide +kernel))

end ExSucceed

namespace ExBad

/-- outside the domain: the program itself triggers a waiting `ContainerPut` (amount 20 on capacity 10) -/
def body : Nat → Resume → Burst ℚ Nat := fun _ _ =>
  .call (.cput 0 20) fun rp => match rp with
    | .ev e => .call (.succeed e .none) fun _ => .ret .none
    | _ => .ret .none

def s0 : KState ℚ Nat := spawned ExContainer.rs 0
def s1 : KState ℚ Nat := stepSt body 5 s0

end ExBad

end Conserve
