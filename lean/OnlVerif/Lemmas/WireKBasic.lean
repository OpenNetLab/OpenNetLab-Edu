import OnlVerif.Lemmas.WireKDefs
import OnlVerif.Lemmas.TimerKAttr
/-!
# The Wire on the kernel model: the calls that read and write the attribute cells, on a kernel state
-/

namespace WireK
open WireOnK
open TimerK (lookup)

theorem getD0_set (a : Array ResRec) (x : ResRec) (h : 0 < a.size) : (a.setIfInBounds 0 x).getD 0 default = x := by
  rw [getD_setIfInBounds]; simp [h]

@[simp] theorem isStoreKind_store : isStoreKind .store = true := rfl
@[simp] theorem isPrioKind_store : isPrioKind .store = false := rfl
@[simp] theorem store_beq_preemptive : (ResKind.store == ResKind.preemptive) = false := rfl
@[simp] theorem store_beq_fstore : (ResKind.store == ResKind.fstore) = false := rfl

theorem doCall_load (s : KS) (self : EvId) (k : Nat) : doCall s self (.load k) = (s, .val (lookup s.shared k)) := rfl

theorem doCall_store (s : KS) (self : EvId) (k : Nat) (v : Val) :
    doCall s self (.store k v) = ({ s with shared := (k, v) :: s.shared.filter (·.1 != k) }, .unit) := rfl

theorem doCall_log (s : KS) (self : EvId) (what : String) (i : Int) :
    doCall s self (.log what (.int i)) = ({ s with trace := s.trace.push (.log self what (.int i) s.now) }, .unit) := rfl

/-- `simp` with the `timerk` and `wirek` sets on a state term `{ s with … }` -/
syntax "wsimp" (" [" Lean.Parser.Tactic.simpLemma,* "]")? (Lean.Parser.Tactic.location)? : tactic
macro_rules
  | `(tactic| wsimp $[$loc]?) =>
    `(tactic| simp [-Array.getD_eq_getD_getElem?, -List.filter_filter, timerk, wirek] $[$loc]?)
  | `(tactic| wsimp [$args,*] $[$loc]?) =>
    `(tactic| simp [-Array.getD_eq_getD_getElem?, -List.filter_filter, timerk, wirek, $args,*] $[$loc]?)

end WireK
