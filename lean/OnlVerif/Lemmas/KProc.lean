import Mathlib.Data.List.Nodup
import Mathlib.Data.List.Pairwise
import OnlVerif.Lemmas.KProcMach
import OnlVerif.Lemmas.KStepChain
/-!
# The abstract machine on configurations is what the kernel does

If the machine of `KProcDefs` takes the configuration `c` to `c'`, the kernel model takes a state `s` with `GInv s c` to a
state `s'` with `GInv s' c'`: for a call (`GInv.call`, `GInv.refused`), a burst (`GInv.run`), the end of a burst (`GInv.after`)
and the kernel steps (`GInv.step_resume`, `GInv.step_finish` or `GInv.step_retire`, `GInv.step_pend`); `GInv.empty` starts, `GInv.untrack`
and `GInv.setSt` forget what nothing reads.  All reasoning about what a kernel operation leaves alone (events are told apart by who
owns them, fresh ids are above `events.size`, the agenda as a permutation) is in this file.
-/

namespace KProc
open KExec (afterBurst resume_eq step_eq proc?_eq plookup_set)
open KStepChain (began)

variable {σ : Type} {s S : KState ℚ σ} {c c' : Cfg σ}

/-! ## the `Store` calls on the record of an `HStore` -/

theorem take_none {st : HStore} (h : st.take = none) : st.items = [] := by
  obtain ⟨pr, gq, its⟩ := st
  cases pr
  · cases its with
    | nil => rfl
    | cons i is => cases h
  · exact listMin_eq_none _ (Option.map_eq_none_iff.mp h)

/-- what `get()` hands out is what the kernel's `getItem`/`takeOut` compute on the record -/
theorem take_some {st : HStore} {v : Int} {its : List Int} (ht : st.take = some (v, its)) :
    (bif st.prio then listMin st.items = some v ∧ its = st.items.erase v else st.items = v :: its) := by
  obtain ⟨pr, gq, l⟩ := st
  cases pr
  · cases l with
    | nil => cases ht
    | cons i is => cases ht; rfl
  · obtain ⟨m, hm, hh⟩ := Option.map_eq_some_iff.mp ht
    cases hh
    exact ⟨hm, rfl⟩

theorem storeKinds : isStoreKind .store = true ∧ isPrioKind .store = false ∧ (ResKind.store == ResKind.preemptive) = false ∧
    (ResKind.store == ResKind.fstore) = false ∧ isStoreKind .pstore = true ∧ isPrioKind .pstore = false ∧
    (ResKind.pstore == ResKind.preemptive) = false ∧ (ResKind.pstore == ResKind.fstore) = false := by decide

/-- `store.put(item)` on an unbounded store on which nobody has a pending `put`: the item is appended, the new `StorePut`
event is triggered at once (the hand-off to a waiting `get` happens when that event is processed) -/
theorem doCall_sput (s : KState ℚ σ) (self : EvId) (r : ResId) (item : Int) (st : HStore) (hsz : r < s.resources.size)
    (hr : s.res r = st.toRes) :
    doCall s self (.sput r item) =
      ({ s with
          events := s.events.push { kind := .put r, cbs := some [.trigGet r], out := some (.ok .none), label := s.nlabel + 1,
                                     req := some { res := r, item := item, time := s.now, proc := s.active } }
          nlabel := s.nlabel + 1
          resources := s.resources.setIfInBounds r { st with items := st.items ++ [item] }.toRes
          agenda := { time := s.now, prio := NORMAL, eid := s.eid, ev := s.events.size } :: s.agenda
          eid := s.eid + 1 }, .ev s.events.size) := by
  obtain ⟨pr, gq, its⟩ := st
  have hr' : s.resources.getD r default = HStore.toRes ⟨pr, gq, its⟩ := hr
  cases pr <;>
  simp [doCall, hr', HStore.toRes, storeKinds, mkPut, KState.newLabelled, enqPut, KState.setPutQ, KState.setRes, KState.res,
    triggerPut, scanPut, doPut, prePut, canPut, hasRoom, applyPut, KState.setItems, KState.trigger, KState.setOut, KState.schedule,
    KState.setEv, KState.ev, reqOf, KState.triggered, dropPutQ, hsz, zero_eq', KExec.push_setIfInBounds_size]

/-- `store.get()` on an empty store nobody waits on: the `StoreGet` event is queued -/
theorem doCall_sget_miss (s : KState ℚ σ) (self : EvId) (r : ResId) (st : HStore) (hsz : r < s.resources.size)
    (hr : s.res r = st.toRes) (hq : st.getQ = []) (ht : st.take = none) :
    doCall s self (.sget r 0) =
      ({ s with
          events := s.events.push { kind := .get r, cbs := some [.trigPut r], out := none, label := s.nlabel + 1,
                                     req := some { res := r, time := s.now, proc := s.active } }
          nlabel := s.nlabel + 1
          resources := s.resources.setIfInBounds r { st with getQ := [s.events.size] }.toRes }, .ev s.events.size) := by
  have hi := take_none ht
  obtain ⟨pr, gq, its⟩ := st
  subst hq hi
  have hr' : s.resources.getD r default = HStore.toRes ⟨pr, [], []⟩ := hr
  cases pr <;>
  simp [doCall, hr', HStore.toRes, storeKinds, mkGet, KState.newLabelled, enqGet, KState.setGetQ, KState.setRes, KState.res,
    triggerGet, scanGet, doGet, getItem, listMin, KState.triggered, KState.ev, hsz]

/-- `store.get()` on a store with items: the item is handed out at once -/
theorem doCall_sget_hit (s : KState ℚ σ) (self : EvId) (r : ResId) (st : HStore) (v : Int) (its : List Int)
    (hsz : r < s.resources.size) (hr : s.res r = st.toRes) (hq : st.getQ = []) (ht : st.take = some (v, its)) :
    doCall s self (.sget r 0) =
      ({ s with
          events := s.events.push { kind := .get r, cbs := some [.trigPut r], out := some (.ok (.int v)),
                                     label := s.nlabel + 1, req := some { res := r, time := s.now, proc := s.active } }
          nlabel := s.nlabel + 1
          resources := s.resources.setIfInBounds r { st with items := its }.toRes
          agenda := { time := s.now, prio := NORMAL, eid := s.eid, ev := s.events.size } :: s.agenda
          eid := s.eid + 1 }, .ev s.events.size) := by
  have hv := take_some ht
  obtain ⟨pr, gq, l⟩ := st
  subst hq
  have hr' : s.resources.getD r default = HStore.toRes ⟨pr, [], l⟩ := hr
  cases pr
  · obtain rfl : l = v :: its := hv
    simp [doCall, hr', HStore.toRes, storeKinds, mkGet, KState.newLabelled, enqGet, KState.setGetQ, KState.setRes, KState.res,
      triggerGet, scanGet, doGet, getItem, takeOut, KState.setItems, KState.trigger, KState.setOut, KState.schedule,
      KState.setEv, KState.triggered, KState.ev, dropGetQ, hsz, zero_eq',
      KExec.push_setIfInBounds_size]
  · obtain ⟨hm, rfl⟩ : listMin l = some v ∧ its = l.erase v := hv
    simp [doCall, hr', HStore.toRes, storeKinds, mkGet, KState.newLabelled, enqGet, KState.setGetQ, KState.setRes, KState.res,
      triggerGet, scanGet, doGet, getItem, hm, takeOut, KState.setItems, KState.trigger, KState.setOut, KState.schedule,
      KState.setEv, KState.triggered, KState.ev, dropGetQ, hsz, zero_eq',
      KExec.push_setIfInBounds_size]

theorem triggerPut_none (s : KState ℚ σ) {r : ResId} (hq : (s.res r).putQ = []) : triggerPut s r = s := by
  simp [triggerPut, hq, scanPut]

theorem triggerGet_none (s : KState ℚ σ) (r : ResId) (st : HStore) (hr : s.res r = st.toRes) (hq : st.getQ = []) :
    triggerGet s r = s := by
  simp [triggerGet, hr, HStore.toRes, hq, scanGet]

/-- `_trigger_get` with a waiting `get` and an empty store: nothing happens -/
theorem triggerGet_empty (s : KState ℚ σ) (r : ResId) (g : EvId) (st : HStore) (hr : s.res r = st.toRes) (hq : st.getQ = [g])
    (ht : st.take = none) (hg : (s.ev g).out = none) : triggerGet s r = s := by
  have hi := take_none ht
  obtain ⟨pr, gq, its⟩ := st
  subst hq hi
  have hg' : (s.events.getD g default).out = none := hg
  have hr' : s.resources.getD r default = HStore.toRes ⟨pr, [g], []⟩ := hr
  cases pr <;>
  simp [-Array.getD_eq_getD_getElem?, triggerGet, KState.res, hr', HStore.toRes, storeKinds, scanGet, doGet, getItem, listMin,
    KState.triggered, KState.ev, hg']

/-- `_trigger_get` with a waiting `get` and an item: the item is handed over, the `StoreGet` event is triggered -/
theorem triggerGet_hand (s : KState ℚ σ) (r : ResId) (g : EvId) (st : HStore) (v : Int) (its : List Int)
    (hsz : r < s.resources.size) (hgs : g < s.events.size) (hr : s.res r = st.toRes) (hq : st.getQ = [g])
    (ht : st.take = some (v, its)) :
    triggerGet s r =
      { s with
          events := s.events.setIfInBounds g { s.ev g with out := some (.ok (.int v)) }
          resources := s.resources.setIfInBounds r { st with getQ := [], items := its }.toRes
          agenda := { time := s.now, prio := NORMAL, eid := s.eid, ev := g } :: s.agenda
          eid := s.eid + 1 } := by
  have hv := take_some ht
  obtain ⟨pr, gq, l⟩ := st
  subst hq
  have hr' : s.resources.getD r default = HStore.toRes ⟨pr, [g], l⟩ := hr
  cases pr
  · obtain rfl : l = v :: its := hv
    simp [-Array.getD_eq_getD_getElem?, hr', HStore.toRes, KState.setGetQ, KState.setRes, KState.res,
      triggerGet, scanGet, doGet, getItem, takeOut, KState.setItems, KState.trigger, KState.setOut, KState.schedule,
      KState.setEv, KState.triggered, KState.ev, dropGetQ, hsz, hgs, getD_setIfInBounds, zero_eq']
  · obtain ⟨hm, rfl⟩ : listMin l = some v ∧ its = l.erase v := hv
    simp [-Array.getD_eq_getD_getElem?, hr', HStore.toRes, KState.setGetQ, KState.setRes, KState.res,
      triggerGet, scanGet, doGet, getItem, hm, takeOut, KState.setItems, KState.trigger, KState.setOut, KState.schedule,
      KState.setEv, KState.triggered, KState.ev, dropGetQ, hsz, hgs, getD_setIfInBounds, zero_eq']

/-! ## the thread list -/

theorem perm_new {α} (A new R : List α) : (A ++ new ++ R).Perm (new ++ (A ++ R)) :=
  (List.perm_append_comm.append_right R).trans (by rw [List.append_assoc])

theorem perm_swap_right {α} (A X D : List α) : (A ++ X ++ D).Perm (A ++ D ++ X) := by
  rw [List.append_assoc, List.append_assoc]
  exact List.perm_append_comm.append_left A

theorem modTh_pids {l : List (Thread σ)} {p : EvId} {f : Thread σ → Thread σ} (hf : ∀ th, (f th).pid = th.pid) :
    (modTh l p f).map (·.pid) = l.map (·.pid) := by
  unfold modTh
  rw [List.map_map]
  refine List.map_congr_left fun th _ => ?_
  simp only [Function.comp]
  split
  · exact hf th
  · rfl

theorem mem_modTh {l : List (Thread σ)} {p : EvId} {f : Thread σ → Thread σ} {th' : Thread σ} (h : th' ∈ modTh l p f) :
    (th' ∈ l ∧ th'.pid ≠ p) ∨ ∃ th ∈ l, th.pid = p ∧ th' = f th := by
  obtain ⟨th, hth, rfl⟩ := List.mem_map.mp h
  split
  · rename_i hp; exact .inr ⟨th, hth, hp, rfl⟩
  · rename_i hp; exact .inl ⟨hth, hp⟩

theorem modTh_none {l : List (Thread σ)} {p : EvId} {f : Thread σ → Thread σ} (h : ∀ th ∈ l, th.pid ≠ p) : modTh l p f = l := by
  unfold modTh
  conv_rhs => rw [← List.map_id l]
  exact List.map_congr_left fun th hth => if_neg (h th hth)

theorem modTh_append (l l' : List (Thread σ)) (p : EvId) (f : Thread σ → Thread σ) :
    modTh (l ++ l') p f = modTh l p f ++ modTh l' p f :=
  List.map_append

/-- a segment of the thread list in which process `p` is not is passed over -/
theorem skip {M : List (Thread σ)} {p : EvId} (h : ∀ th ∈ M, th.pid ≠ p) :
    (∀ f, modTh M p f = M) ∧ M.find? (·.pid == p) = none ∧ M.filter (·.pid != p) = M :=
  ⟨fun _ => modTh_none h, List.find?_eq_none.mpr fun th hth => by simpa using h th hth,
    List.filter_eq_self.mpr fun th hth => by simpa using h th hth⟩

/-- in a list of threads of different processes, `f` is applied to the thread of one of them -/
theorem modTh_mid {A B : List (Thread σ)} {th : Thread σ} (f : Thread σ → Thread σ)
    (hn : ((A ++ th :: B).map (·.pid)).Nodup) : modTh (A ++ th :: B) th.pid f = A ++ f th :: B := by
  rw [List.map_append, List.map_cons] at hn
  obtain ⟨-, hB, hd⟩ := List.nodup_append.mp hn
  rw [modTh_append, modTh_cons, if_pos rfl,
    (skip (p := th.pid) fun x hx => hd _ (List.mem_map_of_mem hx) _ List.mem_cons_self).1,
    (skip (p := th.pid) fun x hx e => (List.nodup_cons.mp hB).1 (e ▸ List.mem_map_of_mem (f := (·.pid)) hx)).1]

theorem modTh_flatMap_eq {α} (g : Thread σ → List α) (l : List (Thread σ)) (p : EvId) {f : Thread σ → Thread σ}
    (hf : ∀ t, g (f t) = g t) : (modTh l p f).flatMap g = l.flatMap g := by
  induction l with
  | nil => rfl
  | cons x xs ih =>
    rw [modTh_cons, List.flatMap_cons, List.flatMap_cons, ih]
    split
    · rw [hf]
    · rfl

theorem modTh_modTh (l : List (Thread σ)) (p : EvId) {f g : Thread σ → Thread σ} (hf : ∀ t, (f t).pid = t.pid) :
    modTh (modTh l p f) p g = modTh l p fun t => g (f t) := by
  unfold modTh
  rw [List.map_map]
  refine List.map_congr_left fun t _ => ?_
  simp only [Function.comp]
  split
  · rename_i hp
    rw [if_pos ((hf t).trans hp)]
  · rfl

theorem find?_modTh {l : List (Thread σ)} {p : EvId} {f : Thread σ → Thread σ} (hf : ∀ t, (f t).pid = t.pid)
    {th : Thread σ} (hth : th ∈ l) (hp : th.pid = p) (hn : (l.map (·.pid)).Nodup) :
    (modTh l p f).find? (·.pid == p) = some (f th) := by
  induction l with
  | nil => cases hth
  | cons x xs ih =>
    rw [modTh_cons]
    by_cases hx : x.pid = p
    · rw [if_pos hx, List.find?_cons_of_pos (by simp [hf, hx]),
        List.inj_on_of_nodup_map hn hth List.mem_cons_self (hp.trans hx.symm)]
    · rw [if_neg hx, List.find?_cons_of_neg (by simpa using hx)]
      rcases List.mem_cons.mp hth with rfl | h
      · exact absurd hp hx
      · exact ih h (List.nodup_cons.mp hn).2

/-- under `g`, the thread of `p` contributes `add` more and `del` less after `f` -/
theorem modTh_flatMap {α} (g : Thread σ → List α) {l : List (Thread σ)} {p : EvId} {f : Thread σ → Thread σ} {th : Thread σ}
    (hnd : (l.map (·.pid)).Nodup) (hth : th ∈ l) (hp : th.pid = p) {add del : List α}
    (hf : (g (f th) ++ del).Perm (g th ++ add)) : ((modTh l p f).flatMap g ++ del).Perm (l.flatMap g ++ add) := by
  induction l with
  | nil => cases hth
  | cons x xs ih =>
    obtain ⟨hx, hxs⟩ := List.nodup_cons.mp hnd
    by_cases hxp : x.pid = p
    · have hno : ∀ y ∈ xs, y.pid ≠ p := fun y hy hyp => hx (List.mem_map.mpr ⟨y, hy, hyp.trans hxp.symm⟩)
      have hxt : th = x := by
        rcases List.mem_cons.mp hth with h | h
        · exact h
        · exact absurd hp (hno th h)
      subst hxt
      rw [modTh, List.map_cons, if_pos hxp, ← modTh, modTh_none hno, List.flatMap_cons, List.flatMap_cons]
      exact (perm_swap_right _ _ _).trans ((hf.append_right _).trans (perm_swap_right _ _ _))
    · have hth' : th ∈ xs := by
        rcases List.mem_cons.mp hth with h | h
        · exact absurd (h ▸ hp) hxp
        · exact h
      rw [modTh, List.map_cons, if_neg hxp, ← modTh, List.flatMap_cons, List.flatMap_cons, List.append_assoc, List.append_assoc]
      exact (ih hxs hth').append_left _

/-- under `g`, the thread list without `th` lacks what `th` contributes -/
theorem filter_flatMap {α} (g : Thread σ → List α) {l : List (Thread σ)} {th : Thread σ} (hnd : (l.map (·.pid)).Nodup)
    (hth : th ∈ l) : (g th ++ (l.filter (·.pid != th.pid)).flatMap g).Perm (l.flatMap g) := by
  induction l with
  | nil => cases hth
  | cons x xs ih =>
    obtain ⟨hx, hxs⟩ := List.nodup_cons.mp hnd
    by_cases hxp : x.pid = th.pid
    · have hno : ∀ y ∈ xs, y.pid ≠ th.pid := fun y hy hyp => hx (List.mem_map.mpr ⟨y, hy, hyp.trans hxp.symm⟩)
      have hxt : th = x := by
        rcases List.mem_cons.mp hth with h | h
        · exact h
        · exact absurd rfl (hno th h)
      subst hxt
      rw [List.filter_cons_of_neg (by simp), List.filter_eq_self.mpr (fun y hy => by simpa using hno y hy), List.flatMap_cons]
    · have hth' : th ∈ xs := by
        rcases List.mem_cons.mp hth with h | h
        · exact absurd (h ▸ rfl) hxp
        · exact h
      rw [List.filter_cons_of_pos (by simpa using hxp), List.flatMap_cons, List.flatMap_cons]
      exact List.perm_append_comm_assoc .. |>.trans ((ih hxs hth').append_left _)

theorem modTh_flatMap_perm {α} (g : Thread σ → List α) {l : List (Thread σ)} {p : EvId} {f : Thread σ → Thread σ} {th : Thread σ}
    (hnd : (l.map (·.pid)).Nodup) (hth : th ∈ l) (hp : th.pid = p) (hf : g (f th) = g th) :
    ((modTh l p f).flatMap g).Perm (l.flatMap g) := by
  have := modTh_flatMap g hnd hth hp (add := []) (del := []) (List.Perm.of_eq (by rw [hf]))
  rwa [List.append_nil, List.append_nil] at this

theorem pids_modTh {l : List (Thread σ)} (h : (l.map (·.pid)).Nodup) (p : EvId) {f : Thread σ → Thread σ}
    (hf : ∀ th, (f th).pid = th.pid) : ((modTh l p f).map (·.pid)).Nodup := by
  rw [modTh_pids hf]
  exact h

/-! ## the end of a burst on explicit states -/

theorem afterBurst_yield (body : σ → Resume → Burst ℚ σ) (p fuel : Nat) (pr : ProcRec σ) (s : KState ℚ σ) (e : EvId) (st : σ)
    (l : List Cb) (hl : (s.ev e).cbs = some l) :
    afterBurst body p fuel pr (s, .yielded e st) =
      { s with procs := (p, { st := st, target := some e }) :: s.procs.filter (·.1 != p)
               events := s.events.setIfInBounds e { s.ev e with cbs := some (l ++ [.resume p]) }
               active := none } := by
  have hl' : (s.events.getD e default).cbs = some l := hl
  simp [-Array.getD_eq_getD_getElem?, afterBurst, register, KState.processed, KState.setProc, KState.addCb, KState.ev,
    KState.setEv, hl']

theorem afterBurst_ret (body : σ → Resume → Burst ℚ σ) (p fuel : Nat) (pr : ProcRec σ) (s : KState ℚ σ) (v : Val) :
    afterBurst body p fuel pr (s, .returned v) =
      { s with events := s.events.setIfInBounds p { s.ev p with out := some (.ok v) }
               agenda := { time := s.now, prio := NORMAL, eid := s.eid, ev := p } :: s.agenda
               eid := s.eid + 1
               trace := s.trace.push (.ended p (.ok v) s.now)
               procs := (p, { pr with target := none }) :: s.procs.filter (·.1 != p)
               active := none } := by
  simp [afterBurst, finishProc, KState.trigger, KState.setOut, KState.schedule, KState.setEv, KState.emit, KState.setProc,
    zero_eq']

/-! ## what a kernel operation leaves alone -/

theorem EvIs.lt {e : EvId} {k : Kind} {l : List Cb} {o : Option Outcome} (h : EvIs s e k l o) : e < s.events.size :=
  KState.lt_of_cbs h.2.1

/-- no event is lost, the old events outside `X` are unchanged -/
structure Keeps (s S : KState ℚ σ) (X : List EvId) : Prop where
  size : s.events.size ≤ S.events.size
  ev : ∀ e, e < s.events.size → e ∉ X → S.ev e = s.ev e

theorem Keeps.push (r : EvRec ℚ) (h : S.events = s.events.push r) : Keeps s S [] :=
  ⟨by rw [h, Array.size_push]; exact Nat.le_succ _,
   fun e he _ => by simp only [KState.ev, h, getD_push, Nat.ne_of_lt he, if_false]⟩

theorem Keeps.push2 (r r' : EvRec ℚ) (h : S.events = (s.events.push r).push r') : Keeps s S [] :=
  ⟨by rw [h, Array.size_push, Array.size_push]; omega,
   fun e he _ => by
    simp only [KState.ev, h, getD_push, Array.size_push, Nat.ne_of_lt he, Nat.ne_of_lt (Nat.lt_succ_of_lt he), if_false]⟩

theorem Keeps.same (h : S.events = s.events) (X : List EvId) : Keeps s S X :=
  ⟨by rw [h], fun e _ _ => by simp only [KState.ev, h]⟩

theorem Keeps.set {e0 : EvId} (r : EvRec ℚ) (h : S.events = s.events.setIfInBounds e0 r) : Keeps s S [e0] :=
  ⟨by rw [h, Array.size_setIfInBounds],
   fun e _ hX => by
    simp only [KState.ev, h, getD_setIfInBounds]
    rw [if_neg (fun hh => hX (List.mem_singleton.mpr hh.1))]⟩

theorem EvIs.keep {X : List EvId} {e : EvId} {k : Kind} {l : List Cb} {o : Option Outcome} (h : EvIs s e k l o)
    (hk : Keeps s S X) (he : e ∉ X) : EvIs S e k l o := by
  unfold EvIs
  rw [hk.ev e h.lt he]
  exact h

theorem Wait.Ev.keep {X : List EvId} {w : Wait} {pid : EvId} {tail : List Cb} (h : w.Ev s pid tail) (hk : Keeps s S X)
    (hX : ∀ e ∈ w.ids, e ∉ X) : w.Ev S pid tail := by
  cases w with
  | init q => exact ⟨h.1, h.2.keep hk (hX _ (List.mem_singleton_self _))⟩
  | sleep q => exact EvIs.keep h hk (hX _ (List.mem_singleton_self _))
  | getW r g => exact EvIs.keep h hk (hX _ (List.mem_singleton_self _))
  | getH r q v => exact EvIs.keep h hk (hX _ (List.mem_singleton_self _))
  | join e => trivial
  | ending q v => exact h
  | running => trivial
  | gone p v =>
    have hp := hk.ev p (KState.lt_of_out (by rw [h.2.2.2]; exact Option.some_ne_none _)) (hX _ (List.mem_singleton_self _))
    exact ⟨h.1, by rw [hp]; exact h.2.1, by rw [hp]; exact h.2.2.1, by rw [hp]; exact h.2.2.2⟩

theorem Thread.mem_ids {th : Thread σ} {e : EvId} : e ∈ th.ids ↔ (th.cbs.isSome = true ∧ e = th.pid) ∨ e ∈ th.wait.ids := by
  unfold Thread.ids
  cases th.cbs <;> simp

theorem TInv.keep {X : List EvId} {th : Thread σ} (h : TInv s th) (hk : Keeps s S X) (hX : ∀ e ∈ th.ids, e ∉ X)
    (hp : S.proc? th.pid = s.proc? th.pid) : TInv S th :=
  ⟨h.ev.keep hk (fun e he => hX e (Thread.mem_ids.mpr (.inr he))), fun t ht => hp ▸ h.proc t ht,
   fun l hl => (h.own l hl).keep hk (hX _ (Thread.mem_ids.mpr (.inl ⟨by rw [hl]; rfl, rfl⟩))), h.tracked⟩

theorem Cfg.mem_ids {e : EvId} :
    e ∈ c.ids ↔ (∃ th ∈ c.threads, e ∈ th.ids) ∨ (∃ w ∈ c.loose, e ∈ w.ids) ∨ ∃ u ∈ c.pend, u.1.ev = e := by
  simp only [Cfg.ids, List.mem_append, List.mem_flatMap, List.mem_map]

theorem Wait.Ev.lt {w : Wait} {pid : EvId} {tail : List Cb} (h : w.Ev s pid tail) : ∀ e ∈ w.ids, e < s.events.size := by
  intro e he
  cases w <;> simp only [Wait.ids, List.mem_singleton, List.not_mem_nil] at he <;> subst he
  · exact h.2.lt
  · exact EvIs.lt h
  · exact EvIs.lt h
  · exact EvIs.lt h
  · exact KState.lt_of_out (by rw [h.2.2.2]; exact Option.some_ne_none _)

theorem TInv.lt {th : Thread σ} (h : TInv s th) : ∀ e ∈ th.ids, e < s.events.size := by
  intro e he
  rcases Thread.mem_ids.mp he with ⟨hc, rfl⟩ | he
  · obtain ⟨l, hl⟩ := Option.isSome_iff_exists.mp hc
    exact (h.own l hl).lt
  · exact h.ev.lt e he

/-- an event the burst has created, seen from the state in which a process has registered on it -/
theorem Wait.Ev.register {w : Wait} (hw : w.isLoose = true) {e : EvId} (hid : w.ids = [e]) (h : w.Ev s 0 []) :
    w.target = some e ∧ w.outcome = none ∧ ∃ l, (s.ev e).cbs = some l ∧ ∀ (S : KState ℚ σ) (pid : EvId) (tail : List Cb),
      S.ev e = { s.ev e with cbs := some (l ++ tail) } → w.Ev S pid tail := by
  cases w <;> try cases hw
  all_goals
    cases hid
    refine ⟨rfl, rfl, _, h.2.1, fun S pid tail hS => ?_⟩
    simp only [Wait.Ev, EvIs, hS]
    exact ⟨h.1, rfl, h.2.2⟩

theorem Wait.of_resumes {w : Wait} {q : QEntry ℚ} {arg : Resume} (h : w.resumes = some (q, arg)) :
    w.entries = [q] ∧ w.ids = [q.ev] ∧ w.outcome = none ∧ w.target = some q.ev := by
  cases w <;> cases h <;> exact ⟨rfl, rfl, rfl, rfl⟩

theorem Wait.of_isGetW {w : Wait} {r : ResId} {g : EvId} (h : w.isGetW r g = true) : w = .getW r g := by
  cases w <;> simp only [Wait.isGetW, Bool.and_eq_true, beq_iff_eq, reduceCtorEq] at h
  rw [h.1, h.2]

/-- `TInv` of a process whose event is looked at -/
theorem TInv.of {th : Thread σ} {l : List Cb} (hl : th.cbs = some l) (hev : th.wait.Ev s th.pid [.resume th.pid])
    (hproc : ∀ t, th.wait.target = some t → s.proc? th.pid = some { st := th.st, target := some t })
    (hown : EvIs s th.pid .proc l th.wait.outcome) : TInv s th :=
  ⟨hev, hproc, fun l' hl' => Option.some.inj (hl.symm.trans hl') ▸ hown, fun _ _ _ => hl ▸ rfl⟩

/-- a process whose process event nobody looks at -/
theorem TInv.of_none {s : KState ℚ σ} {th : Thread σ} (hl : th.cbs = none) (hev : th.wait.Ev s th.pid [.resume th.pid])
    (hproc : ∀ t, th.wait.target = some t → s.proc? th.pid = some { st := th.st, target := some t })
    (hne : ∀ q v, th.wait ≠ .ending q v) : TInv s th :=
  ⟨hev, hproc, fun _ hl' => (nomatch hl.symm.trans hl'), fun q v hw => absurd hw (hne q v)⟩

theorem TInv.pid_lt {th : Thread σ} (h : TInv s th) {l : List Cb} (hl : th.cbs = some l) : th.pid < s.events.size :=
  (h.own l hl).lt

theorem TInv.entry_id {th : Thread σ} (h : TInv s th) {x : QEntry ℚ} (hx : x ∈ th.wait.entries) :
    x.ev ∈ th.ids ∧ th.wait.entries = [x] := by
  have hev := h.ev
  have htr := h.tracked
  obtain ⟨pid, st, w, cbs⟩ := th
  cases w <;> simp only [Wait.entries, List.mem_singleton, List.not_mem_nil] at hx <;> subst hx
  · exact ⟨Thread.mem_ids.mpr (.inr (List.mem_singleton_self _)), rfl⟩
  · exact ⟨Thread.mem_ids.mpr (.inr (List.mem_singleton_self _)), rfl⟩
  · exact ⟨Thread.mem_ids.mpr (.inr (List.mem_singleton_self _)), rfl⟩
  · exact ⟨Thread.mem_ids.mpr (.inl ⟨htr _ _ rfl, hev⟩), rfl⟩

theorem freezeVal_eq (s : KState ℚ σ) (v : Val) (h : ∀ keys, v ≠ .cv keys) : freezeVal s v = v := by
  cases v <;> first | rfl | exact absurd rfl (h _)

theorem stores_setRes {stores : ResId → Option HStore} {r : ResId} {st : HStore} {R : Array ResRec}
    (h : ∀ r st, stores r = some st → r < R.size ∧ R.getD r default = st.toRes) (hr : r < R.size) :
    ∀ r' st', upd stores r (some st) r' = some st' →
      r' < (R.setIfInBounds r st.toRes).size ∧ (R.setIfInBounds r st.toRes).getD r' default = st'.toRes := by
  intro r' st' h'
  rw [Array.size_setIfInBounds, getD_setIfInBounds]
  unfold upd at h'
  split at h'
  · rename_i heq
    subst heq
    cases h'
    exact ⟨hr, if_pos ⟨rfl, hr⟩⟩
  · rename_i hne
    exact ⟨(h r' st' h').1, (if_neg (fun hh => hne hh.1)).trans (h r' st' h').2⟩

theorem proc?_setProc (s : KState ℚ σ) (p x : EvId) (r : ProcRec σ) {S : KState ℚ σ}
    (h : S.procs = (p, r) :: s.procs.filter (·.1 != p)) : S.proc? x = if x = p then some r else s.proc? x := by
  rw [proc?_eq, proc?_eq, h]
  exact plookup_set ..

namespace GInv

/-- a state in which nothing is scheduled and no process exists -/
theorem empty (s : KState ℚ σ) (ha : s.agenda = []) (stores : ResId → Option HStore)
    (hst : ∀ r st, stores r = some st → r < s.resources.size ∧ s.res r = st.toRes) :
    GInv s { reg := Regs.of s, threads := [], pend := [], stores := stores } where
  reg := rfl
  wf := ⟨fun _ h => absurd (ha ▸ h) List.not_mem_nil, fun _ h => absurd (ha ▸ h) List.not_mem_nil, ha ▸ List.Pairwise.nil⟩
  ag := ha ▸ List.Perm.refl _
  nd := List.nodup_nil
  pids := List.nodup_nil
  plt := fun _ h => absurd h List.not_mem_nil
  th := fun _ h => absurd h List.not_mem_nil
  loose := fun _ h => absurd h List.not_mem_nil
  pend := fun _ h => absurd h List.not_mem_nil
  stores := hst
  cur := fun _ h => nomatch h

theorem id_lt (h : GInv s c) : ∀ e ∈ c.ids, e < s.events.size := by
  intro e he
  rcases Cfg.mem_ids.mp he with ⟨th, hth, he⟩ | ⟨w, hw, he⟩ | ⟨u, hu, rfl⟩
  · exact (h.th th hth).lt e he
  · exact (h.loose w hw).2.lt e he
  · exact (h.pend u hu).lt

theorem reg_eq (h : GInv s c) : c.reg.now = s.now ∧ c.reg.eid = s.eid ∧ c.reg.evSize = s.events.size ∧
    c.reg.active = s.active ∧ c.reg.trace = s.trace := by
  rw [h.reg]; exact ⟨rfl, rfl, rfl, rfl, rfl⟩

/-- a family matches the configuration `c'` a step has computed with its `cfgOf a' s'` by what `c'` displays: the registers
are those of the state -/
theorem cfg_eq (h : GInv s c) {T : List (Thread σ)} {P : List (QEntry ℚ × ResId)} {St : ResId → Option HStore}
    (ht : c.threads = T) (hp : c.pend = P) (hs : ∀ r, c.stores r = St r) (hl : c.loose = []) (hcur : c.cur = none) :
    c = { reg := Regs.of s, threads := T, pend := P, stores := St } := by
  obtain ⟨reg, threads, pend, stores, loose, cur⟩ := c
  obtain rfl : stores = St := funext hs
  cases ht; cases hp; cases hl; cases hcur; cases h.reg
  rfl

/-- the way `GInv` is re-established after a kernel operation: a state that keeps the old events outside `X`, with a
configuration whose members either are old and do not own an event of `X`, or are accounted for -/
theorem change (h : GInv s c) {X : List EvId} (hk : Keeps s S X) (hreg : c'.reg = Regs.of S) (hwf : AgendaWF S)
    (hag : S.agenda.Perm c'.entries) (hnd : c'.ids.Nodup) (hpids : (c'.threads.map (·.pid)).Nodup)
    (hth : ∀ th ∈ c'.threads, (th ∈ c.threads ∧ (∀ e ∈ th.ids, e ∉ X) ∧ S.proc? th.pid = s.proc? th.pid) ∨
      (TInv S th ∧ th.pid < S.events.size))
    (hloose : ∀ w ∈ c'.loose, (w ∈ c.loose ∧ ∀ e ∈ w.ids, e ∉ X) ∨ (w.isLoose = true ∧ w.Ev S 0 []))
    (hpend : ∀ u ∈ c'.pend, (u ∈ c.pend ∧ u.1.ev ∉ X) ∨ EvIs S u.1.ev (.put u.2) [.trigGet u.2] (some (.ok .none)))
    (hstores : ∀ r st, c'.stores r = some st → r < S.resources.size ∧ S.res r = st.toRes)
    (hcur : ∀ e, c'.cur = some e → e ∉ c'.ids ∧ ∃ v, (S.ev e).out = some (.ok v)) : GInv S c' := by
  refine ⟨hreg, hwf, hag, hnd, hpids, ?_, ?_, ?_, ?_, hstores, hcur⟩
  · intro th hth'
    rcases hth th hth' with ho | hn
    · exact Nat.lt_of_lt_of_le (h.plt th ho.1) hk.size
    · exact hn.2
  · intro th hth'
    rcases hth th hth' with ho | hn
    · exact (h.th th ho.1).keep hk ho.2.1 ho.2.2
    · exact hn.1
  · intro w hw
    rcases hloose w hw with ho | hn
    · exact ⟨(h.loose w ho.1).1, (h.loose w ho.1).2.keep hk ho.2⟩
    · exact hn
  · intro u hu
    rcases hpend u hu with ho | hn
    · exact (h.pend u ho.1).keep hk ho.2
    · exact hn

/-! ### who owns an event: two members of a configuration that mention the same event are the same member -/

theorem th_unique (h : GInv s c) {th th' : Thread σ} (h1 : th ∈ c.threads) (h2 : th' ∈ c.threads) {e : EvId}
    (e1 : e ∈ th.ids) (e2 : e ∈ th'.ids) : th = th' := by
  by_contra hne
  have hd := (List.nodup_flatMap.mp (List.nodup_append.mp h.nd).1).2
  have : Std.Symm (Function.onFun List.Disjoint (Thread.ids (σ := σ))) := ⟨fun _ _ hh _ ha hb => hh hb ha⟩
  exact hd.forall h1 h2 hne e1 e2

theorem th_not_loose (h : GInv s c) {th : Thread σ} (h1 : th ∈ c.threads) {w : Wait} (h2 : w ∈ c.loose) {e : EvId}
    (e1 : e ∈ th.ids) : e ∉ w.ids := fun e2 =>
  (List.nodup_append.mp h.nd).2.2 e (List.mem_flatMap.mpr ⟨th, h1, e1⟩) e
    (List.mem_append_left _ (List.mem_flatMap.mpr ⟨w, h2, e2⟩)) rfl

theorem th_not_pend (h : GInv s c) {th : Thread σ} (h1 : th ∈ c.threads) {u : QEntry ℚ × ResId} (h2 : u ∈ c.pend) :
    u.1.ev ∉ th.ids := fun e1 =>
  (List.nodup_append.mp h.nd).2.2 _ (List.mem_flatMap.mpr ⟨th, h1, e1⟩) _
    (List.mem_append_right _ (List.mem_map.mpr ⟨u, h2, rfl⟩)) rfl

theorem loose_not_pend (h : GInv s c) {w : Wait} (h1 : w ∈ c.loose) {u : QEntry ℚ × ResId} (h2 : u ∈ c.pend) :
    u.1.ev ∉ w.ids := fun e1 =>
  (List.nodup_append.mp (List.nodup_append.mp h.nd).2.1).2.2 _ (List.mem_flatMap.mpr ⟨w, h1, e1⟩) _
    (List.mem_map.mpr ⟨u, h2, rfl⟩) rfl

theorem loose_head (h : GInv s c) {w : Wait} {rest : List Wait} (hl : c.loose = w :: rest) {w' : Wait} (h2 : w' ∈ rest)
    {e : EvId} (e1 : e ∈ w.ids) : e ∉ w'.ids := fun e2 => by
  have hn := (List.nodup_append.mp (List.nodup_append.mp h.nd).2.1).1
  rw [hl, List.flatMap_cons] at hn
  exact (List.nodup_append.mp hn).2.2 e e1 e (List.mem_flatMap.mpr ⟨w', h2, e2⟩) rfl

theorem pid_unique (h : GInv s c) {th th' : Thread σ} (h1 : th ∈ c.threads) (h2 : th' ∈ c.threads) (hp : th.pid = th'.pid) :
    th = th' :=
  List.inj_on_of_nodup_map h.pids h1 h2 hp

/-- the event whose callbacks are running stays out of the configuration and keeps its outcome -/
theorem cur_keep (h : GInv s c) {X : List EvId} (hk : Keeps s S X) (hX : ∀ e ∈ X, e ∈ c.ids)
    (hsub : ∀ e ∈ c'.ids, e ∈ c.ids ∨ s.events.size ≤ e) (hcur : c'.cur = c.cur) :
    ∀ e, c'.cur = some e → e ∉ c'.ids ∧ ∃ v, (S.ev e).out = some (.ok v) := by
  intro e he
  rw [hcur] at he
  obtain ⟨hne, v, hv⟩ := h.cur e he
  have hlt : e < s.events.size := KState.lt_of_out (by rw [hv]; exact Option.some_ne_none _)
  refine ⟨fun hm => ?_, v, by rw [hk.ev e hlt (fun hx => hne (hX e hx))]; exact hv⟩
  rcases hsub e hm with hm | hm
  · exact hne hm
  · exact Nat.not_lt.mpr hm hlt

/-- `change` for a state that keeps all old events and a configuration whose new events are fresh -/
theorem grow (h : GInv s c) (hk : Keeps s S []) (hreg : c'.reg = Regs.of S) (hwf : AgendaWF S)
    (hag : S.agenda.Perm c'.entries) (hproc : ∀ th ∈ c.threads, S.proc? th.pid = s.proc? th.pid)
    (new : List EvId) (hids : c'.ids.Perm (new ++ c.ids)) (hnew : new.Nodup) (hfresh : ∀ e ∈ new, s.events.size ≤ e)
    (hpids : (c'.threads.map (·.pid)).Nodup)
    (hth : ∀ th ∈ c'.threads, th ∈ c.threads ∨ (TInv S th ∧ th.pid < S.events.size))
    (hloose : ∀ w ∈ c'.loose, w ∈ c.loose ∨ (w.isLoose = true ∧ w.Ev S 0 []))
    (hpend : ∀ u ∈ c'.pend, u ∈ c.pend ∨ EvIs S u.1.ev (.put u.2) [.trigGet u.2] (some (.ok .none)))
    (hstores : ∀ r st, c'.stores r = some st → r < S.resources.size ∧ S.res r = st.toRes)
    (hcur : c'.cur = c.cur) : GInv S c' := by
  refine h.change hk hreg hwf hag (hids.nodup_iff.mpr (List.nodup_append.mpr ⟨hnew, h.nd, ?_⟩)) hpids
    (fun th ht => (hth th ht).imp_left fun ho => ⟨ho, fun _ _ => List.not_mem_nil, hproc th ho⟩)
    (fun w hw => (hloose w hw).imp_left fun ho => ⟨ho, fun _ _ => List.not_mem_nil⟩)
    (fun u hu => (hpend u hu).imp_left fun ho => ⟨ho, List.not_mem_nil⟩) hstores
    (h.cur_keep hk (fun _ he => absurd he List.not_mem_nil)
      (fun e he => (List.mem_append.mp (hids.subset he)).symm.imp_right (hfresh e)) hcur)
  rintro a ha b hb rfl
  exact Nat.not_lt.mpr (hfresh a ha) (h.id_lt a hb)

/-- `change` when the one event `e` that is rewritten belongs to the thread `th`: the loose events, the pending puts, the event
whose callbacks are running and the threads of the other processes are kept -/
theorem change_of (h : GInv s c) {e : EvId} (hk : Keeps s S [e]) {th : Thread σ} (hth : th ∈ c.threads) (he : e ∈ th.ids)
    (hreg : c'.reg = Regs.of S) (hwf : AgendaWF S) (hag : S.agenda.Perm c'.entries) (hnd : c'.ids.Nodup)
    (hsub : ∀ x ∈ c'.ids, x ∈ c.ids) (hpids : (c'.threads.map (·.pid)).Nodup)
    (hth' : ∀ t ∈ c'.threads, (t ∈ c.threads ∧ t.pid ≠ th.pid ∧ S.proc? t.pid = s.proc? t.pid) ∨
      (TInv S t ∧ t.pid < S.events.size))
    (hloose : c'.loose = c.loose) (hpend : ∀ u ∈ c'.pend, u ∈ c.pend)
    (hstores : ∀ r st, c'.stores r = some st → r < S.resources.size ∧ S.res r = st.toRes) (hcur : c'.cur = c.cur) :
    GInv S c' := by
  refine h.change hk hreg hwf hag hnd hpids (fun t ht => (hth' t ht).imp_left fun ⟨ho, hne, hp⟩ => ⟨ho, fun x hx hm => ?_, hp⟩)
    (fun w hw => .inl ⟨hloose ▸ hw, fun x hx hm => h.th_not_loose hth (hloose ▸ hw) he (List.mem_singleton.mp hm ▸ hx)⟩)
    (fun u hu => .inl ⟨hpend u hu, fun hm => h.th_not_pend hth (hpend u hu) (List.mem_singleton.mp hm ▸ he)⟩) hstores
    (h.cur_keep hk (fun x hx => List.mem_singleton.mp hx ▸ Cfg.mem_ids.mpr (.inl ⟨th, hth, he⟩)) (fun x hx => .inl (hsub x hx)) hcur)
  exact hne (congrArg Thread.pid (h.th_unique ho hth (List.mem_singleton.mp hm ▸ hx) he))

theorem find?_pid (h : GInv s c) {th : Thread σ} (hth : th ∈ c.threads) : c.threads.find? (·.pid == th.pid) = some th := by
  cases hf : c.threads.find? (·.pid == th.pid) with
  | none => exact absurd (List.find?_eq_none.mp hf th hth) (by simp)
  | some th' =>
    rw [h.pid_unique (List.mem_of_find?_eq_some hf) hth (by simpa using List.find?_some hf)]

/-- between steps, an agenda entry is identified by its event -/
theorem entry_of_ev (h : GInv s c) (hl : c.loose = []) {x y : QEntry ℚ} (hx : x ∈ c.entries) (hy : y ∈ c.entries)
    (he : x.ev = y.ev) : x = y := by
  simp only [Cfg.entries, hl, List.flatMap_nil, List.nil_append, List.mem_append, List.mem_flatMap, List.mem_map] at hx hy
  rcases hx with ⟨th, hth, hx⟩ | ⟨u, hu, rfl⟩ <;> rcases hy with ⟨th', hth', hy⟩ | ⟨u', hu', rfl⟩
  · obtain ⟨hxi, hxe⟩ := (h.th th hth).entry_id hx
    obtain ⟨hyi, -⟩ := (h.th th' hth').entry_id hy
    obtain rfl := h.th_unique hth hth' hxi (he ▸ hyi)
    rw [hxe] at hy
    exact (List.mem_singleton.mp hy).symm
  · exact absurd ((h.th th hth).entry_id hx).1 (he ▸ h.th_not_pend hth hu')
  · exact absurd ((h.th th' hth').entry_id hy).1 (he ▸ h.th_not_pend hth' hu)
  · rw [List.inj_on_of_nodup_map (List.nodup_append.mp (List.nodup_append.mp h.nd).2.1).2.1 hu hu' he]

/-! ### calls and bursts -/

theorem call (h : GInv s c) {self : EvId} {cl : Call ℚ σ} {rp : Reply} (hc : hcall c self cl = some (c', rp)) :
    ∃ S, doCall s self cl = (S, rp) ∧ noteErr self (S, rp) = S ∧ GInv S c' := by
  obtain ⟨reg, threads, pend, stores, loose, cur⟩ := c
  have hr : reg = Regs.of s := h.reg
  subst hr
  have hsame : ∀ th ∈ threads, s.proc? th.pid = s.proc? th.pid := fun _ _ => rfl
  cases cl with
  | timeout d v =>
    cases v <;> simp only [hcall, reduceCtorEq] at hc
    split at hc
    · rename_i hd
      obtain ⟨rfl, rfl⟩ := Prod.mk.inj (Option.some.inj hc)
      refine ⟨_, KExec.doCall_timeout s self d .none hd, rfl, ?_⟩
      refine h.grow (Keeps.push _ rfl) (by simp [Regs.of])
        (KExec.wf_push1 h.wf _ rfl rfl rfl rfl (le_add_of_nonneg_right hd)) ((h.ag.cons _).trans List.perm_middle.symm)
        hsame [s.events.size] List.perm_middle (List.nodup_singleton _)
        (fun e he => by rw [List.mem_singleton.mp he]) h.pids (fun th hth => .inl hth) ?_ (fun u hu => .inl hu)
        h.stores rfl
      intro w hw
      rcases List.mem_cons.mp hw with rfl | hw
      · exact .inr ⟨rfl, by simp [-Array.getD_eq_getD_getElem?, Wait.Ev, EvIs, KState.ev, Regs.of, getD_push]⟩
      · exact .inl hw
    · cases hc
  | sput r item =>
    simp only [hcall] at hc
    cases hst : stores r with
    | none => rw [hst] at hc; cases hc
    | some st =>
      rw [hst] at hc
      obtain ⟨rfl, rfl⟩ := Prod.mk.inj (Option.some.inj hc)
      obtain ⟨hrs, hres⟩ := h.stores r st hst
      refine ⟨_, doCall_sput s self r item st hrs hres, rfl, ?_⟩
      refine h.grow (Keeps.push _ rfl) (by simp [Regs.of]) (KExec.wf_push1 h.wf _ rfl rfl rfl rfl (le_refl _))
        ((h.ag.cons _).trans ?_) hsame [s.events.size] ?_ (List.nodup_singleton _)
        (fun e he => by rw [List.mem_singleton.mp he]) h.pids (fun th hth => .inl hth) (fun w hw => .inl hw) ?_
        (stores_setRes h.stores hrs) rfl
      · simp only [Cfg.entries, List.map_append, List.map_cons, List.map_nil, ← List.append_assoc]
        exact (List.perm_append_singleton _ _).symm
      · simp only [Cfg.ids, List.map_append, List.map_cons, List.map_nil, ← List.append_assoc]
        exact List.perm_append_singleton _ _
      · intro u hu
        rcases List.mem_append.mp hu with hu | hu
        · exact .inl hu
        · rw [List.mem_singleton.mp hu]
          exact .inr (by simp [-Array.getD_eq_getD_getElem?, EvIs, KState.ev, Regs.of, getD_push])
  | sget r f =>
    cases f <;> simp only [hcall, reduceCtorEq] at hc
    cases hst : stores r with
    | none => rw [hst] at hc; cases hc
    | some st =>
      rw [hst, Option.bind_some] at hc
      obtain ⟨hrs, hres⟩ := h.stores r st hst
      split at hc
      · rename_i hq
        split at hc
        · rename_i ht
          obtain ⟨rfl, rfl⟩ := Prod.mk.inj (Option.some.inj hc)
          refine ⟨_, doCall_sget_miss s self r st hrs hres hq ht, rfl, ?_⟩
          refine h.grow (Keeps.push _ rfl) (by simp [Regs.of]) (KExec.wf_same h.wf rfl rfl rfl) h.ag hsame [s.events.size]
            List.perm_middle (List.nodup_singleton _) (fun e he => by rw [List.mem_singleton.mp he]) h.pids
            (fun th hth => .inl hth) ?_ (fun u hu => .inl hu) (stores_setRes h.stores hrs) rfl
          intro w hw
          rcases List.mem_cons.mp hw with rfl | hw
          · exact .inr ⟨rfl, by simp [-Array.getD_eq_getD_getElem?, Wait.Ev, EvIs, KState.ev, Regs.of, getD_push]⟩
          · exact .inl hw
        · rename_i v its ht
          obtain ⟨rfl, rfl⟩ := Prod.mk.inj (Option.some.inj hc)
          refine ⟨_, doCall_sget_hit s self r st v its hrs hres hq ht, rfl, ?_⟩
          refine h.grow (Keeps.push _ rfl) (by simp [Regs.of]) (KExec.wf_push1 h.wf _ rfl rfl rfl rfl (le_refl _))
            ((h.ag.cons _).trans List.perm_middle.symm) hsame [s.events.size]
            List.perm_middle (List.nodup_singleton _) (fun e he => by rw [List.mem_singleton.mp he]) h.pids
            (fun th hth => .inl hth) ?_ (fun u hu => .inl hu) (stores_setRes h.stores hrs) rfl
          intro w hw
          rcases List.mem_cons.mp hw with rfl | hw
          · exact .inr ⟨rfl, by simp [-Array.getD_eq_getD_getElem?, Wait.Ev, EvIs, KState.ev, Regs.of, getD_push]⟩
          · exact .inl hw
      · cases hc
  | load k =>
    simp only [hcall] at hc
    obtain ⟨rfl, rfl⟩ := Prod.mk.inj (Option.some.inj hc)
    exact ⟨s, rfl, rfl, h⟩
  | store k v =>
    simp only [hcall] at hc
    obtain ⟨rfl, rfl⟩ := Prod.mk.inj (Option.some.inj hc)
    refine ⟨_, rfl, rfl, ?_⟩
    refine h.grow (Keeps.same (by rfl) _) ?_ (KExec.wf_same h.wf rfl rfl rfl) h.ag hsame [] (List.Perm.refl _) List.nodup_nil
      (fun _ he => absurd he List.not_mem_nil) h.pids (fun th hth => .inl hth) (fun w hw => .inl hw) (fun u hu => .inl hu)
      h.stores rfl
    simp only [Regs.of, Regs.mk.injEq, true_and, and_true]
    funext k'
    unfold upd
    by_cases hk : k' = k
    · subst hk; simp
    · rw [if_neg hk, List.find?_cons_of_neg (by simpa using fun hh : k = k' => hk hh.symm), KExec.find?_filter_ne _ _ _ (Ne.symm hk)]
  | log what v =>
    have key : (∀ keys, v ≠ .cv keys) → ∃ S, doCall s self (.log what v) = (S, .unit) ∧ noteErr self (S, .unit) = S ∧
        GInv S { reg := { Regs.of s with trace := s.trace.push (.log self what v s.now) }, threads := threads, pend := pend
                 stores := stores, loose := loose, cur := cur } := fun hv =>
      ⟨s.emit (.log self what v s.now), by simp only [doCall, freezeVal_eq s v hv], rfl,
        h.grow (Keeps.same (by rfl) _) (by rfl) (KExec.wf_same h.wf rfl rfl rfl) h.ag hsame [] (List.Perm.refl _) List.nodup_nil
          (fun _ he => absurd he List.not_mem_nil) h.pids (fun th hth => .inl hth) (fun w hw => .inl hw) (fun u hu => .inl hu)
          h.stores rfl⟩
    cases v <;> simp only [hcall, reduceCtorEq] at hc <;> obtain ⟨rfl, rfl⟩ := Prod.mk.inj (Option.some.inj hc) <;>
      exact key (fun _ hh => by cases hh)
  | spawn st =>
    simp only [hcall] at hc
    obtain ⟨rfl, rfl⟩ := Prod.mk.inj (Option.some.inj hc)
    refine ⟨_, KExec.doCall_spawn s self st, rfl, ?_⟩
    have hne : ∀ th ∈ threads, th.pid ≠ s.events.size := fun th hth => Nat.ne_of_lt (h.plt th hth)
    refine h.grow (Keeps.push2 _ _ rfl) (by simp [Regs.of]) (KExec.wf_push1 h.wf _ rfl rfl rfl rfl (le_refl _))
      ((h.ag.cons _).trans ?_) ?_ [s.events.size, s.events.size + 1] ?_ ?_ ?_ ?_ ?_ (fun w hw => .inl hw) (fun u hu => .inl hu)
      h.stores rfl
    · simp only [Cfg.entries, List.flatMap_append, List.flatMap_cons, List.flatMap_nil, Wait.entries, List.append_nil,
        List.append_assoc]
      exact List.perm_middle.symm
    · intro th hth
      rw [proc?_eq, proc?_eq]
      exact (plookup_set ..).trans (if_neg (hne th hth))
    · simp only [Cfg.ids, List.flatMap_append, List.flatMap_cons, List.flatMap_nil, List.append_nil]
      exact perm_new _ _ _
    · simp
    · intro e he
      rcases List.mem_cons.mp he with rfl | he
      · exact Nat.le_refl _
      · rw [List.mem_singleton.mp he]; exact Nat.le_succ _
    · rw [List.map_append, List.nodup_append]
      refine ⟨h.pids, List.nodup_singleton _, ?_⟩
      rintro a ha b hb rfl
      obtain ⟨th, hth, rfl⟩ := List.mem_map.mp ha
      exact hne th hth (List.mem_singleton.mp hb)
    · intro th hth
      rcases List.mem_append.mp hth with hth | hth
      · exact .inl hth
      · rw [List.mem_singleton.mp hth]
        refine .inr ⟨⟨⟨rfl, ?_⟩, ?_, ?_, fun _ _ hh => by cases hh⟩, ?_⟩
        · simp [-Array.getD_eq_getD_getElem?, EvIs, KState.ev, Regs.of, getD_push]
        · intro t ht
          cases ht
          rw [proc?_eq]
          exact (plookup_set ..).trans (if_pos rfl)
        · intro l hl
          cases hl
          simp [-Array.getD_eq_getD_getElem?, EvIs, KState.ev, Regs.of, getD_push, Wait.outcome]
        · show s.events.size < ((s.events.push _).push _).size
          rw [Array.size_push, Array.size_push]
          omega
  | _ => simp only [hcall, reduceCtorEq] at hc

/-- a call the kernel refuses: the state is unchanged and the caller gets the exception -/
theorem refused (h : GInv s c) {self : EvId} {cl : Call ℚ σ} {x : Exc} (hr : hrefused c cl = some x) :
    doCall s self cl = (s, .err x) ∧
      GInv (s.emit (.callErr self x s.now))
        { c with reg := { c.reg with trace := c.reg.trace.push (.callErr self x c.reg.now) } } := by
  refine ⟨?_, h.grow (Keeps.same (by rfl) _) (by rw [h.reg]; rfl) (KExec.wf_same h.wf rfl rfl rfl) h.ag (fun _ _ => rfl) []
    (List.Perm.refl _) List.nodup_nil (fun _ he => absurd he List.not_mem_nil) h.pids (fun _ hh => .inl hh)
    (fun _ hh => .inl hh) (fun _ hh => .inl hh) h.stores rfl⟩
  cases cl <;> simp only [hrefused, reduceCtorEq] at hr
  rename_i p cause
  obtain ⟨th, hfind, hr⟩ := Option.bind_eq_some_iff.mp hr
  have hth : th ∈ c.threads := List.mem_of_find?_eq_some hfind
  have hpp : th.pid = p := by simpa using List.find?_some hfind
  subst hpp
  have hT := h.th th hth
  cases hw : th.wait with
  | gone p v =>
    rw [hw] at hr
    cases hr
    have hev := hT.ev
    rw [hw] at hev
    obtain ⟨hpe, hk, -, ho⟩ := hev
    rw [← hpe]
    exact KExec.doCall_interrupt_dead s self p cause hk (by rw [show (s.events.getD p default).out = _ from ho]; rfl)
  | ending q v =>
    rw [hw] at hr
    simp only at hr
    split at hr
    · rename_i htr
      cases hr
      obtain ⟨l, hl⟩ := Option.isSome_iff_exists.mp htr
      have hown := hT.own l hl
      rw [hw] at hown
      exact KExec.doCall_interrupt_dead s self th.pid cause hown.1
        (by rw [show (s.events.getD th.pid default).out = _ from hown.2.2]; rfl)
    · cases hr
  | _ =>
    rw [hw] at hr
    simp only at hr
    split at hr
    · rename_i hc
      cases hr
      obtain ⟨l, hl⟩ := Option.isSome_iff_exists.mp hc.1
      have hown := hT.own l hl
      rw [hw] at hown
      exact KExec.doCall_interrupt_self s self th.pid cause hown.1 hown.2.2 (by rw [← hc.2, h.reg]; rfl)
    · cases hr

theorem run (h : GInv s c) {self : EvId} {b : Burst ℚ σ} {t : Term σ} (hr : hrun self b c = some (c', t)) :
    ∃ S, runBurst self b s = (S, t) ∧ GInv S c' := by
  induction b generalizing s c with
  | call cl k ih =>
    rw [hrun] at hr
    split at hr
    · rename_i cr hc
      obtain ⟨S1, hd, hn, h1⟩ := h.call (c' := cr.1) (rp := cr.2) hc
      obtain ⟨S, hS, hg⟩ := ih cr.2 h1 hr
      exact ⟨S, by rw [runBurst, hd, hn]; exact hS, hg⟩
    · obtain ⟨x, hx, hr'⟩ := Option.bind_eq_some_iff.mp hr
      obtain ⟨hd, h1⟩ := h.refused hx
      obtain ⟨S, hS, hg⟩ := ih (.err x) h1 hr'
      exact ⟨S, by rw [runBurst, hd]; exact hS, hg⟩
  | yield e st => cases hr; exact ⟨s, rfl, h⟩
  | ret v => cases hr; exact ⟨s, rfl, h⟩
  | raise x => cases hr; exact ⟨s, rfl, h⟩

/-- the end of a burst of the running process `p` -/
theorem after (body : σ → Resume → Burst ℚ σ) (fuel : Nat) (pr : ProcRec σ) (h : GInv s c) {p : EvId} {t : Term σ}
    {th0 : Thread σ} (hth0 : th0 ∈ c.threads) (hp0 : th0.pid = p) (hw0 : th0.wait = .running)
    (ha : hafter c p t = some c') : GInv (afterBurst body p fuel pr (s, t)) c' := by
  subst hp0
  have hown0 := (h.th th0 hth0).own
  rw [hw0] at hown0
  cases t with
  | yielded e st =>
    simp only [hafter] at ha
    split at ha
    · rename_i w rest hl
      split at ha
      · rename_i hwe
        cases ha
        have hwm : w ∈ c.loose := hl ▸ List.mem_cons_self
        obtain ⟨htar, hout, l, hcbs, hev⟩ := (h.loose w hwm).2.register (h.loose w hwm).1 hwe
        have hew : e ∈ w.ids := hwe ▸ List.mem_singleton_self e
        rw [afterBurst_yield body _ fuel pr s e st l hcbs]
        have hk : Keeps s _ [e] := Keeps.set (S := { s with
            procs := (th0.pid, { st := st, target := some e }) :: s.procs.filter (·.1 != th0.pid)
            events := s.events.setIfInBounds e { s.ev e with cbs := some (l ++ [.resume th0.pid]) }
            active := none }) _ rfl
        have hids : (Cfg.ids { c with
            threads := modTh c.threads th0.pid fun th => { th with st := st, wait := w }
            loose := rest }).Perm c.ids := by
          have hM := modTh_flatMap Thread.ids (f := fun th => { th with st := st, wait := w }) h.pids hth0 rfl
            (add := w.ids) (del := []) (List.Perm.of_eq (by simp only [Thread.ids, hw0, Wait.ids, List.append_nil]))
          rw [List.append_nil] at hM
          simp only [Cfg.ids, hl, List.flatMap_cons]
          exact (hM.append_right _).trans (List.Perm.of_eq (by simp only [List.append_assoc]))
        have hpids : ((modTh c.threads th0.pid fun th => { th with st := st, wait := w }).map (·.pid)).Nodup :=
          pids_modTh h.pids _ fun _ => rfl
        have hlt : e < s.events.size := KState.lt_of_cbs hcbs
        refine h.change hk (by rw [h.reg]; simp [Regs.of]) (KExec.wf_same h.wf rfl rfl rfl) (h.ag.trans ?_) ?_
          hpids ?_ ?_ ?_ h.stores ?_
        · have hM := modTh_flatMap (·.wait.entries) (f := fun th => { th with st := st, wait := w }) h.pids hth0 rfl
            (add := w.entries) (del := []) (by rw [hw0, List.append_nil]; exact List.Perm.refl _)
          rw [List.append_nil] at hM
          simp only [Cfg.entries, hl, List.flatMap_cons]
          exact ((hM.append_right _).trans (List.Perm.of_eq (by simp only [List.append_assoc]))).symm
        · exact hids.nodup_iff.mpr h.nd
        · intro th hth
          rcases mem_modTh hth with ⟨hth, hne⟩ | ⟨th1, hth1, hp1, rfl⟩
          · refine .inl ⟨hth, fun e' he' hm => ?_, (proc?_setProc s _ th.pid _ rfl).trans (if_neg hne)⟩
            rw [List.mem_singleton.mp hm] at he'
            exact h.th_not_loose hth hwm he' hew
          · obtain rfl := h.pid_unique hth1 hth0 hp1
            refine .inr ⟨⟨hev _ _ _ ?_, ?_, ?_, ?_⟩, Nat.lt_of_lt_of_le (h.plt th1 hth0) hk.size⟩
            · simp only [KState.ev, getD_setIfInBounds, hlt, and_self, if_true]
            · intro t ht
              rw [show t = e from Option.some.inj (ht.symm.trans htar)]
              exact (proc?_setProc s _ th1.pid _ rfl).trans (if_pos rfl)
            · intro l' hl'
              rw [hout]
              refine (hown0 l' hl').keep hk ?_
              rw [List.mem_singleton]
              rintro rfl
              exact h.th_not_loose hth0 hwm (Thread.mem_ids.mpr (.inl ⟨by rw [hl']; rfl, rfl⟩)) hew
            · intro q v hq
              change w = _ at hq
              rw [hq] at htar
              cases htar
        · intro w' hw'
          exact .inl ⟨hl ▸ List.mem_cons_of_mem _ hw', fun e' he' hm =>
            h.loose_head hl hw' hew (List.mem_singleton.mp hm ▸ he')⟩
        · intro u hu
          exact .inl ⟨hu, fun hm => h.loose_not_pend hwm hu (List.mem_singleton.mp hm ▸ hew)⟩
        · exact h.cur_keep hk (fun e' he' => List.mem_singleton.mp he' ▸ Cfg.mem_ids.mpr (.inr (.inl ⟨w, hwm, hew⟩)))
            (fun e' he' => .inl (hids.subset he')) rfl
      · cases ha
    · rename_i hl
      split at ha
      · rename_i hcond
        cases ha
        obtain ⟨hep, hany⟩ := hcond
        cases hfind : c.threads.find? (·.pid == e) with
        | none => rw [hfind] at hany; cases hany
        | some ch =>
          rw [hfind, Option.any_some] at hany
          have hch : ch ∈ c.threads := List.mem_of_find?_eq_some hfind
          have hce : ch.pid = e := by simpa using List.find?_some hfind
          subst hce
          obtain ⟨l, hcl⟩ := Option.isSome_iff_exists.mp hany
          have hTc := h.th ch hch
          have hownc := hTc.own l hcl
          have hci : ch.pid ∈ ch.ids := Thread.mem_ids.mpr (.inl ⟨hany, rfl⟩)
          rw [afterBurst_yield body _ fuel pr s ch.pid st l hownc.2.1]
          have hk : Keeps s _ [ch.pid] := Keeps.set (S := { s with
              procs := (th0.pid, { st := st, target := some ch.pid }) :: s.procs.filter (·.1 != th0.pid)
              events := s.events.setIfInBounds ch.pid { s.ev ch.pid with cbs := some (l ++ [.resume th0.pid]) }
              active := none }) _ rfl
          have hch1 : { ch with cbs := ch.cbs.map (· ++ [.resume th0.pid]) } ∈
              modTh c.threads ch.pid fun t => { t with cbs := t.cbs.map (· ++ [.resume th0.pid]) } :=
            List.mem_map.mpr ⟨ch, hch, if_pos rfl⟩
          have hth1 : th0 ∈ modTh c.threads ch.pid fun t => { t with cbs := t.cbs.map (· ++ [.resume th0.pid]) } :=
            List.mem_map.mpr ⟨th0, hth0, if_neg (Ne.symm hep)⟩
          have hp1 : ((modTh c.threads ch.pid fun t => { t with cbs := t.cbs.map (· ++ [.resume th0.pid]) }).map (·.pid)).Nodup :=
            pids_modTh h.pids _ fun _ => rfl
          have hIe : ∀ {α : Type} (g : Thread σ → List α)
              (hg1 : g { ch with cbs := ch.cbs.map (· ++ [.resume th0.pid]) } = g ch)
              (hg2 : g { th0 with st := st, wait := .join ch.pid } = g th0),
              ((modTh (modTh c.threads ch.pid fun t => { t with cbs := t.cbs.map (· ++ [.resume th0.pid]) }) th0.pid
                fun t => { t with st := st, wait := .join ch.pid }).flatMap g).Perm (c.threads.flatMap g) := fun g hg1 hg2 => by
            exact (modTh_flatMap_perm g hp1 hth1 rfl hg2).trans (modTh_flatMap_perm g h.pids hch rfl hg1)
          have hids := (hIe Thread.ids (by simp only [Thread.ids, hcl, Option.map_some, Option.isSome_some])
            (by simp only [Thread.ids, hw0, Wait.ids])).append_right (c.loose.flatMap Wait.ids ++ c.pend.map (·.1.ev))
          refine h.change_of hk hch hci (by rw [h.reg]; simp [Regs.of]) (KExec.wf_same h.wf rfl rfl rfl)
            (h.ag.trans ((hIe (·.wait.entries) rfl (by simp only [hw0, Wait.entries])).append_right _).symm)
            (hids.nodup_iff.mpr h.nd) (fun _ hx => hids.subset hx) (pids_modTh hp1 _ fun _ => rfl) ?_ rfl (fun _ hu => hu) h.stores rfl
          · intro t ht
            rcases mem_modTh ht with ⟨ht, hne⟩ | ⟨t1, ht1, hpt1, rfl⟩
            · rcases mem_modTh ht with ⟨ht, hne2⟩ | ⟨t2, ht2, hpt2, rfl⟩
              · exact .inl ⟨ht, hne2, (proc?_setProc s _ t.pid _ rfl).trans (if_neg hne)⟩
              · obtain rfl := h.pid_unique ht2 hch hpt2
                have hlt2 : t2.pid < s.events.size := hownc.lt
                refine .inr ⟨⟨hTc.ev.keep hk fun e' he' hm => ?_, fun t' ht' =>
                  ((proc?_setProc s _ t2.pid _ rfl).trans (if_neg hne)).trans (hTc.proc t' ht'), fun l' hl' => ?_,
                  fun _ _ _ => (by rw [hcl]; rfl)⟩,
                  Nat.lt_of_lt_of_le hlt2 hk.size⟩
                · have hn := (List.nodup_flatMap.mp (List.nodup_append.mp h.nd).1).1 t2 hch
                  unfold Thread.ids at hn
                  rw [hcl] at hn
                  exact (List.nodup_append.mp hn).2.2 _ (List.mem_singleton_self _) _ he' (List.mem_singleton.mp hm).symm
                · rw [hcl] at hl'
                  cases hl'
                  simp only [EvIs, KState.ev, getD_setIfInBounds, hlt2, and_self, if_true]
                  exact ⟨hownc.1, trivial, hownc.2.2⟩
            · rcases mem_modTh ht1 with ⟨ht1, -⟩ | ⟨t2, ht2, hpt2, rfl⟩
              · obtain rfl := h.pid_unique ht1 hth0 hpt1
                refine .inr ⟨⟨trivial, fun t' ht' => ?_, fun l' hl' => ?_, fun _ _ hh => (by cases hh)⟩,
                  Nat.lt_of_lt_of_le (h.plt t1 hth0) hk.size⟩
                · cases ht'
                  exact (proc?_setProc s _ t1.pid _ rfl).trans (if_pos rfl)
                · refine (hown0 l' hl').keep hk ?_
                  rw [List.mem_singleton]
                  exact hep.symm
              · exact absurd (hpt2.symm.trans hpt1) hep
      · cases ha
  | returned v =>
    simp only [hafter, h.find?_pid hth0, Option.any_some] at ha
    split at ha
    · rename_i htr
      cases ha
      obtain ⟨l0, hl0⟩ := Option.isSome_iff_exists.mp htr
      have hp0 : th0.pid ∈ th0.ids := Thread.mem_ids.mpr (.inl ⟨htr, rfl⟩)
      rw [afterBurst_ret]
      obtain ⟨hnow, heid, -, -, -⟩ := h.reg_eq
      rw [hnow, heid]
      have hk : Keeps s _ [th0.pid] := Keeps.set (S := { s with
          events := s.events.setIfInBounds th0.pid { s.ev th0.pid with out := some (.ok v) }
          agenda := { time := s.now, prio := NORMAL, eid := s.eid, ev := th0.pid } :: s.agenda
          eid := s.eid + 1
          trace := s.trace.push (.ended th0.pid (.ok v) s.now)
          procs := (th0.pid, { pr with target := none }) :: s.procs.filter (·.1 != th0.pid)
          active := none }) _ rfl
      have hids : (Cfg.ids { c with threads := modTh c.threads th0.pid fun th =>
          { th with wait := .ending ⟨s.now, NORMAL, s.eid, th0.pid⟩ v } }).Perm c.ids := by
        exact (modTh_flatMap_perm Thread.ids h.pids hth0 rfl (by simp only [Thread.ids, hw0, Wait.ids])).append_right _
      have hpids : ((modTh c.threads th0.pid fun th =>
          { th with wait := .ending ⟨s.now, NORMAL, s.eid, th0.pid⟩ v }).map (·.pid)).Nodup :=
        pids_modTh h.pids _ fun _ => rfl
      refine h.change_of hk hth0 hp0 (by rw [h.reg]; simp [Regs.of]) (KExec.wf_push1 h.wf _ rfl rfl rfl rfl (le_refl _))
        ((h.ag.cons _).trans ?_) (hids.nodup_iff.mpr h.nd) (fun _ hx => hids.subset hx) hpids ?_ rfl (fun _ hu => hu) h.stores rfl
      · have hM := modTh_flatMap (·.wait.entries) (f := fun th => { th with wait := .ending ⟨s.now, NORMAL, s.eid, th0.pid⟩ v })
          h.pids hth0 rfl (add := [⟨s.now, NORMAL, s.eid, th0.pid⟩]) (del := [])
          (by rw [hw0, List.append_nil]; exact List.Perm.refl _)
        rw [List.append_nil] at hM
        exact (List.perm_middle.symm.trans (List.Perm.of_eq (by simp))).trans (hM.append_right _).symm
      · intro th hth
        rcases mem_modTh hth with ⟨hth, hne⟩ | ⟨th1, hth1, hp1, rfl⟩
        · exact .inl ⟨hth, hne, (proc?_setProc s _ th.pid _ rfl).trans (if_neg hne)⟩
        · obtain rfl := h.pid_unique hth1 hth0 hp1
          refine .inr ⟨⟨rfl, fun t ht => (by cases ht), ?_, fun _ _ _ => htr⟩, Nat.lt_of_lt_of_le (h.plt th1 hth0) hk.size⟩
          intro l hl
          have h0 := hown0 l hl
          simp only [EvIs, KState.ev, getD_setIfInBounds, h0.lt, and_self, if_true, Wait.outcome]
          exact ⟨h0.1, h0.2.1, trivial⟩
    · cases ha
  | raised x => cases ha

/-! ### the kernel steps -/

theorem clear_cur (h : GInv s c) : GInv s { c with cur := none } :=
  ⟨h.reg, h.wf, h.ag, h.nd, h.pids, h.plt, h.th, h.loose, h.pend, h.stores, fun _ he => by cases he⟩

/-- the entry `q` of a waiting process is popped: the state in which its burst starts -/
theorem begin (h : GInv s c) {th : Thread σ} (hth : th ∈ c.threads) {q : QEntry ℚ} {arg : Resume} {rest : List (QEntry ℚ)}
    (hw : th.wait.resumes = some (q, arg)) (hp : popMin s.agenda = some (q, rest)) :
    GInv (began s q rest th.pid arg) (hbegin c th.pid q arg) := by
  obtain ⟨hent, hids, hout, -⟩ := Wait.of_resumes hw
  have hqi : q.ev ∈ th.ids := Thread.mem_ids.mpr (.inr (hids ▸ List.mem_singleton_self _))
  have hk : Keeps s (began s q rest th.pid arg) [q.ev] := Keeps.set _ rfl
  have hI : (Cfg.ids (hbegin c th.pid q arg) ++ [q.ev]).Perm c.ids := by
    have hM := modTh_flatMap Thread.ids (f := fun t => { t with wait := .running }) h.pids hth rfl (add := []) (del := [q.ev])
      (List.Perm.of_eq (by unfold Thread.ids; rw [hids]; simp [Wait.ids]))
    rw [List.append_nil] at hM
    exact (perm_swap_right _ _ _).trans (hM.append_right _)
  have hnd := hI.nodup_iff.mpr h.nd
  have hpids : ((hbegin c th.pid q arg).threads.map (·.pid)).Nodup :=
    pids_modTh h.pids _ fun _ => rfl
  refine h.change hk (by rw [hbegin, h.reg]; simp [Regs.of, began])
    (KExec.wf_same (openEvent_wf s q rest h.wf hp).1 rfl rfl rfl) ?_ (List.nodup_append.mp hnd).1 hpids ?_ ?_ ?_ h.stores ?_
  · have hM := modTh_flatMap (·.wait.entries) (f := fun t => { t with wait := .running }) h.pids hth rfl (add := [])
      (del := [q]) (List.Perm.of_eq (by rw [hent]; rfl))
    rw [List.append_nil] at hM
    have h1 : (q :: rest).Perm (q :: Cfg.entries (hbegin c th.pid q arg)) :=
      ((popMin_spec _ _ _ hp).1.symm.trans h.ag).trans
        (((hM.append_right _).symm.trans (perm_swap_right _ _ _)).trans (List.perm_append_singleton _ _))
    exact h1.cons_inv
  · intro t ht
    rcases mem_modTh ht with ⟨ht, hne⟩ | ⟨th1, hth1, hp1, rfl⟩
    · refine .inl ⟨ht, fun e' he' hm => ?_, rfl⟩
      rw [List.mem_singleton.mp hm] at he'
      exact hne (congrArg Thread.pid (h.th_unique ht hth he' hqi))
    · obtain rfl := h.pid_unique hth1 hth hp1
      refine .inr ⟨⟨trivial, fun t ht => (by cases ht), fun l hl => ?_, fun _ _ hh => (by cases hh)⟩,
        Nat.lt_of_lt_of_le (h.plt th1 hth) hk.size⟩
      refine (hout ▸ (h.th th1 hth).own l hl).keep hk ?_
      rw [List.mem_singleton]
      intro hpq
      have hn := (List.nodup_flatMap.mp (List.nodup_append.mp h.nd).1).1 th1 hth
      unfold Thread.ids at hn
      rw [hl, hids, hpq] at hn
      simp at hn
  · intro w hw'
    exact .inl ⟨hw', fun e' he' hm => h.th_not_loose hth hw' hqi (List.mem_singleton.mp hm ▸ he')⟩
  · intro u hu
    exact .inl ⟨hu, fun hm => h.th_not_pend hth hu (List.mem_singleton.mp hm ▸ hqi)⟩
  · intro e he
    cases he
    refine ⟨fun hm => (List.nodup_append.mp hnd).2.2 _ hm _ (List.mem_singleton_self _) rfl, ?_⟩
    have hev := (h.th th hth).ev
    have hlt : q.ev < s.events.size := (h.th th hth).lt _ hqi
    have : ((began s q rest th.pid arg).ev q.ev).out = (s.ev q.ev).out := by
      simp only [began, KState.ev, getD_setIfInBounds, hlt, and_self, if_true]
    rw [this]
    revert hev hw
    cases th.wait <;> intro hw hev <;> cases hw
    · exact ⟨_, hev.2.2.2⟩
    · exact ⟨_, hev.2.2⟩
    · exact ⟨_, hev.2.2⟩

/-- the burst of process `th.pid` from the state `began …` to the end of the kernel step -/
theorem burst (body : σ → Resume → Burst ℚ σ) (fuel : Nat) (pr : ProcRec σ) {B : KState ℚ σ} {cB : Cfg σ} (h : GInv B cB)
    {th : Thread σ} (hth : th ∈ cB.threads) (hw : th.wait = .running) {e : EvId} (hcur : cB.cur = some e) {b : Burst ℚ σ}
    (hr : hend cB th.pid b = some c') :
    ∃ s', closeEvent { s := afterBurst body th.pid fuel pr (runBurst th.pid b B) } e = .ok s' ∧ GInv s' c' := by
  obtain ⟨⟨c1, t⟩, hrun, hr'⟩ := Option.bind_eq_some_iff.mp hr
  obtain ⟨c2, haft, rfl⟩ := Option.map_eq_some_iff.mp hr'
  obtain ⟨S1, hS1, h1⟩ := h.run hrun
  obtain ⟨hc1, hk1⟩ := hrun_grows hrun
  have h2 := h1.after body fuel pr (hk1 th hth) rfl hw haft
  obtain ⟨-, v, hv⟩ := h2.cur e ((hafter_cur haft).trans (hc1.trans hcur))
  rw [hS1]
  exact ⟨_, KStepChain.closeEvent_ok _ e v hv, h2.clear_cur⟩

/-- **a kernel step on the entry of a waiting process** is what `hresume` computes.  `hst`: the store a served `get` came from
is one of the configuration's, so that the `.trigPut` callback of the `get` event finds no `put` waiting.  A step that runs a
burst needs one unit of fuel (`fuel + 1`, here and in `step_finish`); `step_retire` and `step_pend` run none. -/
theorem step_resume (body : σ → Resume → Burst ℚ σ) (fuel : Nat) (h : GInv s c) {th : Thread σ} (hth : th ∈ c.threads)
    {q : QEntry ℚ} {arg : Resume} {rest : List (QEntry ℚ)} (hw : th.wait.resumes = some (q, arg))
    (hst : ∀ r q' v, th.wait = .getH r q' v → (c.stores r).isSome = true)
    (hp : popMin s.agenda = some (q, rest)) (hr : hresume body c th = some c') :
    ∃ s', step body (fuel + 1) s = .ok s' ∧ GInv s' c' := by
  have hT := h.th th hth
  have hstep : step body (fuel + 1) s = closeEvent ⟨afterBurst body th.pid fuel { st := th.st, target := some q.ev }
      (runBurst th.pid (body th.st arg) (began s q rest th.pid arg)), none⟩ q.ev := by
    have hpr := hT.proc _ (Wait.of_resumes hw).2.2.2
    have hev := hT.ev
    revert hw hev hst
    cases th.wait <;> intro hw hst hev <;> cases hw
    · exact KStepChain.step_resume body fuel s q rest th.pid _ .none .start hp hev.2.2.1 hev.2.2.2
        (by rw [hev.2.1, if_pos rfl]) hpr
    · exact KStepChain.step_resume body fuel s q rest th.pid _ .none _ hp hev.2.1 hev.2.2
        (by rw [hev.1, if_neg (by simp)]) hpr
    · rename_i r v
      obtain ⟨st, hst'⟩ := Option.isSome_iff_exists.mp (hst r q v rfl)
      have hres := (h.stores r st hst').2
      exact KStepChain.step_get_resume body fuel s q rest r th.pid _ (.int v) _ hp hev.2.1
        (triggerPut_none _ (by show ((s.res r).putQ = []); rw [hres]; rfl)) hev.2.2
        (by rw [hev.1, if_neg (by simp)]) hpr
  rw [hstep]
  rw [hresume_eq body c th hw] at hr
  refine (h.begin hth hw hp).burst body fuel _ (th := { th with wait := .running }) ?_ rfl rfl hr
  exact List.mem_map.mpr ⟨th, hth, if_pos rfl⟩

/-- the process event of a process that has returned is popped: the process leaves the configuration -/
theorem finish_open (h : GInv s c) {th : Thread σ} (hth : th ∈ c.threads) {q : QEntry ℚ} {v : Val}
    {rest : List (QEntry ℚ)} (hw : th.wait = .ending q v) (hp : popMin s.agenda = some (q, rest)) :
    GInv (openEvent s q rest) { c with reg := { c.reg with now := q.time }, threads := c.threads.filter (·.pid != th.pid) } ∧
      q.ev = th.pid ∧ th.pid ∉ Cfg.ids { c with threads := c.threads.filter (·.pid != th.pid) } := by
  have hT := h.th th hth
  obtain ⟨l, hcb⟩ := Option.isSome_iff_exists.mp (hT.tracked q v hw)
  have hown := hT.own l hcb
  have hq : q.ev = th.pid := by have := hT.ev; rwa [hw] at this
  have hpi : th.pid ∈ th.ids := Thread.mem_ids.mpr (.inl ⟨by rw [hcb]; rfl, rfl⟩)
  have hk : Keeps s (openEvent s q rest) [th.pid] := hq ▸ Keeps.set _ rfl
  have hI := filter_flatMap Thread.ids h.pids hth
  have hn : (th.ids ++ ((c.threads.filter (·.pid != th.pid)).flatMap Thread.ids ++
      (c.loose.flatMap Wait.ids ++ c.pend.map (·.1.ev)))).Nodup := by
    rw [← List.append_assoc]
    exact (hI.append_right _).nodup_iff.mpr h.nd
  have hsub : ∀ e ∈ Cfg.ids { c with threads := c.threads.filter (·.pid != th.pid) }, e ∈ c.ids := fun e he => by
    rcases List.mem_append.mp he with he | he
    · exact List.mem_append_left _ (hI.subset (List.mem_append_right _ he))
    · exact List.mem_append_right _ he
  refine ⟨h.change_of hk hth hpi (by rw [h.reg]; simp [Regs.of, openEvent]) (openEvent_wf s q rest h.wf hp).1 ?_
    (List.nodup_append.mp hn).2.1 hsub ((List.filter_sublist.map _).nodup h.pids) ?_ rfl (fun _ hu => hu) h.stores rfl,
    hq, fun hm => (List.nodup_append.mp hn).2.2 _ hpi _ hm rfl⟩
  · have hE := filter_flatMap (·.wait.entries) h.pids hth
    rw [hw] at hE
    have h1 : (q :: rest).Perm (q :: Cfg.entries
        { c with reg := { c.reg with now := q.time }, threads := c.threads.filter (·.pid != th.pid) }) :=
      ((popMin_spec _ _ _ hp).1.symm.trans h.ag).trans (hE.append_right _).symm
    exact h1.cons_inv
  · intro t ht
    obtain ⟨ht, hne⟩ := List.mem_filter.mp ht
    exact .inl ⟨ht, by simpa using hne, rfl⟩

/-- **a kernel step on the process event of a process that has returned**: nobody has joined it, or its parent has and goes on -/
theorem step_finish (body : σ → Resume → Burst ℚ σ) (fuel : Nat) (h : GInv s c) {th : Thread σ} (hth : th ∈ c.threads)
    {q : QEntry ℚ} {v : Val} {rest : List (QEntry ℚ)} (hw : th.wait = .ending q v)
    (hp : popMin s.agenda = some (q, rest)) (hf : hfinish body c th q v = some c') :
    ∃ s', step body (fuel + 1) s = .ok s' ∧ GInv s' c' := by
  obtain ⟨hO, hq, hnot⟩ := h.finish_open hth hw hp
  have hT := h.th th hth
  obtain ⟨l, hcb⟩ := Option.isSome_iff_exists.mp (hT.tracked q v hw)
  have hown := hT.own l hcb
  rw [hw] at hown
  have hout : ((openEvent s q rest).ev q.ev).out = some (.ok v) := by
    rw [openEvent_ev s q rest, if_pos rfl]
    exact hq ▸ hown.2.2
  unfold hfinish at hf
  rw [hcb] at hf
  match l, hf, hown with
  | [], hf, hown =>
    cases hf
    refine ⟨_, ?_, hO⟩
    rw [step_eq body _ s q rest [] hp (hq ▸ hown.2.1)]
    exact KStepChain.closeEvent_ok _ _ v hout
  | [.resume p], hf, hown =>
    obtain ⟨par, hfind, hf⟩ := Option.bind_eq_some_iff.mp hf
    have hpar : par ∈ c.threads := List.mem_of_find?_eq_some hfind
    have hpp : par.pid = p := by simpa using List.find?_some hfind
    subst hpp
    cases hwp : par.wait with
    | join e =>
      rw [hwp] at hf
      simp only at hf
      split at hf
      · rename_i hep
        subst hep
        have hne : par.pid ≠ th.pid := fun hh => by
          rw [h.pid_unique hpar hth hh, hw] at hwp
          cases hwp
        have hparF : par ∈ c.threads.filter (·.pid != th.pid) := List.mem_filter.mpr ⟨hpar, by simpa using hne⟩
        have hTp := hO.th par hparF
        rw [KStepChain.step_resume body fuel s q rest par.pid _ v (.value v) hp (hq ▸ hown.2.1) (hq ▸ hown.2.2)
          (by rw [hq, hown.1, if_neg (by simp)]) ((h.th par hpar).proc _ (by rw [hwp]; rfl))]
        have hIe : ∀ {α : Type} (g : Thread σ → List α) (hg : g { par with wait := .running } = g par),
            ((modTh (c.threads.filter (·.pid != th.pid)) par.pid fun t => { t with wait := .running }).flatMap g).Perm
              ((c.threads.filter (·.pid != th.pid)).flatMap g) := fun g hg => by
          exact modTh_flatMap_perm g hO.pids hparF rfl hg
        have hB : GInv (began s q rest par.pid (.value v))
            (hbegin { c with threads := c.threads.filter (·.pid != th.pid) } par.pid q (.value v)) := by
          have hI : (Cfg.ids (hbegin { c with threads := c.threads.filter (·.pid != th.pid) } par.pid q (.value v))).Perm
              (Cfg.ids { c with threads := c.threads.filter (·.pid != th.pid) }) :=
            (hIe Thread.ids (by simp only [Thread.ids, hwp, Wait.ids])).append_right _
          refine hO.change (X := []) (Keeps.same (by rfl) _) (by rw [hbegin, h.reg]; simp [Regs.of, began])
            (KExec.wf_same hO.wf rfl rfl rfl) (hO.ag.trans ((hIe (·.wait.entries) (by simp only [hwp, Wait.entries])).append_right _).symm)
            (hI.nodup_iff.mpr hO.nd) (pids_modTh hO.pids _ fun _ => rfl) ?_
            (fun w hw' => .inl ⟨hw', fun _ _ => List.not_mem_nil⟩) (fun u hu => .inl ⟨hu, List.not_mem_nil⟩) hO.stores ?_
          · intro t ht
            rcases mem_modTh ht with ⟨ht, -⟩ | ⟨t1, ht1, hp1, rfl⟩
            · exact .inl ⟨ht, fun _ _ => List.not_mem_nil, rfl⟩
            · obtain rfl := hO.pid_unique ht1 hparF hp1
              refine .inr ⟨⟨trivial, fun _ hh => (by cases hh), fun l' hl' => ?_, fun _ _ hh => (by cases hh)⟩, hO.plt t1 hparF⟩
              have := hTp.own l' hl'
              rwa [hwp] at this
          · intro e he
            cases he
            exact ⟨fun hm => hnot (hq ▸ hI.subset hm), v, hout⟩
        refine hB.burst body fuel _ (th := { par with wait := .running }) ?_ rfl rfl hf
        exact List.mem_map.mpr ⟨par, hparF, if_pos rfl⟩
      · cases hf
    | _ => rw [hwp] at hf; cases hf

/-- **a kernel step on the process event of a process that has returned and that nobody has joined**, the process being remembered -/
theorem step_retire (body : σ → Resume → Burst ℚ σ) (fuel : Nat) (h : GInv s c) {th : Thread σ} (hth : th ∈ c.threads)
    {q : QEntry ℚ} {v : Val} {rest : List (QEntry ℚ)} (hw : th.wait = .ending q v)
    (hp : popMin s.agenda = some (q, rest)) (hf : hretire c th q v = some c') :
    ∃ s', step body fuel s = .ok s' ∧ GInv s' c' := by
  have hT := h.th th hth
  unfold hretire at hf
  split at hf
  · rename_i hcb
    cases hf
    have hown := hT.own [] hcb
    rw [hw] at hown
    have hq : q.ev = th.pid := by have := hT.ev; rwa [hw] at this
    have hpi : th.pid ∈ th.ids := Thread.mem_ids.mpr (.inl ⟨by rw [hcb]; rfl, rfl⟩)
    have hk : Keeps s (openEvent s q rest) [th.pid] := hq ▸ Keeps.set _ rfl
    have hev : (openEvent s q rest).ev th.pid = { s.ev th.pid with cbs := none } := by
      rw [openEvent_ev s q rest, if_pos hq.symm, hq]
    have hI := modTh_flatMap_perm Thread.ids (f := fun t => { t with wait := .gone t.pid v, cbs := none }) h.pids hth rfl
      (by simp only [Thread.ids, hcb, hw, Wait.ids]; rfl)
    have hids : (Cfg.ids { c with threads := modTh c.threads th.pid fun t => { t with wait := .gone t.pid v, cbs := none } }).Perm
        c.ids := hI.append_right _
    refine ⟨_, ?_, h.change_of hk hth hpi (by rw [h.reg]; simp [Regs.of, openEvent]) (openEvent_wf s q rest h.wf hp).1 ?_
      (hids.nodup_iff.mpr h.nd) (fun _ hx => hids.subset hx) (pids_modTh h.pids _ fun _ => rfl) ?_ rfl (fun _ hu => hu) h.stores rfl⟩
    · rw [step_eq body fuel s q rest [] hp (hq ▸ hown.2.1)]
      refine KStepChain.closeEvent_ok _ _ v ?_
      rw [hq, hev]
      exact hown.2.2
    · have hE := modTh_flatMap (·.wait.entries) (f := fun t => { t with wait := .gone t.pid v, cbs := none }) h.pids hth rfl
        (add := []) (del := [q]) (List.Perm.of_eq (by rw [hw]; rfl))
      rw [List.append_nil] at hE
      have h1 : (q :: rest).Perm (q :: Cfg.entries { c with
          reg := { c.reg with now := q.time }
          threads := modTh c.threads th.pid fun t => { t with wait := .gone t.pid v, cbs := none } }) :=
        ((popMin_spec _ _ _ hp).1.symm.trans h.ag).trans
          (((hE.append_right _).symm.trans (perm_swap_right _ _ _)).trans (List.perm_append_singleton _ _))
      exact h1.cons_inv
    · intro t ht
      rcases mem_modTh ht with ⟨ht, hne⟩ | ⟨t1, ht1, hp1, rfl⟩
      · exact .inl ⟨ht, hne, rfl⟩
      · obtain rfl := h.pid_unique ht1 hth hp1
        refine .inr ⟨⟨⟨rfl, ?_, ?_, ?_⟩, fun _ hh => (by cases hh), fun _ hl => (by cases hl), fun _ _ hh => (by cases hh)⟩,
          Nat.lt_of_lt_of_le (h.plt t1 hth) hk.size⟩ <;> rw [hev]
        · exact hown.1
        · exact hown.2.2
  · cases hf

/-- the pending `StorePut` event `u` is popped -/
theorem pend_open (h : GInv s c) {u : QEntry ℚ × ResId} {pend' : List (QEntry ℚ × ResId)} (hpe : c.pend.Perm (u :: pend'))
    {rest : List (QEntry ℚ)} (hp : popMin s.agenda = some (u.1, rest)) :
    GInv (openEvent s u.1 rest) { c with reg := { c.reg with now := u.1.time }, pend := pend' } ∧
      u.1.ev ∉ Cfg.ids { c with reg := { c.reg with now := u.1.time }, pend := pend' } ∧
      ((openEvent s u.1 rest).ev u.1.ev).out = some (.ok .none) := by
  have hu : u ∈ c.pend := hpe.symm.subset List.mem_cons_self
  have hev := h.pend u hu
  have hk : Keeps s (openEvent s u.1 rest) [u.1.ev] := Keeps.set _ rfl
  have hI : c.ids.Perm (u.1.ev :: Cfg.ids { c with reg := { c.reg with now := u.1.time }, pend := pend' }) := by
    simp only [Cfg.ids]
    refine (((hpe.map (·.1.ev)).append_left _).append_left _).trans ?_
    rw [List.map_cons, ← List.append_assoc]
    exact List.perm_middle.trans (List.Perm.of_eq (by rw [List.append_assoc]))
  have hnd := List.nodup_cons.mp (hI.nodup_iff.mp h.nd)
  have hsub : ∀ u' ∈ pend', u' ∈ c.pend := fun u' hu' => hpe.symm.subset (List.mem_cons_of_mem _ hu')
  refine ⟨h.change hk (by rw [h.reg]; simp [Regs.of, openEvent]) (openEvent_wf s u.1 rest h.wf hp).1 ?_ hnd.2 h.pids
    (fun th hth => .inl ⟨hth, fun e' he' hm => h.th_not_pend hth hu (List.mem_singleton.mp hm ▸ he'), rfl⟩)
    (fun w hw => .inl ⟨hw, fun e' he' hm => h.loose_not_pend hw hu (List.mem_singleton.mp hm ▸ he')⟩)
    (fun u' hu' => .inl ⟨hsub u' hu', fun hm => hnd.1 (List.mem_singleton.mp hm ▸
      List.mem_append_right _ (List.mem_append_right _ (List.mem_map.mpr ⟨u', hu', rfl⟩)))⟩) h.stores
    (h.cur_keep hk (fun e' he' => List.mem_singleton.mp he' ▸ Cfg.mem_ids.mpr (.inr (.inr ⟨u, hu, rfl⟩)))
      (fun e he => .inl (hI.symm.subset (List.mem_cons_of_mem _ he))) rfl), hnd.1, ?_⟩
  · simp only [Cfg.entries]
    have h1 : (u.1 :: rest).Perm (u.1 :: (c.threads.flatMap (·.wait.entries) ++
        (c.loose.flatMap Wait.entries ++ pend'.map (·.1)))) := by
      refine ((popMin_spec _ _ _ hp).1.symm.trans h.ag).trans ?_
      refine (((hpe.map (·.1)).append_left _).append_left _).trans ?_
      rw [List.map_cons, ← List.append_assoc]
      exact List.perm_middle.trans (List.Perm.of_eq (by rw [List.append_assoc]))
    exact h1.cons_inv
  · rw [openEvent_ev s u.1 rest, if_pos rfl]
    exact hev.2.2

/-- **a kernel step on a pending `StorePut` event** is what `hpend` computes -/
theorem step_pend (body : σ → Resume → Burst ℚ σ) (fuel : Nat) (h : GInv s c) {u : QEntry ℚ × ResId}
    {pend' : List (QEntry ℚ × ResId)} (hpe : c.pend.Perm (u :: pend')) {rest : List (QEntry ℚ)}
    (hp : popMin s.agenda = some (u.1, rest)) (hf : hpend c u pend' = some c') :
    ∃ s', step body fuel s = .ok s' ∧ GInv s' c' := by
  have hev := h.pend u (hpe.symm.subset List.mem_cons_self)
  obtain ⟨hO, hnot, hout⟩ := h.pend_open hpe hp
  obtain ⟨st, hst, hf⟩ := Option.bind_eq_some_iff.mp hf
  obtain ⟨hrs, hres⟩ := hO.stores u.2 st hst
  have hstep : ∀ S', triggerGet (openEvent s u.1 rest) u.2 = S' → (S'.ev u.1.ev).out = some (.ok .none) →
      step body fuel s = .ok S' := fun S' hS' ho => by
    rw [step_eq body fuel s u.1 rest _ hp hev.2.1]
    simp only [List.foldl, runCb, hS']
    exact KStepChain.closeEvent_ok _ _ _ ho
  simp only at hf
  split at hf
  · rename_i hq
    cases hf
    exact ⟨_, hstep _ (triggerGet_none _ _ st hres hq) hout, hO⟩
  · rename_i g hq
    obtain ⟨th, hfind, hf⟩ := Option.map_eq_some_iff.mp hf
    have hth : th ∈ c.threads := List.mem_of_find?_eq_some hfind
    have hwg : th.wait = .getW u.2 g := Wait.of_isGetW (by simpa using List.find?_some hfind)
    have hT := hO.th th hth
    have hTe : EvIs (openEvent s u.1 rest) g (.get u.2) [.trigPut u.2, .resume th.pid] none := by
      have := hT.ev
      rwa [hwg] at this
    have hgi : g ∈ th.ids := Thread.mem_ids.mpr (.inr (hwg ▸ List.mem_singleton_self g))
    split at hf
    · rename_i ht
      cases hf
      exact ⟨_, hstep _ (triggerGet_empty _ _ g st hres hq ht hTe.2.2) hout, hO⟩
    · rename_i v its ht
      cases hf
      have hS := triggerGet_hand (openEvent s u.1 rest) u.2 g st v its hrs hTe.lt hres hq ht
      have hgu : g ≠ u.1.ev := fun hh => hnot (hh ▸ Cfg.mem_ids.mpr (.inl ⟨th, hth, hgi⟩))
      refine ⟨_, hstep _ hS ?_, ?_⟩
      · simp only [KState.ev, getD_setIfInBounds, hgu.symm, false_and, if_false]
        exact hout
      obtain ⟨hnow, heid, -, -, -⟩ := hO.reg_eq
      have hk : Keeps (openEvent s u.1 rest) _ [g] := Keeps.set (S := { openEvent s u.1 rest with
          events := (openEvent s u.1 rest).events.setIfInBounds g
            { (openEvent s u.1 rest).ev g with out := some (.ok (.int v)) }
          resources := (openEvent s u.1 rest).resources.setIfInBounds u.2 { st with getQ := [], items := its }.toRes
          agenda := { time := (openEvent s u.1 rest).now, prio := NORMAL, eid := (openEvent s u.1 rest).eid, ev := g } ::
            (openEvent s u.1 rest).agenda
          eid := (openEvent s u.1 rest).eid + 1 }) _ rfl
      have hids : (Cfg.ids { c with pend := pend', threads := modTh c.threads th.pid fun th =>
          { th with wait := .getH u.2 ⟨u.1.time, NORMAL, c.reg.eid, g⟩ v } }).Perm
          (Cfg.ids { c with reg := { c.reg with now := u.1.time }, pend := pend' }) := by
        exact (modTh_flatMap_perm Thread.ids hO.pids hth rfl (by simp only [Thread.ids, hwg, Wait.ids])).append_right _
      have hpids : ((modTh c.threads th.pid fun th =>
          { th with wait := .getH u.2 ⟨u.1.time, NORMAL, c.reg.eid, g⟩ v }).map (·.pid)).Nodup :=
        pids_modTh h.pids _ fun _ => rfl
      refine hO.change_of hk hth hgi (by rw [h.reg]; simp [Regs.of, openEvent])
        (KExec.wf_push1 hO.wf _ rfl rfl rfl rfl (le_refl _)) ((hO.ag.cons _).trans ?_) (hids.nodup_iff.mpr hO.nd)
        (fun _ hx => hids.subset hx) hpids ?_ rfl (fun _ hu => hu) (stores_setRes hO.stores hrs) rfl
      · have hM := modTh_flatMap (·.wait.entries) (f := fun th => { th with wait := .getH u.2 ⟨u.1.time, NORMAL, c.reg.eid, g⟩ v })
          hO.pids hth rfl (add := [⟨u.1.time, NORMAL, c.reg.eid, g⟩]) (del := [])
          (by rw [hwg, List.append_nil]; exact List.Perm.refl _)
        rw [List.append_nil] at hM
        rw [← hnow, ← heid]
        exact (List.perm_middle.symm.trans (List.Perm.of_eq (by simp))).trans (hM.append_right _).symm
      · intro t ht
        rcases mem_modTh ht with ⟨ht, hne⟩ | ⟨th1, hth1, hp1, rfl⟩
        · exact .inl ⟨ht, hne, rfl⟩
        · obtain rfl := hO.pid_unique hth1 hth hp1
          refine .inr ⟨⟨?_, fun t ht => ?_, fun l hl => ?_, fun _ _ hh => (by cases hh)⟩,
            Nat.lt_of_lt_of_le (hO.plt th1 hth) hk.size⟩
          · simp only [Wait.Ev, EvIs, KState.ev, getD_setIfInBounds, hTe.lt, and_self, if_true]
            exact ⟨hTe.1, hTe.2.1, trivial⟩
          · cases ht
            exact hT.proc g (by rw [hwg]; rfl)
          · refine (show EvIs _ th1.pid .proc l none from by have := hT.own l hl; rwa [hwg] at this).keep hk ?_
            rw [List.mem_singleton]
            intro hpq
            have hn := (List.nodup_flatMap.mp (List.nodup_append.mp hO.nd).1).1 th1 hth
            unfold Thread.ids at hn
            rw [hl, hwg, hpq] at hn
            simp [Wait.ids] at hn
  · cases hf

/-! ### what nothing reads can be forgotten -/

/-- the process event of a process is forgotten (a process that never returns, whose process event nothing looks at) -/
theorem untrack (h : GInv s c) {p : EvId} (hw : ∀ th ∈ c.threads, th.pid = p → ∀ q v, th.wait ≠ .ending q v) :
    GInv s { c with threads := modTh c.threads p fun th => { th with cbs := none } } := by
  have hsub : ∀ l : List (Thread σ), ((modTh l p fun th => { th with cbs := none }).flatMap Thread.ids).Sublist
      (l.flatMap Thread.ids) := fun l => by
    induction l with
    | nil => exact List.Sublist.refl _
    | cons x xs ih =>
      rw [modTh_cons, List.flatMap_cons, List.flatMap_cons]
      refine List.Sublist.append ?_ ih
      split
      · exact List.sublist_append_right _ _
      · exact List.Sublist.refl _
  have hent : (modTh c.threads p fun th => { th with cbs := none }).flatMap (·.wait.entries) =
      c.threads.flatMap (·.wait.entries) := modTh_flatMap_eq _ _ _ fun _ => rfl
  have hids : ∀ e ∈ Cfg.ids { c with threads := modTh c.threads p fun th => { th with cbs := none } }, e ∈ c.ids :=
    fun e he => ((hsub c.threads).append (List.Sublist.refl _)).subset he
  refine h.change (X := []) (Keeps.same rfl _) h.reg h.wf (h.ag.trans (List.Perm.of_eq (by simp only [Cfg.entries, hent])))
    (((hsub c.threads).append (List.Sublist.refl _)).nodup h.nd)
    (pids_modTh h.pids _ fun _ => rfl) ?_ (fun w hw' => .inl ⟨hw', fun _ _ => List.not_mem_nil⟩)
    (fun u hu => .inl ⟨hu, List.not_mem_nil⟩) h.stores
    (fun e he => ⟨fun hm => (h.cur e he).1 (hids e hm), (h.cur e he).2⟩)
  intro t ht
  rcases mem_modTh ht with ⟨ht, -⟩ | ⟨t1, ht1, hp1, rfl⟩
  · exact .inl ⟨ht, fun _ _ => List.not_mem_nil, rfl⟩
  · have hT := h.th t1 ht1
    exact .inr ⟨⟨hT.ev, hT.proc, fun _ hl => (by cases hl), fun q v hq => absurd hq (hw t1 ht1 hp1 q v)⟩, h.plt t1 ht1⟩

/-- nothing looks at the local state of a process that waits for no event (it is running, or has returned) -/
theorem setSt (h : GInv s c) (p : EvId) (st' : σ) (hw : ∀ th ∈ c.threads, th.pid = p → th.wait.target = none) :
    GInv s { c with threads := modTh c.threads p fun t => { t with st := st' } } := by
  have hE : ∀ {α} (g : Thread σ → List α), (∀ t : Thread σ, g { t with st := st' } = g t) →
      (modTh c.threads p fun t => { t with st := st' }).flatMap g = c.threads.flatMap g :=
    fun g => modTh_flatMap_eq g _ _
  refine ⟨h.reg, h.wf, ?_, ?_, ?_, ?_, ?_, h.loose, h.pend, h.stores, ?_⟩
  · show s.agenda.Perm (_ ++ _)
    rw [hE _ fun _ => rfl]
    exact h.ag
  · show (_ ++ _ : List EvId).Nodup
    rw [hE _ fun _ => rfl]
    exact h.nd
  · show ((modTh _ _ _).map _).Nodup
    rw [modTh_pids (f := fun t => { t with st := st' }) fun _ => rfl]
    exact h.pids
  · intro th hth
    rcases mem_modTh hth with ⟨ho, -⟩ | ⟨t, ht, -, rfl⟩
    · exact h.plt th ho
    · exact h.plt t ht
  · intro th hth
    rcases mem_modTh hth with ⟨ho, -⟩ | ⟨t, ht, hp, rfl⟩
    · exact h.th th ho
    · have hT := h.th t ht
      exact ⟨hT.ev, fun tg htg => absurd ((hw t ht hp).symm.trans htg) (by simp), hT.own, hT.tracked⟩
  · intro e he
    obtain ⟨hne, hv⟩ := h.cur e he
    refine ⟨?_, hv⟩
    show e ∉ (_ ++ _ : List EvId)
    rw [hE _ fun _ => rfl]
    exact hne

end GInv

end KProc
