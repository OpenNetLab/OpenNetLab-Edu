import OnlVerif.Lemmas.GenScalar
import OnlVerif.Lemmas.TcpSink
import OnlVerif.Generated.Sink
/-!
# Bridge between the *generated* `TCPSink` fragments and the hand-written sink model (`Tcp/Sink.lean`)

`Generated/Sink.lean` is rewritten from `onl/packet/tcp_sink.py` on every `./check C16`: `TCPSink.put` (the cumulative-ACK
decision and its effects) and the body of the range-merge loop of `packet_arrived`, which sees the local list `merge_stats`
through its last element (`Gen.MergeObj`).  The frame around the loop body (`append [packet_id, packet_id + size]`, `sort()`,
`merge_stats = []`, `for start, end in self.recv_buffer`, `self.recv_buffer = merge_stats`) is checked structurally by the
translator; its meaning — run the body over the ranges, every `append` makes the previous last element final — is
`GenSink.genMerge` below.  The model has ranges over `Nat`, the generated code Python ints (`Int`).
-/

namespace GenSink
open TcpSink

abbrev castR (r : Range) : Int × Int := ((r.1 : Int), (r.2 : Int))

/-- `merge_stats` seen through its last element (`none` = empty list), `k` appends so far -/
def mergeObj (cur : Option Range) (k : Nat) : Gen.MergeObj ℚ :=
  match cur with
  | none => { nonempty := false, last_start := 0, last_end := 0, eff_append := k }
  | some c => { nonempty := true, last_start := c.1, last_end := c.2, eff_append := k }

/-- the `for` loop over the *generated* body: the ranges that end up in `merge_stats`, in order.  An iteration that
appended made the previous last element (if any) final; at the end the last element is final. -/
def genMerge (o : Gen.MergeObj ℚ) : List Range → List (Int × Int)
  | [] => if o.nonempty then [(o.last_start, o.last_end)] else []
  | r :: rest =>
    if (Gen.TCPSink.merge_step o r.1 r.2).eff_append = o.eff_append + 1 ∧ o.nonempty = true then
      (o.last_start, o.last_end) :: genMerge (Gen.TCPSink.merge_step o r.1 r.2) rest
    else genMerge (Gen.TCPSink.merge_step o r.1 r.2) rest

theorem step_extend (cur r : Range) (k : Nat) (h : r.1 ≤ cur.2) :
    Gen.TCPSink.merge_step (mergeObj (some cur) k) r.1 r.2 = mergeObj (some (cur.1, max cur.2 r.2)) k := by
  have h' : (r.1 : Int) ≤ (cur.2 : Int) := by exact_mod_cast h
  unfold Gen.TCPSink.merge_step mergeObj
  simp only [h', and_self, if_true, Gen.MergeObj.mk.injEq, true_and, and_true]
  push_cast
  rfl

theorem step_append (cur : Option Range) (r : Range) (k : Nat) (h : ∀ c, cur = some c → ¬ r.1 ≤ c.2) :
    Gen.TCPSink.merge_step (mergeObj cur k) r.1 r.2 = mergeObj (some r) (k + 1) := by
  unfold Gen.TCPSink.merge_step mergeObj
  cases cur with
  | none => simp
  | some c =>
    have h' : ¬ (r.1 : Int) ≤ (c.2 : Int) := by
      have := h c rfl
      intro hc; apply this; exact_mod_cast hc
    simp [h']

theorem genMerge_from (l : List Range) : ∀ (cur : Range) (k : Nat),
    genMerge (mergeObj (some cur) k) l = (mergeFrom cur l).map castR := by
  induction l with
  | nil => intro cur k; simp [genMerge, mergeObj, mergeFrom, castR]
  | cons r rest ih =>
    intro cur k
    unfold genMerge mergeFrom
    by_cases h : r.1 ≤ cur.2
    · rw [step_extend cur r k h, if_pos h, ih]
      have : ¬ ((mergeObj (some (cur.1, max cur.2 r.2)) k).eff_append = (mergeObj (some cur) k).eff_append + 1 ∧
          (mergeObj (some cur) k).nonempty = true) := by simp [mergeObj]
      rw [if_neg this]
    · rw [step_append (some cur) r k (by intro c hc; cases hc; exact h), if_neg h, ih]
      have : ((mergeObj (some r) (k + 1)).eff_append = (mergeObj (some cur) k).eff_append + 1 ∧
          (mergeObj (some cur) k).nonempty = true) := by simp [mergeObj]
      rw [if_pos this]
      simp [mergeObj, castR]

def sinkObj (nse ack : Int) (e1 e2 e3 e4 e5 : Nat) : Gen.SinkObj ℚ :=
  { next_seq_expected := nse, out := true, ack := ack, eff_super_put := e1, eff_packet_arrived := e2, eff_make_ack := e3,
    eff_set_ack := e4, eff_out_put := e5, raised := 0 }

end GenSink
