import OnlVerif.Lemmas.SndKBasic
/-!
# The TCP sender on the kernel model: what a kernel operation leaves alone

`Frame s S X P`: `S` has all events of `s`, unchanged outside `X` (and of the same kind everywhere), and the same process
records outside `P`.  What `EvIs` and `ProcTag` say survives a frame that avoids the event, resp. the process.
-/


namespace SndK
open SenderOnK

structure Frame (s S : KS) (X P : List EvId) : Prop where
  size : s.events.size ≤ S.events.size
  ev : ∀ e, e < s.events.size → e ∉ X → S.ev e = s.ev e
  kind : ∀ e, e < s.events.size → (S.ev e).kind = (s.ev e).kind
  proc : ∀ p, p ∉ P → S.proc? p = s.proc? p

namespace Frame

theorem refl (s : KS) : Frame s s [] [] := ⟨Nat.le_refl _, fun _ _ _ => rfl, fun _ _ => rfl, fun _ _ => rfl⟩

theorem trans {s1 s2 s3 : KS} {X1 X2 P1 P2 : List EvId} (a : Frame s1 s2 X1 P1) (b : Frame s2 s3 X2 P2) :
    Frame s1 s3 (X1 ++ X2) (P1 ++ P2) := by
  refine ⟨Nat.le_trans a.size b.size, ?_, ?_, ?_⟩
  · intro e he hX
    simp only [List.mem_append, not_or] at hX
    rw [b.ev e (Nat.lt_of_lt_of_le he a.size) hX.2, a.ev e he hX.1]
  · intro e he
    rw [b.kind e (Nat.lt_of_lt_of_le he a.size), a.kind e he]
  · intro p hP
    simp only [List.mem_append, not_or] at hP
    rw [b.proc p hP.2, a.proc p hP.1]

theorem mono {s S : KS} {X X' P P' : List EvId} (a : Frame s S X P) (hX : ∀ e ∈ X, e ∈ X') (hP : ∀ e ∈ P, e ∈ P') :
    Frame s S X' P' :=
  ⟨a.size, fun e he h => a.ev e he (fun h' => h (hX e h')), a.kind, fun p h => a.proc p (fun h' => h (hP p h'))⟩

/-- nothing but cells, trace, clock, agenda, active process, resources changed -/
theorem of_eq {s S : KS} (he : S.events = s.events) (hp : S.procs = s.procs) : Frame s S [] [] := by
  refine ⟨by rw [he], fun e _ _ => by simp [KState.ev, he], fun e _ => by simp [KState.ev, he], fun p _ => ?_⟩
  simp [KState.proc?, hp]

/-- one event record is replaced by one of the same kind -/
theorem of_setEv {s S : KS} {e0 : EvId} {r : EvRec ℚ} {P : List EvId} (hsz : s.events.size ≤ S.events.size)
    (hev : ∀ e, S.ev e = if e = e0 ∧ e0 < s.events.size then r else s.ev e) (hk : r.kind = (s.ev e0).kind)
    (hpr : ∀ p, p ∉ P → S.proc? p = s.proc? p) : Frame s S [e0] P := by
  refine ⟨hsz, fun e _ hX => ?_, fun e _ => ?_, hpr⟩
  · rw [hev, if_neg fun h => hX (List.mem_singleton.mpr h.1)]
  · rw [hev]
    split
    · next h => rw [h.1, hk]
    · rfl

end Frame

theorem proc?_set_same {s S : KS} {p : EvId} {r : ProcRec St} (h : S.procs = (p, r) :: s.procs.filter (·.1 != p)) :
    S.proc? p = some r := by
  rw [KExec.proc?_eq, h, KExec.plookup_set, if_pos rfl]

theorem proc?_set_ne {s S : KS} {p : EvId} {r : ProcRec St} (h : S.procs = (p, r) :: s.procs.filter (·.1 != p)) (p' : EvId)
    (hp : p' ∉ [p]) : S.proc? p' = s.proc? p' := by
  rw [KExec.proc?_eq, KExec.proc?_eq, h, KExec.plookup_set, if_neg (List.mem_singleton.not.mp hp)]

theorem EvIs.lt {s : KS} {e : EvId} {k : Kind} {c : List Cb} {o : Option Outcome} (h : EvIs s e k c o) :
    e < s.events.size := KState.lt_of_cbs h.2.1

theorem EvIs.keep {s S : KS} {X P : List EvId} {e : EvId} {k : Kind} {c : List Cb} {o : Option Outcome}
    (h : EvIs s e k c o) (fr : Frame s S X P) (he : e ∉ X) : EvIs S e k c o := by
  unfold EvIs
  rw [fr.ev e h.lt he]
  exact h

theorem ProcTag.lt {s : KS} {p : EvId} {n : Nat} (h : ProcTag s p n) : p < s.events.size :=
  KState.lt_of_kind (by rw [h.1]; simp)

theorem ProcTag.keep {s S : KS} {X P : List EvId} {p : EvId} {n : Nat} (h : ProcTag s p n) (fr : Frame s S X P)
    (hp : p ∉ P) : ProcTag S p n := by
  refine ⟨by rw [fr.kind p h.lt]; exact h.1, ?_⟩
  rw [fr.proc p hp]
  exact h.2

/-- a process record may change as long as it stays with its generator -/
theorem ProcTag.set {s S : KS} {X P : List EvId} {p : EvId} {n : Nat} (h : ProcTag s p n) (fr : Frame s S X P)
    (pr : ProcRec St) (hS : S.proc? p = some pr) (ht : tagOf pr.st = n) : ProcTag S p n :=
  ⟨by rw [fr.kind p h.lt]; exact h.1, pr, hS, ht⟩

theorem ProcTag.ne {s : KS} {p p' : EvId} {n n' : Nat} (h : ProcTag s p n) (h' : ProcTag s p' n') (hn : n ≠ n') :
    p ≠ p' := by
  rintro rfl
  obtain ⟨_, pr, h1, h2⟩ := h
  obtain ⟨_, pr', h1', h2'⟩ := h'
  rw [h1] at h1'
  cases h1'
  exact hn (h2.symm.trans h2')

end SndK
