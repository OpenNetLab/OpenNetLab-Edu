import Mathlib.Data.List.Flatten
import OnlVerif.Lemmas.NetworkLayer
import OnlVerif.Lemmas.Fifo
import OnlVerif.Lemmas.MultiQueueRun
import OnlVerif.Lemmas.StampInv
import OnlVerif.Lemmas.Route
/-!
# The element skeletons as nodes of a network (`Net.Node`)

* `fifoNode d`: a FifoServer device (`Fifo.step d`), packets identified by their ids (the FifoServer theorems speak of id lists);
* `mqNode sc cs`: a multi-queue scheduler (`MQ.step sc`) over `MPkt`, `cs` the list of its classes;
* `stampNode d`: a stamp scheduler (`Stamp.step d`) over `SPkt`;
* `acctNode π`: a dispatcher (demultiplexer, switch, splitter, hub): `put` forwards synchronously, the element itself holds a
  packet only between its `put` and its `out.put` — its state is the list of what it holds, where a packet goes is the wiring.

Each is shown to satisfy `NodeLaw` and `IdPreserving` from the skeleton's own step theorem.
-/

namespace Net

/-! ### the node laws from one conservation statement -/

section Conserve
variable {π σ : Type}

def LEv.entered : LEv π → List π
  | .recv p .acc => [p]
  | .make _ c => [c]
  | _ => []

def LEv.left : LEv π → List π
  | .emit p => [p]
  | .discard p _ => [p]
  | _ => []

/-- every local transition keeps the invariant, and what was held together with what came in is what went out together
with what is held afterwards: the step form of each skeleton's conservation theorem, label by label -/
def Conserves (nd : Node π σ) : Prop :=
  ∀ s e s', nd.Inv s → nd.step s e s' → nd.Inv s' ∧ (nd.heldOf s ++ e.entered).Perm (e.left ++ nd.heldOf s')

theorem NodeLaw.of_conserves {nd : Node π σ} (hc : Conserves nd)
    (hm : ∀ s p c s', nd.Inv s → nd.step s (.make p c) s' → p ∈ nd.heldOf s)
    (hd : ∀ s, nd.Inv s → nd.Quiescent s → nd.heldOf s = []) : NodeLaw nd := by
  have hc' : ∀ {s e s'}, nd.Inv s → nd.step s e s' → nd.Inv s' ∧ (nd.heldOf s ++ e.entered).Perm (e.left ++ nd.heldOf s') :=
    fun hi h => hc _ _ _ hi h
  refine ⟨?_, ?_, ?_, ?_, ?_, ?_, hd⟩
  · intro s p s' hi h; exact ⟨(hc' hi h).1, (hc' hi h).2.symm⟩
  · intro s p r s' hi h; exact ⟨(hc' hi h).1, by simpa [LEv.entered, LEv.left] using (hc' hi h).2.symm⟩
  · intro s p s' hi h _; exact ⟨(hc' hi h).1, by simpa [LEv.entered, LEv.left] using (hc' hi h).2⟩
  · intro s p r s' hi h _; exact ⟨(hc' hi h).1, by simpa [LEv.entered, LEv.left] using (hc' hi h).2⟩
  · intro s p c s' hi h; exact ⟨(hc' hi h).1, hm s p c s' hi h, (hc' hi h).2.symm⟩
  · intro s s' hi h; exact ⟨(hc' hi h).1, by simpa [LEv.entered, LEv.left] using (hc' hi h).2.symm⟩

theorem IdPreserving.of_conserves {nd : Node π σ} (hc : Conserves nd) : IdPreserving nd := by
  intro s p s' hi h
  have hp : p ∈ [p] ++ nd.heldOf s' := List.mem_append_left _ (List.mem_singleton_self p)
  rcases h with h | ⟨r, h⟩
  · simpa [LEv.entered] using (hc _ _ _ hi h).2.mem_iff.mpr hp
  · simpa [LEv.entered] using (hc _ _ _ hi h).2.mem_iff.mpr hp

end Conserve

theorem acctNode_conserves (π : Type) [DecidableEq π] : Conserves (acctNode π) := by
  intro s e s' _ h
  refine ⟨trivial, ?_⟩
  show (s ++ e.entered).Perm (e.left ++ s')
  cases e with
  | recv p o =>
    cases o with
    | acc => rw [show s' = s ++ [p] from h]; exact List.Perm.refl _
    | ref r => rw [show s' = s from h]; simp [LEv.entered, LEv.left]
  | emit p | discard p r =>
    obtain ⟨hm, rfl⟩ := (h : p ∈ s ∧ s' = s.erase p)
    simpa [LEv.entered, LEv.left] using List.perm_cons_erase hm
  | make p c => rw [show s' = s ++ [c] from (h : p ∈ s ∧ s' = s ++ [c]).2]; exact List.Perm.refl _
  | tau => rw [show s' = s from h]; simp [LEv.entered, LEv.left]

theorem acctNode_law (π : Type) [DecidableEq π] : NodeLaw (acctNode π) :=
  NodeLaw.of_conserves (acctNode_conserves π) (fun _ p c _ _ h => (h : p ∈ _ ∧ _ = _ ++ [c]).1) (fun _ _ h => h)

theorem acctNode_id (π : Type) [DecidableEq π] : IdPreserving (acctNode π) :=
  IdPreserving.of_conserves (acctNode_conserves π)

/-! ### FifoServer devices (Port, Wire, TokenBucket, TwoRateTokenBucket) -/

section FifoNode
open Fifo
variable {δ : Type}

/-- a FifoServer device as a node; packets are identified by their ids (`Fifo.held` is a list of ids).  A local
transition is one accepted action of the LTS, labelled by what it did at the boundary. -/
def fifoNode (d : Dev ℚ δ) : Node Nat (FState ℚ δ) where
  step := fun s e s' =>
    match e with
    | .recv i .acc => ∃ pk : Pkt ℚ, pk.id = i ∧ Fifo.step d s (.put pk) = .ok (s', .accepted)
    | .recv i (.ref _) => ∃ pk : Pkt ℚ, pk.id = i ∧ Fifo.step d s (.put pk) = .ok (s', .dropped)
    | .emit i => ∃ (a : FAct ℚ) (pk : Pkt ℚ), pk.id = i ∧ Fifo.step d s a = .ok (s', .depart pk)
    | .discard i _ => ∃ (a : FAct ℚ) (pk : Pkt ℚ), pk.id = i ∧ Fifo.step d s a = .ok (s', .lost pk)
    | .make _ _ => False
    | .tau => ∃ a : FAct ℚ, Fifo.step d s a = .ok (s', .nothing)
  heldOf := Fifo.held
  Inv := Fifo.Shape
  Quiescent := Fifo.Quiescent

theorem entered_of_not_accepted (a : FAct ℚ) (o : FOut ℚ) (h : o ≠ .accepted) : entered a o = [] := by
  cases o <;> first | exact absurd rfl h | (cases a <;> rfl)

theorem fifoNode_conserves (d : Dev ℚ δ) (hd : Fifo.IdPreserving d) : Conserves (fifoNode d) := by
  intro s e s' hs h
  have key : ∀ {a o}, Fifo.step d s a = .ok (s', o) → entered a o = e.entered → left o = e.left →
      Fifo.Shape s' ∧ (Fifo.held s ++ e.entered).Perm (e.left ++ Fifo.held s') := by
    intro a o h he hl
    have := step_conserves d hd s s' a o hs h
    exact ⟨this.2, by rw [← he, ← hl, this.1]⟩
  cases e with
  | recv i o =>
    obtain ⟨pk, rfl, h⟩ : ∃ pk : Pkt ℚ, pk.id = i ∧
        Fifo.step d s (.put pk) = .ok (s', match o with | .acc => .accepted | .ref _ => .dropped) := by
      cases o <;> exact h
    cases o <;> exact key h rfl rfl
  | emit i => obtain ⟨a, pk, rfl, h⟩ := h; exact key h (entered_of_not_accepted _ _ (by simp)) rfl
  | discard i r => obtain ⟨a, pk, rfl, h⟩ := h; exact key h (entered_of_not_accepted _ _ (by simp)) rfl
  | make p c => exact h.elim
  | tau => obtain ⟨a, h⟩ := h; exact key h (entered_of_not_accepted _ _ (by simp)) rfl

theorem fifoNode_law (d : Dev ℚ δ) (hd : Fifo.IdPreserving d) : NodeLaw (fifoNode d) :=
  NodeLaw.of_conserves (fifoNode_conserves d hd) (fun _ _ _ _ _ h => h.elim) (fun s hs hq => quiescent_held_empty s hs hq)

theorem fifoNode_id (d : Dev ℚ δ) (hd : Fifo.IdPreserving d) : Net.IdPreserving (fifoNode d) :=
  IdPreserving.of_conserves (fifoNode_conserves d hd)

end FifoNode

/-! ### stamp schedulers (WFQ, VirtualClock) -/

section StampNode
open Stamp
variable {σ : Type}

def stampNode (d : Sched ℚ σ) : Node SPkt (StState ℚ σ) where
  step := fun s e s' =>
    match e with
    | .recv p .acc => Stamp.step d s (.put p) = .ok (s', .accepted)
    | .recv _ (.ref _) => False
    | .emit p => ∃ a : StAct ℚ, Stamp.step d s a = .ok (s', .depart p)
    | .discard _ _ => False
    | .make _ _ => False
    | .tau => ∃ (a : StAct ℚ) (o : StOut), Stamp.step d s a = .ok (s', o) ∧ o ≠ .accepted ∧ ∀ p, o ≠ .depart p
  heldOf := Stamp.held
  Inv := Stamp.GInv
  Quiescent := fun s => s.tx = none ∧ ∃ t, TickOk s t

theorem stamp_entered_nil (a : StAct ℚ) (o : StOut) (h : o ≠ .accepted) : Stamp.entered a o = [] := by
  cases o <;> first | exact absurd rfl h | (cases a <;> rfl)

theorem stampNode_conserves (d : Sched ℚ σ) : Conserves (stampNode d) := by
  intro s e s' hs h
  have key : ∀ {a o}, Stamp.step d s a = .ok (s', o) → Stamp.entered a o = e.entered → Stamp.left o = e.left →
      Stamp.GInv s' ∧ (Stamp.held s ++ e.entered).Perm (e.left ++ Stamp.held s') := by
    intro a o h he hl
    rw [← he, ← hl]
    exact step_ginv hs (step_trans d _ _ _ _ h)
  cases e with
  | recv p o =>
    cases o with
    | acc => exact key h rfl rfl
    | ref r => exact h.elim
  | emit p => obtain ⟨a, h⟩ := h; exact key h (stamp_entered_nil _ _ (by simp)) rfl
  | discard p r => exact h.elim
  | make p c => exact h.elim
  | tau =>
    obtain ⟨a, o, h, h1, h2⟩ := h
    exact key h (stamp_entered_nil _ _ h1) (by cases o <;> first | rfl | exact absurd rfl h1 | exact absurd rfl (h2 _))

theorem stampNode_law (d : Sched ℚ σ) : NodeLaw (stampNode d) :=
  NodeLaw.of_conserves (stampNode_conserves d) (fun _ _ _ _ _ h => h.elim)
    (fun _ hs ⟨htx, _, ht⟩ => (tick_idle_empty hs.shape ht htx).2.1)

theorem stampNode_id (d : Sched ℚ σ) : Net.IdPreserving (stampNode d) :=
  IdPreserving.of_conserves (stampNode_conserves d)

end StampNode

/-! ### multi-queue schedulers (SP, RR, WRR, DRR) -/

section MQNode
open MQ
variable {κ : Type}

def mqHeld (sc : MQ.Sched ℚ κ) (cs : List Nat) (s : MQState ℚ κ) : List MPkt := cs.flatMap (heldC sc s)

/-- a multi-queue scheduler as a node.  `put` of a packet whose flow has no class raises (`KeyError`), so it is no
transition; the departure of a packet counts as `emit` for packets of configured flows (the domain of C12's
`mq_every_packet_once`). -/
def mqNode (sc : MQ.Sched ℚ κ) (cs : List Nat) : Node MPkt (MQState ℚ κ) where
  step := fun s e s' =>
    match e with
    | .recv p .acc => MQ.step sc s (.put p) = .ok (s', .accepted)
    | .recv _ (.ref _) => False
    | .emit p => (∃ a : MAct ℚ, MQ.step sc s a = .ok (s', .depart p)) ∧ (sc.classOf p.flow).isSome
    | .discard _ _ => False
    | .make _ _ => False
    | .tau => ∃ (a : MAct ℚ) (o : MOut ℚ), MQ.step sc s a = .ok (s', o) ∧ (∀ p, a ≠ .put p) ∧ ∀ p, o ≠ .depart p
  heldOf := mqHeld sc cs
  Inv := MQ.Inv sc
  Quiescent := fun s => (∀ p d, s.phase ≠ .sending p d) ∧ ∃ t s' o, MQ.step sc s (.tick t) = .ok (s', o)

theorem flatMap_single {ι β : Type} (l : List ι) (hn : l.Nodup) (a : ι) (ha : a ∈ l) (f : ι → List β)
    (h : ∀ c, c ≠ a → f c = []) : l.flatMap f = f a := by
  induction l with
  | nil => cases ha
  | cons c cs ih =>
    rw [List.nodup_cons] at hn
    rw [List.flatMap_cons]
    rcases List.mem_cons.mp ha with rfl | hm
    · rw [List.flatMap_eq_nil_iff.mpr (fun c' hc' => h c' (fun e => hn.1 (e ▸ hc'))), List.append_nil]
    · rw [h c (fun e => hn.1 (e ▸ hm)), ih hn.2 hm, List.nil_append]

theorem mem_heldC_class (sc : MQ.Sched ℚ κ) (s : MQState ℚ κ) (hi : MQ.Inv sc s) (c : Nat) (p : MPkt)
    (h : p ∈ heldC sc s c) : sc.classOf p.flow = some c := by
  simp only [heldC, List.mem_append, List.mem_filter, decide_eq_true_eq, Option.mem_toList] at h
  rcases h with (h | h) | h
  · exact h.2
  · exact hi.holClass c p h
  · exact hi.storeClass c p h

variable (sc : MQ.Sched ℚ κ) (L : Lawful sc) (cs : List Nat) (hn : cs.Nodup)
  (hcs : ∀ f c, sc.classOf f = some c → c ∈ cs)

include hn hcs in
theorem flatMap_class (p : MPkt) (h : (sc.classOf p.flow).isSome) :
    cs.flatMap (fun c => if sc.classOf p.flow = some c then [p] else []) = [p] := by
  obtain ⟨c0, hc0⟩ := Option.isSome_iff_exists.mp h
  rw [flatMap_single cs hn c0 (hcs _ _ hc0) _ (fun c hc => if_neg (fun e => hc (Option.some.inj (e.symm.trans hc0)))),
    if_pos hc0]

include L hn hcs in
theorem mqNode_conserves : Conserves (mqNode sc cs) := by
  intro s e s' hs h
  -- the per-class conservation equations of `MQ.step_inv`, one after the other over the classes
  have key : ∀ {a o}, MQ.step sc s a = .ok (s', o) → cs.flatMap (enteredC sc a) = e.entered →
      cs.flatMap (leftC sc o) = e.left → MQ.Inv sc s' ∧ (mqHeld sc cs s ++ e.entered).Perm (e.left ++ mqHeld sc cs s') := by
    intro a o h he hl
    have hst := MQ.step_inv sc L s s' a o hs h
    refine ⟨hst.1, ?_⟩
    rw [← he, ← hl]
    refine (List.flatMap_append_perm cs _ _).trans (List.Perm.trans ?_ (List.flatMap_append_perm cs _ _).symm)
    rw [show (fun c => heldC sc s c ++ enteredC sc a c) = fun c => leftC sc o c ++ heldC sc s' c from funext hst.2]
  have nil : ∀ f : Nat → List MPkt, (∀ c, f c = []) → cs.flatMap f = [] := fun f hf =>
    List.flatMap_eq_nil_iff.mpr fun c _ => hf c
  cases e with
  | recv p o =>
    cases o with
    | acc =>
      have hcl : (sc.classOf p.flow).isSome := by
        cases step_trans sc s s' _ _ h with
        | put q c k hc hk => rw [hc]; rfl
      exact key h (flatMap_class sc cs hn hcs p hcl) (nil _ fun _ => rfl)
    | ref r => exact h.elim
  | emit p =>
    obtain ⟨⟨a, h⟩, hcl⟩ := h
    exact key h (nil _ fun c => by cases step_trans sc s s' _ _ h; rfl) (flatMap_class sc cs hn hcs p hcl)
  | discard p r => exact h.elim
  | make p c => exact h.elim
  | tau =>
    obtain ⟨a, o, h, ha, ho⟩ := h
    exact key h (nil _ fun c => by cases a <;> first | rfl | exact absurd rfl (ha _))
      (nil _ fun c => by cases o <;> first | rfl | exact absurd rfl (ho _))

include L hn hcs in
theorem mqNode_law : NodeLaw (mqNode sc cs) := by
  refine NodeLaw.of_conserves (mqNode_conserves sc L cs hn hcs) (fun _ _ _ _ _ h => h.elim) ?_
  intro s hs hq
  obtain ⟨hidle, t, s', o, htick⟩ := hq
  have hz : total s.queueCount = 0 := by
    rcases ((MQ.tick_ok_iff sc s t).mp ⟨s', o, htick⟩).2 with ⟨hw, h0⟩ | ⟨p, d, hp, _⟩
    · exact hs.wake hw h0
    · exact absurd hp (hidle p d)
  have hn' := nothing_held_of_total_zero s (by rw [← hs.tot]; exact hz)
  exact List.flatMap_eq_nil_iff.mpr fun c _ => heldC_nil_of_nothing sc s hn'.1 hn'.2.1 hn'.2.2 c

include L hcs in
/-- holds without `cs.Nodup`: a departing packet is held in its own class, whether or not that class is listed twice -/
theorem mqNode_id : Net.IdPreserving (mqNode sc cs) := by
  intro s p s' hs h
  rcases h with ⟨⟨a, h⟩, hcl⟩ | ⟨r, h⟩
  · obtain ⟨c0, hc0⟩ := Option.isSome_iff_exists.mp hcl
    have e := (MQ.step_inv sc L s s' _ _ hs h).2 c0
    rw [show enteredC sc a c0 = [] by cases step_trans sc s s' _ _ h; rfl, List.append_nil] at e
    refine List.mem_flatMap.mpr ⟨c0, hcs _ _ hc0, ?_⟩
    rw [e]; simp [leftC, hc0]
  · exact h.elim

end MQNode

/-! ### dispatchers: the wiring function is the element's dispatch rule -/

section Dispatch
variable {ι : Type}

/-- what `put` of the dispatch models reads of a network packet -/
def toRoute (p : NPkt) : Route.Pkt := { ref := ⟨p.id, p.copy⟩, flowId := (p.flow : Int), src := p.src }

/-- the wiring function of a `FlowDemux` node: the device `FlowDemux.put` hands the packet to (`dest` maps the
harness's device numbers to nodes and sinks; "nowhere" is a sink number of its own) -/
def demuxNext (c : Route.FlowDemuxCfg) (dest : Route.Dev → Dest ι) (nowhere : Nat) (p : NPkt) : Dest ι :=
  match Route.FlowDemux.put c (toRoute p) with
  | .ok [(d, _)] => dest d
  | _ => .sink nowhere

theorem flowDemux_put_eq (c : Route.FlowDemuxCfg) (p : NPkt) :
    Route.FlowDemux.put c (toRoute p) = .ok (match c.outs[p.flow]? with
      | some d => [(d, ⟨p.id, p.copy⟩)]
      | none => match c.default with
        | some d => [(d, ⟨p.id, p.copy⟩)]
        | none => []) :=
  Route.FlowDemux.put_of_nonneg c (toRoute p) (Int.natCast_nonneg _)

end Dispatch

end Net
