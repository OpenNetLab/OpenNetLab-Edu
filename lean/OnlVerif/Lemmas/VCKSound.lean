import OnlVerif.Lemmas.VCKGrid
/-!
# The VirtualClock scheduler on the kernel model: every configuration step keeps `AInv` and lowers the step bound; the
initial configuration
-/


namespace VCK
open VCOnK QEntry

variable {N scale F : Nat} {flow size : Int → Nat} {cfg : VcCfg ℚ}
variable {a a' : A} {now : ℚ} {q : QEntry ℚ} {n e : Nat} {new : List (HEv ℚ)}

theorem workOK_tail {x : ℚ × Int} {l : List (ℚ × Int)} (hw : WorkOK N scale F flow (x :: l)) : WorkOK N scale F flow l :=
  ⟨fun y hy => hw.gap y (List.mem_cons_of_mem _ hy), (List.pairwise_cons.mp hw.inc).2⟩

theorem workOK_head_lt {g : ℚ} {id : Int} {l : List (ℚ × Int)} (hw : WorkOK N scale F flow ((g, id) :: l)) :
    ∀ x ∈ l, id < x.2 :=
  fun x hx => (List.pairwise_cons.mp hw.inc).1 x.2 (List.mem_map_of_mem hx)

theorem srcA_congr {a a' : A} (h : a'.puts = a.puts) {s : SPhase} (hs : SrcA N scale F flow a now s) :
    SrcA N scale F flow a' now s := by
  cases s with
  | init q arr => exact ⟨hs.1, hs.2.1, hs.2.2.1, hs.2.2.2.1, h.trans hs.2.2.2.2⟩
  | wait id rest q => exact ⟨hs.1, hs.2.1, hs.2.2.1, fun w hw => hs.2.2.2 w (h ▸ hw)⟩
  | ending q => exact hs
  | done => trivial

theorem RunA.congr {a a' : A} {r : RPhase} (h : RunA F flow a now r) (hinit : ∀ q0, r ≠ .init q0) (hcur : a'.cur = a.cur)
    (hputs : ∀ w ∈ a.puts, w ∈ a'.puts) (hW : ∀ g, r = .W g → a'.items ≠ [] → a'.pend ≠ [])
    (hH : ∀ g w q0, r = .H g w q0 → w ∈ a.puts → w ∉ a.items → w ∉ a'.items) : RunA F flow a' now r := by
  cases r with
  | init q0 => exact absurd rfl (hinit q0)
  | W g => exact ⟨hW g rfl, hcur ▸ h.2⟩
  | H g w q0 => exact ⟨h.1, h.2.1, hcur ▸ h.2.2.1, hputs w h.2.2.2.1, hH g w q0 rfl h.2.2.2.1 h.2.2.2.2⟩
  | S p id q0 => exact ⟨h.1, h.2.1, hcur ▸ h.2.2.1, h.2.2.2.1, h.2.2.2.2.imp fun w hw => ⟨hputs w hw.1, hw.2⟩⟩
  | T p t id q0 => exact ⟨h.1, hcur ▸ h.2.1, h.2.2.1, h.2.2.2.imp fun w hw => ⟨hputs w hw.1, hw.2⟩⟩
  | F p id q0 => exact ⟨h.1, h.2.1, hcur ▸ h.2.2⟩

theorem srcNext_ok {arr : List (ℚ × Int)} (hw : WorkOK N scale F flow arr) (t : ℚ) (ht : OnGrid scale t) (eid ev : Nat)
    (hp : ∀ x ∈ arr, ∀ w ∈ a.puts, w.1 < x.2) :
    SrcA N scale F flow a t (srcNext t eid ev arr) ∧ ∀ x ∈ (srcNext t eid ev arr).entries, t ≤ x.time := by
  cases arr with
  | nil => exact ⟨⟨rfl, rfl⟩, fun x hx => by rw [List.mem_singleton.mp hx]⟩
  | cons x r =>
    obtain ⟨gap, id⟩ := x
    have h1 := hw.gap (gap, id) (by simp)
    refine ⟨⟨rfl, ⟨?_, hw.inc⟩, onGrid_add ht h1.2.2.2.2, hp (gap, id) (by simp)⟩, ?_⟩
    · intro y hy
      rcases List.mem_cons.mp hy with rfl | hy
      · exact ⟨le_refl _, h1.2.1, h1.2.2.1, h1.2.2.2.1, onGrid_zero⟩
      · exact hw.gap y (List.mem_cons_of_mem _ hy)
    · intro y hy
      rw [List.mem_singleton.mp hy]
      exact le_add_of_nonneg_right h1.1

theorem srcNext_mu (t : ℚ) (eid ev : Nat) (arr : List (ℚ × Int)) : (srcNext t eid ev arr).mu ≤ 6 * arr.length + 1 := by
  cases arr with
  | nil => exact Nat.le_refl 1
  | cons x r => show 6 * r.length + 7 ≤ 6 * (r.length + 1) + 1; omega


/-- a step that leaves the `put` history alone: what is not said stays as it is (source, pending events, `items`, the
counters of flows that are not dict keys) -/
theorem ainv_gen (hi : AInv N scale F flow cfg a q.time) (a' : A)
    (hr : RunA F flow a' q.time a'.run) (hrd : ∀ x ∈ a'.run.entries, q.time ≤ x.time)
    (hs : SrcA N scale F flow a' q.time a'.src := by exact srcA_congr rfl hi.src)
    (hsd : ∀ x ∈ a'.src.entries, q.time ≤ x.time := by exact fun x hx => hi.due x (mem_src hx))
    (hpend : ∀ u ∈ a'.pend, u ∈ a.pend := by exact fun u hu => hu) (hputs : a'.puts = a.puts := by rfl)
    (haux : a'.aux = a.aux := by rfl) (hitems : a'.items.Sublist a.items := by exact List.Sublist.refl _)
    (hkeys : ∀ f, f ∉ keysOf flow (a.puts.map (·.1)) → a'.cnt f = a.cnt f ∧ a'.byt f = a.byt f := by
      exact fun f _ => ⟨rfl, rfl⟩) :
    AInv N scale F flow cfg a' q.time := by
  refine ⟨hr, hs, fun u hu => hi.pend u (hpend u hu), ?_, ?_, ?_, ?_, ?_, ?_, hi.cfgOK, hi.grid⟩
  · exact List.forall_mem_append.mpr ⟨hrd, List.forall_mem_append.mpr ⟨hsd, fun x hx => hi.due x (mem_pend (hpend x hx))⟩⟩
  · rw [hputs]; exact hitems.trans hi.sub
  · rw [hputs]; exact hi.mono
  · rw [hputs]; exact hi.putOK
  · rw [haux]; exact hi.auxG
  · intro f hf
    rw [hputs] at hf
    obtain ⟨h1, h2⟩ := hkeys f hf
    rw [h1, h2]; exact hi.keysOK f hf

theorem ainv_put (hi : AInv N scale F flow cfg a q.time) (hq : IsMin a q) {id : Int} {arr : List (ℚ × Int)}
    (h : a.src = .wait id arr q) :
    AInv N scale F flow cfg { a with
        src := srcNext q.time (e + 1) (n + 1) arr
        pend := a.pend ++ [⟨q.time, NORMAL, e, n⟩]
        items := a.items ++ [putRec flow cfg a q.time id]
        cnt := upd a.cnt (flow id) (a.cnt (flow id) + 1)
        byt := upd a.byt (flow id) (a.byt (flow id) + (size id : Int))
        recv := a.recv + 1
        vc := upd a.vc (flow id) (VC.vcOf (a.vc (flow id)) q.time (vtOf cfg (flow id)) (size id))
        aux := upd a.aux (flow id) (putRec flow cfg a q.time id).2.2
        puts := a.puts ++ [putRec flow cfg a q.time id] } q.time := by
  have hs := hi.src
  rw [h] at hs
  obtain ⟨hqp, hwk, hqg, hlt⟩ := hs
  have hid := hwk.gap (0, id) (by simp)
  have hfid : flow id < F := hid.2.1
  have hstamp : OnGrid scale (putRec flow cfg a q.time id).2.2 :=
    onGrid_auxOf hqg (hi.auxG _ hfid) (onGrid_vtOf hi.grid.2 _)
  have hlt' := workOK_head_lt hwk
  have hnext := srcNext_ok (a := { a with puts := a.puts ++ [putRec flow cfg a q.time id] }) (workOK_tail hwk) q.time hqg
    (e + 1) (n + 1) fun x hx => List.forall_mem_append.mpr
      ⟨fun w hw => lt_trans (hlt w hw) (hlt' x hx), List.forall_mem_singleton.mpr (hlt' x hx)⟩
  have hdue := hnext.2
  have hrun := hi.run
  refine ⟨?_, srcA_congr rfl hnext.1, ?_, ?_, ?_, ?_, ?_, ?_, ?_, hi.cfgOK, hi.grid⟩
  · refine hrun.congr (fun q0 hr => ?_) rfl (fun w hw => List.mem_append_left _ hw) (fun _ _ _ => by simp)
      fun g w q0 _ h4 h5 h6 => ?_
    · rw [hr] at hrun
      exact min_not_prio_lt hi.due hq (mem_run (by simp [hr, RPhase.entries])) hrun.1 (by rw [hrun.2.1, hqp]; decide)
    · rcases List.mem_append.mp h6 with h6 | h6
      · exact h5 h6
      · exact lt_irrefl _ (List.mem_singleton.mp h6 ▸ hlt w h4)
  · exact List.forall_mem_append.mpr ⟨hi.pend, List.forall_mem_singleton.mpr ⟨rfl, rfl⟩⟩
  · exact List.forall_mem_append.mpr ⟨fun x hx => hi.due x (mem_run hx), List.forall_mem_append.mpr ⟨hdue,
      List.forall_mem_append.mpr ⟨fun x hx => hi.due x (mem_pend hx), List.forall_mem_singleton.mpr (le_refl _)⟩⟩⟩
  · exact List.Sublist.append hi.sub (List.Sublist.refl _)
  · exact List.pairwise_append.mpr ⟨hi.mono, List.pairwise_singleton _ _, fun x hx =>
      List.forall_mem_singleton.mpr ⟨hlt x hx, (hi.putOK x hx).2.2.2.1⟩⟩
  · exact List.forall_mem_append.mpr
      ⟨hi.putOK, List.forall_mem_singleton.mpr ⟨hfid, hid.2.2.1, hid.2.2.2.1, le_refl _, hstamp⟩⟩
  · intro c hc
    show OnGrid scale (upd a.aux (flow id) _ c)
    rw [upd_apply]
    split
    · exact hstamp
    · exact hi.auxG c hc
  · intro f hf
    change f ∉ keysOf flow ((a.puts ++ [putRec flow cfg a q.time id]).map (·.1)) at hf
    rw [List.map_append, List.map_singleton, keysOf_snoc, mem_addKey_iff, not_or] at hf
    show upd a.cnt (flow id) _ f = 0 ∧ upd a.byt (flow id) _ f = 0
    rw [upd_ne _ (flow id) _ _ hf.2, upd_ne _ (flow id) _ _ hf.2]
    exact hi.keysOK f hf.1

theorem astep_sound (hi : AInv N scale F flow cfg a now) (hq : IsMin a q)
    (h : AStep N scale flow size cfg n e a q a' new) : AInv N scale F flow cfg a' q.time ∧ a'.mu + 1 ≤ a.mu := by
  have hi := hi.advance hq
  have hrun := hi.run
  have hrun0 : ∀ x ∈ a.run.entries, q.time ≤ x.time := fun x hx => hi.due x (mem_run hx)
  have hnow : ∀ {p k ev : Nat}, ∀ x ∈ [(⟨q.time, p, k, ev⟩ : QEntry ℚ)], q.time ≤ x.time :=
    fun x hx => List.mem_singleton.mp hx ▸ le_refl _
  cases h with
  | runInit h0 =>
    rw [h0] at hrun
    obtain ⟨-, -, hpe, hit, hcur, hpu⟩ := hrun
    refine ⟨ainv_gen hi _ ⟨fun h1 => absurd hit h1, hcur⟩ (fun _ hx => nomatch hx), ?_⟩
    simp only [A.mu, RPhase.mu, h0]; omega
  | pktResume g w h0 =>
    rw [h0] at hrun
    obtain ⟨-, -, hcur, hwp, -⟩ := hrun
    refine ⟨ainv_gen hi _ ⟨rfl, rfl, hcur, (hi.putOK w hwp).1, w, hwp, rfl⟩ hnow, ?_⟩
    simp only [A.mu, RPhase.mu, h0]; omega
  | sendInit p id h0 =>
    rw [h0] at hrun
    obtain ⟨-, -, hcur, hfid, hex⟩ := hrun
    have hd := txTime_nonneg (size := size) hi.cfgOK.rate id
    refine ⟨ainv_gen hi _ ⟨rfl, rfl, hfid, hex⟩
      (by simp only [RPhase.entries, List.mem_singleton]; rintro x rfl; show q.time ≤ q.time + _; linarith), ?_⟩
    simp only [A.mu, RPhase.mu, h0]; omega
  | sendFire p t id h0 =>
    rw [h0] at hrun
    obtain ⟨-, hcur, hfid, w, hwp, hwid⟩ := hrun
    refine ⟨ainv_gen hi _ ⟨rfl, rfl, rfl⟩ hnow (hkeys := ?_), ?_⟩
    · intro f hf
      have hff : f ≠ flow id := by
        rintro rfl
        exact hf (hwid ▸ mem_keysOf_iff.mpr ⟨_, List.mem_map_of_mem hwp, rfl⟩)
      exact ⟨upd_ne _ _ _ _ hff, upd_ne _ _ _ _ hff⟩
    · simp only [A.mu, RPhase.mu, h0]; omega
  | doneHit p id0 w h0 hw =>
    rw [h0] at hrun
    obtain ⟨-, -, hcur⟩ := hrun
    refine ⟨ainv_gen hi _ ⟨rfl, rfl, hcur, hi.sub.subset hw.1, (hi.sub.nodup hi.putsOK.nodup).not_mem_erase⟩ hnow
      (hitems := List.erase_sublist), ?_⟩
    have := List.length_erase_of_mem hw.1
    have hpos := List.length_pos_of_mem hw.1
    simp only [A.mu, RPhase.mu, h0, this]; omega
  | doneBlock p id0 h0 hit =>
    rw [h0] at hrun
    obtain ⟨-, -, hcur⟩ := hrun
    refine ⟨ainv_gen hi _ ⟨fun h1 => absurd hit h1, hcur⟩ (fun _ hx => nomatch hx), ?_⟩
    simp only [A.mu, RPhase.mu, h0]; omega
  | srcInit arr h0 =>
    have hs := hi.src
    rw [h0] at hs
    obtain ⟨-, ht0, -, hwk, hpu⟩ := hs
    have hnext := srcNext_ok (a := { a with src := srcNext q.time e n arr }) hwk q.time (ht0 ▸ onGrid_zero) e n
      (by intro x _ w hw; rw [show ({ a with src := srcNext q.time e n arr } : A).puts = a.puts from rfl, hpu] at hw; cases hw)
    refine ⟨ainv_gen hi _ hi.run hrun0 hnext.1 hnext.2, ?_⟩
    have := srcNext_mu q.time e n arr
    simp only [A.mu, SPhase.mu, h0] at this ⊢; omega
  | srcPut id arr h0 =>
    refine ⟨ainv_put hi hq h0, ?_⟩
    have := srcNext_mu q.time (e + 1) (n + 1) arr
    simp only [A.mu, SPhase.mu, h0, List.length_append, List.length_singleton] at this ⊢; omega
  | srcEnd h0 =>
    refine ⟨ainv_gen hi _ hi.run hrun0 trivial (fun _ hx => nomatch hx), ?_⟩
    simp only [A.mu, SPhase.mu, h0]; omega
  | pendNoop l1 l2 hpe hno =>
    refine ⟨ainv_gen hi _ (hrun.congr (fun q0 hr => ?_) rfl (fun _ h => h) (fun g hr h1 => (hno ⟨h1, g, hr⟩).elim)
      fun _ _ _ _ _ h => h) hrun0 (hpend := KExec.mem_of_split hpe), ?_⟩
    · rw [hr] at hrun
      rw [hrun.2.2.1] at hpe
      simp at hpe
    · simp only [A.mu, hpe, List.length_append, List.length_cons]; omega
  | pendHand g w l1 l2 hpe h0 hw =>
    rw [h0] at hrun
    refine ⟨ainv_gen hi _ ⟨rfl, rfl, hrun.2, hi.sub.subset hw.1, (hi.sub.nodup hi.putsOK.nodup).not_mem_erase⟩ hnow
      (hpend := KExec.mem_of_split hpe) (hitems := List.erase_sublist), ?_⟩
    have := List.length_erase_of_mem hw.1
    have hpos := List.length_pos_of_mem hw.1
    simp only [A.mu, RPhase.mu, h0, hpe, this, List.length_append, List.length_cons]; omega

theorem ainv_init {arrivals : List (ℚ × Int)} (hc : CfgOK F cfg) (hg : GridOK scale cfg arrivals)
    (hw : WorkOK N scale F flow arrivals) : AInv N scale F flow cfg (a0 arrivals) 0 := by
  refine ⟨⟨rfl, rfl, rfl, rfl, rfl, rfl⟩, ⟨rfl, rfl, rfl, hw, rfl⟩, ?_, ?_, List.Sublist.refl _, List.Pairwise.nil, ?_,
    fun _ _ => onGrid_zero, fun _ _ => ⟨rfl, rfl⟩, hc, ⟨hg.pos, hg.vt⟩⟩
  · intro u hu; simp [a0] at hu
  · intro x hx
    simp [A.entries, a0, RPhase.entries, SPhase.entries] at hx
    rcases hx with rfl | rfl <;> exact le_refl _
  · intro w hw; simp [a0] at hw

theorem linv_init (arrivals : List (ℚ × Int)) : LInv (a0 arrivals) [] := ⟨rfl, rfl, rfl⟩

theorem a0_mu (arrivals : List (ℚ × Int)) : (a0 arrivals).mu = 6 * arrivals.length + 3 := by
  show 1 + (6 * arrivals.length + 2) + 0 + 4 * 0 = _; omega

end VCK
