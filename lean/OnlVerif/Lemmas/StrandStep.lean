import OnlVerif.Lemmas.StrandCalls
/-!
# The loop invariant along bursts, `_resume`, the callback loop and whole steps

`J s rem` is kept by every burst of every program (under the domain hypothesis), by every callback, and is
re-established by the pop of the next agenda entry; so `SInv` holds in every reachable state (`reach_sinv`), and at a
clock advance no rescan can be pending: all queue heads are blocked (`sinv_advance`).
-/

variable {σ : Type}

theorem runBurst_J (self : EvId) {rem : List Cb} : ∀ (b : Burst ℚ σ) (s : KState ℚ σ), J s rem → burstDom self b s →
    J (runBurst self b s).1 rem ∧ Fr s (runBurst self b s).1 := by
  intro b
  induction b with
  | call c k ih =>
    intro s h hd
    simp only [runBurst]
    obtain ⟨hd1, hd2⟩ := hd
    obtain ⟨j1, f1⟩ := doCall_J h self c hd1
    obtain ⟨j2, f2⟩ := noteErr_J self (doCall s self c) j1
    obtain ⟨j3, f3⟩ := ih (doCall s self c).2 _ j2 hd2
    exact ⟨j3, (f1.trans f2).trans f3⟩
  | yield _ _ => exact fun s h _ => ⟨h, Fr.refl s⟩
  | ret _ => exact fun s h _ => ⟨h, Fr.refl s⟩
  | raise _ => exact fun s h _ => ⟨h, Fr.refl s⟩

theorem resume_J (body : σ → Resume → Burst ℚ σ) (p : EvId) {rem : List Cb} : ∀ (fuel : Nat) (e : EvId) (s : KState ℚ σ),
    J s rem → resumeDom body p fuel e s → J (resume body p fuel e s) rem ∧ Fr s (resume body p fuel e s) := by
  intro fuel
  induction fuel with
  | zero => exact fun _ s h _ => ⟨h, Fr.refl s⟩
  | succ fuel ih =>
    intro e s h hd
    unfold resume
    unfold resumeDom at hd
    cases hpr : s.proc? p with
    | none => exact ⟨h, Fr.refl s⟩
    | some pr =>
      simp only [hpr] at hd ⊢
      obtain ⟨hd1, hd2⟩ := hd
      have j0 : J (deliver s p e).1 rem ∧ Fr s (deliver s p e).1 := h.keeps (deliverSt_keeps h.pkg p e)
      generalize deliver s p e = sr at j0 hd1 hd2 ⊢
      have j1 := j0.1.keeps (ghost_keeps (s' := sr.1.emit (.resumed p sr.2 sr.1.now)) j0.1.pkg rfl rfl rfl rfl rfl)
      obtain ⟨j2, f2⟩ := runBurst_J p (body pr.st sr.2) _ j1.1 hd1
      generalize runBurst p (body pr.st sr.2) (sr.1.emit (.resumed p sr.2 sr.1.now)) = bt at j2 f2 hd2 ⊢
      obtain ⟨s1, t⟩ := bt
      have f02 : Fr s s1 := (j0.2.trans j1.2).trans f2
      have hk : (s1.ev p).kind = .proc := j2.pkg.procKind p (f02.procs p (by rw [hpr]; exact Option.some_ne_none pr))
      cases t with
      | returned v =>
        obtain ⟨j3, f3⟩ := j2.keeps (finishProc_keeps j2.pkg p pr (.ok v) hk)
        exact ⟨j3, f02.trans f3⟩
      | raised x =>
        obtain ⟨j3, f3⟩ := j2.keeps (finishProc_keeps j2.pkg p pr (.fail x) hk)
        exact ⟨j3, f02.trans f3⟩
      | yielded e' st' =>
        simp only at hd2 ⊢
        obtain ⟨j3, f3⟩ := j2.keeps ⟨j2.pkg.setProc p { st := st', target := some e' } hk, NR.setProc s1 p _⟩
        cases hreg : register (s1.setProc p { st := st', target := some e' }) p e' with
        | some s3 =>
          obtain ⟨j4, f4⟩ := j3.keeps (register_keeps j3.pkg p e' hreg)
          exact ⟨j4, (f02.trans f3).trans f4⟩
        | none =>
          simp only [hreg] at hd2
          obtain ⟨j4, f4⟩ := ih e' _ j3 hd2
          exact ⟨j4, (f02.trans f3).trans f4⟩

theorem deliverInterrupt_J (body : σ → Resume → Burst ℚ σ) (fuel : Nat) (iv p : EvId) {rem : List Cb} (s : KState ℚ σ)
    (h : J s rem) (hd : intrDom body fuel iv p s) :
    J (deliverInterrupt body fuel iv p s) rem ∧ Fr s (deliverInterrupt body fuel iv p s) := by
  unfold deliverInterrupt
  unfold intrDom at hd
  split
  · exact ⟨h, Fr.refl s⟩
  · rename_i htr
    simp only [htr, Bool.false_eq_true, if_false] at hd
    cases hpr : s.proc? p with
    | none => exact ⟨h, Fr.refl s⟩
    | some pr =>
      simp only [hpr] at hd ⊢
      cases htg : pr.target with
      | none =>
        simp only [htg] at hd ⊢
        exact resume_J body p fuel iv s h hd
      | some t =>
        simp only [htg] at hd ⊢
        obtain ⟨j1, f1⟩ := h.keeps (eraseCb_keeps h.pkg t (.resume p) rfl)
        obtain ⟨j2, f2⟩ := resume_J body p fuel iv _ j1 hd
        exact ⟨j2, f1.trans f2⟩

theorem runCb_J (body : σ → Resume → Burst ℚ σ) (fuel : Nat) (e : EvId) (l : LoopSt ℚ σ) (cb : Cb) (rem : List Cb)
    (h : J l.s (cb :: rem)) (hd : cbDom body fuel e l.s cb) : J (runCb body fuel e l cb).s rem := by
  unfold runCb
  cases cb with
  | resume p => exact (resume_J body p fuel e l.s (h.tail rfl) hd).1
  | probe tag =>
    show J (l.s.emit _) rem
    refine ((h.tail rfl).keeps ?_).1
    exact ghost_keeps h.pkg rfl rfl rfl rfl rfl
  | stop => exact h.tail rfl
  | intr iv =>
    simp only
    unfold cbDom at hd
    split
    · rename_i p hk
      simp only [hk] at hd
      exact (deliverInterrupt_J body fuel iv p l.s (h.tail rfl) hd).1
    · exact h.tail rfl
  | check c => exact ((h.tail rfl).keeps (condCheck_keeps h.pkg c e (h.chk c List.mem_cons_self))).1
  | build c =>
    dsimp only
    exact ((h.tail rfl).keeps (condBuild_keeps h.pkg c)).1
  | trigPut r => exact h.cbTrigPut.1
  | trigGet r => exact h.cbTrigGet.1

theorem foldCbs_J (body : σ → Resume → Burst ℚ σ) (fuel : Nat) (e : EvId) : ∀ (cbs : List Cb) (l : LoopSt ℚ σ),
    J l.s cbs → loopDom body fuel e cbs l → J (cbs.foldl (runCb body fuel e) l).s [] := by
  intro cbs
  induction cbs with
  | nil => exact fun _ h _ => h
  | cons cb rest ih => exact fun l h hd => ih _ (runCb_J body fuel e l cb rest h hd.1) hd.2

theorem openEvent_ev_meta (s : KState ℚ σ) (q : QEntry ℚ) (rest : List (QEntry ℚ)) (x : EvId) :
    ((openEvent s q rest).ev x).kind = (s.ev x).kind ∧ ((openEvent s q rest).ev x).out = (s.ev x).out ∧
    ((openEvent s q rest).ev x).req = (s.ev x).req ∧
    (∀ l, ((openEvent s q rest).ev x).cbs = some l → (s.ev x).cbs = some l ∧ x ≠ q.ev) := by
  rw [openEvent_ev]
  split
  · rename_i hc
    rw [hc]
    exact ⟨rfl, rfl, rfl, fun l hl => by cases hl⟩
  · rename_i hc
    exact ⟨rfl, rfl, rfl, fun l hl => ⟨hl, hc⟩⟩

theorem openEvent_ev_ne (s : KState ℚ σ) (q : QEntry ℚ) (rest : List (QEntry ℚ)) (x : EvId) (hx : x ≠ q.ev) :
    (openEvent s q rest).ev x = s.ev x := by
  rw [openEvent_ev, if_neg hx]

/-- popping the next entry re-establishes the loop invariant for the callbacks of the popped event -/
theorem openEvent_J {s : KState ℚ σ} (h : SInv s) (q : QEntry ℚ) (rest : List (QEntry ℚ))
    (hpop : popMin s.agenda = some (q, rest)) (l : List Cb)
    (hl : (s.ev q.ev).cbs = some l ∨ ((s.ev q.ev).cbs = none ∧ l = [])) : J (openEvent s q rest) l := by
  have sp := popMin_spec _ _ _ hpop
  have hqmem : q ∈ s.agenda := sp.1.symm.subset List.mem_cons_self
  have hsub : ∀ x ∈ rest, x ∈ s.agenda := fun x hx => sp.1.symm.subset (List.mem_cons_of_mem _ hx)
  have hqout : (s.ev q.ev).out ≠ none := h.j.pkg.agTrig q hqmem
  have hres : ∀ r, (openEvent s q rest).res r = s.res r := fun _ => rfl
  have hproc : ∀ p, (openEvent s q rest).proc? p = s.proc? p := fun _ => rfl
  have hsize : (openEvent s q rest).events.size = s.events.size := by simp [openEvent]
  have hcond : ∀ c, isCond (openEvent s q rest) c = isCond s c :=
    fun c => isCond_congr (openEvent_ev_meta s q rest c).1
  have hreq : ∀ x, reqOf (openEvent s q rest) x = reqOf s x := fun x => reqOf_congr (openEvent_ev_meta s q rest x).2.2.1
  -- a queued request is untriggered, hence not the popped event
  have hqne : ∀ x, (s.ev x).out = none → x ≠ q.ev := fun x hx hc => hqout (hc ▸ hx)
  refine ⟨⟨?_, ?_, ?_, ?_, ?_, h.j.pkg.nodupP, h.j.pkg.nodupG, ?_, h.j.pkg.usersLe⟩, ?_, ?_⟩
  · intro x hx
    rw [(openEvent_ev_meta s q rest x.ev).2.1]
    exact h.j.pkg.agTrig x (hsub x hx)
  · intro p hp
    rw [(openEvent_ev_meta s q rest p).1]
    exact h.j.pkg.procKind p hp
  · intro x l' c hl' hm
    rw [hcond]
    exact h.j.pkg.checkKind x l' c ((openEvent_ev_meta s q rest x).2.2.2 l' hl').1 hm
  · intro r e hm
    have := h.j.pkg.putQ r e hm
    have hne := hqne e (this.2.1.resolve_right (by simp))
    rw [openEvent_ev_ne s q rest e hne]; exact this
  · intro r e hm
    have := h.j.pkg.getQ r e hm
    have hne := hqne e (this.2.1.resolve_right (by simp))
    rw [openEvent_ev_ne s q rest e hne]; exact this
  · intro r w hw
    rw [hsize]; exact h.j.pkg.usersIn r w hw
  · -- `_check` callbacks of the popped event
    intro c hc
    rw [hcond]
    rcases hl with hl | ⟨_, hl⟩
    · exact h.j.pkg.checkKind q.ev l c hl hc
    · rw [hl] at hc; cases hc
  · -- the main clause
    have pend : ∀ cb, Pend s [] cb → Pend (openEvent s q rest) l cb := by
      intro cb hp
      rcases hp with hp | ⟨q0, hq0, ht0, l0, hl0, hm0⟩
      · cases hp
      · have hq0' : q0 ∈ q :: rest := sp.1.subset hq0
        have hnow : q.time = s.now := QEntry.min_time_eq h.wf.due (min_of_pop (List.Perm.refl _) hpop).1 hq0 ht0
        by_cases hev : q0.ev = q.ev
        · left
          rw [hev] at hl0
          rcases hl with hl | ⟨hl, _⟩
          · rw [hl] at hl0
            cases hl0; exact hm0
          · rw [hl] at hl0; cases hl0
        · right
          have hr : q0 ∈ rest := by
            rcases List.mem_cons.mp hq0' with rfl | hr
            · exact absurd rfl hev
            · exact hr
          refine ⟨q0, hr, ?_, l0, ?_, hm0⟩
          · show q0.time = q.time
            rw [hnow]; exact ht0
          · rw [openEvent_ev_ne s q rest q0.ev hev]; exact hl0
    have hstrip : ∀ x, x < s.events.size → (reqOf (openEvent s q rest) x).strip = (reqOf s x).strip :=
      fun x _ => congrArg ReqData.strip (hreq x)
    exact fun r => ⟨(h.j.main r).1.imp (·.congr h.j.pkg hstrip (SameContents.of_eq (hres r)) rfl) (pend _),
      (h.j.main r).2.imp (·.congr h.j.pkg hstrip (SameContents.of_eq (hres r)) rfl) (pend _)⟩

/-- **one kernel step keeps the invariant** (however it ends), under the domain hypothesis for this step -/
theorem step_sinv (body : σ → Resume → Burst ℚ σ) (fuel : Nat) (s s' : KState ℚ σ) (h : SInv s)
    (hd : stepDom body fuel s) (hs : (step body fuel s).state? = some s') : SInv s' := by
  obtain ⟨q, rest, hq, hext⟩ := step_shape body fuel s s' hs
  have hwf : AgendaWF s' := (openEvent_wf s q rest h.wf hq).1.ext hext
  refine ⟨hwf, ?_⟩
  unfold step at hs
  unfold stepDom at hd
  simp only [hq] at hs hd
  cases hc : (s.ev q.ev).cbs with
  | none =>
    simp only [hc] at hs
    cases hs
    exact openEvent_J h q rest hq [] (Or.inr ⟨hc, rfl⟩)
  | some cbs =>
    simp only [hc] at hs hd
    rw [closeEvent_state] at hs
    cases hs
    exact foldCbs_J body fuel q.ev cbs _ (openEvent_J h q rest hq cbs (Or.inl hc)) hd

/-- **the invariant holds in every state any program can reach** (within the domain) -/
theorem reach_sinv (body : σ → Resume → Burst ℚ σ) (fuel : Nat) (s0 s : KState ℚ σ) (h0 : SInv s0)
    (hr : DReach body fuel s0 s) : SInv s := by
  induction hr with
  | init => exact h0
  | step _ hd hs ih => exact step_sinv body fuel _ _ ih hd hs

theorem DReach.toKReach {body : σ → Resume → Burst ℚ σ} {fuel : Nat} {s0 s : KState ℚ σ} (hr : DReach body fuel s0 s) :
    KReach body fuel s0 s := by
  induction hr with
  | init => exact KReach.init
  | step _ _ hs ih => exact KReach.step ih hs

/-- when the clock is about to advance nothing is due now, so no rescan is pending -/
theorem not_pend_of_advance {s : KState ℚ σ} (hwf : AgendaWF s) (ha : AboutToAdvance s) (cb : Cb) : ¬ Pend s [] cb := by
  rintro (hp | ⟨q0, hq0, ht0, _⟩)
  · cases hp
  · cases hpop : popMin s.agenda with
    | none =>
      cases hag : s.agenda with
      | nil => rw [hag] at hq0; cases hq0
      | cons x xs =>
        rw [hag] at hpop
        unfold popMin at hpop
        cases h2 : popMin xs <;> rw [h2] at hpop
        · cases hpop
        · simp only at hpop; split at hpop <;> cases hpop
    | some qr =>
      exact QEntry.min_ne_now hwf.due (min_of_pop (List.Perm.refl _) hpop).1 (ha qr.1 qr.2 hpop) q0 hq0 ht0

/-- **at a clock advance every queue head is blocked** -/
theorem sinv_advance {s : KState ℚ σ} (h : SInv s) (ha : AboutToAdvance s) (r : ResId) :
    PutBlocked s r ∧ GetBlocked s r :=
  ⟨(h.j.main r).1.resolve_right (not_pend_of_advance h.wf ha _), (h.j.main r).2.resolve_right (not_pend_of_advance h.wf ha _)⟩

/-- **between steps, a queue head that could be served has a rescan of its queue in the agenda, due now** -/
theorem SInv.rescan_put {s : KState ℚ σ} (h : SInv s) {r : ResId} {e : EvId} (he : (s.res r).putQ.head? = some e)
    (hfree : canPut (prePut s r e) r e = true) :
    ∃ q ∈ s.agenda, q.time = s.now ∧ ∃ l, (s.ev q.ev).cbs = some l ∧ Cb.trigPut r ∈ l :=
  ((h.j.main r).1.resolve_left (fun hb => Bool.noConfusion ((hb e he).symm.trans hfree))).resolve_left List.not_mem_nil

theorem SInv.rescan_get {s : KState ℚ σ} (h : SInv s) {r : ResId} {e : EvId}
    (he : (s.res r).getQ.head? = some e ∨ ((s.res r).kind = .fstore ∧ e ∈ (s.res r).getQ)) (hsat : getItem s r e ≠ none) :
    ∃ q ∈ s.agenda, q.time = s.now ∧ ∃ l, (s.ev q.ev).cbs = some l ∧ Cb.trigGet r ∈ l :=
  ((h.j.main r).2.resolve_left (fun hb => hsat (he.elim (hb.1 e) (fun hf => hb.2 hf.1 e hf.2)))).resolve_left List.not_mem_nil

/-- what the invariant asks of resource `r` in a state where nothing is scheduled -/
structure IdleRes (s : KState ℚ σ) (r : ResId) : Prop where
  putQ : ∀ e ∈ (s.res r).putQ, (s.ev e).kind = .put r ∧ (s.ev e).out = none ∧ ∃ l, (s.ev e).cbs = some l ∧ Cb.trigGet r ∈ l
  getQ : ∀ e ∈ (s.res r).getQ, (s.ev e).kind = .get r ∧ (s.ev e).out = none ∧ ∃ l, (s.ev e).cbs = some l ∧ Cb.trigPut r ∈ l
  nodupP : (s.res r).putQ.Nodup
  nodupG : (s.res r).getQ.Nodup
  usersIn : ∀ w ∈ (s.res r).users, w < s.events.size
  usersLe : ∀ c, isResKind (s.res r).kind = true → (s.res r).capacity = some c → (s.res r).users.length ≤ c
  putBlocked : PutBlocked s r
  getBlocked : GetBlocked s r

/-- a resource with empty queues and no users -/
theorem IdleRes.of_empty {s : KState ℚ σ} {r : ResId} (hp : (s.res r).putQ = []) (hg : (s.res r).getQ = [])
    (hu : (s.res r).users = []) : IdleRes s r := by
  refine ⟨?_, ?_, ?_, ?_, ?_, ?_, ?_, ⟨?_, ?_⟩⟩
  · rw [hp]; exact fun _ h => nomatch h
  · rw [hg]; exact fun _ h => nomatch h
  · rw [hp]; exact List.nodup_nil
  · rw [hg]; exact List.nodup_nil
  · rw [hu]; exact fun _ h => nomatch h
  · rw [hu]; exact fun _ _ _ => Nat.zero_le _
  · intro e he; rw [hp] at he; cases he
  · intro e he; rw [hg] at he; cases he
  · intro _ e he; rw [hg] at he; cases he

/-- **a state in which nothing is scheduled, no process exists and no `_check` is subscribed** satisfies the invariant
as soon as every resource does; its clock is about to advance -/
theorem sinv_idle {s : KState ℚ σ} (ha : s.agenda = []) (hp : s.procs = [])
    (hchk : ∀ x l c, (s.ev x).cbs = some l → Cb.check c ∉ l) (hres : ∀ r, IdleRes s r) :
    SInv s ∧ AboutToAdvance s := by
  have hag : ∀ q, q ∉ s.agenda := fun q hq => by rw [ha] at hq; cases hq
  refine ⟨⟨⟨fun q hq => absurd hq (hag q), fun q hq => absurd hq (hag q), by rw [ha]; exact List.Pairwise.nil⟩,
    ⟨⟨fun q hq => absurd hq (hag q), ?_, fun x l c hl hm => absurd hm (hchk x l c hl), ?_, ?_,
      fun r => (hres r).nodupP, fun r => (hres r).nodupG, fun r => (hres r).usersIn, fun r => (hres r).usersLe⟩,
     fun c hc => (nomatch hc), fun r => ⟨Or.inl (hres r).putBlocked, Or.inl (hres r).getBlocked⟩⟩⟩, ?_⟩
  · intro p hpp
    exact absurd (by unfold KState.proc?; rw [hp]; rfl) hpp
  · intro r e hm
    obtain ⟨h1, h2, h3⟩ := (hres r).putQ e hm
    exact ⟨h1, Or.inl h2, h3⟩
  · intro r e hm
    obtain ⟨h1, h2, h3⟩ := (hres r).getQ e hm
    exact ⟨h1, Or.inl h2, h3⟩
  · intro q rest hq
    rw [ha] at hq; cases hq

/-- a fresh environment: nothing scheduled, no events, resources with empty queues and no users -/
theorem sinv_init (t0 : ℚ) (rs : Array ResRec)
    (h : ∀ r, (rs.getD r default).putQ = [] ∧ (rs.getD r default).getQ = [] ∧ (rs.getD r default).users = []) :
    SInv ({ now := t0, resources := rs } : KState ℚ σ) :=
  (sinv_idle rfl rfl (fun x l c hl => by rw [KState.ev_of_size_le _ x (Nat.zero_le _)] at hl; cases hl)
    (fun r => IdleRes.of_empty (s := { now := t0, resources := rs }) (h r).1 (h r).2.1 (h r).2.2)).1

/-- API calls made while setting up the environment (e.g. the initial `env.process(...)` calls) keep the invariant -/
theorem doCall_sinv {s : KState ℚ σ} (h : SInv s) (self : EvId) (c : Call ℚ σ) (hd : callDom s c) :
    SInv (doCall s self c).1 :=
  ⟨h.wf.ext (ext_doCall s self c), (doCall_J h.j self c hd).1⟩

theorem callDom_of_noTrig (s : KState ℚ σ) (c : Call ℚ σ) (h1 : ∀ e v, c ≠ .succeed e v) (h2 : ∀ e x, c ≠ .fail e x) :
    callDom s c := by
  cases c
  case succeed e v => exact absurd rfl (h1 e v)
  case fail e x => exact absurd rfl (h2 e x)
  all_goals exact trivial

theorem burstDom_of_noTrig (self : EvId) : ∀ (b : Burst ℚ σ) (s : KState ℚ σ), NoTrigCalls b → burstDom self b s := by
  intro b s h
  induction h generalizing s with
  | call c k h1 h2 _ ih => exact ⟨callDom_of_noTrig s c h1 h2, ih _ _⟩
  | yield => exact trivial
  | ret => exact trivial
  | raise => exact trivial

theorem resumeDom_of_noTrig (body : σ → Resume → Burst ℚ σ) (hb : ∀ st rs, NoTrigCalls (body st rs)) (p : EvId) :
    ∀ (fuel : Nat) (e : EvId) (s : KState ℚ σ), resumeDom body p fuel e s := by
  intro fuel
  induction fuel with
  | zero => exact fun _ _ => trivial
  | succ fuel ih =>
    intro e s
    unfold resumeDom
    cases hpr : s.proc? p with
    | none => trivial
    | some pr =>
      simp only
      refine ⟨burstDom_of_noTrig p _ _ (hb _ _), ?_⟩
      generalize runBurst p (body pr.st (deliver s p e).2)
        ((deliver s p e).1.emit (.resumed p (deliver s p e).2 (deliver s p e).1.now)) = bt
      obtain ⟨s1, t⟩ := bt
      cases t with
      | returned v => trivial
      | raised x => trivial
      | yielded e' st' =>
        simp only
        cases hreg : register (s1.setProc p { st := st', target := some e' }) p e' with
        | some s3 => trivial
        | none => exact ih e' _

theorem cbDom_of_noTrig (body : σ → Resume → Burst ℚ σ) (hb : ∀ st rs, NoTrigCalls (body st rs)) (fuel : Nat) (e : EvId)
    (s : KState ℚ σ) (cb : Cb) : cbDom body fuel e s cb := by
  cases cb with
  | resume p => exact resumeDom_of_noTrig body hb p fuel e s
  | intr iv =>
    show (match (s.ev iv).kind with | .intr p => intrDom body fuel iv p s | _ => True)
    split
    · unfold intrDom
      split
      · trivial
      · split
        · trivial
        · split
          · exact resumeDom_of_noTrig body hb _ fuel iv _
          · exact resumeDom_of_noTrig body hb _ fuel iv _
    · trivial
  | _ => trivial

theorem loopDom_of_noTrig (body : σ → Resume → Burst ℚ σ) (hb : ∀ st rs, NoTrigCalls (body st rs)) (fuel : Nat) (e : EvId) :
    ∀ (cbs : List Cb) (l : LoopSt ℚ σ), loopDom body fuel e cbs l
  | [], _ => trivial
  | cb :: rest, l => ⟨cbDom_of_noTrig body hb fuel e l.s cb, loopDom_of_noTrig body hb fuel e rest _⟩

/-- a program that never calls `succeed()/fail()` satisfies the domain hypothesis in every step -/
theorem stepDom_of_noTrig (body : σ → Resume → Burst ℚ σ) (hb : ∀ st rs, NoTrigCalls (body st rs)) (fuel : Nat)
    (s : KState ℚ σ) : stepDom body fuel s := by
  unfold stepDom
  split
  · trivial
  · split
    · trivial
    · exact loopDom_of_noTrig body hb fuel _ _ _

theorem dreach_of_noTrig (body : σ → Resume → Burst ℚ σ) (hb : ∀ st rs, NoTrigCalls (body st rs)) (fuel : Nat)
    (s0 s : KState ℚ σ) (hr : KReach body fuel s0 s) : DReach body fuel s0 s := by
  induction hr with
  | init => exact DReach.init
  | step _ hs ih => exact DReach.step ih (stepDom_of_noTrig body hb fuel _) hs

/-! ## small facts used by the plain-words corollaries -/

theorem beq_preemptive_of_container {k : ResKind} (h : k = .container) : k ≠ .preemptive := by
  rw [h]; simp

theorem not_preemptive_of_store {k : ResKind} (h : isStoreKind k = true) : k ≠ .preemptive := by
  intro hk; rw [hk] at h; exact absurd h (by decide)

theorem AgendaWF.scheduleAt {s : KState ℚ σ} (h : AgendaWF s) (x : EvId) (p : Nat) (t : ℚ) (ht : s.now ≤ t) :
    AgendaWF (s.scheduleAt x p t) := by
  refine ⟨?_, ?_, ?_⟩
  · intro q hq
    rcases List.mem_cons.mp hq with rfl | hq
    · exact ht
    · exact h.due q hq
  · intro q hq
    rcases List.mem_cons.mp hq with rfl | hq
    · exact Nat.lt_succ_self _
    · exact Nat.lt_succ_of_lt (h.eid_lt q hq)
  · refine List.pairwise_cons.mpr ⟨?_, h.distinct⟩
    intro q hq
    exact Nat.ne_of_gt (h.eid_lt q hq)

/-- the state in which `run(until=at_)` enters its step loop (`runUntilTime`) -/
theorem sinv_untilTime_start {s : KState ℚ σ} (h : SInv s) (at_ : ℚ) (hlt : s.now < at_) :
    SInv ((((s.newEv { kind := .sentinel, cbs := some [], out := some (.ok .none) }).1.scheduleAt s.events.size URGENT at_)).addCb
      s.events.size .stop) := by
  have hp := Pushed.newEv s { kind := .sentinel, cbs := some [], out := some (.ok .none) }
  have k1 : Keeps s (s.newEv { kind := .sentinel, cbs := some [], out := some (.ok .none) }).1 :=
    ⟨hp.pkg h.j.pkg (by intro l c hl hm; simp only [Option.some.injEq] at hl; subst hl; simp at hm), hp.nr⟩
  have k2 := k1.trans ⟨k1.1.scheduleAt s.events.size URGENT at_ (by rw [hp.ev_new]; simp), NR.scheduleAt _ _ _ _⟩
  have k3 := k2.trans (addCb_keeps k2.1 s.events.size .stop (by intro c hc; cases hc))
  have w1 : AgendaWF (s.newEv { kind := .sentinel, cbs := some [], out := some (.ok .none) }).1 :=
    ⟨h.wf.due, h.wf.eid_lt, h.wf.distinct⟩
  have w2 := w1.scheduleAt s.events.size URGENT at_ (le_of_lt hlt)
  exact ⟨⟨w2.due, w2.eid_lt, w2.distinct⟩, (h.j.keeps k3).1⟩

/-- the state in which `run(until=event)` enters its step loop (`runUntilEvent`) -/
theorem sinv_untilEvent_start {s : KState ℚ σ} (h : SInv s) (e : EvId) : SInv (s.addCb e .stop) :=
  ⟨⟨h.wf.due, h.wf.eid_lt, h.wf.distinct⟩, (h.j.keeps (addCb_keeps h.j.pkg e .stop (by intro c hc; cases hc))).1⟩
