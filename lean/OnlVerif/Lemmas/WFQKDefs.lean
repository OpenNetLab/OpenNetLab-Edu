import OnlVerif.Lemmas.TimerKFrame
import OnlVerif.Lemmas.StampWfq
import OnlVerif.Net.WFQOnK
import OnlVerif.Lemmas.KProcDefs
/-!
# The WFQ scheduler on the kernel model: canonical configurations (definitions)

`A` is an abstract description of a kernel state of the program `WFQOnK.prog`: where `WFQ.run` (and the sender process it has
spawned) and the source are suspended, which agenda entries exist, what the `PriorityStore` holds, the attribute cells
(`vtime`, `last_time`, `finish_times`, `class_count`, `active_set`, the counters), and (ghost) the `put` history.  `Cells` says
what the attribute cells hold (one equation per `Cell`, with one lemma per kind of cell for what a `Call.store` does to it); that
a kernel state *is* a configuration (`KInv`) is said in `Lemmas/WFQKCfg.lean`.  `AInv` is what holds of the configurations of a run.  `AStep` is
one kernel step seen on configurations; `toM` is the LTS state a configuration stands for.  (Same plan as `VCKDefs.lean`.)
-/

namespace WFQK
open WFQOnK
open TimerK (lookup)

abbrev St := WfqKSt ℚ
abbrev KS := KState ℚ St

/-- a `put` that has happened: packet id, arrival instant, stamp (finish time) -/
abbrev PutRec := Int × ℚ × ℚ

/-- where `WFQ.run` (with the sender it waits for) is -/
inductive RPhase where
  /-- not started: its `Initialize` entry `q` is in the agenda -/
  | init (q : QEntry ℚ)
  /-- blocked in `store.get()` (event `g`) -/
  | W (g : EvId)
  /-- that `get` has been served with the item of `w`: entry `q` -/
  | H (g : EvId) (w : PutRec) (q : QEntry ℚ)
  /-- the sender process `p` of packet `id` has been created: its `Initialize` entry `q` -/
  | S (p : EvId) (id : Int) (q : QEntry ℚ)
  /-- the sender `p` sleeps on timeout `t` (entry `q`, due at `q.time`) -/
  | T (p t : EvId) (id : Int) (q : QEntry ℚ)
  /-- the sender's generator has returned: its process event `p` is triggered (entry `q`) -/
  | F (p : EvId) (id : Int) (q : QEntry ℚ)

/-- where the source is -/
inductive SPhase where
  | init (q : QEntry ℚ) (arr : List (ℚ × Int))
  /-- sleeping on the timeout (entry `q`) after which it puts packet `id`; `rest` still to come -/
  | wait (id : Int) (rest : List (ℚ × Int)) (q : QEntry ℚ)
  /-- the generator has returned: the process event (entry `q`) is triggered -/
  | ending (q : QEntry ℚ)
  | done

/-- `g x := v` -/
def upd {β : Type} (g : Nat → β) (f : Nat) (v : β) : Nat → β := fun x => if x = f then v else g x

@[simp] theorem upd_same {β : Type} (g : Nat → β) (f : Nat) (v : β) : upd g f v f = v := by simp [upd]
theorem upd_ne {β : Type} (g : Nat → β) (f f' : Nat) (v : β) (h : f' ≠ f) : upd g f v f' = g f' := by simp [upd, h]
theorem upd_apply {β : Type} (g : Nat → β) (f f' : Nat) (v : β) : upd g f v f' = if f' = f then v else g f' := rfl

structure A where
  run : RPhase
  src : SPhase
  /-- the `StorePut` events that are triggered and not yet processed -/
  pend : List (QEntry ℚ)
  /-- `store.items`: the packets waiting, in the order of their `put` -/
  items : List PutRec
  /-- `queue_count[f]` -/
  cnt : Nat → Int
  /-- `queue_byte_size[f]` -/
  byt : Nat → Int
  /-- `packets_received` -/
  recv : Int
  /-- `current_packet` -/
  cur : Option Int
  /-- `vtime` -/
  vtime : ℚ
  /-- `last_time` -/
  last : ℚ
  /-- `reset_vtime` has run at least once: `finish_times` has its keys (those of `weights`) -/
  fset : Bool
  /-- `finish_times[c]` (meaningful once `fset`) -/
  fin : Nat → ℚ
  /-- `class_count.get(c)` -/
  cls : Nat → Option Int
  /-- `c in active_set` -/
  act : Nat → Bool
  /-- (ghost) every `put` so far, in order -/
  puts : List PutRec

def RPhase.entries : RPhase → List (QEntry ℚ)
  | .init q => [q]
  | .W _ => []
  | .H _ _ q => [q]
  | .S _ _ q => [q]
  | .T _ _ _ q => [q]
  | .F _ _ q => [q]

def SPhase.entries : SPhase → List (QEntry ℚ)
  | .init q _ => [q]
  | .wait _ _ q => [q]
  | .ending q => [q]
  | .done => []

def A.entries (a : A) : List (QEntry ℚ) := a.run.entries ++ (a.src.entries ++ a.pend)

/-- the events a configuration talks about (pairwise different); the process event of `WFQ.run` is 0, of the source 2 -/
def RPhase.ids : RPhase → List EvId
  | .init _ => [0, 1]
  | .W g => [0, g]
  | .H g _ _ => [0, g]
  | .S p _ _ => [0, p, p + 1]
  | .T p t _ _ => [0, p, t]
  | .F p _ _ => [0, p]

def SPhase.ids : SPhase → List EvId
  | .init _ _ => [2, 3]
  | .wait _ _ q => [2, q.ev]
  | .ending _ => [2]
  | .done => []

def pendIds (l : List (QEntry ℚ)) : List EvId := l.map (·.ev)

/-- the `get_queue` of the store -/
def RPhase.getQ : RPhase → List EvId
  | .W g => [g]
  | _ => []

export KExec (pstoreRec)

variable (N scale : Nat)

/-- the integer that carries the `PriorityItem` of a `put` -/
def codeOf (w : PutRec) : Int := stampItem scale N w.2.2 w.1

variable (size : Int → Nat) (rate : ℚ)

/-- the value of the `current_packet` cell -/
def curVal : Option Int → Val
  | some id => .int id
  | none => .none

/-- the value of a `class_count` cell -/
def clsVal : Option Int → Val
  | some n => .int n
  | none => .none

/-! ## the attribute cells -/

/-- the attribute cells of the program, by name -/
inductive Cell where
  | recv | cur | vtime | last
  | count (f : Nat) | bytes (f : Nat) | fin (c : Nat) | cls (c : Nat) | act (c : Nat)

/-- where a cell lives in `KState.shared` -/
def Cell.addr : Cell → Nat
  | .recv => cRecv | .cur => cCur | .vtime => cVtime | .last => cLast
  | .count f => cCount f | .bytes f => cBytes f | .fin c => cFin c | .cls c => cCls c | .act c => cAct c

/-- the scalar cells and the cells of the flows / classes `0 … F-1` -/
def Cell.In (F : Nat) : Cell → Prop
  | .count f | .bytes f | .fin f | .cls f | .act f => f < F
  | _ => True

/-- what a cell holds in configuration `a` -/
def Cell.val (a : A) : Cell → Val
  | .recv => .int a.recv
  | .cur => curVal a.cur
  | .vtime => TimeCell.enc a.vtime
  | .last => TimeCell.enc a.last
  | .count f => .int (a.cnt f)
  | .bytes f => .int (a.byt f)
  | .fin c => if a.fset then TimeCell.enc (a.fin c) else Val.none
  | .cls c => clsVal (a.cls c)
  | .act c => .int (if a.act c then 1 else 0)

/-- the first address of the group of a cell, its index in the group (`addr = base + 5 * idx`), and back -/
def Cell.base : Cell → Nat
  | .recv => 0 | .cur => 1 | .vtime => 2 | .last => 3
  | .count _ => 10 | .bytes _ => 11 | .fin _ => 12 | .cls _ => 13 | .act _ => 14

def Cell.idx : Cell → Nat
  | .count f | .bytes f | .fin f | .cls f | .act f => f
  | _ => 0

def Cell.ofBase (b i : Nat) : Cell :=
  match b with
  | 0 => .recv | 1 => .cur | 2 => .vtime | 3 => .last
  | 10 => .count i | 11 => .bytes i | 12 => .fin i | 13 => .cls i | _ => .act i

/-- different cells live at different addresses (the scalar ones below 10, then five per flow) -/
theorem Cell.addr_inj {c c' : Cell} (h : c.addr = c'.addr) : c = c' := by
  have e : ∀ c : Cell, c.addr = c.base + 5 * c.idx ∧ (c.base < 5 ∧ c.idx = 0 ∨ 10 ≤ c.base ∧ c.base < 15) ∧
      Cell.ofBase c.base c.idx = c := by
    intro c
    cases c with
    | recv | cur | vtime | last => exact ⟨rfl, Or.inl ⟨Nat.le_of_ble_eq_true rfl, rfl⟩, rfl⟩
    | _ => exact ⟨rfl, Or.inr ⟨Nat.le_of_ble_eq_true rfl, Nat.le_of_ble_eq_true rfl⟩, rfl⟩
  obtain ⟨h1, h2, h3⟩ := e c
  obtain ⟨h1', h2', h3'⟩ := e c'
  have : c.base = c'.base ∧ c.idx = c'.idx := by omega
  rw [← h3, ← h3', this.1, this.2]

/-- the attribute cells are those of configuration `a` -/
def Cells (F : Nat) (g : Nat → Val) (a : A) : Prop := ∀ c : Cell, c.In F → g c.addr = c.val a

section cells
variable {F : Nat} {g : Nat → Val} {a : A}

theorem Cells.c0 (h : Cells F g a) : g cRecv = .int a.recv := h .recv trivial
theorem Cells.c1 (h : Cells F g a) : g cCur = curVal a.cur := h .cur trivial
theorem Cells.cvt (h : Cells F g a) : g cVtime = TimeCell.enc a.vtime := h .vtime trivial
theorem Cells.cl (h : Cells F g a) : g cLast = TimeCell.enc a.last := h .last trivial
theorem Cells.cc (h : Cells F g a) (f : Nat) (hf : f < F) : g (cCount f) = .int (a.cnt f) := h (.count f) hf
theorem Cells.cb (h : Cells F g a) (f : Nat) (hf : f < F) : g (cBytes f) = .int (a.byt f) := h (.bytes f) hf
theorem Cells.cf (h : Cells F g a) (c : Nat) (hc : c < F) :
    g (cFin c) = if a.fset then TimeCell.enc (a.fin c) else Val.none := h (.fin c) hc
theorem Cells.ck (h : Cells F g a) (c : Nat) (hc : c < F) : g (cCls c) = clsVal (a.cls c) := h (.cls c) hc
theorem Cells.cact (h : Cells F g a) (c : Nat) (hc : c < F) : g (cAct c) = .int (if a.act c then 1 else 0) :=
  h (.act c) hc

/-- only the attribute fields of a configuration matter -/
theorem Cells.congr {a' : A} (h : Cells F g a) (h0 : a'.recv = a.recv) (h1 : a'.cur = a.cur)
    (h2 : a'.vtime = a.vtime) (h3 : a'.last = a.last) (h4 : a'.cnt = a.cnt) (h5 : a'.byt = a.byt) (h6 : a'.fset = a.fset)
    (h7 : a'.fin = a.fin) (h8 : a'.cls = a.cls) (h9 : a'.act = a.act) : Cells F g a' := by
  intro c hc
  rw [h c hc]
  cases c <;> simp only [Cell.val, h0, h1, h2, h3, h4, h5, h6, h7, h8, h9]

/-- **storing into a cell**: the cells are those of any configuration that has the stored value there and agrees with the
old one elsewhere -/
theorem Cells.store (h : Cells F g a) (c : Cell) (v : Val) (a' : A) (hv : c.val a' = v)
    (hframe : ∀ c', c' ≠ c → c'.val a' = c'.val a) : Cells F (KProc.upd g c.addr v) a' := by
  intro c' hin
  unfold KProc.upd
  by_cases hc : c' = c
  · rw [hc, if_pos rfl, hv]
  · rw [if_neg (fun e => hc (Cell.addr_inj e)), hframe c' hc]
    exact h c' hin

theorem Cells.set_recv (h : Cells F g a) (n : Int) :
    Cells F (KProc.upd g cRecv (.int n)) { a with recv := n } :=
  h.store .recv _ _ rfl fun c' hc => by cases c' <;> first | rfl | exact absurd rfl hc

theorem Cells.set_cur (h : Cells F g a) (o : Option Int) :
    Cells F (KProc.upd g cCur (curVal o)) { a with cur := o } :=
  h.store .cur _ _ rfl fun c' hc => by cases c' <;> first | rfl | exact absurd rfl hc

theorem Cells.set_vtime (h : Cells F g a) (v : ℚ) :
    Cells F (KProc.upd g cVtime (TimeCell.enc v)) { a with vtime := v } :=
  h.store .vtime _ _ rfl fun c' hc => by cases c' <;> first | rfl | exact absurd rfl hc

theorem Cells.set_last (h : Cells F g a) (t : ℚ) :
    Cells F (KProc.upd g cLast (TimeCell.enc t)) { a with last := t } :=
  h.store .last _ _ rfl fun c' hc => by cases c' <;> first | rfl | exact absurd rfl hc

theorem Cells.set_cnt (h : Cells F g a) (f : Nat) (n : Int) :
    Cells F (KProc.upd g (cCount f) (.int n)) { a with cnt := upd a.cnt f n } :=
  h.store (.count f) _ _ (congrArg Val.int (upd_same _ _ _)) fun c' hc => by
    cases c' <;> first | rfl | exact congrArg Val.int (upd_ne _ _ _ _ fun e => hc (congrArg Cell.count e))

theorem Cells.set_byt (h : Cells F g a) (f : Nat) (n : Int) :
    Cells F (KProc.upd g (cBytes f) (.int n)) { a with byt := upd a.byt f n } :=
  h.store (.bytes f) _ _ (congrArg Val.int (upd_same _ _ _)) fun c' hc => by
    cases c' <;> first | rfl | exact congrArg Val.int (upd_ne _ _ _ _ fun e => hc (congrArg Cell.bytes e))

theorem Cells.set_fin (h : Cells F g a) (hfs : a.fset = true) (c : Nat) (x : ℚ) :
    Cells F (KProc.upd g (cFin c) (TimeCell.enc x)) { a with fin := upd a.fin c x } :=
  h.store (.fin c) _ _ (by simp only [Cell.val, hfs, if_true, upd_same]) fun c' hc => by
    cases c' <;> first | rfl | simp only [Cell.val, upd_ne _ _ _ _ fun e => hc (congrArg Cell.fin e)]

theorem Cells.set_cls (h : Cells F g a) (c : Nat) (o : Option Int) :
    Cells F (KProc.upd g (cCls c) (clsVal o)) { a with cls := upd a.cls c o } :=
  h.store (.cls c) _ _ (congrArg clsVal (upd_same _ _ _)) fun c' hc => by
    cases c' <;> first | rfl | exact congrArg clsVal (upd_ne _ _ _ _ fun e => hc (congrArg Cell.cls e))

theorem Cells.set_act (h : Cells F g a) (c : Nat) (b : Bool) :
    Cells F (KProc.upd g (cAct c) (.int (if b then 1 else 0))) { a with act := upd a.act c b } :=
  h.store (.act c) _ _ (by simp only [Cell.val, upd_same]) fun c' hc => by
    cases c' <;> first | rfl | simp only [Cell.val, upd_ne _ _ _ _ fun e => hc (congrArg Cell.act e)]

end cells

/-! ## the abstract side -/

variable (F : Nat) (flow : Int → Nat) (cfg : WfqCfg ℚ)

/-- `x` lies on the grid `ℤ / d` -/
def OnGrid (d : Nat) (x : ℚ) : Prop := ∃ k : ℤ, x = k / (d : ℚ)

/-- the weight of a class (0 for an unconfigured one) -/
def wOf (c : Nat) : ℚ := (Stamp.lookup cfg.weights c).getD 0

/-- the configuration names exactly the classes `0 … F-1`, each with a positive whole weight (`weights: Dict[FlowId, int]`),
`flow2class` is the identity -/
structure CfgOK : Prop where
  rate : 0 < cfg.rate
  w : ∀ f, f < F → ∃ n : Nat, 0 < n ∧ Stamp.lookup cfg.weights f = some (n : ℚ)
  keys : ∀ kv ∈ cfg.weights, kv.1 < F
  nodup : (cfg.weights.map (·.1)).Nodup
  f2c : ∀ f, f < F → Stamp.lookup cfg.flow2class f = some f

/-- the sum of all weights, as a natural number -/
def wTotal : Nat := ((List.range F).map fun c => (wOf cfg c).num.toNat).sum

/-- **the grids.**  Instants (arrivals, departures) lie on `ℤ / d1`; virtual time and finish times on `ℤ / scale` with
`scale = d1 · L`, where every possible weight sum `1 … wTotal` divides `L` (so dividing an instant difference by a weight sum,
and a transmission time by a weight, stays on the grid) -/
structure GridOK (d1 L : Nat) (arrivals : List (ℚ × Int)) : Prop where
  d1pos : 0 < d1
  Lpos : 0 < L
  sc : scale = d1 * L
  div : ∀ k : Nat, 1 ≤ k → k ≤ wTotal F cfg → k ∣ L
  gaps : ∀ x ∈ arrivals, OnGrid d1 x.1
  tx : ∀ x ∈ arrivals, OnGrid d1 (txTime size cfg.rate x.2)

/-- gaps are not negative, packets belong to configured flows, ids increase and stay inside `0 … N-1`; gaps and transmission
times lie on the grid `ℤ / d1` -/
structure WorkOK (d1 : Nat) (l : List (ℚ × Int)) : Prop where
  gap : ∀ x ∈ l, 0 ≤ x.1 ∧ flow x.2 < F ∧ 0 ≤ x.2 ∧ x.2 < N ∧ OnGrid d1 x.1 ∧ OnGrid d1 (txTime size cfg.rate x.2)
  inc : (l.map (·.2)).Pairwise (· < ·)

/-- `sum(queue_count.values())` over flows `f, …, f + n - 1` -/
def sumFrom (c : Nat → Int) : Nat → Nat → Int
  | _, 0 => 0
  | f, n + 1 => c f + sumFrom c (f + 1) n

/-- `total_packets` of a configuration -/
def A.total (a : A) : Int := sumFrom a.cnt 0 F

/-- `weight_sum` over the active classes among `c, …, c + n - 1`, ascending, added to `acc` -/
def wsum (act : Nat → Bool) : Nat → Nat → ℚ → ℚ
  | _, 0, acc => acc
  | c, n + 1, acc => if act c then wsum act (c + 1) n (acc + wOf cfg c) else wsum act (c + 1) n acc

/-- the weight sum of a configuration -/
def A.ws (a : A) : ℚ := wsum cfg a.act 0 F 0

/-- `len(active_set)` over the classes `c, …, c + n - 1` added to `acc` -/
def nAct (act : Nat → Bool) : Nat → Nat → Int → Int
  | _, 0, acc => acc
  | c, n + 1, acc => nAct act (c + 1) n (acc + (if act c then 1 else 0))

/-- the packet the server has taken from the store and not yet counted out of `queue_count` (phases `H`, `S`, `T`) -/
def RPhase.held : RPhase → Option Int
  | .H _ w _ => some w.1
  | .S _ id _ => some id
  | .T _ _ id _ => some id
  | _ => none

/-- the packet the server has taken from the store and not yet booked out of `class_count` (phases `H`, `S`, `T`, `F`) -/
def RPhase.heldC : RPhase → Option Int
  | .H _ w _ => some w.1
  | .S _ id _ => some id
  | .T _ _ id _ => some id
  | .F _ id _ => some id
  | _ => none

/-- 1 if the packet `o` belongs to flow `f` -/
def ind (o : Option Int) (f : Nat) : Int :=
  match o with
  | some id => if flow id = f then 1 else 0
  | none => 0

/-- the number of waiting packets of flow `f` -/
def nItems (l : List PutRec) (f : Nat) : Int := ((l.filter fun w => flow w.1 = f).length : Int)

def RunA (a : A) (now : ℚ) (d1 : Nat) : RPhase → Prop
  | .init q => q.time = now ∧ q.prio = URGENT ∧ a.pend = [] ∧ a.items = [] ∧ a.cur = none ∧ a.puts = []
  | .W _ => (a.items ≠ [] → a.pend ≠ []) ∧ a.cur = none
  | .H _ w q => q.time = now ∧ q.prio = NORMAL ∧ a.cur = none ∧ w ∈ a.puts ∧ w ∉ a.items ∧ a.last = now
  | .S _ id q => q.time = now ∧ q.prio = URGENT ∧ a.cur = none ∧ flow id < F ∧ (∃ w ∈ a.puts, w.1 = id) ∧
      OnGrid d1 (txTime size cfg.rate id)
  | .T _ _ id q => q.prio = NORMAL ∧ a.cur = some id ∧ flow id < F ∧ (∃ w ∈ a.puts, w.1 = id)
  | .F _ id q => q.time = now ∧ q.prio = NORMAL ∧ a.cur = none ∧ flow id < F ∧ (∃ w ∈ a.puts, w.1 = id)

def SrcA (a : A) (now : ℚ) (d1 : Nat) : SPhase → Prop
  | .init q arr => q.time = now ∧ now = 0 ∧ q.prio = URGENT ∧ WorkOK N size F flow cfg d1 arr ∧ a.puts = []
  | .wait id rest q => q.prio = NORMAL ∧ WorkOK N size F flow cfg d1 ((0, id) :: rest) ∧ OnGrid d1 q.time ∧
      ∀ w ∈ a.puts, w.1 < id
  | .ending q => q.time = now ∧ q.prio = NORMAL
  | .done => True

/-- what holds of a configuration at instant `now` -/
structure AInv (d1 L : Nat) (a : A) (now : ℚ) : Prop where
  run : RunA size F flow cfg a now d1 a.run
  src : SrcA N size F flow cfg a now d1 a.src
  pend : ∀ u ∈ a.pend, u.time = now ∧ u.prio = NORMAL
  due : ∀ x ∈ a.entries, now ≤ x.time
  /-- the waiting packets are `put`s, in `put` order -/
  sub : a.items.Sublist a.puts
  /-- ids increase and arrival instants do not decrease along the `put`s -/
  mono : a.puts.Pairwise fun x y => x.1 < y.1 ∧ x.2.1 ≤ y.2.1
  /-- every `put` so far: a configured flow, an id in `0 … N-1`, not later than now, a stamp on the grid -/
  putOK : ∀ w ∈ a.puts, flow w.1 < F ∧ 0 ≤ w.1 ∧ w.1 < N ∧ w.2.1 ≤ now ∧ OnGrid scale w.2.2 ∧
    OnGrid d1 (txTime size cfg.rate w.1)
  /-- a flow that is not a dict key yet has counters 0 and no `class_count` entry; a key has one -/
  keysOK : ∀ f, f < F → (f ∉ keysOf flow (a.puts.map (·.1)) → a.cnt f = 0 ∧ a.byt f = 0 ∧ a.cls f = none) ∧
    (f ∈ keysOf flow (a.puts.map (·.1)) → ∃ n, a.cls f = some n)
  /-- `queue_count` is exact: waiting + taken and not yet counted out -/
  cntOK : ∀ f, f < F → a.cnt f = nItems flow a.items f + ind flow a.run.held f
  /-- `class_count` is exact: waiting + taken and not yet booked out -/
  clsOK : ∀ c, c < F → (a.cls c).getD 0 = nItems flow a.items c + ind flow a.run.heldC c
  /-- `active_set` = the classes with a positive `class_count` -/
  actOK : ∀ c, c < F → (a.act c = true ↔ 0 < (a.cls c).getD 0)
  /-- `finish_times` has its keys once a packet has arrived -/
  fsetOK : a.puts ≠ [] → a.fset = true
  /-- a pending `StorePut` belongs to a `put` of this instant, which set `last_time` -/
  pendLast : a.pend ≠ [] → a.last = now
  /-- `last_time` is an instant; virtual time and finish times stay on the fine grid -/
  lastG : OnGrid d1 a.last
  lastLe : a.last ≤ now
  vtG : OnGrid scale a.vtime
  finG : ∀ c, c < F → OnGrid scale (a.fin c)
  /-- every agenda entry is due at an instant on the grid `ℤ / d1` -/
  entG : ∀ x ∈ a.entries, OnGrid d1 x.time
  cfgOK : CfgOK F cfg
  grid : 0 < d1 ∧ 0 < L ∧ scale = d1 * L ∧ ∀ k : Nat, 1 ≤ k → k ≤ wTotal F cfg → k ∣ L

/-! ## one kernel step, seen on configurations -/

/-- the source after the `put` (or at its start) at instant `now`: it sleeps on a fresh timeout (event `ev`, entry counter
`eid`) or ends (its process event 2 is triggered) -/
def srcNext (now : ℚ) (eid : Nat) (ev : EvId) : List (ℚ × Int) → SPhase
  | [] => .ending ⟨now, NORMAL, eid, 2⟩
  | (gap, id) :: rest => .wait id rest ⟨now + gap, NORMAL, eid, ev⟩

/-- `w` carries the least integer among the waiting packets: what the `PriorityStore` of `K` hands out -/
def IsLeast (l : List PutRec) (w : PutRec) : Prop := w ∈ l ∧ ∀ x ∈ l, codeOf N scale w ≤ codeOf N scale x

/-- the virtual time an arrival at `now` sees: `reset_vtime()` if `total_packets == 0`, else `update_vtime()` -/
def A.advV (a : A) (now : ℚ) : ℚ := if a.total F = 0 then 0 else a.vtime + (now - a.last) / a.ws F cfg

/-- … and the finish times -/
def A.advFin (a : A) : Nat → ℚ := if a.total F = 0 then fun _ => 0 else a.fin

/-- the record of the `put` of packet `id` at instant `now` in configuration `a` -/
def putRec (a : A) (now : ℚ) (id : Int) : PutRec :=
  (id, now, WFQ.stampOf cfg (a.advFin F (flow id)) (a.advV F cfg now) (wOf cfg (flow id)) (size id))

/-- the attributes after `put(packet id)` at `now` -/
def A.afterPut (a : A) (now : ℚ) (id : Int) : A :=
  { a with
    items := a.items ++ [putRec size F flow cfg a now id]
    cnt := upd a.cnt (flow id) (a.cnt (flow id) + 1)
    byt := upd a.byt (flow id) (a.byt (flow id) + (size id : Int))
    recv := a.recv + 1
    vtime := a.advV F cfg now
    last := now
    fset := true
    fin := upd (a.advFin F) (flow id) (putRec size F flow cfg a now id).2.2
    cls := upd a.cls (flow id) (some ((a.cls (flow id)).getD 0 + 1))
    act := upd a.act (flow id) true
    puts := a.puts ++ [putRec size F flow cfg a now id] }

/-- `active_set` after `class_count[c] -= 1; if class_count[c] == 0: active_set.remove(c)` -/
def actAfter (a : A) (c : Nat) : Nat → Bool := if (a.cls c).getD 0 - 1 = 0 then upd a.act c false else a.act

/-- the attributes after the bookkeeping of `run` for the packet `id0` that has just been transmitted, at `now` -/
def A.afterDone (a : A) (now : ℚ) (id0 : Int) : A :=
  { a with
    vtime := if nAct (actAfter a (flow id0)) 0 F 0 = 0 then 0 else a.vtime + (now - a.last) / a.ws F cfg
    fin := if nAct (actAfter a (flow id0)) 0 F 0 = 0 then fun _ => 0 else a.fin
    cls := upd a.cls (flow id0) (some ((a.cls (flow id0)).getD 0 - 1))
    act := actAfter a (flow id0)
    last := now }

/-- **one kernel step, seen on configurations**: processing the agenda entry `q` in a kernel state with `n` events and entry
counter `e` takes `a` to `a'` and appends `new` to the history -/
inductive AStep (n e : Nat) : A → QEntry ℚ → A → List (HEv ℚ) → Prop
  | runInit (a : A) (q : QEntry ℚ) (h : a.run = .init q) : AStep n e a q { a with run := .W n } [.get q.time]
  | pktResume (a : A) (q : QEntry ℚ) (g : EvId) (w : PutRec) (h : a.run = .H g w q) :
      AStep n e a q { a with run := .S n w.1 ⟨q.time, URGENT, e, n + 1⟩ } [.serve w.1 q.time]
  | sendInit (a : A) (q : QEntry ℚ) (p : EvId) (id : Int) (h : a.run = .S p id q) :
      AStep n e a q { a with run := .T p n id ⟨q.time + txTime size cfg.rate id, NORMAL, e, n⟩, cur := some id } []
  | sendFire (a : A) (q : QEntry ℚ) (p t : EvId) (id : Int) (h : a.run = .T p t id q) :
      AStep n e a q { a with run := .F p id ⟨q.time, NORMAL, e, p⟩, cnt := upd a.cnt (flow id) (a.cnt (flow id) + -1),
                             byt := upd a.byt (flow id) (a.byt (flow id) + -(size id : Int)), cur := none } [.out id q.time]
  | doneHit (a : A) (q : QEntry ℚ) (p : EvId) (id0 : Int) (w : PutRec) (h : a.run = .F p id0 q)
      (hw : IsLeast N scale a.items w) :
      AStep n e a q { a.afterDone F flow cfg q.time id0 with run := .H n w ⟨q.time, NORMAL, e, n⟩, items := a.items.erase w }
        [.done (a.afterDone F flow cfg q.time id0).vtime, .get q.time]
  | doneBlock (a : A) (q : QEntry ℚ) (p : EvId) (id0 : Int) (h : a.run = .F p id0 q) (hit : a.items = []) :
      AStep n e a q { a.afterDone F flow cfg q.time id0 with run := .W n }
        [.done (a.afterDone F flow cfg q.time id0).vtime, .get q.time]
  | srcInit (a : A) (q : QEntry ℚ) (arr : List (ℚ × Int)) (h : a.src = .init q arr) :
      AStep n e a q { a with src := srcNext q.time e n arr } []
  | srcPut (a : A) (q : QEntry ℚ) (id : Int) (arr : List (ℚ × Int)) (h : a.src = .wait id arr q) :
      AStep n e a q { a.afterPut size F flow cfg q.time id with
        src := srcNext q.time (e + 1) (n + 1) arr
        pend := a.pend ++ [⟨q.time, NORMAL, e, n⟩] }
        [.put id q.time, .vtime (a.advV F cfg q.time), .stamp (putRec size F flow cfg a q.time id).2.2]
  | srcEnd (a : A) (q : QEntry ℚ) (h : a.src = .ending q) : AStep n e a q { a with src := .done } []
  | pendNoop (a : A) (q : QEntry ℚ) (l1 l2 : List (QEntry ℚ)) (hpe : a.pend = l1 ++ q :: l2)
      (hno : ¬ (a.items ≠ [] ∧ ∃ g, a.run = .W g)) :
      AStep n e a q { a with pend := l1 ++ l2 } []
  | pendHand (a : A) (q : QEntry ℚ) (g : EvId) (w : PutRec) (l1 l2 : List (QEntry ℚ)) (hpe : a.pend = l1 ++ q :: l2)
      (h : a.run = .W g) (hw : IsLeast N scale a.items w) :
      AStep n e a q { a with pend := l1 ++ l2, run := .H g w ⟨q.time, NORMAL, e, g⟩, items := a.items.erase w } []

/-! ## the LTS state of a configuration -/

/-- the `PriorityItem` of a `put` -/
def itemW (w : PutRec) : Item ℚ := { stamp := w.2.2, arr := w.2.1, pkt := pktOf flow size w.1 }

/-- the dict with keys `keys` (in this order) and values `g` -/
def dictOf {β : Type} (keys : List Nat) (g : Nat → β) : List (Nat × β) := keys.map fun f => (f, g f)

/-- the keys of `queue_count` / `queue_byte_size` / `class_count`: the flows in the order of their first `put` -/
def A.keys (a : A) : List Nat := keysOf flow (a.puts.map (·.1))

/-- **the LTS state a configuration stands for** -/
def toM (a : A) (now : ℚ) : StState ℚ (WfqSt ℚ) :=
  { now := now
    sch := { vtime := a.vtime, lastTime := a.last,
             finish := if a.fset then cfg.weights.map fun kv => (kv.1, a.fin kv.1) else [],
             active := (List.range F).filter fun c => a.act c,
             classCount := dictOf (a.keys flow) fun c => (a.cls c).getD 0 }
    items := a.items.map (itemW size flow)
    getPending := match a.run with | .W _ => true | _ => false
    handed := match a.run with | .H _ w _ => some (itemW size flow w) | _ => none
    spawned := match a.run with | .S _ id _ => some (pktOf flow size id) | _ => none
    tx := match a.run with | .T _ _ id q => some (pktOf flow size id, q.time) | _ => none
    fin := match a.run with | .F _ id _ => some (pktOf flow size id) | _ => none
    currentPacket := a.cur.map (pktOf flow size)
    queueCount := dictOf (a.keys flow) a.cnt
    queueBytes := dictOf (a.keys flow) a.byt
    started := match a.run with | .init _ => false | _ => true }

/-- the packets a history hands to `put` / to `out.put`, as the LTS sees them -/
def putPk (h : List (HEv ℚ)) : List SPkt := h.filterMap fun | .put id _ => some (pktOf flow size id) | _ => none
def outPk (h : List (HEv ℚ)) : List SPkt := h.filterMap fun | .out id _ => some (pktOf flow size id) | _ => none

/-- number of kernel steps a configuration still needs (an upper bound) -/
def RPhase.mu : RPhase → Nat
  | .init _ => 1
  | .W _ => 0
  | .H _ _ _ => 4
  | .S _ _ _ => 3
  | .T _ _ _ _ => 2
  | .F _ _ _ => 1

def SPhase.mu : SPhase → Nat
  | .init _ arr => 6 * arr.length + 2
  | .wait _ rest _ => 6 * rest.length + 7
  | .ending _ => 1
  | .done => 0

def A.mu (a : A) : Nat := a.run.mu + a.src.mu + a.pend.length + 4 * a.items.length

/-- the configuration of the initial state -/
def a0 (arrivals : List (ℚ × Int)) : A :=
  { run := .init ⟨0, URGENT, 0, 1⟩, src := .init ⟨0, URGENT, 1, 3⟩ arrivals, pend := [], items := [], cnt := fun _ => 0,
    byt := fun _ => 0, recv := 0, cur := none, vtime := 0, last := 0, fset := false, fin := fun _ => 0,
    cls := fun _ => none, act := fun _ => false, puts := [] }

/-- the history-linked part: the `put` and `stamp` observations are the ghost `puts` -/
structure LInv (a : A) (h : List (HEv ℚ)) : Prop where
  puts : (h.filterMap fun | HEv.put id t => some (id, t) | _ => none) = a.puts.map fun w => (w.1, w.2.1)
  stamps : (h.filterMap fun | HEv.stamp x => some x | _ => none) = a.puts.map fun w => w.2.2
  recv : a.recv = a.puts.length

end WFQK
