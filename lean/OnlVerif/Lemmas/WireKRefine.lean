import OnlVerif.Lemmas.WireKLts
/-!
# The Wire on the kernel model: every reachable kernel state is the image of an admissible run of the wire's LTS
-/

set_option linter.unusedSimpArgs false

namespace WireK
open WireOnK QEntry
open TimerK (lookup dec_enc)

variable {cfg : WireCfg ℚ} {losses delays : List ℚ} {arrivals : List ℚ}
variable {s : KS} {a : A} {q : QEntry ℚ} {rest : List (QEntry ℚ)}

/-- **one kernel step**: it is `.ok`, keeps the invariant, reports the packets that left, and is a sequence of actions the
wire's LTS accepts from `toF a` to `toF a'`, whatever the ghost values -/
theorem inv_step_lts (fuel : Nat) (h : Inv cfg losses delays arrivals s a) (hp : popMin s.agenda = some (q, rest)) :
    ∃ s' a' new lf ins, step (body cfg losses delays) (fuel + 1) s = .ok s' ∧ Inv cfg losses delays arrivals s' a' ∧
      outsOf s'.trace = outsOf s.trace ++ new ∧ leftsOf s'.trace = leftsOf s.trace ++ lf ∧
      List.range a'.cts.length = List.range a.cts.length ++ ins ∧
      ∀ gh, ∃ gh' acts, Fifo.runActs (Wire.dev cfg) (toF a s.now gh) acts = .ok (toF a' s'.now gh', ins, lf.map Int.toNat) := by
  obtain ⟨s', a', new, lf, h1, h2, h3, h4, h5, h6⟩ := kstep fuel h.k h.a hp
  have hmin := (min_of_pop h.k.ag hp).1
  obtain ⟨g1, -⟩ := astep_sound h.a hmin h3
  obtain ⟨ins, g3, g4⟩ := lts_step (h.a.advance hmin) hmin h3
  refine ⟨s', a', new, lf, ins, h1, ⟨h2, by rw [h4, h5]; exact g1⟩, h5, h6, g4, ?_⟩
  intro gh
  obtain ⟨acts0, h0⟩ := lts_advance h.a hmin gh
  obtain ⟨gh', acts, h7⟩ := g3 gh
  refine ⟨gh', acts0 ++ acts, ?_⟩
  rw [h4]
  have := Fifo.runActs_append _ _ _ _ _ _ _ _ _ _ h0 h7
  simpa using this

/-- **every state reachable by kernel steps is a sound configuration, and the run so far is an admissible run of the
wire's LTS** from its initial state to the configuration's LTS state (with some ghost values), in which the packets that
entered are `0 … packets_rec - 1` and the packets that left are those the trace reports, in order -/
theorem reach_inv (fuel : Nat) (hg : GapsOK arrivals) {s : KS}
    (h : KReach (body cfg losses delays) (fuel + 1) (initState arrivals) s) :
    ∃ a acts gh, Inv cfg losses delays arrivals s a ∧
      Fifo.runActs (Wire.dev cfg) (Fifo.init (Wire.st0 0) 0) acts =
        .ok (toF a s.now gh, List.range a.cts.length, (leftsOf s.trace).map Int.toNat) := by
  obtain ⟨⟨a, acts, gh⟩, h⟩ := KReach.of_step (x0 := (a0 arrivals, [], Wire.st0 0))
    (I := fun s (x : A × List (FAct ℚ) × WireSt ℚ) => Inv cfg losses delays arrivals s x.1 ∧
      Fifo.runActs (Wire.dev cfg) (Fifo.init (Wire.st0 0) 0) x.2.1 =
        .ok (toF x.1 s.now x.2.2, List.range x.1.cts.length, (leftsOf s.trace).map Int.toNat))
    ⟨inv_init arrivals hg, rfl⟩
    (fun s x q rest hi hp => by
      obtain ⟨s', a', new, lf, ins, h1, h2, -, h4, h5, h6⟩ := inv_step_lts fuel hi.1 hp
      obtain ⟨gh', acts', h7⟩ := h6 x.2.2
      refine ⟨s', (a', x.2.1 ++ acts', gh'), h1, h2, ?_⟩
      rw [Fifo.runActs_append _ _ _ _ _ _ _ _ _ _ hi.2 h7, h5, h4]
      simp) h
  exact ⟨a, acts, gh, h⟩

theorem cellVal_eq (k : Nat) : cellVal s k = lookup s.shared k := rfl

theorem recCell_eq (hk : KInv s a) : recCell s = a.cts.length := by
  unfold recCell
  rw [cellVal_eq, show cRec = 0 from rfl, hk.c0]
  exact Int.toNat_natCast _

/-- **the abstraction function reads the configuration's LTS state off the kernel state** (up to the ghost fields) -/
theorem absWire_eq (h : Inv cfg losses delays arrivals s a) (gh : WireSt ℚ) : setGhost (absWire s) gh = toF a s.now gh := by
  have hk := h.k
  have hrec := recCell_eq hk
  have hct : ∀ id : Int, id.toNat < a.cts.length → ctCell s id = a.ctOf id := by
    intro id hid
    unfold ctCell
    rw [cellVal_eq, show cPkt id = 10 + id.toNat from rfl, hk.ct _ hid, dec_enc]
    rfl
  have hitems : ((s.res storeId).items.map fun i => pktOf (ctCell s i) i) = a.items.map a.pkt := by
    have : (s.res storeId).items = a.items := by show (s.res 0).items = a.items; rw [hk.res]; rfl
    rw [this]
    apply List.map_congr_left
    intro i hi
    unfold A.pkt
    rw [hct i (h.a.its i hi).2.1]
  have hpk := hk.wire
  have hpa := h.a.wire
  unfold absWire setGhost toF
  cases hwire : a.wire with
  | init q0 =>
    rw [hwire] at hpk
    simp [wireProc, hpk.2.2, hrec, hitems]
  | W g t0 nl nd =>
    rw [hwire] at hpk
    simp [wireProc, hpk.2, hpk.1.2.2, hrec, hitems]
  | H g id q0 t0 nl nd =>
    rw [hwire] at hpk hpa
    simp [wireProc, hpk.2.2, hpk.2.1.2.2, hrec, hitems, A.pkt, hct id hpa.2.2.2.2]
  | T t id q0 nl nd =>
    rw [hwire] at hpk hpa
    simp [wireProc, hpk.2.2, hrec, hitems, A.pkt, hct id hpa.2.2]

end WireK
