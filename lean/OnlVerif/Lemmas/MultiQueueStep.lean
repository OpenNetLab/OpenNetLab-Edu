import OnlVerif.Lemmas.MultiQueueInv
/-!
# MultiQueueServer: every accepted step keeps `Inv` and conserves each class's packets as a list
-/

namespace MQ
variable {κ : Type}

def enteredC (sc : Sched ℚ κ) (a : MAct ℚ) (c : Nat) : List MPkt :=
  match a with
  | .put p => if sc.classOf p.flow = some c then [p] else []
  | _ => []

def leftC (sc : Sched ℚ κ) (o : MOut ℚ) (c : Nat) : List MPkt :=
  match o with
  | .depart p => if sc.classOf p.flow = some c then [p] else []
  | _ => []

theorem inv_running (sc : Sched ℚ κ) (s : MQState ℚ κ) (k : κ) (h : Inv sc s) (hh : inHand s = [])
    (hc : s.currentPacket = none) :
    Inv sc { s with phase := Phase.running, ctl := k } ∧
    ∀ c, heldC sc { s with phase := Phase.running, ctl := k } c = heldC sc s c := by
  exact h.frame hh.symm (fun c p hp => nomatch hp) (fun h1 => nomatch h1) (fun p d h1 => nomatch h1)
    (fun p h1 => (by rw [hc] at h1; cases h1))

theorem inv_resumeLoop (sc : Sched ℚ κ) (L : Lawful sc) (s s' : MQState ℚ κ) (h : Inv sc s) (hh : inHand s = [])
    (hc : s.currentPacket = none) (hr : resumeLoop sc s = .ok s') :
    Inv sc s' ∧ ∀ c, heldC sc s' c = heldC sc s c := by
  have h1 := inv_running sc s s.ctl h hh hc
  have h2 := settles_inv sc L _ s' (resumeLoop_settles sc s s' hr) rfl h1.1
  exact ⟨h2.1, fun c => by rw [h2.2 c, h1.2 c]⟩

theorem inv_put (sc : Sched ℚ κ) (s : MQState ℚ κ) (p : MPkt) (c : Nat) (k : κ) (h : Inv sc s)
    (hc : sc.classOf p.flow = some c) :
    Inv sc (enqueue (countIn (postToken { s with ctl := k }) p) c p) ∧
    ∀ c', heldC sc (enqueue (countIn (postToken { s with ctl := k }) p) c p) c' =
      heldC sc s c' ++ (if sc.classOf p.flow = some c' then [p] else []) := by
  obtain ⟨n, hn, e⟩ := put_eq ({ s with ctl := k } : MQState ℚ κ) p c
  have hW : ∀ w, W w (enqueue (countIn (postToken ({ s with ctl := k } : MQState ℚ κ)) p) c p) = W w s + w p := by
    intro w
    have := W_stores_set w s.stores c (storeOf s.stores c ++ [p])
    rw [e]
    simp only [W, inHand, wsum_append, wsum_cons, wsum_nil] at this ⊢
    omega
  refine ⟨⟨?_, e ▸ h.holClass, e ▸ h.handClass, ?_, ?_, ?_, ?_, e ▸ h.curTx, e ▸ h.curOnly, e ▸ h.holNone⟩, ?_⟩
  · rw [e]
    intro c' q hq
    simp only [storeOf_setKey] at hq
    split at hq
    · rename_i hcc; subst hcc
      rcases List.mem_append.mp hq with h1 | h1
      · exact h.storeClass c' q h1
      · simp only [List.mem_singleton] at h1; subst h1; exact hc
    · exact h.storeClass c' q hq
  · intro f
    rw [hW, e]
    show cnt (bump s.queueCount p.flow 1) f = _
    rw [cnt_bump', h.count f]
    rfl
  · intro f
    rw [hW, e]
    show cnt (bump s.queueBytes p.flow p.size) f = _
    rw [cnt_bump', h.bytes f]
    rfl
  · rw [hW, e]
    simp only [total_bump, h.tot]
  · rw [e]
    intro h1 h2
    exact absurd (h.wake h1 (hn h2).1) (hn h2).2
  · rw [e]
    intro c'
    simp only [heldC, inHand, storeOf_setKey, hc]
    by_cases hcc : c' = c
    · subst hcc; simp
    · have : (some c = some c') = False := by simp [Ne.symm hcc]
      simp [hcc, this]

/-- the loop parks the packet it was handed -/
theorem inv_park_fresh (sc : Sched ℚ κ) (s s2 : MQState ℚ κ) (c : Nat) (p : MPkt) (k : κ) (h : Inv sc s)
    (hp : s.phase = .pktHanded c p) (v : View) (hd : sc.onPkt s.ctl v c p = .park k)
    (hpk : park { ({ s with phase := Phase.running } : MQState ℚ κ) with ctl := k } c p = .ok s2) :
    Inv sc s2 ∧ (∀ c', heldC sc s2 c' = heldC sc s c') ∧ s2.phase = .running ∧ s2.currentPacket = none := by
  have hcur : s.currentPacket = none :=
    cur_none_of sc s h (by simp [inHand, hp])
  have hpc := h.handClass c p hp
  unfold park at hpk
  split at hpk
  · cases hpk
  · rename_i hn
    cases hpk
    have hn' : lookupD s.hol c none = none := hn
    have hW : ∀ w, W w ({ s with phase := Phase.running, ctl := k, hol := setKey s.hol c (some p) } : MQState ℚ κ) = W w s := by
      intro w
      have := W_hol_set w s.hol c (some p)
      rw [hn'] at this
      simp only [W, inHand, hp, wsum_cons, wsum_nil, wOpt_some, wOpt_none] at this ⊢
      omega
    refine ⟨⟨h.storeClass, ?_, ?_, ?_, ?_, ?_, ?_, ?_, ?_, fun hn => absurd hd (hn _ _ _ _ _)⟩, ?_, rfl, hcur⟩
    · intro c' q hq
      simp only [lookupD_setKey] at hq
      split at hq
      · rename_i hcc; subst hcc; cases hq; exact hpc
      · exact h.holClass c' q hq
    · intro c' q hq; cases hq
    · intro f; exact (hW (one f)).symm ▸ h.count f
    · intro f; exact (hW (bytesOf f)).symm ▸ h.bytes f
    · exact (hW (fun _ => 1)).symm ▸ h.tot
    · intro h1; cases h1
    · intro q d h1; cases h1
    · intro q h1
      have : s.currentPacket = some q := h1
      rw [hcur] at this; cases this
    · intro c'
      simp only [heldC, inHand, hp, lookupD_setKey, List.filter_cons, List.filter_nil, hpc]
      by_cases hcc : c' = c
      · subst hcc; simp [hn']
      · have : (some c = some c') = False := by simp [Ne.symm hcc]
        simp [hcc, this]

theorem step_inv (sc : Sched ℚ κ) (L : Lawful sc) (s s' : MQState ℚ κ) (a : MAct ℚ) (o : MOut ℚ)
    (h : Inv sc s) (hs : step sc s a = .ok (s', o)) :
    Inv sc s' ∧ ∀ c, heldC sc s c ++ enteredC sc a c = leftC sc o c ++ heldC sc s' c := by
  -- a step with which nothing enters or leaves
  have quiet : ∀ {a : MAct ℚ} {o : MOut ℚ} {t : MQState ℚ κ}, (∀ c, enteredC sc a c = []) → (∀ c, leftC sc o c = []) →
      (Inv sc t ∧ ∀ c, heldC sc t c = heldC sc s c) →
      Inv sc t ∧ ∀ c, heldC sc s c ++ enteredC sc a c = leftC sc o c ++ heldC sc t c :=
    fun ha ho h => ⟨h.1, fun c => by rw [ha, ho, h.2 c, List.append_nil, List.nil_append]⟩
  cases step_trans sc s s' a o hs with
  | init _ hp hr | wake _ hp hr =>
    exact quiet (fun _ => rfl) (fun _ => rfl)
      (inv_resumeLoop sc L s s' h (by simp [inHand, hp]) (cur_none_of sc s h (by simp [inHand, hp])) hr)
  | put p c k hc hk =>
    have := inv_put sc s p c k h hc
    exact ⟨this.1, fun c' => by simp only [enteredC, leftC, this.2 c', List.nil_append]⟩
  | tokenHandoff n hp htk =>
    exact quiet (fun _ => rfl) (fun _ => rfl) (h.frame (by simp [inHand, hp])
      (fun c q hq => nomatch hq) (fun h1 => nomatch h1) (fun q d h1 => nomatch h1)
      (fun q h1 => (by rcases h.curOnly q h1 with h2 | ⟨d, h2⟩ <;> rw [hp] at h2 <;> cases h2)))
  | resumeSend c p e k hp hd =>
    have hcur : s.currentPacket = none := cur_none_of sc s h (by simp [inHand, hp])
    exact quiet (fun _ => rfl) (fun _ => rfl) (h.frame (by simp [inHand, hp, spawn])
      (fun c q hq => nomatch hq) (fun h1 => nomatch h1) (fun q d h1 => nomatch h1)
      (fun q h1 => by
        simp only [spawn, hcur] at h1
        split at h1 <;> cases h1
        exact .inl rfl))
  | resumePark c p k s2 _ hp hd hpk hr =>
    have h1 := inv_park_fresh sc s s2 c p k h hp _ hd hpk
    have h2 := inv_resumeLoop sc L s2 s' h1.1 (by simp [inHand, h1.2.2.1]) h1.2.2.2 hr
    exact quiet (fun _ => rfl) (fun _ => rfl) ⟨h2.1, fun c' => (h2.2 c').trans (h1.2.1 c')⟩
  | sendInit p hp =>
    exact quiet (fun _ => rfl) (fun _ => rfl) (h.frame (by simp [inHand, hp])
      (fun c q hq => nomatch hq) (fun h1 => nomatch h1) (fun q d h1 => (by cases h1; rfl))
      (fun q h1 => (by cases h1; exact .inr ⟨_, rfl⟩)))
  | sendFire p due hp hnow =>
    have hW : ∀ w, W w ({ countOut s p with currentPacket := none, phase := Phase.finished p } : MQState ℚ κ) + w p = W w s := by
      intro w; simp only [W, inHand, hp, countOut, wsum_cons, wsum_nil]; omega
    refine ⟨⟨h.storeClass, h.holClass, ?_, ?_, ?_, ?_, ?_, ?_, ?_, h.holNone⟩, ?_⟩
    · intro c' q hq; cases hq
    · intro f
      show cnt (bump s.queueCount p.flow (-1)) f = _
      rw [cnt_bump', h.count f, ← hW (one f)]
      simp only [one]
      split <;> omega
    · intro f
      show cnt (bump s.queueBytes p.flow (-(p.size : Int))) f = _
      rw [cnt_bump', h.bytes f, ← hW (bytesOf f)]
      simp only [bytesOf]
      split <;> omega
    · have := hW (fun _ => 1)
      show total (bump s.queueCount p.flow (-1)) = _
      rw [total_bump, h.tot]; omega
    · intro h1; cases h1
    · intro q d h1; cases h1
    · intro q h1; cases h1
    · intro c'
      simp only [enteredC, leftC, heldC, inHand, hp, countOut, List.filter_cons, List.filter_nil, List.append_nil]
      by_cases hc : sc.classOf p.flow = some c' <;> simp [hc]
  | sendDone p k _ hp hk hr =>
    have h0 := (h.frame (s' := { s with ctl := k }) rfl (fun _ _ h => h) h.wake h.curTx h.curOnly).1
    exact quiet (fun _ => rfl) (fun _ => rfl) (inv_resumeLoop sc L { s with ctl := k } s' h0 (by simp [inHand, hp])
      (cur_none_of sc s h (by simp [inHand, hp])) hr)
  | tickIdle t _ _ _ | tickBusy t _ _ _ _ _ =>
    exact quiet (fun _ => rfl) (fun _ => rfl) (h.frame rfl (fun _ _ h => h) h.wake h.curTx h.curOnly)
  | sample inc => exact quiet (fun _ => rfl) (fun _ => rfl) ⟨h, fun _ => rfl⟩

/-- run an action sequence; the result collects the accepted packets and the departures, in order -/
def runActs (sc : Sched ℚ κ) : MQState ℚ κ → List (MAct ℚ) → Except String (MQState ℚ κ × List MPkt × List MPkt)
  | s, [] => .ok (s, [], [])
  | s, a :: as =>
    match step sc s a with
    | .error m => .error m
    | .ok (s1, o) =>
      match runActs sc s1 as with
      | .error m => .error m
      | .ok (s2, ins, outs) =>
        .ok (s2, (match a with | .put p => [p] | _ => []) ++ ins, (match o with | .depart p => [p] | _ => []) ++ outs)

theorem runActs_cons_ok {sc : Sched ℚ κ} {a : MAct ℚ} {as : List (MAct ℚ)} {s s' : MQState ℚ κ} {ins outs : List MPkt}
    (h : runActs sc s (a :: as) = .ok (s', ins, outs)) :
    ∃ s1 o ins2 outs2, step sc s a = .ok (s1, o) ∧ runActs sc s1 as = .ok (s', ins2, outs2) ∧
      ins = (match (generalizing := false) a with | .put p => [p] | _ => []) ++ ins2 ∧
      outs = (match (generalizing := false) o with | .depart p => [p] | _ => []) ++ outs2 := by
  simp only [runActs] at h
  split at h
  · cases h
  · rename_i s1 o h1
    split at h
    · cases h
    · rename_i s2 ins2 outs2 h2
      cases h
      exact ⟨s1, o, ins2, outs2, h1, h2, rfl, rfl⟩

def ofClass (sc : Sched ℚ κ) (c : Nat) (l : List MPkt) : List MPkt := l.filter (fun p => decide (sc.classOf p.flow = some c))

theorem ofClass_append (sc : Sched ℚ κ) (c : Nat) (l1 l2 : List MPkt) :
    ofClass sc c (l1 ++ l2) = ofClass sc c l1 ++ ofClass sc c l2 := by simp [ofClass]

theorem enteredC_eq (sc : Sched ℚ κ) (a : MAct ℚ) (c : Nat) :
    enteredC sc a c = ofClass sc c (match a with | .put p => [p] | _ => []) := by
  cases a <;> simp [enteredC, ofClass, List.filter_cons]

theorem leftC_eq (sc : Sched ℚ κ) (o : MOut ℚ) (c : Nat) :
    leftC sc o c = ofClass sc c (match o with | .depart p => [p] | _ => []) := by
  cases o <;> simp [leftC, ofClass, List.filter_cons]

/-- **conservation and order over whole runs, per class** -/
theorem run_inv (sc : Sched ℚ κ) (L : Lawful sc) (as : List (MAct ℚ)) (s s' : MQState ℚ κ) (ins outs : List MPkt)
    (h : Inv sc s) (hr : runActs sc s as = .ok (s', ins, outs)) :
    Inv sc s' ∧ ∀ c, heldC sc s c ++ ofClass sc c ins = ofClass sc c outs ++ heldC sc s' c := by
  induction as generalizing s ins outs with
  | nil =>
    simp only [runActs, Except.ok.injEq, Prod.mk.injEq] at hr
    obtain ⟨rfl, rfl, rfl⟩ := hr
    exact ⟨h, fun c => by simp [ofClass]⟩
  | cons a as ih =>
    obtain ⟨s1, o, ins2, outs2, h1, h2, rfl, rfl⟩ := runActs_cons_ok hr
    have c1 := step_inv sc L s s1 a o h h1
    have c2 := ih s1 ins2 outs2 c1.1 h2
    refine ⟨c2.1, fun c => ?_⟩
    have e1 := c1.2 c
    rw [enteredC_eq, leftC_eq] at e1
    rw [ofClass_append, ofClass_append, ← List.append_assoc, e1, List.append_assoc, c2.2 c, List.append_assoc]

theorem cnt_zeros (counts : List (Nat × Int)) (hz : ∀ e ∈ counts, e.2 = 0) (f : Nat) : cnt counts f = 0 := by
  induction counts with
  | nil => rfl
  | cons a r ih =>
    obtain ⟨k1, v1⟩ := a
    have hv : v1 = 0 := hz (k1, v1) (by simp)
    have ih' := ih (fun e he => hz e (List.mem_cons_of_mem _ he))
    simp only [cnt, lookup] at ih' ⊢
    split
    · simp [hv]
    · exact ih'

theorem total_zeros (counts : List (Nat × Int)) (hz : ∀ e ∈ counts, e.2 = 0) : total counts = 0 := by
  induction counts with
  | nil => rfl
  | cons a r ih =>
    obtain ⟨k1, v1⟩ := a
    have hv : v1 = 0 := hz (k1, v1) (by simp)
    simp [total, hv, ih (fun e he => hz e (List.mem_cons_of_mem _ he))]

theorem init_inv (sc : Sched ℚ κ) (k : κ) (t0 : ℚ) (counts : List (Nat × Int)) (hz : ∀ e ∈ counts, e.2 = 0) :
    Inv sc (MQ.init k t0 counts) ∧ ∀ c, heldC sc (MQ.init k t0 counts) c = [] := by
  have hcnt := cnt_zeros counts hz
  have htot := total_zeros counts hz
  refine ⟨⟨?_, ?_, ?_, ?_, ?_, ?_, ?_, ?_, ?_, fun _ c => by simp [MQ.init, lookupD, lookup]⟩, ?_⟩
  · intro c p hp; simp [MQ.init, storeOf, lookupD, lookup] at hp
  · intro c p hp; simp [MQ.init, lookupD, lookup] at hp
  · intro c p hp; cases hp
  · intro f; simp [MQ.init, W, inHand, wsumMap, hcnt]
  · intro f; simp [MQ.init, W, inHand, wsumMap, cnt, lookup]
  · simp [MQ.init, W, inHand, wsumMap, htot]
  · intro h1; cases h1
  · intro p d h1; cases h1
  · intro p h1; cases h1
  · intro c; simp [MQ.init, heldC, inHand, storeOf, lookupD, lookup]

end MQ
