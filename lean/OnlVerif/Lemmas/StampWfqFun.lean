import Mathlib.Tactic.Ring
import OnlVerif.Lemmas.StampInv
import OnlVerif.Net.Sched.WFQ
/-!
# The functions of the WFQ model, characterised

`put_spec`, `done_spec` decompose an accepted `WFQ.put` / `WFQ.done` into its literal Python steps;
`put_ok`, `done_ok` show that they do not raise once every lookup hits.
-/

namespace WFQ
open Stamp

def wOf (w : List (Nat × ℚ)) (k : Nat) : ℚ := (lookup w k).getD 0

def wSum (w : List (Nat × ℚ)) (l : List Nat) : ℚ := (l.map (wOf w)).sum

theorem weightSum_eq_ok (w : List (Nat × ℚ)) (l : List Nat) (acc x : ℚ) :
    weightSum w l acc = .ok x ↔ (∀ k ∈ l, (lookup w k).isSome) ∧ x = acc + wSum w l := by
  induction l generalizing acc with
  | nil =>
    simp only [weightSum, Except.ok.injEq, wSum, List.map_nil, List.sum_nil, add_zero, List.not_mem_nil,
      false_imp_iff, implies_true, true_and]
    exact eq_comm
  | cons k ks ih =>
    simp only [weightSum, List.forall_mem_cons]
    cases hv : lookup w k with
    | none => simp
    | some v => simp only [ih, Option.isSome_some, true_and, wSum, List.map_cons, List.sum_cons, wOf, hv,
        Option.getD_some, add_assoc]

theorem wSum_pos (w : List (Nat × ℚ)) (l : List Nat) (hl : l ≠ []) (h : ∀ k ∈ l, 0 < wOf w k) : 0 < wSum w l := by
  induction l with
  | nil => exact absurd rfl hl
  | cons k ks ih =>
    simp only [wSum, List.map_cons, List.sum_cons]
    have h1 := h k (by simp)
    by_cases hks : ks = []
    · subst hks; simpa using h1
    · have := ih hks (fun k' hk' => h k' (List.mem_cons_of_mem _ hk'))
      simp only [wSum] at this
      linarith

theorem lookup_zeroFinish (fin w : List (Nat × ℚ)) (k : Nat) :
    lookup (zeroFinish fin w) k = if (lookup w k).isSome then some 0 else lookup fin k := by
  induction w generalizing fin with
  | nil => simp [zeroFinish, lookup]
  | cons x r ih =>
    obtain ⟨a, b⟩ := x
    simp only [zeroFinish, ih, lookup_setKey, lookup, zero_eq_q]
    by_cases h1 : a = k
    · subst h1; simp
    · have : ¬ k = a := fun h => h1 h.symm
      simp [h1, this]

theorem mem_insertAsc (c : Nat) (l : List Nat) (x : Nat) : x ∈ insertAsc c l ↔ x = c ∨ x ∈ l := by
  induction l with
  | nil => simp [insertAsc]
  | cons y ys ih =>
    simp only [insertAsc]
    split
    · simp
    · split
      · rename_i h; subst h; simp
      · simp only [List.mem_cons, ih]
        exact or_left_comm

theorem insertAsc_ne_nil (c : Nat) (l : List Nat) : insertAsc c l ≠ [] :=
  List.ne_nil_of_mem ((mem_insertAsc c l c).mpr (Or.inl rfl))

theorem sorted_insertAsc (c : Nat) (l : List Nat) (h : l.Pairwise (· < ·)) : (insertAsc c l).Pairwise (· < ·) := by
  induction l with
  | nil => simp [insertAsc]
  | cons y ys ih =>
    simp only [insertAsc]
    have hy := List.pairwise_cons.mp h
    split
    · rename_i hc
      refine List.pairwise_cons.mpr ⟨?_, h⟩
      intro z hz
      rcases List.mem_cons.mp hz with rfl | hz
      · exact hc
      · exact lt_trans hc (hy.1 z hz)
    · split
      · exact h
      · rename_i h1 h2
        refine List.pairwise_cons.mpr ⟨?_, ih hy.2⟩
        intro z hz
        rcases (mem_insertAsc c ys z).mp hz with rfl | hz
        · omega
        · exact hy.1 z hz

theorem updateVtime_spec (c : WfqCfg ℚ) (st st1 : WfqSt ℚ) (now : ℚ) (h : updateVtime c st now = .ok st1) :
    (∀ k ∈ st.active, (lookup c.weights k).isSome) ∧ wSum c.weights st.active ≠ 0 ∧
      st1 = { st with vtime := st.vtime + (now - st.lastTime) / wSum c.weights st.active } := by
  unfold updateVtime at h
  split at h
  · cases h
  · rename_i ws hws
    obtain ⟨h2, h1⟩ := (weightSum_eq_ok _ _ _ _).mp hws
    rw [zero_eq_q, zero_add] at h1
    subst h1
    split at h
    · cases h
    · rename_i hz
      rw [zero_eq_q, Num.eqb_iff] at hz
      exact ⟨h2, hz, (Except.ok.inj h).symm⟩

theorem advance_spec (c : WfqCfg ℚ) (st st1 : WfqSt ℚ) (now : ℚ) (total : Int) (h : advance c st now total = .ok st1) :
    (total = 0 ∧ st1 = resetVtime c st) ∨
    (total ≠ 0 ∧ (∀ k ∈ st.active, (lookup c.weights k).isSome) ∧ wSum c.weights st.active ≠ 0 ∧
      st1 = { st with vtime := st.vtime + (now - st.lastTime) / wSum c.weights st.active }) := by
  unfold advance at h
  split at h
  · next he => exact .inl ⟨he, (Except.ok.inj h).symm⟩
  · next he => exact .inr ⟨he, updateVtime_spec c _ _ _ h⟩

theorem updateVtime_ok (c : WfqCfg ℚ) (st : WfqSt ℚ) (now : ℚ) (h1 : ∀ k ∈ st.active, (lookup c.weights k).isSome)
    (h2 : wSum c.weights st.active ≠ 0) :
    updateVtime c st now = .ok { st with vtime := st.vtime + (now - st.lastTime) / wSum c.weights st.active } := by
  unfold updateVtime
  rw [(weightSum_eq_ok _ _ _ _).mpr ⟨h1, rfl⟩, zero_eq_q, zero_add]
  simp only
  have : ¬ Num.eqb (wSum c.weights st.active) (0 : ℚ) = true := by
    rw [Num.eqb_iff]; exact h2
  rw [if_neg this]

theorem stampOf_eq (c : WfqCfg ℚ) (f v w : ℚ) (size : Nat) :
    stampOf c f v w size = max f v + 8 * (size : ℚ) / (c.rate * w) := by
  unfold stampOf
  rw [Num.pymax_eq]
  show max f v + ((size * 8 : ℕ) : ℚ) / (c.rate * w) = _
  push_cast
  ring

theorem put_spec (c : WfqCfg ℚ) (st st' : WfqSt ℚ) (now : ℚ) (total : Int) (F : ℚ) (p : SPkt)
    (h : put c st now total p = .ok (st', F)) :
    ∃ k st1 f w, lookup c.flow2class p.flow = some k ∧ advance c st now total = .ok st1 ∧ lookup st1.finish k = some f ∧
      lookup c.weights k = some w ∧ c.rate * w ≠ 0 ∧ F = stampOf c f st1.vtime w p.size ∧ st' = commit st1 k F now := by
  unfold put at h
  split at h
  · cases h
  · rename_i k hk
    split at h
    · cases h
    · rename_i st1 ha
      unfold stampPut at h
      split at h
      · cases h
      · rename_i f hf
        split at h
        · cases h
        · rename_i w hw
          split at h
          · cases h
          · rename_i hz
            cases h
            rw [zero_eq_q, Num.eqb_iff] at hz
            exact ⟨k, st1, f, w, hk, ha, hf, hw, hz, rfl, rfl⟩

theorem put_ok (c : WfqCfg ℚ) (st st1 : WfqSt ℚ) (now : ℚ) (total : Int) (p : SPkt) (k : Nat) (f w : ℚ)
    (hk : lookup c.flow2class p.flow = some k) (ha : advance c st now total = .ok st1) (hf : lookup st1.finish k = some f)
    (hw : lookup c.weights k = some w) (hz : c.rate * w ≠ 0) :
    put c st now total p = .ok (commit st1 k (stampOf c f st1.vtime w p.size) now, stampOf c f st1.vtime w p.size) := by
  unfold put
  simp only [hk, ha]
  unfold stampPut
  simp only [hf, hw]
  have : ¬ Num.eqb (c.rate * w) (Num.zero : ℚ) = true := by
    rw [zero_eq_q, Num.eqb_iff]; exact hz
  rw [if_neg this]

theorem leave_spec (st st2 : WfqSt ℚ) (k : Nat) (h : leave st k = .ok st2) :
    ∃ n, lookup st.classCount k = some n ∧
      ((n - 1 = 0 ∧ k ∈ st.active ∧
          st2 = { st with classCount := setKey st.classCount k (n - 1), active := st.active.filter (· ≠ k) }) ∨
       (n - 1 ≠ 0 ∧ st2 = { st with classCount := setKey st.classCount k (n - 1) })) := by
  unfold leave at h
  split at h
  · cases h
  · rename_i n hn
    refine ⟨n, hn, ?_⟩
    split at h
    · rename_i h0
      split at h
      · rename_i hc
        simp only [Except.ok.injEq] at h
        exact Or.inl ⟨h0, by simpa using hc, h.symm⟩
      · cases h
    · rename_i h0
      simp only [Except.ok.injEq] at h
      exact Or.inr ⟨h0, h.symm⟩

theorem leave_ok (st : WfqSt ℚ) (k : Nat) (n : Int) (hn : lookup st.classCount k = some n)
    (hm : n - 1 = 0 → k ∈ st.active) : ∃ st2, leave st k = .ok st2 := by
  unfold leave
  simp only [hn]
  by_cases h0 : n - 1 = 0
  · rw [if_pos h0]
    have : st.active.contains k = true := by simpa using hm h0
    rw [if_pos this]
    exact ⟨_, rfl⟩
  · rw [if_neg h0]
    exact ⟨_, rfl⟩

theorem settle_active (c : WfqCfg ℚ) (st : WfqSt ℚ) (now : ℚ) : (settle c st now).active = st.active := by
  unfold settle; split <;> rfl

theorem settle_classCount (c : WfqCfg ℚ) (st : WfqSt ℚ) (now : ℚ) : (settle c st now).classCount = st.classCount := by
  unfold settle; split <;> rfl

theorem done_spec (c : WfqCfg ℚ) (st st' : WfqSt ℚ) (now : ℚ) (p : SPkt) (h : done c st now p = .ok st') :
    ∃ k n, lookup c.flow2class p.flow = some k ∧ lookup st.classCount k = some n ∧
      st'.classCount = setKey st.classCount k (n - 1) ∧
      st'.active = (if n - 1 = 0 then st.active.filter (· ≠ k) else st.active) ∧ st'.lastTime = now ∧
      (st'.active = [] → st'.vtime = 0 ∧ st'.finish = zeroFinish st.finish c.weights) ∧
      (st'.active ≠ [] →
        st'.vtime = st.vtime + (now - st.lastTime) / wSum c.weights st.active ∧ st'.finish = st.finish) := by
  unfold done at h
  split at h
  · cases h
  · rename_i st1 h1
    split at h
    · cases h
    · rename_i k hk
      split at h
      · cases h
      · rename_i st2 h2
        cases h
        obtain ⟨_, _, rfl⟩ := updateVtime_spec c _ _ _ h1
        obtain ⟨n, hn, hcase⟩ := leave_spec _ _ _ h2
        have h3 : st2.classCount = setKey st.classCount k (n - 1) ∧
            st2.active = (if n - 1 = 0 then st.active.filter (· ≠ k) else st.active) ∧ st2.finish = st.finish ∧
            st2.vtime = st.vtime + (now - st.lastTime) / wSum c.weights st.active := by
          rcases hcase with ⟨h0, _, rfl⟩ | ⟨h0, rfl⟩
          · exact ⟨rfl, (if_pos h0).symm, rfl, rfl⟩
          · exact ⟨rfl, (if_neg h0).symm, rfl, rfl⟩
        refine ⟨k, n, hk, hn, by rw [settle_classCount, h3.1], by rw [settle_active, h3.2.1], ?_, ?_, ?_⟩
        · unfold settle; split <;> rfl
        · intro hnil
          rw [settle_active] at hnil
          simp only [settle, hnil, List.isEmpty_nil, if_true, resetVtime, zero_eq_q, h3.2.2.1, and_self]
        · intro hne
          rw [settle_active] at hne
          simp only [settle, List.isEmpty_iff, hne, if_false, h3.2.2.1, h3.2.2.2, and_self]

theorem done_ok (c : WfqCfg ℚ) (st st1 st2 : WfqSt ℚ) (now : ℚ) (p : SPkt) (k : Nat)
    (h1 : updateVtime c st now = .ok st1) (hk : lookup c.flow2class p.flow = some k) (h2 : leave st1 k = .ok st2) :
    done c st now p = .ok (settle c st2 now) := by
  unfold done
  simp only [h1, hk, h2]

end WFQ
