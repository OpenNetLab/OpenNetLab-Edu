import OnlVerif.Lemmas.SplitSent
import OnlVerif.Lemmas.Agenda
/-!
# Popping from an agenda that carries the sentinel entry (C03, stage 3)

The agenda of the model is a list, newest entry first: its `eid`s are strictly decreasing (`SortedAg`).  The sentinel entry
sits between the entries pushed after it and those pushed before it.  Renaming the `eid`s of the later ones by `+1`
preserves the key order, so `popMin` pops from the split agenda the entry it pops from the uninterrupted agenda — unless
the sentinel's key `(t, URGENT, eid0)` is smaller, in which case it pops the sentinel and leaves the rest.
-/

variable {σ : Type}

open QEntry

/-- newest first: `eid`s strictly decreasing along the agenda, all below the counter -/
structure SortedAg (s : KState ℚ σ) : Prop where
  sorted : s.agenda.Pairwise (fun a b => b.eid < a.eid)
  below : ∀ x ∈ s.agenda, x.eid < s.eid

theorem SortedAg.push {s s' : KState ℚ σ} (h : SortedAg s) (q : QEntry ℚ) (hq : q.eid = s.eid)
    (ha : s'.agenda = q :: s.agenda) (he : s'.eid = s.eid + 1) : SortedAg s' := by
  refine ⟨?_, ?_⟩
  · rw [ha]
    exact List.pairwise_cons.mpr ⟨fun x hx => hq ▸ h.below x hx, h.sorted⟩
  · intro x hx
    rw [he]
    rw [ha] at hx
    rcases List.mem_cons.mp hx with rfl | hx
    · exact hq ▸ Nat.lt_succ_self _
    · exact Nat.lt_succ_of_lt (h.below x hx)

theorem SortedAg.krel : KRel (fun s s' : KState ℚ σ => SortedAg s → SortedAg s') :=
  KRel.of_counters (fun _ => id) (fun h1 h2 => h2 ∘ h1)
    (fun _ _ ha he _ h => ⟨ha ▸ h.sorted, fun x hx => he ▸ h.below x (ha ▸ hx)⟩)
    (fun _ _ _ h => ⟨h.sorted, h.below⟩) (fun _ _ _ _ h => h.push _ rfl rfl rfl)

/-- what `popMin` leaves is the agenda without the popped entry, in the same order -/
theorem popMin_sublist : ∀ (l : List (QEntry ℚ)) (m : QEntry ℚ) (rest : List (QEntry ℚ)),
    popMin l = some (m, rest) → rest.Sublist l
  | [], m, rest, h => by simp [popMin] at h
  | x :: xs, m, rest, h => by
    unfold popMin at h
    cases hp : popMin xs with
    | none =>
      rw [hp] at h
      simp only [Option.some.injEq, Prod.mk.injEq] at h
      rw [← h.2]
      exact List.nil_sublist _
    | some mr =>
      obtain ⟨m', rest'⟩ := mr
      rw [hp] at h
      have ih := popMin_sublist xs m' rest' hp
      simp only at h
      split at h
      · simp only [Option.some.injEq, Prod.mk.injEq] at h
        rw [← h.2]
        exact ih.cons_cons x
      · simp only [Option.some.injEq, Prod.mk.injEq] at h
        rw [← h.2]
        exact List.sublist_cons_self x xs

theorem popMin_cons (x : QEntry ℚ) (xs : List (QEntry ℚ)) :
    popMin (x :: xs) = match popMin xs with
      | none => some (x, [])
      | some (m, rest) => if m.lt x then some (m, x :: rest) else some (x, xs) := by
  conv => lhs; rw [popMin]
  cases popMin xs with
  | none => rfl
  | some mr => simp only

theorem QEntry.lt_total {a b : QEntry ℚ} (h : a.eid ≠ b.eid) : a.lt b = !b.lt a := by
  rcases KeyLt.total h with h1 | h1
  · rw [(lt_iff _ _).mpr h1, Bool.eq_false_iff.mpr fun hh => h1.asymm ((lt_iff _ _).mp hh)]; rfl
  · rw [(lt_iff _ _).mpr h1, Bool.eq_false_iff.mpr fun hh => h1.asymm ((lt_iff _ _).mp hh)]; rfl

namespace SplitCfg
variable (c : SplitCfg σ)

theorem rnEntry_eid_lt (a b : QEntry ℚ) : (c.rnEntry a).eid < (c.rnEntry b).eid ↔ a.eid < b.eid := by
  unfold rnEntry
  show (if c.eid0 ≤ a.eid then a.eid + 1 else a.eid) < (if c.eid0 ≤ b.eid then b.eid + 1 else b.eid) ↔ _
  split <;> split <;> omega

theorem rnEntry_lt (a b : QEntry ℚ) : (c.rnEntry a).lt (c.rnEntry b) = a.lt b := by
  unfold QEntry.lt
  have h := c.rnEntry_eid_lt a b
  have h1 : (c.rnEntry a).time = a.time := rfl
  have h2 : (c.rnEntry b).time = b.time := rfl
  have h3 : (c.rnEntry a).prio = a.prio := rfl
  have h4 : (c.rnEntry b).prio = b.prio := rfl
  have hd : decide ((c.rnEntry a).eid < (c.rnEntry b).eid) = decide (a.eid < b.eid) := decide_eq_decide.mpr h
  rw [h1, h2, h3, h4, hd]

theorem rnEntry_eid_ne (a : QEntry ℚ) : (c.rnEntry a).eid ≠ c.eid0 := by
  unfold rnEntry
  show (if c.eid0 ≤ a.eid then a.eid + 1 else a.eid) ≠ c.eid0
  split <;> omega

theorem popMin_map (l : List (QEntry ℚ)) :
    popMin (l.map c.rnEntry) = (popMin l).map (fun mr => (c.rnEntry mr.1, mr.2.map c.rnEntry)) := by
  induction l with
  | nil => rfl
  | cons x xs ih =>
    simp only [List.map_cons]
    unfold popMin
    rw [ih]
    cases popMin xs with
    | none => rfl
    | some mr =>
      simp only [Option.map_some, c.rnEntry_lt]
      split <;> rfl

theorem insSent_of_old (l : List (QEntry ℚ)) (h : ∀ x ∈ l, x.eid < c.eid0) :
    c.insSent l = c.sentEntry :: l.map c.rnEntry := by
  cases l with
  | nil => rfl
  | cons x xs => rw [insSent, if_pos (h x List.mem_cons_self)]

theorem sent_total (a : QEntry ℚ) : c.sentEntry.lt (c.rnEntry a) = !(c.rnEntry a).lt c.sentEntry :=
  lt_total fun h => c.rnEntry_eid_ne a h.symm

/-- **popping from the agenda that carries the sentinel** -/
theorem popMin_insSent (l : List (QEntry ℚ)) (hs : l.Pairwise (fun a b => b.eid < a.eid)) :
    popMin (c.insSent l) =
      match popMin l with
      | none => some (c.sentEntry, [])
      | some (m, rest) =>
        if (c.rnEntry m).lt c.sentEntry then some (c.rnEntry m, c.insSent rest)
        else some (c.sentEntry, l.map c.rnEntry) := by
  induction l with
  | nil => rfl
  | cons x xs ih =>
    have hs' := (List.pairwise_cons.mp hs)
    by_cases hx : x.eid < c.eid0
    · -- the sentinel is in front of everything
      have hall : ∀ y ∈ x :: xs, y.eid < c.eid0 := by
        intro y hy
        rcases List.mem_cons.mp hy with rfl | hy
        · exact hx
        · exact Nat.lt_trans (hs'.1 y hy) hx
      rw [c.insSent_of_old _ hall, popMin_cons c.sentEntry, c.popMin_map]
      cases hp : popMin (x :: xs) with
      | none => exact absurd ((popMin_none_iff _).mp hp) (by simp)
      | some mr =>
        obtain ⟨m, rest⟩ := mr
        simp only [Option.map_some]
        have hsub := popMin_sublist _ _ _ hp
        have hrest : c.insSent rest = c.sentEntry :: rest.map c.rnEntry :=
          c.insSent_of_old rest (fun y hy => hall y (hsub.subset hy))
        rw [hrest]
    · rw [insSent, if_neg hx, popMin_cons (c.rnEntry x), ih hs'.2, popMin_cons x xs]
      cases hp : popMin xs with
      | none =>
        have : xs = [] := (popMin_none_iff _).mp hp
        subst this
        simp only [List.map_nil, List.map_cons]
        rw [c.sent_total x]
        cases (c.rnEntry x).lt c.sentEntry <;> rfl
      | some mr =>
        obtain ⟨m, rest⟩ := mr
        simp only
        have hmem : m ∈ xs := ((popMin_spec xs m rest hp).1.symm.subset List.mem_cons_self)
        have hne : m.eid ≠ x.eid := Nat.ne_of_lt (hs'.1 m hmem)
        have hxm : x.lt m = !m.lt x := lt_total hne.symm
        by_cases hms : (c.rnEntry m).lt c.sentEntry = true
        · simp only [hms, if_true, c.rnEntry_lt]
          by_cases hmx : m.lt x = true
          · simp only [hmx, if_true]
            rw [insSent, if_neg hx]
            simp only [hms, if_true]
          · simp only [hmx, if_false, Bool.false_eq_true]
            have hxm' : x.lt m = true := by rw [hxm]; simpa using hmx
            have : (c.rnEntry x).lt c.sentEntry = true := by
              rw [lt_iff]
              have h1 : KeyLt (c.rnEntry x) (c.rnEntry m) := (lt_iff _ _).mp (by rw [c.rnEntry_lt]; exact hxm')
              exact h1.trans ((lt_iff _ _).mp hms)
            simp only [this, if_true]
        · simp only [hms, if_false, Bool.false_eq_true, List.map_cons]
          have hsm : c.sentEntry.lt (c.rnEntry m) = true := by rw [c.sent_total]; simpa using hms
          by_cases hsx : c.sentEntry.lt (c.rnEntry x) = true
          · simp only [hsx, if_true]
            have hxs : (c.rnEntry x).lt c.sentEntry = false := by
              have := c.sent_total x
              rw [hsx] at this
              simpa using this.symm
            by_cases hmx : m.lt x = true
            · simp only [hmx, if_true, hms, Bool.false_eq_true, if_false, List.map_cons]
            · simp only [hmx, Bool.false_eq_true, if_false, hxs, List.map_cons]
          · simp only [hsx, Bool.false_eq_true, if_false]
            have hxs : (c.rnEntry x).lt c.sentEntry = true := by
              have := c.sent_total x
              cases hh : (c.rnEntry x).lt c.sentEntry
              · rw [hh] at this; simp at this; exact absurd this hsx
              · rfl
            have hxm' : KeyLt (c.rnEntry x) (c.rnEntry m) := ((lt_iff _ _).mp hxs).trans ((lt_iff _ _).mp hsm)
            have hxm2 : x.lt m = true := by rw [← c.rnEntry_lt]; exact (lt_iff _ _).mpr hxm'
            have hmx : m.lt x = false := by
              rw [hxm] at hxm2
              simpa using hxm2
            simp only [hmx, Bool.false_eq_true, if_false, hxs, if_true]

end SplitCfg
