import OnlVerif.Lemmas.StampWfq
/-!
# WFQ: stamps of one class increase strictly; configured workloads never raise
-/

namespace WFQ
open Stamp

structure Pos (c : WfqCfg ℚ) : Prop where
  rate : 0 < c.rate
  w : ∀ k w, lookup c.weights k = some w → 0 < w

theorem WInv.items_nil {c : WfqCfg ℚ} {s : WState} (h : WInv c s) (ha : s.sch.active = []) : s.items = [] :=
  items_of_held_nil (List.append_eq_nil_iff.mp (h.active_nil_iff.mp ha)).1

theorem WInv.items_nil_of_total {c : WfqCfg ℚ} {s : WState} (h : WInv c s) (h0 : qcTotal s.queueCount = 0) :
    s.items = [] :=
  items_of_held_nil (h.tot.zero_iff.mp h0)

theorem stampOf_gt (c : WfqCfg ℚ) (hp : Pos c) (f v w : ℚ) (hw : 0 < w) (size : Nat) (hs : 0 < size) :
    f < stampOf c f v w size := by
  rw [stampOf_eq]
  exact (le_max_left f v).trans_lt (lt_add_of_pos_right _
    (div_pos (mul_pos (by norm_num) (Nat.cast_pos.mpr hs)) (mul_pos hp.rate hw)))

/-- **The finish time of a class caps the stamps of its waiting packets**, which therefore increase strictly per
class (positive rate and weights, packets of positive size). -/
theorem step_capped {c : WfqCfg ℚ} (hp : Pos c) {s s' : WState} {a : StAct ℚ} {o : StOut} (hw : WInv c s)
    (hw' : WInv c s') (ho : Capped (clsOf c) (lookup s.sch.finish) s.items) (ht : Trans (sched c) s a s' o)
    (hsz : ∀ p ∈ entered a o, 0 < p.size) : Capped (clsOf c) (lookup s'.sch.finish) s'.items := by
  rcases ht.store with ⟨p, sch, stamp, rfl, rfl, rfl, h1⟩ | ⟨_, hsub, ⟨hsch, _⟩ | ⟨p, _, _, h2⟩⟩
  · obtain ⟨k, st1, f, w, hk, ha, hf, hwt, hz, rfl, rfl⟩ := put_spec c _ _ _ _ _ _ h1
    -- the finish times the old items are capped by survive `advance`
    have hold : Capped (clsOf c) (lookup st1.finish) s.items := by
      rcases advance_spec c _ _ _ _ ha with ⟨h0, _⟩ | ⟨_, _, _, rfl⟩
      · rw [hw.items_nil_of_total h0]; exact Capped.nil
      · exact ho
    exact hold.snoc hk hf (stampOf_gt c hp f st1.vtime w (hp.w k w hwt) p.size (hsz p (by simp [entered])))
      fun k' => lookup_setKey _ _ _ _
  · exact hsch ▸ ho.sublist hsub
  · by_cases hne : s'.sch.active = []
    · rw [hw'.items_nil hne]; exact Capped.nil
    · obtain ⟨_, _, _, _, _, _, _, _, hkeep⟩ := done_spec c _ _ _ _ h2
      rw [(hkeep hne).2]; exact ho.sublist hsub

theorem run_winv (c : WfqCfg ℚ) {t0 : ℚ} {s : WState} {ins outs : List SPkt}
    (h : Run (sched c) (start t0) s ins outs) : GInv s ∧ WInv c s := by
  induction h with
  | nil => exact ⟨init_ginv _ _, init_winv c t0⟩
  | snoc _ ht ih => exact ⟨(step_ginv ih.1 ht).1, step_winv ih.1 ih.2 ht⟩

theorem run_capped (c : WfqCfg ℚ) (hp : Pos c) {t0 : ℚ} {s : WState} {ins outs : List SPkt}
    (h : Run (sched c) (start t0) s ins outs) (hsz : ∀ p ∈ ins, 0 < p.size) :
    Capped (clsOf c) (lookup s.sch.finish) s.items := by
  induction h with
  | nil => exact Capped.nil
  | @snoc s1 s2 i1 o1 a o hr ht ih =>
    have h1 := run_winv c hr
    exact step_capped hp h1.2 (step_winv h1.1 h1.2 ht) (ih fun p hp' => hsz p (List.mem_append_left _ hp')) ht
      fun p hp' => hsz p (List.mem_append_right _ hp')

theorem wOf_pos {c : WfqCfg ℚ} (hp : Pos c) {k : Nat} (h : (lookup c.weights k).isSome) : 0 < wOf c.weights k := by
  obtain ⟨w, hw⟩ := Option.isSome_iff_exists.mp h
  simp only [wOf, hw, Option.getD_some]
  exact hp.w k w hw

theorem WInv.wsum_ne {c : WfqCfg ℚ} (hp : Pos c) {s : WState} (h : WInv c s) (hne : s.sch.active ≠ []) :
    wSum c.weights s.sch.active ≠ 0 :=
  ne_of_gt (wSum_pos _ _ hne (fun k hk => wOf_pos hp (h.active_weighted k hk)))

/-- **WFQ never raises** in a reachable state, whatever ties there are, as long as arriving packets belong to
configured flows: every failure of `step` is a `reject` (a wrong label), never a Python exception. -/
theorem step_no_raise {c : WfqCfg ℚ} (hp : Pos c) {s : WState} (hw : WInv c s) (a : StAct ℚ)
    (hconf : ∀ p, a = .put p → ∃ k w, clsOf c p.flow = some k ∧ lookup c.weights k = some w) (e : String) :
    step (sched c) s a ≠ .error (.raise e) := by
  apply step_no_raise_of (d := sched c) hp.rate s a
  · intro p hpa
    obtain ⟨k, w, hk, hwt⟩ := hconf p hpa
    have hadv : ∃ st1, advance c s.sch s.now (qcTotal s.queueCount) = .ok st1 ∧ ∃ f, lookup st1.finish k = some f := by
      unfold advance
      by_cases h0 : qcTotal s.queueCount = 0
      · rw [if_pos h0]
        exact ⟨_, rfl, 0, by simp [resetVtime, lookup_zeroFinish, hwt]⟩
      · have hnil := hw.active_ne_of_total h0
        rw [if_neg h0, updateVtime_ok c _ _ (fun k hk => hw.active_weighted k hk) (hw.wsum_ne hp hnil)]
        exact ⟨_, rfl, hw.fkeys hnil k w hwt⟩
    obtain ⟨st1, ha, f, hf⟩ := hadv
    have hz : c.rate * w ≠ 0 := ne_of_gt (mul_pos hp.rate (hp.w k w hwt))
    exact ⟨_, put_ok c s.sch st1 s.now _ p k f w hk ha hf hwt hz⟩
  · intro p hfin
    have hpm : p ∈ held' s := by simp [held', finL, hfin]
    obtain ⟨k, w, hk, hwt⟩ := hw.conf p hpm
    have hka : k ∈ s.sch.active := (hw.active_iff k).mpr ⟨p, hpm, hk⟩
    have hne : s.sch.active ≠ [] := List.ne_nil_of_mem hka
    have hu := updateVtime_ok c s.sch s.now (fun k hk => hw.active_weighted k hk) (hw.wsum_ne hp hne)
    have hcc : 0 < ccOf s.sch k := (hw.act k).mp hka
    obtain ⟨n, hn⟩ : ∃ n, lookup s.sch.classCount k = some n := by
      cases hl : lookup s.sch.classCount k with
      | none => simp [ccOf, hl] at hcc
      | some n => exact ⟨n, rfl⟩
    obtain ⟨st2, hl⟩ := leave_ok { s.sch with vtime := s.sch.vtime + (s.now - s.sch.lastTime) / wSum c.weights s.sch.active }
      k n hn (fun _ => hka)
    exact ⟨_, done_ok c s.sch _ st2 s.now p k hu hk hl⟩

end WFQ
