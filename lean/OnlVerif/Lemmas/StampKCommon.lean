import OnlVerif.Lemmas.StampTrans
import OnlVerif.Lemmas.StampCodeQ
/-!
# Stamp schedulers on the kernel model: what does not depend on the scheduler

The VirtualClock and the WFQ program (`Net/VCOnK.lean`, `Net/WFQOnK.lean`) share the server loop, the sender, the source and the
`PriorityStore`; each has its own types of configurations and of oracle states.  What is said here is said about lists of
`put` records, about the StampServer LTS over an arbitrary scheduler record, or about the values both developments project
to, and is used by `VCK` and `WFQK`.
-/

namespace StampK
open Stamp
open VCK (PutRec OnGrid codeOf IsLeast)
open VCOnK (WItem keyLt candPut)

/-- two accepted action sequences compose -/
theorem runActs_compose {σ : Type} {d : Sched ℚ σ} : ∀ {as bs : List (StAct ℚ)} {s s1 s2 : StState ℚ σ}
    {i1 o1 i2 o2 : List SPkt}, runActs d s as = .ok (s1, i1, o1) → runActs d s1 bs = .ok (s2, i2, o2) →
    runActs d s (as ++ bs) = .ok (s2, i1 ++ i2, o1 ++ o2)
  | [], bs, s, s1, s2, i1, o1, i2, o2, h1, h2 => by
    cases h1
    simpa using h2
  | x :: as, bs, s, s1, s2, i1, o1, i2, o2, h1, h2 => by
    obtain ⟨s3, o, i4, o4, h3, h4, rfl, rfl⟩ := runActs_cons_ok h1
    simp only [List.cons_append, runActs, h3, runActs_compose h4 h2, List.append_assoc]

/-- the agenda entry of an event that has only one -/
theorem find_ev {l : List (QEntry ℚ)} {q0 : QEntry ℚ} (hm : q0 ∈ l) (hu : ∀ x ∈ l, x.ev = q0.ev → x = q0) :
    l.find? (·.ev == q0.ev) = some q0 := by
  cases hf : l.find? (·.ev == q0.ev) with
  | none => exact absurd (beq_self_eq_true q0.ev) (List.find?_eq_none.mp hf q0 hm)
  | some x =>
    have h2 : (x.ev == q0.ev) = true := List.find?_some (p := fun x : QEntry ℚ => x.ev == q0.ev) hf
    rw [hu x (List.mem_of_find?_eq_some hf) (beq_iff_eq.mp h2)]

/-! ## the `put`s so far, and what the store hands out -/

/-- along the `put`s ids increase and arrival instants do not decrease -/
theorem mono_cases {l : List PutRec} (hm : l.Pairwise fun x y => x.1 < y.1 ∧ x.2.1 ≤ y.2.1) {x y : PutRec}
    (hx : x ∈ l) (hy : y ∈ l) (hxy : x.1 ≤ y.1) : x = y ∨ (x.1 < y.1 ∧ x.2.1 ≤ y.2.1) := by
  induction l with
  | nil => cases hx
  | cons h t ih =>
    obtain ⟨h1, h2⟩ := List.pairwise_cons.mp hm
    rcases List.mem_cons.mp hx with rfl | hx'
    · rcases List.mem_cons.mp hy with rfl | hy'
      · exact Or.inl rfl
      · exact Or.inr (h1 y hy')
    · rcases List.mem_cons.mp hy with rfl | hy'
      · have := (h1 x hx').1
        omega
      · exact ih h2 hx' hy'

/-- what both invariants say about the `put`s so far: ids increase inside `0 … N-1`, arrival instants do not decrease, the
stamps lie on the grid `ℤ / scale` -/
structure PutsOK (N scale : Nat) (l : List PutRec) : Prop where
  pos : 0 < scale
  mono : l.Pairwise fun x y => x.1 < y.1 ∧ x.2.1 ≤ y.2.1
  ok : ∀ w ∈ l, 0 ≤ w.1 ∧ w.1 < N ∧ OnGrid scale w.2.2

namespace PutsOK
variable {N scale : Nat} {l items : List PutRec} {w x : PutRec}

theorem nodup_ids (h : PutsOK N scale l) : (l.map (·.1)).Nodup := by
  rw [List.Nodup, List.pairwise_map]
  exact h.mono.imp fun hxy => ne_of_lt hxy.1

theorem eq_of_id (h : PutsOK N scale l) (hx : x ∈ l) (hw : w ∈ l) (e : x.1 = w.1) : x = w :=
  (mono_cases h.mono hx hw e.le).elim id fun hlt => absurd e (ne_of_lt hlt.1)

theorem nodup (h : PutsOK N scale l) : l.Nodup :=
  h.mono.imp fun hxy e => absurd (congrArg (·.1) e) (ne_of_lt hxy.1)

/-- taking one `put` out of a list of them is filtering by its id -/
theorem erase_eq_filter (h : PutsOK N scale l) (hs : items.Sublist l) (hw : w ∈ items) :
    items.erase w = items.filter (fun y => y.1 ≠ w.1) := by
  rw [(hs.nodup h.nodup).erase_eq_filter]
  apply List.filter_congr
  intro y hy
  by_cases e : y = w
  · simp [e]
  · have : y.1 ≠ w.1 := fun e' => e (h.eq_of_id (hs.subset hy) (hs.subset hw) e')
    simp [e, this]

/-- **the order of the integers in the store**: a code that is not larger belongs to a `(stamp, id)` that is not larger, hence
to a `(stamp, arrival instant)` that is not larger -/
theorem key_le (h : PutsOK N scale l) (hw : w ∈ l) (hx : x ∈ l) (hle : codeOf N scale w ≤ codeOf N scale x) :
    w.2.2 ≤ x.2.2 ∧ (w.2.2 = x.2.2 → w.1 ≤ x.1 ∧ w.2.1 ≤ x.2.1) := by
  obtain ⟨w0, -, wG⟩ := h.ok w hw
  obtain ⟨x0, xN, xG⟩ := h.ok x hx
  obtain ⟨h1, h2⟩ := VCK.stampItem_le h.pos wG xG w0 x0 xN hle
  exact ⟨h1, fun e => ⟨h2 e, (mono_cases h.mono hw hx (h2 e)).elim (fun e' => e' ▸ le_refl _) (·.2)⟩⟩

theorem code_inj (h : PutsOK N scale l) (hx : x ∈ l) (hw : w ∈ l) (e : codeOf N scale x = codeOf N scale w) : x = w := by
  obtain ⟨h1, h2⟩ := h.key_le hx hw e.le
  obtain ⟨h3, h4⟩ := h.key_le hw hx e.ge
  exact h.eq_of_id hx hw (le_antisymm (h2 (le_antisymm h1 h3)).1 (h4 (le_antisymm h3 h1)).1)

theorem takeId_map (it : PutRec → Item ℚ) (hid : ∀ w, (it w).pkt.id = w.1.toNat) :
    ∀ (l : List PutRec) (w : PutRec), w ∈ l → (∀ x ∈ l, x.1.toNat = w.1.toNat → x = w) →
      Stamp.takeId w.1.toNat (l.map it) = some (it w, (l.erase w).map it)
  | [], _, hw, _ => nomatch hw
  | x :: xs, w, hw, hinj => by
    by_cases hx : x.1.toNat = w.1.toNat
    · obtain rfl := hinj x List.mem_cons_self hx
      simp only [List.map_cons, Stamp.takeId, hid, if_true, List.erase_cons_head]
    · have hne : x ≠ w := fun e => hx (by rw [e])
      have hw' : w ∈ xs := (List.mem_cons.mp hw).resolve_left (Ne.symm hne)
      have he : (x :: xs).erase w = x :: xs.erase w := List.erase_cons_tail (by simpa using hne)
      simp only [List.map_cons, Stamp.takeId, hid, hx, if_false, he,
        takeId_map it hid xs w hw' fun y hy => hinj y (List.mem_cons_of_mem _ hy)]

/-- **what `K`'s `PriorityStore` hands out is accepted by the LTS**: the least integer carries a minimal key (`it` is the
family's `itemW`) -/
theorem pick_least (h : PutsOK N scale l) (hs : items.Sublist l) (it : PutRec → Item ℚ) {fl sz : PutRec → Nat}
    (hit : ∀ w, it w = ⟨w.2.2, w.2.1, ⟨w.1.toNat, fl w, sz w⟩⟩) (hw : IsLeast N scale items w) :
    Stamp.pick (items.map it) w.1.toNat = .ok (it w, (items.erase w).map it) := by
  have hwp := hs.subset hw.1
  apply Stamp.pick_ok_of_min
  · apply takeId_map it (fun w => by rw [hit]) _ _ hw.1
    intro x hx e
    have hxp := hs.subset hx
    exact h.eq_of_id hxp hwp (by have := (h.ok x hxp).1; have := (h.ok w hwp).1; omega)
  · intro y hy
    obtain ⟨x, hx, rfl⟩ := List.mem_map.mp hy
    obtain ⟨h1, h2⟩ := h.key_le hwp (hs.subset hx) (hw.2 x hx)
    rw [hit, hit]
    rintro (hlt | ⟨e, hlt⟩)
    · exact absurd hlt (not_lt.mpr h1)
    · exact absurd hlt (not_lt.mpr (h2 e.symm).2)

/-- the `k`-th `put` observation goes with the `k`-th `stamp` observation -/
theorem find_zip (h : PutsOK N scale l) (hw : w ∈ l) :
    ((l.map fun w => (w.1, w.2.1)).zip (l.map fun w => w.2.2)).find? (·.1.1 == w.1) = some ((w.1, w.2.1), w.2.2) := by
  have hn := h.nodup_ids
  clear h
  induction l with
  | nil => cases hw
  | cons x r ih =>
    obtain ⟨h1, h2⟩ := List.nodup_cons.mp hn
    rw [List.map_cons, List.map_cons, List.zip_cons_cons, List.find?_cons]
    rcases List.mem_cons.mp hw with rfl | hm
    · rw [beq_self_eq_true]
    · have hne : x.1 ≠ w.1 := fun e => h1 (List.mem_map.mpr ⟨w, hm, e.symm⟩)
      rw [beq_false_of_ne hne]
      exact ih hm h2

end PutsOK

/-! ## the hand-off part of the two oracles

`waiting` and `cand` of an oracle state (`VCOnK.OSt`, `WFQOnK.OSt`: the same fields with the same meaning) against the store of
a configuration, in the three situations a phase of `run` can be in: no hand-off under way (`HandB`); `run` blocked in
`store.get()` (`HandW`); the `get` served with `w`, `send_packet` not yet called (`HandH`).  The lemmas are the moves between
them; what a phase says about `busy` and `lastOut` is one equation per phase and stays with the families.  `keyLt` and
`candPut` are `VCOnK`'s (those of `WFQOnK` have the same text). -/

/-- a `put` as the oracles keep it: id, stamp, arrival instant -/
def toW (w : PutRec) : WItem ℚ := (w.1, w.2.2, w.2.1)

theorem not_keyLt_self (w : WItem ℚ) : ¬ keyLt w w := by
  rintro (h | ⟨_, h⟩) <;> exact lt_irrefl _ h

theorem candPut_ne {l : List (WItem ℚ)} (hl : l ≠ []) (t : ℚ) (w : WItem ℚ) : candPut (some (l, t)) w = some (l, t) := by
  cases l with
  | nil => exact absurd rfl hl
  | cons x r => rfl

theorem PutsOK.not_keyLt {N scale : Nat} {l : List PutRec} {w x : PutRec} (h : PutsOK N scale l) (hw : w ∈ l) (hx : x ∈ l)
    (hle : codeOf N scale w ≤ codeOf N scale x) : ¬ keyLt (toW x) (toW w) := by
  obtain ⟨h1, h2⟩ := h.key_le hw hx hle
  rintro (hlt | ⟨h3, h4⟩)
  · exact absurd h1 (not_le.mpr hlt)
  · exact absurd (h2 (le_antisymm h1 (not_lt.mp h3))).2 (not_le.mpr h4)

/-- an element with a least `(stamp, id)` is the oldest of its flow -/
theorem head_of_least {flow : Int → Nat} : ∀ (l : List PutRec) (w : PutRec),
    l.Pairwise (fun x y => x.1 < y.1 ∧ (flow x.1 = flow y.1 → x.2.2 ≤ y.2.2)) →
    w ∈ l → (∀ x ∈ l, w.2.2 ≤ x.2.2 ∧ (w.2.2 = x.2.2 → w.1 ≤ x.1)) →
    (((l.map toW).filter fun y => flow y.1 = flow w.1).head?.map (·.1)) = some w.1
  | [], _, _, h, _ => nomatch h
  | x :: r, w, hp, h, hle => by
    obtain ⟨h1, h2⟩ := List.pairwise_cons.mp hp
    by_cases hf : flow x.1 = flow w.1
    · have hxw : x = w := by
        rcases List.mem_cons.mp h with h | h
        · exact h.symm
        · exfalso
          obtain ⟨ha1, ha2⟩ := h1 w h
          obtain ⟨hb1, hb2⟩ := hle x List.mem_cons_self
          have := hb2 (le_antisymm hb1 (ha2 hf))
          omega
      subst hxw
      rw [List.map_cons, List.filter_cons_of_pos (by exact decide_eq_true rfl)]
      rfl
    · have hw : w ∈ r := (List.mem_cons.mp h).resolve_left fun e => hf (e ▸ rfl)
      rw [List.map_cons, List.filter_cons_of_neg (by exact decide_eq_false hf ▸ Bool.false_ne_true)]
      exact head_of_least r w h2 hw fun y hy => hle y (List.mem_cons_of_mem _ hy)

section hand
variable {N scale : Nat} {flow : Int → Nat} {l items : List PutRec} {pend pend' srcE srcE' : List (QEntry ℚ)} {now now' t : ℚ}
  {w r : PutRec} {waiting : List (WItem ℚ)} {cand : Option (List (WItem ℚ) × ℚ)}

/-- no hand-off is under way: the oracle's waiting packets are those in the store -/
def HandB (items : List PutRec) (waiting : List (WItem ℚ)) (cand : Option (List (WItem ℚ) × ℚ)) : Prop :=
  cand = none ∧ waiting = items.map toW

/-- `run` is blocked in `store.get()`: the candidates are the packets in the store, at most one, which has arrived in this
instant and whose `StorePut` event is pending and older than the entry of the source -/
def HandW (items : List PutRec) (pend srcE : List (QEntry ℚ)) (now : ℚ) (waiting : List (WItem ℚ))
    (cand : Option (List (WItem ℚ) × ℚ)) : Prop :=
  waiting = items.map toW ∧ (∃ t, cand = some (items.map toW, t) ∧ ∀ w ∈ items, t = w.2.1 ∧ w.2.1 = now) ∧
    items.length ≤ 1 ∧ (items ≠ [] → ∃ u ∈ pend, ∀ x ∈ srcE, u.eid < x.eid)

/-- the `get` has been served with `w` at instant `t`: `w` still waits for the oracle, it is a candidate with a minimal key
and the oldest of its flow -/
def HandH (flow : Int → Nat) (items : List PutRec) (w : PutRec) (t : ℚ) (waiting : List (WItem ℚ))
    (cand : Option (List (WItem ℚ) × ℚ)) : Prop :=
  (∃ wl : List PutRec, waiting = wl.map toW ∧ items = wl.filter (fun y => y.1 ≠ w.1) ∧ w ∈ wl) ∧
    (∃ l, cand = some (l, t) ∧ toW w ∈ l ∧ ∀ w' ∈ l, ¬ keyLt w' (toW w)) ∧
    ((waiting.filter fun y => flow y.1 = flow w.1).head?.map (·.1)) = some w.1

/-- `run` calls `store.get()` on an empty store -/
theorem HandB.get_block (h : HandB items waiting cand) (hit : items = []) (t : ℚ) :
    HandW items pend srcE t waiting (some (waiting, t)) :=
  ⟨h.2, ⟨t, by rw [h.2], fun w hw => by rw [hit] at hw; cases hw⟩, by rw [hit]; exact Nat.zero_le 1,
    fun hne => absurd hit hne⟩

/-- `run` calls `store.get()` on a store that holds packets: it is served at once, with the least integer -/
theorem HandB.get_hit (hp : PutsOK N scale l) (hs : items.Sublist l)
    (hfl : items.Pairwise fun x y => flow x.1 = flow y.1 → x.2.2 ≤ y.2.2) (h : HandB items waiting cand)
    (hw : IsLeast N scale items w) (t : ℚ) : HandH flow (items.erase w) w t waiting (some (waiting, t)) := by
  have hk := fun x hx => hp.key_le (hs.subset hw.1) (hs.subset hx) (hw.2 x hx)
  refine ⟨⟨items, h.2, hp.erase_eq_filter hs hw.1, hw.1⟩, ⟨waiting, rfl, ?_, ?_⟩, ?_⟩
  · rw [h.2]; exact List.mem_map_of_mem hw.1
  · intro w' hw'
    rw [h.2] at hw'
    obtain ⟨x, hx, rfl⟩ := List.mem_map.mp hw'
    exact hp.not_keyLt (hs.subset hw.1) (hs.subset hx) (hw.2 x hx)
  · rw [h.2]
    exact head_of_least items w (((hp.mono.sublist hs).and hfl).imp fun hxy => ⟨hxy.1.1, hxy.2⟩) hw.1
      fun x hx => ⟨(hk x hx).1, fun e => ((hk x hx).2 e).1⟩

/-- the `StorePut` event is processed while `run` is blocked: the one waiting packet is handed over -/
theorem HandW.hand (h : HandW items pend srcE now waiting cand) (hw : w ∈ items) :
    HandH flow (items.erase w) w now waiting cand := by
  obtain ⟨h2, ⟨t, h3, h4⟩, h5, -⟩ := h
  obtain ⟨h7, h8⟩ := h4 w hw
  obtain rfl : items = [w] := by
    cases items with
    | nil => cases hw
    | cons x r =>
      cases r with
      | nil => rw [List.mem_singleton.mp hw]
      | cons y r' => exact absurd h5 (by simp only [List.length_cons]; omega)
  refine ⟨⟨[w], h2, ?_, hw⟩, ⟨[toW w], by rw [h3, h7, h8]; rfl, List.mem_singleton_self _, ?_⟩, ?_⟩
  · rw [List.erase_cons_head, List.filter_cons_of_neg (by simp), List.filter_nil]
  · intro w' hw'
    rw [List.mem_singleton.mp hw']
    exact not_keyLt_self _
  · rw [h2, List.map_singleton, List.filter_cons_of_pos (by exact decide_eq_true rfl)]
    rfl

/-- `run` hands `w` to `send_packet` -/
theorem HandH.served (h : HandH flow items w t waiting cand) : HandB items (waiting.filter fun y => y.1 ≠ w.1) none := by
  obtain ⟨⟨wl, h2, h3, -⟩, -⟩ := h
  exact ⟨rfl, by rw [h2, h3, List.filter_map]; rfl⟩

/-! a `put` of `r`, in each of the three situations -/

theorem HandB.put (h : HandB items waiting cand) (r : PutRec) :
    HandB (items ++ [r]) (waiting ++ [toW r]) (candPut cand (toW r)) :=
  ⟨by rw [h.1]; rfl, by rw [h.2, List.map_append]; rfl⟩

/-- a blocked `get` is served with the packet at once: before it the store was empty -/
theorem HandW.put (h : HandW items pend srcE now waiting cand) (hit : items = []) (hr : r.2.1 = now) (u : QEntry ℚ)
    (hu : ∀ x ∈ srcE', u.eid < x.eid) :
    HandW (items ++ [r]) (pend ++ [u]) srcE' now (waiting ++ [toW r]) (candPut cand (toW r)) := by
  obtain ⟨h2, ⟨t, h3, -⟩, -, -⟩ := h
  subst hit
  refine ⟨by rw [h2]; rfl, ⟨now, by rw [h3, ← hr]; rfl, ?_⟩, Nat.le_refl 1,
    fun _ => ⟨u, List.mem_append_right _ (List.mem_singleton_self u), hu⟩⟩
  intro w hw
  rw [List.mem_singleton.mp hw]
  exact ⟨hr.symm, hr⟩

theorem HandH.put (h : HandH flow items w t waiting cand) (hne : r.1 ≠ w.1) :
    HandH flow (items ++ [r]) w t (waiting ++ [toW r]) (candPut cand (toW r)) := by
  obtain ⟨⟨wl, h2, h3, h3'⟩, ⟨l, h4, h5, h6⟩, h7⟩ := h
  refine ⟨⟨wl ++ [r], by rw [h2, List.map_append]; rfl, ?_, List.mem_append_left _ h3'⟩,
    ⟨l, by rw [h4]; exact candPut_ne (List.ne_nil_of_mem h5) _ _, h5, h6⟩, ?_⟩
  · rw [h3, List.filter_append, List.filter_cons_of_pos (by simpa using hne), List.filter_nil]
  · rw [List.filter_append]
    cases hf : (waiting.filter fun y => flow y.1 = flow w.1) with
    | nil => rw [hf] at h7; cases h7
    | cons z zs => rw [hf] at h7; exact h7

/-! while `run` is blocked -/

/-- the source moves on -/
theorem HandW.src (h : HandW items pend srcE now waiting cand) (hlt : ∀ u ∈ pend, ∀ x ∈ srcE', u.eid < x.eid) :
    HandW items pend srcE' now waiting cand :=
  ⟨h.1, h.2.1, h.2.2.1, fun hne => (h.2.2.2 hne).imp fun u hu => ⟨hu.1, hlt u hu.1⟩⟩

/-- with an empty store the clause does not read the agenda or the clock -/
theorem HandW.of_nil (h : HandW items pend srcE now waiting cand) (hit : items = []) :
    HandW items pend' srcE' now' waiting cand :=
  ⟨h.1, h.2.1.imp fun t ht => ⟨ht.1, fun w hw => by rw [hit] at hw; cases hw⟩, h.2.2.1, fun hne => absurd hit hne⟩

end hand

end StampK
