import OnlVerif.Lemmas.SplitScript
import OnlVerif.Lemmas.SplitWFDec
section
/-!
# A concrete split plan with two numeric stops (non-vacuity of the C03 plan theorems)

Two script processes contend for a `Resource` of capacity 1.  `A` (started from outside) creates two timeouts and an
`AllOf` condition over them, spawns `B`, waits for the condition, requests the resource, holds it for 3 and releases it.
`B` sleeps 1, requests the resource (gets it first), holds it for 2, releases it and returns 7.  The run is cut as
`step()×3; run(until=2); run(until=<the condition>); run(until=4); step(); run(until=<A>)`.  The hypotheses of
`split_plan_transparent` are met: the programs are script programs with id-free literals (hence id-opaque and scoped),
the initial state is an empty environment plus one outside spawn; that every piece returns normally is computed by the
kernel.

Second part: `oddBody`, a program that is id-opaque along its run only, for the run-level theorems.
-/

namespace SplitPlanDemo
open SplitWF SplitPlan

def progA : Array (Instr ℚ) := #[
  .timeout 0 1 .none, .timeout 1 2 (.int 5), .cond true 2 [0, 1], .spawn 3 1 2, .yield 2 0, .log 10,
  .request 4 0 0 true, .yield 4 0, .timeout 5 3 .none, .yield 5 0, .release 6 0 4, .log 11, .ret .none]

def progB : Array (Instr ℚ) := #[
  .timeout 7 1 .none, .yield 7 0, .request 8 0 0 true, .yield 8 0, .log 20, .timeout 9 2 .none, .yield 9 0,
  .release 10 0 8, .log 21, .ret (.int 7)]

def progs : Progs ℚ := #[progA, progB]

def rs : Array ResRec := #[{ kind := .resource, capacity := some 1 }]

/-- `env = Environment(0)`, one `Resource(capacity=1)`, `env.process(A)` -/
def s0 : KState ℚ SSt := initState 0 rs [{ name := 1, prog := 0, pc := 0 }]

/-- ids are those of the split run: 4 = the condition, 0 = the process `A` -/
def plan : List Piece := [.step 3, .untilTime 2, .untilEvent 4, .untilTime 4, .step 1, .untilEvent 0]

theorem progsClosed_of_all (ps : Progs ℚ) (h : ps.toList.all (fun pr => pr.toList.all Instr.closed) = true) :
    ProgsClosed ps := by
  intro p i hi
  by_cases hp : p < ps.size
  · have hget : ps.getD p #[] = ps[p] := by
      rw [Array.getD_eq_getD_getElem?, Array.getElem?_eq_getElem hp]; rfl
    rw [hget] at hi
    rw [List.all_eq_true] at h
    have := h ps[p] (Array.getElem_mem_toList hp)
    rw [List.all_eq_true] at this
    exact this i hi
  · have hget : ps.getD p #[] = #[] := by
      rw [Array.getD_eq_getD_getElem?, Array.getElem?_eq_none (Nat.le_of_not_lt hp)]; rfl
    rw [hget] at hi
    cases hi

theorem progs_closed : ProgsClosed progs := progsClosed_of_all progs (by decide)

theorem rs_empty : ∀ r, (rs.getD r default).putQ = [] ∧ (rs.getD r default).getQ = [] ∧ (rs.getD r default).users = [] := by
  intro r
  cases r with
  | zero => exact ⟨rfl, rfl, rfl⟩
  | succ r =>
    have : rs.getD (r + 1) default = default := by
      rw [Array.getD_eq_getD_getElem?, Array.getElem?_eq_none (by simp [rs])]; rfl
    rw [this]
    exact ⟨rfl, rfl, rfl⟩

theorem s0_facts : WS IS s0 ∧ SortedAg s0 ∧ AllStopFree s0 ∧ 2 * 1 ≤ s0.events.size :=
  initState_facts 0 rs _ rs_empty (fun _ _ => trivial)

theorem s0_pos : 0 < s0.events.size := Nat.lt_of_lt_of_le (by decide) s0_facts.2.2.2

theorem body_opaque : ∀ u, 0 < u → BodySim (shAt u) (IS.rn u) (body progs) :=
  fun u _ => script_bodySim (shAt u) progs progs_closed

theorem run_scoped : ScopedRun IS (body progs) 5 s0 := script_scopedRun progs progs_closed 5 s0 s0_facts.1

/-- computed by the kernel: every piece of the plan returns normally; the split run leaves 22 observations, 16 event records
(14 of the uninterrupted run + 2 sentinels) and the 2 processes -/
theorem plan_returns : (execPlan (body progs) 5 100 plan s0).map (fun s => (s.trace.size, s.events.size, s.procs.length)) =
    some (22, 16, 2) := by decide +kernel

theorem plan_stops : numStops plan = 2 := rfl

end SplitPlanDemo

end

section
/-!
# A program that is *not* id-opaque as a tree but is so along its run (non-vacuity of the run-level C03 theorems)

`oddBody` guesses an id (`succeed 1000`) in a branch the kernel never takes (the error reply of `timeout 1`): `BodySim` fails
for it at every split index `u ≤ 1000` (`oddBody_not_bodySim`), yet the run-level hypotheses `ScopedRun` and `PlanSim` hold for
its run — checked by kernel evaluation — so `split_plan_transparent_runlevel` applies to it.
-/

namespace SplitSimDemo
open SplitWF SplitPlan

def oddBody : Nat → Resume → Burst ℚ Nat
  | 0, _ => .call (.timeout 1 .none) fun r => match r with
      | .ev t => .yield t 1
      | .err _ => .call (.succeed 1000 .none) fun _ => .ret .none
      | _ => .ret .none
  | 1, _ => .call (.log "a" (.int 1)) fun _ => .call (.timeout 2 .none) fun r => match r with
      | .ev t => .yield t 2
      | _ => .ret .none
  | 2, _ => .call (.log "b" .none) fun _ => .ret (.int 3)
  | _, _ => .ret .none

/-- local states (program counters) hold no ids -/
abbrev IN : IdSt Nat := IdSt.none Nat

instance (n : Nat) (st : Nat) : Decidable (IN.below n st) := isTrue trivial

/-- two processes running `oddBody`, started from outside -/
def t0 : KState ℚ Nat := initState 0 #[] [0, 0]

def plan : List Piece := [.untilTime 1, .step 1, .untilTime 2, .untilTime 4]

theorem t0_facts : WS IN t0 ∧ SortedAg t0 ∧ AllStopFree t0 ∧ 2 * 2 ≤ t0.events.size :=
  initState_facts 0 #[] _ (fun r => by
    have : (#[] : Array ResRec).getD r default = default := by simp
    rw [this]; exact ⟨rfl, rfl, rfl⟩) (fun _ _ => trivial)

theorem t0_pos : 0 < t0.events.size := Nat.lt_of_lt_of_le (by decide) t0_facts.2.2.2

theorem burstSim_call_inv {σ : Type} {ρ : EvId → EvId} {rσ : σ → σ} {c c' : Call ℚ σ} {k k' : Reply → Burst ℚ σ}
    (h : BurstSim ρ rσ (.call c k) (.call c' k')) : c' = rnCall ρ rσ c ∧ ∀ r, BurstSim ρ rσ (k r) (k' (rnReply ρ r)) := by
  generalize hb : (Burst.call c k : Burst ℚ σ) = b at h
  generalize hb' : (Burst.call c' k' : Burst ℚ σ) = b' at h
  cases h with
  | call c0 k0 k0' hk =>
    cases hb
    cases hb'
    exact ⟨rfl, hk⟩
  | _ => cases hb

theorem oddBody_not_bodySim (u : Nat) (hu : u ≤ 1000) : ¬ BodySim (shAt u) (IN.rn u) oddBody := by
  intro h
  have h0 : BurstSim (shAt u) (IN.rn u) (oddBody 0 .start) (oddBody 0 .start) := h 0 .start
  have h1 := (burstSim_call_inv h0).2 (.err ⟨"x", []⟩)
  have h2 : BurstSim (shAt u) (IN.rn u) (.call (.succeed 1000 .none) fun _ => .ret .none)
      (.call (.succeed 1000 .none) fun _ => .ret .none) := h1
  have h3 := (burstSim_call_inv h2).1
  have h4 : shAt u 1000 = 1000 := by
    simp only [rnCall, Call.succeed.injEq] at h3
    exact h3.1.symm
  rw [shAt_of_ge hu] at h4
  omega

/-- the run ends after 9 steps -/
theorem run_scoped : ScopedRun IN oddBody 5 t0 :=
  scopedRun_of_upTo IN oddBody 5 t0 9 (by decide +kernel)

theorem plan_sim : PlanSim IN oddBody 5 100 plan t0 :=
  PlanSimUpTo.planSim oddBody 5 100 9 plan t0 (by decide +kernel)

/-- computed by the kernel: every piece returns normally; 12 observations, 11 event records (8 + 3 sentinels), 2 processes -/
theorem plan_returns : (execPlan oddBody 5 100 plan t0).map (fun s => (s.trace.size, s.events.size, s.procs.length)) =
    some (12, 11, 2) := by decide +kernel

end SplitSimDemo

end
