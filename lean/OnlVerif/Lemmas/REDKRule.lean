import OnlVerif.Lemmas.REDKInit
/-!
# Generator → REDPort → sink on the kernel model: RED's rule read off a configuration step
-/

namespace REDK
open REDOnK QEntry

variable {c : Cfg ℚ} {sizes0 : List Nat}

/-- a configuration step is either no arrival (counters, average and draw log untouched) or exactly one arrival decided by
`redDrop` on the new average and the attached draw -/
theorem astep_rule {a a' : A} {q : QEntry ℚ} {new : List (View ℚ)} (hs : AStep c sizes0 a q a' new) :
    (a'.recv = a.recv ∧ a'.avg = a.avg ∧ a'.dropped = a.dropped ∧ usV new = []) ∨
    (∃ n z gaps sizes us, a.src = .wait n z gaps sizes us q ∧ a.pend = none ∧ a'.recv = a.recv + 1 ∧
      a'.avg = avgNew c a ∧ usV new = [uAtt c (avgNew c a) us] ∧ (needsDraw c (avgNew c a) = true → us ≠ []) ∧
      ((∃ n' z' g' s' q', a'.src = .wait n' z' g' s' (usAfter c (avgNew c a) us) q') ∨ ∃ q', a'.src = .ending q') ∧
      ((dropQ c (avgNew c a) (uAtt c (avgNew c a) us) = true ∧ a'.dropped = a.dropped + 1 ∧ a'.items = a.items) ∨
       (dropQ c (avgNew c a) (uAtt c (avgNew c a) us) = false ∧ a'.dropped = a.dropped ∧
         a'.items = a.items ++ [(n : Int) + 1]))) := by
  cases hs with
  | srcAccEnd u q' n z gaps sizes us h hn hd hacc hnx hu ht =>
    exact .inr ⟨n, z, gaps, sizes, us, h, hn, rfl, rfl, rfl, hd, Or.inr ⟨q', rfl⟩, Or.inr ⟨hacc, rfl, rfl⟩⟩
  | srcAccWait u q' n z gaps sizes us gap z' gaps' sizes' h hn hd hacc hnx hu ht ho =>
    exact .inr ⟨n, z, gaps, sizes, us, h, hn, rfl, rfl, rfl, hd, Or.inl ⟨_, _, _, _, _, rfl⟩, Or.inr ⟨hacc, rfl, rfl⟩⟩
  | srcDropEnd q' n z gaps sizes us h hn hd hdrop hnx ht =>
    exact .inr ⟨n, z, gaps, sizes, us, h, hn, rfl, rfl, rfl, hd, Or.inr ⟨q', rfl⟩, Or.inl ⟨hdrop, rfl, rfl⟩⟩
  | srcDropWait q' n z gaps sizes us gap z' gaps' sizes' h hn hd hdrop hnx ht =>
    exact .inr ⟨n, z, gaps, sizes, us, h, hn, rfl, rfl, rfl, hd, Or.inl ⟨_, _, _, _, _, rfl⟩, Or.inl ⟨hdrop, rfl, rfl⟩⟩
  | _ => exact .inl ⟨rfl, rfl, rfl, rfl⟩

/-- when is `random.uniform` called -/
theorem needsDraw_false_iff (avg : ℚ) :
    needsDraw c avg = false ↔ ((Num.ofNat c.qlimit : ℚ) ≤ avg ∨ (avg < c.maxTh ∧ avg < c.minTh)) := by
  unfold needsDraw
  by_cases h1 : (Num.ofNat c.qlimit : ℚ) ≤ avg
  · simp [h1]
  · by_cases h2 : c.maxTh ≤ avg
    · simp [h1, h2, not_lt.mpr h2]
    · by_cases h3 : c.minTh ≤ avg
      · simp [h1, h2, h3, not_lt.mpr h3]
      · simp [h1, h2, h3, not_le.mp h2, not_le.mp h3]

/-- the draws left, read off a kernel state whose generator sleeps before an arrival -/
theorem drawsLeft_wait {s : KS} {a : A} (hk : KInv s a) {n z : Nat} {gaps : List ℚ} {sizes : List Nat} {us : List ℚ}
    {q : QEntry ℚ} (h : a.src = .wait n z gaps sizes us q) : drawsLeft s = us := by
  have hs := hk.src
  rw [h] at hs
  simp [drawsLeft, genProc, hs.2.1]

theorem triggered_ending {s : KS} {a : A} (hk : KInv s a) {q : QEntry ℚ} (h : a.src = .ending q) :
    s.triggered genProc = true := by
  have hs := hk.src
  rw [h] at hs
  simp [KState.triggered, genProc, hs.2.2.2]

end REDK
