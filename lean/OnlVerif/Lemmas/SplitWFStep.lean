import OnlVerif.Lemmas.SplitWFOps
section
/-!
# Well-scopedness is kept by `_resume`, interrupt delivery, the callback loop, a step, whole runs (C03, stage 3)

Under the run-level domain hypothesis `ScopedStep` / `ScopedRun` ("every id the program names exists").  Also: the empty
environment is well-scoped, and outside spawns and the set-ups of `run(until=…)` keep well-scopedness.

Second part: `ScopedProg`, a sufficient condition on the program text for `ScopedRun`.
-/

variable {σ : Type}

namespace SplitWF
variable {I : IdSt σ} {s : KState ℚ σ}

theorem st?_eq_state? (r : StepResult ℚ σ) : r.st? = r.state? := by cases r <;> rfl

theorem proc?_mem (s : KState ℚ σ) (p : EvId) (pr : ProcRec σ) (h : s.proc? p = some pr) : ∃ x ∈ s.procs, x.2 = pr := by
  unfold KState.proc? at h
  cases hf : s.procs.find? (·.1 == p) with
  | none => rw [hf] at h; cases h
  | some x =>
    rw [hf] at h
    simp only [Option.map_some, Option.some.injEq] at h
    exact ⟨x, List.mem_of_find?_eq_some hf, h⟩

theorem SB.proc_st {n : Nat} (h : SB I n s) (p : EvId) (pr : ProcRec σ) (hp : s.proc? p = some pr) : I.below n pr.st := by
  obtain ⟨x, hx, rfl⟩ := proc?_mem s p pr hp
  exact (h.procs x hx).2.2

theorem ws_deliverSt (h : WS I s) (p e : EvId) (hp : p < s.events.size) : WS I (deliverSt s p e) := by
  unfold deliverSt
  have ha : SB I s.events.size ({ s with active := some p } : KState ℚ σ) :=
    SB.withActive h _ (fun q hq => by simp only [Option.some.injEq] at hq; subst hq; exact hp)
  split
  · exact WS.of_le (ha.defuse e) (Grow.setEv _ _ _).2
  · exact ha

theorem resumeArg_below (h : WS I s) (p e : EvId) : resumeBelow s.events.size (resumeArg s p e) := by
  unfold resumeArg
  cases ho : (s.ev e).out with
  | none => trivial
  | some o =>
    have := h.out_below e o ho
    cases o with
    | ok v =>
      simp only
      split
      · trivial
      · exact this
    | fail x => exact this

theorem ws_finishProc (h : WS I s) (p : EvId) (pr : ProcRec σ) (o : Outcome) (hp : p < s.events.size)
    (ho : outBelow s.events.size o) (hst : I.below s.events.size pr.st) : WS I (finishProc s p pr o) := by
  unfold finishProc
  simp only
  exact WS.of_le (SB.withActive (((SB.trigger h p o hp ho).emit (Obs.ended p o s.now) ⟨hp, ho⟩).setProc p
    { pr with target := none } hp (fun t ht => by simp at ht) hst) none (fun q hq => by cases hq))
    (Grow.krel.finishProc s p pr o).2

theorem ws_register (h : WS I s) (p e' : EvId) (s' : KState ℚ σ) (hp : p < s.events.size) (hr : register s p e' = some s') :
    WS I s' := by
  unfold register at hr
  split at hr
  · cases hr
  · cases hr
    exact WS.of_le (SB.withActive (SB.addCb h e' (Cb.resume p) hp) none (fun q hq => by cases hq)) (Grow.setEv _ _ _).2

/-- the domain hypothesis as the parameter of the mirror predicates -/
abbrev scopedP (I : IdSt σ) (body : σ → Resume → Burst ℚ σ) : EvId → σ → Resume → KState ℚ σ → Prop :=
  fun p st r s => ScopedBurst I p (body st r) s

theorem ws_openEvent (h : WS I s) (q : QEntry ℚ) (rest : List (QEntry ℚ)) (hq : popMin s.agenda = some (q, rest)) :
    WS I (openEvent s q rest) := by
  have hsub := popMin_sublist _ _ _ hq
  have h1 : SB I s.events.size (s.setEv q.ev { s.ev q.ev with cbs := none }) :=
    SB.setEv h q.ev _ ⟨(h.events q.ev).kind, fun l hl => (by cases hl), (h.events q.ev).out, (h.events q.ev).req⟩
  exact WS.of_le (n := s.events.size) ⟨h1.events, fun x hx => h.agenda x (hsub.subset hx), h.procs, h.active, h.trace,
    h.shared, h.resources⟩ (SplitCfg.grow_openEvent s q rest).1

/-! One walk of `_resume`, interrupt delivery, the callback loop and a step serves the run-level hypothesis and the static
one: the mirror predicates are taken at any parameter `Q` from which, in a well-scoped state, the domain hypothesis of the
burst follows (`H`).  `Q := scopedP I body` gives `ws_step`; `Q := True` under `ScopedProg` gives `ScopedProg.step`. -/

section walk
variable {body : σ → Resume → Burst ℚ σ} {Q : EvId → σ → Resume → KState ℚ σ → Prop}
  (H : ∀ p st r s, WS I s → p < s.events.size → I.below s.events.size st → resumeBelow s.events.size r → Q p st r s →
    ScopedBurst I p (body st r) s)
include H

theorem scoped_resume (p : EvId) : ∀ (fuel : Nat) (e : EvId) (s : KState ℚ σ), WS I s → p < s.events.size →
    ResumeAll Q body p fuel e s → ResumeAll (scopedP I body) body p fuel e s ∧ WS I (resume body p fuel e s)
  | 0, _, _, h, _, _ => ⟨trivial, h⟩
  | fuel + 1, e, s, h, hp, hR => by
    unfold resume
    unfold ResumeAll at hR ⊢
    cases hpr : s.proc? p with
    | none => exact ⟨trivial, h⟩
    | some pr =>
      rw [hpr] at hR
      simp only [deliver] at hR ⊢
      obtain ⟨hq, hrest⟩ := hR
      have hd : WS I (deliverSt s p e) := ws_deliverSt h p e hp
      have hgd : s.events.size ≤ (deliverSt s p e).events.size := (Grow.krel.deliver s p e).2
      have hp1 : p < (deliverSt s p e).events.size := Nat.lt_of_lt_of_le hp hgd
      have hstart : WS I ((deliverSt s p e).emit (.resumed p (resumeArg s p e) (deliverSt s p e).now)) :=
        SB.emit hd _ ⟨hp1, (resumeArg_below h p e).mono hgd⟩
      have hb : ScopedBurst I p (body pr.st (resumeArg s p e))
          ((deliverSt s p e).emit (.resumed p (resumeArg s p e) (deliverSt s p e).now)) :=
        H _ _ _ _ hstart hp1 (I.mono (SB.proc_st h p pr hpr) hgd) ((resumeArg_below h p e).mono hgd) hq
      have hbt := ws_runBurst p (body pr.st (resumeArg s p e)) _ hstart hp1 hb
      have hgb : (deliverSt s p e).events.size ≤ (runBurst p (body pr.st (resumeArg s p e))
          ((deliverSt s p e).emit (.resumed p (resumeArg s p e) (deliverSt s p e).now))).1.events.size :=
        (Grow.krel.runBurst p _ ((deliverSt s p e).emit (.resumed p (resumeArg s p e) (deliverSt s p e).now))).2
      generalize runBurst p (body pr.st (resumeArg s p e))
          ((deliverSt s p e).emit (.resumed p (resumeArg s p e) (deliverSt s p e).now)) = bt at hbt hrest hgb ⊢
      obtain ⟨s1, tm⟩ := bt
      have hp2 : p < s1.events.size := Nat.lt_of_lt_of_le hp1 hgb
      have hst : I.below s1.events.size pr.st := I.mono (SB.proc_st h p pr hpr) (Nat.le_trans hgd hgb)
      cases tm with
      | returned v => exact ⟨⟨hb, trivial⟩, ws_finishProc hbt.1 p pr _ hp2 hbt.2 hst⟩
      | raised x => exact ⟨⟨hb, trivial⟩, ws_finishProc hbt.1 p pr _ hp2 hbt.2 hst⟩
      | yielded e' st' =>
        simp only at hrest ⊢
        have h2 : WS I (s1.setProc p { st := st', target := some e' }) :=
          SB.setProc hbt.1 p _ hp2 (fun t ht => by simp only [Option.some.injEq] at ht; subst ht; exact hbt.2.1) hbt.2.2
        cases hreg : register (s1.setProc p { st := st', target := some e' }) p e' with
        | some s3 => exact ⟨⟨hb, trivial⟩, ws_register h2 p e' s3 hp2 hreg⟩
        | none =>
          rw [hreg] at hrest
          have ih := scoped_resume p fuel e' _ h2 hp2 hrest
          exact ⟨⟨hb, ih.1⟩, ih.2⟩

theorem scoped_intr (fuel : Nat) (iv p : EvId) (s : KState ℚ σ) (h : WS I s) (hp : p < s.events.size)
    (hA : IntrAll Q body fuel iv p s) :
    IntrAll (scopedP I body) body fuel iv p s ∧ WS I (deliverInterrupt body fuel iv p s) := by
  unfold deliverInterrupt
  unfold IntrAll at hA ⊢
  by_cases ht : s.triggered p = true
  · rw [if_pos ht, if_pos ht]
    exact ⟨trivial, h⟩
  · rw [if_neg ht] at hA
    rw [if_neg ht, if_neg ht]
    cases hpr : s.proc? p with
    | none => exact ⟨trivial, h⟩
    | some pr =>
      rw [hpr] at hA
      simp only at hA ⊢
      cases htg : pr.target with
      | none =>
        rw [htg] at hA
        exact scoped_resume H p fuel iv s h hp hA
      | some t =>
        rw [htg] at hA
        exact scoped_resume H p fuel iv _ (WS.of_le (SB.eraseCb h t _) (Grow.setEv _ _ _).2)
          (Nat.lt_of_lt_of_le hp (Grow.setEv _ _ _).2) hA

theorem scoped_cb (fuel : Nat) (e : EvId) (l : LoopSt ℚ σ) (cb : Cb) (h : WS I l.s) (he : e < l.s.events.size)
    (hcb : cbBelow l.s.events.size cb) (hA : CbAll Q body fuel e l.s cb) :
    CbAll (scopedP I body) body fuel e l.s cb ∧ WS I (runCb body fuel e l cb).s := by
  unfold runCb
  cases cb with
  | resume p => exact scoped_resume H p fuel e l.s h hcb hA
  | probe tag =>
    refine ⟨trivial, SB.emit h _ ⟨he, ?_⟩⟩
    cases ho : (l.s.ev e).out with
    | none => trivial
    | some o =>
      have := h.out_below e o ho
      cases o with
      | ok v => exact freezeVal_below l.s _ v this
      | fail x => exact this
  | stop => exact ⟨trivial, h⟩
  | intr iv =>
    simp only [CbAll] at hA ⊢
    cases hk : (l.s.ev iv).kind with
    | intr p =>
      rw [hk] at hA
      have hp : p < l.s.events.size := by
        have := (h.events iv).kind
        rw [hk] at this
        exact this
      exact scoped_intr H fuel iv p l.s h hp hA
    | _ => exact ⟨trivial, h⟩
  | check c => exact ⟨trivial, WS.of_le (sb_condCheck h c e hcb) (Grow.krel.condCheck l.s c e).2⟩
  | build c => exact ⟨trivial, ws_condBuild h c⟩
  | trigPut r => exact ⟨trivial, ws_triggerPut h r⟩
  | trigGet r => exact ⟨trivial, ws_triggerGet h r⟩

theorem scoped_cbs (fuel : Nat) (e : EvId) : ∀ (cbs : List Cb) (l : LoopSt ℚ σ), WS I l.s → e < l.s.events.size →
    (∀ cb ∈ cbs, cbBelow l.s.events.size cb) → CbsAll Q body fuel e cbs l →
    CbsAll (scopedP I body) body fuel e cbs l ∧ WS I (cbs.foldl (runCb body fuel e) l).s
  | [], _, h, _, _, _ => ⟨trivial, h⟩
  | cb :: cbs, l, h, he, hcbs, hA => by
    rw [List.foldl_cons]
    have h1 := scoped_cb H fuel e l cb h he (hcbs cb List.mem_cons_self) hA.1
    have hg : l.s.events.size ≤ (runCb body fuel e l cb).s.events.size := (Grow.krel.runCb body fuel e l cb).2
    have h2 := scoped_cbs fuel e cbs _ h1.2 (Nat.lt_of_lt_of_le he hg)
      (fun c hc => (hcbs c (List.mem_cons_of_mem _ hc)).mono hg) hA.2
    exact ⟨⟨h1.1, h2.1⟩, h2.2⟩

theorem scoped_step (fuel : Nat) (s : KState ℚ σ) (h : WS I s) (hS : StepAll Q body fuel s) :
    ScopedStep I body fuel s ∧ ∀ s', (step body fuel s).state? = some s' → WS I s' := by
  unfold ScopedStep
  unfold StepAll at hS ⊢
  unfold step
  cases hq : popMin s.agenda with
  | none => exact ⟨trivial, fun s' hs => by cases hs⟩
  | some qr =>
    obtain ⟨q, rest⟩ := qr
    rw [hq] at hS
    simp only at hS ⊢
    have ho := ws_openEvent h q rest hq
    cases hc : (s.ev q.ev).cbs with
    | none => exact ⟨trivial, fun s' hs => by cases hs; exact ho⟩
    | some cbs =>
      rw [hc] at hS
      simp only at hS ⊢
      have hqm : q ∈ s.agenda := (popMin_spec _ _ _ hq).1.symm.subset List.mem_cons_self
      have hge : s.events.size ≤ (openEvent s q rest).events.size := (SplitCfg.grow_openEvent s q rest).1
      have hl := scoped_cbs H fuel q.ev cbs { s := openEvent s q rest } ho (Nat.lt_of_lt_of_le (h.agenda q hqm) hge)
        (fun cb hcb => ((h.events q.ev).cbs cbs hc cb hcb).mono hge) hS
      refine ⟨hl.1, fun s' hs => ?_⟩
      rw [closeEvent_state] at hs
      cases hs
      exact hl.2

end walk

theorem ws_runCb (body : σ → Resume → Burst ℚ σ) (fuel : Nat) (e : EvId) (l : LoopSt ℚ σ) (cb : Cb) (h : WS I l.s)
    (he : e < l.s.events.size) (hcb : cbBelow l.s.events.size cb) (hA : CbAll (scopedP I body) body fuel e l.s cb) :
    WS I (runCb body fuel e l cb).s :=
  (scoped_cb (fun _ _ _ _ _ _ _ _ hq => hq) fuel e l cb h he hcb hA).2

theorem ws_step (body : σ → Resume → Burst ℚ σ) (fuel : Nat) (s s' : KState ℚ σ) (h : WS I s)
    (hS : ScopedStep I body fuel s) (hs : (step body fuel s).state? = some s') : WS I s' :=
  (scoped_step (fun _ _ _ _ _ _ _ _ hq => hq) fuel s h hS).2 s' hs

theorem ws_reach (body : σ → Resume → Burst ℚ σ) (fuel : Nat) (s0 s : KState ℚ σ) (h0 : WS I s0)
    (hS : ScopedRun I body fuel s0) (hr : KReach body fuel s0 s) : WS I s := by
  induction hr with
  | init => exact h0
  | step hr' hs ih => exact ws_step body fuel _ _ ih (hS _ hr') hs

theorem kreach_trans {body : σ → Resume → Burst ℚ σ} {fuel : Nat} {s0 s1 s2 : KState ℚ σ}
    (h1 : KReach body fuel s0 s1) (h2 : KReach body fuel s1 s2) : KReach body fuel s0 s2 := by
  induction h2 with
  | init => exact h1
  | step _ hs ih => exact KReach.step ih hs

theorem ScopedRun.tail {body : σ → Resume → Burst ℚ σ} {fuel : Nat} {s0 s : KState ℚ σ} (hS : ScopedRun I body fuel s0)
    (hr : KReach body fuel s0 s) : ScopedRun I body fuel s :=
  fun s' hr' => hS s' (kreach_trans hr hr')

theorem ws_init (t0 : ℚ) (rs : Array ResRec)
    (hrs : ∀ r, (rs.getD r default).putQ = [] ∧ (rs.getD r default).getQ = [] ∧ (rs.getD r default).users = []) :
    WS I ({ now := t0, resources := rs } : KState ℚ σ) := by
  refine ⟨fun i => ?_, fun q hq => (by cases hq), fun pr hpr => (by cases hpr), fun p hp => (by cases hp),
    fun o ho => (by simp at ho), fun kv hkv => (by cases hkv), fun r => ?_⟩
  · have : ({ now := t0, resources := rs } : KState ℚ σ).ev i = default := by simp [KState.ev]
    rw [this]
    exact recBelow_default _ _
  · show resBelow _ (rs.getD r default)
    obtain ⟨h1, h2, h3⟩ := hrs r
    exact ⟨(by rw [h1]; intro e he; cases he), (by rw [h2]; intro e he; cases he), (by rw [h3]; intro e he; cases he)⟩

/-- starting a process from outside (`env.process(...)` in the main program) -/
theorem ws_spawn (h : WS I s) (self : EvId) (st : σ) (hst : I.below s.events.size st) : WS I (doCall s self (.spawn st)).1 :=
  (ws_doCall h self (.spawn st) (fun _ _ hc => by cases hc) hst).1

/-- `run(until=event)` subscribes `StopSimulation.callback` -/
theorem ws_until_event (h : WS I s) (e : EvId) : WS I (s.addCb e .stop) :=
  WS.of_le (SB.addCb h e .stop trivial) (Grow.setEv s e _).2

/-- `run(until=number)`: the sentinel record, its agenda entry, its stop callback -/
theorem ws_until_time (h : WS I s) (t : ℚ) : WS I (SplitCfg.plant t s) := by
  unfold SplitCfg.plant
  have h1 : SB I (s.events.size + 1) s := SB.mono h (Nat.le_succ _)
  refine WS.of_le (((h1.newEv _ ?_).scheduleAt _ _ _ (Nat.lt_succ_self _)).addCb _ _ trivial) ?_
  · exact recBelow_mk trivial (fun _ h => nomatch h) (fun _ hx => Option.some.inj hx ▸ trivial) (fun _ h => nomatch h)
  · exact Nat.le_trans (Nat.le_of_eq (size_newEv s _).symm) (Grow.setEv _ _ _).2

end SplitWF

end

section
/-!
# A sufficient condition on the program text for the domain hypothesis `ScopedRun` (C03, stage 3)

`ScopedProg I body`: whatever bound `n` the ids in its local state and in what it is resumed with obey, the program names
only ids below `n` or ids it has been handed by an API reply since.  Every such program satisfies `ScopedStep` in every
well-scoped state, hence `ScopedRun` from every well-scoped state (`ScopedProg.run`).
-/

variable {σ : Type}

namespace SplitWF
variable {I : IdSt σ}

inductive BurstScoped (I : IdSt σ) : Nat → Burst ℚ σ → Prop
  | call (n : Nat) (c : Call ℚ σ) (k : Reply → Burst ℚ σ) : callBelow I n c →
      (∀ m r, n ≤ m → replyBelow m r → BurstScoped I m (k r)) → BurstScoped I n (.call c k)
  | yield (n : Nat) (e : EvId) (st : σ) : e < n → I.below n st → BurstScoped I n (.yield e st)
  | ret (n : Nat) (v : Val) : valBelow n v → BurstScoped I n (.ret v)
  | raise (n : Nat) (x : Exc) : excBelow n x → BurstScoped I n (.raise x)

def ScopedProg (I : IdSt σ) (body : σ → Resume → Burst ℚ σ) : Prop :=
  ∀ n st r, I.below n st → resumeBelow n r → BurstScoped I n (body st r)

theorem BurstScoped.mono {n m : Nat} {b : Burst ℚ σ} (h : BurstScoped I n b) (hnm : n ≤ m) : BurstScoped I m b := by
  induction h generalizing m with
  | call n c k hc _ ih =>
    refine BurstScoped.call m c k ?_ (fun m' r hm' hr => ih m' r (Nat.le_trans hnm hm') hr (Nat.le_refl _))
    cases c <;> simp only [callBelow] at hc ⊢
    case timeout d v => exact hc.mono hnm
    case succeed e v => exact ⟨Nat.lt_of_lt_of_le hc.1 hnm, hc.2.mono hnm⟩
    case fail e x => exact ⟨Nat.lt_of_lt_of_le hc.1 hnm, hc.2.mono hnm⟩
    case spawn st => exact I.mono hc hnm
    case interrupt p cause => exact hc.mono hnm
    case cond all ops => exact fun o ho => Nat.lt_of_lt_of_le (hc o ho) hnm
    case release r req => exact Nat.lt_of_lt_of_le hc hnm
    case log w v => exact hc.mono hnm
    case store k v => exact hc.mono hnm
  | yield n e st he hst => exact BurstScoped.yield m e st (Nat.lt_of_lt_of_le he hnm) (I.mono hst hnm)
  | ret n v hv => exact BurstScoped.ret m v (hv.mono hnm)
  | raise n x hx => exact BurstScoped.raise m x (hx.mono hnm)

theorem scopedBurst_of_static (self : EvId) (b : Burst ℚ σ) : ∀ (s : KState ℚ σ), WS I s → self < s.events.size →
    BurstScoped I s.events.size b → ScopedBurst I self b s := by
  induction b with
  | call c k ih =>
    intro s h hself hb
    cases hb with
    | call _ _ _ hc hk =>
      refine ⟨hc, ?_⟩
      have hd := ws_doCall h self c (fun _ _ _ => hself) hc
      have hg : s.events.size ≤ (doCall s self c).1.events.size := (Grow.krel.doCall s self c).2
      have hsz := size_noteErr self (doCall s self c)
      refine ih _ _ (ws_noteErr self _ hd.1 (Nat.lt_of_lt_of_le hself hg) hd.2) ?_ ?_
      · rw [hsz]; exact Nat.lt_of_lt_of_le hself hg
      · rw [hsz]; exact hk _ _ hg hd.2
  | yield e st =>
    intro s _ _ hb
    cases hb with
    | yield _ _ _ he hst => exact ⟨he, hst⟩
  | ret v =>
    intro s _ _ hb
    cases hb with
    | ret _ _ hv => exact hv
  | raise x =>
    intro s _ _ hb
    cases hb with
    | raise _ _ hx => exact hx

section prog
variable {body : σ → Resume → Burst ℚ σ} (hP : ScopedProg I body)
include hP

theorem ScopedProg.burst (p : EvId) (st : σ) (r : Resume) (s : KState ℚ σ) (h : WS I s) (hp : p < s.events.size)
    (hst : I.below s.events.size st) (hr : resumeBelow s.events.size r) : ScopedBurst I p (body st r) s :=
  scopedBurst_of_static p _ s h hp (hP _ st r hst hr)

theorem ScopedProg.resume (p : EvId) : ∀ (fuel : Nat) (e : EvId) (s : KState ℚ σ), WS I s → p < s.events.size →
    ResumeAll (scopedP I body) body p fuel e s :=
  fun fuel e s h hp => (scoped_resume (fun p st r s h hp hst hr _ => ScopedProg.burst hP p st r s h hp hst hr) p fuel e s h hp
    (ResumeAll.of_forall (fun _ _ _ _ => trivial) body p fuel e s)).1

theorem ScopedProg.step (fuel : Nat) (s : KState ℚ σ) (h : WS I s) : ScopedStep I body fuel s :=
  (scoped_step (fun p st r s h hp hst hr _ => ScopedProg.burst hP p st r s h hp hst hr) fuel s h
    (StepAll.of_forall (fun _ _ _ _ => trivial) body fuel s)).1

theorem ScopedProg.run (fuel : Nat) (s0 : KState ℚ σ) (h0 : WS I s0) : ScopedRun I body fuel s0 := by
  intro s hr
  have : WS I s := by
    induction hr with
    | init => exact h0
    | step _ hs ih => exact ws_step body fuel _ _ ih (ScopedProg.step hP fuel _ ih) hs
  exact ScopedProg.step hP fuel s this

end prog

end SplitWF

end
