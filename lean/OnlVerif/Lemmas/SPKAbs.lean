import OnlVerif.Lemmas.SPKStepRun
/-!
# The SP scheduler on the kernel model: configuration steps (no kernel terms here)

`AStep n e a q a' new`: processing the agenda entry `q` in a kernel state with `n` events and entry counter `e` takes the
configuration `a` to `a'` and appends `new` to the put / serve / out history.  The clock can advance to the next entry
without changing anything else (`AInv.advance`).
-/

namespace SPK
open SPOnK QEntry

variable (F : Nat) (flow size : Int → Nat) (cfg : SP.Cfg ℚ)

inductive AStep (n e : Nat) : A → QEntry ℚ → A → List (HEv ℚ) → Prop
  | runInit (a : A) (q : QEntry ℚ) (h : a.run = .init q) : AStep n e a q { a with run := .W n } []
  | wakeHit (a : A) (q : QEntry ℚ) (g : EvId) (i f : Nat) (id : Int) (is : List Int) (h : a.run = .K g q)
      (hs : a.scan (SP.table cfg) = some (i, f)) (hf : f < F) (hit : a.items f = id :: is) :
      AStep n e a q { a with run := .H n i id ⟨q.time, NORMAL, e, n⟩, items := upd a.items f is } []
  | wakeBlock (a : A) (q : QEntry ℚ) (g : EvId) (h : a.run = .K g q) (hs : a.scan (SP.table cfg) = none) (htk : a.tokens = 0) :
      AStep n e a q { a with run := .W n } []
  | wakeTok (a : A) (q : QEntry ℚ) (g : EvId) (t : Nat) (h : a.run = .K g q) (hs : a.scan (SP.table cfg) = none)
      (htk : a.tokens = t + 1) :
      AStep n e a q { a with run := .K n ⟨q.time, NORMAL, e, n⟩, tokens := t } []
  | pktResume (a : A) (q : QEntry ℚ) (g : EvId) (i : Nat) (id : Int) (h : a.run = .H g i id q) :
      AStep n e a q { a with run := .S n id ⟨q.time, URGENT, e, n + 1⟩ } [.serve id q.time]
  | sendInit (a : A) (q : QEntry ℚ) (p : EvId) (id : Int) (h : a.run = .S p id q) :
      AStep n e a q { a with run := .T p n id ⟨q.time + txTime size cfg.rate id, NORMAL, e, n⟩, cur := some id } []
  | sendFire (a : A) (q : QEntry ℚ) (p t : EvId) (id : Int) (h : a.run = .T p t id q) :
      AStep n e a q { a with run := .F p id ⟨q.time, NORMAL, e, p⟩, cnt := upd a.cnt (flow id) (a.cnt (flow id) + -1),
                             byt := upd a.byt (flow id) (a.byt (flow id) + -(size id : Int)), cur := none } [.out id q.time]
  | doneHit (a : A) (q : QEntry ℚ) (p : EvId) (id0 : Int) (i f : Nat) (id : Int) (is : List Int) (h : a.run = .F p id0 q)
      (htot : a.total F ≠ 0) (hs : a.scan (SP.table cfg) = some (i, f)) (hf : f < F) (hit : a.items f = id :: is) :
      AStep n e a q { a with run := .H n i id ⟨q.time, NORMAL, e, n⟩, items := upd a.items f is } []
  | doneBlock (a : A) (q : QEntry ℚ) (p : EvId) (id0 : Int) (h : a.run = .F p id0 q) (htot : a.total F = 0) (htk : a.tokens = 0) :
      AStep n e a q { a with run := .W n } []
  | doneTok (a : A) (q : QEntry ℚ) (p : EvId) (id0 : Int) (t : Nat) (h : a.run = .F p id0 q) (htot : a.total F = 0)
      (htk : a.tokens = t + 1) :
      AStep n e a q { a with run := .K n ⟨q.time, NORMAL, e, n⟩, tokens := t } []
  | srcInit (a : A) (q : QEntry ℚ) (arr : List (ℚ × Int)) (h : a.src = .init q arr) :
      AStep n e a q { a with src := srcNext q.time e n arr } []
  | srcPutTok (a : A) (q : QEntry ℚ) (id : Int) (arr : List (ℚ × Int)) (h : a.src = .wait id arr q) (htot : a.total F = 0) :
      AStep n e a q { a with
        src := srcNext q.time (e + 1 + 1) (n + 1 + 1) arr
        pend := a.pend ++ [(⟨q.time, NORMAL, e, n⟩, 0), (⟨q.time, NORMAL, e + 1, n + 1⟩, flowStore (flow id))]
        tokens := a.tokens + 1
        items := upd a.items (flow id) (a.items (flow id) ++ [id])
        cnt := upd a.cnt (flow id) (a.cnt (flow id) + 1)
        byt := upd a.byt (flow id) (a.byt (flow id) + (size id : Int))
        recv := a.recv + 1
        keys := addKey a.keys (flow id) } [.put id q.time]
  | srcPutPlain (a : A) (q : QEntry ℚ) (id : Int) (arr : List (ℚ × Int)) (h : a.src = .wait id arr q) (htot : a.total F ≠ 0) :
      AStep n e a q { a with
        src := srcNext q.time (e + 1) (n + 1) arr
        pend := a.pend ++ [(⟨q.time, NORMAL, e, n⟩, flowStore (flow id))]
        items := upd a.items (flow id) (a.items (flow id) ++ [id])
        cnt := upd a.cnt (flow id) (a.cnt (flow id) + 1)
        byt := upd a.byt (flow id) (a.byt (flow id) + (size id : Int))
        recv := a.recv + 1
        keys := addKey a.keys (flow id) } [.put id q.time]
  | srcEnd (a : A) (q : QEntry ℚ) (h : a.src = .ending q) : AStep n e a q { a with src := .done } []
  | pendNoop (a : A) (q : QEntry ℚ) (r : ResId) (l1 l2 : List (QEntry ℚ × ResId)) (hpe : a.pend = l1 ++ (q, r) :: l2)
      (hno : ¬ (r = 0 ∧ a.tokens ≠ 0 ∧ ∃ g, a.run = .W g)) :
      AStep n e a q { a with pend := l1 ++ l2 } []
  | pendHand (a : A) (q : QEntry ℚ) (g : EvId) (t : Nat) (l1 l2 : List (QEntry ℚ × ResId)) (hpe : a.pend = l1 ++ (q, 0) :: l2)
      (h : a.run = .W g) (htk : a.tokens = t + 1) :
      AStep n e a q { a with pend := l1 ++ l2, run := .K g ⟨q.time, NORMAL, e, g⟩, tokens := t } []

variable {F flow size cfg}

theorem mem_run {a : A} {x : QEntry ℚ} (h : x ∈ a.run.entries) : x ∈ a.entries := by
  simp [A.entries, h]

theorem mem_src {a : A} {x : QEntry ℚ} (h : x ∈ a.src.entries) : x ∈ a.entries := by
  simp [A.entries, h]

theorem mem_pend {a : A} {u : QEntry ℚ × ResId} (h : u ∈ a.pend) : u.1 ∈ a.entries := by
  simp only [A.entries, List.mem_append, pendEntries, List.mem_map]
  exact Or.inr (Or.inr ⟨u, h, rfl⟩)

theorem entries_nil {a : A} (h : a.entries = []) : (∃ g, a.run = .W g) ∧ a.src = .done ∧ a.pend = [] := by
  simp only [A.entries, List.append_eq_nil_iff, pendEntries, List.map_eq_nil_iff] at h
  obtain ⟨hro, hsr, hpe⟩ := h
  refine ⟨?_, ?_, hpe⟩
  · cases hr : a.run with
    | W g => exact ⟨g, rfl⟩
    | _ => simp [hr, RPhase.entries] at hro
  · cases hs : a.src with
    | done => rfl
    | _ => simp [hs, SPhase.entries] at hsr

def IsMin (a : A) (q : QEntry ℚ) : Prop := q ∈ a.entries ∧ ∀ x ∈ a.entries, ¬ KeyLt x q

variable {a : A} {now : ℚ} {q : QEntry ℚ}

theorem AInv.now_le (hi : AInv flow F cfg a now) (hq : IsMin a q) : now ≤ q.time := hi.due q hq.1

theorem AInv.quiet (hi : AInv flow F cfg a now) (hq : IsMin a q) (h : now < q.time) :
    ((∃ g, a.run = .W g) ∧ a.tokens = 0 ∨ ∃ p t id q0, a.run = .T p t id q0) ∧
    ((∃ id rest q0, a.src = .wait id rest q0) ∨ a.src = .done) ∧ a.pend = [] := by
  have hne : ∀ x ∈ a.entries, x.time ≠ now := min_ne_now hi.due hq h
  have hpe : a.pend = [] := List.eq_nil_iff_forall_not_mem.mpr fun u hu => hne u.1 (mem_pend hu) (hi.pend u hu).1
  refine ⟨?_, ?_, hpe⟩
  · have hp := hi.run
    cases hr : a.run <;> rw [hr] at hp
    case W g =>
      refine Or.inl ⟨⟨g, rfl⟩, ?_⟩
      by_contra hc
      obtain ⟨u, hu⟩ := hp.2.1 hc
      rw [hpe] at hu; cases hu
    case T p t id q0 => exact Or.inr ⟨_, _, _, _, rfl⟩
    all_goals exact absurd hp.1 (hne _ (mem_run (by simp [hr, RPhase.entries])))
  · have hs := hi.src
    cases hsrc : a.src <;> rw [hsrc] at hs
    case wait id rest q0 => exact Or.inl ⟨_, _, _, rfl⟩
    case done => exact Or.inr rfl
    all_goals exact absurd hs.1 (hne _ (mem_src (by simp [hsrc, SPhase.entries])))

theorem AInv.advance (hi : AInv flow F cfg a now) (hq : IsMin a q) : AInv flow F cfg a q.time := by
  rcases eq_or_lt_of_le (hi.now_le hq) with h | h
  · rw [← h]; exact hi
  obtain ⟨hrun, hsrc, hpe⟩ := hi.quiet hq h
  refine ⟨?_, ?_, (fun u hu => by rw [hpe] at hu; cases hu), fun x hx => not_keyLt_time (hq.2 x hx), hi.cntOK, hi.flowOK, hi.prioOK, hi.keysOK, hi.table, hi.rate⟩
  · have hp := hi.run
    rcases hrun with ⟨⟨g, hr⟩, -⟩ | ⟨p, t, id, q0, hr⟩ <;> (rw [hr] at hp ⊢; exact hp)
  · have hs := hi.src
    rcases hsrc with ⟨id, rest, q0, hr⟩ | hr <;> (rw [hr] at hs ⊢; exact hs)

end SPK
