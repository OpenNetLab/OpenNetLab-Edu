import OnlVerif.Lemmas.VCKDefs
/-!
# The integer code of a rational stamp preserves the order on the grid `ℤ / scale`

At `ℚ`, `StampCode.code scale x = ⌊x · scale⌋`; for `x = k / scale` this is `k`, so on the grid the code is injective and
monotone, and the integers `stampItem scale N x i` (`0 ≤ i < N`) are ordered lexicographically by `(x, i)`.
-/

namespace VCK

variable {N scale : Nat}

theorem code_grid (hs : 0 < scale) (k : ℤ) : StampCode.code scale ((k : ℚ) / (scale : ℚ)) = k := by
  have hne : (scale : ℚ) ≠ 0 := by exact_mod_cast (Nat.pos_iff_ne_zero.mp hs)
  show ((k : ℚ) / (scale : ℚ) * (scale : ℚ)).floor = k
  rw [div_mul_cancel₀ _ hne]
  exact Rat.floor_intCast k

/-- a grid point is its code over `scale` -/
theorem OnGrid.eq_code {x : ℚ} (hs : 0 < scale) (hx : OnGrid scale x) :
    x = ((StampCode.code scale x : ℤ) : ℚ) / (scale : ℚ) := by
  obtain ⟨k, rfl⟩ := hx
  rw [code_grid hs]

theorem code_lt_iff {x y : ℚ} (hs : 0 < scale) (hx : OnGrid scale x) (hy : OnGrid scale y) :
    x < y ↔ StampCode.code scale x < StampCode.code scale y := by
  obtain ⟨k, rfl⟩ := hx
  obtain ⟨l, rfl⟩ := hy
  have hpos : (0 : ℚ) < (scale : ℚ) := by exact_mod_cast hs
  rw [code_grid hs, code_grid hs, div_lt_div_iff_of_pos_right hpos]
  exact Int.cast_lt

theorem code_le_iff {x y : ℚ} (hs : 0 < scale) (hx : OnGrid scale x) (hy : OnGrid scale y) :
    x ≤ y ↔ StampCode.code scale x ≤ StampCode.code scale y := by
  rw [← not_lt, ← not_lt, code_lt_iff hs hy hx]

theorem code_eq_iff {x y : ℚ} (hs : 0 < scale) (hx : OnGrid scale x) (hy : OnGrid scale y) :
    x = y ↔ StampCode.code scale x = StampCode.code scale y := by
  constructor
  · intro h; rw [h]
  · intro h
    rw [hx.eq_code hs, hy.eq_code hs, h]

/-- `c * N + i` with `0 ≤ i < N` is ordered lexicographically -/
theorem lex_of_le {c d i j : ℤ} (hi0 : 0 ≤ i) (hj0 : 0 ≤ j) (hjN : j < N)
    (h : c * (N : ℤ) + i ≤ d * (N : ℤ) + j) : c ≤ d ∧ (c = d → i ≤ j) := by
  constructor
  · by_contra hc
    have hc' : d + 1 ≤ c := by omega
    have : (d + 1) * (N : ℤ) ≤ c * (N : ℤ) := Int.mul_le_mul_of_nonneg_right hc' (by omega)
    have h2 : (d + 1) * (N : ℤ) = d * (N : ℤ) + (N : ℤ) := by ring
    omega
  · intro hcd
    subst hcd
    omega

/-- the integers carried by the `PriorityStore` are ordered by `(stamp, packet number)` -/
theorem stampItem_le {x y : ℚ} {i j : ℤ} (hs : 0 < scale) (hx : OnGrid scale x) (hy : OnGrid scale y)
    (hi0 : 0 ≤ i) (hj0 : 0 ≤ j) (hjN : j < N)
    (h : stampItem scale N x i ≤ stampItem scale N y j) : x ≤ y ∧ (x = y → i ≤ j) := by
  obtain ⟨h1, h2⟩ := lex_of_le hi0 hj0 hjN h
  exact ⟨(code_le_iff hs hx hy).mpr h1, fun hxy => h2 ((code_eq_iff hs hx hy).mp hxy)⟩

theorem itemPkt_stampItem {x : ℚ} {i : ℤ} (hi0 : 0 ≤ i) (hiN : i < N) : itemPkt N (stampItem scale N x i) = i := by
  unfold itemPkt stampItem
  rw [Int.add_comm, Int.add_mul_emod_self_right]
  exact Int.emod_eq_of_lt hi0 hiN

end VCK
