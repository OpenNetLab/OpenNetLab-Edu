import OnlVerif.Lemmas.GenKernelDefs
import OnlVerif.Lemmas.KAccess
import OnlVerif.Generated.KernelProc04
/-!
# Bridge lemmas (C04): generated `Initialize.__init__` / `Interruption.__init__` (`Generated/KernelProc04.lean`) = `spawn` / `mkInterrupt`
of model `K`
-/

namespace GenKernel
variable {τ σ : Type} [Num τ]

/-! ## `Initialize.__init__` (`Process.__init__`) -/

theorem spawn_call (s : KState τ σ) (self : EvId) (st : σ) :
    doCall s self (.spawn st) =
      (match buildEvent (fun _ => Cb.resume s.events.size) (Gen.Initialize.init (evObj (τ := τ))).eff {} with
       | some o =>
         let p := s.events.size
         let s1 := (s.newLabelled { kind := .proc, cbs := some [], out := none }).1
         let s2 := s1.setProc p { st, target := some (p + 1) }
         (schedAll (s2.newEv (o.toRec (.init p) .none default)).1 (p + 1) (schedOf (Gen.Initialize.init (evObj (τ := τ))).eff), .ev p)
       | none => (s, .unit)) := rfl

/-! ## `Interruption.__init__` (`Process.interrupt`) -/

theorem interrupt_init (s : KState τ σ) (p : EvId) (cause : Val) :
    mkInterrupt s p cause =
      (if (Gen.Interruption.init (evObj (τ := τ)) (s.triggered p) (s.active == some p)).raised = 5 then
         (s, some (if (Gen.Interruption.init (evObj (τ := τ)) (s.triggered p) (s.active == some p)).raise_site = 1
                   then runtimeErr "terminated" else runtimeErr "self"))
       else match buildEvent (fun _ => Cb.intr s.events.size)
           (Gen.Interruption.init (evObj (τ := τ)) (s.triggered p) (s.active == some p)).eff {} with
         | some o =>
           (schedAll (s.newEv (o.toRec (.intr p) .none ⟨"Interrupt", [cause]⟩)).1 s.events.size
              (schedOf (Gen.Interruption.init (evObj (τ := τ)) (s.triggered p) (s.active == some p)).eff), none)
         | none => (s, none)) := by
  unfold Gen.Interruption.init mkInterrupt
  cases s.triggered p <;> cases (s.active == some p) <;> rfl

end GenKernel
