import OnlVerif.Lemmas.REDKDefs
import OnlVerif.Lemmas.KExec
/-!
# Generator → REDPort → sink on the kernel model: the attribute cells, the codec, the branches of the program

What `Call.load`, `Call.store`, `Call.log` do to a state; the loop head of the generator and the
decision of `REDPort.put` folded into one branch each (`genLoop_eq`, `redDecide_eq`).
-/

namespace REDK
open REDOnK
export KExec (dec_enc)

/-- `lookup` after a `Call.store` -/
theorem lookup_store (l : List (Nat × Val)) (k k' : Nat) (v : Val) :
    lookup ((k', v) :: l.filter (·.1 != k')) k = if k = k' then v else lookup l k := by
  unfold lookup
  by_cases h : k = k'
  · subst h; simp
  · rw [if_neg h, List.find?_cons_of_neg (by simpa using Ne.symm h), KExec.find?_filter_ne _ _ _ (Ne.symm h)]

def plookup {σ} (l : List (EvId × ProcRec σ)) (p : EvId) : Option (ProcRec σ) := (l.find? (·.1 == p)).map (·.2)

theorem proc?_eq {σ} (s : KState ℚ σ) (p : EvId) : s.proc? p = plookup s.procs p := rfl

theorem getD0_set (a : Array ResRec) (x : ResRec) (h : 0 < a.size) : (a.setIfInBounds 0 x).getD 0 default = x := by
  rw [getD_setIfInBounds]; simp [h]

@[simp] theorem isStoreKind_store : isStoreKind .store = true := rfl
@[simp] theorem isPrioKind_store : isPrioKind .store = false := rfl
@[simp] theorem store_beq_preemptive : (ResKind.store == ResKind.preemptive) = false := rfl
@[simp] theorem store_beq_fstore : (ResKind.store == ResKind.fstore) = false := rfl

theorem doCall_load (s : KS) (self : EvId) (k : Nat) : doCall s self (.load k) = (s, .val (lookup s.shared k)) := rfl

theorem doCall_store (s : KS) (self : EvId) (k : Nat) (v : Val) :
    doCall s self (.store k v) = ({ s with shared := (k, v) :: s.shared.filter (·.1 != k) }, .unit) := rfl

theorem doCall_log (s : KS) (self : EvId) (what : String) (i : Int) :
    doCall s self (.log what (.int i)) = ({ s with trace := s.trace.push (.log self what (.int i) s.now) }, .unit) := rfl

theorem doCall_log_enc (s : KS) (self : EvId) (what : String) (x : ℚ) :
    doCall s self (.log what (TimeCell.enc x)) =
      ({ s with trace := s.trace.push (.log self what (TimeCell.enc x) s.now) }, .unit) := rfl

/-- the loop head of the generator: it returns, or sleeps for the gap `genNext` gives -/
theorem genLoop_eq (c : Cfg ℚ) (now : ℚ) (n : Nat) (gaps : List ℚ) (sizes : List Nat) (us : List ℚ) :
    genLoop c now n gaps sizes us =
      match genNext c now gaps sizes with
      | some (gap, z, gaps', sizes') =>
        .call (.timeout gap .none) fun rp => match rp with
          | .ev e => .yield e (.genWait (now + gap) n z gaps' sizes' us)
          | rp => bad rp
      | none => .ret .none := by
  unfold genLoop genNext
  cases Gen.running c.finish now <;> cases gaps <;> cases sizes <;> rfl

/-- the draws as `REDPort.put` consumes them, folded: `random.uniform` is logged when it is called, then one decision
`dropQ` on the attached draw -/
theorem redDecide_eq (c : Cfg ℚ) (id : Int) (z : Nat) (avg : ℚ) (us : List ℚ) (cont : List ℚ → Burst ℚ St)
    (hd : needsDraw c avg = true → us ≠ []) :
    redDecide c id z avg us cont =
      let decided : Burst ℚ St := .call (.log "u" (TimeCell.enc (uAtt c avg us))) fun _ =>
        if dropQ c avg (uAtt c avg us) then redRefuse id (cont (usAfter c avg us)) else redAccept id z (cont (usAfter c avg us))
      if needsDraw c avg then .call (.log "draw" (TimeCell.enc (uAtt c avg us))) fun _ => decided else decided := by
  unfold redDecide needsDraw uAtt usAfter dropQ Port.redDrop needsDraw
  by_cases h1 : (Num.ofNat c.qlimit : ℚ) ≤ avg
  · simp [h1, noDraw, zero_eq']
  · by_cases h2 : c.maxTh ≤ avg
    · have hne : us ≠ [] := hd (by simp [needsDraw, h1, h2])
      obtain ⟨u, us', rfl⟩ := List.exists_cons_of_ne_nil hne
      simp [h1, h2, withDraw]
    · by_cases h3 : c.minTh ≤ avg
      · have hne : us ≠ [] := hd (by simp [needsDraw, h1, h2, h3])
        obtain ⟨u, us', rfl⟩ := List.exists_cons_of_ne_nil hne
        simp [h1, h2, h3, withDraw]
      · simp [h1, h2, h3, noDraw, zero_eq']

/-- the new average written with the queue figure the program reads -/
theorem avgNew_eq (c : Cfg ℚ) (a : A) :
    avgNew c a = Port.redAvg a.avg (Num.ofNat (if c.limitBytes then a.bytes else a.len).toNat) c.w := by
  unfold avgNew curOf; cases c.limitBytes <;> rfl

/-- `current_queue_size` on a flat state -/
theorem loadCur_eq (c : Cfg ℚ) (cont : Nat → Burst ℚ St) :
    loadCur c cont = loadInt (if c.limitBytes then cByteSize else cLen) fun b => cont b.toNat := by
  unfold loadCur
  cases c.limitBytes <;> simp

end REDK
