import OnlVerif.Lemmas.KernelStep
import OnlVerif.Lemmas.KAccess
import OnlVerif.Lemmas.ResStep
/-!
# "Exactly once": the domain hypothesis and the invariants

* `SafeCall`, `SafeBurst`, `SafeResume`, `SafeIntr`, `SafeCb`, `SafeCbs`, `SafeStep`, `SafeRun`: the domain
  hypothesis of the "scheduled at most once" theorems (DESIGN §3), as a predicate over what a step *executes*.  It
  mirrors the control flow of `resume` / `deliverInterrupt` / `runCb` / `step` and demands of every executed API call
  `succeed e` / `fail e` that its target is an existing plain event or condition (or already triggered, in which case
  the call is refused), and of every executed `yield e` that `e` exists and is not an `Interruption` aimed at the
  yielding process itself (user code cannot get hold of such an object in the implementation; in the model event ids
  can be guessed).  Targets that are excluded because the kernel triggers them later *without* checking `triggered`:
  process events (`finishProc`), put/get requests (`_do_put`/`_do_get` inside the queue scans), non-existent ids.
  `SafeProg` is a sufficient condition on the program text; `Lemmas/OnceDec.lean` makes `SafeStep` decidable.
* `NoHangResume` … `NoHangRun`: "no `_resume` loop runs out of fuel" (strict mode), the hypothesis under which no
  process can be stuck on an already processed target.
* `InvC` (core), `InvQ` (request queues), `InvL` (no live process is lost), `InvS` (a triggered, unprocessed event is in the
  agenda; `InvX`/`InvSx`: all but the event being triggered): the invariant, parametrised by a ghost
  value that describes where inside a step we are (callbacks still to run, the event they belong to, the process
  whose burst is running).  Proof structure: `OnceAccess` (reading back after leaf updates), `OnceCore`/`OnceQL`
  (each *shape* of state change keeps the invariant), `OnceRes` (interrupt creation, resource scans, requests),
  `OnceCall` (conditions, every API call, whole bursts for every program), `OnceStep` (`register`, `finishProc`,
  `_resume`, interrupt delivery, the callback loop), `OnceRun` (the pop, a step, whole runs, initial states).
-/

namespace Once
variable {σ : Type}

/-! ## The domain hypothesis -/

/-- a `succeed`/`fail` on `e` is harmless: refused because `e` is already triggered, or `e` is an existing plain
event or condition (the kernel never triggers those behind the caller's back without checking `triggered`) -/
def SafeTarget (s : KState ℚ σ) (e : EvId) : Prop :=
  s.triggered e = true ∨ (e < s.events.size ∧ ((s.ev e).kind = .plain ∨ isCond s e = true))

def SafeCall (s : KState ℚ σ) : Call ℚ σ → Prop
  | .succeed e _ => SafeTarget s e
  | .fail e _ => SafeTarget s e
  | _ => True

/-- a process yields only events that exist, and never an `Interruption` aimed at itself -/
def SafeYield (s : KState ℚ σ) (self e : EvId) : Prop :=
  e < s.events.size ∧ (s.ev e).kind ≠ .intr self

/-- every API call executed by burst `b` of process `self`, started in state `s`, is safe, and so is its final yield -/
def SafeBurst (self : EvId) : Burst ℚ σ → KState ℚ σ → Prop
  | .call c k, s => SafeCall s c ∧ SafeBurst self (k (doCall s self c).2) (noteErr self (doCall s self c))
  | .yield e _, s => SafeYield s self e
  | .ret _, _ => True
  | .raise _, _ => True

/-- mirrors `resume`: every burst it runs is safe -/
def SafeResume (body : σ → Resume → Burst ℚ σ) (p : EvId) : Nat → EvId → KState ℚ σ → Prop
  | 0, _, _ => True
  | fuel + 1, e, s =>
    match s.proc? p with
    | none => True
    | some pr =>
      SafeBurst p (body pr.st (deliver s p e).2) ((deliver s p e).1.emit (.resumed p (deliver s p e).2 (deliver s p e).1.now)) ∧
      match (runBurst p (body pr.st (deliver s p e).2)
          ((deliver s p e).1.emit (.resumed p (deliver s p e).2 (deliver s p e).1.now))).2 with
      | .yielded e' st' =>
        match register ((runBurst p (body pr.st (deliver s p e).2)
            ((deliver s p e).1.emit (.resumed p (deliver s p e).2 (deliver s p e).1.now))).1.setProc p
              { st := st', target := some e' }) p e' with
        | some _ => True
        | none => SafeResume body p fuel e' ((runBurst p (body pr.st (deliver s p e).2)
            ((deliver s p e).1.emit (.resumed p (deliver s p e).2 (deliver s p e).1.now))).1.setProc p
              { st := st', target := some e' })
      | _ => True

/-- mirrors `deliverInterrupt` -/
def SafeIntr (body : σ → Resume → Burst ℚ σ) (fuel : Nat) (iv p : EvId) (s : KState ℚ σ) : Prop :=
  if s.triggered p then True else
  match s.proc? p with
  | none => True
  | some pr =>
    match pr.target with
    | some t => SafeResume body p fuel iv (s.eraseCb t (.resume p))
    | none => SafeResume body p fuel iv s

/-- mirrors `runCb` -/
def SafeCb (body : σ → Resume → Burst ℚ σ) (fuel : Nat) (e : EvId) (s : KState ℚ σ) : Cb → Prop
  | .resume p => SafeResume body p fuel e s
  | .intr iv =>
    match (s.ev iv).kind with
    | .intr p => SafeIntr body fuel iv p s
    | _ => True
  | _ => True

/-- mirrors the callback loop of `step` -/
def SafeCbs (body : σ → Resume → Burst ℚ σ) (fuel : Nat) (e : EvId) : List Cb → LoopSt ℚ σ → Prop
  | [], _ => True
  | cb :: cbs, l => SafeCb body fuel e l.s cb ∧ SafeCbs body fuel e cbs (runCb body fuel e l cb)

/-- **the step taken from `s` executes only safe calls and yields** -/
def SafeStep (body : σ → Resume → Burst ℚ σ) (fuel : Nat) (s : KState ℚ σ) : Prop :=
  match popMin s.agenda with
  | none => True
  | some (q, rest) =>
    match (s.ev q.ev).cbs with
    | none => True
    | some cbs => SafeCbs body fuel q.ev cbs { s := openEvent s q rest }

/-- the hypothesis on a run: every step taken from a reachable state is safe -/
def SafeRun (body : σ → Resume → Burst ℚ σ) (fuel : Nat) (s0 : KState ℚ σ) : Prop :=
  ∀ s, KReach body fuel s0 s → SafeStep body fuel s

/-- a sufficient condition on the program text alone: whatever the state, every burst is safe -/
def SafeProg (body : σ → Resume → Burst ℚ σ) : Prop :=
  ∀ (p : EvId) (st : σ) (r : Resume) (s : KState ℚ σ), SafeBurst p (body st r) s

/-! ## "The `_resume` loop does not run out of fuel" (a process that yields processed events for ever is a Python hang) -/

/-- mirrors `resume`: the loop over already processed events ends before the fuel does -/
def NoHangResume (body : σ → Resume → Burst ℚ σ) (p : EvId) : Nat → EvId → KState ℚ σ → Prop
  | 0, _, _ => False
  | fuel + 1, e, s =>
    match s.proc? p with
    | none => True
    | some pr =>
      match (runBurst p (body pr.st (deliver s p e).2)
          ((deliver s p e).1.emit (.resumed p (deliver s p e).2 (deliver s p e).1.now))).2 with
      | .yielded e' st' =>
        match register ((runBurst p (body pr.st (deliver s p e).2)
            ((deliver s p e).1.emit (.resumed p (deliver s p e).2 (deliver s p e).1.now))).1.setProc p
              { st := st', target := some e' }) p e' with
        | some _ => True
        | none => NoHangResume body p fuel e' ((runBurst p (body pr.st (deliver s p e).2)
            ((deliver s p e).1.emit (.resumed p (deliver s p e).2 (deliver s p e).1.now))).1.setProc p
              { st := st', target := some e' })
      | _ => True

def NoHangIntr (body : σ → Resume → Burst ℚ σ) (fuel : Nat) (iv p : EvId) (s : KState ℚ σ) : Prop :=
  if s.triggered p then True else
  match s.proc? p with
  | none => True
  | some pr =>
    match pr.target with
    | some t => NoHangResume body p fuel iv (s.eraseCb t (.resume p))
    | none => NoHangResume body p fuel iv s

def NoHangCb (body : σ → Resume → Burst ℚ σ) (fuel : Nat) (e : EvId) (s : KState ℚ σ) : Cb → Prop
  | .resume p => NoHangResume body p fuel e s
  | .intr iv =>
    match (s.ev iv).kind with
    | .intr p => NoHangIntr body fuel iv p s
    | _ => True
  | _ => True

def NoHangCbs (body : σ → Resume → Burst ℚ σ) (fuel : Nat) (e : EvId) : List Cb → LoopSt ℚ σ → Prop
  | [], _ => True
  | cb :: cbs, l => NoHangCb body fuel e l.s cb ∧ NoHangCbs body fuel e cbs (runCb body fuel e l cb)

/-- the step taken from `s` never exhausts the fuel of a `_resume` loop -/
def NoHangStep (body : σ → Resume → Burst ℚ σ) (fuel : Nat) (s : KState ℚ σ) : Prop :=
  match popMin s.agenda with
  | none => True
  | some (q, rest) =>
    match (s.ev q.ev).cbs with
    | none => True
    | some cbs => NoHangCbs body fuel q.ev cbs { s := openEvent s q rest }

/-- no step of the run hangs in a `_resume` loop (with the given fuel) -/
def NoHangRun (body : σ → Resume → Burst ℚ σ) (fuel : Nat) (s0 : KState ℚ σ) : Prop :=
  ∀ s, KReach body fuel s0 s → NoHangStep body fuel s

/-! ## The invariant -/

/-- where inside a step we are -/
structure Ghost where
  /-- callbacks of the event being processed that have not run yet -/
  rem : List Cb := []
  /-- the event being processed -/
  e0 : EvId := 0
  /-- the process whose burst is running -/
  run : Option EvId := none
  /-- is the "no live process is lost" clause tracked?  (It needs `0 < fuel`.) -/
  lv : Bool := false
  /-- strict mode: the `_resume` loop never runs out of fuel (`NoHangStep`), so no process can be stuck on a processed target -/
  strict : Bool := false

/-- process `p` is registered nowhere -/
def Unreg (s : KState ℚ σ) (p : EvId) : Prop := ∀ e L, (s.ev e).cbs = some L → Cb.resume p ∉ L

/-- core invariant: the agenda holds each event at most once, and only triggered unprocessed ones; a `_resume`
callback in a list means: that process is alive, waits for exactly that event, and is in the list exactly once -/
structure InvC (g : Ghost) (s : KState ℚ σ) : Prop where
  ag_distinct : s.agenda.Pairwise (fun a b => a.ev ≠ b.ev)
  ag_live : ∀ q ∈ s.agenda, (s.ev q.ev).out ≠ none ∧ (s.ev q.ev).cbs ≠ none
  done_trig : ∀ e, e < s.events.size → (s.ev e).cbs = none → (s.ev e).out ≠ none
  procs : ∀ p pr, s.proc? p = some pr → (s.ev p).kind = .proc
  reg : ∀ e L p, (s.ev e).cbs = some L → Cb.resume p ∈ L →
    (s.ev p).out = none ∧ (∃ pr, s.proc? p = some pr ∧ pr.target = some e) ∧ L.count (.resume p) = 1 ∧
      (s.ev e).kind ≠ .intr p
  intr : ∀ e L iv, (s.ev e).cbs = some L → Cb.intr iv ∈ L → iv = e
  check : ∀ e L c, (s.ev e).cbs = some L → Cb.check c ∈ L → isCond s c = true
  pend : ∀ p, (Cb.resume p ∈ g.rem ∨ g.run = some p) → (s.ev p).out = none ∧ (s.ev p).kind = .proc ∧ Unreg s p
  pend_intr : ∀ p, Cb.resume p ∈ g.rem → g.e0 < s.events.size ∧ (s.ev g.e0).kind ≠ .intr p
  rem_check : ∀ c, Cb.check c ∈ g.rem → isCond s c = true
  rem_intr : ∀ iv, Cb.intr iv ∈ g.rem → iv = g.e0
  rem_count : ∀ p, g.rem.count (.resume p) ≤ 1

/-- a queued request is a pending request event of that resource, queued once -/
structure InvQ (s : KState ℚ σ) : Prop where
  putQ : ∀ r, (s.res r).putQ.Nodup ∧ ∀ e ∈ (s.res r).putQ, (s.ev e).kind = .put r ∧ (s.ev e).out = none
  getQ : ∀ r, (s.res r).getQ.Nodup ∧ ∀ e ∈ (s.res r).getQ, (s.ev e).kind = .get r ∧ (s.ev e).out = none

/-- how process `p` is held by its target `t`: its `_resume` is among the callbacks of `t` that are being run right
now, or it is in the callback list of `t`, or (only if fuel may run out) `t` is processed and `p` is stuck -/
def Held (g : Ghost) (s : KState ℚ σ) (p t : EvId) : Prop :=
  (t = g.e0 ∧ Cb.resume p ∈ g.rem) ∨ (∃ L, (s.ev t).cbs = some L ∧ Cb.resume p ∈ L) ∨
    (g.strict = false ∧ (s.ev t).cbs = none)

/-- no live process is lost: unless its burst is running, a process that has not finished has a target that exists,
and it is held by it -/
structure InvL (g : Ghost) (s : KState ℚ σ) : Prop where
  live : g.lv = true → ∀ p pr, s.proc? p = some pr → (s.ev p).out = none → g.run ≠ some p →
    ∃ t, pr.target = some t ∧ t < s.events.size ∧ Held g s p t

/-- the converse of `InvC.ag_live`: **every triggered, unprocessed event is in the agenda** (so it will be processed,
and its waiters resumed, if the run goes on) -/
def InvS (s : KState ℚ σ) : Prop :=
  ∀ e, (s.ev e).out ≠ none → (s.ev e).cbs ≠ none → ∃ q ∈ s.agenda, q.ev = e

/-- the same, except for event `x` (the state between `_ok/_value = …` and `env.schedule(…)`) -/
def InvSx (x : EvId) (s : KState ℚ σ) : Prop :=
  ∀ e, e ≠ x → (s.ev e).out ≠ none → (s.ev e).cbs ≠ none → ∃ q ∈ s.agenda, q.ev = e

structure Inv (g : Ghost) (s : KState ℚ σ) : Prop where
  c : InvC g s
  q : InvQ s
  l : InvL g s
  s : InvS s

/-- the invariant in the middle of a trigger: event `x` has its outcome but is not scheduled yet -/
structure InvX (x : EvId) (g : Ghost) (s : KState ℚ σ) : Prop where
  c : InvC g s
  q : InvQ s
  l : InvL g s
  sx : InvSx x s

end Once
