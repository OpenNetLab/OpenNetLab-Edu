import OnlVerif.Lemmas.MultiQueueRun
/-!
# DRR: the bursts of `DRR.run` and the steps of the scheduler as explicit relations

`DSettles` lists the moves of the loop between two `yield`s (start of a round, end of a round, visit with / without
quantum, leaving a class, fetching, taking the parked head, sending, parking); `settles_dsettles` shows that every
accepted burst is a chain of such moves.  `DTrans` does the same for whole steps.  The DRR invariants are then
proved by induction over these relations.
-/

namespace DRR
open MQ

abbrev St := MQState ℚ (Ctl ℚ)

theorem touch_drr (cfg : Cfg ℚ) (s : St) : touch (sched cfg) s = s := rfl

/-- the class at entry `i` of `class_count` -/
def keyAt (k : Ctl ℚ) (i : Nat) : Option Nat := (k.classCount[i]?).map (·.1)

inductive DSettles (cfg : Cfg ℚ) : St → St → Prop
  | topGo (s s' : St) : s.ctl.pc = .top → 0 < total s.queueCount →
      DSettles cfg { s with ctl := { s.ctl with pc := .visit 0 } } s' → DSettles cfg s s'
  | topBlock (s : St) : s.ctl.pc = .top → total s.queueCount = 0 →
      DSettles cfg s (blockOnToken { s with ctl := { s.ctl with pc := .top } })
  | topSpin (s s' : St) : s.ctl.pc = .top → ¬ 0 < total s.queueCount → total s.queueCount ≠ 0 →
      DSettles cfg { s with ctl := { s.ctl with pc := .top } } s' → DSettles cfg s s'
  | roundEnd (s : St) (i : Nat) (s' : St) : s.ctl.pc = .visit i → s.ctl.classCount[i]? = none →
      DSettles cfg { s with ctl := { s.ctl with pc := .top } } s' → DSettles cfg s s'
  | visitAdd (s : St) (i cls : Nat) (n : Int) (d q : ℚ) (s' : St) : s.ctl.pc = .visit i →
      s.ctl.classCount[i]? = some (cls, n) → 0 < n → lookup s.ctl.deficit cls = some d → quantum cfg cls = some q →
      DSettles cfg { s with ctl := { addQuantum s.ctl cls d q with pc := .inner i } } s' → DSettles cfg s s'
  | visitSkip (s : St) (i cls : Nat) (n : Int) (s' : St) : s.ctl.pc = .visit i →
      s.ctl.classCount[i]? = some (cls, n) → ¬ 0 < n →
      DSettles cfg { s with ctl := { s.ctl with pc := .inner i } } s' → DSettles cfg s s'
  | innerExit (s : St) (i cls : Nat) (n : Int) (d : ℚ) (s' : St) : s.ctl.pc = .inner i →
      s.ctl.classCount[i]? = some (cls, n) → lookup s.ctl.deficit cls = some d → ¬ (0 < d ∧ 0 < n) →
      DSettles cfg { s with ctl := { s.ctl with pc := .visit (i + 1) } } s' → DSettles cfg s s'
  | innerGet (s : St) (i cls : Nat) (n : Int) (d : ℚ) (s' : St) : s.ctl.pc = .inner i →
      s.ctl.classCount[i]? = some (cls, n) → lookup s.ctl.deficit cls = some d → 0 < d → 0 < n →
      lookupD s.hol cls none = none →
      issueGet { s with ctl := { s.ctl with pc := .gotPkt i } } cls = .ok s' → DSettles cfg s s'
  | takeSend (s : St) (i cls : Nat) (n : Int) (d : ℚ) (p : MPkt) : s.ctl.pc = .inner i →
      s.ctl.classCount[i]? = some (cls, n) → lookup s.ctl.deficit cls = some d → 0 < d → 0 < n →
      lookupD s.hol cls none = some p → classOf cfg p.flow = some cls → (p.size : ℚ) ≤ d →
      DSettles cfg s (spawn { s with ctl := { s.ctl with pc := .sent i }, hol := setKey s.hol cls none } p true)
  | takePark (s : St) (i cls : Nat) (n : Int) (d : ℚ) (p : MPkt) (s' : St) : s.ctl.pc = .inner i →
      s.ctl.classCount[i]? = some (cls, n) → lookup s.ctl.deficit cls = some d → 0 < d → 0 < n →
      lookupD s.hol cls none = some p → classOf cfg p.flow = some cls → ¬ (p.size : ℚ) ≤ d →
      DSettles cfg { s with ctl := { s.ctl with pc := .visit (i + 1) }, hol := setKey (setKey s.hol cls none) cls (some p) } s' →
      DSettles cfg s s'

/-- the decision of `onPkt`: only at a control point `gotPkt i`, by the credit of the class -/
theorem onPkt_cases (cfg : Cfg ℚ) (k : Ctl ℚ) (v : View) (cls : Nat) (p : MPkt) (r : PktDec (Ctl ℚ))
    (h : (sched cfg).onPkt k v cls p = r) :
    (∃ m, r = .fail m) ∨
    (∃ i d, k.pc = .gotPkt i ∧ lookup k.deficit cls = some d ∧ classOf cfg p.flow = some cls ∧
      (((p.size : ℚ) ≤ d ∧ r = .send true { k with pc := .sent i }) ∨
       (¬ (p.size : ℚ) ≤ d ∧ r = .park { k with pc := .visit (i + 1) }))) := by
  simp only [sched, onPkt] at h
  split at h
  · rename_i i hpc
    split at h
    · exact .inl ⟨_, h.symm⟩
    · rename_i d hd
      split at h
      · rename_i hcl
        split at h
        · rename_i hle
          exact .inr ⟨i, d, hpc, hd, hcl, .inl ⟨by simpa [Num.ofNat] using hle, h.symm⟩⟩
        · rename_i hle
          exact .inr ⟨i, d, hpc, hd, hcl, .inr ⟨by simpa [Num.ofNat] using hle, h.symm⟩⟩
      · exact .inl ⟨_, h.symm⟩
  · exact .inl ⟨_, h.symm⟩

theorem settles_dsettles (cfg : Cfg ℚ) (s s' : St) (hs : Settles (sched cfg) s s') : DSettles cfg s s' := by
  induction hs with
  | goto s k s' hm _ ih =>
    have hm' : micro cfg (quantum cfg) s.ctl (view s) = .goto k := hm
    cases hm' ▸ micro_spec cfg s.ctl (view s) with
    | topGo hpc ht => exact .topGo s s' hpc ht ih
    | topSpin hpc h1 h0 => exact .topSpin s s' hpc h1 h0 ih
    | roundEnd i hpc hn => exact .roundEnd s i s' hpc hn ih
    | visitAdd i cls n d q hpc hcc hn hd hq => exact .visitAdd s i cls n d q s' hpc hcc hn hd hq ih
    | visitSkip i cls n hpc hcc hn => exact .visitSkip s i cls n s' hpc hcc hn ih
    | innerExit i cls n d hpc hcc hd hc => exact .innerExit s i cls n d s' hpc hcc hd hc ih
  | get s c k s' hm hg =>
    have hm' : micro cfg (quantum cfg) s.ctl (view s) = .get c k := hm
    cases hm' ▸ micro_spec cfg s.ctl (view s) with
    | innerGet i cls n d hpc hcc hd hd0 hn hpk => exact .innerGet s i c n d s' hpc hcc hd hd0 hn hpk hg
  | block s k hm =>
    have hm' : micro cfg (quantum cfg) s.ctl (view s) = .block k := hm
    cases hm' ▸ micro_spec cfg s.ctl (view s) with
    | topBlock hpc ht => exact .topBlock s hpc ht
  | takeSend s c k p e k' hm hp hd =>
    have hm' : micro cfg (quantum cfg) s.ctl (view s) = .take c k := hm
    cases hm' ▸ micro_spec cfg s.ctl (view s) with
    | innerTake i cls n d hpc hcc hdef hd0 hn =>
      rcases onPkt_cases cfg _ _ c p _ hd with ⟨m, hx⟩ | ⟨_, d', hi, hd', hcl, ⟨hle, hx⟩ | ⟨hle, hx⟩⟩
      · cases hx
      · cases hi
        cases hdef.symm.trans hd'
        cases hx
        exact .takeSend s i c n d p hpc hcc hdef hd0 hn hp hcl hle
      · cases hx
  | takePark s c k p k' s2 s' hm hp hd hpk _ ih =>
    have hm' : micro cfg (quantum cfg) s.ctl (view s) = .take c k := hm
    cases hm' ▸ micro_spec cfg s.ctl (view s) with
    | innerTake i cls n d hpc hcc hdef hd0 hn =>
      rcases onPkt_cases cfg _ _ c p _ hd with ⟨m, hx⟩ | ⟨_, d', hi, hd', hcl, ⟨hle, hx⟩ | ⟨hle, hx⟩⟩
      · cases hx
      · cases hx
      · cases hi
        cases hdef.symm.trans hd'
        cases hx
        have hpk' : park ({ s with ctl := { s.ctl with pc := .visit (i + 1) }, hol := setKey s.hol c none } : St) c p = .ok s2 :=
          hpk
        unfold park at hpk'
        simp only [lookupD_setKey_same, Except.ok.injEq] at hpk'
        subst hpk'
        exact .takePark s i c n d p s' hpc hcc hdef hd0 hn hp hcl hle ih

inductive DTrans (cfg : Cfg ℚ) : St → MAct ℚ → St → MOut ℚ → Prop
  | init (s s' : St) : s.phase = .idle → DSettles cfg { s with phase := Phase.running } s' → DTrans cfg s .init s' .nothing
  | put (s : St) (p : MPkt) (cls : Nat) (n : Int) : classOf cfg p.flow = some cls → lookup s.ctl.classCount cls = some n →
      DTrans cfg s (.put p)
        (enqueue (countIn (postToken { s with ctl := { s.ctl with classCount := setKey s.ctl.classCount cls (n + 1) } }) p) cls p)
        .accepted
  | tokenHandoff (s : St) (n : Nat) : s.phase = .waitToken → s.tokens = n + 1 →
      DTrans cfg s .tokenHandoff { s with tokens := n, phase := .tokenHanded } .nothing
  | wake (s s' : St) : s.phase = .tokenHanded → DSettles cfg { s with phase := Phase.running } s' → DTrans cfg s .wake s' .nothing
  | resumeSend (s : St) (cls : Nat) (p : MPkt) (i : Nat) (d : ℚ) : s.phase = .pktHanded cls p → s.ctl.pc = .gotPkt i →
      lookup s.ctl.deficit cls = some d → classOf cfg p.flow = some cls → (p.size : ℚ) ≤ d →
      DTrans cfg s .pktResume (spawn { s with phase := Phase.running, ctl := { s.ctl with pc := .sent i } } p true) .nothing
  | resumePark (s : St) (cls : Nat) (p : MPkt) (i : Nat) (d : ℚ) (s' : St) : s.phase = .pktHanded cls p →
      s.ctl.pc = .gotPkt i → lookup s.ctl.deficit cls = some d → classOf cfg p.flow = some cls → ¬ (p.size : ℚ) ≤ d →
      lookupD s.hol cls none = none →
      DSettles cfg { s with phase := Phase.running, ctl := { s.ctl with pc := .visit (i + 1) }, hol := setKey s.hol cls (some p) } s' →
      DTrans cfg s .pktResume s' .nothing
  | sendInit (s : St) (p : MPkt) : s.phase = .spawned p →
      DTrans cfg s .sendInit { s with currentPacket := some p, phase := .sending p (s.now + txTime (sched cfg) p) }
        (.started p (s.now + txTime (sched cfg) p))
  | sendFire (s : St) (p : MPkt) (due : ℚ) : s.phase = .sending p due → s.now = due →
      DTrans cfg s .sendFire { countOut s p with currentPacket := none, phase := .finished p } (.depart p)
  | sendDone (s : St) (p : MPkt) (i cls : Nat) (n : Int) (d : ℚ) (s' : St) : s.phase = .finished p → s.ctl.pc = .sent i →
      s.ctl.classCount[i]? = some (cls, n) → lookup s.ctl.deficit cls = some d →
      DSettles cfg { s with phase := Phase.running, ctl := { book s.ctl cls d n p with pc := .inner i } } s' →
      DTrans cfg s .sendDone s' .nothing
  | tickIdle (s : St) (t : ℚ) : s.now ≤ t → s.phase = .waitToken → s.tokens = 0 →
      DTrans cfg s (.tick t) { s with now := t } .nothing
  | tickBusy (s : St) (t : ℚ) (p : MPkt) (due : ℚ) : s.now ≤ t → s.phase = .sending p due → t ≤ due →
      DTrans cfg s (.tick t) { s with now := t } .nothing
  | sample (s : St) (inc : Bool) : DTrans cfg s (.sample inc) s (.samples (monitorSample s inc))

theorem step_dtrans (cfg : Cfg ℚ) (s s' : St) (a : MAct ℚ) (o : MOut ℚ) (h : step (sched cfg) s a = .ok (s', o)) :
    DTrans cfg s a s' o := by
  have ht := step_trans (sched cfg) s s' a o h
  cases ht with
  | init _ hp hr =>
    exact DTrans.init s s' hp (settles_dsettles cfg _ s' (resumeLoop_settles (sched cfg) s s' hr))
  | put p c k hc hk =>
    simp only [sched, onPut] at hk
    split at hk
    · cases hk
    · rename_i n hn
      cases hk
      exact DTrans.put s p c n hc hn
  | tokenHandoff n hp htk => exact DTrans.tokenHandoff s n hp htk
  | wake _ hp hr =>
    exact DTrans.wake s s' hp (settles_dsettles cfg _ s' (resumeLoop_settles (sched cfg) s s' hr))
  | resumeSend c p e k hp hd =>
    rcases onPkt_cases cfg _ _ c p _ hd with ⟨m, hx⟩ | ⟨i, d, hpc, hdef, hcl, ⟨hle, hx⟩ | ⟨hle, hx⟩⟩
    · cases hx
    · cases hx
      exact DTrans.resumeSend s c p i d hp hpc hdef hcl hle
    · cases hx
  | resumePark c p k s2 _ hp hd hpk hr =>
    rcases onPkt_cases cfg _ _ c p _ hd with ⟨m, hx⟩ | ⟨i, d, hpc, hdef, hcl, ⟨hle, hx⟩ | ⟨hle, hx⟩⟩
    · cases hx
    · cases hx
    · cases hx
      unfold park at hpk
      split at hpk
      · cases hpk
      · rename_i hnone
        cases hpk
        exact DTrans.resumePark s c p i d s' hp hpc hdef hcl hle hnone
          (settles_dsettles cfg _ s' (resumeLoop_settles (sched cfg) _ s' hr))
  | sendInit p hp => exact DTrans.sendInit s p hp
  | sendFire p due hp hnow => exact DTrans.sendFire s p due hp hnow
  | sendDone p k _ hp hk hr =>
    simp only [sched, onDone] at hk
    split at hk
    · rename_i i hpc
      split at hk
      · cases hk
      · rename_i cls n hcc
        split at hk
        · cases hk
        · rename_i d hdef
          cases hk
          exact DTrans.sendDone s p i cls n d s' hp hpc hcc hdef
            (settles_dsettles cfg _ s' (resumeLoop_settles (sched cfg) _ s' hr))
    · cases hk
  | tickIdle t h1 h2 h3 => exact DTrans.tickIdle s t h1 h2 h3
  | tickBusy t p due h1 h2 h3 => exact DTrans.tickBusy s t p due h1 h2 h3
  | sample inc => exact DTrans.sample s inc

theorem book_classCount (k : Ctl ℚ) (cls : Nat) (d : ℚ) (n : Int) (p : MPkt) :
    (book k cls d n p).classCount = setKey k.classCount cls (n - 1) := by unfold book; split <;> rfl
theorem book_visits (k : Ctl ℚ) (cls : Nat) (d : ℚ) (n : Int) (p : MPkt) : (book k cls d n p).visits = k.visits := by
  unfold book; split <;> rfl
theorem book_sentBytes (k : Ctl ℚ) (cls : Nat) (d : ℚ) (n : Int) (p : MPkt) :
    (book k cls d n p).sentBytes = bump k.sentBytes cls p.size := by unfold book; split <;> rfl
theorem book_deficit (k : Ctl ℚ) (cls : Nat) (d : ℚ) (n : Int) (p : MPkt) :
    (book k cls d n p).deficit = setKey k.deficit cls (if n - 1 = 0 then 0 else d - p.size) := by
  unfold book; split
  · show setKey k.deficit cls Num.zero = setKey k.deficit cls 0
    rw [zero_eq']
  · rfl
theorem book_forfeited (k : Ctl ℚ) (cls : Nat) (d : ℚ) (n : Int) (p : MPkt) :
    (book k cls d n p).forfeited = if n - 1 = 0 then setKey k.forfeited cls (acc k.forfeited cls + (d - p.size)) else k.forfeited := by
  unfold book; split
  · rfl
  · rfl

end DRR
