import OnlVerif.Lemmas.TRKAbs
import OnlVerif.Lemmas.TBTRCommon
/-!
# The two-rate token bucket on the kernel model: every configuration step keeps `AInv` and lowers the step bound
-/

namespace TRK
open TwoRateOnK QEntry

variable {size : Int → Nat} {cfg : TrCfg ℚ}
variable {a : A} {now : ℚ} {q : QEntry ℚ} {n e : Nat}

/-- with PIR the peak bucket holds a number -/
def PkOK (cfg : TrCfg ℚ) (pk : Option ℚ) : Prop := ∀ k, TwoRate.pirOn cfg = some k → ∃ pl, pk = some pl

/-- **what a decision of `run` guarantees**: a wait is not negative, and with PIR the peak bucket still holds a number -/
theorem verdictA_sound (hgood : TwoRate.Good cfg) (hpk : PkOK cfg a.peak) (now : ℚ) (id : Int) :
    match verdictA size cfg a now id with
    | .ok (.wait dt _ pk) => 0 ≤ dt ∧ PkOK cfg pk
    | .ok (.emit _ _ pk) => PkOK cfg pk
    | .error _ => True := by
  cases hk : TwoRate.pirOn cfg with
  | some k =>
    obtain ⟨hk0, b, hb, -⟩ := hgood.pir k hk
    obtain ⟨pl, hpl⟩ := hpk k hk
    have hs : ∀ x : ℚ, PkOK cfg (some x) := fun x _ _ => ⟨x, rfl⟩
    rw [verdictA_pir hk hb hpl]
    split_ifs with hlt
    · exact ⟨tokenWait_nonneg hk0 _ id hlt, hs _⟩
    · exact hs _
    · exact hs _
  | none =>
    rw [verdictA_cir hk]
    split_ifs with hlt
    · exact ⟨tokenWait_nonneg hgood.cir _ id hlt, hpk⟩
    · exact hpk

theorem pk_afterWait (cm : ℚ) (pk : Option ℚ) : PkOK cfg (afterWait cfg cm pk).2.2 := by
  intro k hk
  simp [afterWait, hk]

/-- a step of the shaper that leaves the store alone: it sleeps -/
theorem ainv_sleep (hi : AInv cfg a q.time) (r : RPhase) (cm up : ℚ) (pk : Option ℚ) (hr : RunA a q.time r)
    (hdue : ∀ x ∈ r.entries, q.time ≤ x.time) (hpk : PkOK cfg pk) :
    AInv cfg { a with run := r, commit := cm, peak := pk, upd := up } q.time :=
  .of hr hi.src hi.pend hdue hi.due_src hi.its hi.good hpk

/-- the shaper calls `store.get()`: the invariant and the step bound, whatever the cells now hold -/
theorem sound_get (hi : AInv cfg a q.time) (hr : 1 ≤ a.run.mu) (cm up : ℚ) (pk : Option ℚ) (sn : Int) (hpk : PkOK cfg pk) :
    AInv cfg (({ a with commit := cm, peak := pk, upd := up, sent := sn } : A).get n e q.time) q.time ∧
      (({ a with commit := cm, peak := pk, upd := up, sent := sn } : A).get n e q.time).mu + 1 ≤ a.mu := by
  obtain ⟨its, hit⟩ : ∃ its, a.items = its := ⟨_, rfl⟩
  cases its with
  | nil =>
    simp only [A.get, hit]
    refine ⟨.of ⟨le_refl _, nofun, fun h => absurd rfl h⟩ hi.src hi.pend nofun hi.due_src nofun hi.good hpk, ?_⟩
    have h0 : (RPhase.W n q.time).mu = 0 := rfl
    simp only [A.mu, h0, hit, List.length_nil]
    omega
  | cons i is =>
    simp only [A.get, hit]
    obtain ⟨h1, h2, h3⟩ := hi.its i (by rw [hit]; simp)
    refine ⟨.of ⟨rfl, rfl, max_eq_left h3, h1, h2⟩ hi.src hi.pend (by simp [RPhase.entries]) hi.due_src
      (fun j hj => hi.its j (by rw [hit]; exact List.mem_cons_of_mem _ hj)) hi.good hpk, ?_⟩
    have h0 : (RPhase.H n i ⟨q.time, NORMAL, e, n⟩ q.time).mu = 2 := rfl
    simp only [A.mu, h0, hit, List.length_cons]
    omega

theorem srcNext_ok (hg : GapsOK arr) (t : ℚ) (eid ev next : Nat) :
    (∀ a' : A, next = a'.cts.length → SrcA a' t (srcNext t eid ev next arr)) ∧
    (∀ x ∈ (srcNext t eid ev next arr).entries, t ≤ x.time) ∧ (srcNext t eid ev next arr).mu ≤ 5 * arr.length + 1 := by
  cases arr with
  | nil => exact ⟨fun _ _ => ⟨rfl, rfl⟩, by simp [srcNext, SPhase.entries], by simp [srcNext, SPhase.mu]⟩
  | cons gap r =>
    refine ⟨fun _ hn => ⟨rfl, fun y hy => hg y (List.mem_cons_of_mem _ hy), hn⟩, ?_, by simp [srcNext, SPhase.mu]; omega⟩
    simp only [srcNext, SPhase.entries, List.mem_singleton]
    rintro y rfl
    exact le_add_of_nonneg_right (hg gap (by simp))

/-- **every configuration step is sound**: it keeps `AInv` and lowers the bound on the steps still to come -/
theorem astep_sound {a' : A} {new : List (HEv ℚ)} (hi0 : AInv cfg a now) (hq : IsMin a q)
    (hs : AStep size cfg n e a q a' new) : AInv cfg a' q.time ∧ a'.mu + 1 ≤ a.mu := by
  have hi := hi0.advance hq
  have hrun := hi.run
  cases hs with
  | runInit h => exact sound_get hi (by rw [h]; exact Nat.le_refl 1) _ _ _ _ hi.pk
  | serveWait g id t0 dt cm pk h hdec =>
    rw [h] at hrun
    obtain ⟨hd, hpk⟩ : 0 ≤ dt ∧ PkOK cfg pk := by
      have := verdictA_sound (size := size) hi.good hi.pk q.time id
      rwa [hdec] at this
    refine ⟨ainv_sleep hi _ _ _ _ ⟨rfl, hrun.2.2.2.1, hrun.2.2.2.2⟩
      (by simp only [RPhase.entries, List.mem_singleton]; rintro x rfl; exact le_add_of_nonneg_right hd)
      hpk, ?_⟩
    simp only [A.mu, h, RPhase.mu]; omega
  | serveOut g id t0 cm col pk h hdec =>
    have hpk := verdictA_sound (size := size) hi.good hi.pk q.time id
    rw [hdec] at hpk
    exact sound_get hi (by rw [h]; exact Nat.le_succ 1) _ _ _ _ hpk
  | tokOut t id h => exact sound_get hi (by rw [h]; exact Nat.le_refl 1) _ _ _ _ (pk_afterWait _ _)
  | srcInit arr h =>
    have hs := hi.src
    rw [h] at hs
    obtain ⟨h1, h2, h3⟩ := srcNext_ok (arr := arr) hs.2.2.1 q.time e n 0
    refine ⟨.of hi.run (h1 _ (by simp [hs.2.2.2])) hi.pend hi.due_run h2 hi.its hi.good hi.pk, ?_⟩
    have hm : (SPhase.init q arr).mu = 5 * arr.length + 2 := rfl
    simp only [A.mu, h, hm]; omega
  | srcPut next arr h =>
    have hs := hi.src
    rw [h] at hs
    obtain ⟨hqp, hgaps, rfl⟩ := hs
    obtain ⟨h1, h2, h3⟩ := srcNext_ok (arr := arr) hgaps q.time (e + 1) (n + 1) (a.cts.length + 1)
    have hlen : ∀ k, k < a.cts.length → k < (a.cts ++ [q.time]).length := fun k hk => by rw [List.length_append]; omega
    have hk : ∀ i ∈ a.items, i.toNat < a.cts.length := fun i hi' => (hi.its i hi').2.1
    refine ⟨.of ?_ (h1 _ (by simp)) ?_ hi.due_run h2 ?_ hi.good hi.pk, ?_⟩
    · cases hr : a.run with
      | init q0 =>
        rw [hr] at hrun
        exact (min_not_prio_lt hi.due hq (mem_run (by simp [hr, RPhase.entries])) hrun.1 (by rw [hrun.2.1, hqp]; decide)).elim
      | W g t0 =>
        rw [hr] at hrun
        exact ⟨hrun.1, PutLog.forall_put (P := fun _ t => t = q.time) hk hrun.2.1 rfl, fun _ => by simp⟩
      | H g id q0 t0 =>
        rw [hr] at hrun
        obtain ⟨g1, g2, g3, g4, g5⟩ := hrun
        exact ⟨g1, g2, (congrArg (max t0) (PutLog.getD_put_lt g5)).trans g3, g4, hlen _ g5⟩
      | T1 t id q0 => rw [hr] at hrun; exact ⟨hrun.1, hrun.2.1, hlen _ hrun.2.2⟩
    · intro u hu
      rcases List.mem_append.mp hu with hu | hu
      · exact hi.pend u hu
      · rw [List.mem_singleton.mp hu]; exact ⟨rfl, rfl⟩
    · exact PutLog.forall_put (P := fun i t => 0 ≤ i ∧ i.toNat < (a.cts ++ [q.time]).length ∧ t ≤ q.time) hk
        (fun i hi' => let ⟨g1, g2, g3⟩ := hi.its i hi'; ⟨g1, hlen _ g2, g3⟩) ⟨Int.natCast_nonneg _, by simp, le_rfl⟩
    · have hm : (SPhase.wait a.cts.length arr q).mu = 5 * arr.length + 6 := rfl
      simp only [A.mu, h, hm, List.length_append, List.length_singleton]; omega
  | srcEnd h =>
    refine ⟨.of hi.run trivial hi.pend hi.due_run nofun hi.its hi.good hi.pk, ?_⟩
    have hm : (SPhase.ending q).mu = 1 := rfl
    have hm' : SPhase.done.mu = 0 := rfl
    simp only [A.mu, h, hm, hm']; omega
  | pendNoop l1 l2 hpe hno =>
    have hsub : l1 ++ l2 ⊆ a.pend := hpe ▸ ((List.sublist_cons_self q l2).append_left l1).subset
    refine ⟨.of ?_ hi.src (fun u hu => hi.pend u (hsub hu)) hi.due_run hi.due_src hi.its hi.good hi.pk, ?_⟩
    · cases hr : a.run with
      | init q0 =>
        rw [hr] at hrun
        rw [hrun.2.2.2.1] at hpe
        simp at hpe
      | W g t0 =>
        rw [hr] at hrun
        have hit : a.items = [] := by_contra fun hc => hno ⟨⟨g, t0, hr⟩, hc⟩
        exact ⟨hrun.1, hrun.2.1, fun hc => absurd hit hc⟩
      | _ => rw [hr] at hrun; exact hrun
    · simp only [A.mu, hpe, List.length_append, List.length_cons]; omega
  | pendHand g t0 i is l1 l2 hpe h hit =>
    have hsub : l1 ++ l2 ⊆ a.pend := hpe ▸ ((List.sublist_cons_self q l2).append_left l1).subset
    rw [h] at hrun
    obtain ⟨g1, g2, g3⟩ := hi.its i (by rw [hit]; simp)
    have hct : a.ctOf i = q.time := hrun.2.1 i (by rw [hit]; simp)
    refine ⟨.of ⟨rfl, rfl, (congrArg (max t0) hct).trans (max_eq_right hrun.1), g1, g2⟩ hi.src (fun u hu => hi.pend u (hsub hu))
      (by simp [RPhase.entries]) hi.due_src (fun j hj => hi.its j (by rw [hit]; exact List.mem_cons_of_mem _ hj)) hi.good hi.pk, ?_⟩
    simp only [A.mu, h, hpe, hit, RPhase.mu, List.length_append, List.length_cons]; omega

end TRK
