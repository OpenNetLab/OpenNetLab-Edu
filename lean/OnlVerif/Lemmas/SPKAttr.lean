import Lean.Meta.Tactic.Simp.RegisterCommand
/-! the simp set `spk`: the pieces of the SP program and the facts that the cells of different attributes are different; it is
given to `heval` (`Lemmas/KProcDefs.lean`) to run the program on a configuration -/
register_simp_attr spk
