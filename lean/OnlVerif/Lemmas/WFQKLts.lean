import Mathlib.Tactic.Linarith
import Mathlib.Tactic.Ring
import Mathlib.Tactic.FieldSimp
import Mathlib.Algebra.Order.Field.Rat
import OnlVerif.Lemmas.WFQKAbs
import OnlVerif.Lemmas.StampTrans
import OnlVerif.Lemmas.VCKLts
/-!
# The WFQ scheduler on the kernel model: every configuration step is accepted by the StampServer LTS

`toM a now` (`WFQKDefs.lean`) is the LTS state (`Net/StampServer.lean` with the record `WFQ.sched cfg`) a configuration
stands for.  For each constructor of `AStep` the LTS accepts the corresponding action (`init`, `put`, `handoff`, `resume`,
`sendInit`, `sendFire`, `sendDone`, or nothing) from `toM a` to `toM a'`; and the clock advance is an accepted `tick`.
-/


namespace WFQK
open WFQOnK QEntry

section code
variable {N scale : Nat}

theorem itemPkt_stampItem_w {x : ℚ} {i : ℤ} (hi0 : 0 ≤ i) (hiN : i < N) : itemPkt N (stampItem scale N x i) = i :=
  VCK.itemPkt_stampItem hi0 hiN

end code

section dict
variable {β : Type}

theorem lookup_dictOf (keys : List Nat) (g : Nat → β) (f : Nat) :
    Stamp.lookup (dictOf keys g) f = if f ∈ keys then some (g f) else none :=
  VCK.lookup_dictOf keys g f

theorem map_keys_eq {γ : Type} (l : List (Nat × γ)) (g : Nat → β) :
    (l.map fun kv => (kv.1, g kv.1)) = dictOf (l.map (·.1)) g :=
  VCK.map_keys_eq l g

theorem lookup_map_keys {γ : Type} (l : List (Nat × γ)) (g : Nat → β) (k : Nat) :
    Stamp.lookup (l.map fun kv => (kv.1, g kv.1)) k = if k ∈ l.map (·.1) then some (g k) else none :=
  VCK.lookup_map_keys l g k

theorem addKey_of_mem (keys : List Nat) (f : Nat) (h : f ∈ keys) : addKey keys f = keys :=
  VCK.addKey_of_mem keys f h

theorem addKey_of_not_mem (keys : List Nat) (f : Nat) (h : f ∉ keys) : addKey keys f = keys ++ [f] :=
  VCK.addKey_of_not_mem keys f h

theorem setKey_dictOf (keys : List Nat) (hn : keys.Nodup) (g : Nat → β) (f : Nat) (v : β) :
    Stamp.setKey (dictOf keys g) f v = dictOf (addKey keys f) (upd g f v) :=
  VCK.setKey_dictOf keys hn g f v

theorem setKey_map_keys {γ : Type} (l : List (Nat × γ)) (hn : (l.map (·.1)).Nodup) (g : Nat → β) (k : Nat) (v : β)
    (hk : k ∈ l.map (·.1)) :
    Stamp.setKey (l.map fun kv => (kv.1, g kv.1)) k v = l.map fun kv => (kv.1, upd g k v kv.1) :=
  VCK.setKey_map_keys l hn g k v hk

theorem bump_dictOf (keys : List Nat) (hn : keys.Nodup) (c : Nat → Int) (f : Nat) (d : Int) (h0 : f ∉ keys → c f = 0) :
    Stamp.bump (dictOf keys c) f d = dictOf (addKey keys f) (upd c f (c f + d)) :=
  VCK.bump_dictOf keys hn c f d h0

end dict

section keys
variable {flow : Int → Nat}

theorem keysOf_nodup (ids : List Int) : (keysOf flow ids).Nodup :=
  VCK.keysOf_nodup ids

theorem A.keys_nodup (a : A) : (a.keys flow).Nodup := keysOf_nodup _

end keys

section pick
variable {N scale F : Nat} {flow size : Int → Nat} {cfg : WfqCfg ℚ} {d1 L : Nat} {a : A} {now : ℚ}

/-- **what `K`'s `PriorityStore` hands out is accepted by the LTS**: the least integer carries a minimal key -/
theorem pick_least (hi : AInv N scale size F flow cfg d1 L a now) {w : PutRec} (hw : WFQK.IsLeast N scale a.items w) :
    Stamp.pick (a.items.map (itemW size flow)) w.1.toNat =
      .ok (itemW size flow w, (a.items.erase w).map (itemW size flow)) :=
  hi.putsOK.pick_least hi.sub _ (fun _ => rfl) hw

end pick

section sched
variable {F : Nat} {cfg : WfqCfg ℚ}

theorem wOf_of_lookup_l {c : Nat} {x : ℚ} (h : Stamp.lookup cfg.weights c = some x) : wOf cfg c = x := by
  simp [wOf, h]

theorem insertAsc_lt (c : Nat) : ∀ (l : List Nat), (∀ x ∈ l, c < x) → WFQ.insertAsc c l = c :: l
  | [], _ => rfl
  | x :: xs, h => by simp [WFQ.insertAsc, h x List.mem_cons_self]

theorem filter_upd_of_lt (act : Nat → Bool) (cls : Nat) (v : Bool) (c n : Nat) (h : cls < c) :
    ((List.range' c n).filter fun x => upd act cls v x) = (List.range' c n).filter fun x => act x := by
  apply List.filter_congr
  intro x hx
  have := (List.mem_range'_1.mp hx).1
  rw [upd_ne _ _ _ _ (by omega)]

theorem insertAsc_filter (act : Nat → Bool) (cls : Nat) : ∀ (n c : Nat), c ≤ cls → cls < c + n →
    WFQ.insertAsc cls ((List.range' c n).filter fun x => act x) = (List.range' c n).filter fun x => upd act cls true x
  | 0, c, h1, h2 => by omega
  | n + 1, c, h1, h2 => by
    rw [List.range'_succ]
    by_cases hcf : c = cls
    · subst hcf
      have hgt : ∀ x ∈ (List.range' (c + 1) n).filter fun x => act x, c < x := by
        intro x hx
        have := (List.mem_range'_1.mp (List.mem_filter.mp hx).1).1
        omega
      simp only [List.filter_cons, upd_same, if_true, filter_upd_of_lt act c true (c + 1) n (by omega)]
      by_cases hc : act c = true
      · simp [hc, WFQ.insertAsc]
      · simp only [hc, Bool.false_eq_true, if_false]
        exact insertAsc_lt _ _ hgt
    · have ih := insertAsc_filter act cls n (c + 1) (by omega) (by omega)
      have h3 : ¬ cls < c := by omega
      have h4 : ¬ cls = c := fun h => hcf h.symm
      simp only [List.filter_cons, upd_ne _ _ _ _ hcf]
      by_cases hc : act c = true
      · simp only [hc, if_true, WFQ.insertAsc, h3, h4, if_false, ih]
      · simp only [hc, Bool.false_eq_true, if_false, ih]

theorem insertAsc_toM (act : Nat → Bool) {cls : Nat} (h : cls < F) :
    WFQ.insertAsc cls ((List.range F).filter fun x => act x) = (List.range F).filter fun x => upd act cls true x := by
  rw [List.range_eq_range']
  exact insertAsc_filter act cls F 0 (by omega) (by omega)

theorem remove_toM (act : Nat → Bool) (cls : Nat) :
    (((List.range F).filter fun x => act x).filter (· ≠ cls)) = (List.range F).filter fun x => upd act cls false x := by
  rw [List.filter_filter]
  apply List.filter_congr
  intro x hx
  by_cases h : x = cls
  · simp [h]
  · simp [h, upd_ne _ _ _ _ h]

theorem contains_toM (act : Nat → Bool) {cls : Nat} (h : cls < F) (ha : act cls = true) :
    ((List.range F).filter fun x => act x).contains cls = true := by
  simp [List.mem_filter, h, ha]

theorem isEmpty_toM (act : Nat → Bool) :
    ((List.range F).filter fun x => act x).isEmpty = decide (nAct act 0 F 0 = 0) := by
  rw [nAct_eq, ← List.range_eq_range', zero_add]
  cases h : (List.range F).filter fun x => act x with
  | nil => simp
  | cons x xs => simp; omega

theorem zeroFinish_keys (keys : List Nat) (hn : keys.Nodup) : ∀ (w : List (Nat × ℚ)) (g : Nat → ℚ), (∀ kv ∈ w, kv.1 ∈ keys) →
    WFQ.zeroFinish (dictOf keys g) w = dictOf keys fun k => if k ∈ w.map (·.1) then 0 else g k
  | [], g, _ => by simp [WFQ.zeroFinish]
  | (k, v) :: r, g, h => by
    have hk : k ∈ keys := h (k, v) List.mem_cons_self
    simp only [WFQ.zeroFinish]
    rw [setKey_dictOf _ hn, addKey_of_mem _ _ hk, zeroFinish_keys keys hn r _ (fun kv hkv => h kv (List.mem_cons_of_mem _ hkv))]
    simp only [dictOf]
    apply List.map_congr_left
    intro x hx
    by_cases hxk : x = k
    · subst hxk; simp [zero_eq']
    · rw [upd_ne _ _ _ _ hxk]
      simp only [List.map_cons, List.mem_cons, hxk, false_or]

theorem zeroFinish_fresh : ∀ (w : List (Nat × ℚ)) (ks : List Nat), (ks ++ w.map (·.1)).Nodup →
    WFQ.zeroFinish (dictOf ks fun _ => (0 : ℚ)) w = dictOf (ks ++ w.map (·.1)) fun _ => (0 : ℚ)
  | [], ks, _ => by simp [WFQ.zeroFinish]
  | (k, v) :: r, ks, h => by
    have hks : ks.Nodup := (List.nodup_append.mp h).1
    have hk : k ∉ ks := fun hk => (List.nodup_append.mp h).2.2 k hk k (by simp) rfl
    have hu : upd (fun _ => (0 : ℚ)) k (Num.zero : ℚ) = fun _ => (0 : ℚ) := by
      funext x; simp [upd, zero_eq']
    simp only [WFQ.zeroFinish]
    rw [setKey_dictOf _ hks, addKey_of_not_mem _ _ hk, hu, zeroFinish_fresh r (ks ++ [k]) (by simpa using h)]
    simp

theorem zeroFinish_toM (hc : CfgOK F cfg) (fset : Bool) (g : Nat → ℚ) :
    WFQ.zeroFinish (if fset then cfg.weights.map fun kv => (kv.1, g kv.1) else []) cfg.weights =
      cfg.weights.map fun kv => (kv.1, (0 : ℚ)) := by
  cases fset with
  | true =>
    simp only [if_true]
    rw [map_keys_eq, zeroFinish_keys _ hc.nodup _ _ (fun kv hkv => List.mem_map.mpr ⟨kv, hkv, rfl⟩)]
    simp only [dictOf, List.map_map]
    apply List.map_congr_left
    intro kv hkv
    have : kv.1 ∈ List.map (fun x => x.1) cfg.weights := List.mem_map.mpr ⟨kv, hkv, rfl⟩
    simp [this]
  | false =>
    have := zeroFinish_fresh cfg.weights [] (by simpa using hc.nodup)
    simp only [dictOf, List.map_nil, List.nil_append, List.map_map] at this
    simpa [Function.comp_def] using this

end sched

section lts
variable {N scale F : Nat} {flow size : Int → Nat} {cfg : WfqCfg ℚ} {d1 L : Nat} {a a' : A} {now t : ℚ} {q : QEntry ℚ}
  {n e : Nat} {new : List (HEv ℚ)}

theorem total_toM (hi : AInv N scale size F flow cfg d1 L a now) (t : ℚ) :
    Stamp.qcTotal (toM size F flow cfg a t).queueCount = a.total F :=
  (VCK.qcTotal_eq _).trans ((MQK.total_eq a.cnt F (a.keys flow) (keysOf_nodup _) hi.keys_lt
    fun f hf hk => ((hi.keysOK f hf).1 hk).1).trans (sumFrom_eq a.cnt F 0).symm)

theorem sch_toM (t : ℚ) : (toM size F flow cfg a t).sch =
    { vtime := a.vtime, lastTime := a.last,
      finish := if a.fset then cfg.weights.map fun kv => (kv.1, a.fin kv.1) else [],
      active := (List.range F).filter fun c => a.act c,
      classCount := dictOf (a.keys flow) fun c => (a.cls c).getD 0 } := rfl

theorem updateVtime_toM (hc : CfgOK F cfg) (hws : a.ws F cfg ≠ 0) (t : ℚ) (fi : List (Nat × ℚ)) (ccs : List (Nat × Int)) :
    WFQ.updateVtime cfg
        { vtime := a.vtime, lastTime := a.last, finish := fi,
          active := (List.range F).filter fun c => a.act c, classCount := ccs } t =
      .ok { vtime := a.vtime + (t - a.last) / a.ws F cfg, lastTime := a.last, finish := fi,
            active := (List.range F).filter fun c => a.act c, classCount := ccs } := by
  unfold WFQ.updateVtime
  simp only [weightSum_range hc a.act]
  rw [show wsum cfg a.act 0 F 0 = a.ws F cfg from rfl, VCK.eqb_zero_false hws]
  simp

theorem advance_toM (hc : CfgOK F cfg) (hws : a.total F ≠ 0 → a.ws F cfg ≠ 0) (hfs : a.total F ≠ 0 → a.fset = true) (t : ℚ) :
    WFQ.advance cfg (toM size F flow cfg a t).sch t (a.total F) =
      .ok { vtime := a.advV F cfg t, lastTime := a.last,
            finish := cfg.weights.map fun kv => (kv.1, a.advFin F kv.1),
            active := (List.range F).filter fun c => a.act c,
            classCount := dictOf (a.keys flow) fun c => (a.cls c).getD 0 } := by
  rw [sch_toM]
  unfold WFQ.advance
  by_cases h0 : a.total F = 0
  · simp only [h0, if_true, WFQ.resetVtime, zeroFinish_toM hc, A.advV, A.advFin, zero_eq']
  · simp only [h0, if_false, hfs h0, if_true, A.advV, A.advFin]
    exact updateVtime_toM hc (hws h0) t _ _

theorem getD_upd_l (g : Nat → Option Int) (c : Nat) (v : Int) :
    (fun x => (upd g c (some v) x).getD 0) = upd (fun x => (g x).getD 0) c v :=
  funext fun x => getD_upd g c x v

theorem put_toM (hi : AInv N scale size F flow cfg d1 L a now) {id : Int} (hf : flow id < F) (t : ℚ)
    (hws : a.total F ≠ 0 → a.ws F cfg ≠ 0) (hfs : a.total F ≠ 0 → a.fset = true) :
    WFQ.put cfg (toM size F flow cfg a t).sch t (a.total F) (pktOf flow size id) =
      .ok ((toM size F flow cfg (a.afterPut size F flow cfg t id) t).sch, (putRec size F flow cfg a t id).2.2) := by
  have hc := hi.cfgOK
  obtain ⟨m, hm0, hm⟩ := hc.w _ hf
  have hk : flow id ∈ cfg.weights.map (·.1) := List.mem_map_of_mem (lookup_mem _ _ _ hm)
  have hrw : Num.eqb (cfg.rate * (m : ℚ)) (Num.zero : ℚ) = false := by
    apply VCK.eqb_zero_false
    have : (0 : ℚ) < m := by exact_mod_cast hm0
    exact ne_of_gt (mul_pos hc.rate this)
  unfold WFQ.put
  simp only [pktOf, hc.f2c _ hf, advance_toM hc hws hfs, WFQ.stampPut, lookup_map_keys, hk, if_true, hm, hrw,
    Bool.false_eq_true, if_false, WFQ.commit, setKey_map_keys _ hc.nodup _ _ _ hk,
    insertAsc_toM _ hf, lookup_dictOf]
  simp only [sch_toM, A.afterPut, putRec, wOf_of_lookup_l hm, A.keys, List.map_append, List.map_singleton, keysOf_snoc,
    getD_upd_l, if_true, setKey_dictOf _ (keysOf_nodup _)]
  by_cases hkk : flow id ∈ keysOf flow (a.puts.map (·.1))
  · simp only [hkk, if_true]
  · simp only [hkk, if_false, ((hi.keysOK _ hf).1 hkk).2.2, Option.getD_none]

theorem done_toM (hi : AInv N scale size F flow cfg d1 L a now) {p : EvId} {id0 : Int} {q0 : QEntry ℚ}
    (hr : a.run = .F p id0 q0) (t : ℚ) :
    WFQ.done cfg (toM size F flow cfg a t).sch t (pktOf flow size id0) =
      .ok (toM size F flow cfg (a.afterDone F flow cfg t id0) t).sch := by
  have hc := hi.cfgOK
  have hrun := hi.run
  rw [hr] at hrun
  obtain ⟨-, -, -, hf, w, hw, hwid⟩ := hrun
  obtain ⟨hws, ncls, hcls, hn1, hact⟩ := hi.of_heldC (id0 := id0) (by simp [hr, RPhase.heldC]) hf
  have hfs : a.fset = true := hi.fsetOK (List.ne_nil_of_mem hw)
  have hk : flow id0 ∈ keysOf flow (a.puts.map (·.1)) := by
    subst hwid
    exact mem_keysOf (List.mem_map.mpr ⟨w, hw, rfl⟩)
  have hzf := zeroFinish_toM hc true a.fin
  simp only [if_true] at hzf
  unfold WFQ.done
  rw [sch_toM, updateVtime_toM hc hws]
  simp only [pktOf, hc.f2c _ hf, WFQ.leave, A.keys, lookup_dictOf, hk, if_true]
  by_cases h0 : (a.cls (flow id0)).getD 0 - 1 = 0
  · simp only [h0, if_true, contains_toM a.act hf hact, remove_toM, WFQ.settle, isEmpty_toM,
      setKey_dictOf _ (keysOf_nodup _), addKey_of_mem _ _ hk]
    by_cases hz : nAct (upd a.act (flow id0) false) 0 F 0 = 0
    · simp only [hz, decide_true, if_true, WFQ.resetVtime, hfs, hzf, sch_toM, A.afterDone, actAfter, h0,
        getD_upd_l, A.keys, zero_eq']
    · simp only [hz, decide_false, Bool.false_eq_true, if_false, hfs, if_true, sch_toM, A.afterDone, actAfter, h0,
        getD_upd_l, A.keys]
  · simp only [h0, if_false, WFQ.settle, isEmpty_toM, setKey_dictOf _ (keysOf_nodup _), addKey_of_mem _ _ hk]
    have hz : ¬ nAct a.act 0 F 0 = 0 := fun h => by
      rw [(nAct_zero_iff a.act F).mp h _ hf] at hact
      cases hact
    simp only [hz, decide_false, Bool.false_eq_true, if_false, hfs, if_true, sch_toM, A.afterDone, actAfter, h0,
      getD_upd_l, A.keys]


end lts

section runs
variable {N scale F : Nat} {flow size : Int → Nat} {cfg : WfqCfg ℚ} {d1 L : Nat} {a a' : A} {now t : ℚ} {q : QEntry ℚ}
  {n e : Nat} {new : List (HEv ℚ)}

def LtsOK (size : Int → Nat) (F : Nat) (flow : Int → Nat) (cfg : WfqCfg ℚ) (a : A) (t : ℚ) (a' : A) (ins outs : List SPkt) : Prop :=
  ∃ acts, Stamp.runActs (WFQ.sched cfg) (toM size F flow cfg a t) acts = .ok (toM size F flow cfg a' t, ins, outs)

theorem ltsOK_nothing (h : toM size F flow cfg a' t = toM size F flow cfg a t) : LtsOK size F flow cfg a t a' [] [] :=
  ⟨[], by rw [h]; rfl⟩

theorem ltsOK_one (act : StAct ℚ) (o : StOut)
    (h : Stamp.step (WFQ.sched cfg) (toM size F flow cfg a t) act = .ok (toM size F flow cfg a' t, o)) :
    LtsOK size F flow cfg a t a' (Stamp.entered act o) (Stamp.left o) := by
  refine ⟨[act], ?_⟩
  simp only [Stamp.runActs, h, List.append_nil]

theorem txTime_eq (id : Int) : Stamp.txTime (WFQ.sched cfg) (pktOf flow size id) = WFQOnK.txTime size cfg.rate id := rfl

theorem doPut_toM (hi : AInv N scale size F flow cfg d1 L a now) {id : Int} (hf : flow id < F) (t : ℚ) :
    Stamp.doPut (WFQ.sched cfg) (toM size F flow cfg a t) (pktOf flow size id) =
      .ok (Stamp.enqueue (toM size F flow cfg a t) (toM size F flow cfg (a.afterPut size F flow cfg t id) t).sch
            (putRec size F flow cfg a t id).2.2 (pktOf flow size id), .accepted) := by
  have h : (WFQ.sched cfg).onPut (toM size F flow cfg a t).sch (toM size F flow cfg a t).now
      (Stamp.qcTotal (toM size F flow cfg a t).queueCount) (pktOf flow size id) =
        .ok ((toM size F flow cfg (a.afterPut size F flow cfg t id) t).sch, (putRec size F flow cfg a t id).2.2) := by
    rw [total_toM hi]
    exact put_toM hi hf t (fun h => (hi.of_total h).1) (fun h => (hi.of_total h).2)
  unfold Stamp.doPut
  rw [h]

theorem lts_put (hi : AInv N scale size F flow cfg d1 L a q.time) {id : Int} {arr : List (ℚ × Int)}
    (h : a.src = .wait id arr q) :
    Stamp.step (WFQ.sched cfg) (toM size F flow cfg a q.time) (.put (pktOf flow size id)) =
      .ok (toM size F flow cfg { a.afterPut size F flow cfg q.time id with
        src := srcNext q.time (e + 1) (n + 1) arr
        pend := a.pend ++ [⟨q.time, NORMAL, e, n⟩] } q.time, .accepted) := by
  have hs := hi.src
  rw [h] at hs
  obtain ⟨-, hwk, -, -⟩ := hs
  have hfid : flow id < F := (hwk.gap (0, id) List.mem_cons_self).2.1
  have h0c : flow id ∉ a.keys flow → a.cnt (flow id) = 0 := fun hk => ((hi.keysOK _ hfid).1 hk).1
  have h0b : flow id ∉ a.keys flow → a.byt (flow id) = 0 := fun hk => ((hi.keysOK _ hfid).1 hk).2.1
  simp only [Stamp.step]
  rw [doPut_toM hi hfid]
  simp only [Stamp.enqueue, toM, A.keys, keysOf_snoc, putRec, pktOf, bump_dictOf _ (keysOf_nodup _) _ _ _ h0c,
    bump_dictOf _ (keysOf_nodup _) _ _ _ h0b, List.map_append, List.map_singleton, itemW, A.afterPut]

theorem ltsOK_step (hi : AInv N scale size F flow cfg d1 L a q.time) (h : AStep N scale size F flow cfg n e a q a' new) :
    LtsOK size F flow cfg a q.time a' (putPk size flow new) (outPk size flow new) := by
  have hrun := hi.run
  cases h with
  | runInit h =>
    rw [h] at hrun
    obtain ⟨-, -, -, hit, -, -⟩ := hrun
    refine ltsOK_one (.init none) .nothing ?_
    simp only [toM, h, hit, Stamp.step, Stamp.doInit, Bool.false_eq_true, if_false, List.map_nil, Stamp.issueGet, A.keys]
  | pktResume g w h =>
    refine ltsOK_one .resume .nothing ?_
    simp only [toM, h, Stamp.step, Stamp.doResume, itemW, A.keys]
  | sendInit p id h =>
    refine ltsOK_one .sendInit .nothing ?_
    have hr : Num.eqb (WFQ.sched cfg).rate (Num.zero : ℚ) = false := VCK.eqb_zero_false (ne_of_gt hi.cfgOK.rate)
    have hneg : ¬ WFQOnK.txTime size cfg.rate id < (Num.zero : ℚ) := by
      rw [zero_eq']
      exact not_lt.mpr (txTime_nonneg hi.cfgOK.rate id)
    simp only [toM, h, Stamp.step, Stamp.doSendInit, hr, Bool.false_eq_true, if_false, hneg, txTime_eq, Option.map_some,
      A.keys]
  | sendFire p t id h =>
    rw [h] at hrun
    obtain ⟨-, hcur, hfid, w, hw, hwid⟩ := hrun
    have hk : flow id ∈ a.keys flow := by
      subst hwid
      exact mem_keysOf (List.mem_map.mpr ⟨w, hw, rfl⟩)
    refine ltsOK_one .sendFire (.depart (pktOf flow size id)) ?_
    have hk' : addKey (keysOf flow (List.map (fun x => x.1) a.puts)) (flow id) = keysOf flow (List.map (fun x => x.1) a.puts) :=
      addKey_of_mem _ _ hk
    simp only [toM, h, Stamp.step, Stamp.doSendFire, lt_irrefl, if_false, Stamp.release, pktOf, A.keys,
      bump_dictOf _ (keysOf_nodup _) _ _ _ (fun h0 => absurd hk h0), hk', Option.map_none]
  | doneHit p id0 w h hw =>
    refine ltsOK_one (.sendDone (some w.1.toNat)) .nothing ?_
    have hf : (toM size F flow cfg a q.time).fin = some (pktOf flow size id0) := by simp only [toM, h]
    have hpk := pick_least hi hw
    have hd : (WFQ.sched cfg).onDone (toM size F flow cfg a q.time).sch (toM size F flow cfg a q.time).now
        (pktOf flow size id0) = _ := done_toM hi h q.time
    simp only [Stamp.step, Stamp.doSendDone, hf, hd]
    rw [VCK.issueGet_some _ _ _ _ (by exact hpk)]
    simp only [toM, h, A.keys, A.afterDone]
  | doneBlock p id0 h hit =>
    refine ltsOK_one (.sendDone none) .nothing ?_
    have hf : (toM size F flow cfg a q.time).fin = some (pktOf flow size id0) := by simp only [toM, h]
    have hd : (WFQ.sched cfg).onDone (toM size F flow cfg a q.time).sch (toM size F flow cfg a q.time).now
        (pktOf flow size id0) = _ := done_toM hi h q.time
    simp only [Stamp.step, Stamp.doSendDone, hf, hd]
    rw [VCK.issueGet_none _ (by exact congrArg (List.map (itemW size flow)) hit)]
    simp only [toM, h, A.keys, A.afterDone]
  | srcPut id arr h =>
    show LtsOK size F flow cfg a q.time _ (Stamp.entered (.put (pktOf flow size id)) .accepted) (Stamp.left .accepted)
    exact ltsOK_one (.put (pktOf flow size id)) .accepted (lts_put hi h)
  | srcInit arr h | srcEnd h | pendNoop l1 l2 hpe hno => exact ltsOK_nothing rfl
  | pendHand g w l1 l2 hpe h hw =>
    refine ltsOK_one (.handoff w.1.toNat) .nothing ?_
    simp only [toM, h, Stamp.step, Stamp.doHandoff, if_true, pick_least (size := size) hi hw, A.keys]

theorem lts_tick (hi : AInv N scale size F flow cfg d1 L a now) (hq : IsMin a q) (h : now < q.time) :
    Stamp.step (WFQ.sched cfg) (toM size F flow cfg a now) (.tick q.time) = .ok (toM size F flow cfg a q.time, .nothing) := by
  have hne : ∀ x ∈ a.entries, x.time ≠ now := min_ne_now hi.due hq h
  have hp := hi.run
  have hok : Stamp.tickOk (toM size F flow cfg a now) q.time = none := by
    rw [Stamp.tickOk_iff]
    cases hr : a.run with
    | T p t id q0 =>
      have h2 : q.time ≤ q0.time := not_keyLt_time (hq.2 q0 (mem_run (by rw [hr]; exact List.mem_cons_self)))
      simp only [toM, hr]
      refine ⟨le_of_lt h, rfl, rfl, rfl, rfl, fun hh => absurd hh.1 Bool.false_ne_true, ?_⟩
      intro p' due htx
      simp only [Option.some.injEq, Prod.mk.injEq] at htx
      rw [← htx.2]; exact h2
    | W g =>
      rw [hr] at hp
      simp only [toM, hr]
      refine ⟨le_of_lt h, rfl, rfl, rfl, rfl, ?_, fun _ _ hh => nomatch hh⟩
      rintro ⟨-, hit⟩
      have hit' : a.items ≠ [] := fun hc => hit (by rw [hc]; rfl)
      obtain ⟨u, hu⟩ := List.exists_mem_of_ne_nil _ (hp.1 hit')
      exact hne u (mem_pend hu) (hi.pend _ hu).1
    | _ => rw [hr] at hp; exact absurd hp.1 (hne _ (mem_run (by rw [hr]; exact List.mem_cons_self)))
  simp only [Stamp.step, Stamp.doTick, hok]
  rfl

theorem lts_advance (hi : AInv N scale size F flow cfg d1 L a now) (hq : IsMin a q) :
    ∃ acts, Stamp.runActs (WFQ.sched cfg) (toM size F flow cfg a now) acts = .ok (toM size F flow cfg a q.time, [], []) := by
  rcases eq_or_lt_of_le (hi.now_le hq) with h | h
  · exact ⟨[], by rw [← h]; rfl⟩
  · refine ⟨[.tick q.time], ?_⟩
    simp only [Stamp.runActs, lts_tick hi hq h]
    rfl

theorem toM_a0 (arrivals : List (ℚ × Int)) : toM size F flow cfg (a0 arrivals) 0 = WFQ.start 0 := by
  simp [toM, a0, WFQ.start, Stamp.init, WFQ.init0, A.keys, keysOf, dictOf, zero_eq']

theorem putPk_append (l1 l2 : List (HEv ℚ)) : putPk size flow (l1 ++ l2) = putPk size flow l1 ++ putPk size flow l2 :=
  List.filterMap_append

theorem outPk_append (l1 l2 : List (HEv ℚ)) : outPk size flow (l1 ++ l2) = outPk size flow l1 ++ outPk size flow l2 :=
  List.filterMap_append


end runs

end WFQK
