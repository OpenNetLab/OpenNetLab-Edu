import OnlVerif.Lemmas.WireKCfg
/-!
# The Wire on the kernel model: the kernel steps

Each kernel step is computed on the configuration `cfgOf a s st0` by the machine of `Lemmas/KProcDefs.lean`: `hrun_*` say what the
pieces of the two generators do to cells, store and trace, `Lemmas/KProcMach.lean` how a burst ends; `StepsTo.of_hend` (a step
that resumes a process) and `StepsTo.of_ginv` read the configuration `a'` of the state after the step off the result.
-/

namespace WireK
open WireOnK
open TimerK (dec_enc)
open KProc

variable {cfg : WireCfg ℚ} {losses delays : List ℚ}
variable {s : KS} {a : A} {q : QEntry ℚ} {rest : List (QEntry ℚ)} {st0 : St}

/-- the trace `tr'` has `new` more forwarded and `lf` more departed (forwarded or dropped) packets than `tr` -/
def Sees (tr tr' : Array (Obs ℚ)) (new : List (Int × ℚ)) (lf : List Int) : Prop :=
  outsOf tr' = outsOf tr ++ new ∧ leftsOf tr' = leftsOf tr ++ lf

/-- the kernel step from `s` succeeds at the instant of `q` in a state with configuration `a'`, `new` having been forwarded and `lf`
having left the wire -/
def StepsTo (cfg : WireCfg ℚ) (losses delays : List ℚ) (fuel : Nat) (s : KS) (q : QEntry ℚ) (a' : A) (new : List (Int × ℚ))
    (lf : List Int) : Prop :=
  ∃ s', step (body cfg losses delays) (fuel + 1) s = .ok s' ∧ KInv s' a' ∧ s'.now = q.time ∧ Sees s.trace s'.trace new lf

/-- the configuration `c'` (of the machine, between two steps) displays `a'` -/
structure Shows (c' : Cfg St) (a' : A) (st0 : St) : Prop where
  threads : c'.threads = wireThread a'.wire :: srcThreads st0 a'.src
  pend : c'.pend = a'.pend.toList.map (·, 0)
  stores : ∀ r, c'.stores r = if r = 0 then some { getQ := a'.wire.getQ, items := a'.items } else none
  loose : c'.loose = []
  cur : c'.cur = none
  wire : a'.wire.OK
  cells : Cells c'.reg.cells a'.cts

/-- a state that is the configuration `c'` the machine has computed has the configuration `a'` that `c'` displays -/
theorem KInv.of_ginv {s' : KS} {c' : Cfg St} {a' : A} (hg : GInv s' c') (h : Shows c' a' st0) : KInv s' a' := by
  obtain ⟨ht, hp, hs, hl, hcur, hr, hc⟩ := h
  have hreg := hg.reg
  have hc' : c' = cfgOf a' s' st0 := hg.cfg_eq ht hp hs hl hcur
  exact kinv_iff.mpr ⟨hr, hc' ▸ hg, by rw [hreg] at hc; exact hc⟩

theorem StepsTo.of_ginv {fuel : Nat} {c' : Cfg St} {a' : A} {new : List (Int × ℚ)} {lf : List Int}
    (h : ∃ s', step (body cfg losses delays) (fuel + 1) s = .ok s' ∧ GInv s' c') (hsh : Shows c' a' st0)
    (hnow : c'.reg.now = q.time) (hh : Sees s.trace c'.reg.trace new lf) : StepsTo cfg losses delays fuel s q a' new lf := by
  obtain ⟨s', hstep, hg⟩ := h
  refine ⟨s', hstep, .of_ginv hg hsh, ?_, ?_⟩
  · rw [hg.reg] at hnow; exact hnow
  · rw [hg.reg] at hh; exact hh

theorem store_cfgOf {th : Thread St} (hth : th ∈ (cfgOf a s st0).threads) {r : ResId} {q' : QEntry ℚ} {v : Int}
    (h : th.wait = .getH r q' v) : r = 0 := by
  rcases List.mem_cons.mp hth with rfl | hth
  · revert h
    cases a.wire <;> intro h <;> cases h
    rfl
  · revert hth
    cases a.src <;> intro hth <;> simp only [srcThreads, List.mem_singleton, List.not_mem_nil] at hth <;> subst hth <;> cases h

/-- the step that resumes the process `th` with the entry `q`: its burst is run to the end on the configuration -/
theorem StepsTo.of_hend {fuel : Nat} (hk : KInv s a) {th : Thread St} {p : EvId} {arg : Resume} {c' : Cfg St} {a' : A}
    {new : List (Int × ℚ)} {lf : List Int} (hth : th ∈ (cfgOf a s st0).threads) (hw : th.wait.resumes = some (q, arg))
    (hp : popMin s.agenda = some (q, rest))
    (he : hend ((hbegin (cfgOf a s st0) p q arg).wr (Regs.of s).cells (s.trace.push (.resumed p arg q.time))) p
      (body cfg losses delays th.st arg) = some c')
    (hpid : th.pid = p) (hsh : Shows c' a' st0) (hnow : c'.reg.now = q.time) (hh : Sees s.trace c'.reg.trace new lf) :
    StepsTo cfg losses delays fuel s q a' new lf :=
  .of_ginv ((kinv_iff.mp hk).2.1.step_resume (body cfg losses delays) fuel hth hw (fun _ _ _ hh => store_cfgOf hth hh ▸ rfl) hp
    ((hresume_eq _ _ _ hw).trans (hpid ▸ he))) hsh hnow hh

theorem modTh_srcThreads (sp : SPhase) (f : Thread St → Thread St) : modTh (srcThreads st0 sp) 0 f = srcThreads st0 sp := by
  cases sp <;> rfl

theorem modTh_wire (p : WPhase) (sp : SPhase) (f : Thread St → Thread St) :
    modTh (wireThread p :: srcThreads st0 sp) 0 f = f (wireThread p) :: srcThreads st0 sp := by
  rw [modTh_cons, modTh_srcThreads]
  rfl

theorem modTh_cfgOf (p : WPhase) (f : Thread St → Thread St) :
    modTh (cfgOf a s st0).threads (wireThread p).pid f = f (wireThread a.wire) :: srcThreads st0 a.src :=
  modTh_wire ..

/-- the threads after a burst of `Wire.run` -/
theorem threads_wire (arg : Resume) (f : Nat → Val) (tr : Array (Obs ℚ)) (g : Thread St → Thread St) :
    modTh ((hbegin (cfgOf a s st0) 0 q arg).wr f tr).threads 0 g =
      g ⟨0, a.wire.st, .running, none⟩ :: srcThreads st0 a.src := by
  show modTh (modTh (wireThread a.wire :: srcThreads st0 a.src) 0 fun th => { th with wait := .running }) 0 g = _
  rw [modTh_wire, modTh_cons, modTh_srcThreads]
  rfl

theorem Sees.rfl (tr : Array (Obs ℚ)) : Sees tr tr [] [] := ⟨(List.append_nil _).symm, (List.append_nil _).symm⟩

theorem sees_resumed (tr : Array (Obs ℚ)) (p : EvId) (r : Resume) (t : ℚ) : Sees tr (tr.push (.resumed p r t)) [] [] :=
  ⟨outsOf_push .., leftsOf_push ..⟩

theorem sees_ended (tr : Array (Obs ℚ)) (p : EvId) (r : Resume) (o : Outcome) (t : ℚ) :
    Sees tr ((tr.push (.resumed p r t)).push (.ended p o t)) [] [] := by
  simp [Sees, outsOf_push, leftsOf_push]

theorem sees_out (tr : Array (Obs ℚ)) (p : EvId) (r : Resume) (id : Int) (t : ℚ) :
    Sees tr ((tr.push (.resumed p r t)).push (.log 0 "out" (.int id) t)) [(id, t)] [id] := by
  simp [Sees, outsOf_push, leftsOf_push]

theorem sees_lost (tr : Array (Obs ℚ)) (p : EvId) (r : Resume) (id : Int) (t : ℚ) :
    Sees tr ((tr.push (.resumed p r t)).push (.log 0 "lost" (.int id) t)) [] [id] := by
  simp [Sees, outsOf_push, leftsOf_push]

/-! ## the steps of the source and of the store -/

/-- where the source goes at the head of its loop: it sleeps until the arrival of packet `next` (timeout event `ev`, entry number
`eid`) or its generator returns (process event 2) -/
def srcNext (now : ℚ) (eid : Nat) (ev : EvId) (next : Nat) : List ℚ → SPhase
  | [] => .ending ⟨now, NORMAL, eid, 2⟩
  | gap :: r => .wait next r ⟨now + gap, NORMAL, eid, ev⟩

/-- the `Initialize` event of the source: it sleeps until the first arrival, or returns at once -/
theorem kstep_srcInit (fuel : Nat) (hk : KInv s a) {arr : List ℚ} (hph : a.src = .init q arr) (hgap : GapsOK arr)
    (hp : popMin s.agenda = some (q, rest)) :
    StepsTo cfg losses delays fuel s q { a with src := srcNext q.time s.eid s.events.size 0 arr } [] [] := by
  obtain ⟨hr, -, hc⟩ := (kinv_iff (st0 := .wStart 0)).mp hk
  cases a
  subst hph
  cases arr with
  | nil =>
    exact .of_hend (st0 := .src q.time false 0 []) (th := ⟨2, .src q.time false 0 [], .init q, some []⟩) hk (.tail _ (.head _)) rfl
      hp (hend_ret (p := 2) .none rfl) rfl ⟨rfl, rfl, fun _ => rfl, rfl, rfl, hr, hc⟩ rfl (sees_ended ..)
  | cons x r =>
    exact .of_hend (st0 := .wStart 0) (th := ⟨2, .src q.time false 0 (x :: r), .init q, some []⟩) hk (.tail _ (.head _)) rfl hp
      (hend_sleep (p := 2) (hgap x List.mem_cons_self) rfl) rfl ⟨rfl, rfl, fun _ => rfl, rfl, rfl, hr, hc⟩ rfl
      (sees_resumed ..)

/-- `Wire.put(packet)`: the counter, the packet's stamp, then `store.put`, whose `StorePut` event is triggered at once -/
theorem hrun_put (c : Cfg St) {n : Int} {st : HStore} (now : ℚ) (id : Int) (cont : Burst ℚ St) (h0 : c.reg.cells 0 = .int n)
    (hst : c.stores 0 = some st) :
    hrun 2 (wirePut now id cont) c = hrun 2 cont { c with
      reg := { c.reg with evSize := c.reg.evSize + 1, eid := c.reg.eid + 1
                          cells := upd (upd c.reg.cells 0 (.int (n + 1))) (cPkt id) (TimeCell.enc now) }
      stores := upd c.stores 0 (some { st with items := st.items ++ [id] })
      pend := c.pend ++ [(⟨c.reg.now, NORMAL, c.reg.eid, c.reg.evSize⟩, 0)] } := by
  heval [wirePut, loadInt, cRec, storeId, h0, hst]

/-- an arrival: the source's timeout fires and `Wire.put(packet)` -/
theorem kstep_srcPut (fuel : Nat) (hk : KInv s a) {next : Nat} {arr : List ℚ} (hph : a.src = .wait next arr q)
    (hn : a.pend = none) (hnext : next = a.cts.length) (hgap : GapsOK arr) (hp : popMin s.agenda = some (q, rest)) :
    StepsTo cfg losses delays fuel s q { a with
        src := srcNext q.time (s.eid + 1) (s.events.size + 1) (next + 1) arr
        pend := some ⟨q.time, NORMAL, s.eid, s.events.size⟩
        items := a.items ++ [(next : Int)]
        cts := a.cts ++ [q.time] } [] [] := by
  obtain ⟨hr, -, hc⟩ := (kinv_iff (st0 := .wStart 0)).mp hk
  obtain ⟨wire, src, pend, items, cts⟩ := a
  subst hph hn
  obtain rfl : next = cts.length := hnext
  have hb := hend_congr (p := 2) (hrun_put ((hbegin (cfgOf ⟨wire, .wait cts.length arr q, none, items, cts⟩ s (.wStart 0)) 2 q
    (.value .none)).wr (Regs.of s).cells (s.trace.push (.resumed 2 (.value .none) q.time))) q.time cts.length
    (srcLoop q.time (cts.length + 1) arr) hc.c0 rfl)
  cases arr with
  | nil =>
    exact .of_hend (st0 := .src q.time true cts.length []) (th := ⟨2, .src q.time true cts.length [], .sleep q, some []⟩) hk
      (.tail _ (.head _)) rfl hp (hb.trans (hend_ret .none rfl)) rfl
      ⟨rfl, rfl, fun _ => stores_upd .., rfl, rfl, hr, hc.stamp q.time⟩ rfl (sees_ended ..)
  | cons x r =>
    exact .of_hend (st0 := .wStart 0) (th := ⟨2, .src q.time true cts.length (x :: r), .sleep q, some []⟩) hk
      (.tail _ (.head _)) rfl hp (hb.trans (hend_sleep (hgap x List.mem_cons_self) rfl)) rfl
      ⟨rfl, rfl, fun _ => stores_upd .., rfl, rfl, hr, hc.stamp q.time⟩ rfl (sees_resumed ..)

/-- the process event of the finished source: nobody waits for it -/
theorem kstep_srcEnd (fuel : Nat) (hk : KInv s a) (hph : a.src = .ending q) (hp : popMin s.agenda = some (q, rest)) :
    StepsTo cfg losses delays fuel s q { a with src := .done } [] [] := by
  obtain ⟨hr, hg, hc⟩ := (kinv_iff (st0 := .wStart 0)).mp hk
  cases a
  subst hph
  exact .of_ginv (st0 := .wStart 0) (hg.step_finish (body cfg losses delays) fuel (th := ⟨2, .wStart 0, .ending q .none, some []⟩)
      (.tail _ (.head _)) rfl hp (hfinish_alone _ q .none rfl))
    ⟨rfl, rfl, fun _ => rfl, rfl, rfl, hr, hc⟩ rfl (.rfl _)

/-- the `StorePut` event is processed (`_trigger_get`): nobody waits, or the waiting server finds the store empty -/
theorem kstep_putIdle (fuel : Nat) (hk : KInv s a) (hpe : a.pend = some q) (hw : a.wire.getQ = [] ∨ a.items = [])
    (hp : popMin s.agenda = some (q, rest)) : StepsTo cfg losses delays fuel s q { a with pend := none } [] [] := by
  obtain ⟨hr, hg, hc⟩ := (kinv_iff (st0 := .wStart 0)).mp hk
  obtain ⟨wire, src, pend, items, cts⟩ := a
  subst hpe
  have he : hpend (cfgOf ⟨wire, src, some q, items, cts⟩ s (.wStart 0)) (q, 0) [] =
      some { cfgOf ⟨wire, src, some q, items, cts⟩ s (.wStart 0) with reg := { Regs.of s with now := q.time }, pend := [] } := by
    cases wire with
    | W g t0 nl nd =>
      obtain rfl : items = [] := hw.resolve_left (List.cons_ne_nil _ _)
      exact hpend_empty (th := wireThread (.W g t0 nl nd)) rfl rfl (by simp [cfgOf, wireThread, WPhase.wait, Wait.isGetW]) rfl
    | _ => exact hpend_none rfl rfl
  exact .of_ginv (st0 := .wStart 0) (hg.step_pend (body cfg losses delays) (fuel + 1) (u := (q, 0)) (.refl _) hp he)
    ⟨rfl, rfl, fun _ => rfl, rfl, rfl, hr, hc⟩ rfl (.rfl _)

/-- the `StorePut` event is processed (`_trigger_get`): the head item is handed to the waiting server, whose `StoreGet` event
is triggered -/
theorem kstep_putHand (fuel : Nat) (hk : KInv s a) {g : EvId} {t0 : ℚ} {nl nd : Nat} {i : Int} {is : List Int}
    (hpe : a.pend = some q) (hph : a.wire = .W g t0 nl nd) (hit : a.items = i :: is) (hp : popMin s.agenda = some (q, rest)) :
    StepsTo cfg losses delays fuel s q
      { a with pend := none, wire := .H g i ⟨q.time, NORMAL, s.eid, g⟩ t0 nl nd, items := is } [] [] := by
  obtain ⟨-, hg, hc⟩ := (kinv_iff (st0 := .wStart 0)).mp hk
  obtain ⟨wire, src, pend, items, cts⟩ := a
  subst hpe hph hit
  have he := hpend_hand (c := cfgOf ⟨.W g t0 nl nd, src, some q, i :: is, cts⟩ s (.wStart 0)) (u := (q, 0)) (pend' := [])
    (th := wireThread (.W g t0 nl nd)) (hs := ⟨false, [g], i :: is⟩) rfl rfl
    (by simp [cfgOf, wireThread, WPhase.wait, Wait.isGetW]) rfl
  exact .of_ginv (st0 := .wStart 0) (hg.step_pend (body cfg losses delays) (fuel + 1) (u := (q, 0)) (.refl _) hp he)
    ⟨by rw [modTh_cfgOf]; rfl, rfl, fun _ => stores_upd .., rfl, rfl, rfl, hc⟩ rfl (.rfl _)

/-! ## the steps of `Wire.run` -/

variable {f : Nat → Val} {tr : Array (Obs ℚ)} {arg : Resume}

/-- the burst of `Wire.run` (suspended in `st`) resumed by `q` arrives at the head of its loop with the draw counters `nl`, `nd`,
`new` having been forwarded and `lf` having left -/
def LoopsAt (cfg : WireCfg ℚ) (losses delays : List ℚ) (s : KS) (a : A) (q : QEntry ℚ) (st : St) (arg : Resume) (nl nd : Nat)
    (new : List (Int × ℚ)) (lf : List Int) : Prop :=
  ∃ tr, hrun 0 (body cfg losses delays st arg) ((hbegin (cfgOf a s (.wStart 0)) 0 q arg).wr (Regs.of s).cells
      (s.trace.push (.resumed 0 arg q.time))) =
        hrun 0 (wireLoop q.time nl nd) ((hbegin (cfgOf a s (.wStart 0)) 0 q arg).wr (Regs.of s).cells tr) ∧
    Sees s.trace tr new lf

/-- at the head of its loop `Wire.run` calls `store.get()` (new event `s.events.size`): it is blocked on the empty store, or
served at once with the head of the store -/
theorem wire_gets (fuel : Nat) (hk : KInv s a) {ph : WPhase} (hph : a.wire = ph) (hw : ph.wait.resumes = some (q, arg))
    (hgq : ph.getQ = []) (hp : popMin s.agenda = some (q, rest)) {nl nd : Nat} {new : List (Int × ℚ)} {lf : List Int}
    (h : LoopsAt cfg losses delays s a q ph.st arg nl nd new lf) :
    (a.items = [] → StepsTo cfg losses delays fuel s q { a with wire := .W s.events.size q.time nl nd } new lf) ∧
    ∀ i is, a.items = i :: is → StepsTo cfg losses delays fuel s q
      { a with wire := .H s.events.size i ⟨q.time, NORMAL, s.eid, s.events.size⟩ q.time nl nd, items := is } new lf := by
  obtain ⟨-, -, hc⟩ := (kinv_iff (st0 := .wStart 0)).mp hk
  obtain ⟨tr, hb, htr⟩ := h
  obtain ⟨wire, src, pend, items, cts⟩ := a
  subst hph
  have hst : ((hbegin (cfgOf ⟨wire, src, pend, items, cts⟩ s (.wStart 0)) 0 q arg).wr (Regs.of s).cells tr).stores 0 =
      some ⟨false, [], items⟩ := congrArg (fun l => some (HStore.mk false l items)) hgq
  constructor
  · rintro rfl
    exact .of_hend (st0 := .wStart 0) hk List.mem_cons_self hw hp ((hend_congr hb).trans (hend_get_miss hst rfl rfl rfl))
      rfl ⟨by rw [threads_wire]; rfl, rfl, fun _ => stores_upd .., rfl, rfl, trivial, hc⟩ rfl htr
  · rintro i is rfl
    exact .of_hend (st0 := .wStart 0) hk List.mem_cons_self hw hp ((hend_congr hb).trans (hend_get_hit hst rfl rfl rfl))
      rfl ⟨by rw [threads_wire]; rfl, rfl, fun _ => stores_upd .., rfl, rfl, rfl, hc⟩ rfl htr

/-- `Wire.run` after `store.get()`, with the two forms of the loss test merged -/
theorem wireServe_eq (t0 : ℚ) (nl nd : Nat) (id : Int) :
    wireServe cfg losses delays t0 nl nd id =
      loadTime (cPkt id) fun ct =>
      if isLost cfg (draw losses nl) then wireLost (Num.pymax t0 ct) id (nlNext cfg nl) nd
      else if Num.pymax t0 ct - ct < draw delays nd then
        .call (.timeout (draw delays nd - (Num.pymax t0 ct - ct)) .none) fun rp => match rp with
          | .ev t => .yield t (.wTx id (Num.pymax t0 ct + (draw delays nd - (Num.pymax t0 ct - ct))) (nlNext cfg nl) (nd + 1))
          | rp => bad rp
      else wireOut (Num.pymax t0 ct) id (nlNext cfg nl) (nd + 1) := by
  unfold wireServe isLost Wire.lostNow nlNext
  cases h : Wire.lossOn cfg with
  | none =>
    simp only [Bool.false_eq_true, if_false]
    rfl
  | some r =>
    simp only [decide_eq_true_eq]
    rfl

/-- `Wire.run` with the packet, taken at `now`: it reads the stamp `ct` and decides -/
theorem hrun_serve (c : Cfg St) {t0 ct now : ℚ} (nl nd : Nat) (id : Int) (hcell : f (cPkt id) = TimeCell.enc ct)
    (hnow : max t0 ct = now) :
    hrun 0 (wireServe cfg losses delays t0 nl nd id) (c.wr f tr) =
      hrun 0 (if isLost cfg (draw losses nl) then wireLost now id (nlNext cfg nl) nd
        else if now - ct < draw delays nd then
          .call (.timeout (draw delays nd - (now - ct)) .none) fun rp => match rp with
            | .ev t => .yield t (.wTx id (now + (draw delays nd - (now - ct))) (nlNext cfg nl) (nd + 1))
            | rp => bad rp
        else wireOut now id (nlNext cfg nl) (nd + 1)) (c.wr f tr) := by
  heval [wireServe_eq, loadTime, hcell, dec_enc, Num.pymax_eq, hnow]

/-- `self.out.put(packet)` -/
theorem hrun_out (c : Cfg St) (now : ℚ) (id : Int) (nl nd : Nat) :
    hrun 0 (wireOut now id nl nd) (c.wr f tr) = hrun 0 (wireLoop now nl nd) (c.wr f (tr.push (.log 0 "out" (.int id) c.reg.now))) := by
  heval [wireOut]

/-- the packet is dropped -/
theorem hrun_lost (c : Cfg St) (now : ℚ) (id : Int) (nl nd : Nat) :
    hrun 0 (wireLost now id nl nd) (c.wr f tr) =
      hrun 0 (wireLoop now nl nd) (c.wr f (tr.push (.log 0 "lost" (.int id) c.reg.now))) := by
  heval [wireLost]

theorem LoopsAt.init : LoopsAt cfg losses delays s a q (.wStart q.time) .start 0 0 [] [] := ⟨_, rfl, sees_resumed ..⟩

/-- the wire's timeout fires: `out.put(packet)` -/
theorem LoopsAt.fire (id : Int) (nl nd : Nat) :
    LoopsAt cfg losses delays s a q (.wTx id q.time nl nd) (.value .none) nl nd [(id, q.time)] [id] :=
  ⟨_, hrun_out _ _ id nl nd, sees_out ..⟩

variable {t0 : ℚ} {nl nd : Nat} {id : Int} (hk : KInv s a) (hid : id.toNat < a.cts.length) (hnow : max t0 (a.ctOf id) = q.time)
include hk hid hnow

/-- the `StoreGet` event of the wire: the packet is lost (dropped at once) -/
theorem LoopsAt.serveLost (hl : isLost cfg (draw losses nl) = true) :
    LoopsAt cfg losses delays s a q (.wGet t0 nl nd) (.value (.int id)) (nlNext cfg nl) nd [] [id] :=
  ⟨_, ((hrun_serve _ nl nd id (hk.cells.ct _ hid) hnow).trans (congrArg (hrun 0 · _) (if_pos hl))).trans (hrun_lost ..),
    sees_lost ..⟩

/-- the `StoreGet` event of the wire: the packet is not lost and has been queued for at least its delay: it is forwarded at once -/
theorem LoopsAt.serveOut (hl : isLost cfg (draw losses nl) = false) (hw : ¬ q.time - a.ctOf id < draw delays nd) :
    LoopsAt cfg losses delays s a q (.wGet t0 nl nd) (.value (.int id)) (nlNext cfg nl) (nd + 1) [(id, q.time)] [id] :=
  ⟨_, ((hrun_serve _ nl nd id (hk.cells.ct _ hid) hnow).trans (congrArg (hrun 0 · _)
    ((if_neg (ne_true_of_eq_false hl)).trans (if_neg hw)))).trans (hrun_out ..), sees_out ..⟩

/-- the `StoreGet` event of the wire: the packet is not lost and has not been queued for its whole delay: the server sleeps the
rest -/
theorem kstep_serveWait (fuel : Nat) {g : EvId} (hph : a.wire = .H g id q t0 nl nd) (hl : isLost cfg (draw losses nl) = false)
    (hw : q.time - a.ctOf id < draw delays nd) (hp : popMin s.agenda = some (q, rest)) :
    StepsTo cfg losses delays fuel s q { a with
      wire := .T s.events.size id ⟨q.time + (draw delays nd - (q.time - a.ctOf id)), NORMAL, s.eid, s.events.size⟩
        (nlNext cfg nl) (nd + 1) } [] [] := by
  obtain ⟨-, -, hc⟩ := (kinv_iff (st0 := .wStart 0)).mp hk
  have hb := (hrun_serve (cfg := cfg) (losses := losses) (delays := delays) (tr := s.trace.push (.resumed 0 (.value (.int id)) q.time))
    (hbegin (cfgOf a s (.wStart 0)) 0 q (.value (.int id))) nl nd id (hc.ct _ hid) hnow).trans
      (congrArg (hrun 0 · _) ((if_neg (ne_true_of_eq_false hl)).trans (if_pos hw)))
  cases a
  subst hph
  exact .of_hend (st0 := .wStart 0) (th := wireThread (.H g id q t0 nl nd)) hk List.mem_cons_self rfl hp
    ((hend_congr hb).trans (hend_sleep (sub_nonneg.mpr hw.le) rfl))
    rfl ⟨by rw [threads_wire]; rfl, rfl, fun _ => rfl, rfl, rfl, rfl, hc⟩ rfl (sees_resumed ..)

end WireK
