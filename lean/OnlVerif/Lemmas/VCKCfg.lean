import OnlVerif.Lemmas.VCKDefs
import OnlVerif.Lemmas.KProc
/-!
# The VirtualClock scheduler on the kernel model: its configurations as configurations of cooperating processes

`cfgOf … a s st0` (the family's parameters first) is the configuration `a` in the terms of `Lemmas/KProcDefs.lean`: the thread of `run`, the thread of the source, the
sender `run` has spawned and joined (the machine appends a spawned process at the end), the pending `StorePut` events, the
`PriorityStore`.  `KInv s a` says that the kernel state `s` is that configuration and what the cells hold.
-/

namespace VCK
open VCOnK
open TimerK (lookup)
open KProc (Thread Cfg GInv Regs)

variable (N scale : Nat)

def runThread : RPhase → Thread St
  | .init q => { pid := 0, st := .runStart, wait := .init q }
  | .W g => { pid := 0, st := .runGet, wait := .getW 0 g }
  | .H _ w q => { pid := 0, st := .runGet, wait := .getH 0 q (codeOf N scale w) }
  | .S p id _ => { pid := 0, st := .runSend id, wait := .join p }
  | .T p _ id _ => { pid := 0, st := .runSend id, wait := .join p }
  | .F p id _ => { pid := 0, st := .runSend id, wait := .join p }

/-- the sender that `run` has spawned and waits for -/
def sendThreads : RPhase → List (Thread St)
  | .S p id q => [{ pid := p, st := .sendStart id, wait := .init q, cbs := some [.resume 0] }]
  | .T p _ id q => [{ pid := p, st := .sendTx id, wait := .sleep q, cbs := some [.resume 0] }]
  | .F p id q => [{ pid := p, st := .sendTx id, wait := .ending q .none, cbs := some [.resume 0] }]
  | _ => []

/-- `st0` = the local state the source had when its generator returned (nothing looks at it) -/
def srcThreads (st0 : St) : SPhase → List (Thread St)
  | .init q arr => [{ pid := 2, st := .src q.time none arr, wait := .init q }]
  | .wait id rest q => [{ pid := 2, st := .src q.time (some id) rest, wait := .sleep q }]
  | .ending q => [{ pid := 2, st := st0, wait := .ending q .none }]
  | .done => []

def cfgOf (a : A) (s : KS) (st0 : St) : Cfg St :=
  { reg := Regs.of s, threads := runThread N scale a.run :: (srcThreads st0 a.src ++ sendThreads a.run)
    pend := a.pend.map (·, 0)
    stores := fun r => if r = 0 then some { prio := true, getQ := a.run.getQ, items := a.items.map (codeOf N scale) } else none }

/-- the events a phase names twice are the same event -/
def RPhase.OK : RPhase → Prop
  | .init q => q.ev = 1
  | .W _ => True
  | .H g _ q => q.ev = g
  | .S p _ q => q.ev = p + 1
  | .T _ t _ q => q.ev = t
  | .F p _ q => q.ev = p

/-- the kernel state `s` has the configuration `a` -/
structure KInv (F : Nat) (s : KS) (a : A) : Prop where
  run : a.run.OK
  g : ∃ st0, GInv s (cfgOf N scale a s st0)
  cells : Cells F (lookup s.shared) a.recv a.cur a.cnt a.byt a.vc a.aux

variable {N scale} {F : Nat} {s : KS} {a : A} {st0 : St}

theorem entries_cfgOf : (cfgOf N scale a s st0).entries.Perm a.entries := by
  have h : (runThread N scale a.run).wait.entries ++ (sendThreads a.run).flatMap (·.wait.entries) = a.run.entries := by
    cases a.run <;> rfl
  have h2 : (srcThreads st0 a.src).flatMap (·.wait.entries) = a.src.entries := by cases a.src <;> rfl
  simp only [Cfg.entries, cfgOf, List.flatMap_cons, List.flatMap_append, h2, List.flatMap_nil, List.nil_append, List.map_map,
    A.entries, ← h, List.append_assoc]
  rw [show ((fun x : QEntry ℚ × ResId => x.1) ∘ fun x => (x, 0)) = id from rfl, List.map_id]
  refine List.Perm.append_left _ ?_
  rw [← List.append_assoc, ← List.append_assoc]
  exact List.perm_append_comm.append_right _

theorem pid_runThread (r : RPhase) : (runThread N scale r).pid = 0 := by cases r <;> rfl

theorem pid_srcThreads {sp : SPhase} : ∀ th ∈ srcThreads st0 sp, th.pid = 2 := by
  cases sp <;> simp [srcThreads]

theorem mem_srcTh {th : Thread St} (h : th ∈ srcThreads st0 a.src) : th ∈ (cfgOf N scale a s st0).threads :=
  List.mem_cons_of_mem _ (List.mem_append_left _ h)

theorem mem_sendTh {th : Thread St} (h : th ∈ sendThreads a.run) : th ∈ (cfgOf N scale a s st0).threads :=
  List.mem_cons_of_mem _ (List.mem_append_right _ h)

theorem src_ne0 {sp : SPhase} : ∀ th ∈ srcThreads st0 sp, th.pid ≠ 0 :=
  fun th hth => by rw [pid_srcThreads th hth]; decide

/-- the sender is neither `run` nor the source -/
theorem send_ne (hg : GInv s (cfgOf N scale a s st0)) {th : Thread St} (hth : th ∈ sendThreads a.run) :
    0 ≠ th.pid ∧ ∀ t ∈ srcThreads st0 a.src, t.pid ≠ th.pid := by
  have h := hg.pids
  rw [cfgOf, List.map_cons, List.nodup_cons, List.map_append, pid_runThread] at h
  exact ⟨fun e => h.1 (e ▸ List.mem_append_right _ (List.mem_map_of_mem hth)),
    fun t ht e => (List.nodup_append.mp h.2).2.2 _ (List.mem_map_of_mem ht) _ (List.mem_map_of_mem hth) e⟩

theorem send_ne2 {t : Thread St} (hg : GInv s (cfgOf N scale a s st0)) (ht : srcThreads st0 a.src = [t]) (h2 : t.pid = 2) :
    ∀ th ∈ sendThreads a.run, th.pid ≠ 2 :=
  fun _ hth => h2 ▸ ((send_ne hg hth).2 t (ht ▸ List.mem_singleton_self t)).symm

/-- a process that does not exist yet is none of the configuration's -/
theorem src_lt (hg : GInv s (cfgOf N scale a s st0)) : ∀ th ∈ srcThreads st0 a.src, th.pid ≠ (Regs.of s).evSize :=
  fun th hth => Nat.ne_of_lt (hg.plt th (mem_srcTh hth))

theorem KInv.wf (hk : KInv N scale F s a) : AgendaWF s :=
  let ⟨_, hg⟩ := hk.g
  hg.wf

theorem KInv.ag (hk : KInv N scale F s a) : s.agenda.Perm a.entries :=
  let ⟨_, hg⟩ := hk.g
  hg.ag.trans entries_cfgOf

theorem KInv.st (hk : KInv N scale F s a) : s.res 0 = pstoreRec a.run.getQ (a.items.map (codeOf N scale)) :=
  let ⟨_, hg⟩ := hk.g
  (hg.stores 0 _ rfl).2

end VCK
