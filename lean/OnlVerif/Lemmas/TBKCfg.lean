import OnlVerif.Lemmas.TBKFrame
import OnlVerif.Lemmas.KProc
/-!
# The token bucket on the kernel model: its configurations as configurations of cooperating processes

`cfgOf a s st0` is the configuration `a` in the terms of `Lemmas/KProcDefs.lean`: the thread of `run`, the thread of the source,
the pending `StorePut` events, the one store; `KInv s a` says that the phase of `run` is well-formed (`a.run.OK`), `GInv s (cfgOf a s st0)` and what the cells hold (`kinv_iff`).
-/

namespace TBK
open TBOnK
open KProc (Thread Wait Cfg GInv TInv Regs)

def runThread : RPhase → Thread St
  | .init q => { pid := 0, st := .bStart q.time, wait := .init q }
  | .W g t0 => { pid := 0, st := .bGet t0, wait := .getW 0 g }
  | .H _ id q t0 => { pid := 0, st := .bGet t0, wait := .getH 0 q id }
  | .T1 _ id q => { pid := 0, st := .bTok id q.time, wait := .sleep q }
  | .T2 _ id q k => { pid := 0, st := .bPeak id q.time k, wait := .sleep q }

/-- `st0` = the local state the source had when its generator returned.  Nothing reads it, but a step lemma has to name the one
the machine leaves in the thread, for `cfgOf a' s' st0` to be the machine's configuration by `rfl`. -/
def srcThreads (st0 : St) : SPhase → List (Thread St)
  | .init q arr => [{ pid := 2, st := .src q.time false 0 arr, wait := .init q }]
  | .wait next rest q => [{ pid := 2, st := .src q.time true next rest, wait := .sleep q }]
  | .ending q => [{ pid := 2, st := st0, wait := .ending q .none }]
  | .done => []

def cfgOf (a : A) (s : KS) (st0 : St) : Cfg St :=
  { reg := Regs.of s, threads := runThread a.run :: srcThreads st0 a.src, pend := a.pend.map (·, 0)
    stores := fun r => if r = 0 then some { getQ := a.run.getQ, items := a.items } else none }

/-- the events a phase names twice are the same event -/
def RPhase.OK : RPhase → Prop
  | .init q => q.ev = 1
  | .W _ _ => True
  | .H g _ q _ => q.ev = g
  | .T1 t _ q => q.ev = t
  | .T2 t _ q _ => q.ev = t

theorem RPhase.getQ_cases (r : RPhase) : r.getQ = [] ∨ ∃ g t0, r = .W g t0 := by
  cases r with
  | W g t0 => exact .inr ⟨g, t0, rfl⟩
  | _ => exact .inl rfl

variable {s : KS} {a : A} {st0 : St}

theorem entries_cfgOf : (cfgOf a s st0).entries = a.entries := by
  have h1 : (runThread a.run).wait.entries = a.run.entries := by cases a.run <;> rfl
  have h2 : (srcThreads st0 a.src).flatMap (·.wait.entries) = a.src.entries := by cases a.src <;> rfl
  simp only [Cfg.entries, cfgOf, List.flatMap_cons, h1, h2, List.flatMap_nil, List.nil_append, List.map_map, A.entries,
    List.append_assoc]
  rw [show ((fun x : QEntry ℚ × ResId => x.1) ∘ fun x => (x, 0)) = id from rfl, List.map_id]

theorem ids_cfgOf (hr : a.run.OK) (hs : ∀ th ∈ srcThreads st0 a.src, TInv s th) : (cfgOf a s st0).ids = a.ids := by
  have h1 : (runThread a.run).ids = a.run.ids := by
    revert hr
    cases a.run <;> intro hr <;> simp only [RPhase.OK] at hr <;> simp [runThread, Thread.ids, Wait.ids, RPhase.ids, hr]
  have h2 : (srcThreads st0 a.src).flatMap Thread.ids = a.src.ids := by
    revert hs
    cases a.src with
    | init q arr =>
      exact fun hs => by
        simp [srcThreads, Thread.ids, Wait.ids, SPhase.ids, show q.ev = 3 from (hs _ (List.mem_singleton_self _)).ev.1]
    | _ => exact fun _ => rfl
  simp only [Cfg.ids, cfgOf, List.flatMap_cons, h1, h2, List.flatMap_nil, List.nil_append, List.map_map, A.ids, pendIds,
    List.append_assoc, Function.comp_def]

theorem cbs_cfgOf : ∀ th ∈ (cfgOf a s st0).threads, th.cbs = some [] := by
  intro th hth
  rcases List.mem_cons.mp hth with rfl | hth
  · cases a.run <;> rfl
  · revert hth
    cases a.src <;> intro hth <;> simp only [srcThreads, List.mem_singleton, List.not_mem_nil] at hth <;> subst hth <;> rfl

theorem pids_cfgOf : ((cfgOf a s st0).threads.map (·.pid)).Nodup := by
  have h1 : (runThread a.run).pid = 0 := by cases a.run <;> rfl
  have h2 : (srcThreads st0 a.src).map (·.pid) = [2] ∨ (srcThreads st0 a.src).map (·.pid) = [] := by
    cases a.src <;> simp [srcThreads]
  simp only [cfgOf, List.map_cons, h1]
  rcases h2 with h | h <;> rw [h] <;> decide

theorem runEv_iff {r : RPhase} : RunEv s r ↔ r.OK ∧ TInv s (runThread r) := by
  cases r with
  | W g t0 =>
    exact ⟨fun ⟨h1, h2, h3⟩ => ⟨trivial, .of rfl h1 (fun t ht => (by cases ht; exact h2)) h3⟩,
      fun ⟨_, h⟩ => ⟨h.ev, h.proc _ rfl, h.own _ rfl⟩⟩
  | init q =>
    exact ⟨fun ⟨h0, h1, h2, h3⟩ => ⟨h0, .of rfl ⟨h0, h0 ▸ h1⟩ (fun t ht => (by cases ht; exact h0 ▸ h2)) h3⟩,
      fun ⟨h0, h⟩ => ⟨h0, h0 ▸ h.ev.2, h0 ▸ h.proc _ rfl, h.own _ rfl⟩⟩
  | _ =>
    exact ⟨fun ⟨h0, h1, h2, h3⟩ => ⟨h0, .of rfl (h0 ▸ h1) (fun t ht => (by cases ht; exact h0 ▸ h2)) h3⟩,
      fun ⟨h0, h⟩ => ⟨h0, h0 ▸ h.ev, h0 ▸ h.proc _ rfl, h.own _ rfl⟩⟩

theorem srcEv_iff {sp : SPhase} : SrcEv s sp ↔ ∀ th ∈ srcThreads st0 sp, TInv s th := by
  cases sp with
  | done => exact ⟨fun _ _ h => (nomatch h), fun _ => trivial⟩
  | init q arr =>
    simp only [srcThreads, List.mem_singleton, forall_eq]
    exact ⟨fun ⟨h0, h1, h2, h3⟩ => .of rfl ⟨h0, h0 ▸ h1⟩ (fun t ht => (by cases ht; exact h0 ▸ h2)) h3,
      fun h => have h0 : q.ev = 3 := h.ev.1
        ⟨h0, h0 ▸ h.ev.2, h0 ▸ h.proc _ rfl, h.own _ rfl⟩⟩
  | wait next rest q =>
    simp only [srcThreads, List.mem_singleton, forall_eq]
    exact ⟨fun ⟨h1, h2, h3⟩ => .of rfl h1 (fun t ht => (by cases ht; exact h2)) h3, fun h => ⟨h.ev, h.proc _ rfl, h.own _ rfl⟩⟩
  | ending q =>
    simp only [srcThreads, List.mem_singleton, forall_eq]
    exact ⟨fun ⟨h0, h1⟩ => .of rfl h0 (fun t ht => (by cases ht)) h1, fun h => ⟨h.ev, h.own _ rfl⟩⟩

/-- **`KInv` in the terms of `KProc`** -/
theorem kinv_iff : KInv s a ↔ a.run.OK ∧ GInv s (cfgOf a s st0) ∧ Cells (Regs.of s).cells a.cts a.sent a.level a.upd := by
  constructor
  · intro hk
    obtain ⟨hr, hrun⟩ := runEv_iff.mp hk.run
    have hsrc := (srcEv_iff (st0 := st0)).mp hk.src
    have hth : ∀ th ∈ (cfgOf a s st0).threads, TInv s th := by
      intro th hth
      rcases List.mem_cons.mp hth with rfl | hth
      · exact hrun
      · exact hsrc th hth
    refine ⟨hr, ⟨rfl, hk.wf, entries_cfgOf ▸ hk.ag, (ids_cfgOf hr hsrc).symm ▸ hk.nd, pids_cfgOf,
      fun th h => (hth th h).pid_lt (cbs_cfgOf th h), hth, nofun, ?_, ?_, nofun⟩, hk.cells⟩
    · intro u hu
      obtain ⟨u', hu', rfl⟩ := List.mem_map.mp hu
      exact hk.pend u' hu'
    · exact KProc.stores_one ⟨hk.rsz, hk.res⟩
  · rintro ⟨hr, hg, hc⟩
    have hsrc : ∀ th ∈ srcThreads st0 a.src, TInv s th := fun th hth => hg.th th (List.mem_cons_of_mem _ hth)
    obtain ⟨run, src, pend, items, cts, level, upd, sent⟩ := a
    obtain ⟨hrs, hres⟩ := hg.stores 0 { getQ := run.getQ, items := items } rfl
    exact ⟨hg.wf, entries_cfgOf ▸ hg.ag, hrs, hres, runEv_iff.mpr ⟨hr, hg.th _ List.mem_cons_self⟩, srcEv_iff.mpr hsrc,
      fun u hu => hg.pend (u, 0) (List.mem_map.mpr ⟨u, hu, rfl⟩), ids_cfgOf hr hsrc ▸ hg.nd, hc.c0, hc.c1, hc.c2, hc.c3, hc.ct⟩

end TBK
