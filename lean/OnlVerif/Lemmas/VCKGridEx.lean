import OnlVerif.Lemmas.VCKGrid
import Mathlib.Tactic.FieldSimp
/-!
# Every finite rational workload lies on a grid `ℤ / scale`
-/

namespace VCK
open VCOnK

/-- a rational whose denominator divides `D` lies on the grid `ℤ / D` -/
theorem onGrid_of_den_dvd {D : Nat} (x : ℚ) (h : x.den ∣ D) (hD : 0 < D) : OnGrid D x := by
  obtain ⟨k, rfl⟩ := h
  refine ⟨x.num * k, ?_⟩
  have hd : (x.den : ℚ) ≠ 0 := by exact_mod_cast x.den_nz
  have hk : (k : ℚ) ≠ 0 := by
    intro h0
    have : k = 0 := by exact_mod_cast h0
    subst this; simp at hD
  have hx : x = x.num / x.den := (Rat.num_div_den x).symm
  conv_lhs => rw [hx]
  push_cast
  field_simp

/-- the product of the denominators of a list of rationals -/
def denProd : List ℚ → Nat
  | [] => 1
  | x :: r => x.den * denProd r

theorem denProd_pos : ∀ l : List ℚ, 0 < denProd l
  | [] => Nat.one_pos
  | x :: r => Nat.mul_pos x.den_pos (denProd_pos r)

theorem den_dvd_denProd : ∀ (l : List ℚ) (x : ℚ), x ∈ l → x.den ∣ denProd l
  | y :: r, x, h => by
    rcases List.mem_cons.mp h with rfl | h
    · exact Dvd.intro _ rfl
    · exact Dvd.dvd.mul_left (den_dvd_denProd r x h) _

/-- a scale that fits a configuration and a workload: the product of the denominators of the vticks and of the gaps -/
def scaleOf (cfg : VcCfg ℚ) (arrivals : List (ℚ × Int)) : Nat := denProd (cfg.vticks.map (·.2) ++ arrivals.map (·.1))

end VCK
