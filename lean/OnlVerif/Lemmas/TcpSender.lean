import Mathlib.Data.List.Nodup
import OnlVerif.Lemmas.TcpCC
/-!
# Lemmas about the sender LTS (`OnlVerif/Tcp/CC.lean`) at `ℚ`

* finite-map facts (`AL`);
* the invariant `Inv` (congestion-control invariant, `timers` and `sent_packets` have the same distinct keys,
  `rto > 0`, `rtt_estimate > 0`, `est_deviation ≥ 0`, `next_seq ≤ send_buffer`);
* every action of the LTS described once as a `Safe` outcome: under `Inv` it yields no Python exception, and if it is
  accepted the new state and the output are given in closed form; what the invariants of the closed loop need of an
  accepted action (`Inv` again, clock, mark, timed segments, output) is read off these once (`Moved`, `step_moved`);
* the closed form of the timer wake-up instant in exact arithmetic;
* facts about the sending loop used by C16 (`no_spurious_retransmit`) and C17 (`send_in_window`).
-/

open TcpScalar TcpSpec TcpCC

namespace AL
variable {β γ : Type}

theorem keys_set (k : Nat) (v : β) (l : List (Nat × β)) :
    keys (set k v l) = if k ∈ keys l then keys l else keys l ++ [k] := by
  induction l with
  | nil => rfl
  | cons p rest ih =>
    obtain ⟨k', v'⟩ := p
    show keys (if k' = k then (k, v) :: rest else (k', v') :: set k v rest) = if k ∈ k' :: keys rest then _ else _
    by_cases h : k' = k
    · rw [if_pos h, if_pos (h ▸ List.mem_cons_self), h]
      rfl
    · rw [if_neg h]
      show k' :: keys (set k v rest) = _
      rw [ih]
      by_cases hk : k ∈ keys rest
      · rw [if_pos hk, if_pos (List.mem_cons_of_mem _ hk)]
        rfl
      · rw [if_neg hk, if_neg (fun c => (List.mem_cons.mp c).elim (fun e => h e.symm) hk)]
        rfl
theorem keys_set_congr (k : Nat) (v : β) (w : γ) {l₁ : List (Nat × β)} {l₂ : List (Nat × γ)}
    (h : keys l₁ = keys l₂) : keys (set k v l₁) = keys (set k w l₂) := by
  rw [keys_set, keys_set, h]

theorem keys_set_of_mem (k : Nat) (v : β) (l : List (Nat × β)) (h : k ∈ keys l) : keys (set k v l) = keys l := by
  rw [keys_set, if_pos h]

theorem nodup_keys_set (k : Nat) (v : β) (l : List (Nat × β)) (h : (keys l).Nodup) : (keys (set k v l)).Nodup := by
  rw [keys_set]
  split_ifs with hk
  · exact h
  · exact List.Nodup.append h (List.nodup_singleton k) (by
      intro a ha hb; simp at hb; subst hb; exact hk ha)

theorem mem_keys_set {k q : Nat} {v : β} {l : List (Nat × β)} : q ∈ keys (set k v l) ↔ q ∈ keys l ∨ q = k := by
  rw [keys_set]
  split_ifs with h
  · exact ⟨Or.inl, fun c => c.elim id fun e => e ▸ h⟩
  · exact List.mem_append.trans (or_congr Iff.rfl List.mem_singleton)

theorem keys_del (k : Nat) (l : List (Nat × β)) : keys (del k l) = (keys l).erase k := by
  induction l with
  | nil => simp [del, keys]
  | cons p rest ih =>
    obtain ⟨k', v'⟩ := p
    unfold del
    by_cases h : k' = k
    · subst h; simp [keys]
    · simp only [h, if_false]
      show k' :: keys (del k rest) = _
      rw [ih]
      simp [keys, h]

theorem get?_eq_none_iff (k : Nat) (l : List (Nat × β)) : get? k l = none ↔ k ∉ keys l := by
  induction l with
  | nil => exact ⟨fun _ h => (by cases h), fun _ => rfl⟩
  | cons p rest ih =>
    obtain ⟨k', v'⟩ := p
    show (if k' = k then some v' else get? k rest) = none ↔ k ∉ k' :: keys rest
    by_cases h : k' = k
    · rw [if_pos h, h]
      exact ⟨fun e => (by cases e), fun e => absurd List.mem_cons_self e⟩
    · rw [if_neg h, ih, List.mem_cons, not_or]
      exact ⟨fun e => ⟨fun c => h c.symm, e⟩, fun e => e.2⟩

theorem get?_isSome_of_mem {k : Nat} {l : List (Nat × β)} (h : k ∈ keys l) : ∃ v, get? k l = some v := by
  cases hg : get? k l with
  | none => exact absurd h ((get?_eq_none_iff k l).mp hg)
  | some v => exact ⟨v, rfl⟩

theorem mem_of_get?_some {k : Nat} {l : List (Nat × β)} {v : β} (h : get? k l = some v) : k ∈ keys l := by
  by_contra hn
  rw [(get?_eq_none_iff k l).mpr hn] at h
  cases h

/-- a present key splits the map at its entry, and `set`, `del` act there -/
theorem split_of_get? {k : Nat} {v : β} : ∀ {l : List (Nat × β)}, get? k l = some v →
    ∃ a b, l = a ++ (k, v) :: b ∧ (∀ w, set k w l = a ++ (k, w) :: b) ∧ del k l = a ++ b := by
  intro l
  induction l with
  | nil => intro h; cases h
  | cons p rest ih =>
    obtain ⟨k', v'⟩ := p
    intro h
    unfold get? at h
    by_cases hk : k' = k
    · rw [if_pos hk] at h
      injection h with h
      subst hk h
      exact ⟨[], rest, rfl, fun w => by unfold set; rw [if_pos rfl]; rfl, by unfold del; rw [if_pos rfl]; rfl⟩
    · rw [if_neg hk] at h
      obtain ⟨a, b, e, hs, hd⟩ := ih h
      exact ⟨(k', v') :: a, b, by rw [e]; rfl, fun w => by unfold set; rw [if_neg hk, hs w]; rfl,
        by unfold del; rw [if_neg hk, hd]; rfl⟩

theorem pair_mem_of_get?_some {k : Nat} {v : β} {l : List (Nat × β)} (h : get? k l = some v) : (k, v) ∈ l := by
  obtain ⟨a, b, rfl, _⟩ := split_of_get? h
  exact List.mem_append_right _ List.mem_cons_self

theorem get?_set (k q : Nat) (v : β) (l : List (Nat × β)) : get? q (set k v l) = if k = q then some v else get? q l := by
  induction l with
  | nil => rfl
  | cons p rest ih =>
    obtain ⟨k', v'⟩ := p
    unfold set
    by_cases hk : k' = k
    · rw [if_pos hk]
      unfold get?
      by_cases hq : k = q
      · rw [if_pos hq, if_pos hq]
      · rw [if_neg hq, if_neg hq, if_neg (hk ▸ hq)]
    · rw [if_neg hk]
      unfold get?
      by_cases hq : k' = q
      · rw [if_pos hq, if_pos hq, if_neg (fun c => hk (hq.trans c.symm))]
      · rw [if_neg hq, if_neg hq, ih]
theorem get?_set_self (k : Nat) (v : β) (l : List (Nat × β)) : get? k (set k v l) = some v := by
  rw [get?_set, if_pos rfl]

theorem mem_set {k : Nat} {v : β} {l : List (Nat × β)} {x : Nat × β} (h : x ∈ set k v l) : x = (k, v) ∨ x ∈ l := by
  induction l with
  | nil => simp [set] at h; exact Or.inl h
  | cons p rest ih =>
    obtain ⟨k', v'⟩ := p
    unfold set at h
    by_cases hk : k' = k
    · simp only [hk, if_true, List.mem_cons] at h
      rcases h with h | h
      · exact Or.inl h
      · exact Or.inr (List.mem_cons_of_mem _ h)
    · simp only [hk, if_false, List.mem_cons] at h
      rcases h with h | h
      · exact Or.inr (h ▸ List.mem_cons_self)
      · rcases ih h with h | h
        · exact Or.inl h
        · exact Or.inr (List.mem_cons_of_mem _ h)

theorem mem_of_mem_del {k : Nat} {l : List (Nat × β)} {x : Nat × β} (h : x ∈ del k l) : x ∈ l := by
  induction l with
  | nil => simp [del] at h
  | cons p rest ih =>
    obtain ⟨k', v'⟩ := p
    unfold del at h
    by_cases hk : k' = k
    · simp only [hk, if_true] at h; exact List.mem_cons_of_mem _ h
    · simp only [hk, if_false, List.mem_cons] at h
      rcases h with h | h
      · exact h ▸ List.mem_cons_self
      · exact List.mem_cons_of_mem _ (ih h)

end AL

namespace TcpSender
open Sender

/-- in exact arithmetic the timer process wakes exactly at its expiry -/
theorem wakeAt_eq (n : Nat) (now τ : ℚ) (h : 0 < τ) : wakeAt (n + 2) now (now + τ) = now + τ := by
  have h1 : now < now + τ := by linarith
  have h2 : now + (now + τ - now) = now + τ := by ring
  have h3 : ¬ now + τ < now + τ := lt_irrefl _
  show (if now < now + τ then wakeAt (n + 1) (now + (now + τ - now)) (now + τ) else now) = now + τ
  rw [if_pos h1, h2]
  show (if now + τ < now + τ then _ else now + τ) = now + τ
  rw [if_neg h3]

theorem arm_eq (now τ : ℚ) (h : 0 < τ) : arm now τ = { expiry := now + τ, wake := now + τ, live := true } := by
  unfold arm
  rw [wakeAt_eq 6 now τ h]
  have h1 : now < now + τ := by linarith
  simp [h1]

structure Inv (s : Sender ℚ) : Prop where
  cc : CCInv s.kind s.cc
  keys : AL.keys s.timers = AL.keys s.sent
  nodup : (AL.keys s.timers).Nodup
  rto_pos : 0 < s.est.rto
  srtt_pos : 0 < s.est.rtt_estimate
  dev_nonneg : 0 ≤ s.est.est_deviation
  buf : s.next_seq ≤ s.send_buffer

theorem Inv.transfer {s s' : Sender ℚ} (h : Inv s) (hk : s'.kind = s.kind) (hc : s'.cc = s.cc) (ht : s'.timers = s.timers)
    (hs : s'.sent = s.sent) (he : s'.est = s.est) (hb : s'.next_seq ≤ s'.send_buffer) : Inv s' :=
  ⟨by rw [hk, hc]; exact h.cc, by rw [ht, hs]; exact h.keys, by rw [ht]; exact h.nodup, by rw [he]; exact h.rto_pos,
   by rw [he]; exact h.srtt_pos, by rw [he]; exact h.dev_nonneg, hb⟩

theorem inv_init (kind : CCKind) (cc : CCState ℚ) (rtt : ℚ) (mss : Nat) (size : Option Nat) (now : ℚ)
    (hcc : CCInv kind cc) (hr : 0 < rtt) : Inv (Sender.init kind cc rtt mss size now) := by
  refine ⟨hcc, rfl, List.nodup_nil, ?_, hr, ?_, Nat.le_refl _⟩
  · show 0 < (TCPPacketGenerator.init_rto _).rto
    unfold TCPPacketGenerator.init_rto
    simp only [ofNat_eq, Nat.cast_ofNat]
    show 0 < rtt * 2
    linarith
  · show 0 ≤ (TCPPacketGenerator.init_rto _).est_deviation
    unfold TCPPacketGenerator.init_rto
    simp

/-- the generated send guard in exact arithmetic is the window condition of the specification -/
theorem guard_iff (s : Sender ℚ) :
    s.guard = true ↔ InWindow s.next_seq s.mss s.send_buffer s.last_ack s.cc.cwnd := by
  unfold Sender.guard TCPPacketGenerator.run_send_guard InWindow
  simp only [decide_eq_true_eq, pymin_eq, ofNat_eq]

theorem refill_frame (s : Sender ℚ) :
    (s.refill).kind = s.kind ∧ (s.refill).cc = s.cc ∧ (s.refill).timers = s.timers ∧ (s.refill).sent = s.sent ∧
    (s.refill).est = s.est ∧ (s.refill).next_seq = s.next_seq ∧ (s.refill).last_ack = s.last_ack ∧
    (s.refill).mss = s.mss ∧ (s.refill).now = s.now ∧ (s.refill).dupack = s.dupack ∧ s.send_buffer ≤ (s.refill).send_buffer := by
  unfold Sender.refill
  split_ifs <;> simp

theorem inv_refill {s : Sender ℚ} (h : Inv s) : Inv s.refill := by
  obtain ⟨a, b, c, d, e, f, _, _, _, _, g⟩ := refill_frame s
  exact h.transfer a b c d e (by rw [f]; exact Nat.le_trans h.buf g)

theorem emit_ok {s : Sender ℚ} (h : 0 < s.est.rto) :
    s.emit = .ok ({ s with sent := AL.set s.next_seq s.now s.sent, next_seq := s.next_seq + s.mss,
                           timers := AL.set s.next_seq (arm s.now s.est.rto) s.timers },
                  { seq := s.next_seq, size := s.mss, stamp := s.now, kind := .new }) := by
  unfold Sender.emit
  have : ¬ s.est.rto ≤ (Num.zero : ℚ) := by rw [zero_eq]; exact not_le.mpr h
  simp only [this, if_false]

theorem refill_with (s : Sender ℚ) : ∃ b, s.refill = { s with send_buffer := b } ∧ s.send_buffer ≤ b := by
  unfold Sender.refill
  split_ifs
  · exact ⟨_, rfl, Nat.le_add_right _ _⟩
  · exact ⟨s.send_buffer, rfl, Nat.le_refl _⟩

/-- one loop iteration never raises and keeps the invariant -/
theorem sendStep_spec {s : Sender ℚ} (h : Inv s) :
    (∀ e, s.sendStep ≠ .error e) ∧
    (∀ s' tx, s.sendStep = .sent s' tx →
        Inv s' ∧ tx = { seq := s.next_seq, size := s.mss, stamp := s.now, kind := .new } ∧
        s'.next_seq = s.next_seq + s.mss ∧ s'.last_ack = s.last_ack ∧ s'.cc = s.cc ∧ s'.mss = s.mss ∧ s'.now = s.now ∧
        s'.dupack = s.dupack ∧ s'.est = s.est ∧ s'.kind = s.kind ∧
        s'.timers = AL.set s.next_seq (arm s.now s.est.rto) s.timers ∧
        InWindow s.next_seq s.mss s.refill.send_buffer s.last_ack s.cc.cwnd) ∧
    (∀ s', s.sendStep = .yielded s' ∨ s.sendStep = .done s' →
        Inv s' ∧ s'.timers = s.timers ∧ s'.now = s.now ∧ s'.dupack = s.dupack ∧ s'.next_seq = s.next_seq ∧
        s'.mss = s.mss ∧ s'.last_ack = s.last_ack ∧ s'.est = s.est ∧ s'.cc = s.cc) := by
  -- with the refilled state written as an update of `s`, what the iteration leaves alone is left alone by `rfl`
  obtain ⟨b, hb, hle⟩ := refill_with s
  have hr : Inv ({ s with send_buffer := b } : Sender ℚ) := h.transfer rfl rfl rfl rfl rfl (Nat.le_trans h.buf hle)
  unfold Sender.sendStep
  by_cases hd : s.flowDone = true
  · simp only [hd, if_true]
    refine ⟨fun e he => (by cases he), fun s' tx he => (by cases he), ?_⟩
    intro s' he
    rcases he with he | he
    · cases he
    · injection he with he; subst he
      exact ⟨h.transfer rfl rfl rfl rfl rfl h.buf, rfl, rfl, rfl, rfl, rfl, rfl, rfl, rfl⟩
  · simp only [hd, hb]
    by_cases hg : ({ s with send_buffer := b } : Sender ℚ).guard = true
    · simp only [hg, if_true, emit_ok (s := { s with send_buffer := b }) h.rto_pos]
      refine ⟨fun e he => (by cases he), ?_, fun s' he => by rcases he with he | he <;> cases he⟩
      intro s' tx he
      injection he with he1 he2
      subst he1 he2
      have hw := (guard_iff _).mp hg
      refine ⟨⟨h.cc, AL.keys_set_congr _ _ _ h.keys, AL.nodup_keys_set _ _ _ h.nodup, h.rto_pos, h.srtt_pos, h.dev_nonneg, ?_⟩,
        rfl, rfl, rfl, rfl, rfl, rfl, rfl, rfl, rfl, rfl, hw⟩
      show s.next_seq + s.mss ≤ b
      have := le_trans hw (min_le_left _ _)
      exact_mod_cast this
    · simp only [hg]
      refine ⟨fun e he => (by cases he), fun s' tx he => (by cases he), ?_⟩
      intro s' he
      rcases he with he | he
      · injection he with he; subst he
        unfold Sender.getToken
        split_ifs <;> exact ⟨hr.transfer rfl rfl rfl rfl rfl hr.buf, rfl, rfl, rfl, rfl, rfl, rfl, rfl, rfl⟩
      · cases he

/-- the segments emitted by one resumption of `run`, as a chain of loop iterations -/
inductive Emits : Sender ℚ → List (Tx ℚ) → Sender ℚ → Prop
  | stop {s s'} : (s.sendStep = .yielded s' ∨ s.sendStep = .done s') → Emits s [] s'
  | send {s s1 s' tx rest} : s.sendStep = .sent s1 tx → Emits s1 rest s' → Emits s (tx :: rest) s'

theorem runLoop_spec (n : Nat) : ∀ (s : Sender ℚ) (outs : List (Tx ℚ)), Inv s →
    (∀ e, runLoop n s outs ≠ .error e) ∧
    ∀ s' outs', runLoop n s outs = .ok s' outs' → ∃ new, outs' = outs ++ new ∧ Emits s new s' := by
  induction n with
  | zero => intro s outs _; exact ⟨fun e he => (by cases he), fun s' o he => (by cases he)⟩
  | succ n ih =>
    intro s outs h
    obtain ⟨h1, h2, h3⟩ := sendStep_spec h
    unfold runLoop
    cases hs : s.sendStep with
    | sent s1 tx =>
      obtain ⟨hi, _⟩ := h2 s1 tx hs
      obtain ⟨i1, i2⟩ := ih s1 (outs ++ [tx]) hi
      refine ⟨i1, fun s' o he => ?_⟩
      obtain ⟨new, e1, e2⟩ := i2 s' o he
      exact ⟨tx :: new, by rw [e1]; simp, Emits.send hs e2⟩
    | yielded s1 =>
      refine ⟨fun e he => (by cases he), fun s' o he => ?_⟩
      injection he with he1 he2; subst he1 he2
      exact ⟨[], by simp, Emits.stop (Or.inl hs)⟩
    | done s1 =>
      refine ⟨fun e he => (by cases he), fun s' o he => ?_⟩
      injection he with he1 he2; subst he1 he2
      exact ⟨[], by simp, Emits.stop (Or.inr hs)⟩
    | error e => exact absurd hs (h1 e)

/-- what one resumption of `run` does: it sends the next `new.length` segments, each inside the window and under a
fresh timer, and touches nothing else the invariant or the loop look at -/
structure Burst (s : Sender ℚ) (new : List (Tx ℚ)) (s' : Sender ℚ) : Prop where
  inv : Inv s'
  last_ack : s'.last_ack = s.last_ack
  now : s'.now = s.now
  mss : s'.mss = s.mss
  est : s'.est = s.est
  dupack : s'.dupack = s.dupack
  cc : s'.cc = s.cc
  next_seq : s'.next_seq = s.next_seq + new.length * s.mss
  outs : ∀ i (hi : i < new.length), new[i] = { seq := s.next_seq + i * s.mss, size := s.mss, stamp := s.now, kind := .new }
  window : ∀ i, i < new.length → ((s.next_seq + i * s.mss : Nat) : ℚ) + s.mss ≤ s.last_ack + s.cc.cwnd
  keys : ∀ q, q ∈ AL.keys s'.timers ↔ q ∈ AL.keys s.timers ∨ ∃ i, i < new.length ∧ q = s.next_seq + i * s.mss
  timers : ∀ kv ∈ s'.timers, kv ∈ s.timers ∨ kv.2 = arm s.now s.est.rto

theorem emits_burst {s s' : Sender ℚ} {outs : List (Tx ℚ)} (he : Emits s outs s') (h : Inv s) : Burst s outs s' := by
  induction he with
  | stop hs =>
    obtain ⟨hi, ht, hn, hd, hns, hm, hl, he, hc⟩ := (sendStep_spec h).2.2 _ hs
    exact ⟨hi, hl, hn, hm, he, hd, hc, by rw [hns]; simp, fun i hi => absurd hi (Nat.not_lt_zero i),
      fun i hi => absurd hi (Nat.not_lt_zero i),
      fun q => by rw [ht]; exact ⟨Or.inl, fun c => c.elim id fun ⟨i, hi, _⟩ => absurd hi (Nat.not_lt_zero i)⟩,
      fun kv hkv => Or.inl (ht ▸ hkv)⟩
  | @send s s1 s' tx rest hs _ ih =>
    obtain ⟨hi1, htx, hn, hl, hc, hm, hnow, hd, he, _, ht, hw⟩ := (sendStep_spec h).2.1 _ _ hs
    have b := ih hi1
    have idx : ∀ i, s1.next_seq + i * s1.mss = s.next_seq + (i + 1) * s.mss := by
      intro i; rw [hn, hm, Nat.succ_mul]; omega
    refine ⟨b.inv, b.last_ack.trans hl, b.now.trans hnow, b.mss.trans hm, b.est.trans he, b.dupack.trans hd,
      b.cc.trans hc, ?_, ?_, ?_, ?_, ?_⟩
    · rw [b.next_seq, idx]; rfl
    · intro i hi
      cases i with
      | zero => rw [List.getElem_cons_zero, htx, Nat.zero_mul, Nat.add_zero]
      | succ i => rw [List.getElem_cons_succ, b.outs i (Nat.lt_of_succ_lt_succ hi), idx, hm, hnow]
    · intro i hi
      cases i with
      | zero =>
        rw [Nat.zero_mul, Nat.add_zero]
        exact le_trans hw (min_le_right _ _)
      | succ i =>
        have := b.window i (Nat.lt_of_succ_lt_succ hi)
        rwa [idx, hm, hl, hc] at this
    · intro q
      rw [b.keys q, ht, AL.mem_keys_set]
      constructor
      · rintro ((h1 | h1) | ⟨i, hi, h1⟩)
        · exact Or.inl h1
        · exact Or.inr ⟨0, Nat.succ_pos _, by rw [h1, Nat.zero_mul, Nat.add_zero]⟩
        · exact Or.inr ⟨i + 1, Nat.succ_lt_succ hi, by rw [h1, idx]⟩
      · rintro (h1 | ⟨i, hi, h1⟩)
        · exact Or.inl (Or.inl h1)
        · cases i with
          | zero => exact Or.inl (Or.inr (by rw [h1, Nat.zero_mul, Nat.add_zero]))
          | succ i => exact Or.inr ⟨i, Nat.lt_of_succ_lt_succ hi, by rw [h1, idx]⟩
    · intro kv hkv
      rcases b.timers kv hkv with e | e
      · rw [ht] at e
        exact (AL.mem_set e).elim (fun e => Or.inr (by rw [e])) Or.inl
      · exact Or.inr (by rw [e, hnow, he])

/-- `resend_packet`: an outstanding segment is restamped and handed to `out`; anything else is ignored -/
theorem resend_eq (s : Sender ℚ) (seq : Nat) :
    s.resend seq = if seq ∈ AL.keys s.sent then
        ({ s with sent := AL.set seq s.now s.sent }, [{ seq := seq, size := s.mss, stamp := s.now, kind := .resend }])
      else (s, []) := by
  unfold Sender.resend
  split_ifs with h
  · obtain ⟨v, hv⟩ := AL.get?_isSome_of_mem h
    rw [hv]
  · rw [(AL.get?_eq_none_iff seq s.sent).mpr h]

theorem resend_frame (s : Sender ℚ) (seq : Nat) :
    ∃ S, (s.resend seq).1 = { s with sent := S } ∧ AL.keys S = AL.keys s.sent := by
  rw [resend_eq]
  split_ifs with h
  · exact ⟨_, rfl, AL.keys_set_of_mem _ _ _ h⟩
  · exact ⟨s.sent, rfl, rfl⟩

theorem resend_out (s : Sender ℚ) (seq : Nat) :
    (s.resend seq).2 =
      if seq ∈ AL.keys s.sent then [{ seq := seq, size := s.mss, stamp := s.now, kind := .resend }] else [] := by
  rw [resend_eq]
  split_ifs <;> rfl

theorem dropSegs_spec (qs : List Nat) : ∀ (s : Sender ℚ), AL.keys s.timers = AL.keys s.sent → (AL.keys s.timers).Nodup →
    (∀ q ∈ qs, q ∈ AL.keys s.timers) → qs.Nodup →
    ∃ T S, dropSegs s qs = .ok { s with timers := T, sent := S } ∧ AL.keys T = AL.keys S ∧ (AL.keys T).Nodup ∧
      (∀ q, q ∈ AL.keys T ↔ q ∈ AL.keys s.timers ∧ q ∉ qs) ∧ (∀ x ∈ T, x ∈ s.timers) := by
  induction qs with
  | nil =>
    intro s hk hn _ _
    exact ⟨s.timers, s.sent, rfl, hk, hn, fun q => by simp, fun x hx => hx⟩
  | cons q rest ih =>
    intro s hk hn hmem hnd
    have hq : q ∈ AL.keys s.timers := hmem q List.mem_cons_self
    obtain ⟨v, hv⟩ := AL.get?_isSome_of_mem hq
    obtain ⟨w, hw⟩ := AL.get?_isSome_of_mem (hk ▸ hq)
    have hnd' := List.nodup_cons.mp hnd
    have hstep : dropSeg s q = .ok { s with timers := AL.del q s.timers, sent := AL.del q s.sent } := by
      unfold dropSeg; rw [hv, hw]
    have hk' : AL.keys (AL.del q s.timers) = AL.keys (AL.del q s.sent) := by rw [AL.keys_del, AL.keys_del, hk]
    have hn' : (AL.keys (AL.del q s.timers)).Nodup := by rw [AL.keys_del]; exact hn.erase q
    have hmem' : ∀ x ∈ rest, x ∈ AL.keys (AL.del q s.timers) := by
      intro x hx
      rw [AL.keys_del]
      have hne : x ≠ q := fun e => hnd'.1 (e ▸ hx)
      exact (List.mem_erase_of_ne hne).mpr (hmem x (List.mem_cons_of_mem _ hx))
    obtain ⟨T, S, e1, e2, e3, e4, e5⟩ :=
      ih { s with timers := AL.del q s.timers, sent := AL.del q s.sent } hk' hn' hmem' hnd'.2
    refine ⟨T, S, ?_, e2, e3, ?_, fun x hx => AL.mem_of_mem_del (e5 x hx)⟩
    · rw [dropSegs, hstep]; exact e1
    · intro x
      rw [e4 x]
      show x ∈ AL.keys (AL.del q s.timers) ∧ x ∉ rest ↔ _
      rw [AL.keys_del]
      constructor
      · rintro ⟨h1, h2⟩
        have hne : x ≠ q := fun e => by subst e; exact (List.Nodup.not_mem_erase hn) h1
        exact ⟨(List.mem_erase_of_ne hne).mp h1, by simp [hne, h2]⟩
      · rintro ⟨h1, h2⟩
        simp only [List.mem_cons, not_or] at h2
        exact ⟨(List.mem_erase_of_ne h2.1).mpr h1, h2.2⟩

theorem estimator_spec (e : RttEst ℚ) (now pt : ℚ) :
    TCPPacketGenerator.put_estimator e now pt =
      { rtt_estimate := srttNext e.rtt_estimate (now - pt),
        est_deviation := varNext e.rtt_estimate e.est_deviation (now - pt),
        rto := rtoOf (srttNext e.rtt_estimate (now - pt)) (varNext e.rtt_estimate e.est_deviation (now - pt)) } := by
  unfold TCPPacketGenerator.put_estimator srttNext varNext rtoOf
  simp only [ofNat_eq, Nat.cast_ofNat, Nat.cast_one, pyabs_eq]
  congr 1 <;> ring

theorem estimator_pos (e : RttEst ℚ) (now pt : ℚ) (hs : 0 < e.rtt_estimate) (hd : 0 ≤ e.est_deviation) (hp : pt ≤ now) :
    0 < (TCPPacketGenerator.put_estimator e now pt).rto ∧ 0 < (TCPPacketGenerator.put_estimator e now pt).rtt_estimate ∧
    0 ≤ (TCPPacketGenerator.put_estimator e now pt).est_deviation := by
  rw [estimator_spec]
  have h1 : 0 < srttNext e.rtt_estimate (now - pt) := by unfold srttNext; linarith
  have h2 : 0 ≤ varNext e.rtt_estimate e.est_deviation (now - pt) := by
    unfold varNext
    have := abs_nonneg (now - pt - e.rtt_estimate)
    linarith
  exact ⟨by show 0 < rtoOf _ _; unfold rtoOf; linarith, h1, h2⟩

/-- a well-formed ACK for the model: the `assert` holds and it is not stamped in the future -/
def AckOk (s : Sender ℚ) (a : AckIn ℚ) : Prop := 10000 ≤ a.fid ∧ a.ptime ≤ s.now

/-- **an overtaken ACK** (`ackno < last_ack`): the early return of `put` - the state is unchanged, nothing is sent -/
theorem ackStep_stale (s : Sender ℚ) (a : AckIn ℚ) (h : AckOk s a) (hs : a.ackno < s.last_ack) :
    s.ackStep a = .ok s [] := by
  unfold Sender.ackStep
  have h1 : ¬ a.fid < 10000 := Nat.not_lt.mpr h.1
  have h2 : ¬ s.now < a.ptime := not_lt.mpr h.2
  simp only [h1, h2, hs, if_true, if_false]

theorem ackStep_core (s : Sender ℚ) (a : AckIn ℚ) (h : AckOk s a) (hns : ¬ a.ackno < s.last_ack) :
    s.ackStep a = s.ackCore a := by
  unfold Sender.ackStep
  rw [if_neg (Nat.not_lt.mpr h.1), if_neg (not_lt.mpr h.2), if_neg hns]

theorem ackStep_unfold (s : Sender ℚ) (a : AckIn ℚ) (h : AckOk s a) (hns : ¬ a.ackno < s.last_ack) :
    s.ackStep a =
      (if (s.countDup a.ackno).dupack = 3 then .ok ((s.countDup a.ackno).thirdDup a.ackno).1 ((s.countDup a.ackno).thirdDup a.ackno).2
       else if (s.countDup a.ackno).dupack > 3 then .ok ((s.countDup a.ackno).moreDup a.ackno).1 ((s.countDup a.ackno).moreDup a.ackno).2
       else if (s.countDup a.ackno).dupack = 0 then (s.countDup a.ackno).newAck a
       else .ok (s.countDup a.ackno) []) := by
  rw [ackStep_core s a h hns]
  rfl

theorem countDup_dup (s : Sender ℚ) (ackno : Nat) (h : ackno = s.last_ack) :
    s.countDup ackno = { s with dupack := s.dupack + 1 } := by
  unfold Sender.countDup; rw [if_pos h]

theorem countDup_new (s : Sender ℚ) (ackno : Nat) (h : ackno ≠ s.last_ack) :
    s.countDup ackno = if s.dupack > 0 then s.leaveDups else s := by
  unfold Sender.countDup; rw [if_neg h]

theorem ackStep_third (s : Sender ℚ) (a : AckIn ℚ) (h : AckOk s a) (hd : a.ackno = s.last_ack) (h2 : s.dupack = 2) :
    s.ackStep a = .ok ((({ s with dupack := 3 } : Sender ℚ).thirdDup a.ackno).1)
                      ((({ s with dupack := 3 } : Sender ℚ).thirdDup a.ackno).2) := by
  rw [ackStep_unfold s a h (by omega), countDup_dup s _ hd]
  simp only [h2]
  rfl

theorem ackStep_more (s : Sender ℚ) (a : AckIn ℚ) (h : AckOk s a) (hd : a.ackno = s.last_ack) (h3 : 3 ≤ s.dupack) :
    s.ackStep a = .ok ((({ s with dupack := s.dupack + 1 } : Sender ℚ).moreDup a.ackno).1)
                      ((({ s with dupack := s.dupack + 1 } : Sender ℚ).moreDup a.ackno).2) := by
  rw [ackStep_unfold s a h (by omega), countDup_dup s _ hd]
  have e1 : ¬ s.dupack + 1 = 3 := by omega
  have e2 : s.dupack + 1 > 3 := by omega
  simp only [e1, e2, if_true, if_false]

theorem ackStep_early (s : Sender ℚ) (a : AckIn ℚ) (h : AckOk s a) (hd : a.ackno = s.last_ack) (h1 : s.dupack < 2) :
    s.ackStep a = .ok { s with dupack := s.dupack + 1 } [] := by
  rw [ackStep_unfold s a h (by omega), countDup_dup s _ hd]
  have e1 : ¬ s.dupack + 1 = 3 := by omega
  have e2 : ¬ s.dupack + 1 > 3 := by omega
  have e3 : ¬ s.dupack + 1 = 0 := by omega
  simp only [e1, e2, e3, if_false]

/-- the new-ACK block on a state whose maps are consistent: estimator, `last_ack`, window growth, cancellation of the
covered timers, one wake-up token; no exception -/
theorem newAck_spec (s : Sender ℚ) (a : AckIn ℚ) (hcc : CCWeak s.kind s.cc)
    (hk : AL.keys s.timers = AL.keys s.sent) (hn : (AL.keys s.timers).Nodup) :
    ∃ T S, s.newAck a = .ok { s with
        est := TCPPacketGenerator.put_estimator s.est s.now a.ptime, last_ack := a.ackno,
        cc := CC.ackReceived s.kind s.cc (TCPPacketGenerator.put_sample_rtt s.now a.ptime) s.now,
        timers := T, sent := S, tokens := s.tokens + 1 } [] ∧
      AL.keys T = AL.keys S ∧ (AL.keys T).Nodup ∧
      (∀ q, q ∈ AL.keys T ↔ q ∈ AL.keys s.timers ∧ ¬ (q < a.ackno ∨ q = a.pid)) ∧ (∀ x ∈ T, x ∈ s.timers) := by
  obtain ⟨hsafe, _⟩ := inv_ack hcc (TCPPacketGenerator.put_sample_rtt s.now a.ptime) s.now
  let s1 : Sender ℚ := (s.noteAck a).growWindow (TCPPacketGenerator.put_sample_rtt s.now a.ptime)
  have hcov : ∀ q ∈ s1.covered a.ackno a.pid, q ∈ AL.keys s1.timers := by
    intro q hq; unfold Sender.covered at hq; exact (List.mem_filter.mp hq).1
  have hcnd : (s1.covered a.ackno a.pid).Nodup := by unfold Sender.covered; exact hn.filter _
  obtain ⟨T, S, e1, e2, e3, e4, e5⟩ := dropSegs_spec (s1.covered a.ackno a.pid) s1 hk hn hcov hcnd
  refine ⟨T, S, ?_, e2, e3, ?_, e5⟩
  · unfold Sender.newAck
    simp only [hsafe, if_true]
    show Sender.finishAck s1 a = _
    unfold Sender.finishAck
    rw [e1]
    rfl
  · intro q
    rw [e4 q]
    show q ∈ AL.keys s.timers ∧ q ∉ s1.covered a.ackno a.pid ↔ _
    unfold Sender.covered
    show q ∈ AL.keys s.timers ∧ q ∉ (AL.keys s.timers).filter _ ↔ _
    simp only [List.mem_filter, Bool.or_eq_true, decide_eq_true_eq, beq_iff_eq, not_and]
    constructor
    · rintro ⟨h1, h2⟩; exact ⟨h1, h2 h1⟩
    · rintro ⟨h1, h2⟩; exact ⟨h1, fun _ => h2⟩

/-- the window on which a new ACK is counted: deflated to `ssthresh` (generated `dupack_over`) exactly when fast
recovery had been entered (`dupack ≥ 3`), untouched otherwise -/
def ccBeforeNew (s : Sender ℚ) : CCState ℚ := if 3 ≤ s.dupack then CongestionControl.dupack_over s.cc else s.cc

/-- **a new ACK**: end the run of duplicates (`leaveDups`), then the new-ACK block -/
theorem ackStep_new (s : Sender ℚ) (a : AckIn ℚ) (h : AckOk s a) (hd : s.last_ack < a.ackno) :
    s.ackStep a = ({ s with cc := ccBeforeNew s, dupack := 0 } : Sender ℚ).newAck a := by
  rw [ackStep_unfold s a h (by omega), countDup_new s _ (by omega)]
  unfold ccBeforeNew
  by_cases h0 : s.dupack > 0
  · simp only [h0, if_true]
    unfold Sender.leaveDups
    by_cases h3 : 3 ≤ s.dupack
    · simp only [h3, if_true]
      rfl
    · simp only [h3, if_false]
      rfl
  · have hz : s.dupack = 0 := by omega
    have h3 : ¬ 3 ≤ s.dupack := by omega
    have hs : ({ s with cc := s.cc, dupack := 0 } : Sender ℚ) = s := by
      cases s; simp only at hz; subst hz; rfl
    simp only [h0, h3, if_false, hs]
    simp [hz]

theorem weak_ccBeforeNew (s : Sender ℚ) (h : CCInv s.kind s.cc) : CCWeak s.kind (ccBeforeNew s) := by
  unfold ccBeforeNew
  split_ifs
  · exact weak_dupack_over h
  · exact h.weak

/-- **a new ACK, in full**: `dupack` returns to 0, the estimator is updated, `last_ack` moves, the window grows from
`ccBeforeNew`, the covered timers are cancelled, one wake-up token is added; no exception -/
theorem ackStep_new_spec (s : Sender ℚ) (a : AckIn ℚ) (h : CCInv s.kind s.cc) (hk : AL.keys s.timers = AL.keys s.sent)
    (hn : (AL.keys s.timers).Nodup) (hok : AckOk s a) (hd : s.last_ack < a.ackno) :
    ∃ T S, s.ackStep a = .ok { s with
        dupack := 0, est := TCPPacketGenerator.put_estimator s.est s.now a.ptime, last_ack := a.ackno,
        cc := CC.ackReceived s.kind (ccBeforeNew s) (TCPPacketGenerator.put_sample_rtt s.now a.ptime) s.now,
        timers := T, sent := S, tokens := s.tokens + 1 } [] ∧
      AL.keys T = AL.keys S ∧ (AL.keys T).Nodup ∧
      (∀ q, q ∈ AL.keys T ↔ q ∈ AL.keys s.timers ∧ ¬ (q < a.ackno ∨ q = a.pid)) ∧ (∀ x ∈ T, x ∈ s.timers) := by
  obtain ⟨T, S, r, r2⟩ := newAck_spec ({ s with cc := ccBeforeNew s, dupack := 0 } : Sender ℚ) a (weak_ccBeforeNew s h) hk hn
  exact ⟨T, S, by rw [ackStep_new s a hok hd, r], r2⟩

theorem backoff_eq (e : RttEst ℚ) : TCPPacketGenerator.timeout_backoff e = { e with rto := e.rto * 2 } := by
  unfold TCPPacketGenerator.timeout_backoff
  simp only [ofNat_eq, Nat.cast_ofNat]

/-- a due timer fires: window collapse, retransmission, RTO back-off, re-arming - and no exception -/
theorem fireStep_spec (s : Sender ℚ) (seq : Nat) (tr : TimerRec ℚ) (ht : AL.get? seq s.timers = some tr)
    (hdue : tr.live = true ∧ tr.wake = s.now ∧ ¬ s.now < tr.expiry) :
    ∃ S, s.fireStep seq = .ok { s with cc := CC.timerExpired s.kind s.cc, sent := S,
                                        est := TCPPacketGenerator.timeout_backoff s.est,
                                        timers := AL.set seq (arm s.now (TCPPacketGenerator.timeout_backoff s.est).rto) s.timers }
                                ((({ s with cc := CC.timerExpired s.kind s.cc } : Sender ℚ).resend seq).2) ∧
      AL.keys S = AL.keys s.sent ∧
      (({ s with cc := CC.timerExpired s.kind s.cc } : Sender ℚ).resend seq).1 =
        { s with cc := CC.timerExpired s.kind s.cc, sent := S } := by
  obtain ⟨S, hS, hk⟩ := resend_frame ({ s with cc := CC.timerExpired s.kind s.cc } : Sender ℚ) seq
  refine ⟨S, ?_, hk, hS⟩
  unfold Sender.fireStep
  rw [ht]
  have hd : (!tr.live || !Num.eqb tr.wake s.now || decide (s.now < tr.expiry)) = false := by
    rw [hdue.1, (eqb_iff _ _).mpr hdue.2.1]
    simp [hdue.2.2]
  simp only [hd, Bool.false_eq_true, if_false]
  rw [hS]
  simp only [ht]

/-! ## the accepted actions, one by one

Each action is described once, as a `Safe` outcome: it does not raise, and if it is accepted the new state and the
output are the ones given.  Preservation of the invariant and the other facts about single steps are read off these. -/

/-- ACK packets carry `flow_id ≥ 10000` (the sink builds them as `flow_id + 10000`) -/
def ActOk : Act ℚ → Prop
  | .ack a => 10000 ≤ a.fid
  | _ => True

/-- the outcome `r` is not an exception, and if it is an accepted step its result satisfies `P` -/
def Safe (r : Res ℚ) (P : Sender ℚ → List (Tx ℚ) → Prop) : Prop :=
  (∀ e, r ≠ .error e) ∧ ∀ s' outs, r = .ok s' outs → P s' outs

theorem Safe.reject (w : Reject) (P : Sender ℚ → List (Tx ℚ) → Prop) : Safe (.reject w) P :=
  ⟨fun e he => (by cases he), fun s' o he => (by cases he)⟩

theorem Safe.ok {s' : Sender ℚ} {outs : List (Tx ℚ)} {P : Sender ℚ → List (Tx ℚ) → Prop} (h : P s' outs) :
    Safe (.ok s' outs) P :=
  ⟨fun e he => (by cases he), fun _ _ he => (by injection he with e1 e2; subst e1 e2; exact h)⟩

theorem Safe.mono {r : Res ℚ} {P Q : Sender ℚ → List (Tx ℚ) → Prop} (h : Safe r P)
    (f : ∀ s' outs, P s' outs → Q s' outs) : Safe r Q :=
  ⟨h.1, fun s' o he => f _ _ (h.2 _ _ he)⟩

variable {s : Sender ℚ}

theorem wakeStep_safe (h : Inv s) (fuel : Nat) :
    Safe (s.wakeStep fuel) fun s' outs => s.proc = .runnable ∧ Emits s outs s' := by
  unfold Sender.wakeStep
  split_ifs with hp
  · obtain ⟨h1, h2⟩ := runLoop_spec fuel s [] h
    refine ⟨h1, fun s' o he => ?_⟩
    obtain ⟨new, e, hem⟩ := h2 s' o he
    rw [List.nil_append] at e
    exact ⟨hp, e ▸ hem⟩
  · exact Safe.reject _ _

theorem handoffStep_safe (s : Sender ℚ) :
    Safe s.handoffStep fun s' outs =>
      s.proc = .blocked ∧ 0 < s.tokens ∧ s' = { s with tokens := s.tokens - 1, proc := .runnable } ∧ outs = [] := by
  unfold Sender.handoffStep
  split_ifs with hc
  · exact Safe.ok ⟨hc.1, hc.2, rfl, rfl⟩
  · exact Safe.reject _ _

theorem overdue_false_iff (s : Sender ℚ) (t : ℚ) :
    s.overdue t = false ↔ ∀ kv ∈ s.timers, kv.2.live = true → t ≤ kv.2.wake := by
  unfold Sender.overdue
  simp only [List.any_eq_false, Bool.and_eq_true, decide_eq_true_eq, not_and, not_lt]

theorem tickStep_safe (s : Sender ℚ) (t : ℚ) :
    Safe (s.tickStep t) fun s' outs =>
      s.now ≤ t ∧ s.proc ≠ .runnable ∧ ¬ (s.proc = .blocked ∧ s.tokens > 0) ∧ s.overdue t = false ∧
      s' = { s with now := t } ∧ outs = [] := by
  unfold Sender.tickStep
  by_cases h1 : t < s.now
  · rw [if_pos h1]; exact Safe.reject _ _
  by_cases h2 : s.proc = .runnable
  · rw [if_neg h1, if_pos h2]; exact Safe.reject _ _
  by_cases h3 : s.proc = .blocked ∧ s.tokens > 0
  · rw [if_neg h1, if_neg h2, if_pos h3]; exact Safe.reject _ _
  cases h4 : s.overdue t
  · rw [if_neg h1, if_neg h2, if_neg h3, if_neg Bool.false_ne_true]
    exact Safe.ok ⟨not_lt.mp h1, h2, h3, rfl, rfl, rfl⟩
  · rw [if_neg h1, if_neg h2, if_neg h3, if_pos rfl]; exact Safe.reject _ _

theorem fireStep_due (h : Inv s) {seq : Nat} {tr : TimerRec ℚ} (ht : AL.get? seq s.timers = some tr)
    (hdue : tr.live = true ∧ tr.wake = s.now ∧ ¬ s.now < tr.expiry) :
    ∃ S, AL.keys S = AL.keys s.sent ∧
      s.fireStep seq = .ok
        { s with cc := CC.timerExpired s.kind s.cc, sent := S, est := { s.est with rto := s.est.rto * 2 },
                 timers := AL.set seq { expiry := s.now + s.est.rto * 2, wake := s.now + s.est.rto * 2, live := true } s.timers }
        [{ seq := seq, size := s.mss, stamp := s.now, kind := .resend }] := by
  obtain ⟨S, r, hk, _⟩ := fireStep_spec s seq tr ht hdue
  have hmem : seq ∈ AL.keys s.sent := h.keys ▸ AL.mem_of_get?_some ht
  have hout := resend_out ({ s with cc := CC.timerExpired s.kind s.cc } : Sender ℚ) seq
  rw [if_pos hmem] at hout
  have hpos : 0 < s.est.rto * 2 := by have := h.rto_pos; linarith
  rw [hout, backoff_eq, arm_eq _ _ hpos] at r
  exact ⟨S, hk, r⟩

theorem fireStep_not_due {seq : Nat}
    (h : ∀ tr, AL.get? seq s.timers = some tr → ¬ (tr.live = true ∧ tr.wake = s.now ∧ ¬ s.now < tr.expiry)) :
    s.fireStep seq = .reject .noTimer ∨ s.fireStep seq = .reject .notDue := by
  unfold Sender.fireStep
  cases ht : AL.get? seq s.timers with
  | none => exact Or.inl rfl
  | some tr =>
    have hd : (!tr.live || !Num.eqb tr.wake s.now || decide (s.now < tr.expiry)) = true := by
      by_contra hc
      apply h tr ht
      simp only [Bool.or_eq_true, Bool.not_eq_true', decide_eq_true_eq, not_or, Bool.not_eq_false] at hc
      exact ⟨hc.1.1, (eqb_iff _ _).mp hc.1.2, hc.2⟩
    exact Or.inr (by simp only [hd, if_true])

/-- `fire`: refused unless the timer is due; then the window collapses, the segment is retransmitted, the RTO doubles
and the timer is re-armed for it -/
theorem fireStep_cases (h : Inv s) (seq : Nat) :
    Safe (s.fireStep seq) fun s' outs =>
      ∃ tr S, AL.get? seq s.timers = some tr ∧ tr.live = true ∧ tr.wake = s.now ∧ ¬ s.now < tr.expiry ∧
        AL.keys S = AL.keys s.sent ∧
        s' = { s with cc := CC.timerExpired s.kind s.cc, sent := S, est := { s.est with rto := s.est.rto * 2 },
                      timers := AL.set seq { expiry := s.now + s.est.rto * 2, wake := s.now + s.est.rto * 2, live := true } s.timers } ∧
        outs = [{ seq := seq, size := s.mss, stamp := s.now, kind := .resend }] := by
  by_cases hdue : ∃ tr, AL.get? seq s.timers = some tr ∧ tr.live = true ∧ tr.wake = s.now ∧ ¬ s.now < tr.expiry
  · obtain ⟨tr, ht, hdue⟩ := hdue
    obtain ⟨S, hk, r⟩ := fireStep_due h ht hdue
    rw [r]
    exact Safe.ok ⟨tr, S, ht, hdue.1, hdue.2.1, hdue.2.2, hk, rfl, rfl⟩
  · rcases fireStep_not_due (fun tr ht hd => hdue ⟨tr, ht, hd⟩) with e | e <;> rw [e] <;> exact Safe.reject _ _

inductive AckCase (s : Sender ℚ) (x : AckIn ℚ) (s' : Sender ℚ) (outs : List (Tx ℚ)) : Prop
  /-- an ACK overtaken by a later cumulative one (`ackno < last_ack`): ignored -/
  | stale : x.ackno < s.last_ack → s' = s → outs = [] → AckCase s x s' outs
  /-- first or second duplicate: counted -/
  | early : x.ackno = s.last_ack → s.dupack < 2 → s' = { s with dupack := s.dupack + 1 } → outs = [] → AckCase s x s' outs
  /-- third or later duplicate: the window is adjusted and `last_ack` is retransmitted when it is outstanding -/
  | dup (c : CCState ℚ) (S : List (Nat × ℚ)) : x.ackno = s.last_ack → 2 ≤ s.dupack → c.mss = s.cc.mss → CCInv s.kind c →
      AL.keys S = AL.keys s.sent →
      s' = { s with dupack := s.dupack + 1, cc := c, sent := S } →
      (outs = [] ∨ (s.last_ack ∈ AL.keys s.sent ∧ outs = [{ seq := s.last_ack, size := s.mss, stamp := s.now, kind := .resend }])) →
      (s.dupack = 2 → s.last_ack ∈ AL.keys s.sent → outs ≠ []) →
      AckCase s x s' outs
  | new (T : List (Nat × TimerRec ℚ)) (S : List (Nat × ℚ)) : s.last_ack < x.ackno →
      s' = { s with dupack := 0, est := TCPPacketGenerator.put_estimator s.est s.now x.ptime, last_ack := x.ackno,
                    cc := CC.ackReceived s.kind (ccBeforeNew s) (TCPPacketGenerator.put_sample_rtt s.now x.ptime) s.now,
                    timers := T, sent := S, tokens := s.tokens + 1 } →
      AL.keys T = AL.keys S → (AL.keys T).Nodup →
      (∀ q, q ∈ AL.keys T ↔ q ∈ AL.keys s.timers ∧ ¬ (q < x.ackno ∨ q = x.pid)) → (∀ kv ∈ T, kv ∈ s.timers) →
      outs = [] → AckCase s x s' outs

/-- the outcome of the resend in fast retransmit / recovery, in the form `AckCase.dup` wants it -/
theorem resend_dup (X : Sender ℚ) (q : Nat) :
    ∃ S, AL.keys S = AL.keys X.sent ∧ (X.resend q).1 = { X with sent := S } ∧
      ((X.resend q).2 = [] ∨ (q ∈ AL.keys X.sent ∧ (X.resend q).2 = [{ seq := q, size := X.mss, stamp := X.now, kind := .resend }])) ∧
      (q ∈ AL.keys X.sent → (X.resend q).2 ≠ []) := by
  obtain ⟨S, hS, hk⟩ := resend_frame X q
  refine ⟨S, hk, hS, ?_, ?_⟩
  · rw [resend_out]
    split_ifs with hm
    · exact Or.inr ⟨hm, rfl⟩
    · exact Or.inl rfl
  · intro hm
    rw [resend_out, if_pos hm]
    exact List.cons_ne_nil _ _

theorem ackStep_ok_cases (h : Inv s) {x : AckIn ℚ} (hok : AckOk s x) :
    ∃ s' outs, s.ackStep x = .ok s' outs ∧ AckCase s x s' outs := by
  rcases Nat.lt_trichotomy x.ackno s.last_ack with hst | hd | hd
  · exact ⟨_, _, ackStep_stale s x hok hst, .stale hst rfl rfl⟩
  · rcases Nat.lt_trichotomy s.dupack 2 with h2 | h2 | h2
    · exact ⟨_, _, ackStep_early s x hok hd h2, .early hd h2 rfl rfl⟩
    · refine ⟨_, _, ackStep_third s x hok hd h2, ?_⟩
      rw [hd]
      obtain ⟨S, hk, hS, ho, hne⟩ := resend_dup
        ({ s with dupack := 3, cc := CongestionControl.consecutive_dupacks_received s.cc } : Sender ℚ) s.last_ack
      exact .dup (CongestionControl.consecutive_dupacks_received s.cc) S hd (by omega) rfl (inv_third h.cc) hk
        (by rw [h2]; exact hS) ho (fun _ => hne)
    · refine ⟨_, _, ackStep_more s x hok hd (by omega), ?_⟩
      rw [hd]
      unfold Sender.moreDup
      simp only
      obtain ⟨S, hk, hS, ho, _⟩ := resend_dup
        ({ s with dupack := s.dupack + 1, cc := CongestionControl.more_dupacks_received s.cc } : Sender ℚ) s.last_ack
      split_ifs with hw
      · exact .dup (CongestionControl.more_dupacks_received s.cc) S hd (by omega) rfl (inv_more h.cc) hk hS ho
          (fun e => by omega)
      · exact .dup (CongestionControl.more_dupacks_received s.cc) s.sent hd (by omega) rfl (inv_more h.cc) rfl rfl
          (Or.inl rfl) (fun e => by omega)
  · obtain ⟨T, S, r, r2, r3, hT, hsub⟩ := ackStep_new_spec s x h.cc h.keys h.nodup hok hd
    exact ⟨_, _, r, .new T S hd rfl r2 r3 hT hsub rfl⟩

/-- `put(ack)`: refused if stamped in the future, else one of the four cases -/
theorem ackStep_cases (h : Inv s) (x : AckIn ℚ) (hf : 10000 ≤ x.fid) :
    Safe (s.ackStep x) fun s' outs => AckOk s x ∧ AckCase s x s' outs := by
  by_cases hp : s.now < x.ptime
  · have : s.ackStep x = .reject .fromFuture := by
      unfold Sender.ackStep
      simp only [Nat.not_lt.mpr hf, hp, if_true, if_false]
    rw [this]
    exact Safe.reject _ _
  · obtain ⟨s', outs, e, hc⟩ := ackStep_ok_cases h ⟨hf, not_lt.mp hp⟩
    rw [e]
    exact Safe.ok ⟨⟨hf, not_lt.mp hp⟩, hc⟩

theorem AckCase.inv {x : AckIn ℚ} {s' : Sender ℚ} {outs : List (Tx ℚ)} (hc : AckCase s x s' outs) (h : Inv s)
    (hok : AckOk s x) : Inv s' := by
  cases hc with
  | stale _ e _ => exact e ▸ h
  | early _ _ e _ => subst e; exact h.transfer rfl rfl rfl rfl rfl h.buf
  | dup c S _ _ _ hci hk e _ _ =>
    subst e
    exact ⟨hci, h.keys.trans hk.symm, h.nodup, h.rto_pos, h.srtt_pos, h.dev_nonneg, h.buf⟩
  | new T S _ e r2 r3 _ _ _ =>
    subst e
    obtain ⟨p1, p2, p3⟩ := estimator_pos s.est s.now x.ptime h.srtt_pos h.dev_nonneg hok.2
    exact ⟨(inv_ack (weak_ccBeforeNew s h.cc) _ _).2, r2, r3, p1, p2, p3, h.buf⟩

/-- what an accepted action does to the parts of the sender that the invariants of the closed loop read -/
structure Moved (s : Sender ℚ) (a : Act ℚ) (s' : Sender ℚ) (outs : List (Tx ℚ)) : Prop where
  inv : Inv s'
  mss : s'.mss = s.mss
  now : (∀ t, a ≠ .tick t) → s'.now = s.now
  la : s'.last_ack = s.last_ack ∨ ∃ x, a = .ack x ∧ s.last_ack < x.ackno ∧ s'.last_ack = x.ackno
  keep : ∀ q ∈ AL.keys s.timers,
    q ∈ AL.keys s'.timers ∨ ∃ x, a = .ack x ∧ s.last_ack < x.ackno ∧ (q < x.ackno ∨ q = x.pid)
  size : ∀ tx ∈ outs, tx.size = s.mss
  new : ∀ tx ∈ outs, tx.kind = .new → tx.seq ∈ AL.keys s'.timers

/-- an action that keeps the mark and the timed segments and sends nothing but retransmissions -/
theorem Moved.quiet {a : Act ℚ} {X : Sender ℚ} {o : List (Tx ℚ)} (hi : Inv X) (hm : X.mss = s.mss)
    (hn : (∀ t, a ≠ .tick t) → X.now = s.now) (hl : X.last_ack = s.last_ack) (hk : AL.keys X.timers = AL.keys s.timers)
    (ho : ∀ tx ∈ o, tx.size = s.mss ∧ tx.kind = .resend) : Moved s a X o :=
  ⟨hi, hm, hn, Or.inl hl, fun _ hq => Or.inl (hk ▸ hq), fun tx h => (ho tx h).1,
   fun tx h e => by rw [(ho tx h).2] at e; cases e⟩

/-- **no action of the sender LTS raises, and every accepted action keeps the invariant**; what else it does, as far as
the closed loop looks -/
theorem step_moved (h : Inv s) (a : Act ℚ) (ha : ActOk a) : Safe (s.step a) (Moved s a) := by
  have none : ∀ tx ∈ ([] : List (Tx ℚ)), tx.size = s.mss ∧ tx.kind = .resend := fun _ htx => absurd htx List.not_mem_nil
  have one : ∀ q, ∀ tx ∈ [({ seq := q, size := s.mss, stamp := s.now, kind := .resend } : Tx ℚ)],
      tx.size = s.mss ∧ tx.kind = .resend := fun q tx htx => by rw [List.mem_singleton.mp htx]; exact ⟨rfl, rfl⟩
  cases a with
  | wake fuel =>
    refine (wakeStep_safe h fuel).mono fun s' outs hw => ?_
    have b := emits_burst hw.2 h
    refine ⟨b.inv, b.mss, fun _ => b.now, Or.inl b.last_ack, fun q hq => Or.inl ((b.keys q).mpr (Or.inl hq)),
      fun tx htx => ?_, fun tx htx _ => ?_⟩ <;> obtain ⟨i, hi, rfl⟩ := List.getElem_of_mem htx <;> rw [b.outs i hi]
    exact (b.keys _).mpr (Or.inr ⟨i, hi, rfl⟩)
  | handoff =>
    refine (handoffStep_safe s).mono ?_
    rintro _ _ ⟨_, _, rfl, rfl⟩
    exact .quiet (h.transfer rfl rfl rfl rfl rfl h.buf) rfl (fun _ => rfl) rfl rfl none
  | tick t =>
    refine (tickStep_safe s t).mono ?_
    rintro _ _ ⟨_, _, _, _, rfl, rfl⟩
    exact .quiet (h.transfer rfl rfl rfl rfl rfl h.buf) rfl (fun hnt => absurd rfl (hnt t)) rfl rfl none
  | fire seq =>
    refine (fireStep_cases h seq).mono ?_
    rintro _ _ ⟨tr, S, ht, _, _, _, hk, rfl, rfl⟩
    have hks := AL.keys_set_of_mem seq ({ expiry := s.now + s.est.rto * 2, wake := s.now + s.est.rto * 2, live := true } : TimerRec ℚ)
      s.timers (AL.mem_of_get?_some ht)
    have hrto := h.rto_pos
    exact .quiet ⟨inv_timer h.cc, hks.trans (h.keys.trans hk.symm), AL.nodup_keys_set _ _ _ h.nodup,
      by show 0 < s.est.rto * 2; linarith, h.srtt_pos, h.dev_nonneg, h.buf⟩ rfl (fun _ => rfl) rfl hks (one _)
  | ack x =>
    refine (ackStep_cases h x ha).mono fun s' outs ⟨hok, hc⟩ => ?_
    have hi := hc.inv h hok
    cases hc with
    | stale _ e eo => subst e eo; exact .quiet hi rfl (fun _ => rfl) rfl rfl none
    | early _ _ e eo => subst e eo; exact .quiet hi rfl (fun _ => rfl) rfl rfl none
    | dup _ _ _ _ _ _ _ e eo _ =>
      subst e
      rcases eo with eo | ⟨_, eo⟩ <;> subst eo
      · exact .quiet hi rfl (fun _ => rfl) rfl rfl none
      · exact .quiet hi rfl (fun _ => rfl) rfl rfl (one _)
    | new T S hd e _ _ hT _ eo =>
      subst e eo
      refine ⟨hi, rfl, fun _ => rfl, Or.inr ⟨x, rfl, hd, rfl⟩, fun q hq => ?_, fun _ htx => absurd htx List.not_mem_nil,
        fun _ htx => absurd htx List.not_mem_nil⟩
      by_cases hcov : q < x.ackno ∨ q = x.pid
      · exact Or.inr ⟨x, rfl, hd, hcov⟩
      · exact Or.inl ((hT q).mpr ⟨hq, hcov⟩)

theorem step_safe {s : Sender ℚ} (h : Inv s) (a : Act ℚ) (ha : ActOk a) :
    (∀ e, s.step a ≠ .error e) ∧ ∀ s' outs, s.step a = .ok s' outs → Inv s' :=
  (step_moved h a ha).mono fun _ _ m => m.inv

theorem ackStep_safe {s : Sender ℚ} (h : Inv s) (a : AckIn ℚ) (hf : 10000 ≤ a.fid) :
    (∀ e, s.ackStep a ≠ .error e) ∧ ∀ s' outs, s.ackStep a = .ok s' outs → Inv s' :=
  step_safe h (.ack a) hf

theorem fireStep_safe {s : Sender ℚ} (h : Inv s) (seq : Nat) :
    (∀ e, s.fireStep seq ≠ .error e) ∧ ∀ s' outs, s.fireStep seq = .ok s' outs → Inv s' :=
  step_safe h (.fire seq) trivial

/-- states reachable from `s0` by accepted actions (`ActOk`: ACKs carry `flow_id ≥ 10000`) -/
inductive Reach (s0 : Sender ℚ) : Sender ℚ → Prop
  | init : Reach s0 s0
  | step {s s' : Sender ℚ} {a : Act ℚ} {outs : List (Tx ℚ)} : Reach s0 s → ActOk a → s.step a = .ok s' outs → Reach s0 s'

theorem reach_inv {s0 s : Sender ℚ} (h0 : Inv s0) (hr : Reach s0 s) : Inv s := by
  induction hr with
  | init => exact h0
  | step _ ha hs ih => exact (step_safe ih _ ha).2 _ _ hs

/-- nothing is being retransmitted or about to be: no duplicate ACKs are being counted and no pending timer has
reached its wake-up instant -/
structure Calm (s : Sender ℚ) : Prop where
  nodup : s.dupack = 0
  early : ∀ kv ∈ s.timers, s.now < kv.2.wake

/-- what a loss-free, order-preserving path with RTT below the RTO presents to the sender: every ACK acknowledges
exactly the next unacknowledged segment (`ackno = last_ack + MSS`, echoing `packet_id = last_ack` - the sink's
answer to in-order arrivals, `C16.sink_in_order`), and the clock never reaches the wake-up instant of a pending timer
(the ACK of a segment is back before that segment's RTO expires) -/
def TimelyAct (s : Sender ℚ) : Act ℚ → Prop
  | .ack a => 10000 ≤ a.fid ∧ a.ackno = s.last_ack + s.mss ∧ a.pid = s.last_ack
  | .tick t => ∀ kv ∈ s.timers, t < kv.2.wake
  | _ => True

theorem calm_no_fire {s : Sender ℚ} (hc : Calm s) (seq : Nat) :
    s.step (.fire seq) = .reject .noTimer ∨ s.step (.fire seq) = .reject .notDue :=
  fireStep_not_due fun _ ht hd => ne_of_gt (hc.early _ (AL.pair_mem_of_get?_some ht)) hd.2.1

/-- one timely action in a calm state: it stays calm, nothing is retransmitted, new segments carry the next
sequence numbers -/
theorem calm_step {s s' : Sender ℚ} {a : Act ℚ} {outs : List (Tx ℚ)} (h : Inv s) (hc : Calm s) (hm : 0 < s.mss)
    (ha : TimelyAct s a) (hs : s.step a = .ok s' outs) :
    Calm s' ∧ s'.mss = s.mss ∧ s.next_seq ≤ s'.next_seq ∧
    (∀ i (hi : i < outs.length), (outs[i]).kind = .new ∧ (outs[i]).seq = s.next_seq + i * s.mss) ∧
    s'.next_seq = s.next_seq + outs.length * s.mss := by
  have quiet : ∀ {X : Sender ℚ}, Calm X → X.mss = s.mss → X.next_seq = s.next_seq →
      Calm X ∧ X.mss = s.mss ∧ s.next_seq ≤ X.next_seq ∧
      (∀ i (hi : i < ([] : List (Tx ℚ)).length), (([] : List (Tx ℚ))[i]).kind = .new ∧ (([] : List (Tx ℚ))[i]).seq = s.next_seq + i * s.mss) ∧
      X.next_seq = s.next_seq + ([] : List (Tx ℚ)).length * s.mss :=
    fun c m e => ⟨c, m, e ▸ Nat.le_refl _, fun i hi => absurd hi (Nat.not_lt_zero i), by simp [e]⟩
  cases a with
  | wake fuel =>
    have b := emits_burst ((wakeStep_safe h fuel).2 _ _ hs).2 h
    refine ⟨⟨b.dupack.trans hc.nodup, fun kv hkv => ?_⟩, b.mss, by rw [b.next_seq]; exact Nat.le_add_right _ _,
      fun i hi => by rw [b.outs i hi]; exact ⟨rfl, rfl⟩, b.next_seq⟩
    rw [b.now]
    rcases b.timers kv hkv with e | e
    · exact hc.early kv e
    · rw [e, arm_eq _ _ h.rto_pos]
      exact lt_add_of_pos_right _ h.rto_pos
  | handoff =>
    obtain ⟨_, _, rfl, rfl⟩ := (handoffStep_safe s).2 _ _ hs
    exact quiet ⟨hc.nodup, hc.early⟩ rfl rfl
  | ack x =>
    obtain ⟨hf, hno, _⟩ := ha
    cases ((ackStep_cases h x hf).2 _ _ hs).2 with
    | stale hlt _ _ => omega
    | early e _ _ _ => omega
    | dup _ _ e _ _ _ _ _ _ _ => omega
    | new T S _ e _ _ _ hsub eo =>
      subst e eo
      exact quiet ⟨rfl, fun kv hkv => hc.early kv (hsub kv hkv)⟩ rfl rfl
  | fire seq =>
    rcases calm_no_fire hc seq with e | e <;> (rw [e] at hs; cases hs)
  | tick t =>
    obtain ⟨_, _, _, _, rfl, rfl⟩ := (tickStep_safe s t).2 _ _ hs
    exact quiet ⟨hc.nodup, ha⟩ rfl rfl

inductive TimelyRun : Sender ℚ → List (Act ℚ) → Sender ℚ → List (Tx ℚ) → Prop
  | nil (s : Sender ℚ) : TimelyRun s [] s []
  | cons {s s1 s2 : Sender ℚ} {a : Act ℚ} {rest : List (Act ℚ)} {o1 o2 : List (Tx ℚ)} :
      TimelyAct s a → s.step a = .ok s1 o1 → TimelyRun s1 rest s2 o2 → TimelyRun s (a :: rest) s2 (o1 ++ o2)

theorem timelyRun_spec {s s' : Sender ℚ} {acts : List (Act ℚ)} {outs : List (Tx ℚ)} (hr : TimelyRun s acts s' outs)
    (h : Inv s) (hc : Calm s) (hm : 0 < s.mss) :
    Inv s' ∧ Calm s' ∧ s'.mss = s.mss ∧ s.next_seq ≤ s'.next_seq ∧
    (∀ tx ∈ outs, tx.kind = .new ∧ s.next_seq ≤ tx.seq ∧ tx.seq < s'.next_seq) ∧
    outs.Pairwise (fun x y => x.seq < y.seq) ∧ (∀ seq, Act.fire seq ∉ acts) := by
  induction hr with
  | nil s => exact ⟨h, hc, rfl, Nat.le_refl _, fun tx htx => by simp at htx, List.Pairwise.nil, fun seq => by simp⟩
  | @cons s s1 s2 a rest o1 o2 ha hs _ ih =>
    have haok : ActOk a := by
      cases a with
      | ack x => exact ha.1
      | _ => trivial
    have hi1 := (step_safe h a haok).2 _ _ hs
    obtain ⟨c1, m1, n1, f1, l1⟩ := calm_step h hc hm ha hs
    obtain ⟨i2, c2, m2, n2, f2, p2, nf2⟩ := ih hi1 c1 (by rw [m1]; exact hm)
    have ho1 : ∀ tx ∈ o1, tx.kind = .new ∧ s.next_seq ≤ tx.seq ∧ tx.seq < s1.next_seq := by
      intro tx htx
      obtain ⟨i, hi, rfl⟩ := List.getElem_of_mem htx
      obtain ⟨k1, k2⟩ := f1 i hi
      refine ⟨k1, by rw [k2]; exact Nat.le_add_right _ _, ?_⟩
      rw [k2, l1]
      have : i * s.mss < o1.length * s.mss := Nat.mul_lt_mul_of_pos_right hi hm
      omega
    have hp1 : o1.Pairwise (fun x y => x.seq < y.seq) := by
      rw [List.pairwise_iff_getElem]
      intro i j hi hj hij
      rw [(f1 i hi).2, (f1 j hj).2]
      have : i * s.mss < j * s.mss := Nat.mul_lt_mul_of_pos_right hij hm
      omega
    refine ⟨i2, c2, by rw [m2, m1], Nat.le_trans n1 n2, ?_, ?_, ?_⟩
    · intro tx htx
      rcases List.mem_append.mp htx with h1 | h1
      · obtain ⟨a1, a2, a3⟩ := ho1 tx h1
        exact ⟨a1, a2, Nat.lt_of_lt_of_le a3 n2⟩
      · obtain ⟨a1, a2, a3⟩ := f2 tx h1
        exact ⟨a1, Nat.le_trans n1 a2, a3⟩
    · rw [List.pairwise_append]
      refine ⟨hp1, p2, ?_⟩
      intro x hx y hy
      exact Nat.lt_of_lt_of_le (ho1 x hx).2.2 (f2 y hy).2.1
    · intro seq hmem
      rcases List.mem_cons.mp hmem with e | e
      · subst e
        rcases calm_no_fire hc seq with e | e <;> (rw [e] at hs; cases hs)
      · exact nf2 seq e

end TcpSender
