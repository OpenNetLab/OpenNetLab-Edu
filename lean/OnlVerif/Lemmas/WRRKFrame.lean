import OnlVerif.Lemmas.WRRKBasic
/-!
# The WRR scheduler on the kernel model: the events of a phase, the cells, the observations

The events a phase names; what the attribute cells hold after a burst has written one of them (`Cells.*`); the history of
observations of a trace that grows.
-/

namespace WRRK
open WRROnK

attribute [wrrk] body prog runServe runTake runWait sendBegin sendEnd schedPut putTail srcLoop addInt loadInt bad

theorem pendIds_nil : pendIds [] = [] := rfl
theorem pendIds_cons (u : QEntry ℚ × ResId) (l : List (QEntry ℚ × ResId)) : pendIds (u :: l) = u.1.ev :: pendIds l := rfl
theorem pendEntries_nil : pendEntries [] = [] := rfl
theorem pendEntries_cons (u : QEntry ℚ × ResId) (l : List (QEntry ℚ × ResId)) :
    pendEntries (u :: l) = u.1 :: pendEntries l := rfl

theorem RPhase.ids_init (q : QEntry ℚ) : (RPhase.init q).ids = [0, 1] := rfl
theorem RPhase.ids_W (g : EvId) : (RPhase.W g).ids = [0, g] := rfl
theorem RPhase.ids_K (g : EvId) (q : QEntry ℚ) : (RPhase.K g q).ids = [0, g] := rfl
theorem RPhase.ids_H (g : EvId) (m jj : Nat) (id : Int) (q : QEntry ℚ) : (RPhase.H g m jj id q).ids = [0, g] := rfl
theorem RPhase.ids_S (p : EvId) (m jj : Nat) (id : Int) (q : QEntry ℚ) : (RPhase.S p m jj id q).ids = [0, p, p + 1] := rfl
theorem RPhase.ids_T (p t : EvId) (m jj : Nat) (id : Int) (q : QEntry ℚ) : (RPhase.T p t m jj id q).ids = [0, p, t] := rfl
theorem RPhase.ids_F (p : EvId) (m jj : Nat) (id : Int) (q : QEntry ℚ) : (RPhase.F p m jj id q).ids = [0, p] := rfl
theorem SPhase.ids_init (q : QEntry ℚ) (arr : List (ℚ × Int)) : (SPhase.init q arr).ids = [2, 3] := rfl
theorem SPhase.ids_wait (id : Int) (rest : List (ℚ × Int)) (q : QEntry ℚ) : (SPhase.wait id rest q).ids = [2, q.ev] := rfl
theorem SPhase.ids_ending (q : QEntry ℚ) : (SPhase.ending q).ids = [2] := rfl
theorem SPhase.ids_done : SPhase.done.ids = [] := rfl

/-- an event that is not allocated yet is none of the listed ones -/
theorem fresh_notin {l : List Nat} {n : Nat} (h : ∀ e ∈ l, e < n) (k : Nat) : n + k ∉ l := KExec.fresh_notin h k

/-- a permutation goal about explicit concatenations, from a permutation hypothesis, by counting -/
macro "perm_count" h:ident : tactic =>
  `(tactic| (classical
             rw [List.perm_iff_count] at $h:ident ⊢
             intro z
             have hz := $h:ident z
             simp only [List.count_append, List.count_cons, List.count_nil] at hz ⊢
             omega))

namespace Cells
open KProc (upd)
variable {F : Nat} {f : Nat → Val} {recv : Int} {cur : Option Int} {cnt byt : Nat → Int} {keys : List Nat}
  (h : Cells F f recv cur cnt byt keys)
include h

theorem setRecv (v : Int) : Cells F (upd f cRecv (.int v)) v cur cnt byt keys :=
  ⟨by simp [upd], by simpa [upd, wrrk] using h.c1, fun k hk => by simpa [upd, wrrk] using h.cc k hk,
    fun k hk => by simpa [upd, wrrk] using h.cb k hk, fun k hk => by simpa [upd, wrrk] using h.ch k hk⟩

theorem setCur (c : Option Int) : Cells F (upd f cCur (curVal c)) recv c cnt byt keys :=
  ⟨by simpa [upd, wrrk] using h.c0, by simp [upd], fun k hk => by simpa [upd, wrrk] using h.cc k hk,
    fun k hk => by simpa [upd, wrrk] using h.cb k hk, fun k hk => by simpa [upd, wrrk] using h.ch k hk⟩

theorem setCnt (j : Nat) (v : Int) : Cells F (upd f (cCount j) (.int v)) recv cur (WRRK.upd cnt j v) byt keys :=
  ⟨by simpa [upd, wrrk] using h.c0, by simpa [upd, wrrk] using h.c1,
    fun k hk => by by_cases hkj : k = j <;> simp [upd, WRRK.upd, wrrk, hkj, h.cc k hk],
    fun k hk => by simpa [upd, wrrk] using h.cb k hk, fun k hk => by simpa [upd, wrrk] using h.ch k hk⟩

theorem setByt (j : Nat) (v : Int) : Cells F (upd f (cBytes j) (.int v)) recv cur cnt (WRRK.upd byt j v) keys :=
  ⟨by simpa [upd, wrrk] using h.c0, by simpa [upd, wrrk] using h.c1, fun k hk => by simpa [upd, wrrk] using h.cc k hk,
    fun k hk => by by_cases hkj : k = j <;> simp [upd, WRRK.upd, wrrk, hkj, h.cb k hk],
    fun k hk => by simpa [upd, wrrk] using h.ch k hk⟩

/-- `stores` has the key `j` from the first `put` of a packet of flow `j` on -/
theorem setHas (j : Nat) : Cells F (upd f (cHas j) (.int 1)) recv cur cnt byt (addKey keys j) :=
  ⟨by simpa [upd, wrrk] using h.c0, by simpa [upd, wrrk] using h.c1, fun k hk => by simpa [upd, wrrk] using h.cc k hk,
    fun k hk => by simpa [upd, wrrk] using h.cb k hk,
    fun k hk => by by_cases hkj : k = j <;> simp [upd, wrrk, hkj, mem_addKey, h.ch k hk]⟩

/-- `put(packet)`: the packet is counted and its flow is a key -/
theorem put (flow size : Int → Nat) (id : Int) :
    Cells F (upd (upd (upd (upd f cRecv (.int (recv + 1))) (cCount (flow id)) (.int (cnt (flow id) + 1))) (cBytes (flow id))
        (.int (byt (flow id) + size id))) (cHas (flow id)) (.int 1))
      (recv + 1) cur (WRRK.upd cnt (flow id) (cnt (flow id) + 1)) (WRRK.upd byt (flow id) (byt (flow id) + size id))
      (addKey keys (flow id)) :=
  (((h.setRecv _).setCnt _ _).setByt _ _).setHas _

/-- the `assert store` of the `for` loop holds: a backlogged flow has been put -/
theorem has {ws : List (Nat × Nat)} (hflows : ∀ x ∈ ws, x.1 < F) (hkeys : ∀ k, k < F → 0 < cnt k → k ∈ keys) :
    ∀ e ∈ ws, 0 < cnt e.1 → f (cHas e.1) = .int 1 :=
  fun e he hpos => by rw [h.ch e.1 (hflows e he), if_pos (hkeys e.1 (hflows e he) hpos)]

end Cells

theorem histOf_push (tr : Array (Obs ℚ)) (o : Obs ℚ) : histOf (tr.push o) = histOf tr ++ (histOf1 o).toList :=
  KExec.filterMap_push _ tr o

@[simp] theorem histOf1_resumed (p : EvId) (r : Resume) (t : ℚ) : histOf1 (Obs.resumed p r t) = none := rfl
@[simp] theorem histOf1_ended (p : EvId) (o : Outcome) (t : ℚ) : histOf1 (Obs.ended p o t) = none := rfl
@[simp] theorem histOf1_callErr (p : EvId) (x : Exc) (t : ℚ) : histOf1 (Obs.callErr p x t) = none := rfl
@[simp] theorem histOf1_put (p : EvId) (i : Int) (t : ℚ) : histOf1 (Obs.log p "put" (.int i) t) = some (.put i t) := by
  simp [histOf1]
@[simp] theorem histOf1_serve (p : EvId) (i : Int) (t : ℚ) : histOf1 (Obs.log p "serve" (.int i) t) = some (.serve i t) := by
  simp [histOf1]
@[simp] theorem histOf1_out (p : EvId) (i : Int) (t : ℚ) : histOf1 (Obs.log p "out" (.int i) t) = some (.out i t) := by
  simp [histOf1]
@[simp] theorem histOf1_idle (p : EvId) (t : ℚ) : histOf1 (Obs.log p "idle" .none t) = some (.idle t) := by
  simp [histOf1]

end WRRK
