import OnlVerif.Lemmas.Scalar
import OnlVerif.Net.Fifo
/-!
# One accepted step of a FifoServer, case by case

`step_elim` proves a statement `R` about the state and output after an accepted `Fifo.step` from one premise per action.
What the server does with the packet in hand after `onResume` / `onFire` is the function `Go` of the device's answer, so
for a concrete device only the continuation that happens is left to prove.
-/

namespace Fifo
variable {δ : Type}

/-- the clock may advance to `t`: nothing is triggered but unprocessed and no timeout would be passed -/
def TickOk (s : FState ℚ δ) (t : ℚ) : Prop :=
  s.now ≤ t ∧ s.started = true ∧ s.handed = none ∧ ¬ (s.getPending = true ∧ s.items ≠ []) ∧
    (∀ p due k, s.tx = some (p, due, k) → t ≤ due)

theorem step_tick (d : Dev ℚ δ) {s : FState ℚ δ} {t : ℚ} (h : TickOk s t) :
    step d s (.tick t) = .ok ({ s with now := t }, .nothing) := by
  obtain ⟨h1, h2, h3, h4, h5⟩ := h
  have hn : ¬ ((s.getPending && !s.items.isEmpty) = true) := by
    intro hc
    simp only [Bool.and_eq_true, Bool.not_eq_true', List.isEmpty_eq_false_iff] at hc
    exact h4 hc
  simp only [step]
  rw [if_neg (not_lt.mpr h1), h2, h3, if_neg (by decide), if_neg (by decide), if_neg hn]
  cases htx : s.tx with
  | none => rfl
  | some x => simp only [if_neg (not_lt.mpr (h5 x.1 x.2.1 x.2.2 htx))]

theorem tickOk_of_step {d : Dev ℚ δ} {s s' : FState ℚ δ} {t : ℚ} {o : FOut ℚ}
    (h : step d s (.tick t) = .ok (s', o)) : TickOk s t := by
  simp only [step] at h
  by_cases h1 : t < s.now
  · rw [if_pos h1] at h; cases h
  rw [if_neg h1] at h
  cases h2 : s.started
  · rw [h2] at h; cases h
  cases h3 : s.handed
  swap
  · rw [h2, h3] at h; cases h
  rw [h2, h3, if_neg (by decide), if_neg (by decide)] at h
  by_cases h4 : (s.getPending && !s.items.isEmpty) = true
  · rw [if_pos h4] at h; cases h
  rw [if_neg h4] at h
  refine ⟨not_lt.mp h1, h2, h3, fun hc => h4 (by simp [hc.1, hc.2]), ?_⟩
  intro p due k htx
  rw [htx] at h
  by_contra hlt
  simp only [if_pos (not_le.mp hlt)] at h
  cases h
/-- `R` holds of what the server does with `p` in hand once the device has answered `nx` (`k` timeouts taken by then): the
packet leaves and the server issues its next `get`, or it sleeps -/
def Go (d : Dev ℚ δ) (R : FState ℚ δ → FOut ℚ → Prop) (s : FState ℚ δ) (p : Pkt ℚ) (k : Nat) : Next ℚ → Prop
  | .emit => R (issueGet { s with dev := d.onDone s.dev p, tx := none }) (.depart p)
  | .lose => R (issueGet { s with dev := d.onDone s.dev p, tx := none }) (.lost p)
  | .wait dt => R { s with tx := some (p, s.now + dt, k) } .nothing
  | .fail _ => True

theorem go_proceed {d : Dev ℚ δ} {R : FState ℚ δ → FOut ℚ → Prop} {s s' : FState ℚ δ} {p : Pkt ℚ} {k : Nat} {nx : Next ℚ}
    {o : FOut ℚ} (h : proceed d s p k nx = .ok (s', o)) (hg : Go d R s p k nx) : R s' o := by
  cases nx <;> cases h <;> exact hg

theorem step_elim {d : Dev ℚ δ} {s s' : FState ℚ δ} {a : FAct ℚ} {o : FOut ℚ} (h : step d s a = .ok (s', o))
    {R : FState ℚ δ → FOut ℚ → Prop}
    (init : a = .init → s.started = false → R (issueGet { s with started := true }) .nothing)
    (putAcc : ∀ p, a = .put p → (d.admitPkt s.dev s.now s.items.length p).2.1 = true →
      R { s with dev := (d.admitPkt s.dev s.now s.items.length p).1,
                 items := s.items ++ [(d.admitPkt s.dev s.now s.items.length p).2.2] } .accepted)
    (putDrop : ∀ p, a = .put p → (d.admitPkt s.dev s.now s.items.length p).2.1 = false →
      R { s with dev := (d.admitPkt s.dev s.now s.items.length p).1 } .dropped)
    (handoff : ∀ p rest, a = .handoff → s.getPending = true → s.items = p :: rest →
      R { s with items := rest, handed := some p, getPending := false } .nothing)
    (resume : ∀ x y p, a = .resume x y → s.handed = some p →
      Go d R { s with handed := none, dev := (d.onResume s.dev s.now x y p).1 } (d.onResume s.dev s.now x y p).2.1 0
        (d.onResume s.dev s.now x y p).2.2)
    (fire : ∀ p k, a = .fire → s.tx = some (p, s.now, k) →
      Go d R { s with tx := none, dev := (d.onFire s.dev s.now k p).1 } (d.onFire s.dev s.now k p).2.1 (k + 1)
        (d.onFire s.dev s.now k p).2.2)
    (tick : ∀ t, a = .tick t → TickOk s t → R { s with now := t } .nothing) : R s' o := by
  cases a with
  | init =>
    simp only [step] at h
    split at h
    · cases h
    · rename_i hst
      cases h
      exact init rfl (by simpa using hst)
  | put p =>
    simp only [step] at h
    split at h
    · rename_i hc
      cases h
      exact putAcc p rfl hc
    · rename_i hc
      cases h
      exact putDrop p rfl (by simpa using hc)
  | handoff =>
    simp only [step] at h
    split at h
    · rename_i hg
      split at h
      · rename_i p rest hi
        cases h
        exact handoff p rest rfl hg hi
      · cases h
    · cases h
  | resume x y =>
    simp only [step] at h
    split at h
    · cases h
    · rename_i p hp
      exact go_proceed h (resume x y p rfl hp)
  | fire =>
    simp only [step] at h
    split at h
    · cases h
    · rename_i p due k htx
      split at h
      · cases h
      · rename_i h1
        split at h
        · cases h
        · rename_i h2
          cases le_antisymm (not_lt.mp h1) (not_lt.mp h2)
          exact go_proceed h (fire p k rfl htx)
  | tick t =>
    have ht := tickOk_of_step h
    rw [step_tick d ht] at h
    cases h
    exact tick t rfl ht

end Fifo
