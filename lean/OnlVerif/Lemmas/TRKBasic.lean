import OnlVerif.Lemmas.TRKDefs
/-!
# The two-rate token bucket on the kernel model: what each kernel operation of the program does

What the calls that touch the attribute cells and the trace do to an arbitrary kernel state, and where the cells are.
-/

namespace TRK
open TwoRateOnK
open TimerK (lookup)

theorem getD_set_same (a : Array ResRec) (r : Nat) (x : ResRec) (h : r < a.size) :
    (a.setIfInBounds r x).getD r default = x := by
  rw [getD_setIfInBounds]; simp [h]

@[simp] theorem isStoreKind_store : isStoreKind .store = true := rfl
@[simp] theorem isPrioKind_store : isPrioKind .store = false := rfl
@[simp] theorem store_beq_preemptive : (ResKind.store == ResKind.preemptive) = false := rfl
@[simp] theorem store_beq_fstore : (ResKind.store == ResKind.fstore) = false := rfl

theorem doCall_load (s : KS) (self : EvId) (k : Nat) : doCall s self (.load k) = (s, .val (lookup s.shared k)) := rfl

theorem doCall_store (s : KS) (self : EvId) (k : Nat) (v : Val) :
    doCall s self (.store k v) = ({ s with shared := (k, v) :: s.shared.filter (·.1 != k) }, .unit) := rfl

theorem doCall_log (s : KS) (self : EvId) (what : String) (i : Int) :
    doCall s self (.log what (.int i)) = ({ s with trace := s.trace.push (.log self what (.int i) s.now) }, .unit) := rfl

theorem doCall_logOut (s : KS) (self : EvId) (what : String) (i : Int) (c : Nat) :
    doCall s self (.log what (outVal i c)) = ({ s with trace := s.trace.push (.log self what (outVal i c) s.now) }, .unit) := rfl

theorem cRecv_val : cRecv = 0 := rfl
theorem cSent_val : cSent = 1 := rfl
theorem cCommit_val : cCommit = 2 := rfl
theorem cUpd_val : cUpd = 3 := rfl
theorem cPeak_val : cPeak = 4 := rfl
theorem storeId_val : storeId = 0 := rfl
theorem cStamp_val (id : Int) : cStamp id = 10 + id.toNat := rfl

theorem stamp_ne (k : Nat) : (10 + k = 0) = False ∧ (10 + k = 1) = False ∧ (10 + k = 2) = False ∧ (10 + k = 3) = False ∧
    (10 + k = 4) = False ∧
    (0 = 10 + k) = False ∧ (1 = 10 + k) = False ∧ (2 = 10 + k) = False ∧ (3 = 10 + k) = False ∧ (4 = 10 + k) = False := by
  simp only [eq_iff_iff, iff_false]; omega

theorem stamp_inj (k k' : Nat) : (10 + k = 10 + k') = (k = k') := by
  simp only [eq_iff_iff]; omega

theorem runBurst_call (p : EvId) (c : Call ℚ St) (k : Reply → Burst ℚ St) (S : KS) :
    runBurst p (.call c k) S = runBurst p (k (doCall S p c).2) (noteErr p (doCall S p c)) := rfl

end TRK
