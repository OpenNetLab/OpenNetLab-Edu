import OnlVerif.Lemmas.TimerBasic
/-!
# Timer LTS: the process-list invariant, kept by every enabled action; no action raises
-/

namespace Timer

/-- The invariant of the process list and the URGENT queue.

* `old_intr`: every process other than `self.proc` that is still alive has an `Interruption` pending — and since
  `wake`/`tick` are enabled only when the URGENT queue is empty, it is delivered before that process can wake;
* `init_first`: a process that has not started yet has its `Initialize` pending, in front of any of its interrupts;
* `no_intr_proc`: `self.proc` itself has no interrupt pending. -/
structure Inv (s : State ℚ) : Prop where
  proc_lt : s.proc < s.procs.length
  uq_lt : ∀ u ∈ s.uq, u.pid < s.procs.length
  old_intr : ∀ (pid : Nat) (st : PStat ℚ), s.procs[pid]? = some st → pid ≠ s.proc → st ≠ PStat.finished →
    UEv.intr pid ∈ s.uq
  init_first : ∀ pid : Nat, s.procs[pid]? = some PStat.notStarted →
    ∃ a b, s.uq = a ++ UEv.init pid :: b ∧ UEv.intr pid ∉ a
  no_intr_proc : UEv.intr s.proc ∉ s.uq
  sleep_ge : ∀ (pid : Nat) (w : ℚ), s.procs[pid]? = some (PStat.sleeping w) → s.now ≤ w

theorem Inv.of_eq {s s' : State ℚ} (h : Inv s) (h1 : s'.procs = s.procs) (h2 : s'.proc = s.proc)
    (h3 : s'.uq = s.uq) (h4 : s'.now = s.now) : Inv s' := by
  refine ⟨?_, ?_, ?_, ?_, ?_, ?_⟩
  · rw [h1, h2]; exact h.proc_lt
  · rw [h1, h3]; exact h.uq_lt
  · rw [h1, h2, h3]; exact h.old_intr
  · rw [h1, h3]; exact h.init_first
  · rw [h2, h3]; exact h.no_intr_proc
  · rw [h1, h4]; exact h.sleep_ge

theorem inv_stopBody {s : State ℚ} (h : Inv s) : Inv (stopBody s) := h.of_eq rfl rfl rfl rfl
theorem inv_rebase {s : State ℚ} (tau : ℚ) (h : Inv s) : Inv (rebase tau s) := h.of_eq rfl rfl rfl rfl
theorem inv_autoRebase {s : State ℚ} (h : Inv s) : Inv (autoRebase s) := by
  unfold autoRebase; split
  · exact h.of_eq rfl rfl rfl rfl
  · exact h

theorem inv_setStat {s : State ℚ} (h : Inv s) {pid : Nat} {st0 st : PStat ℚ} (h0 : s.procs[pid]? = some st0)
    (hal : st0 ≠ PStat.finished) (hst : st ≠ PStat.notStarted) (hw : ∀ w, st = PStat.sleeping w → s.now ≤ w) :
    Inv (setStat s pid st) := by
  refine ⟨?_, ?_, ?_, ?_, ?_, ?_⟩
  · show s.proc < (s.procs.set pid st).length
    rw [List.length_set]; exact h.proc_lt
  · intro u hu
    show u.pid < (s.procs.set pid st).length
    rw [List.length_set]; exact h.uq_lt u hu
  · intro p st' hg hne hfin
    rcases get_set_cases hg with ⟨rfl, _⟩ | ⟨_, hold⟩
    · exact h.old_intr p st0 h0 hne hal
    · exact h.old_intr p st' hold hne hfin
  · intro p hg
    rcases get_set_cases hg with ⟨_, he⟩ | ⟨_, hold⟩
    · exact absurd he.symm hst
    · exact h.init_first p hold
  · exact h.no_intr_proc
  · intro p w hg
    rcases get_set_cases hg with ⟨_, he⟩ | ⟨_, hold⟩
    · exact hw w he.symm
    · exact h.sleep_ge p w hold

theorem loopTest_setStat (pid : Nat) (s : State ℚ) :
    ∃ st, loopTest pid s = setStat s pid st ∧ st ≠ PStat.notStarted ∧ ∀ w, st = PStat.sleeping w → s.now ≤ w := by
  unfold loopTest
  split
  · rename_i hlt
    refine ⟨_, rfl, nofun, ?_⟩
    intro w hw
    cases hw
    rw [add_sub_cancel]
    exact le_of_lt hlt
  · exact ⟨_, rfl, nofun, nofun⟩

theorem inv_loopTest {s : State ℚ} (h : Inv s) {pid : Nat} {st0 : PStat ℚ} (h0 : s.procs[pid]? = some st0)
    (hal : st0 ≠ PStat.finished) : Inv (loopTest pid s) := by
  obtain ⟨st, he, hn, hw⟩ := loopTest_setStat pid s
  rw [he]
  exact inv_setStat h h0 hal hn hw

/-- the `Initialize` of `q` stays first among the events of `q` when another event is taken off the head of the queue -/
theorem init_first_tail {uq rest : List UEv} {u : UEv} {q : Nat} (huq : uq = u :: rest) (hu : u ≠ UEv.init q)
    (h : ∃ a b, uq = a ++ UEv.init q :: b ∧ UEv.intr q ∉ a) : ∃ a b, rest = a ++ UEv.init q :: b ∧ UEv.intr q ∉ a := by
  obtain ⟨a, b, hab, hni⟩ := h
  rw [huq] at hab
  cases a with
  | nil => exact absurd (List.cons.inj hab).1 hu
  | cons x a' => exact ⟨a', b, (List.cons.inj hab).2, fun hc => hni (List.mem_cons_of_mem _ hc)⟩

/-- the head of the URGENT queue has been processed: an `Initialize` whose process has started, or an `Interruption`
whose victim has finished -/
theorem inv_pop {s : State ℚ} (h : Inv s) {u : UEv} {rest : List UEv} (huq : s.uq = u :: rest) {st : PStat ℚ}
    (hst : s.procs[u.pid]? = some st)
    (hu : match u with | .init _ => st ≠ PStat.notStarted | .intr _ => st = PStat.finished) : Inv (popUq s rest) := by
  have hsub : ∀ v, v ∈ rest → v ∈ s.uq := fun v hv => by rw [huq]; exact List.mem_cons_of_mem _ hv
  refine ⟨h.proc_lt, fun v hv => h.uq_lt v (hsub v hv), ?_, ?_, fun hc => h.no_intr_proc (hsub _ hc), h.sleep_ge⟩
  · intro q st' hg hne hfin
    have hin := h.old_intr q st' hg hne hfin
    rw [huq] at hin
    rcases List.mem_cons.mp hin with rfl | hc
    · cases hg.symm.trans hst
      exact absurd hu hfin
    · exact hc
  · intro q hg
    refine init_first_tail huq ?_ (h.init_first q hg)
    rintro rfl
    cases hg.symm.trans hst
    exact hu rfl

theorem inv_doInit {s s' : State ℚ} {o : List (Out ℚ)} {pid : Nat} (h : Inv s) (hs : doInit pid s = .ok s' o) :
    Inv s' := by
  obtain ⟨rest, huq, h0, rfl, _⟩ := doInit_ok hs
  obtain ⟨st, he, hn, hw⟩ := loopTest_setStat pid (popUq s rest)
  rw [he]
  exact inv_pop (s := setStat s pid st) (inv_setStat h h0 nofun hn hw) huq (get_set_self h0) hn

theorem inv_doIntr {s s' : State ℚ} {o : List (Out ℚ)} {pid : Nat} (h : Inv s) (hs : doIntr pid s = .ok s' o) :
    Inv s' := by
  obtain ⟨rest, huq, _, hc⟩ := doIntr_ok hs
  rcases hc with ⟨hfin, rfl⟩ | ⟨w, hsl, rfl⟩
  · exact inv_pop h huq hfin rfl
  · exact inv_pop (s := setStat s pid PStat.finished) (inv_setStat h hsl nofun nofun nofun) huq (get_set_self hsl) rfl

/-- `restart` found `self.proc` alive: it is interrupted and a new process is started -/
theorem inv_respawn {s : State ℚ} (h : Inv s) : Inv (spawn { s with uq := s.uq ++ [UEv.intr s.proc] }) := by
  have hfresh : UEv.intr s.procs.length ∉ s.uq ++ [UEv.intr s.proc] := by
    intro hc
    rcases List.mem_append.mp hc with hc | hc
    · exact Nat.lt_irrefl _ (h.uq_lt _ hc)
    · simp only [List.mem_singleton, UEv.intr.injEq] at hc
      have := h.proc_lt
      omega
  refine ⟨?_, ?_, ?_, ?_, ?_, ?_⟩
  · show s.procs.length < (s.procs ++ [PStat.notStarted]).length
    simp
  · intro u hu
    show u.pid < (s.procs ++ [PStat.notStarted]).length
    have hu : u ∈ (s.uq ++ [UEv.intr s.proc]) ++ [UEv.init s.procs.length] := hu
    simp only [List.length_append, List.length_singleton]
    rcases List.mem_append.mp hu with hu | hu
    · rcases List.mem_append.mp hu with hu | hu
      · exact Nat.lt_succ_of_lt (h.uq_lt u hu)
      · simp only [List.mem_singleton] at hu; subst hu; exact Nat.lt_succ_of_lt h.proc_lt
    · simp only [List.mem_singleton] at hu; subst hu; exact Nat.lt_succ_self _
  · intro q st hg hne hfin
    have hg : (s.procs ++ [PStat.notStarted])[q]? = some st := hg
    have hne : q ≠ s.procs.length := hne
    show UEv.intr q ∈ (s.uq ++ [UEv.intr s.proc]) ++ [UEv.init s.procs.length]
    rcases get_concat_cases hg with hold | ⟨hq, _⟩
    · by_cases hqp : q = s.proc
      · subst hqp; simp
      · have := h.old_intr q st hold hqp hfin
        simp [this]
    · exact absurd hq hne
  · intro q hg
    have hg : (s.procs ++ [PStat.notStarted])[q]? = some PStat.notStarted := hg
    show ∃ a b, (s.uq ++ [UEv.intr s.proc]) ++ [UEv.init s.procs.length] = a ++ UEv.init q :: b ∧ UEv.intr q ∉ a
    rcases get_concat_cases hg with hold | ⟨hq, _⟩
    · obtain ⟨a, b, hab, hni⟩ := h.init_first q hold
      refine ⟨a, b ++ [UEv.intr s.proc] ++ [UEv.init s.procs.length], ?_, hni⟩
      rw [hab]; simp
    · subst hq
      exact ⟨s.uq ++ [UEv.intr s.proc], [], rfl, hfresh⟩
  · show UEv.intr s.procs.length ∉ (s.uq ++ [UEv.intr s.proc]) ++ [UEv.init s.procs.length]
    intro hc
    rcases List.mem_append.mp hc with hc | hc
    · exact hfresh hc
    · simp at hc
  · intro q w hg
    have hg : (s.procs ++ [PStat.notStarted])[q]? = some (PStat.sleeping w) := hg
    rcases get_concat_cases hg with hold | ⟨_, hc⟩
    · exact h.sleep_ge q w hold
    · cases hc

/-- `Timer.restart` never raises, and does one of two things -/
theorem restartCall_spec {s : State ℚ} (h : Inv s) (active : Option Nat) (tau : ℚ) :
    (restartCall active tau s = .ok (rebase tau s) ∧
      (active = some s.proc ∨ s.procs[s.proc]? = some PStat.finished)) ∨
    (active ≠ some s.proc ∧ (∃ st, s.procs[s.proc]? = some st ∧ st ≠ PStat.finished) ∧
      restartCall active tau s = .ok (spawn { rebase tau s with uq := s.uq ++ [UEv.intr s.proc] })) := by
  unfold restartCall
  by_cases hact : active = some s.proc
  · left
    refine ⟨?_, Or.inl hact⟩
    show (if active = some s.proc then _ else _) = _
    rw [if_pos hact]
  · obtain ⟨st, hget⟩ : ∃ st, s.procs[s.proc]? = some st := ⟨_, List.getElem?_eq_getElem h.proc_lt⟩
    have hp : (rebase tau s).proc = s.proc := rfl
    have hps : (rebase tau s).procs = s.procs := rfl
    cases st with
    | finished =>
      left
      refine ⟨?_, Or.inr hget⟩
      simp only [hp, hps, if_neg hact, hget, PStat.alive]
      rfl
    | notStarted | sleeping w =>
      right
      refine ⟨hact, ⟨_, hget, by intro hc; cases hc⟩, ?_⟩
      simp only [hp, hps, if_neg hact, hget, PStat.alive, if_true, interruptReq]
      rfl

theorem restartCall_inv {s s' : State ℚ} (h : Inv s) {active : Option Nat} {tau : ℚ}
    (hr : restartCall active tau s = .ok s') : Inv s' := by
  rcases restartCall_spec h active tau with ⟨he, _⟩ | ⟨_, _, he⟩
  · rw [he] at hr; cases hr; exact inv_rebase tau h
  · rw [he] at hr; cases hr; exact inv_respawn (inv_rebase tau h)

theorem restartCall_no_error {s : State ℚ} (h : Inv s) (active : Option Nat) (tau : ℚ) (e : Err) :
    restartCall active tau s ≠ .error e := by
  intro hc
  rcases restartCall_spec h active tau with ⟨he, _⟩ | ⟨_, _, he⟩ <;> (rw [he] at hc; cases hc)

structure CbFrame (s s' : State ℚ) : Prop where
  now_eq : s'.now = s.now
  args_eq : s'.args = s.args
  auto_eq : s'.auto = s.auto
  stopped_mono : s.stopped = true → s'.stopped = true
  procs_ext : ∀ (q : Nat) (st : PStat ℚ), s.procs[q]? = some st → s'.procs[q]? = some st
  new_unstarted : ∀ (q : Nat) (st : PStat ℚ), s'.procs[q]? = some st → s.procs[q]? = some st ∨ st = PStat.notStarted

theorem CbFrame.refl (s : State ℚ) : CbFrame s s :=
  ⟨rfl, rfl, rfl, id, fun _ _ h => h, fun _ _ h => Or.inl h⟩

theorem CbFrame.trans {a b c : State ℚ} (h1 : CbFrame a b) (h2 : CbFrame b c) : CbFrame a c := by
  refine ⟨h2.now_eq.trans h1.now_eq, h2.args_eq.trans h1.args_eq, h2.auto_eq.trans h1.auto_eq,
    fun h => h2.stopped_mono (h1.stopped_mono h), fun q st h => h2.procs_ext q st (h1.procs_ext q st h), ?_⟩
  intro q st h
  rcases h2.new_unstarted q st h with h | h
  · exact h1.new_unstarted q st h
  · exact Or.inr h

theorem restartCall_frame {s s' : State ℚ} (h : Inv s) {active : Option Nat} {tau : ℚ}
    (hr : restartCall active tau s = .ok s') : CbFrame s s' := by
  rcases restartCall_spec h active tau with ⟨he, _⟩ | ⟨_, _, he⟩
  · rw [he] at hr; cases hr
    exact ⟨rfl, rfl, rfl, id, fun _ _ h => h, fun _ _ h => Or.inl h⟩
  · rw [he] at hr; cases hr
    refine ⟨rfl, rfl, rfl, id, ?_, ?_⟩
    · intro q st hq
      show (s.procs ++ [PStat.notStarted])[q]? = some st
      exact get_append_old _ hq
    · intro q st hq
      have hq : (s.procs ++ [PStat.notStarted])[q]? = some st := hq
      rcases get_concat_cases hq with hq | ⟨_, hq⟩
      · exact Or.inl hq
      · exact Or.inr hq

theorem cbOp_inv {s s' : State ℚ} (h : Inv s) {pid : Nat} {op : CbOp ℚ} (hr : cbOp pid s op = .ok s') :
    Inv s' ∧ CbFrame s s' := by
  cases op with
  | stop =>
    simp only [cbOp] at hr
    cases hr
    exact ⟨inv_stopBody h, ⟨rfl, rfl, rfl, fun _ => rfl, fun _ _ h => h, fun _ _ h => Or.inl h⟩⟩
  | restart tau => exact ⟨restartCall_inv h hr, restartCall_frame h hr⟩

theorem runCb_inv {pid : Nat} : ∀ {cb : List (CbOp ℚ)} {s s' : State ℚ}, Inv s → runCb pid cb s = .ok s' →
    Inv s' ∧ CbFrame s s'
  | [], s, s', h, hr => by
    simp only [runCb] at hr; cases hr; exact ⟨h, CbFrame.refl s⟩
  | op :: ops, s, s', h, hr => by
    rw [runCb] at hr
    cases hop : cbOp pid s op with
    | ok s1 =>
      rw [hop] at hr
      have h1 := cbOp_inv h hop
      have h2 := runCb_inv h1.1 hr
      exact ⟨h2.1, h1.2.trans h2.2⟩
    | error e => rw [hop] at hr; cases hr

theorem runCb_no_error {pid : Nat} : ∀ {cb : List (CbOp ℚ)} {s : State ℚ} (e : Err), Inv s →
    runCb pid cb s ≠ .error e
  | [], s, e, h => by simp [runCb]
  | op :: ops, s, e, h => by
    rw [runCb]
    cases hop : cbOp pid s op with
    | ok s1 => exact runCb_no_error e (cbOp_inv h hop).1
    | error e' =>
      exfalso
      cases op with
      | stop => simp [cbOp] at hop
      | restart tau => exact restartCall_no_error h _ tau e' hop

theorem inv_wakeBody {s s' : State ℚ} {o : List (Out ℚ)} {pid : Nat} {cb : List (CbOp ℚ)} (h : Inv s)
    (hsl : s.procs[pid]? = some (PStat.sleeping s.now)) (hs : wakeBody pid cb s = .ok s' o) : Inv s' := by
  rcases wakeBody_ok hs with ⟨_, _, rfl, _⟩ | ⟨_, s1, hcb, rfl, _⟩
  · exact inv_loopTest h hsl (by intro hc; cases hc)
  · obtain ⟨hi, hf⟩ := runCb_inv h hcb
    have h1 : (autoRebase s1).procs[pid]? = some (PStat.sleeping s.now) := by
      have : (autoRebase s1).procs = s1.procs := by unfold autoRebase; split <;> rfl
      rw [this]; exact hf.procs_ext pid _ hsl
    exact inv_loopTest (inv_autoRebase hi) h1 (by intro hc; cases hc)

theorem inv_tick {s : State ℚ} (h : Inv s) {t : ℚ} (hd : ∀ (pid : Nat) (w : ℚ), s.procs[pid]? = some (PStat.sleeping w) → t ≤ w) :
    Inv { s with now := t } :=
  ⟨h.proc_lt, h.uq_lt, h.old_intr, h.init_first, h.no_intr_proc, hd⟩

/-- **Only `self.proc` can wake, and then every other process has finished**: an accepted wake, under the invariant.  A
stopped timer's process goes on with the loop test; a running one invokes the callback first. -/
theorem wake_ok {s s' : State ℚ} {o : List (Out ℚ)} {pid : Nat} {cb : List (CbOp ℚ)} (h : Inv s)
    (hs : step s (.wake pid cb) = .ok s' o) :
    pid = s.proc ∧ s.uq = [] ∧ s.procs[pid]? = some (PStat.sleeping s.now) ∧
      (∀ (q : Nat) (st : PStat ℚ), q ≠ pid → s.procs[q]? = some st → st = PStat.finished) ∧
      ((s.stopped = true ∧ cb = [] ∧ s' = loopTest pid s ∧ o = []) ∨
       (s.stopped = false ∧ ∃ s1, runCb pid cb s = .ok s1 ∧ s' = loopTest pid (autoRebase s1) ∧ o = [.fire s.now s.args])) := by
  obtain ⟨huq, hsl, hw⟩ := doWake_eq hs nofun
  have hfin : ∀ (q : Nat) (st : PStat ℚ), s.procs[q]? = some st → q ≠ s.proc → st = PStat.finished := by
    intro q st hg hne
    by_contra hc
    have := h.old_intr q st hg hne hc
    rw [huq] at this
    cases this
  have hp : pid = s.proc := by
    by_contra hne
    cases hfin pid _ hsl hne
  exact ⟨hp, huq, hsl, fun q st hq hg => hfin q st hg (hp ▸ hq), wakeBody_ok hw⟩

theorem step_inv {s s' : State ℚ} {o : List (Out ℚ)} {a : Action ℚ} (h : Inv s) (hs : step s a = .ok s' o) : Inv s' := by
  cases a with
  | init pid => exact inv_doInit h hs
  | intr pid => exact inv_doIntr h hs
  | wake pid cb =>
    obtain ⟨_, hsl, hw⟩ := doWake_eq hs nofun
    exact inv_wakeBody h hsl hw
  | stop => rw [(step_stop_ok hs).1]; exact inv_stopBody h
  | restart tau => exact restartCall_inv h (step_restart_ok hs).1
  | tick t =>
    obtain ⟨_, _, hd, rfl, _⟩ := doTick_ok hs
    exact inv_tick h hd

/-- **no enabled or disabled action raises** in a state that satisfies the invariant -/
theorem step_no_raise {s : State ℚ} (h : Inv s) (a : Action ℚ) (e : Err) : step s a ≠ .raised e := by
  intro hc
  cases a with
  | init pid =>
    simp only [step, doInit] at hc
    split at hc
    · split at hc
      · split at hc <;> cases hc
      · cases hc
    · cases hc
  | intr pid =>
    obtain ⟨rest, huq, hns⟩ := doIntr_raised hc
    obtain ⟨a, b, hab, hni⟩ := h.init_first pid hns
    rw [huq] at hab
    cases a with
    | nil => simp only [List.nil_append, List.cons.injEq] at hab; cases hab.1
    | cons x a' =>
      simp only [List.cons_append, List.cons.injEq] at hab
      exact hni (by rw [← hab.1]; exact List.mem_cons_self)
  | wake pid cb =>
    exact runCb_no_error e h (wakeBody_raised (doWake_eq hc nofun).2.2).2
  | stop => simp [step] at hc
  | restart tau =>
    simp only [step] at hc
    cases hr : restartCall none tau s with
    | ok s1 => rw [hr] at hc; cases hc
    | error e' => exact restartCall_no_error h none tau e' hr
  | tick t =>
    simp only [step, doTick] at hc
    split at hc
    · split at hc <;> cases hc
    · cases hc

theorem run_inv : ∀ {acts : List (Action ℚ)} {s s' : State ℚ} {o : List (Out ℚ)}, Inv s → run s acts = .ok s' o → Inv s'
  | [], s, s', o, h, hr => by cases hr; exact h
  | a :: as, s, s', o, h, hr => by
    obtain ⟨s1, o1, o2, hs, hr', _⟩ := run_cons_ok hr
    exact run_inv (step_inv h hs) hr'

theorem run_no_raise : ∀ {acts : List (Action ℚ)} {s : State ℚ} (e : Err), Inv s → run s acts ≠ .raised e
  | [], s, e, h => by simp [run]
  | a :: as, s, e, h => by
    intro hc
    rcases run_raised_cons hc with hc | ⟨s1, o1, hs, hc⟩
    · exact step_no_raise h a e hc
    · exact run_no_raise e (step_inv h hs) hc

theorem create_ok_iff (t0 T : ℚ) (auto : Bool) (a : ArgSpec) :
    (∃ s, create t0 T auto a = .ok s) ↔ 0 < T := by
  unfold create
  rw [zero_eq]
  constructor
  · rintro ⟨s, hs⟩
    by_contra hc
    rw [if_pos (not_lt.mp hc)] at hs
    cases hs
  · intro h
    rw [if_neg (not_le.mpr h)]
    exact ⟨_, rfl⟩

theorem create_procs {t0 T : ℚ} {auto : Bool} {a : ArgSpec} {s : State ℚ} (h : create t0 T auto a = .ok s) :
    s.procs = [PStat.notStarted] := by
  unfold create at h
  split at h <;> cases h
  rfl

theorem create_inv {t0 T : ℚ} {auto : Bool} {a : ArgSpec} {s : State ℚ} (h : create t0 T auto a = .ok s) : Inv s := by
  unfold create at h
  split at h
  · cases h
  · cases h
    -- one process, not started, its `Initialize` alone in the queue
    have one : ∀ {pid : Nat} {st : PStat ℚ}, [PStat.notStarted][pid]? = some st → pid = 0 ∧ st = .notStarted := by
      intro pid st hg
      cases pid with
      | zero => cases hg; exact ⟨rfl, rfl⟩
      | succ n => cases hg
    refine ⟨Nat.zero_lt_one, ?_, ?_, ?_, ?_, ?_⟩
    · intro u hu; cases List.mem_singleton.mp hu; exact Nat.zero_lt_one
    · intro pid st hg hne _; exact absurd (one hg).1 hne
    · intro pid hg; cases (one hg).1; exact ⟨[], [], rfl, nofun⟩
    · intro hc; cases List.mem_singleton.mp hc
    · intro pid w hg; cases (one hg).2
end Timer
