import OnlVerif.Lemmas.StrandBlocked
/-!
# Granting one request: `_do_put` / `_do_get` followed by the removal from the queue

The micro-steps of the queue scans keep the structural invariant, leave the other resources alone, and leave a
rescan of the opposite queue pending (the granted request event is scheduled for the current instant and carries the
`_trigger_get` / `_trigger_put` callback).
-/

variable {σ : Type}

structure RStep (r : ResId) (s s' : KState ℚ σ) : Prop where
  fr : Fr s s'
  other : ∀ r', r' ≠ r → s'.res r' = s.res r'

namespace RStep
theorem refl (r : ResId) (s : KState ℚ σ) : RStep r s s := ⟨Fr.refl s, fun _ _ => rfl⟩
theorem trans {r : ResId} {s1 s2 s3 : KState ℚ σ} (a : RStep r s1 s2) (b : RStep r s2 s3) : RStep r s1 s3 :=
  ⟨a.fr.trans b.fr, fun r' h => (b.other r' h).trans (a.other r' h)⟩
theorem of_nr {r : ResId} {s s' : KState ℚ σ} (n : NR s s') : RStep r s s' := ⟨n.fr, fun r' _ => n.res_eq r'⟩
end RStep

theorem KState.setOut_eq (s : KState ℚ σ) (x : EvId) (o : Outcome) :
    s.setOut x o = s.setEv x { s.ev x with out := some o } := rfl

theorem Pkg.setOut {s : KState ℚ σ} {ex : Option EvId} (h : Pkg s ex) (x : EvId) (o : Outcome)
    (hq : (s.ev x).out = none → NoQ s x ∨ ex = some x) : Pkg (s.setOut x o) ex :=
  h.setEv x _ rfl (fun l hl => ⟨l, hl, fun _ _ hm => hm⟩) (fun l' c hl hm => Or.inl ⟨l', hl, hm⟩) (fun _ => by simp)
    (fun h1 _ => hq h1)

theorem NR.setOut (s : KState ℚ σ) (x : EvId) (o : Outcome) : NR s (s.setOut x o) :=
  NR.setEv s x _ rfl (fun l hl => ⟨l, hl, fun _ _ hm => hm⟩) (fun _ => by simp) rfl

theorem Pkg.trigger {s : KState ℚ σ} {ex : Option EvId} (h : Pkg s ex) (x : EvId) (o : Outcome) (hx : x < s.events.size)
    (hq : (s.ev x).out = none → NoQ s x ∨ ex = some x) : Pkg (s.trigger x o) ex := by
  unfold KState.trigger
  exact (h.setOut x o hq).schedule x _ _ (by rw [KState.out_setOut s x o hx]; simp)

theorem NR.trigger (s : KState ℚ σ) (x : EvId) (o : Outcome) : NR s (s.trigger x o) := by
  unfold KState.trigger
  exact (NR.setOut s x o).trans (NR.schedule _ _ _ _)

theorem Pend.of_trigger (s : KState ℚ σ) (x : EvId) (o : Outcome) (rem : List Cb) (cb : Cb) (l : List Cb)
    (hl : (s.ev x).cbs = some l) (hm : cb ∈ l) : Pend (s.trigger x o) rem cb := by
  unfold KState.trigger
  refine Or.inr ⟨{ time := s.now + Num.zero, prio := NORMAL, eid := s.eid, ev := x }, List.mem_cons_self, ?_, l, ?_, hm⟩
  · show s.now + (Num.zero : ℚ) = s.now
    rw [zero_eq']; simp
  · dsimp only
    rw [KState.ev_schedule, KState.setOut_eq, KState.ev_setEv]
    split
    · exact hl
    · exact hl

theorem Pkg.mkInterrupt {s : KState ℚ σ} {ex : Option EvId} (h : Pkg s ex) (p : EvId) (c : Val) :
    Pkg (mkInterrupt s p c).1 ex := by
  unfold _root_.mkInterrupt
  by_cases ht : s.triggered p = true
  · rw [if_pos ht]; exact h
  · rw [if_neg ht]
    split
    · exact h
    · show Pkg ((s.newEv _).1.schedule _ _ _) ex
      refine ((Pushed.newEv s _).pkg h ?_).schedule _ _ _ ?_
      · intro l cc hl hm
        simp only [Option.some.injEq] at hl
        subst hl
        simp at hm
      · rw [(Pushed.newEv s _).ev_new]; simp

theorem NR.mkInterrupt (s : KState ℚ σ) (p : EvId) (c : Val) : NR s (mkInterrupt s p c).1 := by
  unfold _root_.mkInterrupt
  by_cases ht : s.triggered p = true
  · rw [if_pos ht]; exact NR.refl s
  · rw [if_neg ht]
    split
    · exact NR.refl s
    · exact (Pushed.newEv s _).nr.trans (NR.schedule _ _ _ _)

theorem KState.setUsage_eq (s : KState ℚ σ) (e : EvId) :
    s.setUsage e = s.setEv e { s.ev e with req := (s.ev e).req.map fun rq => { rq with usageSince := some s.now } } := rfl

theorem KState.size_setUsage (s : KState ℚ σ) (e : EvId) : (s.setUsage e).events.size = s.events.size := by
  simp [KState.setUsage, KState.setEv]

theorem Pkg.setUsage {s : KState ℚ σ} {ex : Option EvId} (h : Pkg s ex) (e : EvId) : Pkg (s.setUsage e) ex :=
  h.setEv e _ rfl (fun l hl => ⟨l, hl, fun _ _ hm => hm⟩) (fun l' _ hl hm => Or.inl ⟨l', hl, hm⟩) (fun h1 => h1)
    (fun h1 h2 => absurd h1 h2)

theorem NR.setUsage (s : KState ℚ σ) (e : EvId) : NR s (s.setUsage e) := by
  refine NR.setEv s e _ rfl (fun l hl => ⟨l, hl, fun _ _ hm => hm⟩) (fun h1 => h1) ?_
  unfold reqOf
  cases (s.ev e).req with
  | none => rfl
  | some rq => rfl

def QSame (s s' : KState ℚ σ) : Prop := ∀ r, (s'.res r).putQ = (s.res r).putQ ∧ (s'.res r).getQ = (s.res r).getQ

theorem QSame.refl (s : KState ℚ σ) : QSame s s := fun _ => ⟨rfl, rfl⟩
theorem QSame.trans {s1 s2 s3 : KState ℚ σ} (a : QSame s1 s2) (b : QSame s2 s3) : QSame s1 s3 :=
  fun r => ⟨(b r).1.trans (a r).1, (b r).2.trans (a r).2⟩
theorem QSame.of_nr {s s' : KState ℚ σ} (n : NR s s') : QSame s s' := fun r => by rw [n.res_eq r]; exact ⟨rfl, rfl⟩

theorem Pkg.setContents {s : KState ℚ σ} {ex : Option EvId} (h : Pkg s ex) (r : ResId) (x : ResRec)
    (hk : x.kind = (s.res r).kind) (hc : x.capacity = (s.res r).capacity)
    (hp : x.putQ = (s.res r).putQ) (hg : x.getQ = (s.res r).getQ)
    (hu : ∀ w ∈ x.users, w < s.events.size)
    (hle : ∀ c, isResKind x.kind = true → x.capacity = some c → x.users.length ≤ c) :
    Pkg (s.setRes r x) ex ∧ RStep r s (s.setRes r x) ∧ QSame s (s.setRes r x) := by
  refine ⟨h.setRes r x hk hc (fun e he => Or.inl (hp ▸ he)) (hp ▸ h.nodupP r) (fun e he => Or.inl (hg ▸ he))
    (hg ▸ h.nodupG r) hu hle, ⟨Fr.setRes s r x hk hc, ?_⟩, ?_⟩
  · intro r' hne
    rw [KState.res_setRes, if_neg (fun hc => hne hc.1)]
  · intro r'
    rw [KState.res_setRes]
    split
    · rename_i hcx; rw [hcx.1]; exact ⟨hp, hg⟩
    · exact ⟨rfl, rfl⟩

theorem isResKind_preemptive : isResKind ResKind.preemptive = true := by decide

/-- users leave `r` (a release, an eviction); level and items may change -/
theorem Pkg.shrink {s : KState ℚ σ} {ex : Option EvId} (h : Pkg s ex) (r : ResId) (x : ResRec)
    (hk : x.kind = (s.res r).kind) (hc : x.capacity = (s.res r).capacity)
    (hp : x.putQ = (s.res r).putQ) (hg : x.getQ = (s.res r).getQ) (hu : x.users.Sublist (s.res r).users) :
    Pkg (s.setRes r x) ex ∧ RStep r s (s.setRes r x) ∧ QSame s (s.setRes r x) :=
  h.setContents r x hk hc hp hg (fun w hw => h.usersIn r w (hu.subset hw))
    (fun c hkk hcc => Nat.le_trans hu.length_le (h.usersLe r c (hk ▸ hkk) (hc ▸ hcc)))

theorem eraseUser_pkg {s : KState ℚ σ} {ex : Option EvId} (h : Pkg s ex) (r : ResId) (w : EvId) :
    Pkg (s.setUsers r ((s.res r).users.erase w)) ex ∧ RStep r s (s.setUsers r ((s.res r).users.erase w)) ∧
    QSame s (s.setUsers r ((s.res r).users.erase w)) :=
  h.shrink r _ rfl rfl rfl rfl List.erase_sublist

theorem preemptStep_pkg {s : KState ℚ σ} {ex : Option EvId} (h : Pkg s ex) (r : ResId) (e : EvId) :
    Pkg (preemptStep s r e) ex ∧ RStep r s (preemptStep s r e) ∧ QSame s (preemptStep s r e) := by
  rcases preemptStep_cases s r e with h1 | ⟨w, h1 | ⟨vp, c, h1⟩⟩ <;> rw [h1]
  · exact ⟨h, RStep.refl r s, QSame.refl s⟩
  · exact eraseUser_pkg h r w
  · obtain ⟨hp, hr, hq⟩ := eraseUser_pkg h r w
    exact ⟨hp.mkInterrupt _ _, hr.trans (RStep.of_nr (NR.mkInterrupt _ _ _)), hq.trans (QSame.of_nr (NR.mkInterrupt _ _ _))⟩

theorem prePut_pkg {s : KState ℚ σ} {ex : Option EvId} (h : Pkg s ex) (r : ResId) (e : EvId) :
    Pkg (prePut s r e) ex ∧ RStep r s (prePut s r e) ∧ QSame s (prePut s r e) := by
  unfold prePut
  split
  · exact preemptStep_pkg h r e
  · exact ⟨h, RStep.refl r s, QSame.refl s⟩

/-- a refused `_do_put` changes nothing (an eviction always makes room) -/
theorem prePut_eq_of_blocked {s : KState ℚ σ} {ex : Option EvId} (h : Pkg s ex) (r : ResId) (e : EvId)
    (hb : putOk s r e = false) : prePut s r e = s := by
  by_cases hk : (s.res r).kind = .preemptive
  · have hin : r < s.resources.size := res_lt_of_kind (by rw [hk]; simp)
    rw [putOk_preemptive s r e hk hin] at hb
    rw [prePut_of_eq s r e hk]
    unfold evictUsers at hb
    unfold preemptStep
    simp only
    by_cases hcnd : ((s.res r).capacity.any (fun c => decide (c ≤ (s.res r).users.length)) && (reqOf s e).preempt) = true
    · simp only [hcnd, if_true] at hb ⊢
      cases hw : worstUser s (s.res r).users with
      | none => rfl
      | some w =>
        simp only [hw] at hb ⊢
        by_cases hlt : keyLt (reqOf s e) (reqOf s w) = true
        · exfalso
          simp only [hlt, if_true] at hb
          have hmem := worstUser_mem s _ w hw
          rw [Bool.and_eq_true] at hcnd
          cases hcap : (s.res r).capacity with
          | none => rw [hcap] at hcnd; simp at hcnd
          | some c =>
            have hle := h.usersLe r c (by rw [hk]; exact isResKind_preemptive) hcap
            rw [hcap, hasRoom_some, List.length_erase_of_mem hmem] at hb
            have hpos : 0 < (s.res r).users.length := List.length_pos_of_mem hmem
            simp only [decide_eq_false_iff_not, not_lt] at hb
            omega
        · simp only [hlt]; rfl
    · simp only [hcnd]; rfl
  · exact prePut_of_ne s r e hk

/-- `e` is the (exempted) request -/
theorem applyPut_pkg {s : KState ℚ σ} (r : ResId) (e : EvId) (h : Pkg s (some e)) (hin : e < s.events.size)
    (hcan : canPut s r e = true) :
    Pkg (applyPut s r e) (some e) ∧ RStep r s (applyPut s r e) ∧ QSame s (applyPut s r e) := by
  have husers : isResKind (s.res r).kind = true →
      Pkg (((s.setUsers r ((s.res r).users ++ [e])).setUsage e).trigger e (.ok .none)) (some e) ∧
      RStep r s (((s.setUsers r ((s.res r).users ++ [e])).setUsage e).trigger e (.ok .none)) ∧
      QSame s (((s.setUsers r ((s.res r).users ++ [e])).setUsage e).trigger e (.ok .none)) := by
    intro hk
    have hroom := (canPut_of_resKind s r e hk).symm.trans hcan
    obtain ⟨h1, h2, h3⟩ := h.setContents r { s.res r with users := (s.res r).users ++ [e] } rfl rfl rfl rfl
      (by
        intro w hw
        rcases List.mem_append.mp hw with hw | hw
        · exact h.usersIn r w hw
        · rw [List.mem_singleton.mp hw]; exact hin)
      (fun c _ hc => length_snoc_le_of_hasRoom _ e hroom hc)
    have h4 := h1.setUsage e
    refine ⟨h4.trigger e _ (by rw [KState.size_setUsage]; exact hin) (fun _ => Or.inr rfl), ?_, ?_⟩
    · exact h2.trans (RStep.of_nr ((NR.setUsage _ e).trans (NR.trigger _ e _)))
    · exact h3.trans (QSame.of_nr ((NR.setUsage _ e).trans (NR.trigger _ e _)))
  have hother : ∀ x : ResRec, x.kind = (s.res r).kind → x.capacity = (s.res r).capacity → x.putQ = (s.res r).putQ →
      x.getQ = (s.res r).getQ → x.users = (s.res r).users →
      Pkg ((s.setRes r x).trigger e (.ok .none)) (some e) ∧ RStep r s ((s.setRes r x).trigger e (.ok .none)) ∧
      QSame s ((s.setRes r x).trigger e (.ok .none)) := by
    intro x hk hc hp hg hu
    obtain ⟨h1, h2, h3⟩ := h.setContents r x hk hc hp hg (fun w hw => h.usersIn r w (hu ▸ hw))
      (fun c hkk hcc => by rw [hu]; exact h.usersLe r c (hk ▸ hkk) (hc ▸ hcc))
    exact ⟨h1.trigger e _ hin (fun _ => Or.inr rfl), h2.trans (RStep.of_nr (NR.trigger _ e _)),
      h3.trans (QSame.of_nr (NR.trigger _ e _))⟩
  unfold applyPut
  simp only
  split
  · rename_i hkk; exact husers (by unfold isResKind; rw [hkk]; decide)
  · rename_i hkk; exact husers (by unfold isResKind; rw [hkk]; decide)
  · rename_i hkk; exact husers (by unfold isResKind; rw [hkk]; decide)
  · exact hother _ rfl rfl rfl rfl rfl
  · exact hother _ rfl rfl rfl rfl rfl
  · exact hother _ rfl rfl rfl rfl rfl
  · exact hother _ rfl rfl rfl rfl rfl

theorem applyPut_after (s : KState ℚ σ) (r : ResId) (e : EvId) (hin : e < s.events.size) (rem : List Cb) (cb : Cb)
    (l : List Cb) (hl : (s.ev e).cbs = some l) (hm : cb ∈ l) :
    (applyPut s r e).triggered e = true ∧ Pend (applyPut s r e) rem cb := by
  have key : ∀ s1 : KState ℚ σ, s1.events.size = s.events.size → (s1.ev e).cbs = some l →
      (s1.trigger e (.ok .none)).triggered e = true ∧ Pend (s1.trigger e (.ok .none)) rem cb := by
    intro s1 hsz hl1
    refine ⟨?_, Pend.of_trigger s1 e _ rem cb l hl1 hm⟩
    unfold KState.triggered KState.trigger
    rw [KState.ev_schedule, KState.out_setOut s1 e _ (hsz ▸ hin)]; rfl
  rw [applyPut_eq]
  cases isResKind (s.res r).kind
  · rw [if_neg Bool.false_ne_true]; exact key _ rfl hl
  · rw [if_pos rfl]
    refine key _ (KState.size_setUsage _ _) ?_
    rw [KState.setUsage_eq, KState.ev_setEv]; split <;> exact hl

theorem takeOut_pkg {s : KState ℚ σ} {ex : Option EvId} (h : Pkg s ex) (r : ResId) (e : EvId) (v : Val) :
    Pkg (takeOut s r e v) ex ∧ RStep r s (takeOut s r e v) ∧ QSame s (takeOut s r e v) := by
  have hrefl : Pkg s ex ∧ RStep r s s ∧ QSame s s := ⟨h, RStep.refl r s, QSame.refl s⟩
  have herase := eraseUser_pkg h r
  have hother : ∀ x : ResRec, x.kind = (s.res r).kind → x.capacity = (s.res r).capacity → x.putQ = (s.res r).putQ →
      x.getQ = (s.res r).getQ → x.users = (s.res r).users →
      Pkg (s.setRes r x) ex ∧ RStep r s (s.setRes r x) ∧ QSame s (s.setRes r x) := by
    intro x hk hc hp hg hu
    exact h.setContents r x hk hc hp hg (fun w hw => h.usersIn r w (hu ▸ hw))
      (fun c hkk hcc => by rw [hu]; exact h.usersLe r c (hk ▸ hkk) (hc ▸ hcc))
  unfold takeOut
  simp only
  split
  · exact herase _
  · exact herase _
  · exact herase _
  · exact hother _ rfl rfl rfl rfl rfl
  · exact hother _ rfl rfl rfl rfl rfl
  · split
    · exact hother _ rfl rfl rfl rfl rfl
    · exact hrefl
  · split
    · exact hother _ rfl rfl rfl rfl rfl
    · exact hrefl

theorem dropPutQ_pkg {s : KState ℚ σ} {ex : Option EvId} (h : Pkg s ex) (r : ResId) (e : EvId) :
    Pkg (dropPutQ s r e) ex ∧ RStep r s (dropPutQ s r e) := by
  unfold dropPutQ KState.setPutQ
  refine ⟨h.setRes r _ rfl rfl (fun x hx => Or.inl (List.mem_of_mem_erase hx)) ((h.nodupP r).erase e)
    (fun x hx => Or.inl hx) (h.nodupG r) (h.usersIn r) (h.usersLe r), ⟨Fr.setRes s r _ rfl rfl, ?_⟩⟩
  intro r' hne
  rw [KState.res_setRes, if_neg (fun hc => hne hc.1)]

theorem dropGetQ_pkg {s : KState ℚ σ} {ex : Option EvId} (h : Pkg s ex) (r : ResId) (e : EvId) :
    Pkg (dropGetQ s r e) ex ∧ RStep r s (dropGetQ s r e) := by
  unfold dropGetQ KState.setGetQ
  refine ⟨h.setRes r _ rfl rfl (fun x hx => Or.inl hx) (h.nodupP r)
    (fun x hx => Or.inl (List.mem_of_mem_erase hx)) ((h.nodupG r).erase e) (h.usersIn r) (h.usersLe r),
    ⟨Fr.setRes s r _ rfl rfl, ?_⟩⟩
  intro r' hne
  rw [KState.res_setRes, if_neg (fun hc => hne hc.1)]

theorem res_dropPutQ (s : KState ℚ σ) (r : ResId) (e : EvId) (hin : r < s.resources.size) :
    (dropPutQ s r e).res r = { s.res r with putQ := (s.res r).putQ.erase e } := by
  unfold dropPutQ KState.setPutQ
  rw [KState.res_setRes, if_pos ⟨rfl, hin⟩]

theorem res_dropGetQ (s : KState ℚ σ) (r : ResId) (e : EvId) (hin : r < s.resources.size) :
    (dropGetQ s r e).res r = { s.res r with getQ := (s.res r).getQ.erase e } := by
  unfold dropGetQ KState.setGetQ
  rw [KState.res_setRes, if_pos ⟨rfl, hin⟩]

theorem noQ_of_put {s : KState ℚ σ} {ex : Option EvId} (h : Pkg s ex) (r : ResId) (e : EvId)
    (hk : (s.ev e).kind = .put r) (hn : e ∉ (s.res r).putQ) : NoQ s e :=
  fun r' => ⟨fun hm => hn (Kind.put.inj ((h.putQ r' e hm).1.symm.trans hk) ▸ hm),
    fun hm => Kind.noConfusion ((h.getQ r' e hm).1.symm.trans hk)⟩

theorem noQ_of_get {s : KState ℚ σ} {ex : Option EvId} (h : Pkg s ex) (r : ResId) (e : EvId)
    (hk : (s.ev e).kind = .get r) (hn : e ∉ (s.res r).getQ) : NoQ s e :=
  fun r' => ⟨fun hm => Kind.noConfusion ((h.putQ r' e hm).1.symm.trans hk),
    fun hm => hn (Kind.get.inj ((h.getQ r' e hm).1.symm.trans hk) ▸ hm)⟩
