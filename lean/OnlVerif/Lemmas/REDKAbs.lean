import OnlVerif.Lemmas.REDKDefs
import OnlVerif.Lemmas.FifoKCommon
import Mathlib.Tactic.Linarith
/-!
# Generator → REDPort → sink on the kernel model: configurations are well-behaved (no kernel terms here)

Letting the clock advance to the next agenda entry keeps the abstract invariant and is a `tick` the LTS accepts.
-/

namespace REDK
open REDOnK QEntry

variable {c : Cfg ℚ} {sizes0 : List Nat}

theorem mem_port {a : A} {x : QEntry ℚ} (h : x ∈ a.port.entries) : x ∈ a.entries := by
  simp [A.entries, h]

theorem mem_src {a : A} {x : QEntry ℚ} (h : x ∈ a.src.entries) : x ∈ a.entries := by
  simp [A.entries, h]

theorem mem_pend {a : A} {x : QEntry ℚ} (h : a.pend = some x) : x ∈ a.entries := by
  simp [A.entries, h]

theorem mem_entries {a : A} {x : QEntry ℚ} :
    x ∈ a.entries ↔ x ∈ a.port.entries ∨ x ∈ a.src.entries ∨ x ∈ a.pend.toList := by
  simp [A.entries]

/-- `q` is a minimal entry of the configuration: what `popMin` returns -/
def IsMin (a : A) (q : QEntry ℚ) : Prop := q ∈ a.entries ∧ ∀ x ∈ a.entries, ¬ KeyLt x q

variable {gaps0 : List ℚ} {a : A} {now : ℚ} {vs : List (View ℚ)} {q : QEntry ℚ}

theorem AInv.now_le (hi : AInv c sizes0 gaps0 a now vs) (hq : IsMin a q) : now ≤ q.time := hi.due q hq.1

/-- no entry is due now: no `StorePut` is pending, and the server sleeps or waits at an empty store -/
theorem AInv.quiet (hi : AInv c sizes0 gaps0 a now vs) (hne : ∀ x ∈ a.entries, x.time ≠ now) :
    a.pend = none ∧ ((∃ t id q0, a.port = .T t id q0) ∨ (∃ g, a.port = .W g) ∧ a.items = []) := by
  have hpe : a.pend = none := by
    cases hp : a.pend with
    | none => rfl
    | some u => exact absurd (hi.pend u hp).1 (hne u (mem_pend hp))
  refine ⟨hpe, ?_⟩
  have hp := hi.port
  cases hport : a.port with
  | init q0 => rw [hport] at hp; exact absurd hp.1 (hne q0 (mem_port (hport ▸ List.mem_singleton_self q0)))
  | H g id q0 => rw [hport] at hp; exact absurd hp.1 (hne q0 (mem_port (hport ▸ List.mem_singleton_self q0)))
  | T t id q0 => exact .inl ⟨t, id, q0, rfl⟩
  | W g =>
    refine .inr ⟨⟨g, rfl⟩, ?_⟩
    by_contra hc
    have := hi.idle (hport ▸ rfl) hc
    rw [hpe] at this; cases this

/-- **letting the clock advance to the next entry changes nothing else** -/
theorem AInv.advance (hi : AInv c sizes0 gaps0 a now vs) (hq : IsMin a q) :
    AInv c sizes0 gaps0 a q.time vs := by
  rcases eq_or_lt_of_le (hi.now_le hq) with h | h
  · rw [← h]; exact hi
  have hne := min_ne_now hi.due hq h
  obtain ⟨hpe, hport⟩ := hi.quiet hne
  refine ⟨?_, ?_, (fun u hu => nomatch hpe ▸ hu), hi.idle, fun x hx => not_keyLt_time (hq.2 x hx), hi.len, hi.held, hi.ulen,
    hi.gen, hi.sink, hi.nacc⟩
  · have hp := hi.port
    rcases hport with ⟨t, id, q0, e⟩ | ⟨⟨g, e⟩, -⟩ <;> rw [e] at hp ⊢ <;> exact hp
  · have hs := hi.src
    cases hsrc : a.src with
    | init q0 g z u => rw [hsrc] at hs; exact absurd hs.1 (hne q0 (mem_src (hsrc ▸ List.mem_singleton_self q0)))
    | delay q0 g z u => rw [hsrc] at hs; exact hs
    | wait n z g zs u q0 => rw [hsrc] at hs; exact hs
    | ending q0 => rw [hsrc] at hs; exact absurd hs.1 (hne q0 (mem_src (hsrc ▸ List.mem_singleton_self q0)))
    | done => trivial

/-! `toF` by the phase of the server -/

variable (ulog : List ℚ)

theorem toF_init {q0 : QEntry ℚ} (e : a.port = .init q0) (now : ℚ) :
    toF c sizes0 a now ulog =
      { toF c sizes0 a now ulog with getPending := false, handed := none, tx := none, started := false } := by
  unfold toF; rw [e]

theorem toF_W {g : EvId} (e : a.port = .W g) (now : ℚ) :
    toF c sizes0 a now ulog =
      { toF c sizes0 a now ulog with getPending := true, handed := none, tx := none, started := true } := by
  unfold toF; rw [e]

theorem toF_H {g : EvId} {id : Int} {q0 : QEntry ℚ} (e : a.port = .H g id q0) (now : ℚ) :
    toF c sizes0 a now ulog =
      { toF c sizes0 a now ulog with getPending := false, handed := some (pk c sizes0 ulog id), tx := none,
                                     started := true } := by
  unfold toF; rw [e]

theorem toF_T {t : EvId} {id : Int} {q0 : QEntry ℚ} (e : a.port = .T t id q0) (now : ℚ) :
    toF c sizes0 a now ulog =
      { toF c sizes0 a now ulog with getPending := false, handed := none, tx := some (pk c sizes0 ulog id, q0.time, 0),
                                     started := true } := by
  unfold toF; rw [e]

/-- the LTS lets the clock advance to the next entry -/
theorem AInv.tickOk (hi : AInv c sizes0 gaps0 a now vs) (hq : IsMin a q) (h : now < q.time) :
    Fifo.TickOk (toF c sizes0 a now ulog) q.time := by
  unfold Fifo.TickOk
  rcases (hi.quiet (min_ne_now hi.due hq h)).2 with ⟨t, id, q0, e⟩ | ⟨⟨g, e⟩, hit⟩
  · have hq0 := not_keyLt_time (hq.2 q0 (mem_port (e ▸ List.mem_singleton_self q0)))
    rw [toF_T ulog e]
    exact ⟨h.le, rfl, rfl, fun hc => Bool.false_ne_true hc.1, fun p due k htx => by cases htx; exact hq0⟩
  · rw [toF_W ulog e]
    exact ⟨h.le, rfl, rfl, fun hc => hc.2 (congrArg (List.map (pk c sizes0 ulog)) hit), fun _ _ _ htx => nomatch htx⟩

/-- zero or one `tick` brings the LTS to the instant of the next entry -/
theorem lts_advance (hi : AInv c sizes0 gaps0 a now vs) (hq : IsMin a q) :
    ∃ acts, Fifo.runActs (Port.dev (cfg c)) (toF c sizes0 a now ulog) acts = .ok (toF c sizes0 a q.time ulog, [], []) :=
  Fifo.runActs_advance (hi.now_le hq) (hi.tickOk ulog hq)

end REDK
