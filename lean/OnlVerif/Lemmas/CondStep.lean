import OnlVerif.Lemmas.CondBuildCb
/-!
# The counting invariant through every API call, bursts, `_resume`, interrupt delivery, the callback loop
-/

namespace Cond
variable {σ : Type}

open Once (lt_of_isCond isCond_congr lt_of_cbs_some ev_default)

theorem Fr.evMono {s s' : KState ℚ σ} (h : Fr s s') : EvMono s s' :=
  ⟨h.size_le, h.kind, fun e he hp => (h.cbsNone e he).mpr hp⟩

theorem Under.evMono {s s' : KState ℚ σ} (hev : EvMono s s') {d a : EvId} (hu : Under s d a) : Under s' d a := by
  induction hu with
  | self => exact Under.self _
  | nest he _ ih =>
    refine Under.nest ?_ ih
    rw [ops_congr (hev.kind _ (lt_of_isCond s _ (isCond_of_mem_ops he)))]; exact he

theorem Gone.evMono {rem rem' : List Cb} {s s' : KState ℚ σ} (hev : EvMono s s')
    (hsub : ∀ c, Cb.build c ∈ rem' → Cb.build c ∈ rem) {d : EvId} (h : Gone rem s d) : Gone rem' s' d := by
  obtain ⟨a, hu, h1, h2, h3⟩ := h
  have hlt := lt_of_isCond s a h1
  exact ⟨a, hu.evMono hev, by rw [isCond_congr (hev.kind a hlt)]; exact h1, hev.processed a hlt h2, fun hm => h3 (hsub a hm)⟩

theorem Mono.seq {rem rem' : List Cb} {s1 s2 s3 : KState ℚ σ} (h12 : Mono rem s1 s2) (h23 : Mono rem' s2 s3)
    (hsub : ∀ c, Cb.build c ∈ rem' → Cb.build c ∈ rem) (hev : EvMono s1 s2) : Mono rem s1 s3 :=
  Mono.trans h12 h23 hsub
    (fun c hc => by rw [isCond_congr (hev.kind c (lt_of_isCond s1 c hc))]; exact hc)
    (fun _ hg => hg.evMono hev hsub)

theorem CInv.frame' {g : Once.Ghost} {s s' : KState ℚ σ} (hi : Once.Inv g s) (hc : CInv g.rem g.e0 s) (h : Fr s s') :
    CInv g.rem g.e0 s' ∧ Mono g.rem s s' :=
  ⟨hc.frame h hi.c.done_trig, h.mono _⟩

structure Reached (g : Once.Ghost) (s s' : KState ℚ σ) : Prop where
  inv : CInv g.rem g.e0 s'
  mono : Mono g.rem s s'
  ev : EvMono s s'

theorem Reached.start {g : Once.Ghost} {s : KState ℚ σ} (hc : CInv g.rem g.e0 s) : Reached g s s :=
  ⟨hc, Mono.refl _ s, EvMono.refl s⟩

theorem Reached.step {g : Once.Ghost} {s s1 s2 : KState ℚ σ} (h : Reached g s s1)
    (c : CInv g.rem g.e0 s2 ∧ Mono g.rem s1 s2) (e : EvMono s1 s2) : Reached g s s2 :=
  ⟨c.1, h.mono.seq c.2 (fun _ h => h) h.ev, h.ev.trans e⟩

theorem Reached.frame {g : Once.Ghost} {s s1 s2 : KState ℚ σ} (h : Reached g s s1) (hi : Once.Inv g s1) (f : Fr s1 s2) :
    Reached g s s2 :=
  h.step (h.inv.frame' hi f) f.evMono

theorem Reached.out {g : Once.Ghost} {s s' : KState ℚ σ} (h : Reached g s s') : CInv g.rem g.e0 s' ∧ Mono g.rem s s' :=
  ⟨h.inv, h.mono⟩

theorem CInv.doCall {g : Once.Ghost} {s : KState ℚ σ} (hi : Once.Inv g s) (hc : CInv g.rem g.e0 s) (self : EvId)
    (c : Call ℚ σ) (hs : Once.SafeCall s c) (hd : DomCall s c) :
    CInv g.rem g.e0 (_root_.doCall s self c).1 ∧ Mono g.rem s (_root_.doCall s self c).1 := by
  by_cases hcase : ∃ a l, c = .cond a l
  · obtain ⟨a, l, rfl⟩ := hcase
    exact hc.mkCond a l hd
  · exact hc.frame' hi (Fr.doCall hi self c hs hd (fun a l h => hcase ⟨a, l, h⟩))

theorem CInv.runBurst {g : Once.Ghost} (self : EvId) : ∀ (b : Burst ℚ σ) (s : KState ℚ σ), Once.Inv g s → CInv g.rem g.e0 s →
    Once.SafeBurst self b s → DomBurst self b s →
    CInv g.rem g.e0 (_root_.runBurst self b s).1 ∧ Mono g.rem s (_root_.runBurst self b s).1
  | .call c k, s, hi, hc, hs, hd => by
    simp only [_root_.runBurst]
    have hi1 := hi.doCall self c hs.1
    have t2 := ((Reached.start hc).step (hc.doCall hi self c hs.1 hd.1) (EvMono.krel.doCall s self c)).frame hi1
      (Fr.noteErr self (_root_.doCall s self c))
    exact (t2.step (CInv.runBurst self (k _) _ (Once.Inv.noteErr self _ hi1) t2.inv hs.2 hd.2)
      (EvMono.krel.runBurst self _ _)).out
  | .yield _ _, s, _, hc, _, _ => ⟨hc, Mono.refl _ s⟩
  | .ret _, s, _, hc, _, _ => ⟨hc, Mono.refl _ s⟩
  | .raise _, s, _, hc, _, _ => ⟨hc, Mono.refl _ s⟩

theorem CInv.resume (body : σ → Resume → Burst ℚ σ) (p : EvId) {g : Once.Ghost} (hg : g.run = some p) :
    ∀ (fuel : Nat) (e : EvId) (s : KState ℚ σ), Once.Inv g s → CInv g.rem g.e0 s →
    Once.SafeResume body p fuel e s → DomResume body p fuel e s →
    CInv g.rem g.e0 (_root_.resume body p fuel e s) ∧ Mono g.rem s (_root_.resume body p fuel e s)
  | 0, e, s, _, hc, _, _ => ⟨hc, Mono.refl _ s⟩
  | fuel + 1, e, s, hi, hc, hs, hd => by
    unfold _root_.resume
    unfold Once.SafeResume at hs
    unfold DomResume at hd
    split
    · exact ⟨hc, Mono.refl _ s⟩
    · rename_i pr hp
      rw [hp] at hs hd
      simp only at hs hd ⊢
      obtain ⟨hsb, hs2⟩ := hs
      obtain ⟨hdb, hd2⟩ := hd
      have hi1 : Once.Inv g ((_root_.deliver s p e).1.emit (.resumed p (_root_.deliver s p e).2 (_root_.deliver s p e).1.now)) :=
        (hi.deliver p e).emit _
      have t1 := (Reached.start hc).frame hi ((Fr.deliver s p e).trans (Fr.emit _ (.resumed p (_root_.deliver s p e).2
        (_root_.deliver s p e).1.now)))
      have t2 := t1.step (CInv.runBurst p _ _ hi1 t1.inv hsb hdb) (EvMono.krel.runBurst p _ _)
      have hib := Once.Inv.runBurst p _ _ hi1 hsb
      generalize _root_.runBurst p (body pr.st (_root_.deliver s p e).2)
        ((_root_.deliver s p e).1.emit (.resumed p (_root_.deliver s p e).2 (_root_.deliver s p e).1.now)) = bt
        at t2 hib hs2 hd2 ⊢
      split
      · exact (t2.frame hib (Fr.finishProc hib p pr _ hg)).out
      · exact (t2.frame hib (Fr.finishProc hib p pr _ hg)).out
      · rename_i e' st' hbt
        rw [hbt] at hs2 hd2
        simp only at hs2 hd2
        have t3 := t2.frame hib (Fr.setProc bt.1 p { st := st', target := some e' })
        have hi2 : Once.Inv g (bt.1.setProc p { st := st', target := some e' }) := Once.Inv.setProc_run p _ hg hib
        split
        · rename_i s3 hr
          exact (t3.frame hi2 (Fr.register _ _ p e' hr)).out
        · rename_i hr
          rw [hr] at hs2 hd2
          simp only at hs2 hd2
          exact (t3.step (CInv.resume body p hg fuel e' _ hi2 t3.inv hs2 hd2) (EvMono.krel.resume body p fuel e' _)).out

theorem CInv.deliverInterrupt (body : σ → Resume → Burst ℚ σ) (fuel : Nat) (iv p : EvId) {g : Once.Ghost} {s : KState ℚ σ}
    (hi : Once.Inv g s) (hc : CInv g.rem g.e0 s) (hg : g.run = none)
    (hs : Once.SafeIntr body fuel iv p s) (hd : DomIntr body fuel iv p s) :
    CInv g.rem g.e0 (_root_.deliverInterrupt body fuel iv p s) ∧ Mono g.rem s (_root_.deliverInterrupt body fuel iv p s) := by
  unfold _root_.deliverInterrupt
  unfold Once.SafeIntr at hs
  unfold DomIntr at hd
  split
  · exact ⟨hc, Mono.refl _ s⟩
  · rename_i hnt
    rw [if_neg hnt] at hs hd
    have hout := Once.out_none_of_not_triggered s p hnt
    split
    · exact ⟨hc, Mono.refl _ s⟩
    · rename_i pr hp
      rw [hp] at hs hd
      simp only at hs hd
      split
      · rename_i t ht
        rw [ht] at hs hd
        simp only at hs hd
        have t1 := (Reached.start hc).frame hi (Fr.eraseCb s t (.resume p) rfl)
        exact (t1.step (CInv.resume body p (g := { g with run := some p }) rfl fuel iv _
          (hi.detach p t pr hg hp ht hout) t1.inv hs hd) (EvMono.krel.resume body p fuel iv _)).out
      · rename_i ht
        rw [ht] at hs hd
        simp only at hs hd
        exact CInv.resume body p (g := { g with run := some p }) rfl fuel iv _ (hi.ghost_run_idle p pr hg hp ht hout)
          hc hs hd

theorem CInv.runCb (body : σ → Resume → Burst ℚ σ) (fuel : Nat) {g : Once.Ghost} (l : LoopSt ℚ σ) (cb : Cb) (rest : List Cb)
    (hrem : g.rem = cb :: rest) (hg : g.run = none) (hi : Once.Inv g l.s) (hc : CInv g.rem g.e0 l.s)
    (hs : Once.SafeCb body fuel g.e0 l.s cb) (hd : DomCb body fuel g.e0 l.s cb) :
    CInv rest g.e0 (_root_.runCb body fuel g.e0 l cb).s ∧ Mono (cb :: rest) l.s (_root_.runCb body fuel g.e0 l cb).s := by
  rw [hrem] at hc
  have up : ∀ {s'}, CInv rest g.e0 s' ∧ Mono rest l.s s' → CInv rest g.e0 s' ∧ Mono (cb :: rest) l.s s' :=
    fun h => ⟨h.1, (Mono.refl _ l.s).seq h.2 (fun c h => List.mem_cons_of_mem _ h) (EvMono.refl _)⟩
  -- a plain callback leaves the pending list; what it does then is frame work
  have plain : plainCb cb = true → (∀ p, cb ≠ .resume p) → ∀ s',
      (Once.Inv { g with rem := rest } l.s → Fr l.s s') → CInv rest g.e0 s' ∧ Mono (cb :: rest) l.s s' := by
    intro hp hne s' hf
    have hw := hi.ghost_drop cb rest hrem hne
    exact up (CInv.frame' (g := { g with rem := rest }) hw (hc.drop_plain hp) (hf hw))
  unfold _root_.runCb
  simp only
  cases cb with
  | resume p =>
    simp only
    exact up (CInv.resume body p (g := { g with rem := rest, run := some p }) rfl fuel g.e0 l.s
      (hi.ghost_pop_run p rest hrem hg) (hc.drop_plain rfl) hs hd)
  | probe tag => exact plain rfl (fun p h => by cases h) _ (fun _ => Fr.emit l.s _)
  | stop => exact ⟨hc.drop_plain rfl, Mono.refl _ _⟩
  | intr iv =>
    simp only
    simp only [Once.SafeCb] at hs
    simp only [DomCb] at hd
    split
    · rename_i p hk
      rw [hk] at hs hd
      simp only at hs hd
      exact up (CInv.deliverInterrupt body fuel iv p (g := { g with rem := rest })
        (hi.ghost_drop _ rest hrem (fun p h => by cases h)) (hc.drop_plain rfl) hg hs hd)
    · exact ⟨hc.drop_plain rfl, Mono.refl _ _⟩
  | check c => exact hc.condCheck_cb hi.c.done_trig
  | build c => exact hc.condBuild_cb
  | trigPut r => exact plain rfl (fun p h => by cases h) _ (fun hw => Fr.triggerPut hw r)
  | trigGet r => exact plain rfl (fun p h => by cases h) _ (fun hw => Fr.triggerGet hw r)

theorem CInv.foldCbs_prefix (body : σ → Resume → Burst ℚ σ) (fuel : Nat) : ∀ (pre post : List Cb) (g : Once.Ghost)
    (l : LoopSt ℚ σ), g.rem = pre ++ post → g.run = none → g.lv = false → g.strict = false → Once.Inv g l.s →
    CInv g.rem g.e0 l.s → Once.SafeCbs body fuel g.e0 (pre ++ post) l → DomCbs body fuel g.e0 (pre ++ post) l →
    Once.Inv { g with rem := post } (pre.foldl (_root_.runCb body fuel g.e0) l).s ∧
    CInv post g.e0 (pre.foldl (_root_.runCb body fuel g.e0) l).s ∧
    Mono (pre ++ post) l.s (pre.foldl (_root_.runCb body fuel g.e0) l).s
  | [], post, g, l, hrem, _, _, _, hi, hc, _, _ => by
    simp only [List.nil_append] at hrem
    have : ({ g with rem := post } : Once.Ghost) = g := by cases g; simp only at hrem; subst hrem; rfl
    rw [this]
    rw [hrem] at hc
    exact ⟨hi, hc, Mono.refl _ _⟩
  | cb :: pre, post, g, l, hrem, hg, hlv, hst, hi, hc, hs, hd => by
    simp only [List.foldl_cons]
    simp only [List.cons_append] at hrem hs hd
    obtain ⟨h1, m1⟩ := CInv.runCb body fuel l cb (pre ++ post) hrem hg hi hc hs.1 hd.1
    have hi1 := Once.Inv.runCb body fuel l cb (pre ++ post) hrem hg (fun h => by rw [hlv] at h; cases h) hi hs.1
      (fun h => by rw [hst] at h; cases h)
    obtain ⟨i2, h2, m2⟩ :=
      CInv.foldCbs_prefix body fuel pre post { g with rem := pre ++ post } _ rfl hg hlv hst hi1 h1 hs.2 hd.2
    exact ⟨i2, h2, m1.seq m2 (fun c h => List.mem_cons_of_mem _ h) (EvMono.krel.runCb body fuel g.e0 l cb)⟩

theorem CInv.foldCbs (body : σ → Resume → Burst ℚ σ) (fuel : Nat) : ∀ (cbs : List Cb) (g : Once.Ghost) (l : LoopSt ℚ σ),
    g.rem = cbs → g.run = none → g.lv = false → g.strict = false → Once.Inv g l.s → CInv g.rem g.e0 l.s →
    Once.SafeCbs body fuel g.e0 cbs l → DomCbs body fuel g.e0 cbs l →
    CInv [] g.e0 (cbs.foldl (_root_.runCb body fuel g.e0) l).s ∧ Mono cbs l.s (cbs.foldl (_root_.runCb body fuel g.e0) l).s := by
  intro cbs g l hrem hg hlv hst hi hc hs hd
  have h := CInv.foldCbs_prefix body fuel cbs [] g l (by rw [List.append_nil]; exact hrem) hg hlv hst hi hc
    (by rw [List.append_nil]; exact hs) (by rw [List.append_nil]; exact hd)
  rw [List.append_nil] at h
  exact h.2

end Cond
