import OnlVerif.Lemmas.TimerKFrame
import OnlVerif.Lemmas.KProcDefs
import OnlVerif.Lemmas.SchedDRRProps
import OnlVerif.Lemmas.DRRKAttr
import OnlVerif.Net.DRROnK
/-!
# The DRR scheduler on the kernel model: canonical configurations (definitions)

`A` is an abstract description of a kernel state of the program `DRROnK.prog`: where `DRR.run` (and the sender process it has
spawned) and the source are suspended, which agenda entries exist, what the stores hold, the attribute cells.  `KInv s a`
says that the kernel state `s` *is* the configuration `a`: `s` is the configuration of processes `cfgOf a` (`GInv` of
`Lemmas/KProcDefs.lean`: that pins down every part of `s` that `Environment.step` and the generators can read) and the attribute
cells hold what `a` says.  `AInv` is what holds of the configurations of a run.  `A.burst` is what a burst of `run` does to a
configuration: the nested loops of `DRR.run`, as a function.
-/

namespace DRRK
open DRROnK
open KProc (Thread Cfg GInv Regs HStore)

abbrev St := DrrSt ℚ
abbrev KS := KState ℚ St

/-- where `DRR.run` (with the sender it waits for) is -/
inductive RPhase where
  /-- not started: its `Initialize` entry `q` is in the agenda -/
  | init (q : QEntry ℚ)
  /-- blocked in `packets_available.get()` (event `g`) -/
  | W (g : EvId)
  /-- that `get` has been served with a token: entry `q` -/
  | K (g : EvId) (q : QEntry ℚ)
  /-- `stores[flow id].get()` (event `g`, issued at entry `m`) has been served with packet `id`: entry `q` -/
  | H (g : EvId) (m : Nat) (id : Int) (q : QEntry ℚ)
  /-- the sender process `p` of packet `id` (taken at entry `m`) has been created: its `Initialize` entry `q` -/
  | S (p : EvId) (m : Nat) (id : Int) (q : QEntry ℚ)
  /-- the sender `p` sleeps on timeout `t` (entry `q`, due at `q.time`) -/
  | T (p t : EvId) (m : Nat) (id : Int) (q : QEntry ℚ)
  /-- the sender's generator has returned: its process event `p` is triggered (entry `q`) -/
  | F (p : EvId) (m : Nat) (id : Int) (q : QEntry ℚ)

/-- where the source is -/
inductive SPhase where
  | init (q : QEntry ℚ) (arr : List (ℚ × Int))
  /-- sleeping on the timeout (entry `q`) after which it puts packet `id`; `rest` still to come -/
  | wait (id : Int) (rest : List (ℚ × Int)) (q : QEntry ℚ)
  /-- the generator has returned: the process event (entry `q`) is triggered -/
  | ending (q : QEntry ℚ)
  | done

/-- `g x := v` -/
def upd {β : Type} (g : Nat → β) (f : Nat) (v : β) : Nat → β := fun x => if x = f then v else g x

@[simp] theorem upd_same {β : Type} (g : Nat → β) (f : Nat) (v : β) : upd g f v f = v := by simp [upd]
theorem upd_ne {β : Type} (g : Nat → β) (f f' : Nat) (v : β) (h : f' ≠ f) : upd g f v f' = g f' := by simp [upd, h]
theorem upd_apply {β : Type} (g : Nat → β) (f f' : Nat) (v : β) : upd g f v f' = if f' = f then v else g f' := rfl

theorem upd_upd {β : Type} (g : Nat → β) (c : Nat) (v w : β) : upd (upd g c v) c w = upd g c w := by
  funext x
  by_cases hx : x = c
  · subst hx; simp
  · simp [upd_ne _ _ _ _ hx]

theorem upd_upd_self {β : Type} (g : Nat → β) (c : Nat) (v w : β) (h : g c = w) : upd (upd g c v) c w = g := by
  funext x
  by_cases hx : x = c
  · subst hx; simp [h]
  · simp [upd_ne _ _ _ _ hx]

structure A where
  run : RPhase
  src : SPhase
  /-- the `StorePut` events that are triggered and not yet processed, with their store -/
  pend : List (QEntry ℚ × ResId)
  /-- `len(packets_available.items)` -/
  tokens : Nat
  /-- `stores[c].items` -/
  items : Nat → List Int
  /-- `queue_count[f]` -/
  cnt : Nat → Int
  /-- `queue_byte_size[f]` -/
  byt : Nat → Int
  /-- `packets_received` -/
  recv : Int
  /-- `current_packet` -/
  cur : Option Int
  /-- the keys of `queue_byte_size` and `stores`, in insertion order -/
  keys : List Nat
  /-- `class_count[c]` -/
  ccnt : Nat → Int
  /-- `deficit[c]` -/
  dfc : Nat → ℚ
  /-- `head_of_line.get(c)` -/
  hol : Nat → Option Int
  /-- ghost: the credit forgotten so far when class `c` emptied -/
  forf : Nat → ℚ

def RPhase.entries : RPhase → List (QEntry ℚ)
  | .init q => [q]
  | .W _ => []
  | .K _ q => [q]
  | .H _ _ _ q => [q]
  | .S _ _ _ q => [q]
  | .T _ _ _ _ q => [q]
  | .F _ _ _ q => [q]

def SPhase.entries : SPhase → List (QEntry ℚ)
  | .init q _ => [q]
  | .wait _ _ q => [q]
  | .ending q => [q]
  | .done => []

def pendEntries (l : List (QEntry ℚ × ResId)) : List (QEntry ℚ) := l.map (·.1)

def A.entries (a : A) : List (QEntry ℚ) := a.run.entries ++ (a.src.entries ++ pendEntries a.pend)

/-- the events a configuration talks about (pairwise different); the process event of `DRR.run` is 0, of the source 2 -/
def RPhase.ids : RPhase → List EvId
  | .init _ => [0, 1]
  | .W g => [0, g]
  | .K g _ => [0, g]
  | .H g _ _ _ => [0, g]
  | .S p _ _ _ => [0, p, p + 1]
  | .T p t _ _ _ => [0, p, t]
  | .F p _ _ _ => [0, p]

def SPhase.ids : SPhase → List EvId
  | .init _ _ => [2, 3]
  | .wait _ _ q => [2, q.ev]
  | .ending _ => [2]
  | .done => []

def pendIds (l : List (QEntry ℚ × ResId)) : List EvId := l.map (·.1.ev)

theorem pendIds_nil : pendIds [] = [] := rfl
theorem pendIds_cons (u : QEntry ℚ × ResId) (l : List (QEntry ℚ × ResId)) : pendIds (u :: l) = u.1.ev :: pendIds l := rfl
theorem pendEntries_nil : pendEntries [] = [] := rfl
theorem pendEntries_cons (u : QEntry ℚ × ResId) (l : List (QEntry ℚ × ResId)) :
    pendEntries (u :: l) = u.1 :: pendEntries l := rfl

theorem RPhase.ids_init (q : QEntry ℚ) : (RPhase.init q).ids = [0, 1] := rfl
theorem RPhase.ids_W (g : EvId) : (RPhase.W g).ids = [0, g] := rfl
theorem RPhase.ids_K (g : EvId) (q : QEntry ℚ) : (RPhase.K g q).ids = [0, g] := rfl
theorem RPhase.ids_H (g : EvId) (i : Nat) (id : Int) (q : QEntry ℚ) : (RPhase.H g i id q).ids = [0, g] := rfl
theorem RPhase.ids_S (p : EvId) (i : Nat) (id : Int) (q : QEntry ℚ) : (RPhase.S p i id q).ids = [0, p, p + 1] := rfl
theorem RPhase.ids_T (p t : EvId) (i : Nat) (id : Int) (q : QEntry ℚ) : (RPhase.T p t i id q).ids = [0, p, t] := rfl
theorem RPhase.ids_F (p : EvId) (i : Nat) (id : Int) (q : QEntry ℚ) : (RPhase.F p i id q).ids = [0, p] := rfl
theorem SPhase.ids_init (q : QEntry ℚ) (arr : List (ℚ × Int)) : (SPhase.init q arr).ids = [2, 3] := rfl
theorem SPhase.ids_wait (id : Int) (rest : List (ℚ × Int)) (q : QEntry ℚ) : (SPhase.wait id rest q).ids = [2, q.ev] := rfl
theorem SPhase.ids_ending (q : QEntry ℚ) : (SPhase.ending q).ids = [2] := rfl
theorem SPhase.ids_done : SPhase.done.ids = [] := rfl

/-- the `get_queue` of the wake-up store -/
def RPhase.getQ : RPhase → List EvId
  | .W g => [g]
  | _ => []

/-- the packet `run` holds or has in transmission (taken from its store or from `head_of_line`, not yet counted out) -/
def RPhase.held : RPhase → Option Int
  | .H _ _ id _ => some id
  | .S _ _ id _ => some id
  | .T _ _ _ id _ => some id
  | _ => none

/-- the packet whose transmission is over and not booked yet (`class_count` still counts it) -/
def RPhase.unbooked : RPhase → Option Int
  | .F _ _ id _ => some id
  | _ => none

/-! ## the kernel side of a configuration: its processes, pending events and stores in the terms of `Lemmas/KProcDefs.lean` -/

variable (flow : Int → Nat)

def runThread : RPhase → Thread St
  | .init q => { pid := 0, st := .runStart, wait := .init q }
  | .W g => { pid := 0, st := .runTok, wait := .getW 0 g }
  | .K _ q => { pid := 0, st := .runTok, wait := .getH 0 q 1 }
  | .H _ m id q => { pid := 0, st := .runGet m, wait := .getH (flowStore (flow id)) q id }
  | .S p m id _ => { pid := 0, st := .runSend id m, wait := .join p }
  | .T p _ m id _ => { pid := 0, st := .runSend id m, wait := .join p }
  | .F p m id _ => { pid := 0, st := .runSend id m, wait := .join p }

/-- the sender that `run` has spawned and joined -/
def childThreads : RPhase → List (Thread St)
  | .S p _ id q => [{ pid := p, st := .sendStart id, wait := .init q, cbs := some [.resume 0] }]
  | .T p _ _ id q => [{ pid := p, st := .sendTx id, wait := .sleep q, cbs := some [.resume 0] }]
  | .F p _ id q => [{ pid := p, st := .sendTx id, wait := .ending q .none, cbs := some [.resume 0] }]
  | _ => []

/-- `st0` = the local state the source had when its generator returned (nothing looks at it) -/
def srcThreads (st0 : St) : SPhase → List (Thread St)
  | .init q arr => [{ pid := 2, st := .src none arr, wait := .init q }]
  | .wait id rest q => [{ pid := 2, st := .src (some id) rest, wait := .sleep q }]
  | .ending q => [{ pid := 2, st := st0, wait := .ending q .none }]
  | .done => []

/-- the events a phase names twice are the same event -/
def RPhase.OK : RPhase → Prop
  | .K g q => q.ev = g
  | .H g _ _ q => q.ev = g
  | .T _ t _ _ q => q.ev = t
  | _ => True

/-- the wake-up store (`get` queue `gq`, `tk` tokens) and the stores of the `F` classes -/
def storesOf (F : Nat) (gq : List EvId) (tk : Nat) (items : Nat → List Int) : ResId → Option HStore
  | 0 => some { getQ := gq, items := List.replicate tk 1 }
  | f + 1 => if f < F then some { items := items f } else none

/-- the configuration `a` as a configuration of processes; a sender is spawned last, so it stands behind the source -/
def cfgOf (F : Nat) (a : A) (reg : Regs) (st0 : St) : Cfg St :=
  { reg := reg
    threads := runThread flow a.run :: (srcThreads st0 a.src ++ childThreads a.run)
    pend := a.pend
    stores := storesOf F a.run.getQ a.tokens a.items }

/-- the value of a cell that holds a packet id or `None` -/
def optVal : Option Int → Val
  | some id => .int id
  | none => .none

/-- what the attribute cells hold (`Q` = the quanta) -/
structure CellsOf (F : Nat) (Q : Nat → ℚ) (f : Nat → Val) (recv : Int) (cur : Option Int) (cnt byt ccnt : Nat → Int)
    (dfc : Nat → ℚ) (hol : Nat → Option Int) (forf : Nat → ℚ) : Prop where
  c0 : f cRecv = .int recv
  c1 : f cCur = optVal cur
  cc : ∀ c, c < F → f (cCount c) = .int (cnt c)
  cb : ∀ c, c < F → f (cBytes c) = .int (byt c)
  cq : ∀ c, c < F → f (cCls c) = .int (ccnt c)
  cd : ∀ c, c < F → f (cDef c) = TimeCell.enc (dfc c)
  ch : ∀ c, c < F → f (cHol c) = optVal (hol c)
  cu : ∀ c, c < F → f (cQuant c) = TimeCell.enc (Q c)
  cf : ∀ c, c < F → f (cForf c) = TimeCell.enc (forf c)

/-- the attribute cells of a configuration: its other fields do not matter -/
abbrev Cells (F : Nat) (Q : Nat → ℚ) (f : Nat → Val) (a : A) : Prop :=
  CellsOf F Q f a.recv a.cur a.cnt a.byt a.ccnt a.dfc a.hol a.forf

/-- the kernel state `s` has the configuration `a` -/
structure KInv (F : Nat) (Q : Nat → ℚ) (s : KS) (a : A) : Prop where
  ok : a.run.OK
  /-- the pending `StorePut` events are on stores that exist -/
  pst : ∀ u ∈ a.pend, u.2 < F + 1
  cfg : ∃ st0, GInv s (cfgOf flow F a (Regs.of s) st0)
  cells : Cells F Q (Regs.of s).cells a

/-! ## the abstract side: the nested loops of `DRR.run` as a function -/

/-- `sum(queue_count.values())` over flows `f, …, f + n - 1` -/
def sumFrom (c : Nat → Int) : Nat → Nat → Int
  | _, 0 => 0
  | f, n + 1 => c f + sumFrom c (f + 1) n

/-- `total_packets` of a configuration -/
def A.total (F : Nat) (a : A) : Int := sumFrom a.cnt 0 F

/-- what a burst of the loops changes: the credits; and what it lets observe -/
structure LS where
  dfc : Nat → ℚ
  evs : List (HEv ℚ)

/-- how a burst of `DRR.run` ends -/
inductive LoopEnd where
  /-- it calls `stores[c].get()` at entry `m` -/
  | get (m c : Nat)
  /-- it sends packet `id` of class `c` at entry `m`; `pk`: the packet was the parked head of the class -/
  | send (m c : Nat) (id : Int) (pk : Bool)
  /-- `total_packets == 0`: it waits for the wake-up token -/
  | idle
  /-- more than the allowed number of passes without a `yield` -/
  | hang
deriving DecidableEq

section loop
variable (Q : Nat → ℚ) (size : Int → Nat) (ccnt : Nat → Int) (hol : Nat → Option Int) (t : ℚ)

/-- `if count > 0: self.deficit[class_id] += self.quantum[class_id]` -/
def visitAdd (c : Nat) (L : LS) : LS :=
  if 0 < ccnt c then { dfc := upd L.dfc c (L.dfc c + Q c), evs := L.evs ++ [.visit c t] } else L

/-- the inner `while` of entry `m` (class `c`) at its test; `none`: the visit is over, the `for` loop goes on -/
def innerAt (m c : Nat) (L : LS) : LS × Option LoopEnd :=
  if Num.zero < L.dfc c ∧ 0 < ccnt c then
    match hol c with
    | some id =>
      if (Num.ofNat (size id) : ℚ) ≤ L.dfc c then (L, some (.send m c id true))
      else ({ L with evs := L.evs ++ [.park id t] }, none)
    | none => (L, some (.get m c))
  else (L, none)

/-- the `for` loop from entry `m` on (`ws` = the entries still to visit); `none`: it has run to its end -/
def visitFrom : Nat → List (Nat × Nat) → LS → LS × Option LoopEnd
  | _, [], L => (L, none)
  | m, (c, _) :: rest, L =>
    match innerAt size ccnt hol t m c (visitAdd Q ccnt t c L) with
    | (L', some e) => (L', some e)
    | (L', none) => visitFrom (m + 1) rest L'

/-- `run` at `while self.total_packets > 0` with `k` passes allowed -/
def passes (total : Int) (ws : List (Nat × Nat)) : Nat → LS → LS × LoopEnd
  | 0, L => (L, .hang)
  | k + 1, L =>
    if 0 < total then
      match visitFrom Q size ccnt hol t 0 ws L with
      | (L', some e) => (L', e)
      | (L', none) => passes total ws k L'
    else if total = 0 then (L, .idle) else (L, .hang)

/-- the rest of the burst after a piece of the `for` loop -/
def thenPasses (total : Int) (ws : List (Nat × Nat)) (P : Nat) : LS × Option LoopEnd → LS × LoopEnd
  | (L', some e) => (L', e)
  | (L', none) => passes Q size ccnt hol t total ws P L'

end loop

/-- where a burst of `run` starts -/
inductive Entry where
  /-- at `while self.total_packets > 0` (first burst, wake-up) -/
  | top
  /-- with packet `id` taken from the store of entry `m` -/
  | got (m : Nat) (id : Int)
  /-- after the transmission of packet `id` taken at entry `m` -/
  | done (m : Nat) (id : Int)

/-- `self.class_count[c] -= 1; self.deficit[c] -= packet.size; if self.class_count[c] == 0: self.deficit[c] = 0.0` (with the
ghost `forfeited`) -/
def A.book (size : Int → Nat) (a : A) (c : Nat) (id : Int) : A :=
  if a.ccnt c + -1 = 0 then
    { a with ccnt := upd a.ccnt c (a.ccnt c + -1), dfc := upd a.dfc c 0,
             forf := upd a.forf c (a.forf c + (a.dfc c - Num.ofNat (size id))) }
  else { a with ccnt := upd a.ccnt c (a.ccnt c + -1), dfc := upd a.dfc c (a.dfc c - Num.ofNat (size id)) }

/-- the observations of that bookkeeping -/
def bookEvs (a : A) (c : Nat) (id : Int) (t : ℚ) : List (HEv ℚ) :=
  if a.ccnt c + -1 = 0 then [.done id t, .reset c t] else [.done id t]

/-- the result of a burst of `run`: the configuration cells after it, what it lets observe, how it ends -/
structure BurstRes where
  a : A
  evs : List (HEv ℚ)
  fin : LoopEnd

/-- a parked head that is sent leaves `head_of_line` -/
def holAfter (hol : Nat → Option Int) : Option LoopEnd → Nat → Option Int
  | some (.send _ c _ true) => upd hol c none
  | _ => hol

/-- put the result of a piece of the loops back into the configuration: the credits, `head_of_line` -/
def finA (a : A) (L : LS) (oe : Option LoopEnd) : A := { a with dfc := L.dfc, hol := holAfter a.hol oe }

/-- the result of the loops as the result of the burst (`e0` = what the burst lets observe before it enters the loops) -/
def finish (a : A) (e0 : List (HEv ℚ)) (r : LS × LoopEnd) : BurstRes :=
  { a := finA a r.1 (some r.2), evs := e0 ++ r.1.evs, fin := r.2 }

/-- **what a burst of `DRR.run` does to a configuration** (`ws` = `class_count.items()`, `P` = the passes allowed, `t` = now) -/
def A.burst (F : Nat) (Q : Nat → ℚ) (size : Int → Nat) (ws : List (Nat × Nat)) (P : Nat) (t : ℚ) (a : A) : Entry → BurstRes
  | .top => finish a [] (passes Q size a.ccnt a.hol t (a.total F) ws P ⟨a.dfc, []⟩)
  | .got m id =>
    match ws.drop m with
    | (c, _) :: rest =>
      if (Num.ofNat (size id) : ℚ) ≤ a.dfc c then { a := a, evs := [], fin := .send m c id false }
      else
        let a1 : A := { a with hol := upd a.hol c (some id) }
        finish a1 [.park id t] (thenPasses Q size a1.ccnt a1.hol t (a1.total F) ws P
          (visitFrom Q size a1.ccnt a1.hol t (m + 1) rest ⟨a1.dfc, []⟩))
    | [] => { a := a, evs := [], fin := .hang }
  | .done m id =>
    match ws.drop m with
    | (c, _) :: rest =>
      let a1 := a.book size c id
      finish a1 (bookEvs a c id t) (thenPasses Q size a1.ccnt a1.hol t (a1.total F) ws P
        (match innerAt size a1.ccnt a1.hol t m c ⟨a1.dfc, []⟩ with
          | (L', some e) => (L', some e)
          | (L', none) => visitFrom Q size a1.ccnt a1.hol t (m + 1) rest L'))
    | [] => { a := a, evs := [], fin := .hang }

variable (F : Nat) (size : Int → Nat) (cfg : DRR.Cfg ℚ) (Lmax P : Nat)

/-- the quantum of a class (`MIN_QUANTUM` for a class that is not declared: it has none) -/
def qOf (c : Nat) : ℚ := (DRR.quantum cfg c).getD 1500

/-- a packet of the workload: its flow is one of the `F` classes, it has at most `Lmax` bytes -/
def PktOK (id : Int) : Prop := flow id < F ∧ size id ≤ Lmax

/-- gaps are not negative, packets are as above -/
def WorkOK (l : List (ℚ × Int)) : Prop := ∀ x ∈ l, 0 ≤ x.1 ∧ PktOK flow F size Lmax x.2

/-- `weights` names exactly the classes `0 … F-1`, each once, in any order, with positive weights; `flow2class` is the
identity -/
def FlowsOK : Prop := (cfg.weights.map (·.1)).Perm (List.range F) ∧ (∀ e ∈ cfg.weights, 0 < e.2) ∧ cfg.flowMap = none

/-- what the phase of `run` says about the configuration -/
def RunA (a : A) (now : ℚ) : RPhase → Prop
  | .init q => q.time = now ∧ q.prio = URGENT ∧ a.tokens = 0 ∧ a.pend = [] ∧ (∀ f, a.items f = []) ∧ (∀ f, a.cnt f = 0) ∧
      a.cur = none ∧ a.recv = 0 ∧ (∀ f, a.hol f = none)
  | .W _ => (a.tokens = 0 → ∀ f, f < F → a.items f = []) ∧ (a.tokens ≠ 0 → ∃ u, (u, 0) ∈ a.pend) ∧ a.cur = none ∧
      (∀ f, f < F → a.hol f = none)
  | .K _ q => q.time = now ∧ q.prio = NORMAL ∧ a.cur = none ∧ (∀ f, f < F → a.hol f = none)
  | .H _ m id q => q.time = now ∧ q.prio = NORMAL ∧ a.cur = none ∧ PktOK flow F size Lmax id ∧
      (∃ w, cfg.weights[m]? = some (flow id, w)) ∧ a.hol (flow id) = none ∧ 0 < a.dfc (flow id)
  | .S _ m id q => q.time = now ∧ q.prio = URGENT ∧ a.cur = some id ∧ PktOK flow F size Lmax id ∧
      (∃ w, cfg.weights[m]? = some (flow id, w)) ∧ a.hol (flow id) = none ∧ (size id : ℚ) ≤ a.dfc (flow id)
  | .T _ _ m id q => q.prio = NORMAL ∧ a.cur = some id ∧ PktOK flow F size Lmax id ∧
      (∃ w, cfg.weights[m]? = some (flow id, w)) ∧ a.hol (flow id) = none ∧ (size id : ℚ) ≤ a.dfc (flow id)
  | .F _ m id q => q.time = now ∧ q.prio = NORMAL ∧ a.cur = none ∧ PktOK flow F size Lmax id ∧
      (∃ w, cfg.weights[m]? = some (flow id, w)) ∧ a.hol (flow id) = none ∧ (size id : ℚ) ≤ a.dfc (flow id)

def SrcA (now : ℚ) : SPhase → Prop
  | .init q arr => q.time = now ∧ q.prio = URGENT ∧ WorkOK flow F size Lmax arr
  | .wait id rest q => q.prio = NORMAL ∧ PktOK flow F size Lmax id ∧ WorkOK flow F size Lmax rest
  | .ending q => q.time = now ∧ q.prio = NORMAL
  | .done => True

/-- the number of packets of class `f` the server holds (taken from the store, not yet counted out) -/
def heldCnt (a : A) (f : Nat) : Int :=
  match a.run.held with
  | some id => if flow id = f then 1 else 0
  | none => 0

/-- the number of packets of class `f` that have left and are not booked yet -/
def unbookedCnt (a : A) (f : Nat) : Int :=
  match a.run.unbooked with
  | some id => if flow id = f then 1 else 0
  | none => 0

/-- the parked head of class `f` counts as one packet -/
def holCnt (a : A) (f : Nat) : Int := if (a.hol f).isSome then 1 else 0

/-- what holds of a configuration at instant `now` -/
structure AInv (a : A) (now : ℚ) : Prop where
  run : RunA flow F size cfg Lmax a now a.run
  src : SrcA flow F size Lmax now a.src
  pend : ∀ u ∈ a.pend, u.1.time = now ∧ u.1.prio = NORMAL
  due : ∀ x ∈ a.entries, now ≤ x.time
  /-- the counters are exact -/
  cntOK : ∀ f, f < F → a.cnt f = ((a.items f).length : Nat) + holCnt a f + heldCnt flow a f
  ccntOK : ∀ f, f < F → a.ccnt f = a.cnt f + unbookedCnt flow a f
  /-- the packets in `stores[f]` and the parked head of class `f` are packets of flow `f` of at most `Lmax` bytes -/
  flowOK : ∀ f, f < F → ∀ i ∈ a.items f, flow i = f ∧ size i ≤ Lmax
  holOK : ∀ f, f < F → ∀ i, a.hol f = some i → flow i = f ∧ size i ≤ Lmax
  /-- the dict keys are flows; a flow that is not a key yet has empty records -/
  keysOK : (∀ f ∈ a.keys, f < F) ∧ ∀ f, f < F → f ∉ a.keys → a.items f = [] ∧ a.cnt f = 0 ∧ a.byt f = 0
  /-- the credits are not negative -/
  dfcOK : ∀ f, f < F → 0 ≤ a.dfc f
  table : FlowsOK F cfg
  rate : 0 < cfg.rate
  /-- the passes allowed in one burst suffice for packets of `Lmax` bytes -/
  pass : ∃ k, P = k + 1 ∧ Lmax ≤ 1500 * k

/-- number of kernel steps a configuration still needs (an upper bound) -/
def RPhase.mu : RPhase → Nat
  | .init _ => 1
  | .W _ => 0
  | .K _ _ => 1
  | .H _ _ _ _ => 4
  | .S _ _ _ _ => 3
  | .T _ _ _ _ _ => 2
  | .F _ _ _ _ => 1

def SPhase.mu : SPhase → Nat
  | .init _ arr => 10 * arr.length + 2
  | .wait _ rest _ => 10 * rest.length + 11
  | .ending _ => 1
  | .done => 0

/-- the packets waiting in the stores (4 steps each) and parked (3 steps each) of classes `f, …, f + n - 1` -/
def waitingFrom (items : Nat → List Int) (hol : Nat → Option Int) : Nat → Nat → Nat
  | _, 0 => 0
  | f, n + 1 => 4 * (items f).length + (if (hol f).isSome then 3 else 0) + waitingFrom items hol (f + 1) n

def A.mu (F : Nat) (a : A) : Nat := a.run.mu + a.src.mu + a.pend.length + 2 * a.tokens + waitingFrom a.items a.hol 0 F

end DRRK
