import OnlVerif.Lemmas.TBKCfg
/-!
# The token bucket on the kernel model: the kernel steps

Each kernel step is computed on the configuration `cfgOf a s st0` by the machine of `Lemmas/KProcDefs.lean` (`hrun_*`: what the
pieces of the two generators do to cells and trace; `run_*`, `kstep_*`: the whole step to its end), and `StepsTo.of_ginv`
reads the configuration `a'` of the state after the step off the result.
-/

namespace TBK
open TBOnK
open TimerK (dec_enc)
open KProc

variable {size : Int → Nat} {cfg : TbCfg ℚ}
variable {s : KS} {a : A} {q : QEntry ℚ} {rest : List (QEntry ℚ)} {st0 : St}

theorem tokenWait_nonneg (hg : TokenBucket.Good cfg) (lv : ℚ) (id : Int) (h : lv < (size id : ℚ)) :
    0 ≤ TokenBucket.tokenWait cfg lv (pktOf size id) := by
  unfold TokenBucket.tokenWait pktOf
  simp only [Num.ofNat_rat]
  exact div_nonneg (mul_nonneg (sub_nonneg.mpr h.le) (by norm_num)) (le_of_lt hg.rate)

theorem peakWait_nonneg {k : ℚ} (hk : 0 < k) (id : Int) : 0 ≤ TokenBucket.peakWait k (pktOf size id) := by
  unfold TokenBucket.peakWait pktOf
  simp only [Num.ofNat_rat]
  exact div_nonneg (by positivity) (le_of_lt hk)

/-- the kernel step from `s` succeeds at the instant of `q` in a state with configuration `a'`, having observed `new` -/
def StepsTo (size : Int → Nat) (cfg : TbCfg ℚ) (fuel : Nat) (s : KS) (q : QEntry ℚ) (a' : A) (new : List (HEv ℚ)) : Prop :=
  ∃ s', step (body size cfg) (fuel + 1) s = .ok s' ∧ KInv s' a' ∧ s'.now = q.time ∧ histOf s'.trace = histOf s.trace ++ new

/-- a state that is the configuration `c'` the machine has computed has the configuration `a'` that `c'` displays -/
theorem KInv.of_ginv {s' : KS} {c' : Cfg St} {a' : A} (hg : GInv s' c')
    (ht : c'.threads = runThread a'.run :: srcThreads st0 a'.src) (hp : c'.pend = a'.pend.map (·, 0))
    (hs : ∀ r, c'.stores r = if r = 0 then some { getQ := a'.run.getQ, items := a'.items } else none)
    (hl : c'.loose = []) (hcur : c'.cur = none) (hr : a'.run.OK)
    (hc : Cells c'.reg.cells a'.cts a'.sent a'.level a'.upd) : KInv s' a' := by
  have hreg := hg.reg
  have hc' : c' = cfgOf a' s' st0 := hg.cfg_eq ht hp hs hl hcur
  exact kinv_iff.mpr ⟨hr, hc' ▸ hg, by rw [hreg] at hc; exact hc⟩

theorem StepsTo.of_ginv {fuel : Nat} {c' : Cfg St} {a' : A} {new : List (HEv ℚ)}
    (h : ∃ s', step (body size cfg) (fuel + 1) s = .ok s' ∧ GInv s' c')
    (ht : c'.threads = runThread a'.run :: srcThreads st0 a'.src) (hp : c'.pend = a'.pend.map (·, 0))
    (hs : ∀ r, c'.stores r = if r = 0 then some { getQ := a'.run.getQ, items := a'.items } else none)
    (hl : c'.loose = []) (hcur : c'.cur = none) (hr : a'.run.OK)
    (hc : Cells c'.reg.cells a'.cts a'.sent a'.level a'.upd) (hnow : c'.reg.now = q.time)
    (hh : histOf c'.reg.trace = histOf s.trace ++ new) : StepsTo size cfg fuel s q a' new := by
  obtain ⟨s', hstep, hg⟩ := h
  refine ⟨s', hstep, .of_ginv hg ht hp hs hl hcur hr hc, ?_, ?_⟩
  · rw [hg.reg] at hnow; exact hnow
  · rw [hg.reg] at hh; exact hh

/-- where the source goes after a `put` (or at its start): it sleeps until the next arrival (timeout event `ev`, entry number
`eid`) or its generator returns (process event 2) -/
def srcNext (now : ℚ) (eid : Nat) (ev : EvId) (next : Nat) : List ℚ → SPhase
  | [] => .ending ⟨now, NORMAL, eid, 2⟩
  | gap :: r => .wait next r ⟨now + gap, NORMAL, eid, ev⟩

theorem pid_runThread (r : RPhase) : (runThread r).pid = 0 := by cases r <;> rfl

theorem modTh_srcThreads (sp : SPhase) (f : Thread St → Thread St) : modTh (srcThreads st0 sp) 0 f = srcThreads st0 sp := by
  cases sp <;> rfl

theorem hist_resumed (tr : Array (Obs ℚ)) (p : EvId) (r : Resume) (t : ℚ) : histOf (tr.push (.resumed p r t)) = histOf tr ++ [] :=
  histOf_push ..

/-- the `Initialize` event of the source: it sleeps until the first arrival, or returns at once -/
theorem kstep_srcInit (fuel : Nat) (hk : KInv s a) {arr : List ℚ} (hph : a.src = .init q arr) (hgap : GapsOK arr)
    (hp : popMin s.agenda = some (q, rest)) :
    StepsTo size cfg fuel s q { a with src := srcNext q.time s.eid s.events.size 0 arr } [] := by
  obtain ⟨hr, hg, hc⟩ := (kinv_iff (st0 := .bStart 0)).mp hk
  obtain ⟨run, src, pend, items, cts, level, upd, sent⟩ := a
  subst hph
  cases arr with
  | nil =>
    exact .of_ginv (st0 := .src q.time false 0 []) (hg.step_resume (body size cfg) fuel
        (List.mem_cons_of_mem _ (List.mem_singleton_self _)) rfl (fun _ _ _ hh => nomatch hh) hp
        (by heval [body, srcLoop, cfgOf, pid_runThread, srcThreads]; rfl))
      rfl rfl (fun _ => rfl) rfl rfl hr hc rfl (by simp [histOf_push, Regs.of])
  | cons gap r =>
    exact .of_ginv (st0 := .bStart 0) (hg.step_resume (body size cfg) fuel
        (List.mem_cons_of_mem _ (List.mem_singleton_self _)) rfl (fun _ _ _ hh => nomatch hh) hp
        (by heval [body, srcLoop, cfgOf, pid_runThread, srcThreads, hgap gap List.mem_cons_self]; rfl))
      rfl rfl (fun _ => rfl) rfl rfl hr hc rfl (by simp [histOf_push, Regs.of])

/-- `TokenBucket.put(packet)` (the packet is counted, the instant noted (ghost), the packet stored), then the source sleeps
until the next arrival or returns -/
theorem kstep_srcPut (fuel : Nat) (hk : KInv s a) {next : Nat} {arr : List ℚ} (hph : a.src = .wait next arr q)
    (hnext : next = a.cts.length) (hgap : GapsOK arr) (hp : popMin s.agenda = some (q, rest)) :
    StepsTo size cfg fuel s q { a with
        src := srcNext q.time (s.eid + 1) (s.events.size + 1) (next + 1) arr
        pend := a.pend ++ [⟨q.time, NORMAL, s.eid, s.events.size⟩]
        items := a.items ++ [(next : Int)]
        cts := a.cts ++ [q.time] } [.put next q.time] := by
  obtain ⟨hr, hg, hc⟩ := (kinv_iff (st0 := .bStart 0)).mp hk
  obtain ⟨run, src, pend, items, cts, level, upd, sent⟩ := a
  subst hph
  obtain rfl : next = cts.length := hnext
  have h0 : (Regs.of s).cells cRecv = .int cts.length := hc.c0
  cases arr with
  | nil =>
    exact .of_ginv (st0 := .src q.time true cts.length []) (hg.step_resume (body size cfg) fuel
        (List.mem_cons_of_mem _ (List.mem_singleton_self _)) rfl (fun _ _ _ hh => nomatch hh) hp
        (by heval [body, tbPut, loadInt, srcLoop, cfgOf, pid_runThread, srcThreads, h0, storeId]; rfl))
      rfl (by simp [Regs.of]) (fun _ => stores_upd ..) rfl rfl hr (hc.stamp q.time) rfl
      (by simp [histOf_push, Regs.of])
  | cons gap r =>
    exact .of_ginv (st0 := .bStart 0) (hg.step_resume (body size cfg) fuel
        (List.mem_cons_of_mem _ (List.mem_singleton_self _)) rfl (fun _ _ _ hh => nomatch hh) hp
        (by heval [body, tbPut, loadInt, srcLoop, cfgOf, pid_runThread, srcThreads, h0, storeId, hgap gap List.mem_cons_self]
            rfl))
      rfl (by simp [Regs.of]) (fun _ => stores_upd ..) rfl rfl hr (hc.stamp q.time) rfl
      (by simp [histOf_push, Regs.of])

/-- the process event of the finished source: nobody waits for it -/
theorem kstep_srcEnd (fuel : Nat) (hk : KInv s a) (hph : a.src = .ending q) (hp : popMin s.agenda = some (q, rest)) :
    StepsTo size cfg fuel s q { a with src := .done } [] := by
  obtain ⟨hr, hg, hc⟩ := (kinv_iff (st0 := .bStart 0)).mp hk
  obtain ⟨run, src, pend, items, cts, level, upd, sent⟩ := a
  subst hph
  exact .of_ginv (st0 := .bStart 0) (hg.step_finish (body size cfg) fuel
      (List.mem_cons_of_mem _ (List.mem_singleton_self _)) rfl hp
      (by heval [cfgOf, pid_runThread, srcThreads]; rfl))
    rfl rfl (fun _ => rfl) rfl rfl hr hc rfl (by simp [Regs.of])

/-- a `StorePut` event is processed (`_trigger_get`) and nobody can be served: nothing happens -/
theorem kstep_pendNoop (fuel : Nat) (hk : KInv s a) {l1 l2 : List (QEntry ℚ)} (hpe : a.pend = l1 ++ q :: l2)
    (hno : ¬ ((∃ g t0, a.run = .W g t0) ∧ a.items ≠ [])) (hp : popMin s.agenda = some (q, rest)) :
    StepsTo size cfg fuel s q { a with pend := l1 ++ l2 } [] := by
  obtain ⟨hr, hg, hc⟩ := (kinv_iff (st0 := .bStart 0)).mp hk
  obtain ⟨run, src, pend, items, cts, level, upd, sent⟩ := a
  have he : hpend (cfgOf ⟨run, src, pend, items, cts, level, upd, sent⟩ s (.bStart 0)) (q, 0)
      ((l1 ++ l2).map fun x => (x, 0)) =
      some { cfgOf ⟨run, src, pend, items, cts, level, upd, sent⟩ s (.bStart 0) with
        reg := { Regs.of s with now := q.time }, pend := (l1 ++ l2).map fun x => (x, 0) } := by
    rcases run.getQ_cases with hq | ⟨g, t0, rfl⟩
    · heval [cfgOf, hq]
    · obtain rfl : items = [] := by
        by_contra hc
        exact hno ⟨⟨g, t0, rfl⟩, hc⟩
      heval [cfgOf, runThread, RPhase.getQ, beq_self_eq_true]
  exact .of_ginv (st0 := .bStart 0) (hg.step_pend (body size cfg) (fuel + 1) (u := (q, 0)) (pend_perm hpe) hp he)
    rfl rfl (fun _ => rfl) rfl rfl hr hc rfl (by simp [Regs.of])

/-- a `StorePut` event is processed while `run` is blocked in `store.get()`: the head item is handed over, the `StoreGet`
event of `run` is triggered -/
theorem kstep_pendHand (fuel : Nat) (hk : KInv s a) {g : EvId} {t0 : ℚ} {i : Int} {is : List Int} {l1 l2 : List (QEntry ℚ)}
    (hpe : a.pend = l1 ++ q :: l2) (hph : a.run = .W g t0) (hit : a.items = i :: is) (hp : popMin s.agenda = some (q, rest)) :
    StepsTo size cfg fuel s q { a with pend := l1 ++ l2, run := .H g i ⟨q.time, NORMAL, s.eid, g⟩ t0, items := is } [] := by
  obtain ⟨hr, hg, hc⟩ := (kinv_iff (st0 := .bStart 0)).mp hk
  obtain ⟨run, src, pend, items, cts, level, upd, sent⟩ := a
  subst hph hit
  exact .of_ginv (st0 := .bStart 0) (hg.step_pend (body size cfg) (fuel + 1) (u := (q, 0)) (pend_perm hpe) hp
      (by heval [cfgOf, runThread, RPhase.getQ, beq_self_eq_true, pid_runThread]; rfl))
    (by heval [runThread, modTh_srcThreads]; rfl) rfl (fun _ => stores_upd ..) rfl rfl rfl hc rfl (by simp [Regs.of])

/-! ## the steps of `run` -/

/-- `run` calls `store.get()` at `now` (new event `n`, next entry number `e`): it is blocked on the empty store, or served at
once with the head of the store -/
def A.get (a : A) (n e : Nat) (now : ℚ) : A :=
  match a.items with
  | [] => { a with run := .W n now }
  | i :: is => { a with run := .H n i ⟨now, NORMAL, e, n⟩ now, items := is }

/-- the tokens for packet `id` are debited (`k` sleeps taken for it): the peak-rate spacing, or the packet is forwarded at once
and `run` takes the next one -/
def A.afterDebit (size : Int → Nat) (cfg : TbCfg ℚ) (a : A) (n e : Nat) (now : ℚ) (id : Int) (k : Nat) : A × List (HEv ℚ) :=
  match TokenBucket.peakOn cfg with
  | some pk => ({ a with run := .T2 n id ⟨now + TokenBucket.peakWait pk (pktOf size id), NORMAL, e, n⟩ k }, [])
  | none => (({ a with sent := a.sent + 1 } : A).get n e now, [.out id now])

/-- the burst of `run` resumed by the entry `q` -/
theorem hresume_run {arg : Resume} (hw : (runThread a.run).wait.resumes = some (q, arg)) :
    hresume (body size cfg) (cfgOf a s st0) (runThread a.run) =
      hend ((hbegin (cfgOf a s st0) 0 q arg).wr (Regs.of s).cells (s.trace.push (.resumed 0 arg q.time))) 0
        (body size cfg (runThread a.run).st arg) := by
  rw [hresume_eq _ _ _ hw, pid_runThread]
  rfl

variable {f : Nat → Val} {tr : Array (Obs ℚ)}

/-- `self.out.put(packet); self.packets_sent += 1` -/
theorem hrun_out (c : Cfg St) {n : Int} (h1 : f cSent = .int n) (now : ℚ) (id : Int) :
    hrun 0 (tbOut now id) (c.wr f tr) =
      hrun 0 (tbLoop now) (c.wr (upd f cSent (.int (n + 1))) (tr.push (.log 0 "out" (.int id) c.reg.now))) := by
  heval [tbOut, loadInt, h1]

/-- after the wait for tokens: `self.current_bucket = 0.0; self.update_time = env.now` -/
theorem hrun_tok (c : Cfg St) (now : ℚ) (id : Int) :
    hrun 0 (tbAfterTok size cfg now id) (c.wr f tr) =
      hrun 0 (tbAfterDebit size cfg now id 1) (c.wr (upd (upd f cLevel (TimeCell.enc (0 : ℚ))) cUpd (TimeCell.enc now)) tr) := by
  heval [tbAfterTok]
  rfl

theorem cbs_runThread (r : RPhase) : (runThread r).cbs = some [] := by cases r <;> rfl

theorem store_runThread {r : ResId} {q' : QEntry ℚ} {v : Int} (h : (runThread a.run).wait = .getH r q' v) :
    ((cfgOf a s st0).stores r).isSome = true := by
  revert h
  cases a.run <;> intro h <;> cases h
  rfl

variable {arg : Resume}

/-- a burst of `run` (in phase `ph`) that has left `sn`, `lv`, `up` in the cells and observed `new` ends in `store.get()` -/
theorem run_gets (fuel : Nat) (hk : KInv s a) {ph : RPhase} (hph : a.run = ph)
    (hw : (runThread ph).wait.resumes = some (q, arg)) (hgq : ph.getQ = []) (hp : popMin s.agenda = some (q, rest))
    {sn : Int} {lv up : ℚ} {new : List (HEv ℚ)}
    (hb : hrun 0 (body size cfg (runThread ph).st arg)
        ((hbegin (cfgOf a s (.bStart 0)) 0 q arg).wr (Regs.of s).cells (s.trace.push (.resumed 0 arg q.time))) =
      hrun 0 (tbLoop q.time) ((hbegin (cfgOf a s (.bStart 0)) 0 q arg).wr f tr))
    (hc : Cells f a.cts sn lv up) (htr : histOf tr = histOf s.trace ++ new) :
    StepsTo size cfg fuel s q (({ a with level := lv, upd := up, sent := sn } : A).get s.events.size s.eid q.time) new := by
  obtain ⟨hr, hg, -⟩ := (kinv_iff (st0 := .bStart 0)).mp hk
  obtain ⟨run, src, pend, items, cts, level, upd, sent⟩ := a
  subst hph
  cases items with
  | nil =>
    exact .of_ginv (st0 := .bStart 0) (hg.step_resume (body size cfg) fuel List.mem_cons_self hw
        (fun _ _ _ => store_runThread) hp
        (by rw [hresume_run hw, hend_congr hb]; heval [tbLoop, cfgOf, storeId, hgq, pid_runThread, cbs_runThread, modTh_srcThreads]; rfl))
      rfl rfl (fun _ => stores_upd ..) rfl rfl trivial hc rfl htr
  | cons i is =>
    exact .of_ginv (st0 := .bStart 0) (hg.step_resume (body size cfg) fuel List.mem_cons_self hw
        (fun _ _ _ => store_runThread) hp
        (by rw [hresume_run hw, hend_congr hb]; heval [tbLoop, cfgOf, storeId, hgq, pid_runThread, cbs_runThread, modTh_srcThreads]; rfl))
      rfl rfl (fun _ => stores_upd ..) rfl rfl rfl hc rfl htr

/-- a burst of `run` (in phase `ph`) that has left `sn`, `lv`, `up` in the cells and observed `new` ends in a sleep of `d`, to go
on in `st'` -/
theorem run_sleeps (fuel : Nat) (hk : KInv s a) {ph : RPhase} (hph : a.run = ph)
    (hw : (runThread ph).wait.resumes = some (q, arg)) (hgq : ph.getQ = []) (hp : popMin s.agenda = some (q, rest))
    {sn : Int} {lv up d : ℚ} {new : List (HEv ℚ)} {st' : St} {r : RPhase}
    (hb : hrun 0 (body size cfg (runThread ph).st arg)
        ((hbegin (cfgOf a s (.bStart 0)) 0 q arg).wr (Regs.of s).cells (s.trace.push (.resumed 0 arg q.time))) =
      hrun 0 (.call (.timeout d .none) fun rp => match rp with | .ev t => .yield t st' | rp => bad rp)
        ((hbegin (cfgOf a s (.bStart 0)) 0 q arg).wr f tr))
    (hc : Cells f a.cts sn lv up) (htr : histOf tr = histOf s.trace ++ new) (hd : 0 ≤ d)
    (hr : runThread r = ⟨0, st', .sleep ⟨q.time + d, NORMAL, s.eid, s.events.size⟩, some []⟩) (hok : r.OK) (hrg : r.getQ = []) :
    StepsTo size cfg fuel s q { a with run := r, level := lv, upd := up, sent := sn } new := by
  obtain ⟨-, hg, -⟩ := (kinv_iff (st0 := .bStart 0)).mp hk
  obtain ⟨run, src, pend, items, cts, level, upd, sent⟩ := a
  subst hph
  exact .of_ginv (st0 := .bStart 0) (hg.step_resume (body size cfg) fuel List.mem_cons_self hw
      (fun _ _ _ => store_runThread) hp
      (by rw [hresume_run hw, hend_congr hb]; heval [cfgOf, hd, pid_runThread, cbs_runThread, modTh_srcThreads]; rfl))
    (by rw [hr]; rfl) rfl (fun r' => by rw [hrg, ← hgq]) rfl rfl hok hc rfl htr

theorem hist_out (tr : Array (Obs ℚ)) (p : EvId) (r : Resume) (id : Int) (t : ℚ) :
    histOf ((tr.push (.resumed p r t)).push (.log 0 "out" (.int id) t)) = histOf tr ++ [.out id t] := by
  simp [histOf_push]

/-- a burst of `run` (in phase `ph`) that has debited the tokens for packet `id`, leaving `lv`, `up` in the cells -/
theorem run_debited (fuel : Nat) (hk : KInv s a) {ph : RPhase} (hph : a.run = ph)
    (hw : (runThread ph).wait.resumes = some (q, arg)) (hgq : ph.getQ = []) (hp : popMin s.agenda = some (q, rest))
    (hpk : PeakOK cfg) {lv up : ℚ} {id : Int} {n : Nat}
    (hb : hrun 0 (body size cfg (runThread ph).st arg)
        ((hbegin (cfgOf a s (.bStart 0)) 0 q arg).wr (Regs.of s).cells (s.trace.push (.resumed 0 arg q.time))) =
      hrun 0 (tbAfterDebit size cfg q.time id n)
        ((hbegin (cfgOf a s (.bStart 0)) 0 q arg).wr f (s.trace.push (.resumed 0 arg q.time))))
    (hc : Cells f a.cts a.sent lv up) :
    StepsTo size cfg fuel s q (A.afterDebit size cfg { a with level := lv, upd := up } s.events.size s.eid q.time id n).1
      (A.afterDebit size cfg { a with level := lv, upd := up } s.events.size s.eid q.time id n).2 := by
  unfold A.afterDebit
  unfold tbAfterDebit at hb
  cases hpeak : TokenBucket.peakOn cfg with
  | some pk =>
    rw [hpeak] at hb
    exact run_sleeps fuel hk hph hw hgq hp hb hc (hist_resumed ..) (peakWait_nonneg (size := size) (hpk pk hpeak) id) rfl rfl rfl
  | none =>
    rw [hpeak] at hb
    exact run_gets fuel hk hph hw hgq hp (hb.trans (hrun_out _ hc.c1 _ _)) (hc.sent _) (hist_out ..)

section serve
variable {id : Int} {t0 : ℚ} (c : Cfg St) (hc : Cells f a.cts a.sent a.level a.upd) (hid : id.toNat < a.cts.length)
  (hnow : max t0 (a.ctOf id) = q.time)
include hc hid hnow

/-- the refill, then not enough tokens: `yield env.timeout((packet.size - self.current_bucket) * 8.0 / self.rate)` -/
theorem hrun_serve_tok (hlt : refillA cfg a q.time < (size id : ℚ)) :
    hrun 0 (tbServe size cfg t0 id) (c.wr f tr) =
      hrun 0 (.call (.timeout (TokenBucket.tokenWait cfg (refillA cfg a q.time) (pktOf size id)) .none) fun rp => match rp with
          | .ev t => .yield t (.bTok id (q.time + TokenBucket.tokenWait cfg (refillA cfg a q.time) (pktOf size id)))
          | rp => bad rp)
        (c.wr (upd (upd f cLevel (TimeCell.enc (refillA cfg a q.time))) cUpd (TimeCell.enc q.time)) tr) := by
  have hcell : f (cStamp id) = TimeCell.enc (a.ctOf id) := hc.ct _ hid
  have hlv : Num.pymin cfg.bucket (a.level + cfg.rate * (q.time - a.upd) / ((8 : ℕ) : ℚ)) = refillA cfg a q.time := by
    rw [refillA, Num.ofNat_rat]
  heval [tbServe, loadTime, hcell, hc.c2, hc.c3, dec_enc, Num.pymax_eq, hnow, hlv, Num.ofNat_rat, hlt]
  rfl

/-- the refill, then enough tokens: they are debited -/
theorem hrun_serve_debit (hlt : ¬ refillA cfg a q.time < (size id : ℚ)) :
    hrun 0 (tbServe size cfg t0 id) (c.wr f tr) =
      hrun 0 (tbAfterDebit size cfg q.time id 0) (c.wr
        (upd (upd (upd (upd f cLevel (TimeCell.enc (refillA cfg a q.time))) cUpd (TimeCell.enc q.time))
          cLevel (TimeCell.enc (refillA cfg a q.time - (size id : ℚ)))) cUpd (TimeCell.enc q.time)) tr) := by
  have hcell : f (cStamp id) = TimeCell.enc (a.ctOf id) := hc.ct _ hid
  have hlv : Num.pymin cfg.bucket (a.level + cfg.rate * (q.time - a.upd) / ((8 : ℕ) : ℚ)) = refillA cfg a q.time := by
    rw [refillA, Num.ofNat_rat]
  heval [tbServe, loadTime, hcell, hc.c2, hc.c3, dec_enc, Num.pymax_eq, hnow, hlv, Num.ofNat_rat, hlt]

end serve

end TBK
