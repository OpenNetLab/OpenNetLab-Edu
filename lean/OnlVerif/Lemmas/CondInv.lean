import OnlVerif.Lemmas.CondFrame
/-!
# The counting invariant: structure lemmas and the frame rule

* `Shape`, `Under`, `Gone`: same condition structure in two states.
* `Touch c s s'`: what condition code does to the event records (only callback lists, `defused` and the record of `c`).
* `Counted rem e0 s c`: the clauses of `CInv` about count and outcome of the one condition `c`; `Counted.congr` says what
  they read, so that each transformer carries them for every condition it does not touch by one application.
* `CInv.frame`: the frame `Fr` keeps the invariant.
-/

namespace Cond
variable {σ : Type}

open Once (lt_of_isCond isCond_congr lt_of_cbs_some ev_default)

structure Shape (s s' : KState ℚ σ) : Prop where
  ops_eq : ∀ c, ops s' c = ops s c
  isCond_eq : ∀ c, isCond s' c = isCond s c
  isAll_eq : ∀ c, isAll s' c = isAll s c

theorem Shape.refl (s : KState ℚ σ) : Shape s s := ⟨fun _ => rfl, fun _ => rfl, fun _ => rfl⟩

theorem Shape.symm {s s' : KState ℚ σ} (h : Shape s s') : Shape s' s :=
  ⟨fun c => (h.ops_eq c).symm, fun c => (h.isCond_eq c).symm, fun c => (h.isAll_eq c).symm⟩

theorem Shape.trans {s1 s2 s3 : KState ℚ σ} (h12 : Shape s1 s2) (h23 : Shape s2 s3) : Shape s1 s3 :=
  ⟨fun c => (h23.ops_eq c).trans (h12.ops_eq c), fun c => (h23.isCond_eq c).trans (h12.isCond_eq c),
   fun c => (h23.isAll_eq c).trans (h12.isAll_eq c)⟩

theorem Shape.of_kind {s s' : KState ℚ σ} (h : ∀ c, (s'.ev c).kind = (s.ev c).kind) : Shape s s' :=
  ⟨fun c => ops_congr (h c), fun c => isCond_congr (h c), fun c => isAll_congr (h c)⟩

theorem isAll_of_not_cond {s : KState ℚ σ} {c : EvId} (h : isCond s c = false) : isAll s c = true := by
  unfold isAll condOps
  unfold isCond at h
  split
  · rename_i hk; rw [hk] at h; cases h
  · rfl

theorem isCond_default {s : KState ℚ σ} {c : EvId} (h : ¬ c < s.events.size) : isCond s c = false := by
  unfold isCond; rw [ev_default s c h]; rfl

theorem Shape.of_not_cond {s s' : KState ℚ σ} (hold : ∀ c, c < s.events.size → (s'.ev c).kind = (s.ev c).kind)
    (hnew : ∀ c, ¬ c < s.events.size → isCond s' c = false) : Shape s s' := by
  refine ⟨fun c => ?_, fun c => ?_, fun c => ?_⟩
  · by_cases hc : c < s.events.size
    · exact ops_congr (hold c hc)
    · rw [ops_nil_of_not_cond (hnew c hc), ops_nil_of_not_cond (isCond_default hc)]
  · by_cases hc : c < s.events.size
    · exact isCond_congr (hold c hc)
    · rw [hnew c hc, isCond_default hc]
  · by_cases hc : c < s.events.size
    · exact isAll_congr (hold c hc)
    · rw [isAll_of_not_cond (hnew c hc), isAll_of_not_cond (isCond_default hc)]

theorem Fr.shape {s s' : KState ℚ σ} (h : Fr s s') : Shape s s' := by
  refine Shape.of_not_cond h.kind ?_
  intro c hc
  by_cases h2 : c < s'.events.size
  · exact (h.fresh c (Nat.le_of_not_lt hc) h2).1
  · exact isCond_default h2

theorem Under.shape {s s' : KState ℚ σ} (h : Shape s s') {d c : EvId} (hu : Under s d c) : Under s' d c := by
  induction hu with
  | self => exact Under.self _
  | nest he _ ih => exact Under.nest (by rw [h.ops_eq]; exact he) ih

theorem Under.le {s : KState ℚ σ} (hold : ∀ c e, e ∈ ops s c → e < c) {d c : EvId} (hu : Under s d c) : d ≤ c := by
  induction hu with
  | self => exact Nat.le_refl _
  | nest he _ ih => exact Nat.le_trans ih (Nat.le_of_lt (hold _ _ he))

theorem Under.trans {s : KState ℚ σ} {a b c : EvId} (h1 : Under s a b) (h2 : Under s b c) : Under s a c := by
  induction h2 with
  | self => exact h1
  | nest he _ ih => exact Under.nest he ih

theorem Under.cases {s : KState ℚ σ} {d c : EvId} (h : Under s d c) : d = c ∨ ∃ e ∈ ops s c, Under s d e := by
  cases h with
  | self => exact Or.inl rfl
  | nest he hu => exact Or.inr ⟨_, he, hu⟩

theorem Gone.transfer {rem rem' : List Cb} {s s' : KState ℚ σ} (hs : Shape s s')
    (hb : ∀ a, Built rem s a → Built rem' s' a) {d : EvId} (h : Gone rem s d) : Gone rem' s' d := by
  obtain ⟨a, hu, ha⟩ := h
  exact ⟨a, hu.shape hs, hb a ha⟩

theorem Gone.of_under {rem : List Cb} {s : KState ℚ σ} {d c : EvId} (hu : Under s d c) (h : Gone rem s c) : Gone rem s d := by
  obtain ⟨a, hu', ha⟩ := h
  exact ⟨a, hu.trans hu', ha⟩

theorem processed_congr {s s' : KState ℚ σ} {e : EvId} (h : (s'.ev e).cbs = none ↔ (s.ev e).cbs = none) :
    s'.processed e = s.processed e := by
  unfold KState.processed
  cases h1 : (s.ev e).cbs with
  | none => rw [h.mpr h1]
  | some L =>
    cases h2 : (s'.ev e).cbs with
    | none => rw [h.mp h2] at h1; cases h1
    | some L' => rfl

theorem nProcessed_congr {s s' : KState ℚ σ} {c : EvId} (ho : ops s' c = ops s c)
    (hp : ∀ e ∈ ops s c, s'.processed e = s.processed e) : nProcessed s' c = nProcessed s c := by
  unfold nProcessed
  rw [ho]
  exact List.countP_congr (fun e he => by rw [hp e he])

theorem processed_iff {s : KState ℚ σ} {e : EvId} : s.processed e = true ↔ (s.ev e).cbs = none := by
  unfold KState.processed
  cases (s.ev e).cbs <;> simp

theorem Fr.built_iff {s s' : KState ℚ σ} (h : Fr s s') (rem : List Cb) (a : EvId) : Built rem s' a ↔ Built rem s a := by
  unfold Built
  rw [h.shape.isCond_eq a]
  constructor
  · rintro ⟨h1, h2, h3⟩; exact ⟨h1, (h.cbsNone a (lt_of_isCond s a h1)).mp h2, h3⟩
  · rintro ⟨h1, h2, h3⟩; exact ⟨h1, (h.cbsNone a (lt_of_isCond s a h1)).mpr h2, h3⟩

theorem Fr.gone_iff {s s' : KState ℚ σ} (h : Fr s s') (rem : List Cb) (d : EvId) : Gone rem s' d ↔ Gone rem s d :=
  ⟨Gone.transfer h.shape.symm (fun a ha => (h.built_iff rem a).mp ha),
   Gone.transfer h.shape (fun a ha => (h.built_iff rem a).mpr ha)⟩

theorem CInv.op_lt {rem : List Cb} {e0 : EvId} {s : KState ℚ σ} (hc : CInv rem e0 s) {c e : EvId} (he : e ∈ ops s c) :
    e < s.events.size :=
  Nat.lt_trans (hc.older c e he) (lt_of_isCond s c (isCond_of_mem_ops he))

structure Touch (c : EvId) (s s' : KState ℚ σ) : Prop where
  size : s'.events.size = s.events.size
  kind : ∀ y, (s'.ev y).kind = (s.ev y).kind
  out : ∀ y, y ≠ c → (s'.ev y).out = (s.ev y).out
  count : ∀ y, y ≠ c → (s'.ev y).count = (s.ev y).count
  defused : ∀ y, (s.ev y).defused = true → (s'.ev y).defused = true

theorem Touch.refl (c : EvId) (s : KState ℚ σ) : Touch c s s := ⟨rfl, fun _ => rfl, fun _ _ => rfl, fun _ _ => rfl, fun _ h => h⟩

theorem Touch.trans {c : EvId} {s1 s2 s3 : KState ℚ σ} (h12 : Touch c s1 s2) (h23 : Touch c s2 s3) : Touch c s1 s3 :=
  ⟨h23.size.trans h12.size, fun y => (h23.kind y).trans (h12.kind y), fun y hy => (h23.out y hy).trans (h12.out y hy),
   fun y hy => (h23.count y hy).trans (h12.count y hy), fun y h => h23.defused y (h12.defused y h)⟩

theorem Touch.setEv (c : EvId) (s : KState ℚ σ) (e : EvId) (x : EvRec ℚ) (hk : x.kind = (s.ev e).kind)
    (ho : e ≠ c → x.out = (s.ev e).out) (hn : e ≠ c → x.count = (s.ev e).count)
    (hd : (s.ev e).defused = true → x.defused = true) : Touch c s (s.setEv e x) := by
  refine ⟨Once.size_setEv s e x, fun y => Once.kind_setEv s e y x hk, ?_, ?_, ?_⟩
  · intro y hy; rw [KState.ev_setEv]; split
    · rename_i h; rw [h.1] at hy ⊢; exact ho hy
    · rfl
  · intro y hy; rw [KState.ev_setEv]; split
    · rename_i h; rw [h.1] at hy ⊢; exact hn hy
    · rfl
  · intro y hy; rw [KState.ev_setEv]; split
    · rename_i h; rw [h.1] at hy; exact hd hy
    · exact hy

theorem Touch.addCb (c : EvId) (s : KState ℚ σ) (e : EvId) (cb : Cb) : Touch c s (s.addCb e cb) := by
  unfold KState.addCb
  exact Touch.setEv c s e _ rfl (fun _ => rfl) (fun _ => rfl) (fun h => h)

theorem Touch.bumpCount (c : EvId) (s : KState ℚ σ) : Touch c s (s.bumpCount c) := by
  unfold KState.bumpCount
  exact Touch.setEv c s c _ rfl (fun _ => rfl) (fun h => absurd rfl h) (fun h => h)

theorem Touch.defuse (c : EvId) (s : KState ℚ σ) (e : EvId) : Touch c s (s.defuse e) := by
  unfold KState.defuse
  exact Touch.setEv c s e _ rfl (fun _ => rfl) (fun _ => rfl) (fun _ => rfl)

theorem Touch.setOut (c : EvId) (s : KState ℚ σ) (o : Outcome) : Touch c s (s.setOut c o) := by
  unfold KState.setOut
  exact Touch.setEv c s c _ rfl (fun h => absurd rfl h) (fun _ => rfl) (fun h => h)

theorem Touch.trigger (c : EvId) (s : KState ℚ σ) (o : Outcome) : Touch c s (s.trigger c o) :=
  have T := Touch.setOut c s o
  ⟨T.size, T.kind, T.out, T.count, T.defused⟩

structure Counted (rem : List Cb) (e0 : EvId) (s : KState ℚ σ) (c : EvId) : Prop where
  cnt : (s.ev c).out = none → ¬ Gone rem s c → (s.ev c).count + rem.count (.check c) = nProcessed s c
  nofail : (s.ev c).out = none → ¬ Gone rem s c →
    ∀ e ∈ ops s c, s.processed e = true → ∀ x, (s.ev e).out = some (.fail x) → e = e0 ∧ Cb.check c ∈ rem
  unmet : (s.ev c).out = none → evaluate (isAll s c) (ops s c).length (s.ev c).count = false
  met : ∀ v, (s.ev c).out = some (.ok v) → evaluate (isAll s c) (ops s c).length (nProcessed s c) = true
  failsrc : ∀ x, (s.ev c).out = some (.fail x) →
    ∃ e ∈ ops s c, s.processed e = true ∧ (s.ev e).out = some (.fail x) ∧ (s.ev e).defused = true

theorem CInv.counted {rem : List Cb} {e0 : EvId} {s : KState ℚ σ} (hc : CInv rem e0 s) {c : EvId}
    (h : isCond s c = true) : Counted rem e0 s c :=
  ⟨hc.cnt c h, hc.nofail c h, hc.unmet c h, fun v => hc.met c v h, fun x => hc.failsrc c x h⟩

theorem CInv.of_counted {rem : List Cb} {e0 : EvId} {s : KState ℚ σ}
    (older : ∀ c e, e ∈ ops s c → e < c)
    (chk_att : ∀ c, ¬ Gone rem s c → ∀ e L, (s.ev e).cbs = some L → L.count (.check c) = (ops s c).count e)
    (chk_gone : ∀ c, Gone rem s c → ∀ e L, (s.ev e).cbs = some L → Cb.check c ∉ L)
    (rem_att : ∀ c, Cb.check c ∈ rem → e0 ∈ ops s c)
    (rem_gone : ∀ c, Gone rem s c → Cb.check c ∉ rem)
    (bld_own : ∀ e L c, (s.ev e).cbs = some L → Cb.build c ∈ L → e = c ∧ ops s c ≠ [])
    (bld_cnt : ∀ c L, (s.ev c).cbs = some L → ops s c ≠ [] → L.count (.build c) = 1)
    (rem_bld_own : ∀ c, Cb.build c ∈ rem → c = e0 ∧ ops s c ≠ [])
    (rem_bld_cnt : ∀ c, rem.count (.build c) ≤ 1)
    (e0_done : rem ≠ [] → e0 < s.events.size ∧ (s.ev e0).cbs = none)
    (h : ∀ c, isCond s c = true → Counted rem e0 s c) : CInv rem e0 s :=
  ⟨older, chk_att, chk_gone, rem_att, rem_gone, bld_own, bld_cnt, rem_bld_own, rem_bld_cnt, e0_done,
   fun c hc => (h c hc).cnt, fun c hc => (h c hc).nofail, fun c hc => (h c hc).unmet, fun c v hc => (h c hc).met v,
   fun c x hc => (h c hc).failsrc x⟩

theorem Counted.congr {rem rem' : List Cb} {e0 : EvId} {s s' : KState ℚ σ} {c : EvId} (h : Counted rem e0 s c)
    (hk : (s'.ev c).kind = (s.ev c).kind) (ho : (s'.ev c).out = (s.ev c).out) (hn : (s'.ev c).count = (s.ev c).count)
    (hg : Gone rem s c → Gone rem' s' c) (hr : rem'.count (.check c) = rem.count (.check c))
    (hp : ∀ e ∈ ops s c, s'.processed e = s.processed e)
    (hf : ∀ e ∈ ops s c, s.processed e = true → ∀ x, (s'.ev e).out = some (.fail x) ↔ (s.ev e).out = some (.fail x))
    (hd : ∀ e ∈ ops s c, (s.ev e).defused = true → (s'.ev e).defused = true) : Counted rem' e0 s' c := by
  have hnP : nProcessed s' c = nProcessed s c := nProcessed_congr (ops_congr hk) hp
  obtain ⟨cnt, nofail, unmet, met, failsrc⟩ := h
  rw [← ho] at cnt nofail unmet met failsrc
  refine ⟨?_, ?_, ?_, ?_, ?_⟩
  · intro h1 h2; rw [hn, hr, hnP]; exact cnt h1 (fun hh => h2 (hg hh))
  · intro h1 h2 e he hpe x hx
    rw [ops_congr hk] at he
    rw [hp e he] at hpe
    obtain ⟨a, b⟩ := nofail h1 (fun hh => h2 (hg hh)) e he hpe x ((hf e he hpe x).mp hx)
    exact ⟨a, List.count_pos_iff.mp (by rw [hr]; exact List.count_pos_iff.mpr b)⟩
  · intro h1; rw [isAll_congr hk, ops_congr hk, hn]; exact unmet h1
  · intro v h1; rw [isAll_congr hk, ops_congr hk, hnP]; exact met v h1
  · intro x h1
    obtain ⟨e, he, hpe, hx, hde⟩ := failsrc x h1
    exact ⟨e, by rw [ops_congr hk]; exact he, by rw [hp e he]; exact hpe, (hf e he hpe x).mpr hx, hd e he hde⟩

/-! by the outcome of `c`, one clause is left -/

theorem Counted.of_pending {rem : List Cb} {e0 : EvId} {s : KState ℚ σ} {c : EvId} (ho : (s.ev c).out = none)
    (cnt : ¬ Gone rem s c → (s.ev c).count + rem.count (.check c) = nProcessed s c)
    (nofail : ¬ Gone rem s c →
      ∀ e ∈ ops s c, s.processed e = true → ∀ x, (s.ev e).out = some (.fail x) → e = e0 ∧ Cb.check c ∈ rem)
    (unmet : evaluate (isAll s c) (ops s c).length (s.ev c).count = false) : Counted rem e0 s c :=
  ⟨fun _ => cnt, fun _ => nofail, fun _ => unmet, fun _ h => (by rw [ho] at h; cases h), fun _ h => (by rw [ho] at h; cases h)⟩

theorem Counted.of_ok {rem : List Cb} {e0 : EvId} {s : KState ℚ σ} {c : EvId} {v : Val} (ho : (s.ev c).out = some (.ok v))
    (met : evaluate (isAll s c) (ops s c).length (nProcessed s c) = true) : Counted rem e0 s c :=
  ⟨fun h => (by rw [ho] at h; cases h), fun h => (by rw [ho] at h; cases h), fun h => (by rw [ho] at h; cases h), fun _ _ => met,
   fun _ h => (by rw [ho] at h; cases h)⟩

theorem Counted.of_fail {rem : List Cb} {e0 : EvId} {s : KState ℚ σ} {c : EvId} {x : Exc} (ho : (s.ev c).out = some (.fail x))
    (failsrc : ∃ e ∈ ops s c, s.processed e = true ∧ (s.ev e).out = some (.fail x) ∧ (s.ev e).defused = true) :
    Counted rem e0 s c :=
  ⟨fun h => (by rw [ho] at h; cases h), fun h => (by rw [ho] at h; cases h), fun h => (by rw [ho] at h; cases h),
   fun _ h => (by rw [ho] at h; cases h), fun y h => (by rw [ho] at h; cases h; exact failsrc)⟩

/-- **the ten clauses on callback lists carry over** when the lists only gain plain callbacks and lose `_check`s of
conditions in `P`, which thereby become detached, and the pending list only shrinks -/
theorem CInv.lists {rem rem' : List Cb} {e0 : EvId} {s s' : KState ℚ σ} (hc : CInv rem e0 s) (P : EvId → Prop)
    (hS : Shape s s') (hsz : s.events.size ≤ s'.events.size)
    (hnone : ∀ y, y < s.events.size → ((s'.ev y).cbs = none ↔ (s.ev y).cbs = none))
    (hle : ∀ y L L', (s.ev y).cbs = some L → (s'.ev y).cbs = some L' → ∀ cb, plainCb cb = false → L'.count cb ≤ L.count cb)
    (hsame : ∀ y L L', (s.ev y).cbs = some L → (s'.ev y).cbs = some L' → ∀ cb, plainCb cb = false →
      (∀ d, cb = .check d → ¬ P d) → L'.count cb = L.count cb)
    (hfresh : ∀ y L', ¬ y < s.events.size → (s'.ev y).cbs = some L' → ∀ cb ∈ L', plainCb cb = true)
    (hrem : rem'.Sublist rem) (hgone : ∀ d, Gone rem' s' d ↔ (Gone rem s d ∨ P d))
    (hP : ∀ d, P d → Cb.check d ∉ rem' ∧ ∀ y L', (s'.ev y).cbs = some L' → Cb.check d ∉ L')
    (h : ∀ c, isCond s' c = true → Counted rem' e0 s' c) : CInv rem' e0 s' := by
  have hlist : ∀ y L', (s'.ev y).cbs = some L' →
      (∃ L, (s.ev y).cbs = some L) ∨ (¬ y < s.events.size ∧ ∀ cb ∈ L', plainCb cb = true) := by
    intro y L' hL'
    by_cases hy : y < s.events.size
    · cases hL : (s.ev y).cbs with
      | none => rw [(hnone y hy).mpr hL] at hL'; cases hL'
      | some L => exact Or.inl ⟨L, rfl⟩
    · exact Or.inr ⟨hy, hfresh y L' hy hL'⟩
  refine CInv.of_counted ?_ ?_ ?_ ?_ ?_ ?_ ?_ ?_ ?_ ?_ h
  · intro c e he; rw [hS.ops_eq] at he; exact hc.older c e he
  · intro c hg y L' hL'
    have hg1 : ¬ Gone rem s c := fun hh => hg ((hgone c).mpr (Or.inl hh))
    have hg2 : ¬ P c := fun hh => hg ((hgone c).mpr (Or.inr hh))
    rw [hS.ops_eq]
    rcases hlist y L' hL' with ⟨L, hL⟩ | ⟨hy, hp⟩
    · rw [hsame y L L' hL hL' _ rfl (fun d hd => by cases hd; exact hg2)]; exact hc.chk_att c hg1 y L hL
    · rw [List.count_eq_zero.mpr (fun hm => by cases hp _ hm), List.count_eq_zero.mpr (fun hm => hy (hc.op_lt hm))]
  · intro c hg y L' hL'
    rcases (hgone c).mp hg with hgs | hp
    · rcases hlist y L' hL' with ⟨L, hL⟩ | ⟨_, hp⟩
      · apply not_mem_of_count_zero
        have := hle y L L' hL hL' (.check c) rfl
        rw [List.count_eq_zero.mpr (hc.chk_gone c hgs y L hL)] at this
        omega
      · intro hm; cases hp _ hm
    · exact (hP c hp).2 y L' hL'
  · intro c hm; rw [hS.ops_eq]; exact hc.rem_att c (hrem.subset hm)
  · intro c hg hm
    rcases (hgone c).mp hg with hgs | hp
    · exact hc.rem_gone c hgs (hrem.subset hm)
    · exact (hP c hp).1 hm
  · intro y L' c hL' hm
    rw [hS.ops_eq]
    rcases hlist y L' hL' with ⟨L, hL⟩ | ⟨_, hp⟩
    · refine hc.bld_own y L c hL (List.count_pos_iff.mp ?_)
      rw [← hsame y L L' hL hL' (.build c) rfl (fun d hd => by cases hd)]
      exact List.count_pos_iff.mpr hm
    · cases hp _ hm
  · intro c L' hL' hne
    rw [hS.ops_eq] at hne
    rcases hlist c L' hL' with ⟨L, hL⟩ | ⟨hy, _⟩
    · rw [hsame c L L' hL hL' (.build c) rfl (fun d hd => by cases hd)]; exact hc.bld_cnt c L hL hne
    · exact absurd (lt_of_isCond s c (isCond_of_ops_ne_nil hne)) hy
  · intro c hm; rw [hS.ops_eq]; exact hc.rem_bld_own c (hrem.subset hm)
  · intro c; exact Nat.le_trans (hrem.count_le _) (hc.rem_bld_cnt c)
  · intro hne
    obtain ⟨h1, h2⟩ := hc.e0_done (fun h0 => hne (List.sublist_nil.mp (h0 ▸ hrem)))
    exact ⟨Nat.lt_of_lt_of_le h1 hsz, (hnone e0 h1).mpr h2⟩

theorem CInv.frame {rem : List Cb} {e0 : EvId} {s s' : KState ℚ σ} (hc : CInv rem e0 s) (h : Fr s s')
    (hdt : ∀ e, e < s.events.size → (s.ev e).cbs = none → (s.ev e).out ≠ none) : CInv rem e0 s' := by
  refine hc.lists (fun _ => False) h.shape h.size_le h.cbsNone
    (fun y L L' h1 h2 cb hp => Nat.le_of_eq (h.cbsCount y L L' (lt_of_cbs_some s y L h1) h1 h2 cb hp))
    (fun y L L' h1 h2 cb hp _ => h.cbsCount y L L' (lt_of_cbs_some s y L h1) h1 h2 cb hp) (fun y L' hy hL' => ?_)
    (List.Sublist.refl _) (fun d => by rw [h.gone_iff, or_false]) (fun _ hf => hf.elim) (fun c hcond => ?_)
  · obtain ⟨_, L, hL, hp⟩ := h.fresh y (Nat.le_of_not_lt hy) (lt_of_cbs_some s' y L' hL')
    rw [hL] at hL'; cases hL'; exact hp
  · rw [h.shape.isCond_eq] at hcond
    have hlt := lt_of_isCond s c hcond
    refine (hc.counted hcond).congr (h.kind c hlt) (h.outC c hcond) (h.count c hlt) (h.gone_iff rem c).mpr rfl
      (fun e he => processed_congr (h.cbsNone e (hc.op_lt he))) ?_ (fun e he => h.defused e (hc.op_lt he))
    -- a processed operand has been triggered, and outcomes that are set stay
    intro e he hp x
    cases ho : (s.ev e).out with
    | none => exact absurd ho (hdt e (hc.op_lt he) (processed_iff.mp hp))
    | some o => rw [h.out e o ho]

theorem Mono.of_keep {rem : List Cb} {s s' : KState ℚ σ}
    (h : ∀ x, (s.ev x).out ≠ none → (s'.ev x).out = (s.ev x).out ∧ (s'.ev x).count = (s.ev x).count)
    (hf : ∀ c, isCond s c = true → (s.ev c).out = none → Gone rem s c → (s'.ev c).out = none) : Mono rem s s' :=
  ⟨fun x o ho => Or.inl (by rw [(h x (by rw [ho]; simp)).1]; exact ho), fun x ho => by rw [(h x ho).1]; exact ho,
   fun x ho => (h x ho).2, hf⟩

theorem Fr.mono {s s' : KState ℚ σ} (h : Fr s s') (rem : List Cb) : Mono rem s s' := by
  refine Mono.of_keep (fun x ho => ⟨?_, h.count x (Once.lt_of_out s x ho)⟩) (fun c hc ho _ => by rw [h.outC c hc]; exact ho)
  cases hoo : (s.ev x).out with
  | none => exact absurd hoo ho
  | some o => exact h.out x o hoo

theorem Mono.refl (rem : List Cb) (s : KState ℚ σ) : Mono rem s s := (Fr.refl s).mono rem

theorem Mono.trans {rem rem' : List Cb} {s1 s2 s3 : KState ℚ σ} (h12 : Mono rem s1 s2) (h23 : Mono rem' s2 s3)
    (hsub : ∀ c, Cb.build c ∈ rem' → Cb.build c ∈ rem)
    (hcond : ∀ c, isCond s1 c = true → isCond s2 c = true)
    (hgone : ∀ c, Gone rem s1 c → Gone rem' s2 c) : Mono rem s1 s3 := by
  refine ⟨?_, ?_, ?_, ?_⟩
  · intro e o ho
    rcases h12.out e o ho with h | ⟨h, v, w, hv, hw⟩
    · rcases h23.out e o h with h' | ⟨h', hvw⟩
      · exact Or.inl h'
      · exact Or.inr ⟨hsub e h', hvw⟩
    · rcases h23.out e _ hw with h' | ⟨_, v', w', hv', hw'⟩
      · exact Or.inr ⟨h, v, w, hv, h'⟩
      · exact Or.inr ⟨h, v, w', hv, hw'⟩
  · intro e ho; exact h23.keep e (h12.keep e ho)
  · intro e ho
    rw [← h12.count e ho]
    exact h23.count e (h12.keep e ho)
  · intro c hc ho hg
    exact h23.frozen c (hcond c hc) (h12.frozen c hc ho hg) (hgone c hg)

end Cond
