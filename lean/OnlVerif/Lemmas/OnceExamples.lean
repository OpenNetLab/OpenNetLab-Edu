import OnlVerif.Lemmas.OnceRun
import OnlVerif.Lemmas.OnceDec
/-! # Concrete programs and states for the non-vacuity examples of the "exactly once" theorems -/

namespace Once

/-! ## the malformed program: `succeed()` on one's own Process object -/

/-- a process that calls `succeed()` on its own process event (event 0) and then returns -/
def badBody : Unit → Resume → Burst ℚ Unit :=
  fun _ _ => .call (.succeed 0 .none) fun _ => .ret .none

/-- process 0 has been started from outside, exactly as `env.process(...)` does it: its `Initialize` (event 1) is in
the agenda -/
def bad0 : KState ℚ Unit := (doCall ({ now := 0 } : KState ℚ Unit) 0 (.spawn ())).1

def after {σ : Type} (s : KState ℚ σ) (r : StepResult ℚ σ) : KState ℚ σ := (r.state?).getD s

/-- did the step die of the `TypeError` of a doubly scheduled event? -/
def isDoubleScheduleCrash {σ : Type} : StepResult ℚ σ → Bool
  | .crash x _ => x.ty == "TypeError" && x.args == [.str "'NoneType' object is not iterable"]
  | _ => false

/-- is the event the next step pops already processed (the situation in which `step` raises the `TypeError`)? -/
def popsProcessed {σ : Type} (s : KState ℚ σ) : Bool :=
  match popMin s.agenda with
  | some (q, _) => (s.ev q.ev).cbs.isNone
  | none => false

theorem reach_after {σ : Type} {body : σ → Resume → Burst ℚ σ} {fuel : Nat} {s0 s : KState ℚ σ}
    (hr : KReach body fuel s0 s) (h : ((step body fuel s).state?).isSome = true) :
    KReach body fuel s0 (after s (step body fuel s)) := by
  refine KReach.step hr ?_
  unfold after
  cases hs : (step body fuel s).state? with
  | none => rw [hs] at h; cases h
  | some x => rfl

theorem bad0_inv : Inv0 false bad0 :=
  (Inv0.init false 0 #[] (fun r => by simp [default])).spawn 0 ()

/-- the run of `badBody` is not safe: otherwise its third step could not pop a processed event -/
theorem bad_unsafe : ¬ SafeRun badBody 5 bad0 := by
  intro hsafe
  have r1 : KReach badBody 5 bad0 (after bad0 (step badBody 5 bad0)) := reach_after KReach.init (by decide +kernel)
  have r2 := reach_after r1 (by decide +kernel)
  have hi := Inv0.reach badBody 5 bad0_inv (fun h => by cases h) hsafe (fun h => by cases h) r2
  have hp : popsProcessed (after (after bad0 (step badBody 5 bad0)) (step badBody 5 (after bad0 (step badBody 5 bad0)))) = true := by
    decide +kernel
  unfold popsProcessed at hp
  split at hp
  · rename_i q rest hq
    have := hi.pop_unprocessed q rest hq
    cases hc : (_ : KState ℚ Unit).ev q.ev |>.cbs with
    | none => exact this hc
    | some L => rw [hc] at hp; cases hp
  · cases hp

/-! ## a well-formed program: an event created, succeeded and awaited; a child that sleeps -/

/-- state 0 = main (creates an event, succeeds it with 7, starts a child, waits for the event),
state 1 = child (sleeps one time unit), state 2 = done -/
def demoBody : Nat → Resume → Burst ℚ Nat
  | 0, _ => .call .event fun r =>
      match r with
      | .ev e => .call (.succeed e (.int 7)) fun _ => .call (.spawn 1) fun _ => .yield e 2
      | _ => .ret .none
  | 1, _ => .call (.timeout 1 .none) fun r =>
      match r with
      | .ev t => .yield t 2
      | _ => .ret .none
  | _, _ => .ret .none

theorem evMono_call {σ : Type} (s : KState ℚ σ) (self : EvId) (c : Call ℚ σ) :
    EvMono s (noteErr self (doCall s self c)) :=
  (EvMono.krel.doCall s self c).trans (EvMono.krel.noteErr self _)

/-- **`demoBody` is safe in every state**: it succeeds only the plain event it has just created, and yields only
events created in the same burst -/
theorem demo_safe : SafeProg demoBody := by
  intro p st r s
  match st with
  | 0 =>
    have h1 : (doCall s p (.event : Call ℚ Nat)).2 = .ev s.events.size := rfl
    have hs1 : noteErr p (doCall s p (.event : Call ℚ Nat)) = (s.newLabelled { kind := .plain, cbs := some [], out := none }).1 := rfl
    simp only [demoBody, SafeBurst, h1, hs1]
    generalize hs1' : (s.newLabelled { kind := .plain, cbs := some [], out := none }).1 = s1
    have hk1 : (s1.ev s.events.size).kind = .plain := by rw [← hs1', KState.ev_newLabelled, if_pos rfl]
    have hlt1 : s.events.size < s1.events.size := by rw [← hs1']; simp [KState.newLabelled]
    have m12 := evMono_call s1 p (.succeed s.events.size (.int 7))
    generalize noteErr p (doCall s1 p (.succeed s.events.size (.int 7))) = s2 at m12 ⊢
    have m23 := evMono_call s2 p (.spawn 1)
    generalize noteErr p (doCall s2 p (.spawn 1)) = s3 at m23 ⊢
    refine ⟨trivial, Or.inr ⟨hlt1, Or.inl hk1⟩, trivial, ?_, ?_⟩
    · exact Nat.lt_of_lt_of_le hlt1 (m12.trans m23).size_le
    · rw [(m12.trans m23).kind _ hlt1, hk1]; simp
  | 1 =>
    simp only [demoBody, SafeBurst, SafeCall, true_and]
    by_cases hd : (1 : ℚ) < Num.zero
    · have h1 : doCall s p (.timeout 1 .none : Call ℚ Nat) = (s, .err (valueErr "Negative delay")) := by
        simp only [doCall, hd, if_true]
      rw [h1]; trivial
    · have h1 : (doCall s p (.timeout 1 .none : Call ℚ Nat)).2 = .ev s.events.size := by
        simp only [doCall, hd, if_false]; rfl
      have m := evMono_call s p (.timeout 1 .none)
      have hs1 : (noteErr p (doCall s p (.timeout 1 .none : Call ℚ Nat))).ev s.events.size =
          { kind := .timeout, cbs := some [], out := some (.ok .none), label := s.nlabel + 1 } := by
        simp only [doCall, hd, if_false, noteErr]
        rw [KState.ev_schedule, KState.ev_newLabelled, if_pos rfl]
      have hlt : s.events.size < (noteErr p (doCall s p (.timeout 1 .none : Call ℚ Nat))).events.size := by
        simp only [doCall, hd, if_false, noteErr]
        simp [KState.schedule, KState.newLabelled]
      rw [h1]
      simp only [SafeBurst]
      exact ⟨hlt, by rw [hs1]; simp⟩
  | n + 2 => simp only [demoBody, SafeBurst]

/-! ## a program that is safe only as a run: one process waits for an event that another one succeeds later -/

/-- local state = (program counter, the shared event).  `(0,_)` main: create event `e`, start the child `(1,e)`, sleep one
time unit, continue as `(2,e)`: succeed `e` with 7 and return.  `(1,e)` child: wait for `e`, continue as `(3,e)`: return. -/
def waitBody : Nat × EvId → Resume → Burst ℚ (Nat × EvId)
  | (0, _), _ => .call .event fun r =>
      match r with
      | .ev e => .call (.spawn (1, e)) fun _ => .call (.timeout 1 .none) fun r2 =>
          match r2 with
          | .ev t => .yield t (2, e)
          | _ => .ret .none
      | _ => .ret .none
  | (2, e), _ => .call (.succeed e (.int 7)) fun _ => .ret .none
  | (1, e), _ => .yield e (3, e)
  | _, _ => .ret .none

def wait0 : KState ℚ (Nat × EvId) := (doCall ({ now := 0 } : KState ℚ (Nat × EvId)) 0 (.spawn (0, 0))).1

theorem wait0_inv : Inv0 true wait0 true :=
  (Inv0.init true 0 #[] (fun r => by simp [default]) true).spawn 0 (0, 0)

/-- the run of `waitBody` ends after 6 steps, and each of them is safe -/
theorem wait_safe : SafeRun waitBody 5 wait0 :=
  SafeUpTo.safeRun (N := 7) (by decide +kernel)

theorem wait_noHang : NoHangRun waitBody 5 wait0 :=
  NoHangUpTo.noHangRun (N := 7) (by decide +kernel)

/-- …although the program text alone is not: in another state the same `succeed` would hit a non-existent event -/
theorem wait_not_safeProg : ¬ SafeProg waitBody := by
  intro h
  have := h 0 (2, 0) .start ({ now := 0 } : KState ℚ (Nat × EvId))
  revert this
  decide +kernel

end Once
