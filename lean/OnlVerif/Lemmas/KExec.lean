import OnlVerif.Lemmas.KernelStep
import OnlVerif.Lemmas.KAccess
import OnlVerif.Lemmas.Scalar
import OnlVerif.Kernel.TimeCell
/-!
# The kernel model on explicit states: what does not depend on the program

For every program and every type `σ` of local states: `step` and `_resume` as one burst of the resumed process
(`step_eq`, `resume_eq`, `afterBurst`); each kernel call a program makes as an explicit update `{ s with … }` of a variable
state `s`, under the local facts the call reads; the agenda invariant after a step has pushed one, two or three entries;
fresh event ids; the codec of `TimeCell` at `ℚ` (`dec_enc`).  The `Store` calls are in `Lemmas/KProc.lean`, on the record of an
`HStore`; the records of a store are `srec`, `pstoreRec`.  At the head of the file: list lemmas the oracle and LTS sides share.
-/

set_option linter.unusedSimpArgs false

namespace KExec

variable {σ : Type}

theorem find?_filter_ne {α} (l : List (Nat × α)) (k k' : Nat) (h : k' ≠ k) :
    (l.filter (·.1 != k')).find? (·.1 == k) = l.find? (·.1 == k) := by
  induction l with
  | nil => rfl
  | cons x xs ih =>
    by_cases hx : x.1 = k'
    · have h2 : (x.1 == k) = false := by rw [hx]; simpa using h
      rw [List.filter_cons_of_neg (by simpa using hx), List.find?_cons_of_neg (by simpa using h2), ih]
    · rw [List.filter_cons_of_pos (by simpa using hx)]
      by_cases hk : x.1 = k
      · rw [List.find?_cons_of_pos (by simpa using hk), List.find?_cons_of_pos (by simpa using hk)]
      · rw [List.find?_cons_of_neg (by simpa using hk), List.find?_cons_of_neg (by simpa using hk), ih]

/-- what a projection of the trace (`histOf`, `outsOf`, … of a program) sees of one more observation -/
theorem filterMap_push {α β : Type} (f : α → Option β) (tr : Array α) (o : α) :
    (tr.push o).toList.filterMap f = tr.toList.filterMap f ++ (f o).toList := by
  rw [Array.toList_push, List.filterMap_append]
  cases h : f o <;> simp [List.filterMap, h]

theorem drop_cons {α : Type} {l : List α} {i : Nat} {x : α} {rest : List α} (hd : l.drop i = x :: rest) :
    l[i]? = some x ∧ l.drop (i + 1) = rest :=
  ⟨by simpa [List.head?_drop] using congrArg List.head? hd, by simpa [List.tail_drop] using congrArg List.tail hd⟩

/-- what is left when one entry is taken out was there -/
theorem mem_of_split {α : Type} {l l1 l2 : List α} {q : α} (h : l = l1 ++ q :: l2) : ∀ u ∈ l1 ++ l2, u ∈ l :=
  fun _ hu => h ▸ (List.Sublist.append_left (List.sublist_cons_self q l2) l1).subset hu

theorem getD_replicate {α : Type} [Inhabited α] (x : α) (n r : Nat) (h : r < n) :
    ((List.replicate n x).toArray).getD r default = x := by
  simp [Array.getD_eq_getD_getElem?, h]

/-- `run` is given by its two equations and not as a fold: the `orun` of each oracle is a definition of the model by
recursion, of which the equations hold by `rfl` -/
theorem optRun_append {S E : Type} {step : S → E → Option S} {run : S → List E → Option S}
    (h0 : ∀ o, run o [] = some o) (h1 : ∀ o e r, run o (e :: r) = (step o e).bind fun o' => run o' r) (o : S) (l1 l2 : List E) :
    run o (l1 ++ l2) = (run o l1).bind fun o' => run o' l2 := by
  induction l1 generalizing o with
  | nil => rw [h0]; rfl
  | cons x r ih =>
    rw [List.cons_append, h1, h1]
    cases step o x with
    | none => rfl
    | some o' => exact ih o'

@[simp] theorem dec_enc (x : ℚ) : (TimeCell.dec (TimeCell.enc x : Val) : Option ℚ) = some x := by
  show some (mkRat (if (if x.num < 0 then 1 else 0) = 1 then -((x.num.natAbs : ℕ) : ℤ) else ((x.num.natAbs : ℕ) : ℤ)) x.den) = some x
  congr 1
  by_cases h : x.num < 0
  · simp only [h, if_true]
    rw [Int.ofNat_natAbs_of_nonpos (le_of_lt h), neg_neg, Rat.mkRat_self]
  · simp only [h, if_false]
    simp only [show ((0 : ℕ) = 1) = False from by simp, if_false]
    rw [Int.natAbs_of_nonneg (not_lt.mp h), Rat.mkRat_self]

def plookup (l : List (EvId × ProcRec σ)) (p : EvId) : Option (ProcRec σ) := (l.find? (·.1 == p)).map (·.2)

theorem proc?_eq (s : KState ℚ σ) (p : EvId) : s.proc? p = plookup s.procs p := rfl

theorem plookup_set (l : List (EvId × ProcRec σ)) (p p' : EvId) (r : ProcRec σ) :
    plookup ((p', r) :: l.filter (·.1 != p')) p = if p = p' then some r else plookup l p := by
  by_cases h : p = p'
  · subst h; simp [plookup]
  · rw [if_neg h]
    unfold plookup
    rw [List.find?_cons_of_neg (by simp [Ne.symm h]), find?_filter_ne _ _ _ (Ne.symm h)]

theorem fresh_ne (n : Nat) :
    (n = n + 1) = False ∧ (n = n + 1 + 1) = False ∧ (n = n + 1 + 1 + 1) = False ∧ (n + 1 = n) = False ∧
    (n + 1 + 1 = n) = False ∧ (n + 1 + 1 + 1 = n) = False ∧ (n + 1 = n + 1 + 1) = False ∧ (n + 1 = n + 1 + 1 + 1) = False ∧
    (n + 1 + 1 = n + 1) = False ∧ (n + 1 + 1 + 1 = n + 1) = False ∧ (n + 1 + 1 = n + 1 + 1 + 1) = False ∧
    (n + 1 + 1 + 1 = n + 1 + 1) = False := by
  simp only [eq_iff_iff, iff_false]
  omega

/-- what `_resume` does once the burst has run -/
def afterBurst (body : σ → Resume → Burst ℚ σ) (p : EvId) (fuel : Nat) (pr : ProcRec σ) :
    KState ℚ σ × Term σ → KState ℚ σ
  | (s', .returned v) => finishProc s' p pr (.ok v)
  | (s', .raised x) => finishProc s' p pr (.fail x)
  | (s', .yielded e' st') =>
    match register (s'.setProc p { st := st', target := some e' }) p e' with
    | some s3 => s3
    | none => resume body p fuel e' (s'.setProc p { st := st', target := some e' })

theorem resume_eq (body : σ → Resume → Burst ℚ σ) (p : EvId) (fuel : Nat) (e : EvId) (s : KState ℚ σ)
    (pr : ProcRec σ) (hp : s.proc? p = some pr) :
    resume body p (fuel + 1) e s =
      afterBurst body p fuel pr (runBurst p (body pr.st (resumeArg s p e))
        ((deliverSt s p e).emit (.resumed p (resumeArg s p e) (deliverSt s p e).now))) := by
  simp only [resume, hp, deliver]
  generalize runBurst p (body pr.st (resumeArg s p e))
    ((deliverSt s p e).emit (.resumed p (resumeArg s p e) (deliverSt s p e).now)) = bt
  obtain ⟨s', t⟩ := bt
  cases t with
  | yielded e' st' =>
    simp only [afterBurst]
    cases register (s'.setProc p { st := st', target := some e' }) p e' <;> rfl
  | returned v => simp only [afterBurst]
  | raised x => simp only [afterBurst]

theorem step_eq (body : σ → Resume → Burst ℚ σ) (fuel : Nat) (s : KState ℚ σ) (q : QEntry ℚ)
    (rest : List (QEntry ℚ)) (cbs : List Cb) (hp : popMin s.agenda = some (q, rest))
    (hc : (s.ev q.ev).cbs = some cbs) :
    step body fuel s = closeEvent (cbs.foldl (runCb body fuel q.ev) { s := openEvent s q rest }) q.ev := by
  unfold step
  rw [hp]
  simp only [hc]

theorem push_setIfInBounds_size {α} (a : Array α) (x y : α) :
    (a.push x).setIfInBounds a.size y = a.push y := by
  apply Array.ext_getElem?
  intro i
  simp only [Array.getElem?_setIfInBounds, Array.getElem?_push, Array.size_push]
  by_cases h : a.size = i
  · subst h; simp
  · have h' : ¬ i = a.size := fun hh => h hh.symm
    simp [h, h']

theorem fresh_notin {l : List Nat} {n : Nat} (h : ∀ e ∈ l, e < n) (k : Nat) : n + k ∉ l := by
  intro hm
  have := h _ hm
  omega

theorem doCall_timeout (s : KState ℚ σ) (self : EvId) (d : ℚ) (v : Val) (hd : 0 ≤ d) :
    doCall s self (.timeout d v) =
      ({ s with
          events := s.events.push { kind := .timeout, cbs := some [], out := some (.ok v), label := s.nlabel + 1 }
          nlabel := s.nlabel + 1
          agenda := { time := s.now + d, prio := NORMAL, eid := s.eid, ev := s.events.size } :: s.agenda
          eid := s.eid + 1 }, .ev s.events.size) := by
  have : ¬ d < Num.zero := by rw [zero_eq']; exact not_lt.mpr hd
  simp [doCall, this, KState.newLabelled, KState.schedule]

/-- `Process.interrupt` on a process that is alive and is not the caller: the `Interruption` is scheduled URGENT -/
theorem doCall_interrupt_ok (s : KState ℚ σ) (self p : EvId) (cause : Val) (hk : (s.events.getD p default).kind = .proc)
    (ho : (s.events.getD p default).out = none) (ha : s.active ≠ some p) :
    doCall s self (.interrupt p cause) =
      ({ s with
          events := s.events.push { kind := .intr p, cbs := some [.intr s.events.size],
                                     out := some (.fail ⟨"Interrupt", [cause]⟩), defused := true }
          agenda := { time := s.now, prio := URGENT, eid := s.eid, ev := s.events.size } :: s.agenda
          eid := s.eid + 1 }, .unit) := by
  have ha' : (s.active == some p) = false := by simpa using ha
  simp [-Array.getD_eq_getD_getElem?, doCall, KState.ev, hk, mkInterrupt, KState.triggered, ho, ha', KState.newEv, KState.schedule, zero_eq']

/-- `Process.interrupt` on a process that has terminated is refused -/
theorem doCall_interrupt_dead (s : KState ℚ σ) (self p : EvId) (cause : Val) (hk : (s.events.getD p default).kind = .proc)
    (ho : (s.events.getD p default).out.isSome = true) :
    doCall s self (.interrupt p cause) = (s, .err (runtimeErr "terminated")) := by
  simp [-Array.getD_eq_getD_getElem?, doCall, KState.ev, hk, mkInterrupt, KState.triggered, ho]

/-- `Process.interrupt` by the process itself is refused -/
theorem doCall_interrupt_self (s : KState ℚ σ) (self p : EvId) (cause : Val) (hk : (s.events.getD p default).kind = .proc)
    (ho : (s.events.getD p default).out = none) (ha : s.active = some p) :
    doCall s self (.interrupt p cause) = (s, .err (runtimeErr "self")) := by
  simp [-Array.getD_eq_getD_getElem?, doCall, KState.ev, hk, mkInterrupt, KState.triggered, ho, ha]

/-- `env.process(generator)` -/
theorem doCall_spawn (s : KState ℚ σ) (self : EvId) (st : σ) :
    doCall s self (.spawn st) =
      ({ s with
          events := (s.events.push { kind := .proc, cbs := some [], out := none, label := s.nlabel + 1 }).push
                      { kind := .init s.events.size, cbs := some [.resume s.events.size], out := some (.ok .none) }
          nlabel := s.nlabel + 1
          procs := (s.events.size, { st := st, target := some (s.events.size + 1) }) :: s.procs.filter (·.1 != s.events.size)
          agenda := { time := s.now, prio := URGENT, eid := s.eid, ev := s.events.size + 1 } :: s.agenda
          eid := s.eid + 1 }, .ev s.events.size) := by
  simp [doCall, KState.newLabelled, KState.newEv, KState.setProc, KState.schedule, zero_eq']

/-- the record of an unbounded `Store` -/
abbrev srec (getQ : List EvId) (items : List Int) : ResRec := { kind := .store, capacity := none, getQ := getQ, items := items }

/-- the record of an unbounded `PriorityStore` -/
def pstoreRec (getQ : List EvId) (items : List Int) : ResRec :=
  { kind := .pstore, capacity := none, getQ := getQ, items := items }

theorem wf_same {s1 S : KState ℚ σ} (h : AgendaWF s1) (hn : S.now = s1.now) (ha : S.agenda = s1.agenda) (he : S.eid = s1.eid) :
    AgendaWF S := by
  refine ⟨?_, ?_, ?_⟩
  · rw [ha, hn]; exact h.due
  · rw [ha, he]; exact h.eid_lt
  · rw [ha]; exact h.distinct

theorem wf_push1 {s1 S : KState ℚ σ} (h : AgendaWF s1) (x : QEntry ℚ) (hn : S.now = s1.now) (ha : S.agenda = x :: s1.agenda)
    (he : S.eid = s1.eid + 1) (hx : x.eid = s1.eid) (ht : s1.now ≤ x.time) : AgendaWF S := by
  refine ⟨?_, ?_, ?_⟩
  · rw [ha, hn]; intro y hy
    rcases List.mem_cons.mp hy with rfl | hy
    · exact ht
    · exact h.due y hy
  · rw [ha, he]; intro y hy
    rcases List.mem_cons.mp hy with rfl | hy
    · omega
    · have := h.eid_lt y hy; omega
  · rw [ha, List.pairwise_cons]
    refine ⟨?_, h.distinct⟩
    intro y hy
    have := h.eid_lt y hy; omega

theorem wf_push2 {s1 S : KState ℚ σ} (h : AgendaWF s1) (x y : QEntry ℚ) (hn : S.now = s1.now)
    (ha : S.agenda = x :: y :: s1.agenda) (he : S.eid = s1.eid + 2) (hx : x.eid = s1.eid + 1) (hy : y.eid = s1.eid)
    (htx : s1.now ≤ x.time) (hty : s1.now ≤ y.time) : AgendaWF S := by
  have h1 : AgendaWF ({ s1 with agenda := y :: s1.agenda, eid := s1.eid + 1 } : KState ℚ σ) :=
    wf_push1 (S := { s1 with agenda := y :: s1.agenda, eid := s1.eid + 1 }) h y rfl rfl rfl hy hty
  exact wf_push1 h1 x hn ha he hx htx

theorem wf_push3 {s1 S : KState ℚ σ} (h : AgendaWF s1) (x y z : QEntry ℚ) (hn : S.now = s1.now)
    (ha : S.agenda = x :: y :: z :: s1.agenda) (he : S.eid = s1.eid + 3) (hx : x.eid = s1.eid + 2) (hy : y.eid = s1.eid + 1)
    (hz : z.eid = s1.eid) (htx : s1.now ≤ x.time) (hty : s1.now ≤ y.time) (htz : s1.now ≤ z.time) : AgendaWF S := by
  have h1 : AgendaWF ({ s1 with agenda := y :: z :: s1.agenda, eid := s1.eid + 2 } : KState ℚ σ) :=
    wf_push2 (S := { s1 with agenda := y :: z :: s1.agenda, eid := s1.eid + 2 }) h y z rfl rfl rfl hy hz hty htz
  exact wf_push1 h1 x hn ha he hx htx

end KExec
