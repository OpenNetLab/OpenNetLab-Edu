import OnlVerif.Lemmas.GenScalar
import OnlVerif.Lemmas.SchedDRRProps
import OnlVerif.Generated.Drr
/-!
# Bridge between the *generated* DRR fragments and the hand-written DRR model (`Net/Sched/DRR.lean`)

`Generated/Drr.lean` is rewritten from `onl/scheduler/drr.py` on every `./check C15`: the per-class initialisation
(`quantum = MIN_QUANTUM * weight / min_weight`), the first statement of a visit, the two guards of the inner loop, the
booking after a transmission, and `put` — all *seen from one class* (`GenDrr.drrObj d q n`: credit, quantum and
`class_count` of that class).  The model keeps the dicts as association lists.  Over exact rationals.
-/

namespace GenDrr
open MQ

/-- the `DRR` object seen from a class with credit `d`, quantum `q`, `class_count` `n` -/
def drrObj (d q : ℚ) (n qc : Int) (e1 e2 e3 : Nat) : Gen.DrrObj ℚ :=
  { deficit := d, quantum := q, class_count := n, queue_count := qc, eff_wake := e1, eff_add_packet_to_queue := e2,
    eff_store_put := e3 }

/-- `__init__`: zero credit and counts, quantum `MIN_QUANTUM·w / min weight` -/
theorem init_class_eq (cfg : DRR.Cfg ℚ) (w : Nat) (d q : ℚ) (n qc : Int) (e1 e2 e3 : Nat) :
    Gen.DRR.init_class (drrObj d q n qc e1 e2 e3) w (DRR.minWeight cfg.weights) =
      drrObj 0 (DRR.quantumW cfg w) 0 0 e1 e2 e3 := by
  unfold Gen.DRR.init_class DRR.quantumW drrObj
  simp only [Num.ofInt_rat, Num.ofNat_rat', Gen.DrrObj.mk.injEq, and_true]
  push_cast
  exact ⟨rfl, by ring⟩

theorem run_visit_eq (d q : ℚ) (n qc : Int) (e1 e2 e3 : Nat) :
    Gen.DRR.run_visit (drrObj d q n qc e1 e2 e3) n = drrObj (if 0 < n then d + q else d) q n qc e1 e2 e3 := by
  unfold Gen.DRR.run_visit drrObj
  split <;> rfl

theorem run_book_eq (d q : ℚ) (n qc : Int) (e1 e2 e3 : Nat) (p : MPkt) :
    Gen.DRR.run_book (drrObj d q n qc e1 e2 e3) p.size =
      drrObj (if n - 1 = 0 then 0 else d - p.size) q (n - 1) qc e1 e2 e3 := by
  unfold Gen.DRR.run_book drrObj
  simp only [Num.ofInt_rat, Num.ofNat_rat', Int.cast_natCast, Nat.cast_zero]
  split <;> rfl

theorem put_eq (d q : ℚ) (n qc total : Int) (e1 e2 e3 : Nat) :
    Gen.DRR.put (drrObj d q n qc e1 e2 e3) total =
      drrObj d q (n + 1) qc (e1 + if total = 0 then 1 else 0) (e2 + 1) (e3 + 1) := by
  unfold Gen.DRR.put drrObj
  split <;> rfl

end GenDrr
