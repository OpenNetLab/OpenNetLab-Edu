import OnlVerif.Lemmas.WFQKFrame
/-!
# The WFQ scheduler on the kernel model: what `put` and the bookkeeping of `run` do with the attribute cells

`update_vtime`, `reset_vtime`, `WFQ.put` up to its `store.put`, and the bookkeeping of `WFQ.run` after a transmission only
read and store attribute cells and log.  Each lemma is stated for a configuration of processes `c.wr g tr` whose cells `g` are
those of a configuration `a` (`Cells`) and an arbitrary continuation: afterwards the cells are those of the configuration the
lemma names and the trace is longer.
-/


namespace WFQK
open WFQOnK
open TimerK (lookup)
open KProc (hrun Cfg)

variable {N scale F : Nat} {flow size : Int → Nat} {cfg : WfqCfg ℚ}
variable {p : EvId} {c : Cfg St} {g : Nat → Val} {tr : Array (Obs ℚ)}

theorem CfgOK.lookup_w (hc : CfgOK F cfg) {c : Nat} (h : c < F) : Stamp.lookup cfg.weights c = some (wOf cfg c) := by
  obtain ⟨n, -, hn⟩ := hc.w c h
  simp [wOf, hn]

/-- `self.update_vtime()` with a non-zero weight sum -/
theorem hrun_updateVtime (a : A) (now : ℚ) (cont : Burst ℚ St) (hc : Cells F g a) (hcfg : CfgOK F cfg) (hws : a.ws F cfg ≠ 0) :
    hrun p (updateVtime F cfg now cont) (c.wr g tr) =
      hrun p cont (c.wr (KProc.upd g cVtime (TimeCell.enc (a.vtime + (now - a.last) / a.ws F cfg))) tr) := by
  unfold updateVtime
  rw [hrun_sumWeights a.act _ F 0 _ (fun j _ h => hc.cact j (by omega)) (fun j _ h => hcfg.lookup_w (by omega)),
    hrun_loadKey _ hc.cvt, hrun_loadKey _ hc.cl]
  have h0 : ¬ Num.eqb (wsum cfg a.act 0 F Num.zero) Num.zero = true := by
    rw [Num.eqb_iff, zero_eq']; exact hws
  rw [if_neg h0, hrun_store, zero_eq']
  rfl

/-- `self.reset_vtime()`: `vtime` and every `finish_times[c]` become 0 -/
theorem hrun_resetVtime (a : A) (cont : Burst ℚ St) (hc : Cells F g a) (hcfg : CfgOK F cfg) :
    ∃ g', Cells F g' { a with vtime := 0, fset := true, fin := fun _ => 0 } ∧
      hrun p (resetVtime cfg cont) (c.wr g tr) = hrun p cont (c.wr g' tr) := by
  obtain ⟨g', h1, h2, h3⟩ := hrun_zeroFinish (p := p) (c := c) (tr := tr) cont cfg.weights
    (KProc.upd g cVtime (TimeCell.enc (0 : ℚ)))
  refine ⟨g', ?_, by unfold resetVtime; rw [zero_eq', hrun_store, h1]⟩
  intro x hin
  by_cases hfin : ∃ k, x = .fin k
  · obtain ⟨k, rfl⟩ := hfin
    have hkv := lookup_mem _ _ _ (hcfg.lookup_w hin)
    exact h3 _ hkv
  · refine (h2 x.addr fun kv _ e => hfin ⟨kv.1, Cell.addr_inj (c' := .fin kv.1) e⟩).trans
      (((hc.set_vtime 0) x hin).trans ?_)
    cases x <;> first | rfl | exact absurd ⟨_, rfl⟩ hfin

section poly
variable {τ : Type} [Num τ] [TimeCell τ] [StampCode τ]

/-- `put` after `reset_vtime()` / `update_vtime()`, up to `self.last_time = now`; `K x` is what follows for the stamp `x` -/
def putTail (flow size : Int → Nat) (cfg : WfqCfg τ) (now : τ) (id : Int) (K : τ → Burst τ (WfqKSt τ)) : Burst τ (WfqKSt τ) :=
  loadKey (cFin (flow id)) fun f =>
  loadKey cVtime fun v =>
  .call (.log "vtime" (TimeCell.enc v)) fun _ =>
  match Stamp.lookup cfg.weights (flow id) with
  | none => .raise keyErr
  | some w =>
    if Num.eqb (cfg.rate * w) Num.zero then .raise zeroDiv else
    .call (.store (cFin (flow id)) (TimeCell.enc (WFQ.stampOf cfg f v w (size id)))) fun _ =>
    .call (.log "stamp" (TimeCell.enc (WFQ.stampOf cfg f v w (size id)))) fun _ =>
    addPacket flow size id <|
    loadIntKey (cCls (flow id)) fun n =>
    .call (.store (cCls (flow id)) (.int (n.getD 0 + 1))) fun _ =>
    .call (.store (cAct (flow id)) (.int 1)) fun _ =>
    .call (.store cLast (TimeCell.enc now)) fun _ =>
    K (WFQ.stampOf cfg f v w (size id))

/-- `self.store.put(PriorityItem((finish, now), packet))`, then `cont` -/
def putStore (N scale : Nat) (id : Int) (cont : Burst τ (WfqKSt τ)) (x : τ) : Burst τ (WfqKSt τ) :=
  .call (.sput pst (stampItem scale N x id)) fun rp => match rp with
    | .ev _ => cont
    | rp => bad rp

theorem wfqPut_eq' (F : Nat) (flow size : Int → Nat) (cfg : WfqCfg τ) (N scale : Nat) (now : τ) (id : Int)
    (cont : Burst τ (WfqKSt τ)) :
    wfqPut F flow size cfg N scale now id cont =
      .call (.log "put" (.int id)) fun _ =>
      totalPackets F fun tot =>
      (if tot = 0 then resetVtime cfg else updateVtime F cfg now) <|
      putTail flow size cfg now id (putStore N scale id cont) := rfl

end poly

def A.putTail (flow size : Int → Nat) (cfg : WfqCfg ℚ) (a : A) (now : ℚ) (id : Int) : A :=
  { a with
    cnt := upd a.cnt (flow id) (a.cnt (flow id) + 1)
    byt := upd a.byt (flow id) (a.byt (flow id) + (size id : Int))
    recv := a.recv + 1
    last := now
    fin := upd a.fin (flow id) (WFQ.stampOf cfg (a.fin (flow id)) a.vtime (wOf cfg (flow id)) (size id))
    cls := upd a.cls (flow id) (some ((a.cls (flow id)).getD 0 + 1))
    act := upd a.act (flow id) true }

theorem hrun_putTail (a : A) (now : ℚ) (id : Int) (K : ℚ → Burst ℚ St) (hc : Cells F g a) (hcfg : CfgOK F cfg)
    (hfid : flow id < F) (hfs : a.fset = true) (hrw : cfg.rate * wOf cfg (flow id) ≠ 0) :
    ∃ g', hrun p (putTail flow size cfg now id K) (c.wr g tr) =
        hrun p (K (WFQ.stampOf cfg (a.fin (flow id)) a.vtime (wOf cfg (flow id)) (size id)))
          (c.wr g' ((tr.push (.log p "vtime" (TimeCell.enc a.vtime) c.reg.now)).push (.log p "stamp"
            (TimeCell.enc (WFQ.stampOf cfg (a.fin (flow id)) a.vtime (wOf cfg (flow id)) (size id))) c.reg.now))) ∧
      Cells F g' (a.putTail flow size cfg now id) := by
  have hcf := hc.cf _ hfid
  rw [hfs, if_pos rfl] at hcf
  have h0 : ¬ Num.eqb (cfg.rate * wOf cfg (flow id)) Num.zero = true := by
    rw [Num.eqb_iff, zero_eq']; exact hrw
  -- the cells after each store, in program order
  have c1 := hc.set_fin hfs (flow id) (WFQ.stampOf cfg (a.fin (flow id)) a.vtime (wOf cfg (flow id)) (size id))
  have c2 := c1.set_recv (a.recv + 1)
  have c3 := c2.set_cnt (flow id) (a.cnt (flow id) + 1)
  have c4 := c3.set_byt (flow id) (a.byt (flow id) + (size id : Int))
  have c5 := c4.set_cls (flow id) (some ((a.cls (flow id)).getD 0 + 1))
  have c6 := (c5.set_act (flow id) true).set_last now
  refine ⟨_, ?_, c6⟩
  unfold putTail addPacket
  rw [hrun_loadKey _ hcf, hrun_loadKey _ hc.cvt, hrun_log, hcfg.lookup_w hfid]
  simp only [h0, if_false, Bool.false_eq_true]
  rw [hrun_store, hrun_log, hrun_addInt _ _ c1.c0, hrun_addInt _ _ (c2.cc _ hfid), hrun_addInt _ _ (c3.cb _ hfid),
    hrun_loadIntKey _ (c4.ck _ hfid), hrun_store, hrun_store, hrun_store]
  rfl

/-- **`WFQ.put(packet)` up to its `store.put`**: the cells afterwards are those of `a.afterPut`, the trace has the `put`,
`vtime` and `stamp` observations -/
theorem hrun_wfqPut (a : A) (now : ℚ) (id : Int) (cont : Burst ℚ St) (hc : Cells F g a) (hcfg : CfgOK F cfg)
    (hfid : flow id < F) (hfs : a.total F ≠ 0 → a.fset = true) (hws : a.total F ≠ 0 → a.ws F cfg ≠ 0)
    (hrw : cfg.rate * wOf cfg (flow id) ≠ 0) :
    ∃ g', hrun p (wfqPut F flow size cfg N scale now id cont) (c.wr g tr) =
        hrun p (putStore N scale id cont (putRec size F flow cfg a now id).2.2)
          (c.wr g' (((tr.push (.log p "put" (.int id) c.reg.now)).push
            (.log p "vtime" (TimeCell.enc (a.advV F cfg now)) c.reg.now)).push
            (.log p "stamp" (TimeCell.enc (putRec size F flow cfg a now id).2.2) c.reg.now))) ∧
      Cells F g' (a.afterPut size F flow cfg now id) := by
  -- the configuration after `reset_vtime()` / `update_vtime()`
  have key : ∃ g1, Cells F g1 { a with vtime := a.advV F cfg now, fset := true, fin := a.advFin F } ∧
      hrun p (wfqPut F flow size cfg N scale now id cont) (c.wr g tr) =
        hrun p (putTail flow size cfg now id (putStore N scale id cont))
          (c.wr g1 (tr.push (.log p "put" (.int id) c.reg.now))) := by
    rw [wfqPut_eq' F flow size cfg N scale now id cont, hrun_logInt, totalPackets,
      hrun_sumCounts a.cnt _ F 0 0 fun j _ h => hc.cc j (by omega)]
    by_cases htot : a.total F = 0
    · have htot' : 0 + sumFrom a.cnt 0 F = 0 := (Int.zero_add _).trans htot
      simp only [htot', if_true]
      obtain ⟨g1, h1, h2⟩ := hrun_resetVtime (cfg := cfg) (p := p) (c := c) (tr := tr.push (.log p "put" (.int id) c.reg.now)) a
        (putTail flow size cfg now id (putStore N scale id cont)) hc hcfg
      refine ⟨g1, h1.congr rfl rfl ?_ rfl rfl rfl rfl ?_ rfl rfl, h2⟩
      · simp [A.advV, htot]
      · simp [A.advFin, htot]
    · have htot' : ¬ 0 + sumFrom a.cnt 0 F = 0 := fun h => htot ((Int.zero_add _).symm.trans h)
      simp only [htot', if_false]
      rw [hrun_updateVtime (cfg := cfg) a now _ hc hcfg (hws htot)]
      refine ⟨_, (hc.set_vtime (a.vtime + (now - a.last) / a.ws F cfg)).congr rfl rfl ?_ rfl rfl rfl ?_ ?_ rfl rfl, rfl⟩
      · simp [A.advV, htot]
      · simp [hfs htot]
      · simp [A.advFin, htot]
  obtain ⟨g1, hc1, heq⟩ := key
  obtain ⟨g', h1, h2⟩ := hrun_putTail (flow := flow) (size := size) (cfg := cfg) (p := p) (c := c)
    (tr := tr.push (.log p "put" (.int id) c.reg.now))
    { a with vtime := a.advV F cfg now, fset := true, fin := a.advFin F } now id (putStore N scale id cont) hc1 hcfg hfid rfl hrw
  exact ⟨g', heq.trans h1, h2.congr rfl rfl rfl rfl rfl rfl rfl rfl rfl rfl⟩

section poly
variable {τ : Type} [Num τ] [TimeCell τ]

/-- `if len(self.active_set) == 0: self.reset_vtime()`, `self.last_time = env.now`, the `done` observation, the next pass -/
def doneTail (F : Nat) (cfg : WfqCfg τ) (now : τ) : Burst τ (WfqKSt τ) :=
  sumActive 0 F 0 fun m =>
  (if m = 0 then resetVtime cfg else fun k => k) <|
  .call (.store cLast (TimeCell.enc now)) fun _ =>
  loadKey cVtime fun v =>
  .call (.log "done" (TimeCell.enc v)) fun _ =>
  runLoop

/-- `self.class_count[class_id] -= 1` and what follows, for the count `n` read -/
def doneMid (F : Nat) (flow : Int → Nat) (cfg : WfqCfg τ) (now : τ) (id : Int) (n : Int) : Burst τ (WfqKSt τ) :=
  .call (.store (cCls (flow id)) (.int (n - 1))) fun _ =>
  (fun (k : Burst τ (WfqKSt τ)) =>
    if n - 1 = 0 then
      loadInt (cAct (flow id)) fun a =>
      if a = 1 then .call (.store (cAct (flow id)) (.int 0)) fun _ => k else .raise keyErr
    else k) <|
  doneTail F cfg now

theorem runDone_eq' (F : Nat) (flow : Int → Nat) (cfg : WfqCfg τ) (now : τ) (id : Int) :
    runDone F flow cfg now id =
      (updateVtime F cfg now <|
       loadIntKey (cCls (flow id)) fun n =>
       match n with
       | none => .raise keyErr
       | some n => doneMid F flow cfg now id n) := rfl

end poly

/-- the tail of the bookkeeping: `reset_vtime()` if no class is active, `last_time = now`, the `done` observation -/
theorem hrun_doneTail (a : A) (now : ℚ) (hc : Cells F g a) (hcfg : CfgOK F cfg) (hfs : a.fset = true) :
    ∃ g', hrun p (doneTail F cfg now) (c.wr g tr) =
        hrun p runLoop (c.wr g'
          (tr.push (.log p "done" (TimeCell.enc (if nAct a.act 0 F 0 = 0 then 0 else a.vtime)) c.reg.now))) ∧
      Cells F g' { a with vtime := if nAct a.act 0 F 0 = 0 then 0 else a.vtime
                          fin := if nAct a.act 0 F 0 = 0 then fun _ => 0 else a.fin
                          last := now } := by
  unfold doneTail
  rw [hrun_sumActive a.act _ F 0 0 fun j _ h => hc.cact j (by omega)]
  have tail : ∀ (g1 : Nat → Val) (a1 : A), Cells F g1 a1 →
      ∃ g', hrun p (.call (.store cLast (TimeCell.enc now)) fun _ => loadKey cVtime fun v =>
            .call (.log "done" (TimeCell.enc v)) fun _ => runLoop) (c.wr g1 tr) =
          hrun p runLoop (c.wr g' (tr.push (.log p "done" (TimeCell.enc a1.vtime) c.reg.now))) ∧
        Cells F g' { a1 with last := now } := by
    intro g1 a1 h1
    rw [hrun_store, hrun_loadKey _ (h1.set_last now).cvt, hrun_log]
    exact ⟨_, rfl, h1.set_last now⟩
  by_cases hm : nAct a.act 0 F 0 = 0
  · simp only [hm, if_true]
    obtain ⟨g1, h1, h2⟩ := hrun_resetVtime (cfg := cfg) (p := p) (c := c) (tr := tr) a
      (.call (.store cLast (TimeCell.enc now)) fun _ => loadKey cVtime fun v =>
            .call (.log "done" (TimeCell.enc v)) fun _ => runLoop) hc hcfg
    obtain ⟨g', h3, h4⟩ := tail g1 _ h1
    exact ⟨g', h2.trans h3, h4.congr rfl rfl rfl rfl rfl rfl hfs rfl rfl rfl⟩
  · simp only [hm, if_false]
    obtain ⟨g', h3, h4⟩ := tail g a hc
    exact ⟨g', h3, h4.congr rfl rfl rfl rfl rfl rfl rfl rfl rfl rfl⟩

/-- **the bookkeeping of `run` after a transmission**: the cells afterwards are those of `a.afterDone`, the trace has the
`done` observation -/
theorem hrun_runDone (a : A) (now : ℚ) (id0 : Int) (hc : Cells F g a) (hcfg : CfgOK F cfg)
    (hfid : flow id0 < F) (hfs : a.fset = true) (hws : a.ws F cfg ≠ 0) {n : Int} (hcls : a.cls (flow id0) = some n)
    (hact : n - 1 = 0 → a.act (flow id0) = true) :
    ∃ g', hrun p (runDone F flow cfg now id0) (c.wr g tr) =
        hrun p runLoop (c.wr g'
          (tr.push (.log p "done" (TimeCell.enc (a.afterDone F flow cfg now id0).vtime) c.reg.now))) ∧
      Cells F g' (a.afterDone F flow cfg now id0) := by
  have hck := hc.ck _ hfid
  rw [hcls] at hck
  -- up to the membership update
  have key : ∃ g1, Cells F g1 { a with vtime := a.vtime + (now - a.last) / a.ws F cfg,
                                        cls := upd a.cls (flow id0) (some (n - 1)), act := actAfter a (flow id0) } ∧
      hrun p (runDone F flow cfg now id0) (c.wr g tr) = hrun p (doneTail F cfg now) (c.wr g1 tr) := by
    have c1 := hc.set_vtime (a.vtime + (now - a.last) / a.ws F cfg)
    have hck1 := c1.ck _ hfid
    have c2 := c1.set_cls (flow id0) (some (n - 1))
    rw [runDone_eq', hrun_updateVtime (cfg := cfg) a now _ hc hcfg hws,
      hrun_loadIntKey (o := some n) _ (hck1.trans (congrArg clsVal hcls))]
    simp only [doneMid]
    rw [hrun_store]
    by_cases h0 : n - 1 = 0
    · have ha := c2.cact _ hfid
      simp only [hact h0, if_true] at ha
      rw [if_pos h0, hrun_loadInt (g := KProc.upd _ _ (Val.int (n - 1))) _ ha]
      simp only [if_true]
      rw [hrun_store]
      exact ⟨_, (c2.set_act (flow id0) false).congr rfl rfl rfl rfl rfl rfl rfl rfl rfl (by simp [actAfter, hcls, h0]), rfl⟩
    · rw [if_neg h0]
      exact ⟨_, c2.congr rfl rfl rfl rfl rfl rfl rfl rfl rfl (by simp [actAfter, hcls, h0]), rfl⟩
  obtain ⟨g1, hc1, heq⟩ := key
  obtain ⟨g', h1, h2⟩ := hrun_doneTail (cfg := cfg) (p := p) (c := c) (tr := tr) _ now hc1 hcfg hfs
  refine ⟨g', heq.trans ?_, h2.congr rfl rfl ?_ rfl rfl rfl rfl ?_ ?_ rfl⟩
  · rw [h1]; simp [A.afterDone]
  · simp [A.afterDone]
  · simp [A.afterDone]
  · simp [A.afterDone, hcls]

end WFQK
