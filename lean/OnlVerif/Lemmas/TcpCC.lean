import OnlVerif.Lemmas.TcpSpec
import OnlVerif.Tcp.CC
/-!
# Lemmas about the generated congestion-control definitions at `ℚ`

Closed forms of the generated CUBIC methods (whole-state equations), the `.safe` side conditions, and the
invariant `CCInv` (`cwnd ≥ MSS > 0`, `ssthresh ≥ 0`, for CUBIC `W_last_max = 0` and `beta ≠ 2`) that every
congestion-control event preserves.
-/

open TcpScalar TcpSpec

namespace TcpCC

theorem friendliness_eq (s : CCState ℚ) :
    TCPCubic.cubic_tcp_friendliness s =
      { s with W_tcp := s.W_tcp + 3 * s.beta / (2 - s.beta) * (s.ack_cnt / s.cwnd), ack_cnt := 0,
               cnt := friendlyCnt s.cnt s.cwnd (s.W_tcp + 3 * s.beta / (2 - s.beta) * (s.ack_cnt / s.cwnd)) } := by
  unfold TCPCubic.cubic_tcp_friendliness friendlyCnt
  simp only [ofNat_eq, Nat.cast_ofNat, Nat.cast_zero]
  split_ifs with h1 h2
  · rw [min_eq_right (le_of_lt h2)]
  · rw [min_eq_left (not_lt.mp h2)]
  · rfl

theorem ite_nonzero_sub (a b : ℚ) : (if a < b then Num.nonzero (b - a) else true) = true := by
  split_ifs with h
  · rw [nonzero_iff]; exact sub_ne_zero.mpr (ne_of_gt h)
  · rfl

theorem friendliness_safe (s : CCState ℚ) (hc : s.cwnd ≠ 0) (hb : s.beta ≠ 2) :
    TCPCubic.cubic_tcp_friendliness.safe s = true := by
  unfold TCPCubic.cubic_tcp_friendliness.safe
  simp only [ofNat_eq, Nat.cast_ofNat, Bool.and_eq_true, nonzero_iff, ite_nonzero_sub, and_true]
  exact ⟨fun h => hb (sub_eq_zero.mp h).symm, hc⟩

/-- the generated `cubic_update`, as one state equation, on the branch that is reachable (`W_last_max ≤ cwnd`) -/
theorem cubic_update_eq (s : CCState ℚ) (now : ℚ) (hW : ¬ s.cwnd < s.W_last_max) :
    TCPCubic.cubic_update s now =
      { s with
        epoch_start := (epochOf s.epoch_start s.origin_point s.K s.W_tcp s.ack_cnt s.cwnd now).start,
        origin_point := (epochOf s.epoch_start s.origin_point s.K s.W_tcp s.ack_cnt s.cwnd now).origin,
        K := (epochOf s.epoch_start s.origin_point s.K s.W_tcp s.ack_cnt s.cwnd now).K,
        W_tcp := if s.tcp_friendliness then
            friendlyW (epochOf s.epoch_start s.origin_point s.K s.W_tcp s.ack_cnt s.cwnd now) s.beta s.cwnd
          else (epochOf s.epoch_start s.origin_point s.K s.W_tcp s.ack_cnt s.cwnd now).W_tcp,
        ack_cnt := if s.tcp_friendliness then 0
          else (epochOf s.epoch_start s.origin_point s.K s.W_tcp s.ack_cnt s.cwnd now).ack_cnt,
        cnt := if s.tcp_friendliness then
            friendlyCnt
              (cubicCnt s.cwnd (cubicTarget (epochOf s.epoch_start s.origin_point s.K s.W_tcp s.ack_cnt s.cwnd now) s.C s.d_min now))
              s.cwnd (friendlyW (epochOf s.epoch_start s.origin_point s.K s.W_tcp s.ack_cnt s.cwnd now) s.beta s.cwnd)
          else cubicCnt s.cwnd (cubicTarget (epochOf s.epoch_start s.origin_point s.K s.W_tcp s.ack_cnt s.cwnd now) s.C s.d_min now) } := by
  obtain ⟨mss, cwnd, ssthresh, Wmax, es, op, dmin, Wtcp, K, ack, fr, fc, beta, C, cc, cnt⟩ := s
  unfold TCPCubic.cubic_update epochOf cubicTarget cubicCnt friendlyW
  simp only [ofNat_eq, Nat.cast_ofNat, Nat.cast_zero, Nat.cast_one, powNat_eq] at hW ⊢
  -- the window-count step is an `if` between two records: push the friendliness step into its branches
  by_cases h1 : es ≤ 0 <;> cases fr <;>
    simp only [h1, hW, if_true, if_false, apply_ite CCState.tcp_friendliness, ite_self, Bool.false_eq_true,
      apply_ite TCPCubic.cubic_tcp_friendliness, friendliness_eq] <;>
    split_ifs <;> rfl

/-- no congestion-control method assigns to `mss` -/
theorem cubic_update_mss (s : CCState ℚ) (now : ℚ) : (TCPCubic.cubic_update s now).mss = s.mss := by
  unfold TCPCubic.cubic_update
  simp only [friendliness_eq, apply_ite CCState.mss, ite_self]

/-- **the cube-root branch is never executed and nothing divides by zero**, given `W_last_max ≤ cwnd`, `cwnd ≠ 0`,
`beta ≠ 2` -/
theorem cubic_update_safe (s : CCState ℚ) (now : ℚ) (hW : ¬ s.cwnd < s.W_last_max) (hc : s.cwnd ≠ 0) (hb : s.beta ≠ 2) :
    TCPCubic.cubic_update.safe s now = true := by
  have key : ∀ X : CCState ℚ, X.cwnd = s.cwnd → X.beta = s.beta →
      (if X.tcp_friendliness = true then TCPCubic.cubic_tcp_friendliness.safe X else true) = true := by
    intro X e1 e2
    split
    · exact friendliness_safe X (e1 ▸ hc) (e2 ▸ hb)
    · rfl
  unfold TCPCubic.cubic_update.safe
  simp only [ofNat_eq, Nat.cast_ofNat, Nat.cast_zero, Nat.cast_one, powNat_eq]
  by_cases h1 : s.epoch_start ≤ 0 <;>
    simp only [h1, hW, if_true, if_false, Bool.true_and, ite_nonzero_sub]
  all_goals
    refine key _ ?_ ?_ <;> split_ifs <;> rfl

/-- on the reachable branch `cubic_update` writes only the epoch variables and `cnt` -/
theorem cubic_update_keeps (s : CCState ℚ) (now : ℚ) (hW : ¬ s.cwnd < s.W_last_max) :
    (TCPCubic.cubic_update s now).mss = s.mss ∧ (TCPCubic.cubic_update s now).cwnd = s.cwnd ∧
    (TCPCubic.cubic_update s now).ssthresh = s.ssthresh ∧ (TCPCubic.cubic_update s now).W_last_max = s.W_last_max ∧
    (TCPCubic.cubic_update s now).beta = s.beta := by
  rw [cubic_update_eq s now hW]
  exact ⟨rfl, rfl, rfl, rfl, rfl⟩

theorem cubic_reset_eq (s : CCState ℚ) :
    TCPCubic.cubic_reset s = { s with W_last_max := 0, epoch_start := 0, origin_point := 0, d_min := 0, W_tcp := 0,
                                      K := 0, ack_cnt := 0 } := by
  unfold TCPCubic.cubic_reset
  simp only [ofNat_eq, Nat.cast_zero]

theorem cubic_timer_expired_eq (s : CCState ℚ) :
    TCPCubic.timer_expired s = { s with cwnd := s.mss, W_last_max := 0, epoch_start := 0, origin_point := 0, d_min := 0,
                                        W_tcp := 0, K := 0, ack_cnt := 0 } := by
  unfold TCPCubic.timer_expired
  simp only [cubic_reset_eq]

/-- the minimum-RTT bookkeeping at the head of `TCPCubic.ack_received` -/
def dminNext (d_min rtt : ℚ) : ℚ := if 0 < d_min then min d_min rtt else rtt

/-- `TCPCubic.ack_received` as slow start / `cubic_update` followed by the ACK counter -/
theorem cubic_ack_eq (s : CCState ℚ) (rtt now : ℚ) :
    TCPCubic.ack_received s rtt now =
      if s.cwnd ≤ s.ssthresh then { s with d_min := dminNext s.d_min rtt, cwnd := s.cwnd + s.mss }
      else
        let u := TCPCubic.cubic_update { s with d_min := dminNext s.d_min rtt } now
        if u.cnt < u.cwnd_cnt then { u with cwnd := u.cwnd + u.mss, cwnd_cnt := 0 }
        else { u with cwnd_cnt := u.cwnd_cnt + 1 } := by
  unfold TCPCubic.ack_received dminNext
  simp only [ofNat_eq, Nat.cast_zero, Nat.cast_one, pymin_eq]
  by_cases h0 : 0 < s.d_min <;> by_cases h1 : s.cwnd ≤ s.ssthresh <;> simp only [h0, h1, if_true, if_false]

theorem ackReceived_mss (k : CCKind) (c : CCState ℚ) (rtt now : ℚ) : (CC.ackReceived k c rtt now).mss = c.mss := by
  cases k with
  | reno =>
    show (TCPReno.ack_received c rtt now).mss = c.mss
    unfold TCPReno.ack_received
    simp only [apply_ite CCState.mss, ite_self]
  | cubic =>
    show (TCPCubic.ack_received c rtt now).mss = c.mss
    simp only [cubic_ack_eq, apply_ite CCState.mss, cubic_update_mss, ite_self]

theorem timerExpired_mss (k : CCKind) (c : CCState ℚ) : (CC.timerExpired k c).mss = c.mss := by
  cases k with
  | reno => rfl
  | cubic => show (TCPCubic.timer_expired c).mss = c.mss; rw [cubic_timer_expired_eq]

/-- `cwnd ≥ MSS > 0`, `ssthresh ≥ 0`; for CUBIC additionally `W_last_max = 0` (never assigned anything else) and
`beta ≠ 2` -/
structure CCInv (k : CCKind) (c : CCState ℚ) : Prop where
  mss_pos : 0 < c.mss
  cwnd_ge : c.mss ≤ c.cwnd
  ssthresh_nonneg : 0 ≤ c.ssthresh
  cubic : k = .cubic → c.W_last_max = 0 ∧ c.beta ≠ 2

/-- the state between `dupack_over()` and `ack_received()`: `cwnd` may have dropped to `ssthresh` -/
structure CCWeak (k : CCKind) (c : CCState ℚ) : Prop where
  mss_pos : 0 < c.mss
  cwnd_ok : c.mss ≤ c.cwnd ∨ c.cwnd = c.ssthresh
  ssthresh_nonneg : 0 ≤ c.ssthresh
  cubic : k = .cubic → c.W_last_max = 0 ∧ c.beta ≠ 2

theorem CCInv.weak {k c} (h : CCInv k c) : CCWeak k c := ⟨h.mss_pos, Or.inl h.cwnd_ge, h.ssthresh_nonneg, h.cubic⟩

theorem weak_dupack_over {k c} (h : CCInv k c) : CCWeak k (CongestionControl.dupack_over c) := by
  unfold CongestionControl.dupack_over
  exact ⟨h.mss_pos, Or.inr rfl, h.ssthresh_nonneg, h.cubic⟩

theorem inv_third {k c} (h : CCInv k c) : CCInv k (CongestionControl.consecutive_dupacks_received c) := by
  have hm := h.mss_pos
  unfold CongestionControl.consecutive_dupacks_received
  simp only [ofNat_eq, Nat.cast_ofNat, pymax_eq]
  refine ⟨hm, ?_, ?_, h.cubic⟩
  · have : 2 * c.mss ≤ max (2 * c.mss) (c.cwnd / 2) := le_max_left _ _
    show c.mss ≤ max (2 * c.mss) (c.cwnd / 2) + 3 * c.mss
    linarith
  · have : 2 * c.mss ≤ max (2 * c.mss) (c.cwnd / 2) := le_max_left _ _
    show 0 ≤ max (2 * c.mss) (c.cwnd / 2)
    linarith

theorem inv_more {k c} (h : CCInv k c) : CCInv k (CongestionControl.more_dupacks_received c) := by
  have hm := h.mss_pos
  have hc := h.cwnd_ge
  unfold CongestionControl.more_dupacks_received
  refine ⟨hm, ?_, h.ssthresh_nonneg, h.cubic⟩
  show c.mss ≤ c.cwnd + c.mss
  linarith

theorem inv_timer {k c} (h : CCInv k c) : CCInv k (CC.timerExpired k c) := by
  cases k with
  | reno =>
    show CCInv _ (CongestionControl.timer_expired c)
    unfold CongestionControl.timer_expired
    exact ⟨h.mss_pos, le_refl _, h.ssthresh_nonneg, h.cubic⟩
  | cubic =>
    show CCInv _ (TCPCubic.timer_expired c)
    rw [cubic_timer_expired_eq]
    exact ⟨h.mss_pos, le_refl _, h.ssthresh_nonneg, fun _ => ⟨rfl, (h.cubic rfl).2⟩⟩

theorem reno_ack_safe (c : CCState ℚ) (rtt now : ℚ) (h : c.cwnd ≤ c.ssthresh ∨ c.cwnd ≠ 0) :
    TCPReno.ack_received.safe c rtt now = true := by
  unfold TCPReno.ack_received.safe
  split_ifs with h1
  · rfl
  · rw [nonzero_iff]; rcases h with h | h
    · exact absurd h h1
    · exact h

theorem cubic_ack_safe (c : CCState ℚ) (rtt now : ℚ) (hW : c.W_last_max = 0) (hb : c.beta ≠ 2)
    (h : c.cwnd ≤ c.ssthresh ∨ 0 < c.cwnd) : TCPCubic.ack_received.safe c rtt now = true := by
  unfold TCPCubic.ack_received.safe
  simp only [ofNat_eq, Nat.cast_zero, pymin_eq]
  by_cases h0 : 0 < c.d_min <;> simp only [h0, if_true, if_false] <;> split_ifs with h1
  all_goals first
    | rfl
    | (rcases h with h | h
       · exact absurd h h1
       · exact cubic_update_safe _ now (by simp only [hW]; exact not_lt.mpr (le_of_lt h)) (ne_of_gt h) hb)

/-- the step of `TCPCubic.ack_received` after `cubic_update`: one MSS more when the ACK counter has run up -/
theorem cubic_count_inv {u c : CCState ℚ} (h : CCInv .cubic c) (e1 : u.mss = c.mss) (e2 : u.cwnd = c.cwnd)
    (e3 : u.ssthresh = c.ssthresh) (e4 : u.W_last_max = c.W_last_max) (e5 : u.beta = c.beta) :
    CCInv .cubic (if u.cnt < u.cwnd_cnt then { u with cwnd := u.cwnd + u.mss, cwnd_cnt := 0 }
      else { u with cwnd_cnt := u.cwnd_cnt + 1 }) := by
  have hm := h.mss_pos
  have hc := h.cwnd_ge
  have hcub : u.W_last_max = 0 ∧ u.beta ≠ 2 := ⟨e4.trans (h.cubic rfl).1, e5 ▸ (h.cubic rfl).2⟩
  split_ifs
  · exact ⟨e1 ▸ hm, by show u.mss ≤ u.cwnd + u.mss; rw [e1, e2]; linarith, e3 ▸ h.ssthresh_nonneg, fun _ => hcub⟩
  · exact ⟨e1 ▸ hm, by show u.mss ≤ u.cwnd; rw [e1, e2]; exact hc, e3 ▸ h.ssthresh_nonneg, fun _ => hcub⟩

/-- **a new ACK (possibly right after `dupack_over`) is safe and re-establishes `cwnd ≥ MSS`** -/
theorem inv_ack {k c} (h : CCWeak k c) (rtt now : ℚ) :
    CC.ackReceivedSafe k c rtt now = true ∧ CCInv k (CC.ackReceived k c rtt now) := by
  have hm := h.mss_pos
  have hs := h.ssthresh_nonneg
  have hcw : c.cwnd ≤ c.ssthresh ∨ 0 < c.cwnd := by
    rcases h.cwnd_ok with h1 | h1
    · exact Or.inr (lt_of_lt_of_le hm h1)
    · exact Or.inl (le_of_eq h1)
  have hnn : 0 ≤ c.cwnd := by
    rcases h.cwnd_ok with h1 | h1
    · linarith
    · rw [h1]; exact hs
  -- in congestion avoidance the window was not just deflated
  have ca : ¬ c.cwnd ≤ c.ssthresh → 0 < c.cwnd ∧ c.mss ≤ c.cwnd := fun h1 =>
    ⟨hcw.resolve_left h1, h.cwnd_ok.resolve_right fun e => h1 (le_of_eq e)⟩
  cases k with
  | reno =>
    refine ⟨reno_ack_safe c rtt now (hcw.imp id ne_of_gt), ?_⟩
    show CCInv _ (TCPReno.ack_received c rtt now)
    unfold TCPReno.ack_received
    split_ifs with h1
    · exact ⟨hm, by show c.mss ≤ c.cwnd + c.mss; linarith, hs, h.cubic⟩
    · refine ⟨hm, ?_, hs, h.cubic⟩
      obtain ⟨hpos, hge⟩ := ca h1
      have : 0 ≤ c.mss * c.mss / c.cwnd := div_nonneg (mul_nonneg hm.le hm.le) hpos.le
      show c.mss ≤ c.cwnd + c.mss * c.mss / c.cwnd
      linarith
  | cubic =>
    obtain ⟨hW, hb⟩ := h.cubic rfl
    refine ⟨cubic_ack_safe c rtt now hW hb hcw, ?_⟩
    show CCInv _ (TCPCubic.ack_received c rtt now)
    rw [cubic_ack_eq]
    split_ifs with h1
    · exact ⟨hm, by show c.mss ≤ c.cwnd + c.mss; linarith, hs, fun _ => ⟨hW, hb⟩⟩
    · obtain ⟨hpos, hge⟩ := ca h1
      have hW' : ¬ ({ c with d_min := dminNext c.d_min rtt } : CCState ℚ).cwnd <
          ({ c with d_min := dminNext c.d_min rtt } : CCState ℚ).W_last_max := by
        simp only [hW]; exact not_lt.mpr hpos.le
      obtain ⟨e1, e2, e3, e4, e5⟩ := cubic_update_keeps _ now hW'
      exact cubic_count_inv ⟨hm, hge, hs, fun _ => ⟨hW, hb⟩⟩ e1 e2 e3 e4 e5

/-- a new ACK counted on the deflated window: `ssthresh + MSS` for both classes -/
theorem ack_after_deflate (k : CCKind) (c : CCState ℚ) (rtt now : ℚ) :
    (CC.ackReceived k (CongestionControl.dupack_over c) rtt now).cwnd = c.ssthresh + c.mss ∧
    (CC.ackReceived k (CongestionControl.dupack_over c) rtt now).ssthresh = c.ssthresh := by
  cases k with
  | reno =>
    show (TCPReno.ack_received _ rtt now).cwnd = _ ∧ (TCPReno.ack_received _ rtt now).ssthresh = _
    unfold TCPReno.ack_received CongestionControl.dupack_over
    simp
  | cubic =>
    show (TCPCubic.ack_received _ rtt now).cwnd = _ ∧ (TCPCubic.ack_received _ rtt now).ssthresh = _
    rw [cubic_ack_eq]
    unfold CongestionControl.dupack_over
    simp

/-- counting a new ACK never touches `ssthresh`, and in slow start it adds one MSS, for both classes -/
theorem ack_plain {k : CCKind} {c : CCState ℚ} (h : CCInv k c) (rtt now : ℚ) :
    (CC.ackReceived k c rtt now).ssthresh = c.ssthresh ∧
    (c.cwnd ≤ c.ssthresh → (CC.ackReceived k c rtt now).cwnd = c.cwnd + c.mss) := by
  cases k with
  | reno =>
    show (TCPReno.ack_received c rtt now).ssthresh = _ ∧ (_ → (TCPReno.ack_received c rtt now).cwnd = _)
    unfold TCPReno.ack_received
    constructor
    · split_ifs <;> rfl
    · intro hss; simp [hss]
  | cubic =>
    show (TCPCubic.ack_received c rtt now).ssthresh = _ ∧ (_ → (TCPCubic.ack_received c rtt now).cwnd = _)
    have hpos : 0 < c.cwnd := lt_of_lt_of_le h.mss_pos h.cwnd_ge
    have hW' : ¬ ({ c with d_min := dminNext c.d_min rtt } : CCState ℚ).cwnd <
        ({ c with d_min := dminNext c.d_min rtt } : CCState ℚ).W_last_max := by
      simp only [(h.cubic rfl).1]; exact not_lt.mpr hpos.le
    rw [cubic_ack_eq]
    constructor
    · split_ifs with h1
      · rfl
      · simp only []
        split_ifs <;> exact (cubic_update_keeps _ now hW').2.2.1
    · intro hss; simp [hss]

end TcpCC
