import OnlVerif.Lemmas.KernelStep
import OnlVerif.Lemmas.Port
/-!
# What the FifoServer devices on the kernel model (Port, Wire, RED port) share; `Fifo.runActs_append` also serves the token buckets

Lemmas about variables.  `QEntry.due_parts`: the three slots of the agenda of a FifoServer configuration.  `Fifo`, `Port`: what one action does to a state `s` of the LTS of which only the components the action reads are known; the
`toF a` of a family is put in at the use.
-/

namespace QEntry

variable {es : List (QEntry ℚ)} {now : ℚ} {q : QEntry ℚ}

/-- each of the three slots of the agenda (server, source, pending `StorePut`) is as before or holds entries that are due -/
theorem due_parts {P S U P' S' U' : List (QEntry ℚ)} {t : ℚ} (hd : ∀ x ∈ P ++ (S ++ U), t ≤ x.time)
    (hp : P' = P ∨ ∀ x ∈ P', t ≤ x.time) (hs : S' = S ∨ ∀ x ∈ S', t ≤ x.time) (hu : U' = U ∨ ∀ x ∈ U', t ≤ x.time) :
    ∀ x ∈ P' ++ (S' ++ U'), t ≤ x.time := by
  intro x hx
  rcases List.mem_append.mp hx with hx | hx
  · exact hp.elim (fun e => hd x (List.mem_append_left _ (e ▸ hx))) (· x hx)
  rcases List.mem_append.mp hx with hx | hx
  · exact hs.elim (fun e => hd x (List.mem_append_right _ (List.mem_append_left _ (e ▸ hx)))) (· x hx)
  · exact hu.elim (fun e => hd x (List.mem_append_right _ (List.mem_append_right _ (e ▸ hx)))) (· x hx)

end QEntry

theorem List.find?_unique {α} (l : List α) (p : α → Bool) (x : α) (hx : x ∈ l) (hp : p x = true)
    (hu : ∀ y ∈ l, p y = true → y = x) : l.find? p = some x := by
  cases h : l.find? p with
  | none => exact absurd hp (by simpa using List.find?_eq_none.mp h x hx)
  | some y => rw [hu y (List.mem_of_find?_eq_some h) (List.find?_some h)]

namespace Fifo
variable {δ : Type} {d : Dev ℚ δ} {s : FState ℚ δ}

theorem issueGet_nil (h : s.items = []) : issueGet s = { s with getPending := true } := by
  unfold issueGet; rw [h]

theorem issueGet_cons {p : Pkt ℚ} {rest : List (Pkt ℚ)} (h : s.items = p :: rest) :
    issueGet s = { s with items := rest, handed := some p } := by
  unfold issueGet; rw [h]

theorem runActs_one {s' : FState ℚ δ} {a : FAct ℚ} {o : FOut ℚ} (h : step d s a = .ok (s', o)) :
    runActs d s [a] = .ok (s', entered a o, left o) := by
  simp only [runActs, h, List.append_nil]

theorem runActs_append (d : Dev ℚ δ) (as bs : List (FAct ℚ)) (s s1 s2 : FState ℚ δ)
    (i1 o1 i2 o2 : List Nat) (h1 : runActs d s as = .ok (s1, i1, o1)) (h2 : runActs d s1 bs = .ok (s2, i2, o2)) :
    runActs d s (as ++ bs) = .ok (s2, i1 ++ i2, o1 ++ o2) := by
  induction as generalizing s i1 o1 with
  | nil =>
    cases h1
    exact h2
  | cons x xs ih =>
    obtain ⟨s', o, ins, outs, hst, hr, rfl, rfl⟩ := runActs_cons_ok h1
    simp only [List.cons_append, runActs, hst, ih s' ins outs hr, List.append_assoc]

theorem runActs_put (p : Pkt ℚ) :
    runActs d s [.put p] =
      if (d.admitPkt s.dev s.now s.items.length p).2.1 then
        .ok ({ s with dev := (d.admitPkt s.dev s.now s.items.length p).1,
                      items := s.items ++ [(d.admitPkt s.dev s.now s.items.length p).2.2] }, [p.id], [])
      else .ok ({ s with dev := (d.admitPkt s.dev s.now s.items.length p).1 }, [], []) := by
  by_cases h : (d.admitPkt s.dev s.now s.items.length p).2.1 = true
  · rw [if_pos h]
    refine runActs_one (o := .accepted) ?_
    simp only [step, if_pos h]
  · rw [if_neg h]
    refine runActs_one (o := .dropped) ?_
    simp only [step, if_neg h]

/-- zero or one `tick` brings the clock to `t` -/
theorem runActs_advance {t : ℚ} (hle : s.now ≤ t) (h : s.now < t → TickOk s t) :
    ∃ acts, runActs d s acts = .ok ({ s with now := t }, [], []) := by
  rcases eq_or_lt_of_le hle with e | e
  · exact ⟨[], by rw [← e]; rfl⟩
  · exact ⟨[.tick t], runActs_one (step_tick d (h e))⟩

theorem runActs_init (h : s.started = false) :
    runActs d s [.init] = .ok (issueGet { s with started := true }, [], []) := by
  refine runActs_one (o := .nothing) ?_
  simp only [step, h, Bool.false_eq_true, if_false]

theorem runActs_handoff {p : Pkt ℚ} {rest : List (Pkt ℚ)} (hg : s.getPending = true) (hi : s.items = p :: rest) :
    runActs d s [.handoff] = .ok ({ s with items := rest, handed := some p, getPending := false }, [], []) := by
  refine runActs_one (o := .nothing) ?_
  simp only [step, hg, hi, if_true]

end Fifo

namespace Port
open Fifo

variable {c : PortCfg ℚ} {st : FState ℚ (PortSt ℚ)} {p : Pkt ℚ}

/-- the server resumes with `p` and a positive rate: it sleeps for the transmission time -/
theorem runActs_tx (x y : ℚ) (h : st.handed = some p) (hr : Num.zero < c.rate) :
    runActs (dev c) st [.resume x y] =
      .ok ({ st with handed := none, dev := { st.dev with busy := true, busySize := p.size },
                     tx := some (p, st.now + txTime c p, 0) }, [], []) := by
  refine runActs_one (o := .nothing) ?_
  simp only [Fifo.step, h, dev_onResume, onResume, if_pos hr, proceed]

/-- the server resumes with `p` and no positive rate: `p` leaves in the same burst -/
theorem runActs_now (x y : ℚ) (h : st.handed = some p) (hr : ¬ Num.zero < c.rate) :
    runActs (dev c) st [.resume x y] =
      .ok (issueGet { st with handed := none, dev := onDone { st.dev with busy := true, busySize := p.size } p, tx := none },
        [], [p.id]) := by
  refine runActs_one (o := .depart p) ?_
  simp only [Fifo.step, h, dev_onResume, dev_onDone, onResume, if_neg hr, proceed]

/-- the transmission of `p` ends when due -/
theorem runActs_fire {k : Nat} (h : st.tx = some (p, st.now, k)) :
    runActs (dev c) st [.fire] = .ok (issueGet { st with tx := none, dev := onDone st.dev p }, [], [p.id]) := by
  refine runActs_one (o := .depart p) ?_
  simp only [Fifo.step, h, lt_irrefl, if_false, dev_onFire, dev_onDone, onFire, proceed]

end Port
