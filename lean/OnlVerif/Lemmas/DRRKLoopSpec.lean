import OnlVerif.Lemmas.DRRKAbs
/-!
# The DRR scheduler on the kernel model: what the loops of `DRR.run` (as the functions `innerAt`, `visitFrom`, `passes`) do

`EndOK`: a piece of the loops that ends the burst has found what it ends with (a backlogged class whose credit is positive,
without a parked head: `get`; with an affordable parked head: `send`; `total_packets == 0`: `idle`); the credits only grow;
a pass that ends nothing has added its quantum to every backlogged class and found its parked head unaffordable; hence
(`passes_no_hang`) `k + 1` passes always end the burst when `1500·k` bounds the parked packets.
-/

namespace DRRK
open DRROnK QEntry

section
variable (Q : Nat → ℚ) (size : Int → Nat) (ccnt : Nat → Int) (hol : Nat → Option Int) (t : ℚ) (total : Int)
variable (ws : List (Nat × Nat))

def EndOK (L' : LS) : Option LoopEnd → Prop
  | some (.get m c) => (∃ w, ws[m]? = some (c, w)) ∧ hol c = none ∧ 0 < L'.dfc c ∧ 0 < ccnt c
  | some (.send m c id pk) => pk = true ∧ (∃ w, ws[m]? = some (c, w)) ∧ hol c = some id ∧
      (Num.ofNat (size id) : ℚ) ≤ L'.dfc c ∧ 0 < ccnt c
  | some .idle => total = 0
  | some .hang => False
  | none => True

variable {Q size ccnt hol t total ws}

theorem visitAdd_dfc_le (hQ : ∀ c, 0 ≤ Q c) (c : Nat) (L : LS) (f : Nat) : L.dfc f ≤ (visitAdd Q ccnt t c L).dfc f := by
  unfold visitAdd
  split
  · show L.dfc f ≤ upd L.dfc c (L.dfc c + Q c) f
    by_cases hf : f = c
    · subst hf; rw [upd_same]; linarith [hQ f]
    · rw [upd_ne _ _ _ _ hf]
  · exact le_refl _

theorem visitAdd_dfc_ne (c : Nat) (L : LS) (f : Nat) (hf : f ≠ c) : (visitAdd Q ccnt t c L).dfc f = L.dfc f := by
  unfold visitAdd
  split
  · exact upd_ne _ _ _ _ hf
  · rfl

theorem visitAdd_dfc_same (c : Nat) (L : LS) (hc : 0 < ccnt c) : (visitAdd Q ccnt t c L).dfc c = L.dfc c + Q c := by
  unfold visitAdd
  rw [if_pos hc]
  exact upd_same _ _ _

theorem visitAdd_dfc_skip (c : Nat) (L : LS) (hc : ¬ 0 < ccnt c) : visitAdd Q ccnt t c L = L := by
  unfold visitAdd
  rw [if_neg hc]

theorem innerAt_dfc (m c : Nat) (L : LS) : (innerAt size ccnt hol t m c L).1.dfc = L.dfc := by
  unfold innerAt
  split
  · split
    · split <;> rfl
    · rfl
  · rfl

theorem innerAt_ok {m c w : Nat} (hm : ws[m]? = some (c, w)) (L : LS) :
    EndOK size ccnt hol total ws (innerAt size ccnt hol t m c L).1 (innerAt size ccnt hol t m c L).2 := by
  unfold innerAt
  by_cases hcond : Num.zero < L.dfc c ∧ 0 < ccnt c
  · rw [if_pos hcond]
    cases hh : hol c with
    | none => exact ⟨⟨w, hm⟩, hh, by simpa [zero_eq'] using hcond.1, hcond.2⟩
    | some id =>
      by_cases hle : (Num.ofNat (size id) : ℚ) ≤ L.dfc c
      · simp only [hle, if_true]
        exact ⟨rfl, ⟨w, hm⟩, hh, hle, hcond.2⟩
      · simp only [hle, if_false]
        trivial
  · rw [if_neg hcond]; trivial

theorem innerAt_none {m c : Nat} {L L' : LS} (h : innerAt size ccnt hol t m c L = (L', none)) :
    L'.dfc = L.dfc ∧ (0 < L.dfc c → 0 < ccnt c → ∃ id, hol c = some id ∧ ¬ (Num.ofNat (size id) : ℚ) ≤ L.dfc c) := by
  unfold innerAt at h
  by_cases hcond : Num.zero < L.dfc c ∧ 0 < ccnt c
  · rw [if_pos hcond] at h
    cases hh : hol c with
    | none => rw [hh] at h; simp at h
    | some id =>
      rw [hh] at h
      by_cases hle : (Num.ofNat (size id) : ℚ) ≤ L.dfc c
      · simp [hle] at h
      · simp only [hle, if_false, Prod.mk.injEq, and_true] at h
        subst h
        exact ⟨rfl, fun _ _ => ⟨id, rfl, hle⟩⟩
  · rw [if_neg hcond] at h
    simp only [Prod.mk.injEq, and_true] at h
    subst h
    refine ⟨rfl, fun h1 h2 => absurd ⟨by simpa [zero_eq'] using h1, h2⟩ hcond⟩

theorem drop_of_getElem? {β : Type} {l : List β} {m : Nat} {x : β} (h : l[m]? = some x) : ∃ rest, l.drop m = x :: rest := by
  obtain ⟨hm, hx⟩ := List.getElem?_eq_some_iff.mp h
  exact ⟨l.drop (m + 1), by rw [← hx]; exact List.drop_eq_getElem_cons hm⟩

theorem length_of_drop {β : Type} {l rest : List β} {m : Nat} {x : β} (h : l.drop m = x :: rest) : m + 1 + rest.length = l.length := by
  have := congrArg List.length h
  simp only [List.length_drop, List.length_cons] at this
  omega

/-! ## induction over the loops

A piece of the loops returns the credits and observations it has reached and, if it ends the burst, how.  `Post I E` of such
a result: `E` of the way it ends the burst, or `I` where the loops go on.  What holds of one iteration of the `for` loop in
this form holds of the `for` loop (`visitFrom_ind`) and of the passes (`passes_ind`, `thenPasses_ind`). -/

def Post (I : LS → Prop) (E : LS → LoopEnd → Prop) : LS × Option LoopEnd → Prop
  | (L, some e) => E L e
  | (L, none) => I L

section ind
variable {I : LS → Prop} {E : LS → LoopEnd → Prop} {p : LS × Option LoopEnd}

theorem Post.mk (he : ∀ e, p.2 = some e → E p.1 e) (hn : p.2 = none → I p.1) : Post I E p := by
  obtain ⟨L, oe⟩ := p
  cases oe with
  | some e => exact he e rfl
  | none => exact hn rfl

theorem Post.imp {I' : LS → Prop} (h : Post I E p) (hi : ∀ L, I L → I' L) : Post I' E p := by
  obtain ⟨L, oe⟩ := p
  cases oe with
  | some e => exact h
  | none => exact hi L h

end ind

section ind
variable {I : Nat → LS → Prop} {E : LS → LoopEnd → Prop}

/-- `I m L`: the `for` loop stands at the head of entry `m` with `L` -/
theorem visitFrom_ind
    (hit : ∀ m c w L, ws[m]? = some (c, w) → I m L → Post (I (m + 1)) E (innerAt size ccnt hol t m c (visitAdd Q ccnt t c L))) :
    ∀ (ws' : List (Nat × Nat)) (m : Nat) (L : LS), ws.drop m = ws' → I m L →
      Post (I (m + ws'.length)) E (visitFrom Q size ccnt hol t m ws' L)
  | [], m, L, _, h => h
  | (c, w) :: rest, m, L, hd, h => by
    have h1 := hit m c w L (KExec.drop_cons hd).1 h
    rw [visitFrom, List.length_cons, ← Nat.add_assoc, Nat.add_right_comm]
    cases hr : innerAt size ccnt hol t m c (visitAdd Q ccnt t c L) with
    | mk L' oe =>
      rw [hr] at h1
      cases oe with
      | some e => exact h1
      | none => exact visitFrom_ind hit rest (m + 1) L' (KExec.drop_cons hd).2 h1

variable (hit : ∀ m c w L, ws[m]? = some (c, w) → I m L → Post (I (m + 1)) E (innerAt size ccnt hol t m c (visitAdd Q ccnt t c L)))
  (hwrap : ∀ L, I ws.length L → I 0 L) (hidle : ∀ L, I 0 L → total = 0 → E L .idle)
include hit hwrap hidle

theorem passes_ind : ∀ (k : Nat) (L : LS), I 0 L → (passes Q size ccnt hol t total ws k L).2 ≠ .hang →
    E (passes Q size ccnt hol t total ws k L).1 (passes Q size ccnt hol t total ws k L).2
  | 0, _, _, h => absurd rfl h
  | k + 1, L, h0, h => by
    rw [passes] at h ⊢
    by_cases hpos : 0 < total
    · rw [if_pos hpos] at h ⊢
      have h1 := visitFrom_ind hit ws 0 L (List.drop_zero) h0
      rw [Nat.zero_add] at h1
      cases hr : visitFrom Q size ccnt hol t 0 ws L with
      | mk L' oe =>
        rw [hr] at h h1
        cases oe with
        | some e => exact h1
        | none => exact passes_ind k L' (hwrap L' h1) h
    · rw [if_neg hpos] at h ⊢
      by_cases hz : total = 0
      · rw [if_pos hz]; exact hidle L h0 hz
      · rw [if_neg hz] at h; exact absurd rfl h

theorem thenPasses_ind (P : Nat) (piece : LS × Option LoopEnd) (hp : Post (I 0) E piece)
    (hne : (thenPasses Q size ccnt hol t total ws P piece).2 ≠ .hang) :
    E (thenPasses Q size ccnt hol t total ws P piece).1 (thenPasses Q size ccnt hol t total ws P piece).2 := by
  obtain ⟨L', oe⟩ := piece
  cases oe with
  | some e => exact hp
  | none => exact passes_ind hit hwrap hidle P L' hp hne

end ind

variable (size ccnt hol total ws) in
abbrev PieceOK (d0 : Nat → ℚ) : LS × Option LoopEnd → Prop :=
  Post (fun L' => ∀ f, d0 f ≤ L'.dfc f) fun L' e => EndOK size ccnt hol total ws L' (some e) ∧ ∀ f, d0 f ≤ L'.dfc f

theorem inner_ok (d0 : Nat → ℚ) {m c w : Nat} (hm : ws[m]? = some (c, w)) (L : LS) (h : ∀ f, d0 f ≤ L.dfc f) :
    PieceOK size ccnt hol total ws d0 (innerAt size ccnt hol t m c L) :=
  have h2 : ∀ f, d0 f ≤ (innerAt size ccnt hol t m c L).1.dfc f := fun f => by rw [innerAt_dfc]; exact h f
  Post.mk (fun e he => ⟨by rw [← he]; exact innerAt_ok hm _, h2⟩) fun _ => h2

theorem iter_ok (hQ : ∀ c, 0 ≤ Q c) (d0 : Nat → ℚ) (m c w : Nat) (L : LS) (hm : ws[m]? = some (c, w)) (h : ∀ f, d0 f ≤ L.dfc f) :
    PieceOK size ccnt hol total ws d0 (innerAt size ccnt hol t m c (visitAdd Q ccnt t c L)) :=
  inner_ok d0 hm _ fun f => le_trans (h f) (visitAdd_dfc_le hQ c L f)

theorem PieceOK.endOK {d0 : Nat → ℚ} {p : LS × Option LoopEnd} (h : PieceOK size ccnt hol total ws d0 p) :
    EndOK size ccnt hol total ws p.1 p.2 ∧ ∀ f, d0 f ≤ p.1.dfc f := by
  obtain ⟨L, oe⟩ := p
  cases oe with
  | some e => exact h
  | none => exact ⟨trivial, h⟩

theorem visitFrom_ok (hQ : ∀ c, 0 ≤ Q c) (ws' : List (Nat × Nat)) (m : Nat) (L : LS) (hd : ws.drop m = ws') :
    EndOK size ccnt hol total ws (visitFrom Q size ccnt hol t m ws' L).1 (visitFrom Q size ccnt hol t m ws' L).2 ∧
    ∀ f, L.dfc f ≤ (visitFrom Q size ccnt hol t m ws' L).1.dfc f :=
  PieceOK.endOK (visitFrom_ind (I := fun _ L' => ∀ f, L.dfc f ≤ L'.dfc f) (iter_ok hQ L.dfc) ws' m L hd fun _ => le_refl _)

theorem visitFrom_none_other : ∀ (ws' : List (Nat × Nat)) (m : Nat) (L L' : LS),
    visitFrom Q size ccnt hol t m ws' L = (L', none) → ∀ c, c ∉ ws'.map (·.1) → L'.dfc c = L.dfc c
  | [], m, L, L', h, c, _ => by simp [visitFrom] at h; rw [h]
  | (c0, w) :: rest, m, L, L', h, c, hc => by
    rw [visitFrom] at h
    cases hr : innerAt size ccnt hol t m c0 (visitAdd Q ccnt t c0 L) with
    | mk L1 oe =>
      rw [hr] at h
      cases oe with
      | some e => simp at h
      | none =>
        simp only at h
        have hne : c ≠ c0 := fun hh => hc (by simp [hh])
        have h1 := (innerAt_none hr).1
        rw [visitFrom_none_other rest (m + 1) L1 L' h c (fun hh => hc (by simp only [List.map_cons, List.mem_cons]; exact Or.inr hh)),
          h1, visitAdd_dfc_ne _ _ _ hne]

theorem visitFrom_none (hQ : ∀ c, 0 < Q c) : ∀ (ws' : List (Nat × Nat)) (m : Nat) (L L' : LS),
    visitFrom Q size ccnt hol t m ws' L = (L', none) → (ws'.map (·.1)).Nodup →
    ∀ c ∈ ws'.map (·.1), 0 < ccnt c → 0 ≤ L.dfc c →
      L'.dfc c = L.dfc c + Q c ∧ ∃ id, hol c = some id ∧ ¬ (Num.ofNat (size id) : ℚ) ≤ L'.dfc c
  | [], m, L, L', _, _, c, hc, _, _ => by simp at hc
  | (c0, w) :: rest, m, L, L', h, hnd, c, hc, hpos, h0 => by
    rw [visitFrom] at h
    simp only [List.map_cons, List.nodup_cons] at hnd
    cases hr : innerAt size ccnt hol t m c0 (visitAdd Q ccnt t c0 L) with
    | mk L1 oe =>
      rw [hr] at h
      cases oe with
      | some e => simp at h
      | none =>
        simp only at h
        obtain ⟨h1, h2⟩ := innerAt_none hr
        by_cases hcc : c = c0
        · subst hcc
          have hother := visitFrom_none_other rest (m + 1) L1 L' h c hnd.1
          have hd1 : L1.dfc c = L.dfc c + Q c := by rw [h1, visitAdd_dfc_same _ _ hpos]
          have hpos1 : 0 < (visitAdd Q ccnt t c L).dfc c := by
            rw [visitAdd_dfc_same _ _ hpos]; linarith [hQ c]
          obtain ⟨id, hid, hle⟩ := h2 hpos1 hpos
          refine ⟨by rw [hother, hd1], id, hid, ?_⟩
          rw [hother, hd1, ← visitAdd_dfc_same (Q := Q) (t := t) _ L hpos]
          exact hle
        · have hc' : c ∈ rest.map (·.1) := by
            simp only [List.map_cons, List.mem_cons] at hc
            exact hc.resolve_left hcc
          have hd1 : L1.dfc c = L.dfc c := by rw [h1, visitAdd_dfc_ne _ _ _ hcc]
          have := visitFrom_none hQ rest (m + 1) L1 L' h hnd.2 c hc' hpos (by rw [hd1]; exact h0)
          rw [hd1] at this
          exact this

theorem passes_no_hang (hQ : ∀ c, 1500 ≤ Q c) (hnd : (ws.map (·.1)).Nodup) (htot : 0 ≤ total) :
    ∀ (k : Nat) (L : LS), (∀ c ∈ ws.map (·.1), 0 ≤ L.dfc c) →
      (0 < total → ∃ c ∈ ws.map (·.1), 0 < ccnt c ∧ ∀ id, hol c = some id → (Num.ofNat (size id) : ℚ) ≤ L.dfc c + 1500 * k) →
      (passes Q size ccnt hol t total ws (k + 1) L).2 ≠ .hang
  | k, L, h0, hI => by
    have hQ0 : ∀ c, 0 < Q c := fun c => by linarith [hQ c]
    rw [passes]
    by_cases hpos : 0 < total
    · rw [if_pos hpos]
      have hv := visitFrom_ok (size := size) (ccnt := ccnt) (hol := hol) (t := t) (total := total) (ws := ws)
        (fun c => le_of_lt (hQ0 c)) ws 0 L (by simp)
      cases hr : visitFrom Q size ccnt hol t 0 ws L with
      | mk L' oe =>
        rw [hr] at hv
        cases oe with
        | some e =>
          intro he
          simp only at he
          subst he
          exact hv.1
        | none =>
          -- the pass has added the quantum to a backlogged class and found its parked head unaffordable
          obtain ⟨c, hc, hcp, hI'⟩ := hI hpos
          obtain ⟨h1, id, hid, hle⟩ := visitFrom_none hQ0 ws 0 L L' hr hnd c hc hcp (h0 c hc)
          have := hI' id hid
          match k with
          | 0 =>
            apply (hle _).elim
            rw [h1]
            simp only [Nat.cast_zero, mul_zero, add_zero] at this
            linarith [hQ0 c]
          | k + 1 =>
            refine passes_no_hang hQ hnd htot k L' (fun c hc => le_trans (h0 c hc) (hv.2 c)) fun _ => ⟨c, hc, hcp, fun id' hid' => ?_⟩
            rw [hid] at hid'
            cases hid'
            rw [h1]
            push_cast at this ⊢
            linarith [hQ c]
    · rw [if_neg hpos]
      have : total = 0 := by omega
      simp [this]

theorem passes_ok (hQ : ∀ c, 0 ≤ Q c) (k : Nat) (L : LS) (h : (passes Q size ccnt hol t total ws k L).2 ≠ .hang) :
    EndOK size ccnt hol total ws (passes Q size ccnt hol t total ws k L).1 (some (passes Q size ccnt hol t total ws k L).2) ∧
    ∀ f, L.dfc f ≤ (passes Q size ccnt hol t total ws k L).1.dfc f :=
  passes_ind (I := fun _ L' => ∀ f, L.dfc f ≤ L'.dfc f)
    (E := fun L' e => EndOK size ccnt hol total ws L' (some e) ∧ ∀ f, L.dfc f ≤ L'.dfc f) (iter_ok hQ L.dfc) (fun _ h => h)
    (fun _ h hz => ⟨hz, h⟩) k L (fun _ => le_refl _) h

end

end DRRK
