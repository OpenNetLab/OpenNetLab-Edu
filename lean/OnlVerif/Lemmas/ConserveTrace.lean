import OnlVerif.Lemmas.ConserveQueue
/-!
# Every run is a sequence of atomic units; a request is granted only by the grant unit, at its place in the queue

`AUnit s s'` is the smallest relation containing the units of `CRel` (with their guards); `UnitSeq` is its
reflexive–transitive closure.  Instantiating the engine with `UnitSeq` shows that every kernel step of every program
(inside the domain) decomposes into atomic units.  Inspecting the units then gives the "moment of the grant"
statements: a put is granted only while it is the **head** of its queue and `_do_put`'s guard holds; a get is granted
only while every queue member in front of it belongs to a `FilterStore` and matches no item.
-/

variable {σ : Type}

namespace Conserve

inductive AUnit : KState ℚ σ → KState ℚ σ → Prop
  | frame {s s'} : WF s → Frame s s' → AUnit s s'
  | alloc {s s'} (x : EvRec ℚ) : WF s → s'.events = s.events.push x → nonReqKind x.kind = true →
      (∀ l, x.cbs = some l → ∀ cb ∈ l, cbPlain cb = true) → s'.resources = s.resources → s'.procs = s.procs → AUnit s s'
  | trigNR (s e o) : WF s → isReq s e = false → AUnit s (s.setOut e o)
  | grantPut (s r e rest) : WF s → (s.res r).putQ = e :: rest → canPut s r e = true → AUnit s (grantPutSt s r e)
  | grantGet (s r e v pre rest) : WF s → (s.res r).getQ = pre ++ e :: rest → getItem s r e = some v →
      (∀ a ∈ pre, (s.res r).kind = .fstore ∧ getItem s r a = none) → AUnit s (grantGetSt s r e v)
  | newPut (s r rq) : WF s → AUnit s (newPutSt s r rq)
  | newGet (s r rq) : WF s → AUnit s (newGetSt s r rq)
  | cancelPut (s r e) : WF s → (s.ev e).out = none → (s.ev e).kind = .put r → e ∈ (s.res r).putQ → AUnit s (dropPutQ s r e)
  | cancelGet (s r e) : WF s → (s.ev e).out = none → (s.ev e).kind = .get r → e ∈ (s.res r).getQ → AUnit s (dropGetQ s r e)

inductive UnitSeq : KState ℚ σ → KState ℚ σ → Prop
  | refl (s) : UnitSeq s s
  | snoc {s s1 s2} : UnitSeq s s1 → AUnit s1 s2 → UnitSeq s s2

theorem UnitSeq.trans {s1 s2 s3 : KState ℚ σ} (h12 : UnitSeq s1 s2) (h23 : UnitSeq s2 s3) : UnitSeq s1 s3 := by
  induction h23 with
  | refl => exact h12
  | snoc _ hu ih => exact UnitSeq.snoc ih hu

theorem UnitSeq.single {s s' : KState ℚ σ} (h : AUnit s s') : UnitSeq s s' := UnitSeq.snoc (UnitSeq.refl s) h

/-- `UnitSeq` is the least instance of the engine: every instance contains every unit sequence, so whatever an
instance says about runs follows from `reach_units` -/
theorem CRel.of_unitSeq {R : KState ℚ σ → KState ℚ σ → Prop} (K : CRel R) {s s' : KState ℚ σ} (h : UnitSeq s s') :
    R s s' := by
  induction h with
  | refl => exact K.refl _
  | snoc _ hu ih =>
    refine K.trans ih ?_
    cases hu with
    | frame hW hF => exact K.frame _ _ hW hF
    | alloc x hW he hk hc hr hp => exact K.alloc _ _ x hW he hk hc hr hp
    | trigNR e o hW hn => exact K.trigNR _ e o hW hn
    | grantPut r e rest hW hq hc => exact K.grantPut _ r e rest hW hq hc
    | grantGet r e v pre rest hW hq hg hp => exact K.grantGet _ r e v pre rest hW hq hg hp
    | newPut r rq hW => exact K.newPut _ r rq hW
    | newGet r rq hW => exact K.newGet _ r rq hW
    | cancelPut r e hW ho hk hm => exact K.cancelPut _ r e hW ho hk hm
    | cancelGet r e hW ho hk hm => exact K.cancelGet _ r e hW ho hk hm

theorem AUnit.cases3 {s s' : KState ℚ σ} (h : AUnit s s') : WF s ∧ (Quiet s s' ∨
    (∃ r e rest, (s.res r).putQ = e :: rest ∧ canPut s r e = true ∧ s' = grantPutSt s r e) ∨
    (∃ r e v pre rest, (s.res r).getQ = pre ++ e :: rest ∧ getItem s r e = some v ∧
      (∀ a ∈ pre, (s.res r).kind = .fstore ∧ getItem s r a = none) ∧ s' = grantGetSt s r e v)) := by
  cases h with
  | frame hW hF => exact ⟨hW, .inl (.of_frame hF)⟩
  | alloc x hW he hk hc hr hp => exact ⟨hW, .inl (.of_alloc x he hk hc hr hp)⟩
  | trigNR e o hW hn => exact ⟨hW, .inl (.of_trigNR s e o hn)⟩
  | grantPut r e rest hW hq hc => exact ⟨hW, .inr (.inl ⟨r, e, rest, hq, hc, rfl⟩)⟩
  | grantGet r e v pre rest hW hq hg hp => exact ⟨hW, .inr (.inr ⟨r, e, v, pre, rest, hq, hg, hp, rfl⟩)⟩
  | newPut r rq hW => exact ⟨hW, .inl (.of_newPut s r rq)⟩
  | newGet r rq hW => exact ⟨hW, .inl (.of_newGet s r rq)⟩
  | cancelPut r e hW _ _ _ => exact ⟨hW, .inl (.of_cancelPut s r e)⟩
  | cancelGet r e hW _ _ _ => exact ⟨hW, .inl (.of_cancelGet s r e)⟩

theorem AUnit.base {s s' : KState ℚ σ} (h : AUnit s s') : Base s s' := Base.crel.of_unitSeq (UnitSeq.single h)

def UnitsRel (s s' : KState ℚ σ) : Prop := Base s s' ∧ UnitSeq s s'

theorem UnitsRel.of_unit {s s' : KState ℚ σ} (h : AUnit s s') : UnitsRel s s' := ⟨h.base, UnitSeq.single h⟩

theorem UnitsRel.crel : CRel (UnitsRel (σ := σ)) where
  refl s := ⟨Base.refl s, UnitSeq.refl s⟩
  trans h12 h23 := ⟨h12.1.trans h23.1, h12.2.trans h23.2⟩
  toBase h := h.1
  frame _ _ hW hF := .of_unit (.frame hW hF)
  alloc _ _ x hW he hk hc hr hp := .of_unit (.alloc x hW he hk hc hr hp)
  trigNR s e o hW hn := .of_unit (.trigNR s e o hW hn)
  grantPut s r e rest hW hq hc := .of_unit (.grantPut s r e rest hW hq hc)
  grantGet s r e v pre rest hW hq hg hp := .of_unit (.grantGet s r e v pre rest hW hq hg hp)
  newPut s r rq hW := .of_unit (.newPut s r rq hW)
  newGet s r rq hW := .of_unit (.newGet s r rq hW)
  cancelPut s r e hW ho hk hm := .of_unit (.cancelPut s r e hW ho hk hm)
  cancelGet s r e hW ho hk hm := .of_unit (.cancelGet s r e hW ho hk hm)

theorem reach_units (body : σ → Resume → Burst ℚ σ) (fuel : Nat) (s s' : KState ℚ σ) (hW : WF s)
    (hr : SafeReach body fuel s s') : UnitSeq s s' :=
  (UnitsRel.crel.reach body fuel s s' hW hr).2

theorem UnitSeq.wf {s s' : KState ℚ σ} (h : UnitSeq s s') (hW : WF s) : WF s' :=
  (Base.crel.of_unitSeq h).keepWF hW

theorem AUnit.grant_put {s s' : KState ℚ σ} (h : AUnit s s') {r : ResId} {e : EvId} (hk : (s.ev e).kind = .put r)
    (ho : (s.ev e).out = none) (ho' : (s'.ev e).out ≠ none) :
    ∃ rest, (s.res r).putQ = e :: rest ∧ canPut s r e = true ∧ s' = grantPutSt s r e := by
  obtain ⟨hW, hQ | ⟨r0, e0, rest, hq, hc, rfl⟩ | ⟨r0, e0, v, pre, rest, hq, hg, _, rfl⟩⟩ := h.cases3
  · rw [hQ.out e (isReq_of_put hk), ho] at ho'; exact absurd rfl ho'
  · have hmem : e0 ∈ (s.res r0).putQ := by rw [hq]; exact List.mem_cons_self
    by_cases hee : e = e0
    · subst hee
      have hr : r = r0 := Kind.put.inj (hk.symm.trans (hW.putQ r0 e hmem).1)
      subst hr
      exact ⟨rest, hq, hc, rfl⟩
    · rw [(Base.putEffect_of_guard hW hq).outOther e hee, ho] at ho'; exact absurd rfl ho'
  · have hmem : e0 ∈ (s.res r0).getQ := by rw [hq]; simp
    have hne : e ≠ e0 := ne_of_kind_ne (s := s) (by rw [hk, (hW.getQ r0 e0 hmem).1]; exact Kind.noConfusion)
    rw [(Base.getEffect_of_guard hW hq hg).outOther e hne, ho] at ho'; exact absurd rfl ho'

theorem AUnit.grant_get {s s' : KState ℚ σ} (h : AUnit s s') {r : ResId} {e : EvId} (hk : (s.ev e).kind = .get r)
    (ho : (s.ev e).out = none) (ho' : (s'.ev e).out ≠ none) :
    ∃ v pre rest, (s.res r).getQ = pre ++ e :: rest ∧ getItem s r e = some v ∧
      (∀ a ∈ pre, (s.res r).kind = .fstore ∧ getItem s r a = none) ∧ s' = grantGetSt s r e v := by
  obtain ⟨hW, hQ | ⟨r0, e0, rest, hq, _, rfl⟩ | ⟨r0, e0, v, pre, rest, hq, hg, hp, rfl⟩⟩ := h.cases3
  · rw [hQ.out e (isReq_of_get hk), ho] at ho'; exact absurd rfl ho'
  · have hmem : e0 ∈ (s.res r0).putQ := by rw [hq]; exact List.mem_cons_self
    have hne : e ≠ e0 := ne_of_kind_ne (s := s) (by rw [hk, (hW.putQ r0 e0 hmem).1]; exact Kind.noConfusion)
    rw [(Base.putEffect_of_guard hW hq).outOther e hne, ho] at ho'; exact absurd rfl ho'
  · have hmem : e0 ∈ (s.res r0).getQ := by rw [hq]; simp
    by_cases hee : e = e0
    · subst hee
      have hr : r = r0 := Kind.get.inj (hk.symm.trans (hW.getQ r0 e hmem).1)
      subst hr
      exact ⟨v, pre, rest, hq, hg, hp, rfl⟩
    · rw [(Base.getEffect_of_guard hW hq hg).outOther e hee, ho] at ho'; exact absurd rfl ho'

theorem AUnit.grant_get_head {s s' : KState ℚ σ} (h : AUnit s s') {r : ResId} {e : EvId} (hk : (s.ev e).kind = .get r)
    (ho : (s.ev e).out = none) (ho' : (s'.ev e).out ≠ none) (hf : (s.res r).kind ≠ .fstore) :
    ∃ v rest, (s.res r).getQ = e :: rest ∧ getItem s r e = some v ∧ s' = grantGetSt s r e v := by
  obtain ⟨v, pre, rest, hq, hg, hp, hs⟩ := h.grant_get hk ho ho'
  cases pre with
  | nil => exact ⟨v, rest, hq, hg, hs⟩
  | cons p ps => exact absurd (hp p List.mem_cons_self).1 hf

theorem UnitSeq.base {s s' : KState ℚ σ} (h : UnitSeq s s') : Base s s' := Base.crel.of_unitSeq h

theorem UnitSeq.first_grant {s s' : KState ℚ σ} (h : UnitSeq s s') {e : EvId} (ho : (s.ev e).out = none)
    (ho' : (s'.ev e).out ≠ none) :
    ∃ t t', UnitSeq s t ∧ AUnit t t' ∧ UnitSeq t' s' ∧ (t.ev e).out = none ∧ (t'.ev e).out ≠ none := by
  induction h with
  | refl => exact absurd ho ho'
  | @snoc s1 s2 h1 hu ih =>
    by_cases hmid : (s1.ev e).out = none
    · exact ⟨s1, s2, h1, hu, UnitSeq.refl _, hmid, ho'⟩
    · obtain ⟨t, t', ht, hu', ht', h1', h2'⟩ := ih hmid
      exact ⟨t, t', ht, hu', UnitSeq.snoc ht' hu, h1', h2'⟩

/-- **Every granted put was, at the moment of its grant, the head of its queue**: if `e` is a waiting put of `r` in `s`
and granted in `s'`, the unit sequence from `s` to `s'` passes through a state `t` in which `e` heads the queue and
`_do_put`'s guard holds, and continues from `grantPutSt t r e`. -/
theorem UnitSeq.grant_put_moment {s s' : KState ℚ σ} (h : UnitSeq s s') {r : ResId} {e : EvId}
    (hk : (s.ev e).kind = .put r) (ho : (s.ev e).out = none) (ho' : (s'.ev e).out ≠ none) :
    ∃ t rest, UnitSeq s t ∧ UnitSeq (grantPutSt t r e) s' ∧ (t.res r).putQ = e :: rest ∧ canPut t r e = true ∧
      (t.ev e).out = none := by
  obtain ⟨t, t', ht, hu, ht', hto, hto'⟩ := h.first_grant ho ho'
  have hk1 : (t.ev e).kind = .put r := by rw [ht.base.kind e (lt_size_of_put hk)]; exact hk
  obtain ⟨rest, hq, hc, rfl⟩ := hu.grant_put hk1 hto hto'
  exact ⟨t, rest, ht, ht', hq, hc, hto⟩

/-- **Every granted get was granted in its turn**: at the moment of its grant it could be served, and every queue
member in front of it belonged to a `FilterStore` and matched no item. -/
theorem UnitSeq.grant_get_moment {s s' : KState ℚ σ} (h : UnitSeq s s') {r : ResId} {e : EvId}
    (hk : (s.ev e).kind = .get r) (ho : (s.ev e).out = none) (ho' : (s'.ev e).out ≠ none) :
    ∃ t v pre rest, UnitSeq s t ∧ UnitSeq (grantGetSt t r e v) s' ∧ (t.res r).getQ = pre ++ e :: rest ∧
      getItem t r e = some v ∧ (∀ a ∈ pre, (t.res r).kind = .fstore ∧ getItem t r a = none) ∧ (t.ev e).out = none ∧
      (s'.ev e).out = some (.ok v) := by
  obtain ⟨t, t', ht, hu, ht', hto, hto'⟩ := h.first_grant ho ho'
  have hk1 : (t.ev e).kind = .get r := by rw [ht.base.kind e (lt_size_of_get hk)]; exact hk
  obtain ⟨v, pre, rest, hq, hg, hp, rfl⟩ := hu.grant_get hk1 hto hto'
  have hE := Base.getEffect_of_guard hu.cases3.1 hq hg
  refine ⟨t, v, pre, rest, ht, ht', hq, hg, hp, hto, ?_⟩
  rw [ht'.base.outStable e (isReq_of_get (by rw [hE.kind]; exact hk1)) hto', hE.outE]

end Conserve
