import OnlVerif.Lemmas.RRKRun
import OnlVerif.Lemmas.MQKLts
/-!
# The RR scheduler on the kernel model: every configuration step is accepted by the MultiQueueServer LTS

`toM a now` is the LTS state (`Net/MultiQueue.lean` with the record `RR.sched`) a configuration stands for.  For each
constructor of `AStep` the LTS accepts the corresponding action (`init`, `put`, `tokenHandoff`, `wake`, `pktResume`,
`sendInit`, `sendFire`, `sendDone`, or nothing) from `toM a` to `toM a'`; and the clock advance is an accepted `tick`.
`toM a now` is `Img.st` of the records of `a` (`Lemmas/MQKLts.lean`), where what each action does to such a state is proved for
any scheduler; what is proved here is the `for` loop of `RR.run` (`settle_scan`, `settle_scan_init` for the first
burst, `settle_loop`).
-/

namespace RRK
open RROnK MQ
open MQK (Img)

theorem foldl_addKey_mem (kc : List Nat) : ∀ (l : List Nat), (∀ f ∈ l, f ∈ kc) → l.foldl addKey kc = kc :=
  MQK.foldl_addKey_mem kc

section toM
variable (flows : List Nat) (flow size : Int → Nat)

def ctlOf : RPhase → RR.Pc
  | .H _ i _ _ => .got i
  | .S _ i _ _ => .sent i
  | .T _ _ i _ _ => .sent i
  | .F _ i _ _ => .sent i
  | _ => .at 0

def phaseOf : RPhase → Phase ℚ
  | .init _ => .idle
  | .W _ => .waitToken
  | .K _ _ => .tokenHanded
  | .H _ _ id _ => .pktHanded (flow id) (pktOf flow size id)
  | .S _ _ id _ => .spawned (pktOf flow size id)
  | .T _ _ _ id q => .sending (pktOf flow size id) q.time
  | .F _ _ id _ => .finished (pktOf flow size id)

/-- the keys of `queue_count`: none before the first burst of `run`, the declared flows from then on -/
def ckeys : RPhase → List Nat
  | .init _ => []
  | _ => flows

@[simp] theorem ckeys_init (q : QEntry ℚ) : ckeys flows (.init q) = [] := rfl
@[simp] theorem ckeys_W (g : EvId) : ckeys flows (.W g) = flows := rfl
@[simp] theorem ckeys_K (g : EvId) (q : QEntry ℚ) : ckeys flows (.K g q) = flows := rfl
@[simp] theorem ckeys_H (g : EvId) (i : Nat) (id : Int) (q : QEntry ℚ) : ckeys flows (.H g i id q) = flows := rfl
@[simp] theorem ckeys_S (p : EvId) (i : Nat) (id : Int) (q : QEntry ℚ) : ckeys flows (.S p i id q) = flows := rfl
@[simp] theorem ckeys_T (p t : EvId) (i : Nat) (id : Int) (q : QEntry ℚ) : ckeys flows (.T p t i id q) = flows := rfl
@[simp] theorem ckeys_F (p : EvId) (i : Nat) (id : Int) (q : QEntry ℚ) : ckeys flows (.F p i id q) = flows := rfl

def img (a : A) (r : RPhase) : Img :=
  { keys := a.keys, ckeys := ckeys flows r, items := a.items, cnt := a.cnt, byt := a.byt, tokens := a.tokens, cur := a.cur
    recv := a.recv }

def toM (a : A) (now : ℚ) : MQState ℚ RR.Pc :=
  (img flows a a.run).st (pktOf flow size) now (ctlOf a.run) (phaseOf flow size a.run)

end toM

variable {F : Nat} {flow size : Int → Nat} {cfg : RR.Cfg ℚ}
variable {a : A} {now : ℚ} {q : QEntry ℚ}

theorem toM_run {r : RPhase} (h : a.run = r) (t : ℚ) :
    toM cfg.flows flow size a t = (img cfg.flows a r).st (pktOf flow size) t (ctlOf r) (phaseOf flow size r) := by
  rw [← h]; rfl

theorem toM_phase (t : ℚ) : (toM cfg.flows flow size a t).phase = phaseOf flow size a.run := rfl
theorem toM_ctl (t : ℚ) : (toM cfg.flows flow size a t).ctl = ctlOf a.run := rfl

theorem storeOf_toM (hi : AInv flow F cfg a now) (t : ℚ) (f : Nat) (hf : f < F) :
    storeOf (toM cfg.flows flow size a t).stores f = (a.items f).map (pktOf flow size) :=
  MQK.storeOf_dictOf _ _ f fun hk => congrArg (List.map _) (hi.keysOK.2 f hf hk).1

theorem flows_nodup (hi : AInv flow F cfg a now) : cfg.flows.Nodup :=
  hi.table.nodup_iff.mpr List.nodup_range

theorem total_flows (hi : AInv flow F cfg a now) : MQ.total (dictOf cfg.flows a.cnt) = a.total F := by
  rw [A.total, sumFrom_eq]
  exact MQK.total_eq a.cnt F cfg.flows (flows_nodup hi) (fun f hf => (mem_flows hi f).mp hf)
    (fun f hf hk => absurd ((mem_flows hi f).mpr hf) hk)

theorem sched_micro : (RR.sched cfg).micro = RR.micro cfg := rfl
theorem sched_reads : (RR.sched cfg).reads = RR.reads cfg := rfl

variable {n e : Nat} {t : ℚ} {pk : Int → MPkt}

theorem settle_scan (c : Img) (hn : c.ckeys.Nodup) (m : Nat) : ∀ (suffix : List Nat) (i : Nat),
    cfg.flows.drop i = suffix → (∀ f ∈ suffix, f ∈ c.ckeys) → (∀ f ∈ suffix, 0 < c.cnt f → f ∈ c.keys) →
    settle (RR.sched cfg) (suffix.length + 1 + m) (c.st pk t (.at i) .running) =
      match firstHit c.cnt i suffix with
      | some (j, f) => issueGet (c.st pk t (.got j) .running) f
      | none => settle (RR.sched cfg) m (c.st pk t .endPass .running)
  | [], i, hd, _, _ => by
    have hnone : cfg.flows[i]? = none := List.getElem?_eq_none_iff.mpr (List.drop_eq_nil_iff.mp hd)
    rw [List.length_nil, Nat.zero_add, Nat.add_comm]
    exact MQK.settle_goto m (MQK.touch_none _ _ _ _ _ (by simp only [sched_reads, RR.reads, hnone]))
      (by simp only [sched_micro, RR.micro, hnone])
  | f :: rest, i, hd, hk, hst => by
    obtain ⟨hsome, hd'⟩ := KExec.drop_cons hd
    have hfk := hk f List.mem_cons_self
    have ht := MQK.touch_mem (pk := pk) (RR.sched cfg) c t (.at i) .running (by simp only [sched_reads, RR.reads, hsome]) hn hfk
    rw [List.length_cons, show rest.length + 1 + 1 + m = (rest.length + 1 + m) + 1 by omega]
    simp only [firstHit]
    by_cases hpos : 0 < c.cnt f
    · rw [if_pos hpos]
      exact MQK.settle_get _ ht (by
        simp only [sched_micro, RR.micro, hsome, MQK.view_count _ _ _ _ hfk, MQK.view_hasStore, hpos, if_true,
          hst f List.mem_cons_self hpos, decide_true])
    · rw [if_neg hpos]
      exact (MQK.settle_goto _ ht (by simp only [sched_micro, RR.micro, hsome, MQK.view_count _ _ _ _ hfk, hpos, if_false])).trans
        (settle_scan c hn m rest (i + 1) hd' (fun x hx => hk x (List.mem_cons_of_mem _ hx))
          (fun x hx => hst x (List.mem_cons_of_mem _ hx)))

/-- the first burst of `run`: every counter is 0, every read inserts its key -/
theorem settle_scan_init (c : Img) (hz : ∀ f, c.cnt f = 0) (hn : cfg.flows.Nodup) (m : Nat) : ∀ (suffix : List Nat) (i : Nat),
    cfg.flows.drop i = suffix →
    settle (RR.sched cfg) (suffix.length + 1 + m) (({ c with ckeys := cfg.flows.take i } : Img).st pk t (.at i) .running) =
      settle (RR.sched cfg) m (({ c with ckeys := cfg.flows } : Img).st pk t .endPass .running)
  | [], i, hd => by
    have hlen : cfg.flows.length ≤ i := List.drop_eq_nil_iff.mp hd
    have hnone : cfg.flows[i]? = none := List.getElem?_eq_none_iff.mpr hlen
    rw [List.length_nil, Nat.zero_add, Nat.add_comm, List.take_of_length_le hlen]
    exact MQK.settle_goto m (MQK.touch_none _ _ _ _ _ (by simp only [sched_reads, RR.reads, hnone]))
      (by simp only [sched_micro, RR.micro, hnone])
  | f :: rest, i, hd => by
    obtain ⟨hsome, hd'⟩ := KExec.drop_cons hd
    have htake : cfg.flows.take (i + 1) = cfg.flows.take i ++ [f] := by
      rw [List.take_add_one, hsome]; rfl
    have hnd : (cfg.flows.take i ++ [f]).Nodup := htake ▸ hn.sublist (List.take_sublist _ _)
    have hnk : f ∉ cfg.flows.take i := fun hm => (List.nodup_append.mp hnd).2.2 f hm f (by simp) rfl
    have ht := MQK.touch_new (pk := pk) (RR.sched cfg) { c with ckeys := cfg.flows.take i } t (.at i) .running
      (by simp only [sched_reads, RR.reads, hsome]) (List.nodup_append.mp hnd).1 hnk (hz f)
    rw [List.length_cons, show rest.length + 1 + 1 + m = (rest.length + 1 + m) + 1 by omega]
    refine (MQK.settle_goto _ ht (k' := .at (i + 1)) ?_).trans ?_
    · have hc : (view (({ c with ckeys := cfg.flows.take i ++ [f] } : Img).st pk t (RR.Pc.at i) .running)).count f = 0 :=
        (MQK.view_count _ _ _ _ (List.mem_append_right _ (List.mem_singleton_self f))).trans (hz f)
      simp only [sched_micro, RR.micro, hsome, hc, lt_irrefl, if_false]
    · rw [← htake]
      exact settle_scan_init c hz hn m rest (i + 1) hd'

theorem settle_endPass (c : Img) (m : Nat) :
    settle (RR.sched cfg) (m + 1) (c.st pk t .endPass .running) =
      if MQ.total (dictOf c.ckeys c.cnt) = 0 then .ok (blockOnToken (c.st pk t (.at 0) .running))
      else settle (RR.sched cfg) m (c.st pk t (.at 0) .running) := by
  have ht := MQK.touch_none (pk := pk) (RR.sched cfg) c t .endPass .running rfl
  split
  · rename_i h
    exact MQK.settle_block m ht (if_pos h)
  · rename_i h
    exact MQK.settle_goto m ht (if_neg h)

theorem settle_loop (hi : AInv flow F cfg a now) {c : Img} (hck : c.ckeys = cfg.flows) (hcnt : c.cnt = a.cnt)
    (hst : ∀ f, f < F → 0 < a.cnt f → f ∈ c.keys) (i : Nat) :
    (∀ {j f}, a.loop F cfg.flows i = .hit j f →
      settle (RR.sched cfg) (2 * cfg.flows.length + 6) (c.st pk t (.at i) .running) = issueGet (c.st pk t (.got j) .running) f) ∧
    (a.loop F cfg.flows i = .idle →
      settle (RR.sched cfg) (2 * cfg.flows.length + 6) (c.st pk t (.at i) .running) =
        .ok (blockOnToken (c.st pk t (.at 0) .running))) := by
  have hlen : (cfg.flows.drop i).length ≤ cfg.flows.length := by simp
  have hscan : ∀ m i, settle (RR.sched cfg) ((cfg.flows.drop i).length + 1 + m) (c.st pk t (.at i) .running) = _ := fun m i =>
    settle_scan c (hck ▸ flows_nodup hi) m _ i rfl (fun f hf => hck ▸ List.mem_of_mem_drop hf)
      (fun f hf hpos => hst f ((mem_flows hi f).mp (List.mem_of_mem_drop hf)) (hcnt ▸ hpos))
  have htot : MQ.total (dictOf c.ckeys c.cnt) = a.total F := by rw [hck, hcnt, total_flows hi]
  obtain ⟨m, hm⟩ : ∃ m, 2 * cfg.flows.length + 6 = (cfg.flows.drop i).length + 1 + ((cfg.flows.drop 0).length + 1 + m + 1) :=
    ⟨cfg.flows.length + 3 - (cfg.flows.drop i).length, by simp only [List.drop_zero]; omega⟩
  rw [hm, hscan, hcnt]
  refine ⟨fun {j f} hs => ?_, fun hs => ?_⟩
  · rcases loop_hit_iff.mp hs with h1 | ⟨h1, ht, h2⟩
    · rw [h1]
    · rw [h1]
      simp only
      rw [settle_endPass, htot, if_neg ht, hscan, hcnt, List.drop_zero, h2]
  · obtain ⟨h1, ht⟩ := loop_idle_iff.mp hs
    rw [h1]
    simp only
    rw [settle_endPass, htot, if_pos ht]

theorem settle_end_hit (hi : AInv flow F cfg a now) (hn : a.keys.Nodup) {r : RPhase} (hck : ckeys cfg.flows r = cfg.flows)
    {i j f : Nat} {id : Int} {is : List Int} (hs : a.loop F cfg.flows i = .hit j f) (hf : f < F) (hit : a.items f = id :: is)
    {q' : QEntry ℚ} {g : EvId} :
    settle (RR.sched cfg) (2 * cfg.flows.length + 6) ((img cfg.flows a r).st (pktOf flow size) t (.at i) .running) =
      .ok (toM cfg.flows flow size { a with run := .H g j id q', items := upd a.items f is } t) := by
  have hfl : flow id = f := hi.flowOK f hf id (by rw [hit]; simp)
  refine ((settle_loop hi (c := img cfg.flows a r) hck rfl (key_of_cnt hi) i).1 hs).trans ?_
  refine (MQK.issueGet_st (img cfg.flows a r) t (RR.Pc.got j) hn (hi.store.key_of_items hf (by rw [hit]; simp)) hit _).trans ?_
  rw [← hfl, toM_run rfl]
  simp only [img, hck, ckeys_H]
  rfl

theorem settle_end_block (hi : AInv flow F cfg a now) {r : RPhase} (hck : ckeys cfg.flows r = cfg.flows) {i : Nat}
    (hs : a.loop F cfg.flows i = .idle) (htk : a.tokens = 0) {g : EvId} :
    settle (RR.sched cfg) (2 * cfg.flows.length + 6) ((img cfg.flows a r).st (pktOf flow size) t (.at i) .running) =
      .ok (toM cfg.flows flow size { a with run := .W g } t) := by
  refine ((settle_loop hi (c := img cfg.flows a r) hck rfl (key_of_cnt hi) i).2 hs).trans ?_
  refine (congrArg _ (MQK.blockOnToken_st_zero (img cfg.flows a r) t (RR.Pc.at 0) htk _)).trans ?_
  rw [toM_run rfl]
  simp only [img, hck, ckeys_W]
  rfl

theorem settle_end_tok (hi : AInv flow F cfg a now) {r : RPhase} (hck : ckeys cfg.flows r = cfg.flows) {i k : Nat}
    (hs : a.loop F cfg.flows i = .idle) (htk : a.tokens = k + 1) {g : EvId} {q' : QEntry ℚ} :
    settle (RR.sched cfg) (2 * cfg.flows.length + 6) ((img cfg.flows a r).st (pktOf flow size) t (.at i) .running) =
      .ok (toM cfg.flows flow size { a with run := .K g q', tokens := k } t) := by
  refine ((settle_loop hi (c := img cfg.flows a r) hck rfl (key_of_cnt hi) i).2 hs).trans ?_
  refine (congrArg _ (MQK.blockOnToken_st_succ (img cfg.flows a r) t (RR.Pc.at 0) htk _)).trans ?_
  rw [toM_run rfl]
  simp only [img, hck, ckeys_K]
  rfl

theorem settle_init (hi : AInv flow F cfg a now) (q0 : QEntry ℚ) (hcn : ∀ f, a.cnt f = 0) (htk : a.tokens = 0) {g : EvId} :
    settle (RR.sched cfg) (2 * cfg.flows.length + 6)
        ((img cfg.flows a (.init q0)).st (pktOf flow size) t (.at 0) .running) =
      .ok (toM cfg.flows flow size { a with run := .W g } t) := by
  have htot : MQ.total (dictOf cfg.flows a.cnt) = 0 := by
    rw [total_flows hi]; exact sumFrom_all_zero _ _ _ (fun j _ _ => hcn j)
  rw [show 2 * cfg.flows.length + 6 = (cfg.flows.drop 0).length + 1 + (cfg.flows.length + 4 + 1) by simp only [List.drop_zero]; omega]
  refine (settle_scan_init (img cfg.flows a (.init q0)) hcn (flows_nodup hi) _ _ 0 rfl).trans ?_
  rw [settle_endPass]
  exact (if_pos htot).trans (congrArg _ (MQK.blockOnToken_st_zero (img cfg.flows a (.W g)) t (RR.Pc.at 0) htk _))

def LtsOK (flow size : Int → Nat) (cfg : RR.Cfg ℚ) (a : A) (t : ℚ) (a' : A) (ins outs : List MPkt) : Prop :=
  ∃ acts, runActs (RR.sched cfg) (toM cfg.flows flow size a t) acts = .ok (toM cfg.flows flow size a' t, ins, outs)

theorem ltsOK_nothing {a' : A} {t : ℚ} (h : toM cfg.flows flow size a' t = toM cfg.flows flow size a t) : LtsOK flow size cfg a t a' [] [] :=
  ⟨[], by rw [h]; rfl⟩

theorem ltsOK_one {a' : A} {t : ℚ} {r : RPhase} (hr : a.run = r) (act : MAct ℚ) (o : MOut ℚ)
    (h : MQ.step (RR.sched cfg) ((img cfg.flows a r).st (pktOf flow size) t (ctlOf r) (phaseOf flow size r)) act =
      .ok (toM cfg.flows flow size a' t, o)) :
    LtsOK flow size cfg a t a' (insOf act) (outOf o) :=
  ⟨[act], MQK.runActs_one (by rw [toM_run hr]; exact h)⟩

def putPk (flow size : Int → Nat) : List (HEv ℚ) → List MPkt
  | [] => []
  | .put id _ :: r => pktOf flow size id :: putPk flow size r
  | _ :: r => putPk flow size r

def outPk (flow size : Int → Nat) : List (HEv ℚ) → List MPkt
  | [] => []
  | .out id _ :: r => pktOf flow size id :: outPk flow size r
  | _ :: r => outPk flow size r

theorem txTime_eq (id : Int) : MQ.txTime (RR.sched cfg) (pktOf flow size id) = RROnK.txTime size cfg.rate id := rfl

theorem lts_wake {a' : A} {g : EvId} (h : a.run = .K g q)
    (hend : settle (RR.sched cfg) (2 * cfg.flows.length + 6)
      ((img cfg.flows a (.K g q)).st (pktOf flow size) t (.at 0) .running) = .ok (toM cfg.flows flow size a' t)) :
    LtsOK flow size cfg a t a' [] [] :=
  ltsOK_one h .wake .nothing ((MQK.step_wake _ _ _ _).trans (congrArg _ hend))

theorem lts_done {a' : A} {p : EvId} {i : Nat} {id0 : Int} (h : a.run = .F p i id0 q)
    (hend : settle (RR.sched cfg) (2 * cfg.flows.length + 6)
      ((img cfg.flows a (.F p i id0 q)).st (pktOf flow size) t (.at (i + 1)) .running) = .ok (toM cfg.flows flow size a' t)) :
    LtsOK flow size cfg a t a' [] [] :=
  ltsOK_one h .sendDone .nothing ((MQK.step_sendDone _ _ _ _ rfl).trans (congrArg _ hend))

theorem lts_put (hi : AInv flow F cfg a q.time) (hmin : IsMin a q) (hn : a.keys.Nodup) (hrecv : 0 ≤ a.recv) {id : Int}
    {arr : List (ℚ × Int)} (h : a.src = .wait id arr q) (tk : Bool) (htk : tk = true ↔ a.total F = 0) (src' : SPhase)
    (new : List (QEntry ℚ × ResId)) :
    LtsOK flow size cfg a q.time { a with
        src := src'
        pend := a.pend ++ new
        tokens := a.tokens + (if tk then 1 else 0)
        items := upd a.items (flow id) (a.items (flow id) ++ [id])
        cnt := upd a.cnt (flow id) (a.cnt (flow id) + 1)
        byt := upd a.byt (flow id) (a.byt (flow id) + (size id : Int))
        recv := a.recv + 1
        keys := addKey a.keys (flow id) } [pktOf flow size id] [] := by
  have hrun := hi.run
  have hs := hi.src
  rw [h] at hs
  obtain ⟨-, hfid, -⟩ := hs
  have hck : ckeys cfg.flows a.run = cfg.flows := by
    cases hr : a.run with
    | init q0 => exact absurd hr (run_started hi hmin h q0)
    | _ => rfl
  have hkf : flow id ∈ ckeys cfg.flows a.run := by rw [hck]; exact (mem_flows hi _).mpr hfid
  have h0 := fun hk => hi.keysOK.2 _ hfid hk
  refine ltsOK_one rfl (.put (pktOf flow size id)) .accepted ((MQK.step_put
    (RR.sched cfg) (img cfg.flows a a.run) _ _ flow size hn (by rw [img, hck]; exact flows_nodup hi) _ rfl rfl rfl rfl
    (fun hk => (h0 hk).1) (fun hk => (h0 hk).2.2) (fun hk => absurd hkf hk) hrecv tk (by rw [htk, ← total_flows hi, img, hck])).trans ?_)
  simp only [img, MQK.addKey_of_mem _ _ hkf]
  rfl

theorem lts_step {a' : A} {new : List (HEv ℚ)} (hi : AInv flow F cfg a q.time) (hmin : IsMin a q) (hn : a.keys.Nodup)
    (hrecv : 0 ≤ a.recv) (hs : AStep F flow size cfg n e a q a' new) :
    LtsOK flow size cfg a q.time a' (putPk flow size new) (outPk flow size new) := by
  have hrun := hi.run
  cases hs with
  | runInit h =>
    rw [h] at hrun
    obtain ⟨-, -, htk, -, -, hcn, -, -⟩ := hrun
    refine ltsOK_one h .init .nothing ?_
    exact (MQK.step_init _ _ _ _).trans (congrArg _ (settle_init hi q hcn htk))
  | wakeHit g j f id is h hs hf hit => exact lts_wake h (settle_end_hit hi hn rfl hs hf hit)
  | wakeBlock g h hs htk => exact lts_wake h (settle_end_block hi rfl hs htk)
  | wakeTok g t h hs htk => exact lts_wake h (settle_end_tok hi rfl hs htk)
  | pktResume g i id h => exact ltsOK_one h .pktResume .nothing (MQK.step_pktResume _ _ _ _ rfl)
  | sendInit p i id h =>
    exact ltsOK_one h .sendInit (.started (pktOf flow size id) (q.time + RROnK.txTime size cfg.rate id))
      (MQK.step_sendInit _ _ _ _ id)
  | sendFire p t i id h =>
    rw [h] at hrun
    obtain ⟨-, hcur, hfid⟩ := hrun
    have hpos : 0 < a.cnt (flow id) := by
      have h2 := hi.cntOK _ hfid
      simp only [heldCnt, h, RPhase.held, if_true] at h2
      omega
    exact ltsOK_one h .sendFire (.depart (pktOf flow size id))
      (MQK.step_sendFire _ _ _ _ flow size hn (flows_nodup hi) rfl rfl (key_of_cnt hi _ hfid hpos)
        ((mem_flows hi _).mpr hfid))
  | doneHit p i id0 j f id is h hs hf hit => exact lts_done h (settle_end_hit hi hn rfl hs hf hit)
  | doneBlock p i id0 h hs htk => exact lts_done h (settle_end_block hi rfl hs htk)
  | doneTok p i id0 t h hs htk => exact lts_done h (settle_end_tok hi rfl hs htk)
  | srcInit arr h | srcEnd h | pendNoop r l1 l2 hpe hno => exact ltsOK_nothing rfl
  | srcPutTok id arr h htot => exact lts_put hi hmin hn hrecv h true (by simp [htot]) _ _
  | srcPutPlain id arr h htot => exact lts_put hi hmin hn hrecv h false (by simp [htot]) _ _
  | pendHand g t l1 l2 hpe h htk => exact ltsOK_one h .tokenHandoff .nothing (MQK.step_tokenHandoff _ _ _ _ htk)

theorem lts_tick (hi : AInv flow F cfg a now) (hq : IsMin a q) (h : now < q.time) :
    MQ.step (RR.sched cfg) (toM cfg.flows flow size a now) (.tick q.time) = .ok (toM cfg.flows flow size a q.time, .nothing) := by
  have hnlt : ¬ q.time < now := not_lt.mpr (le_of_lt h)
  rcases (hi.quiet hq h).1 with ⟨⟨g, hr⟩, htk⟩ | ⟨p, t, i, id, q0, hr⟩
  · rw [toM_run hr, toM_run hr]
    exact MQK.step_tick_wait _ _ _ _ hnlt htk
  · have h2 : ¬ q0.time < q.time := not_lt.mpr (not_keyLt_time (hq.2 q0 (mem_run (by simp [hr, RPhase.entries]))))
    rw [toM_run hr, toM_run hr]
    exact MQK.step_tick_sending _ _ _ _ hnlt h2

theorem lts_advance (hi : AInv flow F cfg a now) (hq : IsMin a q) :
    ∃ acts, runActs (RR.sched cfg) (toM cfg.flows flow size a now) acts = .ok (toM cfg.flows flow size a q.time, [], []) := by
  rcases eq_or_lt_of_le (hi.now_le hq) with h | h
  · exact ⟨[], by rw [← h]; rfl⟩
  · refine ⟨[.tick q.time], ?_⟩
    simp only [runActs, lts_tick hi hq h]
    rfl

/-! ## what the LTS side needs of a configuration besides `AInv`: the dict keys and `packets_received` -/

def putIds : List (HEv ℚ) → List Int
  | [] => []
  | .put id _ :: r => id :: putIds r
  | _ :: r => putIds r

theorem putIds_append (l1 l2 : List (HEv ℚ)) : putIds (l1 ++ l2) = putIds l1 ++ putIds l2 := by
  induction l1 with
  | nil => rfl
  | cons x r ih => cases x <;> simp [putIds, ih]

theorem putPk_append (l1 l2 : List (HEv ℚ)) : putPk flow size (l1 ++ l2) = putPk flow size l1 ++ putPk flow size l2 := by
  induction l1 with
  | nil => rfl
  | cons x r ih => cases x <;> simp [putPk, ih]

theorem outPk_append (l1 l2 : List (HEv ℚ)) : outPk flow size (l1 ++ l2) = outPk flow size l1 ++ outPk flow size l2 := by
  induction l1 with
  | nil => rfl
  | cons x r ih => cases x <;> simp [outPk, ih]

structure LInv (flow : Int → Nat) (a : A) (hist : List (HEv ℚ)) : Prop where
  keys : a.keys = keysOf flow (putIds hist)
  recv : a.recv = ((putIds hist).length : Nat)

theorem keysOf_append (ids : List Int) (id : Int) : keysOf flow (ids ++ [id]) = addKey (keysOf flow ids) (flow id) := by
  simp [keysOf, List.foldl_append]

theorem addKey_nodup (l : List Nat) (k : Nat) (h : l.Nodup) : (addKey l k).Nodup :=
  MQK.addKey_nodup l k h

theorem keysOf_nodup (ids : List Int) : (keysOf flow ids).Nodup :=
  MQK.foldl_addKey_nodup flow ids [] List.nodup_nil

theorem LInv.nodup {hist : List (HEv ℚ)} (h : LInv flow a hist) : a.keys.Nodup := by
  rw [h.keys]; exact keysOf_nodup _

theorem LInv.recv_nonneg {hist : List (HEv ℚ)} (h : LInv flow a hist) : 0 ≤ a.recv := by
  rw [h.recv]; exact Int.natCast_nonneg _

theorem LInv.same {a' : A} {hist new : List (HEv ℚ)} (h : LInv flow a hist) (hk : a'.keys = a.keys) (hr : a'.recv = a.recv)
    (hp : putIds new = []) : LInv flow a' (hist ++ new) :=
  ⟨by rw [putIds_append, hp, List.append_nil, hk, h.keys], by rw [putIds_append, hp, List.append_nil, hr, h.recv]⟩

theorem LInv.put {a' : A} {hist new : List (HEv ℚ)} {id : Int} (h : LInv flow a hist) (hk : a'.keys = addKey a.keys (flow id))
    (hr : a'.recv = a.recv + 1) (hp : putIds new = [id]) : LInv flow a' (hist ++ new) :=
  ⟨by rw [putIds_append, hp, keysOf_append, hk, h.keys],
   by rw [putIds_append, hp, hr, h.recv, List.length_append, List.length_singleton, Nat.cast_succ]⟩

theorem linv_step {a' : A} {hist new : List (HEv ℚ)} (h : LInv flow a hist) (hs : AStep F flow size cfg n e a q a' new) :
    LInv flow a' (hist ++ new) := by
  cases hs with
  | srcPutTok | srcPutPlain => exact h.put rfl rfl rfl
  | _ => exact h.same rfl rfl rfl

end RRK
