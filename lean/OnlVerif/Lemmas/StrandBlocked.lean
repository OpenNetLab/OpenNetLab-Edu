import OnlVerif.Lemmas.StrandFrame
/-!
# What "blocked" depends on

`putOk` / `getItem` read only the contents of the resource record (not its queues) and the key fields of the request
records involved; pending rescans stay pending along frame steps.
-/

variable {σ : Type}

theorem Pend.mono {s s' : KState ℚ σ} (f : Fr s s') {rem : List Cb} {cb : Cb} (ht : cb.isTrig = true)
    (h : Pend s rem cb) : Pend s' rem cb := by
  rcases h with h | ⟨q, hq, htime, l, hl, hm⟩
  · exact Or.inl h
  · obtain ⟨new, hnew⟩ := f.agenda
    obtain ⟨l', hl', hm'⟩ := f.cbs q.ev l hl
    exact Or.inr ⟨q, by rw [hnew]; exact List.mem_append_right _ hq, by rw [f.now_eq]; exact htime, l', hl', hm' cb ht hm⟩

theorem Pend.tail {s : KState ℚ σ} {rem : List Cb} {cb c0 : Cb} (hne : cb ≠ c0) (h : Pend s (c0 :: rem) cb) :
    Pend s rem cb := by
  rcases h with h | h
  · rcases List.mem_cons.mp h with h | h
    · exact absurd h hne
    · exact Or.inl h
  · exact Or.inr h

/-- the callback just run was not the rescan of this queue -/
theorem MainP.tail {s : KState ℚ σ} {rem : List Cb} {c0 : Cb} {r : ResId} (hne : Cb.trigPut r ≠ c0)
    (h : MainP s (c0 :: rem) r) : MainP s rem r := h.imp_right (Pend.tail hne)

theorem MainG.tail {s : KState ℚ σ} {rem : List Cb} {c0 : Cb} {r : ResId} (hne : Cb.trigGet r ≠ c0)
    (h : MainG s (c0 :: rem) r) : MainG s rem r := h.imp_right (Pend.tail hne)

/-! ## the eviction step of a `PreemptiveResource` -/

theorem prePut_of_ne (s : KState ℚ σ) (r : ResId) (e : EvId) (h : (s.res r).kind ≠ .preemptive) : prePut s r e = s := by
  unfold prePut
  cases hk : (s.res r).kind <;> first | rfl | exact absurd hk h

theorem prePut_of_eq (s : KState ℚ σ) (r : ResId) (e : EvId) (h : (s.res r).kind = .preemptive) :
    prePut s r e = preemptStep s r e := by
  unfold prePut
  rw [h]; rfl

/-- the users after the eviction attempt of request `e` -/
def evictUsers (s : KState ℚ σ) (r : ResId) (e : EvId) : List EvId :=
  if (s.res r).capacity.any (fun c => decide (c ≤ (s.res r).users.length)) && (reqOf s e).preempt then
    match worstUser s (s.res r).users with
    | none => (s.res r).users
    | some w => if keyLt (reqOf s e) (reqOf s w) then (s.res r).users.erase w else (s.res r).users
  else (s.res r).users

theorem res_preemptStep (s : KState ℚ σ) (r : ResId) (e : EvId) (hin : r < s.resources.size) (r' : ResId) :
    (preemptStep s r e).res r' = if r' = r then { s.res r with users := evictUsers s r e } else s.res r' := by
  have hsame : s.res r' = if r' = r then { s.res r with users := (s.res r).users } else s.res r' := by
    split
    · rename_i h; rw [h]
    · rfl
  unfold preemptStep evictUsers
  simp only
  by_cases hcnd : ((s.res r).capacity.any (fun c => decide (c ≤ (s.res r).users.length)) && (reqOf s e).preempt) = true
  · simp only [hcnd, if_true]
    cases hw : worstUser s (s.res r).users with
    | none => exact hsame
    | some w =>
      simp only
      by_cases hlt : keyLt (reqOf s e) (reqOf s w) = true
      · simp only [hlt, if_true]
        cases hp : (reqOf s w).proc with
        | none =>
          simp only
          unfold KState.setUsers
          rw [KState.res_setRes]
          simp only [hin, and_true]
        | some vp =>
          simp only
          rw [res_mkInterrupt]
          unfold KState.setUsers
          rw [KState.res_setRes]
          simp only [hin, and_true]
      · simp only [hlt]
        exact hsame
  · simp only [hcnd]
    exact hsame

theorem putOk_preemptive (s : KState ℚ σ) (r : ResId) (e : EvId) (hk : (s.res r).kind = .preemptive)
    (hin : r < s.resources.size) :
    putOk s r e = hasRoom (s.res r).capacity (evictUsers s r e).length := by
  unfold putOk
  rw [prePut_of_eq s r e hk]
  unfold canPut
  simp only [res_preemptStep s r e hin, if_true, hk]

/-- same contents (the queues may differ) -/
structure SameContents (a b : ResRec) : Prop where
  kind : a.kind = b.kind
  capacity : a.capacity = b.capacity
  users : a.users = b.users
  level : a.level = b.level
  items : a.items = b.items

theorem SameContents.rfl' (a : ResRec) : SameContents a a := ⟨rfl, rfl, rfl, rfl, rfl⟩
theorem SameContents.of_eq {a b : ResRec} (h : a = b) : SameContents a b := h ▸ SameContents.rfl' a

theorem strip_preempt {a b : ReqData ℚ} (h : a.strip = b.strip) : a.preempt = b.preempt :=
  (congrArg ReqData.preempt h : a.strip.preempt = b.strip.preempt)
theorem strip_amount {a b : ReqData ℚ} (h : a.strip = b.strip) : a.amount = b.amount :=
  (congrArg ReqData.amount h : a.strip.amount = b.strip.amount)
theorem strip_filter {a b : ReqData ℚ} (h : a.strip = b.strip) : a.filter = b.filter :=
  (congrArg ReqData.filter h : a.strip.filter = b.strip.filter)

theorem keyLt_congr {a a' b b' : ReqData ℚ} (ha : a'.strip = a.strip) (hb : b'.strip = b.strip) :
    keyLt a' b' = keyLt a b := by
  show keyLt a'.strip b'.strip = keyLt a.strip b.strip
  rw [ha, hb]

theorem worstUser_congr {s s' : KState ℚ σ} : ∀ (l : List EvId),
    (∀ w ∈ l, (reqOf s' w).strip = (reqOf s w).strip) → worstUser s' l = worstUser s l := by
  intro l
  induction l with
  | nil => exact fun _ => rfl
  | cons u us ih =>
    intro h
    unfold worstUser
    rw [ih (fun w hw => h w (List.mem_cons_of_mem _ hw))]
    cases hw : worstUser s us with
    | none => rfl
    | some w =>
      simp only
      rw [keyLt_congr (h w (List.mem_cons_of_mem _ (worstUser_mem s us w hw))) (h u List.mem_cons_self)]

theorem evictUsers_congr {s s' : KState ℚ σ} {r : ResId} {e : EvId} (hc : SameContents (s'.res r) (s.res r))
    (he : (reqOf s' e).strip = (reqOf s e).strip)
    (hu : ∀ w ∈ (s.res r).users, (reqOf s' w).strip = (reqOf s w).strip) :
    evictUsers s' r e = evictUsers s r e := by
  unfold evictUsers
  rw [hc.capacity, hc.users, worstUser_congr _ hu]
  have hp : (reqOf s' e).preempt = (reqOf s e).preempt := strip_preempt he
  rw [hp]
  cases hw : worstUser s (s.res r).users with
  | none => rfl
  | some w =>
    simp only
    rw [keyLt_congr he (hu w (worstUser_mem s _ w hw))]

theorem putOk_congr {s s' : KState ℚ σ} {r : ResId} {e : EvId} (hc : SameContents (s'.res r) (s.res r))
    (he : (reqOf s' e).strip = (reqOf s e).strip)
    (hu : ∀ w ∈ (s.res r).users, (reqOf s' w).strip = (reqOf s w).strip) :
    putOk s' r e = putOk s r e := by
  by_cases hk : (s.res r).kind = .preemptive
  · have hk' : (s'.res r).kind = .preemptive := hc.kind.trans hk
    rw [putOk_preemptive s r e hk (res_lt_of_kind (by rw [hk]; simp)),
      putOk_preemptive s' r e hk' (res_lt_of_kind (by rw [hk']; simp)), evictUsers_congr hc he hu, hc.capacity]
  · have hk' : (s'.res r).kind ≠ .preemptive := by rw [hc.kind]; exact hk
    unfold putOk
    rw [prePut_of_ne s r e hk, prePut_of_ne s' r e hk']
    unfold canPut
    have ha : (reqOf s' e).amount = (reqOf s e).amount := strip_amount he
    simp only [hc.kind, hc.capacity, hc.users, hc.level, hc.items, ha]

theorem getItem_congr {s s' : KState ℚ σ} {r : ResId} {e : EvId} (hc : SameContents (s'.res r) (s.res r))
    (he : (reqOf s' e).strip = (reqOf s e).strip) : getItem s' r e = getItem s r e := by
  unfold getItem
  have ha : (reqOf s' e).amount = (reqOf s e).amount := strip_amount he
  have hf : (reqOf s' e).filter = (reqOf s e).filter := strip_filter he
  simp only [hc.kind, hc.level, hc.items, ha, hf]

theorem PutBlocked.congr {s s' : KState ℚ σ} {r : ResId} (h : Pkg s none)
    (hreq : ∀ x, x < s.events.size → (reqOf s' x).strip = (reqOf s x).strip) (hc : SameContents (s'.res r) (s.res r)) (hq : (s'.res r).putQ = (s.res r).putQ) (hb : PutBlocked s r) :
    PutBlocked s' r := by
  intro e he
  rw [hq] at he
  have hm : e ∈ (s.res r).putQ := List.mem_of_mem_head? he
  obtain ⟨l, hl, _⟩ := (h.putQ r e hm).2.2
  rw [putOk_congr hc (hreq e (KState.lt_of_cbs hl)) (fun w hw => hreq w (h.usersIn r w hw))]
  exact hb e he

theorem GetBlocked.congr {s s' : KState ℚ σ} {r : ResId} (h : Pkg s none)
    (hreq : ∀ x, x < s.events.size → (reqOf s' x).strip = (reqOf s x).strip) (hc : SameContents (s'.res r) (s.res r)) (hq : (s'.res r).getQ = (s.res r).getQ) (hb : GetBlocked s r) :
    GetBlocked s' r := by
  have key : ∀ e ∈ (s.res r).getQ, getItem s' r e = getItem s r e := by
    intro e hm
    obtain ⟨l, hl, _⟩ := (h.getQ r e hm).2.2
    exact getItem_congr hc (hreq e (KState.lt_of_cbs hl))
  constructor
  · intro e he
    rw [hq] at he
    rw [key e (List.mem_of_mem_head? he)]
    exact hb.1 e he
  · intro hk e hm
    rw [hq] at hm
    rw [key e hm]
    exact hb.2 (hc.kind ▸ hk) e hm

theorem MainP.mono {s s' : KState ℚ σ} {rem : List Cb} {r : ResId} (h : Pkg s none) (f : Fr s s')
    (hc : SameContents (s'.res r) (s.res r)) (hq : (s'.res r).putQ = (s.res r).putQ) (hm : MainP s rem r) :
    MainP s' rem r := by
  rcases hm with hm | hm
  · exact Or.inl (hm.congr h f.req hc hq)
  · exact Or.inr (hm.mono f rfl)

theorem MainG.mono {s s' : KState ℚ σ} {rem : List Cb} {r : ResId} (h : Pkg s none) (f : Fr s s')
    (hc : SameContents (s'.res r) (s.res r)) (hq : (s'.res r).getQ = (s.res r).getQ) (hm : MainG s rem r) :
    MainG s' rem r := by
  rcases hm with hm | hm
  · exact Or.inl (hm.congr h f.req hc hq)
  · exact Or.inr (hm.mono f rfl)

/-- a step that leaves all resources alone keeps `Main` -/
theorem Main.nr {s s' : KState ℚ σ} {rem : List Cb} (h : Pkg s none) (n : NR s s') (hm : Main s rem) : Main s' rem := by
  intro r
  have hr := n.res_eq r
  exact ⟨(hm r).1.mono h n.fr (SameContents.of_eq hr) (by rw [hr]), (hm r).2.mono h n.fr (SameContents.of_eq hr) (by rw [hr])⟩

theorem ChkRem.fr {s s' : KState ℚ σ} {rem : List Cb} (f : Fr s s') (h : ChkRem s rem) : ChkRem s' rem := by
  intro c hc
  have := h c hc
  rw [isCond_congr (f.kind c (isCond_lt this))]; exact this

/-- **non-resource steps keep the loop invariant** -/
theorem J.nr {s s' : KState ℚ σ} {rem : List Cb} (h : J s rem) (hp : Pkg s' none) (n : NR s s') : J s' rem :=
  ⟨hp, h.chk.fr n.fr, h.main.nr h.pkg n⟩
