import OnlVerif.Lemmas.WireKDefs
import OnlVerif.Lemmas.TimerKAbs
import OnlVerif.Lemmas.FifoKCommon
/-!
# The Wire on the kernel model: configuration steps (no kernel terms here)

`AStep a q a' new`: processing the agenda entry `q` takes the configuration `a` to `a'` and the wire forwards `new`.
The clock can advance to the next entry without changing anything else (`AInv.advance`).
-/

set_option linter.unusedSimpArgs false

namespace WireK
open WireOnK QEntry

variable (cfg : WireCfg ℚ) (losses delays : List ℚ)

/-- **one kernel step, seen on configurations**: the agenda entry `q` is processed; `outs` are forwarded; `lf` = the ids of
the packets that leave the wire in this step, forwarded or dropped -/
inductive AStep : A → QEntry ℚ → A → List (Int × ℚ) → List Int → Prop
  | wireInit (a : A) (q : QEntry ℚ) (g : EvId) (h : a.wire = .init q) :
      AStep a q { a with wire := .W g q.time 0 0 } [] []
  | srcInitEnd (a : A) (q q' : QEntry ℚ) (h : a.src = .init q []) (ht : q'.time = q.time) (hp : q'.prio = NORMAL) :
      AStep a q { a with src := .ending q' } [] []
  | srcInitWait (a : A) (q q' : QEntry ℚ) (gap : ℚ) (rest : List ℚ)
      (h : a.src = .init q (gap :: rest)) (ht : q'.time = q.time + gap) (hp : q'.prio = NORMAL) :
      AStep a q { a with src := .wait 0 rest q' } [] []
  | srcPutEnd (a : A) (q u q' : QEntry ℚ) (next : Nat) (h : a.src = .wait next [] q) (hn : a.pend = none)
      (hu : u.time = q.time ∧ u.prio = NORMAL) (ht : q'.time = q.time ∧ q'.prio = NORMAL) :
      AStep a q { a with src := .ending q', pend := some u, items := a.items ++ [(next : Int)], cts := a.cts ++ [q.time] } [] []
  | srcPutWait (a : A) (q u q' : QEntry ℚ) (next : Nat) (gap : ℚ) (rest : List ℚ)
      (h : a.src = .wait next (gap :: rest) q) (hn : a.pend = none)
      (hu : u.time = q.time ∧ u.prio = NORMAL) (ht : q'.time = q.time + gap ∧ q'.prio = NORMAL) (ho : u.eid < q'.eid) :
      AStep a q { a with src := .wait (next + 1) rest q', pend := some u, items := a.items ++ [(next : Int)],
                         cts := a.cts ++ [q.time] } [] []
  | putIdle (a : A) (q : QEntry ℚ) (h : a.pend = some q) (hw : a.wire.getQ = [] ∨ a.items = []) :
      AStep a q { a with pend := none } [] []
  | putHand (a : A) (q q' : QEntry ℚ) (g : EvId) (t0 : ℚ) (nl nd : Nat) (i : Int) (is : List Int) (h : a.pend = some q)
      (hw : a.wire = .W g t0 nl nd) (hi : a.items = i :: is) (ht : q'.time = q.time ∧ q'.prio = NORMAL) :
      AStep a q { a with pend := none, wire := .H g i q' t0 nl nd, items := is } [] []
  | serveLostIdle (a : A) (q : QEntry ℚ) (g g' : EvId) (id : Int) (t0 : ℚ) (nl nd : Nat) (h : a.wire = .H g id q t0 nl nd)
      (hl : isLost cfg (draw losses nl) = true) (hi : a.items = []) :
      AStep a q { a with wire := .W g' q.time (nlNext cfg nl) nd } [] [id]
  | serveLostNext (a : A) (q q' : QEntry ℚ) (g g' : EvId) (id : Int) (t0 : ℚ) (nl nd : Nat) (i : Int) (is : List Int)
      (h : a.wire = .H g id q t0 nl nd) (hl : isLost cfg (draw losses nl) = true) (hi : a.items = i :: is)
      (ht : q'.time = q.time ∧ q'.prio = NORMAL) :
      AStep a q { a with wire := .H g' i q' q.time (nlNext cfg nl) nd, items := is } [] [id]
  | serveWait (a : A) (q q' : QEntry ℚ) (g t : EvId) (id : Int) (t0 : ℚ) (nl nd : Nat) (h : a.wire = .H g id q t0 nl nd)
      (hl : isLost cfg (draw losses nl) = false) (hw : q.time - a.ctOf id < draw delays nd)
      (ht : q'.time = q.time + (draw delays nd - (q.time - a.ctOf id)) ∧ q'.prio = NORMAL) :
      AStep a q { a with wire := .T t id q' (nlNext cfg nl) (nd + 1) } [] []
  | serveOutIdle (a : A) (q : QEntry ℚ) (g g' : EvId) (id : Int) (t0 : ℚ) (nl nd : Nat) (h : a.wire = .H g id q t0 nl nd)
      (hl : isLost cfg (draw losses nl) = false) (hw : ¬ q.time - a.ctOf id < draw delays nd) (hi : a.items = []) :
      AStep a q { a with wire := .W g' q.time (nlNext cfg nl) (nd + 1) } [(id, q.time)] [id]
  | serveOutNext (a : A) (q q' : QEntry ℚ) (g g' : EvId) (id : Int) (t0 : ℚ) (nl nd : Nat) (i : Int) (is : List Int)
      (h : a.wire = .H g id q t0 nl nd) (hl : isLost cfg (draw losses nl) = false)
      (hw : ¬ q.time - a.ctOf id < draw delays nd) (hi : a.items = i :: is) (ht : q'.time = q.time ∧ q'.prio = NORMAL) :
      AStep a q { a with wire := .H g' i q' q.time (nlNext cfg nl) (nd + 1), items := is } [(id, q.time)] [id]
  | fireIdle (a : A) (q : QEntry ℚ) (t g : EvId) (id : Int) (nl nd : Nat) (h : a.wire = .T t id q nl nd) (hi : a.items = []) :
      AStep a q { a with wire := .W g q.time nl nd } [(id, q.time)] [id]
  | fireNext (a : A) (q q' : QEntry ℚ) (t g : EvId) (id : Int) (nl nd : Nat) (i : Int) (is : List Int)
      (h : a.wire = .T t id q nl nd) (hi : a.items = i :: is) (ht : q'.time = q.time ∧ q'.prio = NORMAL) :
      AStep a q { a with wire := .H g i q' q.time nl nd, items := is } [(id, q.time)] [id]
  | srcEnd (a : A) (q : QEntry ℚ) (h : a.src = .ending q) : AStep a q { a with src := .done } [] []

variable {cfg losses delays}

theorem mem_wire {a : A} {x : QEntry ℚ} (h : x ∈ a.wire.entries) : x ∈ a.entries := by
  simp [A.entries, h]

theorem mem_src {a : A} {x : QEntry ℚ} (h : x ∈ a.src.entries) : x ∈ a.entries := by
  simp [A.entries, h]

theorem mem_pend {a : A} {x : QEntry ℚ} (h : a.pend = some x) : x ∈ a.entries := by
  simp [A.entries, h]

/-- `q` is a minimal entry of the configuration: what `popMin` returns -/
def IsMin (a : A) (q : QEntry ℚ) : Prop := q ∈ a.entries ∧ ∀ x ∈ a.entries, ¬ KeyLt x q

variable {arrivals : List ℚ} {a : A} {now : ℚ} {outs : List (Int × ℚ)} {q : QEntry ℚ}

theorem AInv.now_le (hi : AInv cfg losses delays arrivals a now outs) (hq : IsMin a q) : now ≤ q.time := hi.due q hq.1

/-- no entry is due now: no `StorePut` is pending, and the server sleeps or waits at an empty store -/
theorem AInv.quiet (hi : AInv cfg losses delays arrivals a now outs) (hne : ∀ x ∈ a.entries, x.time ≠ now) :
    a.pend = none ∧
      ((∃ t id q0 nl nd, a.wire = .T t id q0 nl nd) ∨ (∃ g t0 nl nd, a.wire = .W g t0 nl nd) ∧ a.items = []) := by
  have hpe : a.pend = none := by
    cases hp : a.pend with
    | none => rfl
    | some u => exact absurd (hi.pend u hp).1 (hne u (mem_pend hp))
  refine ⟨hpe, ?_⟩
  have hp := hi.wire
  cases hw : a.wire with
  | init q0 => rw [hw] at hp; exact absurd hp.1 (hne q0 (mem_wire (hw ▸ List.mem_singleton_self q0)))
  | H g id q0 t0 nl nd => rw [hw] at hp; exact absurd hp.1 (hne q0 (mem_wire (hw ▸ List.mem_singleton_self q0)))
  | T t id q0 nl nd => exact .inl ⟨t, id, q0, nl, nd, rfl⟩
  | W g t0 nl nd =>
    refine .inr ⟨⟨g, t0, nl, nd, rfl⟩, ?_⟩
    by_contra hc
    have := hi.idle (hw ▸ rfl) hc
    rw [hpe] at this; cases this

/-- the packets still to come do not depend on `now` once the clock can advance -/
theorem future_advance (hi : AInv cfg losses delays arrivals a now outs) (hq : IsMin a q) :
    a.src.future q.time = a.src.future now := by
  have hs := hi.src
  cases hsrc : a.src with
  | init q0 arr =>
    rw [hsrc] at hs
    rw [min_time_eq hi.due hq (mem_src (hsrc ▸ List.mem_singleton_self q0)) hs.1]
  | wait next rest q0 => rfl
  | ending q0 => rfl
  | done => rfl

/-- **letting the clock advance to the next entry changes nothing else** -/
theorem AInv.advance (hi : AInv cfg losses delays arrivals a now outs) (hq : IsMin a q) :
    AInv cfg losses delays arrivals a q.time outs := by
  rcases eq_or_lt_of_le (hi.now_le hq) with h | h
  · rw [← h]; exact hi
  have hne := min_ne_now hi.due hq h
  obtain ⟨hpn, hw⟩ := hi.quiet hne
  refine ⟨?_, ?_, (fun u hu => nomatch hpn ▸ hu), hi.idle, fun x hx => not_keyLt_time (hq.2 x hx),
    fun i hi' => ⟨(hi.its i hi').1, (hi.its i hi').2.1, (hi.its i hi').2.2.trans h.le⟩, ?_⟩
  · have hp := hi.wire
    rcases hw with ⟨t, id, q0, nl, nd, e⟩ | ⟨⟨g, t0, nl, nd, e⟩, hit⟩ <;> rw [e] at hp ⊢
    · exact hp
    · exact ⟨hp.1.trans h.le, fun i hi' => absurd hit (List.ne_nil_of_mem hi')⟩
  · have hs := hi.src
    cases hsrc : a.src with
    | init q0 arr => rw [hsrc] at hs; exact absurd hs.1 (hne q0 (mem_src (hsrc ▸ List.mem_singleton_self q0)))
    | wait next rest q0 => rw [hsrc] at hs; exact hs
    | ending q0 => rw [hsrc] at hs; exact absurd hs.1 (hne q0 (mem_src (hsrc ▸ List.mem_singleton_self q0)))
    | done => trivial
  · rw [← hi.ghost]
    congr 1
    unfold pred A.waiting
    rw [future_advance hi hq]

theorem getD_snoc_lt (l : List ℚ) (x : ℚ) (k : Nat) (h : k < l.length) : (l ++ [x]).getD k 0 = l.getD k 0 := by
  simp [List.getD_eq_getElem?_getD, List.getElem?_append_left h]

theorem getD_snoc_eq (l : List ℚ) (x : ℚ) : (l ++ [x]).getD l.length 0 = x := by
  simp [List.getD_eq_getElem?_getD]

end WireK
