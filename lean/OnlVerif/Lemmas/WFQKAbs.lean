import OnlVerif.Lemmas.WFQKDefs
import OnlVerif.Lemmas.VCKAbs
/-!
# The WFQ scheduler on the kernel model: the weight sum over the active classes (a natural number, at least 1 if a class is
active), minimal agenda entries of a configuration, the clock advance
-/


namespace WFQK
open WFQOnK QEntry

variable {N scale F : Nat} {flow size : Int → Nat} {cfg : WfqCfg ℚ} {d1 L : Nat}

theorem mem_run {a : A} {x : QEntry ℚ} (h : x ∈ a.run.entries) : x ∈ a.entries := by
  simp [A.entries, h]

theorem mem_src {a : A} {x : QEntry ℚ} (h : x ∈ a.src.entries) : x ∈ a.entries := by
  simp [A.entries, h]

theorem mem_pend {a : A} {u : QEntry ℚ} (h : u ∈ a.pend) : u ∈ a.entries := by
  simp [A.entries, h]

theorem mem_addKey (l : List Nat) (k x : Nat) : x ∈ addKey l k ↔ x ∈ l ∨ x = k := VCK.mem_addKey_iff

theorem keysOf_snoc (ids : List Int) (id : Int) : keysOf flow (ids ++ [id]) = addKey (keysOf flow ids) (flow id) :=
  VCK.keysOf_snoc ids id

theorem mem_keysOf_iff {flow : Int → Nat} {ids : List Int} {f : Nat} : f ∈ keysOf flow ids ↔ ∃ id ∈ ids, flow id = f :=
  VCK.mem_keysOf_iff

theorem mem_keysOf {ids : List Int} {id : Int} (h : id ∈ ids) : flow id ∈ keysOf flow ids :=
  mem_keysOf_iff.mpr ⟨id, h, rfl⟩

theorem nItems_nonneg (l : List PutRec) (f : Nat) : 0 ≤ nItems flow l f := Int.natCast_nonneg _

theorem ind_nonneg (o : Option Int) (f : Nat) : 0 ≤ ind flow o f := by
  unfold ind; split
  · split <;> decide
  · decide

theorem ind_held_le (r : RPhase) (f : Nat) : ind flow r.held f ≤ ind flow r.heldC f := by
  cases r with
  | F p id q0 => exact ind_nonneg _ _
  | _ => exact le_refl _

theorem txTime_nonneg {rate : ℚ} (hrate : 0 < rate) (id : Int) : 0 ≤ txTime size rate id :=
  Num.ofNat_div_nonneg _ hrate

theorem sumFrom_eq (c : Nat → Int) : ∀ (n f : Nat), sumFrom c f n = MQK.sumFrom c f n
  | 0, _ => rfl
  | n + 1, f => congrArg (c f + ·) (sumFrom_eq c n (f + 1))

theorem sumFrom_ne (c : Nat → Int) (n f : Nat) (h : sumFrom c f n ≠ 0) : ∃ j, f ≤ j ∧ j < f + n ∧ c j ≠ 0 :=
  Classical.by_contradiction fun hn => h ((sumFrom_eq c n f).trans (MQK.sumFrom_all_zero c n f fun j h1 h2 =>
    Classical.not_not.mp fun hj => hn ⟨j, h1, h2, hj⟩))

theorem nAct_eq (act : Nat → Bool) : ∀ (n c : Nat) (acc : Int),
    nAct act c n acc = acc + (((List.range' c n).filter fun x => act x).length : Int)
  | 0, c, acc => by simp [nAct]
  | n + 1, c, acc => by
    rw [List.range'_succ]
    simp only [nAct, nAct_eq act n (c + 1), List.filter_cons]
    by_cases hc : act c = true
    · simp only [hc, if_true, List.length_cons]; push_cast; ring
    · simp only [hc, Bool.false_eq_true, if_false]; ring

theorem nAct_zero_iff (act : Nat → Bool) (F : Nat) : nAct act 0 F 0 = 0 ↔ ∀ c, c < F → act c = false := by
  rw [nAct_eq, zero_add, Int.natCast_eq_zero, List.length_eq_zero_iff, List.filter_eq_nil_iff]
  simp [List.mem_range'_1]

theorem CfgOK.wOf_pos (hc : CfgOK F cfg) {c : Nat} (h : c < F) : 0 < wOf cfg c := by
  obtain ⟨n, hn, hl⟩ := hc.w c h
  simp only [wOf, hl, Option.getD_some]
  exact_mod_cast hn

/-- a configured weight is a positive natural number, the one `wTotal` adds up -/
theorem wOf_nat (hc : CfgOK F cfg) {c : Nat} (h : c < F) :
    ∃ n : Nat, 1 ≤ n ∧ wOf cfg c = (n : ℚ) ∧ (wOf cfg c).num.toNat = n := by
  obtain ⟨n, hn, hl⟩ := hc.w c h
  refine ⟨n, hn, ?_, ?_⟩
  · unfold wOf; rw [hl]; rfl
  · unfold wOf; rw [hl]
    show ((n : ℚ)).num.toNat = n
    rw [Rat.num_natCast, Int.toNat_natCast]

theorem mem_le_sum : ∀ (l : List Nat) (x : Nat), x ∈ l → x ≤ l.sum
  | [], _, h => by cases h
  | y :: r, x, h => by
    rw [List.sum_cons]
    rcases List.mem_cons.mp h with rfl | h
    · omega
    · have := mem_le_sum r x h
      omega

theorem wOf_le_total (hc : CfgOK F cfg) {c : Nat} (h : c < F) :
    ∃ n : Nat, wOf cfg c = (n : ℚ) ∧ 1 ≤ n ∧ n ≤ wTotal F cfg := by
  obtain ⟨n, hn, h1, h2⟩ := wOf_nat hc h
  refine ⟨n, h1, hn, ?_⟩
  unfold wTotal
  apply mem_le_sum
  rw [← h2]
  exact List.mem_map_of_mem (f := fun c => (wOf cfg c).num.toNat) (List.mem_range.mpr h)

def wRange (cfg : WfqCfg ℚ) (c n : Nat) : Nat := ((List.range' c n).map fun c => (wOf cfg c).num.toNat).sum

theorem wRange_zero (c : Nat) : wRange cfg c 0 = 0 := rfl

theorem wRange_succ (c n : Nat) : wRange cfg c (n + 1) = (wOf cfg c).num.toNat + wRange cfg (c + 1) n := by
  unfold wRange
  rw [List.range'_succ, List.map_cons, List.sum_cons]

theorem wTotal_eq : wTotal F cfg = wRange cfg 0 F := by
  unfold wTotal wRange
  rw [List.range_eq_range']

theorem wsum_nat_acc (hc : CfgOK F cfg) (act : Nat → Bool) : ∀ (n c k0 : Nat), c + n ≤ F →
    ∃ k : Nat, wsum cfg act c n (k0 : ℚ) = (k : ℚ) ∧ k0 ≤ k ∧ k ≤ k0 + wRange cfg c n ∧
      ((∃ c', c ≤ c' ∧ c' < c + n ∧ act c' = true) → k0 + 1 ≤ k)
  | 0, c, k0, _ => ⟨k0, rfl, le_refl _, by simp [wRange_zero], by rintro ⟨c', h1, h2, -⟩; omega⟩
  | n + 1, c, k0, h => by
    obtain ⟨m, hm, h1, h2⟩ := wOf_nat hc (show c < F by omega)
    rw [wRange_succ, h2]
    unfold wsum
    cases ha : act c with
    | true =>
      obtain ⟨k, e1, e2, e3, -⟩ := wsum_nat_acc hc act n (c + 1) (k0 + m) (by omega)
      refine ⟨k, ?_, by omega, by omega, fun _ => by omega⟩
      rw [if_pos rfl, h1, ← e1]
      push_cast
      rfl
    | false =>
      obtain ⟨k, e1, e2, e3, e4⟩ := wsum_nat_acc hc act n (c + 1) k0 (by omega)
      refine ⟨k, ?_, e2, by omega, ?_⟩
      · rw [if_neg (by simp), e1]
      · rintro ⟨c', g1, g2, g3⟩
        apply e4
        refine ⟨c', ?_, by omega, g3⟩
        rcases Nat.lt_or_ge c c' with g | g
        · exact g
        · have : c' = c := by omega
          rw [this, ha] at g3
          cases g3

theorem wsum_nat (hc : CfgOK F cfg) (act : Nat → Bool) (c n : Nat) (h : c + n ≤ F) :
    ∃ k : Nat, wsum cfg act c n 0 = (k : ℚ) ∧ k ≤ wRange cfg c n := by
  obtain ⟨k, e1, -, e3, -⟩ := wsum_nat_acc hc act n c 0 h
  exact ⟨k, by simpa using e1, by omega⟩

theorem wsum_nat_range (hc : CfgOK F cfg) (act : Nat → Bool) (c n : Nat) (h : c + n ≤ F) :
    ∃ k : Nat, wsum cfg act c n 0 = (k : ℚ) ∧ k ≤ ((List.range' c n).map fun c => (wOf cfg c).num.toNat).sum :=
  wsum_nat hc act c n h

theorem ws_nat (hc : CfgOK F cfg) (a : A) : ∃ k : Nat, a.ws F cfg = (k : ℚ) ∧ k ≤ wTotal F cfg := by
  unfold A.ws
  rw [wTotal_eq]
  exact wsum_nat hc a.act 0 F (by omega)

theorem ws_nat_pos (hc : CfgOK F cfg) (a : A) (hact : ∃ c, c < F ∧ a.act c = true) :
    ∃ k : Nat, a.ws F cfg = (k : ℚ) ∧ 1 ≤ k ∧ k ≤ wTotal F cfg := by
  obtain ⟨k, e1, -, e3, e4⟩ := wsum_nat_acc hc a.act F 0 0 (by omega)
  obtain ⟨c, h1, h2⟩ := hact
  refine ⟨k, by simpa [A.ws] using e1, ?_, by rw [wTotal_eq]; omega⟩
  have := e4 ⟨c, by omega, by omega, h2⟩
  omega

theorem ws_pos (hc : CfgOK F cfg) (a : A) (hact : ∃ c, c < F ∧ a.act c = true) : 0 < a.ws F cfg := by
  obtain ⟨k, e1, e2, -⟩ := ws_nat_pos hc a hact
  rw [e1]
  exact Nat.cast_pos.mpr (by omega)

theorem weightSum_range' (hc : CfgOK F cfg) (act : Nat → Bool) : ∀ (n c : Nat) (acc : ℚ), c + n ≤ F →
    WFQ.weightSum cfg.weights ((List.range' c n).filter act) acc = .ok (wsum cfg act c n acc)
  | 0, _, _, _ => rfl
  | n + 1, c, acc, h => by
    obtain ⟨m, -, hl⟩ := hc.w c (by omega)
    have hw : wOf cfg c = (m : ℚ) := by simp only [wOf, hl, Option.getD_some]
    rw [List.range'_succ]
    simp only [wsum]
    by_cases ha : act c = true
    · rw [List.filter_cons_of_pos ha, if_pos ha]
      simp only [WFQ.weightSum, hl]
      rw [hw]
      exact weightSum_range' hc act n (c + 1) _ (by omega)
    · rw [List.filter_cons_of_neg ha, if_neg ha]
      exact weightSum_range' hc act n (c + 1) _ (by omega)

theorem weightSum_range (hc : CfgOK F cfg) (act : Nat → Bool) :
    WFQ.weightSum cfg.weights ((List.range F).filter act) (Num.zero : ℚ) = .ok (wsum cfg act 0 F 0) := by
  rw [List.range_eq_range', zero_eq']
  exact weightSum_range' hc act F 0 0 (by omega)

theorem lookup_mem (l : List (Nat × ℚ)) (k : Nat) (v : ℚ) (h : Stamp.lookup l k = some v) : (k, v) ∈ l :=
  VCK.lookup_mem l k v h

def IsMin (a : A) (q : QEntry ℚ) : Prop := q ∈ a.entries ∧ ∀ x ∈ a.entries, ¬ KeyLt x q

variable {a : A} {now : ℚ} {q : QEntry ℚ}

theorem AInv.now_le (hi : AInv N scale size F flow cfg d1 L a now) (hq : IsMin a q) : now ≤ q.time := hi.due q hq.1

theorem AInv.advance (hi : AInv N scale size F flow cfg d1 L a now) (hq : IsMin a q) : AInv N scale size F flow cfg d1 L a q.time := by
  rcases eq_or_lt_of_le (hi.now_le hq) with h | h
  · rw [← h]; exact hi
  have hne : ∀ x ∈ a.entries, x.time ≠ now := min_ne_now hi.due hq h
  refine ⟨?_, ?_, ?_, ?_, hi.sub, hi.mono, ?_, hi.keysOK, hi.cntOK, hi.clsOK, hi.actOK, hi.fsetOK, ?_, hi.lastG, le_trans hi.lastLe (le_of_lt h),
    hi.vtG, hi.finG, hi.entG, hi.cfgOK, hi.grid⟩
  · have hp := hi.run
    cases hr : a.run with
    | W g | T p t id q0 => rw [hr] at hp; exact hp
    | _ => rw [hr] at hp; exact absurd hp.1 (hne _ (mem_run (by simp [hr, RPhase.entries])))
  · have hs := hi.src
    cases hsrc : a.src with
    | wait id rest q0 => rw [hsrc] at hs; exact hs
    | done => trivial
    | _ => rw [hsrc] at hs; exact absurd hs.1 (hne _ (mem_src (by simp [hsrc, SPhase.entries])))
  · intro u hu
    exact absurd (hi.pend u hu).1 (hne u (mem_pend hu))
  · intro x hx; exact not_keyLt_time (hq.2 x hx)
  · intro w hw
    obtain ⟨h1, h2, h3, h4, h5, h6⟩ := hi.putOK w hw
    exact ⟨h1, h2, h3, le_trans h4 (le_of_lt h), h5, h6⟩
  · intro hpe
    obtain ⟨u, hu⟩ := List.exists_mem_of_ne_nil _ hpe
    exact absurd (hi.pend u hu).1 (hne u (mem_pend hu))

theorem AInv.items_nil (hi : AInv N scale size F flow cfg d1 L a now) {g : EvId} (hr : a.run = .W g) (hpe : a.pend = []) :
    a.items = [] := by
  have hp := hi.run
  rw [hr] at hp
  exact Classical.not_not.mp fun hc => hp.1 hc hpe

theorem AInv.keys_lt (hi : AInv N scale size F flow cfg d1 L a now) : ∀ f ∈ a.keys flow, f < F := by
  intro f hf
  obtain ⟨id, hid, rfl⟩ := mem_keysOf_iff.mp hf
  obtain ⟨w, hw, rfl⟩ := List.mem_map.mp hid
  exact (hi.putOK w hw).1

theorem AInv.putsOK (hi : AInv N scale size F flow cfg d1 L a now) : StampK.PutsOK N scale a.puts :=
  ⟨by obtain ⟨h1, h2, h3, -⟩ := hi.grid; rw [h3]; exact Nat.mul_pos h1 h2, hi.mono,
    fun w hw => ⟨(hi.putOK w hw).2.1, (hi.putOK w hw).2.2.1, (hi.putOK w hw).2.2.2.2.1⟩⟩

theorem AInv.act_of_cnt (hi : AInv N scale size F flow cfg d1 L a now) {f : Nat} (hf : f < F) (h : a.cnt f ≠ 0) :
    a.act f = true := by
  rw [hi.actOK f hf, hi.clsOK f hf]
  have h1 := hi.cntOK f hf
  have h2 := ind_held_le (flow := flow) a.run f
  have h3 := ind_nonneg (flow := flow) a.run.held f
  have h4 := nItems_nonneg (flow := flow) a.items f
  omega

theorem act_of_total (hi : AInv N scale size F flow cfg d1 L a now) (h : a.total F ≠ 0) : ∃ c, c < F ∧ a.act c = true := by
  obtain ⟨f, -, hf, hc⟩ := sumFrom_ne a.cnt F 0 h
  exact ⟨f, by omega, hi.act_of_cnt (by omega) hc⟩

theorem AInv.of_total (hi : AInv N scale size F flow cfg d1 L a now) (h : a.total F ≠ 0) :
    a.ws F cfg ≠ 0 ∧ a.fset = true := by
  obtain ⟨f, -, hf, hc⟩ := sumFrom_ne a.cnt F 0 h
  have hf : f < F := by omega
  refine ⟨ne_of_gt (ws_pos hi.cfgOK a ⟨f, hf, hi.act_of_cnt hf hc⟩), hi.fsetOK ?_⟩
  intro hp
  have := ((hi.keysOK f hf).1 (by simp [hp, keysOf])).1
  exact hc this

/-- the packet whose transmission has ended is still booked in `class_count`: its class is active -/
theorem AInv.of_heldC (hi : AInv N scale size F flow cfg d1 L a now) {id0 : Int} (hh : a.run.heldC = some id0)
    (hf : flow id0 < F) :
    a.ws F cfg ≠ 0 ∧ ∃ n, a.cls (flow id0) = some n ∧ 1 ≤ n ∧ a.act (flow id0) = true := by
  have h1 := hi.clsOK _ hf
  have h4 := nItems_nonneg (flow := flow) a.items (flow id0)
  have h5 : ind flow a.run.heldC (flow id0) = 1 := by simp [hh, ind]
  have hpos : 0 < (a.cls (flow id0)).getD 0 := by omega
  have hact : a.act (flow id0) = true := (hi.actOK _ hf).mpr hpos
  refine ⟨ne_of_gt (ws_pos hi.cfgOK a ⟨_, hf, hact⟩), ?_⟩
  cases hc : a.cls (flow id0) with
  | none => rw [hc] at hpos; simp at hpos
  | some n => rw [hc] at hpos; exact ⟨n, rfl, hpos, hact⟩

theorem ind_some (id : Int) (f : Nat) : ind flow (some id) f = if flow id = f then 1 else 0 := rfl

theorem upd_add (g : Nat → Int) (k f : Nat) (d : Int) : upd g k (g k + d) f = g f + d * if k = f then 1 else 0 := by
  rw [upd_apply]
  by_cases h : f = k
  · rw [if_pos h, if_pos h.symm, mul_one, h]
  · rw [if_neg h, if_neg (Ne.symm h), mul_zero, add_zero]

theorem getD_upd (g : Nat → Option Int) (k f : Nat) (v : Int) :
    (upd g k (some v) f).getD 0 = upd (fun x => (g x).getD 0) k v f := by
  rw [upd_apply, upd_apply]
  split <;> rfl

theorem upd_some_add (g : Nat → Option Int) (k f : Nat) (d : Int) :
    (upd g k (some ((g k).getD 0 + d)) f).getD 0 = (g f).getD 0 + d * if k = f then 1 else 0 :=
  (getD_upd g k f _).trans (upd_add (fun x => (g x).getD 0) k f d)

theorem AInv.cls_after (hi : AInv N scale size F flow cfg d1 L a now) {p : EvId} {id0 : Int} {q0 : QEntry ℚ}
    (hr : a.run = .F p id0 q0) {c : Nat} (hc : c < F) :
    (upd a.cls (flow id0) (some ((a.cls (flow id0)).getD 0 - 1)) c).getD 0 = nItems flow a.items c := by
  have h := hi.clsOK c hc
  rw [hr] at h
  change _ = _ + ind flow (some id0) c at h
  rw [ind_some] at h
  show (upd a.cls (flow id0) (some ((a.cls (flow id0)).getD 0 + -1)) c).getD 0 = _
  rw [upd_some_add]
  omega

theorem AInv.act_after (hi : AInv N scale size F flow cfg d1 L a now) {p : EvId} {id0 : Int} {q0 : QEntry ℚ}
    (hr : a.run = .F p id0 q0) {c : Nat} (hc : c < F) :
    actAfter a (flow id0) c = true ↔ 0 < nItems flow a.items c := by
  have hk := hi.cls_after hr hc
  have hact := hi.actOK c hc
  have hn := nItems_nonneg (flow := flow) a.items c
  rw [upd_apply] at hk
  unfold actAfter
  by_cases hcc : c = flow id0
  · subst hcc
    rw [if_pos rfl] at hk
    change (a.cls (flow id0)).getD 0 - 1 = _ at hk
    split
    · rw [upd_same]
      exact ⟨fun h => (nomatch h), fun h => by omega⟩
    · rw [hact]; omega
  · rw [if_neg hcc] at hk
    split
    · rw [upd_ne _ _ _ _ hcc, hact, hk]
    · rw [hact, hk]
end WFQK
