import OnlVerif.Lemmas.SplitStrip
import OnlVerif.Lemmas.SplitStep
/-!
# Erasing stop callbacks commutes with `_resume`, the callback loop and `step` (C03, stage 2)

The simulation lemma of stage 2: a kernel step from a state with additional `.stop` callbacks does exactly what the step
from the stop-free state does — same pop, same callbacks in the same order, same reads, same updates — and in addition
records the stop when the processed event carried one.
-/

set_option linter.unusedSectionVars false

variable {τ σ : Type} [Num τ]
variable (P : EvId → Bool)

@[kstrip] theorem noteErr_stripBy (self : EvId) (s : KState τ σ) (r : Reply) :
    noteErr self (s.stripBy P, r) = (noteErr self (s, r)).stripBy P := by
  unfold noteErr
  ksimp
  ksplit

@[kstrip] theorem runBurst_stripBy (self : EvId) (b : Burst τ σ) (s : KState τ σ) :
    runBurst self b (s.stripBy P) = ((runBurst self b s).1.stripBy P, (runBurst self b s).2) := by
  induction b generalizing s with
  | call c k ih =>
    simp only [runBurst]
    rw [doCall_stripBy, noteErr_stripBy]
    exact ih _ _
  | _ => rfl

@[kstrip] theorem resumeArg_stripBy (s : KState τ σ) (p e : EvId) : resumeArg (s.stripBy P) p e = resumeArg s p e := by
  unfold resumeArg
  ksimp

@[kstrip] theorem deliverSt_stripBy (s : KState τ σ) (p e : EvId) : deliverSt (s.stripBy P) p e = (deliverSt s p e).stripBy P := by
  unfold deliverSt
  ksimp
  ksplit

@[kstrip] theorem deliver_stripBy (s : KState τ σ) (p e : EvId) :
    deliver (s.stripBy P) p e = ((deliver s p e).1.stripBy P, (deliver s p e).2) := by
  unfold deliver
  ksimp

@[kstrip] theorem finishProc_stripBy (s : KState τ σ) (p : EvId) (pr : ProcRec σ) (o : Outcome) :
    finishProc (s.stripBy P) p pr o = (finishProc s p pr o).stripBy P := by
  unfold finishProc
  ksimp

@[kstrip] theorem register_stripBy (s : KState τ σ) (p e' : EvId) :
    register (s.stripBy P) p e' = (register s p e').map (KState.stripBy P) := by
  unfold register
  ksimp
  ksplit

@[kstrip] theorem resume_stripBy (body : σ → Resume → Burst τ σ) (p : EvId) (fuel : Nat) (e : EvId) (s : KState τ σ) :
    resume body p fuel e (s.stripBy P) = (resume body p fuel e s).stripBy P := by
  induction fuel generalizing e s with
  | zero => rfl
  | succ n ih =>
    unfold resume
    ksimp
    cases s.proc? p with
    | none => rfl
    | some pr =>
      simp only
      cases (runBurst p (body pr.st (deliver s p e).2)
        ((deliver s p e).1.emit (.resumed p (deliver s p e).2 (deliver s p e).1.now))).2 with
      | returned v => rfl
      | raised x => rfl
      | yielded e' st' =>
        simp only
        cases register ((runBurst p (body pr.st (deliver s p e).2)
          ((deliver s p e).1.emit (.resumed p (deliver s p e).2 (deliver s p e).1.now))).1.setProc p
            { st := st', target := some e' }) p e' with
        | none => simp only [Option.map_none, ih]
        | some s3 => rfl

@[kstrip] theorem deliverInterrupt_stripBy (body : σ → Resume → Burst τ σ) (fuel : Nat) (iv p : EvId) (s : KState τ σ) :
    deliverInterrupt body fuel iv p (s.stripBy P) = (deliverInterrupt body fuel iv p s).stripBy P := by
  unfold deliverInterrupt
  ksimp
  ksplit

theorem runCb_stripBy (body : σ → Resume → Burst τ σ) (fuel : Nat) (e : EvId) (l : LoopSt τ σ) (cb : Cb) :
    runCb body fuel e { s := l.s.stripBy P, stop := l.stop } cb =
      { s := (runCb body fuel e l cb).s.stripBy P, stop := (runCb body fuel e l cb).stop } := by
  unfold runCb
  cases cb <;> ksimp
  case intr iv => ksplit

theorem runCb_stop_field (body : σ → Resume → Burst τ σ) (fuel : Nat) (e : EvId) (l : LoopSt τ σ) (cb : Cb) (h : cb ≠ .stop) :
    (runCb body fuel e l cb).stop = l.stop := by
  unfold runCb
  cases cb <;> simp only
  case stop => exact absurd rfl h
  case intr iv => split <;> rfl

theorem runCb_state_indep (body : σ → Resume → Burst τ σ) (fuel : Nat) (e : EvId) (s : KState τ σ) (o1 o2 : Option Outcome)
    (cb : Cb) : (runCb body fuel e { s := s, stop := o1 } cb).s = (runCb body fuel e { s := s, stop := o2 } cb).s := by
  unfold runCb
  cases cb <;> simp only
  case intr iv => split <;> rfl

theorem runCb_stop_state (body : σ → Resume → Burst τ σ) (fuel : Nat) (e : EvId) (l : LoopSt τ σ) :
    (runCb body fuel e l .stop).s = l.s := rfl

theorem foldCbs_stripBy (body : σ → Resume → Burst τ σ) (fuel : Nat) (e : EvId) (cbs : List Cb) (l : LoopSt τ σ) :
    cbs.foldl (runCb body fuel e) { s := l.s.stripBy P, stop := l.stop } =
      { s := (cbs.foldl (runCb body fuel e) l).s.stripBy P, stop := (cbs.foldl (runCb body fuel e) l).stop } := by
  induction cbs generalizing l with
  | nil => rfl
  | cons cb cs ih =>
    rw [List.foldl_cons, List.foldl_cons, runCb_stripBy, ih]

theorem foldCbs_stripCbs_state (body : σ → Resume → Burst τ σ) (fuel : Nat) (e : EvId) (cbs : List Cb) (l : LoopSt τ σ)
    (o : Option Outcome) :
    ((stripCbs cbs).foldl (runCb body fuel e) { s := l.s, stop := o }).s = (cbs.foldl (runCb body fuel e) l).s := by
  induction cbs generalizing l o with
  | nil => rfl
  | cons cb cs ih =>
    by_cases h : cb = .stop
    · subst h
      rw [stripCbs_cons_stop, List.foldl_cons]
      exact ih (runCb body fuel e l .stop) o
    · rw [stripCbs_cons_of_ne cs cb h, List.foldl_cons, List.foldl_cons]
      have h1 := runCb_state_indep body fuel e l.s o l.stop cb
      have h2 := ih (runCb body fuel e l cb) (runCb body fuel e { s := l.s, stop := o } cb).stop
      rw [← h2]
      congr 2
      show runCb body fuel e { s := l.s, stop := o } cb = { s := (runCb body fuel e l cb).s, stop := _ }
      rw [← h1]

theorem foldCbs_stripCbs_stop (body : σ → Resume → Burst τ σ) (fuel : Nat) (e : EvId) (cbs : List Cb) (l : LoopSt τ σ) :
    ((stripCbs cbs).foldl (runCb body fuel e) l).stop = l.stop := by
  induction cbs generalizing l with
  | nil => rfl
  | cons cb cs ih =>
    by_cases h : cb = .stop
    · subst h
      exact ih l
    · rw [stripCbs_cons_of_ne cs cb h, List.foldl_cons, ih, runCb_stop_field body fuel e l cb h]

theorem foldCbs_stop_of_not_mem (body : σ → Resume → Burst τ σ) (fuel : Nat) (e : EvId) (cbs : List Cb) (l : LoopSt τ σ)
    (h : Cb.stop ∉ cbs) : (cbs.foldl (runCb body fuel e) l).stop = l.stop := by
  have := foldCbs_stripCbs_stop body fuel e cbs l
  rwa [stripCbs_eq_self cbs h] at this

theorem foldCbs_stop_of_mem (body : σ → Resume → Burst τ σ) (fuel : Nat) (e : EvId) (cbs : List Cb) (l : LoopSt τ σ)
    (h : Cb.stop ∈ cbs ∨ l.stop.isSome = true) : (cbs.foldl (runCb body fuel e) l).stop.isSome = true := by
  induction cbs generalizing l with
  | nil =>
    rcases h with h | h
    · cases h
    · exact h
  | cons cb cs ih =>
    rw [List.foldl_cons]
    apply ih
    by_cases hc : cb = .stop
    · subst hc; exact Or.inr rfl
    · rcases h with h | h
      · rcases List.mem_cons.mp h with h | h
        · exact absurd h.symm hc
        · exact Or.inl h
      · right; rw [runCb_stop_field body fuel e l cb hc]; exact h

@[kstrip] theorem openEvent_stripBy (s : KState τ σ) (q : QEntry τ) (rest : List (QEntry τ)) :
    openEvent (s.stripBy P) q rest = (openEvent s q rest).stripBy P := by
  have h := KState.updEv_stripBy P s q.ev (fun r => { r with cbs := none }) (by intro b r; cases b <;> rfl)
  unfold openEvent
  unfold KState.setEv at h
  have h2 := congrArg KState.events h
  simp only at h2
  rw [h2]
  rfl

/-- the end of a step reads only the outcome and the `defused` flag of the event -/
theorem closeEvent_stripBy (l : LoopSt τ σ) (e : EvId) :
    closeEvent { s := l.s.stripBy P, stop := l.stop } e =
      match closeEvent l e with
      | .ok s => .ok (s.stripBy P)
      | .stopped o s => .stopped o (s.stripBy P)
      | .crash x s => .crash x (s.stripBy P)
      | .empty => .empty := by
  unfold closeEvent
  ksimp
  ksplit

def StepResult.mapState (f : KState τ σ → KState τ σ) : StepResult τ σ → StepResult τ σ
  | .ok s => .ok (f s)
  | .stopped o s => .stopped o (f s)
  | .crash x s => .crash x (f s)
  | .empty => .empty

/-- how the step ends when the `StopSimulation` of its event `e` is taken away: as `closeEvent` decides without it -/
def StepResult.unstop (e : EvId) : StepResult τ σ → StepResult τ σ
  | .stopped _ s => closeEvent { s := s } e
  | r => r

def StepResult.st? : StepResult τ σ → Option (KState τ σ)
  | .ok s => some s
  | .stopped _ s => some s
  | .crash _ s => some s
  | .empty => none

theorem closeEvent_nostop_unstop (s : KState τ σ) (e : EvId) :
    (closeEvent { s := s } e).unstop e = closeEvent { s := s } e := by
  unfold closeEvent
  simp only
  repeat' split
  all_goals rfl

theorem closeEvent_unstop (l : LoopSt τ σ) (e : EvId) : (closeEvent l e).unstop e = closeEvent { s := l.s } e := by
  cases hs : l.stop with
  | none =>
    have : l = { s := l.s } := by cases l; simp only at hs; rw [hs]
    rw [this]; exact closeEvent_nostop_unstop l.s e
  | some o =>
    unfold closeEvent
    simp only [hs]
    rfl

theorem closeEvent_st (l : LoopSt τ σ) (e : EvId) : (closeEvent l e).st? = some l.s := by
  unfold closeEvent
  repeat' split
  all_goals rfl

theorem closeEvent_stopped_iff (l : LoopSt τ σ) (e : EvId) :
    (∃ o s, closeEvent l e = .stopped o s) ↔ l.stop.isSome = true := by
  unfold closeEvent
  constructor
  · rintro ⟨o, s, h⟩
    split at h
    · rename_i h2; rw [h2]; rfl
    · repeat' split at h
      all_goals cases h
  · intro h
    cases hs : l.stop with
    | none => rw [hs] at h; cases h
    | some o => exact ⟨o, l.s, rfl⟩

variable (body : σ → Resume → Burst τ σ) (fuel : Nat)

/-- **The simulation lemma for one kernel step.**  The step from the state without the stops of the `P`-events pops the
same entry and ends in the erasure of the state the step with the stops ends in; it ends the same way, except that a
`StopSimulation` of a `P`-event is replaced by what the end of the step decides without it. -/
theorem step_stripBy (s : KState τ σ) :
    step body fuel (s.stripBy P) =
      match popMin s.agenda with
      | none => .empty
      | some (q, _) =>
        if P q.ev then ((step body fuel s).unstop q.ev).mapState (KState.stripBy P)
        else (step body fuel s).mapState (KState.stripBy P) := by
  unfold step
  rw [KState.stripBy_agenda]
  cases hq : popMin s.agenda with
  | none => rfl
  | some qr =>
    obtain ⟨q, rest⟩ := qr
    simp only
    rw [KState.stripBy_cbs, openEvent_stripBy]
    cases hc : (s.ev q.ev).cbs with
    | none =>
      simp only [Option.map_none, ite_self]
      split <;> rfl
    | some cbs =>
      simp only [Option.map_some]
      cases hP : P q.ev
      · simp only [Bool.false_eq_true, if_false]
        have h1 := foldCbs_stripBy P body fuel q.ev cbs { s := openEvent s q rest }
        simp only at h1
        rw [h1, closeEvent_stripBy]
        cases closeEvent (cbs.foldl (runCb body fuel q.ev) { s := openEvent s q rest }) q.ev <;> rfl
      · simp only [if_true]
        have h1 := foldCbs_stripBy P body fuel q.ev (stripCbs cbs) { s := openEvent s q rest }
        simp only at h1
        rw [h1, foldCbs_stripCbs_stop,
          foldCbs_stripCbs_state body fuel q.ev cbs { s := openEvent s q rest } none, closeEvent_unstop]
        have h2 := closeEvent_stripBy P { s := (cbs.foldl (runCb body fuel q.ev) { s := openEvent s q rest }).s } q.ev
        simp only at h2
        rw [h2]
        cases closeEvent { s := (cbs.foldl (runCb body fuel q.ev) { s := openEvent s q rest }).s } q.ev <;> rfl

theorem step_stripBy_st (s s' : KState τ σ) (h : (step body fuel s).st? = some s') :
    (step body fuel (s.stripBy P)).st? = some (s'.stripBy P) := by
  rw [step_stripBy]
  cases hq : popMin s.agenda with
  | none =>
    unfold step at h
    rw [hq] at h
    cases h
  | some qr =>
    obtain ⟨q, rest⟩ := qr
    simp only
    cases hr : step body fuel s with
    | ok s1 => rw [hr] at h; cases h; split <;> rfl
    | crash x s1 => rw [hr] at h; cases h; split <;> rfl
    | empty => rw [hr] at h; cases h
    | stopped o s1 =>
      rw [hr] at h; cases h
      split
      · show ((closeEvent { s := s' } q.ev).mapState (KState.stripBy P)).st? = _
        have := closeEvent_st { s := s' } q.ev
        cases hc : closeEvent { s := s' } q.ev <;> rw [hc] at this <;> cases this <;> rfl
      · rfl

theorem step_stripBy_ok (s s' : KState τ σ) (h : step body fuel s = .ok s') :
    step body fuel (s.stripBy P) = .ok (s'.stripBy P) := by
  rw [step_stripBy, h]
  cases hq : popMin s.agenda with
  | none =>
    unfold step at h
    rw [hq] at h
    cases h
  | some qr => simp only; split <;> rfl

theorem step_stopped_iff (s : KState τ σ) :
    (∃ o s', step body fuel s = .stopped o s') ↔
      ∃ q rest, popMin s.agenda = some (q, rest) ∧ s.hasStop q.ev = true := by
  unfold step KState.hasStop
  cases hq : popMin s.agenda with
  | none =>
    constructor
    · rintro ⟨o, s', h⟩; cases h
    · rintro ⟨q, rest, h, _⟩; cases h
  | some qr =>
    obtain ⟨q, rest⟩ := qr
    simp only
    cases hc : (s.ev q.ev).cbs with
    | none =>
      constructor
      · rintro ⟨o, s', h⟩; cases h
      · rintro ⟨q', rest', h, h2⟩
        cases h
        rw [hc] at h2
        cases h2
    | some cbs =>
      simp only
      rw [closeEvent_stopped_iff]
      constructor
      · intro h
        refine ⟨q, rest, rfl, ?_⟩
        rw [hc]
        simp only [List.contains_iff_mem]
        by_cases hn : Cb.stop ∈ cbs
        · exact hn
        · rw [foldCbs_stop_of_not_mem body fuel q.ev cbs _ hn] at h
          cases h
      · rintro ⟨q', rest', h, h2⟩
        cases h
        rw [hc] at h2
        simp only [List.contains_iff_mem] at h2
        exact foldCbs_stop_of_mem body fuel q.ev cbs _ (Or.inl h2)

/-- stop-freeness is preserved by a step, whatever way it ends (nothing in the model registers a stop) -/
theorem step_stopFree (s s' : KState τ σ) (hf : StopFree P s) (h : (step body fuel s).st? = some s') : StopFree P s' := by
  have := step_stripBy_st P body fuel s s' h
  rw [show s.stripBy P = s from hf, h] at this
  exact (Option.some.inj this).symm

theorem step_not_stopped_of_stopFree (s : KState τ σ) (q : QEntry τ) (rest : List (QEntry τ)) (hf : StopFree P s)
    (hq : popMin s.agenda = some (q, rest)) (hP : P q.ev = true) (o : Outcome) (s' : KState τ σ) :
    step body fuel s ≠ .stopped o s' := by
  intro h
  obtain ⟨q', rest', h1, h2⟩ := (step_stopped_iff body fuel s).mp ⟨o, s', h⟩
  rw [hq] at h1
  cases h1
  rw [(StopFree.iff P s).mp hf q.ev hP] at h2
  cases h2

/-- the event a step processes is processed afterwards, so it carries no stop any more: if all stops sat on that event,
the state after the step is free of stops altogether -/
theorem step_stopFree_after (s s' : KState τ σ) (q : QEntry τ) (rest : List (QEntry τ))
    (hq : popMin s.agenda = some (q, rest)) (hf : StopFree (fun i => i != q.ev) s)
    (h : (step body fuel s).st? = some s') : StopFree (fun _ => true) s' := by
  have ho : StopFree (fun _ => true) (openEvent s q rest) := by
    rw [StopFree.iff]
    intro i _
    unfold KState.hasStop
    have hev : (openEvent s q rest).ev i = if i = q.ev ∧ q.ev < s.events.size then { s.ev q.ev with cbs := none } else s.ev i := by
      show (s.setEv q.ev { s.ev q.ev with cbs := none }).ev i = _
      exact KState.ev_setEv s q.ev i _
    by_cases hne : i = q.ev ∧ q.ev < s.events.size
    · rw [hev, if_pos hne]
    · rw [hev, if_neg hne]
      by_cases hi : i = q.ev
      · subst hi
        have : s.events.size ≤ q.ev := Nat.le_of_not_lt (fun hlt => hne ⟨rfl, hlt⟩)
        exact s.hasStop_default q.ev this
      · exact (StopFree.iff _ s).mp hf i (by simpa using hi)
  unfold step at h
  rw [hq] at h
  simp only at h
  split at h
  · cases h; exact ho
  · rename_i cbs _
    rw [closeEvent_st] at h
    cases h
    have h1 := foldCbs_stripBy (fun _ => true) body fuel q.ev cbs { s := openEvent s q rest }
    simp only at h1
    rw [show (openEvent s q rest).stripBy (fun _ => true) = openEvent s q rest from ho] at h1
    have := congrArg LoopSt.s h1
    exact this.symm

theorem stepN_stripBy_ok (k : Nat) (s s' : KState τ σ) (h : stepN body fuel k s = .ok s') :
    stepN body fuel k (s.stripBy P) = .ok (s'.stripBy P) := by
  induction k generalizing s with
  | zero => cases h; rfl
  | succ k ih =>
    obtain ⟨s1, hs, h⟩ := stepN_succ_ok h
    rw [stepN_succ, step_stripBy_ok P body fuel s s1 hs]
    exact ih s1 h

theorem stepN_stopFree (k : Nat) (s s' : KState τ σ) (hf : StopFree P s) (h : stepN body fuel k s = .ok s') :
    StopFree P s' := by
  have := stepN_stripBy_ok P body fuel k s s' h
  rw [show s.stripBy P = s from hf, h] at this
  exact (StepResult.ok.inj this).symm
