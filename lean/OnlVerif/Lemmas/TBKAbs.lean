import OnlVerif.Lemmas.TBKStep
/-!
# The token bucket on the kernel model: configuration steps (no kernel terms here)

`AStep n e a q a' new`: processing the agenda entry `q` in a kernel state with `n` events and entry counter `e` takes the
configuration `a` to `a'` and appends `new` to the put / out history.  `astep_sound` (`TBKAbsStep.lean`): every configuration step keeps `AInv`
and lowers the bound on the steps still to come.
-/

namespace TBK
open TBOnK QEntry

variable (size : Int → Nat) (cfg : TbCfg ℚ)

/-- **one kernel step, seen on configurations** -/
inductive AStep (n e : Nat) : A → QEntry ℚ → A → List (HEv ℚ) → Prop
  | runInit (a : A) (q : QEntry ℚ) (h : a.run = .init q) : AStep n e a q (a.get n e q.time) []
  | serveTok (a : A) (q : QEntry ℚ) (g : EvId) (id : Int) (t0 : ℚ) (h : a.run = .H g id q t0)
      (hlt : refillA cfg a q.time < (size id : ℚ)) :
      AStep n e a q { a with
        run := .T1 n id (⟨q.time + TokenBucket.tokenWait cfg (refillA cfg a q.time) (pktOf size id), NORMAL, e, n⟩ : QEntry ℚ)
        level := refillA cfg a q.time, upd := q.time } []
  | serveDebit (a : A) (q : QEntry ℚ) (g : EvId) (id : Int) (t0 : ℚ) (h : a.run = .H g id q t0)
      (hlt : ¬ refillA cfg a q.time < (size id : ℚ)) :
      AStep n e a q
        (A.afterDebit size cfg { a with level := refillA cfg a q.time - (size id : ℚ), upd := q.time } n e q.time id 0).1
        (A.afterDebit size cfg { a with level := refillA cfg a q.time - (size id : ℚ), upd := q.time } n e q.time id 0).2
  | tok (a : A) (q : QEntry ℚ) (t : EvId) (id : Int) (h : a.run = .T1 t id q) :
      AStep n e a q (A.afterDebit size cfg { a with level := 0, upd := q.time } n e q.time id 1).1
        (A.afterDebit size cfg { a with level := 0, upd := q.time } n e q.time id 1).2
  | peak (a : A) (q : QEntry ℚ) (t : EvId) (id : Int) (k : Nat) (h : a.run = .T2 t id q k) :
      AStep n e a q (({ a with sent := a.sent + 1 } : A).get n e q.time) [.out id q.time]
  | srcInit (a : A) (q : QEntry ℚ) (arr : List ℚ) (h : a.src = .init q arr) :
      AStep n e a q { a with src := srcNext q.time e n 0 arr } []
  | srcPut (a : A) (q : QEntry ℚ) (next : Nat) (arr : List ℚ) (h : a.src = .wait next arr q) :
      AStep n e a q { a with
        src := srcNext q.time (e + 1) (n + 1) (next + 1) arr
        pend := a.pend ++ [⟨q.time, NORMAL, e, n⟩]
        items := a.items ++ [(next : Int)]
        cts := a.cts ++ [q.time] } [.put next q.time]
  | srcEnd (a : A) (q : QEntry ℚ) (h : a.src = .ending q) : AStep n e a q { a with src := .done } []
  | pendNoop (a : A) (q : QEntry ℚ) (l1 l2 : List (QEntry ℚ)) (hpe : a.pend = l1 ++ q :: l2)
      (hno : ¬ ((∃ g t0, a.run = .W g t0) ∧ a.items ≠ [])) :
      AStep n e a q { a with pend := l1 ++ l2 } []
  | pendHand (a : A) (q : QEntry ℚ) (g : EvId) (t0 : ℚ) (i : Int) (is : List Int) (l1 l2 : List (QEntry ℚ))
      (hpe : a.pend = l1 ++ q :: l2) (h : a.run = .W g t0) (hit : a.items = i :: is) :
      AStep n e a q { a with pend := l1 ++ l2, run := .H g i ⟨q.time, NORMAL, e, g⟩ t0, items := is } []

variable {size cfg}

theorem mem_run {a : A} {x : QEntry ℚ} (h : x ∈ a.run.entries) : x ∈ a.entries := by
  simp [A.entries, h]

theorem mem_src {a : A} {x : QEntry ℚ} (h : x ∈ a.src.entries) : x ∈ a.entries := by
  simp [A.entries, h]

theorem mem_pend {a : A} {u : QEntry ℚ} (h : u ∈ a.pend) : u ∈ a.entries := by
  simp [A.entries, h]

/-- `q` is a minimal entry of the configuration: what `popMin` returns -/
def IsMin (a : A) (q : QEntry ℚ) : Prop := q ∈ a.entries ∧ ∀ x ∈ a.entries, ¬ KeyLt x q

variable {a : A} {now : ℚ} {q : QEntry ℚ}

theorem AInv.now_le (hi : AInv cfg a now) (hq : IsMin a q) : now ≤ q.time := hi.due q hq.1

theorem AInv.due_run (hi : AInv cfg a now) : ∀ x ∈ a.run.entries, now ≤ x.time := fun x hx => hi.due x (mem_run hx)

theorem AInv.due_src (hi : AInv cfg a now) : ∀ x ∈ a.src.entries, now ≤ x.time := fun x hx => hi.due x (mem_src hx)

/-- `AInv` with `due` given per origin of the entry; a pending put is due now by `pend` -/
theorem AInv.of (hrun : RunA a now a.run) (hsrc : SrcA a now a.src) (hpend : ∀ u ∈ a.pend, u.time = now ∧ u.prio = NORMAL)
    (hdr : ∀ x ∈ a.run.entries, now ≤ x.time) (hds : ∀ x ∈ a.src.entries, now ≤ x.time)
    (hits : ∀ i ∈ a.items, 0 ≤ i ∧ i.toNat < a.cts.length ∧ a.ctOf i ≤ now) (hg : TokenBucket.Good cfg) (hp : PeakOK cfg) :
    AInv cfg a now := by
  refine ⟨hrun, hsrc, hpend, fun x hx => ?_, hits, hg, hp⟩
  simp only [A.entries, List.mem_append] at hx
  rcases hx with hx | hx | hx
  · exact hdr x hx
  · exact hds x hx
  · exact (hpend x hx).1.ge

/-- **time passes only when nothing is triggered**: no put is pending, `run` sleeps or is blocked on the empty store, the source
sleeps or is done; what holds of their phases holds at the later instant -/
theorem AInv.idle (hi : AInv cfg a now) (hq : IsMin a q) (h : now < q.time) :
    a.pend = [] ∧
      (RunA a q.time a.run ∧ match a.run with | .init _ => False | .H .. => False | .W .. => a.items = [] | _ => True) ∧
      (SrcA a q.time a.src ∧ match a.src with | .init .. => False | .ending _ => False | _ => True) := by
  have hne : ∀ x ∈ a.entries, x.time ≠ now := min_ne_now hi.due hq h
  have hpn : a.pend = [] := List.eq_nil_iff_forall_not_mem.mpr fun u hu => hne u (mem_pend hu) (hi.pend u hu).1
  have hdr := fun x hx => hne x (mem_run hx)
  have hds := fun x hx => hne x (mem_src hx)
  have hp := hi.run
  have hs := hi.src
  refine ⟨hpn, ?_, ?_⟩
  · cases hr : a.run with
    | init q0 => rw [hr] at hp hdr; exact absurd hp.1 (hdr q0 (List.mem_singleton_self _))
    | H g id q0 t0 => rw [hr] at hp hdr; exact absurd hp.1 (hdr q0 (List.mem_singleton_self _))
    | W g t0 =>
      rw [hr] at hp
      have hit : a.items = [] := by_contra fun hc => hp.2.2 hc hpn
      exact ⟨⟨hp.1.trans h.le, by rw [hit]; nofun, fun hc => absurd hit hc⟩, hit⟩
    | _ => rw [hr] at hp; exact ⟨hp, trivial⟩
  · cases hr : a.src with
    | init q0 arr => rw [hr] at hs hds; exact absurd hs.1 (hds q0 (List.mem_singleton_self _))
    | ending q0 => rw [hr] at hs hds; exact absurd hs.1 (hds q0 (List.mem_singleton_self _))
    | _ => rw [hr] at hs; exact ⟨hs, trivial⟩

/-- **letting the clock advance to the next entry changes nothing else** -/
theorem AInv.advance (hi : AInv cfg a now) (hq : IsMin a q) : AInv cfg a q.time := by
  rcases eq_or_lt_of_le (hi.now_le hq) with h | h
  · rw [← h]; exact hi
  obtain ⟨hpn, ⟨hr, -⟩, hs, -⟩ := hi.idle hq h
  exact ⟨hr, hs, by rw [hpn]; nofun, fun x hx => not_keyLt_time (hq.2 x hx),
    fun i hi' => let ⟨h1, h2, h3⟩ := hi.its i hi'; ⟨h1, h2, h3.trans h.le⟩, hi.good, hi.peak⟩

end TBK
