import Mathlib.Tactic.Linarith
import Mathlib.Algebra.Order.Field.Rat
import OnlVerif.Util.Rt
import OnlVerif.Kernel.Step
/-!
# `RealtimeEnvironment.step`: the sleep loop, the strict test, runs (exact rational wall clock)
-/

namespace Rt

theorem zero_eq : (Num.zero : ℚ) = 0 := by
  show ((0 : ℕ) : ℚ) = 0
  simp

/-- the loop leaves at the first reading that has reached the due instant; every earlier reading was before it and
caused one `sleep(due - reading)` with a positive argument -/
theorem sleepLoop_done {due : ℚ} : ∀ {clock acc sleeps : List ℚ} {last : ℚ} {rest : List ℚ},
    sleepLoop due clock acc = .done sleeps last rest →
    ∃ pre, clock = pre ++ last :: rest ∧ due ≤ last ∧ (∀ c ∈ pre, c < due) ∧
      sleeps = acc ++ pre.map (fun c => due - c)
  | [], acc, sleeps, last, rest, h => by simp [sleepLoop] at h
  | c :: cs, acc, sleeps, last, rest, h => by
    rw [sleepLoop] at h
    split at h
    · rename_i hle
      rw [zero_eq] at hle
      cases h
      exact ⟨[], rfl, sub_nonpos.mp hle, by simp, by simp⟩
    · rename_i hgt
      rw [zero_eq] at hgt
      obtain ⟨pre, h1, h2, h3, h4⟩ := sleepLoop_done h
      refine ⟨c :: pre, by rw [h1]; rfl, h2, ?_, ?_⟩
      · intro x hx
        rcases List.mem_cons.mp hx with rfl | hx
        · exact sub_pos.mp (not_le.mp hgt)
        · exact h3 x hx
      · rw [h4]; simp

theorem sleepLoop_starved {due : ℚ} : ∀ {clock acc sl : List ℚ}, sleepLoop due clock acc = .starved sl →
    ∀ c ∈ clock, c < due
  | [], _, _, _ => by simp
  | c :: cs, acc, sl, h => by
    rw [sleepLoop] at h
    split at h
    · cases h
    · rename_i hgt
      rw [zero_eq] at hgt
      intro x hx
      rcases List.mem_cons.mp hx with rfl | hx
      · exact sub_pos.mp (not_le.mp hgt)
      · exact sleepLoop_starved h x hx

theorem sleepLoop_terminates {due : ℚ} {clock : List ℚ} (acc : List ℚ) (h : ∃ c ∈ clock, due ≤ c) :
    ∃ sleeps last rest, sleepLoop due clock acc = .done sleeps last rest := by
  cases hr : sleepLoop due clock acc with
  | done sleeps last rest => exact ⟨sleeps, last, rest, rfl⟩
  | starved sl =>
    obtain ⟨c, hc, hle⟩ := h
    exact absurd hle (not_le.mpr (sleepLoop_starved hr c hc))

variable {κ ρ : Type}

theorem sleepThenStep_stepped {kstep : κ → ρ} {s : RtState ℚ κ} {due : ℚ} {clock : List ℚ} {r : ρ}
    {sleeps : List ℚ} {last : ℚ} {rest : List ℚ} (h : sleepThenStep kstep s due clock = .stepped r sleeps last rest) :
    r = kstep s.k ∧ ∃ pre, clock = pre ++ last :: rest ∧ due ≤ last ∧ (∀ c ∈ pre, c < due) ∧
      sleeps = pre.map (fun c => due - c) := by
  unfold sleepThenStep at h
  split at h
  · rename_i sl la re hsl
    cases h
    obtain ⟨pre, h1, h2, h3, h4⟩ := sleepLoop_done hsl
    exact ⟨rfl, pre, h1, h2, h3, by simpa using h4⟩
  · cases h

theorem sleepThenStep_not_tooSlow {kstep : κ → ρ} {s : RtState ℚ κ} {due : ℚ} {clock : List ℚ} {d : ℚ} {rest : List ℚ} :
    sleepThenStep kstep s due clock ≠ .tooSlow d rest := by
  unfold sleepThenStep
  split <;> intro h <;> cases h

theorem sleepThenStep_not_empty {kstep : κ → ρ} {s : RtState ℚ κ} {due : ℚ} {clock : List ℚ} :
    sleepThenStep kstep s due clock ≠ .emptySchedule := by
  unfold sleepThenStep
  split <;> intro h <;> cases h

theorem rtStep_stepped {peek : κ → Option ℚ} {kstep : κ → ρ} {s : RtState ℚ κ} {clock : List ℚ} {r : ρ}
    {sleeps : List ℚ} {last : ℚ} {rest : List ℚ} (h : rtStep peek kstep s clock = .stepped r sleeps last rest) :
    r = kstep s.k ∧ ∃ t, peek s.k = some t ∧ dueTime s t ≤ last ∧
      ∃ pre, clock = pre ++ last :: rest ∧
        (∀ c ∈ pre.drop (if s.strict then 1 else 0), c < dueTime s t) ∧
        (s.strict = true → ∃ c1, (pre ++ [last]).head? = some c1 ∧ c1 - dueTime s t ≤ s.factor) := by
  unfold rtStep at h
  split at h
  · cases h
  · rename_i t hp
    unfold strictPhase at h
    split at h
    · rename_i hs
      split at h
      · cases h
      · rename_i c1 cs
        split at h
        · split at h <;> cases h
        · rename_i hnl
          obtain ⟨hr, pre, h1, h2, h3, _⟩ := sleepThenStep_stepped h
          refine ⟨hr, t, hp, h2, c1 :: pre, by rw [h1]; rfl, ?_, ?_⟩
          · simpa [hs] using h3
          · intro _
            exact ⟨c1, rfl, not_lt.mp hnl⟩
    · rename_i hs
      obtain ⟨hr, pre, h1, h2, h3, _⟩ := sleepThenStep_stepped h
      refine ⟨hr, t, hp, h2, pre, h1, ?_, ?_⟩
      · simpa [hs] using h3
      · intro hc; exact absurd hc hs

theorem rtStep_tooSlow_iff {peek : κ → Option ℚ} {kstep : κ → ρ} {s : RtState ℚ κ} {clock : List ℚ} {d : ℚ}
    {rest : List ℚ} :
    rtStep peek kstep s clock = .tooSlow d rest ↔
      ∃ t c1 c2, peek s.k = some t ∧ clock = c1 :: c2 :: rest ∧ s.strict = true ∧
        s.factor < c1 - dueTime s t ∧ d = c2 - dueTime s t := by
  constructor
  · intro h
    unfold rtStep at h
    split at h
    · cases h
    · rename_i t hp
      unfold strictPhase at h
      split at h
      · rename_i hs
        split at h
        · cases h
        · rename_i c1 cs
          split at h
          · rename_i hlt
            split at h
            · cases h
            · rename_i c2 rest'
              cases h
              exact ⟨t, c1, c2, hp, rfl, hs, hlt, rfl⟩
          · exact absurd h sleepThenStep_not_tooSlow
      · exact absurd h sleepThenStep_not_tooSlow
  · rintro ⟨t, c1, c2, hp, rfl, hs, hlt, rfl⟩
    unfold rtStep
    rw [hp]
    simp only [strictPhase, hs, if_true, hlt]

theorem rtStep_empty_iff {peek : κ → Option ℚ} {kstep : κ → ρ} {s : RtState ℚ κ} {clock : List ℚ} :
    rtStep peek kstep s clock = .emptySchedule ↔ peek s.k = none := by
  constructor
  · intro h
    unfold rtStep at h
    split at h
    · rename_i hp; exact hp
    · unfold strictPhase at h
      split at h
      · split at h
        · cases h
        · split at h
          · split at h <;> cases h
          · exact absurd h sleepThenStep_not_empty
      · exact absurd h sleepThenStep_not_empty
  · intro h
    unfold rtStep
    rw [h]

theorem count_sync (ops : List RtOp) : (RtOp.sync :: ops).count RtOp.step = ops.count RtOp.step := by
  simp

theorem count_step (ops : List RtOp) : (RtOp.step :: ops).count RtOp.step = ops.count RtOp.step + 1 := by
  simp

section K
variable {σ : Type}

theorem closeEvent_ne_empty (l : LoopSt ℚ σ) (e : EvId) : closeEvent l e ≠ .empty := by
  unfold closeEvent
  split
  · intro h; cases h
  · split
    · split <;> intro h <;> cases h
    · intro h; cases h

/-- `peek()` says `Infinity` exactly when `Environment.step` would raise `EmptySchedule` -/
theorem peek_none_iff_step_empty (body : σ → Resume → Burst ℚ σ) (fuel : Nat) (k : KState ℚ σ) :
    peekTime k.agenda = none ↔ step body fuel k = .empty := by
  unfold peekTime step
  cases hp : popMin k.agenda with
  | none => simp
  | some qr =>
    obtain ⟨q, rest⟩ := qr
    simp only [Option.map_some, reduceCtorEq, false_iff]
    split
    · intro h; cases h
    · exact closeEvent_ne_empty _ _

end K

end Rt
