import OnlVerif.Lemmas.PortKDefs
import OnlVerif.Lemmas.FifoKCommon
/-!
# The Port on the kernel model: configurations are well-behaved (no kernel terms here)

Facts about configurations that need no kernel term: the departure recurrence, the entry `IsMin` that is popped
next, `AInv.quiet` (what a configuration looks like when nothing is due now), `AInv.advance` (the abstract invariant survives
the clock moving to the next entry) and the `tick` of the LTS (`AInv.tickOk`, `lts_advance`).  That a configuration step `AStep` keeps `AInv`, uses up at least one unit of the step budget
and is a (possibly empty) sequence of transitions the FifoServer LTS of the port accepts is `PortKAbsStep.lean`.
-/

namespace PortK
open PortOnK QEntry

variable (size : Int → Nat) (rate : ℚ)

theorem tx_nonneg (id : Int) : 0 ≤ tx size rate id := by
  unfold tx txDelay
  rw [zero_eq']
  split
  · rename_i h
    unfold txTime
    rw [Num.ofNat_rat]
    exact div_nonneg (Nat.cast_nonneg _) (le_of_lt h)
  · exact le_refl _

theorem tx_eq_txTime (hr : 0 < rate) (id : Int) : tx size rate id = txTime size rate id := by
  unfold tx txDelay
  rw [zero_eq', if_pos hr]

theorem serve_append (f : ℚ) (is : List Int) (i : Int) :
    serve size rate f (is ++ [i]) = serve size rate f is ++ [(i, serveEnd size rate f is + tx size rate i)] := by
  induction is generalizing f with
  | nil => simp [serve, serveEnd]
  | cons j js ih => simp [serve, serveEnd, ih]

theorem serveEnd_append (f : ℚ) (is : List Int) (i : Int) :
    serveEnd size rate f (is ++ [i]) = serveEnd size rate f is + tx size rate i := by
  induction is generalizing f with
  | nil => simp [serveEnd]
  | cons j js ih => simp [serveEnd, ih]

theorem le_serveEnd (f : ℚ) (is : List Int) : f ≤ serveEnd size rate f is := by
  induction is generalizing f with
  | nil => exact le_refl _
  | cons j js ih =>
    simp only [serveEnd]
    have := tx_nonneg size rate j
    exact le_trans (by linarith) (ih _)

/-- the next arrival (at `t`, the loop instant) finds the server busy until `e ≥ t`: it leaves at `e + tx` -/
theorem departures_busy (e t : ℚ) (id : Int) (rest : List (ℚ × Int)) (h : t ≤ e) :
    departures size rate (some e) t ((0, id) :: rest) =
      (id, e + tx size rate id) :: departures size rate (some (e + tx size rate id)) t rest := by
  simp only [departures, add_zero, Num.pymax_eq, max_eq_right h, tx]

/-- the next arrival finds the server idle since `l ≤ t`: it leaves at `t + tx` -/
theorem departures_idle (l : Option ℚ) (t : ℚ) (id : Int) (rest : List (ℚ × Int)) (h : ∀ d, l = some d → d ≤ t) :
    departures size rate l t ((0, id) :: rest) =
      (id, t + tx size rate id) :: departures size rate (some (t + tx size rate id)) t rest := by
  cases l with
  | none => simp only [departures, add_zero, tx]
  | some d => simp only [departures, add_zero, Num.pymax_eq, max_eq_left (h d rfl), tx]

/-- sleeping `gap` first = being at `t + gap` with no gap left -/
theorem departures_shift (p : Option ℚ) (t gap : ℚ) (id : Int) (rest : List (ℚ × Int)) :
    departures size rate p t ((gap, id) :: rest) = departures size rate p (t + gap) ((0, id) :: rest) := by
  simp only [departures, add_zero]

variable {size rate} {ql : Option Int}

theorem mem_port {a : A} {x : QEntry ℚ} (h : x ∈ a.port.entries) : x ∈ a.entries := by
  simp [A.entries, h]

theorem mem_src {a : A} {x : QEntry ℚ} (h : x ∈ a.src.entries) : x ∈ a.entries := by
  simp [A.entries, h]

theorem mem_pend {a : A} {x : QEntry ℚ} (h : a.pend = some x) : x ∈ a.entries := by
  simp [A.entries, h]

/-- `q` is a minimal entry of the configuration: what `popMin` returns -/
def IsMin (a : A) (q : QEntry ℚ) : Prop := q ∈ a.entries ∧ ∀ x ∈ a.entries, ¬ KeyLt x q

variable {arrivals : List (ℚ × Int)} {a : A} {now : ℚ} {outs : List (Int × ℚ)} {q : QEntry ℚ}

theorem AInv.now_le (hi : AInv size rate ql arrivals a now outs) (hq : IsMin a q) : now ≤ q.time := hi.due q hq.1

/-- no entry is due now: no `StorePut` is pending, and the server sleeps or waits at an empty store -/
theorem AInv.quiet (hi : AInv size rate ql arrivals a now outs) (hne : ∀ x ∈ a.entries, x.time ≠ now) :
    a.pend = none ∧ ((∃ t id q0, a.port = .T t id q0) ∨ (∃ g, a.port = .W g) ∧ a.items = []) := by
  have hpe : a.pend = none := by
    cases hp : a.pend with
    | none => rfl
    | some u => exact absurd (hi.pend u hp).1 (hne u (mem_pend hp))
  refine ⟨hpe, ?_⟩
  have hp := hi.port
  cases hport : a.port with
  | init q0 => rw [hport] at hp; exact absurd hp.1 (hne q0 (mem_port (hport ▸ List.mem_singleton_self q0)))
  | H g id q0 => rw [hport] at hp; exact absurd hp.1 (hne q0 (mem_port (hport ▸ List.mem_singleton_self q0)))
  | T t id q0 => exact .inl ⟨t, id, q0, rfl⟩
  | W g =>
    refine .inr ⟨⟨g, rfl⟩, ?_⟩
    by_contra hc
    have := hi.idle (hport ▸ rfl) hc
    rw [hpe] at this; cases this

/-- the loop instant and the arrivals of the source do not depend on `now` once the clock can advance -/
theorem todo_advance (hi : AInv size rate ql arrivals a now outs) (hq : IsMin a q) (p : Option ℚ) :
    departures size rate p (a.src.todo q.time).1 (a.src.todo q.time).2 =
      departures size rate p (a.src.todo now).1 (a.src.todo now).2 := by
  have hs := hi.src
  cases hsrc : a.src with
  | init q0 arr =>
    rw [hsrc] at hs
    rw [min_time_eq hi.due hq (mem_src (hsrc ▸ List.mem_singleton_self q0)) hs.1]
  | wait id rest q0 => rfl
  | ending q0 => simp [SPhase.todo, departures]
  | done => simp [SPhase.todo, departures]

theorem AInv.advance (hi : AInv size rate ql arrivals a now outs) (hq : IsMin a q) :
    AInv size rate ql arrivals a q.time outs := by
  rcases eq_or_lt_of_le (hi.now_le hq) with h | h
  · rw [← h]; exact hi
  have hne := min_ne_now hi.due hq h
  obtain ⟨hpe, hport⟩ := hi.quiet hne
  refine ⟨?_, ?_, (fun u hu => nomatch hpe ▸ hu), hi.idle, fun d hd => (hi.last d hd).trans h.le,
    fun x hx => not_keyLt_time (hq.2 x hx), ?_, hi.puts, hi.nput, hi.nacc, hi.accnone⟩
  · have hp := hi.port
    rcases hport with ⟨t, id, q0, e⟩ | ⟨⟨g, e⟩, -⟩ <;> rw [e] at hp ⊢ <;> exact hp
  · have hs := hi.src
    cases hsrc : a.src with
    | init q0 arr => rw [hsrc] at hs; exact absurd hs.1 (hne q0 (mem_src (hsrc ▸ List.mem_singleton_self q0)))
    | wait id rest q0 => rw [hsrc] at hs; exact hs
    | ending q0 => rw [hsrc] at hs; exact absurd hs.1 (hne q0 (mem_src (hsrc ▸ List.mem_singleton_self q0)))
    | done => trivial
  · intro hql
    rw [← hi.ghost hql]
    congr 1
    unfold pred
    rcases hport with ⟨t, id, q0, e⟩ | ⟨⟨g, e⟩, hit⟩
    · simp only [e, afterQ, todo_advance hi hq]
    · simp only [e, hit, todo_advance hi hq]

/-- one `put` on the LTS of this port: the tail-drop test decides between `refuse` and `accept` -/
theorem runActs_put (st : FState ℚ (PortSt ℚ)) (p : Pkt ℚ) :
    Fifo.runActs (Port.dev (cfg rate ql)) st [.put p] =
      if Port.tailDrop (cfg rate ql) st.dev.byteSize st.items.length p.size then
        .ok ({ st with dev := { st.dev with received := st.dev.received + 1, dropped := st.dev.dropped + 1 } }, [], [])
      else
        .ok ({ st with dev := { st.dev with received := st.dev.received + 1, byteSize := st.dev.byteSize + p.size },
                       items := st.items ++ [p] }, [p.id], []) := by
  cases h : Port.tailDrop (cfg rate ql) st.dev.byteSize st.items.length p.size <;> simp only [cfg] at h <;>
    simp [Fifo.runActs, Fifo.step, Port.dev, Port.admitPkt, Port.admitPlain, cfg, h, Port.refuse, Port.accept, Fifo.entered,
      Fifo.left]

/-! `toF` by the phase of the server -/

theorem toF_init {q0 : QEntry ℚ} (e : a.port = .init q0) (now : ℚ) :
    toF size a now = { toF size a now with getPending := false, handed := none, tx := none, started := false } := by
  unfold toF; rw [e]

theorem toF_W {g : EvId} (e : a.port = .W g) (now : ℚ) :
    toF size a now = { toF size a now with getPending := true, handed := none, tx := none, started := true } := by
  unfold toF; rw [e]

theorem toF_H {g : EvId} {id : Int} {q0 : QEntry ℚ} (e : a.port = .H g id q0) (now : ℚ) :
    toF size a now =
      { toF size a now with getPending := false, handed := some (pktOf size id), tx := none, started := true } := by
  unfold toF; rw [e]

theorem toF_T {t : EvId} {id : Int} {q0 : QEntry ℚ} (e : a.port = .T t id q0) (now : ℚ) :
    toF size a now =
      { toF size a now with getPending := false, handed := none, tx := some (pktOf size id, q0.time, 0), started := true } := by
  unfold toF; rw [e]

/-- the LTS lets the clock advance to the next entry -/
theorem AInv.tickOk (hi : AInv size rate ql arrivals a now outs) (hq : IsMin a q) (h : now < q.time) :
    Fifo.TickOk (toF size a now) q.time := by
  unfold Fifo.TickOk
  rcases (hi.quiet (min_ne_now hi.due hq h)).2 with ⟨t, id, q0, e⟩ | ⟨⟨g, e⟩, hit⟩
  · have hq0 := not_keyLt_time (hq.2 q0 (mem_port (e ▸ List.mem_singleton_self q0)))
    rw [toF_T e]
    exact ⟨h.le, rfl, rfl, fun hc => Bool.false_ne_true hc.1, fun p due k htx => by cases htx; exact hq0⟩
  · rw [toF_W e]
    exact ⟨h.le, rfl, rfl, fun hc => hc.2 (congrArg (List.map (pktOf size)) hit), fun _ _ _ htx => nomatch htx⟩

/-- zero or one `tick` brings the LTS to the instant of the next entry -/
theorem lts_advance (hi : AInv size rate ql arrivals a now outs) (hq : IsMin a q) :
    ∃ acts, Fifo.runActs (Port.dev (cfg rate ql)) (toF size a now) acts = .ok (toF size a q.time, [], []) :=
  Fifo.runActs_advance (hi.now_le hq) (hi.tickOk hq)

end PortK
