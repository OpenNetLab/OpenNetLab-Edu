import OnlVerif.Lemmas.ConserveBase
/-!
# C06 / C07: queue discipline along whole runs

* `QSorted`: every put queue is sorted by rank — creation order for the plain classes,
  `(priority, request time, preempting-first, creation)` for `PriorityResource` / `PreemptiveResource`; every get
  queue is in creation order.
* `GrantOrd s s'` (transitive, so it speaks about whole runs): if `a` is queued before `b` in `s` and `b` has been
  granted in `s'`, then `a` has been granted in `s'` too, or was cancelled (left the queue untriggered); requests that
  stay queued keep their relative order; a cancelled request is never granted.  For get queues the first clause is
  claimed for every class except `FilterStore`.
-/

variable {σ : Type}

namespace Conserve

theorem keyLt_iff (a b : ReqData ℚ) : keyLt a b = true ↔
    a.prio < b.prio ∨ (a.prio = b.prio ∧ (a.time < b.time ∨ (a.time = b.time ∧ a.preempt = true ∧ b.preempt = false))) := by
  unfold keyLt
  simp only [Bool.or_eq_true, Bool.and_eq_true, decide_eq_true_eq, beq_iff_eq, Bool.not_eq_true', decide_eq_false_iff_not,
    not_lt]
  constructor
  · rintro (h | ⟨h1, h2 | ⟨h2, h3, h4⟩⟩)
    · exact Or.inl h
    · exact Or.inr ⟨h1, Or.inl h2⟩
    · rcases lt_or_eq_of_le h2 with h | h
      · exact Or.inr ⟨h1, Or.inl h⟩
      · exact Or.inr ⟨h1, Or.inr ⟨h, h3, h4⟩⟩
  · rintro (h | ⟨h1, h2 | ⟨h2, h3, h4⟩⟩)
    · exact Or.inl h
    · exact Or.inr ⟨h1, Or.inl h2⟩
    · exact Or.inr ⟨h1, Or.inr ⟨le_of_eq h2, h3, h4⟩⟩

theorem keyLt_asymm {a b : ReqData ℚ} (h : keyLt a b = true) : keyLt b a = false := by
  cases hb : keyLt b a with
  | false => rfl
  | true =>
    exfalso
    rw [keyLt_iff] at h hb
    rcases h with h | ⟨h1, h | ⟨h2, h3, _⟩⟩ <;> rcases hb with g | ⟨g1, g | ⟨g2, _, g4⟩⟩
    · exact lt_asymm h g
    · exact lt_irrefl _ (lt_of_lt_of_eq h g1)
    · exact lt_irrefl _ (lt_of_lt_of_eq h g1)
    · exact lt_irrefl _ (lt_of_eq_of_lt h1 g)
    · exact lt_asymm h g
    · exact lt_irrefl _ (lt_of_lt_of_eq h g2)
    · exact lt_irrefl _ (lt_of_eq_of_lt h1 g)
    · exact lt_irrefl _ (lt_of_eq_of_lt h2 g)
    · exact Bool.noConfusion (h3.symm.trans g4)

theorem keyLt_cotrans {a c : ReqData ℚ} (b : ReqData ℚ) (h : keyLt a c = true) : keyLt a b = true ∨ keyLt b c = true := by
  rw [keyLt_iff] at h
  rw [keyLt_iff, keyLt_iff]
  rcases lt_trichotomy a.prio b.prio with p | p | p
  · exact Or.inl (Or.inl p)
  · rcases lt_trichotomy a.time b.time with t | t | t
    · exact Or.inl (Or.inr ⟨p, Or.inl t⟩)
    · rcases h with h | ⟨h1, h | ⟨h2, h3, h4⟩⟩
      · exact Or.inr (Or.inl (lt_of_eq_of_lt p.symm h))
      · exact Or.inr (Or.inr ⟨p.symm.trans h1, Or.inl (lt_of_eq_of_lt t.symm h)⟩)
      · cases hb : b.preempt with
        | true => exact Or.inr (Or.inr ⟨p.symm.trans h1, Or.inr ⟨t.symm.trans h2, rfl, h4⟩⟩)
        | false => exact Or.inl (Or.inr ⟨p, Or.inr ⟨t, h3, rfl⟩⟩)
    · rcases h with h | ⟨h1, h | ⟨h2, _, _⟩⟩
      · exact Or.inr (Or.inl (lt_of_eq_of_lt p.symm h))
      · exact Or.inr (Or.inr ⟨p.symm.trans h1, Or.inl (lt_trans t h)⟩)
      · exact Or.inr (Or.inr ⟨p.symm.trans h1, Or.inl (lt_of_lt_of_eq t h2)⟩)
  · rcases h with h | ⟨h1, _⟩
    · exact Or.inr (Or.inl (lt_trans p h))
    · exact Or.inr (Or.inl (lt_of_lt_of_eq p h1))

theorem keyLt_trans {a b c : ReqData ℚ} (h : keyLt a b = true) (g : keyLt b c = true) : keyLt a c = true :=
  (keyLt_cotrans c h).resolve_right (by rw [keyLt_asymm g]; exact Bool.false_ne_true)

theorem keyLt_of_core {s s' : KState ℚ σ} {a b : EvId} (ha : coreOf s' a = coreOf s a) (hb : coreOf s' b = coreOf s b) :
    keyLt (reqOf s' a) (reqOf s' b) = keyLt (reqOf s a) (reqOf s b) := by
  unfold keyLt
  rw [prio_of_core ha, prio_of_core hb, time_of_core ha, time_of_core hb, preempt_of_core ha, preempt_of_core hb]

def rankLt (s : KState ℚ σ) (prio : Bool) (a b : EvId) : Prop :=
  if prio then keyLt (reqOf s a) (reqOf s b) = true ∨ (keyLt (reqOf s b) (reqOf s a) = false ∧ a < b) else a < b

theorem rankLt_asymm {s : KState ℚ σ} {prio : Bool} {a b : EvId} (h : rankLt s prio a b) : ¬ rankLt s prio b a := by
  unfold rankLt at h ⊢
  cases prio
  · simp only [Bool.false_eq_true, if_false] at h ⊢; exact Nat.lt_asymm h
  · simp only [if_true] at h ⊢
    rintro (g | ⟨g1, g2⟩)
    · rcases h with h | ⟨h1, _⟩
      · rw [keyLt_asymm h] at g; cases g
      · rw [h1] at g; cases g
    · rcases h with h | ⟨_, h2⟩
      · rw [h] at g1; cases g1
      · exact Nat.lt_asymm h2 g2

theorem rankLt_of_core {s s' : KState ℚ σ} {prio : Bool} {a b : EvId} (ha : coreOf s' a = coreOf s a)
    (hb : coreOf s' b = coreOf s b) : rankLt s' prio a b ↔ rankLt s prio a b := by
  unfold rankLt
  rw [keyLt_of_core ha hb, keyLt_of_core hb ha]

/-- `SortedQueue.append` keeps the queue sorted by rank: the new request goes behind every request that does not rank
after it (stable) -/
theorem pairwise_insertSorted (s : KState ℚ σ) (e : EvId) (l : List EvId) (hs : l.Pairwise (rankLt s true))
    (hlt : ∀ x ∈ l, x < e) : (insertSorted s e l).Pairwise (rankLt s true) := by
  induction l with
  | nil => simp [insertSorted]
  | cons x xs ih =>
    have hx := List.pairwise_cons.mp hs
    unfold insertSorted
    split
    · rename_i hk
      refine List.pairwise_cons.mpr ⟨?_, hs⟩
      intro y hy
      rcases List.mem_cons.mp hy with rfl | hy
      · unfold rankLt; simp only [if_true]; exact Or.inl hk
      · have hxy := hx.1 y hy
        unfold rankLt at hxy ⊢
        simp only [if_true] at hxy ⊢
        left
        rcases hxy with hxy | ⟨hxy, _⟩
        · exact keyLt_trans hk hxy
        · rcases keyLt_cotrans (reqOf s y) hk with h | h
          · exact h
          · rw [hxy] at h; cases h
    · rename_i hk
      refine List.pairwise_cons.mpr ⟨?_, ih hx.2 (fun y hy => hlt y (List.mem_cons_of_mem _ hy))⟩
      intro y hy
      rw [mem_insertSorted] at hy
      rcases hy with rfl | hy
      · unfold rankLt; simp only [if_true]
        by_cases hxe : keyLt (reqOf s x) (reqOf s y) = true
        · exact Or.inl hxe
        · exact Or.inr ⟨by simpa using hk, hlt x List.mem_cons_self⟩
      · exact hx.1 y hy

def Before (l : List EvId) (a b : EvId) : Prop := [a, b].Sublist l

theorem Before.mem {l : List EvId} {a b : EvId} (h : Before l a b) : a ∈ l ∧ b ∈ l :=
  ⟨h.subset List.mem_cons_self, h.subset (List.mem_cons_of_mem _ List.mem_cons_self)⟩

theorem Before.of_sublist {l l' : List EvId} {a b : EvId} (h : Before l a b) (hs : l.Sublist l') : Before l' a b :=
  List.Sublist.trans h hs

theorem Before.erase {l : List EvId} {a b e : EvId} (h : Before l a b) (ha : a ≠ e) (hb : b ≠ e) : Before (l.erase e) a b := by
  have := List.Sublist.erase e h
  rwa [List.erase_of_not_mem (by simp [Ne.symm ha, Ne.symm hb])] at this

theorem not_before_head {e : EvId} {rest : List EvId} (hn : (e :: rest).Nodup) (a : EvId) : ¬ Before (e :: rest) a e := by
  intro h
  have hne := (List.nodup_cons.mp hn).1
  unfold Before at h
  rw [List.sublist_cons_iff] at h
  rcases h with h | ⟨r, h1, h2⟩
  · exact hne (h.subset (List.mem_cons_of_mem _ List.mem_cons_self))
  · injection h1 with h1 h3
    subst h3
    exact hne (h2.subset List.mem_cons_self)

theorem mem_pre_of_before {pre rest : List EvId} {e a : EvId} (hn : (pre ++ e :: rest).Nodup)
    (h : Before (pre ++ e :: rest) a e) : a ∈ pre := by
  induction pre with
  | nil => exact absurd h (not_before_head hn a)
  | cons p ps ih =>
    unfold Before at h
    rw [List.cons_append, List.sublist_cons_iff] at h
    rcases h with h | ⟨r, h1, _⟩
    · exact List.mem_cons_of_mem _ (ih (List.nodup_cons.mp hn).2 h)
    · injection h1 with h1 _
      rw [h1]; exact List.mem_cons_self

theorem before_of_rel {R : EvId → EvId → Prop} (hasymm : ∀ a b, R a b → ¬ R b a) :
    ∀ {l : List EvId}, l.Pairwise R → ∀ {a b : EvId}, a ∈ l → b ∈ l → R a b → Before l a b
  | [], _, _, _, ha, _, _ => by cases ha
  | x :: xs, hp, a, b, ha, hb, hr => by
    have hx := List.pairwise_cons.mp hp
    rcases List.mem_cons.mp ha with rfl | ha'
    · rcases List.mem_cons.mp hb with rfl | hb'
      · exact absurd hr (hasymm _ _ hr)
      · exact List.Sublist.cons_cons _ (List.singleton_sublist.mpr hb')
    · rcases List.mem_cons.mp hb with rfl | hb'
      · exact absurd (hx.1 a ha') (hasymm _ _ hr)
      · exact List.Sublist.cons _ (before_of_rel hasymm hx.2 ha' hb' hr)

theorem QChange.keep {s' : KState ℚ σ} {n : EvId} {k : Kind} {prio : Bool} {Q Q' : List EvId}
    (h : QChange s' n k prio Q Q') (hn : Q.Nodup) {a b : EvId} (hab : Before Q a b) (ha : a ∈ Q') (hb : b ∈ Q') :
    Before Q' a b := by
  cases h with
  | same => exact hab
  | erase e =>
    rw [hn.mem_erase_iff] at ha hb
    exact hab.erase ha.1 hb.1
  | enter _ =>
    split
    · exact hab.of_sublist (sublist_insertSorted _ _ _)
    · exact hab.of_sublist (List.sublist_append_left _ _)

theorem QChange.sorted {s' : KState ℚ σ} {n : EvId} {k : Kind} {prio : Bool} {Q Q' : List EvId}
    (h : QChange s' n k prio Q Q') (hs : Q.Pairwise (rankLt s' prio)) (hlt : ∀ x ∈ Q, x < n) :
    Q'.Pairwise (rankLt s' prio) := by
  cases h with
  | same => exact hs
  | erase e => exact hs.sublist List.erase_sublist
  | enter _ =>
    cases prio with
    | true => rw [if_pos rfl]; exact pairwise_insertSorted _ _ _ hs hlt
    | false =>
      rw [if_neg Bool.false_ne_true, List.pairwise_append]
      refine ⟨hs, List.pairwise_singleton _ _, ?_⟩
      intro a ha b hb
      rw [List.mem_singleton] at hb; subst hb
      unfold rankLt; rw [if_neg Bool.false_ne_true]
      exact hlt a ha

/-- `mine`: the requests this queue is for; `Q, out`: queue and outcomes before; `Q', out'`: after; `P`: the class
serves strictly in queue order -/
structure QOrd (mine : EvId → Prop) (P : Prop) (Q Q' : List EvId) (out out' : EvId → Option Outcome) : Prop where
  order : P → ∀ a b, Before Q a b → out' b ≠ none → out' a ≠ none ∨ (a ∉ Q' ∧ out' a = none)
  keep : ∀ a b, Before Q a b → a ∈ Q' → b ∈ Q' → Before Q' a b
  /-- a request that left the queue untriggered (cancelled) is never granted and never comes back -/
  dead : ∀ a, mine a → a ∉ Q → out a = none → a ∉ Q' ∧ out' a = none

namespace QOrd

theorem trans {mine1 mine2 : EvId → Prop} {P : Prop} {Q1 Q2 Q3 : List EvId} {o1 o2 o3 : EvId → Option Outcome}
    (h12 : QOrd mine1 P Q1 Q2 o1 o2) (h23 : QOrd mine2 P Q2 Q3 o2 o3) (hm : ∀ a, mine1 a → mine2 a)
    (hq1 : ∀ a ∈ Q1, mine1 a) (hu3 : ∀ a ∈ Q3, o3 a = none) (hstab : ∀ a, mine1 a → o2 a ≠ none → o3 a ≠ none) :
    QOrd mine1 P Q1 Q3 o1 o3 := by
  refine ⟨?_, ?_, ?_⟩
  · intro hP a b hab hb3
    have hma := hm a (hq1 a hab.mem.1)
    have hmb := hm b (hq1 b hab.mem.2)
    by_cases hb2 : o2 b = none
    · have hbQ : b ∈ Q2 := by
        by_contra hc
        exact hb3 (h23.dead b hmb hc hb2).2
      by_cases ha2 : o2 a = none
      · by_cases haQ : a ∈ Q2
        · exact h23.order hP a b (h12.keep a b hab haQ hbQ) hb3
        · exact Or.inr (h23.dead a hma haQ ha2)
      · exact Or.inl (hstab a (hq1 a hab.mem.1) ha2)
    · rcases h12.order hP a b hab hb2 with ha2 | ⟨haQ, ha2⟩
      · exact Or.inl (hstab a (hq1 a hab.mem.1) ha2)
      · exact Or.inr (h23.dead a hma haQ ha2)
  · intro a b hab ha3 hb3
    have hin : ∀ x, x ∈ Q1 → x ∈ Q3 → x ∈ Q2 := by
      intro x hx1 hx3
      by_contra hc
      by_cases hx2 : o2 x = none
      · exact (h23.dead x (hm x (hq1 x hx1)) hc hx2).1 hx3
      · exact hstab x (hq1 x hx1) hx2 (hu3 x hx3)
    exact h23.keep a b (h12.keep a b hab (hin a hab.mem.1 ha3) (hin b hab.mem.2 hb3)) ha3 hb3
  · intro a hma haQ ha1
    obtain ⟨h1, h2⟩ := h12.dead a hma haQ ha1
    exact h23.dead a (hm a hma) h1 h2

theorem of_same {mine : EvId → Prop} {P : Prop} {Q Q' : List EvId} {o o' : EvId → Option Outcome} (hQ : Q' = Q)
    (ho : ∀ a, mine a → o' a = o a) (hm : ∀ a ∈ Q, mine a) (hu : ∀ a ∈ Q, o a = none) : QOrd mine P Q Q' o o' := by
  subst hQ
  refine ⟨?_, fun a b h _ _ => h, ?_⟩
  · intro _ a b hab hb
    exfalso
    apply hb
    rw [ho b (hm b hab.mem.2)]; exact hu b hab.mem.2
  · intro a hma haQ ha
    exact ⟨haQ, by rw [ho a hma]; exact ha⟩

theorem of_erase {mine : EvId → Prop} {P : Prop} {Q Q' : List EvId} {o o' : EvId → Option Outcome} {e : EvId}
    (hQ : Q' = Q.erase e) (hnd : Q.Nodup) (heQ : mine e → e ∈ Q) (ho : ∀ a, a ≠ e → o' a = o a) (hu : ∀ a ∈ Q, o a = none)
    (hhead : e ∈ Q → P → ∃ rest, Q = e :: rest) : QOrd mine P Q Q' o o' := by
  subst hQ
  refine ⟨?_, ?_, ?_⟩
  · intro hP a b hab hb
    by_cases hbe : b = e
    · subst hbe
      obtain ⟨rest, hr⟩ := hhead hab.mem.2 hP
      rw [hr] at hab hnd
      exact absurd hab (not_before_head hnd a)
    · exfalso
      apply hb
      rw [ho b hbe]; exact hu b hab.mem.2
  · intro a b hab ha hb
    rw [hnd.mem_erase_iff] at ha hb
    exact hab.erase ha.1 hb.1
  · intro a hma haQ ha
    have hae : a ≠ e := fun hc => haQ (hc ▸ heQ (hc ▸ hma))
    exact ⟨fun hc => haQ (List.mem_of_mem_erase hc), by rw [ho a hae]; exact ha⟩

theorem of_quiet {mine : EvId → Prop} {P : Prop} {Q Q' : List EvId} {o o' : EvId → Option Outcome} {s' : KState ℚ σ}
    {n : EvId} {k : Kind} {prio : Bool} (hc : QChange s' n k prio Q Q') (hnd : Q.Nodup) (ho : ∀ a, mine a → o' a = o a)
    (hm : ∀ a ∈ Q, mine a) (hu : ∀ a ∈ Q, o a = none) (hn : ¬ mine n) : QOrd mine P Q Q' o o' := by
  refine ⟨?_, fun a b hab => hc.keep hnd hab, ?_⟩
  · intro _ a b hab hb
    exact absurd (by rw [ho b (hm b hab.mem.2)]; exact hu b hab.mem.2) hb
  · intro a hma haQ ha
    refine ⟨fun hin => ?_, by rw [ho a hma]; exact ha⟩
    rcases hc.mem hin with h | ⟨rfl, _⟩
    · exact haQ h
    · exact hn hma

end QOrd

structure QSorted (s : KState ℚ σ) : Prop where
  put : ∀ r, (s.res r).putQ.Pairwise (rankLt s (isPrioKind (s.res r).kind))
  get : ∀ r, (s.res r).getQ.Pairwise (fun a b => a < b)

structure GrantOrd (s s' : KState ℚ σ) : Prop where
  put : ∀ r, QOrd (fun a => (s.ev a).kind = .put r) True (s.res r).putQ (s'.res r).putQ
    (fun a => (s.ev a).out) (fun a => (s'.ev a).out)
  get : ∀ r, QOrd (fun a => (s.ev a).kind = .get r) ((s.res r).kind ≠ .fstore) (s.res r).getQ (s'.res r).getQ
    (fun a => (s.ev a).out) (fun a => (s'.ev a).out)

def QueueRel (s s' : KState ℚ σ) : Prop := Base s s' ∧ (WF s → GrantOrd s s' ∧ (QSorted s → QSorted s'))

theorem grantOrd_of_same {s s' : KState ℚ σ} (hW : WF s) (hp : ∀ r, (s'.res r).putQ = (s.res r).putQ)
    (hg : ∀ r, (s'.res r).getQ = (s.res r).getQ) (ho : ∀ a, isReq s a = true → (s'.ev a).out = (s.ev a).out) :
    GrantOrd s s' :=
  ⟨fun r => QOrd.of_same (hp r) (fun a ha => ho a (isReq_of_put ha)) (fun a ha => (hW.putQ r a ha).1)
      (fun a ha => (hW.putQ r a ha).2),
   fun r => QOrd.of_same (hg r) (fun a ha => ho a (isReq_of_get ha)) (fun a ha => (hW.getQ r a ha).1)
      (fun a ha => (hW.getQ r a ha).2)⟩

theorem qSorted_of_granted {s s' : KState ℚ σ} {e : EvId} {o : Outcome} (hG : Granted s s' e o) :
    QSorted s → QSorted s' := by
  intro hS
  refine ⟨fun r => ?_, fun r => by rw [hG.getQ]; exact (hS.get r).sublist List.erase_sublist⟩
  rw [hG.rkind, hG.putQ]
  refine ((hS.put r).sublist List.erase_sublist).imp_of_mem (fun ha hb hab => ?_)
  exact (rankLt_of_core (hG.core _) (hG.core _)).mpr hab

theorem QueueRel.trans {s1 s2 s3 : KState ℚ σ} (h12 : QueueRel s1 s2) (h23 : QueueRel s2 s3) : QueueRel s1 s3 := by
  refine ⟨h12.1.trans h23.1, ?_⟩
  intro hW
  have hW2 := h12.1.keepWF hW
  have hW3 := h23.1.keepWF hW2
  obtain ⟨g12, q12⟩ := h12.2 hW
  obtain ⟨g23, q23⟩ := h23.2 hW2
  refine ⟨⟨?_, ?_⟩, fun h => q23 (q12 h)⟩
  · intro r
    exact QOrd.trans (g12.put r) (g23.put r) (fun a ha => (h12.1.kind a (lt_size_of_put ha)).trans ha)
      (fun a ha => (hW.putQ r a ha).1) (fun a ha => (hW3.putQ r a ha).2) (fun a ha => h12.1.out_keep h23.1 (isReq_of_put ha))
  · intro r
    have g23r := g23.get r
    rw [h12.1.resKind] at g23r
    exact QOrd.trans (g12.get r) g23r (fun a ha => (h12.1.kind a (lt_size_of_get ha)).trans ha)
      (fun a ha => (hW.getQ r a ha).1) (fun a ha => (hW3.getQ r a ha).2) (fun a ha => h12.1.out_keep h23.1 (isReq_of_get ha))

theorem kind_ne_of_ne {r r' : ResId} (h : r' ≠ r) : Kind.put r' ≠ Kind.put r := by
  intro hc; exact h (Kind.put.inj hc)

theorem grantOrd_of_granted {s s' : KState ℚ σ} {e : EvId} {o : Outcome} (hW : WF s) (hG : Granted s s' e o)
    (hput : ∀ r, e ∈ (s.res r).putQ → ∃ rest, (s.res r).putQ = e :: rest)
    (hget : ∀ r, e ∈ (s.res r).getQ → (s.res r).kind ≠ .fstore → ∃ rest, (s.res r).getQ = e :: rest) : GrantOrd s s' :=
  ⟨fun r => QOrd.of_erase (hG.putQ r) (hW.putNodup r) (hG.queued r).1 hG.outOther (fun a ha => (hW.putQ r a ha).2)
      (fun hm _ => hput r hm),
   fun r => QOrd.of_erase (hG.getQ r) (hW.getNodup r) (hG.queued r).2 hG.outOther (fun a ha => (hW.getQ r a ha).2)
      (hget r)⟩

theorem grantOrd_of_quiet {s s' : KState ℚ σ} (hW : WF s) (h : Quiet s s') : GrantOrd s s' :=
  ⟨fun r => QOrd.of_quiet (h.putQ r) (hW.putNodup r) (fun a ha => h.out a (isReq_of_put ha))
      (fun a ha => (hW.putQ r a ha).1) (fun a ha => (hW.putQ r a ha).2) (fun hk => Nat.lt_irrefl _ (lt_size_of_put hk)),
   fun r => QOrd.of_quiet (h.getQ r) (hW.getNodup r) (fun a ha => h.out a (isReq_of_get ha))
      (fun a ha => (hW.getQ r a ha).1) (fun a ha => (hW.getQ r a ha).2) (fun hk => Nat.lt_irrefl _ (lt_size_of_get hk))⟩

theorem rankLt_false (s : KState ℚ σ) (a b : EvId) : rankLt s false a b ↔ a < b := by
  unfold rankLt; rw [if_neg Bool.false_ne_true]

theorem qSorted_of_quiet {s s' : KState ℚ σ} (hW : WF s) (h : Quiet s s') (hS : QSorted s) : QSorted s' := by
  refine ⟨fun r => ?_, fun r => ?_⟩
  · rw [(h.res r).1]
    refine (h.putQ r).sorted ?_ (fun x hx => lt_size_of_put (hW.putQ r x hx).1)
    refine (hS.put r).imp_of_mem (fun ha hb hab => ?_)
    exact (rankLt_of_core (h.core _ (lt_size_of_put (hW.putQ r _ ha).1)) (h.core _ (lt_size_of_put (hW.putQ r _ hb).1))).mpr hab
  · refine ((h.getQ r).sorted ((hS.get r).imp (rankLt_false s' _ _).mpr)
      (fun x hx => lt_size_of_get (hW.getQ r x hx).1)).imp (rankLt_false s' _ _).mp

theorem queueRel_of_quiet {s s' : KState ℚ σ} (h : Quiet s s') : QueueRel s s' :=
  ⟨Base.of_quiet h, fun hW => ⟨grantOrd_of_quiet hW h, qSorted_of_quiet hW h⟩⟩

theorem QueueRel.crel : CRel (QueueRel (σ := σ)) := by
  refine CRel.of_quiet
    (fun s => ⟨Base.refl s, fun hW => ⟨grantOrd_of_same hW (fun _ => rfl) (fun _ => rfl) (fun _ _ => rfl), fun h => h⟩⟩)
    QueueRel.trans (fun h => h.1) (fun _ _ _ => queueRel_of_quiet) ?_ ?_
  · intro s r0 e rest hW hq _ _ hG
    have hk0 : (s.ev e).kind = .put r0 := (hW.putQ r0 e (by rw [hq]; exact List.mem_cons_self)).1
    refine ⟨Base.of_granted hW hG, fun _ => ⟨grantOrd_of_granted hW hG (fun r hm => ?_)
      (fun r hm => absurd ((hW.getQ r e hm).1.symm.trans hk0) Kind.noConfusion), qSorted_of_granted hG⟩⟩
    obtain rfl := Kind.put.inj ((hW.putQ r e hm).1.symm.trans hk0)
    exact ⟨rest, hq⟩
  · intro s r0 e v pre rest hW hq _ hpre _ hG
    have hk0 : (s.ev e).kind = .get r0 := (hW.getQ r0 e (by rw [hq]; simp)).1
    refine ⟨Base.of_granted hW hG, fun _ => ⟨grantOrd_of_granted hW hG
      (fun r hm => absurd ((hW.putQ r e hm).1.symm.trans hk0) Kind.noConfusion) (fun r hm hf => ?_), qSorted_of_granted hG⟩⟩
    obtain rfl := Kind.get.inj ((hW.getQ r e hm).1.symm.trans hk0)
    cases pre with
    | nil => exact ⟨rest, hq⟩
    | cons p ps => exact absurd (hpre p List.mem_cons_self).1 hf

theorem QSorted.of_empty (s : KState ℚ σ) (h : ∀ r, (s.res r).putQ = [] ∧ (s.res r).getQ = []) : QSorted s :=
  ⟨fun r => by rw [(h r).1]; exact List.Pairwise.nil, fun r => by rw [(h r).2]; exact List.Pairwise.nil⟩

theorem reach_queue (body : σ → Resume → Burst ℚ σ) (fuel : Nat) (s s' : KState ℚ σ) (hW : WF s)
    (hr : SafeReach body fuel s s') : GrantOrd s s' ∧ (QSorted s → QSorted s') :=
  (QueueRel.crel.reach body fuel s s' hW hr).2 hW

end Conserve
