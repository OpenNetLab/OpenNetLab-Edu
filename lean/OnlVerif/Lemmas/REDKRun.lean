import OnlVerif.Lemmas.REDKStep
import OnlVerif.Lemmas.REDKAbsStep
import OnlVerif.Lemmas.KRun
/-!
# Generator → REDPort → sink on the kernel model: every kernel step is a configuration step; whole runs
-/

namespace REDK
open REDOnK QEntry

variable {c : Cfg ℚ} {sizes0 : List Nat} {gaps0 : List ℚ}
variable {s : KS} {a : A} {q : QEntry ℚ} {rest : List (QEntry ℚ)}

theorem PPhase.of_mem : ∀ {P : PPhase}, q ∈ P.entries →
    P.entries = [q] ∧ (P = .init q ∨ (∃ g id, P = .H g id q) ∨ ∃ t id, P = .T t id q)
  | .init _, h => by cases List.mem_singleton.mp h; exact ⟨rfl, .inl rfl⟩
  | .W _, h => nomatch h
  | .H g id _, h => by cases List.mem_singleton.mp h; exact ⟨rfl, .inr (.inl ⟨g, id, rfl⟩)⟩
  | .T t id _, h => by cases List.mem_singleton.mp h; exact ⟨rfl, .inr (.inr ⟨t, id, rfl⟩)⟩

theorem SPhase.of_mem : ∀ {S : SPhase}, q ∈ S.entries →
    S.entries = [q] ∧ ((∃ g z u, S = .init q g z u) ∨ (∃ g z u, S = .delay q g z u) ∨ (∃ n z g zs u, S = .wait n z g zs u q) ∨
      S = .ending q)
  | .init _ g z u, h => by cases List.mem_singleton.mp h; exact ⟨rfl, .inl ⟨g, z, u, rfl⟩⟩
  | .delay _ g z u, h => by cases List.mem_singleton.mp h; exact ⟨rfl, .inr (.inl ⟨g, z, u, rfl⟩)⟩
  | .wait n z g zs u _, h => by cases List.mem_singleton.mp h; exact ⟨rfl, .inr (.inr (.inl ⟨n, z, g, zs, u, rfl⟩))⟩
  | .ending _, h => by cases List.mem_singleton.mp h; exact ⟨rfl, .inr (.inr (.inr rfl))⟩
  | .done, h => nomatch h

theorem StepsTo.astep {fuel : Nat} {a' : A} {new : List (View ℚ)} (h : StepsTo c sizes0 fuel s q a' new)
    (hs : AStep c sizes0 a q a' new) :
    ∃ s' a' new, step (body c sizes0) (fuel + 1) s = .ok s' ∧ KInv s' a' ∧ AStep c sizes0 a q a' new ∧
      s'.now = q.time ∧ viewsOf s'.trace = viewsOf s.trace ++ new :=
  let ⟨s', h1, h2, h3, h4⟩ := h
  ⟨s', a', new, h1, h2, hs, h3, h4⟩

/-- **one kernel step = one configuration step**: the step is computed on the configuration of processes behind `a`
(`Lemmas/REDKStep.lean`), by cases on whose entry is popped -/
theorem kstep (fuel : Nat) {vs : List (View ℚ)} (hk : KInv s a)
    (hi : AInv c sizes0 gaps0 a s.now vs) (hp : popMin s.agenda = some (q, rest)) :
    ∃ s' a' new, step (body c sizes0) (fuel + 1) s = .ok s' ∧ KInv s' a' ∧ AStep c sizes0 a q a' new ∧
      s'.now = q.time ∧ viewsOf s'.trace = viewsOf s.trace ++ new := by
  have hmin := (min_of_pop hk.ag hp).1
  rcases mem_entries.mp hmin.1 with hq | hq | hq
  · -- an entry of the port process
    rcases (PPhase.of_mem hq).2 with hport | ⟨g, id, hport⟩ | ⟨t, id, hport⟩
    · -- `Port.run` starts
      have hpa := hi.port
      rw [hport] at hpa
      exact StepsTo.astep (port_blocks fuel hk (by rw [hport]; rfl) rfl hp (RunAt.begin hk 0 .start) rfl hpa.2.2.1)
        (.portInit a q _ hport)
    · -- `store.get()` has delivered packet `id`
      have hth : portThread a.port = ⟨0, .portGet, .getH 0 q id, none⟩ := by rw [hport]; rfl
      by_cases hr : 0 < c.rate
      · exact StepsTo.astep (port_serveTx fuel hk hth rfl hp (RunAt.begin hk 0 _) rfl hr) (.serveTx a q _ g _ id hport hr ⟨rfl, rfl⟩)
      · obtain ⟨R1, e1, h1⟩ := hrun_serveNow (sizes0 := sizes0) (RunAt.begin (q := q) hk 0 (.value (.int id))) q.ev id hr
        obtain ⟨R2, e2, h2⟩ := hrun_done (sizes0 := sizes0) h1 q.ev id
        cases hit : a.items with
        | nil =>
          exact StepsTo.astep (port_blocks fuel hk hth rfl hp h2 (e1.trans e2) hit) (.serveNowIdle a q g _ id hport hr hit)
        | cons i is =>
          exact StepsTo.astep (port_takes fuel hk hth rfl hp h2 (e1.trans e2) hit)
            (.serveNowNext a q _ g _ id i is hport hr hit ⟨rfl, rfl⟩)
    · -- the transmission of packet `id` ends
      have hth : portThread a.port = ⟨0, .portTx id, .sleep q, none⟩ := by rw [hport]; rfl
      obtain ⟨R2, e2, h2⟩ := hrun_done (sizes0 := sizes0) (RunAt.begin (q := q) hk 0 (.value .none)) q.ev id
      cases hit : a.items with
      | nil => exact StepsTo.astep (port_blocks fuel hk hth rfl hp h2 e2 hit) (.fireIdle a q t _ id hport hit)
      | cons i is => exact StepsTo.astep (port_takes fuel hk hth rfl hp h2 e2 hit) (.fireNext a q _ t _ id i is hport hit ⟨rfl, rfl⟩)
  · -- an entry of the generator process
    have hsa := hi.src
    rcases (SPhase.of_mem hq).2 with ⟨gaps, sizes, us, hsrc⟩ | ⟨gaps, sizes, us, hsrc⟩ | ⟨n, z, gaps, sizes, us, hsrc⟩ | hsrc
    · -- `DistPacketGenerator.run` starts: the initial delay
      rw [hsrc] at hsa
      have h0 : q.time = 0 := hsa.1.trans hsa.2.1
      exact StepsTo.astep (src_sleeps fuel hk (by rw [hsrc]; rfl) rfl hp
        (RunAt.begin hk 2 _) rfl hsa.2.2.2.2.1
        (X := .delay ⟨q.time + c.initialDelay, NORMAL, s.eid, s.events.size⟩ gaps sizes us) (by rw [h0]; rfl)) (.srcInit a q _ gaps sizes us hsrc rfl rfl)
    · -- the initial delay is over: the loop head
      rw [hsrc] at hsa
      have hth : srcThreads .portStart a.src = [⟨2, .genDelay q.time gaps sizes us, .sleep q, some []⟩] := by rw [hsrc]; rfl
      cases hnx : genNext c q.time gaps sizes with
      | none =>
        exact StepsTo.astep (src_returns fuel hk hth rfl hp (RunAt.begin hk 2 _) rfl hnx)
          (.srcDelayEnd a q _ gaps sizes us hsrc hnx ⟨rfl, rfl⟩)
      | some r =>
        obtain ⟨gap, z, gaps', sizes'⟩ := r
        obtain ⟨hg1, -, -⟩ := emit_genNext_some (c := c) 0 hnx
        exact StepsTo.astep (src_waits fuel hk hth rfl hp (RunAt.begin hk 2 _) rfl hnx (hsa.2.1 gap (by rw [hg1]; simp)))
          (.srcDelayWait a q _ gaps sizes us gap z gaps' sizes' hsrc hnx ⟨rfl, rfl⟩)
    · -- an arrival, then the loop head
      rw [hsrc] at hsa
      have hn : a.pend = none := by
        cases hpe : a.pend with
        | none => rfl
        | some u =>
          exfalso
          have hu := hi.pend u hpe
          exact min_not_eid_lt hi.due hmin (mem_pend hpe) hu.1 (hu.2.trans hsa.1.symm) (hsa.2.2 u hpe)
      have hgi := hi.gen
      rw [hsrc] at hgi
      have hd : needsDraw c (avgNew c a) = true → us ≠ [] := by
        intro _ hus
        have := hgi.draws
        simp [SPhase.todo, hus] at this
      have hth : srcThreads .portStart a.src = [⟨2, .genWait q.time n z gaps sizes us, .sleep q, some []⟩] := by
        rw [hsrc]; rfl
      obtain ⟨R1, e1, h1⟩ := hrun_arrive (c := c) (RunAt.begin (q := q) hk 2 (.value .none)) q.ev q.time n z gaps sizes us
      cases hdq : dropQ c (avgNew c a) (uAtt c (avgNew c a) us) with
      | false =>
        obtain ⟨R2, e2, h2, hlt⟩ := hrun_accept hd (fun us' => genLoop c q.time (n + 1) gaps sizes us') h1 q.ev hn hdq
        cases hnx : genNext c q.time gaps sizes with
        | none =>
          exact StepsTo.astep (src_returns fuel hk hth rfl hp h2 (e1.trans e2) hnx)
            (.srcAccEnd a q _ _ n z gaps sizes us hsrc hn hd hdq hnx ⟨rfl, rfl⟩ ⟨rfl, rfl⟩)
        | some r =>
          obtain ⟨gap, z', gaps', sizes'⟩ := r
          obtain ⟨hg1, -, -⟩ := emit_genNext_some (c := c) 0 hnx
          exact StepsTo.astep (src_waits fuel hk hth rfl hp h2 (e1.trans e2) hnx (hsa.2.1 gap (by rw [hg1]; simp)))
            (.srcAccWait a q _ _ n z gaps sizes us gap z' gaps' sizes' hsrc hn hd hdq hnx ⟨rfl, rfl⟩ ⟨rfl, rfl⟩ hlt)
      | true =>
        obtain ⟨R2, e2, h2⟩ := hrun_refuse hd (fun us' => genLoop c q.time (n + 1) gaps sizes us') h1 q.ev hdq
        cases hnx : genNext c q.time gaps sizes with
        | none =>
          exact StepsTo.astep (src_returns fuel hk hth rfl hp h2 (e1.trans e2) hnx)
            (.srcDropEnd a q _ n z gaps sizes us hsrc hn hd hdq hnx ⟨rfl, rfl⟩)
        | some r =>
          obtain ⟨gap, z', gaps', sizes'⟩ := r
          obtain ⟨hg1, -, -⟩ := emit_genNext_some (c := c) 0 hnx
          exact StepsTo.astep (src_waits fuel hk hth rfl hp h2 (e1.trans e2) hnx (hsa.2.1 gap (by rw [hg1]; simp)))
            (.srcDropWait a q _ n z gaps sizes us gap z' gaps' sizes' hsrc hn hd hdq hnx ⟨rfl, rfl⟩)
    · exact StepsTo.astep (kstep_srcEnd fuel hk hsrc hp) (.srcEnd a q hsrc)
  · -- the pending `StorePut` event
    have hpe : a.pend = some q := by
      cases hpe : a.pend with
      | none => rw [hpe] at hq; cases hq
      | some u => rw [hpe] at hq; rw [List.mem_singleton.mp hq]
    by_cases hw : ∃ g i is, a.port = .W g ∧ a.items = i :: is
    · obtain ⟨g, i, is, hport, hit⟩ := hw
      exact StepsTo.astep (kstep_putHand fuel hk hpe hport hit hp) (.putHand a q _ g i is hpe hport hit ⟨rfl, rfl⟩)
    · have hw' : a.port.getQ = [] ∨ a.items = [] := by
        cases hport : a.port with
        | W g =>
          right
          cases hit : a.items with
          | nil => rfl
          | cons i is => exact absurd ⟨g, i, is, hport, hit⟩ hw
        | init q0 => left; rfl
        | H g i q0 => left; rfl
        | T t i q0 => left; rfl
      exact StepsTo.astep (kstep_putIdle fuel hk hpe hw' hp) (.putIdle a q hpe hw')

/-- the kernel state `s` of the run is the configuration `a`, and `a` is sound -/
structure Inv (c : Cfg ℚ) (sizes0 : List Nat) (gaps0 : List ℚ) (s : KS) (a : A) : Prop where
  k : KInv s a
  a : AInv c sizes0 gaps0 a s.now (viewsOf s.trace)

/-- **one kernel step**: it is `.ok`, keeps the invariant, uses one unit of the step budget, appends the views `new` to the
trace, is a configuration step, and is a sequence of actions the RED LTS accepts from `toF a` to `toF a'` -/
theorem inv_step (fuel : Nat) (h : Inv c sizes0 gaps0 s a) (hp : popMin s.agenda = some (q, rest)) :
    ∃ s' a' new, step (body c sizes0) (fuel + 1) s = .ok s' ∧ Inv c sizes0 gaps0 s' a' ∧ a'.mu + 1 ≤ a.mu ∧
      viewsOf s'.trace = viewsOf s.trace ++ new ∧ AStep c sizes0 a q a' new ∧ s'.now = q.time ∧
      ∃ acts insI, a'.accIds = a.accIds ++ insI ∧
        Fifo.runActs (Port.dev (cfg c)) (toF c sizes0 a s.now (usV (viewsOf s.trace))) acts =
          .ok (toF c sizes0 a' s'.now (usV (viewsOf s'.trace)), insI.map Int.toNat, (outsV new).map (·.1.toNat)) := by
  obtain ⟨s', a', new, h1, h2, h3, h4, h5⟩ := kstep fuel h.k h.a hp
  obtain ⟨g1, g2, g3⟩ := astep_sound h.a (min_of_pop h.k.ag hp).1 h3
  refine ⟨s', a', new, h1, ⟨h2, ?_⟩, g2, h5, h3, h4, ?_⟩
  · rw [h4, h5]; exact g1
  · rw [h4, h5]; exact g3

/-- with an empty agenda everything is over -/
theorem inv_final (h : Inv c sizes0 gaps0 s a) (he : s.agenda = []) :
    a.items = [] ∧ a.port.inHand = [] ∧ a.src = .done ∧ a.mu = 0 := by
  have hent : a.entries = [] := List.Perm.eq_nil (he ▸ h.k.ag).symm
  have hsrc : a.src = .done := by
    cases hs : a.src with
    | done => rfl
    | _ => simp [A.entries, hs, SPhase.entries] at hent
  obtain ⟨hpe, ⟨t, id, q0, e⟩ | ⟨⟨g, e⟩, hit⟩⟩ := h.a.quiet (hent ▸ nofun)
  · simp [A.entries, e, PPhase.entries] at hent
  · exact ⟨hit, e ▸ rfl, hsrc, by simp [A.mu, e, hsrc, hpe, hit, PPhase.mu, SPhase.mu]⟩

/-- **`run()` returns**: with more step budget than the configuration needs, `runLoop` ends with an empty agenda -/
theorem run_returns (fuel : Nat) : ∀ (n : Nat) (s : KS) (a : A), Inv c sizes0 gaps0 s a → a.mu < n →
    ∃ sF aF, runLoop (body c sizes0) (fuel + 1) none n s = .returned .none sF ∧ Inv c sizes0 gaps0 sF aF ∧
      sF.agenda = [] :=
  fun n s a h hmu =>
    let ⟨sF, aF, h1, h2, h3, _⟩ := runLoop_returns (I := Inv c sizes0 gaps0) A.mu
      (fun _ _ _ _ hi hp => let ⟨s', a', _, h1, h2, h3, _⟩ := inv_step fuel hi hp; ⟨s', a', h1, h2, h3⟩) s n s a h hmu .init
    ⟨sF, aF, h1, h2, h3⟩

end REDK
