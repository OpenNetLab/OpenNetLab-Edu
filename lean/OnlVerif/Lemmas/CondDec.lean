import OnlVerif.Lemmas.CondRun
/-!
# The additional domain hypothesis is decidable; finite runs; programs that never trigger by hand

`DomStep body fuel s` can be evaluated for a concrete program and state (`decide +kernel`), and a run that ends
(empty agenda) after `N` steps satisfies `DomRun` as soon as its `N` states satisfy `DomStep`.
-/

namespace Cond
variable {σ : Type}

instance instDecDomCall (s : KState ℚ σ) : (c : Call ℚ σ) → Decidable (DomCall s c)
  | .succeed e _ => inferInstanceAs (Decidable (s.triggered e = true ∨ isCond s e = false))
  | .fail e _ => inferInstanceAs (Decidable (s.triggered e = true ∨ isCond s e = false))
  | .cond _ l => inferInstanceAs (Decidable (∀ e ∈ l, e < s.events.size))
  | .timeout .. | .event | .spawn .. | .interrupt .. | .probe .. | .request .. | .release .. | .cancel ..
  | .cput .. | .cget .. | .sput .. | .sget .. | .log .. | .load .. | .store .. => isTrue trivial

def DomBurst.dec (self : EvId) : (b : Burst ℚ σ) → (s : KState ℚ σ) → Decidable (DomBurst self b s)
  | .call c k, s => @instDecidableAnd _ _ (instDecDomCall s c) (DomBurst.dec self (k _) _)
  | .yield _ _, _ => isTrue trivial
  | .ret _, _ => isTrue trivial
  | .raise _, _ => isTrue trivial

instance (self : EvId) (b : Burst ℚ σ) (s : KState ℚ σ) : Decidable (DomBurst self b s) := DomBurst.dec self b s

def DomResume.dec (body : σ → Resume → Burst ℚ σ) (p : EvId) : (fuel : Nat) → (e : EvId) → (s : KState ℚ σ) →
    Decidable (DomResume body p fuel e s)
  | 0, _, _ => isTrue trivial
  | fuel + 1, e, s => by
    unfold DomResume
    split
    · exact isTrue trivial
    · refine @instDecidableAnd _ _ inferInstance ?_
      split
      · split
        · exact isTrue trivial
        · exact DomResume.dec body p fuel _ _
      · exact isTrue trivial

instance (body : σ → Resume → Burst ℚ σ) (p : EvId) (fuel : Nat) (e : EvId) (s : KState ℚ σ) :
    Decidable (DomResume body p fuel e s) := DomResume.dec body p fuel e s

instance (body : σ → Resume → Burst ℚ σ) (fuel : Nat) (iv p : EvId) (s : KState ℚ σ) : Decidable (DomIntr body fuel iv p s) := by
  unfold DomIntr
  split
  · exact isTrue trivial
  · split
    · exact isTrue trivial
    · split <;> exact inferInstance

instance instDecDomCb (body : σ → Resume → Burst ℚ σ) (fuel : Nat) (e : EvId) (s : KState ℚ σ) : (cb : Cb) → Decidable (DomCb body fuel e s cb)
  | .resume p => inferInstanceAs (Decidable (DomResume body p fuel e s))
  | .intr iv => by
    simp only [DomCb]
    split
    · exact inferInstance
    · exact isTrue trivial
  | .probe _ | .stop | .check _ | .build _ | .trigPut _ | .trigGet _ => isTrue trivial

def DomCbs.dec (body : σ → Resume → Burst ℚ σ) (fuel : Nat) (e : EvId) : (cbs : List Cb) → (l : LoopSt ℚ σ) → Decidable (DomCbs body fuel e cbs l)
  | [], _ => isTrue trivial
  | cb :: cbs, l => @instDecidableAnd _ _ (instDecDomCb body fuel e l.s cb) (DomCbs.dec body fuel e cbs _)

instance (body : σ → Resume → Burst ℚ σ) (fuel : Nat) (s : KState ℚ σ) : Decidable (DomStep body fuel s) := by
  unfold DomStep
  split
  · exact isTrue trivial
  · split
    · exact isTrue trivial
    · exact DomCbs.dec body fuel _ _ _

abbrev SafeUpTo (body : σ → Resume → Burst ℚ σ) (fuel : Nat) :=
  Once.UpTo (fun s => Once.SafeStep body fuel s ∧ DomStep body fuel s) body fuel

theorem SafeUpTo.safeRun {body : σ → Resume → Burst ℚ σ} {fuel : Nat} {s0 : KState ℚ σ} {N : Nat}
    (h : SafeUpTo body fuel s0 N) : SafeRun body fuel s0 :=
  ⟨fun s hr => (h.reach s hr).1, fun s hr => (h.reach s hr).2⟩

theorem DomProg.resume {body : σ → Resume → Burst ℚ σ} (h : DomProg body) (p : EvId) :
    ∀ (fuel : Nat) (e : EvId) (s : KState ℚ σ), DomResume body p fuel e s
  | 0, _, _ => trivial
  | fuel + 1, e, s => by
    unfold DomResume
    split
    · trivial
    · refine ⟨h _ _ _ _, ?_⟩
      split
      · split
        · trivial
        · exact DomProg.resume h p fuel _ _
      · trivial

theorem DomProg.step {body : σ → Resume → Burst ℚ σ} (h : DomProg body) (fuel : Nat) (s : KState ℚ σ) : DomStep body fuel s := by
  have hcb : ∀ (e : EvId) (x : KState ℚ σ) (cb : Cb), DomCb body fuel e x cb := by
    intro e x cb
    cases cb with
    | resume p => exact DomProg.resume h p fuel e x
    | intr iv =>
      simp only [DomCb]
      split
      · unfold DomIntr
        split
        · trivial
        · split
          · trivial
          · split <;> exact DomProg.resume h _ fuel _ _
      · trivial
    | _ => trivial
  have hcbs : ∀ (e : EvId) (cbs : List Cb) (l : LoopSt ℚ σ), DomCbs body fuel e cbs l := by
    intro e cbs
    induction cbs with
    | nil => intro _; trivial
    | cons cb cbs ih => intro l; exact ⟨hcb e l.s cb, ih _⟩
  unfold DomStep
  split
  · trivial
  · split
    · trivial
    · exact hcbs _ _ _

theorem DomProg.run {body : σ → Resume → Burst ℚ σ} (h : DomProg body) (fuel : Nat) (s0 : KState ℚ σ) : DomRun body fuel s0 :=
  fun s _ => h.step fuel s

theorem reach_of_iter {body : σ → Resume → Burst ℚ σ} {fuel : Nat} {s0 : KState ℚ σ} :
    ∀ (n : Nat) (s : KState ℚ σ), Once.iter body fuel n s0 = some s → KReach body fuel s0 s
  | 0, s, h => by simp only [Once.iter, Option.some.injEq] at h; subst h; exact KReach.init
  | n + 1, s, h => by
    simp only [Once.iter] at h
    cases hn : Once.iter body fuel n s0 with
    | none => rw [hn] at h; cases h
    | some x =>
      rw [hn] at h
      exact KReach.step (reach_of_iter n x hn) h

/-- in a state without a processed condition nothing is detached (a decidable sufficient condition) -/
theorem not_gone_of_no_built {rem : List Cb} {s : KState ℚ σ} (d : EvId)
    (h : ∀ a, a < s.events.size → isCond s a = true → (s.ev a).cbs.isSome = true) : ¬ Gone rem s d := by
  rintro ⟨a, _, h1, h2, _⟩
  have := h a (Once.lt_of_isCond s a h1) h1
  rw [h2] at this; cases this

end Cond
