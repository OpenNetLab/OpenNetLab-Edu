import OnlVerif.Lemmas.TimerKFrame
import OnlVerif.Lemmas.TokenBucket
import OnlVerif.Net.TBOnK
/-!
# The token bucket on the kernel model: canonical configurations (definitions)

`A` is an abstract description of a kernel state of the program `TBOnK.body`: where the two processes are suspended, which
agenda entries exist, what the store holds, the instant of the `put` of every packet, the token level.  `KInv s a` says that
the kernel state `s` *is* the configuration `a`; `AInv` is what holds of the configurations of a run.
-/

namespace TBK
open TBOnK
open TimerK (lookup)

abbrev St := TbS ℚ
abbrev KS := KState ℚ St

/-- where `TokenBucket.run` is -/
inductive RPhase where
  /-- not started: its `Initialize` entry `q` is in the agenda -/
  | init (q : QEntry ℚ)
  /-- blocked in `store.get()` (event `g`), called at `t0` -/
  | W (g : EvId) (t0 : ℚ)
  /-- `store.get()` (event `g`, called at `t0`) has been served with packet `id`: entry `q` -/
  | H (g : EvId) (id : Int) (q : QEntry ℚ) (t0 : ℚ)
  /-- waiting for tokens for packet `id`: sleeping on timeout `t`, entry `q` -/
  | T1 (t : EvId) (id : Int) (q : QEntry ℚ)
  /-- the peak-rate spacing of packet `id`: sleeping on timeout `t`, entry `q`; `k` sleeps taken before -/
  | T2 (t : EvId) (id : Int) (q : QEntry ℚ) (k : Nat)

/-- where the source is -/
inductive SPhase where
  | init (q : QEntry ℚ) (arr : List ℚ)
  /-- sleeping on the timeout (entry `q`) after which it puts packet `next`; `rest` still to come -/
  | wait (next : Nat) (rest : List ℚ) (q : QEntry ℚ)
  /-- the generator has returned: the process event (entry `q`) is triggered -/
  | ending (q : QEntry ℚ)
  | done

structure A where
  run : RPhase
  src : SPhase
  /-- the `StorePut` events that are triggered and not yet processed -/
  pend : List (QEntry ℚ)
  /-- `store.items` -/
  items : List Int
  /-- the instants of the `put`s so far (packet `k` is the `k`-th) -/
  cts : List ℚ
  /-- `current_bucket` -/
  level : ℚ
  /-- `update_time` -/
  upd : ℚ
  /-- `packets_sent` -/
  sent : Int

def RPhase.entries : RPhase → List (QEntry ℚ)
  | .init q => [q]
  | .W _ _ => []
  | .H _ _ q _ => [q]
  | .T1 _ _ q => [q]
  | .T2 _ _ q _ => [q]

def SPhase.entries : SPhase → List (QEntry ℚ)
  | .init q _ => [q]
  | .wait _ _ q => [q]
  | .ending q => [q]
  | .done => []

def A.entries (a : A) : List (QEntry ℚ) := a.run.entries ++ (a.src.entries ++ a.pend)

/-- the events a configuration talks about (pairwise different); the process event of `run` is 0, of the source 2 -/
def RPhase.ids : RPhase → List EvId
  | .init _ => [0, 1]
  | .W g _ => [0, g]
  | .H g _ _ _ => [0, g]
  | .T1 t _ _ => [0, t]
  | .T2 t _ _ _ => [0, t]

def SPhase.ids : SPhase → List EvId
  | .init _ _ => [2, 3]
  | .wait _ _ q => [2, q.ev]
  | .ending _ => [2]
  | .done => []

def pendIds (l : List (QEntry ℚ)) : List EvId := l.map (·.ev)

def A.ids (a : A) : List EvId := a.run.ids ++ (a.src.ids ++ pendIds a.pend)

def RPhase.getQ : RPhase → List EvId
  | .W g _ => [g]
  | _ => []

/-- kind, callbacks and outcome of a live event -/
def EvIs (s : KS) (e : EvId) (k : Kind) (cbs : List Cb) (out : Option Outcome) : Prop :=
  (s.ev e).kind = k ∧ (s.ev e).cbs = some cbs ∧ (s.ev e).out = out

/-- the record of the shaper's `Store` -/
def storeRec (getQ : List EvId) (items : List Int) : ResRec :=
  { kind := .store, capacity := none, getQ := getQ, items := items }

/-! ## the kernel side of a configuration -/

def RunEv (s : KS) : RPhase → Prop
  | .init q => q.ev = 1 ∧ EvIs s 1 (.init 0) [.resume 0] (some (.ok .none)) ∧
      s.proc? 0 = some { st := .bStart q.time, target := some 1 } ∧ EvIs s 0 .proc [] none
  | .W g t0 => EvIs s g (.get 0) [.trigPut 0, .resume 0] none ∧
      s.proc? 0 = some { st := .bGet t0, target := some g } ∧ EvIs s 0 .proc [] none
  | .H g id q t0 => q.ev = g ∧ EvIs s g (.get 0) [.trigPut 0, .resume 0] (some (.ok (.int id))) ∧
      s.proc? 0 = some { st := .bGet t0, target := some g } ∧ EvIs s 0 .proc [] none
  | .T1 t id q => q.ev = t ∧ EvIs s t .timeout [.resume 0] (some (.ok .none)) ∧
      s.proc? 0 = some { st := .bTok id q.time, target := some t } ∧ EvIs s 0 .proc [] none
  | .T2 t id q k => q.ev = t ∧ EvIs s t .timeout [.resume 0] (some (.ok .none)) ∧
      s.proc? 0 = some { st := .bPeak id q.time k, target := some t } ∧ EvIs s 0 .proc [] none

def SrcEv (s : KS) : SPhase → Prop
  | .init q arr => q.ev = 3 ∧ EvIs s 3 (.init 2) [.resume 2] (some (.ok .none)) ∧
      s.proc? 2 = some { st := .src q.time false 0 arr, target := some 3 } ∧ EvIs s 2 .proc [] none
  | .wait next rest q => EvIs s q.ev .timeout [.resume 2] (some (.ok .none)) ∧
      s.proc? 2 = some { st := .src q.time true next rest, target := some q.ev } ∧ EvIs s 2 .proc [] none
  | .ending q => q.ev = 2 ∧ EvIs s 2 .proc [] (some (.ok .none))
  | .done => True

/-- the kernel state `s` has the configuration `a` -/
structure KInv (s : KS) (a : A) : Prop where
  wf : AgendaWF s
  ag : s.agenda.Perm a.entries
  rsz : 0 < s.resources.size
  res : s.res 0 = storeRec a.run.getQ a.items
  run : RunEv s a.run
  src : SrcEv s a.src
  pend : ∀ u ∈ a.pend, EvIs s u.ev (.put 0) [.trigGet 0] (some (.ok .none))
  nd : a.ids.Nodup
  c0 : lookup s.shared cRecv = .int a.cts.length
  c1 : lookup s.shared cSent = .int a.sent
  c2 : lookup s.shared cLevel = TimeCell.enc a.level
  c3 : lookup s.shared cUpd = TimeCell.enc a.upd
  /-- (ghost cells) the instant of every `put` so far -/
  ct : ∀ k, k < a.cts.length → lookup s.shared (10 + k) = TimeCell.enc (a.cts.getD k 0)

/-! ## the abstract side -/

/-- the instant packet `id` was put -/
def A.ctOf (a : A) (id : Int) : ℚ := a.cts.getD id.toNat 0

def GapsOK (l : List ℚ) : Prop := ∀ x ∈ l, 0 ≤ x

/-- a truthy `peak` is positive (a negative one makes `env.timeout` raise) -/
def PeakOK (c : TbCfg ℚ) : Prop := ∀ k, TokenBucket.peakOn c = some k → 0 < k

def RunA (a : A) (now : ℚ) : RPhase → Prop
  | .init q => q.time = now ∧ q.prio = URGENT ∧ a.items = [] ∧ a.pend = [] ∧ a.cts = []
  | .W _ t0 => t0 ≤ now ∧ (∀ i ∈ a.items, a.ctOf i = now) ∧ (a.items ≠ [] → a.pend ≠ [])
  | .H _ id q t0 => q.time = now ∧ q.prio = NORMAL ∧ max t0 (a.ctOf id) = now ∧ 0 ≤ id ∧ id.toNat < a.cts.length
  | .T1 _ id q => q.prio = NORMAL ∧ 0 ≤ id ∧ id.toNat < a.cts.length
  | .T2 _ id q _ => q.prio = NORMAL ∧ 0 ≤ id ∧ id.toNat < a.cts.length

def SrcA (a : A) (now : ℚ) : SPhase → Prop
  | .init q arr => q.time = now ∧ q.prio = URGENT ∧ GapsOK arr ∧ a.cts = []
  | .wait next rest q => q.prio = NORMAL ∧ GapsOK rest ∧ next = a.cts.length
  | .ending q => q.time = now ∧ q.prio = NORMAL
  | .done => True

/-- what holds of a configuration at instant `now` -/
structure AInv (cfg : TbCfg ℚ) (a : A) (now : ℚ) : Prop where
  run : RunA a now a.run
  src : SrcA a now a.src
  pend : ∀ u ∈ a.pend, u.time = now ∧ u.prio = NORMAL
  due : ∀ x ∈ a.entries, now ≤ x.time
  /-- the packets in the store are known packets, put no later than now -/
  its : ∀ i ∈ a.items, 0 ≤ i ∧ i.toNat < a.cts.length ∧ a.ctOf i ≤ now
  good : TokenBucket.Good cfg
  peak : PeakOK cfg

/-- the level after the refill at `now`: `min(bucket_size, current_bucket + rate * (now - update_time) / 8.0)` -/
def refillA (cfg : TbCfg ℚ) (a : A) (now : ℚ) : ℚ := Num.pymin cfg.bucket (a.level + cfg.rate * (now - a.upd) / Num.ofNat 8)

/-- number of kernel steps a configuration still needs (an upper bound) -/
def RPhase.mu : RPhase → Nat
  | .init _ => 1
  | .W _ _ => 0
  | .H _ _ _ _ => 3
  | .T1 _ _ _ => 2
  | .T2 _ _ _ _ => 1

def SPhase.mu : SPhase → Nat
  | .init _ arr => 6 * arr.length + 2
  | .wait _ rest _ => 6 * rest.length + 7
  | .ending _ => 1
  | .done => 0

def A.mu (a : A) : Nat := a.run.mu + a.src.mu + a.pend.length + 4 * a.items.length

end TBK
