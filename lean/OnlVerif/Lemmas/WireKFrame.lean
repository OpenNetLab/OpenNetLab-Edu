import OnlVerif.Lemmas.WireKBasic
import OnlVerif.Lemmas.WireKAbs
import OnlVerif.Lemmas.KProcDefs
/-!
# The Wire on the kernel model: the cells and the observations

What the cells of a configuration hold (`Cells`: the counter and the arrival stamp of every packet), and the `out`/`lost`
observations of a trace that grows.
-/

namespace WireK
open WireOnK
open TimerK (lookup)

theorem outsOf_push (tr : Array (Obs ℚ)) (o : Obs ℚ) : outsOf (tr.push o) = outsOf tr ++ (outOf o).toList :=
  KExec.filterMap_push _ tr o

theorem leftsOf_push (tr : Array (Obs ℚ)) (o : Obs ℚ) : leftsOf (tr.push o) = leftsOf tr ++ (leftOf o).toList :=
  KExec.filterMap_push _ tr o

@[simp] theorem leftOf_resumed (p : EvId) (r : Resume) (t : ℚ) : leftOf (Obs.resumed p r t) = none := rfl
@[simp] theorem leftOf_ended (p : EvId) (o : Outcome) (t : ℚ) : leftOf (Obs.ended p o t) = none := rfl
@[simp] theorem leftOf_out (p : EvId) (i : Int) (t : ℚ) : leftOf (Obs.log p "out" (.int i) t) = some i := by
  simp [leftOf]
@[simp] theorem leftOf_lost (p : EvId) (i : Int) (t : ℚ) : leftOf (Obs.log p "lost" (.int i) t) = some i := by
  simp [leftOf]
@[simp] theorem outOf_lost (p : EvId) (i : Int) (t : ℚ) : outOf (Obs.log p "lost" (.int i) t) = none := by
  simp [outOf]

@[simp] theorem outOf_resumed (p : EvId) (r : Resume) (t : ℚ) : outOf (Obs.resumed p r t) = none := rfl
@[simp] theorem outOf_ended (p : EvId) (o : Outcome) (t : ℚ) : outOf (Obs.ended p o t) = none := rfl
@[simp] theorem outOf_out (p : EvId) (i : Int) (t : ℚ) : outOf (Obs.log p "out" (.int i) t) = some (i, t) := by
  simp [outOf]

/-- a frame condition on a flat state, from the hypothesis `hfr` about the same events -/
macro "frame_ev" hfr:ident : tactic =>
  `(tactic| (intro x hx hc; have hxg := $hfr x hx hc; wsimp [Nat.ne_of_lt hx, Nat.ne_of_lt (Nat.lt_succ_of_lt hx), hxg]))

/-- the cells hold `packets_rec` and `packet.current_time` of every packet handed to `put` so far -/
structure Cells (f : Nat → Val) (cts : List ℚ) : Prop where
  c0 : f 0 = .int cts.length
  ct : ∀ k, k < cts.length → f (10 + k) = TimeCell.enc (cts.getD k 0)

theorem KInv.cells {s : KS} {a : A} (hk : KInv s a) : Cells (lookup s.shared) a.cts := ⟨hk.c0, hk.ct⟩

/-- `put` counts the packet and stamps it -/
theorem Cells.stamp {f : Nat → Val} {cts : List ℚ} (h : Cells f cts) (t : ℚ) :
    Cells (KProc.upd (KProc.upd f 0 (.int (cts.length + 1))) (10 + cts.length) (TimeCell.enc t)) (cts ++ [t]) := by
  refine ⟨by simp [KProc.upd, show ¬ 0 = 10 + cts.length by omega], fun k hk => ?_⟩
  rw [List.length_append, List.length_singleton] at hk
  rcases Nat.lt_succ_iff_lt_or_eq.mp hk with hlt | rfl
  · rw [getD_snoc_lt _ _ _ hlt, ← h.ct k hlt]
    simp [KProc.upd, Nat.ne_of_lt hlt]
  · rw [getD_snoc_eq]
    simp [KProc.upd]

end WireK
