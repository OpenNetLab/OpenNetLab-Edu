import OnlVerif.Lemmas.TcpLiveDecr
import OnlVerif.Lemmas.TcpLiveQuiet
import Mathlib.Logic.Relation
/-!
# Fair runs of the closed loop terminate, and only in the complete state (C16)

* enabledness: in a state that is not quiescent some fair action is accepted (`fair_progress`);
* well-foundedness: every fair step decreases `mu` (`TcpLiveDecr.lean`), so fair runs are finite (`fair_acc`), also
  when interleaved with at most `k` losses (`bstep_acc`);
* hence from every state satisfying the invariant a loss-free run reaches the complete state (`can_complete`).
-/

open TcpScalar TcpSender TcpSink TcpLoop Sender

namespace AL
variable {β : Type}

theorem get?_of_mem_nodup {k : Nat} {v : β} : ∀ {l : List (Nat × β)}, (keys l).Nodup → (k, v) ∈ l → get? k l = some v := by
  intro l
  induction l with
  | nil => intro _ h; simp at h
  | cons x rest ih =>
    intro hn hm
    obtain ⟨k', v'⟩ := x
    have hn' := List.nodup_cons.mp hn
    unfold get?
    rcases List.mem_cons.mp hm with e | e
    · injection e with e1 e2
      subst e1 e2
      simp
    · have hk : k ∈ keys rest := mem_keys_of_mem e
      have : k' ≠ k := fun c => hn'.1 (c ▸ hk)
      simp only [this, if_false]
      exact ih hn'.2 e

end AL

namespace TcpLive

variable {n : Nat} {l : Loop ℚ}

theorem runLoop_total (fuel : Nat) : ∀ (s : Sender ℚ) (acc : List (Tx ℚ)), SInv n s → n - s.next_seq < fuel →
    ∃ s' outs, runLoop fuel s acc = .ok s' outs := by
  induction fuel with
  | zero => intro s acc _ hf; omega
  | succ fuel ih =>
    intro s acc h hf
    unfold runLoop
    rcases sendStep_cases h with ⟨_, e⟩ | ⟨hd, _, e⟩ | ⟨_, _, e⟩
    · rw [e]; exact ⟨_, _, rfl⟩
    · rw [e]
      simp only
      apply ih _ _ (sinv_sent h hd)
      have := h.mpos
      show n - (s.next_seq + s.mss) < fuel
      omega
    · rw [e]; exact ⟨_, _, rfl⟩

theorem exists_min_wake : ∀ T : List (Nat × TimerRec ℚ), T ≠ [] → ∃ kv ∈ T, ∀ kv' ∈ T, kv.2.wake ≤ kv'.2.wake := by
  intro T
  induction T with
  | nil => intro h; exact absurd rfl h
  | cons x rest ih =>
    intro _
    by_cases hr : rest = []
    · subst hr
      exact ⟨x, List.mem_cons_self, fun kv' hkv' => by simp at hkv'; subst hkv'; exact le_refl _⟩
    · obtain ⟨m, hm, hmin⟩ := ih hr
      by_cases hx : x.2.wake ≤ m.2.wake
      · refine ⟨x, List.mem_cons_self, fun kv' hkv' => ?_⟩
        rcases List.mem_cons.mp hkv' with e | e
        · subst e; exact le_refl _
        · exact le_trans hx (hmin kv' e)
      · refine ⟨m, List.mem_cons_of_mem _ hm, fun kv' hkv' => ?_⟩
        rcases List.mem_cons.mp hkv' with e | e
        · subst e; exact le_of_lt (not_le.mp hx)
        · exact hmin kv' e

theorem own_enabled {a : Act ℚ} {s' : Sender ℚ} {outs : List (Tx ℚ)} (ha : Loop.isAck a = false)
    (r : l.snd.step a = .ok s' outs) : ∃ l', l.step (.own a) = some l' := by
  unfold Loop.step
  simp only [ha, Bool.false_eq_true, if_false, r]
  exact ⟨_, rfl⟩

/-- **no fair deadlock**: while the kernel has something left to do, some fair action is accepted -/
theorem fair_progress (h : LInv n l) (hq : ¬ l.Quiescent) : ∃ a l', Loop.Fair l a ∧ l.step a = some l' := by
  by_cases hd : l.data = []
  swap
  · -- a delivery
    obtain ⟨tx, rest, hd'⟩ := List.exists_cons_of_ne_nil hd
    obtain ⟨p, hput, _⟩ := put_ok l.sink tx.seq tx.size h.sink
    have : ∃ l', l.step .deliver = some l' := by
      unfold Loop.step
      simp only [hd', hput]
      exact ⟨_, rfl⟩
    obtain ⟨l', hs⟩ := this
    exact ⟨_, l', .deliver, hs⟩
  by_cases ha : l.acks = []
  swap
  · -- an ACK arrival
    obtain ⟨x, rest, ha'⟩ := List.exists_cons_of_ne_nil ha
    have ox := h.acks x (by rw [ha']; exact List.mem_cons_self)
    obtain ⟨s', outs, r, _⟩ := ackStep_ok_cases h.s.inv (ox.good h).ok
    have r' : l.snd.step (.ack x) = .ok s' outs := r
    have : ∃ l', l.step .ackArrive = some l' := by
      unfold Loop.step
      simp only [ha', r']
      exact ⟨_, rfl⟩
    obtain ⟨l', hs⟩ := this
    exact ⟨_, l', .ackArrive, hs⟩
  by_cases hp : l.snd.proc = .runnable
  · -- `run` resumes
    obtain ⟨s', outs, r⟩ := runLoop_total (n + 1) l.snd [] h.s (by omega)
    have r' : l.snd.step (.wake (n + 1)) = .ok s' outs := by
      show l.snd.wakeStep (n + 1) = _
      unfold Sender.wakeStep
      rw [if_pos hp]; exact r
    obtain ⟨l', hs⟩ := own_enabled rfl r'
    exact ⟨_, l', .wake _, hs⟩
  by_cases hh : l.snd.proc = .blocked ∧ l.snd.tokens > 0
  · -- a token is handed over
    have r' : l.snd.step .handoff = .ok { l.snd with tokens := l.snd.tokens - 1, proc := .runnable } [] := by
      show l.snd.handoffStep = _
      unfold Sender.handoffStep
      rw [if_pos hh]
    obtain ⟨l', hs⟩ := own_enabled rfl r'
    exact ⟨_, l', .handoff, hs⟩
  -- a timer: due now, or the clock advances to the earliest
  have hT : l.snd.timers ≠ [] := by
    intro hT
    apply hq
    exact ⟨hd, ha, fun kv hkv => by rw [hT] at hkv; simp at hkv, hp, hh⟩
  obtain ⟨m, hm, hmin⟩ := exists_min_wake l.snd.timers hT
  obtain ⟨ml, me, mn⟩ := h.s.live m hm
  have hget : AL.get? m.1 l.snd.timers = some m.2 := AL.get?_of_mem_nodup h.s.inv.nodup hm
  by_cases hdue : m.2.wake = l.snd.now
  · obtain ⟨s', outs, r⟩ := fire_enabled hget ⟨ml, hdue, by rw [← me, hdue]; exact lt_irrefl _⟩
    obtain ⟨l', hs⟩ := own_enabled (a := .fire m.1) rfl r
    exact ⟨_, l', .fire _, hs⟩
  · have hlt : l.snd.now < m.2.wake := lt_of_le_of_ne mn (Ne.symm hdue)
    have hov : l.snd.overdue m.2.wake = false := (overdue_false_iff _ _).mpr fun kv hkv _ => hmin kv hkv
    have r' : l.snd.step (.tick m.2.wake) = .ok { l.snd with now := m.2.wake } [] := by
      show l.snd.tickStep m.2.wake = _
      unfold Sender.tickStep
      rw [if_neg (not_lt.mpr hlt.le), if_neg hp, if_neg hh, hov]
      simp
    obtain ⟨l', hs⟩ := own_enabled rfl r'
    exact ⟨_, l', .tick _ hd ha hlt ⟨m, hm, ml, (eqb_iff _ _).mpr rfl⟩, hs⟩

theorem fair_acc (h : LInv n l) : Acc (fun b a => Loop.FairStep a b) l :=
  acc_of_lt5 (mu n) (fun _ _ ha ⟨_, hf, hs⟩ => ⟨LInv_step ha hs, fair_decreases ha hf hs⟩) h

theorem bstep_acc (k : Nat) : ∀ l : Loop ℚ, LInv n l → Acc (fun b a => Loop.BStep a b) (k, l) := by
  refine acc_budget (fun l h => fair_acc h) (fun k l y h hb => ?_) k
  cases hb with
  | fair hf =>
    obtain ⟨a, hfa, hs⟩ := hf
    exact ⟨LInv_step h hs, Or.inl ⟨rfl, a, hfa, hs⟩⟩
  | dropData i hs => exact ⟨LInv_step h hs, Or.inr rfl⟩
  | dropAck i hs => exact ⟨LInv_step h hs, Or.inr rfl⟩

theorem no_infinite_of_acc {α : Type} {r : α → α → Prop} {x : α} (hacc : Acc r x) :
    ¬ ∃ f : Nat → α, f 0 = x ∧ ∀ i, r (f (i + 1)) (f i) :=
  fun h => not_acc_iff_exists_descending_chain.mpr h hacc

theorem fair_noDrop {a : LAct ℚ} (hf : Loop.Fair l a) : a.noDrop = true := by
  cases hf <;> rfl

theorem can_complete (h : LInv n l) :
    ∃ acts l', (∀ a ∈ acts, a.noDrop = true) ∧ l.run acts = some l' ∧ l'.Quiescent ∧ l'.Complete n := by
  have hacc := fair_acc h
  induction hacc with
  | intro l _ ih =>
    by_cases hq : l.Quiescent
    · exact ⟨[], l, fun a ha => by simp at ha, rfl, hq, quiescent_complete h hq⟩
    · obtain ⟨a, l1, hf, hs⟩ := fair_progress h hq
      obtain ⟨acts, l', h1, h2, h3, h4⟩ := ih l1 ⟨a, hf, hs⟩ (LInv_step h hs)
      refine ⟨a :: acts, l', ?_, ?_, h3, h4⟩
      · intro b hb
        rcases List.mem_cons.mp hb with e | e
        · subst e; exact fair_noDrop hf
        · exact h1 b e
      · unfold Loop.run
        simp only [hs]
        exact h2

theorem bstep_LInv {x y : Nat × Loop ℚ} (hb : Loop.BStep x y) (h : LInv n x.2) : LInv n y.2 := by
  cases hb with
  | fair hf => obtain ⟨a, _, hs⟩ := hf; exact LInv_step h hs
  | dropData i hs => exact LInv_step h hs
  | dropAck i hs => exact LInv_step h hs

theorem breach_LInv {x y : Nat × Loop ℚ} (hr : Relation.ReflTransGen Loop.BStep x y) (h : LInv n x.2) : LInv n y.2 := by
  induction hr with
  | refl => exact h
  | tail _ hb ih => exact bstep_LInv hb ih

theorem breach_lreach {x y : Nat × Loop ℚ} (hr : Relation.ReflTransGen Loop.BStep x y) : LReach x.2 y.2 := by
  induction hr with
  | refl => exact .init
  | tail _ hb ih =>
    cases hb with
    | fair hf => obtain ⟨a, _, hs⟩ := hf; exact .step ih hs
    | dropData i hs => exact .step ih hs
    | dropAck i hs => exact .step ih hs

theorem stuck_quiescent {k : Nat} (h : LInv n l) (hstuck : ∀ y, ¬ Loop.BStep (k, l) y) : l.Quiescent := by
  by_contra hq
  obtain ⟨a, l', hf, hs⟩ := fair_progress h hq
  exact hstuck (k, l') (.fair ⟨a, hf, hs⟩)

theorem quiescent_step (hq : l.Quiescent) {a : LAct ℚ} {l' : Loop ℚ} (hs : l.step a = some l') : ∃ t, a = .own (.tick t) := by
  by_contra hnt
  rw [quiescent_no_event hq a fun t e => hnt ⟨t, e⟩] at hs
  cases hs

theorem quiescent_stuck {k : Nat} (hq : l.Quiescent) : ∀ y, ¬ Loop.BStep (k, l) y := by
  intro y hb
  cases hb with
  | fair hf =>
    obtain ⟨a, hfa, hs⟩ := hf
    obtain ⟨t, rfl⟩ := quiescent_step hq hs
    -- a fair tick goes to the wake-up of a live timer, and there is none
    cases hfa with
    | tick t hd ha hlt hex =>
      obtain ⟨kv, hkv, hl, _⟩ := hex
      have := hq.2.2.1 kv hkv
      rw [hl] at this
      cases this
  | dropData i hs => obtain ⟨_, e⟩ := quiescent_step hq hs; cases e
  | dropAck i hs => obtain ⟨_, e⟩ := quiescent_step hq hs; cases e

theorem fairB_sound {a : LAct ℚ} (h : Loop.fairB l a = true) : Loop.Fair l a := by
  cases a with
  | own act =>
    cases act with
    | wake f => exact .wake f
    | handoff => exact .handoff
    | fire q => exact .fire q
    | ack x => simp [Loop.fairB] at h
    | tick t =>
      simp only [Loop.fairB, Bool.and_eq_true, List.isEmpty_iff, decide_eq_true_eq, List.any_eq_true] at h
      obtain ⟨⟨⟨h1, h2⟩, h3⟩, kv, hkv, h4, h5⟩ := h
      exact .tick t h1 h2 h3 ⟨kv, hkv, h4, h5⟩
  | deliver => exact .deliver
  | ackArrive => exact .ackArrive
  | dropData i => simp [Loop.fairB] at h
  | dropAck i => simp [Loop.fairB] at h

theorem runB_sound : ∀ (acts : List (LAct ℚ)) (k : Nat) (l : Loop ℚ) (y : Nat × Loop ℚ),
    Loop.runB k l acts = some y → Relation.ReflTransGen Loop.BStep (k, l) y := by
  intro acts
  induction acts with
  | nil =>
    intro k l y h
    simp only [Loop.runB] at h
    injection h with h
    subst h
    exact .refl
  | cons a rest ih =>
    intro k l y h
    unfold Loop.runB at h
    cases hs : l.step a with
    | none => rw [hs] at h; cases h
    | some l' =>
      rw [hs] at h
      simp only at h
      by_cases hf : Loop.fairB l a = true
      · rw [if_pos hf] at h
        exact Relation.ReflTransGen.head (.fair ⟨a, fairB_sound hf, hs⟩) (ih _ _ _ h)
      · rw [if_neg hf] at h
        by_cases hdr : Loop.isDrop a = true
        · rw [if_pos hdr] at h
          cases k with
          | zero => cases h
          | succ k =>
            simp only at h
            cases a with
            | dropData i => exact Relation.ReflTransGen.head (.dropData i hs) (ih _ _ _ h)
            | dropAck i => exact Relation.ReflTransGen.head (.dropAck i hs) (ih _ _ _ h)
            | own act => simp [Loop.isDrop] at hdr
            | deliver => simp [Loop.isDrop] at hdr
            | ackArrive => simp [Loop.isDrop] at hdr
        · rw [if_neg hdr] at h
          cases h

end TcpLive
