import OnlVerif.Lemmas.Scalar
import OnlVerif.Kernel.Step
/-!
# The state after an API call, by cases

`doCall` returns a state and a reply.  Whatever is proved about the state alone is proved for the unchanged state and for the thirteen shapes a
changed state can have; the reply (and the `let (s, e) := …` that builds it) is dealt with here, once.
-/

variable {σ : Type}

theorem doCall_state_cases (P : KState ℚ σ → Prop) (s : KState ℚ σ) (self : EvId) (c : Call ℚ σ)
    (same : P s)
    (timeout : ∀ d v, P ((s.newLabelled { kind := .timeout, cbs := some [], out := some (.ok v) }).1.schedule
      s.events.size NORMAL d))
    (event : P (s.newLabelled { kind := .plain, cbs := some [], out := none }).1)
    (succeed : ∀ e v, c = .succeed e v → P (s.trigger e (.ok v)))
    (fail : ∀ e x, c = .fail e x → P (s.trigger e (.fail x)))
    (spawn : ∀ st, P ((((s.newLabelled { kind := .proc, cbs := some [], out := none }).1.setProc s.events.size
      { st := st, target := some (s.events.size + 1) }).newEv
      { kind := .init s.events.size, cbs := some [.resume s.events.size], out := some (.ok .none) }).1.schedule
      (s.events.size + 1) URGENT Num.zero))
    (interrupt : ∀ p cause, P (mkInterrupt s p cause).1)
    (probe : ∀ e tag, P (s.addCb e (.probe tag)))
    (cond : ∀ all ops, P (mkCond s all ops).1)
    (put : ∀ r rq, P (mkPut s r rq).1)
    (get : ∀ r rq, P (mkGet s r rq).1)
    (cancel : ∀ e, P (cancelReq s e).1)
    (log : ∀ o, P (s.emit o))
    (store : ∀ l, P { s with shared := l }) : P (doCall s self c).1 := by
  cases c <;> simp only [doCall]
  case timeout d v => split <;> first | exact same | exact timeout d v
  case event => exact event
  case succeed e v => split <;> first | exact same | exact succeed e v rfl
  case fail e x => split <;> first | exact same | exact fail e x rfl
  case spawn st => exact spawn st
  case interrupt p cause =>
    split
    · exact same
    · have := interrupt p cause
      generalize mkInterrupt s p cause = r at this ⊢
      obtain ⟨s1, o⟩ := r
      cases o <;> exact this
  case probe e tag => split <;> first | exact same | exact probe e tag
  case cond all ops => exact cond all ops
  case request r prio pre =>
    split
    · exact same
    · have := put r { res := r, prio := prio, preempt := pre, time := s.now, proc := s.active }
      generalize mkPut s r _ = p at this ⊢
      exact this
  case release r req =>
    split
    · exact same
    · have := get r { res := r, time := s.now, proc := s.active, releaseOf := req }
      generalize mkGet s r _ = p at this ⊢
      exact this
  case cancel e =>
    have := cancel e
    generalize cancelReq s e = r at this ⊢
    obtain ⟨s1, o⟩ := r
    cases o <;> exact this
  case cput r a =>
    split
    · exact same
    · split
      · exact same
      · have := put r { res := r, amount := a, time := s.now, proc := s.active }
        generalize mkPut s r _ = p at this ⊢
        exact this
  case cget r a =>
    split
    · exact same
    · split
      · exact same
      · have := get r { res := r, amount := a, time := s.now, proc := s.active }
        generalize mkGet s r _ = p at this ⊢
        exact this
  case sput r it =>
    split
    · exact same
    · have := put r { res := r, item := it, time := s.now, proc := s.active }
      generalize mkPut s r _ = p at this ⊢
      exact this
  case sget r f =>
    split
    · exact same
    · have := get r { res := r, filter := f, time := s.now, proc := s.active }
      generalize mkGet s r _ = p at this ⊢
      exact this
  case log what v => exact log _
  case load k => exact same
  case store k v => exact store _
