import OnlVerif.Lemmas.ResStep
/-!
# Well-scoped kernel states (C03, stage 3): definitions

A state is *well-scoped* (`WS`) when it mentions no event id that has not been allocated yet — in callback lists, kinds,
process records, agenda, request data, values, resource queues/users, shared cells and trace — and when the operands of
every condition are older than the condition.  Python code cannot break this (ids are object references: a program
cannot name a future object); model programs can (`succeed (e + 1)`), so the theorems carry the *run-level* domain
hypothesis `ScopedRun`: every id a program passes to an API call, yields or returns exists at that moment.

* `IdSt σ` — how local process states (an abstract type `σ`) hold event ids: a renaming `rn u` (by `shAt u`) and a bound
  `below n`.  `IdSt.none`: local states hold no ids (script programs).
* `valBelow n`, `excBelow`, …, `recBelow n i`, `resBelow`, `obsBelow`, `callBelow` — "every id mentioned is `< n`".
* `SB I n s` — every id mentioned anywhere in `s` is `< n`, operands of a condition are older than the condition;
  `WS I s := SB I s.events.size s`.
* `ResumeAll P`, `IntrAll`, `CbAll`, `CbsAll`, `StepAll`, `RunAll` — "`P` holds of every burst a step executes"
  (mirrors the control flow of `resume` / `deliverInterrupt` / `runCb` / `step`, as `Once.SafeStep` does);
  `ScopedBurst`, `ScopedStep`, `ScopedRun` instantiate it with the domain hypothesis.
-/

variable {σ : Type}

/-- **local process states as containers of event ids**: `rn u` renames the ids kept in a local state by `shAt u`,
`below n st` says that every id kept in `st` is `< n` -/
structure IdSt (σ : Type) where
  rn : Nat → σ → σ
  below : Nat → σ → Prop
  mono : ∀ {n m : Nat} {st : σ}, below n st → n ≤ m → below m st
  /-- renaming at or above the bound changes nothing -/
  rn_below : ∀ {n u : Nat} {st : σ}, below n st → n ≤ u → rn u st = st
  /-- a renamed local state mentions ids below the bound plus one -/
  below_rn : ∀ {n u : Nat} {st : σ}, below n st → below (n + 1) (rn u st)

/-- local states that hold no event id at all (script programs: ids live in the shared slots) -/
def IdSt.none (σ : Type) : IdSt σ where
  rn := fun _ st => st
  below := fun _ _ => True
  mono := fun _ _ => trivial
  rn_below := fun _ _ => rfl
  below_rn := fun _ => trivial

namespace SplitWF

/-! ## "every id mentioned is below `n`" -/

def valBelow (n : Nat) : Val → Prop
  | .ev e => e < n
  | .cv keys => ∀ k ∈ keys, k < n
  | .preempted b r _ => (∀ p, b = some p → p < n) ∧ r < n
  | _ => True

def excBelow (n : Nat) (x : Exc) : Prop := ∀ v ∈ x.args, valBelow n v

def outBelow (n : Nat) : Outcome → Prop
  | .ok v => valBelow n v
  | .fail x => excBelow n x

def cbBelow (n : Nat) : Cb → Prop
  | .resume p => p < n
  | .intr iv => iv < n
  | .check c => c < n
  | .build c => c < n
  | _ => True

/-- the kind of the record at index `i`: the operands of a condition are older than the condition -/
def kindBelow (n i : Nat) : Kind → Prop
  | .init p => p < n
  | .intr p => p < n
  | .cond _ ops => ∀ o ∈ ops, o < i
  | _ => True

def reqBelow (n : Nat) (rq : ReqData ℚ) : Prop := (∀ p, rq.proc = some p → p < n) ∧ rq.releaseOf < n

structure recBelow (n i : Nat) (r : EvRec ℚ) : Prop where
  kind : kindBelow n i r.kind
  cbs : ∀ l, r.cbs = some l → ∀ cb ∈ l, cbBelow n cb
  out : ∀ o, r.out = some o → outBelow n o
  req : ∀ rq, r.req = some rq → reqBelow n rq

structure resBelow (n : Nat) (x : ResRec) : Prop where
  putQ : ∀ e ∈ x.putQ, e < n
  getQ : ∀ e ∈ x.getQ, e < n
  users : ∀ e ∈ x.users, e < n

def resumeBelow (n : Nat) : Resume → Prop
  | .start => True
  | .value v => valBelow n v
  | .exc x => excBelow n x

def replyBelow (n : Nat) : Reply → Prop
  | .ev e => e < n
  | .unit => True
  | .err x => excBelow n x
  | .val v => valBelow n v

def obsBelow (n : Nat) : Obs ℚ → Prop
  | .resumed p r _ => p < n ∧ resumeBelow n r
  | .log p _ v _ => p < n ∧ valBelow n v
  | .probe _ e o _ => e < n ∧ outBelow n o
  | .callErr p x _ => p < n ∧ excBelow n x
  | .ended p o _ => p < n ∧ outBelow n o

def termBelow (I : IdSt σ) (n : Nat) : Term σ → Prop
  | .yielded e st => e < n ∧ I.below n st
  | .returned v => valBelow n v
  | .raised x => excBelow n x

/-- **the domain hypothesis on one API call**: the ids it names exist.  (No condition on the target of `interrupt`,
`probe`, `cancel`: naming a non-existent id there has no effect in the model.) -/
def callBelow (I : IdSt σ) (n : Nat) : Call ℚ σ → Prop
  | .timeout _ v => valBelow n v
  | .succeed e v => e < n ∧ valBelow n v
  | .fail e x => e < n ∧ excBelow n x
  | .spawn st => I.below n st
  | .interrupt _ cause => valBelow n cause
  | .cond _ ops => ∀ o ∈ ops, o < n
  | .release _ req => req < n
  | .log _ v => valBelow n v
  | .store _ v => valBelow n v
  | _ => True

/-- every event id mentioned anywhere in `s` is below `n`; operands of a condition are older than the condition -/
structure SB (I : IdSt σ) (n : Nat) (s : KState ℚ σ) : Prop where
  events : ∀ i, recBelow n i (s.ev i)
  agenda : ∀ q ∈ s.agenda, q.ev < n
  procs : ∀ pr ∈ s.procs, pr.1 < n ∧ (∀ t, pr.2.target = some t → t < n) ∧ I.below n pr.2.st
  active : ∀ p, s.active = some p → p < n
  trace : ∀ o ∈ s.trace.toList, obsBelow n o
  shared : ∀ kv ∈ s.shared, valBelow n kv.2
  resources : ∀ r, resBelow n (s.res r)

/-- **well-scoped state**: no id is mentioned before it is allocated -/
def WS (I : IdSt σ) (s : KState ℚ σ) : Prop := SB I s.events.size s

/-! ## "`P` holds of every burst a step executes" -/

section mirror
variable (P : EvId → σ → Resume → KState ℚ σ → Prop) (body : σ → Resume → Burst ℚ σ)

/-- mirrors `resume`: `P p st r s` holds whenever process `p` with local state `st` is resumed with `r` in state `s` -/
def ResumeAll (p : EvId) : Nat → EvId → KState ℚ σ → Prop
  | 0, _, _ => True
  | fuel + 1, e, s =>
    match s.proc? p with
    | none => True
    | some pr =>
      P p pr.st (deliver s p e).2 ((deliver s p e).1.emit (.resumed p (deliver s p e).2 (deliver s p e).1.now)) ∧
      match (runBurst p (body pr.st (deliver s p e).2)
          ((deliver s p e).1.emit (.resumed p (deliver s p e).2 (deliver s p e).1.now))).2 with
      | .yielded e' st' =>
        match register ((runBurst p (body pr.st (deliver s p e).2)
            ((deliver s p e).1.emit (.resumed p (deliver s p e).2 (deliver s p e).1.now))).1.setProc p
              { st := st', target := some e' }) p e' with
        | some _ => True
        | none => ResumeAll p fuel e' ((runBurst p (body pr.st (deliver s p e).2)
            ((deliver s p e).1.emit (.resumed p (deliver s p e).2 (deliver s p e).1.now))).1.setProc p
              { st := st', target := some e' })
      | _ => True

/-- mirrors `deliverInterrupt` -/
def IntrAll (fuel : Nat) (iv p : EvId) (s : KState ℚ σ) : Prop :=
  if s.triggered p then True else
  match s.proc? p with
  | none => True
  | some pr =>
    match pr.target with
    | some t => ResumeAll P body p fuel iv (s.eraseCb t (.resume p))
    | none => ResumeAll P body p fuel iv s

/-- mirrors `runCb` -/
def CbAll (fuel : Nat) (e : EvId) (s : KState ℚ σ) : Cb → Prop
  | .resume p => ResumeAll P body p fuel e s
  | .intr iv =>
    match (s.ev iv).kind with
    | .intr p => IntrAll P body fuel iv p s
    | _ => True
  | _ => True

/-- mirrors the callback loop of `step` -/
def CbsAll (fuel : Nat) (e : EvId) : List Cb → LoopSt ℚ σ → Prop
  | [], _ => True
  | cb :: cbs, l => CbAll P body fuel e l.s cb ∧ CbsAll fuel e cbs (runCb body fuel e l cb)

/-- `P` holds of every burst the step taken from `s` executes -/
def StepAll (fuel : Nat) (s : KState ℚ σ) : Prop :=
  match popMin s.agenda with
  | none => True
  | some (q, rest) =>
    match (s.ev q.ev).cbs with
    | none => True
    | some cbs => CbsAll P body fuel q.ev cbs { s := openEvent s q rest }

/-- … of every step of the run from `s0` -/
def RunAll (fuel : Nat) (s0 : KState ℚ σ) : Prop :=
  ∀ s, KReach body fuel s0 s → StepAll P body fuel s

end mirror

/-- every API call executed by burst `b` of process `self`, started in state `s`, names existing ids only, and so does
what the burst ends with (the yielded event and local state, the returned value, the raised exception) -/
def ScopedBurst (I : IdSt σ) (self : EvId) : Burst ℚ σ → KState ℚ σ → Prop
  | .call c k, s => callBelow I s.events.size c ∧ ScopedBurst I self (k (doCall s self c).2) (noteErr self (doCall s self c))
  | .yield e st, s => e < s.events.size ∧ I.below s.events.size st
  | .ret v, s => valBelow s.events.size v
  | .raise x, s => excBelow s.events.size x

/-- **the step taken from `s` names existing ids only** -/
def ScopedStep (I : IdSt σ) (body : σ → Resume → Burst ℚ σ) (fuel : Nat) (s : KState ℚ σ) : Prop :=
  StepAll (fun p st r s => ScopedBurst I p (body st r) s) body fuel s

/-- **the domain hypothesis on a run**: every step taken from a state reachable from `s0` names existing ids only -/
def ScopedRun (I : IdSt σ) (body : σ → Resume → Burst ℚ σ) (fuel : Nat) (s0 : KState ℚ σ) : Prop :=
  ∀ s, KReach body fuel s0 s → ScopedStep I body fuel s

end SplitWF
