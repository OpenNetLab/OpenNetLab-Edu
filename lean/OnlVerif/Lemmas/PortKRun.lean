import OnlVerif.Lemmas.PortKStep
import OnlVerif.Lemmas.PortKAbsStep
import OnlVerif.Lemmas.KRun
/-!
# The Port on the kernel model: every kernel step is a configuration step; whole runs

`kstep`: from `KInv s a` and the popped entry, the kernel step is `.ok s'` with `KInv s' a'` for an `AStep a a'` (the halves of
`PortKStepPort`/`PortKStepSrc` joined by cases on the store and on the arrivals left).  `Inv` = `KInv ∧ AInv`, `inv_step` its
preservation together with the LTS actions of the step, `run_returns` termination by the measure `A.mu` (per arrival: the
source's timeout, the `StorePut`, the `StoreGet`, the transmission timeout — hence `4·n + 4` steps).  `a0`/`inv_init` the
initial configuration, `absPort_eq` (the executable abstraction is `toF`), `reach_inv` (every reachable state has a
configuration, and the LTS run behind it), `run_init` (the whole run from the initial state).
-/

namespace PortK
open PortOnK QEntry

variable {size : Int → Nat} {rate : ℚ} {ql : Option Int} {arrivals : List (ℚ × Int)}
variable {s : KS} {a : A} {q : QEntry ℚ} {rest : List (QEntry ℚ)}

theorem StepsTo.astep {fuel : Nat} {a' : A} {new : List (Int × ℚ)} (h : StepsTo size rate ql fuel s q a' new)
    (hs : AStep size rate ql a q a' new) :
    ∃ s' a' new, step (body size rate ql) (fuel + 1) s = .ok s' ∧ KInv s' a' ∧ AStep size rate ql a q a' new ∧
      s'.now = q.time ∧ outsOf s'.trace = outsOf s.trace ++ new :=
  let ⟨s', h1, h2, h3, h4⟩ := h
  ⟨s', a', new, h1, h2, hs, h3, h4⟩

theorem refuses_iff (ql : Option Int) (b : Int) : (refuses ql b = false → ∀ l, ql = some l → ¬ l < b) ∧
    (refuses ql b = true → ∃ l, ql = some l ∧ l < b) := by
  cases ql <;> simp [refuses]

/-- **one kernel step = one configuration step**: the step is computed on the configuration of processes behind `a`
(`Lemmas/PortKStep.lean`), by cases on whose entry is popped -/
theorem kstep (fuel : Nat) {outs : List (Int × ℚ)} (hk : KInv s a)
    (hi : AInv size rate ql arrivals a s.now outs) (hp : popMin s.agenda = some (q, rest)) :
    ∃ s' a' new, step (body size rate ql) (fuel + 1) s = .ok s' ∧ KInv s' a' ∧ AStep size rate ql a q a' new ∧
      s'.now = q.time ∧ outsOf s'.trace = outsOf s.trace ++ new := by
  obtain ⟨hmin, hperm⟩ := min_of_pop hk.ag hp
  have hq := hmin.1
  simp only [A.entries, List.mem_append] at hq
  rcases hq with hq | hq | hq
  · -- an entry of the port process
    cases hport : a.port with
    | W g => simp [hport, PPhase.entries] at hq
    | init q0 =>
      simp only [hport, PPhase.entries, List.mem_singleton] at hq; subst hq
      have hpa := hi.port
      rw [hport] at hpa
      exact StepsTo.astep ((port_gets fuel hk hport rfl rfl hp (.init hk) a.last).1 hpa.2.2.1) (.portInit a q _ hport)
    | H g id q0 =>
      simp only [hport, PPhase.entries, List.mem_singleton] at hq; subst hq
      by_cases hr : 0 < rate
      · exact StepsTo.astep (kstep_serve fuel hr hk hport hp) (.serveTx a q _ g _ id hport hr ⟨rfl, rfl⟩)
      · have hg := port_gets (ql := ql) fuel hk hport rfl rfl hp (.serveNow (size := size) hr hk id) (some q.time)
        cases hit : a.items with
        | nil => exact StepsTo.astep (hg.1 hit) (.serveNowIdle a q g _ id hport hr hit)
        | cons i is => exact StepsTo.astep (hg.2 i is hit) (.serveNowNext a q _ g _ id i is hport hr hit ⟨rfl, rfl⟩)
    | T t id q0 =>
      simp only [hport, PPhase.entries, List.mem_singleton] at hq; subst hq
      have hg := port_gets (rate := rate) (ql := ql) fuel hk hport rfl rfl hp (.fire (size := size) hk id) (some q.time)
      cases hit : a.items with
      | nil => exact StepsTo.astep (hg.1 hit) (.fireIdle a q t _ id hport hit)
      | cons i is => exact StepsTo.astep (hg.2 i is hit) (.fireNext a q _ t _ id i is hport hit ⟨rfl, rfl⟩)
  · -- an entry of the source process
    have hsa := hi.src
    cases hsrc : a.src with
    | done => simp [hsrc, SPhase.entries] at hq
    | init q0 arr =>
      simp only [hsrc, SPhase.entries, List.mem_singleton] at hq; subst hq
      rw [hsrc] at hsa
      have h := kstep_srcInit (size := size) (rate := rate) (ql := ql) fuel hk hsrc hsa.2.2.1 hp
      cases arr with
      | nil => exact StepsTo.astep h (.srcInitEnd a q _ hsrc rfl rfl)
      | cons x arr => exact StepsTo.astep h (.srcInitWait a q _ x.1 x.2 arr hsrc rfl rfl)
    | ending q0 =>
      simp only [hsrc, SPhase.entries, List.mem_singleton] at hq; subst hq
      exact StepsTo.astep (kstep_srcEnd fuel hk hsrc hp) (.srcEnd a q hsrc)
    | wait id arr q0 =>
      simp only [hsrc, SPhase.entries, List.mem_singleton] at hq; subst hq
      rw [hsrc] at hsa
      have hn : a.pend = none := by
        cases hpe : a.pend with
        | none => rfl
        | some u =>
          exfalso
          have hu := hi.pend u hpe
          exact min_not_eid_lt hi.due hmin (mem_pend hpe) hu.1 (hu.2.trans hsa.1.symm) (hsa.2.2 u hpe)
      cases hacc : refuses ql (a.bytes + (size id : Int)) with
      | false =>
        have hacc' := (refuses_iff ql _).1 hacc
        have h := kstep_srcPut (size := size) (rate := rate) (ql := ql) fuel hk hsrc hn hacc hsa.2.1 hp
        cases arr with
        | nil => exact StepsTo.astep h (.srcPutEnd a q _ _ id hsrc hn hacc' ⟨rfl, rfl⟩ ⟨rfl, rfl⟩)
        | cons x arr =>
          exact StepsTo.astep h (.srcPutWait a q _ _ id x.1 x.2 arr hsrc hn hacc' ⟨rfl, rfl⟩ ⟨rfl, rfl⟩ (Nat.lt_succ_self _))
      | true =>
        obtain ⟨l, hl, hdrop⟩ := (refuses_iff ql _).2 hacc
        have h := kstep_srcDrop (size := size) (rate := rate) (ql := ql) fuel hk hsrc hacc hsa.2.1 hp
        cases arr with
        | nil => exact StepsTo.astep h (.srcDropEnd a q _ id l hsrc hn hl hdrop ⟨rfl, rfl⟩)
        | cons x arr => exact StepsTo.astep h (.srcDropWait a q _ id x.1 x.2 arr l hsrc hn hl hdrop ⟨rfl, rfl⟩)
  · -- the pending `StorePut` event
    have hpe : a.pend = some q := Option.mem_toList.mp hq
    by_cases hh : (∃ g, a.port = .W g) ∧ a.items ≠ []
    · obtain ⟨⟨g, hport⟩, hne⟩ := hh
      cases hit : a.items with
      | nil => exact absurd hit hne
      | cons i is => exact StepsTo.astep (kstep_putHand fuel hk hpe hport hit hp) (.putHand a q _ g i is hpe hport hit ⟨rfl, rfl⟩)
    · have hw : a.port.getQ = [] ∨ a.items = [] := by
        by_contra hc
        rw [not_or] at hc
        refine hh ⟨?_, hc.2⟩
        cases hport : a.port with
        | W g => exact ⟨g, rfl⟩
        | _ => exact absurd (by rw [hport]; rfl) hc.1
      exact StepsTo.astep (kstep_putIdle fuel hk hpe hw hp) (.putIdle a q hpe hw)

/-- the kernel state `s` of the run on `arrivals` is the configuration `a`, and `a` is sound -/
structure Inv (size : Int → Nat) (rate : ℚ) (ql : Option Int) (arrivals : List (ℚ × Int)) (s : KS) (a : A) :
    Prop where
  k : KInv s a
  a : AInv size rate ql arrivals a s.now (outsOf s.trace)

/-- **one kernel step**: it is `.ok`, keeps the invariant, uses one unit of the step budget, appends the departures
`new` to the trace, and is a sequence of actions the Port LTS accepts from `toF a` to `toF a'` -/
theorem inv_step (fuel : Nat) (h : Inv size rate ql arrivals s a)
    (hp : popMin s.agenda = some (q, rest)) :
    ∃ s' a' new, step (body size rate ql) (fuel + 1) s = .ok s' ∧ Inv size rate ql arrivals s' a' ∧ a'.mu + 1 ≤ a.mu ∧
      outsOf s'.trace = outsOf s.trace ++ new ∧
      ∃ acts insI, a'.accIds = a.accIds ++ insI ∧
        Fifo.runActs (Port.dev (cfg rate ql)) (toF size a s.now) acts =
          .ok (toF size a' s'.now, insI.map Int.toNat, new.map (·.1.toNat)) := by
  obtain ⟨s', a', new, h1, h2, h3, h4, h5⟩ := kstep fuel h.k h.a hp
  obtain ⟨g1, g2, g3⟩ := astep_sound h.a (min_of_pop h.k.ag hp).1 h3
  refine ⟨s', a', new, h1, ⟨h2, ?_⟩, g2, h5, ?_⟩
  · rw [h4, h5]; exact g1
  · rw [h4]; exact g3

/-- with an empty agenda everything has left: the trace holds exactly the departure recurrence -/
theorem inv_final (h : Inv size rate ql arrivals s a) (he : s.agenda = []) :
    (ql = none → outsOf s.trace = departures size rate none 0 arrivals) ∧ a.items = [] ∧
      a.putIds = arrivals.map (·.2) := by
  have hent : a.entries = [] := List.Perm.eq_nil (he ▸ h.k.ag).symm
  have hsrc : a.src = .done := by
    cases hs : a.src with
    | done => rfl
    | _ => simp [A.entries, hs, SPhase.entries] at hent
  obtain ⟨-, ⟨t, id, q0, e⟩ | ⟨⟨g, e⟩, hit⟩⟩ := h.a.quiet (hent ▸ nofun)
  · simp [A.entries, e, PPhase.entries] at hent
  · refine ⟨fun hql => ?_, hit, ?_⟩
    · simpa [pred, e, hit, hsrc, SPhase.todo, departures] using h.a.ghost hql
    · simpa [hsrc, SPhase.ids] using h.a.puts.symm

/-- **`run()` returns**: with more step budget than the configuration needs, `runLoop` ends with an empty agenda -/
theorem run_returns (fuel : Nat) (n : Nat) (s : KS) (a : A) (h : Inv size rate ql arrivals s a) (hmu : a.mu < n) :
    ∃ sF aF, runLoop (body size rate ql) (fuel + 1) none n s = .returned .none sF ∧ Inv size rate ql arrivals sF aF ∧
      sF.agenda = [] :=
  let ⟨sF, aF, h1, h2, h3, _⟩ := runLoop_returns (I := Inv size rate ql arrivals) A.mu
    (fun _ _ _ _ hi hp => let ⟨s', a', _, h1, h2, h3, _⟩ := inv_step fuel hi hp; ⟨s', a', h1, h2, h3⟩) s n s a h hmu .init
  ⟨sF, aF, h1, h2, h3⟩

/-- the configuration of the initial state -/
def a0 (arrivals : List (ℚ × Int)) : A :=
  { port := .init ⟨0, URGENT, 0, 1⟩, src := .init ⟨0, URGENT, 1, 3⟩ arrivals, pend := none, items := [], bytes := 0,
    recv := 0, busy := false, bsz := 0, last := none, putIds := [], dropped := 0, accIds := [] }

theorem inv_init (arrivals : List (ℚ × Int)) (hg : GapsOK arrivals) :
    Inv size rate ql arrivals (initState arrivals) (a0 arrivals) := by
  have h0 := KProc.GInv.empty (σ := St)
    { now := Num.zero
      resources := #[{ kind := .store, capacity := none }]
      shared := [(cByteSize, .int 0), (cReceived, .int 0), (cBusy, .int 0), (cBusySize, .int 0), (cDropped, .int 0)] }
    rfl (fun r => if r = 0 then some {} else none)
    (KProc.stores_one ⟨Nat.one_pos, rfl⟩)
  obtain ⟨S1, hd1, -, h1⟩ := h0.call (self := 0) (cl := .spawn .portStart) rfl
  obtain ⟨S2, hd2, -, h2⟩ := h1.call (self := 0) (cl := .spawn (.src none arrivals)) rfl
  have hS : initState arrivals = S2 := by
    simp only [initState, List.foldl, hd1, hd2]
  rw [hS]
  have hnow : S2.now = 0 := (congrArg KProc.Regs.now h2.reg).symm
  have htr : S2.trace = #[] := (congrArg KProc.Regs.trace h2.reg).symm
  refine ⟨.of_ginv (st0 := .portStart) (h2.untrack (p := 0) fun th hth _ _ _ hw => ?_)
    ⟨rfl, rfl, fun _ => rfl, rfl, rfl, rfl, rfl, rfl, rfl, rfl, rfl⟩, ?_⟩
  · simp only [List.nil_append, List.cons_append, List.mem_cons, List.not_mem_nil, or_false] at hth
    rcases hth with rfl | rfl <;> cases hw
  rw [hnow, htr]
  refine ⟨⟨rfl, rfl, rfl, rfl, rfl⟩, ⟨rfl, rfl, hg, rfl⟩, nofun, fun _ h => absurd rfl h, nofun, ?_, fun _ => rfl, ?_, rfl, rfl,
    fun _ => rfl⟩
  · intro x hx
    simp [A.entries, a0, PPhase.entries, SPhase.entries] at hx
    rcases hx with rfl | rfl <;> simp
  · simp [a0, SPhase.ids]

theorem initState_now (arrivals : List (ℚ × Int)) : (initState arrivals : KS).now = 0 := rfl

theorem initState_trace (arrivals : List (ℚ × Int)) : (initState arrivals : KS).trace = #[] := rfl

/-- **the whole run from the initial state**: within `4·n + 4` steps `run()` returns with an empty agenda, in a
configuration in which everything has been put and nothing is left in the store; without a limit the trace is the
departure recurrence -/
theorem run_init (size : Int → Nat) (rate : ℚ) (ql : Option Int) (arrivals : List (ℚ × Int)) (hg : GapsOK arrivals)
    (fuel n : Nat) (hn : 4 * arrivals.length + 4 ≤ n) :
    ∃ sF aF, runAll (body size rate ql) (fuel + 1) n (initState arrivals) = .returned .none sF ∧
      Inv size rate ql arrivals sF aF ∧ sF.agenda = [] ∧
      (ql = none → outsOf sF.trace = departures size rate none 0 arrivals) ∧ aF.items = [] ∧
      aF.putIds = arrivals.map (·.2) := by
  have hmu : (a0 arrivals).mu < n := by
    simp only [A.mu, a0, PPhase.mu, SPhase.mu, Option.isSome_none, Bool.false_eq_true, if_false, List.length_nil]; omega
  obtain ⟨sF, aF, h1, h2, h3⟩ := run_returns fuel n _ _ (inv_init arrivals hg) hmu
  exact ⟨sF, aF, h1, h2, h3, (inv_final h2 h3).1, (inv_final h2 h3).2.1, (inv_final h2 h3).2.2⟩

theorem cellInt_of {k : Nat} {n : Int} (h : lookup s.shared k = .int n) : cellInt s k = n := by
  unfold cellInt
  have : ((s.shared.find? (·.1 == k)).map (·.2)).getD Val.none = .int n := h
  rw [this]

/-- the port's timeout entry is the only agenda entry of its event -/
theorem dueOf_eq (hk : KInv s a) {t : EvId} {id : Int} {q : QEntry ℚ} (hport : a.port = .T t id q) :
    dueOf s t = q.time := by
  obtain ⟨hr, hg, -⟩ := (kinv_iff (st0 := .portStart)).mp hk
  have hqe : q.ev = t := by rw [hport] at hr; exact hr
  have hq : q ∈ s.agenda := hk.ag.symm.subset (mem_port (by simp [hport, PPhase.entries]))
  have : s.agenda.find? (·.ev == t) = some q := by
    refine List.find?_unique _ _ q hq (by simp [hqe]) fun y hy hyt => ?_
    exact hg.entry_of_ev rfl (entries_cfgOf ▸ hk.ag.subset hy) (entries_cfgOf ▸ hk.ag.subset hq)
      ((by simpa using hyt : y.ev = t).trans hqe.symm)
  unfold dueOf
  rw [this]; rfl

/-- **the abstraction function reads the configuration's LTS state off the kernel state** -/
theorem absPort_eq (hk : KInv s a) : absPort size s = toF size a s.now := by
  have hdev : absDev s =
      { byteSize := a.bytes, received := a.recv, dropped := a.dropped, busy := a.busy, busySize := a.bsz, avg := 0 } := by
    unfold absDev
    simp only [cByteSize, cReceived, cBusy, cBusySize, cDropped]
    rw [cellInt_of hk.c0, cellInt_of hk.c1, cellInt_of hk.c2, cellInt_of hk.c3, cellInt_of hk.c4, zero_eq']
    cases a.busy <;> simp
  have hitems : (s.res storeId).items = a.items := by
    show (s.res 0).items = a.items; rw [hk.res]; rfl
  have hpk := hk.port
  unfold absPort toF
  cases hport : a.port with
  | init q =>
    rw [hport] at hpk
    simp [portProc, hpk.2.2, hdev, hitems]
  | W g =>
    rw [hport] at hpk
    simp [portProc, hpk.2, hpk.1.2.2, hdev, hitems]
  | H g id q =>
    rw [hport] at hpk
    simp [portProc, hpk.2.2, hpk.2.1.2.2, hdev, hitems]
  | T t id q =>
    rw [hport] at hpk
    simp [portProc, hpk.2.2, hdev, hitems, dueOf_eq hk hport]

theorem absPort_dev (size : Int → Nat) (s : KS) : (absPort size s).dev = absDev s := by
  unfold absPort
  split
  · split <;> rfl
  · rfl
  · rfl

theorem toF_a0 (arrivals : List (ℚ × Int)) : toF size (a0 arrivals) 0 = Fifo.init ({ avg := 0 } : PortSt ℚ) 0 := rfl

/-- ids handed to `put` so far = the first `packets_received` arrivals -/
theorem putIds_eq (h : Inv size rate ql arrivals s a) :
    a.putIds = (arrivals.take (cellInt s cReceived).toNat).map (·.2) := by
  have h1 := h.a.puts
  have h2 := h.a.nput
  have hc : cellInt s cReceived = a.recv := cellInt_of h.k.c1
  rw [hc, Int.toNat_natCast, List.map_take, h1, ← h2, List.take_left' rfl]

/-- **every state reachable by kernel steps is a sound configuration, and the run so far is an admissible run of
the Port LTS** from its initial state to the configuration's LTS state, with the same arrivals and departures -/
theorem reach_inv (fuel : Nat) (hg : GapsOK arrivals) {s : KS}
    (h : KReach (body size rate ql) (fuel + 1) (initState arrivals) s) :
    ∃ a acts, Inv size rate ql arrivals s a ∧
      Fifo.runActs (Port.dev (cfg rate ql)) (Fifo.init ({ avg := 0 } : PortSt ℚ) 0) acts =
        .ok (toF size a s.now, a.accIds.map Int.toNat, (outsOf s.trace).map (·.1.toNat)) := by
  obtain ⟨⟨a, acts⟩, h⟩ := KReach.of_step (x0 := (a0 arrivals, []))
    (I := fun s (x : A × List (FAct ℚ)) => Inv size rate ql arrivals s x.1 ∧
      Fifo.runActs (Port.dev (cfg rate ql)) (Fifo.init ({ avg := 0 } : PortSt ℚ) 0) x.2 =
        .ok (toF size x.1 s.now, x.1.accIds.map Int.toNat, (outsOf s.trace).map (·.1.toNat)))
    ⟨inv_init arrivals hg, by rw [initState_now, initState_trace]; rfl⟩
    (fun s x q rest hi hp => by
      obtain ⟨s', a', new, h1, h2, -, h4, acts', insI, h5, h6⟩ := inv_step fuel hi.1 hp
      refine ⟨s', (a', x.2 ++ acts'), h1, h2, ?_⟩
      rw [Fifo.runActs_append _ _ _ _ _ _ _ _ _ _ hi.2 h6, h5, h4]
      simp) h
  exact ⟨a, acts, h⟩

end PortK
