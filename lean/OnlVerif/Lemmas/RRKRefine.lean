import OnlVerif.Lemmas.RRKLts
/-!
# The RR scheduler on the kernel model: every reachable kernel state is the image of an admissible run of the LTS, and
the abstraction function `absRR` reads the configuration's LTS state off the kernel state
-/

namespace RRK
open RROnK MQ

variable {F : Nat} {flow size : Int → Nat} {cfg : RR.Cfg ℚ}
variable {s : KS} {a : A} {q : QEntry ℚ} {rest : List (QEntry ℚ)}

structure Inv2 (F : Nat) (flow : Int → Nat) (cfg : RR.Cfg ℚ) (s : KS) (a : A) : Prop where
  i : Inv F flow cfg s a
  l : LInv flow a (histOf s.trace)

theorem inv_step_lts (fuel : Nat) (h : Inv2 F flow cfg s a) (hp : popMin s.agenda = some (q, rest)) :
    ∃ s' a' new, step (prog F flow size cfg) (fuel + 1) s = .ok s' ∧ Inv2 F flow cfg s' a' ∧ a'.mu F + 1 ≤ a.mu F ∧
      AStep F flow size cfg s.events.size s.eid a q a' new ∧ s'.now = q.time ∧
      histOf s'.trace = histOf s.trace ++ new ∧
      ∃ acts, runActs (RR.sched cfg) (toM cfg.flows flow size a s.now) acts =
        .ok (toM cfg.flows flow size a' s'.now, putPk flow size new, outPk flow size new) := by
  obtain ⟨s', a', new, h1, h2, h3, h4, h5, h6⟩ := inv_step (size := size) fuel h.i hp
  have hmin := (min_of_pop h.i.k.ag hp).1
  obtain ⟨acts0, h0⟩ := lts_advance (size := size) h.i.a hmin
  obtain ⟨acts, h7⟩ := lts_step (h.i.a.advance hmin) hmin h.l.nodup h.l.recv_nonneg h4
  refine ⟨s', a', new, h1, ⟨h2, by rw [h6]; exact linv_step h.l h4⟩, h3, h4, h5, h6, acts0 ++ acts, ?_⟩
  rw [h5]
  have := runActs_append _ _ _ _ _ _ _ _ _ _ h0 h7
  simpa using this

theorem toM_a0 (arrivals : List (ℚ × Int)) : toM cfg.flows flow size (a0 arrivals) 0 = MQ.init (RR.Pc.at 0) 0 [] := rfl

theorem initState_now (arrivals : List (ℚ × Int)) : (initState F arrivals : KS).now = 0 := by
  simp [initState, KExec.doCall_spawn, zero_eq']

theorem initState_trace (arrivals : List (ℚ × Int)) : (initState F arrivals : KS).trace = #[] := by
  simp [initState, KExec.doCall_spawn]

/-- **every state reachable by kernel steps is a sound configuration, and the run so far is an admissible run of the LTS**
from the state of a fresh `RR` to the configuration's LTS state, in which the packets that entered are those handed to `put`
and the packets that left are those handed to `out.put`, in the order of the trace -/
theorem reach_lts (fuel : Nat) {arrivals : List (ℚ × Int)} (hw : WorkOK flow F arrivals) (ht : FlowsOK F cfg)
    (hr : 0 < cfg.rate) {s : KS} (h : KReach (prog F flow size cfg) (fuel + 1) (initState F arrivals) s) :
    ∃ a acts, Inv2 F flow cfg s a ∧
      runActs (RR.sched cfg) (MQ.init (RR.Pc.at 0) 0 []) acts =
        .ok (toM cfg.flows flow size a s.now, putPk flow size (histOf s.trace), outPk flow size (histOf s.trace)) := by
  obtain ⟨⟨a, acts⟩, hi, hrun⟩ := KReach.of_step
    (I := fun s (x : A × List (MAct ℚ)) => Inv2 F flow cfg s x.1 ∧ runActs (RR.sched cfg) (MQ.init (RR.Pc.at 0) 0 []) x.2 =
      .ok (toM cfg.flows flow size x.1 s.now, putPk flow size (histOf s.trace), outPk flow size (histOf s.trace)))
    (x0 := (a0 arrivals, [])) ⟨⟨inv_init arrivals hw ht hr, by rw [initState_trace]; exact ⟨rfl, rfl⟩⟩,
      by rw [initState_now, initState_trace, toM_a0]; rfl⟩
    (fun s x q rest hi hp => by
      obtain ⟨s', a', new, h1, h2, -, -, -, h6, acts', h7⟩ := inv_step_lts (size := size) fuel hi.1 hp
      exact ⟨s', (a', x.2 ++ acts'), h1, h2, by
        rw [runActs_append _ _ _ _ _ _ _ _ _ _ hi.2 h7, h6, putPk_append, outPk_append]⟩) h
  exact ⟨a, acts, hi, hrun⟩

theorem putIds_histOf1 (o : Obs ℚ) (l : List (HEv ℚ)) :
    putIds ((histOf1 o).toList ++ l) = ((obsOf "put" o).map (·.1)).toList ++ putIds l := by
  cases o with
  | log p w v t =>
    cases v with
    | int i =>
      by_cases h : w = "put"
      · subst h; rfl
      · simp only [obsOf, histOf1, if_neg h]
        split_ifs <;> rfl
    | _ => rfl
  | _ => rfl

theorem putsOf_eq_putIds (tr : Array (Obs ℚ)) : (putsOf tr).map (·.1) = putIds (histOf tr) := by
  unfold putsOf logsOf histOf
  induction tr.toList with
  | nil => rfl
  | cons o r ih =>
    rw [MQK.filterMap_cons_toList, MQK.filterMap_cons_toList, putIds_histOf1, List.map_append, ih]
    cases obsOf "put" o <;> rfl

theorem cellVal_eq (k : Nat) : cellVal s k = TimerK.lookup s.shared k := rfl

theorem mem_keysOf (ids : List Int) (id : Int) (h : id ∈ ids) : flow id ∈ keysOf flow ids :=
  MQK.mem_foldl_addKey flow id ids [] (Or.inr h)

theorem countKeys_started {flows : List Nat} (hnd : flows.Nodup) {ids : List Int} (hall : ∀ id ∈ ids, flow id ∈ flows) :
    countKeys flows true flow ids = flows :=
  (congrArg (ids.foldl _) (MQK.foldl_addKey_nil flows hnd)).trans (MQK.foldl_addKey_flow flow flows ids hall)

theorem absRR_eq (h : Inv2 F flow cfg s a) : absRR cfg.flows flow size s = toM cfg.flows flow size a s.now := by
  have hk := h.i.k
  have hi := h.i.a
  have hkeys : keysOf flow ((putsOf s.trace).map (·.1)) = a.keys := by rw [putsOf_eq_putIds, h.l.keys]
  have hlt := h.i.a.keysOK.1
  obtain ⟨st0, hg⟩ := hk.g
  have hstart : started s = (match a.run with | .init _ => false | _ => true) := by
    have h0 := hg.th _ List.mem_cons_self
    unfold started
    cases hrun : a.run <;> rw [hrun] at h0 <;> simp [runProc, show s.proc? 0 = _ from h0.proc _ rfl, runThread]
  have hckeys : countKeys cfg.flows (started s) flow ((putsOf s.trace).map (·.1)) = ckeys cfg.flows a.run := by
    rw [putsOf_eq_putIds, hstart]
    unfold countKeys
    have hnd := flows_nodup hi
    have hall : ∀ id ∈ putIds (histOf s.trace), flow id ∈ cfg.flows := by
      intro id hid
      have : flow id ∈ a.keys := by rw [h.l.keys]; exact mem_keysOf _ _ hid
      exact (mem_flows hi _).mpr (hlt _ this)
    cases hrun : a.run with
    | init q0 =>
      have hr := hi.run
      rw [hrun] at hr
      have hrecv := h.l.recv
      rw [hr.2.2.2.2.2.2.2] at hrecv
      have : putIds (histOf s.trace) = [] := List.eq_nil_of_length_eq_zero (by exact_mod_cast hrecv.symm)
      simp [this]
    | _ => exact countKeys_started hnd hall
  have hph : absPhase flow size s = (phaseOf flow size a.run, ctlOf a.run) := by
    have h0 := hg.th _ List.mem_cons_self
    have hS := fun th (h : th ∈ sendThreads a.run) => hg.th th (send_mem_cfgOf h)
    unfold absPhase
    cases hrun : a.run with
    | init q0 =>
      rw [hrun] at h0
      simp [runProc, show s.proc? 0 = _ from h0.proc _ rfl, runThread, phaseOf, ctlOf]
    | W | K | H =>
      rw [hrun] at h0
      simp [runProc, show s.proc? 0 = _ from h0.proc _ rfl, runThread, (show KProc.EvIs s _ _ _ _ from h0.ev).2.2, phaseOf, ctlOf]
    | S p i id q0 =>
      rw [hrun] at h0 hS
      have h1 := hS _ (List.mem_singleton_self _)
      simp [runProc, show s.proc? 0 = _ from h0.proc _ rfl, runThread, show s.proc? p = _ from h1.proc _ rfl,
        (show KProc.EvIs s p _ _ _ from h1.own _ rfl).2.2, KProc.Wait.outcome, phaseOf, ctlOf]
    | F p i id q0 =>
      rw [hrun] at h0 hS
      have h1 := hS _ (List.mem_singleton_self _)
      simp [runProc, show s.proc? 0 = _ from h0.proc _ rfl, runThread, (show KProc.EvIs s p _ _ _ from h1.own _ rfl).2.2,
        KProc.Wait.outcome, phaseOf, ctlOf]
    | T p t i id q0 =>
      rw [hrun] at h0 hS
      have h1 := hS _ (List.mem_singleton_self _)
      have hdue : dueOf s q0.ev = q0.time := by
        unfold dueOf
        have hmem : q0 ∈ s.agenda := hk.ag.symm.subset (mem_run (by simp [hrun, RPhase.entries]))
        cases hf : s.agenda.find? (·.ev == q0.ev) with
        | none => simpa using List.find?_eq_none.mp hf q0 hmem
        | some x =>
          rw [hg.entry_of_ev rfl (hg.ag.subset (List.mem_of_find?_eq_some hf)) (hg.ag.subset hmem)
            (by simpa using List.find?_some hf)]
          rfl
      simp [runProc, show s.proc? 0 = _ from h0.proc _ rfl, runThread, show s.proc? p = _ from h1.proc _ rfl,
        (show KProc.EvIs s p _ _ _ from h1.own _ rfl).2.2, KProc.Wait.outcome, hdue, phaseOf, ctlOf]
  have hltc : ∀ f ∈ ckeys cfg.flows a.run, f < F := by
    intro f hf
    cases hrun : a.run <;> rw [hrun] at hf
    · simp at hf
    all_goals exact (mem_flows hi f).mp hf
  unfold absRR toM MQK.Img.st img
  simp only [hkeys, hckeys, hph, dictOf]
  congr 1
  · apply List.map_congr_left
    intro f hf
    have := hk.st f (hlt f hf)
    rw [this]
  · apply List.map_congr_left
    intro f hf
    simp only [cellInt, cellVal_eq, hk.cc f (hltc f hf)]
  · apply List.map_congr_left
    intro f hf
    simp only [cellInt, cellVal_eq, hk.cb f (hlt f hf)]
  · show (s.res 0).items.length = a.tokens
    rw [hk.tok]; simp
  · rw [cellVal_eq, hk.c1]
    cases a.cur <;> rfl
  · simp only [cellInt, cellVal_eq, hk.c0]

end RRK
