import OnlVerif.Lemmas.WireKRun
import OnlVerif.Lemmas.Fifo
import OnlVerif.Lemmas.PortKAbsStep
/-!
# The Wire on the kernel model: every configuration step is accepted by the FifoServer LTS of the wire

`toF a now gh` is the LTS state a configuration stands for, with `gh` in the ghost fields of the device state
(`lastDone`, `curD`, `log`: written by the LTS for its own theorems, read by no decision).  For each constructor of `AStep`
the LTS accepts the corresponding action (`init`, `put`, `handoff`, `resume x y` with the two draws, `fire`, or nothing) from
`toF a` to `toF a'`, whatever the ghost values; and the clock advance is an accepted `tick`.
-/

namespace WireK
open WireOnK QEntry

variable {cfg : WireCfg ℚ} {losses delays : List ℚ}
variable {arrivals : List ℚ} {a : A} {outs : List (Int × ℚ)} {q : QEntry ℚ}

def A.pkt (a : A) (id : Int) : Pkt ℚ := pktOf (a.ctOf id) id

def toF (a : A) (now : ℚ) (gh : WireSt ℚ) : FState ℚ (WireSt ℚ) :=
  { now := now
    dev := { gh with packetsRec := a.cts.length }
    items := a.items.map a.pkt
    getPending := match a.wire with | .W _ _ _ _ => true | _ => false
    handed := match a.wire with | .H _ id _ _ _ _ => some (a.pkt id) | _ => none
    tx := match a.wire with | .T _ id q _ _ => some (a.pkt id, q.time, 0) | _ => none
    started := match a.wire with | .init _ => false | _ => true }

/-- what the LTS side of a configuration step delivers: from every ghost value, an accepted action sequence into the new
configuration's LTS state with some ghost value, with the packets that entered and left -/
def LtsOK (cfg : WireCfg ℚ) (a : A) (now : ℚ) (a' : A) (ins : List Nat) (lf : List Int) : Prop :=
  ∀ gh, ∃ gh' acts, Fifo.runActs (Wire.dev cfg) (toF a now gh) acts = .ok (toF a' now gh', ins, lf.map Int.toNat)

theorem pkt_wire (a : A) (w : WPhase) : ({ a with wire := w } : A).pkt = a.pkt := rfl
theorem pkt_wire_items (a : A) (w : WPhase) (is : List Int) : ({ a with wire := w, items := is } : A).pkt = a.pkt := rfl
theorem pkt_hand (a : A) (w : WPhase) (is : List Int) : ({ a with pend := none, wire := w, items := is } : A).pkt = a.pkt := rfl

/-! `toF` by the phase of the server -/

theorem toF_W {g : EvId} {t0 : ℚ} {nl nd : Nat} (e : a.wire = .W g t0 nl nd) (now : ℚ) (gh : WireSt ℚ) :
    toF a now gh = { toF a now gh with getPending := true, handed := none, tx := none, started := true } := by
  unfold toF; rw [e]

theorem toF_T {t : EvId} {id : Int} {q0 : QEntry ℚ} {nl nd : Nat} (e : a.wire = .T t id q0 nl nd) (now : ℚ) (gh : WireSt ℚ) :
    toF a now gh =
      { toF a now gh with getPending := false, handed := none, tx := some (a.pkt id, q0.time, 0), started := true } := by
  unfold toF; rw [e]

variable (st : FState ℚ (WireSt ℚ)) (p : Pkt ℚ) (x y : ℚ)

/-- the server resumes with a packet that is lost: it is done with it at once -/
theorem runActs_lost (h : st.handed = some p) (hl : Wire.lostNow cfg x = true) :
    Fifo.runActs (Wire.dev cfg) st [.resume x y] =
      .ok (Fifo.issueGet { st with handed := none, dev := Wire.logLost st.dev st.now p, tx := none }, [], [p.id]) := by
  simp [Fifo.runActs, Fifo.step, h, Fifo.proceed, Wire.dev, Wire.onResume, hl, Wire.onDone, Fifo.entered, Fifo.left]

/-- the server resumes with a packet that has not been queued for its delay yet: it sleeps for the remainder -/
theorem runActs_wait (h : st.handed = some p) (hl : Wire.lostNow cfg x = false) (hw : Wire.queued st.now p < y) :
    Fifo.runActs (Wire.dev cfg) st [.resume x y] =
      .ok ({ st with handed := none, dev := Wire.setD st.dev y, tx := some (p, st.now + (y - Wire.queued st.now p), 0) },
        [], []) := by
  simp [Fifo.runActs, Fifo.step, h, Fifo.proceed, Wire.dev, Wire.onResume, hl, hw, Fifo.entered, Fifo.left]

/-- the server resumes with a packet that has been queued for its delay: it forwards it at once -/
theorem runActs_out (h : st.handed = some p) (hl : Wire.lostNow cfg x = false) (hw : ¬ Wire.queued st.now p < y) :
    Fifo.runActs (Wire.dev cfg) st [.resume x y] =
      .ok (Fifo.issueGet { st with handed := none, dev := Wire.logOut (Wire.setD st.dev y) st.now p, tx := none }, [],
        [p.id]) := by
  simp [Fifo.runActs, Fifo.step, h, Fifo.proceed, Wire.dev, Wire.onResume, hl, hw, Wire.onDone, Fifo.entered, Fifo.left]

/-- the timeout fires when due: the packet is forwarded -/
theorem runActs_fire (k : Nat) (h : st.tx = some (p, st.now, k)) :
    Fifo.runActs (Wire.dev cfg) st [.fire] =
      .ok (Fifo.issueGet { st with tx := none, dev := Wire.logOut st.dev st.now p }, [], [p.id]) := by
  simp [Fifo.runActs, Fifo.step, h, Fifo.proceed, Wire.dev, Wire.onFire, Wire.onDone, Fifo.entered, Fifo.left]

omit st p x y

theorem pkt_put (a a' : A) (x : ℚ) (hc : a'.cts = a.cts ++ [x]) (id : Int) (h : id.toNat < a.cts.length) : a'.pkt id = a.pkt id := by
  unfold A.pkt
  rw [ctOf_put a a' x hc id h]

/-- `Wire.put`: the LTS accepts `put` of the source's next packet and stores it with the stamp `now` -/
theorem lts_put (hi : AInv cfg losses delays arrivals a q.time outs) {a' : A} {next : Nat} (hnext : next = a.cts.length) (hw : a'.wire = a.wire) (hc : a'.cts = a.cts ++ [q.time])
    (hit : a'.items = a.items ++ [(next : Int)]) : LtsOK cfg a q.time a' [next] [] := by
  have hits : ∀ i ∈ a.items, i.toNat < a.cts.length := fun i hi' => (hi.its i hi').2.1
  have hnew : a'.pkt (next : Int) = { pktOf 0 (next : Int) with ctime := q.time } := by
    unfold A.pkt
    rw [hnext, ctOf_new a a' q.time hc]; rfl
  have hitems : a'.items.map a'.pkt = a.items.map a.pkt ++ [{ pktOf 0 (next : Int) with ctime := q.time }] := by
    rw [hit, List.map_append, List.map_singleton, hnew]
    congr 1
    apply List.map_congr_left
    intro i hi'
    exact pkt_put a a' q.time hc i (hits i hi')
  have hp := hi.wire
  intro gh
  refine ⟨gh, [.put (pktOf 0 (next : Int))], ?_⟩
  have hlen : a'.cts.length = a.cts.length + 1 := by rw [hc]; simp
  simp only [Fifo.runActs, Fifo.step, Wire.dev, Wire.admitPkt, if_true, Fifo.entered, Fifo.left, List.append_nil, List.map_nil]
  congr 1
  simp only [Prod.mk.injEq, and_true]
  refine ⟨?_, by simp [pktOf]⟩
  unfold toF
  rw [hw, hitems, hlen]
  cases hwire : a.wire with
  | init q0 => rfl
  | W g t0 nl nd => rfl
  | H g id q0 t0 nl nd =>
    rw [hwire] at hp
    simp only
    rw [pkt_put a a' q.time hc id hp.2.2.2.2]
  | T t id q0 nl nd =>
    rw [hwire] at hp
    simp only
    rw [pkt_put a a' q.time hc id hp.2.2]

/-- the LTS lets the clock advance to the next entry -/
theorem AInv.tickOk {now : ℚ} (hi' : AInv cfg losses delays arrivals a now outs) (hq : IsMin a q) (gh : WireSt ℚ)
    (h : now < q.time) : Fifo.TickOk (toF a now gh) q.time := by
  unfold Fifo.TickOk
  rcases (hi'.quiet (min_ne_now hi'.due hq h)).2 with ⟨t, id, q0, nl, nd, e⟩ | ⟨⟨g, t0, nl, nd, e⟩, hit⟩
  · have hq0 := not_keyLt_time (hq.2 q0 (mem_wire (e ▸ List.mem_singleton_self q0)))
    rw [toF_T e]
    exact ⟨h.le, rfl, rfl, fun hc => Bool.false_ne_true hc.1, fun p due k htx => by cases htx; exact hq0⟩
  · rw [toF_W e]
    exact ⟨h.le, rfl, rfl, fun hc => hc.2 (congrArg (List.map a.pkt) hit), fun _ _ _ htx => nomatch htx⟩

/-- zero or one `tick` brings the LTS to the instant of the next entry -/
theorem lts_advance {now : ℚ} (hi' : AInv cfg losses delays arrivals a now outs) (hq : IsMin a q) (gh : WireSt ℚ) :
    ∃ acts, Fifo.runActs (Wire.dev cfg) (toF a now gh) acts = .ok (toF a q.time gh, [], []) :=
  Fifo.runActs_advance (hi'.now_le hq) (hi'.tickOk hq gh)

/-- **every configuration step is accepted by the LTS of the wire**: the packets that enter are the source's next one (a
`put`) or none; the packets that leave are the step's `lf` -/
theorem lts_step (hi : AInv cfg losses delays arrivals a q.time outs) (hq : IsMin a q) {a' : A} {new : List (Int × ℚ)}
    {lf : List Int} (hs : AStep cfg losses delays a q a' new lf) :
    ∃ ins, LtsOK cfg a q.time a' ins lf ∧ List.range a'.cts.length = List.range a.cts.length ++ ins := by
  cases hs with
  | srcInitEnd | srcInitWait | putIdle | srcEnd => exact ⟨[], fun gh => ⟨gh, [], rfl⟩, (List.append_nil _).symm⟩
  | srcPutEnd _ _ next h | srcPutWait _ _ next _ _ h =>
    have hs := hi.src
    rw [h] at hs
    refine ⟨[next], lts_put hi hs.2.2.1 rfl rfl rfl, ?_⟩
    simp [List.range_succ, hs.2.2.1]
  | wireInit g h =>
    have hp := hi.wire
    rw [h] at hp
    refine ⟨[], fun gh => ⟨gh, [.init], ?_⟩, (List.append_nil _).symm⟩
    rw [Fifo.runActs_init (by simp only [toF, h])]
    simp only [toF, h, hp.2.2.1, Fifo.issueGet, List.map_nil]
  | putHand q' g t0 nl nd i is h hw hit ht =>
    refine ⟨[], fun gh => ⟨gh, [.handoff], ?_⟩, (List.append_nil _).symm⟩
    rw [toF_W hw, Fifo.runActs_handoff (by rfl) (congrArg (List.map a.pkt) hit)]
    rfl
  | serveLostIdle g g' id t0 nl nd h hl hit | serveLostNext q' g g' id t0 nl nd i is h hl hit ht =>
    refine ⟨[], fun gh => ⟨Wire.logLost (toF a q.time gh).dev q.time (a.pkt id),
      [.resume (draw losses nl) (draw delays nd)], ?_⟩, (List.append_nil _).symm⟩
    rw [runActs_lost _ (a.pkt id) _ _ (by simp only [toF, h]) hl]
    simp only [toF, h, hit, Fifo.issueGet, List.map_cons, List.map_nil]
    rfl
  | serveWait q' g t id t0 nl nd h hl hw ht =>
    refine ⟨[], fun gh => ⟨Wire.setD (toF a q.time gh).dev (draw delays nd),
      [.resume (draw losses nl) (draw delays nd)], ?_⟩, (List.append_nil _).symm⟩
    rw [runActs_wait (toF a q.time gh) (a.pkt id) (draw losses nl) (draw delays nd) (by simp only [toF, h]) hl hw]
    simp only [toF, h, ht.1]
    rfl
  | serveOutIdle g g' id t0 nl nd h hl hw hit | serveOutNext q' g g' id t0 nl nd i is h hl hw hit ht =>
    refine ⟨[], fun gh => ⟨Wire.logOut (Wire.setD (toF a q.time gh).dev (draw delays nd)) q.time (a.pkt id),
      [.resume (draw losses nl) (draw delays nd)], ?_⟩, (List.append_nil _).symm⟩
    rw [runActs_out (toF a q.time gh) (a.pkt id) (draw losses nl) (draw delays nd) (by simp only [toF, h]) hl hw]
    simp only [toF, h, hit, Fifo.issueGet, List.map_cons, List.map_nil]
    rfl
  | fireIdle t g id nl nd h hit | fireNext q' t g id nl nd i is h hit ht =>
    refine ⟨[], fun gh => ⟨Wire.logOut (toF a q.time gh).dev q.time (a.pkt id), [.fire], ?_⟩, (List.append_nil _).symm⟩
    rw [runActs_fire _ (a.pkt id) 0 (by simp only [toF, h])]
    simp only [toF, h, hit, Fifo.issueGet, List.map_cons, List.map_nil]
    rfl

end WireK
