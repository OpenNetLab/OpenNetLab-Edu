import OnlVerif.Lemmas.TRKRun
import OnlVerif.Lemmas.Fifo
import OnlVerif.Lemmas.FifoKCommon
/-!
# The two-rate token bucket on the kernel model: every configuration step is accepted by the FifoServer LTS of the shaper

`toF a now lg` is the LTS state (`Net/Fifo.lean` with `TwoRate.dev`) a configuration stands for, with `lg` in the
ghost field of the device state (`log`: written by the LTS for its own theorems, read by no decision).  For each
constructor of `AStep` the LTS accepts the corresponding action (`init`, `put`, `handoff`, `resume`, `fire`, or nothing)
from `toF a` to `toF a'`, whatever the ghost values; and the clock advance is an accepted `tick`.
-/

set_option linter.unusedSimpArgs false

namespace TRK
open TwoRateOnK QEntry

variable {size : Int → Nat} {cfg : TrCfg ℚ}
variable {a : A} {now : ℚ} {q : QEntry ℚ} {n e : Nat}

/-- **the LTS state a configuration stands for** -/
def toF (size : Int → Nat) (a : A) (now : ℚ) (lg : List (ℚ × Nat × Nat)) : FState ℚ (TrSt ℚ) :=
  { now := now
    dev := { commit := a.commit, peak := a.peak, upd := a.upd, received := a.cts.length, sent := a.sent.toNat, log := lg }
    items := a.items.map (pktOf size)
    getPending := match a.run with | .W _ _ => true | _ => false
    handed := match a.run with | .H _ id _ _ => some (pktOf size id) | _ => none
    tx := match a.run with
      | .T1 _ id q => some (pktOf size id, q.time, 0)
      | _ => none
    started := match a.run with | .init _ => false | _ => true }

/-- what the LTS side of a configuration step delivers: from every ghost value, an accepted action sequence into the new
configuration's LTS state with some ghost value, with the packets that entered and left -/
def LtsOK (size : Int → Nat) (cfg : TrCfg ℚ) (a : A) (t : ℚ) (a' : A) (ins outs : List Nat) : Prop :=
  ∀ lg, ∃ lg' acts, Fifo.runActs (TwoRate.dev cfg) (toF size a t lg) acts = .ok (toF size a' t lg', ins, outs)

theorem ltsOK_nothing {a' : A} {t : ℚ} (h : ∀ lg, toF size a' t lg = toF size a t lg) :
    LtsOK size cfg a t a' [] [] := by
  intro lg
  exact ⟨lg, [], by rw [h]; rfl⟩

theorem ltsOK_one {a' : A} {t : ℚ} (act : FAct ℚ) (ins outs : List Nat)
    (h : ∀ lg, ∃ lg' o, Fifo.step (TwoRate.dev cfg) (toF size a t lg) act = .ok (toF size a' t lg', o) ∧
      Fifo.entered act o = ins ∧ Fifo.left o = outs) : LtsOK size cfg a t a' ins outs := by
  intro lg
  obtain ⟨lg', o, h1, h2, h3⟩ := h lg
  refine ⟨lg', [act], ?_⟩
  simp only [Fifo.runActs, h1, h2, h3, List.append_nil]

/-- the ids of the packets put / sent out in a step -/
def putIds : List (HEv ℚ) → List Nat
  | [] => []
  | .put id _ :: r => id.toNat :: putIds r
  | _ :: r => putIds r

def outIds : List (HEv ℚ) → List Nat
  | [] => []
  | .out id _ _ :: r => id.toNat :: outIds r
  | _ :: r => outIds r

theorem putIds_append (l1 l2 : List (HEv ℚ)) : putIds (l1 ++ l2) = putIds l1 ++ putIds l2 := by
  induction l1 with
  | nil => rfl
  | cons x r ih => cases x <;> simp [putIds, ih]

theorem outIds_append (l1 l2 : List (HEv ℚ)) : outIds (l1 ++ l2) = outIds l1 ++ outIds l2 := by
  induction l1 with
  | nil => rfl
  | cons x r ih => cases x <;> simp [outIds, ih]

/-- **the decision of the K program is the LTS's `onResume`** -/
theorem onResume_verdict (d : TrSt ℚ) (now x y : ℚ) (p : Pkt ℚ) :
    match verdict cfg d.commit d.peak d.upd now p with
    | .ok (.wait dt cm pk) => TwoRate.onResume cfg d now x y p = (TwoRate.setLevels d cm pk now, p, .wait dt)
    | .ok (.emit col cm pk) =>
      TwoRate.onResume cfg d now x y p =
        (TwoRate.logDebit (TwoRate.setLevels d cm pk now) now p col, TwoRate.paint p col, .emit)
    | .error _ => True := by
  unfold verdict TwoRate.onResume
  cases hk : TwoRate.pirOn cfg with
  | none =>
    simp only [TwoRate.resumeCir]
    by_cases h1 : TwoRate.refillLevel cfg.cbs d.commit cfg.cir d.upd now < Num.ofNat p.size
    · simp only [if_pos h1]
    · simp only [if_neg h1]; rfl
  | some k =>
    simp only
    cases hb : TwoRate.pbsOn cfg with
    | none => trivial
    | some b =>
      cases hpl : d.peak with
      | none => trivial
      | some pl =>
        simp only [TwoRate.resumePir]
        by_cases h1 : TwoRate.refillLevel b pl k d.upd now < Num.ofNat p.size
        · simp only [if_pos h1]
        · simp only [if_neg h1]
          by_cases h2 : TwoRate.refillLevel cfg.cbs d.commit cfg.cir d.upd now < Num.ofNat p.size
          · simp only [if_pos h2]; rfl
          · simp only [if_neg h2]; rfl

theorem onFire_afterWait (d : TrSt ℚ) (now : ℚ) (k : Nat) (p : Pkt ℚ) :
    TwoRate.onFire cfg d now k p =
      (TwoRate.logDebit (TwoRate.setLevels d (afterWait cfg d.commit d.peak).2.1 (afterWait cfg d.commit d.peak).2.2 now) now p
        (afterWait cfg d.commit d.peak).1, TwoRate.paint p (afterWait cfg d.commit d.peak).1, .emit) := by
  unfold TwoRate.onFire afterWait
  cases TwoRate.pirOn cfg <;> rfl

/-- **`run` calls `store.get()`**: the LTS's `issueGet` between two packets is `A.get` -/
theorem toF_get (a : A) (t : ℚ) (lg : List (ℚ × Nat × Nat)) :
    Fifo.issueGet ({ now := t, items := a.items.map (pktOf size), started := true
                     dev := { commit := a.commit, peak := a.peak, upd := a.upd, received := a.cts.length, sent := a.sent.toNat,
                              log := lg } } : FState ℚ (TrSt ℚ)) = toF size (a.get n e t) t lg := by
  unfold A.get Fifo.issueGet
  cases a.items <;> rfl

/-- **every configuration step is accepted by the LTS of the shaper**, whatever the ghost value -/
theorem lts_step {a' : A} {new : List (HEv ℚ)} (hi : AInv cfg a q.time) (hsent : 0 ≤ a.sent)
    (hs : AStep size cfg n e a q a' new) : LtsOK size cfg a q.time a' (putIds new) (outIds new) := by
  have hrun := hi.run
  have hsn : (a.sent + 1).toNat = a.sent.toNat + 1 := by omega
  cases hs with
  | runInit h =>
    rw [h] at hrun
    refine ltsOK_one .init [] [] (fun lg => ⟨lg, .nothing, ?_, rfl, rfl⟩)
    rw [← toF_get]
    simp [Fifo.step, toF, h]
  | serveWait g id t0 dt cm pk h hdec =>
    refine ltsOK_one (.resume 0 0) [] [] (fun lg => ⟨lg, .nothing, ?_, rfl, rfl⟩)
    have := onResume_verdict (cfg := cfg)
      ({ commit := a.commit, peak := a.peak, upd := a.upd, received := a.cts.length, sent := a.sent.toNat, log := lg } : TrSt ℚ)
      q.time 0 0 (pktOf size id)
    unfold verdictA at hdec
    simp only [hdec] at this
    simp only [Fifo.step, toF, h, TwoRate.dev, this]
    simp [Fifo.proceed, TwoRate.setLevels]
  | serveOut g id t0 cm col pk h hdec =>
    refine ltsOK_one (.resume 0 0) [] [id.toNat]
      (fun lg => ⟨(q.time, size id, col) :: lg, .depart (TwoRate.paint (pktOf size id) col), ?_, rfl, rfl⟩)
    have := onResume_verdict (cfg := cfg)
      ({ commit := a.commit, peak := a.peak, upd := a.upd, received := a.cts.length, sent := a.sent.toNat, log := lg } : TrSt ℚ)
      q.time 0 0 (pktOf size id)
    unfold verdictA at hdec
    simp only [hdec] at this
    rw [← toF_get]
    simp only [Fifo.step, toF, h, TwoRate.dev, this]
    simp [Fifo.proceed, TwoRate.setLevels, TwoRate.logDebit, TwoRate.onDone, hsn, pktOf]
  | tokOut t id h =>
    refine ltsOK_one .fire [] [id.toNat]
      (fun lg => ⟨(q.time, size id, (afterWait cfg a.commit a.peak).1) :: lg,
        .depart (TwoRate.paint (pktOf size id) (afterWait cfg a.commit a.peak).1), ?_, rfl, rfl⟩)
    rw [← toF_get]
    simp only [Fifo.step, toF, h, TwoRate.dev, onFire_afterWait, lt_irrefl, if_false]
    simp [Fifo.proceed, TwoRate.setLevels, TwoRate.logDebit, TwoRate.onDone, hsn, pktOf]
  | srcInit arr h => exact ltsOK_nothing (fun _ => rfl)
  | srcPut next arr h =>
    refine ltsOK_one (.put (pktOf size (next : Int))) [next] [] (fun lg => ⟨lg, .accepted, ?_, by simp [Fifo.entered, pktOf], rfl⟩)
    simp only [Fifo.step, toF, TwoRate.dev, TwoRate.admitPkt, if_true, List.map_append, List.map_cons, List.map_nil,
      List.length_append, List.length_singleton]
  | srcEnd h => exact ltsOK_nothing (fun _ => rfl)
  | pendNoop l1 l2 hpe hno => exact ltsOK_nothing (fun _ => rfl)
  | pendHand g t0 i is l1 l2 hpe h hit =>
    refine ltsOK_one .handoff [] [] (fun lg => ⟨lg, .nothing, ?_, rfl, rfl⟩)
    simp [Fifo.step, toF, h, hit]

theorem A.get_sent (a : A) (n e : Nat) (now : ℚ) : (a.get n e now).sent = a.sent := by
  unfold A.get; split <;> rfl

theorem sent_step {a' : A} {new : List (HEv ℚ)} (h : 0 ≤ a.sent) (hs : AStep size cfg n e a q a' new) : 0 ≤ a'.sent := by
  cases hs with
  | runInit => rwa [A.get_sent]
  | serveOut => rw [A.get_sent]; exact Int.add_nonneg h (by decide)
  | tokOut => rw [A.get_sent]; exact Int.add_nonneg h (by decide)
  | _ => exact h

/-- the LTS accepts the clock advance to the next entry, whatever the ghost values -/
theorem lts_tick (hi : AInv cfg a now) (hq : IsMin a q) (h : now < q.time) (lg : List (ℚ × Nat × Nat)) :
    Fifo.step (TwoRate.dev cfg) (toF size a now lg) (.tick q.time) = .ok (toF size a q.time lg, .nothing) := by
  have hr := (hi.idle hq h).2.1.2
  have hnlt : ¬ q.time < now := not_lt.mpr (le_of_lt h)
  cases hrun : a.run with
  | init q0 => rw [hrun] at hr; exact hr.elim
  | H g id q0 t0 => rw [hrun] at hr; exact hr.elim
  | W g t0 => rw [hrun] at hr; simp [Fifo.step, toF, hrun, hnlt, hr]
  | T1 t id q0 =>
    have h2 : ¬ q0.time < q.time := not_lt.mpr (not_keyLt_time (hq.2 q0 (mem_run (by simp [hrun, RPhase.entries]))))
    simp [Fifo.step, toF, hrun, hnlt, h2]

/-- zero or one `tick` brings the LTS to the instant of the next entry -/
theorem lts_advance (hi : AInv cfg a now) (hq : IsMin a q) (lg : List (ℚ × Nat × Nat)) :
    ∃ acts, Fifo.runActs (TwoRate.dev cfg) (toF size a now lg) acts = .ok (toF size a q.time lg, [], []) := by
  rcases eq_or_lt_of_le (hi.now_le hq) with h | h
  · exact ⟨[], by rw [← h]; rfl⟩
  · refine ⟨[.tick q.time], ?_⟩
    simp [Fifo.runActs, lts_tick hi hq h lg, Fifo.entered, Fifo.left]

/-- **a configuration step with the clock advance before it** is a sequence of actions the LTS accepts from `toF a` to `toF a'`,
whatever the ghost value, in which the packets that entered / left are those the step reports -/
theorem lts_astep {a' : A} {new : List (HEv ℚ)} (hi : AInv cfg a now) (hq : IsMin a q) (hsent : 0 ≤ a.sent)
    (hs : AStep size cfg n e a q a' new) (lg : List (ℚ × Nat × Nat)) :
    ∃ lg' acts, Fifo.runActs (TwoRate.dev cfg) (toF size a now lg) acts = .ok (toF size a' q.time lg', putIds new, outIds new) := by
  obtain ⟨acts0, h0⟩ := lts_advance (size := size) hi hq lg
  obtain ⟨lg', acts, h1⟩ := lts_step (hi.advance hq) hsent hs lg
  exact ⟨lg', acts0 ++ acts, by simpa using Fifo.runActs_append _ _ _ _ _ _ _ _ _ _ h0 h1⟩

theorem toF_a0 (arrivals : List ℚ) :
    toF size (a0 cfg arrivals) 0 [] = Fifo.init (TwoRate.st0 cfg) 0 := by
  simp [toF, a0, Fifo.init, TwoRate.st0, zero_eq']

end TRK
