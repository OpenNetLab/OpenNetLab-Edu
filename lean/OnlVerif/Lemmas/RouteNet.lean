import OnlVerif.Lemmas.RouteFib
/-! # Lemmas about a network of `FIBDemux` switches driven by generated tables (`hop`, `follow`) -/

namespace FatTree
open Route

theorem dget_sinks (l : List Nat) (x : Nat) :
    dget (l.map fun (key : Nat) => ((key : Int), sinkDev key)) (x : Int) = if x ∈ l then some (sinkDev x) else none := by
  induction l with
  | nil => simp [dget]
  | cons a r ih =>
    by_cases e : a = x
    · subst e; simp [dget]
    · have e' : ¬ ((a : Int) = (x : Int)) := by exact_mod_cast e
      have e'' : ¬ x = a := fun h => e h.symm
      simp [dget, e', e'', ih]

theorem dget_castFib (d : Dict) (k : Nat) :
    dget (d.map fun fp => ((fp.1 : Int), (fp.2 : Int))) (k : Int) = (dget d k).map fun v => (v : Int) := by
  induction d with
  | nil => simp [dget]
  | cons x r ih =>
    obtain ⟨a, b⟩ := x
    by_cases e : a = k
    · subst e; simp [dget]
    · have e' : ¬ ((a : Int) = (k : Int)) := by exact_mod_cast e
      simp [dget, e, e', ih]

theorem switch_put_table (tab : NodeTab) (nports : Nat) (sinksHere : List Nat) (key i : Nat) (r : PktRef)
    (hnot : key ∉ sinksHere) (hp : dget tab.flowToPort key = some i) (hi : i < nports) :
    FIBDemux.put (switchCfg tab nports sinksHere) { ref := r, flowId := (key : Int) } = .ok [(egressDev i, r)] := by
  apply FIBDemux.put_table _ _ _ ((List.range nports).map egressDev) (i : Int) (egressDev i) rfl rfl
  · simp only [switchCfg]; rw [dget_sinks, if_neg hnot]
  · rw [dget_castFib, hp]; rfl
  · exact Int.natCast_nonneg i
  · simp [hi]

theorem switch_put_sink (tab : NodeTab) (nports : Nat) (sinksHere : List Nat) (key : Nat) (r : PktRef)
    (hin : key ∈ sinksHere) :
    FIBDemux.put (switchCfg tab nports sinksHere) { ref := r, flowId := (key : Int) } = .ok [(sinkDev key, r)] := by
  apply FIBDemux.put_end _ _ _ _ rfl
  simp only [switchCfg]; rw [dget_sinks, if_pos hin]

theorem hop_forward (t : Tables) (nports : Nat) (sinks : Nat → List Nat) (key a i z : Nat)
    (hnot : key ∉ sinks a) (hport : portOf t a key = some i) (hptn : portToNexthop t a i = some z) (hi : i < nports) :
    hop t nports sinks key a = .forward z := by
  unfold portOf at hport
  unfold portToNexthop at hptn
  unfold hop
  cases hta : dget t a with
  | none => simp [hta] at hport
  | some tab =>
    simp only [hta] at hport hptn ⊢
    rw [switch_put_table tab nports (sinks a) key i _ hnot hport hi]
    have h1 : ¬ egressDev i % 2 = 1 := by show ¬ (2 * i) % 2 = 1; omega
    have h2 : egressDev i / 2 = i := by show (2 * i) / 2 = i; omega
    simp only [if_neg h1, h2, hptn]

theorem hop_deliver (t : Tables) (nports : Nat) (sinks : Nat → List Nat) (key a : Nat)
    (hnode : (dget t a).isSome) (hin : key ∈ sinks a) : hop t nports sinks key a = .deliver key := by
  unfold hop
  cases hta : dget t a with
  | none => simp [hta] at hnode
  | some tab =>
    simp only
    rw [switch_put_sink tab nports (sinks a) key _ hin]
    have h1 : sinkDev key % 2 = 1 := by show (2 * key + 1) % 2 = 1; omega
    have h2 : sinkDev key / 2 = key := by show (2 * key + 1) / 2 = key; omega
    simp only [if_pos h1, h2]

theorem follow_path (h : Nat → Hop) (key : Nat) (rest : List Nat) :
    ∀ src fuel, (∀ a z, (a, z) ∈ segments (src :: rest) → h a = .forward z) →
      (∀ d, (src :: rest).getLast? = some d → h d = .deliver key) →
      (src :: rest).length ≤ fuel → follow h fuel src = (src :: rest, .deliver key) := by
  induction rest with
  | nil =>
    intro src fuel _ hlast hf
    cases fuel with
    | zero => simp at hf
    | succ f =>
      have := hlast src (by simp)
      simp [follow, this]
  | cons z r ih =>
    intro src fuel hseg hlast hf
    cases fuel with
    | zero => simp at hf
    | succ f =>
      have h1 : h src = .forward z := hseg src z (by simp [segments])
      have ih' := ih z f
        (fun a b hab => hseg a b (by simp only [segments, List.mem_cons]; exact Or.inr hab))
        (fun d hd => hlast d (by simpa [List.getLast?_cons_cons] using hd))
        (by simp only [List.length_cons] at hf ⊢; omega)
      simp only [follow, h1, ih']

theorem last_segment (rest : List Nat) : ∀ src d, (src :: rest).getLast? = some d → rest ≠ [] →
    ∃ a, (a, d) ∈ segments (src :: rest) := by
  induction rest with
  | nil => intro _ _ _ h; exact absurd rfl h
  | cons z r ih =>
    intro src d hd _
    cases r with
    | nil =>
      simp at hd
      subst hd
      exact ⟨src, by simp [segments]⟩
    | cons y r' =>
      have hd' : (z :: y :: r').getLast? = some d := by simpa [List.getLast?_cons_cons] using hd
      obtain ⟨a, ha⟩ := ih z d hd' (by simp)
      exact ⟨a, by simp only [segments, List.mem_cons] at ha ⊢; exact Or.inr ha⟩

theorem node_of_ntp (t : Tables) (n z i : Nat) (h : nexthopToPort t n z = some i) : (dget t n).isSome := by
  unfold nexthopToPort at h
  cases hd : dget t n with
  | none => simp [hd] at h
  | some _ => rfl

end FatTree
