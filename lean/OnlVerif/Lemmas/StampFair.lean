import OnlVerif.Lemmas.StampWfqOrd
/-!
# WFQ with a static backlog: stamps are cumulative normalised service, service is fair

List-level lemmas.  `Chain c k w S l`: walking through the waiting items `l` in order of arrival, the stamps of
the class-`k` items are exactly the cumulative normalised service of class `k`, starting from `S` bits already
taken: `stamp · rate · w = S + (bits of the class-k items up to and including this one)`.
`FairL c L e R l` is what both run-level invariants — `Fair` (all arrivals first) and `FairB` (arrivals interleaved
with service decisions within one instant) — know of the waiting items `l`, relative to the packets `R` taken so far
and the early packets `e`; `put_burst` is the arrival that sees virtual time 0.
-/

namespace WFQ
open Stamp

def bitsOf (c : WfqCfg ℚ) (k : Nat) (l : List SPkt) : ℚ :=
  (l.map fun p => if clsOf c p.flow = some k then 8 * (p.size : ℚ) else 0).sum

@[simp] theorem bitsOf_nil (c : WfqCfg ℚ) (k : Nat) : bitsOf c k [] = 0 := rfl
@[simp] theorem bitsOf_cons (c : WfqCfg ℚ) (k : Nat) (p : SPkt) (l : List SPkt) :
    bitsOf c k (p :: l) = (if clsOf c p.flow = some k then 8 * (p.size : ℚ) else 0) + bitsOf c k l := by
  simp [bitsOf]
@[simp] theorem bitsOf_append (c : WfqCfg ℚ) (k : Nat) (l1 l2 : List SPkt) :
    bitsOf c k (l1 ++ l2) = bitsOf c k l1 + bitsOf c k l2 := by
  simp [bitsOf]

theorem bitsOf_nonneg (c : WfqCfg ℚ) (k : Nat) (l : List SPkt) : 0 ≤ bitsOf c k l := by
  induction l with
  | nil => simp
  | cons p l ih =>
    rw [bitsOf_cons]
    split
    · exact add_nonneg (mul_nonneg (by norm_num) (Nat.cast_nonneg _)) ih
    · rwa [zero_add]

theorem bitsOf_eq_zero (c : WfqCfg ℚ) (k : Nat) (l : List SPkt) (h : ∀ p ∈ l, clsOf c p.flow ≠ some k) :
    bitsOf c k l = 0 := by
  induction l with
  | nil => simp
  | cons p l ih =>
    rw [bitsOf_cons, if_neg (h p (by simp)), ih (fun q hq => h q (List.mem_cons_of_mem _ hq))]
    simp

def Chain (c : WfqCfg ℚ) (k : Nat) (w : ℚ) : ℚ → List (Item ℚ) → Prop
  | _, [] => True
  | S, y :: l =>
    if clsOf c y.pkt.flow = some k then
      y.stamp * c.rate * w = S + 8 * (y.pkt.size : ℚ) ∧ Chain c k w (S + 8 * (y.pkt.size : ℚ)) l
    else Chain c k w S l

theorem chain_append (c : WfqCfg ℚ) (k : Nat) (w S : ℚ) (l1 l2 : List (Item ℚ)) :
    Chain c k w S (l1 ++ l2) ↔ Chain c k w S l1 ∧ Chain c k w (S + bitsOf c k (l1.map (·.pkt))) l2 := by
  induction l1 generalizing S with
  | nil => simp [Chain]
  | cons y l ih =>
    simp only [List.cons_append, Chain, List.map_cons, bitsOf_cons]
    by_cases h : clsOf c y.pkt.flow = some k
    · simp only [h, if_true, ih, and_assoc, add_assoc]
    · simp only [h, if_false, ih, zero_add]

theorem chain_bounds (c : WfqCfg ℚ) (k : Nat) (w S : ℚ) (l : List (Item ℚ)) (h : Chain c k w S l) (y : Item ℚ)
    (hy : y ∈ l) (hk : clsOf c y.pkt.flow = some k) :
    S + 8 * (y.pkt.size : ℚ) ≤ y.stamp * c.rate * w ∧ y.stamp * c.rate * w ≤ S + bitsOf c k (l.map (·.pkt)) := by
  obtain ⟨pre, post, rfl⟩ := List.append_of_mem hy
  have h2 := ((chain_append c k w S pre (y :: post)).mp h).2
  simp only [Chain, if_pos hk] at h2
  have h0 := bitsOf_nonneg c k (pre.map (·.pkt))
  have h1 := bitsOf_nonneg c k (post.map (·.pkt))
  rw [h2.1, List.map_append, List.map_cons, bitsOf_append, bitsOf_cons, if_pos hk]
  constructor <;> linarith

theorem chain_of_no_k (c : WfqCfg ℚ) (k : Nat) (w S : ℚ) (l : List (Item ℚ))
    (h : ∀ y ∈ l, clsOf c y.pkt.flow ≠ some k) : Chain c k w S l := by
  induction l generalizing S with
  | nil => trivial
  | cons x l ih =>
    simp only [Chain]
    rw [if_neg (h x (by simp))]
    exact ih _ (fun y hy => h y (List.mem_cons_of_mem _ hy))

theorem chain_head (c : WfqCfg ℚ) (k : Nat) (w S : ℚ) (l : List (Item ℚ)) (h : Chain c k w S l)
    (hex : ∃ y ∈ l, clsOf c y.pkt.flow = some k) :
    ∃ y ∈ l, clsOf c y.pkt.flow = some k ∧ y.stamp * c.rate * w = S + 8 * (y.pkt.size : ℚ) := by
  induction l generalizing S with
  | nil => obtain ⟨y, hy, _⟩ := hex; simp at hy
  | cons x l ih =>
    simp only [Chain] at h
    by_cases hx : clsOf c x.pkt.flow = some k
    · rw [if_pos hx] at h
      exact ⟨x, by simp, hx, h.1⟩
    · rw [if_neg hx] at h
      obtain ⟨y, hy, hk⟩ := hex
      rcases List.mem_cons.mp hy with rfl | hy
      · exact absurd hk hx
      · obtain ⟨z, hz, hzk, hze⟩ := ih _ h ⟨y, hy, hk⟩
        exact ⟨z, List.mem_cons_of_mem _ hz, hzk, hze⟩

theorem stamp_mul_le {a b r w : ℚ} (h : a ≤ b) (hrw : 0 < r * w) : a * r * w ≤ b * r * w := by
  rw [mul_assoc, mul_assoc]
  exact mul_le_mul_of_nonneg_right h hrw.le

/-- **Removing an item of minimal stamp keeps the chain**: if it is of class `k` it is the oldest class-`k` item,
its stamp is exactly the service taken so far plus its own bits, and the rest continues from there. -/
theorem chain_remove (c : WfqCfg ℚ) (k : Nat) (w S : ℚ) (hrw : 0 < c.rate * w) (pre post : List (Item ℚ)) (m : Item ℚ)
    (h : Chain c k w S (pre ++ m :: post)) (hmin : ∀ x ∈ pre, m.stamp ≤ x.stamp) (hsz : 0 < m.pkt.size) :
    Chain c k w (S + bitsOf c k [m.pkt]) (pre ++ post) ∧
    (clsOf c m.pkt.flow = some k → m.stamp * c.rate * w = S + bitsOf c k [m.pkt]) := by
  obtain ⟨h1, h2⟩ := (chain_append c k w S pre (m :: post)).mp h
  rw [bitsOf_cons, bitsOf_nil, add_zero]
  by_cases hk : clsOf c m.pkt.flow = some k
  · simp only [Chain, if_pos hk] at h2 ⊢
    have hno : ∀ y ∈ pre, clsOf c y.pkt.flow ≠ some k := by
      intro y hy hyk
      have hb := (chain_bounds c k w S pre h1 y hy hyk).2
      have hm : (0 : ℚ) < m.pkt.size := by exact_mod_cast hsz
      have hlt : y.stamp * c.rate * w < m.stamp * c.rate * w :=
        hb.trans_lt (by rw [h2.1]; exact lt_add_of_pos_right _ (mul_pos (by norm_num) hm))
      exact absurd (stamp_mul_le (hmin y hy) hrw) (not_le.mpr hlt)
    have hz : bitsOf c k (pre.map (·.pkt)) = 0 :=
      bitsOf_eq_zero c k _ (by
        intro p hp
        obtain ⟨y, hy, rfl⟩ := List.mem_map.mp hp
        exact hno y hy)
    rw [hz, add_zero] at h2
    refine ⟨(chain_append c k w _ pre post).mpr ⟨chain_of_no_k c k w _ pre hno, ?_⟩, fun _ => h2.1⟩
    rw [hz, add_zero]
    exact h2.2
  · simp only [Chain, if_neg hk] at h2
    rw [if_neg hk, add_zero]
    exact ⟨(chain_append c k w S pre post).mpr ⟨h1, h2⟩, fun hc => absurd hc hk⟩

theorem chain_snoc (c : WfqCfg ℚ) (k : Nat) (w S : ℚ) (l : List (Item ℚ)) (y : Item ℚ) :
    Chain c k w S (l ++ [y]) ↔ Chain c k w S l ∧
      (clsOf c y.pkt.flow = some k → y.stamp * c.rate * w = S + bitsOf c k (l.map (·.pkt)) + 8 * (y.pkt.size : ℚ)) := by
  rw [chain_append]
  simp only [Chain]
  by_cases h : clsOf c y.pkt.flow = some k
  · simp [h]
  · simp [h]

/-- what the fairness argument needs to know about the waiting items, relative to the packets `R` already taken
out of the store (`L` bounds the packet sizes).  The *early* packets `e` were taken before the whole backlog had
arrived: their stamps need not be below the waiting ones. -/
structure FairL (c : WfqCfg ℚ) (L : Nat) (e R : List SPkt) (items : List (Item ℚ)) : Prop where
  conf : ∀ it ∈ items, ∃ k w, clsOf c it.pkt.flow = some k ∧ lookup c.weights k = some w
  size : ∀ it ∈ items, 0 < it.pkt.size ∧ it.pkt.size ≤ L
  chain : ∀ k w, lookup c.weights k = some w → Chain c k w (bitsOf c k R) items
  /-- apart from the early packets, nothing taken so far had a stamp above any waiting stamp -/
  low : ∀ k w, lookup c.weights k = some w → ∀ y ∈ items, bitsOf c k R - bitsOf c k e ≤ y.stamp * c.rate * w

theorem FairL.low_nil {c : WfqCfg ℚ} {L : Nat} {R : List SPkt} {l : List (Item ℚ)} (h : FairL c L [] R l) {k : Nat}
    {w : ℚ} (hw : lookup c.weights k = some w) {y : Item ℚ} (hy : y ∈ l) : bitsOf c k R ≤ y.stamp * c.rate * w := by
  simpa using h.low k w hw y hy

theorem FairL.early {c : WfqCfg ℚ} {L : Nat} {e R : List SPkt} {l : List (Item ℚ)} (h : FairL c L e R l)
    (x : List SPkt) : FairL c L (e ++ x) R l :=
  ⟨h.conf, h.size, h.chain, fun k w hw y hy => (sub_le_sub_left
    (by rw [bitsOf_append]; exact le_add_of_nonneg_right (bitsOf_nonneg c k x)) _).trans (h.low k w hw y hy)⟩

/-- taking a minimal item out keeps `FairL`, and the class of that item now leads in normalised service -/
theorem fairL_pick {c : WfqCfg ℚ} (hp : Pos c) {L : Nat} {e R : List SPkt} {pre post : List (Item ℚ)} {m : Item ℚ}
    (h : FairL c L e R (pre ++ m :: post)) (hmin : IsMin m (pre ++ m :: post)) :
    FairL c L e (R ++ [m.pkt]) (pre ++ post) ∧
    (∀ km wm, clsOf c m.pkt.flow = some km → lookup c.weights km = some wm → ∀ k w, lookup c.weights k = some w →
      (bitsOf c k (R ++ [m.pkt]) - bitsOf c k e) / w ≤ bitsOf c km (R ++ [m.pkt]) / wm) := by
  have hmem : m ∈ pre ++ m :: post := by simp
  have hsub : ∀ x ∈ pre ++ post, x ∈ pre ++ m :: post := fun x hx =>
    (List.mem_append.mp hx).elim (List.mem_append_left _) fun hx => List.mem_append_right _ (List.mem_cons_of_mem _ hx)
  have hrem : ∀ k w, lookup c.weights k = some w → Chain c k w (bitsOf c k (R ++ [m.pkt])) (pre ++ post) ∧
      (clsOf c m.pkt.flow = some k → m.stamp * c.rate * w = bitsOf c k (R ++ [m.pkt])) := fun k w hw => by
    rw [bitsOf_append]
    exact chain_remove c k w _ (mul_pos hp.rate (hp.w k w hw)) pre post m (h.chain k w hw)
      (fun x hx => hmin.stamp_le (List.mem_append_left _ hx)) (h.size m hmem).1
  have hnew : ∀ k w, lookup c.weights k = some w →
      bitsOf c k (R ++ [m.pkt]) - bitsOf c k e ≤ m.stamp * c.rate * w := by
    intro k w hw
    by_cases hk : clsOf c m.pkt.flow = some k
    · rw [(hrem k w hw).2 hk]; exact sub_le_self _ (bitsOf_nonneg c k e)
    · rw [bitsOf_append, bitsOf_cons, if_neg hk, bitsOf_nil, add_zero, add_zero]; exact h.low k w hw m hmem
  refine ⟨⟨fun it hit => h.conf it (hsub it hit), fun it hit => h.size it (hsub it hit),
    fun k w hw => (hrem k w hw).1, fun k w hw y hy => (hnew k w hw).trans
      (stamp_mul_le (hmin.stamp_le (hsub y hy)) (mul_pos hp.rate (hp.w k w hw)))⟩, ?_⟩
  intro km wm hkm hwm k w hw
  have hwpos := hp.w k w hw
  have hwmpos := hp.w km wm hwm
  rw [← (hrem km wm hwm).2 hkm, div_le_div_iff₀ hwpos hwmpos]
  exact (mul_le_mul_of_nonneg_right (hnew k w hw) hwmpos.le).trans_eq (mul_right_comm _ _ _)

/-- a class with a packet waiting is, in normalised service taken, at most one maximal packet behind any other
class (the early packets apart) -/
theorem FairL.started_le {c : WfqCfg ℚ} (hp : Pos c) {L : Nat} {e R : List SPkt} {l : List (Item ℚ)}
    (h : FairL c L e R l) {i j : Nat} {wi wj : ℚ} (hwi : lookup c.weights i = some wi)
    (hwj : lookup c.weights j = some wj) (hbj : ∃ y ∈ l, clsOf c y.pkt.flow = some j) :
    (bitsOf c i R - bitsOf c i e) / wi ≤ bitsOf c j R / wj + 8 * (L : ℚ) / wj := by
  obtain ⟨y, hy, _, hye⟩ := chain_head c j wj _ l (h.chain j wj hwj) hbj
  have hwjp := hp.w j wj hwj
  have hszq : (y.pkt.size : ℚ) ≤ L := by exact_mod_cast (h.size y hy).2
  have h1 : (bitsOf c i R - bitsOf c i e) / wi ≤ y.stamp * c.rate := by
    rw [div_le_iff₀ (hp.w i wi hwi)]; exact h.low i wi hwi y hy
  have h2 : y.stamp * c.rate = (bitsOf c j R + 8 * (y.pkt.size : ℚ)) / wj := by
    rw [eq_div_iff hwjp.ne']; exact hye
  rw [← add_div]
  exact h1.trans (h2.trans_le (div_le_div_of_nonneg_right
    (add_le_add_right (mul_le_mul_of_nonneg_left hszq (by norm_num)) _) hwjp.le))

/-- an arrival while nothing but the early packets has been taken: its stamp continues the sum of its class -/
theorem fairL_snoc {c : WfqCfg ℚ} (hp : Pos c) {L : Nat} {e : List SPkt} {l : List (Item ℚ)} (h : FairL c L e e l)
    {y : Item ℚ} {k : Nat} {w : ℚ} (hk : clsOf c y.pkt.flow = some k) (hw : lookup c.weights k = some w)
    (hsz : 0 < y.pkt.size ∧ y.pkt.size ≤ L)
    (hst : y.stamp * c.rate * w = bitsOf c k (e ++ l.map (·.pkt)) + 8 * (y.pkt.size : ℚ)) (h0 : 0 ≤ y.stamp) :
    FairL c L e e (l ++ [y]) := by
  have hmem : ∀ {P : Item ℚ → Prop}, (∀ it ∈ l, P it) → P y → ∀ it ∈ l ++ [y], P it := fun hl hy it hit => by
    rcases List.mem_append.mp hit with hit | hit
    · exact hl it hit
    · rw [List.mem_singleton.mp hit]; exact hy
  refine ⟨hmem h.conf ⟨k, w, hk, hw⟩, hmem h.size hsz, fun k' w' hw' => ?_, fun k' w' hw' => ?_⟩
  · refine (chain_snoc c k' w' _ l y).mpr ⟨h.chain k' w' hw', fun hk' => ?_⟩
    cases hk.symm.trans hk'
    cases hw.symm.trans hw'
    rw [hst, bitsOf_append]
  · refine hmem (h.low k' w' hw') ?_
    rw [sub_self]
    exact mul_nonneg (mul_nonneg h0 hp.rate.le) (hp.w k' w' hw').le

theorem stampOf_at_zero (c : WfqCfg ℚ) {w f B v : ℚ} (hrw : 0 < c.rate * w) (hB : 0 ≤ B) (hf : f * c.rate * w = B)
    (hv : v = 0) (size : Nat) :
    stampOf c f v w size * c.rate * w = B + 8 * (size : ℚ) ∧ 0 ≤ stampOf c f v w size := by
  subst hv
  have hf0 : 0 ≤ f := (mul_nonneg_iff_of_pos_right hrw).mp (by rw [← mul_assoc, hf]; exact hB)
  have hstamp : stampOf c f 0 w size * c.rate * w = B + 8 * (size : ℚ) := by
    rw [stampOf_eq, max_eq_left hf0, mul_assoc, add_mul, div_mul_cancel₀ _ hrw.ne', ← mul_assoc, hf]
  refine ⟨hstamp, (mul_nonneg_iff_of_pos_right hrw).mp ?_⟩
  rw [← mul_assoc, hstamp]
  exact add_nonneg hB (mul_nonneg (by norm_num) (Nat.cast_nonneg size))

/-- **An arrival within a burst.**  `put` sees `total_packets = 0` (and resets), or else virtual time 0,
`last_time = now` and for every class a finish time that is the normalised size of the class's packets in `R`.
Then the stamp continues the sum of its class by the packet's own bits, and the new stamp state describes
`R ++ [p]` in the same way. -/
theorem put_burst {c : WfqCfg ℚ} (hp : Pos c) {st st' : WfqSt ℚ} {now F : ℚ} {total : Int} {p : SPkt} {R : List SPkt}
    (h : put c st now total p = .ok (st', F)) (h0 : total = 0 → R = [])
    (hlive : total ≠ 0 → st.vtime = 0 ∧ st.lastTime = now ∧
      ∀ k w, lookup c.weights k = some w → ∃ f, lookup st.finish k = some f ∧ f * c.rate * w = bitsOf c k R) :
    (∃ k w, clsOf c p.flow = some k ∧ lookup c.weights k = some w ∧
      F * c.rate * w = bitsOf c k R + 8 * (p.size : ℚ)) ∧ 0 ≤ F ∧ st'.vtime = 0 ∧ st'.lastTime = now ∧
    ∀ k w, lookup c.weights k = some w →
      ∃ f, lookup st'.finish k = some f ∧ f * c.rate * w = bitsOf c k (R ++ [p]) := by
  obtain ⟨k, st1, f, w, hk, ha, hf, hwt, -, rfl, rfl⟩ := put_spec c _ _ _ _ _ _ h
  replace hk : clsOf c p.flow = some k := hk
  have hadv : st1.vtime = 0 ∧ ∀ k' w', lookup c.weights k' = some w' →
      ∃ f', lookup st1.finish k' = some f' ∧ f' * c.rate * w' = bitsOf c k' R := by
    rcases advance_spec c _ _ _ _ ha with ⟨h00, rfl⟩ | ⟨hne, _, _, rfl⟩
    · exact ⟨by simp [resetVtime, zero_eq_q], fun k' w' hw' =>
        ⟨0, by simp [resetVtime, lookup_zeroFinish, hw'], by simp [h0 h00]⟩⟩
    · obtain ⟨hv, hl, hfin⟩ := hlive hne
      exact ⟨by simp only [hv, hl, sub_self, zero_div, add_zero], hfin⟩
  obtain ⟨f0, hf0, hf0e⟩ := hadv.2 k w hwt
  cases hf.symm.trans hf0
  obtain ⟨hstamp, hst0⟩ := stampOf_at_zero c (mul_pos hp.rate (hp.w k w hwt)) (bitsOf_nonneg c k R) hf0e hadv.1 p.size
  refine ⟨⟨k, w, hk, hwt, hstamp⟩, hst0, hadv.1, rfl, fun k' w' hwk => ?_⟩
  show ∃ f', lookup (setKey st1.finish k _) k' = some f' ∧ _
  rw [lookup_setKey, bitsOf_append, bitsOf_cons, bitsOf_nil, add_zero]
  by_cases hkk : k' = k
  · subst hkk
    cases hwt.symm.trans hwk
    exact ⟨_, if_pos rfl, by rw [if_pos hk]; exact hstamp⟩
  · obtain ⟨f', hf', hf'e⟩ := hadv.2 k' w' hwk
    have : ¬ clsOf c p.flow = some k' := fun hc => hkk (Option.some.inj (hk.symm.trans hc)).symm
    exact ⟨f', by rw [if_neg hkk, hf'], by rw [if_neg this, add_zero, hf'e]⟩

end WFQ
