import OnlVerif.Lemmas.RRKFrame
import OnlVerif.Lemmas.KProc
/-!
# The RR scheduler on the kernel model: the configuration of processes behind a configuration

What `KInv` says in the terms of `A` (the agenda, the store records), the stores after a `put` or a `get`, and the list of
threads: the sender is the only process whose process id is not a numeral, and the machine of `Lemmas/KProcDefs.lean` finds,
changes and removes a thread by its process id.
-/

namespace RRK
open RROnK
open KProc

variable {F : Nat} {flow : Int → Nat} {s : KS} {a : A} {st0 : St}

theorem entries_cfgOf : (cfgOf flow F a s st0).entries.Perm a.entries := by
  have h1 : (runThread flow a.run).wait.entries ++ (sendThreads a.run).flatMap (·.wait.entries) = a.run.entries := by
    cases a.run <;> rfl
  have h2 : (srcThreads st0 a.src).flatMap (·.wait.entries) = a.src.entries := by cases a.src <;> rfl
  simp only [Cfg.entries, cfgOf, List.flatMap_cons, List.flatMap_append, h2, List.flatMap_nil, List.nil_append, A.entries, ← h1,
    pendEntries, List.append_assoc]
  exact (List.perm_append_comm_assoc ..).append_left _

theorem storesOf_zero {gq : List EvId} {t : Nat} {items : Nat → List Int} :
    storesOf F gq t items 0 = some { getQ := gq, items := List.replicate t 1 } := rfl

theorem storesOf_flow {gq : List EvId} {t : Nat} {items : Nat → List Int} {f : Nat} (hf : f < F) :
    storesOf F gq t items (flowStore f) = some { items := items f } := by
  have h1 : ¬ 1 + f = 0 := by omega
  have h2 : 1 + f ≤ F := by omega
  simp only [storesOf, flowStore, h1, h2, if_true, if_false, Nat.add_sub_cancel_left]

theorem flowStore_lt {f : Nat} (hf : f < F) : flowStore f < F + 1 := by
  unfold flowStore
  omega

/-- the wake-up store after a `put` or a `get` -/
theorem storesOf_setTok {gq gq' : List EvId} {t t' : Nat} {items : Nat → List Int} {l : List Int} (hl : l = List.replicate t' 1) :
    KProc.upd (storesOf F gq t items) 0 (some { getQ := gq', items := l }) = storesOf F gq' t' items := by
  funext r
  subst hl
  simp only [storesOf, KProc.upd]
  split <;> rfl

/-- the store of flow `f` after a `put` or a `get` -/
theorem storesOf_setFlow {gq : List EvId} {t : Nat} {items : Nat → List Int} {f : Nat} (hf : f < F) (l : List Int) :
    KProc.upd (storesOf F gq t items) (flowStore f) (some { items := l }) = storesOf F gq t (upd items f l) := by
  funext (r : Nat)
  simp only [storesOf, upd, KProc.upd]
  have hfs : flowStore f = 1 + f := rfl
  by_cases hr : r = flowStore f
  · subst hr
    rw [if_pos rfl, if_neg (show ¬ flowStore f = 0 by omega), if_pos (show flowStore f ≤ F by omega),
      if_pos (show flowStore f - 1 = f by omega)]
  · rw [if_neg hr]
    split
    · rfl
    · rw [if_neg (show ¬ r - 1 = f by omega)]

namespace KInv
variable (hk : KInv flow F s a)
include hk

theorem ag : s.agenda.Perm a.entries :=
  let ⟨_, hg⟩ := hk.g
  hg.ag.trans entries_cfgOf

theorem tok : s.res 0 = storeRec a.run.getQ (List.replicate a.tokens 1) :=
  let ⟨_, hg⟩ := hk.g
  (hg.stores 0 _ rfl).2

theorem st (f : Nat) (hf : f < F) : s.res (flowStore f) = storeRec [] (a.items f) :=
  let ⟨_, hg⟩ := hk.g
  (hg.stores _ _ (storesOf_flow hf)).2

theorem c0 : TimerK.lookup s.shared cRecv = .int a.recv := hk.cells.c0

theorem c1 : TimerK.lookup s.shared cCur = curVal a.cur := hk.cells.c1

theorem cc (f : Nat) (hf : f < F) : TimerK.lookup s.shared (cCount f) = .int (a.cnt f) := hk.cells.cc f hf

theorem cb (f : Nat) (hf : f < F) : TimerK.lookup s.shared (cBytes f) = .int (a.byt f) := hk.cells.cb f hf

end KInv

/-! ## the list of threads -/

theorem pid_runThread (r : RPhase) : (runThread flow r).pid = 0 := by cases r <;> rfl

theorem cbs_runThread (r : RPhase) : (runThread flow r).cbs = some [] := by cases r <;> rfl

theorem pid_srcThreads {sp : SPhase} {th : Thread St} (h : th ∈ srcThreads st0 sp) : th.pid = 2 := by
  cases sp <;> simp only [srcThreads, List.mem_singleton, List.not_mem_nil] at h <;> subst h <;> rfl

theorem srcThreads_eq {sp : SPhase} {th : Thread St} (h : th ∈ srcThreads st0 sp) : srcThreads st0 sp = [th] := by
  cases sp <;> simp only [srcThreads, List.mem_singleton, List.not_mem_nil] at h <;> subst h <;> rfl

theorem modTh_srcThreads (sp : SPhase) (f : Thread St → Thread St) : modTh (srcThreads st0 sp) 0 f = srcThreads st0 sp := by
  cases sp <;> rfl

theorem src_mem_cfgOf {th : Thread St} (h : th ∈ srcThreads st0 a.src) : th ∈ (cfgOf flow F a s st0).threads :=
  List.mem_cons_of_mem _ (List.mem_append_left _ h)

theorem send_mem_cfgOf {th : Thread St} (h : th ∈ sendThreads a.run) : th ∈ (cfgOf flow F a s st0).threads :=
  List.mem_cons_of_mem _ (List.mem_append_right _ h)

/-- the process id of the sender is neither that of `run` nor that of the source -/
theorem send_apart (hg : GInv s (cfgOf flow F a s st0)) {th : Thread St} (hth : th ∈ sendThreads a.run) :
    0 ≠ th.pid ∧ ∀ t ∈ srcThreads st0 a.src, t.pid ≠ th.pid := by
  have hp := hg.pids
  simp only [cfgOf, List.map_cons, List.map_append, pid_runThread, List.nodup_cons, List.mem_append, List.mem_map, not_or,
    not_exists, not_and, List.nodup_append] at hp
  exact ⟨Ne.symm (hp.1.2 th hth), fun t ht h => hp.2.2.2 _ ⟨t, ht, rfl⟩ _ ⟨th, hth, rfl⟩ h⟩

theorem src_apart (hg : GInv s (cfgOf flow F a s st0)) {t : Thread St} (ht : t ∈ srcThreads st0 a.src) :
    ∀ th ∈ sendThreads a.run, th.pid ≠ 2 :=
  fun _ hth => pid_srcThreads ht ▸ ((send_apart hg hth).2 t ht).symm

end RRK
