import OnlVerif.Lemmas.SndKStep
/-!
# The TCP sender on the kernel model: the executable abstraction function computes the LTS state of the configuration
-/


namespace SndK
open SenderOnK TcpSender
open TimerK (lookup dec_enc)

theorem cellVal_eq (s : KS) (k : Nat) : cellVal s k = lookup s.shared k := rfl

theorem cellNat_of {s : KS} {k n : Nat} (h : lookup s.shared k = .int n) : cellNat s k = n := by
  unfold cellNat; rw [cellVal_eq, h]; simp

theorem cellTime_of {s : KS} {k : Nat} {x : ℚ} (h : lookup s.shared k = TimeCell.enc x) : cellTime s k = x := by
  unfold cellTime; rw [cellVal_eq, h, dec_enc]; rfl

theorem cellFlag_val {s : KS} {k : Nat} {b : Bool} (h : lookup s.shared k = flagVal b) : cellFlag s k = b := by
  unfold cellFlag; rw [cellVal_eq, h]
  cases b <;> simp [flagVal]

theorem cellFlag_of {s : KS} {k : Nat} {b : Bool} (h : lookup s.shared k = if b then .int 1 else .none) :
    cellFlag s k = b := by
  unfold cellFlag; rw [cellVal_eq, h]
  cases b <;> simp

theorem cellOptTime_of {s : KS} {k : Nat} {o : Option ℚ} (h : lookup s.shared k = optEnc o) : cellOptTime s k = o := by
  unfold cellOptTime; rw [cellVal_eq, h]
  cases o with
  | none => rfl
  | some x =>
    have e : (TimeCell.enc x : Val) = Val.preempted (some (if x.num < 0 then 1 else 0)) x.num.natAbs x.den := rfl
    have d := dec_enc x
    simp only [optEnc, e] at d ⊢
    exact d

/-- a dict whose keys are candidate keys in order is rebuilt by scanning the candidates -/
theorem filterMap_get? {β : Type} : ∀ (ks : List Nat) (l : List (Nat × β)), ks.Nodup → (AL.keys l).Sublist ks →
    ks.filterMap (fun k => (AL.get? k l).map fun v => (k, v)) = l
  | [], l, _, hs => by
    have : AL.keys l = [] := List.sublist_nil.mp hs
    cases l with
    | nil => rfl
    | cons x xs => simp [AL.keys] at this
  | k :: ks, l, hn, hs => by
    have hk : k ∉ ks := (List.nodup_cons.mp hn).1
    have hn' := (List.nodup_cons.mp hn).2
    cases l with
    | nil =>
      simp only [List.filterMap_cons, AL.get?, Option.map_none]
      exact filterMap_get? ks [] hn' (List.nil_sublist _)
    | cons x xs =>
      obtain ⟨a, b⟩ := x
      have hs' : (a :: AL.keys xs).Sublist (k :: ks) := hs
      cases hs' with
      | cons _ h =>
        -- `k` is not a key of the dict
        have hka : a ≠ k := fun e => hk (e ▸ h.subset List.mem_cons_self)
        have hnot : k ∉ AL.keys ((a, b) :: xs) := fun hm => hk (h.subset hm)
        rw [List.filterMap_cons, (AL.get?_eq_none_iff k _).mpr hnot]
        exact filterMap_get? ks ((a, b) :: xs) hn' h
      | cons_cons _ h =>
        -- `k` is the first key
        have hnot : k ∉ AL.keys xs := fun hm => hk (h.subset hm)
        rw [List.filterMap_cons]
        simp only [AL.get?, if_true, Option.map_some]
        congr 1
        have ih := filterMap_get? ks xs hn' h
        have e : ks.filterMap (fun k' => (if k = k' then some b else AL.get? k' xs).map fun v => (k', v)) =
            ks.filterMap (fun k' => (AL.get? k' xs).map fun v => (k', v)) := by
          apply List.filterMap_congr
          intro k' hk'
          have : k ≠ k' := fun e => hk (e ▸ hk')
          simp only [this, if_false]
        rw [e, ih]

theorem segKeys_nodup (mss next : Nat) (hm : 0 < mss) : (segKeys mss next).Nodup := by
  rw [segKeys_eq_cands]; exact cands_nodup mss hm _ _

theorem wakeAt_le (n : Nat) (t e : ℚ) (h : t ≤ e) : Sender.wakeAt (n + 2) t e = e := by
  rcases lt_or_eq_of_le h with hl | he
  · have := wakeAt_eq n t (e - t) (sub_pos.mpr hl)
    rw [show t + (e - t) = e by ring] at this
    exact this
  · subst he
    show (if t < t then _ else t) = t
    rw [if_neg (lt_irrefl _)]

variable {cfg : Cfg} {s : KS} {a : A}

theorem absCC_eq (hc : CellsOK s a) : absCC s = a.S.cc := by
  have h := hc.cc
  simp only [ccCells, List.forall_mem_cons, List.not_mem_nil, IsEmpty.forall_iff, implies_true, and_true] at h
  obtain ⟨h0, h1, h2, h3, h4, h5, h6, h7, h8, h9, h10, h11, h12, h13, h14, h15⟩ := h
  unfold absCC
  rw [cellTime_of h0, cellTime_of h1, cellTime_of h2, cellTime_of h3, cellTime_of h4, cellTime_of h5, cellTime_of h6,
    cellTime_of h7, cellTime_of h8, cellTime_of h9, cellFlag_val h10, cellFlag_val h11, cellTime_of h12, cellTime_of h13,
    cellTime_of h14, cellTime_of h15]

theorem absTimerRec_eq (hk : KI none s a) (hi : AInv cfg a) {seq : Nat} (hs : seq ∈ a.tks) {r : TimerRec ℚ}
    (hg : AL.get? seq a.S.timers = some r) : absTimerRec s seq = r := by
  obtain ⟨l1, l2, l3⟩ := (tmA_live hg).mp (hi.tm seq hs)
  have he := cellTime_of (hk.c.expire seq hs)
  have hp : cellVal s (cTmProc seq) = .ev (a.tmp seq) := hk.c.proc seq hs
  -- the process of a live timer has not returned, and its local state holds the instant of its next resumption
  have hres : ∀ {t : KProc.Thread St} {x : QEntry ℚ} {w : ℚ}, t ∈ threads (kernOf a) → t.pid = a.tmp seq → t.cbs = some [] →
      t.wait.outcome = none → t.wait.target = some x.ev → (t.st = .tmStart seq w ∨ t.st = .tmSleep seq w) →
      tmResumeAt s (a.tmp seq) = some w := by
    intro t x w ht hpid hcb hout htg hst
    have hT := hk.k.g.th t ht
    have ho := (hT.own [] hcb).2.2
    rw [hout] at ho
    unfold tmResumeAt
    rw [← hpid, ho, hT.proc _ htg]
    rcases hst with e | e <;> rw [e] <;> rfl
  unfold absTimerRec
  simp only [he, hp]
  cases hph : a.tph seq with
  | init q =>
    rw [hph] at l3
    rw [hres (mem_threads_tm (κ := kernOf a) hs hph) rfl rfl rfl rfl (.inl rfl)]
    simp only
    rw [l2, wakeAt_le 6 _ _ (by rw [l3.1]; exact le_of_lt l3.2.2)]
  | sleep t q =>
    rw [hph] at l3
    rw [hres (mem_threads_tm (κ := kernOf a) hs hph) rfl rfl rfl rfl (.inr rfl)]
    simp only
    rw [l2, wakeAt_le 6 _ _ (by rw [l3.1])]
  | ending q => rw [hph] at l3; exact l3.elim
  | gone => rw [hph] at l3; exact l3.elim
  | running => rw [hph] at l3; exact l3.elim

theorem abs_eq (hk : KI none s a) (hi : AInv cfg a) : absSender cfg s = a.S := by
  have hnext := cellNat_of hk.c.next
  have hnd : a.tks.Nodup := by rw [hi.tks]; exact segKeys_nodup _ _ hi.mpos
  have htimers : (a.tks.filterMap fun seq => if cellFlag s (cTmIn seq) then some (seq, absTimerRec s seq) else none) =
      a.S.timers := by
    conv_rhs => rw [← filterMap_get? a.tks a.S.timers hnd hi.tkeys]
    apply List.filterMap_congr
    intro seq hs
    rw [cellFlag_of (hk.c.tin seq)]
    cases hg : AL.get? seq a.S.timers with
    | none => rfl
    | some r =>
      simp only [Option.isSome_some, if_true, Option.map_some]
      rw [absTimerRec_eq hk hi hs hg]
  have hsent : (a.tks.filterMap fun seq => (cellOptTime s (cSent seq)).map fun t => (seq, t)) = a.S.sent := by
    conv_rhs => rw [← filterMap_get? a.tks a.S.sent hnd (hi.inv.keys ▸ hi.tkeys)]
    apply List.filterMap_congr
    intro seq _
    rw [cellOptTime_of (hk.c.sent seq)]
  have htok : (s.res tokStore).items.length = a.S.tokens := by
    have := hk.k.tok
    rw [show tokStore = 0 from rfl, this]
    simp [storeRec, kernOf]
  have hproc : absProc s = a.S.proc := by
    have hT : KProc.TInv s (runTh a.run) := hk.k.g.th _ (mem_threads_run (κ := kernOf a) rfl)
    have hra := hi.run
    unfold absProc
    rw [show runProc = 0 from rfl]
    -- the process event of `run` has an outcome once `run` has returned; while it waits, its record names the event it waits for
    revert hT hra
    cases a.run with
    | init q =>
      intro hT hra
      rw [show (s.ev 0).out = none from (hT.own [] rfl).2.2,
        show s.proc? 0 = some { st := .runStart q.time, target := some q.ev } from hT.proc _ rfl]
      exact hra.2.2.symm
    | blocked g t0 =>
      intro hT hra
      rw [show (s.ev 0).out = none from (hT.own [] rfl).2.2,
        show s.proc? 0 = some { st := .runGet t0, target := some g } from hT.proc _ rfl]
      simp only [Option.isSome_none, Bool.false_eq_true, if_false, show (s.ev g).out = none from hT.ev.2.2]
      exact hra.1.symm
    | handed g t0 q =>
      intro hT hra
      rw [show (s.ev 0).out = none from (hT.own [] rfl).2.2,
        show s.proc? 0 = some { st := .runGet t0, target := some q.ev } from hT.proc _ rfl]
      simp only [Option.isSome_none, Bool.false_eq_true, if_false, show (s.ev q.ev).out = some (.ok (.int 1)) from hT.ev.2.2,
        Option.isSome_some, if_true]
      exact hra.2.2.1.symm
    | ending q =>
      intro hT hra
      rw [show (s.ev 0).out = some (.ok .none) from (hT.own [] rfl).2.2]
      exact hra.1.symm
    | done =>
      intro hT hra
      rw [show (s.ev 0).out = some (.ok .none) from hT.ev.2.2.2]
      exact hra.symm
    | running => exact fun _ hra => hra.elim
  unfold absSender
  simp only [htok, hproc, absCC_eq hk.c, cellTime_of hk.c.rtt, cellTime_of hk.c.dev, cellTime_of hk.c.rto,
    hnext, cellNat_of hk.c.buf, cellNat_of hk.c.lack, cellNat_of hk.c.dup]
  rw [← hi.kind, ← hi.mss, ← hi.size, hk.k.now]
  have e1' : segKeys a.S.mss a.S.next_seq = a.tks := by rw [hi.mss, hi.tks]
  rw [e1', htimers, hsent]
  rfl

end SndK
