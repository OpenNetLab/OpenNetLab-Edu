import OnlVerif.Lemmas.SndKRun
/-!
# The TCP sender on the kernel model: kernel steps of `run` (LTS action `wake`; its process event once it has returned)
-/


namespace SndK
open SenderOnK TcpSender
open KProc (GInv hrun)

theorem ARun.of_inv {cfg : Cfg} {a : A} (hi : AInv cfg a) (hproc : a.S.proc = .runnable) : ARun cfg a :=
  ⟨hi.inv, hi.kind, hi.mss, hi.size, hi.mpos, hi.spos, hi.dvd, hi.tks, hi.nmul, hi.bufle, hi.tkeys, hproc, hi.scr, hi.pend, hi.tm,
    hi.putAt⟩

theorem fuel_ok (size next mss : Nat) : (size - next) / mss + 1 ≤ size + 2 := by
  have h1 : (size - next) / mss ≤ size - next := Nat.div_le_self _ _
  omega

theorem store_runTh {r : RPhase} {r' : ResId} {q' : QEntry ℚ} {v : Int} (h : (runTh r).wait = .getH r' q' v) : r' = 0 := by
  cases r <;> cases h
  rfl

/-- a resumption of `run` (LTS action `wake`): the popped entry resumes `run` with `arg`, and the burst of its local state is
the sending loop from the instant of the entry -/
theorem run_wake {cfg : Cfg} (fuel : Nat) {s : KS} {a : A} {q : QEntry ℚ} {rest : List (QEntry ℚ)} {arg : Resume}
    (hk : KI none s a) (hiT : AInv cfg (aTick a q.time)) (hp : popMin s.agenda = some (q, rest))
    (hw : (runTh a.run).wait.resumes = some (q, arg)) (hgq : a.run.getQ = []) (hcb : (runTh a.run).cbs = some [])
    (hproc : (aTick a q.time).S.proc = .runnable)
    (hbody : ∀ c1, Mid 0 c1 (aTick a q.time) →
      hrun 0 (body cfg (runTh a.run).st arg) c1 = hrun 0 (sndRun cfg q.time (cfg.size + 2)) c1) :
    StepGoal cfg fuel s (aTick a q.time).S a.txs := by
  have hth := mem_threads_run (κ := kernOf a) rfl
  have h1 := hk.begin hth q arg
  rw [pid_runTh] at h1
  obtain ⟨a', new, e1, e4, e5, e6⟩ := frag_run (cfg := cfg) (cfg.size + 2) _ _ [] h1 (.of_inv hiT hproc) hgq hcb
    (fuel_ok _ _ _)
  refine .one (x := .wake (cfg.size + 2)) (hk.resume fuel hth hw (fun _ _ _ => store_runTh) hp
    (by rw [pid_runTh]; exact .congr (hbody _ h1) e1)) e6 trivial ?_ e5
  show Sender.wakeStep _ _ = _
  unfold Sender.wakeStep
  rw [if_pos hproc]
  rw [List.nil_append] at e4
  exact e4

/-- the `Initialize` event of `run`: the first resumption -/
theorem kstep_runInit {cfg : Cfg} (fuel : Nat) {s : KS} {a : A} {q : QEntry ℚ} {rest : List (QEntry ℚ)}
    (hk : KI none s a) (hiT : AInv cfg (aTick a q.time)) (hp : popMin s.agenda = some (q, rest))
    (hph : a.run = .init q) : StepGoal cfg fuel s (aTick a q.time).S a.txs := by
  have hrT := hiT.run_at hph
  exact run_wake (arg := .start) fuel hk hiT hp (by rw [hph]; rfl) (by rw [hph]; rfl) (by rw [hph]; rfl) hrT.2.2
    fun _ _ => by rw [hph]; rfl

/-- the `get` of `run` has been served: `run` resumes -/
theorem kstep_runHanded {cfg : Cfg} (fuel : Nat) {s : KS} {a : A} {q : QEntry ℚ} {rest : List (QEntry ℚ)} {g : EvId} {t0 : ℚ}
    (hk : KI none s a) (hiT : AInv cfg (aTick a q.time)) (hp : popMin s.agenda = some (q, rest))
    (hph : a.run = .handed g t0 q) : StepGoal cfg fuel s (aTick a q.time).S a.txs := by
  have hrT := hiT.run_at hph
  refine run_wake (arg := .value (.int 1)) fuel hk hiT hp (by rw [hph]; rfl) (by rw [hph]; rfl) (by rw [hph]; rfl) hrT.2.2.1
    fun c1 h1 => ?_
  -- `env.now` after the `get` is the later of the instant of the call and the instant of the last `put`
  rw [hph]
  show hrun 0 (loadTime cPutAt fun tp => sndRun cfg (Num.pymax t0 tp) (cfg.size + 2)) _ = _
  rw [hr_loadTime (h1.c.slot .putAt), show Num.pymax t0 (aTick a q.time).putAt = q.time from hrT.2.2.2]

/-- the process event of `run`, once it has returned -/
theorem kstep_runEnding {cfg : Cfg} (fuel : Nat) {s : KS} {a : A} {q : QEntry ℚ} {rest : List (QEntry ℚ)}
    (hk : KI none s a) (hiT : AInv cfg (aTick a q.time)) (hp : popMin s.agenda = some (q, rest))
    (hph : a.run = .ending q) : StepGoal cfg fuel s (aTick a q.time).S a.txs := by
  have hrT := hiT.run_at hph
  exact .quiet (a' := { aTick a q.time with run := .done }) (hk.retire fuel (Swap.run (κ := kernOf a) hph .done) rfl rfl hp
      ⟨rfl, by rw [hph]; rfl⟩)
    ⟨hiT.inv, hiT.kind, hiT.mss, hiT.size, hiT.mpos, hiT.spos, hiT.dvd, hiT.tks, hiT.nmul, hiT.bufle, hiT.tkeys, hiT.cur,
      hrT.1, hiT.scr.congr rfl, hiT.pend, fun seq hs => (hiT.tm seq hs).congr rfl rfl rfl rfl, hiT.putAt⟩ rfl rfl

end SndK
