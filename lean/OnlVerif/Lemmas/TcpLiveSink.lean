import OnlVerif.Lemmas.TcpSink
/-!
# Sink facts used by the liveness results of C16

* ranges stay non-empty when every arriving packet is non-empty;
* with MSS-sized, MSS-aligned arrivals, coverage is constant on MSS blocks and the contiguous prefix is aligned;
* a sorted non-touching buffer of non-empty ranges that covers exactly `[0, n)` is `[(0, n)]`.
-/

namespace TcpSink

theorem mergeFrom_nonempty (rest : List Range) : ∀ (cur : Range), cur.1 < cur.2 → (∀ r ∈ rest, r.1 < r.2) →
    ∀ x ∈ mergeFrom cur rest, x.1 < x.2 := by
  induction rest with
  | nil => intro cur h _ x hx; simp [mergeFrom] at hx; subst hx; exact h
  | cons r rest ih =>
    intro cur h1 h2 x hx
    unfold mergeFrom at hx
    split at hx
    · exact ih (cur.1, max cur.2 r.2) (Nat.lt_of_lt_of_le h1 (Nat.le_max_left _ _))
        (fun y hy => h2 y (List.mem_cons_of_mem _ hy)) x hx
    · rcases List.mem_cons.mp hx with rfl | hx
      · exact h1
      · exact ih r (h2 r List.mem_cons_self) (fun y hy => h2 y (List.mem_cons_of_mem _ hy)) x hx

theorem packetArrived_nonempty (buf : List Range) (seq size : Nat) (h : ∀ r ∈ buf, r.1 < r.2) (hs : 0 < size) :
    ∀ r ∈ packetArrived buf seq size, r.1 < r.2 := by
  have hall : ∀ r ∈ sortR (buf ++ [(seq, seq + size)]), r.1 < r.2 := by
    intro r hr
    rcases List.mem_append.mp ((mem_sortR r _).mp hr) with h1 | h1
    · exact h r h1
    · simp at h1; subst h1; show seq < seq + size; omega
  unfold packetArrived
  cases hl : sortR (buf ++ [(seq, seq + size)]) with
  | nil => intro r hr; simp [mergeAll] at hr
  | cons c rest =>
    rw [hl] at hall
    exact mergeFrom_nonempty rest c (hall c List.mem_cons_self) (fun y hy => hall y (List.mem_cons_of_mem _ hy))

theorem block_iff {m : Nat} (hm : 0 < m) (k b : Nat) : (m * k ≤ b ∧ b < m * k + m) ↔ b / m = k := by
  rw [Nat.div_eq_iff hm, Nat.mul_comm k m]
  omega

theorem block_const_arrival {m : Nat} (hm : 0 < m) (buf buf' : List Range) (k : Nat)
    (hal : ∀ b, Covers buf b ↔ Covers buf (m * (b / m)))
    (hcov : ∀ b, Covers buf' b ↔ Covers buf b ∨ (m * k ≤ b ∧ b < m * k + m)) :
    ∀ b, Covers buf' b ↔ Covers buf' (m * (b / m)) := by
  intro b
  rw [hcov b, hcov (m * (b / m)), block_iff hm, block_iff hm, Nat.mul_div_cancel_left _ hm, ← hal b]

theorem prefix_aligned {m : Nat} (_hm : 0 < m) (buf : List Range) (hal : ∀ b, Covers buf b ↔ Covers buf (m * (b / m)))
    (p : Nat) (hp : IsPrefix buf p) : m ∣ p := by
  by_cases he : m * (p / m) = p
  · exact ⟨p / m, he.symm⟩
  · exfalso
    have hle : m * (p / m) ≤ p := Nat.mul_div_le p m
    have hlt : m * (p / m) < p := Nat.lt_of_le_of_ne hle he
    exact hp.2 ((hal p).mpr (hp.1 _ hlt))

theorem eq_single_of_covers (L : List Range) (n : Nat) (hn : 0 < n) (hs : Sep L) (hne : ∀ r ∈ L, r.1 < r.2)
    (hc : ∀ b, Covers L b ↔ b < n) : L = [(0, n)] := by
  cases L with
  | nil => exact absurd ((hc 0).mpr hn) (covers_nil 0)
  | cons r rest =>
    -- the first range is the contiguous prefix, and that is `[0, n)`
    obtain ⟨p, hp, hpre⟩ := ackOf_isPrefix (r :: rest) hs (List.cons_ne_nil _ _)
    have hpn : p = n := isPrefix_unique hpre ⟨fun b hb => (hc b).mpr hb, fun c => Nat.lt_irrefl n ((hc n).mp c)⟩
    injection hp with hp
    have h0 : r.1 = 0 ∧ r.2 = n := by
      by_cases e : r.1 = 0
      · rw [e] at hp; exact ⟨e, hp.trans hpn⟩
      · rw [if_neg (by simpa using e)] at hp; omega
    -- no range lies beyond it
    cases rest with
    | nil => rw [show r = (0, n) from Prod.ext h0.1 h0.2]
    | cons x xs =>
      have hx := hne x (List.mem_cons_of_mem _ List.mem_cons_self)
      have h1 := (hc x.1).mp ⟨x, List.mem_cons_of_mem _ List.mem_cons_self, Nat.le_refl _, hx⟩
      have h2 := (List.pairwise_cons.mp hs.2).1 x List.mem_cons_self
      omega

end TcpSink
