import OnlVerif.Lemmas.REDKCfg
/-!
# Generator → REDPort → sink on the kernel model: the kernel steps

Each kernel step is computed on the configuration `cfgOf a (Regs.of s)` by the machine of `Lemmas/KProcDefs.lean`.  The burst of a
process is cut where the program branches: `hrun_*` say what a piece makes of the configuration `mid a p e R` in the middle of
the burst (registers; for an accepted arrival also the store and the pending `StorePut` event); `port_*`, `src_*`, `kstep_*` run a
step to its end, which is `cfgOf a' R'` for the configuration `a'` after the step (`StepsTo.of_ginv`).
-/

namespace REDK
open REDOnK
open KProc hiding Cfg EvIs

variable {c : Cfg ℚ} {sizes0 : List Nat}
variable {s : KS} {a : A} {q : QEntry ℚ} {rest : List (QEntry ℚ)} {st0 : St}

theorem txTime_nonneg (hr : 0 < c.rate) (id : Int) : 0 ≤ txTime sizes0 c.rate id := Num.ofNat_div_nonneg _ hr

/-- the kernel step from `s` succeeds at the instant of `q` in a state with configuration `a'`, having appended the views `new` -/
def StepsTo (c : Cfg ℚ) (sizes0 : List Nat) (fuel : Nat) (s : KS) (q : QEntry ℚ) (a' : A) (new : List (View ℚ)) : Prop :=
  ∃ s', step (body c sizes0) (fuel + 1) s = .ok s' ∧ KInv s' a' ∧ s'.now = q.time ∧ viewsOf s'.trace = viewsOf s.trace ++ new

theorem StepsTo.of_ginv {fuel : Nat} {R' : Regs} {a' : A} {new : List (View ℚ)}
    (h : ∃ s', step (body c sizes0) (fuel + 1) s = .ok s' ∧ GInv s' (cfgOf a' R' st0)) (hr : a'.port.OK)
    (hc : Cells R'.cells 0 (cellsOf a')) (hnow : R'.now = q.time) (hv : viewsOf R'.trace = viewsOf s.trace ++ new) :
    StepsTo c sizes0 fuel s q a' new := by
  obtain ⟨s', hstep, hg⟩ := h
  have hreg : R' = Regs.of s' := hg.reg
  exact ⟨s', hstep, .of_ginv hg hr hc, by rw [hreg] at hnow; exact hnow, by rw [hreg] at hv; exact hv⟩

theorem modTh_srcThreads (S : SPhase) (f : Thread St → Thread St) : modTh (srcThreads st0 S) 0 f = srcThreads st0 S := by
  cases S <;> rfl

/-- the one store after a `put` or a `get` -/
theorem upd_store (x : Option HStore) (v : HStore) :
    upd (fun r : ResId => if r = 0 then x else none) 0 (some v) = fun r => if r = 0 then some v else none :=
  funext (stores_upd x v)

/-- the process event of the finished generator: nobody waits for it -/
theorem kstep_srcEnd (fuel : Nat) (hk : KInv s a) (hph : a.src = .ending q) (hp : popMin s.agenda = some (q, rest)) :
    StepsTo c sizes0 fuel s q { a with src := .done } [] := by
  obtain ⟨hr, hg, hc⟩ := (kinv_iff (st0 := .portStart)).mp hk
  refine .of_ginv (st0 := .portStart) (hg.step_finish (body c sizes0) fuel (th := ⟨2, .portStart, .ending q .none, some []⟩)
      (by simp only [cfgOf, hph]; exact List.mem_cons_of_mem _ (List.mem_singleton_self _)) rfl hp
      (by heval [cfgOf, hph, pid_portThread, srcThreads]; rfl)) ?_ ?_ ?_ ?_
  exacts [hr, hc, rfl, (List.append_nil _).symm]

/-- the `StorePut` event is processed (`_trigger_get`): nobody waits, or the waiting server finds the store empty -/
theorem kstep_putIdle (fuel : Nat) (hk : KInv s a) (hpe : a.pend = some q) (hw : a.port.getQ = [] ∨ a.items = [])
    (hp : popMin s.agenda = some (q, rest)) : StepsTo c sizes0 fuel s q { a with pend := none } [] := by
  obtain ⟨hr, hg, hc⟩ := (kinv_iff (st0 := .portStart)).mp hk
  refine .of_ginv (st0 := .portStart) (hg.step_pend (body c sizes0) (fuel + 1) (u := (q, 0)) (pend' := [])
      (by simp only [cfgOf, hpe]; exact .refl _) hp
      (by cases hgq : a.port.getQ with
          | nil => heval [cfgOf, hgq]; rfl
          | cons g l =>
            have hit := hw.resolve_left (by rw [hgq]; exact List.cons_ne_nil _ _)
            cases hport : a.port <;> rw [hport] at hgq <;> cases hgq
            heval [cfgOf, hport, hit, portThread, PPhase.getQ, beq_self_eq_true]
            rfl)) ?_ ?_ ?_ ?_
  exacts [hr, hc, rfl, (List.append_nil _).symm]

/-- the `StorePut` event is processed (`_trigger_get`): the head item is handed to the waiting server, whose `StoreGet` event is
triggered -/
theorem kstep_putHand (fuel : Nat) {g : EvId} {i : Int} {is : List Int} (hk : KInv s a) (hpe : a.pend = some q)
    (hport : a.port = .W g) (hit : a.items = i :: is) (hp : popMin s.agenda = some (q, rest)) :
    StepsTo c sizes0 fuel s q { a with pend := none, port := .H g i ⟨q.time, NORMAL, s.eid, g⟩, items := is } [] := by
  obtain ⟨-, hg, hc⟩ := (kinv_iff (st0 := .portStart)).mp hk
  refine .of_ginv (st0 := .portStart) (hg.step_pend (body c sizes0) (fuel + 1) (u := (q, 0)) (pend' := [])
      (by simp only [cfgOf, hpe]; exact .refl _) hp
      (by heval [cfgOf, hport, hit, portThread, PPhase.getQ, beq_self_eq_true, ↓ upd_store, modTh_srcThreads]; rfl)) ?_ ?_ ?_ ?_
  exacts [rfl, hc, rfl, (List.append_nil _).symm]

/-! ## bursts -/

/-- the configuration in the middle of a burst of process `p` that the event `e` has resumed, when the burst has made `a` of the
configuration and `R` of the registers -/
def mid (a : A) (p e : EvId) (R : Regs) : KProc.Cfg St :=
  { cfgOf a R .portStart with
    threads := modTh (portThread a.port :: srcThreads .portStart a.src) p fun th => { th with wait := .running }
    cur := some e }

theorem mid_reg (a : A) (p e : EvId) (R : Regs) : (mid a p e R).reg = R := rfl

/-- the registers when the entry `q` has been popped in the state `s` and process `p` starts its burst with `arg` -/
def begun (s : KS) (p : EvId) (q : QEntry ℚ) (arg : Resume) : Regs :=
  { Regs.of s with now := q.time, active := some p, trace := s.trace.push (.resumed p arg q.time) }

/-- the registers `R` in the middle of a burst that the entry `q` has resumed in the state `s` of configuration `a`: the cells hold
what `a1` says, the views `new` have been appended, no process has moved yet -/
structure RunAt (s : KS) (q : QEntry ℚ) (R : Regs) (a a1 : A) (new : List (View ℚ)) : Prop where
  now : R.now = q.time
  cells : Cells R.cells 0 (cellsOf a1)
  views : viewsOf R.trace = viewsOf s.trace ++ new
  port : a1.port = a.port
  src : a1.src = a.src
  ok : a.port.OK

theorem RunAt.begin (hk : KInv s a) (p : EvId) (arg : Resume) : RunAt s q (begun s p q arg) a a [] :=
  have ⟨hr, _, hc⟩ := (kinv_iff (st0 := .portStart)).mp hk
  ⟨rfl, hc, by simp [begun, viewsOf_push], rfl, rfl, hr⟩

variable {R : Regs} {a1 : A} {new : List (View ℚ)} {arg : Resume}

/-- a kernel step on the entry of a waiting process is what the machine makes of its burst -/
theorem KInv.burst (fuel : Nat) (hk : KInv s a) {p : EvId} {st : St} {w : Wait} {cbs : Option (List Cb)}
    (hth : (⟨p, st, w, cbs⟩ : Thread St) ∈ (cfgOf a (Regs.of s) .portStart).threads) (hw : w.resumes = some (q, arg))
    (hst : ∀ r q' v, w = .getH r q' v → r = 0) (hp : popMin s.agenda = some (q, rest)) {c' : KProc.Cfg St}
    (hr : ((hrun p (body c sizes0 st arg) (mid a p q.ev (begun s p q arg))).bind fun ct =>
      (hafter ct.1 p ct.2).map fun c' => { c' with cur := none }) = some c') :
    ∃ s', step (body c sizes0) (fuel + 1) s = .ok s' ∧ GInv s' c' :=
  ((kinv_iff (st0 := .portStart)).mp hk).2.1.step_resume (body c sizes0) fuel hth hw (fun r q' v hh => hst r q' v hh ▸ rfl) hp
    ((hresume_eq _ _ _ hw).trans hr)

/-! ### `Port.run` -/

/-- `rate ≤ 0`: the server marks itself busy and forwards the packet in the same burst -/
theorem hrun_serveNow (h : RunAt s q R a a1 new) (e : EvId) (id : Int) (hr : ¬ 0 < c.rate) :
    ∃ R', hrun 0 (portServe sizes0 c.rate id) (mid a1 0 e R) =
        hrun 0 (portDone sizes0 id) (mid { a1 with busy := true, bsz := szOf sizes0 id } 0 e R') ∧
      RunAt s q R' a { a1 with busy := true, bsz := szOf sizes0 id } new := by
  refine ⟨?R, ?e, ?_⟩
  case e =>
    heval [portServe, hr, zero_eq', cBusy, cBusySize, mid_reg]
    rfl
  exact ⟨h.now, (h.cells.upd 2 _).upd 3 _, h.views, h.port, h.src, h.ok⟩

/-- the packet leaves: `out.put(packet)` (`PacketSink.put` counts it), the server is idle again; `store.get()` is next -/
theorem hrun_done (h : RunAt s q R a a1 new) (e : EvId) (id : Int) :
    ∃ R', hrun 0 (portDone sizes0 id) (mid a1 0 e R) =
        hrun 0 portLoop (mid { a1 with bytes := a1.bytes - (szOf sizes0 id : Int), busy := false, bsz := 0,
                                       scnt := a1.scnt + 1, sbytes := a1.sbytes + szOf sizes0 id } 0 e R') ∧
      RunAt s q R' a { a1 with bytes := a1.bytes - (szOf sizes0 id : Int), busy := false, bsz := 0, scnt := a1.scnt + 1,
                               sbytes := a1.sbytes + szOf sizes0 id } (new ++ [.out id q.time, .sink id q.time]) := by
  obtain ⟨h0, -, -, -, -, -, -, h7, h8, -⟩ := h.cells
  refine ⟨?R, ?e, ?_⟩
  case e =>
    heval [portDone, sinkPut, loadInt, cByteSize, cSinkCnt, cSinkBytes, cBusy, cBusySize, mid_reg, h0, h7, h8]
    rfl
  exact ⟨h.now, ((((h.cells.upd 0 _).upd 7 _).upd 8 _).upd 2 _).upd 3 _, by simp [viewsOf_push, h.views, h.now], h.port, h.src, h.ok⟩

theorem store_portThread {P : PPhase} {st : St} {r : ResId} {q' : QEntry ℚ} {v : Int}
    (h : portThread P = ⟨0, st, .getH r q' v, none⟩) : r = 0 := by
  cases P <;> cases h
  rfl

theorem getQ_of_resumes {P : PPhase} {st : St} {w : Wait} {x : QEntry ℚ × Resume} (h : portThread P = ⟨0, st, w, none⟩)
    (hw : w.resumes = some x) : P.getQ = [] := by
  cases P <;> cases h <;> first | rfl | cases hw

section port
variable (fuel : Nat) (hk : KInv s a) {st : St} {w : Wait} (hth : portThread a.port = ⟨0, st, w, none⟩)
  (hw : w.resumes = some (q, arg)) (hp : popMin s.agenda = some (q, rest)) (h : RunAt s q R a a1 new)
include hk hth hw hp h

/-- a burst of the port that ends in `store.get()` on the empty store: the port blocks -/
theorem port_blocks (hb : hrun 0 (body c sizes0 st arg) (mid a 0 q.ev (begun s 0 q arg)) = hrun 0 portLoop (mid a1 0 q.ev R))
    (hit : a1.items = []) : StepsTo c sizes0 fuel s q { a1 with port := .W R.evSize, len := a1.len - 1 } new := by
  obtain ⟨-, -, -, -, -, -, h6, -⟩ := h.cells
  have hgq : a.port.getQ = [] := getQ_of_resumes hth hw
  refine .of_ginv (st0 := .portStart) (hk.burst fuel (List.mem_cons.mpr (.inl hth.symm)) hw (fun _ _ _ hh => store_portThread (hh ▸ hth)) hp
      (by rw [hb]
          heval [portLoop, loadInt, mid, cfgOf, storeId, cLen, ↓ upd_store, h6, hgq, hit, h.port, hth, modTh_srcThreads]
          rfl)) ?_ ?_ ?_ ?_
  exacts [trivial, h.cells.upd 6 _, h.now, h.views]

/-- a burst of the port that ends in `store.get()`, served at once with the head item -/
theorem port_takes {i : Int} {is : List Int}
    (hb : hrun 0 (body c sizes0 st arg) (mid a 0 q.ev (begun s 0 q arg)) = hrun 0 portLoop (mid a1 0 q.ev R))
    (hit : a1.items = i :: is) :
    StepsTo c sizes0 fuel s q
      { a1 with port := .H R.evSize i ⟨q.time, NORMAL, R.eid, R.evSize⟩, items := is, len := a1.len - 1 } new := by
  obtain ⟨-, -, -, -, -, -, h6, -⟩ := h.cells
  have hgq : a.port.getQ = [] := getQ_of_resumes hth hw
  refine .of_ginv (st0 := .portStart) (hk.burst fuel (List.mem_cons.mpr (.inl hth.symm)) hw (fun _ _ _ hh => store_portThread (hh ▸ hth)) hp
      (by rw [hb]
          heval [portLoop, loadInt, mid, cfgOf, storeId, cLen, ↓ upd_store, h6, hgq, hit, h.now, h.port, hth, modTh_srcThreads]
          rfl)) ?_ ?_ ?_ ?_
  exacts [rfl, h.cells.upd 6 _, rfl, h.views]

/-- `rate > 0`: the server marks itself busy and sleeps for the transmission delay -/
theorem port_serveTx {id : Int}
    (hb : hrun 0 (body c sizes0 st arg) (mid a 0 q.ev (begun s 0 q arg)) = hrun 0 (portServe sizes0 c.rate id) (mid a1 0 q.ev R))
    (hr : 0 < c.rate) :
    StepsTo c sizes0 fuel s q { a1 with port := .T R.evSize id ⟨q.time + txTime sizes0 c.rate id, NORMAL, R.eid, R.evSize⟩,
                                        busy := true, bsz := szOf sizes0 id } new := by
  have hgq : a.port.getQ = [] := getQ_of_resumes hth hw
  refine .of_ginv (st0 := .portStart) (hk.burst fuel (List.mem_cons.mpr (.inl hth.symm)) hw (fun _ _ _ hh => store_portThread (hh ▸ hth)) hp
      (by rw [hb]
          heval [portServe, hr, zero_eq', txTime_nonneg hr id, mid, cfgOf, cBusy, cBusySize, hgq, h.now, h.port, hth,
            modTh_srcThreads]
          rfl)) ?_ ?_ ?_ ?_
  exacts [rfl, (h.cells.upd 2 _).upd 3 _, rfl, h.views]

end port

/-! ### `DistPacketGenerator.run` and `REDPort.put` -/

/-- a log entry written only if `b`: the burst goes on either way -/
theorem hrun_ite_log (p : EvId) (b : Bool) (w : String) (x : ℚ) (k : Burst ℚ St) (C : KProc.Cfg St) :
    hrun p (if b then .call (.log w (TimeCell.enc x)) fun _ => k else k) C =
      hrun p k { C with reg := { C.reg with
        trace := if b then C.reg.trace.push (.log p w (TimeCell.enc x) C.reg.now) else C.reg.trace } } := by
  cases b <;> rfl

/-- the generator creates packet `n + 1` and hands it to `REDPort.put`, which counts it and updates the average; the decision
is next -/
theorem hrun_arrive (h : RunAt s q R a a1 new) (e : EvId) (t : ℚ) (n z : Nat) (gaps : List ℚ) (sizes : List Nat) (us : List ℚ) :
    ∃ R', hrun 2 (genEmit c t n z gaps sizes us) (mid a1 2 e R) =
        hrun 2 (redDecide c ((n : Int) + 1) z (avgNew c a1) us fun us' => genLoop c t (n + 1) gaps sizes us')
          (mid { a1 with recv := a1.recv + 1, avg := avgNew c a1 } 2 e R') ∧
      RunAt s q R' a { a1 with recv := a1.recv + 1, avg := avgNew c a1 } (new ++ [.gen ((n : Int) + 1) q.time]) := by
  obtain ⟨h0, h1, -, -, -, h5, h6, -⟩ := h.cells
  have hcur : R.cells (if c.limitBytes then cByteSize else cLen) = .int (if c.limitBytes then a1.bytes else a1.len) ∧
      ((if c.limitBytes then cByteSize else cLen) = 1) = False := by
    cases c.limitBytes
    · exact ⟨h6, eq_false (by decide)⟩
    · exact ⟨h0, eq_false (by decide)⟩
  rw [avgNew_eq]
  refine ⟨?R, ?e, ?_⟩
  case e =>
    heval [genEmit, redPut, loadInt, loadSc, loadCur_eq, cReceived, cAvg, mid_reg, h1, h5, hcur.1, hcur.2, dec_enc]
    rfl
  exact ⟨h.now, (h.cells.upd 1 _).upd 5 _, by simp [viewsOf_push, h.views, h.now], h.port, h.src, h.ok⟩

/-- what an accepted arrival makes of the configuration: packet `id` of size `z` is stored, the `StorePut` event has the entry `u` -/
def A.accept (a : A) (id : Int) (z : Nat) (u : QEntry ℚ) : A :=
  { a with pend := some u, items := a.items ++ [id], bytes := a.bytes + z, len := a.len + 1, accIds := a.accIds ++ [id] }

section decide
variable {id : Int} {z : Nat} {avg : ℚ} {us : List ℚ} (hd : needsDraw c avg = true → us ≠ []) (cont : List ℚ → Burst ℚ St)
  (h : RunAt s q R a a1 new) (e : EvId)
include hd h

/-- the arrival is refused: `REDPort.put` counts a drop -/
theorem hrun_refuse (hdrop : dropQ c avg (uAtt c avg us) = true) :
    ∃ R', hrun 2 (redDecide c id z avg us cont) (mid a1 2 e R) =
        hrun 2 (cont (usAfter c avg us)) (mid { a1 with dropped := a1.dropped + 1 } 2 e R') ∧
      RunAt s q R' a { a1 with dropped := a1.dropped + 1 } (new ++ [.u (uAtt c avg us)]) := by
  obtain ⟨-, -, -, -, h4, -⟩ := h.cells
  refine ⟨?R, ?e, ?_⟩
  case e =>
    heval [redDecide_eq c id z avg us cont hd, hdrop, hrun_ite_log, redRefuse, loadInt, cDropped, mid_reg, h4]
    rfl
  exact ⟨h.now, h.cells.upd 4 _, by simp [viewsOf_push, h.views], h.port, h.src, h.ok⟩

/-- the arrival is accepted: `REDPort.put` stores the packet, the `StorePut` event is triggered at once -/
theorem hrun_accept (hn : a1.pend = none) (hacc : dropQ c avg (uAtt c avg us) = false) :
    ∃ R', hrun 2 (redDecide c id z avg us cont) (mid a1 2 e R) =
        hrun 2 (cont (usAfter c avg us)) (mid (a1.accept id z ⟨q.time, NORMAL, R.eid, R.evSize⟩) 2 e R') ∧
      RunAt s q R' a (a1.accept id z ⟨q.time, NORMAL, R.eid, R.evSize⟩) (new ++ [.u (uAtt c avg us)]) ∧ R.eid < R'.eid := by
  obtain ⟨h0, -, -, -, -, -, h6, -⟩ := h.cells
  refine ⟨?R, ?e, ?_, ?_⟩
  case e =>
    heval [redDecide_eq c id z avg us cont hd, hacc, hrun_ite_log, redAccept, loadInt, cByteSize, cLen, storeId, mid, cfgOf,
      A.accept, ↓ upd_store, hn, h0, h6, h.now, Option.toList_none, Option.toList_some, List.nil_append]
    rfl
  · exact ⟨rfl, (h.cells.upd 0 _).upd 6 _, by simp [viewsOf_push, h.views], h.port, h.src, h.ok⟩
  · exact Nat.lt_succ_self _

end decide

theorem srcThreads_getH {S : SPhase} {th : Thread St} (h : th ∈ srcThreads st0 S) {r : ResId} {q' : QEntry ℚ} {v : Int} :
    th.wait ≠ .getH r q' v := by
  cases S <;> simp only [srcThreads, List.mem_singleton, List.not_mem_nil] at h <;> subst h <;> nofun

section src
variable (fuel : Nat) (hk : KInv s a) {st : St} {w : Wait} (hsrc : srcThreads .portStart a.src = [⟨2, st, w, some []⟩])
  (hw : w.resumes = some (q, arg)) (hp : popMin s.agenda = some (q, rest)) (h : RunAt s q R a a1 new)
include hk hsrc hw hp h

/-- a burst of the generator that ends at a loop head that stops: the generator returns, its process event is triggered -/
theorem src_returns {t : ℚ} {n : Nat} {gaps : List ℚ} {sizes : List Nat} {us : List ℚ}
    (hb : hrun 2 (body c sizes0 st arg) (mid a 2 q.ev (begun s 2 q arg)) = hrun 2 (genLoop c t n gaps sizes us) (mid a1 2 q.ev R))
    (hnx : genNext c t gaps sizes = none) :
    StepsTo c sizes0 fuel s q { a1 with src := .ending ⟨q.time, NORMAL, R.eid, 2⟩ } new := by
  have hth : (⟨2, st, w, some []⟩ : Thread St) ∈ srcThreads .portStart a.src := hsrc ▸ List.mem_singleton_self _
  refine .of_ginv (st0 := st) (hk.burst fuel (List.mem_cons_of_mem _ hth) hw (fun _ _ _ hh => absurd hh (srcThreads_getH hth)) hp
      (by rw [hb, genLoop_eq, hnx]
          heval [mid, cfgOf, h.src, hsrc, pid_portThread, h.now]
          rfl)) ?_ ?_ ?_ ?_
  exacts [h.port ▸ h.ok, h.cells, rfl, (by simp [viewsOf_push, h.views])]

/-- a burst of the generator that ends in a sleep of `d`, to go on in `st'`: `X` is the phase of that -/
theorem src_sleeps {d : ℚ} {st' : St}
    (hb : hrun 2 (body c sizes0 st arg) (mid a 2 q.ev (begun s 2 q arg)) =
      hrun 2 (.call (.timeout d .none) fun rp => match rp with | .ev e => .yield e st' | rp => bad rp) (mid a1 2 q.ev R))
    (hd : 0 ≤ d) {X : SPhase}
    (hX : srcThreads .portStart X = [⟨2, st', .sleep ⟨q.time + d, NORMAL, R.eid, R.evSize⟩, some []⟩]) :
    StepsTo c sizes0 fuel s q { a1 with src := X } new := by
  have hth : (⟨2, st, w, some []⟩ : Thread St) ∈ srcThreads .portStart a.src := hsrc ▸ List.mem_singleton_self _
  refine .of_ginv (st0 := .portStart) (hk.burst fuel (List.mem_cons_of_mem _ hth) hw (fun _ _ _ hh => absurd hh (srcThreads_getH hth)) hp
      (by rw [hb]
          heval [mid, cfgOf, h.src, hsrc, hX, pid_portThread, h.now, hd]
          rfl)) ?_ ?_ ?_ ?_
  exacts [h.port ▸ h.ok, h.cells, rfl, h.views]

/-- a burst of the generator that ends at a loop head that goes on: the generator sleeps for the next gap -/
theorem src_waits {n : Nat} {gaps : List ℚ} {sizes : List Nat} {us : List ℚ} {gap : ℚ} {z' : Nat} {gaps' : List ℚ}
    {sizes' : List Nat}
    (hb : hrun 2 (body c sizes0 st arg) (mid a 2 q.ev (begun s 2 q arg)) =
      hrun 2 (genLoop c q.time n gaps sizes us) (mid a1 2 q.ev R))
    (hnx : genNext c q.time gaps sizes = some (gap, z', gaps', sizes')) (hgap : 0 ≤ gap) :
    StepsTo c sizes0 fuel s q { a1 with src := .wait n z' gaps' sizes' us ⟨q.time + gap, NORMAL, R.eid, R.evSize⟩ } new :=
  src_sleeps fuel hk hsrc hw hp h (by rw [hb, genLoop_eq, hnx]; rfl) hgap rfl

end src

end REDK
