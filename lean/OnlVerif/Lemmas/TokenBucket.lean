import Mathlib.Tactic.FieldSimp
import OnlVerif.Lemmas.FifoAux
import OnlVerif.Lemmas.Envelope
import OnlVerif.Net.TokenBucket
/-! # Invariants of the TokenBucket model -/

namespace TokenBucket
open Fifo Envelope

@[simp] theorem dev_admit (c : TbCfg ℚ) : (dev c).admitPkt = admitPkt := rfl
@[simp] theorem dev_onResume (c : TbCfg ℚ) : (dev c).onResume = onResume c := by rw [dev]
@[simp] theorem dev_onFire (c : TbCfg ℚ) : (dev c).onFire = onFire c := rfl
@[simp] theorem dev_onDone (c : TbCfg ℚ) : (dev c).onDone = onDone := rfl

theorem refillLevel_eq (c : TbCfg ℚ) (d : TbSt ℚ) (now : ℚ) :
    refillLevel c d now = min c.bucket (d.level + c.rate * (now - d.upd) / 8) := by
  unfold refillLevel
  rw [Num.pymin_eq, Num.ofNat_rat, Nat.cast_ofNat]

theorem tokenWait_eq (c : TbCfg ℚ) (lvl : ℚ) (p : Pkt ℚ) : tokenWait c lvl p = ((p.size : ℚ) - lvl) * 8 / c.rate := by
  unfold tokenWait
  rw [Num.ofNat_rat 8, Nat.cast_ofNat]; rfl

theorem peakWait_eq (k : ℚ) (p : Pkt ℚ) : peakWait k p = (p.size : ℚ) * 8 / k := by
  unfold peakWait
  rw [Num.ofNat_rat 8, Nat.cast_ofNat]; rfl

/-- the three outcomes of `TokenBucket.run` when it gets a packet -/
theorem onResume_cases (c : TbCfg ℚ) (d : TbSt ℚ) (now x y : ℚ) (p : Pkt ℚ) :
    (refillLevel c d now < p.size ∧
      onResume c d now x y p = (startWait (refill c d now), p, .wait (tokenWait c (refillLevel c d now) p))) ∨
    (¬ refillLevel c d now < p.size ∧ ∃ k, peakOn c = some k ∧
      onResume c d now x y p = (debitNow (refill c d now) now p, p, .wait (peakWait k p))) ∨
    (¬ refillLevel c d now < p.size ∧ peakOn c = none ∧
      onResume c d now x y p = (logOut (debitNow (refill c d now) now p) now p, p, .emit)) := by
  unfold onResume
  by_cases hs : refillLevel c d now < (Num.ofNat p.size : ℚ)
  · left; exact ⟨hs, by rw [if_pos hs]⟩
  · right
    rw [if_neg hs]
    unfold afterDebit
    cases hk : peakOn c with
    | none => right; exact ⟨hs, rfl, rfl⟩
    | some k => left; exact ⟨hs, k, rfl, rfl⟩

/-- the three outcomes when a timeout of `TokenBucket.run` fires -/
theorem onFire_cases (c : TbCfg ℚ) (d : TbSt ℚ) (now : ℚ) (k : Nat) (p : Pkt ℚ) :
    (d.tokWait = true ∧ ∃ r, peakOn c = some r ∧ onFire c d now k p = (debitAfterWait d now p, p, .wait (peakWait r p))) ∨
    (d.tokWait = true ∧ peakOn c = none ∧ onFire c d now k p = (logOut (debitAfterWait d now p) now p, p, .emit)) ∨
    (d.tokWait = false ∧ onFire c d now k p = (logOut d now p, p, .emit)) := by
  unfold onFire
  by_cases ht : d.tokWait = true
  · rw [if_pos ht]
    unfold afterDebit
    cases hk : peakOn c with
    | none => right; left; exact ⟨ht, rfl, rfl⟩
    | some r => left; exact ⟨ht, r, rfl, rfl⟩
  · right; right
    rw [if_neg ht]
    exact ⟨by simpa using ht, rfl⟩

theorem idPreserving (c : TbCfg ℚ) : IdPreserving (dev c) := by
  refine ⟨?_, ?_, ?_⟩
  · intro s now w p; rfl
  · intro s now x y p
    rcases onResume_cases c s now x y p with ⟨_, h⟩ | ⟨_, _, _, h⟩ | ⟨_, _, h⟩ <;> simp only [dev_onResume, h]
  · intro s now k p
    rcases onFire_cases c s now k p with ⟨_, _, _, h⟩ | ⟨_, _, h⟩ | ⟨_, h⟩ <;> simp only [dev_onFire, h]

/-- the configuration the property speaks about: a positive rate and a non-negative bucket size -/
structure Good (c : TbCfg ℚ) : Prop where
  rate : 0 < c.rate
  bucket : 0 ≤ c.bucket

/-- token side of the invariant, over the clock, the device state and the server's timeout -/
structure TokP (c : TbCfg ℚ) (now : ℚ) (d : TbSt ℚ) (tx : Option (Pkt ℚ × ℚ × Nat)) : Prop where
  updLe : d.upd ≤ now
  lvlB : d.level ≤ c.bucket
  bkt : Bucket c.bucket c.rate d.level d.upd d.log
  idle : tx = none → d.tokWait = false
  tok : ∀ p due k, tx = some (p, due, k) → d.tokWait = true →
    due = d.upd + ((p.size : ℚ) - d.level) * 8 / c.rate ∧ d.level < p.size

/-- the server starts to wait for the missing tokens -/
theorem tok_startWait (c : TbCfg ℚ) (hg : Good c) (now : ℚ) (d : TbSt ℚ) (p : Pkt ℚ) (h : TokP c now d none)
    (hs : refillLevel c d now < p.size) :
    TokP c now (startWait (refill c d now)) (some (p, now + tokenWait c (refillLevel c d now) p, 0)) := by
  refine ⟨le_refl _, ?_, ?_, fun hx => (nomatch hx), ?_⟩
  · exact (refillLevel_eq c d now).trans_le (min_le_left _ _)
  · show Bucket c.bucket c.rate (refillLevel c d now) now d.log
    rw [refillLevel_eq]
    exact h.bkt.refill hg.bucket hg.rate.le h.updLe
  · intro q due k hq _
    cases hq
    exact ⟨by rw [tokenWait_eq]; rfl, hs⟩

/-- the tokens are there: debit at once -/
theorem tok_debitNow (c : TbCfg ℚ) (now : ℚ) (d : TbSt ℚ) (p : Pkt ℚ) (h : TokP c now d none)
    (hs : ¬ refillLevel c d now < p.size) (tx : Option (Pkt ℚ × ℚ × Nat)) :
    TokP c now (debitNow (refill c d now) now p) tx := by
  have hw : (debitNow (refill c d now) now p).tokWait = false := h.idle rfl
  refine ⟨le_refl _, ?_, ?_, fun _ => hw, fun _ _ _ _ ht => by rw [hw] at ht; cases ht⟩
  · exact (sub_le_self _ (Nat.cast_nonneg _)).trans ((refillLevel_eq c d now).trans_le (min_le_left _ _))
  · have := h.bkt.debit (now := now) p.size (refillLevel_eq c d now ▸ not_lt.mp hs)
    rw [← refillLevel_eq] at this
    exact this

/-- the wait for the missing tokens is over: the level is exactly the packet, debit it -/
theorem tok_debitAfterWait (c : TbCfg ℚ) (hg : Good c) (now : ℚ) (d : TbSt ℚ) (p : Pkt ℚ) (k : Nat)
    (h : TokP c now d (some (p, now, k))) (ht : d.tokWait = true) (tx : Option (Pkt ℚ × ℚ × Nat)) :
    TokP c now (debitAfterWait d now p) tx := by
  refine ⟨le_refl _, (le_of_eq zero_eq').trans hg.bucket, ?_, fun _ => rfl, fun _ _ _ _ ht' => by cases ht'⟩
  show Bucket c.bucket c.rate Num.zero now ((now, p.size) :: d.log)
  rw [zero_eq']
  exact h.bkt.wait_debit p.size hg.rate (h.tok p now k rfl ht).1

/-- forwarding the packet touches neither level, debit log nor wait flag -/
theorem TokP.out {c : TbCfg ℚ} {now : ℚ} {d : TbSt ℚ} {tx : Option (Pkt ℚ × ℚ × Nat)} (h : TokP c now d tx) (t : ℚ)
    (p q : Pkt ℚ) : TokP c now (onDone (logOut d t p) q) tx :=
  ⟨h.updLe, h.lvlB, h.bkt, h.idle, h.tok⟩

def Tok (c : TbCfg ℚ) (s : FState ℚ (TbSt ℚ)) : Prop := TokP c s.now s.dev s.tx

theorem step_tok (c : TbCfg ℚ) (hg : Good c) (s s' : FState ℚ (TbSt ℚ)) (a : FAct ℚ) (o : FOut ℚ)
    (hsh : Shape s) (hi : Tok c s) (hstep : step (dev c) s a = .ok (s', o)) : Tok c s' := by
  refine step_dev hstep (fun now' d' tx' _ => TokP c now' d' tx') (fun _ => hi) ?_ ?_ ?_ ?_
  · exact fun p _ => ⟨hi.updLe, hi.lvlB, hi.bkt, hi.idle, hi.tok⟩
  · intro x y p _ hp
    have hi' : TokP c s.now s.dev none := (shape_of_handed hsh hp).2.2 ▸ hi
    rw [dev_onResume]
    rcases onResume_cases c s.dev s.now x y p with ⟨hs, he⟩ | ⟨hs, k, _, he⟩ | ⟨hs, _, he⟩ <;> rw [he]
    · exact tok_startWait c hg s.now s.dev p hi' hs
    · exact tok_debitNow c s.now s.dev p hi' hs _
    · exact (tok_debitNow c s.now s.dev p hi' hs none).out s.now p p
  · intro p k _ htx
    have hi' : TokP c s.now s.dev (some (p, s.now, k)) := htx ▸ hi
    rw [dev_onFire]
    rcases onFire_cases c s.dev s.now k p with ⟨hw, r, _, he⟩ | ⟨hw, _, he⟩ | ⟨hw, he⟩ <;> rw [he]
    · exact tok_debitAfterWait c hg s.now s.dev p k hi' hw _
    · exact (tok_debitAfterWait c hg s.now s.dev p k hi' hw none).out s.now p p
    · exact TokP.out (tx := none) ⟨hi.updLe, hi.lvlB, hi.bkt, fun _ => hw, nofun⟩ s.now p p
  · intro t _ h1 _
    exact ⟨le_trans hi.updLe h1, hi.lvlB, hi.bkt, hi.idle, hi.tok⟩

/-- spacing side of the invariant -/
structure SpcP (c : TbCfg ℚ) (now : ℚ) (d : TbSt ℚ) (tx : Option (Pkt ℚ × ℚ × Nat)) : Prop where
  pk : ∀ p due k, tx = some (p, due, k) → d.tokWait = false → ∃ r, peakOn c = some r ∧ due = d.upd + (p.size : ℚ) * 8 / r
  outLe : ∀ e, d.outLog.head? = some e → e.1 ≤ now
  outUpd : ∀ x e, tx = some x → d.outLog.head? = some e → e.1 ≤ d.upd
  spaced : ∀ r, peakOn c = some r → Spaced r d.outLog

def Spc (c : TbCfg ℚ) (s : FState ℚ (TbSt ℚ)) : Prop := SpcP c s.now s.dev s.tx

/-- the server goes to sleep at `now` (for tokens: `wait = true`; for the peak spacing `8·size/r`) having set
`update_time = now` -/
theorem spc_sleep (c : TbCfg ℚ) (now : ℚ) (d d' : TbSt ℚ) (tx : Option (Pkt ℚ × ℚ × Nat)) (p : Pkt ℚ) (due : ℚ) (k : Nat)
    (h : SpcP c now d tx) (e1 : d'.upd = now) (e2 : d'.outLog = d.outLog)
    (hpk : d'.tokWait = false → ∃ r, peakOn c = some r ∧ due = now + (p.size : ℚ) * 8 / r) :
    SpcP c now d' (some (p, due, k)) := by
  refine ⟨?_, by rw [e2]; exact h.outLe, ?_, by rw [e2]; exact h.spaced⟩
  · intro q due' k' hq hw
    simp only [Option.some.injEq, Prod.mk.injEq] at hq
    obtain ⟨rfl, rfl, _⟩ := hq
    rw [e1]; exact hpk hw
  · intro x e _ he
    rw [e1]; rw [e2] at he; exact h.outLe e he

/-- the packet leaves at `now`, which is at least `8·size/r` after its predecessor whenever a peak `r` is set -/
theorem spc_out (c : TbCfg ℚ) (now : ℚ) (d : TbSt ℚ) (p : Pkt ℚ)
    (h : ∀ r, peakOn c = some r → Spaced r d.outLog)
    (hsp : ∀ r, peakOn c = some r → ∀ e, d.outLog.head? = some e → e.1 + (p.size : ℚ) * 8 / r ≤ now) :
    SpcP c now (onDone (logOut d now p) p) none := by
  refine ⟨fun _ _ _ hx => (by cases hx), ?_, fun _ _ hx => (by cases hx), ?_⟩
  · intro e he
    simp only [onDone, logOut, List.head?_cons, Option.some.injEq] at he
    rw [← he]
  · intro r hr
    exact spaced_push now p.size (h r hr) (hsp r hr)

theorem step_spc (c : TbCfg ℚ) (s s' : FState ℚ (TbSt ℚ)) (a : FAct ℚ) (o : FOut ℚ)
    (hi : Spc c s) (hstep : step (dev c) s a = .ok (s', o)) : Spc c s' := by
  refine step_dev hstep (fun now' d' tx' _ => SpcP c now' d' tx') (fun _ => hi)
    (fun _ _ => ⟨hi.pk, hi.outLe, hi.outUpd, hi.spaced⟩) ?_ ?_ ?_
  · intro x y p _ _
    rw [dev_onResume]
    rcases onResume_cases c s.dev s.now x y p with ⟨hs, he⟩ | ⟨hs, k, hk, he⟩ | ⟨hs, hk, he⟩ <;> rw [he]
    · exact spc_sleep c s.now s.dev _ s.tx p _ 0 hi rfl rfl (fun hw => by cases hw)
    · exact spc_sleep c s.now s.dev _ s.tx p _ 0 hi rfl rfl (fun _ => ⟨k, hk, by rw [peakWait_eq]⟩)
    · exact spc_out c s.now (debitNow (refill c s.dev s.now) s.now p) p hi.spaced (fun r hr => by rw [hk] at hr; cases hr)
  · intro p k _ htx
    rw [dev_onFire]
    rcases onFire_cases c s.dev s.now k p with ⟨hw, r, hr, he⟩ | ⟨hw, hk, he⟩ | ⟨hw, he⟩ <;> rw [he]
    · exact spc_sleep c s.now s.dev _ s.tx p _ (k + 1) hi rfl rfl (fun _ => ⟨r, hr, by rw [peakWait_eq]⟩)
    · exact spc_out c s.now (debitAfterWait s.dev s.now p) p hi.spaced (fun r hr => by rw [hk] at hr; cases hr)
    · refine spc_out c s.now s.dev p hi.spaced ?_
      intro r hr e he'
      obtain ⟨r', hr', hdue⟩ := hi.pk p s.now k htx hw
      rw [hr] at hr'; cases hr'
      have := hi.outUpd _ e htx he'
      rw [hdue]; linarith
  · intro t _ h1 _
    exact ⟨hi.pk, fun e he => le_trans (hi.outLe e he) h1, hi.outUpd, hi.spaced⟩

theorem init_tok (c : TbCfg ℚ) (hg : Good c) (t0 : ℚ) (h0 : 0 ≤ t0) : Tok c (Fifo.init (st0 c) t0) :=
  ⟨(le_of_eq zero_eq').trans h0, le_refl _, Bucket.nil hg.bucket, fun _ => rfl, fun _ _ _ hx => (nomatch hx)⟩

theorem init_spc (c : TbCfg ℚ) (t0 : ℚ) : Spc c (Fifo.init (st0 c) t0) :=
  ⟨fun _ _ _ hx => (by cases hx), fun _ he => (by cases he), fun _ _ hx => (by cases hx), fun _ _ => spaced_nil _⟩

theorem run_inv (c : TbCfg ℚ) (hg : Good c) (t0 : ℚ) (h0 : 0 ≤ t0) (as : List (FAct ℚ)) (s : FState ℚ (TbSt ℚ))
    (ins outs : List Nat) (h : runActs (dev c) (Fifo.init (st0 c) t0) as = .ok (s, ins, outs)) :
    Shape s ∧ Tok c s := by
  refine run_induct (dev c) (fun s => Shape s ∧ Tok c s) ?_ as _ s ins outs ⟨Fifo.init_shape _ _, init_tok c hg t0 h0⟩ h
  intro s a s' o hP hs
  exact ⟨(step_conserves (dev c) (idPreserving c) s s' a o hP.1 hs).2, step_tok c hg s s' a o hP.1 hP.2 hs⟩

/-- the spacing invariant holds after every accepted action sequence, whatever the configuration -/
theorem run_spc (c : TbCfg ℚ) (t0 : ℚ) (as : List (FAct ℚ)) (s : FState ℚ (TbSt ℚ)) (ins outs : List Nat)
    (h : runActs (dev c) (Fifo.init (st0 c) t0) as = .ok (s, ins, outs)) : Spc c s :=
  run_induct (dev c) (Spc c) (fun s a s' o h1 h2 => step_spc c s s' a o h1 h2) as _ s ins outs (init_spc c t0) h

/-- a token bucket never refuses and never discards -/
theorem never_loses (c : TbCfg ℚ) (s s' : FState ℚ (TbSt ℚ)) (a : FAct ℚ) (o : FOut ℚ)
    (hstep : step (dev c) s a = .ok (s', o)) : o ≠ .dropped ∧ ∀ q, o ≠ .lost q := by
  refine lossless (fun _ _ _ _ => rfl) ?_ ?_ hstep
  · intro d now x y p
    rcases onResume_cases c d now x y p with ⟨_, he⟩ | ⟨_, k, _, he⟩ | ⟨_, _, he⟩ <;> rw [dev_onResume, he] <;> nofun
  · intro d now k p
    rcases onFire_cases c d now k p with ⟨_, r, _, he⟩ | ⟨_, _, he⟩ | ⟨_, he⟩ <;> rw [dev_onFire, he] <;> nofun

/-- the server holds packet `q` outside the store -/
def Holds (s : FState ℚ (TbSt ℚ)) (q : Pkt ℚ) : Prop := s.handed = some q ∨ ∃ due k, s.tx = some (q, due, k)

/-- how one step changes the ghost logs: the debit log grows only by a debit of the packet in hand, stamped with the
current instant; the departure log grows exactly when a packet is forwarded -/
def LogStep (s s' : FState ℚ (TbSt ℚ)) (o : FOut ℚ) : Prop :=
  (s'.dev.log = s.dev.log ∨ ∃ q, Holds s q ∧ s'.dev.log = (s.now, q.size) :: s.dev.log) ∧
  (match o with
   | .depart q => s'.dev.outLog = (s.now, q.size) :: s.dev.outLog
   | _ => s'.dev.outLog = s.dev.outLog)

end TokenBucket
