import Mathlib.Tactic.Ring
import OnlVerif.Lemmas.StampTrans
/-!
# Generic invariants of the StampServer: loop shape, conservation, counters, per-flow order

They hold for every scheduler record `d : Sched ℚ σ`.  Two lemmas carry the case analysis on `Trans`: `Trans.move`
(what a step does to the packets: arrival, service decision, or neither) and `Trans.store` (what it does to the
store and the stamp state); conservation, per-flow order and the schedulers' own invariants are read off them.
-/

namespace Stamp
variable {σ : Type}

/-- packets the loop holds outside the store and that have not left yet -/
def inHand (s : StState ℚ σ) : List SPkt :=
  (match s.handed with | some it => [it.pkt] | none => []) ++
  (match s.spawned with | some p => [p] | none => []) ++
  (match s.tx with | some (p, _) => [p] | none => [])

/-- packets waiting in the store, in order of arrival -/
def waiting (s : StState ℚ σ) : List SPkt := s.items.map (·.pkt)

/-- packets waiting or in transmission (what `queue_count` counts) -/
def held (s : StState ℚ σ) : List SPkt := inHand s ++ waiting s

theorem waiting_enqueue (s : StState ℚ σ) (sch : σ) (stamp : ℚ) (p : SPkt) :
    waiting (enqueue s sch stamp p) = waiting s ++ [p] := List.map_append

theorem held_enqueue (s : StState ℚ σ) (sch : σ) (stamp : ℚ) (p : SPkt) :
    held (enqueue s sch stamp p) = held s ++ [p] := by
  rw [held, waiting_enqueue, ← List.append_assoc]; rfl

theorem items_of_held_nil {s : StState ℚ σ} (h : held s = []) : s.items = [] :=
  List.map_eq_nil_iff.mp (List.append_eq_nil_iff.mp h).2

/-- the packet whose transmission has ended but whose end the loop has not yet processed -/
def finL (s : StState ℚ σ) : List SPkt := match s.fin with | some p => [p] | none => []

/-- the loop is in exactly one place, and `current_packet` is the packet in transmission -/
def Shape (s : StState ℚ σ) : Prop :=
  s.currentPacket = s.tx.map Prod.fst ∧
  ((s.started = false ∧ s.getPending = false ∧ s.handed = none ∧ s.spawned = none ∧ s.tx = none ∧ s.fin = none) ∨
   (s.started = true ∧ s.getPending = true ∧ s.handed = none ∧ s.spawned = none ∧ s.tx = none ∧ s.fin = none) ∨
   (s.started = true ∧ s.getPending = false ∧ s.handed.isSome ∧ s.spawned = none ∧ s.tx = none ∧ s.fin = none) ∨
   (s.started = true ∧ s.getPending = false ∧ s.handed = none ∧ s.spawned.isSome ∧ s.tx = none ∧ s.fin = none) ∨
   (s.started = true ∧ s.getPending = false ∧ s.handed = none ∧ s.spawned = none ∧ s.tx.isSome ∧ s.fin = none) ∨
   (s.started = true ∧ s.getPending = false ∧ s.handed = none ∧ s.spawned = none ∧ s.tx = none ∧ s.fin.isSome))

theorem Shape.of_not_started {s : StState ℚ σ} (h : Shape s) (h1 : s.started = false) :
    s.getPending = false ∧ s.handed = none ∧ s.spawned = none ∧ s.tx = none ∧ s.fin = none := by
  rcases h with ⟨_, h | h | h | h | h | h⟩ <;> simp_all

theorem Shape.of_getPending {s : StState ℚ σ} (h : Shape s) (h1 : s.getPending = true) :
    s.started = true ∧ s.handed = none ∧ s.spawned = none ∧ s.tx = none ∧ s.fin = none := by
  rcases h with ⟨_, h | h | h | h | h | h⟩ <;> simp_all

theorem Shape.of_handed {s : StState ℚ σ} {it : Item ℚ} (h : Shape s) (h1 : s.handed = some it) :
    s.started = true ∧ s.getPending = false ∧ s.spawned = none ∧ s.tx = none ∧ s.fin = none := by
  rcases h with ⟨_, h | h | h | h | h | h⟩ <;> simp_all

theorem Shape.of_spawned {s : StState ℚ σ} {p : SPkt} (h : Shape s) (h1 : s.spawned = some p) :
    s.started = true ∧ s.getPending = false ∧ s.handed = none ∧ s.tx = none ∧ s.fin = none := by
  rcases h with ⟨_, h | h | h | h | h | h⟩ <;> simp_all

theorem Shape.of_tx {s : StState ℚ σ} {x : SPkt × ℚ} (h : Shape s) (h1 : s.tx = some x) :
    s.started = true ∧ s.getPending = false ∧ s.handed = none ∧ s.spawned = none ∧ s.fin = none := by
  rcases h with ⟨_, h | h | h | h | h | h⟩ <;> simp_all

theorem Shape.of_fin {s : StState ℚ σ} {p : SPkt} (h : Shape s) (h1 : s.fin = some p) :
    s.started = true ∧ s.getPending = false ∧ s.handed = none ∧ s.spawned = none ∧ s.tx = none := by
  rcases h with ⟨_, h | h | h | h | h | h⟩ <;> simp_all

theorem Shape.idle_waits {s : StState ℚ σ} (h : Shape s) (h0 : s.started = true) (h1 : s.handed = none)
    (h2 : s.spawned = none) (h3 : s.tx = none) (h4 : s.fin = none) : s.getPending = true := by
  rcases h with ⟨_, h | h | h | h | h | h⟩ <;> simp_all

theorem Shape.inHand_cases {s : StState ℚ σ} (h : Shape s) : inHand s = [] ∨ ∃ m, inHand s = [m] := by
  rcases h with ⟨_, h | h | h | h | h | h⟩
  · left; simp [inHand, h]
  · left; simp [inHand, h]
  · right
    obtain ⟨it, hit⟩ := Option.isSome_iff_exists.mp h.2.2.1
    exact ⟨it.pkt, by simp [inHand, h, hit]⟩
  · right
    obtain ⟨p, hp⟩ := Option.isSome_iff_exists.mp h.2.2.2.1
    exact ⟨p, by simp [inHand, h, hp]⟩
  · right
    obtain ⟨x, hx⟩ := Option.isSome_iff_exists.mp h.2.2.2.2.1
    exact ⟨x.1, by simp [inHand, h, hx]⟩
  · left; simp [inHand, h]

theorem init_shape (sch : σ) (t0 : ℚ) : Shape (init sch t0) := by simp [Shape, init]

theorem step_shape {d : Sched ℚ σ} {s s' : StState ℚ σ} {a : StAct ℚ} {o : StOut}
    (hs : Shape s) (ht : Trans d s a s' o) : Shape s' := by
  cases ht with
  | initBlock h1 h2 =>
    have := hs.of_not_started h1
    simp [Shape, this, hs.1]
  | initServe id it rest h1 h2 =>
    have := hs.of_not_started h1
    simp [Shape, this, hs.1]
  | put p sch stamp h1 => exact hs
  | handoff id it rest h1 h2 =>
    have := hs.of_getPending h1
    simp [Shape, this, hs.1]
  | resume it h1 =>
    have := hs.of_handed h1
    simp [Shape, this, hs.1]
  | sendInit p h1 h2 h3 =>
    have := hs.of_spawned h1
    simp [Shape, this]
  | sendFire p due h1 h2 =>
    have := hs.of_tx h1
    simp [Shape, release, this]
  | doneBlock p sch h1 h2 h3 =>
    have := hs.of_fin h1
    simp [Shape, this, hs.1]
  | doneServe p sch id it rest h1 h2 h3 =>
    have := hs.of_fin h1
    simp [Shape, this, hs.1]
  | tick t h1 => exact hs
  | sample b => exact hs

theorem run_shape {d : Sched ℚ σ} {s0 s : StState ℚ σ} {ins outs : List SPkt} (h0 : Shape s0)
    (h : Run d s0 s ins outs) : Shape s := by
  induction h with
  | nil => exact h0
  | snoc _ ht ih => exact step_shape ih ht

def msum (g : SPkt → Int) (l : List SPkt) : Int := (l.map g).sum

@[simp] theorem msum_nil (g : SPkt → Int) : msum g [] = 0 := rfl
@[simp] theorem msum_cons (g : SPkt → Int) (p : SPkt) (l : List SPkt) : msum g (p :: l) = g p + msum g l := by
  simp [msum]
@[simp] theorem msum_append (g : SPkt → Int) (l1 l2 : List SPkt) : msum g (l1 ++ l2) = msum g l1 + msum g l2 := by
  simp [msum]

def ind (f : Nat) (p : SPkt) : Int := if p.flow = f then 1 else 0
def szind (f : Nat) (p : SPkt) : Int := if p.flow = f then (p.size : Int) else 0

theorem msum_perm (g : SPkt → Int) {l1 l2 : List SPkt} (h : l1.Perm l2) : msum g l1 = msum g l2 := by
  induction h with
  | nil => rfl
  | cons x _ ih => simp [ih]
  | swap x y l => simp; ring
  | trans _ _ ih1 ih2 => rw [ih1, ih2]

theorem msum_filter (P : SPkt → Prop) [DecidablePred P] (g : SPkt → Int) (l : List SPkt) :
    msum (fun p => if P p then g p else 0) l = msum g (l.filter fun p => P p) := by
  induction l with
  | nil => rfl
  | cons p l ih =>
    rw [msum_cons, ih, List.filter_cons]
    by_cases h : P p <;> simp [h]

theorem msum_one (l : List SPkt) : msum (fun _ => 1) l = (l.length : Int) := by
  induction l with
  | nil => rfl
  | cons p l ih => rw [msum_cons, ih, List.length_cons]; push_cast; ring

/-- **How a step moves packets**: an arrival is appended to the store; a service decision takes an item of minimal
key out of the store while the loop holds nothing; any other step leaves the store alone, and the packet the loop
holds stays or departs. -/
theorem Trans.move {d : Sched ℚ σ} {s s' : StState ℚ σ} {a : StAct ℚ} {o : StOut} (hs : Shape s)
    (ht : Trans d s a s' o) :
    (∃ p sch stamp, a = .put p ∧ o = .accepted ∧ s' = enqueue s sch stamp p ∧
      d.onPut s.sch s.now (qcTotal s.queueCount) p = .ok (sch, stamp)) ∨
    (entered a o = [] ∧ left o = [] ∧ inHand s = [] ∧ s'.now = s.now ∧
      ∃ id it rest, Picked s.items id it rest ∧ s'.items = rest ∧ inHand s' = [it.pkt]) ∨
    (entered a o = [] ∧ s'.items = s.items ∧ inHand s = left o ++ inHand s') := by
  cases ht with
  | put p sch stamp h1 => exact .inl ⟨p, sch, stamp, rfl, rfl, rfl, h1⟩
  | initServe id it rest h1 h2 =>
    have hx := hs.of_not_started h1
    exact .inr (.inl ⟨rfl, rfl, by simp [inHand, hx], rfl, id, it, rest, h2, rfl, by simp [inHand, hx]⟩)
  | handoff id it rest h1 h2 =>
    have hx := hs.of_getPending h1
    exact .inr (.inl ⟨rfl, rfl, by simp [inHand, hx], rfl, id, it, rest, h2, rfl, by simp [inHand, hx]⟩)
  | doneServe p sch id it rest h1 h2 h3 =>
    have hx := hs.of_fin h1
    exact .inr (.inl ⟨rfl, rfl, by simp [inHand, hx], rfl, id, it, rest, h3, rfl, by simp [inHand, hx]⟩)
  | resume it h1 => exact .inr (.inr ⟨rfl, rfl, by simp [inHand, left, hs.of_handed h1, h1]⟩)
  | sendInit p h1 h2 h3 => exact .inr (.inr ⟨rfl, rfl, by simp [inHand, left, hs.of_spawned h1, h1]⟩)
  | sendFire p due h1 h2 => exact .inr (.inr ⟨rfl, rfl, by simp [inHand, left, release, hs.of_tx h1, h1]⟩)
  | initBlock | doneBlock | tick | sample => exact .inr (.inr ⟨rfl, rfl, rfl⟩)

theorem Trans.held_perm {d : Sched ℚ σ} {s s' : StState ℚ σ} {a : StAct ℚ} {o : StOut} (hs : Shape s)
    (ht : Trans d s a s' o) : (held s ++ entered a o).Perm (left o ++ held s') := by
  rcases ht.move hs with ⟨p, sch, stamp, rfl, rfl, rfl, _⟩ | ⟨he, hl, hin, _, id, it, rest, hp, hit, hin'⟩ | ⟨he, hit, hin⟩
  · simp [held, inHand, waiting, enqueue, entered, left]
  · obtain ⟨pre, post, hpl, rfl, -, -⟩ := hp
    simp [he, hl, held, waiting, hin, hin', hit, hpl]
  · rw [he, held, hin, held, waiting, waiting, hit, List.append_nil, List.append_assoc]

/-- the counters move with the packets that enter and leave: only `put` and `sendFire` touch them -/
theorem Trans.counts {d : Sched ℚ σ} {s s' : StState ℚ σ} {a : StAct ℚ} {o : StOut} (ht : Trans d s a s' o)
    (f : Nat) :
    getD s'.queueCount f + msum (ind f) (left o) = getD s.queueCount f + msum (ind f) (entered a o) ∧
    getD s'.queueBytes f + msum (szind f) (left o) = getD s.queueBytes f + msum (szind f) (entered a o) ∧
    qcTotal s'.queueCount + (left o).length = qcTotal s.queueCount + (entered a o).length := by
  cases ht with
  | put p sch stamp h1 => simp [enqueue, entered, left, getD_bump, qcTotal_bump, ind, szind]
  | sendFire p due h1 h2 =>
    simp only [release, entered, left, getD_bump, qcTotal_bump, ind, szind, msum_cons, msum_nil]
    refine ⟨?_, ?_, by simp⟩ <;> split <;> simp
  | _ => exact ⟨rfl, rfl, rfl⟩

structure GInv (s : StState ℚ σ) : Prop where
  shape : Shape s
  cnt : ∀ f, getD s.queueCount f = msum (ind f) (held s)
  byt : ∀ f, getD s.queueBytes f = msum (szind f) (held s)

theorem init_ginv (sch : σ) (t0 : ℚ) : GInv (init sch t0) := by
  refine ⟨init_shape sch t0, ?_, ?_⟩ <;> intro f <;> simp [init, getD, held, inHand, waiting]

/-- **One step conserves packets** (as a permutation: what was held plus what entered is what left plus what is
held now) and keeps the counters equal to the packets of each flow waiting or in transmission. -/
theorem step_ginv {d : Sched ℚ σ} {s s' : StState ℚ σ} {a : StAct ℚ} {o : StOut}
    (hi : GInv s) (ht : Trans d s a s' o) :
    GInv s' ∧ (held s ++ entered a o).Perm (left o ++ held s') := by
  have hp := ht.held_perm hi.shape
  refine ⟨⟨step_shape hi.shape ht, fun f => ?_, fun f => ?_⟩, hp⟩
  · have := msum_perm (ind f) hp
    rw [msum_append, msum_append] at this
    have c := (ht.counts f).1
    rw [hi.cnt f, this] at c
    exact add_left_cancel ((add_comm _ _).trans c)
  · have := msum_perm (szind f) hp
    rw [msum_append, msum_append] at this
    have c := (ht.counts f).2.1
    rw [hi.byt f, this] at c
    exact add_left_cancel ((add_comm _ _).trans c)

theorem run_ginv {d : Sched ℚ σ} {s0 s : StState ℚ σ} {ins outs : List SPkt} (h0 : GInv s0)
    (h : Run d s0 s ins outs) : GInv s ∧ (held s0 ++ ins).Perm (outs ++ held s) := by
  induction h with
  | nil => exact ⟨h0, by simp⟩
  | @snoc s1 s2 i1 o1 a o _ ht ih =>
    obtain ⟨hg, hp⟩ := step_ginv ih.1 ht
    refine ⟨hg, ?_⟩
    rw [← List.append_assoc, List.append_assoc o1]
    exact (ih.2.append_right _).trans (by rw [List.append_assoc]; exact hp.append_left _)

/-- **Drain / never idle with a backlog**: when the clock may advance and nothing is in transmission, the
scheduler holds nothing at all (and is blocked in `get`). -/
theorem tick_idle_empty {s : StState ℚ σ} {t : ℚ} (hs : Shape s) (ht : TickOk s t) (htx : s.tx = none) :
    s.items = [] ∧ held s = [] ∧ s.fin = none ∧ s.getPending = true := by
  obtain ⟨_, h1, h2, h3, h4, h5, _⟩ := ht
  have hg := hs.idle_waits h1 h2 h3 htx h4
  have hi : s.items = [] := by
    by_contra hc
    exact h5 ⟨hg, hc⟩
  exact ⟨hi, by simp [held, inHand, waiting, h2, h3, htx, hi], h4, hg⟩

def FlowSorted (l : List (Item ℚ)) : Prop := l.Pairwise fun a b => a.pkt.flow = b.pkt.flow → a.stamp < b.stamp

def ofFlow (f : Nat) (l : List SPkt) : List SPkt := l.filter fun p => p.flow = f

@[simp] theorem ofFlow_nil (f : Nat) : ofFlow f [] = [] := rfl
theorem ofFlow_cons (f : Nat) (p : SPkt) (l : List SPkt) : ofFlow f (p :: l) = ofFlow f [p] ++ ofFlow f l := by
  simp only [ofFlow, List.filter_cons, List.filter_nil]
  split <;> simp
@[simp] theorem ofFlow_append (f : Nat) (l1 l2 : List SPkt) : ofFlow f (l1 ++ l2) = ofFlow f l1 ++ ofFlow f l2 := by
  simp [ofFlow]

/-- with per-flow increasing stamps, the item of minimal key is the *oldest* waiting packet of its flow -/
theorem picked_ofFlow {l : List (Item ℚ)} {id : Nat} {it : Item ℚ} {rest : List (Item ℚ)} (hs : FlowSorted l)
    (hp : Picked l id it rest) (f : Nat) :
    ofFlow f (l.map (·.pkt)) = ofFlow f [it.pkt] ++ ofFlow f (rest.map (·.pkt)) := by
  obtain ⟨pre, post, rfl, rfl, _, hm⟩ := hp
  by_cases hf : it.pkt.flow = f
  · have hpre : ofFlow f (pre.map (·.pkt)) = [] := by
      simp only [ofFlow, List.filter_eq_nil_iff, List.mem_map, forall_exists_index, and_imp, forall_apply_eq_imp_iff₂,
        decide_eq_true_eq]
      intro x hx hxf
      have h1 : x.stamp < it.stamp := by
        have := (List.pairwise_append.mp hs).2.2 x hx it (by simp)
        exact this (by rw [hxf, hf])
      have h2 : it.stamp ≤ x.stamp := hm.stamp_le (by simp [hx])
      exact absurd h1 (not_lt.mpr h2)
    simp only [List.map_append, List.map_cons, ofFlow_append, hpre, List.nil_append]
    simp [ofFlow, hf]
  · simp [ofFlow, hf]

theorem flowSorted_picked {l : List (Item ℚ)} {id : Nat} {it : Item ℚ} {rest : List (Item ℚ)} (hs : FlowSorted l)
    (hp : Picked l id it rest) : FlowSorted rest := by
  obtain ⟨pre, post, rfl, rfl, _, _⟩ := hp
  exact hs.sublist (by simp)

/-- every waiting item's stamp is at most the cap of its class (`cls`: flow ↦ class; `cap`: class ↦ the last stamp the
scheduler gave out for it), and the items of one class carry strictly increasing stamps, in order of arrival -/
structure Capped (cls : Nat → Option Nat) (cap : Nat → Option ℚ) (l : List (Item ℚ)) : Prop where
  cap : ∀ it ∈ l, ∀ k, cls it.pkt.flow = some k → ∃ A, cap k = some A ∧ it.stamp ≤ A
  srt : l.Pairwise fun a b => cls a.pkt.flow = cls b.pkt.flow → a.stamp < b.stamp

section Capped
variable {cls : Nat → Option Nat} {cap cap' : Nat → Option ℚ} {l l' : List (Item ℚ)}

theorem Capped.nil : Capped cls cap [] := ⟨fun _ h => absurd h List.not_mem_nil, List.Pairwise.nil⟩

theorem Capped.sublist (h : Capped cls cap l) (hl : l'.Sublist l) : Capped cls cap l' :=
  ⟨fun it hit => h.cap it (hl.subset hit), h.srt.sublist hl⟩

theorem Capped.flowSorted (h : Capped cls cap l) : FlowSorted l :=
  h.srt.imp fun hab hf => hab (by rw [hf])

theorem Capped.snoc (h : Capped cls cap l) {y : Item ℚ} {k : Nat} {A : ℚ} (hk : cls y.pkt.flow = some k)
    (hA : cap k = some A) (hlt : A < y.stamp) (hcap : ∀ k', cap' k' = if k' = k then some y.stamp else cap k') :
    Capped cls cap' (l ++ [y]) := by
  refine ⟨fun it hit k' hk' => ?_,
    List.pairwise_append.mpr ⟨h.srt, List.pairwise_singleton _ _, fun x hx z hz hcls => ?_⟩⟩
  · rw [hcap]
    rcases List.mem_append.mp hit with hit | hit
    · obtain ⟨A0, hA0, hle⟩ := h.cap it hit k' hk'
      by_cases hkk : k' = k
      · subst hkk
        cases hA.symm.trans hA0
        exact ⟨_, if_pos rfl, hle.trans hlt.le⟩
      · exact ⟨A0, by rw [if_neg hkk, hA0], hle⟩
    · cases List.mem_singleton.mp hit
      cases hk.symm.trans hk'
      exact ⟨_, if_pos rfl, le_rfl⟩
  · cases List.mem_singleton.mp hz
    obtain ⟨A0, hA0, hle⟩ := h.cap x hx k (hcls.trans hk)
    cases hA.symm.trans hA0
    exact hle.trans_lt hlt

end Capped

theorem step_fifo {d : Sched ℚ σ} {s s' : StState ℚ σ} {a : StAct ℚ} {o : StOut} (hs : Shape s)
    (hso : FlowSorted s.items) (ht : Trans d s a s' o) (f : Nat) :
    ofFlow f (held s) ++ ofFlow f (entered a o) = ofFlow f (left o) ++ ofFlow f (held s') := by
  rcases ht.move hs with ⟨p, sch, stamp, rfl, rfl, rfl, _⟩ | ⟨he, hl, hin, _, id, it, rest, hp, hit, hin'⟩ | ⟨he, hit, hin⟩
  · simp [held, inHand, waiting, enqueue, entered, left]
  · simp only [he, hl, held, waiting, hin, hin', hit, ofFlow_nil, ofFlow_append, List.nil_append, List.append_nil]
    exact picked_ofFlow hso hp f
  · simp only [he, held, hin, waiting, hit, ofFlow_nil, ofFlow_append, List.append_nil, List.append_assoc]

/-- **Per-flow FIFO over whole runs**: if along the run the store keeps per-flow increasing stamps, then for
every flow the accepted packets are, in order, the departed packets followed by the packets still held.  The stamp
order may depend on a property `Pin` of the packets accepted so far that passes to prefixes (positive sizes, for WFQ). -/
theorem run_fifo {d : Sched ℚ σ} {s0 s : StState ℚ σ} {ins outs : List SPkt} (h0 : Shape s0)
    (Pin : List SPkt → Prop) (hpre : ∀ i e, Pin (i ++ e) → Pin i)
    (hso : ∀ s1 i1 o1, Run d s0 s1 i1 o1 → Pin i1 → FlowSorted s1.items) (h : Run d s0 s ins outs) (hin : Pin ins)
    (f : Nat) : ofFlow f (held s0) ++ ofFlow f ins = ofFlow f outs ++ ofFlow f (held s) := by
  induction h with
  | nil => simp
  | @snoc s1 s2 i1 o1 a o hr ht ih =>
    have hi1 := hpre _ _ hin
    have h1 := step_fifo (run_shape h0 hr) (hso _ _ _ hr hi1) ht f
    simp only [ofFlow_append]
    rw [← List.append_assoc, ih hi1, List.append_assoc, h1, List.append_assoc]

/-- waiting, in transmission, or transmitted but not yet booked out by the loop -/
def held' (s : StState ℚ σ) : List SPkt := held s ++ finL s

/-- the packet the loop books out in a `sendDone` burst -/
def booked (a : StAct ℚ) (s : StState ℚ σ) : List SPkt :=
  match a with
  | .sendDone _ => finL s
  | _ => []

/-- a finished packet appears at `sendFire` and is booked out by the next `sendDone` -/
theorem Trans.finL_eq {d : Sched ℚ σ} {s s' : StState ℚ σ} {a : StAct ℚ} {o : StOut} (hs : Shape s)
    (ht : Trans d s a s' o) : finL s' ++ booked a s = finL s ++ left o := by
  cases ht with
  | sendFire p due h1 h2 => simp [finL, release, booked, left, hs.of_tx h1]
  | doneBlock p sch h1 h2 h3 => simp [finL, booked, left, h1]
  | doneServe p sch id it rest h1 h2 h3 => simp [finL, booked, left, h1]
  | put p sch stamp h1 => simp [finL, enqueue, booked, left]
  | _ => simp [finL, booked, left]

/-- **How a step touches the store and the stamp state**: an arrival appends its item and applies `onPut`; any other
step takes at most one item out, and leaves the stamp state alone or books the finished packet out by `onDone`. -/
theorem Trans.store {d : Sched ℚ σ} {s s' : StState ℚ σ} {a : StAct ℚ} {o : StOut} (ht : Trans d s a s' o) :
    (∃ p sch stamp, a = .put p ∧ o = .accepted ∧ s' = enqueue s sch stamp p ∧
      d.onPut s.sch s.now (qcTotal s.queueCount) p = .ok (sch, stamp)) ∨
    (entered a o = [] ∧ s'.items.Sublist s.items ∧
      ((s'.sch = s.sch ∧ booked a s = []) ∨
        ∃ p, s.fin = some p ∧ booked a s = [p] ∧ d.onDone s.sch s.now p = .ok s'.sch)) := by
  have sub : ∀ {id it rest}, Picked s.items id it rest → rest.Sublist s.items := fun h => by
    obtain ⟨pre, post, hl, rfl, -, -⟩ := h
    rw [hl]
    exact (List.Sublist.refl _).append (List.sublist_cons_self _ _)
  cases ht with
  | put p sch stamp h1 => exact .inl ⟨p, sch, stamp, rfl, rfl, rfl, h1⟩
  | initServe id it rest h1 h2 => exact .inr ⟨rfl, sub h2, .inl ⟨rfl, rfl⟩⟩
  | handoff id it rest h1 h2 => exact .inr ⟨rfl, sub h2, .inl ⟨rfl, rfl⟩⟩
  | doneBlock p sch h1 h2 h3 => exact .inr ⟨rfl, .refl _, .inr ⟨p, h1, by simp [booked, finL, h1], h2⟩⟩
  | doneServe p sch id it rest h1 h2 h3 => exact .inr ⟨rfl, sub h3, .inr ⟨p, h1, by simp [booked, finL, h1], h2⟩⟩
  | initBlock | resume | sendInit | sendFire | tick | sample => exact .inr ⟨rfl, .refl _, .inl ⟨rfl, rfl⟩⟩

/-- **One step conserves the packets the scheduler accounts for**: a transmitted packet stays accounted for until
the loop books it out. -/
theorem Trans.held'_perm {d : Sched ℚ σ} {s s' : StState ℚ σ} {a : StAct ℚ} {o : StOut} (hs : Shape s)
    (ht : Trans d s a s' o) : (held' s ++ entered a o).Perm (booked a s ++ held' s') := by
  rw [List.perm_iff_count]
  intro x
  have c1 := (ht.held_perm hs).count_eq x
  have c2 := congrArg (List.count x) (ht.finL_eq hs)
  simp only [held', List.count_append] at c1 c2 ⊢
  omega

/-- `total_packets` (the sum of the per-flow counters) is the number of packets waiting or in transmission -/
def Tot (s : StState ℚ σ) : Prop := qcTotal s.queueCount = ((held s).length : Int)

theorem init_tot (sch : σ) (t0 : ℚ) : Tot (init sch t0) := by
  simp [Tot, init, qcTotal, held, inHand, waiting]

theorem step_tot {d : Sched ℚ σ} {s s' : StState ℚ σ} {a : StAct ℚ} {o : StOut} (hi : GInv s)
    (ht : Trans d s a s' o) (h : Tot s) : Tot s' := by
  have hl := (ht.held_perm hi.shape).length_eq
  have hc := (ht.counts 0).2.2
  simp only [List.length_append] at hl
  unfold Tot at h ⊢
  omega

theorem Tot.zero_iff {s : StState ℚ σ} (h : Tot s) : qcTotal s.queueCount = 0 ↔ held s = [] := by
  unfold Tot at h
  rw [h]
  constructor
  · intro h0
    exact List.eq_nil_of_length_eq_zero (by exact_mod_cast h0)
  · intro h0; simp [h0]

theorem run_ginv' {d : Sched ℚ σ} {s0 s : StState ℚ σ} {ins outs : List SPkt} (h0 : GInv s0)
    (h : Run d s0 s ins outs) : GInv s := (run_ginv h0 h).1

theorem pick_no_raise (l : List (Item ℚ)) (id : Nat) (e : String) : pick l id ≠ .error (.raise e) := by
  unfold pick
  split
  · simp
  · split <;> simp

theorem issueGet_no_raise {σ : Type} (s : StState ℚ σ) (ch : Option Nat) (e : String) :
    issueGet s ch ≠ .error (.raise e) := by
  unfold issueGet
  split
  · simp
  · simp
  · simp
  · split
    · rename_i e' he
      rintro ⟨⟩
      exact pick_no_raise _ _ _ he
    · simp

/-- **No exception from the skeleton**: with a positive rate, a `put` whose stamp computation succeeds and a
bookkeeping burst that succeeds, every failure of `step` is a `reject` (a wrong label), never a `raise`. -/
theorem step_no_raise_of {d : Sched ℚ σ} (hrate : 0 < d.rate) (s : StState ℚ σ) (a : StAct ℚ)
    (hput : ∀ p, a = .put p → ∃ r, d.onPut s.sch s.now (qcTotal s.queueCount) p = .ok r)
    (hdone : ∀ p, s.fin = some p → ∃ r, d.onDone s.sch s.now p = .ok r) (e : String) :
    step d s a ≠ .error (.raise e) := by
  cases a with
  | init ch =>
    simp only [step, doInit]
    split
    · simp
    · split
      · rename_i e' he
        rintro ⟨⟩
        exact issueGet_no_raise _ _ _ he
      · simp
  | put p =>
    obtain ⟨r, hr⟩ := hput p rfl
    simp [step, doPut, hr]
  | handoff id =>
    simp only [step, doHandoff]
    split
    · split
      · rename_i e' he
        rintro ⟨⟩
        exact pick_no_raise _ _ _ he
      · simp
    · simp
  | resume =>
    simp only [step, doResume]
    split <;> simp
  | sendInit =>
    simp only [step, doSendInit]
    split
    · simp
    · rename_i p _
      have h1 : ¬ Num.eqb d.rate (Num.zero : ℚ) = true := by
        rw [zero_eq_q, Num.eqb_iff]; exact hrate.ne'
      have h2 : ¬ txTime d p < (Num.zero : ℚ) := by
        rw [zero_eq_q, not_lt]
        exact div_nonneg (Nat.cast_nonneg (p.size * 8)) hrate.le
      simp [h1, h2]
  | sendFire =>
    simp only [step, doSendFire]
    split
    · simp
    · split
      · simp
      · split <;> simp
  | sendDone ch =>
    simp only [step, doSendDone]
    split
    · simp
    · rename_i p hfin
      obtain ⟨r, hr⟩ := hdone p hfin
      rw [hr]
      simp only
      split
      · rename_i e' he
        rintro ⟨⟩
        exact issueGet_no_raise _ _ _ he
      · simp
  | tick t =>
    simp only [step, doTick]
    split <;> simp
  | sample b => simp [step]

end Stamp
