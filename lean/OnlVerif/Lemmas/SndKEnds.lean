import OnlVerif.Lemmas.SndKCells
/-!
# The TCP sender on the kernel model: how a kernel step ends

`Ends p b c a'`: the rest `b` of the burst of process `p`, run from the configuration `c` of the machine, ends the kernel step in
a state that has the configuration `a'`.  A burst ends in one of four ways (`Mid.sleeps`, `Mid.returns`, `Mid.get_miss`,
`Mid.get_hit`); `KI.resume` is the kernel step that pops the entry of a waiting process, given how its burst ends.  The steps
without a burst (`KI.retire`, `KI.pend_noop`, `KI.pend_hand`) are computed on the configuration directly.
-/

namespace SndK
open SenderOnK
open KProc (Thread GInv Regs modTh hrun hafter hbegin hend)

variable {s : KS} {a a' : A} {c : KProc.Cfg St} {p : EvId}

theorem KI.cells {act : Option EvId} (hk : KI act s a) : CellsF (Regs.of s).cells a := cellsOK_iff.mp hk.c

theorem KI.of_end {s' : KS} {reg : Regs} (hg : GInv s' (cfgOfR (kernOf a') reg)) (ha : reg.active = none)
    (hn : reg.now = a'.S.now) (hk : a'.tks.Nodup) (htx : txsOf reg.trace = a'.txs) (hc : CellsF reg.cells a') :
    KI none s' a' := by
  have hr : reg = Regs.of s' := hg.reg
  subst hr
  exact ⟨⟨hg, ha, hn, hk, htx⟩, cellsOK_iff.mpr hc⟩

/-- `a'` is `a` but for the phases of the processes and what the LTS says of `run`, and `run` waits in the same `get()`, if in any -/
def Keeps (a a' : A) : Prop :=
  a' = { a with S := { a.S with proc := a'.S.proc }, run := a'.run, scr := a'.scr, tph := a'.tph, cur := a'.cur } ∧
    a'.run.getQ = a.run.getQ

namespace Keeps
variable (hk : Keeps a a')
include hk

theorem now : a'.S.now = a.S.now := by rw [hk.1]
theorem tks : a'.tks = a.tks := by rw [hk.1]
theorem txs : a'.txs = a.txs := by rw [hk.1]
theorem pend : (kernOf a').pend = (kernOf a).pend := by rw [hk.1]; rfl

theorem stores : storesOf (kernOf a') = storesOf (kernOf a) := by
  unfold storesOf
  rw [show (kernOf a').run.getQ = (kernOf a).run.getQ from hk.2, show (kernOf a').tokens = (kernOf a).tokens by rw [hk.1]; rfl]

theorem cells {f : Nat → Val} (h : CellsF f a) : CellsF f a' := by rw [hk.1]; exact h

end Keeps

def Ends (p : EvId) (b : B ℚ) (c : KProc.Cfg St) (a' : A) : Prop :=
  ∃ c', hend c p b = some c' ∧ ∀ s', GInv s' c' → KI none s' a'

theorem Ends.congr {b b' : B ℚ} {c' : KProc.Cfg St} (h : hrun p b c = hrun p b' c') (e : Ends p b' c' a') : Ends p b c a' := by
  unfold Ends hend at e ⊢
  rwa [h]

/-- `yield env.timeout(d)`: process `p` (thread `t` when it was resumed) sleeps, to go on in `st'`; `a'` is `a` but for the phase
of `p` -/
theorem Mid.sleeps (h : Mid p c a) {d : ℚ} (hd : 0 ≤ d) (st' : St) {t : Thread St} (hp : t.pid = p)
    (hsw : Swap (threads (kernOf a)) (threads (kernOf a')) t
      { t with st := st', wait := .sleep ⟨c.reg.now + d, NORMAL, c.reg.eid, c.reg.evSize⟩ })
    (hk : Keeps a a') :
    Ends p (.call (.timeout d .none) fun rp => match rp with | .ev e => .yield e st' | rp => bad rp) c a' := by
  refine ⟨cfgOfR (kernOf a') { c.reg with evSize := c.reg.evSize + 1, eid := c.reg.eid + 1, active := none }, ?_, fun _ hg =>
    .of_end hg rfl (h.k.now.trans hk.now.symm) (hk.tks ▸ h.k.knd) (h.k.tx.trans hk.txs.symm) (hk.cells h.c)⟩
  have hm := hsw.modTh (f := fun t => { t with st := st', wait := .sleep ⟨c.reg.now + d, NORMAL, c.reg.eid, c.reg.evSize⟩ })
    h.k.pids
  subst hp
  unfold cfgOfR
  rw [← hm, hk.pend, hk.stores, ← h.k.pend, ← h.k.stores]
  heval [hd, h.k.loose, h.k.th]
  rw [KProc.modTh_modTh (f := fun t => { t with wait := .running }) _ _ fun _ => rfl]

/-- the state after the step in which a process has returned: its local state is forgotten -/
theorem ginv_of_ret {κ κ' : Kern} {s' : KS} {reg : Regs} {q : QEntry ℚ} {t : Thread St}
    (hg : GInv s' { cfgOfR κ' reg with threads := modTh (threads κ) t.pid fun t => { t with wait := .ending q .none } })
    (hsw : Swap (threads κ) (threads κ') t { t with st := stEnd, wait := .ending q .none })
    (hn : ((threads κ).map (·.pid)).Nodup) :
    GInv s' (cfgOfR κ' reg) := by
  have h1 := hg.setSt t.pid stEnd fun th hth hp => by
    rcases KProc.mem_modTh hth with ⟨-, hne⟩ | ⟨-, -, -, rfl⟩
    · exact absurd hp hne
    · rfl
  rwa [show modTh _ t.pid _ = threads κ' from
    (KProc.modTh_modTh (f := fun t => { t with wait := .ending q .none }) _ _ fun _ => rfl).trans (hsw.modTh hn)] at h1

/-- `return`: the process event of `p` is scheduled -/
theorem Mid.returns (h : Mid p c a) {t : Thread St} (hp : t.pid = p) (hcb : t.cbs.isSome = true)
    (hsw : Swap (threads (kernOf a)) (threads (kernOf a')) t
      { t with st := stEnd, wait := .ending ⟨c.reg.now, NORMAL, c.reg.eid, p⟩ .none })
    (hk : Keeps a a') : Ends p (.ret .none) c a' := by
  subst hp
  have hf : c.threads.find? (·.pid == t.pid) = some { t with wait := .running } :=
    h.k.th ▸ KProc.find?_modTh (f := fun t => { t with wait := .running }) (fun _ => rfl) hsw.mem rfl h.k.pids
  refine ⟨{ cfgOfR (kernOf a') { c.reg with active := none, eid := c.reg.eid + 1,
                                            trace := c.reg.trace.push (.ended t.pid (.ok .none) c.reg.now) } with
      threads := modTh (threads (kernOf a)) t.pid fun t' =>
        { t' with wait := .ending ⟨c.reg.now, NORMAL, c.reg.eid, t.pid⟩ .none } },
    ?_, fun _ hg => .of_end (ginv_of_ret hg hsw h.k.pids) rfl (h.k.now.trans hk.now.symm) (hk.tks ▸ h.k.knd)
      (by show txsOf (c.reg.trace.push _) = _; rw [txsOf_push, h.k.tx, hk.txs]; exact List.append_nil _) (hk.cells h.c)⟩
  unfold cfgOfR
  rw [hk.pend, hk.stores, ← h.k.pend, ← h.k.stores]
  heval [hf, hcb, h.k.loose]
  rw [h.k.th, KProc.modTh_modTh (f := fun t => { t with wait := .running }) _ _ fun _ => rfl]

/-- `yield self.cwnd_avaialbe.get()` at instant `now` and no token is there: `run` is blocked -/
theorem Mid.get_miss (h : Mid 0 c a) (now : ℚ) (hq : a.run.getQ = []) (hcb : (runTh a.run).cbs = some [])
    (htok : a.S.tokens = 0) :
    Ends 0 (sndWait now) c { a with S := { a.S with proc := .blocked }, run := .blocked c.reg.evSize now, cur := none } := by
  refine ⟨cfgOfR { kernOf a with run := .blocked c.reg.evSize now } { c.reg with evSize := c.reg.evSize + 1, active := none }, ?_,
    fun _ hg => .of_end hg rfl h.k.now h.k.knd h.k.tx h.c⟩
  unfold cfgOfR
  rw [← modTh_run (κ' := { kernOf a with run := .blocked c.reg.evSize now }) h.k.pids
    (fun t => { t with st := .runGet now, wait := .getW 0 c.reg.evSize })
    (by rw [show (runTh (kernOf a).run).cbs = _ from hcb, pid_runTh]; rfl) rfl rfl rfl rfl, ← h.k.pend]
  heval [sndWait, tokStore, h.k.stores, storesOf, show (kernOf a).run.getQ = [] from hq,
    show (kernOf a).tokens = 0 from htok, List.replicate_zero, h.k.loose]
  rw [h.k.th, KProc.modTh_modTh (f := fun t => { t with wait := .running }) _ _ fun _ => rfl,
    upd_storesOf (kernOf a) { kernOf a with run := .blocked c.reg.evSize now, tokens := 0 } (gq := [c.reg.evSize]) (its := [])
      rfl rfl]

/-- … and a token is there: the `get` is served at once -/
theorem Mid.get_hit (h : Mid 0 c a) (now : ℚ) (hq : a.run.getQ = []) (hcb : (runTh a.run).cbs = some []) {n : Nat}
    (htok : a.S.tokens = n + 1) :
    Ends 0 (sndWait now) c { a with S := { a.S with tokens := n, proc := .runnable },
                                    run := .handed c.reg.evSize now ⟨c.reg.now, NORMAL, c.reg.eid, c.reg.evSize⟩, cur := none } := by
  refine ⟨cfgOfR { kernOf a with run := .handed c.reg.evSize now ⟨c.reg.now, NORMAL, c.reg.eid, c.reg.evSize⟩, tokens := n }
    { c.reg with evSize := c.reg.evSize + 1, eid := c.reg.eid + 1, active := none }, ?_,
    fun _ hg => .of_end hg rfl h.k.now h.k.knd h.k.tx h.c⟩
  unfold cfgOfR
  rw [← modTh_run (κ' := { kernOf a with run := .handed c.reg.evSize now ⟨c.reg.now, NORMAL, c.reg.eid, c.reg.evSize⟩,
                                         tokens := n }) h.k.pids
    (fun t => { t with st := .runGet now, wait := .getH 0 ⟨c.reg.now, NORMAL, c.reg.eid, c.reg.evSize⟩ 1 })
    (by rw [show (runTh (kernOf a).run).cbs = _ from hcb, pid_runTh]; rfl) rfl rfl rfl rfl, ← h.k.pend]
  heval [sndWait, tokStore, h.k.stores, storesOf, show (kernOf a).run.getQ = [] from hq,
    show (kernOf a).tokens = n + 1 from htok, List.replicate_succ, h.k.loose]
  rw [h.k.th, KProc.modTh_modTh (f := fun t => { t with wait := .running }) _ _ fun _ => rfl,
    upd_storesOf (kernOf a) { kernOf a with run := .handed c.reg.evSize now ⟨c.reg.now, NORMAL, c.reg.eid, c.reg.evSize⟩,
                                            tokens := n } (gq := []) (its := List.replicate n 1) rfl rfl]

variable {cfg : SenderOnK.Cfg} {q : QEntry ℚ} {rest : List (QEntry ℚ)}

/-- **the entry of a waiting process is popped**: its burst runs on the machine from `hbegin …` and ends the step -/
theorem KI.resume (hk : KI none s a) (fuel : Nat) {th : Thread St} (hth : th ∈ threads (kernOf a)) {arg : Resume}
    (hw : th.wait.resumes = some (q, arg)) (hst : ∀ r q' v, th.wait = .getH r q' v → r = 0)
    (hp : popMin s.agenda = some (q, rest))
    (he : Ends th.pid (body cfg th.st arg) (hbegin (cfgOfR (kernOf a) (Regs.of s)) th.pid q arg) a') :
    ∃ s', step (body cfg) (fuel + 1) s = .ok s' ∧ KI none s' a' := by
  obtain ⟨c', ht, hki⟩ := he
  obtain ⟨s', h1, h2⟩ := hk.k.g.step_resume (body cfg) fuel hth hw (fun r q' v hh => by rw [hst r q' v hh]; rfl) hp
    (c' := c') (by simp only [KProc.hresume, hw, Option.bind_some, KProc.hburst]; exact ht)
  exact ⟨s', h1, hki s' h2⟩

/-- the process event of a process that has returned is processed: nobody waits for it -/
theorem KI.retire (hk : KI none s a) (fuel : Nat) {t : Thread St}
    (hsw : Swap (threads (kernOf a)) (threads (kernOf a')) t { t with wait := .gone t.pid .none, cbs := none })
    (hw : t.wait = .ending q .none)
    (hc : t.cbs = some []) (hp : popMin s.agenda = some (q, rest))
    (hkp : Keeps { a with S := { a.S with now := q.time } } a') :
    ∃ s', step (body cfg) (fuel + 1) s = .ok s' ∧ KI none s' a' := by
  obtain ⟨s', h1, h2⟩ := hk.k.g.step_retire (body cfg) (fuel + 1) hsw.mem hw hp
    (c' := cfgOfR (kernOf a') { Regs.of s with now := q.time }) (by
      unfold cfgOfR
      rw [← hsw.modTh (f := fun t => { t with wait := .gone t.pid .none, cbs := none }) hk.k.g.pids, hkp.pend, hkp.stores]
      simp only [KProc.hretire, hc]
      rfl)
  exact ⟨s', h1, .of_end h2 hk.k.act hkp.now.symm (hkp.tks ▸ hk.k.knd) (hkp.txs ▸ hk.k.tx) (hkp.cells hk.cells)⟩

theorem pend_perm {pend : List (QEntry ℚ)} (hu : q ∈ pend) :
    (pend.map fun x => (x, (0 : ResId))).Perm ((q, 0) :: (pend.erase q).map fun x => (x, 0)) :=
  (List.perm_cons_erase hu).map _

/-- a `StorePut` of the wake-up store is processed (`_trigger_get`) and nobody can be served -/
theorem KI.pend_noop (hk : KI none s a) (fuel : Nat) (hu : q ∈ a.pend) (hno : a.run.getQ = [] ∨ a.S.tokens = 0)
    (hp : popMin s.agenda = some (q, rest)) (hκ : kernOf a' = { kernOf a with pend := a.pend.erase q, now := q.time })
    (hcl : CellsF (Regs.of s).cells a') : ∃ s', step (body cfg) (fuel + 1) s = .ok s' ∧ KI none s' a' := by
  obtain ⟨s', h1, h2⟩ := hk.k.g.step_pend (body cfg) (fuel + 1) (u := (q, 0)) (pend_perm hu) hp
    (c' := cfgOfR (kernOf a') { Regs.of s with now := q.time }) (by
      have hno : (kernOf a).run.getQ = [] ∨ (kernOf a).tokens = 0 := hno
      rw [hκ, show a.pend = (kernOf a).pend from rfl]
      generalize kernOf a = κ at hno
      obtain ⟨run, scr, pend, keys, tmp, tph, tokens, now, txs, cur⟩ := κ
      cases run with
      | blocked g t0 =>
        obtain rfl : tokens = 0 := hno.resolve_left (by simp [RPhase.getQ])
        heval [cfgOfR, storesOf, RPhase.getQ, threads, runTh, beq_self_eq_true, List.replicate_zero]
        rfl
      | _ =>
        heval [cfgOfR, storesOf, RPhase.getQ]
        rfl)
  have htks : a'.tks = a.tks := congrArg Kern.keys hκ
  have htx : a'.txs = a.txs := congrArg Kern.txs hκ
  exact ⟨s', h1, .of_end h2 hk.k.act (congrArg Kern.now hκ).symm (htks ▸ hk.k.knd) (htx ▸ hk.k.tx) hcl⟩

/-- … while `run` is blocked in `get()` and a token is there: the token is handed over, the `StoreGet` event is triggered -/
theorem KI.pend_hand (hk : KI none s a) (fuel : Nat) {g : EvId} {t0 : ℚ} {n : Nat} (hu : q ∈ a.pend)
    (hr : a.run = .blocked g t0) (htok : a.S.tokens = n + 1) (hp : popMin s.agenda = some (q, rest))
    (hκ : kernOf a' = { kernOf a with pend := a.pend.erase q, run := .handed g t0 ⟨q.time, NORMAL, s.eid, g⟩, tokens := n,
                                      now := q.time })
    (hcl : CellsF (Regs.of s).cells a') : ∃ s', step (body cfg) (fuel + 1) s = .ok s' ∧ KI none s' a' := by
  obtain ⟨s', h1, h2⟩ := hk.k.g.step_pend (body cfg) (fuel + 1) (u := (q, 0)) (pend_perm hu) hp
    (c' := cfgOfR (kernOf a') { Regs.of s with now := q.time, eid := s.eid + 1 }) (by
      have hm := modTh_run (κ' := kernOf a') hk.k.g.pids (fun t => { t with wait := .getH 0 ⟨q.time, NORMAL, s.eid, g⟩ 1 })
        (by rw [hκ, show (kernOf a).run = _ from hr]; rfl) (by rw [hκ]) (by rw [hκ]) (by rw [hκ]) (by rw [hκ])
      unfold cfgOfR
      rw [← hm, ← upd_storesOf (kernOf a) (kernOf a') (gq := []) (its := List.replicate n 1) (by rw [hκ]; rfl) (by rw [hκ]), hκ,
        show a.pend = (kernOf a).pend from rfl]
      have hr' : (kernOf a).run = .blocked g t0 := hr
      have htok' : (kernOf a).tokens = n + 1 := htok
      generalize kernOf a = κ at hr' htok'
      obtain ⟨run, scr, pend, keys, tmp, tph, tokens, now, txs, cur⟩ := κ
      subst hr' htok'
      heval [cfgOfR, storesOf, RPhase.getQ, threads, runTh, beq_self_eq_true, List.replicate_succ]
      rfl)
  have htks : a'.tks = a.tks := congrArg Kern.keys hκ
  have htx : a'.txs = a.txs := congrArg Kern.txs hκ
  exact ⟨s', h1, .of_end h2 hk.k.act (congrArg Kern.now hκ).symm (htks ▸ hk.k.knd) (htx ▸ hk.k.tx) hcl⟩

end SndK
