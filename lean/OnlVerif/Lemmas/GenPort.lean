import OnlVerif.Lemmas.GenScalar
import OnlVerif.Net.Port
import OnlVerif.Generated.Port
/-!
# Bridge between the *generated* `Port` / `REDPort` definitions and the hand-written model (`Net/Port.lean`)

`Generated/Port.lean` is rewritten from `onl/netdev/port.py` and `red_port.py` on every `./check C09`.  The model keeps the
counters as `Nat`, `busy` as `Bool` and the effects of `put` as its result `(state, accepted?, packet)`; the generated code
keeps Python ints as `Int` and counts effects in `eff_*` fields.  `GenPort.obj` / `GenPort.redObj` is the explicit
encoding: the Python object that a model configuration + state stands for.  The lemmas hold for every scalar type.
-/

namespace GenPort
variable {α : Type} [Num α]

/-- the `Port` object a model configuration `c` and device state `d` stand for; `out` = an `out` is attached,
`puts` / `outs` = how often `self.store.put(packet)` / `self.out.put(packet)` have been called so far -/
def obj (c : PortCfg α) (d : PortSt α) (out : Bool) (puts outs : Nat) : Gen.PortObj α :=
  { rate := c.rate, qlimit := c.qlimit, limit_bytes := c.limitBytes, element_id := c.hasId, out := out,
    byte_size := d.byteSize, packets_received := d.received, packets_dropped := d.dropped,
    busy := if d.busy then 1 else 0, busy_packet_size := d.busySize,
    eff_store_put := puts, eff_perhop_stamp := d.stamps, eff_out_put := outs }

/-- the `REDPort` object (the fields `REDPort.put` touches) for configuration `c` with RED parameters `red`
(max_threshold, min_threshold, max_probability, weight_factor) and `qlimit = q` -/
def redObj (c : PortCfg α) (red : α × α × α × Nat) (q : Int) (d : PortSt α) (puts : Nat) : Gen.RedPortObj α :=
  { qlimit := q, limit_bytes := c.limitBytes, byte_size := d.byteSize, packets_received := d.received,
    packets_dropped := d.dropped, max_probability := red.2.2.1, max_threshold := red.1, min_threshold := red.2.1,
    weight_factor := red.2.2.2, average_queue_size := d.avg, eff_store_put := puts }

def acc (r : PortSt α × Bool × Pkt α) : Nat := if r.2.1 then 1 else 0

theorem ofInt_natCast (n : Nat) : (Num.ofInt (n : Int) : α) = Num.ofNat n := rfl

theorem ofInt_of_nonneg (i : Int) (h : 0 ≤ i) : (Num.ofInt i : α) = Num.ofNat i.toNat := by
  obtain ⟨n, rfl⟩ := Int.eq_ofNat_of_zero_le h
  rfl

/-- `Port.put` on any object: count the packet and the per-hop stamp, then tail-drop or store -/
theorem put_tailDrop (s : Gen.PortObj α) (c : PortCfg α) (waiting size : Nat) (hq : c.qlimit = s.qlimit)
    (hb : c.limitBytes = s.limit_bytes) :
    Gen.Port.put s waiting size =
      if Port.tailDrop c s.byte_size waiting size = true then
        { s with packets_received := s.packets_received + 1, packets_dropped := s.packets_dropped + 1,
                 eff_perhop_stamp := if s.element_id = true then s.eff_perhop_stamp + 1 else s.eff_perhop_stamp }
      else
        { s with packets_received := s.packets_received + 1, byte_size := s.byte_size + size,
                 eff_store_put := s.eff_store_put + 1,
                 eff_perhop_stamp := if s.element_id = true then s.eff_perhop_stamp + 1 else s.eff_perhop_stamp } := by
  unfold Gen.Port.put Port.tailDrop
  rw [hq, hb]
  cases s.qlimit with
  | none => cases s.element_id <;> rfl
  | some q =>
    cases s.element_id <;> cases s.limit_bytes <;>
      simp only [Bool.false_eq_true, false_and, true_and, not_false_eq_true, not_true_eq_false, or_false, false_or,
        if_true, if_false, decide_eq_true_eq]

theorem redCur_eq (c : PortCfg α) (d : PortSt α) (waiting : Nat) (hb : 0 ≤ d.byteSize) :
    (Num.ofInt (if c.limitBytes = true then d.byteSize else (waiting : Int)) : α) = Port.redCur c d waiting := by
  unfold Port.redCur
  split
  · exact ofInt_of_nonneg _ hb
  · rfl

/-- the translated method is the composition of its two translated fragments (by unfolding) -/
theorem red_split {α : Type} [Num α] (s : Gen.RedPortObj α) (waiting size : Int) (u : α) :
    Gen.REDPort.put s waiting size u = Gen.REDPort.put_decide (Gen.REDPort.put_average s waiting) size u := rfl

/-- the state after the average update, as a model state -/
def avgSt (c : PortCfg ℚ) (red : ℚ × ℚ × ℚ × Nat) (d : PortSt ℚ) (waiting : Nat) : PortSt ℚ :=
  { d with received := d.received + 1,
           avg := Port.redAvg d.avg (Port.redCur c { d with received := d.received + 1 } waiting) red.2.2.2 }

theorem red_average_eq (c : PortCfg ℚ) (red : ℚ × ℚ × ℚ × Nat) (q : Int) (d : PortSt ℚ) (puts waiting : Nat)
    (hb : 0 ≤ d.byteSize) :
    Gen.REDPort.put_average (redObj c red q d puts) waiting = redObj c red q (avgSt c red d waiting) puts := by
  have hc : Port.redCur c { d with received := d.received + 1 } waiting =
      (((if c.limitBytes = true then d.byteSize else (waiting : Int)) : Int) : ℚ) := by
    rw [← Num.ofInt_rat]
    exact (redCur_eq c { d with received := d.received + 1 } waiting hb).symm
  unfold avgSt
  rw [hc]
  unfold Gen.REDPort.put_average Port.redAvg redObj
  simp only [Num.ofInt_rat, Num.ofNat_rat', Num.powNeg_rat, Gen.RedPortObj.mk.injEq, true_and, and_true]
  refine ⟨by push_cast; rfl, ?_⟩
  push_cast
  ring

/-- the translated decision tree on any object is `redDrop` on its fields -/
theorem put_decide_redDrop (s : Gen.RedPortObj α) (size : Int) (u : α) :
    Gen.REDPort.put_decide s size u =
      if Port.redDrop (Num.ofInt s.qlimit) s.max_threshold s.min_threshold s.max_probability s.average_queue_size u = true
      then { s with packets_dropped := s.packets_dropped + 1 }
      else { s with byte_size := s.byte_size + size, eff_store_put := s.eff_store_put + 1 } := by
  unfold Gen.REDPort.put_decide Port.redDrop
  by_cases h1 : Num.ofInt s.qlimit ≤ s.average_queue_size
  · simp only [if_pos h1]; rfl
  · by_cases h2 : s.max_threshold ≤ s.average_queue_size
    · simp only [if_neg h1, if_pos h2, decide_eq_true_eq]
    · by_cases h3 : s.min_threshold ≤ s.average_queue_size
      · simp only [if_neg h1, if_neg h2, if_pos h3, decide_eq_true_eq]
      · simp only [if_neg h1, if_neg h2, if_neg h3]; rfl

theorem red_decide_eq {α : Type} [Num α] (c : PortCfg α) (red : α × α × α × Nat) (q : Int) (d : PortSt α) (puts : Nat)
    (p : Pkt α) (hq : c.qlimit = some q) (h0 : 0 ≤ q) :
    Gen.REDPort.put_decide (redObj c red q d puts) p.size p.draw =
      redObj c red q
        (if Port.redDrop (Port.redLimit c) red.1 red.2.1 red.2.2.1 d.avg p.draw = true then Port.refuse d p else Port.accept d p).1
        (puts + acc (if Port.redDrop (Port.redLimit c) red.1 red.2.1 red.2.2.1 d.avg p.draw = true then Port.refuse d p else Port.accept d p)) := by
  have hl : Port.redLimit c = (Num.ofInt q : α) := by
    unfold Port.redLimit; rw [hq]; exact (ofInt_of_nonneg q h0).symm
  rw [hl, put_decide_redDrop]
  by_cases h : Port.redDrop (Num.ofInt q) red.1 red.2.1 red.2.2.1 d.avg p.draw = true
  · simp only [if_pos h]; exact if_pos h
  · simp only [if_neg h]; exact if_neg h

end GenPort
