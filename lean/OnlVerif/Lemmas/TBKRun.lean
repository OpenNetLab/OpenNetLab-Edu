import OnlVerif.Lemmas.TBKAbsStep
import OnlVerif.Lemmas.KRun
/-!
# The token bucket on the kernel model: every kernel step is a configuration step (`kstep`, `inv_step`); the initial state (`inv_init`)
-/

namespace TBK
open TBOnK QEntry

variable {size : Int → Nat} {cfg : TbCfg ℚ}
variable {s : KS} {a : A} {q : QEntry ℚ} {rest : List (QEntry ℚ)}

theorem StepsTo.astep {fuel : Nat} {a' : A} {new : List (HEv ℚ)} (hs : AStep size cfg s.events.size s.eid a q a' new)
    (h : StepsTo size cfg fuel s q a' new) :
    ∃ s' a' new, step (body size cfg) (fuel + 1) s = .ok s' ∧ KInv s' a' ∧
      AStep size cfg s.events.size s.eid a q a' new ∧ s'.now = q.time ∧ histOf s'.trace = histOf s.trace ++ new :=
  let ⟨s', h1, h2, h3, h4⟩ := h
  ⟨s', a', new, h1, h2, hs, h3, h4⟩

/-- **one kernel step = one configuration step**: the step is computed on the configuration of processes behind `a`
(`Lemmas/TBKStep.lean`), by cases on whose entry is popped -/
theorem kstep (fuel : Nat) (hk : KInv s a) (hi0 : AInv cfg a s.now) (hp : popMin s.agenda = some (q, rest)) :
    ∃ s' a' new, step (body size cfg) (fuel + 1) s = .ok s' ∧ KInv s' a' ∧
      AStep size cfg s.events.size s.eid a q a' new ∧
      s'.now = q.time ∧ histOf s'.trace = histOf s.trace ++ new := by
  obtain ⟨hmin, hperm⟩ := min_of_pop hk.ag hp
  have hi := hi0.advance hmin
  have hq := hmin.1
  have hc := (kinv_iff (st0 := .bStart 0)).mp hk |>.2.2
  simp only [A.entries, List.mem_append] at hq
  rcases hq with hq | hq | hq
  · -- an entry of the shaper
    have hrun := hi.run
    cases hr : a.run with
    | W g t0 => simp [hr, RPhase.entries] at hq
    | init q0 =>
      simp only [hr, RPhase.entries, List.mem_singleton] at hq; subst hq
      exact StepsTo.astep (.runInit a q hr) (run_gets fuel hk hr rfl rfl hp rfl hc (hist_resumed ..))
    | H g id q0 t0 =>
      simp only [hr, RPhase.entries, List.mem_singleton] at hq; subst hq
      rw [hr] at hrun
      obtain ⟨hqt, -, hmax, -, hid⟩ := hrun
      by_cases hlt : refillA cfg a q.time < (size id : ℚ)
      · exact StepsTo.astep (.serveTok a q g id t0 hr hlt) (run_sleeps fuel hk hr rfl rfl hp
          (hrun_serve_tok _ hc hid hmax hlt) ((hc.level _).upd _) (hist_resumed ..)
          (tokenWait_nonneg (size := size) hi.good _ id hlt) rfl rfl rfl)
      · exact StepsTo.astep (.serveDebit a q g id t0 hr hlt) (run_debited fuel hk hr rfl rfl hp hi.peak
          (hrun_serve_debit _ hc hid hmax hlt) ((((hc.level _).upd _).level _).upd _))
    | T1 t id q0 =>
      simp only [hr, RPhase.entries, List.mem_singleton] at hq; subst hq
      exact StepsTo.astep (.tok a q t id hr) (run_debited fuel hk hr rfl rfl hp hi.peak (hrun_tok _ _ _)
        ((hc.level 0).upd q.time))
    | T2 t id q0 k =>
      simp only [hr, RPhase.entries, List.mem_singleton] at hq; subst hq
      exact StepsTo.astep (.peak a q t id k hr) (run_gets fuel hk hr rfl rfl hp (hrun_out _ hc.c1 _ _) (hc.sent _)
        (hist_out ..))
  · -- an entry of the source
    have hsa := hi.src
    cases hsrc : a.src with
    | done => simp [hsrc, SPhase.entries] at hq
    | init q0 arr =>
      simp only [hsrc, SPhase.entries, List.mem_singleton] at hq; subst hq
      rw [hsrc] at hsa
      exact StepsTo.astep (.srcInit a q arr hsrc) (kstep_srcInit fuel hk hsrc hsa.2.2.1 hp)
    | ending q0 =>
      simp only [hsrc, SPhase.entries, List.mem_singleton] at hq; subst hq
      exact StepsTo.astep (.srcEnd a q hsrc) (kstep_srcEnd fuel hk hsrc hp)
    | wait next arr q0 =>
      simp only [hsrc, SPhase.entries, List.mem_singleton] at hq; subst hq
      rw [hsrc] at hsa
      exact StepsTo.astep (.srcPut a q next arr hsrc) (kstep_srcPut fuel hk hsrc hsa.2.2 hsa.2.1 hp)
  · -- a pending `StorePut` event
    obtain ⟨l1, l2, hpe⟩ := List.append_of_mem hq
    by_cases hh : (∃ g t0, a.run = .W g t0) ∧ a.items ≠ []
    · obtain ⟨⟨g, t0, hr⟩, hne⟩ := hh
      cases hit : a.items with
      | nil => exact absurd hit hne
      | cons i is => exact StepsTo.astep (.pendHand a q g t0 i is l1 l2 hpe hr hit) (kstep_pendHand fuel hk hpe hr hit hp)
    · exact StepsTo.astep (.pendNoop a q l1 l2 hpe hh) (kstep_pendNoop fuel hk hpe hh hp)

/-- the kernel state `s` is the configuration `a`, and `a` is sound -/
structure Inv (cfg : TbCfg ℚ) (s : KS) (a : A) : Prop where
  k : KInv s a
  a : AInv cfg a s.now

/-- **one kernel step**: it is `.ok`, is a configuration step, keeps the invariant and uses one unit of the step budget -/
theorem inv_step (fuel : Nat) (h : Inv cfg s a) (hp : popMin s.agenda = some (q, rest)) :
    ∃ s' a' new, step (body size cfg) (fuel + 1) s = .ok s' ∧ Inv cfg s' a' ∧ a'.mu + 1 ≤ a.mu ∧
      AStep size cfg s.events.size s.eid a q a' new ∧ s'.now = q.time ∧ histOf s'.trace = histOf s.trace ++ new := by
  obtain ⟨s', a', new, h1, h2, h3, h4, h5⟩ := kstep (size := size) fuel h.k h.a hp
  obtain ⟨g1, g2⟩ := astep_sound h.a (min_of_pop h.k.ag hp).1 h3
  exact ⟨s', a', new, h1, ⟨h2, by rw [h4]; exact g1⟩, g2, h3, h4, h5⟩

/-- the configuration of the initial state -/
def a0 (cfg : TbCfg ℚ) (arrivals : List ℚ) : A :=
  { run := .init ⟨0, URGENT, 0, 1⟩, src := .init ⟨0, URGENT, 1, 3⟩ arrivals, pend := [], items := [], cts := [],
    level := cfg.bucket, upd := 0, sent := 0 }

theorem inv_init (arrivals : List ℚ) (hg : GapsOK arrivals) (hgood : TokenBucket.Good cfg) (hpk : PeakOK cfg) :
    Inv cfg (initState cfg arrivals) (a0 cfg arrivals) := by
  have h0 := KProc.GInv.empty (σ := St)
    { now := Num.zero
      resources := #[{ kind := .store, capacity := none }]
      shared := [(cRecv, .int 0), (cSent, .int 0), (cLevel, TimeCell.enc cfg.bucket), (cUpd, TimeCell.enc (Num.zero : ℚ))] }
    rfl (fun r => if r = 0 then some {} else none)
    (KProc.stores_one ⟨Nat.one_pos, rfl⟩)
  obtain ⟨S1, hd1, -, h1⟩ := h0.call (self := 0) (cl := .spawn (.bStart Num.zero)) rfl
  obtain ⟨S2, hd2, -, h2⟩ := h1.call (self := 0) (cl := .spawn (.src Num.zero false 0 arrivals)) rfl
  have hS : initState cfg arrivals = S2 := by
    simp only [initState, List.foldl, hd1, hd2]
  rw [hS]
  refine ⟨.of_ginv (st0 := .bStart 0) h2 rfl rfl (fun _ => rfl) rfl rfl rfl
    ⟨rfl, rfl, rfl, rfl, fun _ hk => absurd hk (Nat.not_lt_zero _)⟩, ?_⟩
  have hnow : S2.now = 0 := by rw [← show (KProc.Regs.of S2).now = S2.now from rfl, ← h2.reg]; rfl
  rw [hnow]
  refine ⟨⟨rfl, rfl, rfl, rfl, rfl⟩, ⟨rfl, rfl, hg, rfl⟩, nofun, ?_, nofun, hgood, hpk⟩
  intro x hx
  simp [A.entries, a0, RPhase.entries, SPhase.entries] at hx
  rcases hx with rfl | rfl <;> simp

theorem a0_mu (arrivals : List ℚ) : (a0 cfg arrivals).mu = 6 * arrivals.length + 3 := by
  simp [A.mu, a0, RPhase.mu, SPhase.mu]
  omega

end TBK
