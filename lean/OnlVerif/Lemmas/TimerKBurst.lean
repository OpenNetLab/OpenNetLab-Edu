import OnlVerif.Lemmas.TimerKFrame
import OnlVerif.Lemmas.KStepChain
/-!
# The Timer on the kernel model: what each piece of the program does to an arbitrary kernel state

The attribute cells are described by `Cells sh a` ("the cell list `sh` holds the attributes of the configuration `a`").
Every lemma runs one piece of the program (`tStop`, `tRestart`, `tmWake`, `tmLoop`, `ctlLoop`, `ctlDo`) from a state `S`
that is a variable, under the few facts about `S` the piece reads, and hands the rest of the burst (`cont`) a state that
differs from `S` in named fields only.  The case distinctions of the program (stopped or not, what the callback does,
auto-restart or not) are made here, on the cells, and nowhere else.
-/

namespace TimerK
open TimerOnK

variable {auto : Bool} {arg : Int} {cbs : List (Option Op)}
variable {S : KS} {a : A} {sh : List (Nat × Val)}

/-- the cell list `sh` holds the attributes of the configuration `a` -/
structure Cells (sh : List (Nat × Val)) (a : A) : Prop where
  c0 : lookup sh 0 = .int (if a.stopped then 1 else 0)
  c1 : lookup sh 1 = TimeCell.enc a.expire
  c2 : lookup sh 2 = TimeCell.enc a.timeout
  c3 : lookup sh 3 = TimeCell.enc a.start
  c4 : lookup sh 4 = .ev a.cur
  c5 : lookup sh 5 = .int a.fired
  c6 : lookup sh 6 = .int ((a.dead.length + (oldStat a.old).length + 1 : Nat) : Int)

theorem KInv.cells {s : KS} (hk : KInv s a) : Cells s.shared a := ⟨hk.c0, hk.c1, hk.c2, hk.c3, hk.c4, hk.c5, hk.c6⟩

/-- the cells do not depend on where the processes are -/
theorem Cells.frame (h : Cells sh a) (ph : TPhase) (ctl : CPhase) (noop : List (QEntry ℚ)) :
    Cells sh { a with ph := ph, ctl := ctl, noop := noop } := ⟨h.c0, h.c1, h.c2, h.c3, h.c4, h.c5, h.c6⟩

/-- `Call.store` on the cell list -/
abbrev put (sh : List (Nat × Val)) (k : Nat) (v : Val) : List (Nat × Val) := (k, v) :: sh.filter (·.1 != k)

theorem lookup_put (k k' : Nat) (v : Val) : lookup (put sh k' v) k = if k = k' then v else lookup sh k :=
  lookup_store sh k k' v

theorem Cells.stop (h : Cells sh a) (now : ℚ) :
    Cells (put (put sh 0 (.int 1)) 1 (TimeCell.enc now)) { a with stopped := true, expire := now } := by
  constructor <;> simp only [lookup_put, Nat.reduceEqDiff, if_false, if_true, h.c2, h.c3, h.c4, h.c5, h.c6]

theorem Cells.restart (h : Cells sh a) (now tau : ℚ) :
    Cells (put (put (put sh 3 (TimeCell.enc now)) 2 (TimeCell.enc tau)) 1 (TimeCell.enc (now + tau)))
      { a with start := now, timeout := tau, expire := now + tau } := by
  constructor <;> simp only [lookup_put, Nat.reduceEqDiff, if_false, if_true, h.c0, h.c4, h.c5, h.c6]

theorem Cells.fire (h : Cells sh a) : Cells (put sh 5 (.int (a.fired + 1))) { a with fired := a.fired + 1 } := by
  constructor <;> simp only [lookup_put, Nat.reduceEqDiff, if_false, if_true, h.c0, h.c1, h.c2, h.c3, h.c4, h.c6, Nat.cast_add,
    Nat.cast_one]

theorem Cells.rearm (h : Cells sh a) (now : ℚ) :
    Cells (put sh 1 (TimeCell.enc (now + a.timeout))) { a with expire := now + a.timeout } := by
  constructor <;> simp only [lookup_put, Nat.reduceEqDiff, if_false, if_true, h.c0, h.c2, h.c3, h.c4, h.c5, h.c6]

/-- a new `self.proc`, the previous one on its way out -/
theorem Cells.spawn (h : Cells sh a) (hold : a.old = none) (p : EvId) (o : Old) :
    Cells (put (put sh 4 (.ev p)) 6 (.int (((a.dead.length + (oldStat a.old).length + 1 : Nat) : Int) + 1)))
      { a with cur := p, old := some o } := by
  constructor <;> simp only [lookup_put, Nat.reduceEqDiff, if_false, if_true, h.c0, h.c1, h.c2, h.c3, h.c5, hold, oldStat,
    List.length_singleton, List.length_nil, Nat.add_zero, Nat.cast_add, Nat.cast_one]

theorem runBurst_call (p : EvId) (c : Call ℚ St) (k : Reply → Burst ℚ St) (S : KS) :
    runBurst p (.call c k) S = runBurst p (k (doCall S p c).2) (noteErr p (doCall S p c)) := rfl

variable (p : EvId) (now : ℚ) (cont : Burst ℚ St)

/-- `restart(τ)` when `Process.interrupt` refuses (the caller is `self.proc`, or `self.proc` has finished): the attributes
are written, the refusal is noted -/
theorem runBurst_tRestart_refused (tau : ℚ) (hc : Cells S.shared a) (hk : (S.ev a.cur).kind = .proc)
    (h : (S.ev a.cur).out.isSome = true ∨ (S.ev a.cur).out = none ∧ S.active = some a.cur) :
    ∃ sh x, runBurst p (tRestart now tau cont) S =
        runBurst p cont { S with shared := sh, trace := S.trace.push (.callErr p x S.now) } ∧
      Cells sh { a with start := now, timeout := tau, expire := now + tau } := by
  have h4 : lookup _ 4 = .ev a.cur := (hc.restart now tau).c4
  obtain ⟨x, hx⟩ : ∃ x, ∀ sh, doCall { S with shared := sh } p (.interrupt a.cur (.str "restart timer")) =
      ({ S with shared := sh }, .err x) := by
    rcases h with h | ⟨h, ha⟩
    · exact ⟨_, fun sh => doCall_interrupt_dead { S with shared := sh } _ _ _ hk h⟩
    · exact ⟨_, fun sh => doCall_interrupt_self { S with shared := sh } _ _ _ hk h ha⟩
  refine ⟨_, x, ?_, hc.restart now tau⟩
  simp only [tRestart, loadProc, runBurst_call, doCall_store, doCall_load, noteErr, cStart, cTimeout, cExpire, cProc, h4, hx]
  rfl

/-- `restart(τ)` from outside on a sleeping `self.proc`: the attributes are written, the `Interruption` (event `n`) is
scheduled URGENT, the new process (event `n + 1`) is created with its `Initialize` (event `n + 2`, URGENT) and becomes
`self.proc` -/
theorem runBurst_tRestart_alive (tau : ℚ) (hc : Cells S.shared a) (hold : a.old = none) (hk : (S.ev a.cur).kind = .proc)
    (ho : (S.ev a.cur).out = none) (ha : S.active ≠ some a.cur) :
    ∃ S', runBurst p (tRestart now tau cont) S = runBurst p cont S' ∧
      S'.now = S.now ∧ S'.eid = S.eid + 2 ∧ S'.trace = S.trace ∧ S'.active = S.active ∧
      S'.agenda = ⟨S.now, URGENT, S.eid + 1, S.events.size + 1 + 1⟩ :: ⟨S.now, URGENT, S.eid, S.events.size⟩ :: S.agenda ∧
      S'.events.size = S.events.size + 3 ∧ EvKeep S S' [] ∧
      EvIs S' S.events.size (.intr a.cur) [.intr S.events.size] (some (.fail intrExc)) ∧
      (S'.ev S.events.size).defused = true ∧ EvIs S' (S.events.size + 1) .proc [] none ∧
      EvIs S' (S.events.size + 1 + 1) (.init (S.events.size + 1)) [.resume (S.events.size + 1)] (some (.ok .none)) ∧
      (∀ p', S'.proc? p' =
        if p' = S.events.size + 1 then some ⟨.tmStart now, some (S.events.size + 1 + 1)⟩ else S.proc? p') ∧
      ∀ o, Cells S'.shared
        { a with start := now, timeout := tau, expire := now + tau, cur := S.events.size + 1, old := some o } := by
  have hr := hc.restart now tau
  have h4 : lookup _ 4 = .ev a.cur := hr.c4
  have hi := fun sh => doCall_interrupt_ok { S with shared := sh } p a.cur (.str "restart timer") hk ho ha
  have hev : ∀ (r1 r2 r3 : EvRec ℚ) (e : EvId),
      (((S.events.push r1).push r2).push r3).getD e default =
        if e = S.events.size + 1 + 1 then r3 else if e = S.events.size + 1 then r2 else if e = S.events.size then r1
        else S.events.getD e default := fun r1 r2 r3 e => by
    simp only [getD_push, Array.size_push]
  refine ⟨{ S with
      shared := _
      events := ((S.events.push { kind := .intr a.cur, cbs := some [.intr S.events.size], out := some (.fail intrExc),
                                   defused := true }).push
          { kind := .proc, cbs := some [], out := none, label := S.nlabel + 1 }).push
          { kind := .init (S.events.size + 1), cbs := some [.resume (S.events.size + 1)], out := some (.ok .none) }
      nlabel := S.nlabel + 1
      procs := (S.events.size + 1, { st := .tmStart now, target := some (S.events.size + 1 + 1) }) ::
        S.procs.filter (·.1 != S.events.size + 1)
      agenda := ⟨S.now, URGENT, S.eid + 1, S.events.size + 1 + 1⟩ :: ⟨S.now, URGENT, S.eid, S.events.size⟩ :: S.agenda
      eid := S.eid + 1 + 1 }, ?_, rfl, rfl, rfl, rfl, rfl, by simp only [Array.size_push],
    EvKeep.of_nil ?keep (by simp only [Array.size_push]; omega), ?_, ?_, ?_, ?_, fun p' => plookup_set _ _ _ _,
    fun o => hr.spawn hold (S.events.size + 1) o⟩
  · simp only [tRestart, loadProc, loadInt, runBurst_call, doCall_store, doCall_load, doCall_spawn, noteErr, cStart,
      cTimeout, cExpire, cProc, cStarted, h4, hi, lookup_put, Nat.reduceEqDiff, if_false, hc.c6, Array.size_push]
    rfl
  case keep =>
    intro e he
    show (((S.events.push _).push _).push _).getD e default = _
    rw [hev, if_neg (show ¬ e = S.events.size + 1 + 1 by omega), if_neg (show ¬ e = S.events.size + 1 by omega),
      if_neg (Nat.ne_of_lt he)]; rfl
  all_goals try unfold EvIs
  all_goals simp only [KState.ev, hev, fresh_ne S.events.size, if_false, if_true, and_self]

theorem runBurst_tmRearm (hc : Cells S.shared a) :
    ∃ sh, runBurst p (tmRearm auto now) S = runBurst p (tmLoop now) { S with shared := sh } ∧ Cells sh (rearm auto now a) := by
  cases auto
  · exact ⟨_, rfl, hc⟩
  · refine ⟨_, ?_, hc.rearm now⟩
    simp only [tmRearm, loadTime, runBurst_call, doCall_load, doCall_store, noteErr, cTimeout, cExpire, hc.c2, dec_enc, if_true]

/-- the callback's own call on its timer: a `restart` is refused by `Process.interrupt` (the caller is `self.proc`) -/
theorem runBurst_tCall_self (op : Op) (hc : Cells S.shared a) (hk : (S.ev a.cur).kind = .proc)
    (ho : (S.ev a.cur).out = none) (hact : S.active = some a.cur) :
    ∃ sh tr, runBurst a.cur (tCall now op cont) S = runBurst a.cur cont { S with shared := sh, trace := tr } ∧
      Cells sh (cbCells now a (some op)) ∧ histOf tr = histOf S.trace := by
  cases op with
  | stop => exact ⟨_, _, rfl, hc.stop now, rfl⟩
  | restart tau =>
    obtain ⟨sh, x, h1, h2⟩ := runBurst_tRestart_refused a.cur now cont tau hc hk (Or.inr ⟨ho, hact⟩)
    exact ⟨sh, _, h1, h2, by rw [histOf_push, histOf1_callErr, Option.toList_none, List.append_nil]⟩

/-- `Timer.run` after its sleep, up to the loop test: the callback fires unless `stopped`, the attributes become
`wakeCells` -/
theorem runBurst_tmWake (hc : Cells S.shared a) (hk : (S.ev a.cur).kind = .proc) (ho : (S.ev a.cur).out = none)
    (hact : S.active = some a.cur) :
    ∃ sh tr, runBurst a.cur (tmWake auto arg cbs now) S = runBurst a.cur (tmLoop now) { S with shared := sh, trace := tr } ∧
      Cells sh (wakeCells auto cbs now a) ∧ histOf tr = histOf S.trace ++ wakeFires a S.now := by
  unfold wakeCells wakeFires
  have h0 := hc.c0
  cases hst : a.stopped
  · -- the callback is invoked and counted; what it does to its timer is `r`
    have hrun : ∀ r, cbAt cbs a.fired = r → runBurst a.cur (tmWake auto arg cbs now) S =
        runBurst a.cur (r.elim (tmRearm auto now) fun op => tCall now op (tmRearm auto now))
          { S with trace := S.trace.push (.log a.cur "fire" (.int arg) S.now), shared := put S.shared 5 (.int (a.fired + 1)) } := by
      intro r hr
      rw [hst] at h0
      simp only [tmWake, loadInt, runBurst_call, doCall_load, doCall_log_int, doCall_store, noteErr, cStopped, cFired, h0, hc.c5,
        Bool.false_eq_true, if_false, if_true, hr]
      cases r <;> rfl
    have hh : histOf (S.trace.push (.log a.cur "fire" (.int arg) S.now)) = histOf S.trace ++ [.fire S.now] := by
      rw [histOf_push, histOf1_fire]; rfl
    rw [hrun _ rfl, fireA]
    cases cbAt cbs a.fired with
    | none =>
      obtain ⟨sh, h1, h2⟩ := runBurst_tmRearm (auto := auto) a.cur now (S := { S with trace := _, shared := _ }) hc.fire
      exact ⟨sh, _, h1, h2, hh⟩
    | some op =>
      obtain ⟨sh, tr, h1, h2, h3⟩ := runBurst_tCall_self now (tmRearm auto now) op (S := { S with trace := _, shared := _ })
        hc.fire hk ho hact
      obtain ⟨sh', h4, h5⟩ := runBurst_tmRearm (auto := auto) a.cur now (S := { S with shared := sh, trace := tr }) h2
      exact ⟨sh', tr, h1.trans h4, h5, h3.trans hh⟩
  · refine ⟨S.shared, S.trace, ?_, hc, (List.append_nil _).symm⟩
    rw [hst] at h0
    simp only [tmWake, loadInt, runBurst_call, doCall_load, noteErr, cStopped, h0, if_true, one_ne_zero, if_false]

/-! ## a call from the controller: logged, then made -/

theorem runBurst_ctlDo_stop (hc : Cells S.shared a) :
    ∃ sh tr, runBurst p (ctlDo now .stop cont) S = runBurst p cont { S with shared := sh, trace := tr } ∧
      Cells sh { a with stopped := true, expire := now } ∧ histOf tr = histOf S.trace ++ [.call S.now .stop] :=
  ⟨_, S.trace.push (.log p "stop" .none S.now), by simp only [ctlDo, tStop, runBurst_call, doCall_log_none, doCall_store, noteErr]; rfl,
    hc.stop now, by rw [histOf_push, histOf1_stop]; rfl⟩

theorem runBurst_ctlDo_restart (tau : ℚ) :
    ∃ tr, runBurst p (ctlDo now (.restart tau) cont) S = runBurst p (tRestart now tau cont) { S with trace := tr } ∧
      histOf tr = histOf S.trace ++ [.call S.now (.restart tau)] :=
  ⟨S.trace.push (.log p "restart" (TimeCell.enc tau) S.now), by simp only [ctlDo, runBurst_call, doCall_log_enc, noteErr],
    by rw [histOf_push, histOf1_restart]; rfl⟩

/-- the loop test of `Timer.run`: sleep until `expire_time`, or return -/
theorem runBurst_tmLoop (hc : Cells S.shared a) :
    runBurst p (tmLoop now) S =
      if now < a.expire then
        ((doCall S p (.timeout (a.expire - now) .none)).1, .yielded S.events.size (.tmSleep (now + (a.expire - now))))
      else (S, .returned .none) := by
  simp only [tmLoop, loadTime, runBurst_call, doCall_load, noteErr, cExpire, hc.c1, dec_enc]
  split
  · rename_i h
    simp only [runBurst_call, doCall_timeout _ _ _ _ (sub_nonneg.mpr h.le), noteErr]; rfl
  · rfl

/-- the controller's loop: sleep until the next call, or return -/
theorem runBurst_ctlLoop_cons (gap : ℚ) (op : Op) (sc : List (ℚ × Op)) (hg : 0 ≤ gap) :
    runBurst p (ctlLoop now ((gap, op) :: sc)) S =
      ((doCall S p (.timeout gap .none)).1, .yielded S.events.size (.ctl (now + gap) (some op) sc)) := by
  simp only [ctlLoop, runBurst_call, doCall_timeout _ _ _ _ hg, noteErr]; rfl

/-- the process sleeps on the timeout it has just created: what has changed -/
theorem afterBurst_sleep (body : St → Resume → Burst ℚ St) (fuel : Nat) (pr : ProcRec St) (S : KS) (d : ℚ) (hd : 0 ≤ d)
    (st : St) :
    ∃ S', afterBurst body p fuel pr ((doCall S p (.timeout d .none)).1, .yielded S.events.size st) = S' ∧
      S'.now = S.now ∧ S'.agenda = ⟨S.now + d, NORMAL, S.eid, S.events.size⟩ :: S.agenda ∧ S'.eid = S.eid + 1 ∧
      S'.shared = S.shared ∧ S'.trace = S.trace ∧ EvKeep S S' [] ∧
      EvIs S' S.events.size .timeout [.resume p] (some (.ok .none)) ∧
      ∀ p', S'.proc? p' = if p' = p then some ⟨st, some S.events.size⟩ else S.proc? p' := by
  have : ¬ d < Num.zero := by rw [zero_eq']; exact not_lt.mpr hd
  refine ⟨{ S with
      events := S.events.push { kind := .timeout, cbs := some [.resume p], out := some (.ok .none), label := S.nlabel + 1 }
      nlabel := S.nlabel + 1
      agenda := ⟨S.now + d, NORMAL, S.eid, S.events.size⟩ :: S.agenda
      eid := S.eid + 1
      procs := (p, { st := st, target := some S.events.size }) :: S.procs.filter (·.1 != p)
      active := none }, ?_, rfl, rfl, rfl, rfl, rfl, ⟨TrigMono.of_push S _ _ rfl, ?_⟩, ?_, fun p' => plookup_set _ _ _ _⟩
  · simp [-Array.getD_eq_getD_getElem?, afterBurst, register, doCall, this, KState.newLabelled, KState.schedule,
      KState.setProc, KState.processed, KState.addCb, KState.setEv, KState.ev, getD_push, push_setIfInBounds_size]
  · intro e he _
    show (S.events.push _).getD e default = _
    rw [getD_push, if_neg (Nat.ne_of_lt he)]; rfl
  · unfold EvIs
    rw [show KState.ev _ S.events.size = (S.events.push _).getD S.events.size default from rfl, getD_push, if_pos rfl]
    exact ⟨rfl, rfl, rfl⟩

/-- the generator returns: its process event is triggered (and scheduled NORMAL, now); what has changed -/
theorem finishProc_spec (pr : ProcRec St) (S : KS) (o : Outcome) (hlt : p < S.events.size) :
    ∃ S', finishProc S p pr o = S' ∧
      S'.now = S.now ∧ S'.agenda = ⟨S.now, NORMAL, S.eid, p⟩ :: S.agenda ∧ S'.eid = S.eid + 1 ∧
      S'.shared = S.shared ∧ S'.trace = S.trace.push (.ended p o S.now) ∧ EvKeep S S' [p] ∧
      S'.ev p = { S.ev p with out := some o } ∧ ∀ p', p' ≠ p → S'.proc? p' = S.proc? p' := by
  refine ⟨{ S with
      events := S.events.setIfInBounds p { S.ev p with out := some o }
      agenda := ⟨S.now, NORMAL, S.eid, p⟩ :: S.agenda
      eid := S.eid + 1
      trace := S.trace.push (.ended p o S.now)
      procs := (p, { pr with target := none }) :: S.procs.filter (·.1 != p)
      active := none }, ?_, rfl, rfl, rfl, rfl, rfl,
    ⟨(TrigMono.of_setEv S p { S.ev p with out := some o } rfl (fun _ => rfl)).trans (TrigMono.of_frame rfl), ?_⟩, ?_,
    fun p' hp' => (plookup_set _ _ _ _).trans (if_neg hp')⟩
  · simp [finishProc, KState.trigger, KState.setOut, KState.setEv, KState.schedule, KState.emit, KState.setProc, zero_eq']
  · intro e _ he
    show (S.events.setIfInBounds p _).getD e default = _
    rw [getD_setIfInBounds, if_neg (fun h => he (List.mem_singleton.mpr h.1))]; rfl
  · show (S.events.setIfInBounds p _).getD p default = _
    rw [getD_setIfInBounds, if_pos ⟨rfl, hlt⟩]

/-- the event has not failed, or its failure has been handled: the step ends well -/
theorem closeEvent_ok {S : KS} {e : EvId} (h : ∀ x, (S.ev e).out = some (.fail x) → (S.ev e).defused = true) :
    closeEvent { s := S } e = .ok S := by
  simp only [closeEvent]
  split
  · rename_i x hx; rw [if_pos (h x hx)]
  · rfl

theorem openEvent_keep {s : KS} {q : QEntry ℚ} (rest : List (QEntry ℚ)) : EvKeep s (openEvent s q rest) [q.ev] :=
  ⟨openEvent_trigMono s q rest, fun e _ he => (openEvent_ev s q rest e).trans (if_neg fun h => he (List.mem_singleton.mpr h))⟩

/-- the event of the popped entry has succeeded and its only callback is `_resume` of process `p`: the step is the
burst of `p` from a state `S` that differs from `s` as listed -/
theorem step_resume (body : St → Resume → Burst ℚ St) (fuel : Nat) {s : KS} {q : QEntry ℚ} {rest : List (QEntry ℚ)}
    {pr : ProcRec St} (hp : popMin s.agenda = some (q, rest)) (hcb : (s.ev q.ev).cbs = some [.resume p])
    (hout : (s.ev q.ev).out = some (.ok .none)) (hproc : s.proc? p = some pr) :
    ∃ S r, r = (if (s.ev q.ev).kind = .init p then Resume.start else .value .none) ∧
      step body (fuel + 1) s = closeEvent { s := afterBurst body p fuel pr (runBurst p (body pr.st r) S) } q.ev ∧
      S.now = q.time ∧ S.agenda = rest ∧ S.eid = s.eid ∧ S.shared = s.shared ∧ histOf S.trace = histOf s.trace ∧
      S.active = some p ∧ EvKeep s S [q.ev] ∧ (S.ev q.ev).out = some (.ok .none) ∧
      (∀ p', S.proc? p' = s.proc? p') ∧ S.events.size = s.events.size := by
  have hopen := (openEvent_ev s q rest q.ev).trans (if_pos rfl)
  refine ⟨{ openEvent s q rest with
      active := some p
      trace := s.trace.push (.resumed p (if (s.ev q.ev).kind = .init p then .start else .value .none) q.time) },
    _, rfl, ?_, rfl, rfl, rfl, rfl, ?_, rfl,
    ⟨(openEvent_trigMono s q rest).trans ((TrigMono.krel.active (openEvent s q rest) (some p)).trans (TrigMono.krel.emit _ _)),
      (openEvent_keep rest).keep⟩,
    (congrArg EvRec.out hopen).trans hout, fun _ => rfl,
    Array.size_setIfInBounds ..⟩
  · exact KStepChain.step_resume body fuel s q rest p pr .none _ hp hcb hout rfl hproc
  · rw [histOf_push, histOf1_resumed, Option.toList_none, List.append_nil]

/-- the event of the popped entry has succeeded and has no callbacks: the step only opens it -/
theorem step_nocb (body : St → Resume → Burst ℚ St) (fuel : Nat) {s : KS} {q : QEntry ℚ} {rest : List (QEntry ℚ)} {v : Val}
    (hp : popMin s.agenda = some (q, rest)) (hcb : (s.ev q.ev).cbs = some []) (hout : (s.ev q.ev).out = some (.ok v)) :
    ∃ S, step body (fuel + 1) s = .ok S ∧ S.now = q.time ∧ S.agenda = rest ∧ S.eid = s.eid ∧ S.shared = s.shared ∧
      S.trace = s.trace ∧ EvKeep s S [q.ev] ∧ ∀ p', S.proc? p' = s.proc? p' := by
  refine ⟨openEvent s q rest, ?_, rfl, rfl, rfl, rfl, rfl, openEvent_keep rest, fun _ => rfl⟩
  rw [step_eq _ _ _ _ _ _ hp hcb]
  refine closeEvent_ok fun x hx => ?_
  rw [openEvent_ev, if_pos rfl, show EvRec.out _ = (s.ev q.ev).out from rfl, hout] at hx
  cases hx

/-- the popped entry is the `Interruption` of the sleeping process `p`: `p` is detached from the timeout `t` it sleeps on
(which is left with nothing to do) and resumed with the exception, which counts as handled -/
theorem step_intr (body : St → Resume → Burst ℚ St) (fuel : Nat) {s : KS} {q : QEntry ℚ} {rest : List (QEntry ℚ)}
    {p t : EvId} {st : St} {x : Exc} (hp : popMin s.agenda = some (q, rest))
    (hiv : EvIs s q.ev (.intr p) [.intr q.ev] (some (.fail x))) (hpe : EvIs s p .proc [] none)
    (hproc : s.proc? p = some ⟨st, some t⟩) (hte : EvIs s t .timeout [.resume p] (some (.ok .none)))
    (hne : p ≠ q.ev) (hnt : t ≠ q.ev) :
    ∃ S, step body (fuel + 1) s =
        closeEvent ⟨afterBurst body p fuel ⟨st, some t⟩ (runBurst p (body st (.exc x)) S), none⟩ q.ev ∧
      S.now = q.time ∧ S.agenda = rest ∧ S.eid = s.eid ∧ S.shared = s.shared ∧ histOf S.trace = histOf s.trace ∧
      S.active = some p ∧ EvKeep s S [q.ev, t] ∧ (S.ev q.ev).defused = true ∧ NoopEv S t ∧
      (∀ p', S.proc? p' = s.proc? p') ∧ S.events.size = s.events.size := by
  have hlq : q.ev < s.events.size := hiv.lt
  have hlt : t < s.events.size := hte.lt
  have hopen := openEvent_ev s q rest
  have e1 : ((openEvent s q rest).ev q.ev).kind = .intr p := by rw [hopen, if_pos rfl]; exact hiv.1
  have e2 : (openEvent s q rest).triggered p = false := by
    unfold KState.triggered; rw [hopen, if_neg hne, hpe.2.2]; rfl
  have e3 : (openEvent s q rest).proc? p = some ⟨st, some t⟩ := hproc
  -- the event table after `p` has been detached from `t`
  have hs2 : ∀ e, ((openEvent s q rest).eraseCb t (.resume p)).ev e =
      if e = t then { s.ev t with cbs := some [] } else (openEvent s q rest).ev e := by
    intro e
    unfold KState.eraseCb
    rw [KState.ev_setEv, hopen t, if_neg hnt, hte.2.1]
    by_cases h : e = t
    · rw [if_pos ⟨h, (Array.size_setIfInBounds ..).symm ▸ hlt⟩, if_pos h]
      simp only [Option.map_some, List.erase_cons_head]
    · rw [if_neg (fun hh => h hh.1), if_neg h]
  have e4 : (((openEvent s q rest).eraseCb t (.resume p)).ev q.ev).out = some (.fail x) := by
    rw [hs2, if_neg (Ne.symm hnt), hopen, if_pos rfl]; exact hiv.2.2
  have hs3 : ∀ e, ((KState.defuse { (openEvent s q rest).eraseCb t (.resume p) with active := some p } q.ev).emit
      (.resumed p (.exc x) q.time)).ev e =
      if e = q.ev then { ((openEvent s q rest).eraseCb t (.resume p)).ev q.ev with defused := true }
      else ((openEvent s q rest).eraseCb t (.resume p)).ev e := by
    intro e
    rw [KState.ev_emit]
    unfold KState.defuse
    rw [KState.ev_setEv]
    by_cases h : e = q.ev
    · rw [if_pos ⟨h, by simpa [KState.eraseCb, KState.setEv, openEvent] using hlq⟩, if_pos h]; rfl
    · rw [if_neg (fun hh => h hh.1), if_neg h]; rfl
  refine ⟨((KState.defuse { (openEvent s q rest).eraseCb t (.resume p) with active := some p } q.ev).emit
      (.resumed p (.exc x) q.time)), ?_, rfl, rfl, rfl, rfl, ?_, rfl, ⟨?_, ?_⟩, ?_, ?_, fun _ => rfl, ?_⟩
  · rw [step_eq _ _ _ _ _ _ hp hiv.2.1]
    simp only [List.foldl, runCb, e1, deliverInterrupt, e2, e3, Bool.false_eq_true, if_false]
    rw [resume_eq _ _ _ _ _ _ (show ((openEvent s q rest).eraseCb t (.resume p)).proc? p = _ from hproc)]
    simp only [deliverSt, resumeArg, e4]
    rfl
  · rw [show KState.trace _ = s.trace.push _ from rfl, histOf_push, histOf1_resumed, Option.toList_none, List.append_nil]
  · have m1 : TrigMono (openEvent s q rest) ((openEvent s q rest).eraseCb t (.resume p)) := TrigMono.krel.eraseCb _ _ _
    have m2 := TrigMono.krel.active ((openEvent s q rest).eraseCb t (.resume p)) (some p)
    have m3 := TrigMono.krel.defuse { (openEvent s q rest).eraseCb t (.resume p) with active := some p } q.ev
    exact (openEvent_trigMono s q rest).trans (m1.trans (m2.trans (m3.trans (TrigMono.krel.emit _ _))))
  · intro e _ he
    rw [List.mem_cons, List.mem_singleton, not_or] at he
    rw [hs3, if_neg he.1, hs2, if_neg he.2, hopen, if_neg he.1]
  · rw [hs3, if_pos rfl]
  · unfold NoopEv
    rw [hs3, if_neg hnt, hs2, if_pos rfl]
    exact ⟨rfl, ⟨_, hte.2.2⟩, Or.inl hte.1⟩
  · simp [KState.emit, KState.defuse, KState.eraseCb, KState.setEv, openEvent]

end TimerK
