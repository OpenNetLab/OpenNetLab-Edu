import OnlVerif.Lemmas.TcpLiveTMeasure
/-!
# Every step over paths with delay decreases the measure `tmu` (C16)

What a step does to `muA`, `muW`, the paths and the sender is taken from the `*_effect` lemmas of `TcpLiveDecr.lean`;
what is added here is how the stage (`tG`) and the target instant move.  The timed loop after the step is a variable
`L'` with its three parts given by equations, so that each lemma applies to the record a `TStep` constructor builds.
-/

open TcpScalar TcpSender TcpSink TcpLoop Sender

namespace TcpLive

variable {n : Nat} {L L' : TLoop ℚ}

theorem target_congr (ha : L'.l.acks = L.l.acks) (haT : L'.aT = L.aT) (hd : L'.l.data = L.l.data) (hdT : L'.dT = L.dT)
    (hT : L'.l.snd.timers = L.l.snd.timers) (hP : L'.l.snd.last_ack = L.l.snd.last_ack) :
    target L' = target L ∧ (NewAck L' ↔ NewAck L) ∧ (DataP L' ↔ DataP L) := by
  have hN : NewAck L' ↔ NewAck L := by unfold NewAck; rw [ha, hP]
  have hD : DataP L' ↔ DataP L := by unfold DataP; rw [hd, hP]
  exact ⟨target_stage hN (fun _ => hD) hP (fun _ => by rw [ha, haT]) (fun _ _ => by rw [hd, hdT]) (fun _ _ => by rw [hT]),
    hN, hD⟩

/-- a step that lowers the weight and keeps `muA`, the timers, `last_ack`, the clock and the RTO: the measure drops if
the stage does not move back and, where it stays, the packet that carries the progress keeps its delivery instant -/
theorem tmu_of_stage (hA : muA n L'.l = muA n L.l) (hW : muW L'.l < muW L.l) (hN : NewAck L → NewAck L')
    (hD : DataP L → NewAck L' ∨ DataP L') (hT : L'.l.snd.timers = L.l.snd.timers)
    (hP : L'.l.snd.last_ack = L.l.snd.last_ack) (hn : L'.l.snd.now = L.l.snd.now)
    (hr : L'.l.snd.est.rto = L.l.snd.est.rto)
    (ea : NewAck L → firstT (fun a : AckIn ℚ => L.l.snd.last_ack < a.ackno) L'.l.acks L'.aT =
      firstT (fun a : AckIn ℚ => L.l.snd.last_ack < a.ackno) L.l.acks L.aT)
    (ed : ¬ NewAck L' → DataP L → firstT (fun tx : Tx ℚ => tx.seq = L.l.snd.last_ack) L'.l.data L'.dT =
      firstT (fun tx : Tx ℚ => tx.seq = L.l.snd.last_ack) L.l.data L.dT) : Lt5 (tmu n L') (tmu n L) := by
  by_cases hst : tG L' < tG L
  · exact lt5_2 hA.le hst
  · -- the stage is the same
    have hN' : NewAck L' ↔ NewAck L :=
      ⟨fun c => by_contra fun c' => hst (by rw [tG_zero c]; exact tG_pos c'), hN⟩
    have hD' : ¬ NewAck L → (DataP L' ↔ DataP L) := fun c =>
      ⟨fun d => by_contra fun d' => hst (by rw [tG_one (mt hN'.mp c) d, tG_two c d']; exact Nat.lt_succ_self 1),
       fun d => (hD d).resolve_left (mt hN'.mp c)⟩
    obtain ⟨g2, g3⟩ := tGV_congr hN' hD' (target_stage hN' hD' hP ea ed (fun _ _ => by rw [hT])) hT hP hn hr
    exact lt5_4 hA.le g2.le g3.le hW

theorem Idle.tmu {ts : List ℚ} (h : TInv n L) (q : Idle n L.l L'.l) (hdT : L'.dT = L.dT ++ ts) (haT : L'.aT = L.aT)
    (hlen : L.dT.length + ts.length = L'.l.data.length) : Lt5 (tmu n L') (tmu n L) := by
  have hts : ts = [] := by
    apply List.eq_nil_of_length_eq_zero
    rw [q.data, ← h.dlen] at hlen
    omega
  rw [hts, List.append_nil] at hdT
  exact tmu_of_stage q.muA q.muW (by unfold NewAck; rw [q.acks, q.last_ack]; exact id)
    (by unfold DataP; rw [q.data, q.last_ack]; exact Or.inr) q.timers q.last_ack q.now q.rto
    (fun _ => by rw [q.acks, haT]) (fun _ _ => by rw [q.data, hdT])

theorem tdecr_fire {q : Nat} {ts : List ℚ} (h : TInv n L) (hs : L.l.step (.own (.fire q)) = some L'.l)
    (hdT : L'.dT = L.dT ++ ts) (haT : L'.aT = L.aT) : Lt5 (tmu n L') (tmu n L) := by
  obtain ⟨tr, nt, ht, hwake, hnt, fT, fP, fn, fr, fd, fa, hA, hPk⟩ := fire_effect h.inv hs
  have hrto := h.inv.s.inv.rto_pos
  have hN : NewAck L' ↔ NewAck L := by unfold NewAck; rw [fa, fP]
  have hD : DataP L' ↔ DataP L ∨ q = L.l.snd.last_ack := by unfold DataP; rw [fP, fd, ex_append_one]
  by_cases hp : NewAck L ∨ DataP L
  · -- a packet in flight carries the progress: one expiry fewer can precede its delivery instant
    have hD' : ¬ NewAck L → (DataP L' ↔ DataP L) := fun c =>
      iff_of_true (hD.mpr (Or.inl (hp.resolve_left c))) (hp.resolve_left c)
    have hτ : target L' = target L := target_stage hN hD' fP (fun _ => by rw [fa, haT])
      (fun _ h2 => by rw [fd, hdT]; exact firstT_append _ _ _ h.dlen h2) (fun h1 h2 => absurd hp (not_or.mpr ⟨h1, h2⟩))
    refine lt5_3 hA.le (tG_congr hN hD').le ?_
    rw [tV_pipe hp, tV_pipe (hp.imp hN.mpr fun d => hD.mpr (Or.inl d)), hτ, fT, fn, fr]
    exact fire_V_all ht hwake (now_le_target h (Or.inr hp)) hnt hrto
  · obtain ⟨h1, h2⟩ := not_or.mp hp
    have h1' := mt hN.mp h1
    by_cases hq : q = L.l.snd.last_ack
    · -- the retransmitted copy of the segment at `last_ack` is the progress in flight from now on
      exact lt5_2 hA.le (by rw [tG_two h1 h2, tG_one h1' (hD.mpr (Or.inr hq))]; exact Nat.lt_succ_self 1)
    · have h2' : ¬ DataP L' := fun c => (hD.mp c).elim h2 hq
      have hτ : target L' = target L := target_stage hN (fun _ => iff_of_false h2' h2) fP (fun c => absurd c h1)
        (fun _ c => absurd c h2) (fun _ _ => by rw [fT, wakeOf_set_ne nt hq])
      refine lt5_3 hA.le (by rw [tG_two h1 h2, tG_two h1' h2']) ?_
      rw [tV_none h1 h2, tV_none h1' h2', hτ, fT, fP, fn, fr]
      exact fire_V_P ht hq hwake (now_le_target h (Or.inl (hPk hq))) hnt hrto

theorem dueL_zero {ds : List ℚ} {now t : ℚ} (hlt : now < t) (hd : ∀ d ∈ ds, t ≤ d) : dueL ds now = 0 := by
  unfold dueL
  rw [List.countP_eq_zero]
  intro d hdm
  simpa using lt_of_lt_of_le hlt (hd d hdm)

theorem dueL_pos {ds : List ℚ} {d t : ℚ} (hd : d ∈ ds) (he : d = t) : 0 < dueL ds t := by
  unfold dueL
  rw [List.countP_pos_iff]
  exact ⟨d, hd, by simp [he]⟩

theorem tdecr_tick {t : ℚ} (h : TInv n L) (hs : L.l.step (.own (.tick t)) = some L'.l) (hdT : L'.dT = L.dT)
    (haT : L'.aT = L.aT) (hlt : L.l.snd.now < t) (hd : ∀ d ∈ L.dT, t ≤ d) (ha : ∀ d ∈ L.aT, t ≤ d)
    (hev : L.EventAt t) : Lt5 (tmu n L') (tmu n L) := by
  obtain ⟨fT, fP, fn, fr, fd, fa, hA, hW, hge⟩ := tick_effect h.inv hs
  obtain ⟨hτ, hN, hD⟩ := target_congr fa haT fd hdT fT fP
  refine lt5_5 hA.le (tG_congr hN fun _ => hD).le ?_ hW.le ?_
  · unfold tV
    rw [hτ, fT, fP, fn, fr]
    have hm := need_mono_now (target L) L.l.snd.now t L.l.snd.est.rto h.inv.s.inv.rto_pos hlt.le
    by_cases hc : NewAck L ∨ DataP L
    · rw [if_pos hc, if_pos (hc.imp hN.mpr hD.mpr)]
      exact Nat.add_le_add_right hm _
    · rw [if_neg hc, if_neg (fun c => hc (c.imp hN.mp hD.mp))]
      exact Nat.add_le_add_right hm _
  · -- nothing was due; the event at `t` is now
    unfold tC
    rw [fT, fn, hdT, haT]
    refine tick_count (len := L.l.snd.timers.length + L.dT.length + L.aT.length) ?_ ?_ ?_ ?_
    · rw [← fut_add_due L.l.snd.timers L.l.snd.now, ← futL_add_dueL L.dT L.l.snd.now, ← futL_add_dueL L.aT L.l.snd.now]
      ring
    · rw [← fut_add_due L.l.snd.timers t, ← futL_add_dueL L.dT t, ← futL_add_dueL L.aT t]
      ring
    · rw [due_zero hlt hge, dueL_zero hlt hd, dueL_zero hlt ha]
    · rcases hev with ⟨kv, hkv, _, he⟩ | ⟨d, hdm, he⟩ | ⟨d, hdm, he⟩
      · exact Nat.add_pos_left (Nat.add_pos_left (due_pos hkv ((eqb_iff _ _).mp he)) _) _
      · exact Nat.add_pos_left (Nat.add_pos_right _ (dueL_pos hdm ((eqb_iff _ _).mp he))) _
      · exact Nat.add_pos_right _ (dueL_pos hdm ((eqb_iff _ _).mp he))

theorem tdecr_deliver {t : ℚ} (h : TInv n L) (hs : L.l.step .deliver = some L'.l) (hdT : L'.dT = L.dT.tail)
    (haT : L'.aT = L.aT ++ [t]) : Lt5 (tmu n L') (tmu n L) := by
  obtain ⟨tx, rest, p, hd, f1, f3, f4, hA | ⟨hA, hW, key⟩⟩ := deliver_effect h.inv hs
  · exact lt5_1 hA
  have fP : L'.l.snd.last_ack = L.l.snd.last_ack := by rw [f1]
  -- the ACK that enters the path may acknowledge beyond `last_ack`; the head of the data path leaves it
  have hN : NewAck L' ↔ NewAck L ∨ L.l.snd.last_ack < p := by unfold NewAck; rw [fP, f4, ex_append_one]; rfl
  have hD : DataP L ↔ tx.seq = L.l.snd.last_ack ∨ DataP L' := by
    unfold DataP; rw [fP, f3, hd, List.exists_mem_cons_iff]
  refine tmu_of_stage hA hW (fun c => hN.mpr (Or.inl c))
    (fun d => (hD.mp d).imp (fun e => hN.mpr (Or.inr (key e))) id) (by rw [f1]) fP (by rw [f1]) (by rw [f1])
    (fun h1 => by rw [f4, haT]; exact firstT_append _ _ _ h.alen h1) (fun h1' _ => ?_)
  obtain ⟨d0, dT', hdT0⟩ := List.exists_cons_of_length_pos (l := L.dT) (by rw [h.dlen, hd]; exact Nat.succ_pos _)
  rw [f3, hdT, hd, hdT0]
  exact (firstT_cons_neg (fun y : Tx ℚ => y.seq = L.l.snd.last_ack) fun e => h1' (hN.mpr (Or.inr (key e)))).symm

theorem tdecr_ack {ts : List ℚ} (h : TInv n L) (hs : L.l.step .ackArrive = some L'.l) (hdT : L'.dT = L.dT ++ ts)
    (haT : L'.aT = L.aT.tail) : Lt5 (tmu n L') (tmu n L) := by
  obtain ⟨x, rest, outs, hd, fa, fd, hA | ⟨hdup, hA, hW, fT, fP, fn, fr, _⟩⟩ := ack_effect h.inv hs
  · exact lt5_1 hA
  -- a duplicate leaves the ACK path; what it makes the sender retransmit joins the data path
  have hxn : ¬ L.l.snd.last_ack < x.ackno := Nat.not_lt.mpr hdup.le
  have hN : NewAck L ↔ NewAck L' := by
    unfold NewAck; rw [fP, fa, hd, List.exists_mem_cons_iff]; exact or_iff_right hxn
  refine tmu_of_stage hA hW hN.mp
    (fun ⟨y, hy, e⟩ => Or.inr ⟨y, by rw [fd]; exact List.mem_append_left _ hy, by rw [fP]; exact e⟩) fT fP fn fr
    (fun _ => ?_) (fun _ h2 => by rw [fd, hdT]; exact firstT_append _ _ _ h.dlen h2)
  obtain ⟨a0, aT', haT0⟩ := List.exists_cons_of_length_pos (l := L.aT) (by rw [h.alen, hd]; exact Nat.succ_pos _)
  rw [fa, haT, hd, haT0]
  exact (firstT_cons_neg (fun a : AckIn ℚ => L.l.snd.last_ack < a.ackno) hxn).symm

theorem tstep_decreases (h : TInv n L) (hs : TLoop.TStep L L') : Lt5 (tmu n L') (tmu n L) := by
  cases hs with
  | @burst l' a ts hnt hst hlen _ =>
    cases a with
    | wake fuel =>
      rcases wake_effect h.inv hst with hA | q
      · exact lt5_1 hA
      · exact Idle.tmu (L' := ⟨l', _, _⟩) h q rfl rfl hlen
    | handoff => exact Idle.tmu (L' := ⟨l', _, _⟩) h (handoff_effect hst) rfl rfl hlen
    | fire q => exact tdecr_fire (L' := ⟨l', _, _⟩) h hst rfl rfl
    | tick t => exact absurd rfl (hnt t)
    | ack x =>
      exfalso
      unfold Loop.step at hst
      simp [Loop.isAck] at hst
  | @tick l' t hst hlt hd ha hev => exact tdecr_tick (L' := ⟨l', _, _⟩) h hst rfl rfl hlt hd ha hev
  | @deliver l' t hst _ => exact tdecr_deliver (L' := ⟨l', _, _⟩) h hst rfl rfl
  | @ackArrive l' ts hst hlen _ => exact tdecr_ack (L' := ⟨l', _, _⟩) h hst rfl rfl

end TcpLive
