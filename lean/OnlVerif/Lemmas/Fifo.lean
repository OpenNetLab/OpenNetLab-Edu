import OnlVerif.Lemmas.FifoTrans
/-!
# Generic theorems about FifoServer devices: conservation, FIFO, exactly-once, drain

They hold for every device record `d : Dev ℚ δ` whose functions do not change packet ids
(`IdPreserving d`), for **every** action sequence the LTS accepts.
-/

namespace Fifo
variable {δ : Type}

/-- the device functions hand back the packet they were given (they may recolour / restamp it) -/
structure IdPreserving (d : Dev ℚ δ) : Prop where
  admitPkt : ∀ s now w p, (d.admitPkt s now w p).2.2.id = p.id
  onResume : ∀ s now x y p, (d.onResume s now x y p).2.1.id = p.id
  onFire : ∀ s now k p, (d.onFire s now k p).2.1.id = p.id

/-- ids of the packets the server holds outside the store -/
def inHand (s : FState ℚ δ) : List Nat :=
  (match s.handed with | some p => [p.id] | none => []) ++ (match s.tx with | some (p, _, _) => [p.id] | none => [])

/-- ids of everything held by the device, oldest first -/
def held (s : FState ℚ δ) : List Nat := inHand s ++ s.items.map (·.id)

/-- ids that entered (accepted) and ids that left (forwarded or lost), in order, along one accepted step -/
def entered (a : FAct ℚ) (o : FOut ℚ) : List Nat :=
  match a, o with
  | .put p, .accepted => [p.id]
  | _, _ => []

def left (o : FOut ℚ) : List Nat :=
  match o with
  | .depart p => [p.id]
  | .lost p => [p.id]
  | _ => []

/-- the server is in exactly one place of its loop -/
def Shape (s : FState ℚ δ) : Prop :=
  (s.started = false → s.getPending = false ∧ s.handed = none ∧ s.tx = none) ∧
  (s.started = true → (s.getPending = true ∧ s.handed = none ∧ s.tx = none) ∨
                       (s.getPending = false ∧ s.handed.isSome ∧ s.tx = none) ∨
                       (s.getPending = false ∧ s.handed = none ∧ s.tx.isSome))

/-- what `store.get()` does: take the head item, or block -/
theorem issueGet_cases (s : FState ℚ δ) :
    (∃ p rest, s.items = p :: rest ∧ issueGet s = { s with items := rest, handed := some p }) ∨
    (s.items = [] ∧ issueGet s = { s with getPending := true }) := by
  unfold issueGet
  cases h : s.items with
  | nil => exact Or.inr ⟨rfl, rfl⟩
  | cons p rest => exact Or.inl ⟨p, rest, rfl, rfl⟩

/-- `tick` is admissible exactly in states where nothing is triggered-but-unprocessed and no timeout would be passed -/
theorem tick_ok_iff (d : Dev ℚ δ) (s : FState ℚ δ) (t : ℚ) :
    (∃ s' o, step d s (.tick t) = .ok (s', o)) ↔
      s.now ≤ t ∧ s.started = true ∧ s.handed = none ∧ ¬ (s.getPending = true ∧ s.items ≠ []) ∧
      (∀ p due k, s.tx = some (p, due, k) → t ≤ due) :=
  ⟨fun ⟨_, _, h⟩ => tickOk_of_step h, fun h => ⟨_, _, step_tick d h⟩⟩

theorem shape_of_handed {s : FState ℚ δ} (h : Shape s) {p} (hp : s.handed = some p) :
    s.started = true ∧ s.getPending = false ∧ s.tx = none := by
  have hst : s.started = true := by
    by_contra hc
    rw [(h.1 (by simpa using hc)).2.1] at hp; cases hp
  rcases h.2 hst with h1 | h1 | h1
  · rw [h1.2.1] at hp; cases hp
  · exact ⟨hst, h1.1, h1.2.2⟩
  · rw [h1.2.1] at hp; cases hp

theorem shape_of_tx {s : FState ℚ δ} (h : Shape s) {x} (hx : s.tx = some x) :
    s.started = true ∧ s.getPending = false ∧ s.handed = none := by
  have hst : s.started = true := by
    by_contra hc
    rw [(h.1 (by simpa using hc)).2.2] at hx; cases hx
  rcases h.2 hst with h1 | h1 | h1
  · rw [h1.2.2] at hx; cases hx
  · rw [h1.2.2] at hx; cases hx
  · exact ⟨hst, h1.1, h1.2.1⟩

theorem shape_of_pending {s : FState ℚ δ} (h : Shape s) (hg : s.getPending = true) :
    s.started = true ∧ s.handed = none ∧ s.tx = none := by
  have hst : s.started = true := by
    by_contra hc
    rw [(h.1 (by simpa using hc)).1] at hg; cases hg
  rcases h.2 hst with h1 | h1 | h1
  · exact ⟨hst, h1.2⟩
  · rw [h1.1] at hg; cases hg
  · rw [h1.1] at hg; cases hg

theorem issueGet_ok (s : FState ℚ δ) (hst : s.started = true) (hg : s.getPending = false) (hh : s.handed = none)
    (ht : s.tx = none) : held (issueGet s) = s.items.map (·.id) ∧ Shape (issueGet s) := by
  rcases issueGet_cases s with ⟨p, rest, hi, he⟩ | ⟨hi, he⟩ <;> rw [he]
  · simp [held, inHand, ht, Shape, hst, hg, hi]
  · simp [held, inHand, hh, ht, Shape, hst]

/-- **One step conserves packets**: what was held plus what entered = what left plus what is held now,
as *lists* (so order is preserved and nothing is duplicated). -/
theorem step_conserves (d : Dev ℚ δ) (hd : IdPreserving d) (s s' : FState ℚ δ) (a : FAct ℚ) (o : FOut ℚ)
    (hsh : Shape s) (h : step d s a = .ok (s', o)) :
    held s ++ entered a o = left o ++ held s' ∧ Shape s' := by
  -- the packet in hand (`q`, with the id it came with) leaves: the server goes back to `get` with the store content
  have leave : ∀ (s1 : FState ℚ δ) (p q : Pkt ℚ), held s = p.id :: s.items.map (·.id) → q.id = p.id →
      s1.started = true → s1.getPending = false → s1.handed = none → s1.tx = none → s1.items = s.items →
      held s ++ [] = [q.id] ++ held (issueGet s1) ∧ Shape (issueGet s1) := by
    intro s1 p q hs hq h1 h2 h3 h4 h5
    have := issueGet_ok s1 h1 h2 h3 h4
    exact ⟨by rw [this.1, hs, hq, h5]; simp, this.2⟩
  refine step_elim h (R := fun s' o => held s ++ entered a o = left o ++ held s' ∧ Shape s') ?_ ?_ ?_ ?_ ?_ ?_ ?_
  · rintro rfl hst
    obtain ⟨hg, hh, ht⟩ := hsh.1 hst
    have := issueGet_ok { s with started := true } rfl hg hh ht
    exact ⟨by rw [this.1]; simp [held, inHand, hh, ht, entered, left], this.2⟩
  · rintro p rfl hc
    exact ⟨by simp [held, inHand, entered, left, hd.admitPkt], hsh⟩
  · rintro p rfl hc
    exact ⟨by simp [held, inHand, entered, left], hsh⟩
  · rintro p rest rfl hg hi
    obtain ⟨hst, hh, ht⟩ := shape_of_pending hsh hg
    exact ⟨by simp [held, inHand, hh, ht, hi, entered, left], by simp [Shape, hst, ht]⟩
  · rintro x y p rfl hp
    obtain ⟨hst, hg, ht⟩ := shape_of_handed hsh hp
    unfold Go
    split
    iterate 2 exact leave _ p _ (by simp [held, inHand, hp, ht]) (hd.onResume _ _ _ _ _) hst hg rfl rfl rfl
    · exact ⟨by simp [held, inHand, hp, ht, entered, left, hd.onResume], by simp [Shape, hst, hg]⟩
    · trivial
  · rintro p k rfl htx
    obtain ⟨hst, hg, hh⟩ := shape_of_tx hsh htx
    unfold Go
    split
    iterate 2 exact leave _ p _ (by simp [held, inHand, hh, htx]) (hd.onFire _ _ _ _) hst hg hh rfl rfl
    · exact ⟨by simp [held, inHand, hh, htx, entered, left, hd.onFire], by simp [Shape, hst, hg, hh]⟩
    · trivial
  · rintro t rfl _
    exact ⟨by simp [held, inHand, entered, left], hsh⟩

/-- run an action sequence; the result collects (entered, left) id lists in order -/
def runActs (d : Dev ℚ δ) : FState ℚ δ → List (FAct ℚ) → Except String (FState ℚ δ × List Nat × List Nat)
  | s, [] => .ok (s, [], [])
  | s, a :: as =>
    match step d s a with
    | .error m => .error m
    | .ok (s1, o) =>
      match runActs d s1 as with
      | .error m => .error m
      | .ok (s2, ins, outs) => .ok (s2, entered a o ++ ins, left o ++ outs)

theorem runActs_cons_ok {d : Dev ℚ δ} {s s' : FState ℚ δ} {a : FAct ℚ} {as : List (FAct ℚ)} {ins outs : List Nat}
    (h : runActs d s (a :: as) = .ok (s', ins, outs)) :
    ∃ s1 o ins1 outs1, step d s a = .ok (s1, o) ∧ runActs d s1 as = .ok (s', ins1, outs1) ∧
      ins = entered a o ++ ins1 ∧ outs = left o ++ outs1 := by
  simp only [runActs] at h
  split at h
  · cases h
  · rename_i s1 o h1
    split at h
    · cases h
    · rename_i s2 ins1 outs1 h2
      cases h
      exact ⟨s1, o, ins1, outs1, h1, h2, rfl, rfl⟩

theorem run_induct (d : Dev ℚ δ) (P : FState ℚ δ → Prop)
    (hstep : ∀ s a s' o, P s → step d s a = .ok (s', o) → P s')
    (as : List (FAct ℚ)) (s s' : FState ℚ δ) (ins outs : List Nat) (h0 : P s)
    (h : runActs d s as = .ok (s', ins, outs)) : P s' := by
  induction as generalizing s ins outs with
  | nil => cases h; exact h0
  | cons a as ih =>
    obtain ⟨s1, o, ins1, outs1, h1, h2, _, _⟩ := runActs_cons_ok h
    exact ih s1 ins1 outs1 (hstep s a s1 o h0 h1) h2

/-- **Conservation and order over whole runs**: for every admissible action sequence,
held-before ++ entered = left ++ held-after, as lists of packet ids. -/
theorem run_conserves (d : Dev ℚ δ) (hd : IdPreserving d) (as : List (FAct ℚ)) (s s' : FState ℚ δ)
    (ins outs : List Nat) (hsh : Shape s) (h : runActs d s as = .ok (s', ins, outs)) :
    held s ++ ins = outs ++ held s' ∧ Shape s' := by
  induction as generalizing s ins outs with
  | nil => cases h; exact ⟨List.append_nil _, hsh⟩
  | cons a as ih =>
    obtain ⟨s1, o, ins1, outs1, h1, h2, rfl, rfl⟩ := runActs_cons_ok h
    have c1 := step_conserves d hd s s1 a o hsh h1
    have c2 := ih s1 ins1 outs1 c1.2 h2
    refine ⟨?_, c2.2⟩
    rw [← List.append_assoc, c1.1, List.append_assoc, c2.1, List.append_assoc]

def init (dev : δ) (t0 : ℚ) : FState ℚ δ := { now := t0, dev := dev }

theorem init_shape (dev : δ) (t0 : ℚ) : Shape (init dev t0) := by simp [Shape, init]

theorem init_held (dev : δ) (t0 : ℚ) : held (init dev t0) = [] := by simp [held, inHand, init]

/-- a state in which the clock may advance and no timeout is outstanding -/
def Quiescent (s : FState ℚ δ) : Prop :=
  s.started = true ∧ s.handed = none ∧ s.tx = none ∧ ¬ (s.getPending = true ∧ s.items ≠ [])

/-- **Drain**: at quiescence nothing is held. -/
theorem quiescent_held_empty (s : FState ℚ δ) (hsh : Shape s) (hq : Quiescent s) : held s = [] := by
  obtain ⟨hst, hh, htx, hni⟩ := hq
  rcases hsh.2 hst with h1 | h1 | h1
  · have : s.items = [] := by
      by_contra hc
      exact hni ⟨h1.1, hc⟩
    simp [held, inHand, hh, htx, this]
  · rw [hh] at h1; simp at h1
  · rw [htx] at h1; simp at h1

/-- **First in first out, nothing duplicated, nothing vanishes**: from the initial state the accepted packets are, in
order, exactly those that left followed by those still held; at quiescence all have left -/
theorem run_fifo (d : Dev ℚ δ) (hd : IdPreserving d) (dev : δ) (t0 : ℚ) {as : List (FAct ℚ)} {s : FState ℚ δ}
    {ins outs : List Nat} (h : runActs d (init dev t0) as = .ok (s, ins, outs)) :
    ins = outs ++ held s ∧ (Quiescent s → ins = outs) := by
  have hc := run_conserves d hd as (init dev t0) s ins outs (init_shape _ _) h
  have hio : ins = outs ++ held s := by rw [← hc.1, init_held, List.nil_append]
  exact ⟨hio, fun hq => by rw [hio, quiescent_held_empty s hc.2 hq, List.append_nil]⟩

end Fifo
