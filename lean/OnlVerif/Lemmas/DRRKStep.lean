import OnlVerif.Lemmas.DRRKCfg
/-!
# The DRR scheduler on the kernel model: the kernel steps

Each kernel step is computed on the configuration `cfgOf a` by the machine of `Lemmas/KProcDefs.lean`, and `StepsTo.of_ginv`
reads the configuration `a'` of the state after the step off the result.  The long yield-free pieces come as lemmas of their
own (the loops of `run`: `reaches_burst`; the counters of `put`: `hrun_putTail`); the machine is run on what is left: the calls
that create events and the end of the burst.
-/

namespace DRRK
open DRROnK
open KProc

variable {flow size : Int → Nat} {F : Nat} {Q : Nat → ℚ} {rate : ℚ} {ws : List (Nat × Nat)} {P : Nat}
variable {s : KS} {a : A} {q : QEntry ℚ} {rest : List (QEntry ℚ)}

/-- the kernel step of the program `pg` from `s` pops `q` and succeeds in a state with configuration `a'`, having observed `new` -/
def StepsTo (flow : Int → Nat) (F : Nat) (Q : Nat → ℚ) (pg : St → Resume → Burst ℚ St) (fuel : Nat) (s : KS) (q : QEntry ℚ)
    (a' : A) (new : List (HEv ℚ)) : Prop :=
  ∃ s', step pg (fuel + 1) s = .ok s' ∧ KInv flow F Q s' a' ∧ s'.now = q.time ∧ histOf s'.trace = histOf s.trace ++ new

/-- a state that is the configuration `c'` the machine has computed has the configuration `a'` that `c'` displays -/
theorem KInv.of_ginv {s' : KS} {c' : Cfg St} {a' : A} (st0 : St) (hg : GInv s' c')
    (ht : c'.threads = runThread flow a'.run :: (srcThreads st0 a'.src ++ childThreads a'.run)) (hp : c'.pend = a'.pend)
    (hs : c'.stores = storesOf F a'.run.getQ a'.tokens a'.items) (hl : c'.loose = []) (hcur : c'.cur = none)
    (hr : a'.run.OK) (hps : ∀ u ∈ a'.pend, u.2 < F + 1) (hc : Cells F Q c'.reg.cells a') : KInv flow F Q s' a' := by
  have hreg := hg.reg
  have hc' : c' = cfgOf flow F a' (Regs.of s') st0 := hg.cfg_eq ht hp (congrFun hs) hl hcur
  exact ⟨hr, hps, ⟨st0, hc' ▸ hg⟩, hreg ▸ hc⟩

theorem StepsTo.of_ginv {pg : St → Resume → Burst ℚ St} {fuel : Nat} {c' : Cfg St} {a' : A} {new : List (HEv ℚ)} (st0 : St)
    (h : ∃ s', step pg (fuel + 1) s = .ok s' ∧ GInv s' c')
    (ht : c'.threads = runThread flow a'.run :: (srcThreads st0 a'.src ++ childThreads a'.run)) (hp : c'.pend = a'.pend)
    (hs : c'.stores = storesOf F a'.run.getQ a'.tokens a'.items) (hl : c'.loose = []) (hcur : c'.cur = none)
    (hr : a'.run.OK) (hps : ∀ u ∈ a'.pend, u.2 < F + 1) (hc : Cells F Q c'.reg.cells a') (hnow : c'.reg.now = q.time)
    (hh : histOf c'.reg.trace = histOf s.trace ++ new) : StepsTo flow F Q pg fuel s q a' new := by
  obtain ⟨s', hstep, hg⟩ := h
  rw [hg.reg] at hnow hh
  exact ⟨s', hstep, .of_ginv st0 hg ht hp hs hl hcur hr hps hc, hnow, hh⟩

theorem hist_resumed (tr : Array (Obs ℚ)) (p : EvId) (r : Resume) (t : ℚ) : histOf (tr.push (.resumed p r t)) = histOf tr := by
  rw [histOf_push]; exact List.append_nil _

/-! ## the source -/

/-- the sender is not the source -/
theorem child_ne_src {st0 : St} (hg : GInv s (cfgOf flow F a (Regs.of s) st0)) {t : Thread St} (ht : srcThreads st0 a.src = [t]) :
    ∀ th ∈ childThreads a.run, th.pid ≠ t.pid :=
  fun th h => ((pids_cfgOf hg).2.2 th h).2.2 t (ht ▸ List.mem_singleton_self t)

/-- a burst of the source that has come, in the configuration `C` (which displays `a'` but for the source), to the arrivals
`arr` still to come: the source sleeps until the next one, or its generator returns, and `a'` says so -/
theorem src_ends (fuel : Nat) (hok : a.run.OK) {st0 : St} (hg : GInv s (cfgOf flow F a (Regs.of s) st0)) {st : St} {w : Wait}
    {arg : Resume} (hth : srcThreads st0 a.src = [⟨2, st, w, some []⟩]) (hw : w.resumes = some (q, arg))
    (hst : ∀ r q' v, w ≠ .getH r q' v) (hp : popMin s.agenda = some (q, rest)) {C : Cfg St} {arr : List (ℚ × Int)}
    (hb : hrun 2 (body F flow size rate ws P st arg) (hbegin (cfgOf flow F a (Regs.of s) st0) 2 q arg) = hrun 2 (srcLoop arr) C)
    (hgap : ∀ x ∈ arr, 0 ≤ x.1) {a' : A} {new : List (HEv ℚ)} (hrun : a'.run = a.run)
    (hsrc : a'.src = srcNext q.time C.reg.eid C.reg.evSize arr)
    (ht : C.threads = runThread flow a.run :: (⟨2, st, .running, some []⟩ :: childThreads a.run)) (hp' : C.pend = a'.pend)
    (hs : C.stores = storesOf F a.run.getQ a'.tokens a'.items) (hl : C.loose = []) (hcur : C.cur = some q.ev)
    (hps : ∀ u ∈ a'.pend, u.2 < F + 1) (hc : Cells F Q C.reg.cells a') (hnow : C.reg.now = q.time)
    (hh : histOf C.reg.trace = histOf s.trace ++ new) : StepsTo flow F Q (body F flow size rate ws P) fuel s q a' new := by
  cases C
  cases a'
  simp only at hrun hsrc ht hp' hs hl hcur hps hc hnow hh
  subst hrun hsrc ht hp' hs hl hcur
  have he := fun c' h => hg.step_resume (c' := c') (body F flow size rate ws P) fuel (src_mem (hth ▸ List.mem_singleton_self _))
    hw (fun r q' v hh => absurd hh (hst r q' v)) hp ((hresume_eq _ _ _ hw).trans ((hend_congr hb).trans h))
  rcases arr with _ | ⟨⟨gap, id⟩, r⟩
  · exact .of_ginv st (he _ (by heval [srcLoop, pid_runThread, skip (child_ne_src hg hth), hnow]; rfl))
      rfl rfl rfl rfl rfl hok hps hc rfl (by simp [histOf_push, hh])
  · exact .of_ginv st0 (he _ (by heval [srcLoop, bad, pid_runThread, modTh_none (child_ne_src hg hth), hnow, hgap _ List.mem_cons_self]; rfl))
      rfl rfl rfl rfl rfl hok hps hc rfl hh

/-- the `Initialize` event of the source: it sleeps until the first arrival, or returns at once -/
theorem kstep_srcInit (fuel : Nat) (hk : KInv flow F Q s a) {arr : List (ℚ × Int)} (hph : a.src = .init q arr)
    (hgap : ∀ x ∈ arr, 0 ≤ x.1) (hp : popMin s.agenda = some (q, rest)) :
    StepsTo flow F Q (body F flow size rate ws P) fuel s q { a with src := srcNext q.time s.eid s.events.size arr } [] := by
  obtain ⟨hok, hps, ⟨st0, hg⟩, hc⟩ := hk
  have hth : srcThreads st0 a.src = [⟨2, .src none arr, .init q, some []⟩] := hph ▸ rfl
  exact src_ends fuel hok hg hth rfl nofun hp
    (by heval [cfgOf, pid_runThread, hth, List.cons_append, List.nil_append, modTh_none (child_ne_src hg hth)]; rfl)
    hgap rfl rfl rfl rfl rfl rfl rfl hps hc rfl (by simp [histOf_push, Regs.of])

/-- the attribute cells after the four counters of `put` have been written -/
def putCells (f : Nat → Val) (a : A) (c : Nat) (sz : Int) : Nat → Val :=
  KProc.upd (KProc.upd (KProc.upd (KProc.upd f cRecv (.int (a.recv + 1))) (cCount c) (.int (a.cnt c + 1))) (cBytes c)
    (.int (a.byt c + sz))) (cCls c) (.int (a.ccnt c + 1))

theorem Cells.put {f : Nat → Val} (hc : Cells F Q f a) (c : Nat) (sz : Int) :
    Cells F Q (putCells f a c sz) { a with recv := a.recv + 1, cnt := upd a.cnt c (a.cnt c + 1), byt := upd a.byt c (a.byt c + sz),
                                           ccnt := upd a.ccnt c (a.ccnt c + 1) } :=
  (((hc.setRecv (a.recv + 1)).setCount c (a.cnt c + 1)).setBytes c (a.byt c + sz)).setCls c (a.ccnt c + 1)

/-- `put` from the counters on, up to `self.stores[class_id].put(packet)`: they are written, the call is observed -/
theorem hrun_putTail {p : EvId} {C : Cfg St} {f : Nat → Val} (hc : Cells F Q f a) {id : Int} (hfid : flow id < F)
    (cont : Burst ℚ St) (hf : C.reg.cells = f) :
    hrun p (putTail flow size id cont) C =
      hrun p (.call (.sput (flowStore (flow id)) id) fun rp => match rp with
          | .ev _ => cont
          | rp => bad rp)
        (C.wr (putCells f a (flow id) (size id)) (C.reg.trace.push (.log p "put" (.int id) C.reg.now))) := by
  subst hf
  heval [putTail, addInt, addDD, addKeyInt, loadInt, loadDD, loadKey, hc.c0, hc.cc _ hfid, hc.cb _ hfid, hc.cq _ hfid, drrk,
    putCells]
  rfl

/-- the source's timeout: `put(packet)` finds the system empty and posts a wake-up token, counts the packet and stores it;
then the source sleeps until the next arrival or returns -/
theorem kstep_srcPutTok (fuel : Nat) (hk : KInv flow F Q s a) {id : Int} {arr : List (ℚ × Int)} (hph : a.src = .wait id arr q)
    (hfid : flow id < F) (htot : a.total F = 0) (hgap : ∀ x ∈ arr, 0 ≤ x.1) (hp : popMin s.agenda = some (q, rest)) :
    StepsTo flow F Q (body F flow size rate ws P) fuel s q { a with
        src := srcNext q.time (s.eid + 1 + 1) (s.events.size + 1 + 1) arr
        pend := a.pend ++ [(⟨q.time, NORMAL, s.eid, s.events.size⟩, 0),
                           (⟨q.time, NORMAL, s.eid + 1, s.events.size + 1⟩, flowStore (flow id))]
        tokens := a.tokens + 1
        items := upd a.items (flow id) (a.items (flow id) ++ [id])
        cnt := upd a.cnt (flow id) (a.cnt (flow id) + 1)
        byt := upd a.byt (flow id) (a.byt (flow id) + (size id : Int))
        recv := a.recv + 1
        keys := addKey a.keys (flow id)
        ccnt := upd a.ccnt (flow id) (a.ccnt (flow id) + 1) } [.put id q.time] := by
  obtain ⟨hok, hps, ⟨st0, hg⟩, hc⟩ := hk
  have hth : srcThreads st0 a.src = [⟨2, .src (some id) arr, .sleep q, some []⟩] := hph ▸ rfl
  have hps' : ∀ u ∈ a.pend ++ [(⟨q.time, NORMAL, s.eid, s.events.size⟩, 0),
      (⟨q.time, NORMAL, s.eid + 1, s.events.size + 1⟩, flowStore (flow id))], u.2 < F + 1 := by
    intro u hu
    rcases List.mem_append.mp hu with hu | hu
    · exact hps u hu
    · simp only [List.mem_cons, List.not_mem_nil, or_false] at hu
      rcases hu with rfl | rfl
      · exact Nat.succ_pos F
      · show 1 + flow id < F + 1
        omega
  exact src_ends fuel hok hg hth rfl nofun hp
    (by simp only [body, schedPut]
        rw [hrun_total a.cnt _ hc.cc, show sumFrom a.cnt 0 F = 0 from htot]
        heval [hrun_putTail hc hfid, cfgOf, pid_runThread, hth, List.cons_append, List.nil_append, modTh_none (child_ne_src hg hth), storesOf_tok,
          storesOf_flow _ _ _ hfid, drrk]
        rfl)
    hgap rfl rfl rfl (List.append_assoc ..)
    (by rw [← List.replicate_succ', storesOf_set_tok, storesOf_set_flow _ _ _ hfid]) rfl rfl hps' (hc.put (flow id) (size id)) rfl
    (by simp [histOf_push, Regs.of])

/-- the source's timeout: `put(packet)` with packets in the system: no token; it counts the packet and stores it; then the
source sleeps until the next arrival or returns -/
theorem kstep_srcPutPlain (fuel : Nat) (hk : KInv flow F Q s a) {id : Int} {arr : List (ℚ × Int)} (hph : a.src = .wait id arr q)
    (hfid : flow id < F) (htot : a.total F ≠ 0) (hgap : ∀ x ∈ arr, 0 ≤ x.1) (hp : popMin s.agenda = some (q, rest)) :
    StepsTo flow F Q (body F flow size rate ws P) fuel s q { a with
        src := srcNext q.time (s.eid + 1) (s.events.size + 1) arr
        pend := a.pend ++ [(⟨q.time, NORMAL, s.eid, s.events.size⟩, flowStore (flow id))]
        items := upd a.items (flow id) (a.items (flow id) ++ [id])
        cnt := upd a.cnt (flow id) (a.cnt (flow id) + 1)
        byt := upd a.byt (flow id) (a.byt (flow id) + (size id : Int))
        recv := a.recv + 1
        keys := addKey a.keys (flow id)
        ccnt := upd a.ccnt (flow id) (a.ccnt (flow id) + 1) } [.put id q.time] := by
  obtain ⟨hok, hps, ⟨st0, hg⟩, hc⟩ := hk
  have hth : srcThreads st0 a.src = [⟨2, .src (some id) arr, .sleep q, some []⟩] := hph ▸ rfl
  have hps' : ∀ u ∈ a.pend ++ [(⟨q.time, NORMAL, s.eid, s.events.size⟩, flowStore (flow id))], u.2 < F + 1 := by
    intro u hu
    rcases List.mem_append.mp hu with hu | hu
    · exact hps u hu
    · rw [List.mem_singleton.mp hu]
      show 1 + flow id < F + 1
      omega
  exact src_ends fuel hok hg hth rfl nofun hp
    (by simp only [body, schedPut]
        rw [hrun_total a.cnt _ hc.cc, if_neg (show ¬ sumFrom a.cnt 0 F = 0 from htot)]
        heval [hrun_putTail hc hfid, cfgOf, pid_runThread, hth, List.cons_append, List.nil_append, modTh_none (child_ne_src hg hth),
          storesOf_flow _ _ _ hfid]
        rfl)
    hgap rfl rfl rfl rfl (storesOf_set_flow _ _ _ hfid _) rfl rfl hps' (hc.put (flow id) (size id)) rfl
    (by simp [histOf_push, Regs.of])

/-- the process event of the finished source: nobody waits for it -/
theorem kstep_srcEnd (fuel : Nat) (hk : KInv flow F Q s a) (hph : a.src = .ending q) (hp : popMin s.agenda = some (q, rest)) :
    StepsTo flow F Q (body F flow size rate ws P) fuel s q { a with src := .done } [] := by
  obtain ⟨hok, hps, ⟨st0, hg⟩, hc⟩ := hk
  obtain ⟨run, src, pend, tokens, items, cnt, byt, recv, cur, keys, ccnt, dfc, hol, forf⟩ := a
  subst hph
  exact .of_ginv st0 (hg.step_finish (body F flow size rate ws P) fuel (src_mem (List.mem_singleton_self _)) rfl hp
      (by heval [cfgOf, pid_runThread, srcThreads, List.cons_append, List.nil_append, (skip (child_ne_src hg rfl)).2.2]; rfl))
    rfl rfl rfl rfl rfl hok hps hc rfl (by simp [Regs.of])

/-! ## the pending `StorePut` events -/

theorem pend_perm {pend l1 l2 : List (QEntry ℚ × ResId)} {u : QEntry ℚ × ResId} (hpe : pend = l1 ++ u :: l2) :
    pend.Perm (u :: (l1 ++ l2)) := hpe ▸ List.perm_middle

/-- a `StorePut` event is processed (`_trigger_get`) and nobody can be served: nothing happens -/
theorem kstep_pendNoop (fuel : Nat) (hk : KInv flow F Q s a) {r : ResId} {l1 l2 : List (QEntry ℚ × ResId)}
    (hpe : a.pend = l1 ++ (q, r) :: l2) (hno : ¬ (r = 0 ∧ a.tokens ≠ 0 ∧ ∃ g, a.run = .W g))
    (hp : popMin s.agenda = some (q, rest)) :
    StepsTo flow F Q (body F flow size rate ws P) fuel s q { a with pend := l1 ++ l2 } [] := by
  obtain ⟨hok, hps, ⟨st0, hg⟩, hc⟩ := hk
  have hr : r < F + 1 := hps (q, r) (by rw [hpe]; exact List.mem_append_right _ List.mem_cons_self)
  have hps' : ∀ u ∈ l1 ++ l2, u.2 < F + 1 := fun u hu => hps u ((pend_perm hpe).symm.subset (List.mem_cons_of_mem _ hu))
  obtain ⟨run, src, pend, tokens, items, cnt, byt, recv, cur, keys, ccnt, dfc, hol, forf⟩ := a
  have he : hpend (cfgOf flow F ⟨run, src, pend, tokens, items, cnt, byt, recv, cur, keys, ccnt, dfc, hol, forf⟩ (Regs.of s) st0)
      (q, r) (l1 ++ l2) = some { cfgOf flow F ⟨run, src, pend, tokens, items, cnt, byt, recv, cur, keys, ccnt, dfc, hol, forf⟩
        (Regs.of s) st0 with reg := { Regs.of s with now := q.time }, pend := l1 ++ l2 } := by
    cases r with
    | succ c => heval [cfgOf, storesOf, show c < F from Nat.lt_of_succ_lt_succ hr]
    | zero =>
      by_cases hW : ∃ g, run = .W g
      · obtain ⟨g, rfl⟩ := hW
        have htk : tokens = 0 := by
          by_contra h
          exact hno ⟨rfl, h, g, rfl⟩
        subst htk
        heval [cfgOf, storesOf, runThread, RPhase.getQ, beq_self_eq_true, List.replicate]
      · heval [cfgOf, storesOf, getQ_eq_nil hW]
  exact .of_ginv st0 (hg.step_pend (body F flow size rate ws P) (fuel + 1) (u := (q, r)) (pend_perm hpe) hp he)
    rfl rfl rfl rfl rfl hok hps' hc rfl (by simp [Regs.of])

/-- the `StorePut` of a wake-up token is processed while `run` is blocked on the wake-up store: the token is handed over,
the `StoreGet` event of `run` is triggered -/
theorem kstep_pendHand (fuel : Nat) (hk : KInv flow F Q s a) {g : EvId} {t : Nat} {l1 l2 : List (QEntry ℚ × ResId)}
    (hpe : a.pend = l1 ++ (q, 0) :: l2) (hph : a.run = .W g) (htk : a.tokens = t + 1) (hp : popMin s.agenda = some (q, rest)) :
    StepsTo flow F Q (body F flow size rate ws P) fuel s q
      { a with pend := l1 ++ l2, run := .K g ⟨q.time, NORMAL, s.eid, g⟩, tokens := t } [] := by
  obtain ⟨hok, hps, ⟨st0, hg⟩, hc⟩ := hk
  have hps' : ∀ u ∈ l1 ++ l2, u.2 < F + 1 := fun u hu => hps u ((pend_perm hpe).symm.subset (List.mem_cons_of_mem _ hu))
  obtain ⟨run, src, pend, tokens, items, cnt, byt, recv, cur, keys, ccnt, dfc, hol, forf⟩ := a
  subst hph htk
  exact .of_ginv st0 (hg.step_pend (body F flow size rate ws P) (fuel + 1) (u := (q, 0)) (pend_perm hpe) hp
      (by heval [cfgOf, storesOf, runThread, childThreads, RPhase.getQ, beq_self_eq_true, List.replicate, modTh_append,
            modTh_none srcThreads_ne_zero]; rfl))
    rfl rfl (storesOf_set_tok _ _ _ _ _) rfl rfl rfl hps' hc rfl (by simp [Regs.of])

/-! ## the sender -/

/-- the `Initialize` event of the sender: `current_packet = packet`, then it sleeps for `8·size/rate` -/
theorem kstep_sendInit (fuel : Nat) (hrate : 0 < rate) (hk : KInv flow F Q s a) {p : EvId} {i : Nat} {id : Int}
    (hph : a.run = .S p i id q) (hp : popMin s.agenda = some (q, rest)) :
    StepsTo flow F Q (body F flow size rate ws P) fuel s q
      { a with run := .T p s.events.size i id ⟨q.time + txTime size rate id, NORMAL, s.eid, s.events.size⟩, cur := some id } [] := by
  obtain ⟨hok, hps, ⟨st0, hg⟩, hc⟩ := hk
  obtain ⟨run, src, pend, tokens, items, cnt, byt, recv, cur, keys, ccnt, dfc, hol, forf⟩ := a
  subst hph
  obtain ⟨hp0, -, hsp⟩ := (pids_cfgOf hg).2.2 _ (List.mem_singleton_self _)
  have hsrc : ∀ th ∈ srcThreads st0 src, th.pid ≠ p := fun th h e => hsp th h e.symm
  exact .of_ginv st0 (hg.step_resume (body F flow size rate ws P) fuel
      (child_mem (List.mem_singleton_self _)) rfl (fun _ _ _ hh => nomatch hh) hp
      (by heval [body, sendBegin, cfgOf, runThread, childThreads, modTh_append, modTh_none hsrc, Ne.symm hp0,
            txTime_nonneg (size := size) hrate id]; rfl))
    rfl rfl rfl rfl rfl rfl hps (hc.setCur (some id)) rfl (by simp [histOf_push, Regs.of])

/-- the sender's timeout: the counters go down, `out.put(packet)`, `current_packet = None`; the generator returns and its
process event is triggered -/
theorem kstep_sendFire (fuel : Nat) (hk : KInv flow F Q s a) {p t : EvId} {i : Nat} {id : Int} (hph : a.run = .T p t i id q)
    (hfid : flow id < F) (hp : popMin s.agenda = some (q, rest)) :
    StepsTo flow F Q (body F flow size rate ws P) fuel s q
      { a with run := .F p i id ⟨q.time, NORMAL, s.eid, p⟩, cnt := upd a.cnt (flow id) (a.cnt (flow id) + -1),
               byt := upd a.byt (flow id) (a.byt (flow id) + -(size id : Int)), cur := none } [.out id q.time] := by
  obtain ⟨hok, hps, ⟨st0, hg⟩, hc⟩ := hk
  obtain ⟨run, src, pend, tokens, items, cnt, byt, recv, cur, keys, ccnt, dfc, hol, forf⟩ := a
  subst hph
  obtain ⟨hp0, -, hsp⟩ := (pids_cfgOf hg).2.2 _ (List.mem_singleton_self _)
  have hsrc : ∀ th ∈ srcThreads st0 src, th.pid ≠ p := fun th h e => hsp th h e.symm
  have h1 := hc.setCount (flow id) (cnt (flow id) + -1)
  exact .of_ginv st0 (hg.step_resume (body F flow size rate ws P) fuel
      (child_mem (List.mem_singleton_self _)) rfl (fun _ _ _ hh => nomatch hh) hp
      (by heval [body, sendEnd, addDD, loadDD, hc.cc _ hfid, hc.cb _ hfid, drrk, cfgOf, runThread, childThreads, modTh_append,
            modTh_none hsrc, Ne.symm hp0, List.find?_append, (skip hsrc).2.1, Option.none_or, beq_self_eq_true,
            show (0 == p) = false from beq_false_of_ne (Ne.symm hp0)]; rfl))
    rfl rfl rfl rfl rfl trivial hps ((h1.setBytes (flow id) (byt (flow id) + -(size id : Int))).setCur none) rfl
    (by simp [histOf_push, Regs.of])

/-! ## `run` -/

/-- the configuration of `a` without a sender, with `run` in the local state `st`, waiting as `w` says -/
def runCfg (F : Nat) (a : A) (reg : Regs) (st0 st : St) (w : Wait) : Cfg St :=
  { reg := reg, threads := ⟨0, st, w, some []⟩ :: (srcThreads st0 a.src ++ []), pend := a.pend,
    stores := storesOf F [] a.tokens a.items }

/-- **how a burst of `run` ends**: the loops have changed the attribute cells and the observations as `A.burst` says (`hr`); the
program of the end of the burst calls `get` on a store, spawns the sender and joins it, or waits for the wake-up token.
`hstep`: the kernel step is this burst (the entry of `run` is popped, or the process event of its sender). -/
theorem run_ends {fuel : Nat} {st0 st : St} {w : Wait} {arg : Resume} {r : BurstRes} {a' : A} {new : List (HEv ℚ)}
    (hstep : ∀ c', hburst (body F flow size rate ws P) (runCfg F a (Regs.of s) st0 st w) 0 st q arg = some c' →
      ∃ s', step (body F flow size rate ws P) (fuel + 1) s = .ok s' ∧ GInv s' c')
    (hr : Reaches F Q 0 (hbegin (runCfg F a (Regs.of s) st0 st w) 0 q arg) (Regs.of s).cells
      (s.trace.push (.resumed 0 arg q.time)) (body F flow size rate ws P st arg) (endProg r.fin) r.a (histOf s.trace ++ r.evs))
    (h0 : 0 ≠ (Regs.of s).evSize) (hsrc : ∀ th ∈ srcThreads st0 a.src, th.pid ≠ (Regs.of s).evSize) (hps : ∀ u ∈ a.pend, u.2 < F + 1)
    (hsb : SameBut a r.a) (hend : BurstEnd F s.events.size s.eid q.time a r a' new)
    (hget : ∀ m' c' id' is, r.fin = .get m' c' → a.items c' = id' :: is → flow id' = c') :
    StepsTo flow F Q (body F flow size rate ws P) fuel s q a' new := by
  obtain ⟨f', tr', he, hc', hH'⟩ := hr
  have hrun' : hrun 0 (body F flow size rate ws P st arg) (hbegin (runCfg F a (Regs.of s) st0 st w) 0 q arg) =
      hrun 0 (endProg r.fin) ((hbegin (runCfg F a (Regs.of s) st0 st w) 0 q arg).wr f' tr') := he
  obtain ⟨ra, evs, fin⟩ := r
  obtain ⟨run, src, pend, tokens, items, cnt, byt, recv, cur, keys, ccnt, dfc, hol, forf⟩ := a
  obtain ⟨run', src', pend', tokens', items', cnt', byt', recv', cur', keys', ccnt', dfc', hol', forf'⟩ := ra
  obtain ⟨rfl, rfl, rfl, rfl, rfl, rfl, rfl, rfl, rfl, rfl⟩ := hsb
  cases hend with
  | get m' c' id' is hfin hcF hit =>
    obtain rfl : flow id' = c' := hget _ _ _ _ hfin hit
    simp only at hfin hit
    subst hfin
    exact .of_ginv st0 (hstep _ (by
        simp only [hburst, hend]
        rw [hrun']
        heval [endProg, runTake, runCfg, modTh_append, modTh_none srcThreads_ne_zero, storesOf_flow _ _ _ hcF, hit]; rfl))
      rfl rfl (storesOf_set_flow _ _ _ hcF _) rfl rfl rfl hps hc' rfl hH'
  | send m' c' id' pk hfin =>
    simp only at hfin
    subst hfin
    exact .of_ginv st0 (hstep _ (by
        simp only [hburst, hend]
        rw [hrun']
        heval [endProg, runServe, runCfg, modTh_append, modTh_none srcThreads_ne_zero, modTh_none hsrc, h0, Ne.symm h0,
          List.cons_append, List.append_assoc, List.nil_append, List.find?_append, (skip hsrc).2.1, Option.none_or,
          beq_self_eq_true, show (0 == (Regs.of s).evSize) = false from beq_false_of_ne h0]; rfl))
      rfl rfl rfl rfl rfl trivial hps (hc'.setCur (some id')) rfl (by simp [histOf_push, hH'])
  | block hfin htk =>
    simp only at hfin htk
    subst hfin htk
    exact .of_ginv st0 (hstep _ (by
        simp only [hburst, hend]
        rw [hrun']
        heval [endProg, runWait, runCfg, modTh_append, modTh_none srcThreads_ne_zero, tokStore_eq, storesOf_tok,
          List.replicate_zero]; rfl))
      rfl rfl (storesOf_set_tok _ _ _ 0 _) rfl rfl trivial hps hc' rfl (by simp [histOf_push, hH'])
  | tok k hfin htk =>
    simp only at hfin htk
    subst hfin htk
    exact .of_ginv st0 (hstep _ (by
        simp only [hburst, hend]
        rw [hrun']
        heval [endProg, runWait, runCfg, modTh_append, modTh_none srcThreads_ne_zero, tokStore_eq, storesOf_tok,
          List.replicate_succ]; rfl))
      rfl rfl (storesOf_set_tok _ _ _ k _) rfl rfl rfl hps hc' rfl (by simp [histOf_push, hH'])

/-- **a kernel step that runs a burst of `run`**: the entry of `run` is popped (its `Initialize`, the `StoreGet` it waits for) or the
process event of its sender, which resumes `run`; the loops; the end -/
theorem kstep_burstEnd (fuel : Nat) (hk : KInv flow F Q s a) {en : Entry} (hst : StartsAt a q en) (hen : EntryOK flow a ws en)
    (hF : ∀ e ∈ ws, e.1 < F) (hfl : ∀ e ∈ ws, ∀ id, a.hol e.1 = some id → flow id = e.1)
    {r : BurstRes} (hb : a.burst F Q size ws P q.time en = r) {a' : A} {new : List (HEv ℚ)}
    (hend : BurstEnd F s.events.size s.eid q.time a r a' new)
    (hget : ∀ m' c' id' is, r.fin = .get m' c' → a.items c' = id' :: is → flow id' = c')
    (hp : popMin s.agenda = some (q, rest)) :
    StepsTo flow F Q (body F flow size rate ws P) fuel s q a' new := by
  obtain ⟨hok, hps, ⟨st0, hg⟩, hc⟩ := hk
  obtain ⟨h0, hsrc, hchild⟩ := pids_cfgOf hg
  have hsb : SameBut a r.a := hb ▸ sameBut_burst a q.time en
  have hr : ∀ st w arg, Reaches F Q 0 (hbegin (runCfg F a (Regs.of s) st0 st w) 0 q arg) (Regs.of s).cells
      (s.trace.push (.resumed 0 arg q.time)) (entryProg F flow size ws P en) (endProg r.fin) r.a (histOf s.trace ++ r.evs) :=
    fun st w arg => hb ▸ reaches_burst (p := 0) rfl hc (hist_resumed ..) ws hF hfl P en hen
  obtain ⟨run, src, pend, tokens, items, cnt, byt, recv, cur, keys, ccnt, dfc, hol, forf⟩ := a
  cases en with
  | top =>
    rcases hst with hph | ⟨g, hph⟩ <;> obtain rfl : run = _ := hph
    · exact run_ends (fun c' h => hg.step_resume (body F flow size rate ws P) fuel List.mem_cons_self rfl
        (fun _ _ _ hh => nomatch hh) hp h) (hr _ _ _) h0 hsrc hps hsb hend hget
    · exact run_ends (fun c' h => hg.step_resume (body F flow size rate ws P) fuel List.mem_cons_self rfl
        (fun _ _ _ hh => by cases hh; rfl) hp h) (hr _ _ _) h0 hsrc hps hsb hend hget
  | got m id =>
    obtain ⟨g, hph⟩ := hst
    obtain rfl : run = _ := hph
    obtain ⟨w, wrest, hws, -⟩ := hen
    have hfid : flow id < F := hF _ (List.mem_of_mem_drop (hws ▸ List.mem_cons_self))
    exact run_ends (fun c' h => hg.step_resume (body F flow size rate ws P) fuel List.mem_cons_self rfl
      (fun _ _ _ hh => by cases hh; exact (congrArg Option.isSome (storesOf_flow (F := F) [] tokens items hfid)).trans rfl) hp h)
      (hr _ _ _) h0 hsrc hps hsb hend hget
  | done m id =>
    obtain ⟨p, hph⟩ := hst
    obtain rfl : run = _ := hph
    obtain ⟨hp0, -, hsp⟩ := hchild _ (List.mem_singleton_self _)
    have hsrcp : ∀ th ∈ srcThreads st0 src, th.pid ≠ p := fun th h e => hsp th h e.symm
    have hfin : hfinish (body F flow size rate ws P) (cfgOf flow F ⟨.F p m id q, src, pend, tokens, items, cnt, byt, recv, cur, keys,
        ccnt, dfc, hol, forf⟩ (Regs.of s) st0) ⟨p, .sendTx id, .ending q .none, some [.resume 0]⟩ q .none =
        hburst (body F flow size rate ws P) (runCfg F ⟨.F p m id q, src, pend, tokens, items, cnt, byt, recv, cur, keys, ccnt, dfc,
          hol, forf⟩ (Regs.of s) st0 (.runSend id m) (.join p)) 0 (.runSend id m) q (.value .none) := by
      simp only [hfinish, cfgOf, runThread, childThreads, runCfg, List.find?_cons, beq_self_eq_true, Option.bind_some,
        if_true, List.filter_cons, List.filter_append, (skip hsrcp).2.2, bne_self_eq_false, List.filter_nil,
        show (0 != p) = true from bne_iff_ne.mpr (Ne.symm hp0), RPhase.getQ, Bool.false_eq_true, if_false]
    exact run_ends (fun c' h => hg.step_finish (body F flow size rate ws P) fuel (child_mem (List.mem_singleton_self _)) rfl hp
      (hfin.trans h)) (hr _ _ _) h0 hsrc hps hsb hend hget

end DRRK
