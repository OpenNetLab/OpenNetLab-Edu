import Mathlib.Data.List.Basic
import Mathlib.Data.List.Nodup
import Mathlib.Data.List.Range
import Mathlib.Tactic.Ring
import Mathlib.Tactic.Linarith
import OnlVerif.Lemmas.RouteFib
/-! # Lemmas about the structural fat tree (`OnlVerif/Net/FatTree.lean`): numbering, counts, degrees, adjacency -/

namespace FatTree
open Route

theorem range_flat (a b off : Nat) :
    (List.range a).flatMap (fun i => (List.range b).map fun j => off + i * b + j)
      = (List.range (a * b)).map fun x => off + x := by
  induction a with
  | zero => simp
  | succ a ih =>
    rw [List.range_succ, List.flatMap_append, ih]
    have e : (a + 1) * b = a * b + b := by ring
    rw [e, List.range_add, List.map_append, List.map_map]
    simp only [List.flatMap_cons, List.flatMap_nil, List.append_nil]
    congr 1
    apply List.map_congr_left
    intro j _
    simp only [Function.comp]
    ring

theorem cores_num (h : Nat) : (cores (2 * h)).map (FNode.num (2 * h)) = List.range (h * h) := by
  have hh : 2 * h / 2 = h := by omega
  simp only [cores, hh, List.map_flatMap, List.map_map]
  have := range_flat h h 0
  simp only [Nat.zero_add, List.map_id'] at this
  rw [← this]
  apply List.flatMap_congr
  intro a _
  apply List.map_congr_left
  intro b _
  simp [FNode.num, hh]

theorem podSwitches_num (h : Nat) :
    (podSwitches (2 * h)).map (FNode.num (2 * h)) = (List.range (2 * h * (2 * h))).map fun x => h * h + x := by
  have hh : 2 * h / 2 = h := by omega
  rw [← range_flat (2 * h) (2 * h) (h * h)]
  simp only [podSwitches, aggrsOf, edgesOf, hh, List.map_flatMap, List.map_append, List.map_map]
  apply List.flatMap_congr
  intro p _
  have e : 2 * h = h + h := by ring
  conv_rhs => rw [e, List.range_add, List.map_append, List.map_map]
  congr 1
  · apply List.map_congr_left
    intro i _
    simp only [Function.comp, FNode.num, hh]
    ring
  · apply List.map_congr_left
    intro j _
    simp only [Function.comp, FNode.num, hh]
    ring

theorem hosts_num (h : Nat) :
    (hosts (2 * h)).map (FNode.num (2 * h))
      = (List.range (2 * h * (h * h))).map fun x => h * h + 2 * h * (2 * h) + x := by
  have hh : 2 * h / 2 = h := by omega
  rw [← range_flat (2 * h) (h * h) (h * h + 2 * h * (2 * h))]
  simp only [hosts, hostsOf, hh, List.map_flatMap, List.map_map]
  apply List.flatMap_congr
  intro p _
  rw [← range_flat h h (h * h + 2 * h * (2 * h) + p * (h * h))]
  apply List.flatMap_congr
  intro j _
  apply List.map_congr_left
  intro m _
  simp only [Function.comp, FNode.num, hh]
  ring

/-- **node ids**: the `i`-th node the constructor creates gets id `i` -/
theorem nodes_num (h : Nat) : (nodes (2 * h)).map (FNode.num (2 * h)) = List.range (nNodes (2 * h)) := by
  have hh : 2 * h / 2 = h := by omega
  simp only [nodes, List.map_append, cores_num, podSwitches_num, hosts_num, nNodes, hh]
  have e : h ^ 2 + 2 * h * (2 * h) + 2 * h * h * h = h * h + (2 * h * (2 * h) + 2 * h * (h * h)) := by ring
  rw [e, List.range_add, List.range_add, List.map_append, List.map_map, List.append_assoc]
  congr 2
  apply List.map_congr_left
  intro x _
  simp only [Function.comp]
  ring

theorem nodes_length (h : Nat) : (nodes (2 * h)).length = nNodes (2 * h) := by
  have := congrArg List.length (nodes_num h)
  simpa using this

theorem num_injOn (h : Nat) : ∀ a ∈ nodes (2 * h), ∀ b ∈ nodes (2 * h),
    FNode.num (2 * h) a = FNode.num (2 * h) b → a = b := by
  have hn : ((nodes (2 * h)).map (FNode.num (2 * h))).Nodup := by
    rw [nodes_num]; exact List.nodup_range
  intro a ha b hb e
  exact List.inj_on_of_nodup_map hn ha hb e

theorem mem_nodes (k : Nat) (n : FNode) : n ∈ nodes k ↔ n.Valid k := by
  simp only [nodes, cores, podSwitches, hosts, aggrsOf, edgesOf, hostsOf, List.mem_append, List.mem_flatMap, List.mem_map,
    List.mem_range]
  cases n <;> simp [FNode.Valid]

/-- the filter by layer keeps a whole family of nodes or none of it: counted family by family -/
theorem ofLayer_length (k : Nat) (l : Layer) :
    (ofLayer k l).length = match l with
      | .core => (k / 2) * (k / 2)
      | .aggregation => k * (k / 2)
      | .edge => k * (k / 2)
      | .leaf => k * ((k / 2) * (k / 2)) := by
  simp only [ofLayer, nodes, cores, podSwitches, hosts, aggrsOf, edgesOf, hostsOf, ← List.countP_eq_length_filter,
    List.countP_append, List.countP_flatMap, List.countP_map, Function.comp_def, FNode.layer]
  cases l <;> simp

theorem nbrs_length (k : Nat) (n : FNode) :
    (nbrs k n).length = match n with
      | .host .. => 1
      | .core .. => k
      | _ => k / 2 + k / 2 := by
  cases n <;> simp [nbrs, aggrsOf, edgesOf, hostsOf]

theorem nbrs_valid (k : Nat) (n : FNode) (hn : n.Valid k) : ∀ m ∈ nbrs k n, m.Valid k := by
  cases n with
  | core a b =>
    intro m hm
    simp only [nbrs, List.mem_map, List.mem_range] at hm
    obtain ⟨p, hp, rfl⟩ := hm
    exact ⟨hp, hn.1⟩
  | aggr p i =>
    intro m hm
    simp only [nbrs, edgesOf, List.mem_append, List.mem_map, List.mem_range] at hm
    rcases hm with ⟨j, hj, rfl⟩ | ⟨b, hb, rfl⟩
    · exact ⟨hn.1, hj⟩
    · exact ⟨hn.2, hb⟩
  | edge p j =>
    intro m hm
    simp only [nbrs, aggrsOf, hostsOf, List.mem_append, List.mem_map, List.mem_range] at hm
    rcases hm with ⟨i, hi, rfl⟩ | ⟨x, hx, rfl⟩
    · exact ⟨hn.1, hi⟩
    · exact ⟨hn.1, hn.2, hx⟩
  | host p j m =>
    intro x hx
    simp only [nbrs, List.mem_singleton] at hx
    subst hx
    exact ⟨hn.1, hn.2.1⟩

theorem nbrs_symm (k : Nat) (u v : FNode) (hu : u.Valid k) (hv : v ∈ nbrs k u) : u ∈ nbrs k v := by
  cases u with
  | core a b =>
    simp only [nbrs, List.mem_map, List.mem_range] at hv
    obtain ⟨p, hp, rfl⟩ := hv
    simp only [nbrs, edgesOf, List.mem_append, List.mem_map, List.mem_range]
    exact Or.inr ⟨b, hu.2, rfl⟩
  | aggr p i =>
    simp only [nbrs, edgesOf, List.mem_append, List.mem_map, List.mem_range] at hv
    rcases hv with ⟨j, hj, rfl⟩ | ⟨b, hb, rfl⟩
    · simp only [nbrs, aggrsOf, hostsOf, List.mem_append, List.mem_map, List.mem_range]
      exact Or.inl ⟨i, hu.2, rfl⟩
    · simp only [nbrs, List.mem_map, List.mem_range]
      exact ⟨p, hu.1, rfl⟩
  | edge p j =>
    simp only [nbrs, aggrsOf, hostsOf, List.mem_append, List.mem_map, List.mem_range] at hv
    rcases hv with ⟨i, hi, rfl⟩ | ⟨m, hm, rfl⟩
    · simp only [nbrs, edgesOf, List.mem_append, List.mem_map, List.mem_range]
      exact Or.inl ⟨j, hu.2, rfl⟩
    · simp [nbrs]
  | host p j m =>
    simp only [nbrs, List.mem_singleton] at hv
    subst hv
    simp only [nbrs, aggrsOf, hostsOf, List.mem_append, List.mem_map, List.mem_range]
    exact Or.inr ⟨m, hu.2.2, rfl⟩

theorem nbrs_nodup (k : Nat) (n : FNode) : (nbrs k n).Nodup := by
  cases n with
  | core a b =>
    simp only [nbrs]
    exact List.Nodup.map (fun x y e => by cases e; rfl) List.nodup_range
  | aggr p i | edge p i =>
    simp only [nbrs, aggrsOf, edgesOf, hostsOf]
    rw [List.nodup_append]
    refine ⟨List.Nodup.map (fun x y e => by cases e; rfl) List.nodup_range,
      List.Nodup.map (fun x y e => by cases e; rfl) List.nodup_range, ?_⟩
    intro a ha b hb
    simp only [List.mem_map] at ha hb
    obtain ⟨_, _, rfl⟩ := ha
    obtain ⟨_, _, rfl⟩ := hb
    simp
  | host p j m => simp [nbrs]

theorem edge_hosts (k p j : Nat) :
    ((nbrs k (.edge p j)).filter fun n => n.layer = .leaf) = hostsOf k p j := by
  simp [nbrs, aggrsOf, hostsOf, List.filter_map, Function.comp_def, FNode.layer]

theorem dget_graph_some (h : Nat) (i : Nat) (ns : List Nat) (hd : dget (graph (2 * h)) i = some ns) :
    ∃ n ∈ nodes (2 * h), n.num (2 * h) = i ∧ ns = (nbrs (2 * h) n).map (FNode.num (2 * h)) := by
  have hm := dget_mem _ _ _ hd
  unfold graph at hm
  obtain ⟨n, hn, e⟩ := List.mem_map.mp hm
  cases e
  exact ⟨n, hn, rfl, rfl⟩

end FatTree
