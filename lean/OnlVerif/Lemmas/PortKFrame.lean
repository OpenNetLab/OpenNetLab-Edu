import OnlVerif.Lemmas.PortKBasic
import OnlVerif.Lemmas.KProcDefs
/-!
# The Port on the kernel model: the cells and the observations

What the attribute cells of a configuration hold (`Cells`, with one lemma per group of cells a burst writes), and the
`out.put` observations of a trace that grows.
-/

namespace PortK
open PortOnK

theorem outsOf_push (tr : Array (Obs ℚ)) (o : Obs ℚ) : outsOf (tr.push o) = outsOf tr ++ (outOf o).toList :=
  KExec.filterMap_push _ tr o

@[simp] theorem outOf_resumed (p : EvId) (r : Resume) (t : ℚ) : outOf (Obs.resumed p r t) = none := rfl
@[simp] theorem outOf_ended (p : EvId) (o : Outcome) (t : ℚ) : outOf (Obs.ended p o t) = none := rfl
@[simp] theorem outOf_out (p : EvId) (i : Int) (t : ℚ) : outOf (Obs.log p "out" (.int i) t) = some (i, t) := by
  simp [outOf]

/-- the attribute cells hold `byte_size`, `packets_received`, `busy`, `busy_packet_size`, `packets_dropped` -/
structure Cells (f : Nat → Val) (bytes : Int) (recv : Nat) (busy : Bool) (bsz dropped : Nat) : Prop where
  c0 : f 0 = .int bytes
  c1 : f 1 = .int recv
  c2 : f 2 = .int (if busy then 1 else 0)
  c3 : f 3 = .int bsz
  c4 : f 4 = .int dropped

theorem KInv.cells {s : KS} {a : A} (hk : KInv s a) : Cells (lookup s.shared) a.bytes a.recv a.busy a.bsz a.dropped :=
  ⟨hk.c0, hk.c1, hk.c2, hk.c3, hk.c4⟩

namespace Cells
open KProc (upd)
variable {f : Nat → Val} {bytes : Int} {recv : Nat} {busy : Bool} {bsz dropped : Nat} (h : Cells f bytes recv busy bsz dropped)
include h

theorem setBytes (b : Int) : Cells (upd f 0 (.int b)) b recv busy bsz dropped :=
  ⟨rfl, h.c1, h.c2, h.c3, h.c4⟩

/-- `self.packets_received += 1` -/
theorem count : Cells (upd f 1 (.int (recv + 1))) bytes (recv + 1) busy bsz dropped :=
  ⟨h.c0, by simp [upd], h.c2, h.c3, h.c4⟩

/-- `self.busy = …; self.busy_packet_size = …` -/
theorem setBusy (b : Bool) (n : Nat) : Cells (upd (upd f 2 (.int (if b then 1 else 0))) 3 (.int n)) bytes recv b n dropped :=
  ⟨h.c0, h.c1, rfl, rfl, h.c4⟩

/-- `self.packets_dropped += 1` -/
theorem drop : Cells (upd f 4 (.int (dropped + 1))) bytes recv busy bsz (dropped + 1) :=
  ⟨h.c0, h.c1, h.c2, h.c3, by simp [upd]⟩

end Cells

/-- `simp` with the `portk` set on a state term `{ s with … }` -/
syntax "ksimp" (" [" Lean.Parser.Tactic.simpLemma,* "]")? (Lean.Parser.Tactic.location)? : tactic
macro_rules
  | `(tactic| ksimp $[$loc]?) =>
    `(tactic| simp [-Array.getD_eq_getD_getElem?, -List.filter_filter, portk] $[$loc]?)
  | `(tactic| ksimp [$args,*] $[$loc]?) =>
    `(tactic| simp [-Array.getD_eq_getD_getElem?, -List.filter_filter, portk, $args,*] $[$loc]?)

/-- a frame condition on a flat state, from the hypothesis `hfr` about the same events -/
macro "frame_ev" hfr:ident : tactic =>
  `(tactic| (intro x hx hc; have hxg := $hfr x hx hc; ksimp [Nat.ne_of_lt hx, Nat.ne_of_lt (Nat.lt_succ_of_lt hx), hxg]))

end PortK
