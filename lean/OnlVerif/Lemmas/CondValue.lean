import OnlVerif.Lemmas.CondRun
/-!
# The value of a condition: what the step that processes it leaves in `_value`
-/

namespace Cond
variable {σ : Type}

open Once (lt_of_isCond isCond_congr lt_of_cbs_some ev_default)

theorem populate_congr_lt {s s' : KState ℚ σ} (hold : ∀ c e, e ∈ ops s c → e < c) :
    ∀ (fuel : Nat) (c : EvId), (∀ y, y ≤ c → (s'.ev y).kind = (s.ev y).kind) →
      (∀ y, y < c → s'.processed y = s.processed y) → populate fuel s' c = populate fuel s c
  | 0, _, _, _ => rfl
  | fuel + 1, c, hk, hp => by
    rw [populate_succ, populate_succ, ops_congr (hk c (Nat.le_refl _))]
    apply flatMap_congr'
    intro e he
    have hec := hold c e he
    rw [isCond_congr (hk e (Nat.le_of_lt hec)), hp e hec]
    split
    · exact populate_congr_lt hold fuel e (fun y hy => hk y (Nat.le_trans hy (Nat.le_of_lt hec)))
        (fun y hy => hp y (Nat.lt_trans hy hec))
    · rfl

theorem condBuild_out_ok (x : KState ℚ σ) (c : EvId) (w : Val) (ho : (x.ev c).out = some (.ok w)) :
    ((condBuild x c).ev c).out = some (.ok (.cv (populate (c + 1) x c))) := by
  have hr : Rm (fun d => Under x d c) x (removeChecks (c + 1) c x) := Rm.removeChecks x (c + 1) c x (Shape.refl x)
  have hpop : populate (c + 1) (removeChecks (c + 1) c x) c = populate (c + 1) x c :=
    populate_congr hr.shape hr.processed (c + 1) c
  rw [condBuild_eq]
  have ho1 : ((removeChecks (c + 1) c x).ev c).out = some (.ok w) := by rw [hr.out]; exact ho
  have hlt : c < (removeChecks (c + 1) c x).events.size := Once.lt_of_out _ c (by rw [ho1]; simp)
  rw [ho1]
  simp only
  rw [ev_setOut, if_pos ⟨rfl, hlt⟩, hpop]

/-- **the step that processes a condition which has succeeded leaves in its `_value` the `ConditionValue` of exactly
the leaves that are processed at that moment** (in the state before the step: a condition is not its own leaf) -/
theorem step_builds_value (body : σ → Resume → Burst ℚ σ) (fuel : Nat) {s s' : KState ℚ σ} (hi : Once.Inv0 false s)
    (hc : Inv0 s) (hsafe : Once.SafeStep body fuel s) (hdom : DomStep body fuel s) (q : QEntry ℚ) (rest : List (QEntry ℚ))
    (hq : popMin s.agenda = some (q, rest)) (hne : ops s q.ev ≠ []) (v : Val) (hok : (s.ev q.ev).out = some (.ok v))
    (hs : (step body fuel s).state? = some s') :
    (s'.ev q.ev).out = some (.ok (.cv (populate (q.ev + 1) s q.ev))) := by
  obtain ⟨q', rest', L, hq', hL, rfl⟩ := step_state body fuel hi hs
  rw [hq] at hq'
  cases hq'
  have hlt : q.ev < s.events.size := lt_of_cbs_some s _ L hL
  have hbc := hc.bld_cnt q.ev L hL hne
  have hbm : Cb.build q.ev ∈ L := List.count_pos_iff.mp (by omega)
  obtain ⟨pre, post, rfl⟩ := List.append_of_mem hbm
  rw [List.foldl_append, List.foldl_cons]
  obtain ⟨i2, c2, m2, hsafe2, hdom2⟩ := CInv.midstep body fuel hi hc hsafe hdom hq hL
  have hev2 : EvMono (_root_.openEvent s q rest) (pre.foldl (_root_.runCb body fuel q.ev) { s := _root_.openEvent s q rest }).s :=
    EvMono.krel.foldCbs body fuel q.ev pre { s := _root_.openEvent s q rest }
  have hproc : ∀ y, y < q.ev →
      (pre.foldl (_root_.runCb body fuel q.ev) { s := _root_.openEvent s q rest }).s.processed y = s.processed y :=
    fun y hy => processed_loop body fuel s q rest pre (Nat.lt_trans hy hlt) (Nat.ne_of_lt hy)
  generalize pre.foldl (_root_.runCb body fuel q.ev) { s := _root_.openEvent s q rest } = lp
    at i2 c2 m2 hsafe2 hdom2 hev2 hproc ⊢
  -- the state before the pop and the state in which `build` runs agree below the condition
  have hsz : s.events.size ≤ (_root_.openEvent s q rest).events.size := by
    unfold _root_.openEvent; simp
  have hkind : ∀ y, y ≤ q.ev → (lp.s.ev y).kind = (s.ev y).kind := by
    intro y hy
    rw [hev2.kind y (Nat.lt_of_lt_of_le (Nat.lt_of_le_of_lt hy hlt) hsz), (openEvent_fields s q rest y).1]
  have hpop : populate (q.ev + 1) lp.s q.ev = populate (q.ev + 1) s q.ev :=
    populate_congr_lt hc.older (q.ev + 1) q.ev hkind hproc
  have hokp : ∃ w, (lp.s.ev q.ev).out = some (.ok w) := by
    rcases m2.out q.ev _ (by rw [(openEvent_fields s q rest q.ev).2.1]; exact hok) with h | ⟨_, _, w, _, hw⟩
    · exact ⟨v, h⟩
    · exact ⟨w, hw⟩
  obtain ⟨w, hw⟩ := hokp
  obtain ⟨c3, _⟩ := c2.condBuild_cb
  have i3 := Once.Inv.runCb body fuel lp (.build q.ev) post
    (g := { rem := .build q.ev :: post, e0 := q.ev, run := none, lv := false, strict := false })
    rfl rfl (fun h => by cases h) i2 hsafe2.1 (fun h => by cases h)
  have hval : ((_root_.runCb body fuel q.ev lp (.build q.ev)).s.ev q.ev).out =
      some (.ok (.cv (populate (q.ev + 1) s q.ev))) := by
    show ((condBuild lp.s q.ev).ev q.ev).out = _
    rw [condBuild_out_ok lp.s q.ev w hw, hpop]
  have c3' : CInv post q.ev (_root_.runCb body fuel q.ev lp (.build q.ev)).s := c3
  obtain ⟨_, m4⟩ := CInv.foldCbs body fuel post { rem := post, e0 := q.ev, run := none, lv := false, strict := false }
    (_root_.runCb body fuel q.ev lp (.build q.ev)) rfl rfl rfl rfl i3 c3' hsafe2.2 hdom2.2
  rcases m4.out q.ev _ hval with h | ⟨hm, _⟩
  · exact h
  · have := c2.rem_bld_cnt q.ev
    rw [List.count_cons_self] at this
    have hpos := List.count_pos_iff.mpr hm
    omega

end Cond
