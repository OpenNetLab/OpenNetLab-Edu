import OnlVerif.Lemmas.SplitSentOps
import OnlVerif.Lemmas.SplitSentAgenda
import OnlVerif.Lemmas.SplitStripStep
import OnlVerif.Lemmas.SplitWFDefs
/-!
# The sentinel transformation commutes with bursts, `_resume`, the callback loop and `step` (C03, stage 3)

What the program has to satisfy is stated at run level.  `BodySim ρ rσ body` constrains the whole interaction tree of
every resumption (every reply the kernel *could* give); the walk only needs it along the replies the kernel *does* give.
`SimBurst` says that for one burst started in a state `s` of the uninterrupted run, `SimStep c body fuel s` for every
burst the step from `s` executes (through the mirror predicates `SplitWF.StepAll` of `Lemmas/SplitWFDefs.lean`),
`SimAlong` for the whole continuation.  For a concrete run it is a finite conjunction of equations between calls,
values and local states; `BodySim` implies it (`simStep_of_bodySim`), which gives the program-level statements of
`Props/C03.lean`.
-/

variable {σ : Type}

def rnTerm (ρ : EvId → EvId) (rσ : σ → σ) : Term σ → Term σ
  | .yielded e st => .yielded (ρ e) (rσ st)
  | .returned v => .returned (rnVal ρ v)
  | .raised x => .raised (rnExc ρ x)

def SimBurst (ρ : EvId → EvId) (rσ : σ → σ) (self : EvId) : Burst ℚ σ → Burst ℚ σ → KState ℚ σ → Prop
  | .call c k, b', s =>
    match b' with
    | .call c' k' => c' = rnCall ρ rσ c ∧
        SimBurst ρ rσ self (k (doCall s self c).2) (k' (rnReply ρ (doCall s self c).2)) (noteErr self (doCall s self c))
    | _ => False
  | .yield e st, b', _ =>
    match b' with
    | .yield e' st' => e' = ρ e ∧ st' = rσ st
    | _ => False
  | .ret v, b', _ =>
    match b' with
    | .ret v' => v' = rnVal ρ v
    | _ => False
  | .raise x, b', _ =>
    match b' with
    | .raise x' => x' = rnExc ρ x
    | _ => False

theorem simBurst_of_burstSim {ρ : EvId → EvId} {rσ : σ → σ} (self : EvId) {b b' : Burst ℚ σ} (h : BurstSim ρ rσ b b') :
    ∀ s : KState ℚ σ, SimBurst ρ rσ self b b' s := by
  induction h with
  | call c k k' _ ih => intro s; exact ⟨rfl, ih _ _⟩
  | yield e st => intro s; exact ⟨rfl, rfl⟩
  | _ => intro s; rfl

namespace SplitWF

theorem ResumeAll.of_forall {P : EvId → σ → Resume → KState ℚ σ → Prop} (hP : ∀ p st r s, P p st r s)
    (body : σ → Resume → Burst ℚ σ) (p : EvId) : ∀ (fuel : Nat) (e : EvId) (s : KState ℚ σ), ResumeAll P body p fuel e s
  | 0, _, _ => trivial
  | fuel + 1, e, s => by
    unfold ResumeAll
    split
    · trivial
    · refine ⟨hP _ _ _ _, ?_⟩
      split
      · split
        · trivial
        · exact ResumeAll.of_forall hP body p fuel _ _
      · trivial

theorem StepAll.of_forall {P : EvId → σ → Resume → KState ℚ σ → Prop} (hP : ∀ p st r s, P p st r s)
    (body : σ → Resume → Burst ℚ σ) (fuel : Nat) (s : KState ℚ σ) : StepAll P body fuel s := by
  have hcb : ∀ e s cb, CbAll P body fuel e s cb := by
    intro e s cb
    cases cb <;> simp only [CbAll]
    case resume p => exact ResumeAll.of_forall hP body p fuel e s
    case intr iv =>
      split
      · unfold IntrAll
        split
        · trivial
        · split
          · trivial
          · split <;> exact ResumeAll.of_forall hP body _ fuel _ _
      · trivial
  have hcbs : ∀ e (cbs : List Cb) (l : LoopSt ℚ σ), CbsAll P body fuel e cbs l := by
    intro e cbs
    induction cbs with
    | nil => intro l; trivial
    | cons cb cbs ih => intro l; exact ⟨hcb e l.s cb, ih _⟩
  unfold StepAll
  split
  · trivial
  · split
    · trivial
    · exact hcbs _ _ _

end SplitWF

namespace SplitCfg
open SplitWF
variable (c : SplitCfg σ) (q : Bool) (s : KState ℚ σ)

theorem T_noteErr (self : Nat) (r : Reply) :
    noteErr (c.ρ self) (c.T q s, rnReply c.ρ r) = c.T q (noteErr self (s, r)) := by
  unfold noteErr
  cases r <;> simp only [rnReply, ksent]

variable {c s} in
@[ksent] theorem Inv.noteErr (h : c.Inv s) (self : Nat) (r : Reply) : c.Inv (noteErr self (s, r)) :=
  h.mono (Grow.krel.noteErr self (s, r))

theorem T_runBurst (self : Nat) : ∀ (b b' : Burst ℚ σ) (s : KState ℚ σ), SimBurst c.ρ c.rσ self b b' s → c.Inv s →
    runBurst (c.ρ self) b' (c.T q s) = (c.T q (runBurst self b s).1, rnTerm c.ρ c.rσ (runBurst self b s).2) := by
  intro b
  induction b with
  | call cl k ih =>
    intro b' s hb h
    cases b' with
    | call cl' k' =>
      obtain ⟨rfl, hrest⟩ := hb
      simp only [runBurst]
      rw [c.T_doCall q s h, c.T_noteErr]
      exact ih _ _ _ hrest ((h.doCall self cl).noteErr self _)
    | _ => exact hb.elim
  | yield e st =>
    intro b' s hb _
    cases b' with
    | yield e' st' => obtain ⟨rfl, rfl⟩ := hb; rfl
    | _ => exact hb.elim
  | ret v =>
    intro b' s hb _
    cases b' with
    | ret v' => have : v' = rnVal c.ρ v := hb; subst this; rfl
    | _ => exact hb.elim
  | raise x =>
    intro b' s hb _
    cases b' with
    | raise x' => have : x' = rnExc c.ρ x := hb; subst this; rfl
    | _ => exact hb.elim

variable {c s} in
theorem Inv.runBurst (h : c.Inv s) (self : Nat) (b : Burst ℚ σ) : c.Inv (runBurst self b s).1 :=
  h.mono (Grow.krel.runBurst self b s)

@[ksent] theorem r_resumeArg (h : c.Inv s) (p e : Nat) :
    resumeArg (c.T q s) (c.ρ p) (c.ρ e) = rnResume c.ρ (resumeArg s p e) := by
  unfold resumeArg
  rw [c.out_T q s h, c.kind_T q s h]
  cases ho : (s.ev e).out with
  | none => rfl
  | some o =>
    cases o with
    | fail x => rfl
    | ok v =>
      simp only [Option.map_some, rnOutcome_ok]
      have : (rnKind c.ρ (s.ev e).kind = Kind.init (c.ρ p)) ↔ ((s.ev e).kind = Kind.init p) :=
        rnKind_eq_iff c.ρ_inj (s.ev e).kind (Kind.init p)
      by_cases hk : (s.ev e).kind = Kind.init p
      · rw [if_pos hk, if_pos (this.mpr hk)]; rfl
      · rw [if_neg hk, if_neg (fun h => hk (this.mp h))]; rfl

theorem T_deliverSt (h : c.Inv s) (p e : Nat) : deliverSt (c.T q s) (c.ρ p) (c.ρ e) = c.T q (deliverSt s p e) := by
  unfold deliverSt
  rw [c.out_T q s h]
  cases ho : (s.ev e).out with
  | none => rfl
  | some o =>
    cases o with
    | ok v => rfl
    | fail x =>
      simp only [Option.map_some, rnOutcome_fail]
      rw [c.i_defuse q _ (h.withActive _)]
      rfl

theorem grow_deliverSt (s : KState ℚ σ) (p e : Nat) : Grow s (deliverSt s p e) := Grow.krel.deliver s p e

variable {c s} in
@[ksent] theorem Inv.deliverSt (h : c.Inv s) (p e : Nat) : c.Inv (deliverSt s p e) := h.mono (grow_deliverSt s p e)

theorem T_finishProc (h : c.Inv s) (p : Nat) (pr : ProcRec σ) (o : Outcome) :
    finishProc (c.T q s) (c.ρ p) (rnProc c.ρ c.rσ pr) (rnOutcome c.ρ o) = c.T q (finishProc s p pr o) := by
  unfold finishProc
  tsimp [h]

theorem T_register (h : c.Inv s) (p e' : Nat) :
    register (c.T q s) (c.ρ p) (c.ρ e') = (register s p e').map (c.T q) := by
  unfold register
  rw [c.r_processed q s h]
  split
  · rfl
  · simp only [Option.map_some]
    have := c.i_addCb q s h e' (.resume p)
    simp only [rnCb_resume] at this
    rw [← this]
    rfl

/-- the run-level hypothesis as the parameter of the mirror predicates -/
abbrev simP (body : σ → Resume → Burst ℚ σ) : EvId → σ → Resume → KState ℚ σ → Prop :=
  fun p st r s => SimBurst c.ρ c.rσ p (body st r) (body (c.rσ st) (rnResume c.ρ r)) s

def SimStep (body : σ → Resume → Burst ℚ σ) (fuel : Nat) (s : KState ℚ σ) : Prop := StepAll (c.simP body) body fuel s

def SimAlong (body : σ → Resume → Burst ℚ σ) (fuel : Nat) (s : KState ℚ σ) : Prop :=
  ∀ j sj, stepN body fuel j s = .ok sj → c.SimStep body fuel sj

theorem simStep_of_bodySim (body : σ → Resume → Burst ℚ σ) (hB : BodySim c.ρ c.rσ body) (fuel : Nat) (s : KState ℚ σ) :
    c.SimStep body fuel s :=
  StepAll.of_forall (fun p st r s => simBurst_of_burstSim p (hB st r) s) body fuel s

theorem simAlong_of_bodySim (body : σ → Resume → Burst ℚ σ) (hB : BodySim c.ρ c.rσ body) (fuel : Nat) (s : KState ℚ σ) :
    c.SimAlong body fuel s := fun _ sj _ => c.simStep_of_bodySim body hB fuel sj

theorem SimAlong.tail {body : σ → Resume → Burst ℚ σ} {fuel : Nat} {s s1 : KState ℚ σ}
    (hf : c.SimAlong body fuel s) (h : step body fuel s = .ok s1) : c.SimAlong body fuel s1 :=
  fun j sj hj => hf (j + 1) sj (stepN_cons_ok h hj)

theorem T_resume (body : σ → Resume → Burst ℚ σ) (p : Nat) : ∀ (fuel : Nat) (e : Nat) (s : KState ℚ σ), c.Inv s →
    ResumeAll (c.simP body) body p fuel e s →
    resume body (c.ρ p) fuel (c.ρ e) (c.T q s) = c.T q (resume body p fuel e s)
  | 0, _, _, _, _ => rfl
  | n + 1, e, s, h, hR => by
    unfold resume
    unfold ResumeAll at hR
    rw [c.r_proc?]
    cases hp : s.proc? p with
    | none => rfl
    | some pr =>
      rw [hp] at hR
      simp only [Option.map_some, deliver] at hR ⊢
      obtain ⟨hb, hrest⟩ := hR
      rw [c.T_deliverSt q s h, c.r_resumeArg q s h]
      have hd : c.Inv (deliverSt s p e) := h.deliverSt p e
      have he : (c.T q (deliverSt s p e)).emit (Obs.resumed (c.ρ p) (rnResume c.ρ (resumeArg s p e)) (c.T q (deliverSt s p e)).now) =
          c.T q ((deliverSt s p e).emit (Obs.resumed p (resumeArg s p e) (deliverSt s p e).now)) := by
        rw [c.i_emit]; rfl
      rw [he, rnProc_st, c.T_runBurst q p _ _ _ hb (hd.emit _)]
      have hbi : c.Inv (runBurst p (body pr.st (resumeArg s p e))
          ((deliverSt s p e).emit (Obs.resumed p (resumeArg s p e) (deliverSt s p e).now))).1 := (hd.emit _).runBurst p _
      generalize runBurst p (body pr.st (resumeArg s p e))
          ((deliverSt s p e).emit (Obs.resumed p (resumeArg s p e) (deliverSt s p e).now)) = bt at hbi hrest
      obtain ⟨s1, tm⟩ := bt
      cases tm with
      | returned v => exact c.T_finishProc q s1 hbi p pr (.ok v)
      | raised x => exact c.T_finishProc q s1 hbi p pr (.fail x)
      | yielded e' st' =>
        simp only [rnTerm] at hrest ⊢
        have hs2 : (c.T q s1).setProc (c.ρ p) { st := c.rσ st', target := some (c.ρ e') } =
            c.T q (s1.setProc p { st := st', target := some e' }) := by
          rw [c.i_setProc]; rfl
        rw [hs2, c.T_register q _ (hbi.setProc _ _)]
        cases hreg : register (s1.setProc p { st := st', target := some e' }) p e' with
        | some s3 => rfl
        | none =>
          rw [hreg] at hrest
          exact T_resume body p n e' _ (hbi.setProc _ _) hrest

variable {c s} in
theorem Inv.resume (h : c.Inv s) (body : σ → Resume → Burst ℚ σ) (p fuel e : Nat) : c.Inv (resume body p fuel e s) :=
  h.mono (Grow.krel.resume body p fuel e s)

theorem T_deliverInterrupt (body : σ → Resume → Burst ℚ σ) (s : KState ℚ σ) (h : c.Inv s) (fuel iv p : Nat)
    (hA : IntrAll (c.simP body) body fuel iv p s) :
    deliverInterrupt body fuel (c.ρ iv) (c.ρ p) (c.T q s) = c.T q (deliverInterrupt body fuel iv p s) := by
  unfold deliverInterrupt
  unfold IntrAll at hA
  rw [c.r_triggered q s h, c.r_proc?]
  split
  · rfl
  · rename_i ht
    rw [if_neg ht] at hA
    cases hp : s.proc? p with
    | none => rfl
    | some pr =>
      rw [hp] at hA
      simp only [Option.map_some, rnProc_target] at hA ⊢
      cases ht : pr.target with
      | none =>
        rw [ht] at hA
        exact c.T_resume q body p fuel iv s h hA
      | some t =>
        rw [ht] at hA
        simp only [Option.map_some] at hA ⊢
        have := c.i_eraseCb q s h t (.resume p)
        simp only [rnCb_resume] at this
        rw [← this]
        exact c.T_resume q body p fuel iv _ (h.eraseCb _ _) hA

/-- fuel hypothesis of one callback: only `Condition._build_value` takes fuel that depends on an event id -/
def cbFuelOK (s : KState ℚ σ) : Cb → Prop
  | .build cd => c.FuelOK s cd
  | _ => True

def loopFuelOK (body : σ → Resume → Burst ℚ σ) (fuel : Nat) (e : EvId) : List Cb → LoopSt ℚ σ → Prop
  | [], _ => True
  | cb :: cbs, l => c.cbFuelOK l.s cb ∧ loopFuelOK body fuel e cbs (runCb body fuel e l cb)

def stepFuelOK (body : σ → Resume → Burst ℚ σ) (fuel : Nat) (s : KState ℚ σ) : Prop :=
  match popMin s.agenda with
  | none => True
  | some (m, rest) =>
    match (s.ev m.ev).cbs with
    | none => True
    | some cbs => c.loopFuelOK body fuel m.ev cbs { s := openEvent s m rest }

def rnLoop (l : LoopSt ℚ σ) : LoopSt ℚ σ := { s := c.T q l.s, stop := l.stop.map (rnOutcome c.ρ) }

theorem T_runCb (body : σ → Resume → Burst ℚ σ) (fuel : Nat) (e : Nat) (l : LoopSt ℚ σ)
    (h : c.Inv l.s) (cb : Cb) (hf : c.cbFuelOK l.s cb) (hA : CbAll (c.simP body) body fuel e l.s cb) :
    runCb body fuel (c.ρ e) (c.rnLoop q l) (rnCb c.ρ cb) = c.rnLoop q (runCb body fuel e l cb) := by
  unfold runCb rnLoop
  cases cb with
  | resume p => simp only [rnCb]; rw [c.T_resume q body p fuel e l.s h hA]
  | probe tag =>
    simp only [rnCb]
    rw [c.out_T q l.s h]
    congr 1
    rw [c.i_emit]
    congr 2
    cases ho : (l.s.ev e).out with
    | none => rfl
    | some o =>
      cases o with
      | fail x => rfl
      | ok v => simp only [Option.map_some, rnOutcome_ok, c.r_freezeVal q l.s h]
  | stop =>
    simp only [rnCb]
    rw [c.out_T q l.s h]
    congr 1
    cases (l.s.ev e).out <;> rfl
  | intr iv =>
    simp only [rnCb]
    simp only [CbAll] at hA
    rw [c.kind_T q l.s h]
    cases hk : (l.s.ev iv).kind <;> simp only [rnKind]
    case intr p =>
      rw [hk] at hA
      rw [c.T_deliverInterrupt q body l.s h fuel iv p hA]
  | check cd => simp only [rnCb]; rw [← c.i_condCheck q l.s h]
  | build cd => simp only [rnCb]; rw [c.T_condBuild q l.s h cd hf]
  | trigPut r => simp only [rnCb]; rw [← c.i_triggerPut q l.s h]
  | trigGet r => simp only [rnCb]; rw [← c.i_triggerGet q l.s h]

theorem grow_runCb (body : σ → Resume → Burst ℚ σ) (fuel : Nat) (e : Nat) (l : LoopSt ℚ σ) (cb : Cb) :
    Grow l.s (runCb body fuel e l cb).s := Grow.krel.runCb body fuel e l cb

theorem T_foldCbs (body : σ → Resume → Burst ℚ σ) (fuel : Nat) (e : Nat) (cbs : List Cb)
    (l : LoopSt ℚ σ) (h : c.Inv l.s) (hf : c.loopFuelOK body fuel e cbs l) (hA : CbsAll (c.simP body) body fuel e cbs l) :
    (cbs.map (rnCb c.ρ)).foldl (runCb body fuel (c.ρ e)) (c.rnLoop q l) = c.rnLoop q (cbs.foldl (runCb body fuel e) l) := by
  induction cbs generalizing l with
  | nil => rfl
  | cons cb cs ih =>
    simp only [List.map_cons, List.foldl_cons]
    rw [c.T_runCb q body fuel e l h cb hf.1 hA.1]
    exact ih _ (h.mono (grow_runCb body fuel e l cb)) hf.2 hA.2

def mapT : StepResult ℚ σ → StepResult ℚ σ
  | .ok s => .ok (c.T q s)
  | .stopped o s => .stopped (rnOutcome c.ρ o) (c.T q s)
  | .crash x s => .crash (rnExc c.ρ x) (c.T q s)
  | .empty => .empty

omit c q in
theorem openEvent_eq (m : QEntry ℚ) (rest : List (QEntry ℚ)) :
    openEvent s m rest = { (s.setEv m.ev { s.ev m.ev with cbs := none }) with now := m.time, agenda := rest } := rfl

theorem T_openEvent (h : c.Inv s) (m : QEntry ℚ) (rest : List (QEntry ℚ)) :
    openEvent (c.T q s) (c.rnEntry m) (c.agT q rest) = c.T q (openEvent s m rest) := by
  have h1 := (c.i_setEv q s h m.ev { s.ev m.ev with cbs := none }).symm
  rw [show rnRec c.ρ { s.ev m.ev with cbs := none } = { rnRec c.ρ (s.ev m.ev) with cbs := none } from rfl,
    ← c.r_ev q s h] at h1
  rw [openEvent_eq, openEvent_eq]
  show ({ ((c.T q s).setEv (c.ρ m.ev) { (c.T q s).ev (c.ρ m.ev) with cbs := none }) with
    now := m.time, agenda := c.agT q rest } : KState ℚ σ) = _
  rw [h1]
  rfl

theorem closeEvent_T (l : LoopSt ℚ σ) (e : Nat) (h : c.Inv l.s) :
    closeEvent (c.rnLoop q l) (c.ρ e) = c.mapT q (closeEvent l e) := by
  unfold closeEvent rnLoop
  simp only
  cases hs : l.stop with
  | some o => rfl
  | none =>
    simp only [Option.map_none]
    rw [c.out_T q l.s h, c.defused_T q l.s h]
    cases ho : (l.s.ev e).out with
    | none => rfl
    | some o =>
      cases o with
      | ok v => rfl
      | fail x =>
        simp only [Option.map_some, rnOutcome_fail]
        split <;> rfl

theorem grow_openEvent (m : QEntry ℚ) (rest : List (QEntry ℚ)) :
    s.events.size ≤ (openEvent s m rest).events.size ∧ (openEvent s m rest).eid = s.eid := by
  unfold openEvent
  simp

variable {c s} in
theorem Inv.openEvent (h : c.Inv s) (m : QEntry ℚ) (rest : List (QEntry ℚ)) : c.Inv (openEvent s m rest) :=
  ⟨Nat.le_trans h.size (grow_openEvent s m rest).1, (grow_openEvent s m rest).2 ▸ h.eid⟩

theorem step_of_pop (body : σ → Resume → Burst ℚ σ) (fuel : Nat) (s : KState ℚ σ) (h : c.Inv s)
    (m : QEntry ℚ) (rest : List (QEntry ℚ)) (hp : popMin s.agenda = some (m, rest))
    (hp' : popMin (c.T q s).agenda = some (c.rnEntry m, c.agT q rest)) (hf : c.stepFuelOK body fuel s)
    (hS : c.SimStep body fuel s) :
    step body fuel (c.T q s) = c.mapT q (step body fuel s) := by
  unfold step
  rw [hp, hp']
  simp only
  unfold stepFuelOK at hf
  unfold SimStep StepAll at hS
  rw [hp] at hf hS
  simp only at hf hS
  have hev : (c.rnEntry m).ev = c.ρ m.ev := rfl
  rw [hev, c.cbs_T q s h]
  cases hc : (s.ev m.ev).cbs with
  | none =>
    simp only [Option.map_none]
    rw [c.T_openEvent q s h]
    rfl
  | some cbs =>
    rw [hc] at hf hS
    simp only [Option.map_some] at hS ⊢
    rw [c.T_openEvent q s h]
    have := c.T_foldCbs q body fuel m.ev cbs { s := openEvent s m rest } (h.openEvent m rest) hf hS
    unfold rnLoop at this
    simp only [Option.map_none] at this
    rw [this]
    exact c.closeEvent_T q _ m.ev (h.mono (Grow.krel.trans ⟨Nat.le_of_eq (grow_openEvent s m rest).2.symm,
      (grow_openEvent s m rest).1⟩ (Grow.krel.foldCbs body fuel m.ev cbs { s := openEvent s m rest })))

/-- **after the sentinel has been popped** the split run is in lockstep with the uninterrupted run for ever -/
theorem step_T_false_run (body : σ → Resume → Burst ℚ σ) (fuel : Nat) (s : KState ℚ σ) (h : c.Inv s)
    (hf : c.stepFuelOK body fuel s) (hS : c.SimStep body fuel s) :
    step body fuel (c.T false s) = c.mapT false (step body fuel s) := by
  cases hp : popMin s.agenda with
  | none =>
    have ha : (c.T false s).agenda = s.agenda.map c.rnEntry := rfl
    unfold step
    rw [hp, ha, c.popMin_map, hp]
    rfl
  | some mr =>
    obtain ⟨m, rest⟩ := mr
    refine c.step_of_pop false body fuel s h m rest hp ?_ hf hS
    show popMin (s.agenda.map c.rnEntry) = _
    rw [c.popMin_map, hp]
    rfl

theorem step_T_false (body : σ → Resume → Burst ℚ σ) (hB : BodySim c.ρ c.rσ body) (fuel : Nat) (h : c.Inv s)
    (hf : c.stepFuelOK body fuel s) :
    step body fuel (c.T false s) = c.mapT false (step body fuel s) :=
  c.step_T_false_run body fuel s h hf (c.simStep_of_bodySim body hB fuel s)

/-- the state in which `run(until=t)` returns: the sentinel is processed and gone from the agenda, the clock is `t` -/
def afterSentinel (s : KState ℚ σ) : KState ℚ σ := { c.T false s with now := c.t }

theorem openEvent_sentinel (h : c.Inv s) :
    openEvent (c.T true s) c.sentEntry (s.agenda.map c.rnEntry) = c.afterSentinel s := by
  have hev : (c.T true s).events.setIfInBounds c.u { (c.T true s).ev c.u with cbs := none } = (c.T false s).events := by
    apply Array.ext_getElem?
    intro j
    rw [getElem?_setIfInBounds_eq]
    rcases c.idx_T j with rfl | ⟨i, rfl⟩
    · rw [if_pos rfl, c.getElem?_T_u true s h, c.getElem?_T_u false s h, c.ev_T_u true s h]
      rfl
    · rw [if_neg (fun hc => c.ρ_ne_u i hc.symm), c.getElem?_T_ρ true s h, c.getElem?_T_ρ false s h]
  rw [openEvent_eq]
  unfold afterSentinel
  have h2 : (c.T true s).setEv c.sentEntry.ev { (c.T true s).ev c.sentEntry.ev with cbs := none } =
      { c.T true s with events := (c.T false s).events } := by
    unfold KState.setEv
    rw [show c.sentEntry.ev = c.u from rfl, hev]
  rw [h2]
  rfl

theorem step_sentinel (body : σ → Resume → Burst ℚ σ) (fuel : Nat) (h : c.Inv s)
    (hp' : popMin (c.T true s).agenda = some (c.sentEntry, s.agenda.map c.rnEntry)) :
    step body fuel (c.T true s) = .stopped (.ok .none) (c.afterSentinel s) := by
  unfold step
  rw [hp']
  simp only
  have hev : c.sentEntry.ev = c.u := rfl
  rw [hev, c.ev_T_u true s h, c.openEvent_sentinel s h]
  have hout : ((c.afterSentinel s).ev c.u).out = some (.ok .none) := by
    have h2 : (c.afterSentinel s).ev c.u = (c.T false s).ev c.u := rfl
    rw [h2, c.ev_T_u false s h]
    rfl
  show closeEvent ([Cb.stop].foldl (runCb body fuel c.u) { s := c.afterSentinel s }) c.u = _
  simp only [List.foldl_cons, List.foldl_nil, runCb, hout, Option.getD_some]
  rfl

/-- **while the sentinel is queued**: the split run pops the entry the uninterrupted run pops, unless the sentinel's key
is smaller — then it pops the sentinel -/
theorem step_T_true_run (body : σ → Resume → Burst ℚ σ) (fuel : Nat) (s : KState ℚ σ) (h : c.Inv s)
    (hs : SortedAg s) (hf : c.stepFuelOK body fuel s) (hS : c.SimStep body fuel s) :
    step body fuel (c.T true s) =
      match popMin s.agenda with
      | none => .stopped (.ok .none) (c.afterSentinel s)
      | some (m, _) =>
        if (c.rnEntry m).lt c.sentEntry then c.mapT true (step body fuel s)
        else .stopped (.ok .none) (c.afterSentinel s) := by
  have ha : (c.T true s).agenda = c.insSent s.agenda := rfl
  have hpop := c.popMin_insSent s.agenda hs.sorted
  cases hp : popMin s.agenda with
  | none =>
    rw [hp] at hpop
    have : s.agenda = [] := (popMin_none_iff _).mp hp
    simp only
    refine c.step_sentinel s body fuel h ?_
    rw [ha, hpop, this]
    rfl
  | some mr =>
    obtain ⟨m, rest⟩ := mr
    rw [hp] at hpop
    simp only at hpop ⊢
    by_cases hlt : (c.rnEntry m).lt c.sentEntry = true
    · rw [if_pos hlt] at hpop ⊢
      exact c.step_of_pop true body fuel s h m rest hp (by rw [ha, hpop]; rfl) hf hS
    · rw [if_neg hlt] at hpop ⊢
      exact c.step_sentinel s body fuel h (by rw [ha, hpop])

theorem step_T_true (body : σ → Resume → Burst ℚ σ) (hB : BodySim c.ρ c.rσ body) (fuel : Nat) (h : c.Inv s)
    (hs : SortedAg s) (hf : c.stepFuelOK body fuel s) :
    step body fuel (c.T true s) =
      match popMin s.agenda with
      | none => .stopped (.ok .none) (c.afterSentinel s)
      | some (m, _) =>
        if (c.rnEntry m).lt c.sentEntry then c.mapT true (step body fuel s)
        else .stopped (.ok .none) (c.afterSentinel s) :=
  c.step_T_true_run body fuel s h hs hf (c.simStep_of_bodySim body hB fuel s)

end SplitCfg
