import OnlVerif.Lemmas.SchedDRRCredit
/-!
# DRR: the ledger `S_c + credit_c = Q_c·visits_c − forfeited_c`, cyclic visits, accounting of departures

* `LedgerK`: for every class the bytes booked plus the credit equal quantum × visits minus the credit forgotten.
* `psi`: visits of a class minus "has this round's visit point been passed"; for two backlogged classes the
  difference of their `psi` never changes (each round visits both exactly once), so their visit counts differ by at
  most one more than their positions in the round.
* forfeited credit changes only when a class empties; booked bytes plus the packet whose sender has just ended
  account for the departures.
-/

namespace DRR
open MQ

/-- has the `for` loop of the current round passed the point where entry `i` receives its quantum? -/
def passed (i : Nat) : Pc → Int
  | .top => 0
  | .visit m => if i < m then 1 else 0
  | .inner m => if i ≤ m then 1 else 0
  | .gotPkt m => if i ≤ m then 1 else 0
  | .sent m => if i ≤ m then 1 else 0

theorem passed_range (i : Nat) (pc : Pc) : 0 ≤ passed i pc ∧ passed i pc ≤ 1 := by
  cases pc <;> simp only [passed] <;> (try split) <;> omega

theorem ite_one_mono {p q : Prop} [Decidable p] [Decidable q] (h : p → q) :
    (if p then (1 : Int) else 0) ≤ if q then 1 else 0 := by
  by_cases hp : p
  · rw [if_pos hp, if_pos (h hp)]
  · rw [if_neg hp]; split <;> decide

theorem passed_anti {i j : Nat} (h : i ≤ j) : ∀ pc, passed j pc ≤ passed i pc
  | .top => le_refl _
  | .visit _ => ite_one_mono (Nat.lt_of_le_of_lt h)
  | .inner _ | .gotPkt _ | .sent _ => ite_one_mono (Nat.le_trans h)

theorem passed_inner_of_ne {i j : Nat} (h : j ≠ i) : passed j (.inner i) = passed j (.visit i) := by
  have : (j ≤ i) = (j < i) := propext ⟨fun hle => Nat.lt_of_le_of_ne hle h, Nat.le_of_lt⟩
  simp only [passed, this]

def psi (k : Ctl ℚ) (i c : Nat) : Int := cnt k.visits c - passed i k.pc

def LedgerK (cfg : Cfg ℚ) (k : Ctl ℚ) : Prop :=
  ∀ cls d q, lookup k.deficit cls = some d → quantum cfg cls = some q →
    (cnt k.sentBytes cls : ℚ) + d = q * (cnt k.visits cls : ℚ) - acc k.forfeited cls

/-- class `c` is backlogged: `class_count[c] > 0` -/
def Pos (k : Ctl ℚ) (c : Nat) : Prop := ∃ n, lookup k.classCount c = some n ∧ 0 < n

theorem index_inj {β : Type} (m : List (Nat × β)) (hn : (m.map (·.1)).Nodup) (i j c : Nat) (v w : β)
    (hi : m[i]? = some (c, v)) (hj : m[j]? = some (c, w)) : i = j := by
  have hil : i < (m.map (·.1)).length := by
    rw [List.length_map]; by_contra hc; rw [List.getElem?_eq_none (not_lt.mp hc)] at hi; cases hi
  have hjl : j < (m.map (·.1)).length := by
    rw [List.length_map]; by_contra hc; rw [List.getElem?_eq_none (not_lt.mp hc)] at hj; cases hj
  have e1 : (m.map (·.1))[i] = c := by
    have : (m.map (·.1))[i]? = some c := by rw [List.getElem?_map, hi]; rfl
    rw [List.getElem?_eq_getElem hil] at this; exact Option.some.inj this
  have e2 : (m.map (·.1))[j] = c := by
    have : (m.map (·.1))[j]? = some c := by rw [List.getElem?_map, hj]; rfl
    rw [List.getElem?_eq_getElem hjl] at this; exact Option.some.inj this
  exact (List.getElem_inj hn).mp (e1.trans e2.symm)

/-- entries `ia`, `ib` of `class_count` are the classes `a`, `b`, both backlogged -/
def Both (ia ib a b : Nat) (s : St) : Prop :=
  ∃ na nb, s.ctl.classCount[ia]? = some (a, na) ∧ s.ctl.classCount[ib]? = some (b, nb) ∧ 0 < na ∧ 0 < nb

theorem Both.congr {ia ib a b : Nat} {s s' : St} (h : s'.ctl.classCount = s.ctl.classCount) (hB : Both ia ib a b s') :
    Both ia ib a b s := by
  unfold Both at hB ⊢
  rwa [h] at hB

theorem dsettles_frame (cfg : Cfg ℚ) (s s' : St) (hs : DSettles cfg s s') :
    s'.ctl.classCount = s.ctl.classCount ∧ s'.ctl.sentBytes = s.ctl.sentBytes ∧ s'.ctl.forfeited = s.ctl.forfeited ∧
    s'.ctl.deficit.map (·.1) = s.ctl.deficit.map (·.1) ∧
    ((∃ c p, s'.phase = .pktHanded c p) ∨ (∃ p i, s'.phase = .spawned p ∧ s'.ctl.pc = .sent i) ∨
      s'.phase = .waitToken ∨ s'.phase = .tokenHanded) := by
  induction hs with
  | topGo s s' _ _ _ ih => exact ih
  | topBlock s _ _ =>
    obtain ⟨n, ph, hph, e⟩ := blockOnToken_eq ({ s with ctl := { s.ctl with pc := Pc.top } } : St)
    rw [e]
    exact ⟨rfl, rfl, rfl, rfl, .inr (.inr hph)⟩
  | topSpin s s' _ _ _ _ ih => exact ih
  | roundEnd s i s' _ _ _ ih => exact ih
  | visitAdd s i cls n d q s' _ _ _ hd _ _ ih =>
    exact ⟨ih.1, ih.2.1, ih.2.2.1, ih.2.2.2.1.trans (keys_setKey_present _ _ _ _ hd), ih.2.2.2.2⟩
  | visitSkip s i cls n s' _ _ _ _ ih => exact ih
  | innerExit s i cls n d s' _ _ _ _ _ ih => exact ih
  | innerGet s i cls n d s' _ _ _ _ _ _ hg =>
    obtain ⟨p, rest, _, rfl⟩ := issueGet_ok hg
    exact ⟨rfl, rfl, rfl, rfl, .inl ⟨_, _, rfl⟩⟩
  | takeSend s i cls n d p _ _ _ _ _ _ _ _ => exact ⟨rfl, rfl, rfl, rfl, .inr (.inl ⟨p, i, rfl, rfl⟩)⟩
  | takePark s i cls n d p s' _ _ _ _ _ _ _ _ _ ih => exact ih

/-- a burst keeps the ledger balanced: only `visitAdd` touches it, adding one quantum and one visit -/
theorem dsettles_ledger (cfg : Cfg ℚ) (s s' : St) (hs : DSettles cfg s s') (hl : LedgerK cfg s.ctl) :
    LedgerK cfg s'.ctl := by
  induction hs with
  | topGo s s' _ _ _ ih => exact ih hl
  | topBlock s _ _ =>
    obtain ⟨n, ph, _, e⟩ := blockOnToken_eq ({ s with ctl := { s.ctl with pc := Pc.top } } : St)
    rw [e]
    exact hl
  | topSpin s s' _ _ _ _ ih => exact ih hl
  | roundEnd s i s' _ _ _ ih => exact ih hl
  | visitAdd s i cls n d q s' _ _ _ hd hq _ ih =>
    refine ih fun c d' q' hd' hq' => ?_
    simp only [addQuantum] at hd' ⊢
    rw [cnt_bump]
    rcases lookup_setKey_some hd' with ⟨rfl, rfl⟩ | ⟨hc, hd'⟩
    · cases hq.symm.trans hq'
      have := hl c d q hd hq
      simp only [if_true]
      push_cast
      rw [← add_assoc, this]
      ring1
    · simp only [hc, if_false, add_zero]
      exact hl c d' q' hd' hq'
  | visitSkip s i cls n s' _ _ _ _ ih => exact ih hl
  | innerExit s i cls n d s' _ _ _ _ _ ih => exact ih hl
  | innerGet s i cls n d s' _ _ _ _ _ _ hg =>
    obtain ⟨p, rest, _, rfl⟩ := issueGet_ok hg
    exact hl
  | takeSend s i cls n d p _ _ _ _ _ _ _ _ => exact hl
  | takePark s i cls n d p s' _ _ _ _ _ _ _ _ _ ih => exact ih hl

/-- a burst keeps the difference of the `psi` of two backlogged entries: a round gives each its quantum exactly once -/
theorem dsettles_psi (cfg : Cfg ℚ) (s s' : St) (hs : DSettles cfg s s') (hn : (s.ctl.classCount.map (·.1)).Nodup)
    {ia ib a b : Nat} (hB : Both ia ib a b s) :
    psi s'.ctl ia a - psi s'.ctl ib b = psi s.ctl ia a - psi s.ctl ib b := by
  induction hs with
  | topGo s s' hpc _ _ ih => exact (ih hn hB).trans (by simp [psi, passed, hpc])
  | topBlock s hpc _ =>
    obtain ⟨n, ph, _, e⟩ := blockOnToken_eq ({ s with ctl := { s.ctl with pc := Pc.top } } : St)
    rw [e]
    simp [psi, passed, hpc]
  | topSpin s s' hpc _ _ _ ih => exact (ih hn hB).trans (by simp [psi, passed, hpc])
  | roundEnd s i s' hpc hnone _ ih =>
    refine (ih hn hB).trans ?_
    obtain ⟨na, nb, ha, hb, _, _⟩ := hB
    have hlen : s.ctl.classCount.length ≤ i := by
      by_contra hc
      rw [List.getElem?_eq_getElem (not_le.mp hc)] at hnone; cases hnone
    have hia : ia < i := by
      by_contra hc
      rw [List.getElem?_eq_none (le_trans hlen (not_lt.mp hc))] at ha; cases ha
    have hib : ib < i := by
      by_contra hc
      rw [List.getElem?_eq_none (le_trans hlen (not_lt.mp hc))] at hb; cases hb
    simp [psi, passed, hpc, hia, hib]
  | visitAdd s i cls n d q s' hpc hcc hpos hd hq _ ih =>
    refine (ih hn hB).trans ?_
    obtain ⟨na, nb, ha, hb, _, _⟩ := hB
    have key : ∀ j c m, s.ctl.classCount[j]? = some (c, m) →
        psi ({ addQuantum s.ctl cls d q with pc := Pc.inner i } : Ctl ℚ) j c = psi s.ctl j c := by
      intro j c m hj
      simp only [psi, addQuantum, hpc, cnt_bump]
      by_cases hji : j = i
      · subst hji
        rw [hcc] at hj; cases hj
        simp [passed]
      · have hc : c ≠ cls := fun hx => hji (index_inj _ hn j i c m n hj (hx ▸ hcc))
        simp [hc, passed_inner_of_ne hji]
    rw [key ia a na ha, key ib b nb hb]
  | visitSkip s i cls n s' hpc hcc hnp _ ih =>
    refine (ih hn hB).trans ?_
    obtain ⟨na, nb, ha, hb, hna, hnb⟩ := hB
    have key : ∀ j c m, s.ctl.classCount[j]? = some (c, m) → 0 < m →
        psi ({ s.ctl with pc := Pc.inner i } : Ctl ℚ) j c = psi s.ctl j c := by
      intro j c m hj hm
      simp only [psi, hpc]
      by_cases hji : j = i
      · subst hji
        rw [hcc] at hj; cases hj
        exact absurd hm hnp
      · rw [passed_inner_of_ne hji]
    rw [key ia a na ha hna, key ib b nb hb hnb]
  | innerExit s i cls n d s' hpc hcc hd hcond _ ih =>
    exact (ih hn hB).trans (by simp [psi, passed, hpc, Nat.lt_succ_iff])
  | innerGet s i cls n d s' hpc hcc hd hdp hnp hhol hg =>
    obtain ⟨p, rest, _, rfl⟩ := issueGet_ok hg
    simp [psi, passed, hpc]
  | takeSend s i cls n d p hpc hcc hd hdp hnp hhol hcl hle => simp [psi, passed, hpc, spawn]
  | takePark s i cls n d p s' hpc hcc hd hdp hnp hhol hcl hle _ ih =>
    exact (ih hn hB).trans (by simp [psi, passed, hpc, Nat.lt_succ_iff])

/-- bytes of class `c` whose sender has ended but which the loop has not booked yet -/
def pend (cfg : Cfg ℚ) (s : St) (c : Nat) : Int :=
  match s.phase with
  | .finished p => if classOf cfg p.flow = some c then (p.size : Int) else 0
  | _ => 0

/-- bytes of class `c` that depart with this output -/
def depB (cfg : Cfg ℚ) (o : MOut ℚ) (c : Nat) : Int :=
  match o with
  | .depart p => if classOf cfg p.flow = some c then (p.size : Int) else 0
  | _ => 0

theorem pend_of_end (cfg : Cfg ℚ) (s' : St) (c : Nat)
    (h : (∃ c p, s'.phase = .pktHanded c p) ∨ (∃ p i, s'.phase = .spawned p ∧ s'.ctl.pc = .sent i) ∨
      s'.phase = .waitToken ∨ s'.phase = .tokenHanded) :
    pend cfg s' c = 0 := by
  rcases h with ⟨c', p, h⟩ | ⟨p, i, h, _⟩ | h | h <;> simp [pend, h]

theorem fair_of_burst (cfg : Cfg ℚ) (s0 s' : St) (hs : DSettles cfg s0 s') (hn : (s0.ctl.classCount.map (·.1)).Nodup)
    (hl : LedgerK cfg s0.ctl) :
    LedgerK cfg s'.ctl ∧
    (∀ ia ib a b, Both ia ib a b s' → psi s'.ctl ia a - psi s'.ctl ib b = psi s0.ctl ia a - psi s0.ctl ib b) ∧
    s'.ctl.classCount = s0.ctl.classCount ∧ s'.ctl.forfeited = s0.ctl.forfeited ∧
    ∀ c, cnt s'.ctl.sentBytes c + pend cfg s' c = cnt s0.ctl.sentBytes c := by
  obtain ⟨h1, h2, h3, _, h5⟩ := dsettles_frame cfg s0 s' hs
  exact ⟨dsettles_ledger cfg s0 s' hs hl, fun ia ib a b hB => dsettles_psi cfg s0 s' hs hn (hB.congr h1), h1, h3,
    fun c => by rw [h2, pend_of_end cfg s' c h5, add_zero]⟩

theorem dtrans_fair (cfg : Cfg ℚ) (L : ℚ) (s s' : St) (a : MAct ℚ) (o : MOut ℚ) (ht : DTrans cfg s a s' o)
    (hc : Credit cfg L s) (hl : LedgerK cfg s.ctl) :
    LedgerK cfg s'.ctl ∧
    (∀ ia ib a b, Both ia ib a b s' → psi s'.ctl ia a - psi s'.ctl ib b = psi s.ctl ia a - psi s.ctl ib b) ∧
    (∀ c, Pos s'.ctl c → acc s'.ctl.forfeited c = acc s.ctl.forfeited c) ∧
    (∀ c, cnt s'.ctl.sentBytes c + pend cfg s' c = cnt s.ctl.sentBytes c + pend cfg s c + depB cfg o c) := by
  cases ht with
  | init _ hp hs | wake _ hp hs =>
    obtain ⟨h1, h2, _, h4, h5⟩ := fair_of_burst cfg _ s' hs hc.nodup hl
    exact ⟨h1, h2, fun c _ => by rw [h4], fun c => by rw [h5]; simp [pend, hp, depB]⟩
  | put p cls n hcl hn =>
    obtain ⟨m, _, e⟩ :=
      put_eq ({ s with ctl := { s.ctl with classCount := setKey s.ctl.classCount cls (n + 1) } } : St) p cls
    rw [e]
    refine ⟨hl, fun _ _ _ _ _ => rfl, fun c _ => rfl, fun c => ?_⟩
    simp only [pend, depB]; omega
  | tokenHandoff n hp _ | sendInit p hp | tickIdle t _ hp _ | tickBusy t p due _ hp _ =>
    exact ⟨hl, fun _ _ _ _ _ => rfl, fun c _ => rfl, fun c => by simp [pend, hp, depB]⟩
  | resumeSend cls p i d hp hpc hd hcl hle =>
    refine ⟨hl, fun _ _ _ _ _ => ?_, fun c _ => rfl, fun c => by simp [pend, hp, depB, spawn]⟩
    simp [psi, passed, hpc, spawn]
  | resumePark cls p i d _ hp hpc hd hcl hle hnone hs =>
    obtain ⟨h1, h2, _, h4, h5⟩ := fair_of_burst cfg _ s' hs hc.nodup hl
    refine ⟨h1, fun ia ib a b hB => (h2 ia ib a b hB).trans ?_, fun c _ => by rw [h4],
      fun c => by rw [h5]; simp [pend, hp, depB]⟩
    simp [psi, passed, hpc, Nat.lt_succ_iff]
  | sendFire p due hp hnow =>
    exact ⟨hl, fun _ _ _ _ _ => rfl, fun c _ => rfl, fun c => by simp [pend, hp, depB, countOut]⟩
  | sendDone p i cls n d _ hp hpc hcc hd hs =>
    have hkey : keyAt s.ctl i = some cls := by simp [keyAt, hcc]
    have hcn : lookup s.ctl.classCount cls = some n := lookup_of_getElem _ hc.nodup i cls n hcc
    have hcl : classOf cfg p.flow = some cls := by
      rw [(hc.txClass i p hpc (Or.inr (Or.inr hp))).1]; exact hkey
    have hn1 : ((book s.ctl cls d n p).classCount.map (·.1)).Nodup := by
      rw [book_classCount, keys_setKey_present _ _ _ _ hcn]; exact hc.nodup
    have hl1 : LedgerK cfg ({ book s.ctl cls d n p with pc := Pc.inner i } : Ctl ℚ) := by
      intro c d' q hd' hq
      dsimp only at hd' ⊢
      rw [book_deficit] at hd'
      rw [book_sentBytes, book_visits, book_forfeited, cnt_bump]
      rcases lookup_setKey_some hd' with ⟨rfl, rfl⟩ | ⟨hcc', hd'⟩
      · have := hl c d q hd hq
        simp only [if_true]
        split
        · simp only [acc, lookup_setKey_same, Option.getD_some]
          push_cast
          have e : acc s.ctl.forfeited c = (lookup s.ctl.forfeited c).getD Num.zero := rfl
          rw [← e, ← sub_sub, ← this]
          ring1
        · push_cast
          rw [← this]
          ring1
      · have := hl c d' q hd' hq
        simp only [hcc', if_false, add_zero]
        split
        · simp only [acc, lookup_setKey_ne _ _ _ _ hcc']
          exact this
        · exact this
    obtain ⟨h1, h2, h3, h4, h5⟩ := fair_of_burst cfg _ s' hs hn1 hl1
    refine ⟨h1, fun ia ib a b hB => (h2 ia ib a b hB).trans ?_, fun c hpos => ?_, fun c => ?_⟩
    · simp [psi, passed, hpc, book_visits]
    · rw [h4]
      show acc (book s.ctl cls d n p).forfeited c = acc s.ctl.forfeited c
      rw [book_forfeited]
      split
      · rename_i hz
        by_cases hcc' : c = cls
        · subst hcc'
          obtain ⟨m, hm, hmpos⟩ := hpos
          rw [h3] at hm
          have : lookup (book s.ctl c d n p).classCount c = some m := hm
          rw [book_classCount, lookup_setKey_same] at this
          cases this; omega
        · simp only [acc, lookup_setKey_ne _ _ _ _ hcc']
      · rfl
    · rw [h5]
      show cnt (book s.ctl cls d n p).sentBytes c = _
      rw [book_sentBytes, cnt_bump]
      simp only [pend, hp, depB, hcl]
      by_cases hcc' : c = cls
      · subst hcc'; simp
      · have : ¬ (some cls = some c) := fun hx => hcc' (Option.some.inj hx).symm
        simp [hcc', this]
  | sample inc => exact ⟨hl, fun _ _ _ _ _ => rfl, fun c _ => rfl, fun c => by simp [depB]⟩

end DRR
