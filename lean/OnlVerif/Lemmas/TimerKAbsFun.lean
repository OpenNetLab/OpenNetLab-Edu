import OnlVerif.Lemmas.TimerKRun
/-!
# The Timer on the kernel model: the executable abstraction function reads the configuration's LTS state off the kernel state
-/

namespace TimerK
open TimerOnK QEntry
open Timer (CbOp PStat UEv)

variable {auto : Bool} {arg : Int} {s : KS} {a : A}

theorem findSome?_none_of {α β} (f : α → Option β) (l : List α) (h : ∀ x ∈ l, f x = none) : l.findSome? f = none := by
  induction l with
  | nil => rfl
  | cons x xs ih =>
    rw [List.findSome?_cons, h x (by simp)]
    exact ih fun y hy => h y (by simp [hy])

theorem findSome?_unique {α β} (f : α → Option β) (l : List α) (v : β) (hx : ∃ x ∈ l, f x = some v)
    (h : ∀ y ∈ l, f y = none ∨ f y = some v) : l.findSome? f = some v := by
  induction l with
  | nil => obtain ⟨x, hx, _⟩ := hx; cases hx
  | cons y ys ih =>
    rw [List.findSome?_cons]
    rcases h y (by simp) with hy | hy
    · rw [hy]
      refine ih ?_ (fun z hz => h z (by simp [hz]))
      obtain ⟨x, hx1, hx2⟩ := hx
      rcases List.mem_cons.mp hx1 with rfl | hx1
      · rw [hy] at hx2; cases hx2
      · exact ⟨x, hx1, hx2⟩
    · rw [hy]

/-- what the agenda scan of `victimOf` sees in an entry -/
def vicF (s : KS) (q : QEntry ℚ) : Option EvId :=
  match (s.ev q.ev).kind with
  | .intr p => some p
  | _ => none

theorem vicF_of_kind {q : QEntry ℚ} {k : Kind} (h : (s.ev q.ev).kind = k) (hk : ∀ p, k ≠ .intr p) : vicF s q = none := by
  unfold vicF
  rw [h]
  cases k <;> first | rfl | exact absurd rfl (hk _)

/-- the `Interruption` in the agenda is the one of the configuration -/
theorem victimOf_eq (hk : KInv s a) : victimOf s = a.old.map (·.p) := by
  have hf : ∀ x ∈ a.entries, x ∈ oldEntries a.old ∨ vicF s x = none := by
    refine A.forall_entries.mpr ⟨fun x hx => .inr ?_, fun x hx => .inl hx, fun x hx => .inr ?_, fun x hx => .inr ?_⟩
    · have htm := hk.tm
      cases hph : a.ph <;> rw [hph] at htm hx
      · obtain rfl := List.mem_singleton.mp hx
        exact vicF_of_kind (k := .init a.cur) (by rw [htm.1]; exact htm.2.1.1) nofun
      · obtain rfl := List.mem_singleton.mp hx
        exact vicF_of_kind (k := .timeout) (by rw [htm.1]; exact htm.2.1.1) nofun
      · exact absurd hx List.not_mem_nil
    · have hc := hk.ctl
      cases hctl : a.ctl <;> rw [hctl] at hc hx
      · obtain rfl := List.mem_singleton.mp hx
        exact vicF_of_kind (k := .init a.cp) (by rw [hc.1]; exact hc.2.1.1) nofun
      · obtain rfl := List.mem_singleton.mp hx
        exact vicF_of_kind hc.1.1 nofun
      · exact absurd hx List.not_mem_nil
    · exact (hk.noop x hx).2.2.elim (vicF_of_kind · nofun) (vicF_of_kind · nofun)
  show s.agenda.findSome? (vicF s) = _
  cases ho : a.old with
  | none =>
    refine findSome?_none_of _ _ ?_
    intro x hx
    rcases hf x (hk.ag.subset hx) with h | h
    · simp [ho, oldEntries] at h
    · exact h
  | some o =>
    obtain ⟨h1, h2, -, h4, h5, -⟩ := hk.old o ho
    have hqi : vicF s o.qi = some o.p := by
      unfold vicF
      rw [h1, h2.1]
    refine findSome?_unique _ _ o.p ⟨o.qi, hk.ag.symm.subset (mem_old ho List.mem_cons_self), hqi⟩ ?_
    intro y hy
    rcases hf y (hk.ag.subset hy) with h | h
    · simp only [ho, oldEntries, Old.entries, List.mem_cons, List.not_mem_nil, or_false] at h
      rcases h with rfl | rfl
      · exact Or.inr hqi
      · have h' : (s.ev o.qt.ev).kind = Kind.timeout := by rw [h4]; exact h5.1
        exact Or.inl (vicF_of_kind h' (by intro p h; cases h))
    · exact Or.inl h

theorem cellVal_eq (k : Nat) : cellVal s k = lookup s.shared k := rfl

theorem statOf_cur (hk : KInv s a) : statOf s a.cur = a.ph.stat := by
  have htm := hk.tm
  unfold statOf
  cases hph : a.ph with
  | init q0 =>
    rw [hph] at htm
    simp [htm.2.2.2.2.2, htm.2.2.1, TPhase.stat]
  | sleep t q0 =>
    rw [hph] at htm
    simp [htm.2.2.2.2.2, htm.2.2.1, TPhase.stat]
  | dead =>
    rw [hph] at htm
    obtain ⟨-, o, ho⟩ := htm
    simp [ho, TPhase.stat]

theorem statOf_old (hk : KInv s a) {o : Old} (ho : a.old = some o) : statOf s o.p = .sleeping o.qt.time := by
  obtain ⟨-, -, -, -, -, h6, h7⟩ := hk.old o ho
  unfold statOf
  simp [h7.2.2, h6]

theorem absTimer_eq (hk : KInv s a) : absTimer auto arg s = toT auto arg a s.now := by
  have hn : cellNat s cStarted = a.dead.length + (oldStat a.old).length + 1 := by
    unfold cellNat
    rw [cellVal_eq, show cStarted = 6 from rfl, hk.c6]
    exact Int.toNat_natCast _
  have hcur : cellVal s cProc = .ev a.cur := hk.c4
  have hst : (cellNat s cStopped != 0) = a.stopped := by
    unfold cellNat
    rw [cellVal_eq, show cStopped = 0 from rfl, hk.c0]
    cases a.stopped <;> simp
  have h1 : cellTime s cExpire = a.expire := by
    unfold cellTime; rw [cellVal_eq, show cExpire = 1 from rfl, hk.c1, dec_enc]; rfl
  have h2 : cellTime s cTimeout = a.timeout := by
    unfold cellTime; rw [cellVal_eq, show cTimeout = 2 from rfl, hk.c2, dec_enc]; rfl
  have h3 : cellTime s cStart = a.start := by
    unfold cellTime; rw [cellVal_eq, show cStart = 3 from rfl, hk.c3, dec_enc]; rfl
  unfold absTimer toT
  simp only [hn, hcur, hst, h1, h2, h3, victimOf_eq hk, statOf_cur hk, A.nprev]
  have hrep : List.replicate a.dead.length (PStat.finished : PStat ℚ) = a.dead.map fun _ => PStat.finished := by
    rw [List.map_const']
  cases ho : a.old with
  | none =>
    simp only [oldStat, List.length_nil, Nat.add_zero, Nat.add_sub_cancel, Option.map_none, Option.toList_none, List.map_nil,
      List.nil_append, Nat.sub_zero, hrep]
    cases hph : a.ph <;> rfl
  | some o =>
    simp only [oldStat, List.length_singleton, Nat.add_sub_cancel, Option.map_some, Option.toList_some, List.map_cons, List.map_nil,
      hrep, statOf_old hk ho, List.singleton_append]
    have e2 : a.dead.length + 1 + 1 - 2 = a.dead.length := by omega
    rw [e2]
    cases hph : a.ph <;> rfl

end TimerK
