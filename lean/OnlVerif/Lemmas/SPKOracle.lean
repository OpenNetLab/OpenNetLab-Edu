import OnlVerif.Lemmas.SPKRefine
/-!
# The SP scheduler on the kernel model: the put / serve / out history of every run passes the property's oracle

`OInv` relates the state of the oracle (`SPOnK.ostep`) after the history so far to the configuration: its waiting queues are
the per-flow stores (plus the packet `run` has taken and not yet printed), its packet in transmission is the sender's, and
what the next `serve` / `out` observation must satisfy is already determined by the phase of `run`.
-/

namespace SPK
open SPOnK

variable (F : Nat) (flow size : Int → Nat) (cfg : SP.Cfg ℚ)

/-- the packet `run` has taken from `stores[f]` whose `serve` observation is still to come -/
def heldH (a : A) (f : Nat) : List Int :=
  match a.run with
  | .H _ _ id _ => if flow id = f then [id] else []
  | _ => []

/-- the arrivals the source has still to make -/
def srcFuture (now : ℚ) : SPhase → List (Int × ℚ)
  | .init _ arr => arrivalsFrom now arr
  | .wait id rest q => (id, q.time) :: arrivalsFrom q.time rest
  | _ => []

def obsPuts : List (HEv ℚ) → List (Int × ℚ)
  | [] => []
  | .put id t :: r => (id, t) :: obsPuts r
  | _ :: r => obsPuts r

def PhO (now : ℚ) (o : OSt ℚ) : RPhase → Prop
  | .init _ => o.busy = none ∧ ∀ f, f < F → ∀ x ∈ o.waiting f, x.2 = now
  | .W _ => o.busy = none ∧ ∀ f, f < F → ∀ x ∈ o.waiting f, x.2 = now
  | .K _ _ => o.busy = none ∧ ∀ f, f < F → ∀ x ∈ o.waiting f, x.2 = now
  | .H _ _ id _ => o.busy = none ∧ (o.lastOut = some now ∨ ∀ f, f < F → ∀ x ∈ o.waiting f, x.2 = now) ∧
      ∃ e ∈ cfg.prios, e.1 = flow id ∧ 0 < e.2 ∧ ∀ f', f' < F → higher cfg.prios e.2 f' → ∀ x ∈ o.waiting f', x.2 = now
  | .S _ id _ => o.busy = some (id, now)
  | .T _ _ id q => ∃ s0, o.busy = some (id, s0) ∧ q.time = s0 + txTime size cfg.rate id
  | .F _ _ _ => o.busy = none ∧ o.lastOut = some now

structure OInv (arrivals : List (ℚ × Int)) (a : A) (now : ℚ) (hist : List (HEv ℚ)) (o : OSt ℚ) : Prop where
  run : orun F flow size cfg oInit hist = some o
  wq : ∀ f, f < F → (o.waiting f).map (·.1) = heldH flow a f ++ a.items f
  wt : ∀ f, f < F → ∀ x ∈ o.waiting f, x.2 ≤ now
  ph : PhO F flow size cfg now o a.run
  fut : obsPuts hist ++ srcFuture now a.src = arrivalsFrom 0 arrivals

variable {F flow size cfg}

theorem orun_append (o : OSt ℚ) (l1 l2 : List (HEv ℚ)) :
    orun F flow size cfg o (l1 ++ l2) = (orun F flow size cfg o l1).bind fun o' => orun F flow size cfg o' l2 :=
  KExec.optRun_append (fun _ => rfl) (fun _ _ _ => rfl) o l1 l2

theorem obsPuts_append (l1 l2 : List (HEv ℚ)) : obsPuts (l1 ++ l2) = obsPuts l1 ++ obsPuts l2 := by
  induction l1 with
  | nil => rfl
  | cons x r ih => cases x <;> simp [obsPuts, ih]

theorem eqT_iff (x y : ℚ) : eqT x y ↔ x = y := incomp_iff x y

theorem srcFuture_srcNext (t : ℚ) (eid ev : Nat) (arr : List (ℚ × Int)) (now : ℚ) :
    srcFuture now (srcNext t eid ev arr) = arrivalsFrom t arr := by
  cases arr with
  | nil => rfl
  | cons x r => obtain ⟨gap, id⟩ := x; rfl

variable {arrivals : List (ℚ × Int)} {a : A} {now : ℚ} {q : QEntry ℚ} {hist : List (HEv ℚ)} {o : OSt ℚ}

theorem waiting_nil (ho : OInv F flow size cfg arrivals a now hist o) {f : Nat} (hf : f < F) (hh : heldH flow a f = [])
    (hi : a.items f = []) : o.waiting f = [] := by
  have := ho.wq f hf
  rw [hh, hi] at this
  exact List.map_eq_nil_iff.mp this

/-- **letting the clock advance to the next entry changes nothing** -/
theorem OInv.advance (hi : AInv flow F cfg a now) (hq : IsMin a q) (ho : OInv F flow size cfg arrivals a now hist o) :
    OInv F flow size cfg arrivals a q.time hist o := by
  rcases eq_or_lt_of_le (hi.now_le hq) with h | h
  · rw [← h]; exact ho
  obtain ⟨hrun, hsrc, -⟩ := hi.quiet hq h
  have hp := hi.run
  have hph := ho.ph
  refine ⟨ho.run, ho.wq, fun f hf x hx => le_trans (ho.wt f hf x hx) (le_of_lt h), ?_, ?_⟩
  · rcases hrun with ⟨⟨g, hr⟩, htk⟩ | ⟨p, t, id, q0, hr⟩
    · rw [hr] at hp hph ⊢
      refine ⟨hph.1, ?_⟩
      intro f hf x hx
      have := waiting_nil ho hf (by simp [heldH, hr]) (hp.1 htk f hf)
      rw [this] at hx; cases hx
    · rw [hr] at hph ⊢; exact hph
  · have := ho.fut
    rcases hsrc with ⟨id, rest, q0, hr⟩ | hr <;> (rw [hr] at this ⊢; exact this)

theorem firstHit_spec (ln : Nat → Nat) : ∀ (tbl : List (Nat × Int)) (i j f : Nat), firstHit ln i tbl = some (j, f) →
    i ≤ j ∧ ∃ π, tbl[j - i]? = some (f, π) ∧ 0 < π ∧
      ∀ k, k < j - i → ∀ f' π', tbl[k]? = some (f', π') → 0 < π' → ln f' = 0
  | [], _, _, _, h => by simp [firstHit] at h
  | (f0, pr) :: rest, i, j, f, h => by
    simp only [firstHit] at h
    have skip : firstHit ln (i + 1) rest = some (j, f) → (0 < pr → ln f0 = 0) →
        i ≤ j ∧ ∃ π, ((f0, pr) :: rest)[j - i]? = some (f, π) ∧ 0 < π ∧
          ∀ k, k < j - i → ∀ f' π', ((f0, pr) :: rest)[k]? = some (f', π') → 0 < π' → ln f' = 0 := by
      intro h' h0
      obtain ⟨hle, π, h1, h2, h3⟩ := firstHit_spec ln rest (i + 1) j f h'
      have hji : j - i = (j - (i + 1)) + 1 := by omega
      refine ⟨by omega, π, by rw [hji, List.getElem?_cons_succ]; exact h1, h2, ?_⟩
      intro k hk f' π' hk' hpos
      cases k with
      | zero =>
        simp only [List.getElem?_cons_zero, Option.some.injEq, Prod.mk.injEq] at hk'
        obtain ⟨rfl, rfl⟩ := hk'
        exact h0 hpos
      | succ k =>
        rw [List.getElem?_cons_succ] at hk'
        exact h3 k (by omega) f' π' hk' hpos
    by_cases hpr : 0 < pr
    · simp only [hpr, if_true] at h
      by_cases hz : ln f0 = 0
      · simp only [hz, if_true] at h
        exact skip h (fun _ => hz)
      · simp only [hz, if_false, Option.some.injEq, Prod.mk.injEq] at h
        obtain ⟨rfl, rfl⟩ := h
        refine ⟨le_refl _, pr, by simp, hpr, ?_⟩
        intro k hk; omega
    · simp only [hpr, if_false] at h
      exact skip h (fun h0 => absurd h0 hpr)

variable {n e : Nat}

/-- the decision of `run`: it has found the head of `stores[f]`; every flow with a higher priority has an empty store -/
theorem scan_strict (F : Nat) {i f : Nat} (hs : a.scan (SP.table cfg) = some (i, f)) :
    ∃ ent ∈ cfg.prios, ent.1 = f ∧ 0 < ent.2 ∧ ∀ f', f' < F → higher cfg.prios ent.2 f' → a.items f' = [] := by
  obtain ⟨-, π, h1, h2, h3⟩ := firstHit_spec _ _ _ _ _ hs
  simp only [Nat.sub_zero] at h1 h3
  refine ⟨(f, π), (SP.mem_sortDesc _ _).mp (List.mem_of_getElem? h1), rfl, h2, ?_⟩
  intro f' hf' ⟨e', he', he1, he2⟩
  obtain ⟨j, hj, hjb⟩ := SP.higher_before cfg.prios i (f, π) e' h1 he' he2
  have := h3 j hj e'.1 e'.2 hjb (lt_trans h2 he2)
  rw [he1] at this
  exact List.eq_nil_of_length_eq_zero this

theorem heldH_none {a : A} (h : ∀ g i id q0, a.run ≠ .H g i id q0) (f : Nat) : heldH flow a f = [] := by
  unfold heldH
  cases hr : a.run with
  | H => exact absurd hr (h _ _ _ _)
  | _ => rfl

/-- the new configuration after the server has taken the head of `stores[f]`: the oracle does not move -/
theorem oinv_hit (hi : AInv flow F cfg a q.time) (ho : OInv F flow size cfg arrivals a q.time hist o) {i f : Nat} {id : Int}
    {is : List Int} (hh : ∀ g i id q0, a.run ≠ .H g i id q0) (hbusy : o.busy = none)
    (hwc : o.lastOut = some q.time ∨ ∀ f, f < F → ∀ x ∈ o.waiting f, x.2 = q.time)
    (hs : a.scan (SP.table cfg) = some (i, f)) (hf : f < F) (hit : a.items f = id :: is) :
    ∃ o', OInv F flow size cfg arrivals { a with run := .H n i id ⟨q.time, NORMAL, e, n⟩, items := upd a.items f is } q.time (hist ++ []) o' := by
  have hfl : flow id = f := hi.flowOK f hf id (by rw [hit]; simp)
  rw [List.append_nil]
  refine ⟨o, ho.run, ?_, ho.wt, ⟨hbusy, hwc, ?_⟩, ho.fut⟩
  · intro f' hf'
    have := ho.wq f' hf'
    rw [heldH_none hh] at this
    simp only [heldH, hfl]
    exact this.trans (MQK.take_split hit f')
  · obtain ⟨ent, hm, h1, h2, h3⟩ := scan_strict F hs
    refine ⟨ent, hm, by rw [h1, hfl], h2, ?_⟩
    intro f' hf' hhi x hx
    have := waiting_nil ho hf' (heldH_none hh f') (h3 f' hf' hhi)
    rw [this] at hx; cases hx

/-- a step with one observation `ev` that the oracle accepts: what is to be said is the new oracle state's queues and what the
new phase knows of it -/
theorem OInv.next {a' : A} {o' : OSt ℚ} {ev : HEv ℚ} (ho : OInv F flow size cfg arrivals a now hist o)
    (hstep : ostep F flow size cfg o ev = some o')
    (hwq : ∀ f, f < F → (o'.waiting f).map (·.1) = heldH flow a' f ++ a'.items f)
    (hwt : ∀ f, f < F → ∀ x ∈ o'.waiting f, x.2 ≤ now) (hph : PhO F flow size cfg now o' a'.run)
    (hfut : obsPuts [ev] ++ srcFuture now a'.src = srcFuture now a.src := by rfl) :
    ∃ o', OInv F flow size cfg arrivals a' now (hist ++ [ev]) o' :=
  ⟨o', by rw [orun_append, ho.run]; simp only [Option.bind_some, orun, hstep], hwq, hwt, hph,
    by rw [obsPuts_append, List.append_assoc, hfut]; exact ho.fut⟩

/-- a step the oracle does not see: the stores, the packet awaiting its `serve` and what the source still has to do stay -/
theorem OInv.silent {a' : A} (ho : OInv F flow size cfg arrivals a now hist o) (hph : PhO F flow size cfg now o a'.run)
    (hH : ∀ f, heldH flow a' f = heldH flow a f) (hi : a'.items = a.items := by rfl)
    (hs : srcFuture now a'.src = srcFuture now a.src := by rfl) :
    ∃ o', OInv F flow size cfg arrivals a' now (hist ++ []) o' :=
  ⟨o, by rw [List.append_nil]; exact ⟨ho.run, fun f hf => by rw [hH, hi]; exact ho.wq f hf, ho.wt, hph, hs ▸ ho.fut⟩⟩

/-- with every store empty nothing waits -/
theorem waiting_fresh (ho : OInv F flow size cfg arrivals a now hist o) (hH : ∀ f, heldH flow a f = [])
    (hall : ∀ f, f < F → a.items f = []) : ∀ f, f < F → ∀ x ∈ o.waiting f, x.2 = now := by
  intro f hf x hx
  rw [waiting_nil ho hf (hH f) (hall f hf)] at hx
  cases hx

/-- `setQ` is function update: the queue lemmas of `Lemmas/MQKLts.lean` speak of it -/
theorem setQ_eq (w : Nat → List (Int × ℚ)) (f : Nat) (l : List (Int × ℚ)) : setQ w f l = MQK.upd w f l := rfl

theorem setQ_same (w : Nat → List (Int × ℚ)) (f : Nat) (l : List (Int × ℚ)) : setQ w f l f = l := by simp [setQ]
theorem setQ_ne (w : Nat → List (Int × ℚ)) (f f' : Nat) (l : List (Int × ℚ)) (h : f' ≠ f) : setQ w f l f' = w f' := by
  simp [setQ, h]

theorem oinv_put (ho : OInv F flow size cfg arrivals a q.time hist o) {id : Int}
    {arr : List (ℚ × Int)} (h : a.src = .wait id arr q) (a' : A) (hrun : a'.run = a.run)
    (hitems : a'.items = upd a.items (flow id) (a.items (flow id) ++ [id])) (eid ev : Nat)
    (hsrc : a'.src = srcNext q.time eid ev arr) :
    ∃ o', OInv F flow size cfg arrivals a' q.time (hist ++ [.put id q.time]) o' := by
  have hmem : ∀ f, ∀ x ∈ setQ o.waiting (flow id) (o.waiting (flow id) ++ [(id, q.time)]) f,
      x ∈ o.waiting f ∨ x.2 = q.time := by
    intro f x hx
    rw [setQ_eq] at hx
    exact (MQK.mem_upd_append hx).imp (fun h => h) fun h => by rw [h]
  have hkeep : ∀ {f}, (∀ x ∈ o.waiting f, x.2 = q.time) →
      ∀ x ∈ setQ o.waiting (flow id) (o.waiting (flow id) ++ [(id, q.time)]) f, x.2 = q.time :=
    fun h x hx => (hmem _ x hx).elim (h x) fun h' => h'
  refine ho.next (o' := { o with waiting := setQ o.waiting (flow id) (o.waiting (flow id) ++ [(id, q.time)]) }) rfl
    (fun f hf => ?_) (fun f hf x hx => ?_) ?_ ?_
  · have hH : heldH flow a' f = heldH flow a f := by simp [heldH, hrun]
    rw [hH, hitems]
    exact MQK.map_upd_append (·.1) (flow id) (id, q.time) (ho.wq f hf)
  · exact (hmem f x hx).elim (ho.wt f hf x) (fun h => h ▸ le_refl _)
  · have hph := ho.ph
    rw [hrun]
    cases hr : a.run with
    | init | W | K => rw [hr] at hph; exact ⟨hph.1, fun f hf => hkeep (hph.2 f hf)⟩
    | H g i id0 q0 =>
      rw [hr] at hph
      obtain ⟨h1, h2, ent, h3, h4, h5, h6⟩ := hph
      exact ⟨h1, h2.imp (fun h => h) fun h f hf => hkeep (h f hf), ent, h3, h4, h5, fun f' hf' hhi => hkeep (h6 f' hf' hhi)⟩
    | S | T | F => rw [hr] at hph; exact hph
  · rw [hsrc, srcFuture_srcNext, h]; rfl

/-- **every configuration step keeps the oracle's invariant**: the observations of the step are accepted -/
theorem oinv_step {a' : A} {new : List (HEv ℚ)} (hi : AInv flow F cfg a q.time)
    (ho : OInv F flow size cfg arrivals a q.time hist o) (hs : AStep F flow size cfg n e a q a' new) :
    ∃ o', OInv F flow size cfg arrivals a' q.time (hist ++ new) o' := by
  have hrun := hi.run
  have hph := ho.ph
  cases hs with
  | runInit h | wakeBlock g h hs htk | wakeTok g t h hs htk | pendHand g t l1 l2 hpe h htk =>
    rw [h] at hph
    exact ho.silent hph fun f => (heldH_none (by simp [h]) f).symm
  | wakeHit g i f id is h hs hf hit =>
    rw [h] at hph
    exact (oinv_hit hi ho (by simp [h]) hph.1 (Or.inr hph.2) hs hf hit)
  | pktResume g i id h =>
    rw [h] at hph hrun
    obtain ⟨h1, h2, ent, h3, h4, h5, h6⟩ := hph
    have hfid := hrun.2.2.2
    have hwq := ho.wq (flow id) hfid
    simp only [heldH, h, if_true, List.singleton_append] at hwq
    have hwq' : ∀ f, f < F → (setQ o.waiting (flow id) (o.waiting (flow id)).tail f).map (·.1) = a.items f := fun f hf =>
      MQK.map_upd_tail (w := o.waiting) (fl := flow id) (fun x : Int × ℚ => x.1) hwq fun hff => by
        have := ho.wq f hf
        simp only [heldH, h, Ne.symm hff, if_false, List.nil_append] at this
        exact this
    have hok : ServeOK F flow cfg.prios o id q.time := by
      refine ⟨by simp [h1], ?_, ⟨ent, h3, h4, h5, ?_⟩, ?_⟩
      · rw [← List.head?_map, hwq]; rfl
      · intro f' hf' hhi x hx
        rw [h6 f' (List.mem_range.mp hf') hhi x hx]
        exact lt_irrefl _
      · rcases h2 with h2 | h2
        · left; rw [h2]; exact (eqT_iff _ _).mpr rfl
        · right; intro f hf x hx; exact (eqT_iff _ _).mpr (h2 f (List.mem_range.mp hf) x hx)
    exact ho.next (o' := { o with waiting := setQ o.waiting (flow id) (o.waiting (flow id)).tail, busy := some (id, q.time) })
      (by simp [ostep, hok]) hwq' (fun f hf x hx => ho.wt f hf x (MQK.mem_upd_tail hx)) rfl
  | sendInit p id h =>
    rw [h] at hph
    exact ho.silent ⟨q.time, hph, rfl⟩ fun f => (heldH_none (by simp [h]) f).symm
  | sendFire p t id h =>
    rw [h] at hph
    obtain ⟨s0, hb, hq0⟩ := hph
    have hok : OutOK size cfg.rate o id q.time := by
      simp only [OutOK, hb, true_and]
      exact (eqT_iff _ _).mpr hq0
    refine ho.next (o' := { o with busy := none, lastOut := some q.time }) (by simp [ostep, hok]) (fun f hf => ?_) ho.wt ⟨rfl, rfl⟩
    have := ho.wq f hf
    rw [heldH_none (by simp [h]) f] at this
    exact this
  | doneHit p id0 i f id is h htot hs hf hit =>
    rw [h] at hph
    exact (oinv_hit hi ho (by simp [h]) hph.1 (Or.inl hph.2) hs hf hit)
  | doneBlock p id0 h htot htk | doneTok p id0 t h htot htk =>
    rw [h] at hph
    exact ho.silent ⟨hph.1, waiting_fresh ho (heldH_none (by simp [h])) (empty_of_total_zero hi htot)⟩ fun f => (heldH_none (by simp [h]) f).symm
  | srcInit arr h => exact ho.silent ho.ph (fun _ => rfl) (hs := by rw [h, srcFuture_srcNext]; rfl)
  | srcPutTok id arr h htot | srcPutPlain id arr h htot => exact oinv_put ho h _ rfl rfl _ _ rfl
  | srcEnd h => exact ho.silent ho.ph (fun _ => rfl) (hs := by rw [h]; rfl)
  | pendNoop r l1 l2 hpe hno => exact ho.silent ho.ph fun _ => rfl

end SPK
