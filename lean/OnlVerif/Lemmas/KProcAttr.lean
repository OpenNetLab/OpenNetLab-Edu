import Lean.Meta.Tactic.Simp.RegisterCommand

/-- the equations with which `simp only` runs the abstract machine of `Lemmas/KProcDefs.lean` on a configuration -/
register_simp_attr kproc
