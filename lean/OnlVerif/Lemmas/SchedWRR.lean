import OnlVerif.Lemmas.MultiQueueRun
/-!
# WRR: cyclic visits in declaration order, classes that are not backlogged (or have weight 0) are skipped, at most
`weight` packets per visit
-/

namespace WRR
open MQ

/-- entry `l` of `weights` cannot be served: weight 0 or not backlogged -/
def Skips (cfg : Cfg ℚ) (cn : Nat → Int) (l : Nat) : Prop :=
  ∀ f w, cfg.weights[l]? = some (f, w) → ¬ (0 < w ∧ 0 < cn f)

/-- the visit of entry `i` that has sent `j` packets is over: allowance used up or not backlogged -/
def Exhausted (cfg : Cfg ℚ) (cn : Nat → Int) (i j : Nat) : Prop :=
  ∀ f w, cfg.weights[i]? = some (f, w) → ¬ (j < w ∧ 0 < cn f)

def CyclicSkips (cfg : Cfg ℚ) (cn : Nat → Int) (i j : Nat) : Prop :=
  (i ≤ j ∧ ∀ l, i ≤ l → l < j → Skips cfg cn l) ∨
  (j < i ∧ (∀ l, i ≤ l → Skips cfg cn l) ∧ ∀ l, l < j → Skips cfg cn l)

theorem skips_of_len (cfg : Cfg ℚ) (cn : Nat → Int) {m l : Nat} (hm : cfg.weights.length ≤ m) (hl : m ≤ l) :
    Skips cfg cn l := fun f w hf => by
  rw [List.getElem?_eq_none (le_trans hm hl)] at hf; cases hf

/-- the scan that started at entry `i0` with `j0` packets sent stands at entry `m` with `jj` sent: it is still at its
start, or that visit is over and everything since has been skipped -/
def At (cfg : Cfg ℚ) (cn : Nat → Int) (i0 j0 m jj : Nat) : Prop :=
  (m = i0 ∧ jj = j0) ∨ (jj = 0 ∧ Exhausted cfg cn i0 j0 ∧ ∃ w, Vis (Skips cfg cn) (i0 + 1) m w)

/-- ... or it has reached the end of a pass -/
def Scan (cfg : Cfg ℚ) (cn : Nat → Int) (i0 j0 : Nat) (k : Pc) : Prop :=
  (∃ m jj, k = .at m jj ∧ At cfg cn i0 j0 m jj) ∨
  (k = .endPass ∧ Exhausted cfg cn i0 j0 ∧ ∃ w m, cfg.weights.length ≤ m ∧ Vis (Skips cfg cn) (i0 + 1) m w)

theorem At.next {cfg : Cfg ℚ} {cn : Nat → Int} {i0 j0 m jj f w : Nat} (h : At cfg cn i0 j0 m jj)
    (hf : cfg.weights[m]? = some (f, w)) (hno : ¬ (jj < w ∧ 0 < cn f)) : At cfg cn i0 j0 (m + 1) 0 := by
  have hsk : ∀ f' w', cfg.weights[m]? = some (f', w') → ¬ (jj < w' ∧ 0 < cn f') := fun f' w' hf' => by
    rw [hf] at hf'; cases hf'; exact hno
  rcases h with ⟨rfl, rfl⟩ | ⟨rfl, hex, w', hv⟩
  · exact .inr ⟨rfl, hsk, false, vis_fresh _ _⟩
  · exact .inr ⟨rfl, hex, w', vis_succ hv hsk⟩

theorem At.pass_end {cfg : Cfg ℚ} {cn : Nat → Int} {i0 j0 m jj : Nat} (h : At cfg cn i0 j0 m jj)
    (hn : cfg.weights[m]? = none) :
    Exhausted cfg cn i0 j0 ∧ ∃ w m', cfg.weights.length ≤ m' ∧ Vis (Skips cfg cn) (i0 + 1) m' w := by
  have hlen : cfg.weights.length ≤ m := by
    by_contra hc
    rw [List.getElem?_eq_getElem (not_le.mp hc)] at hn; cases hn
  rcases h with ⟨rfl, rfl⟩ | ⟨rfl, hex, w, hv⟩
  · exact ⟨fun f wt hf => (by rw [hn] at hf; cases hf), false, m + 1, Nat.le_succ_of_le hlen, vis_fresh _ _⟩
  · exact ⟨hex, w, m, hlen, hv⟩

/-- entry and packets-already-sent at which the scan of a decision burst starts -/
def resumePoint (s : MQState ℚ Pc) : Nat × Nat :=
  match s.ctl with
  | .sent i j => (i, j + 1)
  | _ => (0, 0)

/-- **The decision bursts of WRR** (started at the first entry by a loop resting there, or in the visit of the entry just
served with one more packet sent): the loop ends resting at the first entry, or with the oldest packet of the class served
next in hand. -/
theorem decision (cfg : Cfg ℚ) (s : MQState ℚ Pc) (k : Pc) (s' : MQState ℚ Pc)
    (hk : (k = s.ctl ∧ s.ctl = .at 0 0) ∨ ∃ p, (sched cfg).onDone s.ctl p = .ok k)
    (hr : resumeLoop (sched cfg) { s with ctl := k } = .ok s') :
    RestsAt (.at 0 0) s' ∧
    (∀ c p, s'.phase = .pktHanded c p → ∃ m jj wt rest, s'.ctl = .got m jj ∧ cfg.weights[m]? = some (c, wt) ∧ jj < wt ∧
        0 < cnt s.queueCount c ∧
        ((m = (resumePoint s).1 ∧ jj = (resumePoint s).2) ∨
         (jj = 0 ∧ Exhausted cfg (cnt s.queueCount) (resumePoint s).1 (resumePoint s).2 ∧
            CyclicSkips cfg (cnt s.queueCount) ((resumePoint s).1 + 1) m)) ∧
        storeOf s.stores c = p :: rest) := by
  have hi : k = .at (resumePoint s).1 (resumePoint s).2 := by
    rcases hk with ⟨rfl, hk⟩ | ⟨p, hk⟩
    · simp only [resumePoint, hk]
    · simp only [sched, onDone] at hk
      split at hk <;> cases hk
      rename_i i j hj
      simp only [resumePoint, hj]
  generalize (resumePoint s).1 = i0, (resumePoint s).2 = j0 at hi ⊢
  have h := resumeLoop_scan (sched cfg) { s with ctl := k } s' (Scan cfg (cnt s.queueCount) i0 j0)
    (fun c k' => ∃ m jj wt, k' = .got m jj ∧ cfg.weights[m]? = some (c, wt) ∧ jj < wt ∧ 0 < cnt s.queueCount c ∧
      ((m = i0 ∧ jj = j0) ∨
        (jj = 0 ∧ Exhausted cfg (cnt s.queueCount) i0 j0 ∧ CyclicSkips cfg (cnt s.queueCount) (i0 + 1) m)))
    (.at 0 0) ?_ hr (.inl ⟨i0, j0, hi, .inl ⟨rfl, rfl⟩⟩)
  · refine ⟨h.1, fun c p hph => ?_⟩
    obtain ⟨rest, ⟨m, jj, wt, h1, h2, h3, h4, h5⟩, h6, _⟩ := h.2 c p hph
    exact ⟨m, jj, wt, rest, h1, h2, h3, h4, h5, h6⟩
  · rintro k v hv (⟨m, jj, rfl, hat⟩ | ⟨rfl, hex, w, m, hlen, hvis⟩)
    · show ScanMove _ _ _ (micro cfg (.at m jj) v)
      rcases micro_at_cases cfg m jj v with ⟨hn, e⟩ | ⟨f, w, hf, hno, e⟩ | ⟨f, wt, hf, hj, hpos, e | ⟨_, e⟩⟩ <;> rw [e]
      · exact .inr ⟨rfl, hat.pass_end hn⟩
      · rw [hv.1 f] at hno
        exact .inl ⟨m + 1, 0, rfl, hat.next hf hno⟩
      · rw [hv.1 f] at hpos
        refine ⟨m, jj, wt, rfl, hf, hj, hpos, ?_⟩
        rcases hat with h1 | ⟨rfl, h2, w, h3⟩
        · exact .inl h1
        · exact .inr ⟨rfl, h2, vis_cyclic h3 fun hsk => hsk f wt hf ⟨Nat.lt_of_le_of_lt (Nat.zero_le _) hj, hpos⟩⟩
      · trivial
    · show ScanMove _ _ _ (micro cfg .endPass v)
      simp only [micro]
      split
      · rfl
      · exact .inl ⟨0, 0, rfl, .inr ⟨rfl, hex, true, vis_wrap hvis fun l hl => skips_of_len cfg _ hlen hl⟩⟩

end WRR
