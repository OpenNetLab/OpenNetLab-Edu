import Mathlib.Tactic.Linarith
import Mathlib.Tactic.Ring
import Mathlib.Order.Lattice
import OnlVerif.Lemmas.FifoAux
import OnlVerif.Lemmas.Truthy
import OnlVerif.Net.Wire
/-! # Invariants of the Wire model -/

namespace Wire
open Fifo

@[simp] theorem dev_admit (c : WireCfg ℚ) : (dev c).admitPkt = admitPkt := rfl
@[simp] theorem dev_onResume (c : WireCfg ℚ) : (dev c).onResume = onResume c := rfl
@[simp] theorem dev_onFire (c : WireCfg ℚ) : (dev c).onFire = onFire := rfl
@[simp] theorem dev_onDone (c : WireCfg ℚ) : (dev c).onDone = onDone := rfl

/-- the three outcomes of `Wire.run` when it gets a packet -/
theorem onResume_cases (c : WireCfg ℚ) (d : WireSt ℚ) (now x y : ℚ) (p : Pkt ℚ) :
    (lostNow c x = true ∧ onResume c d now x y p = (logLost d now p, p, .lose)) ∨
    (lostNow c x = false ∧ now - p.ctime < y ∧
      onResume c d now x y p = (setD d y, p, .wait (y - (now - p.ctime)))) ∨
    (lostNow c x = false ∧ ¬ (now - p.ctime < y) ∧ onResume c d now x y p = (logOut (setD d y) now p, p, .emit)) := by
  unfold onResume queued
  by_cases hl : lostNow c x = true
  · left; exact ⟨hl, by rw [if_pos hl]⟩
  · right
    have hl' : lostNow c x = false := by simpa using hl
    by_cases hq : now - p.ctime < y
    · left; exact ⟨hl', hq, by rw [if_neg hl, if_pos hq]⟩
    · right; exact ⟨hl', hq, by rw [if_neg hl, if_neg hq]⟩

theorem idPreserving (c : WireCfg ℚ) : IdPreserving (dev c) := by
  refine ⟨?_, ?_, ?_⟩
  · intro s now w p; rfl
  · intro s now x y p
    rcases onResume_cases c s now x y p with ⟨_, h⟩ | ⟨_, _, h⟩ | ⟨_, _, h⟩ <;> simp only [dev_onResume, h]
  · intro s now k p; rfl

/-- arrival instants of the packet(s) the server holds outside the store -/
def inHandA (s : FState ℚ (WireSt ℚ)) : List ℚ :=
  (match s.handed with | some p => [p.ctime] | none => []) ++ (match s.tx with | some (p, _, _) => [p.ctime] | none => [])

/-- arrival instants of every packet ever accepted, oldest first: those that left, those in hand, those waiting -/
def arrSeq (s : FState ℚ (WireSt ℚ)) : List ℚ :=
  s.dev.log.reverse.map (·.a) ++ inHandA s ++ s.items.map (·.ctime)

/-- the ghost log is a chain: each record's `prev` is the instant its predecessor left, and it left at
`max(a, prev)` when discarded, at `max(a + d, max(a, prev))` when forwarded -/
def Chain (t0 : ℚ) : ℚ → List (WireRec ℚ) → Prop
  | last, [] => last = t0
  | last, e :: r => last = e.t ∧ Chain t0 e.prev r ∧
      e.t = (if e.lost then max e.a e.prev else max (e.a + e.d) (max e.a e.prev))

structure Core (t0 : ℚ) (s : FState ℚ (WireSt ℚ)) : Prop where
  fresh : s.started = false → s.now = t0
  t0le : t0 ≤ s.now
  doneLe : s.dev.lastDone ≤ s.now
  taken : ∀ p, s.handed = some p → s.now = max p.ctime s.dev.lastDone
  pend : s.getPending = true → ∀ p ∈ s.items, p.ctime = s.now
  due : ∀ p due k, s.tx = some (p, due, k) → due = max (p.ctime + s.dev.curD) (max p.ctime s.dev.lastDone)
  chain : Chain t0 s.dev.lastDone s.dev.log
  sorted : (arrSeq s).Pairwise (· ≤ ·)
  bound : ∀ x ∈ arrSeq s, t0 ≤ x ∧ x ≤ s.now

structure Inv (t0 : ℚ) (s : FState ℚ (WireSt ℚ)) : Prop where
  shape : Shape s
  core : Core t0 s

theorem init_inv (t0 : ℚ) : Inv t0 (Fifo.init (st0 t0) t0) := by
  refine ⟨Fifo.init_shape _ _, ?_⟩
  refine ⟨fun _ => rfl, le_refl _, le_refl _, ?_, ?_, ?_, rfl, ?_, ?_⟩
  · intro p h; simp [Fifo.init] at h
  · intro h; simp [Fifo.init] at h
  · intro p due k h; simp [Fifo.init] at h
  · simp [arrSeq, inHandA, Fifo.init, st0]
  · intro x hx; simp [arrSeq, inHandA, Fifo.init, st0] at hx

/-- the head item goes to the server's hand at `now` (at once when the server asks, or by a hand-off) -/
theorem take_core {t0 : ℚ} {s : FState ℚ (WireSt ℚ)} {p : Pkt ℚ} {rest : List (Pkt ℚ)} (gp : Bool) (h : Core t0 s)
    (hh : s.handed = none) (htx : s.tx = none) (hi : s.items = p :: rest) (hgp : gp = false)
    (ht : s.now = max p.ctime s.dev.lastDone) :
    Core t0 { s with items := rest, handed := some p, getPending := gp } := by
  have hseq : arrSeq { s with items := rest, handed := some p, getPending := gp } = arrSeq s := by
    simp [arrSeq, inHandA, hh, htx, hi]
  refine ⟨h.fresh, h.t0le, h.doneLe, ?_, ?_, ?_, h.chain, hseq ▸ h.sorted, hseq ▸ h.bound⟩
  · intro q hq; cases hq; exact ht
  · intro hc; simp [hgp] at hc
  · intro q due k hq; simp [htx] at hq

/-- the server issues its next `get` right after finishing with a packet (or when it starts) -/
theorem issueGet_core (t0 : ℚ) (s : FState ℚ (WireSt ℚ)) (hg : s.getPending = false)
    (hh : s.handed = none) (htx : s.tx = none) (hkey : s.dev.lastDone = s.now ∨ s.now = t0) (h : Core t0 s) :
    Core t0 (issueGet s) := by
  rcases issueGet_cases s with ⟨p, rest, hi, he⟩ | ⟨hi, he⟩ <;> rw [he]
  · have hp := h.bound p.ctime (by simp [arrSeq, hi])
    refine take_core s.getPending h hh htx hi hg ?_
    rcases hkey with hk | hk
    · rw [hk]; exact (max_eq_right hp.2).symm
    · rw [le_antisymm hp.2 (hk ▸ hp.1)]; exact (max_eq_left h.doneLe).symm
  · refine ⟨h.fresh, h.t0le, h.doneLe, ?_, ?_, ?_, h.chain, h.sorted, h.bound⟩
    · intro q hq; simp [hh] at hq
    · intro _ q hq; simp [hi] at hq
    · intro q due k hq; simp [htx] at hq

/-- the packet in hand leaves at `now` (forwarded or discarded) and the server asks for the next one: the log grows, the
arrival sequence is unchanged -/
theorem leave_core (t0 : ℚ) (s : FState ℚ (WireSt ℚ)) (p : Pkt ℚ) (d' : WireSt ℚ) (lost : Bool) (hd : Option (Pkt ℚ))
    (hhd : hd = none) (hg : s.getPending = false) (h : Core t0 s) (hin : inHandA s = [p.ctime]) (hlast : d'.lastDone = s.now)
    (hlog : d'.log = { id := p.id, a := p.ctime, d := d'.curD, prev := s.dev.lastDone, t := s.now, lost := lost } :: s.dev.log)
    (ht : s.now = (if lost then max p.ctime s.dev.lastDone else max (p.ctime + d'.curD) (max p.ctime s.dev.lastDone))) :
    Core t0 (issueGet { s with handed := hd, tx := none, dev := d' }) := by
  subst hhd
  have hseq : arrSeq { s with handed := none, tx := none, dev := d' } = arrSeq s := by
    unfold arrSeq
    rw [show inHandA { s with handed := none, tx := none, dev := d' } = [] from rfl, hin]
    dsimp only
    rw [hlog]
    simp
  refine issueGet_core t0 _ hg rfl rfl (Or.inl hlast)
    ⟨h.fresh, h.t0le, hlast.le, fun _ hq => (nomatch hq), h.pend, fun _ _ _ hq => (nomatch hq), ?_, hseq ▸ h.sorted,
      hseq ▸ h.bound⟩
  show Chain t0 d'.lastDone d'.log
  rw [hlast, hlog]
  exact ⟨rfl, h.chain, ht⟩

theorem inHandA_handed {s : FState ℚ (WireSt ℚ)} (hsh : Shape s) {p : Pkt ℚ} (hp : s.handed = some p) :
    inHandA s = [p.ctime] := by
  have := shape_of_handed hsh hp
  simp [inHandA, hp, this.2.2]

theorem inHandA_tx {s : FState ℚ (WireSt ℚ)} (hsh : Shape s) {p : Pkt ℚ} {due : ℚ} {k : Nat} (hp : s.tx = some (p, due, k)) :
    inHandA s = [p.ctime] := by
  have := shape_of_tx hsh hp
  simp [inHandA, hp, this.2.2]

theorem step_inv (c : WireCfg ℚ) (t0 : ℚ) (s s' : FState ℚ (WireSt ℚ)) (a : FAct ℚ) (o : FOut ℚ)
    (hi : Inv t0 s) (hstep : step (dev c) s a = .ok (s', o)) : Inv t0 s' := by
  have hshape : Shape s' := (step_conserves (dev c) (idPreserving c) s s' a o hi.shape hstep).2
  refine ⟨hshape, ?_⟩
  have hc := hi.core
  clear hshape
  refine step_elim hstep (R := fun s' _ => Core t0 s') ?_ ?_ ?_ ?_ ?_ ?_ ?_
  · intro _ h
    have h0 := hi.shape.1 h
    have hc' : Core t0 { s with started := true } :=
      ⟨fun hx => by simp at hx, hc.t0le, hc.doneLe, hc.taken, hc.pend, hc.due, hc.chain, hc.sorted, hc.bound⟩
    exact issueGet_core t0 _ h0.1 h0.2.1 h0.2.2 (Or.inr (hc.fresh h)) hc'
  · intro p _ _
    simp only [dev_admit, admitPkt]
    have hseq : arrSeq { s with dev := { s.dev with packetsRec := s.dev.packetsRec + 1 },
                                items := s.items ++ [{ p with ctime := s.now }] } = arrSeq s ++ [s.now] := by
      simp [arrSeq, inHandA]
    refine ⟨hc.fresh, hc.t0le, hc.doneLe, hc.taken, ?_, hc.due, hc.chain, ?_, ?_⟩
    · intro hg q hq
      simp only [List.mem_append, List.mem_singleton] at hq
      rcases hq with hq | hq
      · exact hc.pend hg q hq
      · rw [hq]
    · rw [hseq]
      refine List.pairwise_append.mpr ⟨hc.sorted, List.pairwise_singleton _ _, ?_⟩
      intro x hx y hy
      simp only [List.mem_singleton] at hy
      rw [hy]; exact (hc.bound x hx).2
    · rw [hseq]
      intro x hx
      simp only [List.mem_append, List.mem_singleton] at hx
      rcases hx with hx | hx
      · exact hc.bound x hx
      · rw [hx]
        exact ⟨hc.t0le, le_refl _⟩
  · exact fun p _ h => nomatch h
  · intro p rest _ hg hit
    have h1 := shape_of_pending hi.shape hg
    refine take_core false hc h1.2.1 h1.2.2 hit rfl ?_
    rw [hc.pend hg p (by simp [hit])]; exact (max_eq_left hc.doneLe).symm
  · intro x y p _ hp
    have hsh := shape_of_handed hi.shape hp
    rw [dev_onResume]
    rcases onResume_cases c s.dev s.now x y p with ⟨_, he⟩ | ⟨_, hq, he⟩ | ⟨_, hq, he⟩ <;> rw [he]
    · exact leave_core t0 s p (logLost s.dev s.now p) true none rfl hsh.2.1 hc (inHandA_handed hi.shape hp) rfl rfl
        (hc.taken p hp)
    · have hseq : arrSeq { s with handed := none, dev := setD s.dev y, tx := some (p, s.now + (y - (s.now - p.ctime)), 0) } = arrSeq s := by
        simp [arrSeq, inHandA, hp, hsh.2.2, setD]
      refine ⟨hc.fresh, hc.t0le, hc.doneLe, fun _ hq => (nomatch hq), hc.pend, ?_, hc.chain, hseq ▸ hc.sorted, hseq ▸ hc.bound⟩
      intro q due k hq'
      cases hq'
      show s.now + (y - (s.now - p.ctime)) = max (p.ctime + y) (max p.ctime s.dev.lastDone)
      rw [← hc.taken p hp, max_eq_left (sub_le_iff_le_add'.mp hq.le)]; ring
    · refine leave_core t0 s p (logOut (setD s.dev y) s.now p) false none rfl hsh.2.1 hc (inHandA_handed hi.shape hp) rfl rfl ?_
      show s.now = max (p.ctime + y) (max p.ctime s.dev.lastDone)
      rw [← hc.taken p hp]
      exact (max_eq_right (le_sub_iff_add_le'.mp (not_lt.mp hq))).symm
  · intro p k _ htx
    have hsh := shape_of_tx hi.shape htx
    exact leave_core t0 s p (logOut s.dev s.now p) false s.handed hsh.2.2 hsh.2.1 hc (inHandA_tx hi.shape htx) rfl rfl
      (hc.due p s.now k htx)
  · intro t _ ⟨h1, h2, h3, h4, h5⟩
    refine ⟨fun hx => by simp [h2] at hx, le_trans hc.t0le h1, le_trans hc.doneLe h1, ?_, ?_, hc.due, hc.chain, hc.sorted,
      fun x hx => ⟨(hc.bound x hx).1, le_trans (hc.bound x hx).2 h1⟩⟩
    · intro q hq; simp [h3] at hq
    · intro hg q hq
      exfalso
      exact h4 ⟨hg, List.ne_nil_of_mem hq⟩

theorem run_inv (c : WireCfg ℚ) (t0 : ℚ) (as : List (FAct ℚ)) (s s' : FState ℚ (WireSt ℚ)) (ins outs : List Nat)
    (hi : Inv t0 s) (h : runActs (dev c) s as = .ok (s', ins, outs)) : Inv t0 s' :=
  run_induct (dev c) (Inv t0) (fun s a s' o h1 h2 => step_inv c t0 s s' a o h1 h2) as s s' ins outs hi h

/-- the instant of the latest *delivery* recorded in a log (newest first); `t0` if none -/
def prevDeliv (t0 : ℚ) : List (WireRec ℚ) → ℚ
  | [] => t0
  | e :: r => if e.lost then prevDeliv t0 r else e.t

theorem chain_suffix (t0 : ℚ) (l1 l2 : List (WireRec ℚ)) (last : ℚ) (h : Chain t0 last (l1 ++ l2)) :
    ∃ last', Chain t0 last' l2 := by
  induction l1 generalizing last with
  | nil => exact ⟨last, h⟩
  | cons e r ih => exact ih e.prev h.2.1

/-- **a discarded packet delays nobody**: for a packet arriving no earlier than everything in the log, waiting for
the server to finish with its predecessors is waiting for the latest *delivery* -/
theorem chain_max (t0 a : ℚ) (l : List (WireRec ℚ)) (last : ℚ) (h : Chain t0 last l) (ha : ∀ e ∈ l, e.a ≤ a) :
    max a last = max a (prevDeliv t0 l) := by
  induction l generalizing last with
  | nil => rw [show last = t0 from h]; rfl
  | cons e r ih =>
    obtain ⟨hlast, hch, ht⟩ := h
    have hr := ih e.prev hch (fun e' he' => ha e' (List.mem_cons_of_mem _ he'))
    have hea := ha e List.mem_cons_self
    by_cases hl : e.lost = true
    · simp only [prevDeliv, hl, if_true] at ht ⊢
      rw [hlast, ht, ← max_assoc, max_eq_left hea, hr]
    · simp only [prevDeliv, hl, Bool.false_eq_true, if_false] at ht ⊢
      rw [hlast]

/-- arrivals are logged in arrival order -/
theorem log_sorted (t0 : ℚ) (s : FState ℚ (WireSt ℚ)) (h : Core t0 s) (newer older : List (WireRec ℚ)) (e : WireRec ℚ)
    (hlog : s.dev.log = newer ++ e :: older) : ∀ e' ∈ older, e'.a ≤ e.a := by
  have h1 : (s.dev.log.reverse.map (·.a)).Pairwise (· ≤ ·) := by
    have := h.sorted
    unfold arrSeq at this
    rw [List.append_assoc] at this
    exact (List.pairwise_append.mp this).1
  rw [hlog] at h1
  simp only [List.reverse_append, List.reverse_cons, List.map_append, List.map_cons, List.map_nil, List.append_assoc] at h1
  intro e' he'
  have h2 := (List.pairwise_append.mp h1).2.2
  exact h2 e'.a (by simp only [List.mem_map, List.mem_reverse]; exact ⟨e', he', rfl⟩) e.a (by simp)

/-- how one step changes the log: a forwarded / discarded packet is recorded with the current instant -/
def LogStep (s s' : FState ℚ (WireSt ℚ)) (o : FOut ℚ) : Prop :=
  match o with
  | .depart q => ∃ e, s'.dev.log = e :: s.dev.log ∧ e.lost = false ∧ e.id = q.id ∧ e.a = q.ctime ∧ e.t = s.now ∧ e.d = s'.dev.curD
  | .lost q => ∃ e, s'.dev.log = e :: s.dev.log ∧ e.lost = true ∧ e.id = q.id ∧ e.a = q.ctime ∧ e.t = s.now
  | _ => s'.dev.log = s.dev.log

/-- the loss test of `Wire.run` -/
theorem lostNow_iff (c : WireCfg ℚ) (x : ℚ) : lostNow c x = true ↔ ∃ r, lossOn c = some r ∧ x < r := by
  unfold lostNow
  cases h : lossOn c with
  | none => simp
  | some r => simp

/-- `loss_rate` is truthy: set and not zero -/
theorem lossOn_iff (c : WireCfg ℚ) (r : ℚ) : lossOn c = some r ↔ c.lossRate = some r ∧ r ≠ 0 :=
  Num.optOn_iff c.lossRate r

/-- the loss rate is `None` or zero (`not self.loss_rate`) -/
def NoLoss (c : WireCfg ℚ) : Prop := c.lossRate = none ∨ c.lossRate = some 0

theorem noLoss_lostNow (c : WireCfg ℚ) (hc : NoLoss c) (x : ℚ) : lostNow c x = false := by
  by_contra h
  obtain ⟨r, hr, _⟩ := (lostNow_iff c x).mp (by simpa using h)
  obtain ⟨h1, h2⟩ := (lossOn_iff c r).mp hr
  rcases hc with hc | hc
  · rw [hc] at h1; cases h1
  · rw [hc] at h1; simp only [Option.some.injEq] at h1; exact h2 h1.symm

end Wire

namespace Cable
open Fifo

def run (c : WireCfg ℚ) : St ℚ → List (CableAct ℚ) → Except String (St ℚ)
  | s, [] => .ok s
  | s, a :: as =>
    match Cable.step c s a with
    | .error m => .error m
    | .ok (s1, _) => run c s1 as

/-- what wire 1 sees of a cable run: its own actions and the clock -/
def proj1 : List (CableAct ℚ) → List (FAct ℚ)
  | [] => []
  | .w1 a :: r => a :: proj1 r
  | .w2 _ :: r => proj1 r
  | .tick t :: r => .tick t :: proj1 r

/-- what wire 2 sees -/
def proj2 : List (CableAct ℚ) → List (FAct ℚ)
  | [] => []
  | .w1 _ :: r => proj2 r
  | .w2 a :: r => a :: proj2 r
  | .tick t :: r => .tick t :: proj2 r

theorem step_w1 (c : WireCfg ℚ) (s s' : St ℚ) (a : FAct ℚ) (o : FOut ℚ) (h : Cable.step c s (.w1 a) = .ok (s', o)) :
    s'.2 = s.2 ∧ Fifo.step (Wire.dev c) s.1 a = .ok (s'.1, o) := by
  simp only [Cable.step] at h
  split at h
  · cases h
  · split at h
    · rename_i h1
      cases h
      exact ⟨rfl, h1⟩
    · cases h

theorem step_w2 (c : WireCfg ℚ) (s s' : St ℚ) (a : FAct ℚ) (o : FOut ℚ) (h : Cable.step c s (.w2 a) = .ok (s', o)) :
    s'.1 = s.1 ∧ Fifo.step (Wire.dev c) s.2 a = .ok (s'.2, o) := by
  simp only [Cable.step] at h
  split at h
  · cases h
  · split at h
    · rename_i h1
      cases h
      exact ⟨rfl, h1⟩
    · cases h

theorem step_tick (c : WireCfg ℚ) (s s' : St ℚ) (t : ℚ) (o : FOut ℚ) (h : Cable.step c s (.tick t) = .ok (s', o)) :
    (∃ o1, Fifo.step (Wire.dev c) s.1 (.tick t) = .ok (s'.1, o1)) ∧
    (∃ o2, Fifo.step (Wire.dev c) s.2 (.tick t) = .ok (s'.2, o2)) := by
  simp only [Cable.step] at h
  split at h
  · rename_i s1 o1 s2 o2 h1 h2
    cases h
    exact ⟨⟨o1, h1⟩, ⟨o2, h2⟩⟩
  · cases h
  · cases h

end Cable
