import OnlVerif.Generated.Rt20
import OnlVerif.Util.Rt
/-!
# Bridge lemmas: `Generated/Rt20.lean` (py2lean's translation of `onl/sim/rt.py`) against the model `Util/Rt.lean`

Everything here is polymorphic in the scalar (`[Num α]`): the generated definitions and the model perform the same operations in
the same order, no arithmetic identity is used, so the equalities hold at `Float` (the driver) as well as at `ℚ` (the theorems).
-/

namespace GenRt20
open Rt
variable {α κ ρ : Type} [Num α]

/-- a model state as the Python object (`_factor`, `_strict` are the attributes behind the properties `factor`, `strict`) -/
def rtObj (s : RtState α κ) : Gen.RtObj α :=
  { env_start := s.envStart, real_start := s.realStart, _factor := s.factor, _strict := s.strict }

/-- the outcome of the translated `step` read as an outcome of the model's `rtStep` on kernel state `k`: exception 6
(`EmptySchedule`) without a value, exception 5 (`RuntimeError`) with the formatted `delta`, the delegation = `Environment.step`
runs on the untouched kernel state; `step` never returns without delegating and raises nothing else (`none`) -/
def toModel (kstep : κ → ρ) (k : κ) : Gen.RtRes α → Option (RtResult α ρ)
  | .starved => some .starved
  | .raised exc _ => if exc = 6 then some .emptySchedule else none
  | .raisedWith exc d rest => if exc = 5 then some (.tooSlow d rest) else none
  | .delegated sleeps last rest => some (.stepped (kstep k) sleeps last rest)
  | .returned _ _ => none

/-- the translated sleep loop (with the delegation that follows it) is the model's `sleepLoop` followed by the kernel step -/
theorem loop_eq (kstep : κ → ρ) (k : κ) (o : Gen.RtObj α) (due : α) :
    ∀ (clock acc : List α), toModel kstep k (Gen.RealtimeEnvironment.step_loop1 o due clock acc) =
      some (match sleepLoop due clock acc with
            | .done sleeps last rest => .stepped (kstep k) sleeps last rest
            | .starved _ => .starved)
  | [], acc => by simp only [Gen.RealtimeEnvironment.step_loop1, sleepLoop, toModel]
  | c :: cs, acc => by
    rw [Gen.RealtimeEnvironment.step_loop1, sleepLoop]
    by_cases h : due - c ≤ (Num.ofNat 0 : α)
    · simp only [h, if_true, toModel]
    · simp only [h, if_false]
      exact loop_eq kstep k o due cs (acc ++ [due - c])

end GenRt20
