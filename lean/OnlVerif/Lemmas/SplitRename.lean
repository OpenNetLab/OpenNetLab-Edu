import OnlVerif.Lemmas.SplitAttr
import OnlVerif.Lemmas.KAccess
/-!
# Renaming event ids (C03, stage 3): definitions, and the program hypothesis `BodySim`

`run(until=t)` allocates one event record (its sentinel) at index `u = events.size`.  Every event created afterwards
has, in the split run, the index it has in the uninterrupted run plus one.  `shAt u` is that order-preserving renaming;
the `rn…` functions apply a renaming to everything that mentions event ids: values, exceptions, callbacks, kinds,
request data, event records, resource records, API calls and replies, observations.  `BurstSim` / `BodySim` say that a program
treats ids as opaque: renamed replies give renamed bursts.  With them the arithmetic of `shAt` and the injectivity of the `rn…`.
-/

variable {τ σ : Type}

def shAt (u : Nat) (i : Nat) : Nat := if i < u then i else i + 1

theorem shAt_of_lt {u i : Nat} (h : i < u) : shAt u i = i := by unfold shAt; rw [if_pos h]
theorem shAt_of_ge {u i : Nat} (h : u ≤ i) : shAt u i = i + 1 := by unfold shAt; rw [if_neg (Nat.not_lt.mpr h)]

theorem shAt_inj (u : Nat) {a b : Nat} (h : shAt u a = shAt u b) : a = b := by
  by_cases ha : a < u <;> by_cases hb : b < u
  · rwa [shAt_of_lt ha, shAt_of_lt hb] at h
  · rw [shAt_of_lt ha, shAt_of_ge (Nat.not_lt.mp hb)] at h; omega
  · rw [shAt_of_ge (Nat.not_lt.mp ha), shAt_of_lt hb] at h; omega
  · rw [shAt_of_ge (Nat.not_lt.mp ha), shAt_of_ge (Nat.not_lt.mp hb)] at h; omega

theorem shAt_ne (u : Nat) (a : Nat) : shAt u a ≠ u := by
  by_cases ha : a < u
  · rw [shAt_of_lt ha]; omega
  · rw [shAt_of_ge (Nat.not_lt.mp ha)]; omega

theorem shAt_lt_iff (u a b : Nat) : shAt u a < shAt u b ↔ a < b := by
  by_cases ha : a < u <;> by_cases hb : b < u
  · rw [shAt_of_lt ha, shAt_of_lt hb]
  · rw [shAt_of_lt ha, shAt_of_ge (Nat.not_lt.mp hb)]; omega
  · rw [shAt_of_ge (Nat.not_lt.mp ha), shAt_of_lt hb]; omega
  · rw [shAt_of_ge (Nat.not_lt.mp ha), shAt_of_ge (Nat.not_lt.mp hb)]; omega

def rnVal (ρ : EvId → EvId) : Val → Val
  | .none => .none
  | .int i => .int i
  | .str s => .str s
  | .ev e => .ev (ρ e)
  | .cv keys => .cv (keys.map ρ)
  | .preempted b r res => .preempted (b.map ρ) (ρ r) res
  | .frozen s => .frozen s

def rnExc (ρ : EvId → EvId) (x : Exc) : Exc := ⟨x.ty, x.args.map (rnVal ρ)⟩

def rnOutcome (ρ : EvId → EvId) : Outcome → Outcome
  | .ok v => .ok (rnVal ρ v)
  | .fail x => .fail (rnExc ρ x)

def rnCb (ρ : EvId → EvId) : Cb → Cb
  | .resume p => .resume (ρ p)
  | .intr iv => .intr (ρ iv)
  | .probe tag => .probe tag
  | .stop => .stop
  | .check c => .check (ρ c)
  | .build c => .build (ρ c)
  | .trigPut r => .trigPut r
  | .trigGet r => .trigGet r

def rnKind (ρ : EvId → EvId) : Kind → Kind
  | .plain => .plain
  | .timeout => .timeout
  | .init p => .init (ρ p)
  | .intr p => .intr (ρ p)
  | .proc => .proc
  | .cond all ops => .cond all (ops.map ρ)
  | .put r => .put r
  | .get r => .get r
  | .sentinel => .sentinel

def rnReq (ρ : EvId → EvId) (rq : ReqData τ) : ReqData τ :=
  { rq with proc := rq.proc.map ρ, releaseOf := ρ rq.releaseOf }

def rnRec (ρ : EvId → EvId) (r : EvRec τ) : EvRec τ :=
  { kind := rnKind ρ r.kind, cbs := r.cbs.map (·.map (rnCb ρ)), out := r.out.map (rnOutcome ρ),
    defused := r.defused, count := r.count, label := r.label, req := r.req.map (rnReq ρ) }

def rnRes (ρ : EvId → EvId) (x : ResRec) : ResRec :=
  { x with putQ := x.putQ.map ρ, getQ := x.getQ.map ρ, users := x.users.map ρ }

def rnResume (ρ : EvId → EvId) : Resume → Resume
  | .start => .start
  | .value v => .value (rnVal ρ v)
  | .exc x => .exc (rnExc ρ x)

def rnReply (ρ : EvId → EvId) : Reply → Reply
  | .ev e => .ev (ρ e)
  | .unit => .unit
  | .err x => .err (rnExc ρ x)
  | .val v => .val (rnVal ρ v)

def rnCall (ρ : EvId → EvId) (rσ : σ → σ) : Call τ σ → Call τ σ
  | .timeout d v => .timeout d (rnVal ρ v)
  | .event => .event
  | .succeed e v => .succeed (ρ e) (rnVal ρ v)
  | .fail e x => .fail (ρ e) (rnExc ρ x)
  | .spawn s => .spawn (rσ s)
  | .interrupt p cause => .interrupt (ρ p) (rnVal ρ cause)
  | .probe e tag => .probe (ρ e) tag
  | .cond all ops => .cond all (ops.map ρ)
  | .request r prio preempt => .request r prio preempt
  | .release r req => .release r (ρ req)
  | .cancel e => .cancel (ρ e)
  | .cput r a => .cput r a
  | .cget r a => .cget r a
  | .sput r it => .sput r it
  | .sget r f => .sget r f
  | .log what v => .log what (rnVal ρ v)
  | .load k => .load k
  | .store k v => .store k (rnVal ρ v)

def rnObs (ρ : EvId → EvId) : Obs τ → Obs τ
  | .resumed p r now => .resumed (ρ p) (rnResume ρ r) now
  | .log p what v now => .log (ρ p) what (rnVal ρ v) now
  | .probe tag e o now => .probe tag (ρ e) (rnOutcome ρ o) now
  | .callErr p x now => .callErr (ρ p) (rnExc ρ x) now
  | .ended p o now => .ended (ρ p) (rnOutcome ρ o) now

def rnProc (ρ : EvId → EvId) (rσ : σ → σ) (r : ProcRec σ) : ProcRec σ := { st := rσ r.st, target := r.target.map ρ }

/-- **programs that treat event ids as opaque tokens**: the burst `b'` is the burst `b` with every event id `e` it
mentions replaced by `ρ e` — it issues the renamed calls, and when it is given the renamed reply it continues as the
renamed continuation; `rσ` renames the ids kept in a local state. -/
inductive BurstSim (ρ : EvId → EvId) (rσ : σ → σ) : Burst τ σ → Burst τ σ → Prop
  | call (c : Call τ σ) (k k' : Reply → Burst τ σ) :
      (∀ r, BurstSim ρ rσ (k r) (k' (rnReply ρ r))) → BurstSim ρ rσ (.call c k) (.call (rnCall ρ rσ c) k')
  | yield (e : EvId) (st : σ) : BurstSim ρ rσ (.yield e st) (.yield (ρ e) (rσ st))
  | ret (v : Val) : BurstSim ρ rσ (.ret v) (.ret (rnVal ρ v))
  | raise (x : Exc) : BurstSim ρ rσ (.raise x) (.raise (rnExc ρ x))

def BodySim (ρ : EvId → EvId) (rσ : σ → σ) (body : σ → Resume → Burst τ σ) : Prop :=
  ∀ st r, BurstSim ρ rσ (body st r) (body (rσ st) (rnResume ρ r))

section eval
variable (ρ : EvId → EvId)

@[ksent] theorem rnVal_none : rnVal ρ .none = .none := rfl
@[ksent] theorem rnVal_int (i : Int) : rnVal ρ (.int i) = .int i := rfl
@[ksent] theorem rnVal_str (s : String) : rnVal ρ (.str s) = .str s := rfl
@[ksent] theorem rnVal_ev (e : EvId) : rnVal ρ (.ev e) = .ev (ρ e) := rfl
@[ksent] theorem rnVal_cv (l : List EvId) : rnVal ρ (.cv l) = .cv (l.map ρ) := rfl
@[ksent] theorem rnVal_preempted (b : Option EvId) (r : EvId) (res : ResId) :
    rnVal ρ (.preempted b r res) = .preempted (b.map ρ) (ρ r) res := rfl
@[ksent] theorem rnVal_frozen (s : String) : rnVal ρ (.frozen s) = .frozen s := rfl
@[ksent] theorem rnExc_mk (ty : String) (args : List Val) : rnExc ρ ⟨ty, args⟩ = ⟨ty, args.map (rnVal ρ)⟩ := rfl
@[ksent] theorem rnExc_ty (x : Exc) : (rnExc ρ x).ty = x.ty := rfl
@[ksent] theorem rnExc_args (x : Exc) : (rnExc ρ x).args = x.args.map (rnVal ρ) := rfl
@[ksent] theorem rnExc_runtimeErr (m : String) : rnExc ρ (runtimeErr m) = runtimeErr m := rfl
@[ksent] theorem rnExc_valueErr (m : String) : rnExc ρ (valueErr m) = valueErr m := rfl
@[ksent] theorem rnExc_attrErr : rnExc ρ attrErr = attrErr := rfl
@[ksent] theorem rnOutcome_ok (v : Val) : rnOutcome ρ (.ok v) = .ok (rnVal ρ v) := rfl
@[ksent] theorem rnOutcome_fail (x : Exc) : rnOutcome ρ (.fail x) = .fail (rnExc ρ x) := rfl
@[ksent] theorem rnCb_resume (p : EvId) : rnCb ρ (.resume p) = .resume (ρ p) := rfl
@[ksent] theorem rnCb_intr (p : EvId) : rnCb ρ (.intr p) = .intr (ρ p) := rfl
@[ksent] theorem rnCb_probe (t : Nat) : rnCb ρ (.probe t) = .probe t := rfl
@[ksent] theorem rnCb_stop : rnCb ρ .stop = .stop := rfl
@[ksent] theorem rnCb_check (p : EvId) : rnCb ρ (.check p) = .check (ρ p) := rfl
@[ksent] theorem rnCb_build (p : EvId) : rnCb ρ (.build p) = .build (ρ p) := rfl
@[ksent] theorem rnCb_trigPut (r : ResId) : rnCb ρ (.trigPut r) = .trigPut r := rfl
@[ksent] theorem rnCb_trigGet (r : ResId) : rnCb ρ (.trigGet r) = .trigGet r := rfl
@[ksent] theorem rnKind_plain : rnKind ρ .plain = .plain := rfl
@[ksent] theorem rnKind_timeout : rnKind ρ .timeout = .timeout := rfl
@[ksent] theorem rnKind_init (p : EvId) : rnKind ρ (.init p) = .init (ρ p) := rfl
@[ksent] theorem rnKind_intr (p : EvId) : rnKind ρ (.intr p) = .intr (ρ p) := rfl
@[ksent] theorem rnKind_proc : rnKind ρ .proc = .proc := rfl
@[ksent] theorem rnKind_cond (a : Bool) (l : List EvId) : rnKind ρ (.cond a l) = .cond a (l.map ρ) := rfl
@[ksent] theorem rnKind_put (r : ResId) : rnKind ρ (.put r) = .put r := rfl
@[ksent] theorem rnKind_get (r : ResId) : rnKind ρ (.get r) = .get r := rfl
@[ksent] theorem rnKind_sentinel : rnKind ρ .sentinel = .sentinel := rfl
@[ksent] theorem rnReq_mk (res : ResId) (a i p : Int) (pre : Bool) (tm : τ) (pr : Option EvId) (us : Option τ) (f : Nat)
    (ro : EvId) : rnReq ρ (⟨res, a, i, p, pre, tm, pr, us, f, ro⟩ : ReqData τ) = ⟨res, a, i, p, pre, tm, pr.map ρ, us, f, ρ ro⟩ := rfl
@[ksent] theorem rnReq_res (rq : ReqData τ) : (rnReq ρ rq).res = rq.res := rfl
@[ksent] theorem rnReq_amount (rq : ReqData τ) : (rnReq ρ rq).amount = rq.amount := rfl
@[ksent] theorem rnReq_item (rq : ReqData τ) : (rnReq ρ rq).item = rq.item := rfl
@[ksent] theorem rnReq_prio (rq : ReqData τ) : (rnReq ρ rq).prio = rq.prio := rfl
@[ksent] theorem rnReq_preempt (rq : ReqData τ) : (rnReq ρ rq).preempt = rq.preempt := rfl
@[ksent] theorem rnReq_time (rq : ReqData τ) : (rnReq ρ rq).time = rq.time := rfl
@[ksent] theorem rnReq_proc (rq : ReqData τ) : (rnReq ρ rq).proc = rq.proc.map ρ := rfl
@[ksent] theorem rnReq_usageSince (rq : ReqData τ) : (rnReq ρ rq).usageSince = rq.usageSince := rfl
@[ksent] theorem rnReq_filter (rq : ReqData τ) : (rnReq ρ rq).filter = rq.filter := rfl
@[ksent] theorem rnReq_releaseOf (rq : ReqData τ) : (rnReq ρ rq).releaseOf = ρ rq.releaseOf := rfl
@[ksent] theorem rnRec_mk (k : Kind) (cbs : Option (List Cb)) (o : Option Outcome) (d : Bool) (n l : Nat)
    (rq : Option (ReqData τ)) :
    rnRec ρ (⟨k, cbs, o, d, n, l, rq⟩ : EvRec τ) =
      ⟨rnKind ρ k, cbs.map (·.map (rnCb ρ)), o.map (rnOutcome ρ), d, n, l, rq.map (rnReq ρ)⟩ := rfl
@[ksent] theorem rnRec_kind (r : EvRec τ) : (rnRec ρ r).kind = rnKind ρ r.kind := rfl
@[ksent] theorem rnRec_cbs (r : EvRec τ) : (rnRec ρ r).cbs = r.cbs.map (·.map (rnCb ρ)) := rfl
@[ksent] theorem rnRec_out (r : EvRec τ) : (rnRec ρ r).out = r.out.map (rnOutcome ρ) := rfl
@[ksent] theorem rnRec_defused (r : EvRec τ) : (rnRec ρ r).defused = r.defused := rfl
@[ksent] theorem rnRec_count (r : EvRec τ) : (rnRec ρ r).count = r.count := rfl
@[ksent] theorem rnRec_label (r : EvRec τ) : (rnRec ρ r).label = r.label := rfl
@[ksent] theorem rnRec_req (r : EvRec τ) : (rnRec ρ r).req = r.req.map (rnReq ρ) := rfl
@[ksent] theorem rnRes_kind (x : ResRec) : (rnRes ρ x).kind = x.kind := rfl
@[ksent] theorem rnRes_capacity (x : ResRec) : (rnRes ρ x).capacity = x.capacity := rfl
@[ksent] theorem rnRes_putQ (x : ResRec) : (rnRes ρ x).putQ = x.putQ.map ρ := rfl
@[ksent] theorem rnRes_getQ (x : ResRec) : (rnRes ρ x).getQ = x.getQ.map ρ := rfl
@[ksent] theorem rnRes_users (x : ResRec) : (rnRes ρ x).users = x.users.map ρ := rfl
@[ksent] theorem rnRes_level (x : ResRec) : (rnRes ρ x).level = x.level := rfl
@[ksent] theorem rnRes_items (x : ResRec) : (rnRes ρ x).items = x.items := rfl
@[ksent] theorem rnProc_mk (rσ : σ → σ) (st : σ) (tg : Option EvId) : rnProc ρ rσ ⟨st, tg⟩ = ⟨rσ st, tg.map ρ⟩ := rfl
@[ksent] theorem rnProc_st (rσ : σ → σ) (r : ProcRec σ) : (rnProc ρ rσ r).st = rσ r.st := rfl
@[ksent] theorem rnProc_target (rσ : σ → σ) (r : ProcRec σ) : (rnProc ρ rσ r).target = r.target.map ρ := rfl
@[ksent] theorem rnResume_start : rnResume ρ .start = .start := rfl
@[ksent] theorem rnResume_value (v : Val) : rnResume ρ (.value v) = .value (rnVal ρ v) := rfl
@[ksent] theorem rnResume_exc (x : Exc) : rnResume ρ (.exc x) = .exc (rnExc ρ x) := rfl
@[ksent] theorem rnReply_ev (e : EvId) : rnReply ρ (.ev e) = .ev (ρ e) := rfl
@[ksent] theorem rnReply_unit : rnReply ρ .unit = .unit := rfl
@[ksent] theorem rnReply_err (x : Exc) : rnReply ρ (.err x) = .err (rnExc ρ x) := rfl
@[ksent] theorem rnReply_val (v : Val) : rnReply ρ (.val v) = .val (rnVal ρ v) := rfl
@[ksent] theorem rnObs_resumed (p : EvId) (r : Resume) (n : τ) : rnObs ρ (.resumed p r n) = .resumed (ρ p) (rnResume ρ r) n := rfl
@[ksent] theorem rnObs_log (p : EvId) (w : String) (v : Val) (n : τ) : rnObs ρ (.log p w v n) = .log (ρ p) w (rnVal ρ v) n := rfl
@[ksent] theorem rnObs_probe (t : Nat) (e : EvId) (o : Outcome) (n : τ) :
    rnObs ρ (.probe t e o n) = .probe t (ρ e) (rnOutcome ρ o) n := rfl
@[ksent] theorem rnObs_callErr (p : EvId) (x : Exc) (n : τ) : rnObs ρ (.callErr p x n) = .callErr (ρ p) (rnExc ρ x) n := rfl
@[ksent] theorem rnObs_ended (p : EvId) (o : Outcome) (n : τ) : rnObs ρ (.ended p o n) = .ended (ρ p) (rnOutcome ρ o) n := rfl

end eval

section
variable {α β : Type} [BEq α] [LawfulBEq α] [BEq β] [LawfulBEq β] (f : α → β) (hf : ∀ a b, f a = f b → a = b)
include hf

theorem map_erase_of_inj (l : List α) (a : α) : (l.map f).erase (f a) = (l.erase a).map f := by
  induction l with
  | nil => rfl
  | cons x xs ih =>
    by_cases hx : x = a
    · subst hx; simp
    · have : f x ≠ f a := fun h => hx (hf _ _ h)
      rw [List.map_cons, List.erase_cons_tail (by simpa using this), List.erase_cons_tail (by simpa using hx),
        List.map_cons, ih]

theorem map_contains_of_inj (l : List α) (a : α) : (l.map f).contains (f a) = l.contains a := by
  rw [Bool.eq_iff_iff]
  simp only [List.contains_iff_mem, List.mem_map]
  constructor
  · rintro ⟨b, hb, h⟩; rw [← hf _ _ h]; exact hb
  · intro h; exact ⟨a, h, rfl⟩

end

section inj
variable {ρ : EvId → EvId} (hρ : ∀ a b, ρ a = ρ b → a = b)
include hρ

theorem list_map_inj {l1 l2 : List EvId} (h : l1.map ρ = l2.map ρ) : l1 = l2 :=
  (List.map_inj_right (fun a b => hρ a b)).mp h

theorem rnCb_inj {a b : Cb} (h : rnCb ρ a = rnCb ρ b) : a = b := by
  cases a <;> cases b <;> simp only [rnCb, reduceCtorEq, Cb.resume.injEq, Cb.intr.injEq, Cb.check.injEq, Cb.build.injEq,
    Cb.probe.injEq, Cb.trigPut.injEq, Cb.trigGet.injEq] at h ⊢ <;> first | exact hρ _ _ h | exact h

theorem rnKind_inj {a b : Kind} (h : rnKind ρ a = rnKind ρ b) : a = b := by
  cases a <;> cases b <;> simp only [rnKind, reduceCtorEq, Kind.init.injEq, Kind.intr.injEq, Kind.cond.injEq,
    Kind.put.injEq, Kind.get.injEq] at h ⊢ <;> first | exact hρ _ _ h | exact h | exact ⟨h.1, list_map_inj hρ h.2⟩

theorem rnKind_eq_iff (a b : Kind) : rnKind ρ a = rnKind ρ b ↔ a = b :=
  ⟨rnKind_inj hρ, fun h => by rw [h]⟩

theorem map_erase_inj (l : List EvId) (a : EvId) : (l.map ρ).erase (ρ a) = (l.erase a).map ρ :=
  map_erase_of_inj ρ hρ l a

theorem map_contains_inj (l : List EvId) (a : EvId) : (l.map ρ).contains (ρ a) = l.contains a :=
  map_contains_of_inj ρ hρ l a

theorem mapCb_erase_inj (l : List Cb) (a : Cb) : (l.map (rnCb ρ)).erase (rnCb ρ a) = (l.erase a).map (rnCb ρ) :=
  map_erase_of_inj _ (fun _ _ => rnCb_inj hρ) l a

theorem mapCb_contains_inj (l : List Cb) (a : Cb) : (l.map (rnCb ρ)).contains (rnCb ρ a) = l.contains a :=
  map_contains_of_inj _ (fun _ _ => rnCb_inj hρ) l a

end inj
