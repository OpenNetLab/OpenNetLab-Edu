import OnlVerif.Lemmas.GenKernelDefs
import OnlVerif.Lemmas.KAccess
import OnlVerif.Generated.KernelCancel
/-!
# Running the generated `Put.cancel` / `Get.cancel` (`Generated/KernelCancel.lean`) on model `K`

The bridge theorem (`cancelReq`, C06 and C07) is proved where it is stated, `Props/KernelGenCancel.lean`.
-/

namespace GenKernel
variable {τ σ : Type} [Num τ]

/-- `Put.cancel()` -/
def runPutCancel (cx : Cx) (s : KState τ σ) : Option (KState τ σ) :=
  runEff cx (Gen.Put.cancel reqObj (s.triggered cx.e)).eff s

/-- `Get.cancel()` -/
def runGetCancel (cx : Cx) (s : KState τ σ) : Option (KState τ σ) :=
  runEff cx (Gen.Get.cancel reqObj (s.triggered cx.e)).eff s

end GenKernel
