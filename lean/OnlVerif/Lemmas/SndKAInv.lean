import OnlVerif.Lemmas.SndKFrag
/-!
# The TCP sender on the kernel model: what holds of the configurations of a run (`AInv`), and the clock

`AInv cfg a`: the LTS state of the configuration satisfies the invariant of the sender LTS (`TcpSender.Inv`); the keys of
`timers` are candidate keys, in order; every `Timer` object agrees with its entry in `timers` (a live timer is not stopped and
its process sleeps until exactly `expire_time`; a timer without entry is stopped); the entries of the agenda are due now
(process starts, hand-offs, pending `StorePut`s) or later (timeouts); the script delivers well-formed ACKs.  The lemma
`tick_ok` shows that the clock advance of a kernel step is an admissible `tick` of the LTS.  The end of the file says what each clause
reads (`*.congr`), and gives the invariants after the changes a step makes to a process (`AInv.set_tph`, `AInv.set_scr`) or to
the LTS state (`AInv.of_timers`).
-/


namespace SndK
open SenderOnK TcpSender

/-- the deliveries still to come: gaps are not negative, ACK packets carry a flow id `≥ 10000` and are not stamped in the
future of their delivery -/
def ScriptOK : ℚ → Script → Prop
  | _, [] => True
  | t, (gap, x) :: rest => 0 ≤ gap ∧ 10000 ≤ x.fid ∧ x.ptime ≤ t + gap ∧ ScriptOK (t + gap) rest

/-- the `Timer` of segment `seq` and its entry in `self.timers` -/
def TmA (a : A) (seq : Nat) : Prop :=
  match AL.get? seq a.S.timers with
  | some r =>
    (a.tmc seq).stopped = false ∧ r = ⟨(a.tmc seq).expire, (a.tmc seq).expire, true⟩ ∧
    (match a.tph seq with
     | .init q => q.time = a.S.now ∧ q.prio = URGENT ∧ a.S.now < (a.tmc seq).expire
     | .sleep _ q => q.time = (a.tmc seq).expire ∧ q.prio = NORMAL
     | _ => False)
  | none =>
    (a.tmc seq).stopped = true ∧ (a.tmc seq).expire ≤ a.S.now ∧
    (match a.tph seq with
     | .init q => q.time = a.S.now ∧ q.prio = URGENT
     | .sleep _ q => q.prio = NORMAL
     | .ending q => q.prio = NORMAL
     | .gone => True
     | .running => False)

/-- where the process of a live timer is: about to start, or asleep until `expire_time` -/
def TPh.live (now expire : ℚ) : TPh → Prop
  | .init q => q.time = now ∧ q.prio = URGENT ∧ now < expire
  | .sleep _ q => q.time = expire ∧ q.prio = NORMAL
  | _ => False

/-- where the process of a stopped timer is -/
def TPh.dead (now : ℚ) : TPh → Prop
  | .init q => q.time = now ∧ q.prio = URGENT
  | .sleep _ q => q.prio = NORMAL
  | .ending q => q.prio = NORMAL
  | .gone => True
  | .running => False

theorem TPh.live.dead {now e : ℚ} {ph : TPh} (h : ph.live now e) : ph.dead now := by
  cases ph with
  | init q => exact ⟨h.1, h.2.1⟩
  | sleep t q => exact h.2
  | _ => exact h.elim

theorem tmA_live {a : A} {seq : Nat} {r : TimerRec ℚ} (hg : AL.get? seq a.S.timers = some r) :
    TmA a seq ↔ (a.tmc seq).stopped = false ∧ r = ⟨(a.tmc seq).expire, (a.tmc seq).expire, true⟩ ∧
      (a.tph seq).live a.S.now (a.tmc seq).expire := by
  unfold TmA
  rw [hg]
  cases a.tph seq <;> exact Iff.rfl

theorem tmA_dead {a : A} {seq : Nat} (hg : AL.get? seq a.S.timers = none) :
    TmA a seq ↔ (a.tmc seq).stopped = true ∧ (a.tmc seq).expire ≤ a.S.now ∧ (a.tph seq).dead a.S.now := by
  unfold TmA
  rw [hg]
  cases a.tph seq <;> exact Iff.rfl

theorem TmA.of_live {a : A} {seq : Nat} {r : TimerRec ℚ} (hg : AL.get? seq a.S.timers = some r)
    (h : (a.tmc seq).stopped = false ∧ r = ⟨(a.tmc seq).expire, (a.tmc seq).expire, true⟩ ∧
      (a.tph seq).live a.S.now (a.tmc seq).expire) : TmA a seq := (tmA_live hg).mpr h

theorem TmA.of_live_at {a : A} {seq : Nat} {c : TmC} {ph : TPh} (hc : a.tmc seq = c) (hp : a.tph seq = ph)
    (hg : AL.get? seq a.S.timers = some ⟨c.expire, c.expire, true⟩) (hs : c.stopped = false)
    (hl : ph.live a.S.now c.expire) : TmA a seq :=
  TmA.of_live hg (by rw [hc, hp]; exact ⟨hs, rfl, hl⟩)

theorem TmA.of_dead {a : A} {seq : Nat} (hg : AL.get? seq a.S.timers = none)
    (h : (a.tmc seq).stopped = true ∧ (a.tmc seq).expire ≤ a.S.now ∧ (a.tph seq).dead a.S.now) : TmA a seq :=
  (tmA_dead hg).mpr h

def RunA (a : A) : RPhase → Prop
  | .init q => q.time = a.S.now ∧ q.prio = URGENT ∧ a.S.proc = .runnable
  | .blocked _ t0 => a.S.proc = .blocked ∧ t0 ≤ a.S.now ∧ a.S.tokens ≤ a.pend.length ∧ (0 < a.S.tokens → a.putAt = a.S.now)
  | .handed _ t0 q => q.time = a.S.now ∧ q.prio = NORMAL ∧ a.S.proc = .runnable ∧ Num.pymax t0 a.putAt = a.S.now
  | .ending q => a.S.proc = .finished ∧ q.prio = NORMAL
  | .done => a.S.proc = .finished
  | .running => False

def ScrA (a : A) : SPhase → Prop
  | .init q rest => q.time = a.S.now ∧ q.prio = URGENT ∧ ScriptOK a.S.now rest
  | .wait x rest q => q.prio = NORMAL ∧ 10000 ≤ x.fid ∧ x.ptime ≤ q.time ∧ ScriptOK q.time rest
  | .ending q => q.prio = NORMAL
  | .done => True
  | .running => False

structure AInv (cfg : Cfg) (a : A) : Prop where
  inv : Inv a.S
  kind : a.S.kind = cfg.kind
  mss : a.S.mss = cfg.mss
  size : a.S.size = some cfg.size
  mpos : 0 < cfg.mss
  spos : 0 < cfg.size
  dvd : cfg.mss ∣ cfg.size
  tks : a.tks = segKeys cfg.mss a.S.next_seq
  nmul : cfg.mss ∣ a.S.next_seq
  bufle : a.S.send_buffer ≤ cfg.size
  tkeys : (AL.keys a.S.timers).Sublist a.tks
  cur : a.cur = none
  run : RunA a a.run
  scr : ScrA a a.scr
  pend : ∀ u ∈ a.pend, u.time = a.S.now ∧ u.prio = NORMAL
  tm : ∀ seq ∈ a.tks, TmA a seq
  putAt : a.putAt ≤ a.S.now

theorem min_time {l : List (QEntry ℚ)} {q : QEntry ℚ} {rest ents : List (QEntry ℚ)} (hp : popMin l = some (q, rest))
    (hag : l.Perm ents) : ∀ x ∈ ents, q.time ≤ x.time := by
  obtain ⟨h1, h2⟩ := popMin_spec _ _ _ hp
  intro x hx
  have : x ∈ q :: rest := h1.subset (hag.symm.subset hx)
  rcases List.mem_cons.mp this with rfl | hr
  · exact le_refl _
  · exact not_keyLt_time (h2 x hr)

/-- among the entries due at the same instant an URGENT one is popped first -/
theorem min_prio {l : List (QEntry ℚ)} {q : QEntry ℚ} {rest ents : List (QEntry ℚ)} (hp : popMin l = some (q, rest))
    (hag : l.Perm ents) : ∀ x ∈ ents, x.time = q.time → q.prio ≤ x.prio := by
  obtain ⟨h1, h2⟩ := popMin_spec _ _ _ hp
  intro x hx ht
  have : x ∈ q :: rest := h1.subset (hag.symm.subset hx)
  rcases List.mem_cons.mp this with rfl | hr
  · exact le_refl _
  · by_contra hc
    exact h2 x hr (Or.inr ⟨ht, Or.inl (Nat.lt_of_not_le hc)⟩)

theorem mem_entries {κ : Kern} {x : QEntry ℚ} : x ∈ κ.entries ↔
    x ∈ κ.run.entries ∨ x ∈ κ.scr.entries ∨ x ∈ κ.pend ∨ ∃ seq ∈ κ.keys, x ∈ (κ.tph seq).entries := by
  simp only [Kern.entries, List.mem_append, tmEntries, List.mem_flatMap]

def aTick (a : A) (t : ℚ) : A := { a with S := { a.S with now := t } }

theorem aTick_self (a : A) : aTick a a.S.now = a := rfl

/-! Of a process that is not about to start, nothing is said in terms of the clock; one that is about to start has an entry that
is due now. -/

theorem TPh.dead.tick {now t : ℚ} {ph : TPh} (h : ph.dead now) (hq : ∀ q ∈ ph.entries, q.time ≠ now) : ph.dead t := by
  cases ph with
  | init q => exact absurd h.1 (hq q (List.mem_singleton_self q))
  | _ => exact h

theorem TPh.live.tick {now t e : ℚ} {ph : TPh} (h : ph.live now e) (hq : ∀ q ∈ ph.entries, t ≤ q.time ∧ q.time ≠ now) :
    ph.live t e ∧ ¬ e < t := by
  cases ph with
  | init q => exact absurd h.1 (hq q (List.mem_singleton_self q)).2
  | sleep _ q => exact ⟨h, h.1 ▸ not_lt.mpr (hq q (List.mem_singleton_self q)).1⟩
  | _ => exact h.elim

theorem ScrA.tick {a : A} {t : ℚ} {ph : SPhase} (h : ScrA a ph) (hq : ∀ q ∈ ph.entries, q.time ≠ a.S.now) :
    ScrA (aTick a t) ph := by
  cases ph with
  | init q rest => exact absurd h.1 (hq q (List.mem_singleton_self q))
  | _ => exact h

theorem RunA.tick {a : A} {t : ℚ} {ph : RPhase} (h : RunA a ph) (hq : ∀ q ∈ ph.entries, q.time ≠ a.S.now) (hp : a.pend = [])
    (hlt : a.S.now < t) : a.S.proc ≠ .runnable ∧ (a.S.proc = .blocked → a.S.tokens = 0) ∧ RunA (aTick a t) ph := by
  cases ph with
  | init q => exact absurd h.1 (hq q (List.mem_singleton_self q))
  | handed g t0 q => exact absurd h.1 (hq q (List.mem_singleton_self q))
  | blocked g t0 =>
    obtain ⟨h1, h2, h3, -⟩ := h
    have ht0 : a.S.tokens = 0 := by rw [hp] at h3; simpa using h3
    exact ⟨by rw [h1]; simp, fun _ => ht0, h1, le_of_lt (lt_of_le_of_lt h2 hlt), h3, fun hpos =>
      absurd hpos (by show ¬ 0 < a.S.tokens; omega)⟩
  | ending q => exact ⟨by rw [h.1]; simp, (fun hb => by rw [h.1] at hb; cases hb), h⟩
  | done => exact ⟨by rw [h]; simp, (fun hb => by rw [h] at hb; cases hb), h⟩
  | running => exact h.elim

/-- **the clock advance of a kernel step is an admissible `tick`**: when the earliest entry is due at `t`, nothing the LTS
still has to do at the current instant is pending (no resumption of `run`, no hand-off, no timer overdue) -/
theorem tick_ok {cfg : Cfg} {a : A} {t : ℚ} (hi : AInv cfg a) (hmin : ∀ x ∈ (kernOf a).entries, t ≤ x.time)
    (hlt : a.S.now < t) : a.S.tickStep t = .ok { a.S with now := t } [] ∧ AInv cfg (aTick a t) := by
  -- an entry that is due now would have been popped before the clock moves
  have late : ∀ x ∈ (kernOf a).entries, x.time ≠ a.S.now := fun x hx e =>
    absurd hlt (not_lt.mpr (e ▸ hmin x hx))
  have hpend : a.pend = [] := by
    cases hpd : a.pend with
    | nil => rfl
    | cons u us =>
      have hu : u ∈ a.pend := by rw [hpd]; exact List.mem_cons_self
      exact absurd (hi.pend u hu).1 (late u (mem_entries.mpr (.inr (.inr (.inl hu)))))
  have hrun := hi.run.tick (t := t) (fun q h => late q (mem_entries.mpr (.inl h))) hpend hlt
  have htm : ∀ seq ∈ a.tks, TmA (aTick a t) seq ∧ ∀ r, AL.get? seq a.S.timers = some r → ¬ r.wake < t := by
    intro seq hs
    have h := hi.tm seq hs
    have hq : ∀ q ∈ (a.tph seq).entries, t ≤ q.time ∧ q.time ≠ a.S.now := fun q hq =>
      have := mem_entries (κ := kernOf a).mpr (.inr (.inr (.inr ⟨seq, hs, hq⟩)))
      ⟨hmin q this, late q this⟩
    cases hg : AL.get? seq a.S.timers with
    | some r =>
      obtain ⟨h1, h2, h3⟩ := (tmA_live hg).mp h
      obtain ⟨l1, l2⟩ := h3.tick hq
      exact ⟨TmA.of_live (a := aTick a t) hg ⟨h1, h2, l1⟩, fun r' hr' => by cases hr'; rw [h2]; exact l2⟩
    | none =>
      obtain ⟨h1, h2, h3⟩ := (tmA_dead hg).mp h
      exact ⟨TmA.of_dead (a := aTick a t) hg ⟨h1, le_of_lt (lt_of_le_of_lt h2 hlt), h3.tick fun q hq' => (hq q hq').2⟩,
        fun r hr => by cases hr⟩
  have hscr : ScrA (aTick a t) a.scr := hi.scr.tick fun q h => late q (mem_entries.mpr (.inr (.inl h)))
  refine ⟨?_, ?_⟩
  · unfold Sender.tickStep
    have h1 : ¬ t < a.S.now := not_lt.mpr (le_of_lt hlt)
    have h2 : ¬ a.S.proc = .runnable := hrun.1
    have h3 : ¬ (a.S.proc = .blocked ∧ a.S.tokens > 0) := fun h => by have := hrun.2.1 h.1; omega
    have h4 : a.S.overdue t = false := by
      unfold Sender.overdue
      rw [List.any_eq_false]
      intro kv hkv
      have hk : kv.1 ∈ AL.keys a.S.timers := List.mem_map.mpr ⟨kv, hkv, rfl⟩
      have hs : kv.1 ∈ a.tks := hi.tkeys.subset hk
      obtain ⟨v, hv⟩ := AL.get?_isSome_of_mem hk
      have hmem := AL.pair_mem_of_get?_some hv
      have hvv : v = kv.2 := by
        have hn := hi.inv.nodup
        by_contra hne
        have : (kv.1, v) ≠ kv := fun e => hne (by rw [← e])
        -- two different pairs with the same key contradict `Nodup` of the keys
        have hinj := List.inj_on_of_nodup_map hn hmem hkv rfl
        exact this hinj
      have := (htm kv.1 hs).2 v hv
      rw [hvv] at this
      simp [this]
    simp only [h1, h2, h3, h4, if_false, Bool.false_eq_true]
  · exact ⟨hi.inv.transfer rfl rfl rfl rfl rfl hi.inv.buf, hi.kind, hi.mss, hi.size, hi.mpos, hi.spos, hi.dvd, hi.tks, hi.nmul,
      hi.bufle, hi.tkeys, hi.cur, hrun.2.2, hscr, (fun u hu => by have hu' : u ∈ a.pend := hu; rw [hpend] at hu'; cases hu'), fun seq hs => (htm seq hs).1,
      le_of_lt (lt_of_le_of_lt hi.putAt hlt)⟩

theorem AInv.run_at {cfg : Cfg} {a : A} {r : RPhase} (hi : AInv cfg a) (h : a.run = r) : RunA a r := h ▸ hi.run

theorem AInv.scr_at {cfg : Cfg} {a : A} {r : SPhase} (hi : AInv cfg a) (h : a.scr = r) : ScrA a r := h ▸ hi.scr

theorem TmA.congr {a a' : A} {seq : Nat} (h : TmA a seq) (h1 : AL.get? seq a'.S.timers = AL.get? seq a.S.timers)
    (h2 : a'.tmc seq = a.tmc seq) (h3 : a'.tph seq = a.tph seq) (h4 : a'.S.now = a.S.now) : TmA a' seq := by
  unfold TmA at h ⊢
  rw [h1, h2, h3, h4]
  exact h

theorem RunA.congr {a a' : A} {ph : RPhase} (h : RunA a ph) (h1 : a'.S.now = a.S.now) (h2 : a'.S.proc = a.S.proc)
    (h3 : a'.S.tokens = a.S.tokens) (h4 : a'.pend = a.pend) (h5 : a'.putAt = a.putAt) : RunA a' ph := by
  cases ph <;> simp only [RunA] at h ⊢ <;> (try rw [h1]) <;> (try rw [h2]) <;> (try rw [h3]) <;> (try rw [h4]) <;>
    (try rw [h5]) <;> exact h

theorem ScrA.congr {a a' : A} {ph : SPhase} (h : ScrA a ph) (h1 : a'.S.now = a.S.now) : ScrA a' ph := by
  cases ph <;> simp only [ScrA] at h ⊢ <;> (try rw [h1]) <;> exact h

theorem TmA.live {a : A} {seq : Nat} {ph : TPh} (h : TmA a seq) (hph : a.tph seq = ph)
    (hs : (AL.get? seq a.S.timers).isSome) : ph.live a.S.now (a.tmc seq).expire := by
  obtain ⟨r, hg⟩ := Option.isSome_iff_exists.mp hs
  exact hph ▸ ((tmA_live hg).mp h).2.2

theorem TmA.phase {a : A} {seq : Nat} (h : TmA a seq) {ph' : TPh} (hd : ph'.dead a.S.now)
    (hl : (AL.get? seq a.S.timers).isSome → ph'.live a.S.now (a.tmc seq).expire) :
    TmA { a with tph := upd a.tph seq ph' } seq := by
  cases hg : AL.get? seq a.S.timers with
  | some r =>
    obtain ⟨l1, l2, -⟩ := (tmA_live hg).mp h
    refine TmA.of_live (a := { a with tph := upd a.tph seq ph' }) hg ⟨l1, l2, ?_⟩
    show TPh.live _ _ (upd a.tph seq ph' seq)
    rw [upd_same]
    exact hl (hg ▸ rfl)
  | none =>
    obtain ⟨d1, d2, -⟩ := (tmA_dead hg).mp h
    refine TmA.of_dead (a := { a with tph := upd a.tph seq ph' }) hg ⟨d1, d2, ?_⟩
    show TPh.dead _ (upd a.tph seq ph' seq)
    rw [upd_same]
    exact hd

theorem AInv.set_tph {cfg : Cfg} {a : A} (hi : AInv cfg a) (seq : Nat) {ph' : TPh} (hd : ph'.dead a.S.now)
    (hl : seq ∈ a.tks → (AL.get? seq a.S.timers).isSome → ph'.live a.S.now (a.tmc seq).expire) :
    AInv cfg { a with tph := upd a.tph seq ph' } := by
  refine ⟨hi.inv, hi.kind, hi.mss, hi.size, hi.mpos, hi.spos, hi.dvd, hi.tks, hi.nmul, hi.bufle, hi.tkeys, hi.cur,
    hi.run, hi.scr, hi.pend, fun seq' hs' => ?_, hi.putAt⟩
  by_cases he : seq' = seq
  · subst he
    exact (hi.tm seq' hs').phase hd (hl hs')
  · exact (hi.tm seq' hs').congr rfl rfl (upd_ne _ _ _ _ he) rfl

theorem AInv.set_scr {cfg : Cfg} {a : A} (hi : AInv cfg a) (ph' : SPhase) (hnew : ScrA { a with scr := ph' } ph') :
    AInv cfg { a with scr := ph' } :=
  ⟨hi.inv, hi.kind, hi.mss, hi.size, hi.mpos, hi.spos, hi.dvd, hi.tks, hi.nmul, hi.bufle, hi.tkeys, hi.cur,
    hi.run.congr rfl rfl rfl rfl rfl, hnew, hi.pend, fun seq hs => (hi.tm seq hs).congr rfl rfl rfl rfl, hi.putAt⟩

/-- a change of the LTS state, of the `Timer` objects and of the phases of their processes that leaves `tokens` and what the
invariants read besides `timers` alone -/
theorem AInv.of_timers {cfg : Cfg} {a : A} (hi : AInv cfg a) {S' : Sender ℚ} (txs' : List (Nat × ℚ)) (tmc' : Nat → TmC)
    (tph' : Nat → TPh) (hinv : Inv S') (hk : S'.tokens = a.S.tokens)
    (hf : S'.kind = a.S.kind ∧ S'.mss = a.S.mss ∧ S'.size = a.S.size ∧ S'.next_seq = a.S.next_seq ∧
       S'.send_buffer = a.S.send_buffer ∧ S'.proc = a.S.proc ∧ S'.now = a.S.now)
    (hsub : (AL.keys S'.timers).Sublist a.tks)
    (htm : ∀ seq ∈ a.tks, TmA { a with S := S', txs := txs', tmc := tmc', tph := tph' } seq) :
    AInv cfg { a with S := S', txs := txs', tmc := tmc', tph := tph' } := by
  obtain ⟨f1, f2, f3, f4, f5, f6, f7⟩ := hf
  exact ⟨hinv, f1.trans hi.kind, f2.trans hi.mss, f3.trans hi.size, hi.mpos, hi.spos, hi.dvd,
    by show a.tks = segKeys cfg.mss S'.next_seq; rw [f4]; exact hi.tks, by show cfg.mss ∣ S'.next_seq; rw [f4]; exact hi.nmul,
    by show S'.send_buffer ≤ cfg.size; rw [f5]; exact hi.bufle, hsub, hi.cur, hi.run.congr f7 f6 hk rfl rfl, hi.scr.congr f7,
    fun u hu => by show u.time = S'.now ∧ _; rw [f7]; exact hi.pend u hu, htm,
    by show a.putAt ≤ S'.now; rw [f7]; exact hi.putAt⟩

end SndK
