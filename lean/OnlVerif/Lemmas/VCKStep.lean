import OnlVerif.Lemmas.VCKCfg
import OnlVerif.Lemmas.VCKFrame
/-!
# The VirtualClock scheduler on the kernel model: the kernel steps

Each kernel step is computed on the configuration `cfgOf … a s st0` by the machine of `Lemmas/KProcDefs.lean`, and `StepTo.of_ginv`
reads the configuration `a'` of the state after the step off the result.
-/

namespace VCK
open VCOnK
open TimerK (dec_enc)
open KProc hiding upd

variable {N scale F : Nat} {flow size : Int → Nat} {cfg : VcCfg ℚ}
variable {s : KS} {a : A} {q : QEntry ℚ} {rest : List (QEntry ℚ)} {st0 : St}

/-- the kernel step on `s` processes the entry `q`, ends normally in a state with configuration `a'` at the instant
`q.time`, and appends `new` to the history -/
abbrev StepTo (N scale F : Nat) (flow size : Int → Nat) (cfg : VcCfg ℚ) (fuel : Nat) (s : KS) (q : QEntry ℚ) (a' : A)
    (new : List (HEv ℚ)) : Prop :=
  ∃ s', step (prog flow size cfg N scale) (fuel + 1) s = .ok s' ∧ KInv N scale F s' a' ∧ s'.now = q.time ∧
    histOf s'.trace = histOf s.trace ++ new

/-- a state that is the configuration `c'` the machine has computed has the configuration `a'` that `c'` displays -/
theorem KInv.of_ginv {s' : KS} {c' : Cfg St} {a' : A} (hg : GInv s' c')
    (ht : c'.threads = runThread N scale a'.run :: (srcThreads st0 a'.src ++ sendThreads a'.run))
    (hp : c'.pend = a'.pend.map (·, 0))
    (hs : ∀ r, c'.stores r =
      if r = 0 then some { prio := true, getQ := a'.run.getQ, items := a'.items.map (codeOf N scale) } else none)
    (hl : c'.loose = []) (hcur : c'.cur = none) (hr : a'.run.OK)
    (hc : Cells F c'.reg.cells a'.recv a'.cur a'.cnt a'.byt a'.vc a'.aux) : KInv N scale F s' a' := by
  have hreg := hg.reg
  have hc' : c' = cfgOf N scale a' s' st0 := hg.cfg_eq ht hp hs hl hcur
  exact ⟨hr, ⟨st0, hc' ▸ hg⟩, by rw [hreg] at hc; exact hc⟩

theorem StepTo.of_ginv {fuel : Nat} {c' : Cfg St} {a' : A} {new : List (HEv ℚ)}
    (h : ∃ s', step (prog flow size cfg N scale) (fuel + 1) s = .ok s' ∧ GInv s' c')
    (ht : c'.threads = runThread N scale a'.run :: (srcThreads st0 a'.src ++ sendThreads a'.run))
    (hp : c'.pend = a'.pend.map (·, 0))
    (hs : ∀ r, c'.stores r =
      if r = 0 then some { prio := true, getQ := a'.run.getQ, items := a'.items.map (codeOf N scale) } else none)
    (hl : c'.loose = []) (hcur : c'.cur = none) (hr : a'.run.OK)
    (hc : Cells F c'.reg.cells a'.recv a'.cur a'.cnt a'.byt a'.vc a'.aux) (hnow : c'.reg.now = q.time)
    (hh : histOf c'.reg.trace = histOf s.trace ++ new) : StepTo N scale F flow size cfg fuel s q a' new := by
  obtain ⟨s', hstep, hg⟩ := h
  refine ⟨s', hstep, .of_ginv hg ht hp hs hl hcur hr hc, ?_, ?_⟩
  · rw [hg.reg] at hnow; exact hnow
  · rw [hg.reg] at hh; exact hh

/-! `heval [vck, …]` runs the machine on this program: the generator functions, the addresses of the cells, the plumbing of the
thread list.  The threads of the part that acts are named in the call (`runThread`, `sendThreads` or `srcThreads`): unfolded on
a variable phase they would be a `match`. -/

attribute [vck] prog VCOnK.runLoop runServe sendBegin sendEnd vcPut addPacket loadKey addInt loadInt srcLoop cfgOf
  pid_runThread dec_enc modTh_append List.find?_append List.filter_append Option.none_or List.cons_append
  List.nil_append List.append_assoc eq_self and_true beq_self_eq_true listMin

/-! ## the steps of `run` and of its sender -/

/-- `run` starts: it blocks on the empty store -/
theorem kstep_runInit (fuel : Nat) (hk : KInv N scale F s a) (hph : a.run = .init q) (hit : a.items = [])
    (hp : popMin s.agenda = some (q, rest)) :
    StepTo N scale F flow size cfg fuel s q { a with run := .W s.events.size } [.get q.time] := by
  obtain ⟨run, src, pend, items, cnt, byt, recv, cur, vc, aux, puts⟩ := a
  subst hph hit
  obtain ⟨hr, ⟨st0, hg⟩, hc⟩ := hk
  exact .of_ginv (st0 := st0) (hg.step_resume (prog flow size cfg N scale) fuel List.mem_cons_self rfl
      (fun _ _ _ hh => nomatch hh) hp (by heval [vck, runThread, sendThreads, RPhase.getQ, skip src_ne0]; rfl))
    rfl rfl (fun _ => stores_upd ..) rfl rfl trivial hc rfl (by simp [histOf_push, Regs.of])

/-- the `StoreGet` is processed: `run` has the item, decodes the packet and spawns `send_packet(packet)` -/
theorem kstep_pktResume (fuel : Nat) (hk : KInv N scale F s a) {g : EvId} {w : PutRec} (hph : a.run = .H g w q)
    (hdec : itemPkt N (codeOf N scale w) = w.1) (hp : popMin s.agenda = some (q, rest)) :
    StepTo N scale F flow size cfg fuel s q
      { a with run := .S s.events.size w.1 ⟨q.time, URGENT, s.eid, s.events.size + 1⟩ } [.serve w.1 q.time] := by
  obtain ⟨run, src, pend, items, cnt, byt, recv, cur, vc, aux, puts⟩ := a
  subst hph
  obtain ⟨hr, ⟨st0, hg⟩, hc⟩ := hk
  have h0n : 0 ≠ (Regs.of s).evSize := Nat.ne_of_lt (hg.plt _ List.mem_cons_self)
  exact .of_ginv (st0 := st0) (hg.step_resume (prog flow size cfg N scale) fuel List.mem_cons_self rfl
      (fun _ _ _ hh => by cases hh; rfl) hp
      (by heval [vck, runThread, sendThreads, RPhase.getQ, skip src_ne0, skip (src_lt hg), hdec, h0n, h0n.symm,
            beq_false_of_ne h0n]
          rfl))
    rfl rfl (fun _ => rfl) rfl rfl rfl hc rfl (by simp [histOf_push, Regs.of])

/-- the `Initialize` event of the sender: `current_packet = packet`, then it sleeps for `8·size/rate` -/
theorem kstep_sendInit (fuel : Nat) (hk : KInv N scale F s a) (hrate : 0 < cfg.rate) {p : EvId} {id : Int}
    (hph : a.run = .S p id q) (hp : popMin s.agenda = some (q, rest)) :
    StepTo N scale F flow size cfg fuel s q
      { a with run := .T p s.events.size id ⟨q.time + txTime size cfg.rate id, NORMAL, s.eid, s.events.size⟩, cur := some id }
      [] := by
  obtain ⟨run, src, pend, items, cnt, byt, recv, cur, vc, aux, puts⟩ := a
  subst hph
  obtain ⟨hr, ⟨st0, hg⟩, hc⟩ := hk
  have hd := txTime_nonneg (size := size) hrate id
  obtain ⟨h0p, hM⟩ : 0 ≠ p ∧ _ := send_ne hg (List.mem_singleton_self _)
  exact .of_ginv (st0 := st0) (hg.step_resume (prog flow size cfg N scale) fuel
      (mem_sendTh (List.mem_singleton_self _)) rfl (fun _ _ _ hh => nomatch hh) hp
      (by heval [vck, runThread, sendThreads, RPhase.getQ, hd, h0p, skip hM]; rfl))
    rfl rfl (fun _ => rfl) rfl rfl rfl (hc.cur (some id)) rfl (by simp [histOf_push, Regs.of])

/-- the sender's timeout: the counters go down, `out.put(packet)`, `current_packet = None`; the generator returns and its
process event is triggered -/
theorem kstep_sendFire (fuel : Nat) (hk : KInv N scale F s a) {p t : EvId} {id : Int} (hph : a.run = .T p t id q)
    (hfid : flow id < F) (hp : popMin s.agenda = some (q, rest)) :
    StepTo N scale F flow size cfg fuel s q
      { a with run := .F p id ⟨q.time, NORMAL, s.eid, p⟩, cnt := upd a.cnt (flow id) (a.cnt (flow id) + -1),
               byt := upd a.byt (flow id) (a.byt (flow id) + -(size id : Int)), cur := none }
      [.out id q.time] := by
  obtain ⟨run, src, pend, items, cnt, byt, recv, cur, vc, aux, puts⟩ := a
  subst hph
  obtain ⟨hr, ⟨st0, hg⟩, (hc : Cells F (Regs.of s).cells recv cur cnt byt vc aux)⟩ := hk
  obtain ⟨h0p, hM⟩ : 0 ≠ p ∧ _ := send_ne hg (List.mem_singleton_self _)
  exact .of_ginv (st0 := st0) (hg.step_resume (prog flow size cfg N scale) fuel
      (mem_sendTh (List.mem_singleton_self _)) rfl (fun _ _ _ hh => nomatch hh) hp
      (by heval [vck, runThread, sendThreads, RPhase.getQ, hc.cc _ hfid, hc.cb _ hfid, h0p, beq_false_of_ne h0p, skip hM]
          rfl))
    rfl rfl (fun _ => rfl) rfl rfl rfl (((hc.cnt (flow id) _).byt (flow id) _).cur none) rfl
    (by simp [histOf_push, Regs.of])

/-- the process event of the sender: `run` goes on and blocks on the empty store -/
theorem kstep_doneBlock (fuel : Nat) (hk : KInv N scale F s a) {p : EvId} {id : Int} (hph : a.run = .F p id q)
    (hit : a.items = []) (hp : popMin s.agenda = some (q, rest)) :
    StepTo N scale F flow size cfg fuel s q { a with run := .W s.events.size } [.get q.time] := by
  obtain ⟨run, src, pend, items, cnt, byt, recv, cur, vc, aux, puts⟩ := a
  subst hph hit
  obtain ⟨hr, ⟨st0, hg⟩, hc⟩ := hk
  obtain ⟨h0p, hM⟩ : 0 ≠ p ∧ _ := send_ne hg (List.mem_singleton_self _)
  exact .of_ginv (st0 := st0) (hg.step_finish (prog flow size cfg N scale) fuel
      (mem_sendTh (List.mem_singleton_self _)) rfl hp
      (by heval [vck, runThread, sendThreads, RPhase.getQ, h0p, skip src_ne0, skip hM]; rfl))
    rfl rfl (fun _ => stores_upd ..) rfl rfl trivial hc rfl (by simp [histOf_push, Regs.of])

/-- the process event of the sender: `run` goes on and is handed the least waiting packet at once -/
theorem kstep_doneHit (fuel : Nat) (hk : KInv N scale F s a) {p : EvId} {id : Int} (hph : a.run = .F p id q)
    {w : PutRec} (hw : IsLeast N scale a.items w) (hinj : ∀ x ∈ a.items, codeOf N scale x = codeOf N scale w → x = w)
    (hp : popMin s.agenda = some (q, rest)) :
    StepTo N scale F flow size cfg fuel s q
      { a with run := .H s.events.size w ⟨q.time, NORMAL, s.eid, s.events.size⟩, items := a.items.erase w }
      [.get q.time] := by
  obtain ⟨run, src, pend, items, cnt, byt, recv, cur, vc, aux, puts⟩ := a
  subst hph
  obtain ⟨hr, ⟨st0, hg⟩, hc⟩ := hk
  obtain ⟨h0p, hM⟩ : 0 ≠ p ∧ _ := send_ne hg (List.mem_singleton_self _)
  exact .of_ginv (st0 := st0) (hg.step_finish (prog flow size cfg N scale) fuel
      (mem_sendTh (List.mem_singleton_self _)) rfl hp
      (by heval [vck, runThread, sendThreads, RPhase.getQ, h0p, skip src_ne0, skip hM, listMin_codes hw,
            erase_codes hinj]
          rfl))
    rfl rfl (fun _ => stores_upd ..) rfl rfl rfl hc rfl (by simp [histOf_push, Regs.of])

/-! ## the steps of the source -/

/-- the `Initialize` event of the source: it sleeps until the first arrival, or returns at once -/
theorem kstep_srcInit (fuel : Nat) (hk : KInv N scale F s a) {arr : List (ℚ × Int)} (hph : a.src = .init q arr)
    (hgap : ∀ x ∈ arr, 0 ≤ x.1) (hp : popMin s.agenda = some (q, rest)) :
    StepTo N scale F flow size cfg fuel s q { a with src := srcNext q.time s.eid s.events.size arr } [] := by
  obtain ⟨run, src, pend, items, cnt, byt, recv, cur, vc, aux, puts⟩ := a
  subst hph
  obtain ⟨hr, ⟨st0, hg⟩, hc⟩ := hk
  have hS := send_ne2 hg rfl rfl
  have hth := mem_srcTh (N := N) (scale := scale) (s := s) (a := ⟨run, .init q arr, pend, items, cnt, byt, recv, cur, vc, aux, puts⟩)
    (st0 := st0) (List.mem_singleton_self _)
  rcases arr with _ | ⟨⟨gap, id⟩, r⟩
  · exact .of_ginv (st0 := .src q.time none []) (hg.step_resume (prog flow size cfg N scale) fuel hth rfl
        (fun _ _ _ hh => nomatch hh) hp (by heval [vck, srcThreads, skip hS]; rfl))
      rfl rfl (fun _ => rfl) rfl rfl hr hc rfl (by simp [histOf_push, Regs.of])
  · exact .of_ginv (st0 := st0) (hg.step_resume (prog flow size cfg N scale) fuel hth rfl (fun _ _ _ hh => nomatch hh) hp
        (by heval [vck, srcThreads, skip hS, hgap _ List.mem_cons_self]; rfl))
      rfl rfl (fun _ => rfl) rfl rfl hr hc rfl (by simp [histOf_push, Regs.of])

/-- the source's timeout: `put(packet)` stamps the packet, counts it and puts it into the store (the `StorePut` event is
triggered); then the source sleeps until the next arrival or returns -/
theorem kstep_srcPut (fuel : Nat) (hk : KInv N scale F s a) {id : Int} {arr : List (ℚ × Int)} (hph : a.src = .wait id arr q)
    (hfid : flow id < F) {vt : ℚ} (hvt : Stamp.lookup cfg.vticks (flow id) = some vt) (hgap : ∀ x ∈ arr, 0 ≤ x.1)
    (hp : popMin s.agenda = some (q, rest)) :
    StepTo N scale F flow size cfg fuel s q
      { a with
        src := srcNext q.time (s.eid + 1) (s.events.size + 1) arr
        pend := a.pend ++ [⟨q.time, NORMAL, s.eid, s.events.size⟩]
        items := a.items ++ [putRec flow cfg a q.time id]
        cnt := upd a.cnt (flow id) (a.cnt (flow id) + 1)
        byt := upd a.byt (flow id) (a.byt (flow id) + (size id : Int))
        recv := a.recv + 1
        vc := upd a.vc (flow id) (VC.vcOf (a.vc (flow id)) q.time (vtOf cfg (flow id)) (size id))
        aux := upd a.aux (flow id) (putRec flow cfg a q.time id).2.2
        puts := a.puts ++ [putRec flow cfg a q.time id] }
      [.put id q.time, .stamp (putRec flow cfg a q.time id).2.2] := by
  obtain rfl : vt = vtOf cfg (flow id) := by rw [vtOf, hvt]; rfl
  obtain ⟨run, src, pend, items, cnt, byt, recv, cur, vc, aux, puts⟩ := a
  subst hph
  obtain ⟨hr, ⟨st0, hg⟩, (hc : Cells F (Regs.of s).cells recv cur cnt byt vc aux)⟩ := hk
  have hS := send_ne2 hg rfl rfl
  have hth := mem_srcTh (N := N) (scale := scale) (s := s) (st0 := st0)
    (a := ⟨run, .wait id arr q, pend, items, cnt, byt, recv, cur, vc, aux, puts⟩) (List.mem_singleton_self _)
  have hc' := ((((hc.vc (flow id) (VC.vcOf (vc (flow id)) q.time (vtOf cfg (flow id)) (size id))).aux (flow id)
    (VC.auxOf q.time (aux (flow id)) (vtOf cfg (flow id)))).recv (recv + 1)).cnt (flow id) (cnt (flow id) + 1)).byt (flow id)
    (byt (flow id) + (size id : Int))
  rcases arr with _ | ⟨⟨gap, id'⟩, r⟩
  · exact .of_ginv (st0 := .src q.time (some id) []) (hg.step_resume (prog flow size cfg N scale) fuel hth rfl
        (fun _ _ _ hh => nomatch hh) hp
        (by heval [vck, srcThreads, skip hS, hc.c0, hc.cc _ hfid, hc.cb _ hfid, hc.cv _ hfid, hc.ca _ hfid, hvt]; rfl))
      rfl (by simp [Regs.of]) (fun r => by heval [List.map_append]; split <;> rfl) rfl rfl hr hc' rfl
      (by simp [histOf_push, Regs.of, putRec])
  · exact .of_ginv (st0 := st0) (hg.step_resume (prog flow size cfg N scale) fuel hth rfl (fun _ _ _ hh => nomatch hh) hp
        (by heval [vck, srcThreads, skip hS, hc.c0, hc.cc _ hfid, hc.cb _ hfid, hc.cv _ hfid, hc.ca _ hfid, hvt,
              hgap _ List.mem_cons_self]
            rfl))
      rfl (by simp [Regs.of]) (fun r => by heval [List.map_append]; split <;> rfl) rfl rfl hr hc' rfl
      (by simp [histOf_push, Regs.of, putRec])

/-- the process event of the finished source: nobody waits for it -/
theorem kstep_srcEnd (fuel : Nat) (hk : KInv N scale F s a) (hph : a.src = .ending q) (hp : popMin s.agenda = some (q, rest)) :
    StepTo N scale F flow size cfg fuel s q { a with src := .done } [] := by
  obtain ⟨run, src, pend, items, cnt, byt, recv, cur, vc, aux, puts⟩ := a
  subst hph
  obtain ⟨hr, ⟨st0, hg⟩, hc⟩ := hk
  exact .of_ginv (st0 := st0) (hg.step_finish (prog flow size cfg N scale) fuel
      (mem_srcTh (List.mem_singleton_self _)) rfl hp
      (by heval [vck, srcThreads, skip (send_ne2 hg rfl rfl)]; rfl))
    rfl rfl (fun _ => rfl) rfl rfl hr hc rfl (by simp [Regs.of])

/-! ## the pending `StorePut` events -/

/-- a `StorePut` event is processed (`_trigger_get`) and nobody can be served: nothing happens -/
theorem kstep_pendNoop (fuel : Nat) (hk : KInv N scale F s a) {l1 l2 : List (QEntry ℚ)} (hpe : a.pend = l1 ++ q :: l2)
    (hno : ¬ (a.items ≠ [] ∧ ∃ g, a.run = .W g)) (hp : popMin s.agenda = some (q, rest)) :
    StepTo N scale F flow size cfg fuel s q { a with pend := l1 ++ l2 } [] := by
  obtain ⟨hr, ⟨st0, hg⟩, hc⟩ := hk
  obtain ⟨run, src, pend, items, cnt, byt, recv, cur, vc, aux, puts⟩ := a
  have he : hpend (cfgOf N scale ⟨run, src, pend, items, cnt, byt, recv, cur, vc, aux, puts⟩ s st0) (q, 0)
      ((l1 ++ l2).map fun x => (x, 0)) =
      some { cfgOf N scale ⟨run, src, pend, items, cnt, byt, recv, cur, vc, aux, puts⟩ s st0 with
        reg := { Regs.of s with now := q.time }, pend := (l1 ++ l2).map fun x => (x, 0) } := by
    cases run with
    | W g =>
      have hit : items = [] := by
        by_contra hc
        exact hno ⟨hc, g, rfl⟩
      subst hit
      heval [vck, runThread, RPhase.getQ]
    | _ => heval [vck, RPhase.getQ]
  exact .of_ginv (st0 := st0) (hg.step_pend (prog flow size cfg N scale) (fuel + 1) (u := (q, 0)) (pend_perm hpe) hp he)
    rfl rfl (fun _ => rfl) rfl rfl hr hc rfl (by simp [Regs.of])

/-- a `StorePut` event is processed while `run` is blocked on the store: the least item is handed over, the `StoreGet`
event of `run` is triggered -/
theorem kstep_pendHand (fuel : Nat) (hk : KInv N scale F s a) {g : EvId} {w : PutRec} {l1 l2 : List (QEntry ℚ)}
    (hpe : a.pend = l1 ++ q :: l2) (hph : a.run = .W g) (hw : IsLeast N scale a.items w)
    (hinj : ∀ x ∈ a.items, codeOf N scale x = codeOf N scale w → x = w) (hp : popMin s.agenda = some (q, rest)) :
    StepTo N scale F flow size cfg fuel s q
      { a with pend := l1 ++ l2, run := .H g w ⟨q.time, NORMAL, s.eid, g⟩, items := a.items.erase w } [] := by
  obtain ⟨run, src, pend, items, cnt, byt, recv, cur, vc, aux, puts⟩ := a
  subst hph
  obtain ⟨hr, ⟨st0, hg⟩, hc⟩ := hk
  exact .of_ginv (st0 := st0) (hg.step_pend (prog flow size cfg N scale) (fuel + 1) (u := (q, 0)) (pend_perm hpe) hp
      (by heval [vck, runThread, sendThreads, RPhase.getQ, skip src_ne0, listMin_codes hw, erase_codes hinj]; rfl))
    rfl rfl (fun _ => stores_upd ..) rfl rfl rfl hc rfl (by simp [Regs.of])

end VCK
