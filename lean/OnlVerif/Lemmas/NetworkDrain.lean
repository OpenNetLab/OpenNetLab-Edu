import Mathlib.Data.List.Flatten
import OnlVerif.Lemmas.NetworkThm
/-!
# Network-wide drain as a multiset equation

With nothing held anywhere, the introduced packets are (a permutation of) the delivered packets together with the packets
dropped by the nodes of any duplicate-free list that contains every node that dropped something.
-/

namespace Net
variable {ι π κ : Type} [DecidableEq ι] [DecidableEq π] [DecidableEq κ]

theorem sum_map_zero (l : List ι) (f : ι → Nat) (h : ∀ c ∈ l, f c = 0) : (l.map f).sum = 0 :=
  List.sum_eq_zero_iff_forall_eq_nat.mpr fun _ hx => by
    obtain ⟨c, hc, rfl⟩ := List.mem_map.mp hx
    exact h c hc

theorem sum_map_single (l : List ι) (hn : l.Nodup) (f : ι → Nat) (a : ι) (ha : a ∈ l) (h : ∀ c, c ≠ a → f c = 0) :
    (l.map f).sum = f a := by
  induction l with
  | nil => cases ha
  | cons c cs ih =>
    rw [List.nodup_cons] at hn
    rw [List.map_cons, List.sum_cons]
    rcases List.mem_cons.mp ha with rfl | hm
    · rw [sum_map_zero cs f (fun c' hc' => h c' (fun e => hn.1 (e ▸ hc')))]; rfl
    · rw [h c (fun e => hn.1 (e ▸ hm)), ih hn.2 hm, Nat.zero_add]

theorem count_deliv (l : List (Nat × π)) (q : π) (k : Nat)
    (h : ∀ k', k' ≠ k → ((l.filter (fun d => decide (d.1 = k'))).map (·.2)).count q = 0) :
    (l.map (·.2)).count q = ((l.filter (fun d => decide (d.1 = k))).map (·.2)).count q := by
  simp only [List.count_eq_countP, List.countP_map, List.countP_filter]
  refine List.countP_congr fun d hd => ?_
  by_cases hk : d.1 = k
  · simp [hk]
  · -- a delivery of `q` to another sink would be counted there
    have := List.count_eq_zero.mp (h d.1 hk)
    have hq : ¬ d.2 = q := fun e => this (List.mem_map.mpr ⟨d, List.mem_filter.mpr ⟨hd, by simp⟩, e⟩)
    simp [hk, hq]

theorem count_delivered (g : GState ι π) (q : π) (k : Nat) (h : ∀ k', k' ≠ k → g.rc (.sink k') q = 0) :
    (g.delivered.map (·.2)).count q = g.rc (.sink k) q :=
  count_deliv g.delivered q k h

theorem drained_perm (n : Wiring ι π κ) (g : GState ι π) (hi : GInv n g) (hheld : ∀ a, (g.acct a).held = [])
    (nodes : List ι) (hn : nodes.Nodup) (hall : ∀ a, (g.acct a).dropped ≠ [] → a ∈ nodes) :
    g.introduced.Perm (g.delivered.map (·.2) ++ nodes.flatMap fun a => (g.acct a).dropped.map (·.1)) := by
  rw [List.perm_iff_count]
  intro q
  have hnd : g.introduced.Nodup := List.Nodup.of_map _ hi.keys
  rw [List.count_append, List.count_flatMap, Function.comp_def]
  have hdrop : ∀ a, ((g.acct a).dropped.map (·.1)).count q = g.rc (.dropped a) q := fun _ => rfl
  simp only [hdrop]
  have hh : ∀ a, g.rc (.held a) q = 0 := by intro a; simp [GState.rc, GState.recs, hheld a]
  by_cases hq : q ∈ g.introduced
  · rw [List.count_eq_one_of_mem hnd hq]
    obtain ⟨s, hs, h1, ho⟩ := (hi.exact q).1 hq
    cases s with
    | sink k =>
      rw [count_delivered g q k (fun k' hk' => ho (.sink k') rfl (by simpa using hk')), h1,
        sum_map_zero nodes _ (fun a _ => ho (.dropped a) rfl (by simp))]
    | dropped a =>
      have ha : a ∈ nodes := by
        apply hall
        intro e
        simp [GState.rc, GState.recs, e] at h1
      rw [sum_map_single nodes hn (fun a => g.rc (.dropped a) q) a ha
        (fun c hc => ho (.dropped c) rfl (by simpa using hc)), h1,
        count_delivered g q 0 (fun k' _ => ho (.sink k') rfl (by simp)), ho (.sink 0) rfl (by simp)]
    | held a => have := hh a; omega
    | inn a | made a | out a => cases hs
  · rw [List.count_eq_zero_of_not_mem hq]
    have hz := (hi.exact q).2 hq
    rw [count_delivered g q 0 (fun k' _ => hz (.sink k') rfl), hz (.sink 0) rfl,
      sum_map_zero nodes _ (fun a _ => hz (.dropped a) rfl)]

end Net
