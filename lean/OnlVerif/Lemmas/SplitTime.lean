import OnlVerif.Lemmas.SplitSentStep
import OnlVerif.Lemmas.SplitUntil
/-!
# `run(until=t)` is transparent up to the renaming of event ids (C03, stage 3): the composition
-/

variable {σ : Type}

def SplitCfg.at (s : KState ℚ σ) (hpos : 0 < s.events.size) (t : ℚ) (rσ : σ → σ) : SplitCfg σ :=
  { u := s.events.size, upos := hpos, eid0 := s.eid, t := t, rσ := rσ }

namespace SplitCfg
variable (c : SplitCfg σ)

/-- the renaming changes nothing in `s`: every event id mentioned anywhere in `s` is below `c.u` and every agenda entry
was pushed before `c.eid0`.  Holds of every well-scoped state with a sorted agenda at `u = events.size`, `eid0 = eid`
(`SplitWF.closed_of_ws`). -/
structure Closed (s : KState ℚ σ) : Prop where
  events : s.events.map (rnRec c.ρ) = s.events
  agenda : s.agenda.map c.rnEntry = s.agenda
  procs : s.procs.map (fun pr => (c.ρ pr.1, rnProc c.ρ c.rσ pr.2)) = s.procs
  active : s.active.map c.ρ = s.active
  trace : s.trace.map (rnObs c.ρ) = s.trace
  shared : s.shared.map (fun kv => (kv.1, rnVal c.ρ kv.2)) = s.shared
  resources : s.resources.map (rnRes c.ρ) = s.resources

/-- what `run(until=t)` does before it starts stepping -/
def plant (t : ℚ) (s : KState ℚ σ) : KState ℚ σ :=
  (((s.newEv { kind := .sentinel, cbs := some [], out := some (.ok .none) }).1.scheduleAt s.events.size URGENT t).addCb
    s.events.size .stop)

omit c in
theorem runUntilTime_eq (body : σ → Resume → Burst ℚ σ) (fuel n : Nat) (t : ℚ) (s : KState ℚ σ) (h : s.now < t) :
    runUntilTime body fuel n t s = runLoop body fuel (some s.events.size) n (plant t s) := by
  unfold runUntilTime
  rw [if_neg (not_le.mpr h)]
  rfl

omit c in
/-- `run(until=t)` refuses a time that is not in the future: a normal return means `now < t` -/
theorem runUntilTime_returned_lt {body : σ → Resume → Burst ℚ σ} {fuel n : Nat} {t : ℚ} {s s' : KState ℚ σ} {v : Val}
    (h : runUntilTime body fuel n t s = .returned v s') : s.now < t := by
  apply Classical.byContradiction
  intro hc
  unfold runUntilTime at h
  rw [if_pos (not_lt.mp hc)] at h
  cases h

theorem plant_eq_T (s : KState ℚ σ) (hu : c.u = s.events.size) (he : c.eid0 = s.eid) (hc : c.Closed s)
    (hs : SortedAg s) : plant c.t s = c.T true s := by
  have hag : c.insSent s.agenda = c.sentEntry :: s.agenda := by
    rw [c.insSent_of_old s.agenda (fun x hx => he ▸ hs.below x hx), hc.agenda]
  have hevs : ((s.events.push { kind := .sentinel, cbs := some [], out := some (.ok .none) }).setIfInBounds s.events.size
      { kind := .sentinel, cbs := some [.stop], out := some (.ok .none) } : Array (EvRec ℚ)) =
      (s.events.map (rnRec c.ρ)).insertIdxIfInBounds c.u (deadRec true) := by
    rw [hc.events, hu]
    unfold Array.insertIdxIfInBounds
    rw [dif_pos (Nat.le_refl _), Array.insertIdx_size_self]
    apply Array.ext_getElem?
    intro j
    rw [Array.getElem?_setIfInBounds, Array.getElem?_push, Array.getElem?_push]
    by_cases hj : s.events.size = j
    · subst hj
      simp only [Array.size_push, Nat.lt_succ_self, if_true]
      rfl
    · have : ¬ j = s.events.size := fun h => hj h.symm
      simp only [hj, this, if_false]
  unfold plant T
  unfold KState.addCb
  have hev : ((s.newEv { kind := .sentinel, cbs := some [], out := some (.ok .none) }).1.scheduleAt s.events.size URGENT c.t).ev
      s.events.size = { kind := .sentinel, cbs := some [], out := some (.ok .none) } := by
    show (s.newEv _).1.ev s.events.size = _
    rw [KState.ev_newEv, if_pos rfl]
  rw [hev]
  unfold KState.setEv KState.scheduleAt KState.newEv agT
  simp only [if_true, hag, hc.procs, hc.active, hc.trace, hc.shared, hc.resources, ← hevs]
  unfold sentEntry
  rw [he, hu]
  rfl

omit c in
/-- a step pops an entry, opens its event and runs the callback loop: whatever every transformer of the model respects
holds between the opened state and the state the step ends in -/
theorem _root_.KRel.step {R : KState ℚ σ → KState ℚ σ → Prop} (K : KRel R) (body : σ → Resume → Burst ℚ σ) (fuel : Nat)
    (s s' : KState ℚ σ) (h : (_root_.step body fuel s).st? = some s') :
    ∃ m rest, popMin s.agenda = some (m, rest) ∧ R (openEvent s m rest) s' := by
  unfold _root_.step at h
  split at h
  · cases h
  · rename_i m rest hp
    refine ⟨m, rest, hp, ?_⟩
    split at h
    · cases h; exact K.refl _
    · rename_i cbs _
      rw [closeEvent_st] at h
      cases h
      exact K.foldCbs body fuel m.ev cbs { s := openEvent s m rest }

omit c in
theorem grow_step (body : σ → Resume → Burst ℚ σ) (fuel : Nat) (s s' : KState ℚ σ)
    (h : (step body fuel s).st? = some s') : Grow s s' := by
  obtain ⟨m, rest, _, hr⟩ := Grow.krel.step body fuel s s' h
  exact Grow.krel.trans ⟨Nat.le_of_eq (grow_openEvent s m rest).2.symm, (grow_openEvent s m rest).1⟩ hr

omit c in
theorem sortedAg_step (body : σ → Resume → Burst ℚ σ) (fuel : Nat) (s s' : KState ℚ σ) (hs : SortedAg s)
    (h : (step body fuel s).st? = some s') : SortedAg s' := by
  obtain ⟨m, rest, hp, hr⟩ := SortedAg.krel.step body fuel s s' h
  have hsub := popMin_sublist _ _ _ hp
  exact hr ⟨hs.sorted.sublist hsub, fun x hx => hs.below x (hsub.subset hx)⟩

structure Good (s : KState ℚ σ) : Prop where
  inv : c.Inv s
  sorted : SortedAg s
  nostop : AllStopFree s

theorem Good.step {s s' : KState ℚ σ} (body : σ → Resume → Burst ℚ σ) (fuel : Nat) (g : c.Good s)
    (h : (step body fuel s).st? = some s') : c.Good s' :=
  ⟨g.inv.mono (grow_step body fuel s s' h), sortedAg_step body fuel s s' g.sorted h,
    step_stopFree _ body fuel s s' g.nostop h⟩

omit c in
theorem step_not_stopped_of_allStopFree (body : σ → Resume → Burst ℚ σ) (fuel : Nat) (s : KState ℚ σ)
    (hf : AllStopFree s) (o : Outcome) (s' : KState ℚ σ) : step body fuel s ≠ .stopped o s' := by
  intro h
  obtain ⟨m, rest, hp, hs⟩ := (step_stopped_iff body fuel s).mp ⟨o, s', h⟩
  rw [(StopFree.iff _ s).mp hf m.ev rfl] at hs
  cases hs

def FuelAlong (body : σ → Resume → Burst ℚ σ) (fuel : Nat) (s : KState ℚ σ) : Prop :=
  ∀ j sj, stepN body fuel j s = .ok sj → c.stepFuelOK body fuel sj

theorem FuelAlong.tail {body : σ → Resume → Burst ℚ σ} {fuel : Nat} {s s1 : KState ℚ σ}
    (hf : c.FuelAlong body fuel s) (h : step body fuel s = .ok s1) : c.FuelAlong body fuel s1 :=
  fun j sj hj => hf (j + 1) sj (stepN_cons_ok h hj)

theorem stepN_T_true_run (body : σ → Resume → Burst ℚ σ) (fuel : Nat) (k : Nat)
    (s S : KState ℚ σ) (g : c.Good s) (hf : c.FuelAlong body fuel s) (hsim : c.SimAlong body fuel s)
    (h : stepN body fuel k (c.T true s) = .ok S) :
    ∃ sk, stepN body fuel k s = .ok sk ∧ S = c.T true sk ∧ c.Good sk ∧ c.FuelAlong body fuel sk ∧ c.SimAlong body fuel sk ∧
      ∀ j, j < k → ∀ sj m rest, stepN body fuel j s = .ok sj → popMin sj.agenda = some (m, rest) →
        (c.rnEntry m).lt c.sentEntry = true := by
  induction k generalizing s with
  | zero => cases h; exact ⟨s, rfl, rfl, g, hf, hsim, fun j hj => absurd hj (Nat.not_lt_zero _)⟩
  | succ k ih =>
    rw [stepN_succ] at h ⊢
    have hst := c.step_T_true_run body fuel s g.inv g.sorted (hf 0 s rfl) (hsim 0 s rfl)
    rw [hst] at h
    cases hp : popMin s.agenda with
    | none => rw [hp] at h; cases h
    | some mr =>
      obtain ⟨m0, rest0⟩ := mr
      rw [hp] at h
      simp only at h
      by_cases hlt : (c.rnEntry m0).lt c.sentEntry = true
      · rw [if_pos hlt] at h
        cases hs : step body fuel s with
        | ok s1 =>
          rw [hs] at h
          obtain ⟨sk, h1, h2, h3, h4, h5, h6⟩ := ih s1 (g.step c body fuel (by rw [hs]; rfl)) (hf.tail c hs) (hsim.tail c hs) h
          refine ⟨sk, h1, h2, h3, h4, h5, ?_⟩
          intro j hj sj m rest hsj hm
          cases j with
          | zero =>
            cases hsj
            rw [hp] at hm
            cases hm
            exact hlt
          | succ j =>
            rw [stepN_succ, hs] at hsj
            exact h6 j (Nat.lt_of_succ_lt_succ hj) sj m rest hsj hm
        | _ => rw [hs] at h; cases h
      · rw [if_neg hlt] at h; cases h

theorem stepN_T_false_run (body : σ → Resume → Burst ℚ σ) (fuel : Nat) (k : Nat)
    (s sk : KState ℚ σ) (hi : c.Inv s) (hf : c.FuelAlong body fuel s) (hsim : c.SimAlong body fuel s)
    (h : stepN body fuel k s = .ok sk) : stepN body fuel k (c.T false s) = .ok (c.T false sk) := by
  induction k generalizing s with
  | zero => cases h; rfl
  | succ k ih =>
    obtain ⟨s1, hs, h⟩ := stepN_succ_ok h
    rw [stepN_succ, c.step_T_false_run body fuel s hi (hf 0 s rfl) (hsim 0 s rfl), hs]
    exact ih s1 (hi.mono (grow_step body fuel s s1 (by rw [hs]; rfl))) (hf.tail c hs) (hsim.tail c hs) h

omit c in
/-- `step` overwrites the clock before anything reads it -/
theorem step_now_irrelevant (body : σ → Resume → Burst ℚ σ) (fuel : Nat) (s : KState ℚ σ) (x : ℚ) :
    step body fuel { s with now := x } = step body fuel s := rfl

/-- the first step overwrites the clock, the only field in which the returned state differs from `T false sk` -/
theorem after_split_lockstep_run (body : σ → Resume → Burst ℚ σ) (fuel : Nat) (j : Nat)
    (sk sj : KState ℚ σ) (hi : c.Inv sk) (hf : c.FuelAlong body fuel sk) (hsim : c.SimAlong body fuel sk)
    (h : stepN body fuel (j + 1) sk = .ok sj) :
    stepN body fuel (j + 1) (c.afterSentinel sk) = .ok (c.T false sj) := by
  have := c.stepN_T_false_run body fuel (j + 1) sk sj hi hf hsim h
  rw [stepN_succ] at this ⊢
  exact this

theorem after_split_lockstep (body : σ → Resume → Burst ℚ σ) (hB : BodySim c.ρ c.rσ body) (fuel : Nat) (j : Nat)
    (sk sj : KState ℚ σ) (hi : c.Inv sk) (hf : c.FuelAlong body fuel sk) (h : stepN body fuel (j + 1) sk = .ok sj) :
    stepN body fuel (j + 1) (c.afterSentinel sk) = .ok (c.T false sj) :=
  c.after_split_lockstep_run body fuel j sk sj hi hf (c.simAlong_of_bodySim body hB fuel sk) h

def notBuild : Cb → Bool
  | .build _ => false
  | _ => true

theorem loopFuelOK_of_noBuild (body : σ → Resume → Burst ℚ σ) (fuel : Nat) (e : EvId) (cbs : List Cb) (l : LoopSt ℚ σ)
    (h : cbs.all notBuild = true) : c.loopFuelOK body fuel e cbs l := by
  induction cbs generalizing l with
  | nil => trivial
  | cons cb cs ih =>
    simp only [List.all_cons, Bool.and_eq_true] at h
    refine ⟨?_, ih _ h.2⟩
    cases cb with
    | build cd => exact (Bool.false_ne_true h.1).elim
    | _ => trivial

/-- a decidable sufficient condition for the fuel hypothesis of one step: the event about to be processed carries no
`_build_value` callback -/
def noBuildNext (s : KState ℚ σ) : Bool :=
  match popMin s.agenda with
  | none => true
  | some (m, _) =>
    match (s.ev m.ev).cbs with
    | none => true
    | some cbs => cbs.all notBuild

theorem stepFuelOK_of_noBuild (body : σ → Resume → Burst ℚ σ) (fuel : Nat) (s : KState ℚ σ) (h : noBuildNext s = true) :
    c.stepFuelOK body fuel s := by
  unfold stepFuelOK
  unfold noBuildNext at h
  cases hp : popMin s.agenda with
  | none => trivial
  | some mr =>
    obtain ⟨m, rest⟩ := mr
    rw [hp] at h
    simp only at h ⊢
    cases hc : (s.ev m.ev).cbs with
    | none => trivial
    | some cbs =>
      rw [hc] at h
      exact c.loopFuelOK_of_noBuild body fuel m.ev cbs _ h

theorem lt_sent_iff (m : QEntry ℚ) :
    (c.rnEntry m).lt c.sentEntry = true ↔ m.time < c.t ∨ (m.time = c.t ∧ m.prio = URGENT ∧ m.eid < c.eid0) := by
  rw [QEntry.lt_iff]
  unfold QEntry.KeyLt
  show m.time < c.t ∨ (m.time = c.t ∧ (m.prio < URGENT ∨ (m.prio = URGENT ∧ (c.rnEntry m).eid < c.eid0))) ↔ _
  have he : (c.rnEntry m).eid < c.eid0 ↔ m.eid < c.eid0 := by
    unfold rnEntry
    show (if c.eid0 ≤ m.eid then m.eid + 1 else m.eid) < c.eid0 ↔ _
    split <;> omega
  rw [he]
  constructor
  · rintro (h | ⟨h1, h2 | h2⟩)
    · exact Or.inl h
    · exact absurd h2 (Nat.not_lt_zero _)
    · exact Or.inr ⟨h1, h2⟩
  · rintro (h | ⟨h1, h2⟩)
    · exact Or.inl h
    · exact Or.inr ⟨h1, Or.inr h2⟩

theorem hasStop_T_false (s : KState ℚ σ) (h : c.Inv s) (hns : AllStopFree s) : AllStopFree (c.T false s) := by
  apply (StopFree.iff _ _).mpr
  intro (j : Nat) _
  unfold KState.hasStop
  rcases c.idx_T j with rfl | ⟨e, rfl⟩
  · rw [c.ev_T_u false s h]; rfl
  · rw [c.cbs_T false s h]
    have := (StopFree.iff _ s).mp hns e rfl
    unfold KState.hasStop at this
    cases hc : (s.ev e).cbs with
    | none => rfl
    | some l =>
      rw [hc] at this
      simp only [Option.map_some]
      simp only at this
      rw [Bool.eq_false_iff] at this ⊢
      intro hm
      apply this
      simp only [List.contains_iff_mem, List.mem_map] at hm ⊢
      obtain ⟨cb, hcb, hst⟩ := hm
      cases cb <;> first | exact hcb | (simp [rnCb] at hst)

theorem afterSentinel_stopFree (s : KState ℚ σ) (h : c.Inv s) (hns : AllStopFree s) : AllStopFree (c.afterSentinel s) := by
  have := c.hasStop_T_false s h hns
  apply (StopFree.iff _ _).mpr
  intro j hj
  exact (StopFree.iff _ _).mp this j hj

/-- **`run(until=t)` is transparent up to the renaming of event ids**: it returns `None` in the state `afterSentinel sk`
of exactly `k` uninterrupted steps, having processed exactly the entries due before the sentinel -/
theorem runUntilTime_transparent_run (body : σ → Resume → Burst ℚ σ) (fuel n : Nat) (s s' : KState ℚ σ) (v : Val)
    (hu : c.u = s.events.size) (he : c.eid0 = s.eid) (hlt : s.now < c.t)
    (hc : c.Closed s) (hs : SortedAg s) (hns : AllStopFree s) (hsim : c.SimAlong body fuel s)
    (hf : c.FuelAlong body fuel s)
    (h : runUntilTime body fuel n c.t s = .returned v s') :
    v = .none ∧ ∃ k sk, k < n ∧ stepN body fuel k s = .ok sk ∧ s' = c.afterSentinel sk ∧ c.Inv sk ∧
      c.FuelAlong body fuel sk ∧ c.SimAlong body fuel sk ∧ AllStopFree s' ∧
      (∀ j, j < k → ∀ sj m rest, stepN body fuel j s = .ok sj → popMin sj.agenda = some (m, rest) →
        (m.time < c.t ∨ (m.time = c.t ∧ m.prio = URGENT ∧ m.eid < c.eid0))) ∧
      (∀ m rest, popMin sk.agenda = some (m, rest) →
        ¬ (m.time < c.t ∨ (m.time = c.t ∧ m.prio = URGENT ∧ m.eid < c.eid0))) := by
  rw [runUntilTime_eq body fuel n c.t s hlt, c.plant_eq_T s hu he hc hs] at h
  have g : c.Good s := ⟨⟨Nat.le_of_eq hu, Nat.le_of_eq he⟩, hs, hns⟩
  obtain ⟨k, S, hk, h1, h2, _⟩ := runLoop_ended body fuel (some s.events.size) n (c.T true s)
    (by intro s'' hc'; rw [hc'] at h; cases h)
  rw [h2] at h
  obtain ⟨sk, h3, rfl, gk, hfk, hsk, hbefore⟩ := c.stepN_T_true_run body fuel k s S g hf hsim h1
  have hbefore' : ∀ j, j < k → ∀ sj m rest, stepN body fuel j s = .ok sj → popMin sj.agenda = some (m, rest) →
      (m.time < c.t ∨ (m.time = c.t ∧ m.prio = URGENT ∧ m.eid < c.eid0)) :=
    fun j hj sj m rest h1 h2 => (c.lt_sent_iff m).mp (hbefore j hj sj m rest h1 h2)
  have hfree := c.afterSentinel_stopFree sk gk.inv gk.nostop
  simp only [runLoop] at h
  have hst := c.step_T_true_run body fuel sk gk.inv gk.sorted (hfk 0 sk rfl) (hsk 0 sk rfl)
  have hret : onStop (some s.events.size) (.ok .none) (c.afterSentinel sk) = .returned v s' →
      v = .none ∧ s' = c.afterSentinel sk := by
    intro hr
    unfold onStop at hr
    simp only [Option.bind_some] at hr
    have hout : ((c.afterSentinel sk).ev s.events.size).out = some (.ok .none) := by
      have h2 : (c.afterSentinel sk).ev s.events.size = (c.T false sk).ev c.u := by rw [hu]; rfl
      rw [h2, c.ev_T_u false sk gk.inv]
      rfl
    rw [hout] at hr
    simp only at hr
    cases hr
    exact ⟨rfl, rfl⟩
  -- the step from `c.T true sk` ends the loop, so it pops the sentinel: the next entry of the uninterrupted run is not before it
  have key : step body fuel (c.T true sk) = .stopped (.ok .none) (c.afterSentinel sk) ∧
      ∀ m rest, popMin sk.agenda = some (m, rest) → ¬ (c.rnEntry m).lt c.sentEntry = true := by
    cases hp : popMin sk.agenda with
    | none => rw [hp] at hst; exact ⟨hst, fun m rest hm => nomatch hm⟩
    | some mr =>
      obtain ⟨m, rest⟩ := mr
      rw [hp] at hst
      simp only at hst
      by_cases hlt' : (c.rnEntry m).lt c.sentEntry = true
      · exfalso
        rw [if_pos hlt'] at hst
        rw [hst] at h
        cases hs1 : step body fuel sk with
        | ok s1 => rw [hs1] at h; cases h
        | stopped o s1 => exact step_not_stopped_of_allStopFree body fuel sk gk.nostop o s1 hs1
        | crash x s1 => rw [hs1] at h; cases h
        | empty => rw [hs1] at h; simp only [mapT, Option.isSome_some, if_true] at h; cases h
      · rw [if_neg hlt'] at hst
        exact ⟨hst, fun m' rest' hm => by cases hm; exact hlt'⟩
  rw [key.1] at h
  obtain ⟨hv, hs'⟩ := hret h
  exact ⟨hv, k, sk, hk, h3, hs', gk.inv, hfk, hsk, hs' ▸ hfree, hbefore',
    fun m rest hm hc' => key.2 m rest hm ((c.lt_sent_iff m).mpr hc')⟩

theorem runUntilTime_transparent (body : σ → Resume → Burst ℚ σ) (fuel n : Nat) (s s' : KState ℚ σ) (v : Val)
    (hu : c.u = s.events.size) (he : c.eid0 = s.eid) (hlt : s.now < c.t)
    (hc : c.Closed s) (hs : SortedAg s) (hns : AllStopFree s) (hB : BodySim c.ρ c.rσ body)
    (hf : c.FuelAlong body fuel s)
    (h : runUntilTime body fuel n c.t s = .returned v s') :
    v = .none ∧ ∃ k sk, k < n ∧ stepN body fuel k s = .ok sk ∧ s' = c.afterSentinel sk ∧ c.Inv sk ∧
      c.FuelAlong body fuel sk ∧ AllStopFree s' ∧
      (∀ j, j < k → ∀ sj m rest, stepN body fuel j s = .ok sj → popMin sj.agenda = some (m, rest) →
        (m.time < c.t ∨ (m.time = c.t ∧ m.prio = URGENT ∧ m.eid < c.eid0))) ∧
      (∀ m rest, popMin sk.agenda = some (m, rest) →
        ¬ (m.time < c.t ∨ (m.time = c.t ∧ m.prio = URGENT ∧ m.eid < c.eid0))) := by
  obtain ⟨hv, k, sk, hk, h1, h2, h3, h4, _, h5⟩ :=
    c.runUntilTime_transparent_run body fuel n s s' v hu he hlt hc hs hns (c.simAlong_of_bodySim body hB fuel s) hf h
  exact ⟨hv, k, sk, hk, h1, h2, h3, h4, h5⟩

end SplitCfg
