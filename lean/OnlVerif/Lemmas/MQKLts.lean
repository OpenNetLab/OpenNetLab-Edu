import OnlVerif.Lemmas.MQKCommon
/-!
# Multi-queue schedulers on the kernel model: the LTS state of a configuration, for SP, RR and WRR alike

A configuration of any of the three developments `SPK`, `RRK`, `WRRK` stands for an LTS state (`Net/MultiQueue.lean`) of one
shape: the dicts list the records `items`, `cnt`, `byt` over the keys inserted so far, `head_of_line` is empty, and clock,
control point and phase are read off the configuration's phase.  `Img` collects the records, `Img.st` is that state, and the
lemmas say what each action of the LTS does to it, for any control type and any record `Sched` (of which only `classOf`,
`onPut`, `onPkt`, `onDone` matter).  DRR, whose LTS state has another shape, uses the list and store lemmas only.  The scans of the three loops are the business of each development.  Before that come the
part of the three `AInv`s that speaks of stores, counters and keys (`StoreInv`) and the facts about per-flow queues that grow at
the tail and lose their head, for the oracles.  `MQK.upd`, `MQK.addKey`, `MQK.sumFrom` have the bodies of each development's `upd`
/ `setQ`, `addKey`, `sumFrom`, so the lemmas here apply to those by unfolding.
-/

namespace MQK
open MQ

variable {κ : Type}

theorem runActs_one {sc : Sched ℚ κ} {S S' : MQState ℚ κ} {act : MAct ℚ} {o : MOut ℚ} (h : MQ.step sc S act = .ok (S', o)) :
    runActs sc S [act] = .ok (S', insOf act, outOf o) := by
  simp only [runActs, h]
  cases act <;> cases o <;> rfl

theorem storeOf_dictOf (keys : List Nat) (g : Nat → List MPkt) (f : Nat) (h0 : f ∉ keys → g f = []) :
    storeOf (dictOf keys g) f = g f := by
  simp only [storeOf, lookupD, lookup_dictOf]
  by_cases hk : f ∈ keys
  · simp [hk]
  · simp [hk, h0 hk]

/-! ## stores and counters

`AInv` of each development says the same three things of the records `items`, `cnt`, `byt`, the keys and the packet `run`
holds; here they are with what `put`, taking the head of a store and the count-out at the end of a transmission do to them. -/

/-- the number of packets of flow `f` the server holds (taken from the store, not yet counted out) -/
def heldCnt (flow : Int → Nat) (held : Option Int) (f : Nat) : Int :=
  match held with
  | some id => if flow id = f then 1 else 0
  | none => 0

theorem heldCnt_nonneg (flow : Int → Nat) (held : Option Int) (f : Nat) : 0 ≤ heldCnt flow held f := by
  unfold heldCnt; split
  · split <;> omega
  · omega

structure StoreInv (flow : Int → Nat) (F : Nat) (keys : List Nat) (items : Nat → List Int) (cnt byt : Nat → Int)
    (held : Option Int) : Prop where
  cntOK : ∀ f, f < F → cnt f = ((items f).length : Nat) + heldCnt flow held f
  flowOK : ∀ f, f < F → ∀ i ∈ items f, flow i = f
  keysOK : (∀ f ∈ keys, f < F) ∧ ∀ f, f < F → f ∉ keys → items f = [] ∧ cnt f = 0 ∧ byt f = 0

namespace StoreInv
variable {flow : Int → Nat} {F : Nat} {keys : List Nat} {items : Nat → List Int} {cnt byt : Nat → Int} {held : Option Int}
  (h : StoreInv flow F keys items cnt byt held) {f : Nat} {id : Int}
include h

theorem cnt_nonneg (hf : f < F) : 0 ≤ cnt f := by
  have := heldCnt_nonneg flow held f
  rw [h.cntOK f hf]; omega

theorem total_zero_of_empty (hh : held = none) (he : ∀ f, f < F → items f = []) : sumFrom cnt 0 F = 0 :=
  sumFrom_all_zero _ _ _ fun j _ hj => by rw [h.cntOK j (by omega), he j (by omega), hh]; rfl

theorem cnt_zero (ht : sumFrom cnt 0 F = 0) (hf : f < F) : cnt f = 0 :=
  sumFrom_zero cnt F 0 (fun j _ hj => h.cnt_nonneg (by omega)) ht f (Nat.zero_le _) (by omega)

theorem empty_of_total_zero (ht : sumFrom cnt 0 F = 0) : ∀ f, f < F → items f = [] := by
  intro f hf
  have h1 := h.cnt_zero ht hf
  have h2 := heldCnt_nonneg flow held f
  rw [h.cntOK f hf] at h1
  exact List.eq_nil_of_length_eq_zero (by omega)

theorem total_pos (hh : held = some id) (hf : flow id < F) : sumFrom cnt 0 F ≠ 0 := by
  intro ht
  have h1 := h.cnt_zero ht hf
  rw [h.cntOK _ hf, hh] at h1
  simp only [heldCnt, if_true] at h1
  omega

/-- a backlogged flow has been put: `stores` has its key (`assert store` holds) -/
theorem key_of_cnt (hf : f < F) (hpos : 0 < cnt f) : f ∈ keys := by
  by_contra hk
  have := (h.keysOK.2 f hf hk).2.1
  omega

theorem empty_of_not_pos (hh : held = none) (hf : f < F) (hnp : ¬ 0 < cnt f) : items f = [] := by
  have := h.cntOK f hf
  rw [hh] at this
  exact List.eq_nil_of_length_eq_zero (by simp only [heldCnt] at this; omega)

theorem key_of_items (hf : f < F) (hne : items f ≠ []) : f ∈ keys := by
  by_contra hk
  exact hne (h.keysOK.2 f hf hk).1

theorem items_of_cnt (hh : held = none) (hf : f < F) (hpos : 0 < cnt f) : ∃ id is, items f = id :: is := by
  have := h.cntOK f hf
  rw [hh] at this
  cases hit : items f with
  | nil => rw [hit] at this; simp [heldCnt] at this; omega
  | cons id is => exact ⟨id, is, rfl⟩

theorem put (hf : flow id < F) (b : Int) :
    StoreInv flow F (addKey keys (flow id)) (upd items (flow id) (items (flow id) ++ [id]))
      (upd cnt (flow id) (cnt (flow id) + 1)) (upd byt (flow id) (byt (flow id) + b)) held := by
  refine ⟨fun f hf' => ?_, fun f hf' x hx => ?_, fun f hf' => ?_, fun f hf' hk => ?_⟩
  · by_cases hff : f = flow id
    · subst hff
      rw [upd_same, upd_same, h.cntOK _ hf, List.length_append, List.length_singleton]
      push_cast; ring
    · rw [upd_ne _ _ _ _ hff, upd_ne _ _ _ _ hff, h.cntOK f hf']
  · by_cases hff : f = flow id
    · subst hff
      rw [upd_same] at hx
      rcases List.mem_append.mp hx with hx | hx
      · exact h.flowOK _ hf x hx
      · rw [List.mem_singleton.mp hx]
    · rw [upd_ne _ _ _ _ hff] at hx
      exact h.flowOK f hf' x hx
  · rcases (mem_addKey _ _ _).mp hf' with hf' | rfl
    · exact h.keysOK.1 f hf'
    · exact hf
  · have hff : f ≠ flow id := fun h1 => hk ((mem_addKey _ _ _).mpr (Or.inr h1))
    rw [upd_ne _ _ _ _ hff, upd_ne _ _ _ _ hff, upd_ne _ _ _ _ hff]
    exact h.keysOK.2 f hf' fun h1 => hk ((mem_addKey _ _ _).mpr (Or.inl h1))

theorem take (hh : held = none) (hf : f < F) {is : List Int} (hit : items f = id :: is) :
    StoreInv flow F keys (upd items f is) cnt byt (some id) := by
  have hfl : flow id = f := h.flowOK f hf id (by rw [hit]; exact List.mem_cons_self)
  refine ⟨fun f' hf' => ?_, fun f' hf' x hx => ?_, h.keysOK.1, fun f' hf' hk => ?_⟩
  · have := h.cntOK f' hf'
    rw [hh] at this
    simp only [heldCnt, hfl] at this ⊢
    by_cases hff : f' = f
    · subst hff
      rw [upd_same, if_pos rfl, this, hit, List.length_cons]
      push_cast; ring
    · rw [upd_ne _ _ _ _ hff, if_neg (Ne.symm hff), this]
  · by_cases hff : f' = f
    · subst hff
      rw [upd_same] at hx
      exact h.flowOK f' hf' x (by rw [hit]; exact List.mem_cons_of_mem _ hx)
    · rw [upd_ne _ _ _ _ hff] at hx
      exact h.flowOK f' hf' x hx
  · obtain ⟨h1, h2, h3⟩ := h.keysOK.2 f' hf' hk
    have hff : f' ≠ f := by rintro rfl; rw [hit] at h1; cases h1
    exact ⟨by rw [upd_ne _ _ _ _ hff]; exact h1, h2, h3⟩

theorem out (hh : held = some id) (hf : flow id < F) (b : Int) :
    StoreInv flow F keys items (upd cnt (flow id) (cnt (flow id) + -1)) (upd byt (flow id) (byt (flow id) + b)) none := by
  have hc := h.cntOK _ hf
  rw [hh] at hc
  simp only [heldCnt, if_true] at hc
  refine ⟨fun f hf' => ?_, h.flowOK, h.keysOK.1, fun f hf' hk => ?_⟩
  · have := h.cntOK f hf'
    rw [hh] at this
    simp only [heldCnt] at this ⊢
    by_cases hff : f = flow id
    · subst hff
      rw [upd_same, this, if_pos rfl]; ring
    · rw [upd_ne _ _ _ _ hff, this, if_neg (Ne.symm hff)]
  · obtain ⟨h1, h2, h3⟩ := h.keysOK.2 f hf' hk
    have hff : f ≠ flow id := by rintro rfl; omega
    exact ⟨h1, by rw [upd_ne _ _ _ _ hff]; exact h2, by rw [upd_ne _ _ _ _ hff]; exact h3⟩

omit h

theorem waiting_take (hf : f < F) {is : List Int} (hit : items f = id :: is) :
    waitingFrom (upd items f is) 0 F + 1 = waitingFrom items 0 F := by
  have := waitingFrom_upd items f is F 0 (Nat.zero_le _) (by omega)
  rw [hit, List.length_cons] at this
  omega

theorem waiting_put (hf : flow id < F) :
    waitingFrom (upd items (flow id) (items (flow id) ++ [id])) 0 F = waitingFrom items 0 F + 1 := by
  have := waitingFrom_upd items (flow id) (items (flow id) ++ [id]) F 0 (Nat.zero_le _) (by omega)
  rw [List.length_append, List.length_singleton] at this
  omega

end StoreInv

/-! ## a queue per flow that grows at the tail (the waiting queues of the oracles) -/

theorem mem_upd_append {β : Type} {w : Nat → List β} {fl f : Nat} {y x : β} (hx : x ∈ upd w fl (w fl ++ [y]) f) :
    x ∈ w f ∨ x = y := by
  by_cases hff : f = fl
  · subst hff
    rw [upd_same] at hx
    exact (List.mem_append.mp hx).imp id List.mem_singleton.mp
  · rw [upd_ne _ _ _ _ hff] at hx
    exact Or.inl hx

theorem map_upd_append {β γ : Type} (g : β → γ) {w : Nat → List β} {items : Nat → List γ} (fl : Nat) (y : β) {f : Nat}
    {held : List γ} (hw : (w f).map g = held ++ items f) :
    (upd w fl (w fl ++ [y]) f).map g = held ++ upd items fl (items fl ++ [g y]) f := by
  by_cases hff : f = fl
  · subst hff
    rw [upd_same, upd_same, List.map_append, hw, List.append_assoc]; rfl
  · rw [upd_ne _ _ _ _ hff, upd_ne _ _ _ _ hff, hw]

theorem take_split {γ : Type} {items : Nat → List γ} {f : Nat} {x : γ} {is : List γ} (hit : items f = x :: is) (f' : Nat) :
    items f' = (if f = f' then [x] else []) ++ upd items f is f' := by
  by_cases hff : f = f'
  · subst hff
    rw [if_pos rfl, upd_same, hit]; rfl
  · rw [if_neg hff, upd_ne _ _ _ _ (Ne.symm hff)]; rfl

theorem mem_upd_tail {β : Type} {w : Nat → List β} {fl f : Nat} {x : β} (hx : x ∈ upd w fl (w fl).tail f) : x ∈ w f := by
  by_cases hff : f = fl
  · subst hff
    rw [upd_same] at hx
    exact List.mem_of_mem_tail hx
  · rwa [upd_ne _ _ _ _ hff] at hx

theorem map_upd_tail {β γ : Type} (g : β → γ) {w : Nat → List β} {items : Nat → List γ} {fl f : Nat} {x : γ}
    (hfl : (w fl).map g = x :: items fl) (hw : f ≠ fl → (w f).map g = items f) :
    (upd w fl (w fl).tail f).map g = items f := by
  by_cases hff : f = fl
  · subst hff
    rw [upd_same, List.map_tail, hfl, List.tail_cons]
  · rw [upd_ne _ _ _ _ hff, hw hff]

structure Img where
  /-- the keys of `stores` and `queue_byte_size` -/
  keys : List Nat
  /-- the keys of `queue_count` -/
  ckeys : List Nat
  items : Nat → List Int
  cnt : Nat → Int
  byt : Nat → Int
  tokens : Nat
  cur : Option Int
  recv : Int

variable (pk : Int → MPkt)

def Img.st (c : Img) (now : ℚ) (k : κ) (ph : Phase ℚ) : MQState ℚ κ :=
  { now := now
    ctl := k
    stores := dictOf c.keys fun f => (c.items f).map pk
    hol := []
    queueCount := dictOf c.ckeys c.cnt
    queueBytes := dictOf c.keys c.byt
    tokens := c.tokens
    phase := ph
    currentPacket := c.cur.map pk
    received := c.recv.toNat }

variable {pk} (sc : Sched ℚ κ) (c : Img) (t : ℚ) (k : κ)

/-! ### the bursts of the loop: `init`, `wake`, `sendDone` start one at a control point, `issueGet` / `blockOnToken` end it -/

theorem step_init : MQ.step sc (c.st pk t k .idle) .init = withOut .nothing (settle sc (sc.fuel []) (c.st pk t k .running)) := rfl

theorem step_wake :
    MQ.step sc (c.st pk t k .tokenHanded) .wake = withOut .nothing (settle sc (sc.fuel []) (c.st pk t k .running)) := rfl

theorem step_sendDone {p : MPkt} {k' : κ} (h : sc.onDone k p = .ok k') :
    MQ.step sc (c.st pk t k (.finished p)) .sendDone = withOut .nothing (settle sc (sc.fuel []) (c.st pk t k' .running)) := by
  simp only [MQ.step, doSendDone, Img.st, h]
  rfl

theorem issueGet_st {f : Nat} {id : Int} {is : List Int} (hn : c.keys.Nodup) (hk : f ∈ c.keys) (hit : c.items f = id :: is)
    (ph : Phase ℚ) :
    issueGet (c.st pk t k ph) f = .ok (({ c with items := upd c.items f is } : Img).st pk t k (.pktHanded f (pk id))) := by
  have hs : storeOf (c.st pk t k ph).stores f = pk id :: is.map pk := by
    rw [Img.st, storeOf_dictOf _ _ _ (fun h => absurd hk h), hit]; rfl
  simp only [issueGet, hs]
  simp only [Img.st, setKey_dictOf _ hn, addKey_of_mem _ _ hk, upd_map]

theorem blockOnToken_st_zero (h : c.tokens = 0) (ph : Phase ℚ) :
    blockOnToken (c.st pk t k ph) = c.st pk t k .waitToken := by
  simp only [blockOnToken, Img.st, h]

theorem blockOnToken_st_succ {n : Nat} (h : c.tokens = n + 1) (ph : Phase ℚ) :
    blockOnToken (c.st pk t k ph) = ({ c with tokens := n } : Img).st pk t k .tokenHanded := by
  simp only [blockOnToken, Img.st, h]

/-! ### the other actions -/

theorem step_tokenHandoff {n : Nat} (h : c.tokens = n + 1) :
    MQ.step sc (c.st pk t k .waitToken) .tokenHandoff = .ok (({ c with tokens := n } : Img).st pk t k .tokenHanded, .nothing) := by
  simp only [MQ.step, Img.st, h]

theorem step_pktResume {f : Nat} {p : MPkt} {k' : κ}
    (h : sc.onPkt k (view (c.st pk t k .running)) f p = .send false k') :
    MQ.step sc (c.st pk t k (.pktHanded f p)) .pktResume = .ok (c.st pk t k' (.spawned p), .nothing) := by
  have h' : sc.onPkt k (view ({ c.st pk t k (.pktHanded f p) with phase := Phase.running } : MQState ℚ κ)) f p = .send false k' := h
  simp only [MQ.step, Img.st, doPktResume] at h' ⊢
  simp only [h', spawn, Bool.false_eq_true, if_false]

theorem step_sendInit (id : Int) :
    MQ.step sc (c.st pk t k (.spawned (pk id))) .sendInit =
      .ok (({ c with cur := some id } : Img).st pk t k (.sending (pk id) (t + txTime sc (pk id))),
        .started (pk id) (t + txTime sc (pk id))) := rfl

variable (flow size : Int → Nat)

theorem step_sendFire (hn : c.keys.Nodup) (hcn : c.ckeys.Nodup) {id : Int} (hpf : (pk id).flow = flow id)
    (hps : (pk id).size = size id) (hk : flow id ∈ c.keys) (hck : flow id ∈ c.ckeys) :
    MQ.step sc (c.st pk t k (.sending (pk id) t)) .sendFire =
      .ok (({ c with cnt := upd c.cnt (flow id) (c.cnt (flow id) + -1)
                     byt := upd c.byt (flow id) (c.byt (flow id) + -(size id : Int)), cur := none } : Img).st pk t k
        (.finished (pk id)), .depart (pk id)) := by
  simp only [MQ.step, Img.st, lt_irrefl, if_false, countOut, hpf, hps, bump_dictOf _ hn _ _ _ (fun h => absurd hk h),
    bump_dictOf _ hcn _ _ _ (fun h => absurd hck h), addKey_of_mem _ _ hk, addKey_of_mem _ _ hck, Option.map_none]

/-- a key that is not there yet stands for empty records -/
theorem step_put (hn : c.keys.Nodup) (hcn : c.ckeys.Nodup) (ph : Phase ℚ) {id : Int} (hpf : (pk id).flow = flow id)
    (hps : (pk id).size = size id) (hcl : sc.classOf (flow id) = some (flow id)) (hon : sc.onPut k (flow id) (pk id) = .ok k)
    (h0i : flow id ∉ c.keys → c.items (flow id) = []) (h0b : flow id ∉ c.keys → c.byt (flow id) = 0)
    (h0c : flow id ∉ c.ckeys → c.cnt (flow id) = 0) (hrecv : 0 ≤ c.recv) (tk : Bool)
    (htk : tk = true ↔ MQ.total (dictOf c.ckeys c.cnt) = 0) :
    MQ.step sc (c.st pk t k ph) (.put (pk id)) =
      .ok (({ c with keys := addKey c.keys (flow id)
                     ckeys := addKey c.ckeys (flow id)
                     items := upd c.items (flow id) (c.items (flow id) ++ [id])
                     cnt := upd c.cnt (flow id) (c.cnt (flow id) + 1)
                     byt := upd c.byt (flow id) (c.byt (flow id) + (size id : Int))
                     tokens := c.tokens + (if tk then 1 else 0)
                     recv := c.recv + 1 } : Img).st pk t k ph, .accepted) := by
  have hst : storeOf (dictOf c.keys fun f => (c.items f).map pk) (flow id) = (c.items (flow id)).map pk :=
    storeOf_dictOf _ _ _ (fun h => by rw [h0i h]; rfl)
  have hrc : (c.recv + 1).toNat = c.recv.toNat + 1 := by omega
  have ht : (MQ.total (dictOf c.ckeys c.cnt) = 0) = (tk = true) := propext htk.symm
  have hup : upd (fun f => (c.items f).map pk) (flow id) ((c.items (flow id)).map pk ++ [pk id]) =
      fun f => (upd c.items (flow id) (c.items (flow id) ++ [id]) f).map pk := by
    rw [← upd_map, List.map_append]; rfl
  cases tk <;>
  simp only [MQ.step, MQ.doPut, Img.st, hpf, hps, hcl, hon, postToken, ht, Bool.false_eq_true, if_false, if_true, countIn, enqueue,
    hst, setKey_dictOf _ hn, bump_dictOf _ hcn _ _ _ h0c, bump_dictOf _ hn _ _ _ h0b, hrc, hup, Nat.add_zero]

theorem step_tick_wait {t' : ℚ} (h : ¬ t' < t) (htk : c.tokens = 0) :
    MQ.step sc (c.st pk t k .waitToken) (.tick t') = .ok (c.st pk t' k .waitToken, .nothing) := by
  simp only [MQ.step, doTick, Img.st, h, htk, if_false, if_true]

theorem step_tick_sending {t' due : ℚ} {p : MPkt} (h : ¬ t' < t) (hd : ¬ due < t') :
    MQ.step sc (c.st pk t k (.sending p due)) (.tick t') = .ok (c.st pk t' k (.sending p due), .nothing) := by
  simp only [MQ.step, doTick, Img.st, h, hd, if_false]

/-! ## one move of the loop

What the loop sees of the state (`view`), the key its control point reads (`touch`), and the three moves of `settle`. -/

variable (ph : Phase ℚ) {f : Nat}

theorem view_count (hf : f ∈ c.ckeys) : (view (c.st pk t k ph)).count f = c.cnt f :=
  cnt_dictOf _ _ f fun h => absurd hf h

theorem view_hasStore (f : Nat) : (view (c.st pk t k ph)).hasStore f = decide (f ∈ c.keys) := by
  simp only [view, Img.st, lookup_dictOf]
  split <;> simp [*]

theorem view_storeLen (h0 : f ∉ c.keys → c.items f = []) : (view (c.st pk t k ph)).storeLen f = (c.items f).length := by
  have := storeOf_dictOf c.keys (fun f => (c.items f).map pk) f fun h => congrArg (List.map pk) (h0 h)
  simp only [view, Img.st, this, List.length_map]

theorem touch_none (h : sc.reads k = none) : touch sc (c.st pk t k ph) = c.st pk t k ph := by
  simp only [touch, Img.st, h]

theorem touch_mem (h : sc.reads k = some f) (hn : c.ckeys.Nodup) (hf : f ∈ c.ckeys) :
    touch sc (c.st pk t k ph) = c.st pk t k ph := by
  simp only [touch, Img.st, h, bump_zero_mem _ hn _ f hf]

theorem touch_new (h : sc.reads k = some f) (hn : c.ckeys.Nodup) (hf : f ∉ c.ckeys) (hz : c.cnt f = 0) :
    touch sc (c.st pk t k ph) = ({ c with ckeys := c.ckeys ++ [f] } : Img).st pk t k ph := by
  simp only [touch, Img.st, h, bump_dictOf _ hn _ f 0 (fun _ => hz), addKey_of_not_mem _ _ hf, upd_self]

variable {sc c t k ph} {c' : Img} {k' : κ} (n : Nat) (ht : touch sc (c.st pk t k ph) = c'.st pk t k ph)
include ht

theorem settle_goto (h : sc.micro k (view (c'.st pk t k ph)) = .goto k') :
    settle sc (n + 1) (c.st pk t k ph) = settle sc n (c'.st pk t k' ph) := by
  have h' : sc.micro (c'.st pk t k ph).ctl (view (c'.st pk t k ph)) = .goto k' := h
  simp only [settle, ht, h']
  rfl

theorem settle_get (h : sc.micro k (view (c'.st pk t k ph)) = .get f k') :
    settle sc (n + 1) (c.st pk t k ph) = issueGet (c'.st pk t k' ph) f := by
  have h' : sc.micro (c'.st pk t k ph).ctl (view (c'.st pk t k ph)) = .get f k' := h
  simp only [settle, ht, h']
  rfl

theorem settle_block (h : sc.micro k (view (c'.st pk t k ph)) = .block k') :
    settle sc (n + 1) (c.st pk t k ph) = .ok (blockOnToken (c'.st pk t k' ph)) := by
  have h' : sc.micro (c'.st pk t k ph).ctl (view (c'.st pk t k ph)) = .block k' := h
  simp only [settle, ht, h']
  rfl

end MQK
