import OnlVerif.Lemmas.GenKernelDefs
import OnlVerif.Lemmas.KAccess
/-!
# Capacities (`ExtInt`) against the model's `Option Nat`, and `doPut` off the preemptive class - shared by the bridge lemmas of
the resource classes (C06) and of the containers / stores (C07); nothing here mentions a source-derived definition
-/

namespace GenKernel
variable {τ σ : Type} [Num τ]

theorem fin_lt_capOf (n : Nat) (cap : Option Nat) : (ExtInt.fin (n : Int) < capOf cap) ↔ hasRoom cap n = true := by
  show ExtInt.lt _ _ = true ↔ _
  cases cap <;> simp [capOf, hasRoom, ExtInt.lt]

theorem capOf_le_fin (n : Nat) (cap : Option Nat) :
    (capOf cap ≤ ExtInt.fin (n : Int)) ↔ cap.any (fun c => decide (c ≤ n)) = true := by
  show ExtInt.le _ _ = true ↔ _
  cases cap <;> simp [capOf, ExtInt.le]

theorem fin_le_sub_capOf (a lv : Int) (cap : Option Nat) :
    (ExtInt.fin a ≤ ExtInt.subInt (capOf cap) lv) ↔
      (match cap with | none => true | some c => decide (a ≤ (c : Int) - lv)) = true := by
  show ExtInt.le _ _ = true ↔ _
  cases cap <;> simp [capOf, ExtInt.le, ExtInt.subInt]

/-- off the preemptive class, `_do_put` is its guard and the effect of the grant -/
theorem doPut_of_ne (s : KState τ σ) (r : ResId) (e : EvId) (hk : ((s.res r).kind == .preemptive) = false) :
    doPut s r e = if canPut s r e = true then (applyPut s r e, true) else (s, false) := by
  unfold doPut prePut
  rw [hk]
  rfl

/-- when running a translated `_do_put` is the model's `doPut`, the bool it returns is the model's guard -/
theorem ret_of_put_run {cx : Cx} {s : KState τ σ} {eff : List (KEff τ)} {ret : Bool} {r : ResId} {e : EvId}
    (hk : ((s.res r).kind == .preemptive) = false) (h : finish cx s eff ret = some (doPut s r e)) :
    ret = canPut s r e := by
  rw [doPut_of_ne s r e hk] at h
  unfold finish at h
  cases hr : runEff cx eff s with
  | none => rw [hr] at h; cases h
  | some s' =>
    rw [hr, Option.map_some, Option.some.injEq] at h
    have := congrArg Prod.snd h
    cases hc : canPut s r e <;> rw [hc] at this <;> exact this

end GenKernel
