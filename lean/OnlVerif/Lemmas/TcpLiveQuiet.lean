import OnlVerif.Lemmas.TcpLiveInv
/-!
# No premature quiescence (C16)

In a state of the closed loop that satisfies `LInv` and in which the kernel has nothing left to do, the sink holds
the whole flow as one range and the sender's acknowledged mark is at its end.
-/

open TcpScalar TcpSender TcpSink TcpLoop

namespace TcpLive

variable {n : Nat} {l : Loop ℚ}

theorem quiescent_timers_nil (h : LInv n l) (hq : l.Quiescent) : l.snd.timers = [] := by
  apply List.eq_nil_iff_forall_not_mem.mpr
  intro kv hkv
  have h1 := (h.s.live kv hkv).1
  have h2 := hq.2.2.1 kv hkv
  rw [h1] at h2
  cases h2

/-- with no timer pending everything issued is acknowledged and at the sink -/
theorem no_timer_all_acked (h : LInv n l) (ht : l.snd.timers = []) :
    l.snd.last_ack = l.snd.next_seq ∧ ∀ b, Covers l.sink b ↔ b < l.snd.next_seq := by
  have hk : ∀ q, q ∉ AL.keys l.snd.timers := by
    intro q hq; rw [ht] at hq; simp [AL.keys] at hq
  constructor
  · have := h.s.la_le
    by_contra hne
    exact hk _ (h.s.tm (by omega))
  · intro b
    refine ⟨h.sinkb b, fun hb => ?_⟩
    rw [h.sinkal b]
    have hle : l.snd.mss * (b / l.snd.mss) ≤ b := Nat.mul_div_le b _
    rcases h.seg _ (Dvd.intro _ rfl) (Nat.lt_of_le_of_lt hle hb) with c | c
    · exact c
    · exact absurd c (hk _)

theorem quiescent_complete (h : LInv n l) (hq : l.Quiescent) : l.Complete n := by
  have ht := quiescent_timers_nil h hq
  obtain ⟨hla, hcov⟩ := no_timer_all_acked h ht
  have hns : l.snd.next_seq = n := by
    cases hp : l.snd.proc with
    | runnable => exact absurd hp hq.2.2.2.1
    | blocked =>
      rcases h.s.blk hp with h1 | h1
      · exact absurd ⟨hp, h1⟩ hq.2.2.2.2
      · omega
    | finished => exact h.s.finished hp
  refine ⟨eq_single_of_covers _ n h.s.npos h.sink h.sinkne (by rw [← hns]; exact hcov), by rw [hla, hns]⟩

/-- `Quiescent` means what it should: no action of the loop other than the passing of time is possible -/
theorem quiescent_no_event (hq : l.Quiescent) (a : LAct ℚ) (hnt : ∀ t, a ≠ .own (.tick t)) : l.step a = none := by
  obtain ⟨q1, q2, q3, q4, q5⟩ := hq
  cases a with
  | own act =>
    cases act with
    | wake fuel =>
      have : l.snd.step (.wake fuel) = .reject .notRunnable := by
        show l.snd.wakeStep fuel = _
        unfold Sender.wakeStep; rw [if_neg q4]
      unfold Loop.step; simp [Loop.isAck, this]
    | handoff =>
      have : l.snd.step .handoff = .reject .noHandoff := by
        show l.snd.handoffStep = _
        unfold Sender.handoffStep; rw [if_neg q5]
      unfold Loop.step; simp [Loop.isAck, this]
    | ack x => unfold Loop.step; simp [Loop.isAck]
    | fire seq =>
      have nd : ∀ tr, AL.get? seq l.snd.timers = some tr →
          ¬ (tr.live = true ∧ tr.wake = l.snd.now ∧ ¬ l.snd.now < tr.expiry) := by
        intro tr ht hd
        have := q3 _ (AL.pair_mem_of_get?_some ht)
        rw [hd.1] at this
        cases this
      have : l.snd.step (.fire seq) = .reject .noTimer ∨ l.snd.step (.fire seq) = .reject .notDue := fireStep_not_due nd
      unfold Loop.step
      rcases this with hw | hw <;> simp [Loop.isAck, hw]
    | tick t => exact absurd rfl (hnt t)
  | deliver => unfold Loop.step; simp [q1]
  | ackArrive => unfold Loop.step; simp [q2]
  | dropData i => unfold Loop.step; simp [q1]
  | dropAck i => unfold Loop.step; simp [q2]

end TcpLive
