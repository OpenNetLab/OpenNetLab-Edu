import OnlVerif.Generated.Sp13
import OnlVerif.Net.Sched.SP
/-!
# Bridge lemmas: `Generated/Sp13.lean` (py2lean's translation of `onl/scheduler/sp.py`) against the record `Net/Sched/SP.lean`

`Gen.pySorted` is Python's `sorted(key=…, reverse=…)` as core's stable `List.mergeSort`; the model's table is built by the insertion sort
`SP.sortDesc`.  `order_eq` proves them equal on every dict (stability included: `List.mergeSort_cons`).
-/

namespace GenSp13
open SP

/-- the comparison `sorted(…, key=lambda item: item[1], reverse=True)` sorts by -/
def leDesc (a b : Nat × Int) : Bool := decide (b.2 ≤ a.2)

theorem leDesc_trans (a b c : Nat × Int) : leDesc a b → leDesc b c → leDesc a c := by
  unfold leDesc
  simp only [decide_eq_true_eq]
  omega

theorem leDesc_total (a b : Nat × Int) : leDesc a b || leDesc b a := by
  unfold leDesc
  simp only [Bool.or_eq_true, decide_eq_true_eq]
  omega

theorem init_order_def (l : List (Nat × Int)) : Gen.SP.init_order l = l.mergeSort leDesc := by
  unfold Gen.SP.init_order Gen.pySorted
  congr 1

/-- `a` goes behind the strictly larger priorities and before everything else -/
theorem insertDesc_append (a : Nat × Int) (l₂ : List (Nat × Int)) (h₂ : ∀ b ∈ l₂, b.2 ≤ a.2) :
    ∀ (l₁ : List (Nat × Int)), (∀ b ∈ l₁, a.2 < b.2) → insertDesc a (l₁ ++ l₂) = l₁ ++ a :: l₂
  | [], _ => by
    cases l₂ with
    | nil => rfl
    | cons b r =>
      have hb : b.2 ≤ a.2 := h₂ b (List.mem_cons_self ..)
      show (if a.2 < b.2 then b :: insertDesc a r else a :: b :: r) = a :: b :: r
      rw [if_neg (by omega)]
  | c :: l₁, h₁ => by
    have hc : a.2 < c.2 := h₁ c (List.mem_cons_self ..)
    show (if a.2 < c.2 then c :: insertDesc a (l₁ ++ l₂) else a :: c :: (l₁ ++ l₂)) = c :: (l₁ ++ a :: l₂)
    rw [if_pos hc, insertDesc_append a l₂ h₂ l₁ (fun b hb => h₁ b (List.mem_cons_of_mem _ hb))]

/-- **Python's stable descending sort is the model's table** -/
theorem order_eq : ∀ (l : List (Nat × Int)), Gen.SP.init_order l = sortDesc l
  | [] => by rw [init_order_def]; simp [sortDesc]
  | a :: l => by
    have ih := order_eq l
    rw [init_order_def] at ih ⊢
    obtain ⟨l₁, l₂, h1, h2, h3⟩ := List.mergeSort_cons leDesc_trans leDesc_total a l
    have hp := List.pairwise_mergeSort leDesc_trans leDesc_total (a :: l)
    rw [h1, List.pairwise_append] at hp
    have hp2 := (List.pairwise_cons.mp hp.2.1).1
    show _ = insertDesc a (sortDesc l)
    rw [← ih, h1, h2]
    refine (insertDesc_append a l₂ (fun b hb => ?_) l₁ (fun b hb => ?_)).symm
    · have := hp2 b hb
      unfold leDesc at this
      simpa using this
    · have := h3 b hb
      unfold leDesc at this
      simp only [Bool.not_eq_true', decide_eq_false_iff_not] at this
      omega

/-- the scan picks the first entry of the table with a positive priority and a non-empty store -/
theorem run_scan_eq (size : Nat → Int) : ∀ (t : List (Nat × Int)),
    Gen.SP.run_scan size t = t.find? (fun e => decide (0 < e.2) && !decide (size e.1 = 0))
  | [] => rfl
  | (f, pr) :: rest => by
    rw [Gen.SP.run_scan, List.find?_cons]
    unfold Gen.SP.run_entry
    by_cases hp : (0 : Int) < pr
    · by_cases hs : size f = 0
      · simp only [hp, hs, if_true, decide_true, Bool.not_true, Bool.and_false]
        exact run_scan_eq size rest
      · simp only [hp, hs, if_true, if_false, decide_true, decide_false, Bool.not_false, Bool.and_true]
    · simp only [hp, if_false, decide_false, Bool.false_and]
      exact run_scan_eq size rest

end GenSp13
