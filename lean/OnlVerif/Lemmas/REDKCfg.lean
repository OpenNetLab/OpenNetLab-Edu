import OnlVerif.Lemmas.REDKFrame
import OnlVerif.Lemmas.KProc
/-!
# Generator → REDPort → sink on the kernel model: its configurations as configurations of cooperating processes

`cfgOf a R` is the configuration `a` with the registers `R` in the terms of `Lemmas/KProcDefs.lean`: the thread of `Port.run` (nothing is said of its
process event: it never returns), the thread of the generator, the pending `StorePut` event, the one store; `KInv s a` says
`GInv s (cfgOf a (Regs.of s))` and what the cells hold (`kinv_iff`).
-/

namespace REDK
open REDOnK
open KProc (Thread Wait GInv TInv Regs)

def portThread : PPhase → Thread St
  | .init q => { pid := 0, st := .portStart, wait := .init q, cbs := none }
  | .W g => { pid := 0, st := .portGet, wait := .getW 0 g, cbs := none }
  | .H _ id q => { pid := 0, st := .portGet, wait := .getH 0 q id, cbs := none }
  | .T _ id q => { pid := 0, st := .portTx id, wait := .sleep q, cbs := none }

/-- `st0` = the local state the generator had when it returned (nothing looks at it) -/
def srcThreads (st0 : St) : SPhase → List (Thread St)
  | .init q gaps sizes us => [{ pid := 2, st := .genStart gaps sizes us, wait := .init q }]
  | .delay q gaps sizes us => [{ pid := 2, st := .genDelay q.time gaps sizes us, wait := .sleep q }]
  | .wait n z gaps sizes us q => [{ pid := 2, st := .genWait q.time n z gaps sizes us, wait := .sleep q }]
  | .ending q => [{ pid := 2, st := st0, wait := .ending q .none }]
  | .done => []

def cfgOf (a : A) (R : Regs) (st0 : St) : KProc.Cfg St :=
  { reg := R, threads := portThread a.port :: srcThreads st0 a.src, pend := a.pend.toList.map (·, 0)
    stores := fun r => if r = 0 then some { getQ := a.port.getQ, items := a.items } else none }

/-- the events a phase names twice are the same event -/
def PPhase.OK : PPhase → Prop
  | .init q => q.ev = 1
  | .W _ => True
  | .H g _ q => q.ev = g
  | .T t _ q => q.ev = t

variable {s : KS} {a : A} {R : Regs} {st0 : St}

theorem entries_cfgOf : (cfgOf a R st0).entries = a.entries := by
  have h1 : (portThread a.port).wait.entries = a.port.entries := by cases a.port <;> rfl
  have h2 : (srcThreads st0 a.src).flatMap (·.wait.entries) = a.src.entries := by cases a.src <;> rfl
  have h3 : (a.pend.toList.map fun x => (x, (0 : ResId))).map (·.1) = a.pend.toList := by cases a.pend <;> rfl
  simp only [KProc.Cfg.entries, cfgOf, List.flatMap_cons, h1, h2, h3, List.flatMap_nil, List.nil_append, A.entries,
    List.append_assoc]

theorem pid_portThread (P : PPhase) : (portThread P).pid = 0 := by cases P <;> rfl

theorem pids_cfgOf : ((cfgOf a R st0).threads.map (·.pid)).Nodup := by
  have h2 : (srcThreads st0 a.src).map (·.pid) = [2] ∨ (srcThreads st0 a.src).map (·.pid) = [] := by
    cases a.src <;> simp [srcThreads]
  simp only [cfgOf, List.map_cons, pid_portThread]
  rcases h2 with h | h <;> rw [h] <;> decide

theorem portEv_iff {P : PPhase} : PortEv s P ↔ P.OK ∧ TInv s (portThread P) := by
  cases P with
  | W g =>
    exact ⟨fun ⟨h1, h2⟩ => ⟨trivial, h1, fun t ht => (by cases ht; exact h2), fun _ h => (nomatch h), fun _ _ h => (nomatch h)⟩, fun ⟨_, h⟩ => ⟨h.ev, h.proc _ rfl⟩⟩
  | init q =>
    exact ⟨fun ⟨h0, h1, h2⟩ => ⟨h0, ⟨h0, h0 ▸ h1⟩, fun t ht => (by cases ht; exact h0 ▸ h2), fun _ h => (nomatch h), fun _ _ h => (nomatch h)⟩,
      fun ⟨h0, h⟩ => ⟨h0, h0 ▸ h.ev.2, h0 ▸ h.proc _ rfl⟩⟩
  | _ =>
    exact ⟨fun ⟨h0, h1, h2⟩ => ⟨h0, h0 ▸ h1, fun t ht => (by cases ht; exact h0 ▸ h2), fun _ h => (nomatch h), fun _ _ h => (nomatch h)⟩,
      fun ⟨h0, h⟩ => ⟨h0, h0 ▸ h.ev, h0 ▸ h.proc _ rfl⟩⟩

theorem srcEv_iff {S : SPhase} : SrcEv s S ↔ ∀ th ∈ srcThreads st0 S, TInv s th := by
  cases S with
  | done => exact ⟨fun _ _ h => (nomatch h), fun _ => trivial⟩
  | init q gaps sizes us =>
    simp only [srcThreads, List.mem_singleton, forall_eq]
    exact ⟨fun ⟨h0, h1, h2, h3⟩ => .of rfl ⟨h0, h0 ▸ h1⟩ (fun t ht => (by cases ht; exact h0 ▸ h2)) h3,
      fun h => have h0 : q.ev = 3 := h.ev.1
        ⟨h0, h0 ▸ h.ev.2, h0 ▸ h.proc _ rfl, h.own _ rfl⟩⟩
  | ending q =>
    simp only [srcThreads, List.mem_singleton, forall_eq]
    exact ⟨fun ⟨h0, h1⟩ => .of rfl h0 (fun t ht => (by cases ht)) h1, fun h => ⟨h.ev, h.own _ rfl⟩⟩
  | delay q gaps sizes us =>
    simp only [srcThreads, List.mem_singleton, forall_eq]
    exact ⟨fun ⟨h1, h2, h3⟩ => .of rfl h1 (fun t ht => (by cases ht; exact h2)) h3, fun h => ⟨h.ev, h.proc _ rfl, h.own _ rfl⟩⟩
  | wait n z gaps sizes us q =>
    simp only [srcThreads, List.mem_singleton, forall_eq]
    exact ⟨fun ⟨h1, h2, h3⟩ => .of rfl h1 (fun t ht => (by cases ht; exact h2)) h3, fun h => ⟨h.ev, h.proc _ rfl, h.own _ rfl⟩⟩

/-- live events are told apart by their callback lists -/
theorem ids_nodup (hk : KInv s a) : (cfgOf a R st0).ids.Nodup := by
  refine .of_map (fun e => (s.ev e).cbs) (List.Sublist.nodup (l₂ := [some [.resume 0], some [.trigPut 0, .resume 0], some [],
    some [.resume 2], some [.trigGet 0]]) ?_ (by decide))
  have h1 : ((portThread a.port).ids.map (fun e => (s.ev e).cbs)).Sublist [some [.resume 0], some [.trigPut 0, .resume 0]] := by
    have hp := hk.port
    revert hp
    cases a.port <;> intro hp
    · simp [portThread, Thread.ids, Wait.ids, hp.1, hp.2.1.2.1]
    · simp [portThread, Thread.ids, Wait.ids, hp.1.2.1]
    · simp [portThread, Thread.ids, Wait.ids, hp.1, hp.2.1.2.1]
    · simp [portThread, Thread.ids, Wait.ids, hp.1, hp.2.1.2.1]
  have h2 : (((srcThreads st0 a.src).flatMap Thread.ids).map (fun e => (s.ev e).cbs)).Sublist [some [], some [.resume 2]] := by
    have hs := hk.src
    revert hs
    cases a.src <;> intro hs
    · simp [srcThreads, Thread.ids, Wait.ids, hs.1, hs.2.1.2.1, hs.2.2.2.2.1]
    · simp [srcThreads, Thread.ids, Wait.ids, hs.1.2.1, hs.2.2.2.1]
    · simp [srcThreads, Thread.ids, Wait.ids, hs.1.2.1, hs.2.2.2.1]
    · simp [srcThreads, Thread.ids, Wait.ids, hs.2.2.1]
    · simp [srcThreads]
  have h3 : (((a.pend.toList.map fun x => (x, (0 : ResId))).map (·.1.ev)).map (fun e => (s.ev e).cbs)).Sublist [some [.trigGet 0]] := by
    have hu := hk.pend
    revert hu
    cases a.pend <;> intro hu
    · simp
    · simp [(hu _ rfl).2.1]
  simp only [KProc.Cfg.ids, cfgOf, List.flatMap_cons, List.flatMap_nil, List.nil_append, List.map_append]
  exact (h1.append h2).append h3

/-- **`KInv` in the terms of `KProc`** -/
theorem kinv_iff : KInv s a ↔ a.port.OK ∧ GInv s (cfgOf a (Regs.of s) st0) ∧ Cells (Regs.of s).cells 0 (cellsOf a) := by
  constructor
  · intro hk
    obtain ⟨hr, hport⟩ := portEv_iff.mp hk.port
    have hsrc := (srcEv_iff (st0 := st0)).mp hk.src
    have hth : ∀ th ∈ (cfgOf a (Regs.of s) st0).threads, TInv s th := by
      intro th hth
      rcases List.mem_cons.mp hth with rfl | hth
      · exact hport
      · exact hsrc th hth
    refine ⟨hr, ⟨rfl, hk.wf, entries_cfgOf ▸ hk.ag, ids_nodup hk, pids_cfgOf, ?_, hth, nofun, ?_, ?_, nofun⟩,
      hk.c0, hk.c1, hk.c2, hk.c3, hk.c4, hk.c5, hk.c6, hk.c7, hk.c8, trivial⟩
    · intro th h
      rcases List.mem_cons.mp h with rfl | h
      · rw [pid_portThread]
        have ⟨e, he⟩ : ∃ e, e ∈ (portThread a.port).ids := by cases a.port <;> exact ⟨_, List.mem_singleton_self _⟩
        exact Nat.lt_of_le_of_lt (Nat.zero_le e) (hport.lt e he)
      · have : th.cbs = some [] := by
          revert h
          cases a.src <;> intro h <;> simp only [srcThreads, List.mem_singleton, List.not_mem_nil] at h <;> subst h <;> rfl
        exact (hsrc th h).pid_lt this
    · intro u hu
      obtain ⟨u', hu', rfl⟩ := List.mem_map.mp hu
      exact hk.pend u' (Option.mem_toList.mp hu')
    · exact KProc.stores_one ⟨hk.rsz, hk.res⟩
  · rintro ⟨hr, hg, h0, h1, h2, h3, h4, h5, h6, h7, h8, -⟩
    obtain ⟨hrs, hres⟩ := hg.stores 0 { getQ := a.port.getQ, items := a.items } rfl
    exact ⟨hg.wf, entries_cfgOf ▸ hg.ag, hrs, hres, portEv_iff.mpr ⟨hr, hg.th _ List.mem_cons_self⟩,
      srcEv_iff.mpr fun th hth => hg.th th (List.mem_cons_of_mem _ hth),
      fun u hu => hg.pend (u, 0) (List.mem_map.mpr ⟨u, Option.mem_toList.mpr hu, rfl⟩), h0, h1, h2, h3, h4, h5, h6, h7, h8⟩

/-- a state that is the configuration the machine has computed for `a'` (with registers `R'`) has the configuration `a'` -/
theorem KInv.of_ginv {s' : KS} {R' : Regs} {a' : A} (hg : GInv s' (cfgOf a' R' st0)) (hr : a'.port.OK)
    (hc : Cells R'.cells 0 (cellsOf a')) : KInv s' a' := by
  obtain rfl : R' = Regs.of s' := hg.reg
  exact kinv_iff.mpr ⟨hr, hg, hc⟩

end REDK
