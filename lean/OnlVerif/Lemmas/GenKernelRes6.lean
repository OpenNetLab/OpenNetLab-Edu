import OnlVerif.Lemmas.GenKernelCap
import OnlVerif.Generated.KernelRes6
/-!
# Bridge lemmas (C06): generated `Resource` / `PriorityRequest` / `PreemptiveResource` methods (`Generated/KernelRes6.lean`) on the
resource functions of model `K` (`Kernel/Ops.lean`)

For every scalar type (no arithmetic identity is needed): the guards are compared as decision procedures, the effects
through `GenKernel.runEff`.  The first section says how each translated method is run on a model state (external quantities
such as `len(self._users)` are read from the state); then the key order, the eviction step and `Resource._do_put` in any
state, from which `Props/KernelGen06.lean` proves the bridge theorems.
-/

namespace GenKernel
variable {τ σ : Type} [Num τ]

/-! ## running the translated methods on a model state -/

/-- `request.key` -/
def keyOf (rq : ReqData τ) : Int × τ × Bool := Gen.PriorityRequest.key rq.prio rq.time rq.preempt

/-- `Resource._do_put(event)` -/
def runResourcePut (cx : Cx) (s : KState τ σ) : Option (KState τ σ × Bool) :=
  let g := Gen.Resource.do_put (resObj (s.res cx.r)) (s.res cx.r).users.length
  finish cx s g.eff g.ret

/-- `Resource._do_get(event)` -/
def runResourceGet (cx : Cx) (s : KState τ σ) : Option (KState τ σ × Bool) :=
  let g := Gen.Resource.do_get (resObj (s.res cx.r))
  finish cx s g.eff g.ret

/-- the statement of `PreemptiveResource._do_put` before `return super()._do_put(event)` -/
def runPreemptStep (cx : Cx) (s : KState τ σ) : Option (KState τ σ) :=
  runEff cx (Gen.PreemptiveResource.pre_put (resObj (s.res cx.r)) (s.res cx.r).users.length (reqOf s cx.e).preempt
    (keyOf (reqOf s cx.e)) (keyOf (reqOf s cx.w))).eff s

/-- `PreemptiveResource._do_put(event)`: the eviction step, then `Resource._do_put` -/
def runPreemptivePut (cx : Cx) (s : KState τ σ) : Option (KState τ σ × Bool) :=
  (runPreemptStep cx s).bind (runResourcePut cx)

/-! ## `PriorityRequest.key`, `PreemptiveResource._do_put` -/

theorem keyLt_eq (a b : ReqData τ) : keyLt a b = Py.keyLt (keyOf a) (keyOf b) := by
  unfold keyLt Py.keyLt keyOf Gen.PriorityRequest.key
  cases a.preempt <;> cases b.preempt <;> simp [Bool.beq_eq_decide_eq]

theorem worstUser_none (s : KState τ σ) : ∀ l : List EvId, worstUser s l = none → l = []
  | [], _ => rfl
  | u :: us, h => by
    unfold worstUser at h
    split at h
    · cases h
    · split at h <;> cases h

omit [Num τ] in
theorem setUsers_kind (s : KState τ σ) (r : ResId) (l : List EvId) (r' : ResId) :
    ((s.setUsers r l).res r').kind = (s.res r').kind ∧ ((s.setUsers r l).res r').capacity = (s.res r').capacity := by
  unfold KState.setUsers
  rw [KState.res_setRes]
  split
  · rename_i h; rw [h.1]; exact ⟨rfl, rfl⟩
  · exact ⟨rfl, rfl⟩

theorem preemptStep_kind (s : KState τ σ) (r : ResId) (e : EvId) :
    ((preemptStep s r e).res r).kind = (s.res r).kind ∧ ((preemptStep s r e).res r).capacity = (s.res r).capacity := by
  unfold preemptStep
  dsimp only
  split
  · split
    · exact ⟨rfl, rfl⟩
    · split
      · split
        · rw [res_mkInterrupt]; exact setUsers_kind s r _ r
        · exact setUsers_kind s r _ r
      · exact ⟨rfl, rfl⟩
  · exact ⟨rfl, rfl⟩

/-- the eviction step; `w` is the victim whenever there is a user, and the capacity is not 0 (`Resource.__init__` refuses it) -/
theorem preemptive_pre_put (s : KState τ σ) (r : ResId) (e w : EvId)
    (hw : ∀ w', worstUser s (s.res r).users = some w' → w' = w) (hcap : (s.res r).capacity ≠ some 0) :
    runEff { r := r, e := e, w := w }
      (Gen.PreemptiveResource.pre_put (resObj (s.res r)) (s.res r).users.length (reqOf s e).preempt
        (keyOf (reqOf s e)) (keyOf (reqOf s w))).eff s = some (preemptStep s r e) := by
  unfold preemptStep Gen.PreemptiveResource.pre_put
  dsimp only
  by_cases hg : ((s.res r).capacity.any (fun c => decide (c ≤ (s.res r).users.length)) && (reqOf s e).preempt) = true
  · rw [if_pos hg]
    have hg' : (resObj (τ := τ) (s.res r)).capacity ≤ ExtInt.fin ((s.res r).users.length : Int) ∧ (reqOf s e).preempt = true := by
      rw [Bool.and_eq_true] at hg
      exact ⟨(capOf_le_fin _ _).2 hg.1, hg.2⟩
    rw [if_pos hg']
    cases hwu : worstUser s (s.res r).users with
    | none =>
      -- no user: the capacity would have to be 0
      exfalso
      have hl := worstUser_none s _ hwu
      rw [Bool.and_eq_true] at hg
      rw [hl] at hg
      cases hc : (s.res r).capacity with
      | none => rw [hc] at hg; simp at hg
      | some c =>
        rw [hc] at hg hcap
        simp at hg
        exact hcap (by rw [hg.1])
    | some w' =>
      have := hw w' hwu
      subst this
      dsimp only
      rw [← keyLt_eq]
      by_cases hk : keyLt (reqOf s e) (reqOf s w') = true
      · rw [if_pos hk, if_pos hk]
        simp only [resObj, runEff, applyEff, List.nil_append, List.cons_append, Option.bind_some, reqOf, KState.ev_setRes, KState.setUsers]
        cases (reqOf s w').proc <;> rfl
      · rw [if_neg hk, if_neg hk]
        rfl
  · rw [if_neg hg]
    have hg' : ¬ ((resObj (τ := τ) (s.res r)).capacity ≤ ExtInt.fin ((s.res r).users.length : Int) ∧ (reqOf s e).preempt = true) := by
      intro h
      apply hg
      rw [Bool.and_eq_true]
      exact ⟨(capOf_le_fin _ _).1 h.1, h.2⟩
    rw [if_neg hg']
    rfl

/-- `Resource._do_put` in any state of a resource of the three classes -/
theorem resource_do_put_at (s : KState τ σ) (r : ResId) (e w : EvId)
    (hk : (s.res r).kind = .resource ∨ (s.res r).kind = .priority ∨ (s.res r).kind = .preemptive) :
    runEff { r := r, e := e, w := w } (Gen.Resource.do_put (resObj (s.res r)) (s.res r).users.length).eff s =
      some (if canPut s r e = true then applyPut s r e else s) ∧
    (Gen.Resource.do_put (resObj (τ := τ) (s.res r)) (s.res r).users.length).ret = canPut s r e := by
  have hc : canPut s r e = hasRoom (s.res r).capacity (s.res r).users.length := by
    unfold canPut; rcases hk with h | h | h <;> simp [h]
  rw [hc]
  unfold Gen.Resource.do_put
  simp only [resObj, fin_lt_capOf]
  cases hasRoom (s.res r).capacity (s.res r).users.length
  · exact ⟨rfl, rfl⟩
  · refine ⟨?_, rfl⟩
    unfold applyPut
    rcases hk with hk | hk | hk <;> (dsimp only; rw [hk]; rfl)

end GenKernel
