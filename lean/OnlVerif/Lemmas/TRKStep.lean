import OnlVerif.Lemmas.TRKCfg
/-!
# The two-rate token bucket on the kernel model: the kernel steps

Each kernel step is computed on the configuration `cfgOf a s st0` by the machine of `Lemmas/KProcDefs.lean` (`hrun_*`: what the
pieces of the two generators do to cells and trace, what `run` decides being read off `verdictA`; `run_*`, `kstep_*`: the
whole step to its end), and `StepsTo.of_ginv` reads the configuration `a'` of the state after the step off the result.
-/

namespace TRK
open TwoRateOnK
open TimerK (dec_enc)
open KProc

variable {size : Int → Nat} {cfg : TrCfg ℚ}
variable {s : KS} {a : A} {q : QEntry ℚ} {rest : List (QEntry ℚ)} {st0 : St}

/-- the committed level after the refill at `now` -/
abbrev cmA (cfg : TrCfg ℚ) (a : A) (now : ℚ) : ℚ := TwoRate.refillLevel cfg.cbs a.commit cfg.cir a.upd now

theorem tokenWait_nonneg {k : ℚ} (hk : 0 < k) (lv : ℚ) (id : Int) (h : lv < (size id : ℚ)) :
    0 ≤ TwoRate.tokenWait lv k (pktOf size id) := by
  unfold TwoRate.tokenWait pktOf
  simp only [Num.ofNat_rat]
  exact div_nonneg (mul_nonneg (sub_nonneg.mpr h.le) (by norm_num)) (le_of_lt hk)

/-- what `run` decides with PIR (and PBS, and a number in the peak bucket) -/
theorem verdictA_pir {k b pl : ℚ} (hk : TwoRate.pirOn cfg = some k) (hb : TwoRate.pbsOn cfg = some b) (hpl : a.peak = some pl)
    (now : ℚ) (id : Int) :
    verdictA size cfg a now id =
      if TwoRate.refillLevel b pl k a.upd now < (size id : ℚ) then
        .ok (.wait (TwoRate.tokenWait (TwoRate.refillLevel b pl k a.upd now) k (pktOf size id)) (cmA cfg a now)
          (some (TwoRate.refillLevel b pl k a.upd now)))
      else if cmA cfg a now < (size id : ℚ) then
        .ok (.emit TwoRate.yellow 0 (some (TwoRate.refillLevel b pl k a.upd now - (size id : ℚ))))
      else .ok (.emit TwoRate.green (cmA cfg a now - (size id : ℚ)) (some (TwoRate.refillLevel b pl k a.upd now - (size id : ℚ)))) := by
  simp only [verdictA, verdict, hk, hb, hpl, Num.ofNat_rat]
  rfl

/-- what `run` decides without PIR -/
theorem verdictA_cir (hk : TwoRate.pirOn cfg = none) (now : ℚ) (id : Int) :
    verdictA size cfg a now id =
      if cmA cfg a now < (size id : ℚ) then
        .ok (.wait (TwoRate.tokenWait (cmA cfg a now) cfg.cir (pktOf size id)) (cmA cfg a now) a.peak)
      else .ok (.emit TwoRate.green (cmA cfg a now - (size id : ℚ)) a.peak) := by
  simp only [verdictA, verdict, hk, Num.ofNat_rat]
  rfl

/-- with a good configuration and a number in the peak bucket whenever there is a PIR, `run` does decide -/
theorem verdict_ok (hgood : TwoRate.Good cfg) (hpk : ∀ k, TwoRate.pirOn cfg = some k → ∃ pl, a.peak = some pl) (now : ℚ)
    (id : Int) : ∃ d, verdictA size cfg a now id = .ok d := by
  cases hk : TwoRate.pirOn cfg with
  | some k =>
    obtain ⟨-, b, hb, -⟩ := hgood.pir k hk
    obtain ⟨pl, hpl⟩ := hpk k hk
    rw [verdictA_pir hk hb hpl]
    split
    · exact ⟨_, rfl⟩
    · split <;> exact ⟨_, rfl⟩
  | none =>
    rw [verdictA_cir hk]
    split <;> exact ⟨_, rfl⟩

/-- the kernel step from `s` succeeds at the instant of `q` in a state with configuration `a'`, having observed `new` -/
def StepsTo (size : Int → Nat) (cfg : TrCfg ℚ) (fuel : Nat) (s : KS) (q : QEntry ℚ) (a' : A) (new : List (HEv ℚ)) : Prop :=
  ∃ s', step (body size cfg) (fuel + 1) s = .ok s' ∧ KInv s' a' ∧ s'.now = q.time ∧ histOf s'.trace = histOf s.trace ++ new

/-- a state that is the configuration `c'` the machine has computed has the configuration `a'` that `c'` displays -/
theorem KInv.of_ginv {s' : KS} {c' : Cfg St} {a' : A} (hg : GInv s' c')
    (ht : c'.threads = runThread a'.run :: srcThreads st0 a'.src) (hp : c'.pend = a'.pend.map (·, 0))
    (hs : ∀ r, c'.stores r = if r = 0 then some { getQ := a'.run.getQ, items := a'.items } else none)
    (hl : c'.loose = []) (hcur : c'.cur = none) (hr : a'.run.OK)
    (hc : Cells c'.reg.cells a'.cts a'.sent a'.commit a'.peak a'.upd) : KInv s' a' := by
  have hreg := hg.reg
  have hc' : c' = cfgOf a' s' st0 := hg.cfg_eq ht hp hs hl hcur
  exact kinv_iff.mpr ⟨hr, hc' ▸ hg, by rw [hreg] at hc; exact hc⟩

theorem StepsTo.of_ginv {fuel : Nat} {c' : Cfg St} {a' : A} {new : List (HEv ℚ)}
    (h : ∃ s', step (body size cfg) (fuel + 1) s = .ok s' ∧ GInv s' c')
    (ht : c'.threads = runThread a'.run :: srcThreads st0 a'.src) (hp : c'.pend = a'.pend.map (·, 0))
    (hs : ∀ r, c'.stores r = if r = 0 then some { getQ := a'.run.getQ, items := a'.items } else none)
    (hl : c'.loose = []) (hcur : c'.cur = none) (hr : a'.run.OK)
    (hc : Cells c'.reg.cells a'.cts a'.sent a'.commit a'.peak a'.upd) (hnow : c'.reg.now = q.time)
    (hh : histOf c'.reg.trace = histOf s.trace ++ new) : StepsTo size cfg fuel s q a' new := by
  obtain ⟨s', hstep, hg⟩ := h
  refine ⟨s', hstep, .of_ginv hg ht hp hs hl hcur hr hc, ?_, ?_⟩
  · rw [hg.reg] at hnow; exact hnow
  · rw [hg.reg] at hh; exact hh

/-- where the source goes after a `put` (or at its start): it sleeps until the next arrival (timeout event `ev`, entry number
`eid`) or its generator returns (process event 2) -/
def srcNext (now : ℚ) (eid : Nat) (ev : EvId) (next : Nat) : List ℚ → SPhase
  | [] => .ending ⟨now, NORMAL, eid, 2⟩
  | gap :: r => .wait next r ⟨now + gap, NORMAL, eid, ev⟩

theorem pid_runThread (r : RPhase) : (runThread r).pid = 0 := by cases r <;> rfl

theorem modTh_srcThreads (sp : SPhase) (f : Thread St → Thread St) : modTh (srcThreads st0 sp) 0 f = srcThreads st0 sp := by
  cases sp <;> rfl

theorem hist_resumed (tr : Array (Obs ℚ)) (p : EvId) (r : Resume) (t : ℚ) : histOf (tr.push (.resumed p r t)) = histOf tr ++ [] :=
  histOf_push ..

/-- the `Initialize` event of the source: it sleeps until the first arrival, or returns at once -/
theorem kstep_srcInit (fuel : Nat) (hk : KInv s a) {arr : List ℚ} (hph : a.src = .init q arr) (hgap : GapsOK arr)
    (hp : popMin s.agenda = some (q, rest)) :
    StepsTo size cfg fuel s q { a with src := srcNext q.time s.eid s.events.size 0 arr } [] := by
  obtain ⟨hr, hg, hc⟩ := (kinv_iff (st0 := .bStart 0)).mp hk
  obtain ⟨run, src, pend, items, cts, commit, peak, upd, sent⟩ := a
  subst hph
  cases arr with
  | nil =>
    exact .of_ginv (st0 := .src q.time false 0 []) (hg.step_resume (body size cfg) fuel
        (List.mem_cons_of_mem _ (List.mem_singleton_self _)) rfl (fun _ _ _ hh => nomatch hh) hp
        (by heval [body, srcLoop, cfgOf, pid_runThread, srcThreads]; rfl))
      rfl rfl (fun _ => rfl) rfl rfl hr hc rfl (by simp [histOf_push, Regs.of])
  | cons gap r =>
    exact .of_ginv (st0 := .bStart 0) (hg.step_resume (body size cfg) fuel
        (List.mem_cons_of_mem _ (List.mem_singleton_self _)) rfl (fun _ _ _ hh => nomatch hh) hp
        (by heval [body, srcLoop, cfgOf, pid_runThread, srcThreads, hgap gap List.mem_cons_self]; rfl))
      rfl rfl (fun _ => rfl) rfl rfl hr hc rfl (by simp [histOf_push, Regs.of])

/-- `TwoRateTokenBucket.put(packet)` (the packet is counted, the instant noted (ghost), the packet stored), then the source
sleeps until the next arrival or returns -/
theorem kstep_srcPut (fuel : Nat) (hk : KInv s a) {next : Nat} {arr : List ℚ} (hph : a.src = .wait next arr q)
    (hnext : next = a.cts.length) (hgap : GapsOK arr) (hp : popMin s.agenda = some (q, rest)) :
    StepsTo size cfg fuel s q { a with
        src := srcNext q.time (s.eid + 1) (s.events.size + 1) (next + 1) arr
        pend := a.pend ++ [⟨q.time, NORMAL, s.eid, s.events.size⟩]
        items := a.items ++ [(next : Int)]
        cts := a.cts ++ [q.time] } [.put next q.time] := by
  obtain ⟨hr, hg, hc⟩ := (kinv_iff (st0 := .bStart 0)).mp hk
  obtain ⟨run, src, pend, items, cts, commit, peak, upd, sent⟩ := a
  subst hph
  obtain rfl : next = cts.length := hnext
  have h0 : (Regs.of s).cells cRecv = .int cts.length := hc.c0
  cases arr with
  | nil =>
    exact .of_ginv (st0 := .src q.time true cts.length []) (hg.step_resume (body size cfg) fuel
        (List.mem_cons_of_mem _ (List.mem_singleton_self _)) rfl (fun _ _ _ hh => nomatch hh) hp
        (by heval [body, trPut, loadInt, srcLoop, cfgOf, pid_runThread, srcThreads, h0, storeId]; rfl))
      rfl (by simp [Regs.of]) (fun _ => stores_upd ..) rfl rfl hr (hc.stamp q.time) rfl
      (by simp [histOf_push, Regs.of])
  | cons gap r =>
    exact .of_ginv (st0 := .bStart 0) (hg.step_resume (body size cfg) fuel
        (List.mem_cons_of_mem _ (List.mem_singleton_self _)) rfl (fun _ _ _ hh => nomatch hh) hp
        (by heval [body, trPut, loadInt, srcLoop, cfgOf, pid_runThread, srcThreads, h0, storeId, hgap gap List.mem_cons_self]
            rfl))
      rfl (by simp [Regs.of]) (fun _ => stores_upd ..) rfl rfl hr (hc.stamp q.time) rfl
      (by simp [histOf_push, Regs.of])

/-- the process event of the finished source: nobody waits for it -/
theorem kstep_srcEnd (fuel : Nat) (hk : KInv s a) (hph : a.src = .ending q) (hp : popMin s.agenda = some (q, rest)) :
    StepsTo size cfg fuel s q { a with src := .done } [] := by
  obtain ⟨hr, hg, hc⟩ := (kinv_iff (st0 := .bStart 0)).mp hk
  obtain ⟨run, src, pend, items, cts, commit, peak, upd, sent⟩ := a
  subst hph
  exact .of_ginv (st0 := .bStart 0) (hg.step_finish (body size cfg) fuel
      (List.mem_cons_of_mem _ (List.mem_singleton_self _)) rfl hp
      (by heval [cfgOf, pid_runThread, srcThreads]; rfl))
    rfl rfl (fun _ => rfl) rfl rfl hr hc rfl (by simp [Regs.of])

/-- a `StorePut` event is processed (`_trigger_get`) and nobody can be served: nothing happens -/
theorem kstep_pendNoop (fuel : Nat) (hk : KInv s a) {l1 l2 : List (QEntry ℚ)} (hpe : a.pend = l1 ++ q :: l2)
    (hno : ¬ ((∃ g t0, a.run = .W g t0) ∧ a.items ≠ [])) (hp : popMin s.agenda = some (q, rest)) :
    StepsTo size cfg fuel s q { a with pend := l1 ++ l2 } [] := by
  obtain ⟨hr, hg, hc⟩ := (kinv_iff (st0 := .bStart 0)).mp hk
  obtain ⟨run, src, pend, items, cts, commit, peak, upd, sent⟩ := a
  have he : hpend (cfgOf ⟨run, src, pend, items, cts, commit, peak, upd, sent⟩ s (.bStart 0)) (q, 0)
      ((l1 ++ l2).map fun x => (x, 0)) =
      some { cfgOf ⟨run, src, pend, items, cts, commit, peak, upd, sent⟩ s (.bStart 0) with
        reg := { Regs.of s with now := q.time }, pend := (l1 ++ l2).map fun x => (x, 0) } := by
    rcases run.getQ_cases with hq | ⟨g, t0, rfl⟩
    · heval [cfgOf, hq]
    · obtain rfl : items = [] := by
        by_contra hc
        exact hno ⟨⟨g, t0, rfl⟩, hc⟩
      heval [cfgOf, runThread, RPhase.getQ, beq_self_eq_true]
  exact .of_ginv (st0 := .bStart 0) (hg.step_pend (body size cfg) (fuel + 1) (u := (q, 0)) (pend_perm hpe) hp he)
    rfl rfl (fun _ => rfl) rfl rfl hr hc rfl (by simp [Regs.of])

/-- a `StorePut` event is processed while `run` is blocked in `store.get()`: the head item is handed over, the `StoreGet`
event of `run` is triggered -/
theorem kstep_pendHand (fuel : Nat) (hk : KInv s a) {g : EvId} {t0 : ℚ} {i : Int} {is : List Int} {l1 l2 : List (QEntry ℚ)}
    (hpe : a.pend = l1 ++ q :: l2) (hph : a.run = .W g t0) (hit : a.items = i :: is) (hp : popMin s.agenda = some (q, rest)) :
    StepsTo size cfg fuel s q { a with pend := l1 ++ l2, run := .H g i ⟨q.time, NORMAL, s.eid, g⟩ t0, items := is } [] := by
  obtain ⟨hr, hg, hc⟩ := (kinv_iff (st0 := .bStart 0)).mp hk
  obtain ⟨run, src, pend, items, cts, commit, peak, upd, sent⟩ := a
  subst hph hit
  exact .of_ginv (st0 := .bStart 0) (hg.step_pend (body size cfg) (fuel + 1) (u := (q, 0)) (pend_perm hpe) hp
      (by heval [cfgOf, runThread, RPhase.getQ, beq_self_eq_true, pid_runThread]; rfl))
    (by heval [runThread, modTh_srcThreads]; rfl) rfl (fun _ => stores_upd ..) rfl rfl rfl hc rfl (by simp [Regs.of])

/-! ## the steps of `run` -/

/-- `run` calls `store.get()` at `now` (new event `n`, next entry number `e`): it is blocked on the empty store, or served at
once with the head of the store -/
def A.get (a : A) (n e : Nat) (now : ℚ) : A :=
  match a.items with
  | [] => { a with run := .W n now }
  | i :: is => { a with run := .H n i ⟨now, NORMAL, e, n⟩ now, items := is }

/-- the burst of `run` resumed by the entry `q` -/
theorem hresume_run {arg : Resume} (hw : (runThread a.run).wait.resumes = some (q, arg)) :
    hresume (body size cfg) (cfgOf a s st0) (runThread a.run) =
      hend ((hbegin (cfgOf a s st0) 0 q arg).wr (Regs.of s).cells (s.trace.push (.resumed 0 arg q.time))) 0
        (body size cfg (runThread a.run).st arg) := by
  rw [hresume_eq _ _ _ hw, pid_runThread]
  rfl

variable {f : Nat → Val} {tr : Array (Obs ℚ)}

/-- `self.out.put(packet); self.packets_sent += 1` -/
theorem hrun_out (c : Cfg St) {n : Int} (h1 : f cSent = .int n) (now : ℚ) (id : Int) (col : Nat) :
    hrun 0 (trOut now id col) (c.wr f tr) =
      hrun 0 (trLoop now) (c.wr (upd f cSent (.int (n + 1))) (tr.push (.log 0 "out" (outVal id col) c.reg.now))) := by
  heval [trOut, outVal, loadInt, h1]

theorem cbs_runThread (r : RPhase) : (runThread r).cbs = some [] := by cases r <;> rfl

theorem store_runThread {r : ResId} {q' : QEntry ℚ} {v : Int} (h : (runThread a.run).wait = .getH r q' v) :
    ((cfgOf a s st0).stores r).isSome = true := by
  revert h
  cases a.run <;> intro h <;> cases h
  rfl

variable {arg : Resume}

/-- a burst of `run` (in phase `ph`) that has left `sn`, `cm`, `pk`, `up` in the cells and observed `new` ends in
`store.get()` -/
theorem run_gets (fuel : Nat) (hk : KInv s a) {ph : RPhase} (hph : a.run = ph)
    (hw : (runThread ph).wait.resumes = some (q, arg)) (hgq : ph.getQ = []) (hp : popMin s.agenda = some (q, rest))
    {sn : Int} {cm up : ℚ} {pk : Option ℚ} {new : List (HEv ℚ)}
    (hb : hrun 0 (body size cfg (runThread ph).st arg)
        ((hbegin (cfgOf a s (.bStart 0)) 0 q arg).wr (Regs.of s).cells (s.trace.push (.resumed 0 arg q.time))) =
      hrun 0 (trLoop q.time) ((hbegin (cfgOf a s (.bStart 0)) 0 q arg).wr f tr))
    (hc : Cells f a.cts sn cm pk up) (htr : histOf tr = histOf s.trace ++ new) :
    StepsTo size cfg fuel s q
      (({ a with commit := cm, peak := pk, upd := up, sent := sn } : A).get s.events.size s.eid q.time) new := by
  obtain ⟨hr, hg, -⟩ := (kinv_iff (st0 := .bStart 0)).mp hk
  obtain ⟨run, src, pend, items, cts, commit, peak, upd, sent⟩ := a
  subst hph
  cases items with
  | nil =>
    exact .of_ginv (st0 := .bStart 0) (hg.step_resume (body size cfg) fuel List.mem_cons_self hw
        (fun _ _ _ => store_runThread) hp
        (by rw [hresume_run hw, hend_congr hb]; heval [trLoop, cfgOf, storeId, hgq, pid_runThread, cbs_runThread, modTh_srcThreads]; rfl))
      rfl rfl (fun _ => stores_upd ..) rfl rfl trivial hc rfl htr
  | cons i is =>
    exact .of_ginv (st0 := .bStart 0) (hg.step_resume (body size cfg) fuel List.mem_cons_self hw
        (fun _ _ _ => store_runThread) hp
        (by rw [hresume_run hw, hend_congr hb]; heval [trLoop, cfgOf, storeId, hgq, pid_runThread, cbs_runThread, modTh_srcThreads]; rfl))
      rfl rfl (fun _ => stores_upd ..) rfl rfl rfl hc rfl htr

/-- a burst of `run` (in phase `ph`) that has left `sn`, `cm`, `pk`, `up` in the cells and observed `new` ends in a sleep of
`d`, to go on in `st'` -/
theorem run_sleeps (fuel : Nat) (hk : KInv s a) {ph : RPhase} (hph : a.run = ph)
    (hw : (runThread ph).wait.resumes = some (q, arg)) (hgq : ph.getQ = []) (hp : popMin s.agenda = some (q, rest))
    {sn : Int} {cm up d : ℚ} {pk : Option ℚ} {new : List (HEv ℚ)} {st' : St} {r : RPhase}
    (hb : hrun 0 (body size cfg (runThread ph).st arg)
        ((hbegin (cfgOf a s (.bStart 0)) 0 q arg).wr (Regs.of s).cells (s.trace.push (.resumed 0 arg q.time))) =
      hrun 0 (.call (.timeout d .none) fun rp => match rp with | .ev t => .yield t st' | rp => bad rp)
        ((hbegin (cfgOf a s (.bStart 0)) 0 q arg).wr f tr))
    (hc : Cells f a.cts sn cm pk up) (htr : histOf tr = histOf s.trace ++ new) (hd : 0 ≤ d)
    (hr : runThread r = ⟨0, st', .sleep ⟨q.time + d, NORMAL, s.eid, s.events.size⟩, some []⟩) (hok : r.OK) (hrg : r.getQ = []) :
    StepsTo size cfg fuel s q { a with run := r, commit := cm, peak := pk, upd := up, sent := sn } new := by
  obtain ⟨-, hg, -⟩ := (kinv_iff (st0 := .bStart 0)).mp hk
  obtain ⟨run, src, pend, items, cts, commit, peak, upd, sent⟩ := a
  subst hph
  exact .of_ginv (st0 := .bStart 0) (hg.step_resume (body size cfg) fuel List.mem_cons_self hw
      (fun _ _ _ => store_runThread) hp
      (by rw [hresume_run hw, hend_congr hb]; heval [cfgOf, hd, pid_runThread, cbs_runThread, modTh_srcThreads]; rfl))
    (by rw [hr]; rfl) rfl (fun r' => by rw [hrg, ← hgq]) rfl rfl hok hc rfl htr

theorem hist_out (tr : Array (Obs ℚ)) (p : EvId) (r : Resume) {id : Int} (hid : 0 ≤ id) (col : Nat) (t : ℚ) :
    histOf ((tr.push (.resumed p r t)).push (.log 0 "out" (outVal id col) t)) = histOf tr ++ [.out id col t] := by
  rw [histOf_push, histOf_push]; simp [Int.toNat_of_nonneg hid]

section burst
variable (hc : Cells f a.cts a.sent a.commit a.peak a.upd)
include hc

/-- after the wait for tokens: the bucket waited for is empty; the colour -/
theorem hrun_tok (now : ℚ) (id : Int) :
    ∃ f', Cells f' a.cts a.sent (afterWait cfg a.commit a.peak).2.1 (afterWait cfg a.commit a.peak).2.2 now ∧
      ∀ (c : Cfg St) tr, hrun 0 (trAfterTok cfg now id) (c.wr f tr) =
        hrun 0 (trOut now id (afterWait cfg a.commit a.peak).1) (c.wr f' tr) := by
  unfold trAfterTok afterWait
  cases TwoRate.pirOn cfg with
  | some k => exact ⟨_, (hc.peak Num.zero).upd now, fun c tr => by heval []⟩
  | none => exact ⟨_, (hc.commit Num.zero).upd now, fun c tr => by heval []⟩

variable {id : Int} {t0 : ℚ} (hid : id.toNat < a.cts.length) (hnow : max t0 (a.ctOf id) = q.time)
include hid hnow

/-- with PIR: both buckets are refilled -/
theorem hrun_serve_pir (c : Cfg St) {k b pl : ℚ} (hk1 : TwoRate.pirOn cfg = some k) (hb1 : TwoRate.pbsOn cfg = some b)
    (hpl : a.peak = some pl) :
    hrun 0 (trServe size cfg t0 id) (c.wr f tr) =
      hrun 0 (trDecidePir size k q.time id (cmA cfg a q.time) (TwoRate.refillLevel b pl k a.upd q.time))
        (c.wr (upd (upd (upd f cCommit (TimeCell.enc (cmA cfg a q.time))) cPeak
          (TimeCell.enc (TwoRate.refillLevel b pl k a.upd q.time))) cUpd (TimeCell.enc q.time)) tr) := by
  have hcell : f (cStamp id) = TimeCell.enc (a.ctOf id) := hc.ct _ hid
  have hc4 : f cPeak = TimeCell.enc pl := by rw [hc.c4, hpl]; rfl
  heval [trServe, loadTime, hcell, hc.c2, hc.c3, hc4, dec_enc, Num.pymax_eq, hnow, hk1, hb1, show ¬ cPeak = cCommit by decide]

/-- without PIR: the committed bucket is refilled -/
theorem hrun_serve_cir (c : Cfg St) (hk1 : TwoRate.pirOn cfg = none) :
    hrun 0 (trServe size cfg t0 id) (c.wr f tr) =
      hrun 0 (trDecideCir size cfg q.time id (cmA cfg a q.time))
        (c.wr (upd (upd f cCommit (TimeCell.enc (cmA cfg a q.time))) cUpd (TimeCell.enc q.time)) tr) := by
  have hcell : f (cStamp id) = TimeCell.enc (a.ctOf id) := hc.ct _ hid
  heval [trServe, loadTime, hcell, hc.c2, hc.c3, dec_enc, Num.pymax_eq, hnow, hk1]

variable (hgood : TwoRate.Good cfg) (hpk : ∀ k, TwoRate.pirOn cfg = some k → ∃ pl, a.peak = some pl)
include hgood hpk

/-- the refills, then not enough tokens: `run` sleeps -/
theorem hrun_serve_wait {dt cm : ℚ} {pk : Option ℚ} (hdec : verdictA size cfg a q.time id = .ok (.wait dt cm pk)) :
    ∃ f', Cells f' a.cts a.sent cm pk q.time ∧ 0 ≤ dt ∧
      ∀ (c : Cfg St) tr, hrun 0 (trServe size cfg t0 id) (c.wr f tr) =
        hrun 0 (.call (.timeout dt .none) fun rp => match rp with | .ev t => .yield t (.bTok id (q.time + dt)) | rp => bad rp)
          (c.wr f' tr) := by
  cases hk1 : TwoRate.pirOn cfg with
  | some k =>
    obtain ⟨hk0, b, hb1, -⟩ := hgood.pir k hk1
    obtain ⟨pl, hpl⟩ := hpk k hk1
    rw [verdictA_pir hk1 hb1 hpl] at hdec
    split at hdec
    · rename_i hlt1
      cases hdec
      refine ⟨_, ((hc.commit (cmA cfg a q.time)).peak (TwoRate.refillLevel b pl k a.upd q.time)).upd q.time,
        tokenWait_nonneg (size := size) hk0 _ id hlt1, fun c tr => ?_⟩
      rw [hrun_serve_pir hc hid hnow c hk1 hb1 hpl]
      simp only [trDecidePir, Num.ofNat_rat, hlt1, if_true]
      rfl
    · split at hdec <;> cases hdec
  | none =>
    rw [verdictA_cir hk1] at hdec
    split at hdec
    · rename_i hlt1
      cases hdec
      refine ⟨_, (hc.commit (cmA cfg a q.time)).upd q.time, tokenWait_nonneg (size := size) hgood.cir _ id hlt1, fun c tr => ?_⟩
      rw [hrun_serve_cir hc hid hnow c hk1]
      simp only [trDecideCir, Num.ofNat_rat, hlt1, if_true]
      rfl
    · cases hdec

/-- the refills, then enough tokens: they are debited, the packet gets its colour -/
theorem hrun_serve_emit {col : Nat} {cm : ℚ} {pk : Option ℚ}
    (hdec : verdictA size cfg a q.time id = .ok (.emit col cm pk)) :
    ∃ f', Cells f' a.cts a.sent cm pk q.time ∧
      ∀ (c : Cfg St) tr, hrun 0 (trServe size cfg t0 id) (c.wr f tr) = hrun 0 (trOut q.time id col) (c.wr f' tr) := by
  cases hk1 : TwoRate.pirOn cfg with
  | some k =>
    obtain ⟨-, b, hb1, -⟩ := hgood.pir k hk1
    obtain ⟨pl, hpl⟩ := hpk k hk1
    have h1 := ((hc.commit (cmA cfg a q.time)).peak (TwoRate.refillLevel b pl k a.upd q.time)).upd q.time
    rw [verdictA_pir hk1 hb1 hpl] at hdec
    split at hdec
    · cases hdec
    · rename_i hlt1
      split at hdec <;> rename_i hlt2 <;> cases hdec
      · refine ⟨_, ((h1.peak (TwoRate.refillLevel b pl k a.upd q.time - (size id : ℚ))).commit 0).upd q.time, fun c tr => ?_⟩
        rw [hrun_serve_pir hc hid hnow c hk1 hb1 hpl]
        heval [trDecidePir, Num.ofNat_rat, hlt1, hlt2]
        rfl
      · refine ⟨_, ((h1.commit (cmA cfg a q.time - (size id : ℚ))).peak
          (TwoRate.refillLevel b pl k a.upd q.time - (size id : ℚ))).upd q.time, fun c tr => ?_⟩
        rw [hrun_serve_pir hc hid hnow c hk1 hb1 hpl]
        heval [trDecidePir, Num.ofNat_rat, hlt1, hlt2]
  | none =>
    rw [verdictA_cir hk1] at hdec
    split at hdec
    · cases hdec
    · rename_i hlt2
      cases hdec
      refine ⟨_, (((hc.commit (cmA cfg a q.time)).upd q.time).commit (cmA cfg a q.time - (size id : ℚ))).upd q.time,
        fun c tr => ?_⟩
      rw [hrun_serve_cir hc hid hnow c hk1]
      heval [trDecideCir, Num.ofNat_rat, hlt2]

end burst

end TRK
