import OnlVerif.Lemmas.WRRKDefs
/-!
# The WRR scheduler on the kernel model: what each kernel operation of the program does

The calls that touch cells and the trace on an arbitrary kernel state; the cells of different attributes are different; what
the loops of the program (`total_packets`, the two `for` loops of `WRR.run`) do on a configuration
(`Lemmas/KProcDefs.lean`): they only read cells.
-/

namespace WRRK
open WRROnK
open TimerK (lookup)
open KProc (hrun hcall Cfg)

theorem getD_set_same (a : Array ResRec) (r : Nat) (x : ResRec) (h : r < a.size) :
    (a.setIfInBounds r x).getD r default = x := by
  rw [getD_setIfInBounds]; simp [h]

@[simp] theorem isStoreKind_store : isStoreKind .store = true := rfl
@[simp] theorem isPrioKind_store : isPrioKind .store = false := rfl
@[simp] theorem store_beq_preemptive : (ResKind.store == ResKind.preemptive) = false := rfl
@[simp] theorem store_beq_fstore : (ResKind.store == ResKind.fstore) = false := rfl

theorem doCall_load (s : KS) (self : EvId) (k : Nat) : doCall s self (.load k) = (s, .val (lookup s.shared k)) := rfl

theorem doCall_store (s : KS) (self : EvId) (k : Nat) (v : Val) :
    doCall s self (.store k v) = ({ s with shared := (k, v) :: s.shared.filter (·.1 != k) }, .unit) := rfl

theorem doCall_log (s : KS) (self : EvId) (what : String) (i : Int) :
    doCall s self (.log what (.int i)) = ({ s with trace := s.trace.push (.log self what (.int i) s.now) }, .unit) := rfl

theorem doCall_log_none (s : KS) (self : EvId) (what : String) :
    doCall s self (.log what .none) = ({ s with trace := s.trace.push (.log self what .none s.now) }, .unit) := rfl

/-- the attribute cells are pairwise different (in the form `simp` uses) -/
@[wrrk] theorem cells_ne (f f' : Nat) :
    (cCount f = cCount f') = (f = f') ∧ (cCount f = cBytes f') = False ∧ (cCount f = cHas f') = False ∧
    (cBytes f = cCount f') = False ∧ (cBytes f = cBytes f') = (f = f') ∧ (cBytes f = cHas f') = False ∧
    (cHas f = cCount f') = False ∧ (cHas f = cBytes f') = False ∧ (cHas f = cHas f') = (f = f') := by
  simp only [cCount, cBytes, cHas, eq_iff_iff, iff_false]
  omega

@[wrrk] theorem cRecv_ne_cCur : (cRecv = cCur) = False ∧ (cCur = cRecv) = False := by
  simp only [cRecv, cCur, eq_iff_iff, iff_false]
  omega

@[wrrk] theorem cells_ne_fixed (f : Nat) :
    (cRecv = cCount f) = False ∧ (cRecv = cBytes f) = False ∧ (cRecv = cHas f) = False ∧
    (cCur = cCount f) = False ∧ (cCur = cBytes f) = False ∧ (cCur = cHas f) = False ∧
    (cCount f = cRecv) = False ∧ (cCount f = cCur) = False ∧ (cBytes f = cRecv) = False ∧
    (cBytes f = cCur) = False ∧ (cHas f = cRecv) = False ∧ (cHas f = cCur) = False := by
  simp only [cRecv, cCur, cCount, cBytes, cHas, eq_iff_iff, iff_false]
  omega

@[wrrk] theorem flowStore_ne_zero (f : Nat) : (flowStore f = 0) = False :=
  propext ⟨fun h => by unfold flowStore at h; omega, False.elim⟩
@[wrrk] theorem tokStore_eq : tokStore = 0 := rfl

theorem mem_addKey (l : List Nat) (k x : Nat) : x ∈ addKey l k ↔ x ∈ l ∨ x = k :=
  MQK.mem_addKey l k x

theorem runBurst_call (p : EvId) (c : Call ℚ St) (k : Reply → Burst ℚ St) (S : KS) :
    runBurst p (.call c k) S = runBurst p (k (doCall S p c).2) (noteErr p (doCall S p c)) := rfl

theorem runBurst_addInt (p : EvId) (k : Nat) (n d : Int) (cont : Burst ℚ St) (S : KS)
    (h : lookup S.shared k = .int n) :
    runBurst p (addInt k d cont) S =
      runBurst p cont { S with shared := (k, .int (n + d)) :: S.shared.filter (·.1 != k) } := by
  simp [addInt, loadInt, runBurst_call, doCall_load, doCall_store, noteErr, h]

/-! ## the parts of a burst that only read cells, on configurations -/

theorem hrun_loadInt (p : EvId) (k : Nat) (n : Int) (cont : Int → Burst ℚ St) (c : Cfg St) (h : c.reg.cells k = .int n) :
    hrun p (loadInt k cont) c = hrun p (cont n) c := by
  simp only [loadInt, hrun, hcall, h]

theorem hrun_sumCounts (p : EvId) (cnt : Nat → Int) (c : Cfg St) (k : Int → Burst ℚ St) :
    ∀ (n f : Nat) (acc : Int), (∀ j, f ≤ j → j < f + n → c.reg.cells (cCount j) = .int (cnt j)) →
      hrun p (sumCounts f n acc k) c = hrun p (k (acc + sumFrom cnt f n)) c
  | 0, f, acc, _ => by simp [sumCounts, sumFrom]
  | n + 1, f, acc, h => by
    rw [sumCounts, hrun_loadInt p _ (cnt f) _ c (h f (Nat.le_refl _) (by omega)),
      hrun_sumCounts p cnt c k n (f + 1) (acc + cnt f) (fun j h1 h2 => h j (by omega) (by omega))]
    simp [sumFrom, Int.add_assoc]

/-- `self.total_packets` reads the `F` counters -/
theorem hrun_total (p : EvId) (F : Nat) (cnt : Nat → Int) (c : Cfg St) (k : Int → Burst ℚ St)
    (h : ∀ f, f < F → c.reg.cells (cCount f) = .int (cnt f)) :
    hrun p (totalPackets F k) c = hrun p (k (sumFrom cnt 0 F)) c := by
  rw [totalPackets, hrun_sumCounts p cnt c k F 0 0 (fun j _ h2 => h j (by omega))]
  simp

/-- the two `for` loops of `WRR.run` only read: they end at the first iteration that finds its class backlogged (whose store
exists: the `assert` holds), or behind the last entry -/
theorem hrun_scanW (p : EvId) (cnt : Nat → Int) (onEnd : Burst ℚ St) (c : Cfg St) :
    ∀ (ws : List (Nat × Nat)) (m jj : Nat), (∀ e ∈ ws, c.reg.cells (cCount e.1) = .int (cnt e.1)) →
      (∀ e ∈ ws, 0 < cnt e.1 → c.reg.cells (cHas e.1) = .int 1) →
      hrun p (scanW onEnd m jj ws) c =
        match firstHit cnt m jj ws with
        | some (m', jj', f) => hrun p (runTake m' jj' f) c
        | none => hrun p onEnd c
  | [], m, jj, _, _ => by simp [scanW, firstHit]
  | (f, w) :: rest, m, jj, h, hh => by
    have ih := hrun_scanW p cnt onEnd c rest (m + 1) 0 (fun x hx => h x (List.mem_cons_of_mem _ hx))
      (fun x hx => hh x (List.mem_cons_of_mem _ hx))
    have hl := h (f, w) List.mem_cons_self
    by_cases hjw : jj < w
    · by_cases hpos : 0 < cnt f
      · simp only [scanW, firstHit, hjw, hpos, if_true, and_self]
        rw [hrun_loadInt p _ (cnt f) _ c hl]
        simp only [hpos, if_true]
        rw [hrun_loadInt p _ 1 _ c (hh (f, w) List.mem_cons_self hpos)]
        simp
      · simp only [scanW, firstHit, hjw, hpos, if_true, and_false, if_false]
        rw [hrun_loadInt p _ (cnt f) _ c hl]
        simp only [hpos, if_false]
        rw [ih]
    · simp only [scanW, firstHit, hjw, if_false, false_and]
      rw [ih]

/-- **a burst of `WRR.run` from entry `m`, iteration `jj` of its loops**: the rest of the pass, `total_packets`, the next
pass -/
theorem hrun_pass (p : EvId) (F : Nat) (a : A) (ws : List (Nat × Nat)) (m jj : Nat) (c : Cfg St)
    (hc : ∀ f, f < F → c.reg.cells (cCount f) = .int (a.cnt f)) (hfl : ∀ e ∈ ws, e.1 < F)
    (hh : ∀ e ∈ ws, 0 < a.cnt e.1 → c.reg.cells (cHas e.1) = .int 1) :
    hrun p (runPass F ws m jj) c =
      match a.loop F ws m jj with
      | .hit m' jj' f => hrun p (runTake m' jj' f) c
      | .idle => hrun p runWait c
      | .hang => hrun p (.raise hangErr) c := by
  have hsub : ∀ e ∈ ws.drop m, e ∈ ws := fun e he => List.mem_of_mem_drop he
  unfold runPass A.loop
  rw [hrun_scanW p a.cnt _ c _ m jj (fun e he => hc e.1 (hfl e (hsub e he))) (fun e he => hh e (hsub e he))]
  cases h1 : firstHit a.cnt m jj (ws.drop m) with
  | some jf => rfl
  | none =>
    simp only [endPass]
    rw [hrun_total p F a.cnt c _ hc]
    by_cases ht : a.total F = 0
    · have ht' : sumFrom a.cnt 0 F = 0 := ht
      simp only [ht', ht, if_true]
    · have ht' : ¬ sumFrom a.cnt 0 F = 0 := ht
      simp only [ht', ht, if_false]
      rw [hrun_scanW p a.cnt _ c _ 0 0 (fun e he => hc e.1 (hfl e he)) hh]
      cases h2 : firstHit a.cnt 0 0 ws with
      | some jf => rfl
      | none =>
        simp only [endPass2]
        rw [hrun_total p F a.cnt c _ hc]
        simp only [ht', if_false]

end WRRK
