import OnlVerif.Lemmas.StampInv
import OnlVerif.Net.Sched.VC
/-!
# VirtualClock on the StampServer: stamp rule, per-class increasing stamps, no exception
-/

namespace VC
open Stamp

abbrev VState := StState ℚ (VcSt ℚ)

def clsOf (c : VcCfg ℚ) (f : Nat) : Option Nat := lookup c.flow2class f

def start (c : VcCfg ℚ) (t0 : ℚ) : VState := Stamp.init (VC.init0 c) t0

theorem auxOf_eq (now a vt : ℚ) : auxOf now a vt = max now a + vt := by
  unfold auxOf; rw [Num.pymax_eq]

/-- `vc` restarts from the real time when it is 0 (the `if self.vc[c] == 0` quirk), then grows by `vtick·8·size` -/
theorem vcOf_eq (v now vt : ℚ) (size : Nat) : vcOf v now vt size = (if v = 0 then now else v) + vt * size * 8 := by
  unfold vcOf vcBase
  rw [zero_eq_q]
  simp only [Num.eqb_iff]
  rfl

theorem put_spec (c : VcCfg ℚ) (st st' : VcSt ℚ) (now : ℚ) (total : Int) (A : ℚ) (p : SPkt)
    (h : put c st now total p = .ok (st', A)) :
    ∃ k v a vt, lookup c.flow2class p.flow = some k ∧ lookup st.vc k = some v ∧ lookup st.aux k = some a ∧
      lookup c.vticks k = some vt ∧ A = auxOf now a vt ∧
      st' = { vc := setKey st.vc k (vcOf v now vt p.size), aux := setKey st.aux k (auxOf now a vt) } := by
  unfold put at h
  split at h
  · cases h
  · rename_i k hk
    split at h
    · cases h
    · rename_i v hv
      split at h
      · cases h
      · rename_i a ha
        split at h
        · cases h
        · rename_i vt hvt
          cases h
          exact ⟨k, v, a, vt, hk, hv, ha, hvt, rfl, rfl⟩

theorem put_ok (c : VcCfg ℚ) (st : VcSt ℚ) (now : ℚ) (total : Int) (p : SPkt) (k : Nat) (v a vt : ℚ)
    (hk : lookup c.flow2class p.flow = some k) (hv : lookup st.vc k = some v) (ha : lookup st.aux k = some a)
    (hvt : lookup c.vticks k = some vt) : ∃ r, put c st now total p = .ok r := by
  unfold put
  simp only [hk, hv, ha, hvt]
  exact ⟨_, rfl⟩

structure Pos (c : VcCfg ℚ) : Prop where
  rate : 0 < c.rate
  vt : ∀ k v, lookup c.vticks k = some v → 0 < v

structure VInv (c : VcCfg ℚ) (s : VState) : Prop where
  kvc : ∀ k, (lookup c.vticks k).isSome → (lookup s.sch.vc k).isSome
  kaux : ∀ k, (lookup c.vticks k).isSome → (lookup s.sch.aux k).isSome
  /-- `aux_vc` caps the stamps of its class: waiting packets of one class carry strictly increasing stamps -/
  capped : Capped (clsOf c) (lookup s.sch.aux) s.items

theorem lookup_map_zero (l : List (Nat × ℚ)) (k : Nat) :
    (lookup l k).isSome → (lookup (l.map fun kv => (kv.1, (Num.zero : ℚ))) k).isSome := by
  induction l with
  | nil => simp [lookup]
  | cons x r ih =>
    obtain ⟨a, b⟩ := x
    simp only [lookup, List.map_cons]
    by_cases h : a = k
    · simp [h]
    · simp only [h, if_false]; exact ih

theorem init_vinv (c : VcCfg ℚ) (t0 : ℚ) : VInv c (start c t0) :=
  ⟨fun _ => lookup_map_zero _ _, fun _ => lookup_map_zero _ _, Capped.nil⟩

theorem step_vinv {c : VcCfg ℚ} (hp : Pos c) {s s' : VState} {a : StAct ℚ} {o : StOut} (hv : VInv c s)
    (ht : Trans (sched c) s a s' o) : VInv c s' := by
  rcases ht.store with ⟨p, sch, stamp, rfl, rfl, rfl, h1⟩ | ⟨_, hsub, hsch⟩
  · obtain ⟨k, v, a, vt, hk, hvv, ha, hvt, rfl, rfl⟩ := put_spec c _ _ _ (qcTotal s.queueCount) _ _ h1
    have hgt : a < auxOf s.now a vt := by
      rw [auxOf_eq]
      exact (le_max_right s.now a).trans_lt (lt_add_of_pos_right _ (hp.vt k vt hvt))
    have keys : ∀ {m : List (Nat × ℚ)} {x : ℚ} {k' : Nat}, (lookup m k').isSome → (lookup (setKey m k x) k').isSome :=
      fun h => by rw [lookup_setKey]; split <;> [rfl; exact h]
    exact ⟨fun k' hk' => keys (hv.kvc k' hk'), fun k' hk' => keys (hv.kaux k' hk'),
      hv.capped.snoc hk ha hgt fun k' => lookup_setKey _ _ _ _⟩
  · have hsch : s'.sch = s.sch := hsch.elim And.left fun ⟨p, _, _, h2⟩ => (Except.ok.inj h2).symm
    exact ⟨hsch ▸ hv.kvc, hsch ▸ hv.kaux, hsch ▸ hv.capped.sublist hsub⟩

theorem run_vinv (c : VcCfg ℚ) (hp : Pos c) {t0 : ℚ} {s : VState} {ins outs : List SPkt}
    (h : Run (sched c) (start c t0) s ins outs) : GInv s ∧ VInv c s := by
  induction h with
  | nil => exact ⟨init_ginv _ _, init_vinv c t0⟩
  | snoc _ ht ih => exact ⟨(step_ginv ih.1 ht).1, step_vinv hp ih.2 ht⟩

/-- **VirtualClock never raises** in a reachable state, whatever ties there are, as long as arriving packets belong
to configured flows. -/
theorem step_no_raise {c : VcCfg ℚ} (hp : Pos c) {s : VState} (hv : VInv c s) (a : StAct ℚ)
    (hconf : ∀ p, a = .put p → ∃ k vt, clsOf c p.flow = some k ∧ lookup c.vticks k = some vt) (e : String) :
    step (sched c) s a ≠ .error (.raise e) := by
  apply step_no_raise_of (d := sched c) hp.rate s a
  · intro p hpa
    obtain ⟨k, vt, hk, hvt⟩ := hconf p hpa
    obtain ⟨v, hvv⟩ := Option.isSome_iff_exists.mp (hv.kvc k (by simp [hvt]))
    obtain ⟨a', ha'⟩ := Option.isSome_iff_exists.mp (hv.kaux k (by simp [hvt]))
    exact put_ok c s.sch s.now (qcTotal s.queueCount) p k v a' vt hk hvv ha' hvt
  · intro p _
    exact ⟨s.sch, rfl⟩

end VC
