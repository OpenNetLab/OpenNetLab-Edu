import OnlVerif.Lemmas.TimerKBasic
import Mathlib.Tactic.Ring
import OnlVerif.Lemmas.MultiQueueRun
/-!
# Multi-queue schedulers on the kernel model: what does not depend on the scheduler

The SP, RR and WRR programs (`Net/SPOnK.lean`, `Net/RROnK.lean`, `Net/WRROnK.lean`) share `put`, `send_packet`, the source
and the layout of stores and cells, but each has its own type of local states.  What is said here is about lists, about the
Python dicts of the LTS as lists of pairs (`dictOf`) and about sums over flows, and is used by the three developments `SPK`,
`RRK`, `WRRK`; the DRR, VC and WFQ developments (`DRRK`, `VCK`, `WFQK`) take their dict layer and the sums over flows from here
too.
-/

namespace MQK

theorem filterMap_cons_toList {α β : Type} (f : α → Option β) (x : α) (l : List α) :
    (x :: l).filterMap f = (f x).toList ++ l.filterMap f := by
  cases h : f x <;> simp [h]

abbrev storeRec (getQ : List EvId) (items : List Int) : ResRec := KExec.srec getQ items

section lts
open MQ
variable {β κ : Type}

/-- the dict with keys `keys` (in this order) and values `g` -/
def dictOf (keys : List Nat) (g : Nat → β) : List (Nat × β) := keys.map fun f => (f, g f)

theorem lookup_dictOf (keys : List Nat) (g : Nat → β) (f : Nat) :
    MQ.lookup (dictOf keys g) f = if f ∈ keys then some (g f) else none := by
  induction keys with
  | nil => simp [dictOf, MQ.lookup]
  | cons k r ih =>
    simp only [dictOf, List.map_cons, MQ.lookup, List.mem_cons]
    by_cases hk : k = f
    · subst hk; simp
    · have : ¬ f = k := fun h => hk h.symm
      simp only [hk, if_false, this, false_or]
      exact ih

theorem total_dictOf (keys : List Nat) (c : Nat → Int) : MQ.total (dictOf keys c) = (keys.map c).sum := by
  induction keys with
  | nil => rfl
  | cons k r ih => simp only [dictOf, List.map_cons, MQ.total, List.sum_cons] at ih ⊢; rw [ih]

theorem cnt_dictOf (kc : List Nat) (c : Nat → Int) (f : Nat) (h0 : f ∉ kc → c f = 0) : MQ.cnt (dictOf kc c) f = c f := by
  simp only [MQ.cnt, lookup_dictOf]
  by_cases hk : f ∈ kc
  · simp [hk]
  · simp [hk, h0 hk]

theorem runActs_append (sc : Sched ℚ κ) (as bs : List (MAct ℚ)) (s s1 s2 : MQState ℚ κ)
    (i1 o1 i2 o2 : List MPkt) (h1 : runActs sc s as = .ok (s1, i1, o1)) (h2 : runActs sc s1 bs = .ok (s2, i2, o2)) :
    runActs sc s (as ++ bs) = .ok (s2, i1 ++ i2, o1 ++ o2) := by
  induction as generalizing s i1 o1 with
  | nil => cases h1; exact h2
  | cons x xs ih =>
    obtain ⟨s', o, ins, outs, hst, hr, rfl, rfl⟩ := runActs_cons_ok h1
    simp only [List.cons_append, runActs, hst, ih s' ins outs hr, List.append_assoc]

/-- the packet an action brings in / an output sends out -/
def insOf : MAct ℚ → List MPkt
  | .put p => [p]
  | _ => []
def outOf : MOut ℚ → List MPkt
  | .depart p => [p]
  | _ => []

end lts

/-! `upd`, `addKey` and `sumFrom` have the bodies of the definitions that each development has under its own name
(`SPK.upd`, `SPOnK.addKey`, `SPK.sumFrom`, …: fixed there), so a lemma proved here applies to those by unfolding;
`X.sumFrom_eq` is the bridge where a rewrite needs one. -/

section flows
open MQ

def upd {β : Type} (g : Nat → β) (f : Nat) (v : β) : Nat → β := fun x => if x = f then v else g x

@[simp] theorem upd_same {β : Type} (g : Nat → β) (f : Nat) (v : β) : upd g f v f = v := by simp [upd]
theorem upd_ne {β : Type} (g : Nat → β) (f f' : Nat) (v : β) (h : f' ≠ f) : upd g f v f' = g f' := by simp [upd, h]

/-- a dict key is inserted at its first use -/
def addKey (l : List Nat) (k : Nat) : List Nat := if l.contains k then l else l ++ [k]

/-- `sum(queue_count.values())` over flows `f, …, f + n - 1` -/
def sumFrom (c : Nat → Int) : Nat → Nat → Int
  | _, 0 => 0
  | f, n + 1 => c f + sumFrom c (f + 1) n

/-- the packets waiting in the stores of flows `f, …, f + n - 1` -/
def waitingFrom (items : Nat → List Int) : Nat → Nat → Nat
  | _, 0 => 0
  | f, n + 1 => (items f).length + waitingFrom items (f + 1) n

variable {β : Type}

theorem mem_addKey (l : List Nat) (k x : Nat) : x ∈ addKey l k ↔ x ∈ l ∨ x = k := by
  unfold addKey
  split
  · rename_i h
    constructor
    · exact Or.inl
    · rintro (h1 | rfl)
      · exact h1
      · exact List.elem_iff.mp h |> fun h' => by simpa using h
  · simp

theorem addKey_cons_ne (k f : Nat) (r : List Nat) (h : k ≠ f) : addKey (k :: r) f = k :: addKey r f := by
  unfold addKey
  have : (k :: r).contains f = r.contains f := by
    simp only [List.contains_cons]
    have : (f == k) = false := by simpa using fun h' => h h'.symm
    simp [this]
  rw [this]
  split <;> rfl

theorem addKey_of_mem (keys : List Nat) (f : Nat) (h : f ∈ keys) : addKey keys f = keys := by
  unfold addKey
  simp [h]

theorem addKey_of_not_mem (keys : List Nat) (f : Nat) (h : f ∉ keys) : addKey keys f = keys ++ [f] := by
  unfold addKey
  simp [h]

theorem setKey_dictOf (keys : List Nat) (hn : keys.Nodup) (g : Nat → β) (f : Nat) (v : β) :
    MQ.setKey (dictOf keys g) f v = dictOf (addKey keys f) (upd g f v) := by
  induction keys with
  | nil => simp [dictOf, MQ.setKey, addKey]
  | cons k r ih =>
    have hk := List.nodup_cons.mp hn
    by_cases hkf : k = f
    · subst hkf
      rw [addKey_of_mem _ _ List.mem_cons_self]
      simp only [dictOf, List.map_cons, MQ.setKey, if_true, upd_same, List.cons.injEq, true_and]
      apply List.map_congr_left
      intro x hx
      have : x ≠ k := fun h => hk.1 (h ▸ hx)
      rw [upd_ne _ _ _ _ this]
    · rw [addKey_cons_ne _ _ _ hkf]
      simp only [dictOf, List.map_cons, MQ.setKey, hkf, if_false, upd_ne _ _ _ _ hkf, List.cons.injEq, true_and]
      exact ih hk.2

theorem bump_dictOf (keys : List Nat) (hn : keys.Nodup) (c : Nat → Int) (f : Nat) (d : Int) (h0 : f ∉ keys → c f = 0) :
    MQ.bump (dictOf keys c) f d = dictOf (addKey keys f) (upd c f (c f + d)) := by
  induction keys with
  | nil => simp [dictOf, MQ.bump, addKey, h0 (by simp)]
  | cons k r ih =>
    have hk := List.nodup_cons.mp hn
    by_cases hkf : k = f
    · subst hkf
      rw [addKey_of_mem _ _ List.mem_cons_self]
      simp only [dictOf, List.map_cons, MQ.bump, if_true, upd_same, List.cons.injEq, true_and]
      apply List.map_congr_left
      intro x hx
      have : x ≠ k := fun h => hk.1 (h ▸ hx)
      rw [upd_ne _ _ _ _ this]
    · rw [addKey_cons_ne _ _ _ hkf]
      simp only [dictOf, List.map_cons, MQ.bump, hkf, if_false, upd_ne _ _ _ _ hkf, List.cons.injEq, true_and]
      exact ih hk.2 (fun h => h0 (by simp [h, Ne.symm hkf]))

theorem sumFrom_succ_right (c : Nat → Int) : ∀ (n f : Nat), sumFrom c f (n + 1) = sumFrom c f n + c (f + n)
  | 0, f => by simp [sumFrom]
  | n + 1, f => by
    have := sumFrom_succ_right c n (f + 1)
    simp only [sumFrom] at this ⊢
    rw [this, show f + 1 + n = f + (n + 1) by omega]
    ring

theorem foldl_addKey_mem (kc : List Nat) : ∀ (l : List Nat), (∀ f ∈ l, f ∈ kc) → l.foldl addKey kc = kc
  | [], _ => rfl
  | f :: r, h => by
    simp only [List.foldl_cons, addKey_of_mem _ _ (h f List.mem_cons_self)]
    exact foldl_addKey_mem kc r (fun x hx => h x (List.mem_cons_of_mem _ hx))

theorem foldl_addKey_append (kc : List Nat) : ∀ (l : List Nat), (kc ++ l).Nodup → l.foldl addKey kc = kc ++ l
  | [], _ => by simp
  | f :: r, h => by
    have hf : f ∉ kc := by
      intro hm
      have := List.nodup_append.mp h
      exact this.2.2 f hm f List.mem_cons_self rfl
    simp only [List.foldl_cons, addKey_of_not_mem _ _ hf]
    rw [foldl_addKey_append (kc ++ [f]) r (by simpa using h)]
    simp

theorem foldl_addKey_nil (l : List Nat) (h : l.Nodup) : l.foldl addKey [] = l := by
  simpa using foldl_addKey_append [] l (by simpa using h)

theorem upd_self (c : Nat → Int) (f : Nat) : upd c f (c f + 0) = c := by
  funext x
  by_cases h : x = f
  · subst h; simp
  · simp [upd_ne _ _ _ _ h]

/-- reading `queue_count[f]` for a key that is there changes nothing -/
theorem bump_zero_mem (kc : List Nat) (hn : kc.Nodup) (c : Nat → Int) (f : Nat) (hf : f ∈ kc) :
    MQ.bump (dictOf kc c) f 0 = dictOf kc c := by
  rw [bump_dictOf kc hn c f 0 (fun h => absurd hf h), addKey_of_mem _ _ hf, upd_self]

theorem upd_map (items : Nat → List Int) (f : Nat) (is : List Int) (g : Int → MPkt) :
    upd (fun f' => (items f').map g) f (is.map g) = fun f' => (upd items f is f').map g := by
  funext f'
  by_cases h : f' = f
  · subst h; simp
  · simp [upd_ne _ _ _ _ h]

theorem addKey_nodup (l : List Nat) (k : Nat) (h : l.Nodup) : (addKey l k).Nodup := by
  by_cases hk : k ∈ l
  · rw [addKey_of_mem _ _ hk]; exact h
  · rw [addKey_of_not_mem _ _ hk]
    exact List.nodup_append.mpr ⟨h, by simp, by
      intro x hx y hy hxy
      simp only [List.mem_singleton] at hy
      exact hk (hy ▸ hxy ▸ hx)⟩

theorem sumFrom_nonneg (c : Nat → Int) : ∀ (n f : Nat), (∀ j, f ≤ j → j < f + n → 0 ≤ c j) → 0 ≤ sumFrom c f n
  | 0, _, _ => le_refl _
  | n + 1, f, h => by
    have h1 := h f (Nat.le_refl _) (by omega)
    have h2 := sumFrom_nonneg c n (f + 1) (fun j a b => h j (by omega) (by omega))
    simp only [sumFrom]; omega

theorem sumFrom_zero (c : Nat → Int) : ∀ (n f : Nat), (∀ j, f ≤ j → j < f + n → 0 ≤ c j) → sumFrom c f n = 0 →
    ∀ j, f ≤ j → j < f + n → c j = 0
  | 0, _, _, _ => fun j a b => by omega
  | n + 1, f, h, hz => by
    have h1 := h f (Nat.le_refl _) (by omega)
    have h2 := sumFrom_nonneg c n (f + 1) (fun j a b => h j (by omega) (by omega))
    simp only [sumFrom] at hz
    intro j a b
    by_cases hj : j = f
    · subst hj; omega
    · exact sumFrom_zero c n (f + 1) (fun j a b => h j (by omega) (by omega)) (by omega) j (by omega) (by omega)

theorem sumFrom_all_zero (c : Nat → Int) : ∀ (n f : Nat), (∀ j, f ≤ j → j < f + n → c j = 0) → sumFrom c f n = 0
  | 0, _, _ => rfl
  | n + 1, f, h => by
    simp only [sumFrom, h f (Nat.le_refl _) (by omega),
      sumFrom_all_zero c n (f + 1) (fun j a b => h j (by omega) (by omega))]
    rfl

theorem sum_map_erase (c : Nat → Int) {k : Nat} : ∀ {l : List Nat}, k ∈ l → (l.map c).sum = c k + ((l.erase k).map c).sum
  | x :: r, h => by
    by_cases hx : x = k
    · subst hx; rw [List.erase_cons_head, List.map_cons, List.sum_cons]
    · have hk : k ∈ r := (List.mem_cons.mp h).resolve_left fun e => hx e.symm
      rw [List.erase_cons_tail (by simpa using hx), List.map_cons, List.sum_cons, List.map_cons, List.sum_cons,
        sum_map_erase c hk]
      omega

/-- `sum(queue_count.values())` over the keys is the sum over all flows when the other counters are 0 -/
theorem total_eq (c : Nat → Int) : ∀ (F : Nat) (keys : List Nat), keys.Nodup → (∀ f ∈ keys, f < F) →
    (∀ f, f < F → f ∉ keys → c f = 0) → MQ.total (dictOf keys c) = sumFrom c 0 F
  | 0, keys, _, hlt, _ => by
    cases keys with
    | nil => rfl
    | cons k r => exact absurd (hlt k List.mem_cons_self) (Nat.not_lt_zero _)
  | F + 1, keys, hn, hlt, h0 => by
    rw [sumFrom_succ_right, Nat.zero_add]
    by_cases hF : F ∈ keys
    · have hm : ∀ f, f ∈ keys.erase F ↔ f ≠ F ∧ f ∈ keys := fun f => List.Nodup.mem_erase_iff hn
      have ih := total_eq c F (keys.erase F) (hn.erase F)
        (fun f hf => by have := hlt f ((hm f).mp hf).2; have := ((hm f).mp hf).1; omega)
        (fun f hf hne => h0 f (by omega) fun h => hne ((hm f).mpr ⟨by omega, h⟩))
      rw [total_dictOf] at ih ⊢
      rw [sum_map_erase c hF, ih]
      omega
    · have ih := total_eq c F keys hn
        (fun f hf => by have := hlt f hf; have : f ≠ F := fun h => hF (h ▸ hf); omega)
        (fun f hf hne => h0 f (by omega) hne)
      rw [ih, h0 F (by omega) hF]
      omega

theorem waitingFrom_upd (items : Nat → List Int) (f : Nat) (l : List Int) : ∀ (n f0 : Nat), f0 ≤ f → f < f0 + n →
    waitingFrom (upd items f l) f0 n + (items f).length = waitingFrom items f0 n + l.length
  | 0, f0, h1, h2 => by omega
  | n + 1, f0, h1, h2 => by
    simp only [waitingFrom]
    by_cases hf : f0 = f
    · subst hf
      have : ∀ m g, f0 < g → waitingFrom (upd items f0 l) g m = waitingFrom items g m := by
        intro m
        induction m with
        | zero => intro g _; rfl
        | succ m ih => intro g hg; simp only [waitingFrom, upd_ne _ _ _ _ (Nat.ne_of_gt hg), ih (g + 1) (by omega)]
      rw [this n (f0 + 1) (by omega), upd_same]; omega
    · have := waitingFrom_upd items f l n (f0 + 1) (by omega) (by omega)
      rw [upd_ne _ _ _ _ hf]; omega

theorem waitingFrom_zero (items : Nat → List Int) : ∀ (n f0 : Nat), (∀ j, f0 ≤ j → j < f0 + n → items j = []) →
    waitingFrom items f0 n = 0
  | 0, _, _ => rfl
  | n + 1, f0, h => by
    simp only [waitingFrom, h f0 (Nat.le_refl _) (by omega),
      waitingFrom_zero items n (f0 + 1) (fun j a b => h j (by omega) (by omega)), List.length_nil]

/-- the keys of a dict in insertion order, the flows `flow id` being inserted one after the other -/
theorem foldl_addKey_nodup (flow : Int → Nat) : ∀ (ids : List Int) (acc : List Nat), acc.Nodup →
    (ids.foldl (fun l id => addKey l (flow id)) acc).Nodup
  | [], _, h => h
  | _ :: r, _, h => foldl_addKey_nodup flow r _ (addKey_nodup _ _ h)

theorem mem_foldl_addKey (flow : Int → Nat) (id : Int) : ∀ (ids : List Int) (acc : List Nat), flow id ∈ acc ∨ id ∈ ids →
    flow id ∈ ids.foldl (fun l i => addKey l (flow i)) acc
  | [], _, h => h.elim (fun h => h) (fun h => nomatch h)
  | x :: r, acc, h => by
    refine mem_foldl_addKey flow id r _ ?_
    rcases h with h | h
    · exact Or.inl ((mem_addKey _ _ _).mpr (Or.inl h))
    · rcases List.mem_cons.mp h with rfl | h
      · exact Or.inl ((mem_addKey _ _ _).mpr (Or.inr rfl))
      · exact Or.inr h

theorem foldl_addKey_flow (flow : Int → Nat) (kc : List Nat) : ∀ (ids : List Int), (∀ id ∈ ids, flow id ∈ kc) →
    ids.foldl (fun l id => addKey l (flow id)) kc = kc
  | [], _ => rfl
  | x :: r, h => by
    simp only [List.foldl_cons, addKey_of_mem _ _ (h x List.mem_cons_self)]
    exact foldl_addKey_flow flow kc r (fun y hy => h y (List.mem_cons_of_mem _ hy))

end flows

end MQK
