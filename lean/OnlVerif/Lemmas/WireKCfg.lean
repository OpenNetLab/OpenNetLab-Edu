import OnlVerif.Lemmas.KProc
import OnlVerif.Lemmas.WireKFrame
/-!
# The Wire on the kernel model: its configurations as configurations of cooperating processes

`cfgOf a s st0` is the configuration `a` in the terms of `Lemmas/KProcDefs.lean`: the thread of `Wire.run`, the thread of the
source, the pending `StorePut` event, the one store; `KInv s a` says `GInv s (cfgOf a s st0)` and what the cells hold
(`kinv_iff`).  `KInv` does not mention the process event of `Wire.run` (its generator never returns), so its thread has
`cbs := none`; and it does not say that the events are pairwise different: they are, because their callback lists are.
-/

namespace WireK
open WireOnK
open KProc (Thread Wait Cfg GInv TInv Regs)

def WPhase.st : WPhase → St
  | .init q => .wStart q.time
  | .W _ t0 nl nd => .wGet t0 nl nd
  | .H _ _ _ t0 nl nd => .wGet t0 nl nd
  | .T _ id q nl nd => .wTx id q.time nl nd

def WPhase.wait : WPhase → Wait
  | .init q => .init q
  | .W g _ _ _ => .getW 0 g
  | .H _ id q _ _ _ => .getH 0 q id
  | .T _ _ q _ _ => .sleep q

def wireThread (p : WPhase) : Thread St := { pid := 0, st := p.st, wait := p.wait, cbs := none }

/-- `st0` = the local state the source had when its generator returned (nothing looks at it) -/
def srcThreads (st0 : St) : SPhase → List (Thread St)
  | .init q arr => [{ pid := 2, st := .src q.time false 0 arr, wait := .init q }]
  | .wait next rest q => [{ pid := 2, st := .src q.time true next rest, wait := .sleep q }]
  | .ending q => [{ pid := 2, st := st0, wait := .ending q .none }]
  | .done => []

def cfgOf (a : A) (s : KS) (st0 : St) : Cfg St :=
  { reg := Regs.of s, threads := wireThread a.wire :: srcThreads st0 a.src, pend := a.pend.toList.map (·, 0)
    stores := fun r => if r = 0 then some { getQ := a.wire.getQ, items := a.items } else none }

/-- the events a phase names twice are the same event -/
def WPhase.OK : WPhase → Prop
  | .init q => q.ev = 1
  | .W _ _ _ _ => True
  | .H g _ q _ _ _ => q.ev = g
  | .T t _ q _ _ => q.ev = t

variable {s : KS} {a : A} {st0 : St}

theorem entries_cfgOf : (cfgOf a s st0).entries = a.entries := by
  have h1 : (wireThread a.wire).wait.entries = a.wire.entries := by cases a.wire <;> rfl
  have h2 : (srcThreads st0 a.src).flatMap (·.wait.entries) = a.src.entries := by cases a.src <;> rfl
  simp only [Cfg.entries, cfgOf, List.flatMap_cons, h1, h2, List.flatMap_nil, List.nil_append, List.map_map, A.entries,
    List.append_assoc]
  rw [show ((fun x : QEntry ℚ × ResId => x.1) ∘ fun x => (x, 0)) = id from rfl, List.map_id]

theorem pids_cfgOf : ((cfgOf a s st0).threads.map (·.pid)).Nodup := by
  have h2 : (srcThreads st0 a.src).map (·.pid) = [2] ∨ (srcThreads st0 a.src).map (·.pid) = [] := by
    cases a.src <;> simp [srcThreads]
  simp only [cfgOf, List.map_cons, wireThread]
  rcases h2 with h | h <;> rw [h] <;> decide

theorem wireEv_iff {p : WPhase} : WireEv s p ↔ p.OK ∧ TInv s (wireThread p) := by
  cases p with
  | W g t0 nl nd =>
    exact ⟨fun ⟨h1, h2⟩ => ⟨trivial, .of_none rfl h1 (fun t ht => (by cases ht; exact h2)) (fun _ _ h => nomatch h)⟩,
      fun ⟨_, h⟩ => ⟨h.ev, h.proc _ rfl⟩⟩
  | init q =>
    exact ⟨fun ⟨h0, h1, h2⟩ => ⟨h0, .of_none rfl ⟨h0, h0 ▸ h1⟩ (fun t ht => (by cases ht; exact h0 ▸ h2)) (fun _ _ h => nomatch h)⟩,
      fun ⟨h0, h⟩ => ⟨h0, h0 ▸ h.ev.2, h0 ▸ h.proc _ rfl⟩⟩
  | _ =>
    exact ⟨fun ⟨h0, h1, h2⟩ => ⟨h0, .of_none rfl (h0 ▸ h1) (fun t ht => (by cases ht; exact h0 ▸ h2)) (fun _ _ h => nomatch h)⟩,
      fun ⟨h0, h⟩ => ⟨h0, h0 ▸ h.ev, h0 ▸ h.proc _ rfl⟩⟩

theorem srcEv_iff {sp : SPhase} : SrcEv s sp ↔ ∀ th ∈ srcThreads st0 sp, TInv s th := by
  cases sp with
  | done => exact ⟨fun _ _ h => (nomatch h), fun _ => trivial⟩
  | init q arr =>
    simp only [srcThreads, List.mem_singleton, forall_eq]
    exact ⟨fun ⟨h0, h1, h2, h3⟩ => .of rfl ⟨h0, h0 ▸ h1⟩ (fun t ht => (by cases ht; exact h0 ▸ h2)) h3,
      fun h => have h0 : q.ev = 3 := h.ev.1
        ⟨h0, h0 ▸ h.ev.2, h0 ▸ h.proc _ rfl, h.own _ rfl⟩⟩
  | wait next rest q =>
    simp only [srcThreads, List.mem_singleton, forall_eq]
    exact ⟨fun ⟨h1, h2, h3⟩ => .of rfl h1 (fun t ht => (by cases ht; exact h2)) h3, fun h => ⟨h.ev, h.proc _ rfl, h.own _ rfl⟩⟩
  | ending q =>
    simp only [srcThreads, List.mem_singleton, forall_eq]
    exact ⟨fun ⟨h0, h1⟩ => .of rfl h0 (fun t ht => (by cases ht)) h1, fun h => ⟨h.ev, h.own _ rfl⟩⟩

/-- the events of a configuration are pairwise different because their callback lists are: `Wire.run` waits on `[resume 0]`
(`Initialize`, timeout) or `[trigPut 0, resume 0]` (`StoreGet`), the source has `[]` (its process event) and `[resume 2]`, a
`StorePut` has `[trigGet 0]` -/
theorem ids_nodup (hk : KInv s a) : (cfgOf a s st0).ids.Nodup := by
  refine .of_map (fun e => (s.ev e).cbs) ?_
  have h1 : (wireThread a.wire).ids.map (fun e => (s.ev e).cbs) = [some [.resume 0]] ∨
      (wireThread a.wire).ids.map (fun e => (s.ev e).cbs) = [some [.trigPut 0, .resume 0]] := by
    have h := hk.wire
    revert h
    cases a.wire <;> intro h
    · exact .inl (congrArg (fun x => [x]) (h.1 ▸ h.2.1.2.1))
    · exact .inr (congrArg (fun x => [x]) h.1.2.1)
    · exact .inr (congrArg (fun x => [x]) (h.1 ▸ h.2.1.2.1))
    · exact .inl (congrArg (fun x => [x]) (h.1 ▸ h.2.1.2.1))
  have h2 : ((srcThreads st0 a.src).flatMap Thread.ids).map (fun e => (s.ev e).cbs) = [some [], some [.resume 2]] ∨
      ((srcThreads st0 a.src).flatMap Thread.ids).map (fun e => (s.ev e).cbs) = [some []] ∨
      ((srcThreads st0 a.src).flatMap Thread.ids).map (fun e => (s.ev e).cbs) = [] := by
    have h := hk.src
    revert h
    cases a.src <;> intro h
    · exact .inl (congrArg₂ (fun x y => [x, y]) h.2.2.2.2.1 (h.1 ▸ h.2.1.2.1))
    · exact .inl (congrArg₂ (fun x y => [x, y]) h.2.2.2.1 h.1.2.1)
    · exact .inr (.inl (congrArg (fun x => [x]) h.2.2.1))
    · exact .inr (.inr rfl)
  have h3 : a.pend.toList.map (fun u => (s.ev u.ev).cbs) = [some [.trigGet 0]] ∨
      a.pend.toList.map (fun u => (s.ev u.ev).cbs) = [] := by
    have h := hk.pend
    revert h
    cases a.pend <;> intro h
    · exact .inr rfl
    · exact .inl (congrArg (fun x => [x]) (h _ rfl).2.1)
  simp only [Cfg.ids, cfgOf, List.flatMap_cons, List.flatMap_nil, List.nil_append, List.map_append, List.map_map,
    Function.comp_def]
  rcases h1 with h1 | h1 <;> rcases h2 with h2 | h2 | h2 <;> rcases h3 with h3 | h3 <;> rw [h1, h2, h3] <;> decide

/-- **`KInv` in the terms of `KProc`** -/
theorem kinv_iff : KInv s a ↔ a.wire.OK ∧ GInv s (cfgOf a s st0) ∧ Cells (Regs.of s).cells a.cts := by
  constructor
  · intro hk
    obtain ⟨hr, hwire⟩ := wireEv_iff.mp hk.wire
    have hsrc := (srcEv_iff (st0 := st0)).mp hk.src
    have hth : ∀ th ∈ (cfgOf a s st0).threads, TInv s th := by
      intro th hth
      rcases List.mem_cons.mp hth with rfl | hth
      · exact hwire
      · exact hsrc th hth
    refine ⟨hr, ⟨rfl, hk.wf, entries_cfgOf ▸ hk.ag, ids_nodup hk, pids_cfgOf, ?_, hth, nofun, ?_, ?_, nofun⟩, hk.cells⟩
    · intro th h
      rcases List.mem_cons.mp h with rfl | h'
      · have hlt := hwire.lt
        revert hlt
        cases a.wire <;> exact fun hlt => Nat.lt_of_le_of_lt (Nat.zero_le _) (hlt _ (List.mem_singleton_self _))
      · refine (hth th h).pid_lt (l := []) ?_
        revert h'
        cases a.src <;> intro h' <;> simp only [srcThreads, List.mem_singleton, List.not_mem_nil] at h' <;> subst h' <;> rfl
    · intro u hu
      obtain ⟨u', hu', rfl⟩ := List.mem_map.mp hu
      exact hk.pend u' (Option.mem_toList.mp hu')
    · exact KProc.stores_one ⟨hk.rsz, hk.res⟩
  · rintro ⟨hr, hg, hc⟩
    obtain ⟨wire, src, pend, items, cts⟩ := a
    obtain ⟨hrs, hres⟩ := hg.stores 0 { getQ := wire.getQ, items := items } rfl
    exact ⟨hg.wf, entries_cfgOf ▸ hg.ag, hrs, hres, wireEv_iff.mpr ⟨hr, hg.th _ List.mem_cons_self⟩,
      srcEv_iff.mpr fun th hth => hg.th th (List.mem_cons_of_mem _ hth),
      fun u hu => hg.pend (u, 0) (List.mem_map.mpr ⟨u, Option.mem_toList.mpr hu, rfl⟩), hc.c0, hc.ct⟩

end WireK
