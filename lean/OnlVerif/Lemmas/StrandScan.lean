import OnlVerif.Lemmas.StrandGrant
/-!
# Post-conditions of the queue scans `_trigger_put` / `_trigger_get`

After a complete scan the head of the scanned queue is blocked (for the get queue of a `FilterStore`: every queued get
is blocked); the scan either changed nothing or left a rescan of the opposite queue pending.
-/

variable {σ : Type}

theorem grantPut_step {s : KState ℚ σ} (h : Pkg s none) (r : ResId) (e : EvId) (rest : List EvId)
    (hq : (s.res r).putQ = e :: rest) (hok : putOk s r e = true) :
    doPut s r e = (applyPut (prePut s r e) r e, true) ∧ (applyPut (prePut s r e) r e).triggered e = true ∧
    Pkg (dropPutQ (applyPut (prePut s r e) r e) r e) none ∧
    RStep r s (dropPutQ (applyPut (prePut s r e) r e) r e) ∧
    ((dropPutQ (applyPut (prePut s r e) r e) r e).res r).putQ = rest ∧
    ((dropPutQ (applyPut (prePut s r e) r e) r e).res r).getQ = (s.res r).getQ ∧
    ∀ rem, Pend (dropPutQ (applyPut (prePut s r e) r e) r e) rem (.trigGet r) := by
  have hmem : e ∈ (s.res r).putQ := by rw [hq]; exact List.mem_cons_self
  obtain ⟨hkind, _, l, hl, hml⟩ := h.putQ r e hmem
  have hin : e < s.events.size := KState.lt_of_cbs hl
  obtain ⟨ha, ra, qa⟩ := prePut_pkg (h.weaken (ex := some e)) r e
  have hina : e < (prePut s r e).events.size := Nat.lt_of_lt_of_le hin ra.fr.size_le
  obtain ⟨la, hla, hma⟩ := ra.fr.cbs e l hl
  unfold putOk at hok
  obtain ⟨hb, rb, qb⟩ := applyPut_pkg r e ha hina hok
  have haft := fun rem => applyPut_after (prePut s r e) r e hina rem (.trigGet r) la hla (hma _ rfl hml)
  obtain ⟨hc, rc⟩ := dropPutQ_pkg hb r e
  have hqb : ((applyPut (prePut s r e) r e).res r).putQ = e :: rest := by rw [(qb r).1, (qa r).1, hq]
  have hrin : r < (applyPut (prePut s r e) r e).resources.size := res_lt_of_putQ (by rw [hqb]; simp)
  have hres := res_dropPutQ (applyPut (prePut s r e) r e) r e hrin
  have hputQ : ((dropPutQ (applyPut (prePut s r e) r e) r e).res r).putQ = rest := by
    rw [hres]; dsimp only
    rw [hqb, List.erase_cons_head]
  have hall : RStep r s (dropPutQ (applyPut (prePut s r e) r e) r e) := (ra.trans rb).trans rc
  refine ⟨by unfold doPut; rw [if_pos hok], (haft []).1, ?_, hall, hputQ, ?_, ?_⟩
  · refine hc.unexempt (noQ_of_put hc r e ?_ ?_)
    · rw [hall.fr.kind e hin]; exact hkind
    · rw [hputQ]
      have := h.nodupP r
      rw [hq] at this
      exact (List.nodup_cons.mp this).1
  · rw [hres]; dsimp only
    rw [(qb r).2, (qa r).2]
  · intro rem
    exact (haft rem).2.mono rc.fr rfl

theorem scanPut_cons_grant (r : ResId) (e : EvId) (rest : List EvId) (s sb : KState ℚ σ)
    (hd : doPut s r e = (sb, true)) (ht : sb.triggered e = true) :
    scanPut r (e :: rest) s = scanPut r rest (dropPutQ sb r e) := by
  rw [scanPut]
  simp only [hd, ht, if_true]

theorem scanPut_cons_block (r : ResId) (e : EvId) (rest : List EvId) (s : KState ℚ σ)
    (hd : doPut s r e = (s, false)) (ht : s.triggered e = false) :
    scanPut r (e :: rest) s = s := by
  rw [scanPut]
  simp only [hd, ht, Bool.false_eq_true, if_false]

theorem scanPut_post (r : ResId) : ∀ (q : List EvId) (s : KState ℚ σ), Pkg s none → (s.res r).putQ = q →
    Pkg (scanPut r q s) none ∧ RStep r s (scanPut r q s) ∧ ((scanPut r q s).res r).getQ = (s.res r).getQ ∧
    PutBlocked (scanPut r q s) r ∧ (scanPut r q s = s ∨ ∀ rem, Pend (scanPut r q s) rem (.trigGet r)) := by
  intro q
  induction q with
  | nil =>
    intro s h hq
    refine ⟨h, RStep.refl r s, rfl, ?_, Or.inl rfl⟩
    intro e he
    change (s.res r).putQ.head? = some e at he
    rw [hq] at he; cases he
  | cons e rest ih =>
    intro s h hq
    by_cases hok : putOk s r e = true
    · obtain ⟨hd, ht, hp, hr, hpq, hgq, hpend⟩ := grantPut_step h r e rest hq hok
      rw [scanPut_cons_grant r e rest s _ hd ht]
      obtain ⟨ip, ir, ig, ib, _⟩ := ih _ hp hpq
      refine ⟨ip, hr.trans ir, ig.trans hgq, ib, Or.inr ?_⟩
      intro rem
      exact (hpend rem).mono ir.fr rfl
    · have hok' : putOk s r e = false := Bool.eq_false_iff.mpr hok
      have hpre := prePut_eq_of_blocked h r e hok'
      have hd : doPut s r e = (s, false) := by
        unfold doPut
        have : canPut (prePut s r e) r e = false := hok'
        rw [if_neg (by rw [this]; exact Bool.false_ne_true), hpre]
      have hmem : e ∈ (s.res r).putQ := by rw [hq]; exact List.mem_cons_self
      have ht : s.triggered e = false := by
        have := ((h.putQ r e hmem).2.1).resolve_right nofun
        unfold KState.triggered; rw [this]; rfl
      rw [scanPut_cons_block r e rest s hd ht]
      refine ⟨h, RStep.refl r s, rfl, ?_, Or.inl rfl⟩
      intro e' he'
      rw [hq] at he'
      cases he'; exact hok'

theorem takeOut_items (s : KState ℚ σ) (r : ResId) (e : EvId) (v : Val) :
    ((takeOut s r e v).res r).items.Sublist (s.res r).items ∧ ((takeOut s r e v).res r).kind = (s.res r).kind := by
  have key : ∀ x : ResRec, x.items.Sublist (s.res r).items → x.kind = (s.res r).kind →
      ((s.setRes r x).res r).items.Sublist (s.res r).items ∧ ((s.setRes r x).res r).kind = (s.res r).kind := by
    intro x hx hk
    rw [KState.res_setRes]
    split
    · exact ⟨hx, hk⟩
    · exact ⟨List.Sublist.refl _, rfl⟩
  unfold takeOut
  simp only
  split
  · exact key _ (List.Sublist.refl _) rfl
  · exact key _ (List.Sublist.refl _) rfl
  · exact key _ (List.Sublist.refl _) rfl
  · exact key _ (List.Sublist.refl _) rfl
  · exact key _ (List.tail_sublist _) rfl
  · split
    · exact key _ (List.erase_sublist) rfl
    · exact ⟨List.Sublist.refl _, rfl⟩
  · split
    · exact key _ (List.erase_sublist) rfl
    · exact ⟨List.Sublist.refl _, rfl⟩

theorem grantGet_step {s : KState ℚ σ} (h : Pkg s none) (r : ResId) (e : EvId) (v : Val)
    (hmem : e ∈ (s.res r).getQ) (hv : getItem s r e = some v) :
    doGet s r e = ((takeOut s r e v).trigger e (.ok v), true) ∧ ((takeOut s r e v).trigger e (.ok v)).triggered e = true ∧
    Pkg (dropGetQ ((takeOut s r e v).trigger e (.ok v)) r e) none ∧
    RStep r s (dropGetQ ((takeOut s r e v).trigger e (.ok v)) r e) ∧
    ((dropGetQ ((takeOut s r e v).trigger e (.ok v)) r e).res r).getQ = (s.res r).getQ.erase e ∧
    ((dropGetQ ((takeOut s r e v).trigger e (.ok v)) r e).res r).putQ = (s.res r).putQ ∧
    ((dropGetQ ((takeOut s r e v).trigger e (.ok v)) r e).res r).items.Sublist (s.res r).items ∧
    ∀ rem, Pend (dropGetQ ((takeOut s r e v).trigger e (.ok v)) r e) rem (.trigPut r) := by
  obtain ⟨hkind, _, l, hl, hml⟩ := h.getQ r e hmem
  have hin : e < s.events.size := KState.lt_of_cbs hl
  obtain ⟨ha, ra, qa⟩ := takeOut_pkg (h.weaken (ex := some e)) r e v
  have hina : e < (takeOut s r e v).events.size := Nat.lt_of_lt_of_le hin ra.fr.size_le
  obtain ⟨la, hla, hma⟩ := ra.fr.cbs e l hl
  have hb := ha.trigger e (.ok v) hina (fun _ => Or.inr rfl)
  have nb := NR.trigger (takeOut s r e v) e (.ok v)
  have hpend := fun rem => Pend.of_trigger (takeOut s r e v) e (.ok v) rem (.trigPut r) la hla (hma _ rfl hml)
  have htrig : ((takeOut s r e v).trigger e (.ok v)).triggered e = true := by
    unfold KState.triggered KState.trigger
    rw [KState.ev_schedule, KState.out_setOut _ e _ hina]; rfl
  obtain ⟨hc, rc⟩ := dropGetQ_pkg hb r e
  have hqb : (((takeOut s r e v).trigger e (.ok v)).res r).getQ = (s.res r).getQ := by
    rw [nb.res_eq r, (qa r).2]
  have hrin : r < ((takeOut s r e v).trigger e (.ok v)).resources.size :=
    res_lt_of_getQ (by rw [hqb]; exact List.ne_nil_of_mem hmem)
  have hres := res_dropGetQ ((takeOut s r e v).trigger e (.ok v)) r e hrin
  have hgetQ : ((dropGetQ ((takeOut s r e v).trigger e (.ok v)) r e).res r).getQ = (s.res r).getQ.erase e := by
    rw [hres]; dsimp only
    rw [hqb]
  have hall : RStep r s (dropGetQ ((takeOut s r e v).trigger e (.ok v)) r e) :=
    (ra.trans (RStep.of_nr nb)).trans rc
  refine ⟨by unfold doGet; rw [hv], htrig, ?_, hall, hgetQ, ?_, ?_, ?_⟩
  · refine hc.unexempt (noQ_of_get hc r e ?_ ?_)
    · rw [hall.fr.kind e hin]; exact hkind
    · rw [hgetQ]
      exact fun hm => (List.Nodup.mem_erase_iff (h.nodupG r)).mp hm |>.1 rfl
  · rw [hres]; dsimp only
    rw [nb.res_eq r, (qa r).1]
  · rw [hres]; dsimp only
    rw [nb.res_eq r]; exact (takeOut_items s r e v).1
  · intro rem
    exact (hpend rem).mono rc.fr rfl

theorem scanGet_cons_grant (r : ResId) (e : EvId) (rest : List EvId) (s sb : KState ℚ σ)
    (hd : doGet s r e = (sb, true)) (ht : sb.triggered e = true) :
    scanGet r (e :: rest) s = scanGet r rest (dropGetQ sb r e) := by
  rw [scanGet]
  simp only [hd, ht, if_true]

theorem scanGet_cons_block (r : ResId) (e : EvId) (rest : List EvId) (s : KState ℚ σ)
    (hd : doGet s r e = (s, false)) (ht : s.triggered e = false) :
    scanGet r (e :: rest) s = s := by
  rw [scanGet]
  simp only [hd, ht, Bool.false_eq_true, if_false]

theorem scanGet_cons_skip (r : ResId) (e : EvId) (rest : List EvId) (s : KState ℚ σ)
    (hd : doGet s r e = (s, true)) (ht : s.triggered e = false) :
    scanGet r (e :: rest) s = scanGet r rest s := by
  rw [scanGet]
  simp only [hd, ht, Bool.false_eq_true, if_false, if_true]

theorem beq_fstore_false {k : ResKind} (h : k ≠ .fstore) : (k == ResKind.fstore) = false := by
  cases k <;> first | rfl | exact absurd rfl h

theorem getItem_fstore (s : KState ℚ σ) (r : ResId) (e : EvId) (hk : (s.res r).kind = .fstore) :
    getItem s r e = ((s.res r).items.find? (filterOk (reqOf s e).filter)).map Val.int := by
  unfold getItem; simp only [hk]

theorem getItem_fstore_none {s s' : KState ℚ σ} {r : ResId} {x : EvId} (hk : (s.res r).kind = .fstore)
    (hk' : (s'.res r).kind = .fstore) (hsub : (s'.res r).items.Sublist (s.res r).items)
    (hreq : (reqOf s' x).strip = (reqOf s x).strip) (hn : getItem s r x = none) : getItem s' r x = none := by
  rw [getItem_fstore s r x hk] at hn
  rw [getItem_fstore s' r x hk', strip_filter hreq]
  simp only [Option.map_eq_none_iff, List.find?_eq_none] at hn ⊢
  intro y hy
  exact hn y (hsub.subset hy)

/-- `pre` are the requests the scan has passed over: only a `FilterStore` passes over a request, and only over one that
matches nothing. -/
theorem scanGet_post (r : ResId) : ∀ (q pre : List EvId) (s : KState ℚ σ), Pkg s none → (s.res r).getQ = pre ++ q →
    (∀ x ∈ pre, (s.res r).kind = .fstore ∧ getItem s r x = none) →
    Pkg (scanGet r q s) none ∧ RStep r s (scanGet r q s) ∧ ((scanGet r q s).res r).putQ = (s.res r).putQ ∧
    GetBlocked (scanGet r q s) r ∧ (scanGet r q s = s ∨ ∀ rem, Pend (scanGet r q s) rem (.trigPut r)) := by
  intro q
  induction q with
  | nil =>
    intro pre s h hq hpre
    rw [List.append_nil] at hq
    refine ⟨h, RStep.refl r s, rfl, ⟨fun e he => ?_, fun _ e hm => ?_⟩, Or.inl rfl⟩
    · exact (hpre e (hq ▸ List.mem_of_mem_head? he)).2
    · exact (hpre e (hq ▸ hm)).2
  | cons e rest ih =>
    intro pre s h hq hpre
    have hmem : e ∈ (s.res r).getQ := by rw [hq]; exact List.mem_append_right _ List.mem_cons_self
    have ht : s.triggered e = false := by
      have := ((h.getQ r e hmem).2.1).resolve_right nofun
      unfold KState.triggered; rw [this]; rfl
    cases hv : getItem s r e with
    | some v =>
      obtain ⟨hd, ht', hp, hr, hgq, hpq, hsub, hpend⟩ := grantGet_step h r e v hmem hv
      rw [scanGet_cons_grant r e rest s _ hd ht']
      have hgq' : ((dropGetQ ((takeOut s r e v).trigger e (.ok v)) r e).res r).getQ = pre ++ rest := by
        rw [hgq, List.erase_mid_of_nodup hq (h.nodupG r)]
      have hpre' : ∀ x ∈ pre, ((dropGetQ ((takeOut s r e v).trigger e (.ok v)) r e).res r).kind = .fstore ∧
          getItem (dropGetQ ((takeOut s r e v).trigger e (.ok v)) r e) r x = none := by
        intro x hx
        have hk' := (hr.fr.resKind r).1.trans (hpre x hx).1
        have hxm : x ∈ (s.res r).getQ := by rw [hq]; exact List.mem_append_left _ hx
        obtain ⟨l, hl, _⟩ := (h.getQ r x hxm).2.2
        exact ⟨hk', getItem_fstore_none (hpre x hx).1 hk' hsub (hr.fr.req x (KState.lt_of_cbs hl)) (hpre x hx).2⟩
      obtain ⟨ip, ir, iq, ib, _⟩ := ih pre _ hp hgq' hpre'
      exact ⟨ip, hr.trans ir, iq.trans hpq, ib, Or.inr fun rem => (hpend rem).mono ir.fr rfl⟩
    | none =>
      by_cases hk : (s.res r).kind = .fstore
      · have hd : doGet s r e = (s, true) := by
          unfold doGet; rw [hv]; simp only [hk]; rfl
        rw [scanGet_cons_skip r e rest s hd ht]
        refine ih (pre ++ [e]) s h (by rw [hq, List.append_assoc]; rfl) ?_
        intro x hx
        rcases List.mem_append.mp hx with hx | hx
        · exact hpre x hx
        · rw [List.mem_singleton.mp hx]; exact ⟨hk, hv⟩
      · have hd : doGet s r e = (s, false) := by
          unfold doGet; rw [hv]; simp only [beq_fstore_false hk]
        rw [scanGet_cons_block r e rest s hd ht]
        refine ⟨h, RStep.refl r s, rfl, ⟨fun e' he' => ?_, fun hk' => absurd hk' hk⟩, Or.inl rfl⟩
        cases pre with
        | nil => rw [hq] at he'; cases he'; exact hv
        | cons p ps => exact absurd (hpre p List.mem_cons_self).1 hk

theorem triggerGet_post {s : KState ℚ σ} (h : Pkg s none) (r : ResId) :
    Pkg (triggerGet s r) none ∧ RStep r s (triggerGet s r) ∧ ((triggerGet s r).res r).putQ = (s.res r).putQ ∧
    GetBlocked (triggerGet s r) r ∧ (triggerGet s r = s ∨ ∀ rem, Pend (triggerGet s r) rem (.trigPut r)) :=
  scanGet_post r _ [] s h rfl (fun _ hx => nomatch hx)

theorem triggerPut_post {s : KState ℚ σ} (h : Pkg s none) (r : ResId) :
    Pkg (triggerPut s r) none ∧ RStep r s (triggerPut s r) ∧ ((triggerPut s r).res r).getQ = (s.res r).getQ ∧
    PutBlocked (triggerPut s r) r ∧ (triggerPut s r = s ∨ ∀ rem, Pend (triggerPut s r) rem (.trigGet r)) :=
  scanPut_post r _ s h rfl
