import OnlVerif.Lemmas.DRRKBasic
/-!
# The DRR scheduler on the kernel model: configuration steps (no kernel terms here)

`AStep n e a q a' new`: processing the agenda entry `q` in a kernel state with `n` events and entry counter `e` takes the
configuration `a` to `a'` and appends `new` to the history of observations.  A burst of `run` is `A.burst` followed by what
its end does (a `get` on a per-class store, a transmission, the wait for the wake-up token).  The clock can advance to the
next entry without changing anything else (`AInv.advance`).
-/

namespace DRRK
open DRROnK QEntry

/-! ## a burst changes only the class counters, the credits, `head_of_line` and the ghost -/

structure SameBut (a a' : A) : Prop where
  run : a'.run = a.run
  src : a'.src = a.src
  pend : a'.pend = a.pend
  tokens : a'.tokens = a.tokens
  items : a'.items = a.items
  cnt : a'.cnt = a.cnt
  byt : a'.byt = a.byt
  recv : a'.recv = a.recv
  cur : a'.cur = a.cur
  keys : a'.keys = a.keys

theorem SameBut.rfl' (a : A) : SameBut a a := ⟨rfl, rfl, rfl, rfl, rfl, rfl, rfl, rfl, rfl, rfl⟩

theorem SameBut.trans {a a' a'' : A} (h1 : SameBut a a') (h2 : SameBut a' a'') : SameBut a a'' :=
  ⟨h2.run.trans h1.run, h2.src.trans h1.src, h2.pend.trans h1.pend, h2.tokens.trans h1.tokens, h2.items.trans h1.items,
   h2.cnt.trans h1.cnt, h2.byt.trans h1.byt, h2.recv.trans h1.recv, h2.cur.trans h1.cur, h2.keys.trans h1.keys⟩

theorem sameBut_finA (a : A) (L : LS) (oe : Option LoopEnd) : SameBut a (finA a L oe) :=
  ⟨rfl, rfl, rfl, rfl, rfl, rfl, rfl, rfl, rfl, rfl⟩

theorem sameBut_book {size : Int → Nat} (a : A) (c : Nat) (id : Int) : SameBut a (a.book size c id) := by
  unfold A.book
  split <;> exact ⟨rfl, rfl, rfl, rfl, rfl, rfl, rfl, rfl, rfl, rfl⟩

theorem sameBut_burst {F : Nat} {Q : Nat → ℚ} {size : Int → Nat} {ws : List (Nat × Nat)} {P : Nat} (a : A) (t : ℚ) (en : Entry) :
    SameBut a (a.burst F Q size ws P t en).a := by
  cases en with
  | top => exact sameBut_finA _ _ _
  | got m id =>
    simp only [A.burst]
    split
    · split
      · exact SameBut.rfl' a
      · exact ⟨rfl, rfl, rfl, rfl, rfl, rfl, rfl, rfl, rfl, rfl⟩
    · exact SameBut.rfl' a
  | done m id =>
    simp only [A.burst]
    split
    · exact (sameBut_book a _ id).trans (sameBut_finA _ _ _)
    · exact SameBut.rfl' a

def StartsAt (a : A) (q : QEntry ℚ) : Entry → Prop
  | .top => a.run = .init q ∨ ∃ g, a.run = .K g q
  | .got m id => ∃ g, a.run = .H g m id q
  | .done m id => ∃ p, a.run = .F p m id q

/-- **how a burst of `run` ends** (`r` = what `A.burst` computes; `n`, `e` = the next event and entry numbers): the phase `run`
goes to, and what is observed after the loops -/
inductive BurstEnd (F n e : Nat) (t : ℚ) (a : A) (r : BurstRes) : A → List (HEv ℚ) → Prop
  | get (m' c' : Nat) (id' : Int) (is : List Int) (hfin : r.fin = .get m' c') (hc' : c' < F) (hit : a.items c' = id' :: is) :
      BurstEnd F n e t a r { r.a with run := .H n m' id' ⟨t, NORMAL, e, n⟩, items := upd r.a.items c' is } r.evs
  | send (m' c' : Nat) (id' : Int) (pk : Bool) (hfin : r.fin = .send m' c' id' pk) :
      BurstEnd F n e t a r { r.a with run := .S n m' id' ⟨t, URGENT, e, n + 1⟩, cur := some id' } (r.evs ++ [.serve id' t])
  | block (hfin : r.fin = .idle) (htk : a.tokens = 0) : BurstEnd F n e t a r { r.a with run := .W n } (r.evs ++ [.idle t])
  | tok (k : Nat) (hfin : r.fin = .idle) (htk : a.tokens = k + 1) :
      BurstEnd F n e t a r { r.a with run := .K n ⟨t, NORMAL, e, n⟩, tokens := k } (r.evs ++ [.idle t])

/-- where the source goes after a `put` (or at its start): it sleeps until the next arrival (timeout event `ev`, entry number
`eid`) or its generator returns (process event 2) -/
def srcNext (now : ℚ) (eid : Nat) (ev : EvId) : List (ℚ × Int) → SPhase
  | [] => .ending ⟨now, NORMAL, eid, 2⟩
  | (gap, id) :: r => .wait id r ⟨now + gap, NORMAL, eid, ev⟩

theorem txTime_nonneg {size : Int → Nat} {rate : ℚ} (hrate : 0 < rate) (id : Int) : 0 ≤ txTime size rate id :=
  Num.ofNat_div_nonneg _ hrate

variable (F : Nat) (flow size : Int → Nat) (cfg : DRR.Cfg ℚ) (Lmax P : Nat)

inductive AStep (n e : Nat) : A → QEntry ℚ → A → List (HEv ℚ) → Prop
  | burst (a : A) (q : QEntry ℚ) (en : Entry) (r : BurstRes) (a' : A) (new : List (HEv ℚ))
      (hst : StartsAt a q en) (hb : a.burst F (qOf cfg) size cfg.weights P q.time en = r) (hend : BurstEnd F n e q.time a r a' new) :
      AStep n e a q a' new
  | sendInit (a : A) (q : QEntry ℚ) (p : EvId) (i : Nat) (id : Int) (h : a.run = .S p i id q) :
      AStep n e a q { a with run := .T p n i id ⟨q.time + txTime size cfg.rate id, NORMAL, e, n⟩, cur := some id } []
  | sendFire (a : A) (q : QEntry ℚ) (p t : EvId) (i : Nat) (id : Int) (h : a.run = .T p t i id q) :
      AStep n e a q { a with run := .F p i id ⟨q.time, NORMAL, e, p⟩, cnt := upd a.cnt (flow id) (a.cnt (flow id) + -1),
                             byt := upd a.byt (flow id) (a.byt (flow id) + -(size id : Int)), cur := none } [.out id q.time]
  | srcInit (a : A) (q : QEntry ℚ) (arr : List (ℚ × Int)) (h : a.src = .init q arr) :
      AStep n e a q { a with src := srcNext q.time e n arr } []
  | srcPutTok (a : A) (q : QEntry ℚ) (id : Int) (arr : List (ℚ × Int)) (h : a.src = .wait id arr q) (htot : a.total F = 0) :
      AStep n e a q { a with
        src := srcNext q.time (e + 1 + 1) (n + 1 + 1) arr
        pend := a.pend ++ [(⟨q.time, NORMAL, e, n⟩, 0), (⟨q.time, NORMAL, e + 1, n + 1⟩, flowStore (flow id))]
        tokens := a.tokens + 1
        items := upd a.items (flow id) (a.items (flow id) ++ [id])
        cnt := upd a.cnt (flow id) (a.cnt (flow id) + 1)
        byt := upd a.byt (flow id) (a.byt (flow id) + (size id : Int))
        recv := a.recv + 1
        keys := addKey a.keys (flow id)
        ccnt := upd a.ccnt (flow id) (a.ccnt (flow id) + 1) } [.put id q.time]
  | srcPutPlain (a : A) (q : QEntry ℚ) (id : Int) (arr : List (ℚ × Int)) (h : a.src = .wait id arr q) (htot : a.total F ≠ 0) :
      AStep n e a q { a with
        src := srcNext q.time (e + 1) (n + 1) arr
        pend := a.pend ++ [(⟨q.time, NORMAL, e, n⟩, flowStore (flow id))]
        items := upd a.items (flow id) (a.items (flow id) ++ [id])
        cnt := upd a.cnt (flow id) (a.cnt (flow id) + 1)
        byt := upd a.byt (flow id) (a.byt (flow id) + (size id : Int))
        recv := a.recv + 1
        keys := addKey a.keys (flow id)
        ccnt := upd a.ccnt (flow id) (a.ccnt (flow id) + 1) } [.put id q.time]
  | srcEnd (a : A) (q : QEntry ℚ) (h : a.src = .ending q) : AStep n e a q { a with src := .done } []
  | pendNoop (a : A) (q : QEntry ℚ) (r : ResId) (l1 l2 : List (QEntry ℚ × ResId)) (hpe : a.pend = l1 ++ (q, r) :: l2)
      (hno : ¬ (r = 0 ∧ a.tokens ≠ 0 ∧ ∃ g, a.run = .W g)) :
      AStep n e a q { a with pend := l1 ++ l2 } []
  | pendHand (a : A) (q : QEntry ℚ) (g : EvId) (t : Nat) (l1 l2 : List (QEntry ℚ × ResId)) (hpe : a.pend = l1 ++ (q, 0) :: l2)
      (h : a.run = .W g) (htk : a.tokens = t + 1) :
      AStep n e a q { a with pend := l1 ++ l2, run := .K g ⟨q.time, NORMAL, e, g⟩, tokens := t } []

variable {F flow size cfg Lmax P}

theorem mem_run {a : A} {x : QEntry ℚ} (h : x ∈ a.run.entries) : x ∈ a.entries := by
  simp [A.entries, h]

theorem mem_src {a : A} {x : QEntry ℚ} (h : x ∈ a.src.entries) : x ∈ a.entries := by
  simp [A.entries, h]

theorem mem_pend {a : A} {u : QEntry ℚ × ResId} (h : u ∈ a.pend) : u.1 ∈ a.entries := by
  simp only [A.entries, List.mem_append, pendEntries, List.mem_map]
  exact Or.inr (Or.inr ⟨u, h, rfl⟩)

def IsMin (a : A) (q : QEntry ℚ) : Prop := q ∈ a.entries ∧ ∀ x ∈ a.entries, ¬ KeyLt x q

variable {a : A} {now : ℚ} {q : QEntry ℚ}

theorem AInv.now_le (hi : AInv flow F size cfg Lmax P a now) (hq : IsMin a q) : now ≤ q.time := hi.due q hq.1

theorem AInv.waits (hi : AInv flow F size cfg Lmax P a now) (hq : IsMin a q) (h : now < q.time) :
    ((∃ g, a.run = .W g) ∧ a.tokens = 0 ∨ ∃ p t m id q0, a.run = .T p t m id q0) ∧
    ((∃ id rest q0, a.src = .wait id rest q0) ∨ a.src = .done) ∧ a.pend = [] := by
  have hne : ∀ x ∈ a.entries, x.time ≠ now := min_ne_now hi.due hq h
  have hpe : a.pend = [] := List.eq_nil_iff_forall_not_mem.mpr fun u hu => hne u.1 (mem_pend hu) (hi.pend u hu).1
  refine ⟨?_, ?_, hpe⟩
  · have hp := hi.run
    cases hr : a.run <;> rw [hr] at hp
    case W g =>
      refine Or.inl ⟨⟨g, rfl⟩, Decidable.byContradiction fun hc => ?_⟩
      obtain ⟨u, hu⟩ := hp.2.1 hc
      rw [hpe] at hu; cases hu
    case T p t m id q0 => exact Or.inr ⟨p, t, m, id, q0, rfl⟩
    all_goals exact absurd hp.1 (hne _ (mem_run (by simp [hr, RPhase.entries])))
  · have hs := hi.src
    cases hsrc : a.src <;> rw [hsrc] at hs
    case wait id rest q0 => exact Or.inl ⟨id, rest, q0, rfl⟩
    case done => exact Or.inr rfl
    all_goals exact absurd hs.1 (hne _ (mem_src (by simp [hsrc, SPhase.entries])))

theorem AInv.advance (hi : AInv flow F size cfg Lmax P a now) (hq : IsMin a q) : AInv flow F size cfg Lmax P a q.time := by
  rcases eq_or_lt_of_le (hi.now_le hq) with h | h
  · rw [← h]; exact hi
  obtain ⟨hr, hs, hpe⟩ := hi.waits hq h
  refine ⟨?_, ?_, by rw [hpe]; exact fun _ hu => (nomatch hu), fun x hx => not_keyLt_time (hq.2 x hx), hi.cntOK, hi.ccntOK, hi.flowOK,
    hi.holOK, hi.keysOK, hi.dfcOK, hi.table, hi.rate, hi.pass⟩
  · have hp := hi.run
    rcases hr with ⟨⟨g, hr⟩, -⟩ | ⟨p, t, m, id, q0, hr⟩ <;> (rw [hr] at hp ⊢; exact hp)
  · have hp := hi.src
    rcases hs with ⟨id, rest, q0, hs⟩ | hs <;> (rw [hs] at hp ⊢; exact hp)

end DRRK
