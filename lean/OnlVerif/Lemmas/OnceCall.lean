import OnlVerif.Lemmas.OnceRes
/-! # The invariant through conditions, every API call, and whole bursts -/

namespace Once
variable {σ : Type}

theorem out_none_of_not_triggered (s : KState ℚ σ) (e : EvId) (h : ¬ s.triggered e = true) : (s.ev e).out = none := by
  unfold KState.triggered at h
  cases ho : (s.ev e).out with
  | none => rfl
  | some o => rw [ho] at h; exact absurd rfl h

theorem Inv.condCheck {g : Ghost} {s : KState ℚ σ} (hi : Inv g s) (c e : EvId) (hc : isCond s c = true) :
    Inv g (_root_.condCheck s c e) := by
  unfold _root_.condCheck
  split
  · exact hi
  · rename_i hnt
    have hout := out_none_of_not_triggered s c hnt
    have hlt := lt_of_isCond s c hc
    have hb : SameC s (s.bumpCount c) := SameC.of_setEv s c _ rfl rfl rfl
    split
    · have hd : SameC (s.bumpCount c) ((s.bumpCount c).defuse e) := SameC.of_setEv _ e _ rfl rfl rfl
      refine ((hi.bumpCount c).defuse e).trigger c _ ?_ ?_ ?_
      · rw [hd.size, hb.size]; exact hlt
      · rw [hd.out, hb.out]; exact hout
      · right; rw [isCond_congr (hd.kind c), isCond_congr (hb.kind c)]; exact hc
    · split
      · refine (hi.bumpCount c).trigger c _ ?_ ?_ ?_
        · rw [hb.size]; exact hlt
        · rw [hb.out]; exact hout
        · right; rw [isCond_congr (hb.kind c)]; exact hc
      · exact hi.bumpCount c

theorem Inv.eraseCheck {g : Ghost} {s : KState ℚ σ} (hi : Inv g s) (c e : EvId) : Inv g (_root_.eraseCheck s c e) := by
  unfold _root_.eraseCheck
  split
  · split
    · exact hi.eraseCb_other _ _ (fun p h => by cases h)
    · exact hi
  · exact hi

theorem Inv.foldl {g : Ghost} {α : Type} (f : KState ℚ σ → α → KState ℚ σ) (hf : ∀ s a, Inv g s → Inv g (f s a)) :
    ∀ (l : List α) (s : KState ℚ σ), Inv g s → Inv g (l.foldl f s)
  | [], _, hi => hi
  | a :: l, s, hi => Inv.foldl f hf l (f s a) (hf s a hi)

theorem Inv.removeChecks {g : Ghost} : ∀ (fuel : Nat) (c : EvId) (s : KState ℚ σ), Inv g s →
    Inv g (_root_.removeChecks fuel c s)
  | 0, _, _, hi => hi
  | n + 1, c, s, hi => by
    unfold _root_.removeChecks
    apply Inv.foldl _ _ _ _ hi
    intro s e hs
    split
    · exact Inv.removeChecks n e _ (hs.eraseCheck c e)
    · exact hs.eraseCheck c e

theorem Inv.condBuild {g : Ghost} {s : KState ℚ σ} (hi : Inv g s) (c : EvId) : Inv g (_root_.condBuild s c) := by
  unfold _root_.condBuild
  simp only
  split
  · rename_i v hv
    exact (Inv.removeChecks _ _ s hi).setOut_triggered c _ (by rw [hv]; simp)
  · exact Inv.removeChecks _ _ s hi

theorem mkCond_eq (s : KState ℚ σ) (all : Bool) (ops : List EvId) :
    (_root_.mkCond s all ops).1 =
      if ops.isEmpty then (s.newLabelled { kind := .cond all ops, cbs := some [], out := none }).1.trigger s.events.size (.ok (.cv []))
      else (ops.foldl (fun x e => if x.processed e then _root_.condCheck x s.events.size e
          else x.addCb e (.check s.events.size))
        (s.newLabelled { kind := .cond all ops, cbs := some [], out := none }).1).addCb s.events.size (.build s.events.size) := by
  unfold _root_.mkCond
  simp only
  split <;> rfl

theorem Inv.mkCond {g : Ghost} {s : KState ℚ σ} (hi : Inv g s) (all : Bool) (ops : List EvId) :
    Inv g (_root_.mkCond s all ops).1 := by
  rw [mkCond_eq]
  have h1 : Inv g (s.newLabelled { kind := .cond all ops, cbs := some [], out := none }).1 :=
    hi.newLabelled_pending _ [] rfl (fun p hm => by simp at hm) (fun iv hm => by simp at hm) (fun c hm => by simp at hm) rfl
  have hev : (s.newLabelled { kind := .cond all ops, cbs := some [], out := none }).1.ev s.events.size =
      { kind := .cond all ops, cbs := some [], out := none, label := s.nlabel + 1 } := by
    rw [KState.ev_newLabelled, if_pos rfl]
  have hc1 : isCond (s.newLabelled { kind := .cond all ops, cbs := some [], out := none }).1 s.events.size = true := by
    unfold isCond; rw [hev]
  have hsz : s.events.size < (s.newLabelled { kind := .cond all ops, cbs := some [], out := none }).1.events.size := by
    simp [KState.newLabelled]
  generalize (s.newLabelled { kind := .cond all ops, cbs := some [], out := none }).1 = s1 at h1 hev hc1 hsz
  generalize s.events.size = c at hev hc1 hsz
  split
  · exact h1.trigger _ _ hsz (by rw [hev]) (Or.inr hc1)
  · -- the operands are subscribed or checked one by one
    have hfold : ∀ (l : List EvId) (x : KState ℚ σ), Inv g x → isCond x c = true →
        Inv g (l.foldl (fun x e => if x.processed e then _root_.condCheck x c e else x.addCb e (.check c)) x) ∧
        isCond (l.foldl (fun x e => if x.processed e then _root_.condCheck x c e else x.addCb e (.check c)) x) c = true := by
      intro l
      induction l with
      | nil => intro x hx hcx; exact ⟨hx, hcx⟩
      | cons a l ih =>
        intro x hx hcx
        simp only [List.foldl_cons]
        apply ih
        · split
          · exact hx.condCheck _ _ hcx
          · exact hx.addCb _ (.check c) (fun p h => by cases h) (fun iv h => by cases h) (fun c' h => by cases h; exact hcx)
        · have hlt := lt_of_isCond x _ hcx
          split
          · rw [isCond_congr ((EvMono.krel.condCheck x _ a).kind _ hlt)]; exact hcx
          · have : ((x.addCb a (.check c)).ev c).kind = (x.ev c).kind := kind_setEv x a c _ rfl
            rw [isCond_congr this]; exact hcx
    obtain ⟨h2, _⟩ := hfold ops s1 h1 hc1
    exact h2.addCb _ (.build c) (fun p h => by cases h) (fun iv h => by cases h) (fun c' h => by cases h)

theorem Inv.spawn {g : Ghost} {s : KState ℚ σ} (hi : Inv g s) (self : EvId) (st : σ) :
    Inv g (doCall s self (.spawn st)).1 := by
  simp only [_root_.doCall]
  -- the process event is new: no record, registration or ghost mentions it
  have hfresh : ∀ x, (s.ev x).kind = .proc → x ≠ s.events.size := fun x h he => Nat.lt_irrefl _ (he ▸ lt_of_proc s x h)
  have hnoproc : s.proc? s.events.size = none := by
    cases h : s.proc? s.events.size with
    | none => rfl
    | some pr => exact absurd rfl (hfresh _ (hi.c.procs _ pr h))
  have hev1 : (s.newLabelled { kind := .proc, cbs := some [], out := none }).1.ev s.events.size =
      { kind := .proc, cbs := some [], out := none, label := s.nlabel + 1 } := by
    rw [KState.ev_newLabelled, if_pos rfl]
  have hsz1 : (s.newLabelled { kind := .proc, cbs := some [], out := none }).1.events.size = s.events.size + 1 := by
    simp [KState.newLabelled]
  have h3 := (hi.newLabelled_pending { kind := .proc, cbs := some [], out := none } [] rfl (fun p hm => by simp at hm)
    (fun iv hm => by simp at hm) (fun c hm => by simp at hm) rfl).start s.events.size
    { st := st, target := some (s.events.size + 1) }
    { kind := .init s.events.size, cbs := some [.resume s.events.size], out := some (.ok .none) }
    (by rw [hev1]) (by rw [hev1]) hnoproc (fun h => hfresh _ (hi.c.pend _ (Or.inl h)).2.1 rfl)
    (fun h => hfresh _ (hi.c.pend _ (Or.inr h)).2.1 rfl) (by rw [hsz1]) rfl (by simp)
  rw [hsz1] at h3
  refine h3.schedule _ _ ?_ ?_ ?_
  · simp [KState.ev_newEv, KState.setProc, hsz1]
  · simp [KState.ev_newEv, KState.setProc, hsz1]
  · intro b hb
    exact Nat.ne_of_lt (Nat.lt_succ_of_lt (hi.c.agenda_lt b hb))

theorem ite_state {P : KState ℚ σ → Prop} {c : Prop} [Decidable c] {a b : KState ℚ σ} (ha : P a) (hb : ¬ c → P b) :
    P (if c then a else b) := by
  split
  · exact ha
  · exact hb ‹_›

theorem Inv.doCall {g : Ghost} {s : KState ℚ σ} (hi : Inv g s) (self : EvId) (c : Call ℚ σ) (hs : SafeCall s c) :
    Inv g (_root_.doCall s self c).1 := by
  -- a safe `succeed`/`fail` that is not refused hits an untriggered plain event or condition
  have user : ∀ e o, SafeTarget s e → ¬ s.triggered e = true → Inv g (s.trigger e o) := fun e o h hnt =>
    h.elim (fun h => absurd h hnt) (fun ⟨hlt, hk⟩ => hi.trigger e o hlt (out_none_of_not_triggered s e hnt) hk)
  cases c
  case spawn st => exact hi.spawn self st
  all_goals simp only [_root_.doCall, apply_ite Prod.fst]
  case timeout d v =>
    refine ite_state hi (fun _ => ?_)
    refine InvX.schedule (hi.newLabelled _ [] rfl (fun p hm => by simp at hm) (fun iv hm => by simp at hm)
      (fun c hm => by simp at hm)) _ _ ?_ ?_ ?_
    · show ((s.newLabelled _).1.ev s.events.size).out ≠ none
      rw [KState.ev_newLabelled, if_pos rfl]; simp
    · show ((s.newLabelled _).1.ev s.events.size).cbs ≠ none
      rw [KState.ev_newLabelled, if_pos rfl]; simp
    · intro b hb
      exact Nat.ne_of_lt (hi.c.agenda_lt b hb)
  case event =>
    exact hi.newLabelled_pending _ [] rfl (fun p hm => by simp at hm) (fun iv hm => by simp at hm)
      (fun c hm => by simp at hm) rfl
  case succeed e v => exact ite_state hi (user e _ hs)
  case fail e x => exact ite_state hi (user e _ hs)
  case interrupt p cause =>
    refine ite_state hi (fun _ => ?_)
    have := hi.mkInterrupt p cause
    generalize _root_.mkInterrupt s p cause = r at this ⊢
    obtain ⟨s1, o⟩ := r
    cases o <;> exact this
  case probe e tag =>
    exact ite_state hi (fun _ => hi.addCb _ _ (fun p h => by cases h) (fun iv h => by cases h) (fun c h => by cases h))
  case cond all ops => exact hi.mkCond all ops
  case request r prio pre => exact ite_state hi (fun _ => hi.mkPut r _)
  case release r req => exact ite_state hi (fun _ => hi.mkGet r _)
  case cancel e =>
    have := hi.cancelReq e
    generalize _root_.cancelReq s e = r at this ⊢
    obtain ⟨s1, o⟩ := r
    cases o <;> exact this
  case cput r a => exact ite_state hi (fun _ => ite_state hi (fun _ => hi.mkPut r _))
  case cget r a => exact ite_state hi (fun _ => ite_state hi (fun _ => hi.mkGet r _))
  case sput r it => exact ite_state hi (fun _ => hi.mkPut r _)
  case sget r f => exact ite_state hi (fun _ => hi.mkGet r _)
  case log what v => exact hi.emit _
  case load k => exact hi
  case store k v => exact hi.shared _

theorem Inv.noteErr {g : Ghost} (self : EvId) (sr : KState ℚ σ × Reply) (hi : Inv g sr.1) :
    Inv g (_root_.noteErr self sr) := by
  unfold _root_.noteErr
  split
  · exact hi.emit _
  · exact hi

theorem Inv.runBurst {g : Ghost} (self : EvId) : ∀ (b : Burst ℚ σ) (s : KState ℚ σ), Inv g s → SafeBurst self b s →
    Inv g (_root_.runBurst self b s).1
  | .call c k, s, hi, hs => by
    simp only [_root_.runBurst]
    exact Inv.runBurst self (k _) _ (Inv.noteErr self _ (hi.doCall self c hs.1)) hs.2
  | .yield _ _, _, hi, _ => hi
  | .ret _, _, hi, _ => hi
  | .raise _, _, hi, _ => hi

theorem SafeBurst.yielded (self : EvId) : ∀ (b : Burst ℚ σ) (s : KState ℚ σ), SafeBurst self b s →
    ∀ e st, (_root_.runBurst self b s).2 = .yielded e st → SafeYield (_root_.runBurst self b s).1 self e
  | .call c k, s, hs, e, st, h => by
    simp only [_root_.runBurst] at h ⊢
    exact SafeBurst.yielded self (k _) _ hs.2 e st h
  | .yield e' _, s, hs, e, st, h => by
    simp only [_root_.runBurst] at h ⊢
    cases h
    exact hs
  | .ret _, _, _, _, _, h => by simp [_root_.runBurst] at h
  | .raise _, _, _, _, _, h => by simp [_root_.runBurst] at h

end Once
