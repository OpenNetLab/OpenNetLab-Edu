import OnlVerif.Lemmas.TcpLiveMeasure
/-!
# Every fair step of the closed loop decreases the termination measure (C16)

Each kind of step is first described by what it does to the parts that `mu` shares with the measure over paths with
delay (`tmu`, `TcpLiveTMeasure.lean`): `muA`, `muW`, the two paths, the timers, `last_ack`, the clock and the RTO
(`*_effect`).  The middle components of either measure are then read off those.
-/

open TcpScalar TcpSender TcpSink TcpLoop

namespace TcpLive

variable {n : Nat} {l l' : Loop ℚ}

theorem own_step {act : Act ℚ} (hs : l.step (.own act) = some l') :
    ∃ s' outs, Loop.isAck act = false ∧ l.snd.step act = .ok s' outs ∧
      l'.snd = s' ∧ l'.sink = l.sink ∧ l'.data = l.data ++ outs ∧ l'.acks = l.acks := by
  obtain ⟨s', outs, hack, hst, rfl⟩ := own_eq hs
  exact ⟨s', outs, hack, hst, rfl, rfl, rfl, rfl⟩

theorem deliver_step (h : LInv n l) (hs : l.step .deliver = some l') :
    ∃ tx rest p, l.data = tx :: rest ∧ IsPrefix (packetArrived l.sink tx.seq tx.size) p ∧
      l'.snd = l.snd ∧ l'.sink = packetArrived l.sink tx.seq tx.size ∧ l'.data = rest ∧
      l'.acks = l.acks ++ [Loop.ackFor tx p] := by
  obtain ⟨tx, rest, p, hd, hp, rfl⟩ := deliver_eq h.sink hs
  exact ⟨tx, rest, p, hd, hp, rfl, rfl, rfl, rfl⟩

theorem ack_step (hs : l.step .ackArrive = some l') :
    ∃ x rest s' outs, l.acks = x :: rest ∧ l.snd.step (.ack x) = .ok s' outs ∧
      l'.snd = s' ∧ l'.sink = l.sink ∧ l'.data = l.data ++ outs ∧ l'.acks = rest := by
  obtain ⟨x, rest, s', outs, hd, hst, rfl⟩ := ackArrive_eq hs
  exact ⟨x, rest, s', outs, hd, hst, rfl, rfl, rfl, rfl⟩

theorem wd_append (P : Nat) (a b : List (Tx ℚ)) : wd P (a ++ b) = wd P a + wd P b := by
  unfold wd; rw [List.map_append, List.sum_append]

theorem wa_append (P : Nat) (a b : List (AckIn ℚ)) : wa P (a ++ b) = wa P a + wa P b := by
  unfold wa; rw [List.map_append, List.sum_append]

/-- a data packet outweighs the ACK it causes -/
theorem weight_deliver {P p : Nat} {tx : Tx ℚ} (key : tx.seq = P → P < p) (rest : List (Tx ℚ)) (acks : List (AckIn ℚ)) :
    wd P rest + wa P (acks ++ [Loop.ackFor tx p]) < wd P (tx :: rest) + wa P acks := by
  rw [wa_append]
  unfold wd wa
  simp only [List.map_cons, List.sum_cons, List.map_nil, List.sum_nil]
  show _ + (_ + ((if p = P then 2 else 0) + 0)) < _
  by_cases e : tx.seq = P
  · rw [if_pos e, if_neg (Nat.ne_of_gt (key e))]
    omega
  · rw [if_neg e]
    split_ifs <;> omega

/-- an ACK for `P` outweighs the retransmission of `P` it may cause -/
theorem weight_ack {P : Nat} {x : AckIn ℚ} (hx : x.ackno = P) {outs : List (Tx ℚ)} (ho : wd P outs ≤ 1)
    (data : List (Tx ℚ)) (rest : List (AckIn ℚ)) : wd P (data ++ outs) + wa P rest < wd P data + wa P (x :: rest) := by
  rw [wd_append]
  unfold wa
  simp only [List.map_cons, List.sum_cons, hx, if_true]
  omega

/-- `run` worked off some of what was pending for it; both paths, the timers, `last_ack`, the clock and the RTO are as
before -/
structure Idle (n : Nat) (l l' : Loop ℚ) : Prop where
  muA : muA n l' = muA n l
  muW : muW l' < muW l
  data : l'.data = l.data
  acks : l'.acks = l.acks
  timers : l'.snd.timers = l.snd.timers
  last_ack : l'.snd.last_ack = l.snd.last_ack
  now : l'.snd.now = l.snd.now
  rto : l'.snd.est.rto = l.snd.est.rto

/-- a resumption of `run` sends new segments, or else only consumes its token or its turn -/
theorem wake_effect {fuel : Nat} (h : LInv n l) (hs : l.step (.own (.wake fuel)) = some l') :
    muA n l' < muA n l ∨ Idle n l l' := by
  obtain ⟨s', outs, _, hst, f1, f2, f3, f4⟩ := own_step hs
  obtain ⟨hp, w⟩ := wake_spec h.s hst
  by_cases ho : outs = []
  · subst ho
    rw [List.append_nil] at f3
    have hns : s'.next_seq = l.snd.next_seq := by simpa using w.next_seq
    refine Or.inr ⟨?_, ?_, f3, f4, by rw [f1]; exact w.quiet rfl, by rw [f1]; exact w.last_ack,
      by rw [f1]; exact w.now, by rw [f1, w.est]⟩
    · unfold muA
      rw [f1, f2, w.last_ack, hns]
    · unfold muW
      rw [f1, f3, f4, w.last_ack]
      have := w.procm hp
      unfold pm
      rw [hp]
      simp only [if_true]
      omega
  · left
    have hlen : 0 < outs.length * l.snd.mss := Nat.mul_pos (List.length_pos_iff.mpr ho) h.s.mpos
    have := w.sinv.ns_le
    have := w.next_seq
    unfold muA
    rw [f1, f2, w.last_ack]
    omega

theorem handoff_effect (hs : l.step (.own .handoff) = some l') : Idle n l l' := by
  obtain ⟨s', outs, _, hst, f1, f2, f3, f4⟩ := own_step hs
  obtain ⟨hb, htok, rfl, rfl⟩ := handoff_spec hst
  rw [List.append_nil] at f3
  refine ⟨?_, ?_, f3, f4, by rw [f1], by rw [f1], by rw [f1], by rw [f1]⟩
  · unfold muA
    rw [f1, f2]
  · unfold muW
    rw [f1, f3, f4]
    unfold pm
    show _ + (2 * (l.snd.tokens - 1) + if Proc.runnable = Proc.runnable then 1 else 0) < _
    rw [hb]
    simp
    omega

/-- an expiry re-arms the timer of `q` one doubled RTO ahead and puts a copy of `q` on the data path; if `q` is not
the segment at `last_ack`, that one is under a timer as well -/
theorem fire_effect {q : Nat} (h : LInv n l) (hs : l.step (.own (.fire q)) = some l') :
    ∃ tr nt : TimerRec ℚ, AL.get? q l.snd.timers = some tr ∧ tr.wake = l.snd.now ∧
      nt.wake = l.snd.now + l.snd.est.rto * 2 ∧ l'.snd.timers = AL.set q nt l.snd.timers ∧
      l'.snd.last_ack = l.snd.last_ack ∧ l'.snd.now = l.snd.now ∧ l'.snd.est.rto = l.snd.est.rto * 2 ∧
      l'.data = l.data ++ [{ seq := q, size := l.snd.mss, stamp := l.snd.now, kind := .resend }] ∧ l'.acks = l.acks ∧
      muA n l' = muA n l ∧ (q ≠ l.snd.last_ack → l.snd.last_ack ∈ AL.keys l.snd.timers) := by
  obtain ⟨s', outs, _, hst, f1, f2, f3, f4⟩ := own_step hs
  obtain ⟨tr, S, ht, _, hwake, _, _, rfl, rfl⟩ := fire_spec h.s.inv hst
  refine ⟨tr, { expiry := l.snd.now + l.snd.est.rto * 2, wake := l.snd.now + l.snd.est.rto * 2, live := true },
    ht, hwake, rfl, by rw [f1], by rw [f1], by rw [f1], by rw [f1], f3, f4, by unfold muA; rw [f1, f2], ?_⟩
  intro hq
  have hqk : q ∈ AL.keys l.snd.timers := AL.mem_of_get?_some ht
  apply h.s.tm
  have := h.s.tge q hqk
  have := (h.s.tk q hqk).2
  omega

/-- the clock moves to `t`, which no timer precedes; nothing else changes -/
theorem tick_effect {t : ℚ} (h : LInv n l) (hs : l.step (.own (.tick t)) = some l') :
    l'.snd.timers = l.snd.timers ∧ l'.snd.last_ack = l.snd.last_ack ∧ l'.snd.now = t ∧
      l'.snd.est.rto = l.snd.est.rto ∧ l'.data = l.data ∧ l'.acks = l.acks ∧ muA n l' = muA n l ∧ muW l' = muW l ∧
      ∀ kv ∈ l.snd.timers, t ≤ kv.2.wake := by
  obtain ⟨s', outs, _, hst, f1, f2, f3, f4⟩ := own_step hs
  obtain ⟨_, _, _, hov, rfl, rfl⟩ := tick_spec hst
  rw [List.append_nil] at f3
  exact ⟨by rw [f1], by rw [f1], by rw [f1], by rw [f1], f3, f4, by unfold muA; rw [f1, f2],
    by unfold muW; rw [f1, f3, f4]; rfl, fun kv hkv => (overdue_false_iff _ t).mp hov kv hkv (h.s.live kv hkv).1⟩

/-- a delivery extends the sink's prefix, or else the packet is replaced by its lighter ACK; the ACK for a copy of the
segment at `last_ack` acknowledges beyond it -/
theorem deliver_effect (h : LInv n l) (hs : l.step .deliver = some l') :
    ∃ tx rest p, l.data = tx :: rest ∧ l'.snd = l.snd ∧ l'.data = rest ∧ l'.acks = l.acks ++ [Loop.ackFor tx p] ∧
      (muA n l' < muA n l ∨
        muA n l' = muA n l ∧ muW l' < muW l ∧ (tx.seq = l.snd.last_ack → l.snd.last_ack < p)) := by
  have h' := LInv_step h hs
  obtain ⟨tx, rest, p, hd, hp, f1, f2, f3, f4⟩ := deliver_step h hs
  refine ⟨tx, rest, p, hd, f1, f3, f4, ?_⟩
  obtain ⟨hsep', hcov'⟩ := packetArrived_spec l.sink tx.seq tx.size h.sink
  obtain ⟨m1, m2, m3⟩ := marks n h
  obtain ⟨m1', m2', m3'⟩ := marks n h'
  have hpp : pfx l'.sink = p := by rw [f2]; exact isPrefix_unique (pfx_isPrefix hsep') hp
  have hmono : pfx l.sink ≤ p := isPrefix_mono (pfx_isPrefix h.sink) hp (fun b hb => (hcov' b).mpr (Or.inl hb))
  rw [hpp, f1] at m2'
  by_cases hgain : pfx l.sink < p
  · left
    unfold muA
    rw [hpp, f1]
    exact Nat.add_lt_add_right (Nat.add_lt_add_right
      (Nat.sub_lt_sub_left (lt_of_lt_of_le hgain (m2'.trans m3)) hgain) _) _
  · right
    have hpe : p = pfx l.sink := le_antisymm (Nat.le_of_not_lt hgain) hmono
    obtain ⟨t1, _, _, _⟩ := h.data tx (by rw [hd]; exact List.mem_cons_self)
    have hself : Covers (packetArrived l.sink tx.seq tx.size) tx.seq :=
      (hcov' _).mpr (Or.inr ⟨Nat.le_refl _, by rw [t1]; exact Nat.lt_add_of_pos_right h.s.mpos⟩)
    -- the sink now holds the segment at `last_ack`, so its prefix lies beyond
    have key : tx.seq = l.snd.last_ack → l.snd.last_ack < p := by
      intro e
      by_contra c
      have e2 : p = tx.seq := (le_antisymm (Nat.le_of_not_lt c) (by rw [hpe]; exact m1)).trans e.symm
      exact hp.2 (e2 ▸ hself)
    refine ⟨by unfold muA; rw [hpp, f1, hpe], ?_, key⟩
    unfold muW
    rw [f1, f3, f4, hd]
    exact Nat.add_lt_add_right (weight_deliver key rest l.acks) _

/-- a duplicate ACK leaves timers, marks, clock and estimator alone and retransmits at most the segment at `last_ack` -/
theorem ack_dup_facts {s s' : Sender ℚ} {x : AckIn ℚ} {outs : List (Tx ℚ)} (hc : AckCase s x s' outs)
    (hdup : x.ackno = s.last_ack) :
    s'.timers = s.timers ∧ s'.last_ack = s.last_ack ∧ s'.now = s.now ∧ s'.est = s.est ∧ pm s' = pm s ∧
    s'.next_seq = s.next_seq ∧
    (outs = [] ∨ outs = [{ seq := s.last_ack, size := s.mss, stamp := s.now, kind := .resend }]) := by
  cases hc with
  | stale hlt _ _ => omega
  | early _ _ e1 e2 => subst e1; exact ⟨rfl, rfl, rfl, rfl, rfl, rfl, Or.inl e2⟩
  | dup c S _ _ _ _ _ e1 e2 _ =>
    subst e1
    exact ⟨rfl, rfl, rfl, rfl, rfl, rfl, e2.imp id (fun e => e.2)⟩
  | new T S hlt _ _ _ _ _ _ => exact absurd hdup (Nat.ne_of_gt hlt)

/-- a new ACK advances `last_ack`; a duplicate is consumed, at the price of at most one lighter retransmission -/
theorem ack_effect (h : LInv n l) (hs : l.step .ackArrive = some l') :
    ∃ x rest outs, l.acks = x :: rest ∧ l'.acks = rest ∧ l'.data = l.data ++ outs ∧
      (muA n l' < muA n l ∨
        x.ackno = l.snd.last_ack ∧ muA n l' = muA n l ∧ muW l' < muW l ∧ l'.snd.timers = l.snd.timers ∧
        l'.snd.last_ack = l.snd.last_ack ∧ l'.snd.now = l.snd.now ∧ l'.snd.est.rto = l.snd.est.rto ∧
        (outs = [] ∨ outs = [{ seq := l.snd.last_ack, size := l.snd.mss, stamp := l.snd.now, kind := .resend }])) := by
  obtain ⟨x, rest, s', outs, hd, hst, f1, f2, f3, f4⟩ := ack_step hs
  refine ⟨x, rest, outs, hd, f4, f3, ?_⟩
  have g := (h.acks x (by rw [hd]; exact List.mem_cons_self)).good h
  have hcase := ack_cases h.s.inv g.ok hst
  by_cases hdup : x.ackno = l.snd.last_ack
  · right
    obtain ⟨k1, k2, k3, k4, k5, k6, k7⟩ := ack_dup_facts hcase hdup
    have hwo : wd l.snd.last_ack outs ≤ 1 := by
      rcases k7 with e | e <;> subst e <;> simp [wd]
    refine ⟨hdup, by unfold muA; rw [f1, f2, k2, k6], ?_, by rw [f1, k1], by rw [f1, k2], by rw [f1, k3],
      by rw [f1, k4], k7⟩
    unfold muW
    rw [f1, f3, f4, hd, k2, k5]
    exact Nat.add_lt_add_right (weight_ack hdup hwo l.data rest) _
  · left
    have hla : s'.last_ack = x.ackno ∧ s'.next_seq = l.snd.next_seq := by
      cases hcase with
      | stale hlt _ _ => exact absurd hlt (Nat.not_lt.mpr g.ge)
      | early e _ _ _ => exact absurd e hdup
      | dup _ _ e _ _ _ _ _ _ _ => exact absurd e hdup
      | new T S _ e1 _ _ _ _ _ => subst e1; exact ⟨rfl, rfl⟩
    have hlt : l.snd.last_ack < x.ackno := lt_of_le_of_ne g.ge (Ne.symm hdup)
    unfold muA
    rw [f1, f2, hla.1, hla.2]
    exact Nat.add_lt_add_right (Nat.add_lt_add_left
      (Nat.sub_lt_sub_left (lt_of_lt_of_le hlt (g.le.trans h.s.ns_le)) hlt) _) _

theorem ex_append_one {β : Type} {p : β → Prop} {xs : List β} {y : β} :
    (∃ x ∈ xs ++ [y], p x) ↔ (∃ x ∈ xs, p x) ∨ p y := by
  simp only [List.mem_append, List.mem_singleton, or_and_right, exists_or, exists_eq_left]

theorem mu_pipe (h : InPipe l) : mu n l = (muA n l, 0, 0, due l.snd.timers l.snd.now, muW l) := by
  unfold mu muG muV muC
  rw [if_pos h, if_pos h, if_pos h]

theorem mu_idle (h : ¬ InPipe l) :
    mu n l = (muA n l, 1,
      need (wakeOf l.snd.timers l.snd.last_ack) l.snd.now l.snd.est.rto +
        cnt l.snd.timers l.snd.last_ack (wakeOf l.snd.timers l.snd.last_ack),
      2 * fut l.snd.timers l.snd.now + due l.snd.timers l.snd.now, muW l) := by
  unfold mu muG muV muC
  rw [if_neg h, if_neg h, if_neg h]

/-- a step that lowers the weight and keeps `muA`, the timers, `last_ack`, the clock and the RTO, and does not take
progress out of the pipeline -/
theorem mu_of_pipe (hA : muA n l' = muA n l) (hW : muW l' < muW l) (imp : InPipe l → InPipe l')
    (hT : l'.snd.timers = l.snd.timers) (hP : l'.snd.last_ack = l.snd.last_ack) (hn : l'.snd.now = l.snd.now)
    (hr : l'.snd.est.rto = l.snd.est.rto) : Lt5 (mu n l') (mu n l) := by
  by_cases hip : InPipe l
  · rw [mu_pipe hip, mu_pipe (imp hip), hT, hn]
    exact lt5_5 hA.le le_rfl le_rfl le_rfl hW
  · by_cases hip' : InPipe l'
    · rw [mu_pipe hip', mu_idle hip]
      exact lt5_2 hA.le Nat.zero_lt_one
    · rw [mu_idle hip, mu_idle hip', hT, hP, hn, hr]
      exact lt5_5 hA.le le_rfl le_rfl le_rfl hW

theorem Idle.mu (q : Idle n l l') : Lt5 (mu n l') (mu n l) :=
  mu_of_pipe q.muA q.muW (by unfold InPipe; rw [q.data, q.acks, q.last_ack]; exact id) q.timers q.last_ack q.now q.rto

theorem decr_fire {q : Nat} (h : LInv n l) (hs : l.step (.own (.fire q)) = some l') : Lt5 (mu n l') (mu n l) := by
  obtain ⟨tr, nt, ht, hwake, hnt, fT, fP, fn, fr, fd, fa, hA, hPk⟩ := fire_effect h hs
  have hrto := h.s.inv.rto_pos
  have hpipe : InPipe l' ↔ InPipe l ∨ q = l.snd.last_ack := by
    unfold InPipe
    rw [fP, fd, fa, ex_append_one]
    exact or_right_comm
  by_cases hip : InPipe l
  · -- progress is in the pipeline: one due timer fewer
    rw [mu_pipe hip, mu_pipe (hpipe.mpr (Or.inl hip)), fT, fn]
    exact lt5_4 hA.le le_rfl le_rfl (due_set_lt ht hwake.le (by rw [hnt]; linarith))
  · by_cases hq : q = l.snd.last_ack
    · -- the copy of the segment at `last_ack` enters the pipeline
      rw [mu_pipe (hpipe.mpr (Or.inr hq)), mu_idle hip]
      exact lt5_2 hA.le Nat.zero_lt_one
    · -- one expiry fewer can precede that of the timer of `last_ack`
      rw [mu_idle hip, mu_idle (fun c => (hpipe.mp c).elim hip hq), fT, fP, fn, fr, wakeOf_set_ne nt hq]
      exact lt5_3 hA.le le_rfl (fire_V_P ht hq hwake (now_le_wakeOf h.s (hPk hq)) hnt hrto)

/-- nothing was due before the tick and something is after it: with the not-yet-due counted twice, the count drops -/
theorem tick_count {f d f' d' len : Nat} (a1 : f + d = len) (a2 : f' + d' = len) (d0 : d = 0) (d1 : 0 < d') :
    2 * f' + d' < 2 * f + d := by
  omega

theorem not_inPipe {l : Loop ℚ} (hd : l.data = []) (ha : l.acks = []) : ¬ InPipe l := by
  rintro (⟨_, h, _⟩ | ⟨_, h, _⟩)
  · rw [hd] at h; exact absurd h List.not_mem_nil
  · rw [ha] at h; exact absurd h List.not_mem_nil

theorem decr_tick {t : ℚ} (h : LInv n l) (hd : l.data = []) (ha : l.acks = []) (hlt : l.snd.now < t)
    (hex : ∃ kv ∈ l.snd.timers, kv.2.live = true ∧ Num.eqb kv.2.wake t = true)
    (hs : l.step (.own (.tick t)) = some l') : Lt5 (mu n l') (mu n l) := by
  obtain ⟨fT, fP, fn, fr, fd, fa, hA, _, hge⟩ := tick_effect h hs
  rw [mu_idle (not_inPipe hd ha), mu_idle (not_inPipe (fd.trans hd) (fa.trans ha)), fT, fP, fn, fr]
  -- no timer was due; one is now
  obtain ⟨kv, hkv, _, he⟩ := hex
  exact lt5_4 hA.le le_rfl (Nat.add_le_add_right (need_mono_now _ _ _ _ h.s.inv.rto_pos hlt.le) _)
    (tick_count (fut_add_due _ _) (fut_add_due _ _) (due_zero hlt hge) (due_pos hkv ((eqb_iff _ _).mp he)))

theorem decr_deliver (h : LInv n l) (hs : l.step .deliver = some l') : Lt5 (mu n l') (mu n l) := by
  obtain ⟨tx, rest, p, hd, f1, f3, f4, hA | ⟨hA, hW, key⟩⟩ := deliver_effect h hs
  · exact lt5_1 hA
  · refine mu_of_pipe hA hW ?_ (by rw [f1]) (by rw [f1]) (by rw [f1]) (by rw [f1])
    unfold InPipe
    rw [f1, f3, f4, hd, List.exists_mem_cons_iff, ex_append_one]
    rintro ((e | c) | c)
    · exact Or.inr (Or.inr (key e))
    · exact Or.inl c
    · exact Or.inr (Or.inl c)

theorem decr_ack (h : LInv n l) (hs : l.step .ackArrive = some l') : Lt5 (mu n l') (mu n l) := by
  obtain ⟨x, rest, outs, hd, fa, fd, hA | ⟨hdup, hA, hW, fT, fP, fn, fr, _⟩⟩ := ack_effect h hs
  · exact lt5_1 hA
  · refine mu_of_pipe hA hW ?_ fT fP fn fr
    unfold InPipe
    rw [fP, fd, fa, hd, List.exists_mem_cons_iff]
    rintro (⟨y, hy, e⟩ | e | c)
    · exact Or.inl ⟨y, List.mem_append_left _ hy, e⟩
    · exact absurd e (Nat.not_lt.mpr hdup.le)
    · exact Or.inr c

theorem fair_decreases {a : LAct ℚ} (h : LInv n l) (hf : Loop.Fair l a) (hs : l.step a = some l') :
    Lt5 (mu n l') (mu n l) := by
  cases hf with
  | wake fuel => exact (wake_effect h hs).elim lt5_1 Idle.mu
  | handoff => exact (handoff_effect hs).mu
  | fire q => exact decr_fire h hs
  | deliver => exact decr_deliver h hs
  | ackArrive => exact decr_ack h hs
  | tick t hd ha hlt hex => exact decr_tick h hd ha hlt hex hs

end TcpLive
