import OnlVerif.Lemmas.WRRKOracle
/-!
# The WRR scheduler on the kernel model: the full invariant along runs, and what holds when `run()` has returned
-/

namespace WRRK
open WRROnK MQ

variable {F : Nat} {flow size : Int → Nat} {cfg : WRR.Cfg ℚ} {arrivals : List (ℚ × Int)}
variable {s : KS} {a : A} {q : QEntry ℚ} {rest : List (QEntry ℚ)}

structure Inv3 (F : Nat) (flow size : Int → Nat) (cfg : WRR.Cfg ℚ) (arrivals : List (ℚ × Int)) (s : KS) (a : A) : Prop where
  i : Inv2 F flow cfg s a
  o : ∃ o, OInv F flow size cfg arrivals a s.now (histOf s.trace) o

theorem inv3_step (fuel : Nat) (h : Inv3 F flow size cfg arrivals s a) (hp : popMin s.agenda = some (q, rest)) :
    ∃ s' a', _root_.step (prog F flow size cfg) (fuel + 1) s = .ok s' ∧ Inv3 F flow size cfg arrivals s' a' ∧
      a'.mu F + 1 ≤ a.mu F := by
  obtain ⟨s', a', new, h1, h2, h3, h4, h5, h6, -⟩ := inv_step_lts (size := size) fuel h.i hp
  have hmin := (min_of_pop h.i.i.k.ag hp).1
  obtain ⟨o, ho⟩ := h.o
  obtain ⟨o', ho'⟩ := oinv_step (h.i.i.a.advance hmin) (ho.advance h.i.i.a hmin) h4
  exact ⟨s', a', h1, ⟨h2, o', by rw [h5, h6]; exact ho'⟩, h3⟩

theorem inv3_init (hw : WorkOK flow F arrivals) (ht : FlowsOK F cfg) (hr : 0 < cfg.rate) :
    Inv3 F flow size cfg arrivals (initState F arrivals) (a0 arrivals) := by
  refine ⟨⟨inv_init arrivals hw ht hr, ?_⟩, oInit, ?_⟩
  · rw [initState_trace]; exact ⟨rfl, rfl⟩
  · rw [initState_trace, initState_now]
    refine ⟨rfl, fun f _ => rfl, ?_, ⟨rfl, ?_, rfl, rfl⟩, rfl⟩
    · intro f _ x hx; simp [oInit] at hx
    · intro f _ x hx; simp [oInit] at hx

theorem reach_inv3 (fuel : Nat) (hw : WorkOK flow F arrivals) (ht : FlowsOK F cfg) (hr : 0 < cfg.rate)
    (h : KReach (prog F flow size cfg) (fuel + 1) (initState F arrivals) s) : ∃ a, Inv3 F flow size cfg arrivals s a :=
  KReach.of_step (inv3_init hw ht hr) (fun _ _ _ _ hi hp => let ⟨s', a', h1, h2, _⟩ := inv3_step fuel hi hp; ⟨s', a', h1, h2⟩) h

/-- with an empty agenda everything has been served -/
theorem inv3_final (h : Inv3 F flow size cfg arrivals s a) (he : s.agenda = []) :
    ∃ o, orun F flow size cfg oInit (histOf s.trace) = some o ∧ drained F o = true ∧
      obsPuts (histOf s.trace) = arrivalsFrom 0 arrivals ∧
      (∀ c, heldC (WRR.sched cfg) (toM cfg.flows flow size a s.now) c = []) := by
  have hag := h.i.i.k.ag
  rw [he] at hag
  obtain ⟨⟨g, hrun⟩, hsrc, hpe⟩ := entries_nil (List.Perm.eq_nil hag.symm)
  obtain ⟨o, ho⟩ := h.o
  have hi := h.i.i.a
  have hp := hi.run
  rw [hrun] at hp
  have htk : a.tokens = 0 := by
    by_contra hc
    obtain ⟨u, hu⟩ := hp.2.1 hc
    rw [hpe] at hu; cases hu
  have hit := hp.1 htk
  have hph := ho.ph
  rw [hrun] at hph
  have hw : ∀ f, f < F → o.waiting f = [] := fun f hf => waiting_nil ho hf (by simp [heldH, hrun]) (hit f hf)
  refine ⟨o, ho.run, ?_, ?_, ?_⟩
  · simp only [drained, hph.1, Bool.and_eq_true, List.all_eq_true, List.mem_range]
    exact ⟨rfl, fun f hf => by rw [hw f hf]; rfl⟩
  · have := ho.fut
    rw [hsrc] at this
    simpa [srcFuture] using this
  · intro c
    have hst : storeOf (toM cfg.flows flow size a s.now).stores c = [] := by
      by_cases hc : c < F
      · rw [storeOf_toM hi s.now c hc, hit c hc]; rfl
      · have : c ∉ a.keys := fun hk => hc (hi.keysOK.1 c hk)
        simp [storeOf, lookupD, toM, MQK.Img.st, img, lookup_dictOf, this]
    rw [toM_run hrun] at hst ⊢
    simpa only [heldC, inHand, MQK.Img.st, phaseOf, lookupD, MQ.lookup, List.filter_nil, Option.getD_none,
      Option.toList_none, List.nil_append] using hst

theorem run_returns3 (fuel : Nat) (s0 : KS) : ∀ (n : Nat) (s : KS) (a : A), Inv3 F flow size cfg arrivals s a → a.mu F < n →
    KReach (prog F flow size cfg) (fuel + 1) s0 s →
    ∃ sF aF, runLoop (prog F flow size cfg) (fuel + 1) none n s = .returned .none sF ∧
      Inv3 F flow size cfg arrivals sF aF ∧ sF.agenda = [] ∧ KReach (prog F flow size cfg) (fuel + 1) s0 sF :=
  runLoop_returns (A.mu F) (fun _ _ _ _ hi hp => inv3_step fuel hi hp) s0

/-- the entry and iteration at which a burst of `run` resumes its loops: the next iteration of the visit in progress, or the
top -/
def resumeAt : RPhase → Nat × Nat
  | .S _ m jj _ _ => (m, jj + 1)
  | .T _ _ m jj _ _ => (m, jj + 1)
  | .F _ m jj _ _ => (m, jj + 1)
  | _ => (0, 0)

/-- a configuration step in which `run` takes a packet is a decision of the loops: the packet is the head of the store of
entry `m'` of `weights`, within its weight; either it is the next iteration of the visit in progress, or that visit is over
(allowance used up or store empty) and the store of every entry the cyclic order visits before `m'` is empty before the
step -/
theorem astep_decision {n e : Nat} {a' : A} {new : List (HEv ℚ)} {now : ℚ} (hi : AInv flow F cfg a now)
    (hs : AStep F flow size cfg n e a q a' new) {g : EvId} {m' jj' : Nat} {id : Int} {q' : QEntry ℚ}
    (h' : a'.run = .H g m' jj' id q') (hn : ∀ g m jj id q0, a.run ≠ .H g m jj id q0) :
    (∃ w, cfg.weights[m']? = some (flow id, w) ∧ jj' < w) ∧ (∃ is, a.items (flow id) = id :: is) ∧
      ((m' = (resumeAt a.run).1 ∧ jj' = (resumeAt a.run).2) ∨
        (jj' = 0 ∧
          (∀ f0 w0, cfg.weights[(resumeAt a.run).1]? = some (f0, w0) → w0 ≤ (resumeAt a.run).2 ∨ a.items f0 = []) ∧
          ∀ j' ∈ skipped cfg.weights.length ((resumeAt a.run).1 + 1) m', ∀ e, cfg.weights[j']? = some e → a.items e.1 = [])) := by
  have key : ∀ {m0 j0 m1 j1 f0 : Nat} {id0 : Int} {is0 : List Int}, a.run.held = none →
      a.loop F cfg.weights m0 j0 = .hit m1 j1 f0 → f0 < F → a.items f0 = id0 :: is0 → m1 = m' → j1 = jj' → id0 = id →
      (∃ w, cfg.weights[m']? = some (flow id, w) ∧ jj' < w) ∧ (∃ is, a.items (flow id) = id :: is) ∧
        ((m' = m0 ∧ jj' = j0) ∨
          (jj' = 0 ∧ (∀ f0 w0, cfg.weights[m0]? = some (f0, w0) → w0 ≤ j0 ∨ a.items f0 = []) ∧
            ∀ j' ∈ skipped cfg.weights.length (m0 + 1) m', ∀ e, cfg.weights[j']? = some e → a.items e.1 = [])) := by
    intro m0 j0 m1 j1 f0 id0 is0 hheld hs0 hf0 hit0 hm hj hid
    subst hm hj hid
    have hfl : flow id0 = f0 := hi.flowOK f0 hf0 id0 (by rw [hit0]; simp)
    have hempty : ∀ f', f' < F → ¬ 0 < a.cnt f' → a.items f' = [] := fun f' => hi.store.empty_of_not_pos hheld
    refine ⟨by rw [hfl]; exact (loop_hit_spec hs0).1, ⟨is0, by rw [hfl]; exact hit0⟩, ?_⟩
    rcases loop_hit_cases hs0 with hc | ⟨hj, -, hov, hsk⟩
    · exact Or.inl hc
    · refine Or.inr ⟨hj, ?_, ?_⟩
      · intro f1 w1 h1
        rcases hov f1 w1 h1 with h2 | h2
        · exact Or.inl h2
        · exact Or.inr (hempty f1 (entry_lt hi (List.mem_of_getElem? h1)) h2)
      · intro j' hj' e1 he1
        have hin := List.mem_of_getElem? he1
        exact hempty e1.1 (entry_lt hi hin) (fun hp => hsk j' hj' e1 he1 ⟨hi.table.2 e1 hin, hp⟩)
  cases hs with
  | wakeHit g0 m1 j1 f0 id0 is0 h hs0 hf0 hit0 | doneHit p m0 j0 id1 m1 j1 f0 id0 is0 h hs0 hf0 hit0 =>
    simp only [RPhase.H.injEq] at h'
    have := key (by rw [h]; rfl) hs0 hf0 hit0 h'.2.1 h'.2.2.1 h'.2.2.2.1
    rw [h]
    exact this
  | srcInit | srcPutTok | srcPutPlain | srcEnd | pendNoop => exact absurd h' (hn _ _ _ _ _)
  | _ => cases h'

end WRRK
