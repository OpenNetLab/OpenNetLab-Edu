import OnlVerif.Lemmas.TimerKFrame
import OnlVerif.Lemmas.StampVc
import OnlVerif.Net.VCOnK
/-!
# The VirtualClock scheduler on the kernel model: canonical configurations (definitions)

`A` is an abstract description of a kernel state of the program `VCOnK.prog`: where `VC.run` (and the sender process it has
spawned) and the source are suspended, which agenda entries exist, what the `PriorityStore` holds, the attribute cells, and
(ghost) the `put` history.  `AInv` is what holds of the configurations of a run.  `AStep` is one kernel step seen on
configurations; `toM` is the LTS state a configuration stands for.  That a kernel state *is* a configuration (`KInv`) is said
in `Lemmas/VCKCfg.lean`.
-/

namespace VCK
open VCOnK
open TimerK (lookup)

abbrev St := VcKSt ℚ
abbrev KS := KState ℚ St

/-- a `put` that has happened: packet id, arrival instant, stamp -/
abbrev PutRec := Int × ℚ × ℚ

/-- where `VC.run` (with the sender it waits for) is -/
inductive RPhase where
  /-- not started: its `Initialize` entry `q` is in the agenda -/
  | init (q : QEntry ℚ)
  /-- blocked in `store.get()` (event `g`) -/
  | W (g : EvId)
  /-- that `get` has been served with the item of `w`: entry `q` -/
  | H (g : EvId) (w : PutRec) (q : QEntry ℚ)
  /-- the sender process `p` of packet `id` has been created: its `Initialize` entry `q` -/
  | S (p : EvId) (id : Int) (q : QEntry ℚ)
  /-- the sender `p` sleeps on timeout `t` (entry `q`, due at `q.time`) -/
  | T (p t : EvId) (id : Int) (q : QEntry ℚ)
  /-- the sender's generator has returned: its process event `p` is triggered (entry `q`) -/
  | F (p : EvId) (id : Int) (q : QEntry ℚ)

/-- where the source is -/
inductive SPhase where
  | init (q : QEntry ℚ) (arr : List (ℚ × Int))
  /-- sleeping on the timeout (entry `q`) after which it puts packet `id`; `rest` still to come -/
  | wait (id : Int) (rest : List (ℚ × Int)) (q : QEntry ℚ)
  /-- the generator has returned: the process event (entry `q`) is triggered -/
  | ending (q : QEntry ℚ)
  | done

/-- `g x := v` -/
def upd {β : Type} (g : Nat → β) (f : Nat) (v : β) : Nat → β := fun x => if x = f then v else g x

@[simp] theorem upd_same {β : Type} (g : Nat → β) (f : Nat) (v : β) : upd g f v f = v := by simp [upd]
theorem upd_ne {β : Type} (g : Nat → β) (f f' : Nat) (v : β) (h : f' ≠ f) : upd g f v f' = g f' := by simp [upd, h]
theorem upd_apply {β : Type} (g : Nat → β) (f f' : Nat) (v : β) : upd g f v f' = if f' = f then v else g f' := rfl

structure A where
  run : RPhase
  src : SPhase
  /-- the `StorePut` events that are triggered and not yet processed -/
  pend : List (QEntry ℚ)
  /-- `store.items`: the packets waiting, in the order of their `put` -/
  items : List PutRec
  /-- `queue_count[f]` -/
  cnt : Nat → Int
  /-- `queue_byte_size[f]` -/
  byt : Nat → Int
  /-- `packets_received` -/
  recv : Int
  /-- `current_packet` -/
  cur : Option Int
  /-- `vc[c]` -/
  vc : Nat → ℚ
  /-- `aux_vc[c]` -/
  aux : Nat → ℚ
  /-- (ghost) every `put` so far, in order -/
  puts : List PutRec

def RPhase.entries : RPhase → List (QEntry ℚ)
  | .init q => [q]
  | .W _ => []
  | .H _ _ q => [q]
  | .S _ _ q => [q]
  | .T _ _ _ q => [q]
  | .F _ _ q => [q]

def SPhase.entries : SPhase → List (QEntry ℚ)
  | .init q _ => [q]
  | .wait _ _ q => [q]
  | .ending q => [q]
  | .done => []

def A.entries (a : A) : List (QEntry ℚ) := a.run.entries ++ (a.src.entries ++ a.pend)

/-- the events a configuration talks about (pairwise different); the process event of `VC.run` is 0, of the source 2 -/
def RPhase.ids : RPhase → List EvId
  | .init _ => [0, 1]
  | .W g => [0, g]
  | .H g _ _ => [0, g]
  | .S p _ _ => [0, p, p + 1]
  | .T p t _ _ => [0, p, t]
  | .F p _ _ => [0, p]

def SPhase.ids : SPhase → List EvId
  | .init _ _ => [2, 3]
  | .wait _ _ q => [2, q.ev]
  | .ending _ => [2]
  | .done => []

def pendIds (l : List (QEntry ℚ)) : List EvId := l.map (·.ev)

/-- the `get_queue` of the store -/
def RPhase.getQ : RPhase → List EvId
  | .W g => [g]
  | _ => []

export KExec (pstoreRec)

variable (N scale : Nat)

/-- the integer that carries the `PriorityItem` of a `put` -/
def codeOf (w : PutRec) : Int := stampItem scale N w.2.2 w.1

/-- the value of the `current_packet` cell -/
def curVal : Option Int → Val
  | some id => .int id
  | none => .none

/-- the attribute cells hold `packets_received`, `current_packet`, `queue_count`, `queue_byte_size`, `vc`, `aux_vc` -/
structure Cells (F : Nat) (f : Nat → Val) (recv : Int) (cur : Option Int) (cnt byt : Nat → Int) (vc aux : Nat → ℚ) : Prop where
  c0 : f cRecv = .int recv
  c1 : f cCur = curVal cur
  cc : ∀ k, k < F → f (cCount k) = .int (cnt k)
  cb : ∀ k, k < F → f (cBytes k) = .int (byt k)
  cv : ∀ c, c < F → f (cVc c) = TimeCell.enc (vc c)
  ca : ∀ c, c < F → f (cAux c) = TimeCell.enc (aux c)

/-! ## the abstract side -/

variable (F : Nat) (flow size : Int → Nat) (cfg : VcCfg ℚ)

/-- `x` lies on the grid `ℤ / scale` -/
def OnGrid (x : ℚ) : Prop := ∃ k : ℤ, x = k / (scale : ℚ)

/-- the configuration names exactly the classes `0 … F-1`, each with a positive vtick, `flow2class` is the identity -/
structure CfgOK : Prop where
  rate : 0 < cfg.rate
  vt : ∀ f, f < F → ∃ vt, Stamp.lookup cfg.vticks f = some vt ∧ 0 < vt
  keys : ∀ kv ∈ cfg.vticks, kv.1 < F
  nodup : (cfg.vticks.map (·.1)).Nodup
  f2c : ∀ f, f < F → Stamp.lookup cfg.flow2class f = some f

/-- the vticks and the gaps lie on the grid `ℤ / scale` -/
structure GridOK (arrivals : List (ℚ × Int)) : Prop where
  pos : 0 < scale
  vt : ∀ kv ∈ cfg.vticks, OnGrid scale kv.2
  gaps : ∀ x ∈ arrivals, OnGrid scale x.1

/-- gaps are not negative, packets belong to configured flows, ids increase and stay inside `0 … N-1` -/
structure WorkOK (l : List (ℚ × Int)) : Prop where
  gap : ∀ x ∈ l, 0 ≤ x.1 ∧ flow x.2 < F ∧ 0 ≤ x.2 ∧ x.2 < N ∧ OnGrid scale x.1
  inc : (l.map (·.2)).Pairwise (· < ·)

def RunA (a : A) (now : ℚ) : RPhase → Prop
  | .init q => q.time = now ∧ q.prio = URGENT ∧ a.pend = [] ∧ a.items = [] ∧ a.cur = none ∧ a.puts = []
  | .W _ => (a.items ≠ [] → a.pend ≠ []) ∧ a.cur = none
  | .H _ w q => q.time = now ∧ q.prio = NORMAL ∧ a.cur = none ∧ w ∈ a.puts ∧ w ∉ a.items
  | .S _ id q => q.time = now ∧ q.prio = URGENT ∧ a.cur = none ∧ flow id < F ∧ ∃ w ∈ a.puts, w.1 = id
  | .T _ _ id q => q.prio = NORMAL ∧ a.cur = some id ∧ flow id < F ∧ ∃ w ∈ a.puts, w.1 = id
  | .F _ _ q => q.time = now ∧ q.prio = NORMAL ∧ a.cur = none

def SrcA (a : A) (now : ℚ) : SPhase → Prop
  | .init q arr => q.time = now ∧ now = 0 ∧ q.prio = URGENT ∧ WorkOK N scale F flow arr ∧ a.puts = []
  | .wait id rest q => q.prio = NORMAL ∧ WorkOK N scale F flow ((0, id) :: rest) ∧ OnGrid scale q.time ∧
      ∀ w ∈ a.puts, w.1 < id
  | .ending q => q.time = now ∧ q.prio = NORMAL
  | .done => True

/-- what holds of a configuration at instant `now` -/
structure AInv (a : A) (now : ℚ) : Prop where
  run : RunA F flow a now a.run
  src : SrcA N scale F flow a now a.src
  pend : ∀ u ∈ a.pend, u.time = now ∧ u.prio = NORMAL
  due : ∀ x ∈ a.entries, now ≤ x.time
  /-- the waiting packets are `put`s, in `put` order -/
  sub : a.items.Sublist a.puts
  /-- ids increase and arrival instants do not decrease along the `put`s -/
  mono : a.puts.Pairwise fun x y => x.1 < y.1 ∧ x.2.1 ≤ y.2.1
  /-- every `put` so far: a configured flow, an id in `0 … N-1`, not later than now, a stamp on the grid -/
  putOK : ∀ w ∈ a.puts, flow w.1 < F ∧ 0 ≤ w.1 ∧ w.1 < N ∧ w.2.1 ≤ now ∧ OnGrid scale w.2.2
  /-- `aux_vc` stays on the grid -/
  auxG : ∀ c, c < F → OnGrid scale (a.aux c)
  /-- a flow that is not a dict key yet has counters 0 -/
  keysOK : ∀ f, f ∉ keysOf flow (a.puts.map (·.1)) → a.cnt f = 0 ∧ a.byt f = 0
  cfgOK : CfgOK F cfg
  grid : 0 < scale ∧ ∀ kv ∈ cfg.vticks, OnGrid scale kv.2

/-! ## one kernel step, seen on configurations -/

/-- the source after the `put` (or at its start) at instant `now`: it sleeps on a fresh timeout (event `ev`, entry counter
`eid`) or ends (its process event 2 is triggered) -/
def srcNext (now : ℚ) (eid : Nat) (ev : EvId) : List (ℚ × Int) → SPhase
  | [] => .ending ⟨now, NORMAL, eid, 2⟩
  | (gap, id) :: rest => .wait id rest ⟨now + gap, NORMAL, eid, ev⟩

/-- `w` carries the least integer among the waiting packets: what the `PriorityStore` of `K` hands out -/
def IsLeast (l : List PutRec) (w : PutRec) : Prop := w ∈ l ∧ ∀ x ∈ l, codeOf N scale w ≤ codeOf N scale x

/-- the vtick of a class (0 for an unconfigured one) -/
def vtOf (c : Nat) : ℚ := (Stamp.lookup cfg.vticks c).getD 0

/-- the record of the `put` of packet `id` at instant `now` in configuration `a` -/
def putRec (a : A) (now : ℚ) (id : Int) : PutRec := (id, now, VC.auxOf now (a.aux (flow id)) (vtOf cfg (flow id)))

/-- **one kernel step, seen on configurations**: processing the agenda entry `q` in a kernel state with `n` events and entry
counter `e` takes `a` to `a'` and appends `new` to the history -/
inductive AStep (n e : Nat) : A → QEntry ℚ → A → List (HEv ℚ) → Prop
  | runInit (a : A) (q : QEntry ℚ) (h : a.run = .init q) : AStep n e a q { a with run := .W n } [.get q.time]
  | pktResume (a : A) (q : QEntry ℚ) (g : EvId) (w : PutRec) (h : a.run = .H g w q) :
      AStep n e a q { a with run := .S n w.1 ⟨q.time, URGENT, e, n + 1⟩ } [.serve w.1 q.time]
  | sendInit (a : A) (q : QEntry ℚ) (p : EvId) (id : Int) (h : a.run = .S p id q) :
      AStep n e a q { a with run := .T p n id ⟨q.time + txTime size cfg.rate id, NORMAL, e, n⟩, cur := some id } []
  | sendFire (a : A) (q : QEntry ℚ) (p t : EvId) (id : Int) (h : a.run = .T p t id q) :
      AStep n e a q { a with run := .F p id ⟨q.time, NORMAL, e, p⟩, cnt := upd a.cnt (flow id) (a.cnt (flow id) + -1),
                             byt := upd a.byt (flow id) (a.byt (flow id) + -(size id : Int)), cur := none } [.out id q.time]
  | doneHit (a : A) (q : QEntry ℚ) (p : EvId) (id0 : Int) (w : PutRec) (h : a.run = .F p id0 q)
      (hw : IsLeast N scale a.items w) :
      AStep n e a q { a with run := .H n w ⟨q.time, NORMAL, e, n⟩, items := a.items.erase w } [.get q.time]
  | doneBlock (a : A) (q : QEntry ℚ) (p : EvId) (id0 : Int) (h : a.run = .F p id0 q) (hit : a.items = []) :
      AStep n e a q { a with run := .W n } [.get q.time]
  | srcInit (a : A) (q : QEntry ℚ) (arr : List (ℚ × Int)) (h : a.src = .init q arr) :
      AStep n e a q { a with src := srcNext q.time e n arr } []
  | srcPut (a : A) (q : QEntry ℚ) (id : Int) (arr : List (ℚ × Int)) (h : a.src = .wait id arr q) :
      AStep n e a q { a with
        src := srcNext q.time (e + 1) (n + 1) arr
        pend := a.pend ++ [⟨q.time, NORMAL, e, n⟩]
        items := a.items ++ [putRec flow cfg a q.time id]
        cnt := upd a.cnt (flow id) (a.cnt (flow id) + 1)
        byt := upd a.byt (flow id) (a.byt (flow id) + (size id : Int))
        recv := a.recv + 1
        vc := upd a.vc (flow id) (VC.vcOf (a.vc (flow id)) q.time (vtOf cfg (flow id)) (size id))
        aux := upd a.aux (flow id) (putRec flow cfg a q.time id).2.2
        puts := a.puts ++ [putRec flow cfg a q.time id] }
        [.put id q.time, .stamp (putRec flow cfg a q.time id).2.2]
  | srcEnd (a : A) (q : QEntry ℚ) (h : a.src = .ending q) : AStep n e a q { a with src := .done } []
  | pendNoop (a : A) (q : QEntry ℚ) (l1 l2 : List (QEntry ℚ)) (hpe : a.pend = l1 ++ q :: l2)
      (hno : ¬ (a.items ≠ [] ∧ ∃ g, a.run = .W g)) :
      AStep n e a q { a with pend := l1 ++ l2 } []
  | pendHand (a : A) (q : QEntry ℚ) (g : EvId) (w : PutRec) (l1 l2 : List (QEntry ℚ)) (hpe : a.pend = l1 ++ q :: l2)
      (h : a.run = .W g) (hw : IsLeast N scale a.items w) :
      AStep n e a q { a with pend := l1 ++ l2, run := .H g w ⟨q.time, NORMAL, e, g⟩, items := a.items.erase w } []

/-! ## the LTS state of a configuration -/

/-- the packet object behind an id -/
abbrev pk (id : Int) : SPkt := pktOf flow size id

/-- the `PriorityItem` of a `put` -/
def itemW (w : PutRec) : Item ℚ := { stamp := w.2.2, arr := w.2.1, pkt := pktOf flow size w.1 }

/-- the dict with keys `keys` (in this order) and values `g` -/
def dictOf {β : Type} (keys : List Nat) (g : Nat → β) : List (Nat × β) := keys.map fun f => (f, g f)

/-- the keys of `queue_count` / `queue_byte_size`: the flows in the order of their first `put` -/
def A.keys (a : A) : List Nat := keysOf flow (a.puts.map (·.1))

/-- **the LTS state a configuration stands for** -/
def toM (a : A) (now : ℚ) : StState ℚ (VcSt ℚ) :=
  { now := now
    sch := { vc := cfg.vticks.map fun kv => (kv.1, a.vc kv.1), aux := cfg.vticks.map fun kv => (kv.1, a.aux kv.1) }
    items := a.items.map (itemW flow size)
    getPending := match a.run with | .W _ => true | _ => false
    handed := match a.run with | .H _ w _ => some (itemW flow size w) | _ => none
    spawned := match a.run with | .S _ id _ => some (pktOf flow size id) | _ => none
    tx := match a.run with | .T _ _ id q => some (pktOf flow size id, q.time) | _ => none
    fin := match a.run with | .F _ id _ => some (pktOf flow size id) | _ => none
    currentPacket := a.cur.map (pktOf flow size)
    queueCount := dictOf (a.keys flow) a.cnt
    queueBytes := dictOf (a.keys flow) a.byt
    started := match a.run with | .init _ => false | _ => true }

/-- the packets a history hands to `put` / to `out.put`, as the LTS sees them -/
def putPk (h : List (HEv ℚ)) : List SPkt := h.filterMap fun | .put id _ => some (pktOf flow size id) | _ => none
def outPk (h : List (HEv ℚ)) : List SPkt := h.filterMap fun | .out id _ => some (pktOf flow size id) | _ => none

/-- number of kernel steps a configuration still needs (an upper bound) -/
def RPhase.mu : RPhase → Nat
  | .init _ => 1
  | .W _ => 0
  | .H _ _ _ => 4
  | .S _ _ _ => 3
  | .T _ _ _ _ => 2
  | .F _ _ _ => 1

def SPhase.mu : SPhase → Nat
  | .init _ arr => 6 * arr.length + 2
  | .wait _ rest _ => 6 * rest.length + 7
  | .ending _ => 1
  | .done => 0

def A.mu (a : A) : Nat := a.run.mu + a.src.mu + a.pend.length + 4 * a.items.length

/-- the configuration of the initial state -/
def a0 (arrivals : List (ℚ × Int)) : A :=
  { run := .init ⟨0, URGENT, 0, 1⟩, src := .init ⟨0, URGENT, 1, 3⟩ arrivals, pend := [], items := [], cnt := fun _ => 0,
    byt := fun _ => 0, recv := 0, cur := none, vc := fun _ => 0, aux := fun _ => 0, puts := [] }

/-- the history-linked part: the `put` and `stamp` observations are the ghost `puts` -/
structure LInv (a : A) (h : List (HEv ℚ)) : Prop where
  puts : (h.filterMap fun | HEv.put id t => some (id, t) | _ => none) = a.puts.map fun w => (w.1, w.2.1)
  stamps : (h.filterMap fun | HEv.stamp x => some x | _ => none) = a.puts.map fun w => w.2.2
  recv : a.recv = a.puts.length

end VCK
