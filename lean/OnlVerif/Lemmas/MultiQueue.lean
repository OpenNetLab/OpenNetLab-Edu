import OnlVerif.Lemmas.Scalar
import OnlVerif.Net.MultiQueue
/-!
# MultiQueueServer: dictionary lemmas, the loop's burst as a relation (`Settles`), the transitions as a relation (`Trans`)

`step_trans` turns an accepted `MQ.step` into one explicit case, `settle_settles` an accepted burst of the loop
into a derivation; invariants are then proved by `cases`/`induction` instead of unfolding the functions again.
-/

namespace MQ
variable {κ : Type} {β : Type}

theorem lookup_setKey_same (m : List (Nat × β)) (k : Nat) (v : β) : lookup (setKey m k v) k = some v := by
  induction m with
  | nil => simp [setKey, lookup]
  | cons a r ih =>
    obtain ⟨k', v'⟩ := a
    by_cases h : k' = k
    · simp [setKey, lookup, h]
    · simp [setKey, lookup, h, ih]

theorem lookup_setKey_ne (m : List (Nat × β)) (k k' : Nat) (v : β) (h : k' ≠ k) :
    lookup (setKey m k v) k' = lookup m k' := by
  induction m with
  | nil => simp [setKey, lookup, Ne.symm h]
  | cons a r ih =>
    obtain ⟨k1, v1⟩ := a
    by_cases h1 : k1 = k
    · subst h1
      simp [setKey, lookup, Ne.symm h]
    · by_cases h2 : k1 = k'
      · subst h2
        simp [setKey, lookup, h1]
      · simp [setKey, lookup, h1, h2, ih]

theorem lookup_setKey_some {m : List (Nat × β)} {k k' : Nat} {v v' : β} (h : lookup (setKey m k v) k' = some v') :
    (k' = k ∧ v' = v) ∨ (k' ≠ k ∧ lookup m k' = some v') := by
  by_cases hk : k' = k
  · subst hk
    rw [lookup_setKey_same] at h
    exact .inl ⟨rfl, (Option.some.inj h).symm⟩
  · exact .inr ⟨hk, (lookup_setKey_ne m k k' v hk).symm.trans h⟩

theorem lookupD_setKey_same (m : List (Nat × β)) (k : Nat) (v d : β) : lookupD (setKey m k v) k d = v := by
  simp [lookupD, lookup_setKey_same]

theorem lookupD_setKey_ne (m : List (Nat × β)) (k k' : Nat) (v d : β) (h : k' ≠ k) :
    lookupD (setKey m k v) k' d = lookupD m k' d := by
  simp [lookupD, lookup_setKey_ne _ _ _ _ h]

theorem lookupD_setKey (m : List (Nat × β)) (k k' : Nat) (v d : β) :
    lookupD (setKey m k v) k' d = if k' = k then v else lookupD m k' d := by
  by_cases h : k' = k
  · subst h; simp [lookupD_setKey_same]
  · simp [h, lookupD_setKey_ne _ _ _ _ _ h]

def wsumMap (g : β → Int) : List (Nat × β) → Int
  | [] => 0
  | (_, v) :: r => g v + wsumMap g r

theorem wsumMap_setKey (g : β → Int) (d : β) (hd : g d = 0) (m : List (Nat × β)) (k : Nat) (v : β) :
    wsumMap g (setKey m k v) + g (lookupD m k d) = wsumMap g m + g v := by
  induction m with
  | nil => simp [setKey, wsumMap, lookupD, lookup, hd]
  | cons a r ih =>
    obtain ⟨k1, v1⟩ := a
    by_cases h1 : k1 = k
    · simp [setKey, wsumMap, lookupD, lookup, h1]; omega
    · simp only [setKey, h1, if_false, wsumMap, lookupD, lookup] at ih ⊢
      omega

/-- `m[k] += d` on a `defaultdict(int)` is `m[k] = m[k] + d` -/
theorem bump_eq_setKey (m : List (Nat × Int)) (k : Nat) (d : Int) : bump m k d = setKey m k (cnt m k + d) := by
  induction m with
  | nil => simp [bump, setKey, cnt, lookup]
  | cons a r ih =>
    obtain ⟨k1, v1⟩ := a
    by_cases h1 : k1 = k
    · simp [bump, setKey, cnt, lookup, h1]
    · simp only [bump, setKey, cnt, lookup, h1, if_false] at ih ⊢
      rw [ih]

theorem total_eq_wsumMap (m : List (Nat × Int)) : total m = wsumMap id m := by
  induction m with
  | nil => rfl
  | cons a r ih => obtain ⟨k, v⟩ := a; simp only [total, wsumMap, ih, id]

theorem cnt_bump (m : List (Nat × Int)) (k : Nat) (d : Int) (k' : Nat) :
    cnt (bump m k d) k' = cnt m k' + if k' = k then d else 0 := by
  rw [bump_eq_setKey]
  show lookupD (setKey m k (cnt m k + d)) k' 0 = _
  rw [lookupD_setKey]
  split
  · rename_i h; rw [h]
  · exact (add_zero _).symm

/-- `cnt_bump` with the test the other way round, as the weights `one`, `bytesOf` of a packet have it -/
theorem cnt_bump' (m : List (Nat × Int)) (k : Nat) (d : Int) (k' : Nat) :
    cnt (bump m k d) k' = cnt m k' + if k = k' then d else 0 :=
  (cnt_bump m k d k').trans (congrArg _ (if_congr eq_comm rfl rfl))

theorem total_bump (m : List (Nat × Int)) (k : Nat) (d : Int) : total (bump m k d) = total m + d := by
  have := wsumMap_setKey id 0 rfl m k (cnt m k + d)
  rw [bump_eq_setKey, total_eq_wsumMap, total_eq_wsumMap]
  simp only [id, show lookupD m k 0 = cnt m k from rfl] at this
  omega

theorem cnt_bump_zero (m : List (Nat × Int)) (k k' : Nat) : cnt (bump m k 0) k' = cnt m k' := by
  rw [cnt_bump]; split <;> simp

theorem issueGet_ok {s s' : MQState ℚ κ} {c : Nat} (h : issueGet s c = .ok s') :
    ∃ p rest, storeOf s.stores c = p :: rest ∧
      s' = { s with stores := setKey s.stores c rest, phase := .pktHanded c p } := by
  unfold issueGet at h
  split at h
  · exact ⟨_, _, ‹_›, (Except.ok.inj h).symm⟩
  · cases h

theorem blockOnToken_eq (s : MQState ℚ κ) :
    ∃ n ph, (ph = .waitToken ∨ ph = .tokenHanded) ∧ blockOnToken s = { s with tokens := n, phase := ph } := by
  unfold blockOnToken
  split
  · exact ⟨_, _, .inr rfl, rfl⟩
  · exact ⟨_, _, .inl rfl, rfl⟩

/-- the whole effect of an accepted `put`: a token when the system was empty, the counters and the store of the
class; phase, control point, parked packets and `current_packet` stay -/
theorem put_eq (s : MQState ℚ κ) (p : MPkt) (c : Nat) :
    ∃ n, (n = 0 → s.tokens = 0 ∧ total s.queueCount ≠ 0) ∧
      enqueue (countIn (postToken s) p) c p =
        { s with tokens := n, received := s.received + 1, queueCount := bump s.queueCount p.flow 1,
                 queueBytes := bump s.queueBytes p.flow p.size,
                 stores := setKey s.stores c (storeOf s.stores c ++ [p]) } := by
  unfold postToken
  split
  · exact ⟨s.tokens + 1, ⟨fun h => absurd h (Nat.succ_ne_zero _), rfl⟩⟩
  · exact ⟨s.tokens, ⟨fun h => ⟨h, ‹_›⟩, rfl⟩⟩

/-- `Settles sc s s'`: started at `s`, the loop runs to its next `yield` and is then in `s'` -/
inductive Settles (sc : Sched ℚ κ) : MQState ℚ κ → MQState ℚ κ → Prop
  | goto (s : MQState ℚ κ) (k : κ) (s' : MQState ℚ κ) :
      sc.micro (touch sc s).ctl (view (touch sc s)) = .goto k →
      Settles sc { touch sc s with ctl := k } s' → Settles sc s s'
  | get (s : MQState ℚ κ) (c : Nat) (k : κ) (s' : MQState ℚ κ) :
      sc.micro (touch sc s).ctl (view (touch sc s)) = .get c k →
      issueGet { touch sc s with ctl := k } c = .ok s' → Settles sc s s'
  | block (s : MQState ℚ κ) (k : κ) :
      sc.micro (touch sc s).ctl (view (touch sc s)) = .block k →
      Settles sc s (blockOnToken { touch sc s with ctl := k })
  | takeSend (s : MQState ℚ κ) (c : Nat) (k : κ) (p : MPkt) (e : Bool) (k' : κ) :
      sc.micro (touch sc s).ctl (view (touch sc s)) = .take c k →
      lookupD (touch sc s).hol c none = some p →
      sc.onPkt k (view { touch sc s with ctl := k, hol := setKey (touch sc s).hol c none }) c p = .send e k' →
      Settles sc s (spawn { ({ touch sc s with ctl := k, hol := setKey (touch sc s).hol c none } : MQState ℚ κ) with ctl := k' } p e)
  | takePark (s : MQState ℚ κ) (c : Nat) (k : κ) (p : MPkt) (k' : κ) (s2 s' : MQState ℚ κ) :
      sc.micro (touch sc s).ctl (view (touch sc s)) = .take c k →
      lookupD (touch sc s).hol c none = some p →
      sc.onPkt k (view { touch sc s with ctl := k, hol := setKey (touch sc s).hol c none }) c p = .park k' →
      park { ({ touch sc s with ctl := k, hol := setKey (touch sc s).hol c none } : MQState ℚ κ) with ctl := k' } c p = .ok s2 →
      Settles sc s2 s' → Settles sc s s'

theorem settle_settles (sc : Sched ℚ κ) (n : Nat) (s s' : MQState ℚ κ) (h : settle sc n s = .ok s') :
    Settles sc s s' := by
  induction n generalizing s with
  | zero => simp [settle] at h
  | succ n ih =>
    simp only [settle] at h
    split at h
    · rename_i k hm
      exact Settles.goto s k s' hm (ih _ h)
    · rename_i c k hm
      exact Settles.get s c k s' hm h
    · rename_i k hm
      cases h
      exact Settles.block s k hm
    · cases h
    · rename_i c k hm
      split at h
      · cases h
      · rename_i p hp
        split at h
        · rename_i e k' hd
          cases h
          exact Settles.takeSend s c k p e k' hm hp hd
        · rename_i k' hd
          split at h
          · rename_i s2 hpk
            exact Settles.takePark s c k p k' s2 s' hm hp hd hpk (ih _ h)
          · cases h
        · cases h

inductive Trans (sc : Sched ℚ κ) : MQState ℚ κ → MAct ℚ → MQState ℚ κ → MOut ℚ → Prop
  | init (s s' : MQState ℚ κ) : s.phase = .idle → resumeLoop sc s = .ok s' → Trans sc s .init s' .nothing
  | put (s : MQState ℚ κ) (p : MPkt) (c : Nat) (k : κ) : sc.classOf p.flow = some c → sc.onPut s.ctl c p = .ok k →
      Trans sc s (.put p) (enqueue (countIn (postToken { s with ctl := k }) p) c p) .accepted
  | tokenHandoff (s : MQState ℚ κ) (n : Nat) : s.phase = .waitToken → s.tokens = n + 1 →
      Trans sc s .tokenHandoff { s with tokens := n, phase := .tokenHanded } .nothing
  | wake (s s' : MQState ℚ κ) : s.phase = .tokenHanded → resumeLoop sc s = .ok s' → Trans sc s .wake s' .nothing
  | resumeSend (s : MQState ℚ κ) (c : Nat) (p : MPkt) (e : Bool) (k : κ) : s.phase = .pktHanded c p →
      sc.onPkt s.ctl (view { s with phase := Phase.running }) c p = .send e k →
      Trans sc s .pktResume (spawn { ({ s with phase := Phase.running } : MQState ℚ κ) with ctl := k } p e) .nothing
  | resumePark (s : MQState ℚ κ) (c : Nat) (p : MPkt) (k : κ) (s2 s' : MQState ℚ κ) : s.phase = .pktHanded c p →
      sc.onPkt s.ctl (view { s with phase := Phase.running }) c p = .park k →
      park { ({ s with phase := Phase.running } : MQState ℚ κ) with ctl := k } c p = .ok s2 →
      resumeLoop sc s2 = .ok s' → Trans sc s .pktResume s' .nothing
  | sendInit (s : MQState ℚ κ) (p : MPkt) : s.phase = .spawned p →
      Trans sc s .sendInit { s with currentPacket := some p, phase := .sending p (s.now + txTime sc p) }
        (.started p (s.now + txTime sc p))
  | sendFire (s : MQState ℚ κ) (p : MPkt) (due : ℚ) : s.phase = .sending p due → s.now = due →
      Trans sc s .sendFire { countOut s p with currentPacket := none, phase := .finished p } (.depart p)
  | sendDone (s : MQState ℚ κ) (p : MPkt) (k : κ) (s' : MQState ℚ κ) : s.phase = .finished p →
      sc.onDone s.ctl p = .ok k → resumeLoop sc { s with ctl := k } = .ok s' → Trans sc s .sendDone s' .nothing
  | tickIdle (s : MQState ℚ κ) (t : ℚ) : s.now ≤ t → s.phase = .waitToken → s.tokens = 0 →
      Trans sc s (.tick t) { s with now := t } .nothing
  | tickBusy (s : MQState ℚ κ) (t : ℚ) (p : MPkt) (due : ℚ) : s.now ≤ t → s.phase = .sending p due → t ≤ due →
      Trans sc s (.tick t) { s with now := t } .nothing
  | sample (s : MQState ℚ κ) (inc : Bool) : Trans sc s (.sample inc) s (.samples (monitorSample s inc))

theorem withOut_ok (o : MOut ℚ) (r : Except String (MQState ℚ κ)) (s' : MQState ℚ κ) (o' : MOut ℚ)
    (h : withOut o r = .ok (s', o')) : r = .ok s' ∧ o' = o := by
  unfold withOut at h
  split at h
  · simp only [Except.ok.injEq, Prod.mk.injEq] at h
    obtain ⟨rfl, rfl⟩ := h
    exact ⟨rfl, rfl⟩
  · cases h

theorem step_trans (sc : Sched ℚ κ) (s s' : MQState ℚ κ) (a : MAct ℚ) (o : MOut ℚ)
    (h : step sc s a = .ok (s', o)) : Trans sc s a s' o := by
  cases a with
  | init =>
    simp only [step] at h
    split at h
    · rename_i hp
      obtain ⟨h1, rfl⟩ := withOut_ok _ _ _ _ h
      exact Trans.init s s' hp h1
    · cases h
  | put p =>
    simp only [step, doPut] at h
    split at h
    · cases h
    · rename_i c hc
      split at h
      · cases h
      · rename_i k hk
        cases h
        exact Trans.put s p c k hc hk
  | tokenHandoff =>
    simp only [step] at h
    split at h
    · rename_i n hp ht
      cases h
      exact Trans.tokenHandoff s n hp ht
    · cases h
    · cases h
  | wake =>
    simp only [step] at h
    split at h
    · rename_i hp
      obtain ⟨h1, rfl⟩ := withOut_ok _ _ _ _ h
      exact Trans.wake s s' hp h1
    · cases h
  | pktResume =>
    simp only [step] at h
    split at h
    · rename_i c p hp
      simp only [doPktResume] at h
      split at h
      · rename_i e k hd
        cases h
        exact Trans.resumeSend s c p e k hp hd
      · rename_i k hd
        split at h
        · rename_i s2 hpk
          obtain ⟨h1, rfl⟩ := withOut_ok _ _ _ _ h
          exact Trans.resumePark s c p k s2 s' hp hd hpk h1
        · cases h
      · cases h
    · cases h
  | sendInit =>
    simp only [step] at h
    split at h
    · rename_i p hp
      cases h
      exact Trans.sendInit s p hp
    · cases h
  | sendFire =>
    simp only [step] at h
    split at h
    · rename_i p due hp
      split at h
      · cases h
      · rename_i h1
        split at h
        · cases h
        · rename_i h2
          cases h
          exact Trans.sendFire s p due hp (le_antisymm (not_lt.mp h2) (not_lt.mp h1))
    · cases h
  | sendDone =>
    simp only [step] at h
    split at h
    · rename_i p hp
      simp only [doSendDone] at h
      split at h
      · cases h
      · rename_i k hk
        obtain ⟨h1, rfl⟩ := withOut_ok _ _ _ _ h
        exact Trans.sendDone s p k s' hp hk h1
    · cases h
  | tick t =>
    simp only [step, doTick] at h
    split at h
    · cases h
    · rename_i h1
      split at h
      · rename_i hp
        split at h
        · rename_i ht
          cases h
          exact Trans.tickIdle s t (not_lt.mp h1) hp ht
        · cases h
      · rename_i p due hp
        split at h
        · cases h
        · rename_i h2
          cases h
          exact Trans.tickBusy s t p due (not_lt.mp h1) hp (not_lt.mp h2)
      · cases h
      · cases h
  | sample inc =>
    simp only [step, Except.ok.injEq, Prod.mk.injEq] at h
    obtain ⟨rfl, rfl⟩ := h
    exact Trans.sample s inc

/-- the converse for `tick`: it is admissible exactly when the loop is blocked without a token, or a transmission
is in progress and its end is not passed -/
theorem tick_ok_iff (sc : Sched ℚ κ) (s : MQState ℚ κ) (t : ℚ) :
    (∃ s' o, step sc s (.tick t) = .ok (s', o)) ↔
      s.now ≤ t ∧ ((s.phase = .waitToken ∧ s.tokens = 0) ∨ ∃ p due, s.phase = .sending p due ∧ t ≤ due) := by
  constructor
  · rintro ⟨s', o, h⟩
    have ht := step_trans sc s s' _ o h
    cases ht with
    | tickIdle _ h1 h2 h3 => exact ⟨h1, Or.inl ⟨h2, h3⟩⟩
    | tickBusy _ p due h1 h2 h3 => exact ⟨h1, Or.inr ⟨p, due, h2, h3⟩⟩
  · rintro ⟨h1, h2⟩
    simp only [step, doTick]
    rw [if_neg (not_lt.mpr h1)]
    rcases h2 with ⟨hp, ht⟩ | ⟨p, due, hp, ht⟩
    · rw [hp]; simp only [ht, if_true]; exact ⟨_, _, rfl⟩
    · rw [hp]; simp only; rw [if_neg (not_lt.mpr ht)]; exact ⟨_, _, rfl⟩

end MQ
