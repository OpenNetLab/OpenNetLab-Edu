import OnlVerif.Lemmas.SndKAInv
/-!
# The TCP sender on the kernel model: what a step lemma establishes

`StepGoal`: the kernel step is normal, the new state has a configuration that satisfies the invariants, and the sender LTS
accepts an action sequence between the LTS states of the two configurations.  The clock part of a step is dealt with once
(`StepGoal.of_tick`); `StepGoal.quiet` and `StepGoal.one` are the steps that are no action, resp. one action, of the LTS.
-/

namespace SndK
open SenderOnK TcpSender
open KProc (Thread)

theorem runLts_nil (S : Sender ℚ) : runLts S [] = .ok S [] := rfl

theorem runLts_one {S S' : Sender ℚ} {x : Act ℚ} {outs : List (Tx ℚ)} (h : S.step x = .ok S' outs) :
    runLts S [x] = .ok S' outs := by
  simp [runLts, h]

theorem runLts_cons {S S' : Sender ℚ} {x : Act ℚ} {xs : List (Act ℚ)} {outs : List (Tx ℚ)} :
    runLts S (x :: xs) = .ok S' outs ↔
      ∃ S1 o o', S.step x = .ok S1 o ∧ runLts S1 xs = .ok S' o' ∧ outs = o ++ o' := by
  constructor
  · intro h
    simp only [runLts] at h
    cases hx : S.step x with
    | ok S1 o =>
      rw [hx] at h
      simp only at h
      cases hr : runLts S1 xs with
      | ok S2 o' =>
        rw [hr] at h
        cases h
        exact ⟨S1, o, o', rfl, hr, rfl⟩
      | reject w => rw [hr] at h; cases h
      | error e => rw [hr] at h; cases h
    | reject w => rw [hx] at h; cases h
    | error e => rw [hx] at h; cases h
  · rintro ⟨S1, o, o', hx, hr, rfl⟩
    simp only [runLts, hx, hr]

theorem runLts_append {S S1 S2 : Sender ℚ} {l1 l2 : List (Act ℚ)} {o1 o2 : List (Tx ℚ)} (h1 : runLts S l1 = .ok S1 o1)
    (h2 : runLts S1 l2 = .ok S2 o2) : runLts S (l1 ++ l2) = .ok S2 (o1 ++ o2) := by
  induction l1 generalizing S o1 with
  | nil =>
    cases h1
    exact h2
  | cons x xs ih =>
    obtain ⟨Sx, o, o', hx, hr, rfl⟩ := runLts_cons.mp h1
    exact runLts_cons.mpr ⟨Sx, o, o' ++ o2, hx, ih hr, List.append_assoc ..⟩

def StepGoal (cfg : Cfg) (fuel : Nat) (s : KS) (S : Sender ℚ) (txs : List (Nat × ℚ)) : Prop :=
  ∃ s' a' acts outs, step (body cfg) (fuel + 1) s = .ok s' ∧ KI none s' a' ∧ AInv cfg a' ∧
    runLts S acts = .ok a'.S outs ∧ a'.txs = txs ++ outs.map txPair ∧ ∀ x ∈ acts, ActOk x

theorem pop_tick {cfg : Cfg} {s : KS} {a : A} {q : QEntry ℚ} {rest : List (QEntry ℚ)} (hk : KI none s a) (hi : AInv cfg a)
    (hp : popMin s.agenda = some (q, rest)) :
    ∃ acts0, runLts a.S acts0 = .ok (aTick a q.time).S [] ∧ AInv cfg (aTick a q.time) ∧ ∀ x ∈ acts0, ActOk x := by
  have hq : q ∈ s.agenda := (popMin_spec _ _ _ hp).1.symm.subset List.mem_cons_self
  have hle : a.S.now ≤ q.time := by
    have := hk.k.g.wf.due q hq
    rw [hk.k.now] at this
    exact this
  rcases lt_or_eq_of_le hle with hlt | heq
  · obtain ⟨h1, h2⟩ := tick_ok hi (min_time hp hk.k.ag) hlt
    exact ⟨[.tick q.time], runLts_one h1, h2, fun x hx => by
      simp only [List.mem_singleton] at hx; subst hx; trivial⟩
  · rw [← heq]
    exact ⟨[], rfl, hi, fun x hx => by cases hx⟩

theorem StepGoal.of_tick {cfg : Cfg} {fuel : Nat} {s : KS} {a : A} {q : QEntry ℚ} {rest : List (QEntry ℚ)}
    (hk : KI none s a) (hi : AInv cfg a) (hp : popMin s.agenda = some (q, rest))
    (h : AInv cfg (aTick a q.time) → StepGoal cfg fuel s (aTick a q.time).S a.txs) : StepGoal cfg fuel s a.S a.txs := by
  obtain ⟨acts0, h0, hiT, hok0⟩ := pop_tick hk hi hp
  obtain ⟨s', a', acts, outs, g1, g2, g3, g4, g5, g6⟩ := h hiT
  refine ⟨s', a', acts0 ++ acts, outs, g1, g2, g3, by simpa using runLts_append h0 g4, g5, ?_⟩
  intro x hx
  rcases List.mem_append.mp hx with hx | hx
  · exact hok0 x hx
  · exact g6 x hx

theorem StepGoal.quiet {cfg : Cfg} {fuel : Nat} {s : KS} {a' : A} {txs : List (Nat × ℚ)} {S : Sender ℚ}
    (h : ∃ s', step (body cfg) (fuel + 1) s = .ok s' ∧ KI none s' a') (hi : AInv cfg a') (hS : a'.S = S) (htx : a'.txs = txs) :
    StepGoal cfg fuel s S txs :=
  let ⟨s', hst, hk⟩ := h
  ⟨s', a', [], [], hst, hk, hi, hS ▸ rfl, htx.trans (List.append_nil _).symm, nofun⟩

theorem StepGoal.one {cfg : Cfg} {fuel : Nat} {s : KS} {a' : A} {txs : List (Nat × ℚ)} {S : Sender ℚ} {x : Act ℚ}
    {outs : List (Tx ℚ)} (h : ∃ s', step (body cfg) (fuel + 1) s = .ok s' ∧ KI none s' a') (hi : AInv cfg a') (hx : ActOk x)
    (hst : S.step x = .ok a'.S outs) (htx : a'.txs = txs ++ outs.map txPair) : StepGoal cfg fuel s S txs :=
  let ⟨s', hS, hk⟩ := h
  ⟨s', a', [x], outs, hS, hk, hi, runLts_one hst, htx, fun _ hy => List.mem_singleton.mp hy ▸ hx⟩

theorem KI.begin {s : KS} {a : A} (hk : KI none s a) {t : Thread St} (ht : t ∈ threads (kernOf a)) (q : QEntry ℚ)
    (arg : Resume) : Mid t.pid (KProc.hbegin (cfgOfR (kernOf a) (KProc.Regs.of s)) t.pid q arg) (aTick a q.time) :=
  ⟨hk.k.begin ht q arg, hk.cells⟩

end SndK
