import OnlVerif.Lemmas.TimerKBurst
import OnlVerif.Lemmas.TimerKAbs
/-!
# The Timer on the kernel model: the kernel state in the middle of a burst

`Mid S a p e0`: process `p` is running (alive, active) for the event `e0`, and apart from `p` and `e0` the state `S` is
the configuration `a`, in which the running process has no part (a running controller is written `ctl := .done`, a
running `self.proc` is written `ph := .dead`).  A kernel step that resumes a process is: enter (`KInv.openResume`,
`KInv.openCtl`, `KInv.openIntr`), write attributes (`Mid.setCells`) or replace `self.proc` (`Mid.restartAlive`), and leave through
the loop test (`Mid.tmLoop`, `Mid.ctlLoop`: the process goes to sleep, or returns) or by returning (`Mid.ret`).
-/

namespace TimerK
open TimerOnK

variable {auto : Bool} {arg : Int} {cbs : List (Option Op)}
variable {s S : KS} {a : A} {p e0 : EvId} {q : QEntry ℚ} {rest : List (QEntry ℚ)}

structure Mid (S : KS) (a : A) (p e0 : EvId) : Prop where
  wf : AgendaWF S
  ag : S.agenda.Perm a.entries
  parts : Parts S a (p = a.cur)
  nd : (p :: a.ids).Nodup
  cells : Cells S.shared a
  run : EvIs S p .proc [] none
  act : S.active = some p
  /-- `e0` has not failed, or its failure has been handled (an `Interruption`) -/
  ev0 : e0 ≠ p ∧ e0 < S.events.size ∧ ∀ x, (S.ev e0).out = some (.fail x) → (S.ev e0).defused = true

theorem Mid.setCells (hm : Mid S a p e0) (sh : List (Nat × Val)) (tr : Array (Obs ℚ)) {st : Bool} {ex tmo sa : ℚ} {fi : Nat}
    (hc : Cells sh { a with stopped := st, expire := ex, timeout := tmo, start := sa, fired := fi }) :
    Mid { S with shared := sh, trace := tr } { a with stopped := st, expire := ex, timeout := tmo, start := sa, fired := fi }
      p e0 :=
  ⟨wf_same hm.wf rfl rfl rfl, hm.ag, ⟨hm.parts.tm, hm.parts.old, hm.parts.ctl, hm.parts.noop⟩, hm.nd, hc, hm.run, hm.act, hm.ev0⟩

/-- the next entry resumes `p` (`self.proc` or the controller) through its `Initialize` or the timeout it sleeps on:
the kernel step is the burst of `p`, from a state that is the configuration `a'`: `a` without the part of `p` -/
theorem KInv.openResume (bd : St → Resume → Burst ℚ St) (fuel : Nat) (hk : KInv s a) {k : Kind} {st : St} {a' : A}
    (ha' : p = a.cur ∧ a' = { a with ph := .dead } ∨ a' = { a with ctl := .done })
    (hids : a.ids.Perm (p :: q.ev :: a'.ids)) (hent : a.entries.Perm (q :: a'.entries))
    (hev : EvIs s q.ev k [.resume p] (some (.ok .none))) (hproc : s.proc? p = some ⟨st, some q.ev⟩)
    (hpe : EvIs s p .proc [] none) (hp : popMin s.agenda = some (q, rest)) :
    ∃ S r, r = (if k = .init p then Resume.start else .value .none) ∧
      step bd (fuel + 1) s = closeEvent ⟨afterBurst bd p fuel ⟨st, some q.ev⟩ (runBurst p (bd st r) S), none⟩ q.ev ∧
      Mid S a' p q.ev ∧ S.now = q.time ∧ histOf S.trace = histOf s.trace := by
  obtain ⟨S, r, hr, hstep, hnow, hag, heid, hsh, htr, hact, hkeep, hout, hpr, hsz⟩ :=
    step_resume p bd fuel hp hev.2.1 hev.2.2 hproc
  -- the events of the configuration: the running process, the processed event, and those of `a'`
  have hnd := hids.nodup_iff.mp hk.nd
  simp only [List.nodup_cons, List.mem_cons, not_or] at hnd
  obtain ⟨⟨hne, hc⟩, hq, hR⟩ := hnd
  have hX : ∀ e ∈ a'.ids, e ∉ [q.ev] := fun e he h => hq (List.mem_singleton.mp h ▸ he)
  obtain ⟨hpa, h5⟩ : Parts s a' (p = a'.cur) ∧ Cells s.shared a' := by
    rcases ha' with ⟨rfl, rfl⟩ | rfl
    · exact ⟨⟨.inl ⟨rfl, rfl⟩, hk.old, hk.ctl, hk.noop⟩, hk.cells.frame _ _ _⟩
    · exact ⟨⟨.inr hk.tm, hk.old, trivial, hk.noop⟩, hk.cells.frame _ _ _⟩
  exact ⟨S, r, hev.1 ▸ hr, hstep, ⟨wf_same (openEvent_wf s q rest hk.wf hp).1 hnow hag heid, hag ▸ hk.rest_perm hp hent,
    hpa.keep hkeep hX (fun _ _ => hpr _), List.nodup_cons.mpr ⟨hc, hR⟩,
    hsh ▸ h5, hpe.keep hkeep (fun h => hne (List.mem_singleton.mp h)), hact, Ne.symm hne, hsz ▸ hev.lt,
    fun x hx => by rw [hout] at hx; cases hx⟩, hnow, htr⟩

/-- the next entry belongs to the controller -/
theorem KInv.openCtl (bd : St → Resume → Burst ℚ St) (fuel : Nat) (hk : KInv s a) {k : Kind} {st : St} (hids : a.ctl.ids a.cp = [a.cp, q.ev])
    (hce : a.ctl.entries = [q]) (hev : EvIs s q.ev k [.resume a.cp] (some (.ok .none)))
    (hproc : s.proc? a.cp = some ⟨st, some q.ev⟩) (hpe : EvIs s a.cp .proc [] none) (hp : popMin s.agenda = some (q, rest)) :
    ∃ S r, r = (if k = .init a.cp then Resume.start else .value .none) ∧
      step bd (fuel + 1) s = closeEvent ⟨afterBurst bd a.cp fuel ⟨st, some q.ev⟩ (runBurst a.cp (bd st r) S), none⟩ q.ev ∧
      Mid S { a with ctl := .done } a.cp q.ev ∧ a.cp ≠ a.cur ∧ S.now = q.time ∧ histOf S.trace = histOf s.trace := by
  have hperm : a.ids.Perm (a.cp :: q.ev :: ({ a with ctl := .done } : A).ids) := by
    unfold A.ids; rw [hids]
    simp only [CPhase.ids, List.nil_append, List.cons_append, ← List.append_assoc]
    exact List.perm_middle.trans (List.perm_middle.cons _)
  have hent : a.entries.Perm (q :: ({ a with ctl := .done } : A).entries) := by
    unfold A.entries; rw [hce]
    simp only [CPhase.entries, List.nil_append, List.singleton_append, ← List.append_assoc]
    exact List.perm_middle
  obtain ⟨S, r, hr, hstep, hm, hnow, htr⟩ := hk.openResume bd fuel (Or.inr rfl) hperm
    hent hev hproc hpe hp
  refine ⟨S, r, hr, hstep, hm, fun h => ?_, hnow, htr⟩
  -- a finished `self.proc` has an outcome; one that is alive is an event of the configuration
  have hc : a.cur ∉ ({ a with ctl := .done } : A).ids := h ▸ (List.nodup_cons.mp hm.nd).1
  have htm := hk.tm
  cases hph : a.ph with
  | dead =>
    rw [hph] at htm
    obtain ⟨o, ho⟩ := htm.2
    rw [← h, hpe.2.2] at ho; cases ho
  | init q0 => exact hc (A.ph_ids _ (by show a.cur ∈ a.ph.ids a.cur; rw [hph]; exact List.mem_cons_self))
  | sleep t q0 => exact hc (A.ph_ids _ (by show a.cur ∈ a.ph.ids a.cur; rw [hph]; exact List.mem_cons_self))

/-- the next entry is the `Interruption` on its way to the previous process: the kernel step is the burst in which that
process catches `Interrupt` and returns; the timeout it slept on has nothing left to do -/
theorem KInv.openIntr (fuel : Nat) (hk : KInv s a) {o : Old} (hold : a.old = some o)
    (hp : popMin s.agenda = some (o.qi, rest)) :
    ∃ S, step (body auto arg cbs) (fuel + 1) s =
        closeEvent ⟨finishProc S o.p ⟨.tmSleep o.qt.time, some o.t⟩ (.ok .none), none⟩ o.qi.ev ∧
      Mid S { a with old := none, dead := a.dead ++ [o.p], noop := a.noop ++ [o.qt] } o.p o.qi.ev ∧
      S.now = o.qi.time ∧ histOf S.trace = histOf s.trace := by
  obtain ⟨hqe, hiv, hdef, hqt, hte, hproc, hpe⟩ := hk.old o hold
  -- the events of the configuration: the interrupt, the victim, the timeout it sleeps on, and the others
  have hperm : a.ids.Perm (o.iv :: o.p :: o.t :: (a.ph.ids a.cur ++ (a.ctl.ids a.cp ++ evs a.noop))) := by
    unfold A.ids
    rw [hold]
    exact List.perm_middle.trans (.cons _ (List.perm_middle.trans (.cons _ List.perm_middle)))
  have hperm' : ({ a with old := none, dead := a.dead ++ [o.p], noop := a.noop ++ [o.qt] } : A).ids.Perm
      (o.t :: (a.ph.ids a.cur ++ (a.ctl.ids a.cp ++ evs a.noop))) := by
    unfold A.ids
    simp only [oldIds, evs_append, evs_cons, evs_nil, hqt, List.nil_append, ← List.append_assoc]
    exact List.perm_append_singleton _ _
  have hnd := hperm.nodup_iff.mp hk.nd
  obtain ⟨⟨hne1, hne2, hivR⟩, ⟨hne3, -⟩, htR, -⟩ :
      (o.iv ≠ o.p ∧ o.iv ≠ o.t ∧ o.iv ∉ _) ∧ (o.p ≠ o.t ∧ o.p ∉ _) ∧ o.t ∉ _ ∧ _ := by
    simpa only [List.nodup_cons, List.mem_cons, not_or] using hnd
  rw [← hqe] at hiv hne1 hne2 hivR
  obtain ⟨S, hstep, hnow, hag, heid, hsh, htr, hact, hkeep, hdef', hnoop, hpr, hsz⟩ :=
    step_intr (body auto arg cbs) fuel hp hiv hpe hproc hte (Ne.symm hne1) (Ne.symm hne2)
  have hX : ∀ e ∈ a.ph.ids a.cur ++ (a.ctl.ids a.cp ++ evs a.noop), e ∉ [o.qi.ev, o.t] := fun e he h => by
    rcases List.mem_pair.mp h with rfl | rfl
    exacts [hivR he, htR he]
  have hc := hk.cells
  rw [← hsh] at hc
  have h6 : (a.dead ++ [o.p]).length + (oldStat none).length + 1 = a.dead.length + (oldStat a.old).length + 1 := by
    rw [hold, List.length_append]; rfl
  refine ⟨S, hstep, ⟨wf_same (openEvent_wf s _ rest hk.wf hp).1 hnow hag heid, ?_,
    ⟨.inr (hk.tm.keep hkeep (fun e he => hX e (List.mem_append_left _ he)) (fun _ => hpr _)), nofun,
      hk.ctl.keep hkeep (fun e he => hX e (List.mem_append_right _ (List.mem_append_left _ he))) (fun _ => hpr _), ?_⟩,
    (hperm'.cons _).nodup_iff.mpr (List.nodup_cons.mp hnd).2,
    ⟨hc.c0, hc.c1, hc.c2, hc.c3, hc.c4, hc.c5, h6 ▸ hc.c6⟩,
    hpe.keep hkeep fun h => (List.mem_pair.mp h).elim (fun h => hne1 h.symm) hne3, hact, hne1, hsz ▸ hiv.lt, fun _ _ => hdef'⟩,
    hnow, htr⟩
  · rw [hag]
    refine hk.rest_perm hp ?_
    unfold A.entries
    rw [hold]
    refine List.perm_middle.trans (.cons _ (List.Perm.append_left _ ?_))
    simp only [oldEntries, List.nil_append, ← List.append_assoc]
    exact (List.perm_append_singleton _ _).symm
  · intro x hx
    rcases List.mem_append.mp hx with hx | hx
    · exact (hk.noop x hx).keep hkeep (hX _ (List.mem_append_right _ (List.mem_append_right _ (mem_evs_of hx))))
    · rw [List.mem_singleton.mp hx, hqt]; exact hnoop

/-- the event that is being processed is not the running process -/
theorem Mid.ev0_keep (hm : Mid S a p e0) {S' : KS} {X : List EvId} (hk : EvKeep S S' X) (hX : ∀ e ∈ X, e = p) :
    closeEvent { s := S' } e0 = .ok S' := by
  refine closeEvent_ok ?_
  rw [hk.keep e0 hm.ev0.2.1 (fun h => hm.ev0.1 (hX _ h))]
  exact hm.ev0.2.2

theorem Mid.ne_of_mem (hm : Mid S a p e0) {e : EvId} (he : e ∈ a.ids) : e ≠ p :=
  fun h => (List.nodup_cons.mp hm.nd).1 (h ▸ he)

theorem Mid.fresh (hm : Mid S a p e0) : (p :: a.ids).Nodup ∧ ∀ e ∈ p :: a.ids, e < S.events.size :=
  ⟨hm.nd, List.forall_mem_cons.mpr ⟨hm.run.lt, ids_lt hm.parts⟩⟩

/-- the running process returns: its process event is triggered and has nothing left to do -/
theorem Mid.ret (hm : Mid S a p e0) (pr : ProcRec St) :
    ∃ S', finishProc S p pr (.ok .none) = S' ∧ closeEvent { s := S' } e0 = .ok S' ∧
      KInv S' { a with noop := a.noop ++ [⟨S.now, NORMAL, S.eid, p⟩] } ∧ S'.now = S.now ∧
      histOf S'.trace = histOf S.trace := by
  obtain ⟨S', hS, hnow, hag, heid, hsh, htr, hkeep, hnew, hproc⟩ := finishProc_spec p pr S (.ok .none) hm.run.lt
  obtain ⟨h1, h2, h3, h4⟩ := hm.parts.keep hkeep (fun _ he h => hm.ne_of_mem he (List.mem_singleton.mp h))
    (fun p' hp' => hproc p' (hm.ne_of_mem hp'))
  have hc := hm.cells
  rw [← hsh] at hc
  refine ⟨S', hS, hm.ev0_keep hkeep (fun e he => List.mem_singleton.mp he),
    ⟨wf_push1 hm.wf _ hnow hag heid rfl (le_refl _), ?_, ?_, h2, h3, ?_, ?_, hc.c0, hc.c1, hc.c2, hc.c3, hc.c4, hc.c5, hc.c6⟩,
    hnow, ?_⟩
  · rw [hag]
    refine (hm.ag.cons _).trans ?_
    simp only [A.entries, ← List.append_assoc]
    exact (List.perm_append_singleton _ _).symm
  · rcases h1 with ⟨hc, hd⟩ | h1
    · rw [hd, ← hc]
      exact ⟨by rw [hnew]; exact hm.run.1, _, by rw [hnew]⟩
    · exact h1
  · intro x hx
    rcases List.mem_append.mp hx with hx | hx
    · exact h4 x hx
    · rw [List.mem_singleton.mp hx]
      show NoopEv _ p
      unfold NoopEv
      rw [hnew]
      exact ⟨hm.run.2.1, ⟨_, rfl⟩, Or.inr hm.run.1⟩
  · have : ({ a with noop := a.noop ++ [⟨S.now, NORMAL, S.eid, p⟩] } : A).ids = a.ids ++ [p] := by
      simp only [A.ids, evs_append, evs_cons, evs_nil, List.append_assoc]
    rw [this]
    exact (List.perm_append_singleton _ _).nodup_iff.mpr hm.nd
  · rw [htr, histOf_push, histOf1_ended, Option.toList_none, List.append_nil]

/-- a new event behind the running process, in front of the allocated events of the configuration -/
theorem nodup_fresh {l : List EvId} {p n : EvId} (h : (p :: l).Nodup ∧ ∀ e ∈ p :: l, e < n) :
    (p :: n :: l).Nodup ∧ ∀ e ∈ p :: n :: l, e < n + 1 := by
  have hn : n ∉ p :: l := fun hm => Nat.lt_irrefl _ (h.2 _ hm)
  refine ⟨(List.Perm.swap _ _ _).nodup_iff.mp (List.nodup_cons.mpr ⟨hn, h.1⟩), fun e he => ?_⟩
  rcases List.mem_cons.mp he with rfl | he
  · exact Nat.lt_succ_of_lt (h.2 _ List.mem_cons_self)
  rcases List.mem_cons.mp he with rfl | he
  · exact Nat.lt_succ_self _
  · exact Nat.lt_succ_of_lt (h.2 _ (List.mem_cons_of_mem _ he))

variable (body : St → Resume → Burst ℚ St) (fuel : Nat) (pr : ProcRec St)

/-! ## `restart` from outside on a sleeping `self.proc` -/

theorem Mid.restartAlive (hm : Mid S a p e0) {t : EvId} {qt : QEntry ℚ} (hph : a.ph = .sleep t qt) (hold : a.old = none)
    (tau : ℚ) (cont : Burst ℚ St) {now : ℚ} (hnow : S.now = now) :
    ∃ S', runBurst p (tRestart now tau cont) S = runBurst p cont S' ∧
      Mid S' (respawn now tau S.eid S.events.size t qt a) p e0 ∧
      S'.now = now ∧ S'.trace = S.trace ∧ S'.eid = S.eid + 1 + 1 ∧ S'.events.size = S.events.size + 1 + 1 + 1 := by
  subst hnow
  have hcur : a.cur ∈ a.ids := a.ph_ids (by rw [hph]; exact List.mem_cons_self)
  obtain ⟨hqe, hte, hcproc, hce⟩ : TmEv S a.cur (.sleep t qt) := by
    rw [← hph]; exact hm.parts.tm.resolve_left fun h => by rw [hph] at h; cases h.2
  obtain ⟨S', hS, hnow, heid, htr, hact, hag, hsz, hkeep, hintr, hdef, hnewp, hinit, hproc, hcells⟩ :=
    runBurst_tRestart_alive p S.now cont tau hm.cells hold hce.1 hce.2.2
      (by rw [hm.act]; exact fun h => hm.ne_of_mem hcur (Option.some.inj h).symm)
  have hpk : ∀ p' ∈ a.ids, S'.proc? p' = S.proc? p' :=
    fun p' hp' => (hproc p').trans (if_neg (Nat.ne_of_lt (Nat.lt_succ_of_lt (hm.fresh.2 _ (List.mem_cons_of_mem _ hp')))))
  obtain ⟨-, -, h3, h4⟩ := hm.parts.keep hkeep (fun _ _ => List.not_mem_nil) hpk
  -- the three new events in front of the old ones
  have hf := (nodup_fresh (nodup_fresh (nodup_fresh hm.fresh))).1
  simp only [A.ids, hph, hold, TPhase.ids, oldIds, List.nil_append, List.cons_append] at hf
  refine ⟨S', hS, ⟨wf_push2 hm.wf _ _ hnow hag heid rfl rfl (le_refl _) (le_refl _), ?_, ⟨.inr ⟨rfl, hinit, (hproc _).trans
    (if_pos rfl), hnewp⟩, ?_, h3, h4⟩, ?_, (hcells _).frame _ _ _, hm.run.keep hkeep List.not_mem_nil, hact.trans hm.act, hm.ev0.1,
    hsz ▸ Nat.lt_add_right 3 hm.ev0.2.1, ?_⟩,
    hnow, htr, heid, hsz⟩
  · rw [hag]
    have := hm.ag
    simp only [A.entries, hph, hold, TPhase.entries, oldEntries, Old.entries, List.nil_append, List.cons_append] at this ⊢
    exact (this.cons _).cons _
  · intro o ho
    cases ho
    exact ⟨rfl, hintr, hdef, hqe, hte.keep hkeep List.not_mem_nil, (hpk _ hcur).trans hcproc, hce.keep hkeep List.not_mem_nil⟩
  · simp only [A.ids, TPhase.ids, oldIds, List.nil_append, List.cons_append]
    exact ((List.Perm.swap _ _ _).cons p).nodup_iff.mp hf
  · rw [hkeep.keep e0 hm.ev0.2.1 List.not_mem_nil]; exact hm.ev0.2.2

/-- the loop test of `Timer.run` ends the burst of `self.proc`: it sleeps until `expire_time`, or returns -/
theorem Mid.tmLoop (hm : Mid S a a.cur e0) (hph : a.ph = .dead) {now : ℚ} (hnow : S.now = now) :
    ∃ S', closeEvent ⟨afterBurst body a.cur fuel pr (runBurst a.cur (tmLoop now) S), none⟩ e0 = .ok S' ∧
      S'.now = now ∧ histOf S'.trace = histOf S.trace ∧
      ∀ ph, KInv S' (tmNext now S.eid S.events.size { a with ph := ph }) := by
  subst hnow
  rw [runBurst_tmLoop a.cur S.now hm.cells]
  by_cases h : S.now < a.expire
  · rw [if_pos h]
    obtain ⟨S', hS, hnow, hag, heid, hsh, htr, hkeep, hnew, hproc⟩ :=
      afterBurst_sleep a.cur body fuel pr S (a.expire - S.now) (sub_nonneg.mpr h.le) (.tmSleep (S.now + (a.expire - S.now)))
    obtain ⟨-, h2, h3, h4⟩ := hm.parts.keep hkeep (fun _ _ => List.not_mem_nil)
      (fun p' hp' => (hproc p').trans (if_neg (hm.ne_of_mem hp')))
    have hc := hm.cells
    rw [← hsh] at hc
    have key : KInv S' { a with ph := .sleep S.events.size ⟨S.now + (a.expire - S.now), NORMAL, S.eid, S.events.size⟩ } := by
      refine ⟨wf_push1 hm.wf _ hnow hag heid rfl (le_add_of_nonneg_right (sub_nonneg.mpr h.le)), ?_,
        ⟨rfl, hnew, (hproc _).trans (if_pos rfl), hm.run.keep hkeep List.not_mem_nil⟩, h2, h3, h4, ?_,
        hc.c0, hc.c1, hc.c2, hc.c3, hc.c4, hc.c5, hc.c6⟩
      · rw [hag]
        have := hm.ag
        simp only [A.entries, hph, TPhase.entries, List.nil_append, List.singleton_append] at this ⊢
        exact this.cons _
      · have hf := hm.fresh
        simp only [A.ids, hph, TPhase.ids, List.nil_append, List.cons_append] at hf ⊢
        exact (nodup_fresh hf).1
    rw [add_sub_cancel] at key
    subst hS
    exact ⟨_, hm.ev0_keep hkeep (fun e he => absurd he List.not_mem_nil), hnow, by rw [htr],
      fun ph => by rw [tmNext, if_pos h]; exact key⟩
  · rw [if_neg h]
    obtain ⟨S', rfl, h1, h2, h3, h4⟩ := hm.ret pr
    refine ⟨_, h1, h3, h4, fun ph => ?_⟩
    rw [tmNext, if_neg h, ← hph]
    exact h2

theorem ctlNext_ctl (now : ℚ) (eid n : Nat) (a : A) (c : CPhase) (sc : List (ℚ × Op)) :
    ctlNext now eid n { a with ctl := c } sc = ctlNext now eid n a sc := by
  cases sc <;> rfl

/-- the controller's loop ends its burst: it sleeps until its next call, or returns -/
theorem Mid.ctlLoop (hm : Mid S a a.cp e0) (hne : a.cp ≠ a.cur) (hctl : a.ctl = .done) (sc : List (ℚ × Op))
    (hg : ∀ x ∈ sc, 0 ≤ x.1) {now : ℚ} (hnow : S.now = now) :
    ∃ S', closeEvent ⟨afterBurst body a.cp fuel pr (runBurst a.cp (ctlLoop now sc) S), none⟩ e0 = .ok S' ∧
      S'.now = now ∧ histOf S'.trace = histOf S.trace ∧
      ∀ c, KInv S' (ctlNext now S.eid S.events.size { a with ctl := c } sc) := by
  subst hnow
  simp only [ctlNext_ctl]
  cases sc with
  | nil =>
    obtain ⟨S', rfl, h1, h2, h3, h4⟩ := hm.ret pr
    rw [hctl] at h2
    exact ⟨_, h1, h3, h4, fun _ => h2⟩
  | cons x sc =>
    obtain ⟨gap, op⟩ := x
    have hgap : 0 ≤ gap := hg (gap, op) List.mem_cons_self
    rw [runBurst_ctlLoop_cons a.cp S.now gap op sc hgap]
    obtain ⟨S', hS, hnow, hag, heid, hsh, htr, hkeep, hnew, hproc⟩ :=
      afterBurst_sleep a.cp body fuel pr S gap hgap (.ctl (S.now + gap) (some op) sc)
    obtain ⟨h1, h2, -, h4⟩ := hm.parts.keep hkeep (fun _ _ => List.not_mem_nil)
      (fun p' hp' => (hproc p').trans (if_neg (hm.ne_of_mem hp')))
    have hc := hm.cells
    rw [← hsh] at hc
    have key : KInv S' { a with ctl := .wait op sc ⟨S.now + gap, NORMAL, S.eid, S.events.size⟩ } := by
      refine ⟨wf_push1 hm.wf _ hnow hag heid rfl (le_add_of_nonneg_right hgap), ?_, h1.resolve_left fun h => hne h.1, h2,
        ⟨hnew, (hproc _).trans (if_pos rfl), hm.run.keep hkeep List.not_mem_nil⟩, h4, ?_,
        hc.c0, hc.c1, hc.c2, hc.c3, hc.c4, hc.c5, hc.c6⟩
      · rw [hag]
        have := hm.ag
        simp only [A.entries, hctl, CPhase.entries, List.nil_append, List.singleton_append, ← List.append_assoc] at this ⊢
        exact (this.cons _).trans List.perm_middle.symm
      · have hf := hm.fresh
        simp only [A.ids, hctl, CPhase.ids, List.nil_append, List.cons_append, ← List.append_assoc] at hf ⊢
        exact (List.perm_middle.trans ((List.perm_middle).cons _)).nodup_iff.mpr (nodup_fresh hf).1
    subst hS
    exact ⟨_, hm.ev0_keep hkeep (fun e he => absurd he List.not_mem_nil), hnow, by rw [htr], fun _ => key⟩

end TimerK
