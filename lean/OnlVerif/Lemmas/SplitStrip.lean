import OnlVerif.Lemmas.SplitAttr
import OnlVerif.Lemmas.KAccess
section
/-!
# Erasing `StopSimulation.callback` from callback lists (C03, stage 2): definitions, leaf updates, reads

`run(until=event)` differs from the uninterrupted run in exactly one respect: the callback list of the until-event
holds one more entry, `Cb.stop`.  `KState.stripBy P` erases every `.stop` from the callback lists of the events
selected by `P` and leaves everything else alone; `StopEq P s1 s2` says that `s1` and `s2` are equal up to such entries.

This file shows that every *leaf update* of the model commutes with the erasure (as long as the callback it adds or
removes is not `.stop` — the model itself never registers or removes `.stop`; only `run(until=…)` does) and that every
*read* the model branches on returns the same value before and after the erasure.  The second part of this file and
`SplitStripStep.lean` then walk the model.  Core Lean only; everything holds for every scalar type.
-/

variable {τ σ : Type}

def stripCbs (l : List Cb) : List Cb := l.filter (· != .stop)

namespace EvRec
def strip (r : EvRec τ) : EvRec τ := { r with cbs := r.cbs.map stripCbs }
def stripIf (b : Bool) (r : EvRec τ) : EvRec τ := if b then r.strip else r
end EvRec

namespace KState
def stripBy (P : EvId → Bool) (s : KState τ σ) : KState τ σ :=
  { s with events := s.events.mapIdx (fun i r => EvRec.stripIf (P i) r) }

abbrev strip (s : KState τ σ) : KState τ σ := s.stripBy (fun _ => true)

def hasStop (s : KState τ σ) (e : EvId) : Bool :=
  match (s.ev e).cbs with
  | some l => l.contains .stop
  | none => false
end KState

/-- **the relation of the simulation**: `s2` is `s1` except that callback lists of the events selected by `P` may hold
additional `.stop` entries at arbitrary positions, in either state -/
def StopEq (P : EvId → Bool) (s1 s2 : KState τ σ) : Prop := s1.stripBy P = s2.stripBy P

def StopFree (P : EvId → Bool) (s : KState τ σ) : Prop := s.stripBy P = s

theorem stripCbs_cons_stop (l : List Cb) : stripCbs (Cb.stop :: l) = stripCbs l := rfl

theorem stripCbs_cons_of_ne (l : List Cb) (cb : Cb) (h : cb ≠ .stop) : stripCbs (cb :: l) = cb :: stripCbs l := by
  unfold stripCbs
  rw [List.filter_cons_of_pos (by simpa using h)]

theorem stripCbs_append_single (l : List Cb) (cb : Cb) (h : cb ≠ .stop) : stripCbs (l ++ [cb]) = stripCbs l ++ [cb] := by
  unfold stripCbs
  rw [List.filter_append]
  congr 1
  simp [h]

theorem stripCbs_erase (l : List Cb) (cb : Cb) (h : cb ≠ .stop) : stripCbs (l.erase cb) = (stripCbs l).erase cb := by
  induction l with
  | nil => rfl
  | cons x xs ih =>
    by_cases hx : x = cb
    · subst hx
      rw [List.erase_cons_head, stripCbs_cons_of_ne xs x h, List.erase_cons_head]
    · rw [List.erase_cons_tail (by simpa using hx)]
      by_cases hs : x = .stop
      · subst hs; exact ih
      · rw [stripCbs_cons_of_ne _ x hs, stripCbs_cons_of_ne _ x hs, List.erase_cons_tail (by simpa using hx), ih]

theorem stripCbs_contains (l : List Cb) (cb : Cb) (h : cb ≠ .stop) : (stripCbs l).contains cb = l.contains cb := by
  unfold stripCbs
  rw [Bool.eq_iff_iff]
  simp only [List.contains_iff_mem, List.mem_filter]
  constructor
  · exact fun h => h.1
  · intro hm; exact ⟨hm, by simpa using h⟩

theorem stripCbs_idem (l : List Cb) : stripCbs (stripCbs l) = stripCbs l := by
  unfold stripCbs; rw [List.filter_filter]; simp

theorem stripCbs_not_mem (l : List Cb) : Cb.stop ∉ stripCbs l := by
  unfold stripCbs; simp

theorem stripCbs_eq_self (l : List Cb) (h : Cb.stop ∉ l) : stripCbs l = l := by
  unfold stripCbs
  rw [List.filter_eq_self]
  intro a ha
  have : a ≠ Cb.stop := fun hc => h (hc ▸ ha)
  simpa using this

namespace EvRec

theorem stripIf_default (b : Bool) : (default : EvRec τ).stripIf b = default := by cases b <;> rfl
@[kstrip] theorem stripIf_out (b : Bool) (r : EvRec τ) : (r.stripIf b).out = r.out := by cases b <;> rfl
@[kstrip] theorem stripIf_kind (b : Bool) (r : EvRec τ) : (r.stripIf b).kind = r.kind := by cases b <;> rfl
@[kstrip] theorem stripIf_defused (b : Bool) (r : EvRec τ) : (r.stripIf b).defused = r.defused := by cases b <;> rfl
@[kstrip] theorem stripIf_count (b : Bool) (r : EvRec τ) : (r.stripIf b).count = r.count := by cases b <;> rfl
@[kstrip] theorem stripIf_label (b : Bool) (r : EvRec τ) : (r.stripIf b).label = r.label := by cases b <;> rfl
@[kstrip] theorem stripIf_req (b : Bool) (r : EvRec τ) : (r.stripIf b).req = r.req := by cases b <;> rfl
@[kstrip] theorem stripIf_cbs_isNone (b : Bool) (r : EvRec τ) : (r.stripIf b).cbs.isNone = r.cbs.isNone := by
  cases b
  · rfl
  · show (r.cbs.map stripCbs).isNone = _
    cases r.cbs <;> rfl

theorem stripIf_idem (b : Bool) (r : EvRec τ) : (r.stripIf b).stripIf b = r.stripIf b := by
  cases b
  · rfl
  · show ({ r with cbs := (r.cbs.map stripCbs).map stripCbs } : EvRec τ) = _
    cases h : r.cbs with
    | none => simp [stripIf, strip, h]
    | some l => simp [stripIf, strip, h, stripCbs_idem]

theorem strip_eq_self_iff (r : EvRec τ) : r.strip = r ↔ ∀ l, r.cbs = some l → Cb.stop ∉ l := by
  obtain ⟨k, cbs, o, d, c, lb, rq⟩ := r
  cases cbs with
  | none => exact ⟨fun _ _ hl => (nomatch hl), fun _ => rfl⟩
  | some l =>
    constructor
    · intro h l' hl'
      cases hl'
      have h2 : some (stripCbs l) = some l := congrArg EvRec.cbs h
      rw [← Option.some.inj h2]
      exact stripCbs_not_mem l
    · intro h
      show (⟨k, some (stripCbs l), o, d, c, lb, rq⟩ : EvRec τ) = _
      rw [stripCbs_eq_self l (h l rfl)]

end EvRec

namespace KState
variable (P : EvId → Bool) (s : KState τ σ)

@[kstrip] theorem stripBy_now : (s.stripBy P).now = s.now := rfl
@[kstrip] theorem stripBy_agenda : (s.stripBy P).agenda = s.agenda := rfl
@[kstrip] theorem stripBy_eid : (s.stripBy P).eid = s.eid := rfl
@[kstrip] theorem stripBy_procs : (s.stripBy P).procs = s.procs := rfl
@[kstrip] theorem stripBy_active : (s.stripBy P).active = s.active := rfl
@[kstrip] theorem stripBy_trace : (s.stripBy P).trace = s.trace := rfl
@[kstrip] theorem stripBy_shared : (s.stripBy P).shared = s.shared := rfl
@[kstrip] theorem stripBy_resources : (s.stripBy P).resources = s.resources := rfl
@[kstrip] theorem stripBy_nlabel : (s.stripBy P).nlabel = s.nlabel := rfl
@[kstrip] theorem stripBy_size : (s.stripBy P).events.size = s.events.size := by simp [stripBy]
@[kstrip] theorem stripBy_proc? (p : EvId) : (s.stripBy P).proc? p = s.proc? p := rfl
@[kstrip] theorem stripBy_res (r : ResId) : (s.stripBy P).res r = s.res r := rfl

theorem ev_stripBy (e : EvId) : (s.stripBy P).ev e = (s.ev e).stripIf (P e) := by
  simp only [KState.ev, KState.stripBy, Array.getD_eq_getD_getElem?, Array.getElem?_mapIdx]
  cases s.events[e]? with
  | none => exact (EvRec.stripIf_default _).symm
  | some r => rfl

@[kstrip] theorem stripBy_out (e : EvId) : ((s.stripBy P).ev e).out = (s.ev e).out := by rw [ev_stripBy, EvRec.stripIf_out]
@[kstrip] theorem stripBy_kind (e : EvId) : ((s.stripBy P).ev e).kind = (s.ev e).kind := by rw [ev_stripBy, EvRec.stripIf_kind]
@[kstrip] theorem stripBy_defused (e : EvId) : ((s.stripBy P).ev e).defused = (s.ev e).defused := by
  rw [ev_stripBy, EvRec.stripIf_defused]
@[kstrip] theorem stripBy_count (e : EvId) : ((s.stripBy P).ev e).count = (s.ev e).count := by rw [ev_stripBy, EvRec.stripIf_count]
@[kstrip] theorem stripBy_label (e : EvId) : ((s.stripBy P).ev e).label = (s.ev e).label := by rw [ev_stripBy, EvRec.stripIf_label]
@[kstrip] theorem stripBy_req (e : EvId) : ((s.stripBy P).ev e).req = (s.ev e).req := by rw [ev_stripBy, EvRec.stripIf_req]
@[kstrip] theorem stripBy_triggered (e : EvId) : (s.stripBy P).triggered e = s.triggered e := by
  unfold triggered; rw [stripBy_out]
@[kstrip] theorem stripBy_processed (e : EvId) : (s.stripBy P).processed e = s.processed e := by
  unfold processed; rw [ev_stripBy, EvRec.stripIf_cbs_isNone]

theorem stripBy_cbs (e : EvId) : ((s.stripBy P).ev e).cbs = if P e then (s.ev e).cbs.map stripCbs else (s.ev e).cbs := by
  rw [ev_stripBy]; unfold EvRec.stripIf; split <;> rfl

theorem stripBy_setEv (e : EvId) (r : EvRec τ) : (s.setEv e r).stripBy P = (s.stripBy P).setEv e (r.stripIf (P e)) := by
  simp only [KState.setEv, KState.stripBy, Array.mapIdx_setIfInBounds]

theorem stripBy_push (r : EvRec τ) (h : r.strip = r) :
    (s.events.push r).mapIdx (fun i r => EvRec.stripIf (P i) r) = (s.events.mapIdx (fun i r => EvRec.stripIf (P i) r)).push r := by
  rw [Array.mapIdx_push]
  congr 1
  unfold EvRec.stripIf; split <;> simp [h]

theorem newEv_stripBy (r : EvRec τ) (h : r.strip = r) : (s.stripBy P).newEv r = ((s.newEv r).1.stripBy P, (s.newEv r).2) := by
  simp only [KState.newEv, KState.stripBy, stripBy_push P s r h, Array.size_mapIdx]

theorem newLabelled_stripBy (r : EvRec τ) (h : r.strip = r) :
    (s.stripBy P).newLabelled r = ((s.newLabelled r).1.stripBy P, (s.newLabelled r).2) := by
  have h' : ({ r with label := s.nlabel + 1 } : EvRec τ).strip = { r with label := s.nlabel + 1 } := by
    have := congrArg EvRec.cbs h
    simp only [EvRec.strip] at this ⊢
    rw [this]
  simp only [KState.newLabelled, KState.stripBy, stripBy_push P s _ h', Array.size_mapIdx]

@[kstrip] theorem schedule_stripBy [Num τ] (e : EvId) (p : Nat) (d : τ) :
    (s.stripBy P).schedule e p d = (s.schedule e p d).stripBy P := rfl
@[kstrip] theorem scheduleAt_stripBy [Num τ] (e : EvId) (p : Nat) (t : τ) :
    (s.stripBy P).scheduleAt e p t = (s.scheduleAt e p t).stripBy P := rfl
@[kstrip] theorem emit_stripBy (o : Obs τ) : (s.stripBy P).emit o = (s.emit o).stripBy P := rfl
@[kstrip] theorem setProc_stripBy (p : EvId) (r : ProcRec σ) : (s.stripBy P).setProc p r = (s.setProc p r).stripBy P := rfl
@[kstrip] theorem setRes_stripBy (r : ResId) (x : ResRec) : (s.stripBy P).setRes r x = (s.setRes r x).stripBy P := rfl
@[kstrip] theorem setUsers_stripBy (r : ResId) (l : List EvId) : (s.stripBy P).setUsers r l = (s.setUsers r l).stripBy P := rfl
@[kstrip] theorem setLevel_stripBy (r : ResId) (x : Int) : (s.stripBy P).setLevel r x = (s.setLevel r x).stripBy P := rfl
@[kstrip] theorem setItems_stripBy (r : ResId) (l : List Int) : (s.stripBy P).setItems r l = (s.setItems r l).stripBy P := rfl
@[kstrip] theorem setPutQ_stripBy (r : ResId) (l : List EvId) : (s.stripBy P).setPutQ r l = (s.setPutQ r l).stripBy P := rfl
@[kstrip] theorem setGetQ_stripBy (r : ResId) (l : List EvId) : (s.stripBy P).setGetQ r l = (s.setGetQ r l).stripBy P := rfl
@[kstrip] theorem withActive_stripBy (a : Option EvId) :
    ({ s.stripBy P with active := a } : KState τ σ) = ({ s with active := a } : KState τ σ).stripBy P := rfl
@[kstrip] theorem withShared_stripBy (l : List (Nat × Val)) :
    ({ s.stripBy P with shared := l } : KState τ σ) = ({ s with shared := l } : KState τ σ).stripBy P := rfl

/-- structure updates `{ s with active := …, shared := …, now := …, agenda := … }` that keep the events -/
@[kstrip] theorem stripBy_mk (n : τ) (a : List (QEntry τ)) (i : Nat) (pr : List (EvId × ProcRec σ)) (ac : Option EvId)
    (t : Array (Obs τ)) (sh : List (Nat × Val)) (r : Array ResRec) (nl : Nat) :
    (KState.mk n a i (s.stripBy P).events pr ac t sh r nl) = (KState.mk n a i s.events pr ac t sh r nl).stripBy P := rfl

theorem updEv_stripBy (e : EvId) (f : EvRec τ → EvRec τ) (hf : ∀ b r, f (r.stripIf b) = (f r).stripIf b) :
    (s.stripBy P).setEv e (f ((s.stripBy P).ev e)) = (s.setEv e (f (s.ev e))).stripBy P := by
  rw [stripBy_setEv, ev_stripBy, hf]

@[kstrip] theorem setOut_stripBy (e : EvId) (o : Outcome) : (s.stripBy P).setOut e o = (s.setOut e o).stripBy P :=
  updEv_stripBy P s e (fun r => { r with out := some o }) (by intro b r; cases b <;> rfl)
@[kstrip] theorem defuse_stripBy (e : EvId) : (s.stripBy P).defuse e = (s.defuse e).stripBy P :=
  updEv_stripBy P s e (fun r => { r with defused := true }) (by intro b r; cases b <;> rfl)
@[kstrip] theorem bumpCount_stripBy (c : EvId) : (s.stripBy P).bumpCount c = (s.bumpCount c).stripBy P := by
  unfold bumpCount
  rw [stripBy_setEv, ev_stripBy]
  congr 1
  cases P c <;> rfl
@[kstrip] theorem setUsage_stripBy (e : EvId) : (s.stripBy P).setUsage e = (s.setUsage e).stripBy P :=
  updEv_stripBy P s e (fun r => { r with req := r.req.map fun rq => { rq with usageSince := some s.now } })
    (by intro b r; cases b <;> rfl)

theorem eraseCb_stripBy (e : EvId) (cb : Cb) (h : cb ≠ .stop) : (s.stripBy P).eraseCb e cb = (s.eraseCb e cb).stripBy P := by
  refine updEv_stripBy P s e (fun r => { r with cbs := r.cbs.map (·.erase cb) }) ?_
  intro b r
  cases b
  · rfl
  · show ({ r with cbs := (r.cbs.map stripCbs).map (·.erase cb) } : EvRec τ) = { r with cbs := (r.cbs.map (·.erase cb)).map stripCbs }
    cases r.cbs with
    | none => rfl
    | some l => simp only [Option.map_some, stripCbs_erase l cb h]

theorem addCb_stripBy (e : EvId) (cb : Cb) (h : cb ≠ .stop) : (s.stripBy P).addCb e cb = (s.addCb e cb).stripBy P := by
  refine updEv_stripBy P s e (fun r => { r with cbs := r.cbs.map (· ++ [cb]) }) ?_
  intro b r
  cases b
  · rfl
  · show ({ r with cbs := (r.cbs.map stripCbs).map (· ++ [cb]) } : EvRec τ) = { r with cbs := (r.cbs.map (· ++ [cb])).map stripCbs }
    cases r.cbs with
    | none => rfl
    | some l => simp only [Option.map_some, stripCbs_append_single l cb h]

@[kstrip] theorem eraseCb_resume_stripBy (e p : EvId) :
    (s.stripBy P).eraseCb e (.resume p) = (s.eraseCb e (.resume p)).stripBy P := eraseCb_stripBy P s e _ (by simp)
@[kstrip] theorem eraseCb_check_stripBy (e c : EvId) :
    (s.stripBy P).eraseCb e (.check c) = (s.eraseCb e (.check c)).stripBy P := eraseCb_stripBy P s e _ (by simp)
@[kstrip] theorem addCb_resume_stripBy (e p : EvId) :
    (s.stripBy P).addCb e (.resume p) = (s.addCb e (.resume p)).stripBy P := addCb_stripBy P s e _ (by simp)
@[kstrip] theorem addCb_check_stripBy (e c : EvId) :
    (s.stripBy P).addCb e (.check c) = (s.addCb e (.check c)).stripBy P := addCb_stripBy P s e _ (by simp)
@[kstrip] theorem addCb_build_stripBy (e c : EvId) :
    (s.stripBy P).addCb e (.build c) = (s.addCb e (.build c)).stripBy P := addCb_stripBy P s e _ (by simp)
@[kstrip] theorem addCb_probe_stripBy (e : EvId) (tag : Nat) :
    (s.stripBy P).addCb e (.probe tag) = (s.addCb e (.probe tag)).stripBy P := addCb_stripBy P s e _ (by simp)

@[kstrip] theorem trigger_stripBy [Num τ] (e : EvId) (o : Outcome) : (s.stripBy P).trigger e o = (s.trigger e o).stripBy P := by
  unfold trigger
  rw [setOut_stripBy, schedule_stripBy]

theorem ev_eq_getElem (e : EvId) (h : e < s.events.size) : s.events[e]? = some (s.ev e) := by
  simp only [ev, Array.getD_eq_getD_getElem?]
  rw [Array.getElem?_eq_getElem h]; rfl

theorem setEv_ev (e : EvId) : s.setEv e (s.ev e) = s := by
  unfold setEv
  congr
  apply Array.ext_getElem?
  intro i
  rw [Array.getElem?_setIfInBounds]
  split
  · rename_i hei
    subst hei
    split
    · rename_i hlt; exact (s.ev_eq_getElem e hlt).symm
    · rename_i hge; exact (Array.getElem?_eq_none (Nat.le_of_not_lt hge)).symm
  · rfl

theorem addCb_stop_stripBy_of_P (e : EvId) (h : P e = true) : (s.addCb e .stop).stripBy P = s.stripBy P := by
  have hr : ({ s.ev e with cbs := (s.ev e).cbs.map (· ++ [Cb.stop]) } : EvRec τ).stripIf true = (s.stripBy P).ev e := by
    rw [ev_stripBy, h]
    show ({ s.ev e with cbs := ((s.ev e).cbs.map (· ++ [Cb.stop])).map stripCbs } : EvRec τ) =
      { s.ev e with cbs := (s.ev e).cbs.map stripCbs }
    cases (s.ev e).cbs with
    | none => rfl
    | some l => simp [stripCbs, List.filter_append]
  unfold addCb
  rw [stripBy_setEv, h, hr, setEv_ev]

theorem stripBy_idem : (s.stripBy P).stripBy P = s.stripBy P := by
  simp only [stripBy, Array.mapIdx_mapIdx, Function.comp_def, EvRec.stripIf_idem]

theorem hasStop_default (e : EvId) (h : s.events.size ≤ e) : s.hasStop e = false := by
  unfold hasStop ev
  rw [Array.getD_eq_getD_getElem?, Array.getElem?_eq_none h]
  rfl

theorem hasStop_eq_false_iff (e : EvId) : s.hasStop e = false ↔ (s.ev e).strip = s.ev e := by
  rw [EvRec.strip_eq_self_iff]
  unfold hasStop
  cases (s.ev e).cbs with
  | none => exact ⟨fun _ _ hl => (nomatch hl), fun _ => rfl⟩
  | some l => simp

theorem stripBy_eq_self_iff : s.stripBy P = s ↔ ∀ e, P e = true → s.hasStop e = false := by
  simp only [hasStop_eq_false_iff]
  constructor
  · intro h e hP
    have h1 := ev_stripBy P s e
    rw [h, hP] at h1
    exact h1.symm
  · intro h
    have hev : s.events.mapIdx (fun i r => EvRec.stripIf (P i) r) = s.events := by
      refine Array.mapIdx_eq_iff.mpr fun i => ?_
      by_cases hi : i < s.events.size
      · rw [ev_eq_getElem s i hi, Option.map_some]
        cases hP : P i
        · rfl
        · exact congrArg some (h i hP).symm
      · rw [Array.getElem?_eq_none (Nat.le_of_not_lt hi)]; rfl
    show ({ s with events := _ } : KState τ σ) = s
    rw [hev]

theorem hasStop_stripBy (e : EvId) (h : P e = true) : (s.stripBy P).hasStop e = false :=
  (stripBy_eq_self_iff P (s.stripBy P)).mp (stripBy_idem P s) e h

theorem hasStop_stripBy_of_not (e : EvId) (h : P e = false) : (s.stripBy P).hasStop e = s.hasStop e := by
  unfold hasStop
  rw [stripBy_cbs, h]
  rfl

end KState

theorem StopFree.iff (P : EvId → Bool) (s : KState τ σ) : StopFree P s ↔ ∀ e, P e = true → s.hasStop e = false :=
  KState.stripBy_eq_self_iff P s

theorem StopFree.mono {P Q : EvId → Bool} {s : KState τ σ} (h : StopFree P s) (hq : ∀ e, Q e = true → P e = true) :
    StopFree Q s :=
  (StopFree.iff Q s).mpr fun e he => (StopFree.iff P s).mp h e (hq e he)

theorem StopFree.stripBy (P : EvId → Bool) (s : KState τ σ) : StopFree P (s.stripBy P) := KState.stripBy_idem P s

theorem StopEq.refl (P : EvId → Bool) (s : KState τ σ) : StopEq P s s := rfl
theorem StopEq.symm {P : EvId → Bool} {s1 s2 : KState τ σ} (h : StopEq P s1 s2) : StopEq P s2 s1 := Eq.symm h
theorem StopEq.trans {P : EvId → Bool} {s1 s2 s3 : KState τ σ} (h1 : StopEq P s1 s2) (h2 : StopEq P s2 s3) :
    StopEq P s1 s3 := Eq.trans h1 h2
theorem StopEq.stripBy (P : EvId → Bool) (s : KState τ σ) : StopEq P (s.stripBy P) s := KState.stripBy_idem P s
theorem StopEq.trace {P : EvId → Bool} {s1 s2 : KState τ σ} (h : StopEq P s1 s2) : s1.trace = s2.trace :=
  by
  have h' : (s1.stripBy P).trace = (s2.stripBy P).trace := by rw [show s1.stripBy P = s2.stripBy P from h]
  exact h'
theorem StopEq.now {P : EvId → Bool} {s1 s2 : KState τ σ} (h : StopEq P s1 s2) : s1.now = s2.now :=
  by
  have h' : (s1.stripBy P).now = (s2.stripBy P).now := by rw [show s1.stripBy P = s2.stripBy P from h]
  exact h'
theorem StopEq.agenda {P : EvId → Bool} {s1 s2 : KState τ σ} (h : StopEq P s1 s2) : s1.agenda = s2.agenda :=
  by
  have h' : (s1.stripBy P).agenda = (s2.stripBy P).agenda := by rw [show s1.stripBy P = s2.stripBy P from h]
  exact h'
theorem StopEq.eq_stripBy {P : EvId → Bool} {s1 s2 : KState τ σ} (h : StopEq P s1 s2) (hf : StopFree P s1) :
    s1 = s2.stripBy P := hf.symm.trans h

end

section
/-!
# Erasing stop callbacks commutes with every operation of `Kernel/Ops.lean` (C03, stage 2)

For every state transformer `f` of the model: `f (s.stripBy P) = (f s).stripBy P`, and every value it returns besides the
state (replies, flags, fresh ids, errors) is the same.  For every read `g`: `g (s.stripBy P) = g s`.
-/

set_option linter.unusedSectionVars false

variable {τ σ : Type} [Num τ]
variable (P : EvId → Bool)

/-- split every `if`/`match` of both sides (they branch on the same reads) and close the branches by `rfl` -/
macro "ksplit" : tactic => `(tactic| ((repeat' split) <;> (first | rfl | contradiction | (simp_all; done))))
macro "ksimp" : tactic => `(tactic| simp only [kstrip])

namespace KState
omit [Num τ] in
@[kstrip] theorem newEv_snd (s : KState τ σ) (r : EvRec τ) : (s.newEv r).2 = s.events.size := rfl
omit [Num τ] in
@[kstrip] theorem newLabelled_snd (s : KState τ σ) (r : EvRec τ) : (s.newLabelled r).2 = s.events.size := rfl
theorem newEv_fst_stripBy (s : KState τ σ) (r : EvRec τ) (h : r.strip = r) :
    ((s.stripBy P).newEv r).1 = (s.newEv r).1.stripBy P := by rw [newEv_stripBy P s r h]
theorem newLabelled_fst_stripBy (s : KState τ σ) (r : EvRec τ) (h : r.strip = r) :
    ((s.stripBy P).newLabelled r).1 = (s.newLabelled r).1.stripBy P := by rw [newLabelled_stripBy P s r h]

/-! the fresh records of the model, by the shape of their callback list (unconditional forms for `simp`) -/
@[kstrip] theorem newLabelled_nil_stripBy (s : KState τ σ) (k : Kind) (o : Option Outcome) (d : Bool) (c l : Nat)
    (rq : Option (ReqData τ)) :
    ((s.stripBy P).newLabelled ⟨k, some [], o, d, c, l, rq⟩).1 = (s.newLabelled ⟨k, some [], o, d, c, l, rq⟩).1.stripBy P :=
  newLabelled_fst_stripBy P s _ (by simp [EvRec.strip, stripCbs])
@[kstrip] theorem newLabelled_trigGet_stripBy (s : KState τ σ) (k : Kind) (o : Option Outcome) (d : Bool) (c l : Nat)
    (rq : Option (ReqData τ)) (r : ResId) :
    ((s.stripBy P).newLabelled ⟨k, some [.trigGet r], o, d, c, l, rq⟩).1 =
      (s.newLabelled ⟨k, some [.trigGet r], o, d, c, l, rq⟩).1.stripBy P :=
  newLabelled_fst_stripBy P s _ (by simp [EvRec.strip, stripCbs])
@[kstrip] theorem newLabelled_trigPut_stripBy (s : KState τ σ) (k : Kind) (o : Option Outcome) (d : Bool) (c l : Nat)
    (rq : Option (ReqData τ)) (r : ResId) :
    ((s.stripBy P).newLabelled ⟨k, some [.trigPut r], o, d, c, l, rq⟩).1 =
      (s.newLabelled ⟨k, some [.trigPut r], o, d, c, l, rq⟩).1.stripBy P :=
  newLabelled_fst_stripBy P s _ (by simp [EvRec.strip, stripCbs])
@[kstrip] theorem newEv_intr_stripBy (s : KState τ σ) (k : Kind) (o : Option Outcome) (d : Bool) (c l : Nat)
    (rq : Option (ReqData τ)) (iv : EvId) :
    ((s.stripBy P).newEv ⟨k, some [.intr iv], o, d, c, l, rq⟩).1 = (s.newEv ⟨k, some [.intr iv], o, d, c, l, rq⟩).1.stripBy P :=
  newEv_fst_stripBy P s _ (by simp [EvRec.strip, stripCbs])
@[kstrip] theorem newEv_resume_stripBy (s : KState τ σ) (k : Kind) (o : Option Outcome) (d : Bool) (c l : Nat)
    (rq : Option (ReqData τ)) (p : EvId) :
    ((s.stripBy P).newEv ⟨k, some [.resume p], o, d, c, l, rq⟩).1 = (s.newEv ⟨k, some [.resume p], o, d, c, l, rq⟩).1.stripBy P :=
  newEv_fst_stripBy P s _ (by simp [EvRec.strip, stripCbs])
end KState

@[kstrip] theorem reqOf_stripBy (s : KState τ σ) (e : EvId) : reqOf (s.stripBy P) e = reqOf s e := by
  unfold reqOf; rw [KState.stripBy_req]

@[kstrip] theorem insertSorted_stripBy (s : KState τ σ) (e : EvId) (l : List EvId) :
    insertSorted (s.stripBy P) e l = insertSorted s e l := by
  induction l with
  | nil => rfl
  | cons x xs ih => simp only [insertSorted, reqOf_stripBy, ih]

@[kstrip] theorem worstUser_stripBy (s : KState τ σ) (l : List EvId) : worstUser (s.stripBy P) l = worstUser s l := by
  induction l with
  | nil => rfl
  | cons x xs ih => simp only [worstUser, reqOf_stripBy, ih]

@[kstrip] theorem mkInterrupt_stripBy (s : KState τ σ) (p : EvId) (c : Val) :
    mkInterrupt (s.stripBy P) p c = ((mkInterrupt s p c).1.stripBy P, (mkInterrupt s p c).2) := by
  unfold mkInterrupt
  ksimp
  ksplit

@[kstrip] theorem preemptStep_stripBy (s : KState τ σ) (r : ResId) (e : EvId) :
    preemptStep (s.stripBy P) r e = (preemptStep s r e).stripBy P := by
  unfold preemptStep
  ksimp
  ksplit

@[kstrip] theorem prePut_stripBy (s : KState τ σ) (r : ResId) (e : EvId) :
    prePut (s.stripBy P) r e = (prePut s r e).stripBy P := by
  unfold prePut
  ksimp
  ksplit

@[kstrip] theorem canPut_stripBy (s : KState τ σ) (r : ResId) (e : EvId) : canPut (s.stripBy P) r e = canPut s r e := by
  unfold canPut
  ksimp

@[kstrip] theorem applyPut_stripBy (s : KState τ σ) (r : ResId) (e : EvId) :
    applyPut (s.stripBy P) r e = (applyPut s r e).stripBy P := by
  unfold applyPut
  ksimp
  ksplit

@[kstrip] theorem doPut_stripBy (s : KState τ σ) (r : ResId) (e : EvId) :
    doPut (s.stripBy P) r e = ((doPut s r e).1.stripBy P, (doPut s r e).2) := by
  unfold doPut
  ksimp
  ksplit

@[kstrip] theorem getItem_stripBy (s : KState τ σ) (r : ResId) (e : EvId) : getItem (s.stripBy P) r e = getItem s r e := by
  unfold getItem
  ksimp

@[kstrip] theorem takeOut_stripBy (s : KState τ σ) (r : ResId) (e : EvId) (v : Val) :
    takeOut (s.stripBy P) r e v = (takeOut s r e v).stripBy P := by
  unfold takeOut
  ksimp
  ksplit

@[kstrip] theorem doGet_stripBy (s : KState τ σ) (r : ResId) (e : EvId) :
    doGet (s.stripBy P) r e = ((doGet s r e).1.stripBy P, (doGet s r e).2) := by
  unfold doGet
  ksimp
  ksplit

@[kstrip] theorem dropPutQ_stripBy (s : KState τ σ) (r : ResId) (e : EvId) :
    dropPutQ (s.stripBy P) r e = (dropPutQ s r e).stripBy P := rfl
@[kstrip] theorem dropGetQ_stripBy (s : KState τ σ) (r : ResId) (e : EvId) :
    dropGetQ (s.stripBy P) r e = (dropGetQ s r e).stripBy P := rfl

@[kstrip] theorem scanPut_stripBy (r : ResId) (q : List EvId) (s : KState τ σ) :
    scanPut r q (s.stripBy P) = (scanPut r q s).stripBy P := by
  induction q generalizing s with
  | nil => rfl
  | cons e rest ih =>
    unfold scanPut
    ksimp
    by_cases h1 : (doPut s r e).1.triggered e = true <;> by_cases h2 : (doPut s r e).2 = true <;>
      simp only [h1, h2, if_true, if_false, ih, Bool.false_eq_true]

@[kstrip] theorem scanGet_stripBy (r : ResId) (q : List EvId) (s : KState τ σ) :
    scanGet r q (s.stripBy P) = (scanGet r q s).stripBy P := by
  induction q generalizing s with
  | nil => rfl
  | cons e rest ih =>
    unfold scanGet
    ksimp
    by_cases h1 : (doGet s r e).1.triggered e = true <;> by_cases h2 : (doGet s r e).2 = true <;>
      simp only [h1, h2, if_true, if_false, ih, Bool.false_eq_true]

@[kstrip] theorem triggerPut_stripBy (s : KState τ σ) (r : ResId) : triggerPut (s.stripBy P) r = (triggerPut s r).stripBy P := by
  unfold triggerPut; ksimp
@[kstrip] theorem triggerGet_stripBy (s : KState τ σ) (r : ResId) : triggerGet (s.stripBy P) r = (triggerGet s r).stripBy P := by
  unfold triggerGet; ksimp

@[kstrip] theorem enqPut_stripBy (s : KState τ σ) (r : ResId) (e : EvId) : enqPut (s.stripBy P) r e = (enqPut s r e).stripBy P := by
  unfold enqPut; ksimp
@[kstrip] theorem enqGet_stripBy (s : KState τ σ) (r : ResId) (e : EvId) : enqGet (s.stripBy P) r e = (enqGet s r e).stripBy P := rfl

@[kstrip] theorem mkPut_stripBy (s : KState τ σ) (r : ResId) (rq : ReqData τ) :
    mkPut (s.stripBy P) r rq = ((mkPut s r rq).1.stripBy P, (mkPut s r rq).2) := by
  unfold mkPut
  ksimp

@[kstrip] theorem mkGet_stripBy (s : KState τ σ) (r : ResId) (rq : ReqData τ) :
    mkGet (s.stripBy P) r rq = ((mkGet s r rq).1.stripBy P, (mkGet s r rq).2) := by
  unfold mkGet
  ksimp

@[kstrip] theorem cancelReq_stripBy (s : KState τ σ) (e : EvId) :
    cancelReq (s.stripBy P) e = ((cancelReq s e).1.stripBy P, (cancelReq s e).2) := by
  unfold cancelReq
  ksimp
  ksplit

@[kstrip] theorem condOps_stripBy (s : KState τ σ) (c : EvId) : condOps (s.stripBy P) c = condOps s c := by
  unfold condOps; ksimp
@[kstrip] theorem isCond_stripBy (s : KState τ σ) (e : EvId) : isCond (s.stripBy P) e = isCond s e := by
  unfold isCond; ksimp

@[kstrip] theorem condCheck_stripBy (s : KState τ σ) (c e : EvId) :
    condCheck (s.stripBy P) c e = (condCheck s c e).stripBy P := by
  unfold condCheck
  ksimp
  ksplit

@[kstrip] theorem eraseCheck_stripBy (s : KState τ σ) (c e : EvId) :
    eraseCheck (s.stripBy P) c e = (eraseCheck s c e).stripBy P := by
  unfold eraseCheck
  rw [KState.stripBy_cbs]
  cases h : (s.ev e).cbs with
  | none => cases P e <;> rfl
  | some l =>
    have hc : (stripCbs l).contains (Cb.check c) = l.contains (Cb.check c) := stripCbs_contains l _ (by simp)
    cases P e
    · simp only [Bool.false_eq_true, if_false, kstrip]
      ksplit
    · simp only [if_true, Option.map_some, hc, kstrip]
      ksplit

theorem foldl_stripBy {α : Type} (f : KState τ σ → α → KState τ σ)
    (hf : ∀ s a, f (s.stripBy P) a = (f s a).stripBy P) (l : List α) (s : KState τ σ) :
    l.foldl f (s.stripBy P) = (l.foldl f s).stripBy P := by
  induction l generalizing s with
  | nil => rfl
  | cons a l ih => rw [List.foldl_cons, List.foldl_cons, hf, ih]

@[kstrip] theorem removeChecks_stripBy (fuel : Nat) (c : EvId) (s : KState τ σ) :
    removeChecks fuel c (s.stripBy P) = (removeChecks fuel c s).stripBy P := by
  induction fuel generalizing c s with
  | zero => rfl
  | succ n ih =>
    unfold removeChecks
    rw [condOps_stripBy]
    apply foldl_stripBy
    intro s e
    ksimp
    simp only [ih]
    ksplit

@[kstrip] theorem populate_stripBy (fuel : Nat) (s : KState τ σ) (c : EvId) : populate fuel (s.stripBy P) c = populate fuel s c := by
  induction fuel generalizing c with
  | zero => rfl
  | succ n ih =>
    unfold populate
    simp only [kstrip, ih]

@[kstrip] theorem condBuild_stripBy (s : KState τ σ) (c : EvId) : condBuild (s.stripBy P) c = (condBuild s c).stripBy P := by
  unfold condBuild
  ksimp
  ksplit

@[kstrip] theorem mkCond_stripBy (s : KState τ σ) (all : Bool) (ops : List EvId) :
    mkCond (s.stripBy P) all ops = ((mkCond s all ops).1.stripBy P, (mkCond s all ops).2) := by
  unfold mkCond
  ksimp
  split
  · rfl
  · rw [foldl_stripBy]
    · ksimp
    · intro s e
      ksimp
      split <;> rfl

@[kstrip] theorem renderSimple_stripBy (s : KState τ σ) (v : Val) : renderSimple (s.stripBy P) v = renderSimple s v := by
  unfold renderSimple
  cases v <;> ksimp

@[kstrip] theorem freezeVal_stripBy (s : KState τ σ) (v : Val) : freezeVal (s.stripBy P) v = freezeVal s v := by
  unfold freezeVal
  cases v <;> ksimp

theorem pair_ite {α β : Type} (g : Prop) [Decidable g] (a b : α) (x y : β) :
    ((if g then a else b), (if g then x else y)) = if g then (a, x) else (b, y) := by split <;> rfl

@[kstrip] theorem doCall_stripBy (s : KState τ σ) (self : EvId) (c : Call τ σ) :
    doCall (s.stripBy P) self c = ((doCall s self c).1.stripBy P, (doCall s self c).2) := by
  cases c <;> dsimp only [doCall] <;>
    simp only [kstrip, apply_ite Prod.fst, apply_ite Prod.snd, apply_ite (KState.stripBy P), pair_ite]
  all_goals ksplit

end
