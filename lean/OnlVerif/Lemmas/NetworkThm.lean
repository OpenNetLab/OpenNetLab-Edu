import Mathlib.Data.List.Nodup
import OnlVerif.Lemmas.NetworkInv
/-!
# From the counting invariant to the statements of C08 (network half)
-/

namespace Net
variable {ι π κ : Type} [DecidableEq ι] [DecidableEq π] [DecidableEq κ]

theorem count_map_key (key : π → κ) (p : π) (l : List π) (h : ∀ q ∈ l, key q = key p → q = p) :
    (l.map key).count (key p) = l.count p := by
  induction l with
  | nil => rfl
  | cons x l ih =>
    have ih' := ih (fun q hq => h q (List.mem_cons_of_mem _ hq))
    simp only [List.map_cons, List.count_cons, ih']
    by_cases hx : x = p
    · subst hx; simp
    · have : ¬ key x = key p := fun e => hx (h x (List.mem_cons_self) e)
      simp [hx, this]

theorem GInv.key_inj {n : Wiring ι π κ} {g : GState ι π} (h : GInv n g) {p q : π} (hp : p ∈ g.introduced)
    (hq : q ∈ g.introduced) (hk : n.key q = n.key p) : q = p :=
  List.inj_on_of_nodup_map h.keys hq hp hk

theorem GInv.acct_perm {n : Wiring ι π κ} {g : GState ι π} (h : GInv n g) (a : ι) :
    ((g.acct a).inn ++ (g.acct a).made).Perm ((g.acct a).out ++ (g.acct a).dropped.map (·.1) ++ (g.acct a).held) := by
  rw [List.perm_iff_count]
  intro q
  have := h.bal a q
  simp only [GState.rc, GState.recs] at this
  simp only [List.count_append]
  omega

theorem GInv.one_place {n : Wiring ι π κ} {g : GState ι π} (h : GInv n g) (p : π) (hp : p ∈ g.introduced) :
    ∃ s : Slot ι, s.isPlace = true ∧ (g.recs s).count p = 1 ∧
      ∀ s' : Slot ι, s'.isPlace = true → ((g.recs s').map n.key).count (n.key p) = if s' = s then 1 else 0 := by
  obtain ⟨s, hs, h1, ho⟩ := (h.exact p).1 hp
  refine ⟨s, hs, h1, fun s' hs' => ?_⟩
  rw [count_map_key n.key p (g.recs s') (fun q hq hk => h.key_inj hp (h.known s' q hq) hk)]
  by_cases e : s' = s
  · subst e; rw [if_pos rfl]; exact h1
  · rw [if_neg e]; exact ho s' hs' e

theorem run_append (n : Wiring ι π κ) (es es' : List (GEv ι π)) (g g1 : GState ι π) (h : run n g es = .ok g1) :
    run n g (es ++ es') = run n g1 es' := by
  induction es generalizing g with
  | nil => simp only [run, Except.ok.injEq] at h; subst h; rfl
  | cons e es ih =>
    simp only [run, List.cons_append] at h ⊢
    split at h
    · cases h
    · rename_i g2 h2
      exact ih g2 h

theorem run_snoc (n : Wiring ι π κ) (es : List (GEv ι π)) (e : GEv ι π) (g g1 g2 : GState ι π) (h : run n g es = .ok g1)
    (hs : step n g1 e = .ok g2) : run n g (es ++ [e]) = .ok g2 := by
  rw [run_append n es [e] g g1 h]
  simp [run, hs]

end Net
