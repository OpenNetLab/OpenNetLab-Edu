import OnlVerif.Lemmas.PortKCfg
/-!
# The Port on the kernel model: the kernel steps

Each kernel step is computed on the configuration `cfgOf a s st0` by the machine of `Lemmas/KProcDefs.lean`: `hrun_*` say what the
pieces of the two generators do to cells, store and trace, `Lemmas/KProcMach.lean` how a burst ends; `StepsTo.of_hend` (a step
that resumes a process) and `StepsTo.of_ginv` read the configuration `a'` of the state after the step off the result.
-/

namespace PortK
open PortOnK
open KProc

variable {size : Int → Nat} {rate : ℚ} {ql : Option Int}
variable {s : KS} {a : A} {q : QEntry ℚ} {rest : List (QEntry ℚ)} {st0 : St}

/-- the kernel step from `s` succeeds at the instant of `q` in a state with configuration `a'`, `new` having left the port -/
def StepsTo (size : Int → Nat) (rate : ℚ) (ql : Option Int) (fuel : Nat) (s : KS) (q : QEntry ℚ) (a' : A)
    (new : List (Int × ℚ)) : Prop :=
  ∃ s', step (body size rate ql) (fuel + 1) s = .ok s' ∧ KInv s' a' ∧ s'.now = q.time ∧ outsOf s'.trace = outsOf s.trace ++ new

/-- the configuration `c'` (of the machine, between two steps) displays `a'` -/
structure Shows (c' : Cfg St) (a' : A) (st0 : St) : Prop where
  threads : c'.threads = portThread a'.port :: srcThreads st0 a'.src
  pend : c'.pend = a'.pend.toList.map (·, 0)
  stores : ∀ r, c'.stores r = if r = 0 then some { getQ := a'.port.getQ, items := a'.items } else none
  loose : c'.loose = []
  cur : c'.cur = none
  port : a'.port.OK
  cells : Cells c'.reg.cells a'.bytes a'.recv a'.busy a'.bsz a'.dropped

/-- a state that is the configuration `c'` the machine has computed has the configuration `a'` that `c'` displays -/
theorem KInv.of_ginv {s' : KS} {c' : Cfg St} {a' : A} (hg : GInv s' c') (h : Shows c' a' st0) : KInv s' a' := by
  obtain ⟨ht, hp, hs, hl, hcur, hr, hc⟩ := h
  have hreg := hg.reg
  have hc' : c' = cfgOf a' s' st0 := hg.cfg_eq ht hp hs hl hcur
  exact kinv_iff.mpr ⟨hr, hc' ▸ hg, by rw [hreg] at hc; exact hc⟩

theorem StepsTo.of_ginv {fuel : Nat} {c' : Cfg St} {a' : A} {new : List (Int × ℚ)}
    (h : ∃ s', step (body size rate ql) (fuel + 1) s = .ok s' ∧ GInv s' c') (hsh : Shows c' a' st0)
    (hnow : c'.reg.now = q.time) (hh : outsOf c'.reg.trace = outsOf s.trace ++ new) : StepsTo size rate ql fuel s q a' new := by
  obtain ⟨s', hstep, hg⟩ := h
  refine ⟨s', hstep, .of_ginv hg hsh, ?_, ?_⟩
  · rw [hg.reg] at hnow; exact hnow
  · rw [hg.reg] at hh; exact hh

theorem store_cfgOf {th : Thread St} (hth : th ∈ (cfgOf a s st0).threads) {r : ResId} {q' : QEntry ℚ} {v : Int}
    (h : th.wait = .getH r q' v) : r = 0 := by
  rcases List.mem_cons.mp hth with rfl | hth
  · revert h
    cases a.port <;> intro h <;> cases h
    rfl
  · revert hth
    cases a.src <;> intro hth <;> simp only [srcThreads, List.mem_singleton, List.not_mem_nil] at hth <;> subst hth <;> cases h

/-- the step that resumes the process `th` with the entry `q`: its burst is run to the end on the configuration -/
theorem StepsTo.of_hend {fuel : Nat} (hk : KInv s a) {th : Thread St} {p : EvId} {arg : Resume} {c' : Cfg St} {a' : A}
    {new : List (Int × ℚ)} (hth : th ∈ (cfgOf a s st0).threads) (hw : th.wait.resumes = some (q, arg))
    (hp : popMin s.agenda = some (q, rest))
    (he : hend ((hbegin (cfgOf a s st0) p q arg).wr (Regs.of s).cells (s.trace.push (.resumed p arg q.time))) p
      (body size rate ql th.st arg) = some c')
    (hpid : th.pid = p) (hsh : Shows c' a' st0) (hnow : c'.reg.now = q.time) (hh : outsOf c'.reg.trace = outsOf s.trace ++ new) :
    StepsTo size rate ql fuel s q a' new :=
  .of_ginv ((kinv_iff.mp hk).2.1.step_resume (body size rate ql) fuel hth hw (fun _ _ _ hh => store_cfgOf hth hh ▸ rfl) hp
    ((hresume_eq _ _ _ hw).trans (hpid ▸ he))) hsh hnow hh

theorem modTh_srcThreads (sp : SPhase) (f : Thread St → Thread St) : modTh (srcThreads st0 sp) 0 f = srcThreads st0 sp := by
  cases sp <;> rfl

theorem modTh_port (p : PPhase) (sp : SPhase) (f : Thread St → Thread St) :
    modTh (portThread p :: srcThreads st0 sp) 0 f = f (portThread p) :: srcThreads st0 sp := by
  rw [modTh_cons, modTh_srcThreads]
  rfl

theorem modTh_cfgOf (p : PPhase) (f : Thread St → Thread St) :
    modTh (cfgOf a s st0).threads (portThread p).pid f = f (portThread a.port) :: srcThreads st0 a.src :=
  modTh_port ..

/-- the threads after a burst of `Port.run` -/
theorem threads_port (arg : Resume) (f : Nat → Val) (tr : Array (Obs ℚ)) (g : Thread St → Thread St) :
    modTh ((hbegin (cfgOf a s st0) 0 q arg).wr f tr).threads 0 g =
      g ⟨0, a.port.st, .running, none⟩ :: srcThreads st0 a.src := by
  show modTh (modTh (portThread a.port :: srcThreads st0 a.src) 0 fun th => { th with wait := .running }) 0 g = _
  rw [modTh_port, modTh_cons, modTh_srcThreads]
  rfl

theorem outs_resumed (tr : Array (Obs ℚ)) (p : EvId) (r : Resume) (t : ℚ) : outsOf (tr.push (.resumed p r t)) = outsOf tr ++ [] :=
  outsOf_push ..

theorem outs_ended (tr : Array (Obs ℚ)) (p : EvId) (r : Resume) (o : Outcome) (t : ℚ) :
    outsOf ((tr.push (.resumed p r t)).push (.ended p o t)) = outsOf tr ++ [] := by
  simp [outsOf_push]

theorem outs_out (tr : Array (Obs ℚ)) (p : EvId) (r : Resume) (id : Int) (t : ℚ) :
    outsOf ((tr.push (.resumed p r t)).push (.log 0 "out" (.int id) t)) = outsOf tr ++ [(id, t)] := by
  simp [outsOf_push]

/-! ## the steps of the source and of the store -/

/-- where the source goes at the head of its loop: it sleeps until the next arrival (timeout event `ev`, entry number `eid`) or
its generator returns (process event 2) -/
def srcNext (now : ℚ) (eid : Nat) (ev : EvId) : List (ℚ × Int) → SPhase
  | [] => .ending ⟨now, NORMAL, eid, 2⟩
  | (gap, id) :: r => .wait id r ⟨now + gap, NORMAL, eid, ev⟩

/-- the `Initialize` event of the source: it sleeps until the first arrival, or returns at once -/
theorem kstep_srcInit (fuel : Nat) (hk : KInv s a) {arr : List (ℚ × Int)} (hph : a.src = .init q arr) (hgap : GapsOK arr)
    (hp : popMin s.agenda = some (q, rest)) :
    StepsTo size rate ql fuel s q { a with src := srcNext q.time s.eid s.events.size arr } [] := by
  obtain ⟨hr, -, hc⟩ := (kinv_iff (st0 := .portStart)).mp hk
  cases a
  subst hph
  cases arr with
  | nil =>
    exact .of_hend (st0 := .src none []) (th := ⟨2, .src none [], .init q, some []⟩) hk (.tail _ (.head _)) rfl hp
      (hend_ret (p := 2) .none rfl) rfl ⟨rfl, rfl, fun _ => rfl, rfl, rfl, hr, hc⟩ rfl (outs_ended ..)
  | cons x r =>
    exact .of_hend (st0 := .portStart) (th := ⟨2, .src none (x :: r), .init q, some []⟩) hk (.tail _ (.head _)) rfl hp
      (hend_sleep (p := 2) (hgap x List.mem_cons_self) rfl) rfl ⟨rfl, rfl, fun _ => rfl, rfl, rfl, hr, hc⟩ rfl
      (outs_resumed ..)

/-- `Port.put` accepts the packet: the counters, then `store.put`, whose `StorePut` event is triggered at once -/
theorem hrun_put_acc (c : Cfg St) {n b : Int} {st : HStore} (id : Int) (cont : Burst ℚ St) (h1 : c.reg.cells 1 = .int n)
    (h0 : c.reg.cells 0 = .int b) (hacc : refuses ql (b + (size id : Int)) = false) (hst : c.stores 0 = some st) :
    hrun 2 (portPut size ql id cont) c = hrun 2 cont { c with
      reg := { c.reg with evSize := c.reg.evSize + 1, eid := c.reg.eid + 1
                          cells := upd (upd c.reg.cells 1 (.int (n + 1))) 0 (.int (b + (size id : Int))) }
      stores := upd c.stores 0 (some { st with items := st.items ++ [id] })
      pend := c.pend ++ [(⟨c.reg.now, NORMAL, c.reg.eid, c.reg.evSize⟩, 0)] } := by
  heval [portPut_eq, loadInt, portAccept, cReceived, cByteSize, storeId, h1, h0, hacc, hst]

/-- `Port.put` refuses the packet: the counters only -/
theorem hrun_put_drop (c : Cfg St) {n b d : Int} (id : Int) (cont : Burst ℚ St) (h1 : c.reg.cells 1 = .int n)
    (h0 : c.reg.cells 0 = .int b) (h4 : c.reg.cells 4 = .int d) (hdrop : refuses ql (b + (size id : Int)) = true) :
    hrun 2 (portPut size ql id cont) c =
      hrun 2 cont { c with reg := { c.reg with cells := upd (upd c.reg.cells 1 (.int (n + 1))) 4 (.int (d + 1)) } } := by
  heval [portPut_eq, loadInt, cReceived, cByteSize, cDropped, h1, h0, h4, hdrop]

/-- an arrival: the source's timeout fires and `Port.put(packet)` accepts the packet -/
theorem kstep_srcPut (fuel : Nat) (hk : KInv s a) {id : Int} {arr : List (ℚ × Int)} (hph : a.src = .wait id arr q)
    (hn : a.pend = none) (hacc : refuses ql (a.bytes + (size id : Int)) = false) (hgap : GapsOK arr)
    (hp : popMin s.agenda = some (q, rest)) :
    StepsTo size rate ql fuel s q { a with
        src := srcNext q.time (s.eid + 1) (s.events.size + 1) arr
        pend := some ⟨q.time, NORMAL, s.eid, s.events.size⟩
        items := a.items ++ [id]
        bytes := a.bytes + (size id : Int)
        recv := a.recv + 1
        putIds := a.putIds ++ [id]
        accIds := a.accIds ++ [id] } [] := by
  obtain ⟨hr, -, hc⟩ := (kinv_iff (st0 := .portStart)).mp hk
  obtain ⟨port, src, pend, items, bytes, recv, busy, bsz, last, putIds, dropped, accIds⟩ := a
  subst hph hn
  have hb := hend_congr (p := 2) (hrun_put_acc (size := size) ((hbegin (cfgOf ⟨port, .wait id arr q, none, items, bytes, recv,
    busy, bsz, last, putIds, dropped, accIds⟩ s .portStart) 2 q (.value .none)).wr (Regs.of s).cells
    (s.trace.push (.resumed 2 (.value .none) q.time))) id (srcLoop arr) hc.c1 hc.c0 hacc rfl)
  cases arr with
  | nil =>
    exact .of_hend (st0 := .src (some id) []) (th := ⟨2, .src (some id) [], .sleep q, some []⟩) hk (.tail _ (.head _)) rfl hp
      (hb.trans (hend_ret .none rfl)) rfl
      ⟨rfl, rfl, fun _ => stores_upd .., rfl, rfl, hr, hc.count.setBytes _⟩ rfl (outs_ended ..)
  | cons x r =>
    exact .of_hend (st0 := .portStart) (th := ⟨2, .src (some id) (x :: r), .sleep q, some []⟩) hk (.tail _ (.head _)) rfl hp
      (hb.trans (hend_sleep (hgap x List.mem_cons_self) rfl)) rfl
      ⟨rfl, rfl, fun _ => stores_upd .., rfl, rfl, hr, hc.count.setBytes _⟩ rfl (outs_resumed ..)

/-- an arrival is refused: the source's timeout fires and `Port.put` counts a drop -/
theorem kstep_srcDrop (fuel : Nat) (hk : KInv s a) {id : Int} {arr : List (ℚ × Int)} (hph : a.src = .wait id arr q)
    (hdrop : refuses ql (a.bytes + (size id : Int)) = true) (hgap : GapsOK arr) (hp : popMin s.agenda = some (q, rest)) :
    StepsTo size rate ql fuel s q { a with
        src := srcNext q.time s.eid s.events.size arr
        recv := a.recv + 1
        putIds := a.putIds ++ [id]
        dropped := a.dropped + 1 } [] := by
  obtain ⟨hr, -, hc⟩ := (kinv_iff (st0 := .portStart)).mp hk
  cases a
  subst hph
  cases arr with
  | nil =>
    exact .of_hend (st0 := .src (some id) []) (th := ⟨2, .src (some id) [], .sleep q, some []⟩) hk (.tail _ (.head _)) rfl hp
      ((hend_congr (hrun_put_drop _ id _ hc.c1 hc.c0 hc.c4 hdrop)).trans (hend_ret .none rfl))
      rfl ⟨rfl, rfl, fun _ => rfl, rfl, rfl, hr, hc.count.drop⟩ rfl (outs_ended ..)
  | cons x r =>
    exact .of_hend (st0 := .portStart) (th := ⟨2, .src (some id) (x :: r), .sleep q, some []⟩) hk (.tail _ (.head _)) rfl hp
      ((hend_congr (hrun_put_drop _ id _ hc.c1 hc.c0 hc.c4 hdrop)).trans (hend_sleep (hgap x List.mem_cons_self) rfl))
      rfl ⟨rfl, rfl, fun _ => rfl, rfl, rfl, hr, hc.count.drop⟩ rfl (outs_resumed ..)

/-- the process event of the finished source: nobody waits for it -/
theorem kstep_srcEnd (fuel : Nat) (hk : KInv s a) (hph : a.src = .ending q) (hp : popMin s.agenda = some (q, rest)) :
    StepsTo size rate ql fuel s q { a with src := .done } [] := by
  obtain ⟨hr, hg, hc⟩ := (kinv_iff (st0 := .portStart)).mp hk
  cases a
  subst hph
  exact .of_ginv (st0 := .portStart) (hg.step_finish (body size rate ql) fuel (th := ⟨2, .portStart, .ending q .none, some []⟩)
      (.tail _ (.head _)) rfl hp (hfinish_alone _ q .none rfl))
    ⟨rfl, rfl, fun _ => rfl, rfl, rfl, hr, hc⟩ rfl (List.append_nil _).symm

/-- the `StorePut` event is processed (`_trigger_get`): nobody waits, or the waiting server finds the store empty -/
theorem kstep_putIdle (fuel : Nat) (hk : KInv s a) (hpe : a.pend = some q) (hw : a.port.getQ = [] ∨ a.items = [])
    (hp : popMin s.agenda = some (q, rest)) : StepsTo size rate ql fuel s q { a with pend := none } [] := by
  obtain ⟨hr, hg, hc⟩ := (kinv_iff (st0 := .portStart)).mp hk
  obtain ⟨port, src, pend, items, bytes, recv, busy, bsz, last, putIds, dropped, accIds⟩ := a
  subst hpe
  have he : hpend (cfgOf ⟨port, src, some q, items, bytes, recv, busy, bsz, last, putIds, dropped, accIds⟩ s .portStart) (q, 0) [] =
      some { cfgOf ⟨port, src, some q, items, bytes, recv, busy, bsz, last, putIds, dropped, accIds⟩ s .portStart with
        reg := { Regs.of s with now := q.time }, pend := [] } := by
    cases port with
    | W g =>
      obtain rfl : items = [] := hw.resolve_left (List.cons_ne_nil _ _)
      exact hpend_empty (th := portThread (.W g)) rfl rfl (by simp [cfgOf, portThread, PPhase.wait, Wait.isGetW]) rfl
    | _ => exact hpend_none rfl rfl
  exact .of_ginv (st0 := .portStart) (hg.step_pend (body size rate ql) (fuel + 1) (u := (q, 0)) (.refl _) hp he)
    ⟨rfl, rfl, fun _ => rfl, rfl, rfl, hr, hc⟩ rfl (List.append_nil _).symm

/-- the `StorePut` event is processed (`_trigger_get`): the head item is handed to the waiting server, whose `StoreGet` event
is triggered -/
theorem kstep_putHand (fuel : Nat) (hk : KInv s a) {g : EvId} {i : Int} {is : List Int} (hpe : a.pend = some q)
    (hph : a.port = .W g) (hit : a.items = i :: is) (hp : popMin s.agenda = some (q, rest)) :
    StepsTo size rate ql fuel s q { a with pend := none, port := .H g i ⟨q.time, NORMAL, s.eid, g⟩, items := is } [] := by
  obtain ⟨-, hg, hc⟩ := (kinv_iff (st0 := .portStart)).mp hk
  obtain ⟨port, src, pend, items, bytes, recv, busy, bsz, last, putIds, dropped, accIds⟩ := a
  subst hpe hph hit
  have he := hpend_hand (c := cfgOf ⟨.W g, src, some q, i :: is, bytes, recv, busy, bsz, last, putIds, dropped, accIds⟩ s .portStart)
    (u := (q, 0)) (pend' := []) (th := portThread (.W g)) (hs := ⟨false, [g], i :: is⟩) rfl rfl
    (by simp [cfgOf, portThread, PPhase.wait, Wait.isGetW]) rfl
  exact .of_ginv (st0 := .portStart) (hg.step_pend (body size rate ql) (fuel + 1) (u := (q, 0)) (.refl _) hp he)
    ⟨by rw [modTh_cfgOf]; rfl, rfl, fun _ => stores_upd .., rfl, rfl, rfl, hc⟩ rfl (List.append_nil _).symm

/-! ## the steps of `Port.run` -/

variable {f : Nat → Val} {tr : Array (Obs ℚ)} {arg : Resume}

/-- the burst of `Port.run` (suspended in `st`) resumed by `q` arrives at the head of its loop with `bytes`, `busy`, `bsz` in the
cells, `new` having left -/
def LoopsAt (size : Int → Nat) (rate : ℚ) (ql : Option Int) (s : KS) (a : A) (q : QEntry ℚ) (st : St) (arg : Resume)
    (bytes : Int) (busy : Bool) (bsz : Nat) (new : List (Int × ℚ)) : Prop :=
  ∃ f tr, hrun 0 (body size rate ql st arg) ((hbegin (cfgOf a s .portStart) 0 q arg).wr (Regs.of s).cells
      (s.trace.push (.resumed 0 arg q.time))) = hrun 0 portLoop ((hbegin (cfgOf a s .portStart) 0 q arg).wr f tr) ∧
    Cells f bytes a.recv busy bsz a.dropped ∧ outsOf tr = outsOf s.trace ++ new

/-- at the head of its loop `Port.run` calls `store.get()` (new event `s.events.size`): it is blocked on the empty store, or
served at once with the head of the store -/
theorem port_gets (fuel : Nat) (hk : KInv s a) {ph : PPhase} (hph : a.port = ph) (hw : ph.wait.resumes = some (q, arg))
    (hgq : ph.getQ = []) (hp : popMin s.agenda = some (q, rest)) {bytes : Int} {busy : Bool} {bsz : Nat} {new : List (Int × ℚ)}
    (h : LoopsAt size rate ql s a q ph.st arg bytes busy bsz new) (l : Option ℚ) :
    (a.items = [] → StepsTo size rate ql fuel s q
      { a with port := .W s.events.size, bytes := bytes, busy := busy, bsz := bsz, last := l } new) ∧
    ∀ i is, a.items = i :: is → StepsTo size rate ql fuel s q
      { a with port := .H s.events.size i ⟨q.time, NORMAL, s.eid, s.events.size⟩, items := is, bytes := bytes, busy := busy,
               bsz := bsz, last := l } new := by
  obtain ⟨f, tr, hb, hc, htr⟩ := h
  obtain ⟨port, src, pend, items, bytes0, recv, busy0, bsz0, last, putIds, dropped, accIds⟩ := a
  subst hph
  have hst : ((hbegin (cfgOf ⟨port, src, pend, items, bytes0, recv, busy0, bsz0, last, putIds, dropped, accIds⟩ s .portStart) 0 q
      arg).wr f tr).stores 0 = some ⟨false, [], items⟩ := congrArg (fun l => some (HStore.mk false l items)) hgq
  constructor
  · rintro rfl
    exact .of_hend (st0 := .portStart) hk List.mem_cons_self hw hp ((hend_congr hb).trans (hend_get_miss hst rfl rfl rfl))
      rfl ⟨by rw [threads_port]; rfl, rfl, fun _ => stores_upd .., rfl, rfl, trivial, hc⟩ rfl htr
  · rintro i is rfl
    exact .of_hend (st0 := .portStart) hk List.mem_cons_self hw hp ((hend_congr hb).trans (hend_get_hit hst rfl rfl rfl))
      rfl ⟨by rw [threads_port]; rfl, rfl, fun _ => stores_upd .., rfl, rfl, rfl, hc⟩ rfl htr

/-- `Port.run` with the packet: `self.busy = 1; self.busy_packet_size = packet.size`, then the transmission delay if there is one -/
theorem hrun_serve (c : Cfg St) (id : Int) :
    hrun 0 (portServe size rate id) (c.wr f tr) =
      hrun 0 (if 0 < rate then .call (.timeout (txTime size rate id) .none) fun rp => match rp with
          | .ev t => .yield t (.portTx id)
          | rp => bad rp
        else portDone size id) (c.wr (upd (upd f 2 (.int 1)) 3 (.int (size id))) tr) := by
  heval [portServe, cBusy, cBusySize, zero_eq']
  rfl

/-- `Port.run` after the transmission: `self.byte_size -= packet.size; self.out.put(packet); self.busy = 0; …` -/
theorem hrun_done (c : Cfg St) {b : Int} (id : Int) (h0 : f 0 = .int b) :
    hrun 0 (portDone size id) (c.wr f tr) =
      hrun 0 portLoop (c.wr (upd (upd (upd f 0 (.int (b - (size id : Int)))) 2 (.int 0)) 3 (.int 0))
        (tr.push (.log 0 "out" (.int id) c.reg.now))) := by
  heval [portDone, loadInt, cByteSize, cBusy, cBusySize, h0]

/-- the `StoreGet` event of the port, `rate > 0`: the server resumes with the packet, marks itself busy and sleeps for the
transmission time -/
theorem kstep_serve (fuel : Nat) (hr : 0 < rate) (hk : KInv s a) {g : EvId} {id : Int} (hph : a.port = .H g id q)
    (hp : popMin s.agenda = some (q, rest)) :
    StepsTo size rate ql fuel s q { a with
        port := .T s.events.size id ⟨q.time + txTime size rate id, NORMAL, s.eid, s.events.size⟩
        busy := true
        bsz := size id } [] := by
  obtain ⟨-, -, hc⟩ := (kinv_iff (st0 := .portStart)).mp hk
  cases a
  subst hph
  exact .of_hend (st0 := .portStart) (th := portThread (.H g id q)) hk List.mem_cons_self rfl hp
    ((hend_congr ((hrun_serve _ id).trans (congrArg (hrun 0 · _) (if_pos hr)))).trans (hend_sleep (Num.ofNat_div_nonneg _ hr) rfl))
    rfl ⟨by rw [threads_port]; rfl, rfl, fun _ => rfl, rfl, rfl, rfl, hc.setBusy true _⟩ rfl (outs_resumed ..)

theorem LoopsAt.init (hk : KInv s a) : LoopsAt size rate ql s a q .portStart .start a.bytes a.busy a.bsz [] :=
  ⟨_, _, rfl, ((kinv_iff (st0 := .portStart)).mp hk).2.2, outs_resumed ..⟩

/-- the transmission timeout fires: the packet leaves -/
theorem LoopsAt.fire (hk : KInv s a) (id : Int) :
    LoopsAt size rate ql s a q (.portTx id) (.value .none) (a.bytes - (size id : Int)) false 0 [(id, q.time)] :=
  have hc := ((kinv_iff (st0 := .portStart)).mp hk).2.2
  ⟨_, _, hrun_done _ id hc.c0, (hc.setBytes _).setBusy false 0, outs_out ..⟩

/-- `rate ≤ 0`: the `StoreGet` event of the port: the packet leaves in the burst that took it -/
theorem LoopsAt.serveNow (hr : ¬ 0 < rate) (hk : KInv s a) (id : Int) :
    LoopsAt size rate ql s a q .portGet (.value (.int id)) (a.bytes - (size id : Int)) false 0 [(id, q.time)] :=
  have hc := ((kinv_iff (st0 := .portStart)).mp hk).2.2
  ⟨_, _, ((hrun_serve _ id).trans (congrArg (hrun 0 · _) (if_neg hr))).trans (hrun_done _ id (hc.setBusy true (size id)).c0),
    ((hc.setBusy true (size id)).setBytes _).setBusy false 0, outs_out ..⟩

end PortK
