import OnlVerif.Lemmas.DRRKRefine
/-!
# The DRR scheduler on the kernel model: the send-or-park decision, read off the attribute cells

The burst in which `run` resumes with a packet it has just taken from the store of the class it visits: the packet is sent
iff the credit cell of the class covers it; otherwise it becomes the parked head of the class.
-/

namespace DRRK
open DRROnK QEntry MQ
open TimerK (lookup dec_enc)

variable {F : Nat} {flow size : Int → Nat} {cfg : DRR.Cfg ℚ} {Lmax P : Nat}
variable {s : KS} {a : A} {q : QEntry ℚ} {rest : List (QEntry ℚ)}

theorem cellTime_def {Q : Nat → ℚ} (hk : KInv flow F Q s a) {f : Nat} (hf : f < F) : cellTime s (cDef f) = a.dfc f := by
  simp only [cellTime, cellVal_eq, hk.cells.cd f hf, dec_enc, Option.getD_some]

theorem cellVal_hol {Q : Nat → ℚ} (hk : KInv flow F Q s a) {f : Nat} (hf : f < F) : cellVal s (cHol f) = optVal (a.hol f) := by
  rw [cellVal_eq, hk.cells.ch f hf]

theorem cellInt_cls {Q : Nat → ℚ} (hk : KInv flow F Q s a) {f : Nat} (hf : f < F) : cellInt s (cCls f) = a.ccnt f := by
  simp only [cellInt, cellVal_eq, hk.cells.cq f hf]

theorem startsAt_H {g : EvId} {m : Nat} {id : Int} {q0 : QEntry ℚ} (h : a.run = .H g m id q0) {en : Entry} (hst : StartsAt a q en) :
    en = .got m id ∧ q = q0 := by
  cases en with
  | top =>
    rcases hst with h1 | ⟨g1, h1⟩ <;> (rw [h] at h1; cases h1)
  | got m1 id1 =>
    obtain ⟨g1, h1⟩ := hst
    rw [h] at h1
    cases h1
    exact ⟨rfl, rfl⟩
  | done m1 id1 =>
    obtain ⟨p1, h1⟩ := hst
    rw [h] at h1; cases h1

/-- **the decision, on configurations and cells**: the step in which a `serve` or `park` is observed while `run` holds a
freshly taken packet -/
theorem decision_core (fuel : Nat) {g : EvId} {m : Nat} {id : Int} {q0 : QEntry ℚ} {s' : KS}
    (hi : Inv2 F flow size cfg Lmax P s a) (hrun : a.run = .H g m id q0)
    (hstep : step (prog F flow size cfg P) (fuel + 1) s = .ok s')
    (hdec : ∀ new, histOf s'.trace = histOf s.trace ++ new → ∃ i t, HEv.serve i t ∈ new ∨ HEv.park i t ∈ new) :
    (∃ w, cfg.weights[m]? = some (flow id, w)) ∧ flow id < F ∧ 0 < cellTime s (cDef (flow id)) ∧
    cellVal s (cHol (flow id)) = .none ∧ 0 < cellInt s (cCls (flow id)) ∧
    (∀ f, f < F → cellTime s (cDef f) ≤ cellTime s' (cDef f)) ∧
    (((size id : ℚ) ≤ cellTime s (cDef (flow id)) ∧ histOf s'.trace = histOf s.trace ++ [.serve id s'.now] ∧
        (absDRR cfg flow size s').phase = .spawned (pktOf flow size id) ∧
        ∀ f, f < F → cellTime s' (cDef f) = cellTime s (cDef f)) ∨
      (cellTime s (cDef (flow id)) < (size id : ℚ) ∧
        (∃ more, histOf s'.trace = histOf s.trace ++ .park id s'.now :: more) ∧
        (cellVal s' (cHol (flow id)) = .int id ∨ (absDRR cfg flow size s').phase = .spawned (pktOf flow size id)))) := by
  cases hp : popMin s.agenda with
  | none => simp [_root_.step, hp] at hstep
  | some qr =>
    obtain ⟨q, rest⟩ := qr
    obtain ⟨s'', a', new, h1, h2, -, h4, h5, h6, -⟩ := inv_step_lts fuel hi hp
    rw [h1] at hstep
    cases hstep
    have hmin := (min_of_pop hi.i.k.ag hp).1
    have hai := hi.i.a.advance hmin
    have hra := hai.run
    rw [hrun] at hra
    obtain ⟨-, -, -, hpk, hw, hhol, hdpos⟩ := hra
    have hk := hi.i.k
    have hk' := h2.i.k
    obtain ⟨i, t, hmem⟩ := hdec new h6
    have hcls : 0 < a.ccnt (flow id) := by
      have h2' := hai.ccntOK _ hpk.1
      rw [unbookedCnt_none (by simp [hrun, RPhase.unbooked])] at h2'
      have := (held_counted hai (id := id) (by simp [hrun, RPhase.held]) hpk.1).1
      omega
    refine ⟨hw, hpk.1, by rw [cellTime_def hk hpk.1]; exact hdpos, by rw [cellVal_hol hk hpk.1, hhol]; rfl,
      by rw [cellInt_cls hk hpk.1]; exact hcls, ?_⟩
    rw [h5]
    have hburst : ∀ (en : Entry) (r : BurstRes), StartsAt a q en →
        a.burst F (qOf cfg) size cfg.weights P q.time en = r →
        ((Num.ofNat (size id) : ℚ) ≤ a.dfc (flow id) ∧ r = ⟨a, [], .send m (flow id) id false⟩) ∨
        (¬ (Num.ofNat (size id) : ℚ) ≤ a.dfc (flow id) ∧ ∃ L fin, (∀ f, a.dfc f ≤ L.dfc f) ∧ fin ≠ .hang ∧
          EndOK size a.ccnt (upd a.hol (flow id) (some id)) (A.total F { a with hol := upd a.hol (flow id) (some id) })
            cfg.weights L (some fin) ∧
          r = ⟨finA { a with hol := upd a.hol (flow id) (some id) } L (some fin), [.park id q.time] ++ L.evs, fin⟩) := by
      intro en r hst hb
      obtain ⟨rfl, rfl⟩ := startsAt_H hrun hst
      rcases burst_enters hai hst with ⟨g', m', id', hen, -, hle, hbe⟩ | ⟨a1, e0, piece, hen, hm, -, -, hE, hmono, hbe⟩
      · cases hen
        exact Or.inl ⟨hle, by rw [← hb, hbe]⟩
      · cases hen with
        | got _ hd hle =>
          obtain ⟨g1, g2, g3⟩ := loop_post (t := q.time) hm _ hE hmono
          exact Or.inr ⟨hle, _, _, g3, g1, g2, by rw [← hb, hbe]; rfl⟩
    have hphase : ∀ (r : RPhase), a'.run = r → (absDRR cfg flow size s').phase = phaseOf flow size r := by
      intro r hr
      rw [absDRR_eq h2, ← hr]; rfl
    have hsz : (Num.ofNat (size id) : ℚ) = (size id : ℚ) := Num.ofNat_rat _
    cases h4 with
    | burst en r _ _ hst hb hend =>
      rcases hburst en r hst hb with ⟨hle, rfl⟩ | ⟨hle, L, fin, g1, g2, g3, rfl⟩
      · cases hend with
        | get _ _ _ _ hfin => cases hfin
        | block hfin => cases hfin
        | tok _ hfin => cases hfin
        | send m' c' id' pk hfin =>
          simp only [LoopEnd.send.injEq] at hfin
          obtain ⟨rfl, rfl, rfl, rfl⟩ := hfin
          refine ⟨fun f hf => by rw [cellTime_def hk hf, cellTime_def hk' hf], Or.inl ⟨?_, by simpa using h6, hphase _ rfl, ?_⟩⟩
          · rw [cellTime_def hk hpk.1, ← hsz]; exact hle
          · intro f hf; rw [cellTime_def hk hf, cellTime_def hk' hf]
      · -- the packet is parked: the credit does not cover it
        have hpark : cellTime s (cDef (flow id)) < (size id : ℚ) := by
          rw [cellTime_def hk hpk.1, ← hsz]; exact not_le.mp hle
        cases hend with
        | send m' c' id' pk hfin =>
          simp only at hfin; subst hfin
          obtain ⟨rfl, ⟨w', hw'⟩, ghol, -, -⟩ := g3
          refine ⟨fun f hf => by rw [cellTime_def hk hf, cellTime_def hk' hf]; exact g1 f,
            Or.inr ⟨?_, ⟨_, by simpa [List.append_assoc] using h6⟩, ?_⟩⟩
          · rw [cellTime_def hk hpk.1, ← hsz]; exact not_le.mp hle
          · by_cases hcc : c' = flow id
            · subst hcc
              rw [upd_same] at ghol
              cases ghol
              exact Or.inr (hphase _ rfl)
            · left
              rw [cellVal_hol hk' hpk.1]
              show optVal (upd (upd a.hol (flow id) (some id)) c' none (flow id)) = _
              rw [upd_ne _ _ _ _ (Ne.symm hcc), upd_same]; rfl
        | get m' c' id' is hfin =>
          simp only at hfin; subst hfin
          refine ⟨fun f hf => by rw [cellTime_def hk hf, cellTime_def hk' hf]; exact g1 f, Or.inr ⟨hpark, ⟨_, h6⟩, Or.inl ?_⟩⟩
          rw [cellVal_hol hk' hpk.1]
          show optVal (upd a.hol (flow id) (some id) (flow id)) = _
          rw [upd_same]; rfl
        | block hfin =>
          simp only at hfin; subst hfin
          refine ⟨fun f hf => by rw [cellTime_def hk hf, cellTime_def hk' hf]; exact g1 f,
            Or.inr ⟨hpark, ⟨_, by simpa [List.append_assoc] using h6⟩, Or.inl ?_⟩⟩
          rw [cellVal_hol hk' hpk.1]
          show optVal (upd a.hol (flow id) (some id) (flow id)) = _
          rw [upd_same]; rfl
        | tok k hfin =>
          simp only at hfin; subst hfin
          refine ⟨fun f hf => by rw [cellTime_def hk hf, cellTime_def hk' hf]; exact g1 f,
            Or.inr ⟨hpark, ⟨_, by simpa [List.append_assoc] using h6⟩, Or.inl ?_⟩⟩
          rw [cellVal_hol hk' hpk.1]
          show optVal (upd a.hol (flow id) (some id) (flow id)) = _
          rw [upd_same]; rfl
    | sendInit p m1 id1 h => rcases hmem with hmem | hmem <;> cases hmem
    | sendFire p t1 m1 id1 h => rcases hmem with hmem | hmem <;> simp at hmem
    | srcInit arr h => rcases hmem with hmem | hmem <;> cases hmem
    | srcPutTok id1 arr h htot => rcases hmem with hmem | hmem <;> simp at hmem
    | srcPutPlain id1 arr h htot => rcases hmem with hmem | hmem <;> simp at hmem
    | srcEnd h => rcases hmem with hmem | hmem <;> cases hmem
    | pendNoop r l1 l2 hpe hno => rcases hmem with hmem | hmem <;> cases hmem
    | pendHand g1 t1 l1 l2 hpe h htk => rcases hmem with hmem | hmem <;> cases hmem

end DRRK
