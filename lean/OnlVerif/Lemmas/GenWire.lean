import Mathlib.Tactic.SplitIfs
import OnlVerif.Lemmas.GenScalar
import OnlVerif.Net.Wire
import OnlVerif.Generated.Wire
/-!
# Bridge between the *generated* `Wire` code and the hand-written model (`Net/Wire.lean`)

`Generated/Wire.lean` is rewritten from `onl/netdev/wire.py` on every `./check C10`: `put`, and one round of the server
generator `run` split at its `yield env.timeout(delay - queued_time)` (`run_resume`, `run_after_1`).  The loss draw
`random.uniform(0, 1)` and the delay `self.delay_dist()` are the parameters `x`, `y` (each consumed at most once per round,
the draw only when `loss_rate` is truthy — the translator keeps Python's short-circuit).  `GenWire.wireObj` encodes a model
state as the Python object; the model's ghost fields (`lastDone`, `curD`, `log`) have no counterpart.  Over exact rationals.
The bridge theorems are `C10.wire_put_generated_eq_model` and `C10.wire_run_generated_eq_model`.
-/

namespace GenWire

def wireObj (c : WireCfg ℚ) (d : WireSt ℚ) (puts outs stamps ra ya : Nat) (ydt : ℚ) : Gen.WireObj ℚ :=
  { loss_rate := c.lossRate, out := true, packets_rec := d.packetsRec, eff_store_put := puts, eff_out_put := outs,
    eff_stamp := stamps, raised := ra, yield_at := ya, yield_dt := ydt }

/-- the object `g` is what a burst of the model's server leaves: asleep in the yield for the model's timeout; or the round
complete with one more `out.put` (forwarded); or the round complete without `out.put` (the packet is discarded) -/
def WireAgrees (c : WireCfg ℚ) (g : Gen.WireObj ℚ) (r : WireSt ℚ × Pkt ℚ × Next ℚ) (puts outs stamps : Nat) : Prop :=
  match r.2.2 with
  | .wait dt => g = wireObj c r.1 puts outs stamps 0 1 dt
  | .emit => g = wireObj c (Wire.onDone r.1 r.2.1) puts (outs + 1) stamps 0 0 0
  | .lose => g = wireObj c (Wire.onDone r.1 r.2.1) puts outs stamps 0 0 0
  | .fail _ => False

end GenWire
