import OnlVerif.Lemmas.SplitSent
import OnlVerif.Lemmas.SplitStrip
/-!
# The sentinel transformation commutes with every operation of `Kernel/Ops.lean` (C03, stage 3)

For every state transformer `f` of the model and every state `s` after the split (`c.Inv s`):
`f (c.T q s) (renamed arguments) = c.T q (f s arguments)`, the other results (replies, flags, fresh ids) being the
renamed ones.  Proof pattern: unfold `f` on both sides, rewrite with `ksent`, split the branches where both sides branch.
-/

variable {σ : Type}

/-- rewrite with `ksent`; the invariant `h` of the start state discharges the side conditions (through the `Inv.…` lemmas) -/
macro "tsimp" "[" h:Lean.Parser.Tactic.simpLemma,* "]" : tactic =>
  `(tactic| simp (maxDischargeDepth := 12) only [ksent, $h,*])

namespace SplitCfg
variable (c : SplitCfg σ) (q : Bool) (s : KState ℚ σ)

@[ksent] theorem r_reqOf (h : c.Inv s) (e : Nat) : reqOf (c.T q s) (c.ρ e) = rnReq c.ρ (reqOf s e) := by
  unfold reqOf
  rw [c.req_T q s h]
  cases (s.ev e).req with
  | none => simp only [Option.map_none, Option.getD_none, rnReq, c.ρ_zero, Option.map_none]
  | some rq => rfl

omit s q in
@[ksent] theorem r_keyLt (a b : ReqData ℚ) : keyLt (rnReq c.ρ a) (rnReq c.ρ b) = keyLt a b := rfl

@[ksent] theorem r_insertSorted (h : c.Inv s) (e : Nat) (l : List EvId) :
    insertSorted (c.T q s) (c.ρ e) (l.map c.ρ) = (insertSorted s e l).map c.ρ := by
  induction l with
  | nil => rfl
  | cons x xs ih =>
    simp only [List.map_cons, insertSorted, c.r_reqOf q s h, r_keyLt, ih]
    split <;> rfl

@[ksent] theorem r_worstUser (h : c.Inv s) (l : List EvId) :
    worstUser (c.T q s) (l.map c.ρ) = (worstUser s l).map c.ρ := by
  induction l with
  | nil => rfl
  | cons x xs ih =>
    simp only [List.map_cons, worstUser, ih]
    cases worstUser s xs with
    | none => rfl
    | some w =>
      simp only [Option.map_some, c.r_reqOf q s h, r_keyLt]
      split <;> rfl

theorem T_mkInterrupt (h : c.Inv s) (p : Nat) (v : Val) :
    mkInterrupt (c.T q s) (c.ρ p) (rnVal c.ρ v) = (c.T q (mkInterrupt s p v).1, (mkInterrupt s p v).2) := by
  unfold mkInterrupt
  tsimp [h]
  repeat' split
  all_goals first | rfl | skip
  tsimp [h]

variable {c s} in
@[ksent] theorem Inv.mkInterrupt (h : c.Inv s) (p : Nat) (v : Val) : c.Inv (mkInterrupt s p v).1 :=
  h.mono (Grow.krel.mkInterrupt s p v)
@[ksent] theorem i_mkInterrupt (h : c.Inv s) (p : Nat) (v : Val) :
    c.T q (mkInterrupt s p v).1 = (mkInterrupt (c.T q s) (c.ρ p) (rnVal c.ρ v)).1 := by rw [c.T_mkInterrupt q s h]
@[ksent] theorem r_mkInterrupt (h : c.Inv s) (p : Nat) (v : Val) :
    (mkInterrupt (c.T q s) (c.ρ p) (rnVal c.ρ v)).2 = (mkInterrupt s p v).2 := by rw [c.T_mkInterrupt q s h]

@[ksent] theorem i_preemptStep (h : c.Inv s) (r : ResId) (e : Nat) :
    c.T q (preemptStep s r e) = preemptStep (c.T q s) r (c.ρ e) := by
  symm
  unfold preemptStep
  tsimp [h]
  cases hw : worstUser s (s.res r).users with
  | none => simp only [Option.map_none]
  | some w =>
    simp only [Option.map_some, ksent, h]
    cases hp : (reqOf s w).proc with
    | none => simp only [Option.map_none, ksent, h]
    | some vp => simp only [Option.map_some, ksent, h]

variable {c s} in
@[ksent] theorem Inv.preemptStep (h : c.Inv s) (r : ResId) (e : Nat) : c.Inv (preemptStep s r e) :=
  h.mono (Grow.krel.preemptStep s r e)

@[ksent] theorem i_prePut (h : c.Inv s) (r : ResId) (e : Nat) : c.T q (prePut s r e) = prePut (c.T q s) r (c.ρ e) := by
  symm
  unfold prePut
  tsimp [h]

variable {c s} in
@[ksent] theorem Inv.prePut (h : c.Inv s) (r : ResId) (e : Nat) : c.Inv (prePut s r e) := h.mono (Grow.krel.prePut s r e)

@[ksent] theorem r_canPut (h : c.Inv s) (r : ResId) (e : Nat) : canPut (c.T q s) r (c.ρ e) = canPut s r e := by
  unfold canPut
  tsimp [h]

@[ksent] theorem i_applyPut (h : c.Inv s) (r : ResId) (e : Nat) : c.T q (applyPut s r e) = applyPut (c.T q s) r (c.ρ e) := by
  symm
  unfold applyPut
  tsimp [h]
  repeat' split
  all_goals first | rfl | contradiction | skip
  all_goals tsimp [h]

theorem grow_applyPut (s : KState ℚ σ) (r : ResId) (e : Nat) : Grow s (applyPut s r e) := by
  unfold applyPut
  simp only
  split
  iterate 3 exact Grow.krel.trans (Grow.krel.setUsage (s.setUsers r _) e) (Grow.krel.trigger _ _ _)
  · exact Grow.krel.trigger (s.setLevel r _) e _
  iterate 3 exact Grow.krel.trigger (s.setItems r _) e _

variable {c s} in
@[ksent] theorem Inv.applyPut (h : c.Inv s) (r : ResId) (e : Nat) : c.Inv (applyPut s r e) := h.mono (grow_applyPut s r e)

theorem T_doPut (h : c.Inv s) (r : ResId) (e : Nat) :
    doPut (c.T q s) r (c.ρ e) = (c.T q (doPut s r e).1, (doPut s r e).2) := by
  unfold doPut
  rw [← c.i_prePut q s h, c.r_canPut q _ (h.prePut r e), ← c.i_applyPut q _ (h.prePut r e)]
  split <;> rfl

variable {c s} in
@[ksent] theorem Inv.doPut (h : c.Inv s) (r : ResId) (e : Nat) : c.Inv (doPut s r e).1 := h.mono (Grow.krel.doPut s r e)
@[ksent] theorem i_doPut (h : c.Inv s) (r : ResId) (e : Nat) : c.T q (doPut s r e).1 = (doPut (c.T q s) r (c.ρ e)).1 := by
  rw [c.T_doPut q s h]
@[ksent] theorem r_doPut (h : c.Inv s) (r : ResId) (e : Nat) : (doPut (c.T q s) r (c.ρ e)).2 = (doPut s r e).2 := by
  rw [c.T_doPut q s h]

@[ksent] theorem r_getItem (h : c.Inv s) (r : ResId) (e : Nat) : getItem (c.T q s) r (c.ρ e) = getItem s r e := by
  unfold getItem
  tsimp [h]

omit c q in
/-- what a `get` hands out is `None` or an integer: no event id -/
theorem getItem_simple (r : ResId) (e : Nat) (v : Val) (hv : getItem s r e = some v) : v = .none ∨ ∃ i, v = .int i := by
  unfold getItem at hv
  simp only at hv
  split at hv
  · cases hv; exact Or.inl rfl
  · cases hv; exact Or.inl rfl
  · cases hv; exact Or.inl rfl
  · split at hv <;> cases hv; exact Or.inl rfl
  · cases hh : (s.res r).items.head? <;> rw [hh] at hv <;> cases hv; exact Or.inr ⟨_, rfl⟩
  · cases hh : listMin (s.res r).items <;> rw [hh] at hv <;> cases hv; exact Or.inr ⟨_, rfl⟩
  · cases hh : (s.res r).items.find? (filterOk (reqOf s e).filter) <;> rw [hh] at hv <;> cases hv; exact Or.inr ⟨_, rfl⟩

omit c q in
theorem getItem_closed (ρ : EvId → EvId) (r : ResId) (e : Nat) (v : Val) (hv : getItem s r e = some v) : rnVal ρ v = v := by
  rcases getItem_simple s r e v hv with rfl | ⟨i, rfl⟩ <;> rfl

@[ksent] theorem i_takeOut (h : c.Inv s) (r : ResId) (e : Nat) (v : Val) :
    c.T q (takeOut s r e v) = takeOut (c.T q s) r (c.ρ e) v := by
  symm
  unfold takeOut
  simp only [c.r_res, rnRes_kind, rnRes_users, rnRes_level, rnRes_items, c.r_reqOf q s h, rnReq_releaseOf, rnReq_amount]
  cases (s.res r).kind <;> simp only [c.i_setUsers, c.i_setLevel, c.i_setItems, c.r_erase]
  all_goals cases v <;> simp only [c.i_setItems]

theorem grow_takeOut (s : KState ℚ σ) (r : ResId) (e : Nat) (v : Val) : Grow s (takeOut s r e v) := by
  unfold takeOut
  simp only
  repeat' split
  all_goals exact ⟨Nat.le_refl _, Nat.le_refl _⟩

variable {c s} in
@[ksent] theorem Inv.takeOut (h : c.Inv s) (r : ResId) (e : Nat) (v : Val) : c.Inv (takeOut s r e v) :=
  h.mono (grow_takeOut s r e v)

theorem T_doGet (h : c.Inv s) (r : ResId) (e : Nat) :
    doGet (c.T q s) r (c.ρ e) = (c.T q (doGet s r e).1, (doGet s r e).2) := by
  unfold doGet
  rw [c.r_getItem q s h]
  cases hv : getItem s r e with
  | none => tsimp [h]
  | some v =>
    have := getItem_closed s c.ρ r e v hv
    tsimp [h, this]

variable {c s} in
@[ksent] theorem Inv.doGet (h : c.Inv s) (r : ResId) (e : Nat) : c.Inv (doGet s r e).1 := h.mono (Grow.krel.doGet s r e)
@[ksent] theorem i_doGet (h : c.Inv s) (r : ResId) (e : Nat) : c.T q (doGet s r e).1 = (doGet (c.T q s) r (c.ρ e)).1 := by
  rw [c.T_doGet q s h]
@[ksent] theorem r_doGet (h : c.Inv s) (r : ResId) (e : Nat) : (doGet (c.T q s) r (c.ρ e)).2 = (doGet s r e).2 := by
  rw [c.T_doGet q s h]

@[ksent] theorem i_dropPutQ (r : ResId) (e : Nat) : c.T q (dropPutQ s r e) = dropPutQ (c.T q s) r (c.ρ e) := by
  symm
  unfold dropPutQ
  simp only [ksent]
@[ksent] theorem i_dropGetQ (r : ResId) (e : Nat) : c.T q (dropGetQ s r e) = dropGetQ (c.T q s) r (c.ρ e) := by
  symm
  unfold dropGetQ
  simp only [ksent]
variable {c s} in
@[ksent] theorem Inv.dropPutQ (h : c.Inv s) (r : ResId) (e : Nat) : c.Inv (dropPutQ s r e) := h.setPutQ _ _
variable {c s} in
@[ksent] theorem Inv.dropGetQ (h : c.Inv s) (r : ResId) (e : Nat) : c.Inv (dropGetQ s r e) := h.setGetQ _ _

theorem T_scanPut (r : ResId) (l : List EvId) (s : KState ℚ σ) (h : c.Inv s) :
    scanPut r (l.map c.ρ) (c.T q s) = c.T q (scanPut r l s) := by
  induction l generalizing s with
  | nil => rfl
  | cons e rest ih =>
    simp only [List.map_cons, scanPut]
    rw [c.T_doPut q s h]
    simp only
    rw [c.r_triggered q _ (h.doPut r e), ← c.i_dropPutQ]
    by_cases h1 : (doPut s r e).1.triggered e = true <;> by_cases h2 : (doPut s r e).2 = true <;>
      simp only [h1, h2, if_true, if_false, Bool.false_eq_true]
    · exact ih _ ((h.doPut r e).dropPutQ r e)
    · exact ih _ (h.doPut r e)

theorem T_scanGet (r : ResId) (l : List EvId) (s : KState ℚ σ) (h : c.Inv s) :
    scanGet r (l.map c.ρ) (c.T q s) = c.T q (scanGet r l s) := by
  induction l generalizing s with
  | nil => rfl
  | cons e rest ih =>
    simp only [List.map_cons, scanGet]
    rw [c.T_doGet q s h]
    simp only
    rw [c.r_triggered q _ (h.doGet r e), ← c.i_dropGetQ]
    by_cases h1 : (doGet s r e).1.triggered e = true <;> by_cases h2 : (doGet s r e).2 = true <;>
      simp only [h1, h2, if_true, if_false, Bool.false_eq_true]
    · exact ih _ ((h.doGet r e).dropGetQ r e)
    · exact ih _ (h.doGet r e)

@[ksent] theorem i_triggerPut (h : c.Inv s) (r : ResId) : c.T q (triggerPut s r) = triggerPut (c.T q s) r := by
  symm
  unfold triggerPut
  rw [c.r_res]
  exact c.T_scanPut q r _ s h
@[ksent] theorem i_triggerGet (h : c.Inv s) (r : ResId) : c.T q (triggerGet s r) = triggerGet (c.T q s) r := by
  symm
  unfold triggerGet
  rw [c.r_res]
  exact c.T_scanGet q r _ s h
theorem T_triggerPut (h : c.Inv s) (r : ResId) : triggerPut (c.T q s) r = c.T q (triggerPut s r) :=
  (c.i_triggerPut q s h r).symm
theorem T_triggerGet (h : c.Inv s) (r : ResId) : triggerGet (c.T q s) r = c.T q (triggerGet s r) :=
  (c.i_triggerGet q s h r).symm
variable {c s} in
@[ksent] theorem Inv.triggerPut (h : c.Inv s) (r : ResId) : c.Inv (triggerPut s r) := h.mono (Grow.krel.triggerPut s r)
variable {c s} in
@[ksent] theorem Inv.triggerGet (h : c.Inv s) (r : ResId) : c.Inv (triggerGet s r) := h.mono (Grow.krel.triggerGet s r)

@[ksent] theorem i_enqPut (h : c.Inv s) (r : ResId) (e : Nat) : c.T q (enqPut s r e) = enqPut (c.T q s) r (c.ρ e) := by
  symm
  unfold enqPut
  simp only [c.i_setPutQ, c.r_res, rnRes_kind, rnRes_putQ, c.r_insertSorted q s h, apply_ite (List.map c.ρ),
    List.map_append, List.map_cons, List.map_nil]
@[ksent] theorem i_enqGet (r : ResId) (e : Nat) : c.T q (enqGet s r e) = enqGet (c.T q s) r (c.ρ e) := by
  symm
  unfold enqGet
  simp only [ksent]
variable {c s} in
@[ksent] theorem Inv.enqPut (h : c.Inv s) (r : ResId) (e : Nat) : c.Inv (enqPut s r e) := h.setPutQ _ _
variable {c s} in
@[ksent] theorem Inv.enqGet (h : c.Inv s) (r : ResId) (e : Nat) : c.Inv (enqGet s r e) := h.setGetQ _ _

theorem T_mkPut (h : c.Inv s) (r : ResId) (rq : ReqData ℚ) :
    mkPut (c.T q s) r (rnReq c.ρ rq) = (c.T q (mkPut s r rq).1, c.ρ (mkPut s r rq).2) := by
  unfold mkPut
  tsimp [h]
theorem T_mkGet (h : c.Inv s) (r : ResId) (rq : ReqData ℚ) :
    mkGet (c.T q s) r (rnReq c.ρ rq) = (c.T q (mkGet s r rq).1, c.ρ (mkGet s r rq).2) := by
  unfold mkGet
  tsimp [h]

theorem grow_mkPut (s : KState ℚ σ) (r : ResId) (rq : ReqData ℚ) : Grow s (mkPut s r rq).1 := by
  unfold mkPut
  simp only
  refine Grow.krel.trans ?_ (Grow.krel.triggerPut _ _)
  exact ⟨Nat.le_refl _, by simp [enqPut, KState.newLabelled, KState.setPutQ, KState.setRes]⟩
theorem grow_mkGet (s : KState ℚ σ) (r : ResId) (rq : ReqData ℚ) : Grow s (mkGet s r rq).1 := by
  unfold mkGet
  simp only
  refine Grow.krel.trans ?_ (Grow.krel.triggerGet _ _)
  exact ⟨Nat.le_refl _, by simp [enqGet, KState.newLabelled, KState.setGetQ, KState.setRes]⟩
variable {c s} in
@[ksent] theorem Inv.mkPut (h : c.Inv s) (r : ResId) (rq : ReqData ℚ) : c.Inv (mkPut s r rq).1 := h.mono (grow_mkPut s r rq)
variable {c s} in
@[ksent] theorem Inv.mkGet (h : c.Inv s) (r : ResId) (rq : ReqData ℚ) : c.Inv (mkGet s r rq).1 := h.mono (grow_mkGet s r rq)

theorem T_cancelReq (h : c.Inv s) (e : Nat) :
    cancelReq (c.T q s) (c.ρ e) = (c.T q (cancelReq s e).1, (cancelReq s e).2) := by
  unfold cancelReq
  rw [c.r_triggered q s h, c.kind_T q s h]
  split
  · rfl
  · cases (s.ev e).kind <;> simp only [rnKind]
    case put r =>
      rw [c.r_res, rnRes_putQ, c.r_contains, ← c.i_dropPutQ, ← c.i_triggerPut q _ (h.dropPutQ r e)]
      split <;> rfl
    case get r =>
      rw [c.r_res, rnRes_getQ, c.r_contains, ← c.i_dropGetQ, ← c.i_triggerGet q _ (h.dropGetQ r e)]
      split <;> rfl

variable {c s} in
@[ksent] theorem Inv.cancelReq (h : c.Inv s) (e : Nat) : c.Inv (cancelReq s e).1 := h.mono (Grow.krel.cancelReq s e)

@[ksent] theorem r_condOps (h : c.Inv s) (cd : Nat) :
    condOps (c.T q s) (c.ρ cd) = ((condOps s cd).1, (condOps s cd).2.map c.ρ) := by
  unfold condOps
  tsimp [h]
  cases (s.ev cd).kind <;> rfl

@[ksent] theorem r_isCond (h : c.Inv s) (e : Nat) : isCond (c.T q s) (c.ρ e) = isCond s e := by
  unfold isCond
  tsimp [h]
  cases (s.ev e).kind <;> rfl

@[ksent] theorem i_condCheck (h : c.Inv s) (cd e : Nat) :
    c.T q (condCheck s cd e) = condCheck (c.T q s) (c.ρ cd) (c.ρ e) := by
  symm
  unfold condCheck
  tsimp [h]
  cases ho : (s.ev e).out with
  | none => tsimp [h]
  | some o =>
    cases o with
    | _ => tsimp [h]

theorem T_condCheck (h : c.Inv s) (cd e : Nat) : condCheck (c.T q s) (c.ρ cd) (c.ρ e) = c.T q (condCheck s cd e) :=
  (c.i_condCheck q s h cd e).symm

variable {c s} in
@[ksent] theorem Inv.condCheck (h : c.Inv s) (cd e : Nat) : c.Inv (condCheck s cd e) := h.mono (Grow.krel.condCheck s cd e)

@[ksent] theorem i_eraseCheck (h : c.Inv s) (cd e : Nat) :
    c.T q (eraseCheck s cd e) = eraseCheck (c.T q s) (c.ρ cd) (c.ρ e) := by
  symm
  unfold eraseCheck
  tsimp [h]
  cases hc : (s.ev e).cbs with
  | none => rfl
  | some l =>
    have := c.r_containsCb l (.check cd)
    simp only [rnCb_check] at this
    simp only [Option.map_some, this]
    have h2 := c.i_eraseCb q s h e (.check cd)
    simp only [rnCb_check] at h2
    split
    · rw [h2]
    · rfl

variable {c s} in
@[ksent] theorem Inv.eraseCheck (h : c.Inv s) (cd e : Nat) : c.Inv (eraseCheck s cd e) := h.mono (Grow.krel.eraseCheck s cd e)

theorem T_foldl (f : KState ℚ σ → EvId → KState ℚ σ) (f' : KState ℚ σ → EvId → KState ℚ σ)
    (hf : ∀ s e, c.Inv s → f' (c.T q s) (c.ρ e) = c.T q (f s e)) (hi : ∀ s e, c.Inv s → c.Inv (f s e))
    (l : List EvId) (s : KState ℚ σ) (h : c.Inv s) :
    (l.map c.ρ).foldl f' (c.T q s) = c.T q (l.foldl f s) ∧ c.Inv (l.foldl f s) := by
  induction l generalizing s with
  | nil => exact ⟨rfl, h⟩
  | cons e rest ih =>
    simp only [List.map_cons, List.foldl_cons]
    rw [hf s e h]
    exact ih _ (hi s e h)

theorem T_removeChecks (fuel : Nat) (cd : Nat) (s : KState ℚ σ) (h : c.Inv s) :
    removeChecks fuel (c.ρ cd) (c.T q s) = c.T q (removeChecks fuel cd s) := by
  induction fuel generalizing cd s with
  | zero => rfl
  | succ n ih =>
    unfold removeChecks
    rw [c.r_condOps q s h]
    simp only
    refine (c.T_foldl q _ _ ?_ ?_ _ s h).1
    · intro s e hs
      rw [← c.i_eraseCheck q s hs, c.r_isCond q _ (hs.eraseCheck cd e)]
      split
      · exact ih e _ (hs.eraseCheck cd e)
      · rfl
    · intro s e hs
      split
      · exact (hs.eraseCheck cd e).mono (Grow.krel.removeChecks _ _ _)
      · exact hs.eraseCheck cd e

variable {c s} in
@[ksent] theorem Inv.removeChecks (h : c.Inv s) (fuel cd : Nat) : c.Inv (removeChecks fuel cd s) :=
  h.mono (Grow.krel.removeChecks fuel cd s)

theorem r_populate (h : c.Inv s) (fuel : Nat) (cd : Nat) :
    populate fuel (c.T q s) (c.ρ cd) = (populate fuel s cd).map c.ρ := by
  induction fuel generalizing cd with
  | zero => rfl
  | succ n ih =>
    unfold populate
    rw [c.r_condOps q s h]
    simp only [List.flatMap_map, List.map_flatMap]
    congr 1
    funext e
    rw [c.r_isCond q s h, c.r_processed q s h, ih]
    split
    · rfl
    · split <;> rfl

/-- the fuel `id + 1` that `Condition._build_value` of condition `cd` gets is sufficient: one more unit changes nothing
(true whenever the operands of every condition were created before the condition, `CondWF`) -/
def FuelOK (cd : Nat) : Prop :=
  removeChecks (c.ρ cd + 1) cd s = removeChecks (cd + 1) cd s ∧
  populate (c.ρ cd + 1) (removeChecks (cd + 1) cd s) cd = populate (cd + 1) (removeChecks (cd + 1) cd s) cd

theorem FuelOK_of_lt (cd : Nat) (hlt : cd < c.u) : c.FuelOK s cd := by
  unfold FuelOK
  rw [c.ρ_lt hlt]
  exact ⟨rfl, rfl⟩

theorem T_condBuild (h : c.Inv s) (cd : Nat) (hf : c.FuelOK s cd) :
    condBuild (c.T q s) (c.ρ cd) = c.T q (condBuild s cd) := by
  unfold condBuild
  simp only
  rw [c.T_removeChecks q _ cd s h, hf.1, c.out_T q _ (h.removeChecks _ _)]
  cases ho : ((removeChecks (cd + 1) cd s).ev cd).out with
  | none => rfl
  | some o =>
    cases o with
    | fail x => rfl
    | ok v =>
      simp only [Option.map_some, rnOutcome_ok]
      rw [c.r_populate q _ (h.removeChecks _ _), hf.2, c.i_setOut q _ (h.removeChecks _ _)]
      rfl

variable {c s} in
@[ksent] theorem Inv.condBuild (h : c.Inv s) (cd : Nat) : c.Inv (condBuild s cd) := h.mono (Grow.krel.condBuild s cd)

theorem T_mkCond (h : c.Inv s) (all : Bool) (ops : List EvId) :
    mkCond (c.T q s) all (ops.map c.ρ) = (c.T q (mkCond s all ops).1, c.ρ (mkCond s all ops).2) := by
  unfold mkCond
  have hrec : ({ kind := .cond all (ops.map c.ρ), cbs := some [], out := none } : EvRec ℚ) =
      rnRec c.ρ { kind := .cond all ops, cbs := some [], out := none } := rfl
  rw [hrec, c.T_newLabelled q s h]
  simp only [List.isEmpty_map]
  have h1 : c.Inv (s.newLabelled { kind := .cond all ops, cbs := some [], out := none }).1 := h.newLabelled _
  have hcn : (s.newLabelled { kind := .cond all ops, cbs := some [], out := none }).2 = s.events.size := rfl
  simp only [hcn]
  split
  · tsimp [h1]
  · have hf := c.T_foldl q
      (fun st e => if st.processed e then condCheck st s.events.size e else st.addCb e (.check s.events.size))
      (fun st e => if st.processed e then condCheck st (c.ρ s.events.size) e else st.addCb e (.check (c.ρ s.events.size)))
      (by
        intro st e hst
        rw [c.r_processed q st hst]
        split
        · exact (c.i_condCheck q st hst _ _).symm
        · have := c.i_addCb q st hst e (.check s.events.size)
          simp only [rnCb_check] at this
          exact this.symm)
      (by
        intro st e hst
        split
        · exact hst.condCheck _ _
        · exact hst.addCb _ _)
      ops _ h1
    rw [hf.1]
    have := c.i_addCb q _ hf.2 s.events.size (.build s.events.size)
    simp only [rnCb_build] at this
    rw [this]

variable {c s} in
@[ksent] theorem Inv.mkCond (h : c.Inv s) (all : Bool) (ops : List EvId) : c.Inv (mkCond s all ops).1 :=
  h.mono (Grow.krel.mkCond s all ops)

@[ksent] theorem r_renderSimple (h : c.Inv s) (v : Val) : renderSimple (c.T q s) (rnVal c.ρ v) = renderSimple s v := by
  unfold renderSimple
  cases v <;> tsimp [h]

theorem r_freezeVal (h : c.Inv s) (v : Val) : freezeVal (c.T q s) (rnVal c.ρ v) = rnVal c.ρ (freezeVal s v) := by
  unfold freezeVal
  cases v <;> tsimp [h]
  case cv keys =>
    rw [List.map_map]
    -- (`congr` would compare the string literals by unfolding them)
    refine congrArg (fun l => Val.frozen ("cv[" ++ ",".intercalate l ++ "]")) (List.map_congr_left fun k _ => ?_)
    simp only [Function.comp, c.r_ev q s h, rnRec_out, rnRec_label]
    cases ho : (s.ev k).out with
    | none => rfl
    | some o =>
      cases o with
      | ok v => simp only [Option.map_some, rnOutcome_ok, c.r_renderSimple q s h]
      | fail x => rfl

omit c q in
@[ksent] theorem newEv_snd' (r : EvRec ℚ) : (s.newEv r).2 = s.events.size := rfl
omit c q in
@[ksent] theorem newLabelled_snd' (r : EvRec ℚ) : (s.newLabelled r).2 = s.events.size := rfl

omit c q in
theorem mkInterrupt_err (p : Nat) (v : Val) (x : Exc) (hx : (mkInterrupt s p v).2 = some x) : ∃ m, x = runtimeErr m := by
  unfold mkInterrupt at hx
  split at hx
  · cases hx; exact ⟨_, rfl⟩
  · split at hx
    · cases hx; exact ⟨_, rfl⟩
    · cases hx

omit c q in
theorem cancelReq_err (e : Nat) (x : Exc) (hx : (cancelReq s e).2 = some x) : ∃ m, x = valueErr m := by
  unfold cancelReq at hx
  repeat' split at hx
  all_goals first | (cases hx; exact ⟨_, rfl⟩) | cases hx

omit c q in
theorem pair_eta {α β : Type} (p : α × β) : p = (p.1, p.2) := rfl

theorem T_doCall (h : c.Inv s) (self : Nat) (cl : Call ℚ σ) :
    doCall (c.T q s) (c.ρ self) (rnCall c.ρ c.rσ cl) = (c.T q (doCall s self cl).1, rnReply c.ρ (doCall s self cl).2) := by
  cases cl <;> simp only [rnCall, doCall, apply_ite Prod.fst, apply_ite Prod.snd, apply_ite (c.T q), apply_ite (rnReply c.ρ), pair_ite]
  case timeout d v => tsimp [h]
  case event => tsimp [h]
  case succeed e v => tsimp [h]
  case fail e x => tsimp [h]
  case spawn st => tsimp [h]
  case interrupt p cause =>
    have hk : (rnKind c.ρ (s.ev p).kind != Kind.proc) = ((s.ev p).kind != Kind.proc) := by cases (s.ev p).kind <;> rfl
    rw [c.kind_T q s h, hk, c.T_mkInterrupt q s h]
    split
    · rfl
    · rw [pair_eta (mkInterrupt s p cause)]
      cases ho : (mkInterrupt s p cause).2 with
      | none => rfl
      | some x => obtain ⟨m, rfl⟩ := mkInterrupt_err s p cause x ho; rfl
  case probe e tag => tsimp [h]
  case cond all ops => rw [c.T_mkCond q s h]; rfl
  case request r prio pre =>
    have := c.T_mkPut q s h r { res := r, prio := prio, preempt := pre, time := s.now, proc := s.active }
    simp only [rnReq_mk, c.r_ρ_zero] at this
    simp only [c.r_res, rnRes_kind, c.r_now, c.r_active, this, rnReply_err, rnReply_ev, rnExc_attrErr, rnExc_valueErr]
  case release r req =>
    have := c.T_mkGet q s h r { res := r, time := s.now, proc := s.active, releaseOf := req }
    simp only [rnReq_mk] at this
    simp only [c.r_res, rnRes_kind, c.r_now, c.r_active, this, rnReply_err, rnReply_ev, rnExc_attrErr, rnExc_valueErr]
  case cancel e =>
    rw [c.T_cancelReq q s h, pair_eta (cancelReq s e)]
    cases ho : (cancelReq s e).2 with
    | none => rfl
    | some x => obtain ⟨m, rfl⟩ := cancelReq_err s e x ho; rfl
  case cput r a =>
    have := c.T_mkPut q s h r { res := r, amount := a, time := s.now, proc := s.active }
    simp only [rnReq_mk, c.r_ρ_zero] at this
    simp only [c.r_res, rnRes_kind, c.r_now, c.r_active, this, rnReply_err, rnReply_ev, rnExc_attrErr, rnExc_valueErr]
  case cget r a =>
    have := c.T_mkGet q s h r { res := r, amount := a, time := s.now, proc := s.active }
    simp only [rnReq_mk, c.r_ρ_zero] at this
    simp only [c.r_res, rnRes_kind, c.r_now, c.r_active, this, rnReply_err, rnReply_ev, rnExc_attrErr, rnExc_valueErr]
  case sput r it =>
    have := c.T_mkPut q s h r { res := r, item := it, time := s.now, proc := s.active }
    simp only [rnReq_mk, c.r_ρ_zero] at this
    simp only [c.r_res, rnRes_kind, c.r_now, c.r_active, this, rnReply_err, rnReply_ev, rnExc_attrErr, rnExc_valueErr]
  case sget r f =>
    have := c.T_mkGet q s h r { res := r, filter := f, time := s.now, proc := s.active }
    simp only [rnReq_mk, c.r_ρ_zero] at this
    simp only [c.r_res, rnRes_kind, c.r_now, c.r_active, this, rnReply_err, rnReply_ev, rnExc_attrErr, rnExc_valueErr]
  case log what v =>
    rw [c.r_freezeVal q s h]
    tsimp [h]
  case load k =>
    tsimp [h]
    cases (s.shared.find? (·.1 == k)) <;> rfl
  case store k v => tsimp [h]

variable {c s} in
@[ksent] theorem Inv.doCall (h : c.Inv s) (self : Nat) (cl : Call ℚ σ) : c.Inv (doCall s self cl).1 :=
  h.mono (Grow.krel.doCall s self cl)

end SplitCfg
