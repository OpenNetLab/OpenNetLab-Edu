import OnlVerif.Lemmas.WireKAbs
/-!
# The Wire on the kernel model: every configuration step is sound

By cases on `AStep`: the abstract invariant is kept (with the deliveries appended: `delivered so far ++ still to come`
stays what the wire's arithmetic gives for the whole workload) and the step budget drops by one.  All statements are at
the instant of the processed entry (`AInv.advance` brings the clock there).
-/

namespace WireK
open WireOnK QEntry

variable {cfg : WireCfg ℚ} {losses delays : List ℚ}
variable {arrivals : List ℚ} {a a' : A} {outs new : List (Int × ℚ)} {lf : List Int} {q : QEntry ℚ}

theorem AStep.mu_lt (hs : AStep cfg losses delays a q a' new lf) : a'.mu + 1 ≤ a.mu := by
  cases hs
  all_goals
    simp +arith only [A.mu, WPhase.mu, SPhase.mu, *, List.length_cons, List.length_append, List.length_nil,
      Option.isSome_some, Option.isSome_none, Bool.false_eq_true, if_true, if_false]

/-- once the `StorePut` event is processed the source no longer has to come after it -/
theorem SrcA.drop_pend {t : ℚ} (hs : SrcA a t a.src) (hp : a.pend ≠ none) : SrcA { a with pend := none } t a.src := by
  cases hsrc : a.src with
  | init q0 arr => rw [hsrc] at hs; exact absurd hs.2.2.2.1 hp
  | wait next rest q0 => rw [hsrc] at hs; exact ⟨hs.1, hs.2.1, hs.2.2.1, fun u hu => by cases hu⟩
  | ending q0 => rw [hsrc] at hs; exact hs
  | done => trivial

theorem deliv_lost (fr : ℚ) (nl nd : Nat) (id : Int) (c : ℚ) (R : List (Int × ℚ))
    (hl : isLost cfg (draw losses nl) = true) :
    deliv cfg losses delays fr nl nd ((id, c) :: R) = deliv cfg losses delays (max fr c) (nlNext cfg nl) nd R := by
  simp [deliv, hl]

theorem deliv_wait (fr : ℚ) (nl nd : Nat) (id : Int) (c : ℚ) (R : List (Int × ℚ))
    (hl : isLost cfg (draw losses nl) = false) (hw : max fr c - c < draw delays nd) :
    deliv cfg losses delays fr nl nd ((id, c) :: R) =
      (id, c + draw delays nd) :: deliv cfg losses delays (c + draw delays nd) (nlNext cfg nl) (nd + 1) R := by
  simp [deliv, hl, hw]

theorem deliv_now (fr : ℚ) (nl nd : Nat) (id : Int) (c : ℚ) (R : List (Int × ℚ))
    (hl : isLost cfg (draw losses nl) = false) (hw : ¬ max fr c - c < draw delays nd) :
    deliv cfg losses delays fr nl nd ((id, c) :: R) =
      (id, max fr c) :: deliv cfg losses delays (max fr c) (nlNext cfg nl) (nd + 1) R := by
  simp [deliv, hl, hw]

theorem ctOf_put (a a' : A) (x : ℚ) (hc : a'.cts = a.cts ++ [x]) (id : Int) (h : id.toNat < a.cts.length) :
    a'.ctOf id = a.ctOf id := by
  unfold A.ctOf
  rw [hc, getD_snoc_lt _ _ _ h]

theorem ctOf_new (a a' : A) (x : ℚ) (hc : a'.cts = a.cts ++ [x]) : a'.ctOf (a.cts.length : Int) = x := by
  unfold A.ctOf
  rw [hc, Int.toNat_natCast, getD_snoc_eq]

/-- the waiting packets after a `put` at the instant the source's entry was due: the source's next packet is now in the
store, with the stamp it was predicted with -/
theorem waiting_put (a a' : A) (t : ℚ) (F : List (Int × ℚ)) (hc : a'.cts = a.cts ++ [t])
    (hi : a'.items = a.items ++ [(a.cts.length : Int)]) (hits : ∀ i ∈ a.items, i.toNat < a.cts.length)
    (hf : a.src.future t = ((a.cts.length : Int), t) :: F) (hf' : a'.src.future t = F) :
    a'.waiting t = a.waiting t := by
  unfold A.waiting
  rw [hi, hf, hf', List.map_append, List.map_singleton, ctOf_new a a' t hc, List.append_assoc, List.singleton_append]
  congr 1
  apply List.map_congr_left
  intro i hi'
  rw [ctOf_put a a' t hc i (hits i hi')]

/-- a `put` changes nothing that is still to be delivered -/
theorem pred_put (a a' : A) (t : ℚ) (F : List (Int × ℚ)) (hw : a'.wire = a.wire) (hc : a'.cts = a.cts ++ [t])
    (hit : a'.items = a.items ++ [(a.cts.length : Int)]) (hits : ∀ i ∈ a.items, i.toNat < a.cts.length)
    (hf : a.src.future t = ((a.cts.length : Int), t) :: F) (hf' : a'.src.future t = F)
    (hid : ∀ g id q0 t0 nl nd, a.wire = .H g id q0 t0 nl nd → id.toNat < a.cts.length) :
    pred cfg losses delays a' t = pred cfg losses delays a t := by
  have hwt := waiting_put a a' t F hc hit hits hf hf'
  unfold pred
  rw [hw, hwt]
  cases hwire : a.wire with
  | init q0 => rfl
  | W g t0 nl nd => rfl
  | H g id q0 t0 nl nd =>
    simp only
    rw [ctOf_put a a' t hc id (hid g id q0 t0 nl nd hwire)]
  | T tt id q0 nl nd => rfl

/-- **a `put`** at the instant of the source's entry keeps the invariant, whatever the source goes on to (`a'.src`), as long
as that is a sound phase whose entry is due and which still has to send what was to come after this packet -/
theorem inv_put (hi : AInv cfg losses delays arrivals a q.time outs) (hq : IsMin a q) {next : Nat} {rest : List ℚ}
    (h : a.src = .wait next rest q) (hn : a.pend = none) {u : QEntry ℚ} (hw : a'.wire = a.wire) (hp : a'.pend = some u)
    (hc : a'.cts = a.cts ++ [q.time])
    (hit : a'.items = a.items ++ [(next : Int)]) (hu : u.time = q.time ∧ u.prio = NORMAL)
    (hS : next = a.cts.length → SrcA a' q.time a'.src) (hdue : ∀ x ∈ a'.src.entries, q.time ≤ x.time)
    (hf : next = a.cts.length → a.src.future q.time = ((a.cts.length : Int), q.time) :: a'.src.future q.time) :
    AInv cfg losses delays arrivals a' q.time (outs ++ []) := by
  have hs := hi.src
  rw [h] at hs
  obtain ⟨hsp, -, hnext, -⟩ := hs
  have hits : ∀ i ∈ a.items, i.toNat < a.cts.length := fun i hi' => (hi.its i hi').2.1
  have hlen : a'.cts.length = a.cts.length + 1 := by rw [hc]; simp
  have hnew : a'.ctOf (next : Int) = q.time := by rw [hnext]; exact ctOf_new a a' q.time hc
  have hp0 := hi.wire
  refine ⟨?_, hS hnext, ?_, ?_, ?_, ?_, ?_⟩
  · rw [hw]
    cases hwire : a.wire with
    | init q0 =>
      exfalso
      rw [hwire] at hp0
      refine min_not_prio_lt hi.due hq (mem_wire (by simp [hwire, WPhase.entries])) hp0.1 ?_
      rw [hp0.2.1, hsp]; decide
    | W g t0 nl nd =>
      rw [hwire] at hp0
      refine ⟨hp0.1, ?_⟩
      have hemp : a.items = [] := by
        by_contra hne
        have := hi.idle (by simp [hwire, WPhase.idle]) hne
        rw [hn] at this; cases this
      intro i hi'
      rw [hit, hemp] at hi'
      simp only [List.nil_append, List.mem_singleton] at hi'
      rw [hi']; exact hnew
    | H g id q0 t0 nl nd =>
      rw [hwire] at hp0
      obtain ⟨h1, h2, h3, h4, h5⟩ := hp0
      exact ⟨h1, h2, by rw [ctOf_put a a' q.time hc id h5]; exact h3, h4, by rw [hlen]; omega⟩
    | T tt id q0 nl nd =>
      rw [hwire] at hp0
      exact ⟨hp0.1, hp0.2.1, by rw [hlen]; have := hp0.2.2; omega⟩
  · intro v hv
    rw [hp] at hv
    simp only [Option.some.injEq] at hv
    subst hv
    exact hu
  · intro _ _; rw [hp]; rfl
  · exact due_parts hi.due (.inl (congrArg _ hw)) (.inr hdue) (.inr (by rw [hp]; exact List.forall_mem_singleton.mpr hu.1.ge))
  · intro i hi'
    rw [hit] at hi'
    simp only [List.mem_append, List.mem_singleton] at hi'
    rcases hi' with hi' | rfl
    · obtain ⟨h1, h2, h3⟩ := hi.its i hi'
      exact ⟨h1, by rw [hlen]; omega, by rw [ctOf_put a a' q.time hc i h2]; exact h3⟩
    · exact ⟨Int.natCast_nonneg _, by rw [hlen, Int.toNat_natCast, hnext]; omega, by rw [hnew]⟩
  · rw [List.append_nil, pred_put a a' q.time _ hw hc (by rw [hit, hnext]) hits (hf hnext) rfl]
    · exact hi.ghost
    · intro g id q0 t0 nl nd hwire
      rw [hwire] at hp0
      exact hp0.2.2.2.2

/-! The server is done with a packet at `q.time`, having forwarded `new` and with `nl`, `nd` draws used: what is still to come
is `hpred`, whatever the store holds (`AInv.pred_lost`, `pred_out`, `pred_fire`); then it blocks in `get` or takes the next. -/

/-- the server finds the store empty: it blocks in `get` -/
theorem AInv.blocked (hi : AInv cfg losses delays arrivals a q.time outs) (hit : a.items = []) {nl nd : Nat}
    (hpred : pred cfg losses delays a q.time = new ++ deliv cfg losses delays q.time nl nd (a.waiting q.time)) (g : EvId) :
    AInv cfg losses delays arrivals { a with wire := .W g q.time nl nd } q.time (outs ++ new) :=
  ⟨⟨le_refl _, fun _ hi' => absurd hit (List.ne_nil_of_mem hi')⟩, hi.src, hi.pend, fun _ hne => absurd hit hne,
    due_parts hi.due (.inr (List.forall_mem_nil _)) (.inl rfl) (.inl rfl), hi.its,
    by rw [List.append_assoc, ← hi.ghost, hpred]; rfl⟩

/-- the server takes the head of the store at once -/
theorem AInv.taken (hi : AInv cfg losses delays arrivals a q.time outs) {i : Int} {is : List Int} (hit : a.items = i :: is)
    {q' : QEntry ℚ} (ht : q'.time = q.time ∧ q'.prio = NORMAL) {nl nd : Nat}
    (hpred : pred cfg losses delays a q.time = new ++ deliv cfg losses delays q.time nl nd (a.waiting q.time)) (g : EvId) :
    AInv cfg losses delays arrivals { a with wire := .H g i q' q.time nl nd, items := is } q.time (outs ++ new) := by
  have hii := hi.its i (hit ▸ List.mem_cons_self)
  refine ⟨⟨ht.1, ht.2, max_eq_left hii.2.2, hii.1, hii.2.1⟩, hi.src, hi.pend, (fun hidle => by cases hidle),
    due_parts hi.due (.inr (List.forall_mem_singleton.mpr ht.1.ge)) (.inl rfl) (.inl rfl),
    fun j hj => hi.its j (hit ▸ List.mem_cons_of_mem _ hj), ?_⟩
  rw [List.append_assoc, ← hi.ghost, hpred]
  simp only [pred, A.waiting, hit, List.map_cons, List.cons_append]
  rfl

theorem AInv.pred_lost (hi : AInv cfg losses delays arrivals a q.time outs) {g : EvId} {id : Int} {t0 : ℚ} {nl nd : Nat}
    (h : a.wire = .H g id q t0 nl nd) (hl : isLost cfg (draw losses nl) = true) :
    pred cfg losses delays a q.time = [] ++ deliv cfg losses delays q.time (nlNext cfg nl) nd (a.waiting q.time) := by
  obtain ⟨-, -, hmax, -, -⟩ := h ▸ hi.wire
  simp only [pred, h, deliv_lost _ _ _ _ _ _ hl, hmax, List.nil_append]

theorem AInv.pred_out (hi : AInv cfg losses delays arrivals a q.time outs) {g : EvId} {id : Int} {t0 : ℚ} {nl nd : Nat}
    (h : a.wire = .H g id q t0 nl nd) (hl : isLost cfg (draw losses nl) = false) (hw : ¬ q.time - a.ctOf id < draw delays nd) :
    pred cfg losses delays a q.time =
      [(id, q.time)] ++ deliv cfg losses delays q.time (nlNext cfg nl) (nd + 1) (a.waiting q.time) := by
  obtain ⟨-, -, hmax, -, -⟩ := h ▸ hi.wire
  simp only [pred, h, deliv_now _ _ _ _ _ _ hl (hmax.symm ▸ hw), hmax, List.singleton_append]

theorem pred_fire {t : EvId} {id : Int} {nl nd : Nat} (h : a.wire = .T t id q nl nd) :
    pred cfg losses delays a q.time = [(id, q.time)] ++ deliv cfg losses delays q.time nl nd (a.waiting q.time) := by
  simp only [pred, h, List.singleton_append]

/-- **the source moves on to `S'`** without a `put`: what it has still to send is as before -/
theorem inv_src (hi : AInv cfg losses delays arrivals a q.time outs) {S' : SPhase} (hS : SrcA a q.time S')
    (hdue : ∀ x ∈ S'.entries, q.time ≤ x.time) (hf : S'.future q.time = a.src.future q.time) :
    AInv cfg losses delays arrivals { a with src := S' } q.time (outs ++ []) :=
  ⟨hi.wire, hS, hi.pend, hi.idle, due_parts hi.due (.inl rfl) (.inr hdue) (.inl rfl), hi.its,
    by rw [List.append_nil, ← hi.ghost]; simp only [pred, A.waiting, hf]; rfl⟩

/-- **every configuration step keeps the abstract invariant**, with the deliveries appended -/
theorem AStep.inv (hi : AInv cfg losses delays arrivals a q.time outs) (hq : IsMin a q)
    (hs : AStep cfg losses delays a q a' new lf) : AInv cfg losses delays arrivals a' q.time (outs ++ new) := by
  have hp := hi.wire
  have hsrc := hi.src
  cases hs with
  | wireInit g h =>
    rw [h] at hp
    obtain ⟨-, -, hit, -, h0⟩ := hp
    exact hi.blocked (new := []) hit (by simp only [pred, h, h0, List.nil_append]) g
  | srcInitEnd q' h ht hp' =>
    exact inv_src hi ⟨ht, hp'⟩ (List.forall_mem_singleton.mpr ht.ge) (by rw [h]; rfl)
  | srcInitWait q' gap rest h ht hp' =>
    rw [h] at hsrc
    obtain ⟨-, -, hg, hpe, hcts⟩ := hsrc
    refine inv_src hi ⟨hp', fun x hx => hg x (List.mem_cons_of_mem _ hx), by simp [hcts], fun u hu => nomatch hpe ▸ hu⟩
      (List.forall_mem_singleton.mpr ((le_add_of_nonneg_right (hg gap List.mem_cons_self)).trans_eq ht.symm)) ?_
    simp only [h, SPhase.future, futureOf, ht, add_zero, Nat.cast_zero, zero_add]
  | srcPutEnd u q' next h hn hu ht =>
    refine inv_put hi hq h hn rfl rfl rfl rfl hu (fun _ => ⟨ht.1, ht.2⟩)
      (List.forall_mem_singleton.mpr ht.1.ge) ?_
    intro hnext
    simp [h, SPhase.future, futureOf, hnext]
  | srcPutWait u q' next gap rest h hn hu ht ho =>
    rw [h] at hsrc
    obtain ⟨-, hg, -, -⟩ := hsrc
    have hgap : 0 ≤ gap := hg gap List.mem_cons_self
    refine inv_put hi hq h hn rfl rfl rfl rfl hu ?_
      (List.forall_mem_singleton.mpr ((le_add_of_nonneg_right hgap).trans_eq ht.1.symm)) ?_
    · intro hnext
      refine ⟨ht.2, fun x hx => hg x (List.mem_cons_of_mem _ hx), by simp [hnext], ?_⟩
      intro v hv
      simp only [Option.some.injEq] at hv
      subst hv; exact ho
    · intro hnext
      simp [h, SPhase.future, futureOf, hnext, ht.1]
  | putIdle h hw =>
    have hpe : a.pend ≠ none := by rw [h]; exact Option.some_ne_none q
    refine ⟨?_, hi.src.drop_pend hpe, (fun u hu => by cases hu), ?_, ?_, hi.its, ?_⟩
    · cases hwire : a.wire with
      | init q0 => rw [hwire] at hp; exact absurd hp.2.2.2.1 hpe
      | W g t0 nl nd => rw [hwire] at hp; exact hp
      | H g id q0 t0 nl nd => rw [hwire] at hp; exact hp
      | T t id q0 nl nd => rw [hwire] at hp; exact hp
    · intro hidle hne
      exfalso
      cases hwire : a.wire with
      | init q0 => rw [hwire] at hp; exact hne hp.2.2.1
      | W g t0 nl nd =>
        rcases hw with hw | hw
        · simp [hwire, WPhase.getQ] at hw
        · exact hne hw
      | H g id q0 t0 nl nd => simp [hwire, WPhase.idle] at hidle
      | T t id q0 nl nd => simp [hwire, WPhase.idle] at hidle
    · exact due_parts hi.due (.inl rfl) (.inl rfl) (.inr (List.forall_mem_nil _))
    · simpa only [pred, A.waiting, A.ctOf, List.append_nil] using hi.ghost
  | putHand q' g t0 nl nd i is h hw hit ht =>
    have hpe : a.pend ≠ none := by rw [h]; exact Option.some_ne_none q
    rw [hw] at hp
    obtain ⟨ht0, hct⟩ := hp
    have hii := hi.its i (by rw [hit]; exact List.mem_cons_self)
    have hci : a.ctOf i = q.time := hct i (by rw [hit]; exact List.mem_cons_self)
    refine ⟨⟨ht.1, ht.2, ?_, hii.1, hii.2.1⟩, hi.src.drop_pend hpe, (fun u hu => by cases hu), (fun hidle => by cases hidle),
      ?_, ?_, ?_⟩
    · show max t0 (a.ctOf i) = q.time
      rw [hci]; exact max_eq_right ht0
    · exact due_parts hi.due (.inr (List.forall_mem_singleton.mpr ht.1.ge)) (.inl rfl) (.inr (List.forall_mem_nil _))
    · intro j hj
      exact hi.its j (by rw [hit]; exact List.mem_cons_of_mem _ hj)
    · simpa only [pred, A.waiting, A.ctOf, hw, hit, List.map_cons, List.cons_append, List.append_nil] using hi.ghost
  | serveLostIdle g g' id t0 nl nd h hl hit => exact hi.blocked hit (hi.pred_lost h hl) g'
  | serveLostNext q' g g' id t0 nl nd i is h hl hit ht => exact hi.taken hit ht (hi.pred_lost h hl) g'
  | serveWait q' g t id t0 nl nd h hl hw ht =>
    rw [h] at hp
    obtain ⟨-, -, hmax, h4, h5⟩ := hp
    refine ⟨⟨ht.2, h4, h5⟩, hi.src, hi.pend, (fun hidle => by cases hidle), ?_, hi.its, ?_⟩
    · exact due_parts hi.due
        (.inr (List.forall_mem_singleton.mpr ((le_add_of_nonneg_right (sub_nonneg.mpr hw.le)).trans_eq ht.1.symm)))
        (.inl rfl) (.inl rfl)
    · have := hi.ghost
      have hw' : max t0 (a.ctOf id) - a.ctOf id < draw delays nd := by rw [hmax]; exact hw
      have hqt : q'.time = a.ctOf id + draw delays nd := by rw [ht.1]; ring
      simp only [pred, h, List.append_nil, A.waiting] at this ⊢
      rw [deliv_wait _ _ _ _ _ _ hl hw'] at this
      rw [hqt]
      exact this
  | serveOutIdle g g' id t0 nl nd h hl hw hit => exact hi.blocked hit (hi.pred_out h hl hw) g'
  | serveOutNext q' g g' id t0 nl nd i is h hl hw hit ht => exact hi.taken hit ht (hi.pred_out h hl hw) g'
  | fireIdle t g id nl nd h hit => exact hi.blocked hit (pred_fire h) g
  | fireNext q' t g id nl nd i is h hit ht => exact hi.taken hit ht (pred_fire h) g
  | srcEnd h => exact inv_src hi trivial (List.forall_mem_nil _) (by rw [h]; rfl)

theorem astep_sound {now : ℚ} {a' : A} {outs new : List (Int × ℚ)} {lf : List Int}
    (hi : AInv cfg losses delays arrivals a now outs) (hq : IsMin a q) (hs : AStep cfg losses delays a q a' new lf) :
    AInv cfg losses delays arrivals a' q.time (outs ++ new) ∧ a'.mu + 1 ≤ a.mu :=
  ⟨hs.inv (hi.advance hq) hq, hs.mu_lt⟩

end WireK
