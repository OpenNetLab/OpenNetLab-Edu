import OnlVerif.Lemmas.SPKAbs
import OnlVerif.Lemmas.MQKLts
/-!
# The SP scheduler on the kernel model: every configuration step keeps `AInv` and lowers the step bound
-/

namespace SPK
open SPOnK QEntry

theorem sumFrom_all_zero (c : Nat → Int) : ∀ (n f : Nat), (∀ j, f ≤ j → j < f + n → c j = 0) → sumFrom c f n = 0 :=
  sumFrom_eq ▸ MQK.sumFrom_all_zero c

theorem firstHit_none (ln : Nat → Nat) : ∀ (tbl : List (Nat × Int)) (i : Nat), firstHit ln i tbl = none →
    ∀ x ∈ tbl, 0 < x.2 → ln x.1 = 0
  | [], _, _ => fun x hx => by simp at hx
  | (f, pr) :: rest, i, h => by
    intro x hx hpos
    simp only [firstHit] at h
    rcases List.mem_cons.mp hx with rfl | hx
    · simp only [hpos, if_true] at h
      by_contra hc
      simp [hc] at h
    · by_cases hpr : 0 < pr
      · simp only [hpr, if_true] at h
        by_cases hz : ln f = 0
        · simp only [hz, if_true] at h
          exact firstHit_none ln rest (i + 1) h x hx hpos
        · simp [hz] at h
      · simp only [hpr, if_false] at h
        exact firstHit_none ln rest (i + 1) h x hx hpos

variable {F : Nat} {flow size : Int → Nat} {cfg : SP.Cfg ℚ}
variable {a : A} {now : ℚ} {q : QEntry ℚ}

theorem scan_none_empty (hi : AInv flow F cfg a now) (hs : a.scan (SP.table cfg) = none) : ∀ f, f < F → a.items f = [] := by
  intro f hf
  by_contra hne
  obtain ⟨π, hmem, hpos⟩ := hi.prioOK f hf hne
  have hm : (f, π) ∈ SP.table cfg := (SP.mem_sortDesc _ _).mpr hmem
  have := firstHit_none _ _ _ hs (f, π) hm hpos
  simp only at this
  exact hne (List.eq_nil_of_length_eq_zero this)

theorem total_def (F : Nat) (a : A) : a.total F = MQK.sumFrom a.cnt 0 F := by rw [A.total, sumFrom_eq]

/-- stores, counters and keys of a configuration, as `Lemmas/MQKLts.lean` speaks of them (`upd`, `addKey`, `heldCnt`, `sumFrom` there
have the bodies of those of this development: what is proved there of the one is used here of the other by unfolding) -/
theorem AInv.store (hi : AInv flow F cfg a now) : MQK.StoreInv flow F a.keys a.items a.cnt a.byt a.run.held :=
  ⟨hi.cntOK, hi.flowOK, hi.keysOK⟩

theorem total_zero_of_empty (hi : AInv flow F cfg a now) (hh : a.run.held = none) (he : ∀ f, f < F → a.items f = []) :
    a.total F = 0 :=
  (total_def F a).trans (hi.store.total_zero_of_empty hh he)

theorem empty_of_total_zero (hi : AInv flow F cfg a now) (ht : a.total F = 0) : ∀ f, f < F → a.items f = [] :=
  hi.store.empty_of_total_zero ((total_def F a).symm.trans ht)

theorem total_pos_of_held (hi : AInv flow F cfg a now) {id : Int} (hh : a.run.held = some id) (hf : flow id < F) :
    a.total F ≠ 0 :=
  fun ht => hi.store.total_pos hh hf ((total_def F a).symm.trans ht)

theorem AInv.store_of (hi : AInv flow F cfg a now) {o : Option Int} (h : a.run.held = o) :
    MQK.StoreInv flow F a.keys a.items a.cnt a.byt o :=
  h ▸ hi.store

theorem runA_congr {a' : A} {r : RPhase} (hr : RunA flow F a now r) (hinit : ∀ q0, r ≠ .init q0) (hc : a'.cur = a.cur)
    (hW : ∀ g, r = .W g → (a'.tokens = 0 → ∀ f, f < F → a'.items f = []) ∧ (a'.tokens ≠ 0 → ∃ u, (u, 0) ∈ a'.pend)) :
    RunA flow F a' now r := by
  cases r with
  | init q0 => exact absurd rfl (hinit q0)
  | W g => exact ⟨(hW g rfl).1, (hW g rfl).2, hc.trans hr.2.2⟩
  | _ => simp only [RunA, hc] at hr ⊢; exact hr

/-- the invariant after a step: what is not said stays as it is (the entries of `run`, the source, the pending `StorePut`s,
stores and counters) -/
theorem ainv_gen (hi : AInv flow F cfg a q.time) (a' : A) (hr : RunA flow F a' q.time a'.run)
    (hrd : ∀ x ∈ a'.run.entries, q.time ≤ x.time := by exact fun x hx => hi.due x (mem_run hx))
    (hs : SrcA flow F cfg q.time a'.src ∧ ∀ x ∈ a'.src.entries, q.time ≤ x.time := by
      exact ⟨hi.src, fun x hx => hi.due x (mem_src hx)⟩)
    (hpend : ∀ u ∈ a'.pend, u ∈ a.pend ∨ u.1.time = q.time ∧ u.1.prio = NORMAL := by exact fun u hu => Or.inl hu)
    (hst : MQK.StoreInv flow F a'.keys a'.items a'.cnt a'.byt a'.run.held := by exact hi.store)
    (hprio : ∀ f, f < F → a'.items f ≠ [] → ∃ π, (f, π) ∈ cfg.prios ∧ 0 < π := by exact hi.prioOK) :
    AInv flow F cfg a' q.time := by
  refine ⟨hr, hs.1, fun u hu => (hpend u hu).elim (hi.pend u) fun h => h, ?_, hst.cntOK, hst.flowOK, hprio, hst.keysOK, hi.table,
    hi.rate⟩
  intro x hx
  simp only [A.entries, List.mem_append, pendEntries, List.mem_map] at hx
  rcases hx with hx | hx | ⟨u, hu, rfl⟩
  · exact hrd x hx
  · exact hs.2 x hx
  · exact (hpend u hu).elim (fun h => hi.due _ (mem_pend h)) fun h => h.1.ge

variable {n e : Nat} {arr : List (ℚ × Int)}

theorem mem_addKey (l : List Nat) (k x : Nat) : x ∈ addKey l k ↔ x ∈ l ∨ x = k :=
  MQK.mem_addKey l k x

theorem srcNext_ok (hw : WorkOK flow F cfg arr) (t : ℚ) (eid ev : Nat) :
    SrcA flow F cfg t (srcNext t eid ev arr) ∧ (∀ x ∈ (srcNext t eid ev arr).entries, t ≤ x.time) ∧
    (srcNext t eid ev arr).mu ≤ 10 * arr.length + 1 := by
  cases arr with
  | nil => exact ⟨⟨rfl, rfl⟩, by simp [srcNext, SPhase.entries], by simp [srcNext, SPhase.mu]⟩
  | cons x r =>
    obtain ⟨gap, id⟩ := x
    have h1 := hw (gap, id) (by simp)
    refine ⟨⟨rfl, h1.2, fun y hy => hw y (List.mem_cons_of_mem _ hy)⟩, ?_, by simp [srcNext, SPhase.mu]; omega⟩
    simp only [srcNext, SPhase.entries, List.mem_singleton]
    rintro y rfl
    show t ≤ t + gap
    linarith [h1.1]

/-- when the source's timeout is the next entry, `run` has had its first burst: its `Initialize` is urgent and not later -/
theorem run_started (hi : AInv flow F cfg a q.time) (hq : IsMin a q) {id : Int} {arr : List (ℚ × Int)}
    (h : a.src = .wait id arr q) (q0 : QEntry ℚ) : a.run ≠ .init q0 := by
  intro hr
  have hrun := hi.run
  have hs := hi.src
  rw [hr] at hrun
  rw [h] at hs
  exact min_not_prio_lt hi.due hq (mem_run (by simp [hr, RPhase.entries])) hrun.1 (by rw [hrun.2.1, hs.1]; decide)

theorem sound_put (hi : AInv flow F cfg a q.time) (hq : IsMin a q) {id : Int} {arr : List (ℚ × Int)}
    (h : a.src = .wait id arr q) (tk : Bool) (htk : tk = true ↔ a.total F = 0) (src' : SPhase)
    (hsrc' : SrcA flow F cfg q.time src' ∧ (∀ x ∈ src'.entries, q.time ≤ x.time) ∧ src'.mu ≤ 10 * arr.length + 1)
    (new : List (QEntry ℚ × ResId)) (hnew : ∀ u ∈ new, u.1.time = q.time ∧ u.1.prio = NORMAL)
    (hnewt : tk = true → ∃ u, (u, 0) ∈ new) (hlen : new.length ≤ 2) :
    let a' : A := { a with
        src := src'
        pend := a.pend ++ new
        tokens := a.tokens + (if tk then 1 else 0)
        items := upd a.items (flow id) (a.items (flow id) ++ [id])
        cnt := upd a.cnt (flow id) (a.cnt (flow id) + 1)
        byt := upd a.byt (flow id) (a.byt (flow id) + (size id : Int))
        recv := a.recv + 1
        keys := addKey a.keys (flow id) }
    AInv flow F cfg a' q.time ∧ a'.mu F + 1 ≤ a.mu F := by
  have hs := hi.src
  rw [h] at hs
  obtain ⟨-, ⟨hfid, π, hmem, hpos⟩, -⟩ := hs
  have hns := run_started hi hq h
  refine ⟨ainv_gen hi _ (runA_congr hi.run hns rfl fun g (hr : a.run = .W g) => ⟨fun h0 => ?_, fun h0 => ?_⟩)
    (hs := ⟨hsrc'.1, hsrc'.2.1⟩)
    (hpend := fun u hu => (List.mem_append.mp hu).imp (fun h => h) (hnew u))
    (hst := hi.store.put hfid (size id : Int))
    (hprio := fun f hf hne => by
      by_cases hff : f = flow id
      · subst hff; exact ⟨π, hmem, hpos⟩
      · exact hi.prioOK f hf (by dsimp only at hne; rwa [upd_ne _ _ _ _ hff] at hne)), ?_⟩
  · have hall := (hr ▸ hi.run).1 (show a.tokens = 0 by dsimp only at h0; omega)
    have : tk = true := htk.mpr (total_zero_of_empty hi (by simp [hr, RPhase.held]) hall)
    simp [this] at h0
  · dsimp only at h0 ⊢
    by_cases hk : tk = true
    · obtain ⟨u, hu⟩ := hnewt hk
      exact ⟨u, List.mem_append_right _ hu⟩
    · obtain ⟨u, hu⟩ := (hr ▸ hi.run).2.1 (by simpa [hk] using h0)
      exact ⟨u, List.mem_append_left _ hu⟩
  · have hw : waitingFrom (upd a.items (flow id) (a.items (flow id) ++ [id])) 0 F = waitingFrom a.items 0 F + 1 :=
      MQK.StoreInv.waiting_put hfid
    have hm : (SPhase.wait id arr q).mu = 10 * arr.length + 11 := rfl
    have h2 := hsrc'.2.2
    simp only [A.mu, h, hm, List.length_append]
    cases tk <;> simp only [Bool.false_eq_true, if_false, if_true] <;> omega

/-- the server takes the head of `stores[f]` (after a wake-up or after a transmission) -/
theorem sound_hit (hi : AInv flow F cfg a q.time) {i f : Nat} {id : Int} {is : List Int} (hh : a.run.held = none)
    (hcur : a.cur = none) (hf : f < F) (hit : a.items f = id :: is) (hmu : a.run.mu = 1) :
    AInv flow F cfg { a with run := .H n i id ⟨q.time, NORMAL, e, n⟩, items := upd a.items f is } q.time ∧
      ({ a with run := .H n i id ⟨q.time, NORMAL, e, n⟩, items := upd a.items f is } : A).mu F + 1 ≤ a.mu F := by
  have hfl : flow id = f := hi.flowOK f hf id (by rw [hit]; simp)
  refine ⟨ainv_gen hi _ ⟨rfl, rfl, hcur, hfl ▸ hf⟩ (fun x hx => by rw [List.mem_singleton.mp hx])
    (hst := hi.store.take hh hf hit) (hprio := fun f' hf' hne => ?_), ?_⟩
  · by_cases hff : f' = f
    · subst hff
      exact hi.prioOK f' hf' (by rw [hit]; simp)
    · exact hi.prioOK f' hf' (by dsimp only at hne; rwa [upd_ne _ _ _ _ hff] at hne)
  · have : waitingFrom (upd a.items f is) 0 F + 1 = waitingFrom a.items 0 F := MQK.StoreInv.waiting_take hf hit
    have h4 : (RPhase.H n i id ⟨q.time, NORMAL, e, n⟩).mu = 4 := rfl
    simp only [A.mu, h4, hmu]
    omega

/-- `run` ends a burst with nothing to serve: it blocks on the wake-up store, or takes the token that is there -/
theorem sound_idle (hi : AInv flow F cfg a q.time) (hh : a.run.held = none) (hcur : a.cur = none) (hmu : a.run.mu = 1)
    (hemp : ∀ f, f < F → a.items f = []) :
    (a.tokens = 0 → AInv flow F cfg { a with run := .W n } q.time ∧ ({ a with run := .W n } : A).mu F + 1 ≤ a.mu F) ∧
    ∀ t, a.tokens = t + 1 → AInv flow F cfg { a with run := .K n ⟨q.time, NORMAL, e, n⟩, tokens := t } q.time ∧
      ({ a with run := .K n ⟨q.time, NORMAL, e, n⟩, tokens := t } : A).mu F + 1 ≤ a.mu F := by
  refine ⟨fun htk => ⟨ainv_gen hi _ ⟨fun _ => hemp, fun h0 => absurd htk h0, hcur⟩ (fun _ hx => nomatch hx)
      (hst := hi.store_of hh), ?_⟩,
    fun t htk => ⟨ainv_gen hi _ ⟨rfl, rfl, hcur⟩ (fun x hx => by rw [List.mem_singleton.mp hx]) (hst := hi.store_of hh), ?_⟩⟩
  · have h0 : (RPhase.W n).mu = 0 := rfl
    simp only [A.mu, h0, hmu]; omega
  · have h1 : (RPhase.K n ⟨q.time, NORMAL, e, n⟩).mu = 1 := rfl
    simp only [A.mu, h1, hmu, htk]; omega

theorem astep_sound {a' : A} {new : List (HEv ℚ)} (hi0 : AInv flow F cfg a now) (hq : IsMin a q)
    (hs : AStep F flow size cfg n e a q a' new) : AInv flow F cfg a' q.time ∧ a'.mu F + 1 ≤ a.mu F := by
  have hi := hi0.advance hq
  have hrun := hi.run
  cases hs with
  | runInit h =>
    rw [h] at hrun
    obtain ⟨-, -, htk, hpe, hit, hcn, hcur⟩ := hrun
    exact (sound_idle (e := e) hi (by rw [h]; rfl) hcur (by rw [h]; rfl) (fun f _ => hit f)).1 htk
  | wakeHit g i f id is h hs hf hit | doneHit p id0 i f id is h htot hs hf hit =>
    rw [h] at hrun
    exact sound_hit hi (by rw [h]; rfl) hrun.2.2 hf hit (by rw [h]; rfl)
  | wakeBlock g h hs htk =>
    rw [h] at hrun
    exact (sound_idle (e := e) hi (by rw [h]; rfl) hrun.2.2 (by rw [h]; rfl) (scan_none_empty hi hs)).1 htk
  | wakeTok g t h hs htk =>
    rw [h] at hrun
    exact (sound_idle (e := e) hi (by rw [h]; rfl) hrun.2.2 (by rw [h]; rfl) (scan_none_empty hi hs)).2 t htk
  | pktResume g i id h =>
    rw [h] at hrun
    refine ⟨ainv_gen hi _ ⟨rfl, rfl, hrun.2.2.1, hrun.2.2.2⟩ (fun x hx => by rw [List.mem_singleton.mp hx])
      (hst := hi.store_of (by rw [h]; rfl)), ?_⟩
    simp only [A.mu, RPhase.mu, h]; omega
  | sendInit p id h =>
    rw [h] at hrun
    have hd := txTime_nonneg (size := size) hi.rate id
    refine ⟨ainv_gen hi _ ⟨rfl, rfl, hrun.2.2.2⟩
      (fun x hx => by rw [List.mem_singleton.mp hx]; show q.time ≤ q.time + _; linarith)
      (hst := hi.store_of (by rw [h]; rfl)), ?_⟩
    simp only [A.mu, RPhase.mu, h]; omega
  | sendFire p t id h =>
    rw [h] at hrun
    obtain ⟨-, hcur, hfid⟩ := hrun
    refine ⟨ainv_gen hi _ ⟨rfl, rfl, rfl⟩ (fun x hx => by rw [List.mem_singleton.mp hx])
      (hst := hi.store.out (by rw [h]; rfl) hfid (-(size id : Int))), ?_⟩
    simp only [A.mu, RPhase.mu, h]; omega
  | doneBlock p id0 h htot htk =>
    rw [h] at hrun
    exact (sound_idle (e := e) hi (by rw [h]; rfl) hrun.2.2 (by rw [h]; rfl) (empty_of_total_zero hi htot)).1 htk
  | doneTok p id0 t h htot htk =>
    rw [h] at hrun
    exact (sound_idle (e := e) hi (by rw [h]; rfl) hrun.2.2 (by rw [h]; rfl) (empty_of_total_zero hi htot)).2 t htk
  | srcInit arr h =>
    have hs := hi.src
    rw [h] at hs
    obtain ⟨h1, h2, h3⟩ := srcNext_ok hs.2.2 q.time e n
    refine ⟨ainv_gen hi _ hi.run (hs := ⟨h1, h2⟩), ?_⟩
    have hm : (SPhase.init q arr).mu = 10 * arr.length + 2 := rfl
    simp only [A.mu, h, hm]
    omega
  | srcPutTok id arr h htot =>
    have hs := hi.src
    rw [h] at hs
    exact sound_put (size := size) hi hq h true (by simp [htot]) _ (srcNext_ok hs.2.2 q.time (e + 1 + 1) (n + 1 + 1))
      [(⟨q.time, NORMAL, e, n⟩, 0), (⟨q.time, NORMAL, e + 1, n + 1⟩, flowStore (flow id))]
      (by intro u hu; simp only [List.mem_cons, List.not_mem_nil, or_false] at hu; rcases hu with rfl | rfl <;> exact ⟨rfl, rfl⟩)
      (fun _ => ⟨_, List.mem_cons_self⟩) (le_refl _)
  | srcPutPlain id arr h htot =>
    have hs := hi.src
    rw [h] at hs
    exact sound_put (size := size) hi hq h false (by simp [htot]) _ (srcNext_ok hs.2.2 q.time (e + 1) (n + 1))
      [(⟨q.time, NORMAL, e, n⟩, flowStore (flow id))]
      (by intro u hu; simp only [List.mem_cons, List.not_mem_nil, or_false] at hu; rw [hu]; exact ⟨rfl, rfl⟩)
      (fun h0 => by cases h0) (Nat.le_succ _)
  | srcEnd h =>
    refine ⟨ainv_gen hi _ hi.run (hs := ⟨trivial, fun _ hx => nomatch hx⟩), ?_⟩
    have hm : (SPhase.ending q).mu = 1 := rfl
    have hm' : SPhase.done.mu = 0 := rfl
    simp only [A.mu, h, hm, hm']
    omega
  | pendNoop r l1 l2 hpe hno =>
    have hsub : ∀ u ∈ l1 ++ l2, u ∈ a.pend := KExec.mem_of_split hpe
    refine ⟨ainv_gen hi _ (runA_congr hi.run (fun q0 (hr : a.run = .init q0) => ?_) rfl
      fun g (hr : a.run = .W g) => ⟨(hr ▸ hi.run).1, fun h0 => ?_⟩)
      (hpend := fun u hu => Or.inl (hsub u hu)), ?_⟩
    · have := (hr ▸ hi.run).2.2.2.1
      rw [this] at hpe
      simp at hpe
    · obtain ⟨u, hu⟩ := (hr ▸ hi.run).2.1 h0
      rw [hpe] at hu
      rcases List.mem_append.mp hu with h1 | h1
      · exact ⟨u, List.mem_append_left _ h1⟩
      · rcases List.mem_cons.mp h1 with h1 | h1
        · exact absurd ⟨by cases h1; rfl, h0, g, hr⟩ hno
        · exact ⟨u, List.mem_append_right _ h1⟩
    · simp only [A.mu, hpe, List.length_append, List.length_cons]
      omega
  | pendHand g t l1 l2 hpe h htk =>
    have hsub : ∀ u ∈ l1 ++ l2, u ∈ a.pend := KExec.mem_of_split hpe
    rw [h] at hrun
    refine ⟨ainv_gen hi _ ⟨rfl, rfl, hrun.2.2⟩ (fun x hx => by rw [List.mem_singleton.mp hx])
      (hpend := fun u hu => Or.inl (hsub u hu)) (hst := hi.store_of (by rw [h]; rfl)), ?_⟩
    simp only [A.mu, h, hpe, htk, RPhase.mu, List.length_append, List.length_cons]
    omega

end SPK
