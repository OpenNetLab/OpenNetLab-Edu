import OnlVerif.Lemmas.SPKCfg
/-!
# The SP scheduler on the kernel model: the kernel steps of the sender, of the source and of the pending `StorePut` events

Each kernel step is computed on the configuration `cfgOf flow F a s st0` by the machine of `Lemmas/KProcDefs.lean`, and
`StepsTo.of_ginv` reads the configuration `a'` of the state after the step off the result.
-/

namespace SPK
open SPOnK
open KProc

variable {F : Nat} {flow size : Int → Nat} {rate : ℚ} {tbl : List (Nat × Int)}
variable {s : KS} {a : A} {q : QEntry ℚ} {rest : List (QEntry ℚ)} {st0 : St}

theorem txTime_nonneg (hrate : 0 < rate) (id : Int) : 0 ≤ txTime size rate id :=
  Num.ofNat_div_nonneg _ hrate

variable (F flow size rate tbl) in
/-- the kernel step from `s` succeeds at the instant of `q` in a state with configuration `a'`, having observed `new` -/
def StepsTo (fuel : Nat) (s : KS) (q : QEntry ℚ) (a' : A) (new : List (HEv ℚ)) : Prop :=
  ∃ s', step (body F flow size rate tbl) (fuel + 1) s = .ok s' ∧ KInv flow F s' a' ∧ s'.now = q.time ∧
    histOf s'.trace = histOf s.trace ++ new

/-- a state that is the configuration `c'` the machine has computed has the configuration `a'` that `c'` displays -/
theorem KInv.of_ginv {s' : KS} {c' : Cfg St} {a' : A} (hg : GInv s' c')
    (ht : c'.threads = runThread flow a'.run :: (srcThreads st0 a'.src ++ sendThreads a'.run)) (hp : c'.pend = a'.pend)
    (hs : c'.stores = storesOf F a'.run.getQ a'.tokens a'.items) (hl : c'.loose = []) (hcur : c'.cur = none)
    (hpst : ∀ u ∈ a'.pend, u.2 < F + 1) (hc : Cells F c'.reg.cells a'.recv a'.cur a'.cnt a'.byt a'.items) :
    KInv flow F s' a' := by
  have hreg := hg.reg
  have hc' : c' = cfgOf flow F a' s' st0 := hg.cfg_eq ht hp (congrFun hs) hl hcur
  exact ⟨⟨st0, hc' ▸ hg⟩, hpst, hreg ▸ hc⟩

theorem StepsTo.of_ginv {fuel : Nat} {c' : Cfg St} {a' : A} {new : List (HEv ℚ)}
    (h : ∃ s', step (body F flow size rate tbl) (fuel + 1) s = .ok s' ∧ GInv s' c')
    (ht : c'.threads = runThread flow a'.run :: (srcThreads st0 a'.src ++ sendThreads a'.run)) (hp : c'.pend = a'.pend)
    (hs : c'.stores = storesOf F a'.run.getQ a'.tokens a'.items) (hl : c'.loose = []) (hcur : c'.cur = none)
    (hpst : ∀ u ∈ a'.pend, u.2 < F + 1) (hc : Cells F c'.reg.cells a'.recv a'.cur a'.cnt a'.byt a'.items)
    (hnow : c'.reg.now = q.time) (hh : histOf c'.reg.trace = histOf s.trace ++ new) :
    StepsTo F flow size rate tbl fuel s q a' new := by
  obtain ⟨s', hstep, hg⟩ := h
  refine ⟨s', hstep, .of_ginv hg ht hp hs hl hcur hpst hc, ?_, ?_⟩
  · rw [hg.reg] at hnow; exact hnow
  · rw [hg.reg] at hh; exact hh

/-! ## the sender -/

/-- the `Initialize` event of the sender: `current_packet = packet`, then it sleeps for `8·size/rate` -/
theorem kstep_sendInit (fuel : Nat) (hrate : 0 < rate) (hk : KInv flow F s a) {p : EvId} {id : Int} (hph : a.run = .S p id q)
    (hp : popMin s.agenda = some (q, rest)) :
    StepsTo F flow size rate tbl fuel s q { a with
      run := .T p s.events.size id ⟨q.time + txTime size rate id, NORMAL, s.eid, s.events.size⟩, cur := some id } [] := by
  obtain ⟨⟨st0, hg⟩, hpst, hc⟩ := hk
  obtain ⟨run, src, pend, tokens, items, cnt, byt, recv, cur, keys⟩ := a
  subst hph
  obtain ⟨h0, hsrc⟩ := send_apart hg (List.mem_singleton_self _)
  have hd := txTime_nonneg (size := size) hrate id
  exact .of_ginv (st0 := st0) (hg.step_resume (body F flow size rate tbl) fuel
      (send_mem_cfgOf (List.mem_singleton_self _)) rfl (fun _ _ _ hh => nomatch hh) hp
      (by heval [spk, cfgOf, runThread, sendThreads, modTh_append, (skip hsrc).1, h0, hd]; rfl))
    rfl rfl rfl rfl rfl hpst (hc.setCur (some id)) rfl (by simp [histOf_push, Regs.of])

/-- the sender's timeout: the counters go down, `out.put(packet)`, `current_packet = None`; the generator returns and its
process event is triggered -/
theorem kstep_sendFire (fuel : Nat) (hk : KInv flow F s a) {p t : EvId} {id : Int} (hph : a.run = .T p t id q)
    (hfid : flow id < F) (hp : popMin s.agenda = some (q, rest)) :
    StepsTo F flow size rate tbl fuel s q { a with
      run := .F p id ⟨q.time, NORMAL, s.eid, p⟩, cnt := upd a.cnt (flow id) (a.cnt (flow id) + -1)
      byt := upd a.byt (flow id) (a.byt (flow id) + -(size id : Int)), cur := none } [.out id q.time] := by
  obtain ⟨⟨st0, hg⟩, hpst, hc⟩ := hk
  obtain ⟨run, src, pend, tokens, items, cnt, byt, recv, cur, keys⟩ := a
  subst hph
  obtain ⟨h0, hsrc⟩ := send_apart hg (List.mem_singleton_self _)
  exact .of_ginv (st0 := st0) (hg.step_resume (body F flow size rate tbl) fuel
      (send_mem_cfgOf (List.mem_singleton_self _)) rfl (fun _ _ _ hh => nomatch hh) hp
      (by heval [spk, cfgOf, runThread, sendThreads, modTh_append, (skip hsrc).1, h0, hc.cc _ hfid, hc.cb _ hfid,
            List.find?_append, (skip hsrc).2.1, Option.none_or, beq_self_eq_true, beq_eq_false_iff_ne.mpr h0]
          rfl))
    rfl rfl rfl rfl rfl hpst (((hc.setCnt _ _).setByt _ _).setCur none) rfl (by simp [histOf_push, Regs.of])

/-! ## the source -/

/-- where the source goes after a `put` (or at its start): it sleeps until the next arrival (timeout event `ev`, entry number
`eid`) or its generator returns (process event 2) -/
def srcNext (now : ℚ) (eid : Nat) (ev : EvId) : List (ℚ × Int) → SPhase
  | [] => .ending ⟨now, NORMAL, eid, 2⟩
  | (gap, id) :: r => .wait id r ⟨now + gap, NORMAL, eid, ev⟩

/-- the configuration in which a burst of the source, resumed by `q` in `st` with `arg`, starts -/
def begunSrc (flow : Int → Nat) (F : Nat) (a : A) (s : KS) (q : QEntry ℚ) (st : St) (arg : Resume) : Cfg St :=
  { reg := { Regs.of s with now := q.time, active := some 2, trace := s.trace.push (.resumed 2 arg q.time) }
    threads := runThread flow a.run :: ({ pid := 2, st := st, wait := .running } :: sendThreads a.run)
    pend := a.pend
    stores := storesOf F a.run.getQ a.tokens a.items
    cur := some q.ev }

/-- a burst of the source that has come, in the configuration `C` (which displays `a'` but for the source), to the arrivals
`arr` still to come: the source sleeps until the next one, or its generator returns, and `a'` says so -/
theorem src_ends (fuel : Nat) (hg : GInv s (cfgOf flow F a s st0)) {st : St} {w : Wait} {arg : Resume}
    (hth : (⟨2, st, w, some []⟩ : Thread St) ∈ srcThreads st0 a.src) (hw : w.resumes = some (q, arg))
    (hst : ∀ r q' v, w ≠ .getH r q' v) (hp : popMin s.agenda = some (q, rest)) {C : Cfg St} {arr : List (ℚ × Int)}
    (hb : hrun 2 (body F flow size rate tbl st arg) (begunSrc flow F a s q st arg) = hrun 2 (srcLoop arr) C)
    (hgap : ∀ x ∈ arr, 0 ≤ x.1) {a' : A} {new : List (HEv ℚ)} (hrun : a'.run = a.run)
    (hsrc : a'.src = srcNext q.time C.reg.eid C.reg.evSize arr)
    (ht : C.threads = runThread flow a.run :: (⟨2, st, .running, some []⟩ :: sendThreads a.run)) (hp' : C.pend = a'.pend)
    (hs : C.stores = storesOf F a.run.getQ a'.tokens a'.items) (hl : C.loose = []) (hcur : C.cur = some q.ev)
    (hpst : ∀ u ∈ a'.pend, u.2 < F + 1) (hc : Cells F C.reg.cells a'.recv a'.cur a'.cnt a'.byt a'.items)
    (hnow : C.reg.now = q.time) (hh : histOf C.reg.trace = histOf s.trace ++ new) :
    StepsTo F flow size rate tbl fuel s q a' new := by
  have hsend := src_apart hg hth
  obtain ⟨reg, threads, pend, stores, loose, cur⟩ := C
  obtain ⟨run', src', pend', tokens', items', cnt', byt', recv', cur', keys'⟩ := a'
  simp only at hrun hsrc ht hp' hs hl hcur hc hnow hh
  subst hrun hsrc ht hp' hs hl hcur
  have he : ∀ c', hend ⟨reg, _, pend, _, [], some q.ev⟩ 2 (srcLoop arr) = some c' →
      ∃ s', step (body F flow size rate tbl) (fuel + 1) s = .ok s' ∧ GInv s' c' := fun c' h =>
    hg.step_resume _ fuel (src_mem_cfgOf hth) hw (fun r q' v hh => absurd hh (hst r q' v)) hp (by
      rw [← h, hend, ← hb]
      simp only [hresume, hw, Option.bind_some, hburst, hend, hbegin, cfgOf, srcThreads_eq hth, List.cons_append, List.nil_append,
        modTh_cons, pid_runThread, (skip hsend).1, Nat.reduceEqDiff, if_true, if_false]
      rfl)
  rcases arr with _ | ⟨⟨gap, id⟩, r⟩
  · exact .of_ginv (st0 := st) (he _ (by heval [srcLoop, pid_runThread, cbs_runThread, (skip hsend).1, hnow]; rfl))
      rfl rfl rfl rfl rfl hpst hc rfl (by simp [histOf_push, hh])
  · exact .of_ginv (st0 := st0)
      (he _ (by heval [srcLoop, bad, pid_runThread, (skip hsend).1, hnow, hgap _ List.mem_cons_self]; rfl))
      rfl rfl rfl rfl rfl hpst hc rfl hh

/-- the process event of the finished source: nobody waits for it -/
theorem kstep_srcEnd (fuel : Nat) (hk : KInv flow F s a) (hph : a.src = .ending q) (hp : popMin s.agenda = some (q, rest)) :
    StepsTo F flow size rate tbl fuel s q { a with src := .done } [] := by
  obtain ⟨⟨st0, hg⟩, hpst, hc⟩ := hk
  obtain ⟨run, src, pend, tokens, items, cnt, byt, recv, cur, keys⟩ := a
  subst hph
  have hsend := src_apart hg (List.mem_singleton_self _)
  exact .of_ginv (st0 := st0) (hg.step_finish (body F flow size rate tbl) fuel (src_mem_cfgOf (List.mem_singleton_self _)) rfl
      hp (by heval [cfgOf, srcThreads, pid_runThread, List.cons_append, List.nil_append, (skip hsend).2.2]; rfl))
    rfl rfl rfl rfl rfl hpst hc rfl (by simp [Regs.of])

/-- the `Initialize` event of the source: it sleeps until the first arrival, or returns at once -/
theorem kstep_srcInit (fuel : Nat) (hk : KInv flow F s a) {arr : List (ℚ × Int)} (hph : a.src = .init q arr)
    (hgap : ∀ x ∈ arr, 0 ≤ x.1) (hp : popMin s.agenda = some (q, rest)) :
    StepsTo F flow size rate tbl fuel s q { a with src := srcNext q.time s.eid s.events.size arr } [] := by
  obtain ⟨⟨st0, hg⟩, hpst, hc⟩ := hk
  exact src_ends (st := .src none arr) (w := .init q) fuel hg (hph ▸ List.mem_singleton_self _) rfl nofun hp rfl hgap rfl rfl rfl
    rfl rfl rfl rfl hpst hc rfl (by simp [begunSrc, histOf_push])

/-- `MultiQueueScheduler.put(packet)` finds the system empty and posts a wake-up token, counts the packet and stores it; then
the source sleeps until the next arrival or returns -/
theorem kstep_srcPutTok (fuel : Nat) (hk : KInv flow F s a) {id : Int} {arr : List (ℚ × Int)} (hph : a.src = .wait id arr q)
    (hfid : flow id < F) (htot : a.total F = 0) (hgap : ∀ x ∈ arr, 0 ≤ x.1) (hp : popMin s.agenda = some (q, rest)) :
    StepsTo F flow size rate tbl fuel s q { a with
      src := srcNext q.time (s.eid + 1 + 1) (s.events.size + 1 + 1) arr
      pend := a.pend ++ [(⟨q.time, NORMAL, s.eid, s.events.size⟩, 0),
                         (⟨q.time, NORMAL, s.eid + 1, s.events.size + 1⟩, flowStore (flow id))]
      tokens := a.tokens + 1
      items := upd a.items (flow id) (a.items (flow id) ++ [id])
      cnt := upd a.cnt (flow id) (a.cnt (flow id) + 1)
      byt := upd a.byt (flow id) (a.byt (flow id) + (size id : Int))
      recv := a.recv + 1
      keys := addKey a.keys (flow id) } [.put id q.time] := by
  obtain ⟨⟨st0, hg⟩, hpst, hc⟩ := hk
  exact src_ends (st := .src (some id) arr) (w := .sleep q) fuel hg (hph ▸ List.mem_singleton_self _) rfl nofun hp
    (by simp only [body, schedPut]
        rw [hrun_total 2 F a.cnt _ _ hc.cc, show sumFrom a.cnt 0 F = 0 from htot, if_pos rfl]
        heval [spk, begunSrc, storesOf_zero, storesOf_flow hfid, hc.c0, hc.cc _ hfid, hc.cb _ hfid, hc.cl _ hfid]
        rfl)
    hgap rfl rfl rfl (by simp [Regs.of]) (by rw [storesOf_setTok List.replicate_succ'.symm, storesOf_setFlow hfid]) rfl rfl
    (List.forall_mem_append.mpr
      ⟨hpst, List.forall_mem_cons.mpr ⟨Nat.succ_pos F, List.forall_mem_singleton.mpr (flowStore_lt hfid)⟩⟩)
    (hc.put flow size id) rfl (by simp [histOf_push])

/-- `MultiQueueScheduler.put(packet)` with packets in the system: no token; it counts the packet and stores it; then the source
sleeps until the next arrival or returns -/
theorem kstep_srcPutPlain (fuel : Nat) (hk : KInv flow F s a) {id : Int} {arr : List (ℚ × Int)} (hph : a.src = .wait id arr q)
    (hfid : flow id < F) (htot : a.total F ≠ 0) (hgap : ∀ x ∈ arr, 0 ≤ x.1) (hp : popMin s.agenda = some (q, rest)) :
    StepsTo F flow size rate tbl fuel s q { a with
      src := srcNext q.time (s.eid + 1) (s.events.size + 1) arr
      pend := a.pend ++ [(⟨q.time, NORMAL, s.eid, s.events.size⟩, flowStore (flow id))]
      items := upd a.items (flow id) (a.items (flow id) ++ [id])
      cnt := upd a.cnt (flow id) (a.cnt (flow id) + 1)
      byt := upd a.byt (flow id) (a.byt (flow id) + (size id : Int))
      recv := a.recv + 1
      keys := addKey a.keys (flow id) } [.put id q.time] := by
  obtain ⟨⟨st0, hg⟩, hpst, hc⟩ := hk
  exact src_ends (st := .src (some id) arr) (w := .sleep q) fuel hg (hph ▸ List.mem_singleton_self _) rfl nofun hp
    (by simp only [body, schedPut]
        rw [hrun_total 2 F a.cnt _ _ hc.cc, if_neg (show ¬ sumFrom a.cnt 0 F = 0 from htot)]
        heval [spk, begunSrc, storesOf_flow hfid, hc.c0, hc.cc _ hfid, hc.cb _ hfid, hc.cl _ hfid]
        rfl)
    hgap rfl rfl rfl rfl (storesOf_setFlow hfid _) rfl rfl
    (List.forall_mem_append.mpr ⟨hpst, List.forall_mem_singleton.mpr (flowStore_lt hfid)⟩) (hc.put flow size id) rfl
    (by simp [histOf_push])

/-! ## the pending `StorePut` events -/

/-- a `StorePut` event is processed (`_trigger_get`) and nobody can be served: nothing happens -/
theorem kstep_pendNoop (fuel : Nat) (hk : KInv flow F s a) {r : ResId} {l1 l2 : List (QEntry ℚ × ResId)}
    (hpe : a.pend = l1 ++ (q, r) :: l2) (hno : ¬ (r = 0 ∧ a.tokens ≠ 0 ∧ ∃ g, a.run = .W g))
    (hp : popMin s.agenda = some (q, rest)) :
    StepsTo F flow size rate tbl fuel s q { a with pend := l1 ++ l2 } [] := by
  obtain ⟨⟨st0, hg⟩, hpst, hc⟩ := hk
  obtain ⟨run, src, pend, tokens, items, cnt, byt, recv, cur, keys⟩ := a
  simp only at hpe
  subst hpe
  have hr : r < F + 1 := hpst (q, r) (List.mem_append_right _ List.mem_cons_self)
  have he : hpend (cfgOf flow F ⟨run, src, l1 ++ (q, r) :: l2, tokens, items, cnt, byt, recv, cur, keys⟩ s st0) (q, r)
        (l1 ++ l2) =
      some { cfgOf flow F ⟨run, src, l1 ++ (q, r) :: l2, tokens, items, cnt, byt, recv, cur, keys⟩ s st0 with
        reg := { Regs.of s with now := q.time }, pend := l1 ++ l2 } := by
    by_cases hr0 : r = 0
    · subst hr0
      by_cases hw : ∃ g, run = .W g
      · obtain ⟨g, rfl⟩ := hw
        have ht : tokens = 0 := by
          by_contra hc
          exact hno ⟨rfl, hc, g, rfl⟩
        subst ht
        heval [cfgOf, storesOf_zero, runThread, RPhase.getQ, beq_self_eq_true, List.replicate_zero]
      · have hgq : run.getQ = [] := by cases run <;> first | rfl | exact absurd ⟨_, rfl⟩ hw
        heval [cfgOf, storesOf_zero, hgq]
    · have hrF : r ≤ F := Nat.le_of_lt_succ hr
      have hst : storesOf F run.getQ tokens items r = some { items := items (r - 1) } := by
        simp only [storesOf, hr0, if_false, hrF, if_true]
      heval [cfgOf, hst]
  exact .of_ginv (st0 := st0) (hg.step_pend (body F flow size rate tbl) (fuel + 1) (u := (q, r)) List.perm_middle hp he)
    rfl rfl rfl rfl rfl (fun u hu => hpst u (List.perm_middle.symm.subset (List.mem_cons_of_mem _ hu))) hc rfl
    (by simp [Regs.of])

/-- the `StorePut` of a wake-up token is processed while `run` is blocked on the wake-up store: the token is handed over,
the `StoreGet` event of `run` is triggered -/
theorem kstep_pendHand (fuel : Nat) (hk : KInv flow F s a) {g : EvId} {t : Nat} {l1 l2 : List (QEntry ℚ × ResId)}
    (hpe : a.pend = l1 ++ (q, 0) :: l2) (hph : a.run = .W g) (htk : a.tokens = t + 1)
    (hp : popMin s.agenda = some (q, rest)) :
    StepsTo F flow size rate tbl fuel s q { a with
      pend := l1 ++ l2, run := .K g ⟨q.time, NORMAL, s.eid, g⟩, tokens := t } [] := by
  obtain ⟨⟨st0, hg⟩, hpst, hc⟩ := hk
  obtain ⟨run, src, pend, tokens, items, cnt, byt, recv, cur, keys⟩ := a
  simp only at hpe
  subst hph htk hpe
  exact .of_ginv (st0 := st0) (hg.step_pend (body F flow size rate tbl) (fuel + 1) (u := (q, 0)) List.perm_middle hp
      (by heval [cfgOf, storesOf_zero, runThread, sendThreads, RPhase.getQ, beq_self_eq_true, List.replicate_succ,
            modTh_append, modTh_srcThreads]
          rfl))
    rfl rfl (storesOf_setTok rfl) rfl rfl (fun u hu => hpst u (List.perm_middle.symm.subset (List.mem_cons_of_mem _ hu))) hc
    rfl (by simp [Regs.of])

end SPK
