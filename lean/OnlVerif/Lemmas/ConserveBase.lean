import OnlVerif.Lemmas.ConserveEngine
/-!
# Conservation / ordering proofs: `Base` is an instance of the engine

Hence, in every state reachable inside the domain: well-formedness (`WF`) holds; event kinds and request data
never change; **the outcome of a granted request never changes** (a request is triggered at most once).
-/

variable {σ : Type}

namespace Conserve

section helpers

theorem isReq_of_kind {s s' : KState ℚ σ} (hk : ∀ a, (s'.ev a).kind = (s.ev a).kind) (a : EvId) :
    isReq s' a = isReq s a := by
  unfold isReq; rw [hk]

theorem ne_of_kind_ne {s : KState ℚ σ} {a e : EvId} (h : (s.ev a).kind ≠ (s.ev e).kind) : a ≠ e := by
  intro hc; subst hc; exact h rfl

theorem lt_size_of_put {s : KState ℚ σ} {a : EvId} {r : ResId} (h : (s.ev a).kind = .put r) : a < s.events.size :=
  lt_size_of_kind (by rw [h]; simp)
theorem lt_size_of_get {s : KState ℚ σ} {a : EvId} {r : ResId} (h : (s.ev a).kind = .get r) : a < s.events.size :=
  lt_size_of_kind (by rw [h]; simp)

end helpers

namespace Base

/-- a unit that grants nothing keeps the queues well-formed: old members are as before, a request that enters is fresh -/
theorem of_quiet {s s' : KState ℚ σ} (h : Quiet s s') : Base s s' := by
  refine ⟨h.size_le, h.kind, h.core, fun e hr _ => h.out e hr, h.rsize, fun r => (h.res r).1, fun r => (h.res r).2.1, ?_⟩
  intro hW
  refine ⟨?_, ?_, ?_, ?_, ?_, ?_⟩
  · intro e l' hl cb hcb
    rcases h.cbs e l' hl cb hcb with hok | ⟨l, hl0, hin⟩
    · exact cbOK_old h.kind hok
    · exact cbOK_old h.kind (hW.cbs e l hl0 cb hin)
  · intro p pr' hp
    have hk : (s.ev p).kind = .proc := (h.procs p pr' hp).elim id (fun ⟨pr, hpr⟩ => hW.procs p pr hpr)
    rw [h.kind p (lt_size_of_kind (by rw [hk]; simp))]; exact hk
  · intro r e he
    rcases (h.putQ r).mem he with ho | ⟨rfl, hk⟩
    · have := hW.putQ r e ho
      rw [h.kind e (lt_size_of_put this.1), h.out e (isReq_of_put this.1)]; exact this
    · exact ⟨hk, h.fresh _ (Nat.le_refl _) (isReq_of_put hk)⟩
  · exact fun r => (h.putQ r).nodup (hW.putNodup r) (fun hc => Nat.lt_irrefl _ (lt_size_of_put (hW.putQ r _ hc).1))
  · intro r e he
    rcases (h.getQ r).mem he with ho | ⟨rfl, hk⟩
    · have := hW.getQ r e ho
      rw [h.kind e (lt_size_of_get this.1), h.out e (isReq_of_get this.1)]; exact this
    · exact ⟨hk, h.fresh _ (Nat.le_refl _) (isReq_of_get hk)⟩
  · exact fun r => (h.getQ r).nodup (hW.getNodup r) (fun hc => Nat.lt_irrefl _ (lt_size_of_get (hW.getQ r _ hc).1))

theorem of_frame {s s' : KState ℚ σ} (h : Frame s s') : Base s s' := of_quiet (.of_frame h)

theorem ev_of_push {s s' : KState ℚ σ} {x : EvRec ℚ} (he : s'.events = s.events.push x) (a : EvId) :
    s'.ev a = if a = s.events.size then x else s.ev a :=
  KState.ev_of_push he a

theorem of_alloc {s s' : KState ℚ σ} (x : EvRec ℚ) (he : s'.events = s.events.push x) (hk : nonReqKind x.kind = true)
    (hc : ∀ l, x.cbs = some l → ∀ cb ∈ l, cbPlain cb = true) (hr : s'.resources = s.resources)
    (hp : s'.procs = s.procs) : Base s s' :=
  of_quiet (.of_alloc x he hk hc hr hp)

theorem of_trigNR (s : KState ℚ σ) (e : EvId) (o : Outcome) (hn : isReq s e = false) : Base s (s.setOut e o) :=
  of_quiet (.of_trigNR s e o hn)

theorem of_newPut (s : KState ℚ σ) (r : ResId) (rq : ReqData ℚ) : Base s (newPutSt s r rq) := of_quiet (.of_newPut s r rq)

theorem of_newGet (s : KState ℚ σ) (r : ResId) (rq : ReqData ℚ) : Base s (newGetSt s r rq) := of_quiet (.of_newGet s r rq)

theorem of_cancelPut (s : KState ℚ σ) (r : ResId) (e : EvId) : Base s (dropPutQ s r e) := of_quiet (.of_cancelPut s r e)

theorem of_cancelGet (s : KState ℚ σ) (r : ResId) (e : EvId) : Base s (dropGetQ s r e) := of_quiet (.of_cancelGet s r e)

/-- a grant keeps the queues well-formed: who stays queued is not the granted request, and keeps kind and outcome -/
theorem of_granted {s s' : KState ℚ σ} {e : EvId} {o : Outcome} (hW : WF s) (hG : Granted s s' e o) : Base s s' := by
  refine ⟨Nat.le_of_eq hG.size.symm, fun a _ => hG.kind a, fun a _ => hG.core a,
    fun a _ ho => hG.outOther a (fun hc => ho (hc ▸ hG.pend)), hG.rsize, hG.rkind, hG.rcap, fun _ => ⟨?_, ?_, ?_, ?_, ?_, ?_⟩⟩
  · intro a l hl cb hcb
    rw [hG.cbs] at hl
    exact cbOK_old (fun a _ => hG.kind a) (hW.cbs a l hl cb hcb)
  · intro p pr hp
    rw [procQ_of_procs hG.procs] at hp
    rw [hG.kind]; exact hW.procs p pr hp
  · intro r a ha
    rw [hG.putQ, (hW.putNodup r).mem_erase_iff] at ha
    rw [hG.kind, hG.outOther a ha.1]; exact hW.putQ r a ha.2
  · intro r; rw [hG.putQ]; exact (hW.putNodup r).erase e
  · intro r a ha
    rw [hG.getQ, (hW.getNodup r).mem_erase_iff] at ha
    rw [hG.kind, hG.outOther a ha.1]; exact hW.getQ r a ha.2
  · intro r; rw [hG.getQ]; exact (hW.getNodup r).erase e

theorem of_putEffect {s s' : KState ℚ σ} {r : ResId} {e : EvId} (hW : WF s) (hmem : e ∈ (s.res r).putQ)
    (hE : PutEffect s s' r e) : Base s s' := of_granted hW (hE.granted hW hmem)

theorem of_getEffect {s s' : KState ℚ σ} {r : ResId} {e : EvId} {v : Val} (hW : WF s) (hmem : e ∈ (s.res r).getQ)
    (hE : GetEffect s s' r e v) : Base s s' := of_granted hW (hE.granted hW hmem)

theorem crel : CRel (Base (σ := σ)) :=
  CRel.of_quiet Base.refl Base.trans id (fun _ _ _ => of_quiet)
    (fun _ _ _ _ hW _ _ _ => of_granted hW) (fun _ _ _ _ _ _ hW _ _ _ _ => of_granted hW)

end Base

theorem WF.init (t0 : ℚ) (rs : Array ResRec) (h : ∀ r, (rs.getD r default).putQ = [] ∧ (rs.getD r default).getQ = []) :
    WF ({ now := t0, resources := rs } : KState ℚ σ) := by
  have hev : ∀ e, ({ now := t0, resources := rs } : KState ℚ σ).ev e = default := fun e => by simp [KState.ev]
  refine ⟨?_, ?_, ?_, ?_, ?_, ?_⟩
  · intro e l hl; rw [hev] at hl; cases hl
  · intro p pr hp; simp [KState.proc?] at hp
  · intro r e he
    have : (({ now := t0, resources := rs } : KState ℚ σ).res r).putQ = [] := (h r).1
    rw [this] at he; cases he
  · intro r
    have : (({ now := t0, resources := rs } : KState ℚ σ).res r).putQ = [] := (h r).1
    rw [this]; exact List.nodup_nil
  · intro r e he
    have : (({ now := t0, resources := rs } : KState ℚ σ).res r).getQ = [] := (h r).2
    rw [this] at he; cases he
  · intro r
    have : (({ now := t0, resources := rs } : KState ℚ σ).res r).getQ = [] := (h r).2
    rw [this]; exact List.nodup_nil

theorem reach_base (body : σ → Resume → Burst ℚ σ) (fuel : Nat) (s0 s : KState ℚ σ) (hW : WF s0)
    (hr : SafeReach body fuel s0 s) : Base s0 s ∧ WF s := by
  have := Base.crel.reach body fuel s0 s hW hr
  exact ⟨this, this.keepWF hW⟩

end Conserve
