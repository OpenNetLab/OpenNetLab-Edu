import Mathlib.Tactic.Linarith
import Mathlib.Algebra.Order.Field.Rat
import OnlVerif.Basic.Num
/-! # The scalar interface at `ℚ` -/

theorem zero_eq' : (Num.zero : ℚ) = 0 := by
  show ((0 : ℕ) : ℚ) = 0
  simp

theorem Num.ofNat_rat (n : ℕ) : (Num.ofNat n : ℚ) = (n : ℚ) := rfl

theorem Num.ofNat_div_nonneg (n : ℕ) {r : ℚ} (h : 0 < r) : 0 ≤ (Num.ofNat n : ℚ) / r :=
  div_nonneg (Nat.cast_nonneg _) h.le

theorem Num.eqb_iff (a b : ℚ) : Num.eqb a b = true ↔ a = b := by
  unfold Num.eqb
  simp only [Bool.and_eq_true, Bool.not_eq_true', decide_eq_false_iff_not, not_lt]
  exact ⟨fun h => le_antisymm h.2 h.1, fun h => ⟨h ▸ le_refl _, h ▸ le_refl _⟩⟩

theorem incomp_iff (x y : ℚ) : (¬ x < y ∧ ¬ y < x) ↔ x = y :=
  ⟨fun h => le_antisymm (not_lt.mp h.2) (not_lt.mp h.1), fun h => h ▸ ⟨lt_irrefl _, lt_irrefl _⟩⟩

theorem Num.pymin_eq (a b : ℚ) : Num.pymin a b = min a b := by
  unfold Num.pymin
  split
  · rename_i h; exact (min_eq_right (le_of_lt h)).symm
  · rename_i h; exact (min_eq_left (not_lt.mp h)).symm

theorem Num.pymax_eq (a b : ℚ) : Num.pymax a b = max a b := by
  unfold Num.pymax
  split
  · rename_i h; exact (max_eq_right (le_of_lt h)).symm
  · rename_i h; exact (max_eq_left (not_lt.mp h)).symm
