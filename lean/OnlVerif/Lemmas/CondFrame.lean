import OnlVerif.Lemmas.CondDefs
/-!
# The frame `Fr`: algebra, the leaf updates, and every transformer of the model that is not condition code
-/

namespace Cond
variable {σ : Type}

open Once (lt_of_isCond isCond_congr lt_of_cbs_some ev_default)

theorem ops_congr {s s' : KState ℚ σ} {c : EvId} (h : (s'.ev c).kind = (s.ev c).kind) : ops s' c = ops s c := by
  unfold ops condOps; rw [h]

theorem isAll_congr {s s' : KState ℚ σ} {c : EvId} (h : (s'.ev c).kind = (s.ev c).kind) : isAll s' c = isAll s c := by
  unfold isAll condOps; rw [h]

theorem ops_nil_of_not_cond {s : KState ℚ σ} {c : EvId} (h : isCond s c = false) : ops s c = [] := by
  unfold ops condOps
  unfold isCond at h
  split
  · rename_i hk; rw [hk] at h; cases h
  · rfl

theorem isCond_of_ops_ne_nil {s : KState ℚ σ} {c : EvId} (h : ops s c ≠ []) : isCond s c = true := by
  cases hc : isCond s c with
  | true => rfl
  | false => exact absurd (ops_nil_of_not_cond hc) h

theorem isCond_of_mem_ops {s : KState ℚ σ} {c e : EvId} (h : e ∈ ops s c) : isCond s c = true :=
  isCond_of_ops_ne_nil (List.ne_nil_of_mem h)

theorem not_mem_of_count_zero {α} [DecidableEq α] {a : α} {l : List α} (h : l.count a = 0) : a ∉ l :=
  fun hm => by have := List.count_pos_iff.mpr hm; omega

namespace Fr

theorem trans {s1 s2 s3 : KState ℚ σ} (h12 : Fr s1 s2) (h23 : Fr s2 s3) : Fr s1 s3 := by
  have lt2 : ∀ e, e < s1.events.size → e < s2.events.size := fun e he => Nat.lt_of_lt_of_le he h12.size_le
  refine ⟨Nat.le_trans h12.size_le h23.size_le, ?_, ?_, ?_, ?_, ?_, ?_, ?_, ?_⟩
  · intro e he; rw [h23.kind e (lt2 e he), h12.kind e he]
  · intro e he; rw [h23.cbsNone e (lt2 e he), h12.cbsNone e he]
  · intro e L L'' he h1 h3 cb hcb
    cases h2 : (s2.ev e).cbs with
    | none => rw [(h12.cbsNone e he).mp h2] at h1; cases h1
    | some L' => rw [h23.cbsCount e L' L'' (lt2 e he) h2 h3 cb hcb, h12.cbsCount e L L' he h1 h2 cb hcb]
  · intro e o h; exact h23.out e o (h12.out e o h)
  · intro c hc
    have hlt := lt_of_isCond s1 c hc
    have hc2 : isCond s2 c = true := by rw [isCond_congr (h12.kind c hlt)]; exact hc
    rw [h23.outC c hc2, h12.outC c hc]
  · intro e he; rw [h23.count e (lt2 e he), h12.count e he]
  · intro e he h; exact h23.defused e (lt2 e he) (h12.defused e he h)
  · intro e h1 h3
    by_cases h2 : e < s2.events.size
    · obtain ⟨hc, L, hL, hp⟩ := h12.fresh e h1 h2
      refine ⟨by rw [isCond_congr (h23.kind e h2)]; exact hc, ?_⟩
      cases h3c : (s3.ev e).cbs with
      | none => rw [(h23.cbsNone e h2).mp h3c] at hL; cases hL
      | some L' =>
        refine ⟨L', rfl, ?_⟩
        intro cb hcb
        cases hpc : plainCb cb with
        | true => rfl
        | false =>
          have := h23.cbsCount e L L' h2 hL h3c cb hpc
          have h0 : L.count cb = 0 := by
            apply List.count_eq_zero.mpr
            intro hm; have := hp cb hm; rw [hpc] at this; cases this
          rw [h0] at this
          exact absurd hcb (not_mem_of_count_zero this)
    · exact h23.fresh e (Nat.le_of_not_lt h2) h3

theorem of_events {s s' : KState ℚ σ} (h : s'.events = s.events) : Fr s s' := by
  have hev : ∀ e, s'.ev e = s.ev e := fun e => by simp [KState.ev, h]
  have hc : ∀ e, isCond s' e = isCond s e := fun e => isCond_congr (by rw [hev])
  refine ⟨by rw [h], fun e _ => by rw [hev], fun e _ => by rw [hev], ?_, fun e o ho => by rw [hev]; exact ho,
    fun c _ => by rw [hev], fun e _ => by rw [hev], fun e _ hd => by rw [hev]; exact hd, ?_⟩
  · intro e L L' _ h1 h2 cb _; rw [hev, h1] at h2; cases h2; rfl
  · intro e h1 h2; rw [h] at h2; exact absurd (Nat.lt_of_lt_of_le h2 h1) (Nat.lt_irrefl _)

theorem refl (s : KState ℚ σ) : Fr s s := of_events rfl

/-- one event record is rewritten in a way the invariant cannot see -/
theorem of_setEv (s : KState ℚ σ) (e : EvId) (x : EvRec ℚ) (hk : x.kind = (s.ev e).kind)
    (hn : x.cbs = none ↔ (s.ev e).cbs = none)
    (hcb : ∀ L L', (s.ev e).cbs = some L → x.cbs = some L' → ∀ cb, plainCb cb = false → L'.count cb = L.count cb)
    (ho : ∀ o, (s.ev e).out = some o → x.out = some o)
    (hoc : isCond s e = true → x.out = (s.ev e).out)
    (hcount : x.count = (s.ev e).count)
    (hd : (s.ev e).defused = true → x.defused = true) : Fr s (s.setEv e x) := by
  refine ⟨Nat.le_of_eq (Once.size_setEv s e x).symm, ?_, ?_, ?_, ?_, ?_, ?_, ?_, ?_⟩
  · intro e' _; exact Once.kind_setEv s e e' x hk
  · intro e' _; rw [KState.ev_setEv]; split
    · rename_i h; rw [h.1]; exact hn
    · exact Iff.rfl
  · intro e' L L' _ h1 h2 cb hp
    rw [KState.ev_setEv] at h2
    split at h2
    · rename_i h; rw [h.1] at h1; exact hcb L L' h1 h2 cb hp
    · rw [h1] at h2; cases h2; rfl
  · intro e' o h; rw [KState.ev_setEv]; split
    · rename_i hc; rw [hc.1] at h; exact ho o h
    · exact h
  · intro c hc; rw [KState.ev_setEv]; split
    · rename_i h; rw [h.1] at hc ⊢; exact hoc hc
    · rfl
  · intro e' _; rw [KState.ev_setEv]; split
    · rename_i h; rw [h.1]; exact hcount
    · rfl
  · intro e' _ h; rw [KState.ev_setEv]; split
    · rename_i hc; rw [hc.1] at h; exact hd h
    · exact h
  · intro e' h1 h2; rw [Once.size_setEv] at h2; exact absurd (Nat.lt_of_lt_of_le h2 h1) (Nat.lt_irrefl _)

theorem of_push (s s' : KState ℚ σ) (x : EvRec ℚ) (L : List Cb) (h : s'.events = s.events.push x)
    (hk : ∀ a l, x.kind ≠ .cond a l) (hL : x.cbs = some L) (hp : ∀ cb ∈ L, plainCb cb = true) : Fr s s' := by
  have hev : ∀ e, s'.ev e = if e = s.events.size then x else s.ev e := fun e => by simp only [KState.ev, h, getD_push]
  have hold : ∀ e, e < s.events.size → s'.ev e = s.ev e := fun e he => by rw [hev, if_neg (Nat.ne_of_lt he)]
  have hsz : s'.events.size = s.events.size + 1 := by rw [h]; simp
  refine ⟨by rw [hsz]; exact Nat.le_succ _, fun e he => by rw [hold e he], fun e he => by rw [hold e he], ?_, ?_, ?_,
    fun e he => by rw [hold e he], fun e he hd => by rw [hold e he]; exact hd, ?_⟩
  · intro e L1 L2 he h1 h2 cb _; rw [hold e he, h1] at h2; cases h2; rfl
  · intro e o ho
    have := Once.lt_of_out s e (by rw [ho]; simp)
    rw [hold e this]; exact ho
  · intro c hc; rw [hold c (lt_of_isCond s c hc)]
  · intro e h1 h2
    have : e = s.events.size := by omega
    subst this
    rw [hev, if_pos rfl]
    refine ⟨?_, L, hL, hp⟩
    unfold isCond; rw [hev, if_pos rfl]
    split
    · rename_i a l hh; exact absurd hh (hk a l)
    · rfl

theorem emit (s : KState ℚ σ) (o : Obs ℚ) : Fr s (s.emit o) := of_events rfl
theorem active (s : KState ℚ σ) (a : Option EvId) : Fr s { s with active := a } := of_events rfl
theorem shared (s : KState ℚ σ) (l : List (Nat × Val)) : Fr s { s with shared := l } := of_events rfl
theorem setProc (s : KState ℚ σ) (p : EvId) (r : ProcRec σ) : Fr s (s.setProc p r) := of_events rfl
theorem schedule (s : KState ℚ σ) (e : EvId) (p : Nat) (d : ℚ) : Fr s (s.schedule e p d) := of_events rfl
theorem setRes (s : KState ℚ σ) (r : ResId) (x : ResRec) : Fr s (s.setRes r x) := of_events rfl

theorem defuse (s : KState ℚ σ) (e : EvId) : Fr s (s.defuse e) :=
  of_setEv s e _ rfl Iff.rfl (fun L L' h1 h2 cb _ => by rw [h1] at h2; cases h2; rfl) (fun _ h => h) (fun _ => rfl) rfl
    (fun _ => rfl)

theorem setUsage (s : KState ℚ σ) (e : EvId) : Fr s (s.setUsage e) :=
  of_setEv s e _ rfl Iff.rfl (fun L L' h1 h2 cb _ => by rw [h1] at h2; cases h2; rfl) (fun _ h => h) (fun _ => rfl) rfl
    (fun h => h)

theorem setOut (s : KState ℚ σ) (e : EvId) (o : Outcome) (ho : (s.ev e).out = none) (hc : isCond s e = false) :
    Fr s (s.setOut e o) :=
  of_setEv s e _ rfl Iff.rfl (fun L L' h1 h2 cb _ => by rw [h1] at h2; cases h2; rfl)
    (fun o' h => by rw [ho] at h; cases h) (fun h => by rw [hc] at h; cases h) rfl (fun h => h)

theorem trigger (s : KState ℚ σ) (e : EvId) (o : Outcome) (ho : (s.ev e).out = none) (hc : isCond s e = false) :
    Fr s (s.trigger e o) := by
  unfold KState.trigger
  exact (setOut s e o ho hc).trans (schedule _ _ _ _)

theorem addCb (s : KState ℚ σ) (e : EvId) (cb : Cb) (hp : plainCb cb = true) : Fr s (s.addCb e cb) := by
  unfold KState.addCb
  refine of_setEv s e _ rfl ?_ ?_ (fun _ h => h) (fun _ => rfl) rfl (fun h => h)
  · simp only [Option.map_eq_none_iff]
  · intro L L' h1 h2 cb' hp'
    simp only [h1, Option.map_some, Option.some.injEq] at h2
    subst h2
    rw [List.count_append, List.count_singleton]
    have : ¬ (cb = cb') := fun hh => by rw [hh, hp'] at hp; cases hp
    simp [this]

theorem eraseCb (s : KState ℚ σ) (e : EvId) (cb : Cb) (hp : plainCb cb = true) : Fr s (s.eraseCb e cb) := by
  unfold KState.eraseCb
  refine of_setEv s e _ rfl ?_ ?_ (fun _ h => h) (fun _ => rfl) rfl (fun h => h)
  · simp only [Option.map_eq_none_iff]
  · intro L L' h1 h2 cb' hp'
    simp only [h1, Option.map_some, Option.some.injEq] at h2
    subst h2
    have : cb' ≠ cb := fun hh => by rw [hh, hp] at hp'; cases hp'
    exact List.count_erase_of_ne this

theorem newEv (s : KState ℚ σ) (x : EvRec ℚ) (L : List Cb) (hk : ∀ a l, x.kind ≠ .cond a l) (hL : x.cbs = some L)
    (hp : ∀ cb ∈ L, plainCb cb = true) : Fr s (s.newEv x).1 :=
  of_push s _ x L rfl hk hL hp

theorem newLabelled (s : KState ℚ σ) (x : EvRec ℚ) (L : List Cb) (hk : ∀ a l, x.kind ≠ .cond a l) (hL : x.cbs = some L)
    (hp : ∀ cb ∈ L, plainCb cb = true) : Fr s (s.newLabelled x).1 :=
  of_push s _ { x with label := s.nlabel + 1 } L rfl hk hL hp

theorem mkInterrupt (s : KState ℚ σ) (p : EvId) (c : Val) : Fr s (_root_.mkInterrupt s p c).1 := by
  rcases Once.mkInterrupt_cases s p c with h | h <;> rw [h]
  · exact refl s
  · exact (newEv s _ [.intr s.events.size] (fun _ _ h => by cases h) rfl (fun cb h => by
      rw [List.mem_singleton] at h; subst h; rfl)).trans (schedule _ _ _ _)

theorem setUsers (s : KState ℚ σ) (r : ResId) (l : List EvId) : Fr s (s.setUsers r l) := setRes _ _ _
theorem setLevel (s : KState ℚ σ) (r : ResId) (x : Int) : Fr s (s.setLevel r x) := setRes _ _ _

/-- the work of the resource layer (`Once.Grants`) is frame work: the events it triggers are pending requests -/
theorem of_grants {s s' : KState ℚ σ} (h : Once.Grants s s') : Fr s s' := by
  induction h with
  | refl s => exact refl s
  | trans _ _ h1 h2 => exact h1.trans h2
  | events h => exact of_events h
  | usage s e => exact setUsage s e
  | intr s p c => exact mkInterrupt s p c
  | grant s e o ho hk =>
    refine trigger s e o ho ?_
    unfold isCond
    rcases hk with ⟨r, hr⟩ | ⟨r, hr⟩ <;> rw [hr]

theorem preemptStep (s : KState ℚ σ) (r : ResId) (e : EvId) : Fr s (_root_.preemptStep s r e) :=
  of_grants (Once.preemptStep_shape s r e).2.2

theorem dropPutQ (s : KState ℚ σ) (r : ResId) (e : EvId) : Fr s (_root_.dropPutQ s r e) := setRes _ _ _
theorem dropGetQ (s : KState ℚ σ) (r : ResId) (e : EvId) : Fr s (_root_.dropGetQ s r e) := setRes _ _ _

theorem triggerPut {g : Once.Ghost} {s : KState ℚ σ} (hi : Once.Inv g s) (r : ResId) : Fr s (_root_.triggerPut s r) :=
  of_grants (Once.Grants.triggerPut hi r)

theorem triggerGet {g : Once.Ghost} {s : KState ℚ σ} (hi : Once.Inv g s) (r : ResId) : Fr s (_root_.triggerGet s r) :=
  of_grants (Once.Grants.triggerGet hi r)

theorem enqPut (s : KState ℚ σ) (r : ResId) (e : EvId) : Fr s (_root_.enqPut s r e) := setRes _ _ _
theorem enqGet (s : KState ℚ σ) (r : ResId) (e : EvId) : Fr s (_root_.enqGet s r e) := setRes _ _ _

theorem mkPut {g : Once.Ghost} {s : KState ℚ σ} (hi : Once.Inv g s) (r : ResId) (rq : ReqData ℚ) :
    Fr s (_root_.mkPut s r rq).1 := by
  unfold _root_.mkPut
  simp only
  refine ((newLabelled s _ [.trigGet r] (fun _ _ h => by cases h) rfl (fun cb h => by
    rw [List.mem_singleton] at h; subst h; rfl)).trans (enqPut _ r _)).trans (triggerPut (hi.newPut r rq) r)

theorem mkGet {g : Once.Ghost} {s : KState ℚ σ} (hi : Once.Inv g s) (r : ResId) (rq : ReqData ℚ) :
    Fr s (_root_.mkGet s r rq).1 := by
  unfold _root_.mkGet
  simp only
  refine ((newLabelled s _ [.trigPut r] (fun _ _ h => by cases h) rfl (fun cb h => by
    rw [List.mem_singleton] at h; subst h; rfl)).trans (enqGet _ r _)).trans (triggerGet (hi.newGet r rq) r)

theorem cancelReq {g : Once.Ghost} {s : KState ℚ σ} (hi : Once.Inv g s) (e : EvId) : Fr s (_root_.cancelReq s e).1 := by
  rcases Once.cancelReq_cases s e with h | ⟨r, h⟩ | ⟨r, h⟩ <;> rw [h]
  · exact refl s
  · exact (dropPutQ s _ _).trans (triggerPut (hi.dropPutQ _ _) _)
  · exact (dropGetQ s _ _).trans (triggerGet (hi.dropGetQ _ _) _)

theorem not_cond_of_plain {s : KState ℚ σ} {e : EvId} (h : (s.ev e).kind = .plain) : isCond s e = false := by
  unfold isCond; rw [h]

theorem doCall {g : Once.Ghost} {s : KState ℚ σ} (hi : Once.Inv g s) (self : EvId) (c : Call ℚ σ) (hs : Once.SafeCall s c)
    (hd : DomCall s c) (hnc : ∀ a l, c ≠ .cond a l) : Fr s (_root_.doCall s self c).1 := by
  -- a `succeed/fail` that is executed hits a pending event that is not a condition
  have user : ∀ e o, (s.triggered e = true ∨ isCond s e = false) → ¬ s.triggered e = true → Fr s (s.trigger e o) :=
    fun e o h hnt => trigger s e o (Once.out_none_of_not_triggered s e hnt) (h.resolve_left hnt)
  cases c
  case cond a l => exact absurd rfl (hnc a l)
  all_goals simp only [_root_.doCall, apply_ite Prod.fst]
  case timeout d v =>
    exact Once.ite_state (refl s) (fun _ =>
      (newLabelled s _ [] (fun _ _ h => by cases h) rfl (fun cb h => by cases h)).trans (schedule _ _ _ _))
  case event => exact newLabelled s _ [] (fun _ _ h => by cases h) rfl (fun cb h => by cases h)
  case succeed e v => exact Once.ite_state (refl s) (user e _ hd)
  case fail e x => exact Once.ite_state (refl s) (user e _ hd)
  case spawn st =>
    exact (((newLabelled s _ [] (fun _ _ h => by cases h) rfl (fun cb h => by cases h)).trans (setProc _ _ _)).trans
      (newEv _ _ [.resume s.events.size] (fun _ _ h => by cases h) rfl (fun cb h => by
        rw [List.mem_singleton] at h; subst h; rfl))).trans (schedule _ _ _ _)
  case interrupt p cause =>
    refine Once.ite_state (refl s) (fun _ => ?_)
    have := mkInterrupt s p cause
    generalize _root_.mkInterrupt s p cause = r at this ⊢
    obtain ⟨s1, o⟩ := r
    cases o <;> exact this
  case probe e tag => exact Once.ite_state (refl s) (fun _ => addCb s _ _ rfl)
  case request r prio pre => exact Once.ite_state (refl s) (fun _ => mkPut hi r _)
  case release r req => exact Once.ite_state (refl s) (fun _ => mkGet hi r _)
  case cancel e =>
    have := cancelReq hi e
    generalize _root_.cancelReq s e = r at this ⊢
    obtain ⟨s1, o⟩ := r
    cases o <;> exact this
  case cput r a => exact Once.ite_state (refl s) (fun _ => Once.ite_state (refl s) (fun _ => mkPut hi r _))
  case cget r a => exact Once.ite_state (refl s) (fun _ => Once.ite_state (refl s) (fun _ => mkGet hi r _))
  case sput r it => exact Once.ite_state (refl s) (fun _ => mkPut hi r _)
  case sget r f => exact Once.ite_state (refl s) (fun _ => mkGet hi r _)
  case log what v => exact emit s _
  case load k => exact refl s
  case store k v => exact shared s _

theorem noteErr (self : EvId) (sr : KState ℚ σ × Reply) : Fr sr.1 (_root_.noteErr self sr) := by
  unfold _root_.noteErr
  split
  · exact emit _ _
  · exact refl _

theorem deliver (s : KState ℚ σ) (p e : EvId) : Fr s (_root_.deliver s p e).1 := by
  show Fr s (deliverSt s p e)
  unfold deliverSt
  split
  · exact (active s _).trans (defuse _ _)
  · exact active s _

theorem finishProc {g : Once.Ghost} {s : KState ℚ σ} (hi : Once.Inv g s) (p : EvId) (pr : ProcRec σ) (o : Outcome)
    (hg : g.run = some p) : Fr s (_root_.finishProc s p pr o) := by
  obtain ⟨h1, h2, _⟩ := hi.c.pend p (Or.inr hg)
  unfold _root_.finishProc
  refine (((trigger s p o h1 ?_).trans (emit _ _)).trans (setProc _ _ _)).trans (active _ _)
  unfold isCond; rw [h2]

theorem register (s s' : KState ℚ σ) (p e' : EvId) (h : _root_.register s p e' = some s') : Fr s s' := by
  unfold _root_.register at h
  split at h
  · cases h
  · cases h
    exact (addCb s _ _ rfl).trans (active _ _)

end Fr
end Cond
