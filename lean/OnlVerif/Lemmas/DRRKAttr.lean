import Lean.Meta.Tactic.Simp.RegisterCommand
/-! the simp set that tells the attribute cells of the DRR program apart (`drrk`) -/
register_simp_attr drrk
