import OnlVerif.Lemmas.DRRKLoopSpec
import OnlVerif.Lemmas.MQKCommon
/-!
# The DRR scheduler on the kernel model: every configuration step keeps `AInv` and lowers the step bound
-/

namespace DRRK
open DRROnK QEntry

theorem sumFrom_eq : sumFrom = MQK.sumFrom := by
  funext c f n
  induction n generalizing f <;> simp [sumFrom, MQK.sumFrom, *]

theorem sumFrom_nonneg (c : Nat → Int) : ∀ (n f : Nat), (∀ j, f ≤ j → j < f + n → 0 ≤ c j) → 0 ≤ sumFrom c f n :=
  sumFrom_eq ▸ MQK.sumFrom_nonneg c

theorem sumFrom_zero (c : Nat → Int) : ∀ (n f : Nat), (∀ j, f ≤ j → j < f + n → 0 ≤ c j) → sumFrom c f n = 0 →
    ∀ j, f ≤ j → j < f + n → c j = 0 :=
  sumFrom_eq ▸ MQK.sumFrom_zero c

theorem sumFrom_all_zero (c : Nat → Int) : ∀ (n f : Nat), (∀ j, f ≤ j → j < f + n → c j = 0) → sumFrom c f n = 0 :=
  sumFrom_eq ▸ MQK.sumFrom_all_zero c

theorem sumFrom_pos (c : Nat → Int) : ∀ (n f : Nat), 0 < sumFrom c f n → ∃ j, f ≤ j ∧ j < f + n ∧ 0 < c j
  | 0, _, h => by simp [sumFrom] at h
  | n + 1, f, h => by
    simp only [sumFrom] at h
    by_cases hf : 0 < c f
    · exact ⟨f, Nat.le_refl _, by omega, hf⟩
    · obtain ⟨j, h1, h2, h3⟩ := sumFrom_pos c n (f + 1) (by omega)
      exact ⟨j, by omega, by omega, h3⟩

theorem sumFrom_congr (c c' : Nat → Int) : ∀ (n f : Nat), (∀ j, f ≤ j → j < f + n → c j = c' j) → sumFrom c f n = sumFrom c' f n
  | 0, _, _ => rfl
  | n + 1, f, h => by
    simp only [sumFrom, h f (Nat.le_refl _) (by omega), sumFrom_congr c c' n (f + 1) (fun j a b => h j (by omega) (by omega))]

/-- steps a parked head still needs -/
def hw (o : Option Int) : Nat := if o.isSome then 3 else 0

theorem waitingFrom_eq (items : Nat → List Int) (hol : Nat → Option Int) (f n : Nat) :
    waitingFrom items hol f (n + 1) = 4 * (items f).length + hw (hol f) + waitingFrom items hol (f + 1) n := rfl

theorem waitingFrom_congr (items items' : Nat → List Int) (hol hol' : Nat → Option Int) : ∀ (n f0 : Nat),
    (∀ j, f0 ≤ j → j < f0 + n → items j = items' j ∧ hol j = hol' j) → waitingFrom items hol f0 n = waitingFrom items' hol' f0 n
  | 0, _, _ => rfl
  | n + 1, f0, h => by
    rw [waitingFrom_eq, waitingFrom_eq, (h f0 (Nat.le_refl _) (by omega)).1, (h f0 (Nat.le_refl _) (by omega)).2,
      waitingFrom_congr items items' hol hol' n (f0 + 1) (fun j a b => h j (by omega) (by omega))]

theorem waitingFrom_upd (items : Nat → List Int) (hol : Nat → Option Int) (f : Nat) (l : List Int) (o : Option Int) :
    ∀ (n f0 : Nat), f0 ≤ f → f < f0 + n →
    waitingFrom (upd items f l) (upd hol f o) f0 n + 4 * (items f).length + hw (hol f) =
      waitingFrom items hol f0 n + 4 * l.length + hw o
  | 0, f0, h1, h2 => by omega
  | n + 1, f0, h1, h2 => by
    rw [waitingFrom_eq, waitingFrom_eq]
    by_cases hf : f0 = f
    · subst hf
      have : waitingFrom (upd items f0 l) (upd hol f0 o) (f0 + 1) n = waitingFrom items hol (f0 + 1) n :=
        waitingFrom_congr _ _ _ _ n (f0 + 1) (fun j a _ => ⟨upd_ne _ _ _ _ (by omega), upd_ne _ _ _ _ (by omega)⟩)
      rw [this, upd_same, upd_same]; omega
    · have := waitingFrom_upd items hol f l o n (f0 + 1) (by omega) (by omega)
      rw [upd_ne _ _ _ _ hf, upd_ne _ _ _ _ hf]; omega

theorem upd_self {β : Type} (g : Nat → β) (f : Nat) : upd g f (g f) = g := by
  funext x
  by_cases h : x = f
  · subst h; simp
  · simp [upd_ne _ _ _ _ h]

theorem waitingFrom_zero (items : Nat → List Int) (hol : Nat → Option Int) : ∀ (n f0 : Nat),
    (∀ j, f0 ≤ j → j < f0 + n → items j = [] ∧ hol j = none) → waitingFrom items hol f0 n = 0
  | 0, _, _ => rfl
  | n + 1, f0, h => by
    rw [waitingFrom_eq, (h f0 (Nat.le_refl _) (by omega)).1, (h f0 (Nat.le_refl _) (by omega)).2,
      waitingFrom_zero items hol n (f0 + 1) (fun j a b => h j (by omega) (by omega))]
    rfl

variable {F : Nat} {flow size : Int → Nat} {cfg : DRR.Cfg ℚ} {Lmax P : Nat}
variable {a : A} {now : ℚ} {q : QEntry ℚ}

theorem mem_flows (ht : FlowsOK F cfg) (f : Nat) : f ∈ cfg.weights.map (·.1) ↔ f < F := by
  rw [ht.1.mem_iff, List.mem_range]

theorem entry_lt (ht : FlowsOK F cfg) {e : Nat × Nat} (he : e ∈ cfg.weights) : e.1 < F :=
  (mem_flows ht e.1).mp (List.mem_map_of_mem he)

theorem flows_nodup (ht : FlowsOK F cfg) : (cfg.weights.map (·.1)).Nodup :=
  ht.1.nodup_iff.mpr List.nodup_range

theorem cfgOk_of (ht : FlowsOK F cfg) : DRR.CfgOk cfg := ⟨flows_nodup ht, ht.2.1⟩

/-- the quantum of every class is at least `MIN_QUANTUM` -/
theorem qOf_ge (ht : FlowsOK F cfg) (c : Nat) : 1500 ≤ qOf cfg c := by
  unfold qOf
  cases h : DRR.quantum cfg c with
  | none => simp
  | some q => simpa using DRR.quantum_ge cfg ht.2.1 c q h

theorem quantum_eq (ht : FlowsOK F cfg) {c : Nat} (hc : c < F) : DRR.quantum cfg c = some (qOf cfg c) := by
  have hm := (mem_flows ht c).mpr hc
  obtain ⟨e, he, hec⟩ := List.mem_map.mp hm
  unfold qOf
  cases h : DRR.quantum cfg c with
  | some q => rfl
  | none =>
    exfalso
    simp only [DRR.quantum, Option.map_eq_none_iff] at h
    have hk : c ∈ cfg.weights.map (·.1) := hm
    obtain ⟨w, hw⟩ := DRR.lookup_of_mem_keys cfg.weights c hk
    rw [h] at hw; cases hw

variable (flow F size cfg Lmax P) in
/-- what holds of the configuration the loops of a burst work on — the packet `run` resumed with, if any, is parked or
booked: `run` holds no packet -/
structure MidInv (a1 : A) (now : ℚ) : Prop where
  src : SrcA flow F size Lmax now a1.src
  pend : ∀ u ∈ a1.pend, u.1.time = now ∧ u.1.prio = NORMAL
  due : ∀ x ∈ a1.src.entries ++ pendEntries a1.pend, now ≤ x.time
  cur : a1.cur = none
  cntOK : ∀ f, f < F → a1.cnt f = ((a1.items f).length : Nat) + holCnt a1 f
  ccntOK : ∀ f, f < F → a1.ccnt f = a1.cnt f
  flowOK : ∀ f, f < F → ∀ i ∈ a1.items f, flow i = f ∧ size i ≤ Lmax
  holOK : ∀ f, f < F → ∀ i, a1.hol f = some i → flow i = f ∧ size i ≤ Lmax
  keysOK : (∀ f ∈ a1.keys, f < F) ∧ ∀ f, f < F → f ∉ a1.keys → a1.items f = [] ∧ a1.cnt f = 0 ∧ a1.byt f = 0
  dfcOK : ∀ f, f < F → 0 ≤ a1.dfc f
  table : FlowsOK F cfg
  rate : 0 < cfg.rate
  pass : ∃ k, P = k + 1 ∧ Lmax ≤ 1500 * k

def midMu (F : Nat) (a : A) : Nat := a.src.mu + a.pend.length + 2 * a.tokens + waitingFrom a.items a.hol 0 F

theorem mu_eq (a : A) : a.mu F = a.run.mu + midMu F a := by
  simp only [A.mu, midMu]; omega

theorem due_parts {a' : A} {t : ℚ} (hr : ∀ x ∈ a'.run.entries, t ≤ x.time) (hs : ∀ x ∈ a'.src.entries, t ≤ x.time)
    (hp : ∀ u ∈ a'.pend, t ≤ u.1.time) : ∀ x ∈ a'.entries, t ≤ x.time := by
  intro x hx
  simp only [A.entries, List.mem_append, pendEntries, List.mem_map] at hx
  rcases hx with hx | hx | ⟨u, hu, rfl⟩
  exacts [hr x hx, hs x hx, hp u hu]

theorem due_src_pend (hi : AInv flow F size cfg Lmax P a now) : ∀ x ∈ a.src.entries ++ pendEntries a.pend, now ≤ x.time := by
  intro x hx
  exact hi.due x (by simp only [A.entries, List.mem_append] at hx ⊢; exact Or.inr hx)

theorem mid_top (hi : AInv flow F size cfg Lmax P a now) (h : a.run = .init q ∨ ∃ g, a.run = .K g q) :
    MidInv F flow size cfg Lmax P a now ∧ midMu F a + 1 ≤ a.mu F := by
  have hrun := hi.run
  have hheld : a.run.held = none := by rcases h with h | ⟨g, h⟩ <;> simp [h, RPhase.held]
  have hunb : a.run.unbooked = none := by rcases h with h | ⟨g, h⟩ <;> simp [h, RPhase.unbooked]
  have hcur : a.cur = none := by
    rcases h with h | ⟨g, h⟩ <;> rw [h] at hrun
    · exact hrun.2.2.2.2.2.2.1
    · exact hrun.2.2.1
  refine ⟨⟨hi.src, hi.pend, due_src_pend hi, hcur, ?_, ?_, hi.flowOK, hi.holOK, hi.keysOK, hi.dfcOK, hi.table, hi.rate, hi.pass⟩, ?_⟩
  · intro f hf
    have := hi.cntOK f hf
    simpa [heldCnt, hheld] using this
  · intro f hf
    have := hi.ccntOK f hf
    simpa [unbookedCnt, hunb] using this
  · rw [mu_eq]
    rcases h with h | ⟨g, h⟩ <;> simp [h, RPhase.mu] <;> omega

theorem mid_got {g : EvId} {m : Nat} {id : Int} (hi : AInv flow F size cfg Lmax P a now) (h : a.run = .H g m id q) :
    MidInv F flow size cfg Lmax P { a with hol := upd a.hol (flow id) (some id) } now ∧
    midMu F { a with hol := upd a.hol (flow id) (some id) } + 1 ≤ a.mu F := by
  have hrun := hi.run
  rw [h] at hrun
  obtain ⟨-, -, hcur, hpk, -, hhol, -⟩ := hrun
  have hheld : a.run.held = some id := by simp [h, RPhase.held]
  have hunb : a.run.unbooked = none := by simp [h, RPhase.unbooked]
  refine ⟨⟨hi.src, hi.pend, due_src_pend (a := a) hi, hcur, ?_, ?_, hi.flowOK, ?_, ?_, hi.dfcOK, hi.table, hi.rate, hi.pass⟩, ?_⟩
  · intro f hf
    have := hi.cntOK f hf
    simp only [heldCnt, hheld, holCnt] at this ⊢
    by_cases hff : f = flow id
    · subst hff
      rw [hhol] at this
      simp only [upd_same, Option.isSome_some, if_true] at this ⊢
      simpa using this
    · have hne : ¬ flow id = f := fun hh => hff hh.symm
      simp only [upd_ne _ _ _ _ hff, hne, if_false] at this ⊢
      simpa using this
  · intro f hf
    have := hi.ccntOK f hf
    simpa [unbookedCnt, hunb] using this
  · intro f hf i hi'
    by_cases hff : f = flow id
    · subst hff
      simp only [upd_same, Option.some.injEq] at hi'
      subst hi'
      exact ⟨rfl, hpk.2⟩
    · simp only [upd_ne _ _ _ _ hff] at hi'
      exact hi.holOK f hf i hi'
  · exact hi.keysOK
  · rw [mu_eq]
    have hw1 := waitingFrom_upd a.items a.hol (flow id) (a.items (flow id)) (some id) F 0 (Nat.zero_le _) (by simpa using hpk.1)
    rw [upd_self] at hw1
    simp only [hhol, hw, Option.isSome_none, Option.isSome_some, if_true] at hw1
    simp only [h, RPhase.mu, midMu]
    simp at hw1
    omega

theorem book_hol (a : A) (c : Nat) (id : Int) : (a.book size c id).hol = a.hol := by
  unfold A.book; split <;> rfl

theorem book_ccnt (a : A) (c : Nat) (id : Int) : (a.book size c id).ccnt = upd a.ccnt c (a.ccnt c + -1) := by
  unfold A.book; split <;> rfl

theorem book_dfc_nonneg (a : A) (c : Nat) (id : Int) (hle : (size id : ℚ) ≤ a.dfc c) (h0 : ∀ f, f < F → 0 ≤ a.dfc f) :
    ∀ f, f < F → 0 ≤ (a.book size c id).dfc f := by
  intro f hf
  unfold A.book
  split
  · show 0 ≤ upd a.dfc c 0 f
    by_cases hfc : f = c
    · subst hfc; simp
    · rw [upd_ne _ _ _ _ hfc]; exact h0 f hf
  · show 0 ≤ upd a.dfc c (a.dfc c - Num.ofNat (size id)) f
    by_cases hfc : f = c
    · subst hfc; rw [upd_same, Num.ofNat_rat]; linarith
    · rw [upd_ne _ _ _ _ hfc]; exact h0 f hf

theorem mid_done {p : EvId} {m : Nat} {id : Int} (hi : AInv flow F size cfg Lmax P a now) (h : a.run = .F p m id q) :
    MidInv F flow size cfg Lmax P (a.book size (flow id) id) now ∧ midMu F (a.book size (flow id) id) + 1 ≤ a.mu F := by
  have hrun := hi.run
  rw [h] at hrun
  obtain ⟨-, -, hcur, hpk, -, hhol, hle⟩ := hrun
  have hheld : a.run.held = none := by simp [h, RPhase.held]
  have hunb : a.run.unbooked = some id := by simp [h, RPhase.unbooked]
  have hs := sameBut_book (size := size) a (flow id) id
  refine ⟨⟨hs.src ▸ hi.src, hs.pend ▸ hi.pend, by rw [hs.src, hs.pend]; exact due_src_pend hi, hs.cur ▸ hcur, ?_, ?_, ?_, ?_, ?_,
    book_dfc_nonneg a _ id hle hi.dfcOK, hi.table, hi.rate, hi.pass⟩, ?_⟩
  · intro f hf
    have := hi.cntOK f hf
    simp only [heldCnt, hheld, holCnt] at this ⊢
    rw [hs.cnt, hs.items, book_hol]
    simpa using this
  · intro f hf
    have := hi.ccntOK f hf
    simp only [unbookedCnt, hunb] at this
    rw [book_ccnt, hs.cnt]
    by_cases hff : f = flow id
    · subst hff; rw [upd_same, this]; simp
    · have hne : ¬ flow id = f := fun hh => hff hh.symm
      rw [upd_ne _ _ _ _ hff, this]; simp [hne]
  · rw [hs.items]; exact hi.flowOK
  · rw [book_hol]; exact hi.holOK
  · rw [hs.keys, hs.items, hs.cnt, hs.byt]; exact hi.keysOK
  · rw [mu_eq]
    simp only [h, RPhase.mu, midMu, hs.src, hs.pend, hs.tokens, hs.items, book_hol]
    omega

theorem mid_cnt_nonneg {a1 : A} (hm : MidInv F flow size cfg Lmax P a1 now) {f : Nat} (hf : f < F) : 0 ≤ a1.cnt f := by
  rw [hm.cntOK f hf]
  unfold holCnt
  split <;> omega

theorem mid_total_nonneg {a1 : A} (hm : MidInv F flow size cfg Lmax P a1 now) : 0 ≤ a1.total F :=
  sumFrom_nonneg _ _ _ (fun j _ hj => mid_cnt_nonneg hm (by omega))

/-- on a configuration in which `run` holds nothing, `k + 1` passes end the burst when `1500·k` bytes cover every parked head:
with `total_packets > 0` some class is backlogged -/
theorem mid_no_hang {a1 : A} {t : ℚ} (hm : MidInv F flow size cfg Lmax P a1 now) (L : LS) (hmono : ∀ f, a1.dfc f ≤ L.dfc f)
    (k : Nat) (hk : ∀ j, j < F → ∀ id, a1.hol j = some id → size id ≤ 1500 * k) :
    (passes (qOf cfg) size a1.ccnt a1.hol t (a1.total F) cfg.weights (k + 1) L).2 ≠ .hang := by
  refine passes_no_hang (size := size) (qOf_ge hm.table) (flows_nodup hm.table) (mid_total_nonneg hm) k L
    (fun c hc => le_trans (hm.dfcOK c ((mem_flows hm.table c).mp hc)) (hmono c)) fun hpos => ?_
  obtain ⟨j, -, hj, hcp⟩ := sumFrom_pos _ _ _ hpos
  have hjF : j < F := by omega
  refine ⟨j, (mem_flows hm.table j).mpr hjF, by rw [hm.ccntOK j hjF]; exact hcp, fun id hid => ?_⟩
  have h2 : (0 : ℚ) ≤ L.dfc j := le_trans (hm.dfcOK j hjF) (hmono j)
  have h3 : ((size id : ℕ) : ℚ) ≤ ((1500 * k : ℕ) : ℚ) := by exact_mod_cast hk j hjF id hid
  rw [Num.ofNat_rat]
  push_cast at h3
  linarith

theorem loop_post {a1 : A} {t : ℚ} (hm : MidInv F flow size cfg Lmax P a1 now) (piece : LS × Option LoopEnd)
    (hE : EndOK size a1.ccnt a1.hol (a1.total F) cfg.weights piece.1 piece.2) (hmono : ∀ f, a1.dfc f ≤ piece.1.dfc f) :
    (thenPasses (qOf cfg) size a1.ccnt a1.hol t (a1.total F) cfg.weights P piece).2 ≠ .hang ∧
    EndOK size a1.ccnt a1.hol (a1.total F) cfg.weights (thenPasses (qOf cfg) size a1.ccnt a1.hol t (a1.total F) cfg.weights P piece).1
      (some (thenPasses (qOf cfg) size a1.ccnt a1.hol t (a1.total F) cfg.weights P piece).2) ∧
    ∀ f, a1.dfc f ≤ (thenPasses (qOf cfg) size a1.ccnt a1.hol t (a1.total F) cfg.weights P piece).1.dfc f := by
  obtain ⟨L', oe⟩ := piece
  cases oe with
  | some e =>
    simp only [thenPasses]
    refine ⟨?_, hE, hmono⟩
    rintro rfl
    exact hE
  | none =>
    simp only [thenPasses]
    obtain ⟨k, rfl, hk⟩ := hm.pass
    have hQ0 : ∀ c, 0 ≤ qOf cfg c := fun c => by linarith [qOf_ge hm.table c]
    have hnh := mid_no_hang (t := t) hm L' hmono k fun j hj id hid => le_trans (hm.holOK j hj id hid).2 hk
    have hok := passes_ok (size := size) (ccnt := a1.ccnt) (hol := a1.hol) (t := t) (total := a1.total F) (ws := cfg.weights) hQ0 (k + 1) L' hnh
    exact ⟨hnh, hok.1, fun f => le_trans (hmono f) (hok.2 f)⟩

theorem holCnt_none {a : A} {f : Nat} (h : a.hol f = none) : holCnt a f = 0 := by unfold holCnt; rw [h]; rfl
theorem holCnt_some {a : A} {f : Nat} {i : Int} (h : a.hol f = some i) : holCnt a f = 1 := by unfold holCnt; rw [h]; rfl
theorem holCnt_eq {a a' : A} {f : Nat} (h : a'.hol f = a.hol f) : holCnt a' f = holCnt a f := by unfold holCnt; rw [h]
theorem heldCnt_none {a : A} (h : a.run.held = none) (f : Nat) : heldCnt flow a f = 0 := by unfold heldCnt; rw [h]
theorem heldCnt_some {a : A} {id : Int} (h : a.run.held = some id) (f : Nat) :
    heldCnt flow a f = if flow id = f then 1 else 0 := by unfold heldCnt; rw [h]
theorem heldCnt_congr {a a' : A} (h : a'.run.held = a.run.held) (f : Nat) : heldCnt flow a' f = heldCnt flow a f := by
  simp [heldCnt, h]
theorem unbookedCnt_congr {a a' : A} (h : a'.run.unbooked = a.run.unbooked) (f : Nat) :
    unbookedCnt flow a' f = unbookedCnt flow a f := by
  simp [unbookedCnt, h]
theorem unbookedCnt_none {a : A} (h : a.run.unbooked = none) (f : Nat) : unbookedCnt flow a f = 0 := by
  unfold unbookedCnt; rw [h]
theorem unbookedCnt_some {a : A} {id : Int} (h : a.run.unbooked = some id) (f : Nat) :
    unbookedCnt flow a f = if flow id = f then 1 else 0 := by unfold unbookedCnt; rw [h]

theorem held_counted (hi : AInv flow F size cfg Lmax P a now) {id : Int} (hheld : a.run.held = some id) (hfid : flow id < F) :
    0 < a.cnt (flow id) ∧ flow id ∈ a.keys := by
  have h1 := hi.cntOK _ hfid
  rw [heldCnt_some hheld, if_pos rfl] at h1
  have h5 : 0 ≤ holCnt a (flow id) := by unfold holCnt; split <;> omega
  have hpos : 0 < a.cnt (flow id) := by omega
  exact ⟨hpos, Decidable.byContradiction fun hk => by have := (hi.keysOK.2 _ hfid hk).2.1; omega⟩

variable {n e : Nat}

theorem due_of_mid {a1 a' : A} (hm : MidInv F flow size cfg Lmax P a1 now) (hsrc : a'.src = a1.src) (hpend : a'.pend = a1.pend)
    (hrun : ∀ x ∈ a'.run.entries, now ≤ x.time) : ∀ x ∈ a'.entries, now ≤ x.time :=
  due_parts hrun (fun x hx => hm.due x (List.mem_append_left _ (hsrc ▸ hx))) fun u hu =>
    hm.due _ (List.mem_append_right _ (List.mem_map_of_mem (hpend ▸ hu)))

theorem ainv_end_get {a1 : A} (hm : MidInv F flow size cfg Lmax P a1 now) (L : LS) (hmono : ∀ f, a1.dfc f ≤ L.dfc f)
    {m' c' : Nat} (hE : EndOK size a1.ccnt a1.hol (a1.total F) cfg.weights L (some (.get m' c'))) (hc' : c' < F)
    {id' : Int} {is : List Int} (hit : a1.items c' = id' :: is) :
    AInv flow F size cfg Lmax P
      { (finA a1 L (some (.get m' c'))) with run := .H n m' id' ⟨now, NORMAL, e, n⟩, items := upd a1.items c' is } now ∧
    ({ (finA a1 L (some (.get m' c'))) with run := .H n m' id' ⟨now, NORMAL, e, n⟩, items := upd a1.items c' is } : A).mu F ≤
      midMu F a1 := by
  obtain ⟨⟨w, hw⟩, hhol, hdpos, hcpos⟩ := hE
  obtain ⟨hfl, hsz⟩ := hm.flowOK c' hc' id' (by rw [hit]; simp)
  refine ⟨⟨⟨rfl, rfl, hm.cur, ⟨hfl ▸ hc', hsz⟩, ⟨w, hfl ▸ hw⟩, by rw [hfl]; exact hhol, by rw [hfl]; exact hdpos⟩, hm.src, hm.pend,
    due_of_mid hm rfl rfl (by simp [RPhase.entries]), ?_, ?_, ?_, hm.holOK, ?_, ?_, hm.table, hm.rate, hm.pass⟩, ?_⟩
  · intro f hf
    have := hm.cntOK f hf
    show a1.cnt f = ((upd a1.items c' is f).length : Nat) + holCnt _ f + heldCnt flow _ f
    rw [holCnt_eq (a := a1) (by rfl), heldCnt_some (id := id') (by rfl)]
    by_cases hff : f = c'
    · subst hff
      rw [upd_same, this, hit, hfl]
      simp only [List.length_cons, if_true]; push_cast; ring
    · have hne : ¬ flow id' = f := by rw [hfl]; exact fun hh => hff hh.symm
      rw [upd_ne _ _ _ _ hff, this, if_neg hne]; ring
  · intro f hf
    show a1.ccnt f = a1.cnt f + unbookedCnt flow _ f
    rw [unbookedCnt_none (by rfl), hm.ccntOK f hf]; ring
  · intro f hf x hx
    dsimp only at hx
    by_cases hff : f = c'
    · subst hff
      rw [upd_same] at hx
      exact hm.flowOK f hf x (by rw [hit]; exact List.mem_cons_of_mem _ hx)
    · rw [upd_ne _ _ _ _ hff] at hx
      exact hm.flowOK f hf x hx
  · refine ⟨hm.keysOK.1, ?_⟩
    intro f hf hk
    obtain ⟨h1, h2, h3⟩ := hm.keysOK.2 f hf hk
    have hff : f ≠ c' := by rintro rfl; rw [hit] at h1; cases h1
    exact ⟨by dsimp only; rw [upd_ne _ _ _ _ hff]; exact h1, h2, h3⟩
  · intro f hf
    exact le_trans (hm.dfcOK f hf) (hmono f)
  · have hw1 := waitingFrom_upd a1.items a1.hol c' is (a1.hol c') F 0 (Nat.zero_le _) (by simpa using hc')
    rw [upd_self, hit] at hw1
    simp only [A.mu, midMu, RPhase.mu, finA, holAfter, List.length_cons] at hw1 ⊢
    omega

theorem ainv_end_send {a1 : A} (hm : MidInv F flow size cfg Lmax P a1 now) (L : LS) (hmono : ∀ f, a1.dfc f ≤ L.dfc f)
    {m' c' : Nat} {id' : Int} {pk : Bool} (hE : EndOK size a1.ccnt a1.hol (a1.total F) cfg.weights L (some (.send m' c' id' pk))) :
    AInv flow F size cfg Lmax P
      { (finA a1 L (some (.send m' c' id' pk))) with run := .S n m' id' ⟨now, URGENT, e, n + 1⟩, cur := some id' } now ∧
    ({ (finA a1 L (some (.send m' c' id' pk))) with run := .S n m' id' ⟨now, URGENT, e, n + 1⟩, cur := some id' } : A).mu F ≤
      midMu F a1 := by
  obtain ⟨rfl, ⟨w, hw⟩, hhol, hle, hcpos⟩ := hE
  have hc' : c' < F := entry_lt hm.table (List.mem_of_getElem? hw)
  obtain ⟨hfl, hsz⟩ := hm.holOK c' hc' id' hhol
  have hle' : (size id' : ℚ) ≤ L.dfc c' := by rw [Num.ofNat_rat] at hle; exact hle
  refine ⟨⟨⟨rfl, rfl, rfl, ⟨hfl ▸ hc', hsz⟩, ⟨w, hfl ▸ hw⟩, by simp [finA, holAfter, hfl], by simpa [finA, hfl] using hle'⟩,
    hm.src, hm.pend, due_of_mid hm rfl rfl (by simp [RPhase.entries]), ?_, ?_, hm.flowOK, ?_, hm.keysOK, ?_, hm.table, hm.rate, hm.pass⟩, ?_⟩
  · intro f hf
    have := hm.cntOK f hf
    show a1.cnt f = ((a1.items f).length : Nat) + holCnt _ f + heldCnt flow _ f
    rw [heldCnt_some (id := id') (by rfl)]
    by_cases hff : f = c'
    · subst hff
      rw [this, holCnt_some hhol, holCnt_none (show (upd a1.hol f none) f = none from upd_same _ _ _), hfl]
      simp
    · have hne : ¬ flow id' = f := by rw [hfl]; exact fun hh => hff hh.symm
      rw [holCnt_eq (a := a1) (show (upd a1.hol c' none) f = a1.hol f from upd_ne _ _ _ _ hff), this, if_neg hne]; ring
  · intro f hf
    show a1.ccnt f = a1.cnt f + unbookedCnt flow _ f
    rw [unbookedCnt_none (by rfl), hm.ccntOK f hf]; ring
  · intro f hf i hi'
    change upd a1.hol c' none f = some i at hi'
    by_cases hff : f = c'
    · subst hff; rw [upd_same] at hi'; cases hi'
    · rw [upd_ne _ _ _ _ hff] at hi'
      exact hm.holOK f hf i hi'
  · intro f hf
    exact le_trans (hm.dfcOK f hf) (hmono f)
  · have hw1 := waitingFrom_upd a1.items a1.hol c' (a1.items c') none F 0 (Nat.zero_le _) (by simpa using hc')
    rw [upd_self, hhol] at hw1
    have e1 : DRRK.hw (some id') = 3 := rfl
    have e2 : DRRK.hw none = 0 := rfl
    rw [e1, e2] at hw1
    simp only [A.mu, midMu, RPhase.mu, finA, holAfter]
    omega

theorem mid_empty {a1 : A} (hm : MidInv F flow size cfg Lmax P a1 now) (ht : a1.total F = 0) :
    ∀ f, f < F → a1.items f = [] ∧ a1.hol f = none := by
  intro f hf
  have hz := sumFrom_zero a1.cnt F 0 (fun j _ hj => mid_cnt_nonneg hm (by omega)) ht f (Nat.zero_le _) (by omega)
  have := hm.cntOK f hf
  rw [hz] at this
  unfold holCnt at this
  cases hh : a1.hol f with
  | none => exact ⟨List.eq_nil_of_length_eq_zero (by rw [hh] at this; simp at this; omega), rfl⟩
  | some i => rw [hh] at this; simp at this; omega

theorem ainv_end_idle {a1 : A} (hm : MidInv F flow size cfg Lmax P a1 now) (L : LS) (hmono : ∀ f, a1.dfc f ≤ L.dfc f)
    (hE : EndOK size a1.ccnt a1.hol (a1.total F) cfg.weights L (some .idle)) (r : RPhase) (tk : Nat)
    (hr : (r = .W n ∧ tk = 0 ∧ a1.tokens = 0) ∨ (r = .K n ⟨now, NORMAL, e, n⟩ ∧ a1.tokens = tk + 1)) :
    AInv flow F size cfg Lmax P { (finA a1 L (some .idle)) with run := r, tokens := tk } now ∧
    ({ (finA a1 L (some .idle)) with run := r, tokens := tk } : A).mu F ≤ midMu F a1 := by
  have hemp := mid_empty hm hE
  have hheld : r.held = none := by rcases hr with ⟨rfl, -⟩ | ⟨rfl, -⟩ <;> rfl
  have hunb : r.unbooked = none := by rcases hr with ⟨rfl, -⟩ | ⟨rfl, -⟩ <;> rfl
  refine ⟨⟨?_, hm.src, hm.pend, due_of_mid hm rfl rfl ?_, ?_, ?_, hm.flowOK, hm.holOK, hm.keysOK, ?_, hm.table, hm.rate, hm.pass⟩, ?_⟩
  · rcases hr with ⟨rfl, rfl, -⟩ | ⟨rfl, -⟩
    · exact ⟨fun _ f hf => (hemp f hf).1, fun h0 => absurd rfl h0, hm.cur, fun f hf => (hemp f hf).2⟩
    · exact ⟨rfl, rfl, hm.cur, fun f hf => (hemp f hf).2⟩
  · rcases hr with ⟨rfl, -⟩ | ⟨rfl, -⟩ <;> simp [RPhase.entries]
  · intro f hf
    show a1.cnt f = ((a1.items f).length : Nat) + holCnt _ f + heldCnt flow _ f
    rw [heldCnt_none hheld, holCnt_eq (a := a1) (by rfl), hm.cntOK f hf]; ring
  · intro f hf
    show a1.ccnt f = a1.cnt f + unbookedCnt flow _ f
    rw [unbookedCnt_none hunb, hm.ccntOK f hf]; ring
  · intro f hf
    exact le_trans (hm.dfcOK f hf) (hmono f)
  · rcases hr with ⟨rfl, rfl, htk⟩ | ⟨rfl, htk⟩ <;> simp only [A.mu, midMu, RPhase.mu, finA, holAfter, htk] <;> omega

theorem ainv_got_send {g : EvId} {m : Nat} {id : Int} (hi : AInv flow F size cfg Lmax P a now) (h : a.run = .H g m id q)
    (hle : (Num.ofNat (size id) : ℚ) ≤ a.dfc (flow id)) :
    AInv flow F size cfg Lmax P { a with run := .S n m id ⟨now, URGENT, e, n + 1⟩, cur := some id } now ∧
    ({ a with run := .S n m id ⟨now, URGENT, e, n + 1⟩, cur := some id } : A).mu F + 1 ≤ a.mu F := by
  have hrun := hi.run
  rw [h] at hrun
  obtain ⟨-, -, hcur, hpk, hw, hhol, hdpos⟩ := hrun
  rw [Num.ofNat_rat] at hle
  refine ⟨⟨⟨rfl, rfl, rfl, hpk, hw, hhol, hle⟩, hi.src, hi.pend, ?_, ?_, ?_, hi.flowOK, hi.holOK, hi.keysOK, hi.dfcOK,
    hi.table, hi.rate, hi.pass⟩, ?_⟩
  · intro x hx
    simp only [A.entries, List.mem_append, RPhase.entries, List.mem_singleton] at hx
    rcases hx with rfl | hx
    · exact le_refl _
    · exact due_src_pend hi x (List.mem_append.mpr hx)
  · intro f hf
    have := hi.cntOK f hf
    simpa [heldCnt, h, RPhase.held, holCnt] using this
  · intro f hf
    have := hi.ccntOK f hf
    simpa [unbookedCnt, h, RPhase.unbooked] using this
  · simp only [A.mu, RPhase.mu, h]; omega

/-- the piece of the loops a burst after a transmission starts with: the inner `while` of the entry, then the `for` loop -/
def donePiece (cfg : DRR.Cfg ℚ) (size : Int → Nat) (a1 : A) (t : ℚ) (m c : Nat) (rest : List (Nat × Nat)) : LS × Option LoopEnd :=
  match innerAt size a1.ccnt a1.hol t m c ⟨a1.dfc, []⟩ with
  | (L', some e) => (L', some e)
  | (L', none) => visitFrom (qOf cfg) size a1.ccnt a1.hol t (m + 1) rest L'

theorem donePiece_ind {I : Nat → LS → Prop} {E : LS → LoopEnd → Prop} {a1 : A} {t : ℚ} {m c : Nat} {rest : List (Nat × Nat)}
    (hit : ∀ m c w L, cfg.weights[m]? = some (c, w) → I m L →
      Post (I (m + 1)) E (innerAt size a1.ccnt a1.hol t m c (visitAdd (qOf cfg) a1.ccnt t c L)))
    (hd' : cfg.weights.drop (m + 1) = rest) (h0 : Post (I (m + 1)) E (innerAt size a1.ccnt a1.hol t m c ⟨a1.dfc, []⟩)) :
    Post (I (m + 1 + rest.length)) E (donePiece cfg size a1 t m c rest) := by
  unfold donePiece
  cases hr : innerAt size a1.ccnt a1.hol t m c ⟨a1.dfc, []⟩ with
  | mk L' oe =>
    rw [hr] at h0
    cases oe with
    | some e => exact h0
    | none => exact visitFrom_ind hit rest (m + 1) L' hd' h0

theorem donePiece_ok {a1 : A} {t : ℚ} {total : Int} {m c w : Nat} {rest : List (Nat × Nat)} (hw : cfg.weights[m]? = some (c, w))
    (hd' : cfg.weights.drop (m + 1) = rest) (hQ0 : ∀ c, 0 ≤ qOf cfg c) :
    EndOK size a1.ccnt a1.hol total cfg.weights (donePiece cfg size a1 t m c rest).1 (donePiece cfg size a1 t m c rest).2 ∧
    ∀ f, a1.dfc f ≤ (donePiece cfg size a1 t m c rest).1.dfc f :=
  PieceOK.endOK (donePiece_ind (I := fun _ L' => ∀ f, a1.dfc f ≤ L'.dfc f) (iter_ok hQ0 a1.dfc) hd'
    (inner_ok a1.dfc hw _ fun _ => le_refl _))

variable (flow size cfg) in
/-- how a burst that does not send at once enters the loops: the configuration they work on (the packet `run` resumed with is
parked or booked), what is observed before them, and the piece of the `for` loop they start with -/
inductive Enters (a : A) (q : QEntry ℚ) (t : ℚ) : Entry → A → List (HEv ℚ) → LS × Option LoopEnd → Prop
  | top (h : a.run = .init q ∨ ∃ g, a.run = .K g q) : Enters a q t .top a [] (⟨a.dfc, []⟩, none)
  | got {g : EvId} {m : Nat} {id : Int} {w : Nat} {rest : List (Nat × Nat)} (h : a.run = .H g m id q)
      (hd : cfg.weights.drop m = (flow id, w) :: rest) (hle : ¬ (Num.ofNat (size id) : ℚ) ≤ a.dfc (flow id)) :
      Enters a q t (.got m id) { a with hol := upd a.hol (flow id) (some id) } [.park id t]
        (visitFrom (qOf cfg) size a.ccnt (upd a.hol (flow id) (some id)) t (m + 1) rest ⟨a.dfc, []⟩)
  | done {p : EvId} {m : Nat} {id : Int} {w : Nat} {rest : List (Nat × Nat)} (h : a.run = .F p m id q)
      (hd : cfg.weights.drop m = (flow id, w) :: rest) :
      Enters a q t (.done m id) (a.book size (flow id) id) (bookEvs a (flow id) id t)
        (donePiece cfg size (a.book size (flow id) id) t m (flow id) rest)

/-- **a burst of `run` on a sound configuration**: either it sends the packet it has just taken from a store, or it enters the
loops on a configuration in which `run` holds nothing (`MidInv`) with a piece of the `for` loop that has only raised credits -/
theorem burst_enters {en : Entry} (hi : AInv flow F size cfg Lmax P a now) (hst : StartsAt a q en) :
    (∃ g m id, en = .got m id ∧ a.run = .H g m id q ∧ (Num.ofNat (size id) : ℚ) ≤ a.dfc (flow id) ∧
      a.burst F (qOf cfg) size cfg.weights P now en = ⟨a, [], .send m (flow id) id false⟩) ∨
    (∃ a1 e0 piece, Enters flow size cfg a q now en a1 e0 piece ∧ MidInv F flow size cfg Lmax P a1 now ∧
      midMu F a1 + 1 ≤ a.mu F ∧ SameBut a a1 ∧ EndOK size a1.ccnt a1.hol (a1.total F) cfg.weights piece.1 piece.2 ∧
      (∀ f, a1.dfc f ≤ piece.1.dfc f) ∧
      a.burst F (qOf cfg) size cfg.weights P now en =
        finish a1 e0 (thenPasses (qOf cfg) size a1.ccnt a1.hol now (a1.total F) cfg.weights P piece)) := by
  have hQ0 : ∀ c, 0 ≤ qOf cfg c := fun c => by linarith [qOf_ge hi.table c]
  cases en with
  | top =>
    obtain ⟨hm, hmu⟩ := mid_top hi hst
    exact Or.inr ⟨a, [], _, .top hst, hm, hmu, SameBut.rfl' a, trivial, fun f => le_refl _, rfl⟩
  | got m id =>
    obtain ⟨g, h⟩ := hst
    have hrun := hi.run
    rw [h] at hrun
    obtain ⟨w, hw⟩ := hrun.2.2.2.2.1
    obtain ⟨rest, hd⟩ := drop_of_getElem? hw
    by_cases hle : (Num.ofNat (size id) : ℚ) ≤ a.dfc (flow id)
    · exact Or.inl ⟨g, m, id, rfl, h, hle, by simp only [A.burst, hd, hle, if_true]⟩
    · obtain ⟨hm, hmu⟩ := mid_got hi h
      have hv := visitFrom_ok (Q := qOf cfg) (size := size) (ccnt := a.ccnt) (hol := upd a.hol (flow id) (some id)) (t := now)
        (total := A.total F { a with hol := upd a.hol (flow id) (some id) }) (ws := cfg.weights) hQ0 rest (m + 1)
        ⟨a.dfc, []⟩ (KExec.drop_cons hd).2
      exact Or.inr ⟨_, _, _, .got h hd hle, hm, hmu, ⟨rfl, rfl, rfl, rfl, rfl, rfl, rfl, rfl, rfl, rfl⟩, hv.1, hv.2,
        by simp only [A.burst, hd, hle, if_false]⟩
  | done m id =>
    obtain ⟨p, h⟩ := hst
    have hrun := hi.run
    rw [h] at hrun
    obtain ⟨w, hw⟩ := hrun.2.2.2.2.1
    obtain ⟨rest, hd⟩ := drop_of_getElem? hw
    obtain ⟨hm, hmu⟩ := mid_done hi h
    obtain ⟨hp1, hp2⟩ := donePiece_ok (size := size) (a1 := a.book size (flow id) id) (t := now)
      (total := (a.book size (flow id) id).total F) hw (KExec.drop_cons hd).2 hQ0
    exact Or.inr ⟨_, _, _, .done h hd, hm, hmu, sameBut_book a _ id, hp1, hp2, by simp only [A.burst, hd]; rfl⟩

/-- the same, with the loops run to their end — never with `hang` — in one of the ways `EndOK` describes -/
theorem burst_cases {en : Entry} (hi : AInv flow F size cfg Lmax P a now) (hst : StartsAt a q en) :
    (∃ g m id, en = .got m id ∧ a.run = .H g m id q ∧ (Num.ofNat (size id) : ℚ) ≤ a.dfc (flow id) ∧
      a.burst F (qOf cfg) size cfg.weights P now en = ⟨a, [], .send m (flow id) id false⟩) ∨
    (∃ a1 e0 L fin, MidInv F flow size cfg Lmax P a1 now ∧ midMu F a1 + 1 ≤ a.mu F ∧ SameBut a a1 ∧
      (∀ f, a1.dfc f ≤ L.dfc f) ∧ fin ≠ .hang ∧ EndOK size a1.ccnt a1.hol (a1.total F) cfg.weights L (some fin) ∧
      a.burst F (qOf cfg) size cfg.weights P now en = ⟨finA a1 L (some fin), e0 ++ L.evs, fin⟩ ∧ (en = .top → a1 = a)) := by
  rcases burst_enters hi hst with h | ⟨a1, e0, piece, hen, hm, hmu, hsb, hE, hmono, hb⟩
  · exact Or.inl h
  · obtain ⟨h1, h2, h3⟩ := loop_post (t := now) hm piece hE hmono
    exact Or.inr ⟨a1, e0, _, _, hm, hmu, hsb, h3, h1, h2, hb, fun h => by subst h; cases hen; rfl⟩

theorem total_zero_of_empty (hi : AInv flow F size cfg Lmax P a now) (hh : a.run.held = none)
    (he : ∀ f, f < F → a.items f = [] ∧ a.hol f = none) : a.total F = 0 := by
  unfold A.total
  apply sumFrom_all_zero
  intro j _ hj
  rw [hi.cntOK j (by omega), (he j (by omega)).1, heldCnt_none hh, holCnt_none (he j (by omega)).2]
  simp

theorem due_of_run (hi : AInv flow F size cfg Lmax P a q.time) (a' : A) (hsrc : a'.src = a.src) (hpend : a'.pend = a.pend)
    (hrun : ∀ x ∈ a'.run.entries, q.time ≤ x.time) : ∀ x ∈ a'.entries, q.time ≤ x.time :=
  due_parts hrun (fun x hx => hi.due x (mem_src (hsrc ▸ hx))) fun u hu => hi.due _ (mem_pend (hpend ▸ hu))

variable {arr : List (ℚ × Int)}

theorem srcNext_ok (hw : WorkOK flow F size Lmax arr) (t : ℚ) (eid ev : Nat) :
    SrcA flow F size Lmax t (srcNext t eid ev arr) ∧ (∀ x ∈ (srcNext t eid ev arr).entries, t ≤ x.time) ∧
    (srcNext t eid ev arr).mu ≤ 10 * arr.length + 1 := by
  cases arr with
  | nil => exact ⟨⟨rfl, rfl⟩, by simp [srcNext, SPhase.entries], by simp [srcNext, SPhase.mu]⟩
  | cons x r =>
    obtain ⟨gap, id⟩ := x
    have h1 := hw (gap, id) (by simp)
    refine ⟨⟨rfl, h1.2, fun y hy => hw y (List.mem_cons_of_mem _ hy)⟩, ?_, by simp [srcNext, SPhase.mu]; omega⟩
    simp only [srcNext, SPhase.entries, List.mem_singleton]
    rintro y rfl
    show t ≤ t + gap
    linarith [h1.1]

theorem due_of_src (hi : AInv flow F size cfg Lmax P a q.time) (a' : A) (hrun : a'.run = a.run)
    (hsrc : ∀ x ∈ a'.src.entries, q.time ≤ x.time)
    (hpend : ∀ u ∈ a'.pend, u ∈ a.pend ∨ u.1.time = q.time) : ∀ x ∈ a'.entries, q.time ≤ x.time :=
  due_parts (fun x hx => hi.due x (mem_run (hrun ▸ hx))) hsrc fun u hu =>
    (hpend u hu).elim (fun h => hi.due _ (mem_pend h)) fun h => h ▸ le_refl _

theorem ainv_put (hi : AInv flow F size cfg Lmax P a q.time) (hq : IsMin a q) {id : Int} {arr : List (ℚ × Int)}
    (h : a.src = .wait id arr q) (tk : Bool) (htk : tk = true ↔ a.total F = 0) (src' : SPhase)
    (hsrc' : SrcA flow F size Lmax q.time src' ∧ ∀ x ∈ src'.entries, q.time ≤ x.time)
    (new : List (QEntry ℚ × ResId)) (hnew : ∀ u ∈ new, u.1.time = q.time ∧ u.1.prio = NORMAL)
    (hnewt : tk = true → ∃ u, (u, 0) ∈ new) :
    AInv flow F size cfg Lmax P { a with
        src := src'
        pend := a.pend ++ new
        tokens := a.tokens + (if tk then 1 else 0)
        items := upd a.items (flow id) (a.items (flow id) ++ [id])
        cnt := upd a.cnt (flow id) (a.cnt (flow id) + 1)
        byt := upd a.byt (flow id) (a.byt (flow id) + (size id : Int))
        recv := a.recv + 1
        keys := addKey a.keys (flow id)
        ccnt := upd a.ccnt (flow id) (a.ccnt (flow id) + 1) } q.time := by
  have hs := hi.src
  rw [h] at hs
  obtain ⟨hqp, hpk, hw⟩ := hs
  have hfid := hpk.1
  have hrun := hi.run
  refine ⟨?_, hsrc'.1, ?_, due_of_src hi _ rfl hsrc'.2 ?_, ?_, ?_, ?_, hi.holOK, ?_, hi.dfcOK, hi.table, hi.rate, hi.pass⟩
  · cases hr : a.run with
    | init q0 =>
      rw [hr] at hrun
      exact (min_not_prio_lt hi.due hq (mem_run (by simp [hr, RPhase.entries])) hrun.1 (by rw [hrun.2.1, hqp]; decide)).elim
    | W g =>
      rw [hr] at hrun
      refine ⟨?_, ?_, hrun.2.2.1, hrun.2.2.2⟩
      · intro h0
        dsimp only at h0
        have htk0 : a.tokens = 0 := by omega
        have hall := hrun.1 htk0
        have : a.total F = 0 := total_zero_of_empty hi (by simp [hr, RPhase.held]) (fun f hf => ⟨hall f hf, hrun.2.2.2 f hf⟩)
        have : tk = true := htk.mpr this
        simp [this] at h0
      · intro h0
        dsimp only at h0 ⊢
        by_cases hk : tk = true
        · obtain ⟨u, hu⟩ := hnewt hk
          exact ⟨u, List.mem_append_right _ hu⟩
        · have : a.tokens ≠ 0 := by simpa [hk] using h0
          obtain ⟨u, hu⟩ := hrun.2.1 this
          exact ⟨u, List.mem_append_left _ hu⟩
    | _ => rw [hr] at hrun; exact hrun
  · intro u hu
    rcases List.mem_append.mp hu with hu | hu
    · exact hi.pend u hu
    · exact hnew u hu
  · intro u hu
    rcases List.mem_append.mp hu with hu | hu
    · exact Or.inl hu
    · exact Or.inr (hnew u hu).1
  · intro f hf
    have := hi.cntOK f hf
    show upd a.cnt (flow id) (a.cnt (flow id) + 1) f =
      ((upd a.items (flow id) (a.items (flow id) ++ [id]) f).length : Nat) + holCnt _ f + heldCnt flow _ f
    rw [holCnt_eq (a := a) (by rfl), heldCnt_congr (a := a) (by rfl)]
    by_cases hff : f = flow id
    · subst hff
      rw [upd_same, upd_same, this]
      simp only [List.length_append, List.length_singleton]; push_cast; ring
    · rw [upd_ne _ _ _ _ hff, upd_ne _ _ _ _ hff, this]
  · intro f hf
    have := hi.ccntOK f hf
    show upd a.ccnt (flow id) (a.ccnt (flow id) + 1) f = upd a.cnt (flow id) (a.cnt (flow id) + 1) f + unbookedCnt flow _ f
    rw [unbookedCnt_congr (a := a) (by rfl)]
    by_cases hff : f = flow id
    · subst hff
      rw [upd_same, upd_same, this]; ring
    · rw [upd_ne _ _ _ _ hff, upd_ne _ _ _ _ hff, this]
  · intro f hf x hx
    dsimp only at hx
    by_cases hff : f = flow id
    · subst hff
      rw [upd_same] at hx
      rcases List.mem_append.mp hx with hx | hx
      · exact hi.flowOK _ hf x hx
      · simp only [List.mem_singleton] at hx; rw [hx]; exact ⟨rfl, hpk.2⟩
    · rw [upd_ne _ _ _ _ hff] at hx
      exact hi.flowOK f hf x hx
  · refine ⟨?_, ?_⟩
    · intro f hf
      rcases (mem_addKey _ _ _).mp hf with hf | rfl
      · exact hi.keysOK.1 f hf
      · exact hfid
    · intro f hf hk
      dsimp only at hk ⊢
      have hk' : f ∉ a.keys ∧ f ≠ flow id := by
        constructor
        · intro h1; exact hk ((mem_addKey _ _ _).mpr (Or.inl h1))
        · intro h1; exact hk ((mem_addKey _ _ _).mpr (Or.inr h1))
      obtain ⟨h1, h2, h3⟩ := hi.keysOK.2 f hf hk'.1
      rw [upd_ne _ _ _ _ hk'.2, upd_ne _ _ _ _ hk'.2, upd_ne _ _ _ _ hk'.2]
      exact ⟨h1, h2, h3⟩

/-- a `put` lowers the step bound: the source has one arrival less (10 steps); the packet waits (4), at most two `StorePut`s
pend and a token is posted (`new.length + 2·tk ≤ 4`) -/
theorem mu_put {id : Int} {arr : List (ℚ × Int)} (h : a.src = .wait id arr q) (hfid : flow id < F) (src' : SPhase)
    (hmu : src'.mu ≤ 10 * arr.length + 1) (new : List (QEntry ℚ × ResId)) (tk : Nat) (hlen : new.length + 2 * tk ≤ 4) (a' : A)
    (hrun : a'.run = a.run) (hsrc : a'.src = src') (hpend : a'.pend = a.pend ++ new) (htok : a'.tokens = a.tokens + tk)
    (hitems : a'.items = upd a.items (flow id) (a.items (flow id) ++ [id])) (hhol : a'.hol = a.hol) : a'.mu F + 1 ≤ a.mu F := by
  have hw := waitingFrom_upd a.items a.hol (flow id) (a.items (flow id) ++ [id]) (a.hol (flow id)) F 0 (Nat.zero_le _) (by omega)
  rw [upd_self] at hw
  simp only [List.length_append, List.length_singleton] at hw
  have hm : (SPhase.wait id arr q).mu = 10 * arr.length + 11 := rfl
  simp only [A.mu, hrun, hsrc, hpend, htok, hitems, hhol, h, hm, List.length_append]
  omega

theorem AInv.frame {a' : A} {t : ℚ} (hi : AInv flow F size cfg Lmax P a t)
    (hrec : a'.items = a.items ∧ a'.cnt = a.cnt ∧ a'.byt = a.byt ∧ a'.keys = a.keys ∧ a'.ccnt = a.ccnt ∧ a'.dfc = a.dfc ∧
      a'.hol = a.hol) (hh : a'.run.held = a.run.held) (hu : a'.run.unbooked = a.run.unbooked)
    (hr : RunA flow F size cfg Lmax a' t a'.run) (hs : SrcA flow F size Lmax t a'.src)
    (hp : ∀ u ∈ a'.pend, u.1.time = t ∧ u.1.prio = NORMAL) (hd : ∀ x ∈ a'.entries, t ≤ x.time) :
    AInv flow F size cfg Lmax P a' t := by
  obtain ⟨h1, h2, h3, h4, h5, h6, h7⟩ := hrec
  refine ⟨hr, hs, hp, hd, fun f hf => ?_, fun f hf => ?_, by rw [h1]; exact hi.flowOK, by rw [h7]; exact hi.holOK, ?_,
    by rw [h6]; exact hi.dfcOK, hi.table, hi.rate, hi.pass⟩
  · rw [h2, h1, holCnt_eq (a := a) (by rw [h7]), heldCnt_congr hh]; exact hi.cntOK f hf
  · rw [h5, h2, unbookedCnt_congr hu]; exact hi.ccntOK f hf
  · rw [h4, h1, h2, h3]; exact hi.keysOK

theorem astep_sound {a' : A} {new : List (HEv ℚ)} (hi0 : AInv flow F size cfg Lmax P a now) (hq : IsMin a q)
    (hs : AStep F flow size cfg P n e a q a' new) : AInv flow F size cfg Lmax P a' q.time ∧ a'.mu F + 1 ≤ a.mu F := by
  have hi := hi0.advance hq
  have hrun := hi.run
  cases hs with
  | burst en r _ _ hst hb hend =>
    rcases burst_cases hi hst with ⟨g, m, id, -, h, hle, hbe⟩ | ⟨a1, e0, L, fin, hm, hmu, hsb, hmono, -, hE, hbe, -⟩
    · rw [hbe] at hb; subst hb
      cases hend with
      | send m' c' id' pk hfin =>
        simp only [LoopEnd.send.injEq] at hfin
        obtain ⟨rfl, rfl, rfl, rfl⟩ := hfin
        exact ainv_got_send hi h hle
      | get m' c' id' is hfin => cases hfin
      | block hfin => cases hfin
      | tok k hfin => cases hfin
    · rw [hbe] at hb; subst hb
      have key : ∀ {a' : A}, AInv flow F size cfg Lmax P a' q.time ∧ a'.mu F ≤ midMu F a1 →
          AInv flow F size cfg Lmax P a' q.time ∧ a'.mu F + 1 ≤ a.mu F :=
        fun h => ⟨h.1, (Nat.add_le_add_right h.2 1).trans hmu⟩
      cases hend with
      | get m' c' id' is hfin hc' hit =>
        simp only at hfin; subst hfin
        exact key (ainv_end_get (n := n) (e := e) hm L hmono hE hc' (hsb.items ▸ hit))
      | send m' c' id' pk hfin =>
        simp only at hfin; subst hfin
        exact key (ainv_end_send (n := n) (e := e) hm L hmono hE)
      | block hfin htk =>
        simp only at hfin; subst hfin
        have := ainv_end_idle (n := n) (e := e) hm L hmono hE (.W n) 0 (Or.inl ⟨rfl, rfl, hsb.tokens ▸ htk⟩)
        have htk1 : (finA a1 L (some LoopEnd.idle)).tokens = 0 := hsb.tokens ▸ htk
        have heq : ({ (finA a1 L (some LoopEnd.idle)) with run := RPhase.W n, tokens := 0 } : A) =
            { (finA a1 L (some LoopEnd.idle)) with run := RPhase.W n } := by rw [← htk1]
        rw [heq] at this
        exact key this
      | tok t hfin htk =>
        simp only at hfin; subst hfin
        exact key (ainv_end_idle (n := n) (e := e) hm L hmono hE (.K n ⟨q.time, NORMAL, e, n⟩) t (Or.inr ⟨rfl, hsb.tokens ▸ htk⟩))
  | sendInit p m id h =>
    rw [h] at hrun
    obtain ⟨-, -, hcur, hpk, hw, hhol, hle⟩ := hrun
    have hd := txTime_nonneg (size := size) hi.rate id
    refine ⟨hi.frame ⟨rfl, rfl, rfl, rfl, rfl, rfl, rfl⟩ (by rw [h]; rfl) (by rw [h]; rfl) ⟨rfl, rfl, hpk, hw, hhol, hle⟩ hi.src hi.pend
      (due_of_run hi _ rfl rfl
        (by simp only [RPhase.entries, List.mem_singleton]; rintro x rfl; show q.time ≤ q.time + _; linarith)), ?_⟩
    simp only [A.mu, RPhase.mu, h]; omega
  | sendFire p t m id h =>
    rw [h] at hrun
    obtain ⟨-, hcur, hpk, hw, hhol, hle⟩ := hrun
    have hfid := hpk.1
    have hheld : a.run.held = some id := by simp [h, RPhase.held]
    have hunb : a.run.unbooked = none := by simp [h, RPhase.unbooked]
    refine ⟨⟨⟨rfl, rfl, rfl, hpk, hw, hhol, hle⟩, hi.src, hi.pend, due_of_run hi _ rfl rfl (by simp [RPhase.entries]), ?_, ?_, hi.flowOK,
      hi.holOK, ?_, hi.dfcOK, hi.table, hi.rate, hi.pass⟩, ?_⟩
    · intro f hf
      have := hi.cntOK f hf
      rw [heldCnt_some hheld] at this
      show upd a.cnt (flow id) (a.cnt (flow id) + -1) f = ((a.items f).length : Nat) + holCnt _ f + heldCnt flow _ f
      rw [holCnt_eq (a := a) (by rfl), heldCnt_none (by rfl)]
      by_cases hff : f = flow id
      · subst hff
        rw [upd_same, this]; simp
      · rw [upd_ne _ _ _ _ hff, this, if_neg (Ne.symm hff)]
    · intro f hf
      have := hi.ccntOK f hf
      rw [unbookedCnt_none hunb] at this
      show a.ccnt f = upd a.cnt (flow id) (a.cnt (flow id) + -1) f + unbookedCnt flow _ f
      rw [unbookedCnt_some (id := id) (by rfl)]
      by_cases hff : f = flow id
      · subst hff
        rw [upd_same, this]; simp
      · rw [upd_ne _ _ _ _ hff, this, if_neg (Ne.symm hff)]
    · refine ⟨hi.keysOK.1, ?_⟩
      intro f hf hk
      obtain ⟨h1, h2, h3⟩ := hi.keysOK.2 f hf hk
      have hff : f ≠ flow id := fun hff => hk (hff ▸ (held_counted hi hheld hfid).2)
      exact ⟨h1, by dsimp only; rw [upd_ne _ _ _ _ hff]; exact h2, by dsimp only; rw [upd_ne _ _ _ _ hff]; exact h3⟩
    · simp only [A.mu, RPhase.mu, h]; omega
  | srcInit arr h =>
    have hs := hi.src
    rw [h] at hs
    obtain ⟨h1, h2, h3⟩ := srcNext_ok hs.2.2 q.time e n
    refine ⟨hi.frame ⟨rfl, rfl, rfl, rfl, rfl, rfl, rfl⟩ rfl rfl hi.run h1 hi.pend (due_of_src hi _ rfl h2 fun u hu => Or.inl hu), ?_⟩
    have hm : (SPhase.init q arr).mu = 10 * arr.length + 2 := rfl
    simp only [A.mu, h, hm]
    omega
  | srcPutTok id arr h htot =>
    have hs := hi.src
    rw [h] at hs
    obtain ⟨h1, h2, h3⟩ := srcNext_ok hs.2.2 q.time (e + 1 + 1) (n + 1 + 1)
    exact ⟨ainv_put hi hq h true (by simp [htot]) _ ⟨h1, h2⟩
        [(⟨q.time, NORMAL, e, n⟩, 0), (⟨q.time, NORMAL, e + 1, n + 1⟩, flowStore (flow id))]
        (by intro u hu; simp only [List.mem_cons, List.not_mem_nil, or_false] at hu; rcases hu with rfl | rfl <;> exact ⟨rfl, rfl⟩)
        (fun _ => ⟨_, List.mem_cons_self⟩),
      mu_put h hs.2.1.1 _ h3 [_, _] 1 (Nat.le_refl _) _ rfl rfl rfl rfl rfl rfl⟩
  | srcPutPlain id arr h htot =>
    have hs := hi.src
    rw [h] at hs
    obtain ⟨h1, h2, h3⟩ := srcNext_ok hs.2.2 q.time (e + 1) (n + 1)
    have := ainv_put hi hq h false (by simp [htot]) _ ⟨h1, h2⟩
      [(⟨q.time, NORMAL, e, n⟩, flowStore (flow id))]
      (by intro u hu; simp only [List.mem_cons, List.not_mem_nil, or_false] at hu; rw [hu]; exact ⟨rfl, rfl⟩)
      (fun h0 => by cases h0)
    simp only [Bool.false_eq_true, if_false, Nat.add_zero] at this
    exact ⟨this, mu_put h hs.2.1.1 _ h3 [_] 0 (by simp) _ rfl rfl rfl rfl rfl rfl⟩
  | srcEnd h =>
    refine ⟨hi.frame ⟨rfl, rfl, rfl, rfl, rfl, rfl, rfl⟩ rfl rfl hi.run trivial hi.pend
      (due_of_src hi _ rfl (by simp [SPhase.entries]) fun u hu => Or.inl hu), ?_⟩
    have hm : (SPhase.ending q).mu = 1 := rfl
    have hm' : SPhase.done.mu = 0 := rfl
    simp only [A.mu, h, hm, hm']
    omega
  | pendNoop r l1 l2 hpe hno =>
    have hsub : ∀ u ∈ l1 ++ l2, u ∈ a.pend := KExec.mem_of_split hpe
    refine ⟨hi.frame ⟨rfl, rfl, rfl, rfl, rfl, rfl, rfl⟩ rfl rfl ?_ hi.src (fun u hu => hi.pend u (hsub u hu))
      (due_of_src hi _ rfl (fun x hx => hi.due x (mem_src hx)) fun u hu => Or.inl (hsub u hu)), ?_⟩
    · cases hr : a.run with
      | init q0 =>
        rw [hr] at hrun
        rw [hrun.2.2.2.1] at hpe
        simp at hpe
      | W g =>
        rw [hr] at hrun
        refine ⟨hrun.1, ?_, hrun.2.2.1, hrun.2.2.2⟩
        intro h0
        obtain ⟨u, hu⟩ := hrun.2.1 h0
        rw [hpe] at hu
        rcases List.mem_append.mp hu with h1 | h1
        · exact ⟨u, List.mem_append_left _ h1⟩
        · rcases List.mem_cons.mp h1 with h1 | h1
          · exfalso
            have : r = 0 := by cases h1; rfl
            exact hno ⟨this, h0, g, hr⟩
          · exact ⟨u, List.mem_append_right _ h1⟩
      | _ => rw [hr] at hrun; exact hrun
    · simp only [A.mu, hpe, List.length_append, List.length_cons]
      omega
  | pendHand g t l1 l2 hpe h htk =>
    have hsub : ∀ u ∈ l1 ++ l2, u ∈ a.pend := KExec.mem_of_split hpe
    rw [h] at hrun
    refine ⟨hi.frame ⟨rfl, rfl, rfl, rfl, rfl, rfl, rfl⟩ (by rw [h]; rfl) (by rw [h]; rfl) ⟨rfl, rfl, hrun.2.2.1, hrun.2.2.2⟩ hi.src
      (fun u hu => hi.pend u (hsub u hu)) ?_, ?_⟩
    · exact due_parts (by simp [RPhase.entries]) (fun x hx => hi.due x (mem_src hx)) fun u hu => hi.due _ (mem_pend (hsub u hu))
    · simp only [A.mu, h, hpe, htk, RPhase.mu, List.length_append, List.length_cons]
      omega

end DRRK
