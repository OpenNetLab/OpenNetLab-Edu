import OnlVerif.Lemmas.TcpSink
import OnlVerif.Lemmas.TcpSender
import OnlVerif.Tcp.Loop
/-!
# The closed loop: the joint safety invariant behind the partial progress results of C16

`J`: the sender invariant, the sink buffer invariant, every ACK in flight is backed by what the sink holds (all
bytes below its number, and the first byte of the segment it answers), every packet in flight has the sender's MSS as
size, and **every segment issued so far is either at the sink (its first byte is held) or under a pending
retransmission timer**.
-/

open TcpScalar TcpSender TcpSink

namespace TcpLoop

theorem isAck_false {a : Act ℚ} (h : Loop.isAck a = false) : ActOk a ∧ ∀ x, a ≠ .ack x := by
  cases a with
  | ack x => cases h
  | _ => exact ⟨trivial, fun _ e => by cases e⟩

theorem own_eq {l l' : Loop ℚ} {act : Act ℚ} (hs : l.step (.own act) = some l') :
    ∃ s' outs, Loop.isAck act = false ∧ l.snd.step act = .ok s' outs ∧
      l' = { l with snd := s', data := l.data ++ outs, issued := l.issued ++ Loop.newSeqs outs } := by
  unfold Loop.step at hs
  simp only at hs
  split_ifs at hs with hack
  cases hst : l.snd.step act with
  | reject w => rw [hst] at hs; cases hs
  | error e => rw [hst] at hs; cases hs
  | ok s' outs =>
    rw [hst] at hs
    injection hs with hs
    exact ⟨s', outs, by simpa using hack, rfl, hs.symm⟩

/-- a delivery never fails: the sink's `put` answers with the prefix of its new buffer -/
theorem deliver_eq {l l' : Loop ℚ} (hsep : Sep l.sink) (hs : l.step .deliver = some l') :
    ∃ tx rest p, l.data = tx :: rest ∧ IsPrefix (packetArrived l.sink tx.seq tx.size) p ∧
      l' = { l with sink := packetArrived l.sink tx.seq tx.size, data := rest, acks := l.acks ++ [Loop.ackFor tx p] } := by
  unfold Loop.step at hs
  simp only at hs
  cases hd : l.data with
  | nil => rw [hd] at hs; cases hs
  | cons tx rest =>
    rw [hd] at hs
    simp only at hs
    obtain ⟨p, hput, hp⟩ := put_ok l.sink tx.seq tx.size hsep
    rw [hput] at hs
    injection hs with hs
    exact ⟨tx, rest, p, rfl, hp, hs.symm⟩

theorem ackArrive_eq {l l' : Loop ℚ} (hs : l.step .ackArrive = some l') :
    ∃ x rest s' outs, l.acks = x :: rest ∧ l.snd.step (.ack x) = .ok s' outs ∧
      l' = { l with snd := s', acks := rest, data := l.data ++ outs } := by
  unfold Loop.step at hs
  simp only at hs
  cases hd : l.acks with
  | nil => rw [hd] at hs; cases hs
  | cons x rest =>
    rw [hd] at hs
    simp only at hs
    cases hst : l.snd.step (.ack x) with
    | reject w => rw [hst] at hs; cases hs
    | error e => rw [hst] at hs; cases hs
    | ok s' outs =>
      rw [hst] at hs
      injection hs with hs
      exact ⟨x, rest, s', outs, rfl, hst, hs.symm⟩

theorem ackArriveAt_eq {l l' : Loop ℚ} {i : Nat} (hs : l.ackArriveAt i = some l') :
    ∃ x s' outs, x ∈ l.acks ∧ l.snd.step (.ack x) = .ok s' outs ∧
      l' = { l with snd := s', acks := l.acks.eraseIdx i, data := l.data ++ outs } := by
  unfold Loop.ackArriveAt at hs
  cases hd : l.acks[i]? with
  | none => rw [hd] at hs; cases hs
  | some x =>
    rw [hd] at hs
    simp only at hs
    cases hst : l.snd.step (.ack x) with
    | reject w => rw [hst] at hs; cases hs
    | error e => rw [hst] at hs; cases hs
    | ok s' outs =>
      rw [hst] at hs
      injection hs with hs
      exact ⟨x, s', outs, List.mem_of_getElem? hd, hst, hs.symm⟩

theorem dropData_eq {l l' : Loop ℚ} {i : Nat} (hs : l.step (.dropData i) = some l') :
    i < l.data.length ∧ l' = { l with data := l.data.eraseIdx i } := by
  unfold Loop.step at hs
  simp only at hs
  split_ifs at hs with hi
  injection hs with hs
  exact ⟨hi, hs.symm⟩

theorem dropAck_eq {l l' : Loop ℚ} {i : Nat} (hs : l.step (.dropAck i) = some l') :
    i < l.acks.length ∧ l' = { l with acks := l.acks.eraseIdx i } := by
  unfold Loop.step at hs
  simp only at hs
  split_ifs at hs with hi
  injection hs with hs
  exact ⟨hi, hs.symm⟩

structure J (l : Loop ℚ) : Prop where
  snd : Inv l.snd
  mss_pos : 0 < l.snd.mss
  sink : Sep l.sink
  data : ∀ tx ∈ l.data, tx.size = l.snd.mss
  acks : ∀ a ∈ l.acks, 10000 ≤ a.fid ∧ (∀ b, b < a.ackno → Covers l.sink b) ∧ Covers l.sink a.pid
  issued : ∀ q ∈ l.issued, Covers l.sink q ∨ q ∈ AL.keys l.snd.timers

theorem J_init (s : Sender ℚ) (h : Inv s) (hm : 0 < s.mss) : J (Loop.init s) :=
  ⟨h, hm, sep_nil, fun tx htx => by simp [Loop.init] at htx, fun a ha => by simp [Loop.init] at ha,
   fun q hq => by simp [Loop.init] at hq⟩

theorem mem_newSeqs {outs : List (Tx ℚ)} {q : Nat} (h : q ∈ Loop.newSeqs outs) : ∃ tx ∈ outs, tx.kind = .new ∧ tx.seq = q := by
  unfold Loop.newSeqs at h
  obtain ⟨tx, htx, rfl⟩ := List.mem_map.mp h
  obtain ⟨h1, h2⟩ := List.mem_filter.mp htx
  exact ⟨tx, h1, by simpa using h2, rfl⟩

/-- an accepted sender action keeps the joint invariant; if it is the arrival of an ACK, that ACK was backed by the
sink; `iss`: the segments issued before or sent as new by this action -/
theorem J_snd {l : Loop ℚ} {a : Act ℚ} {s' : Sender ℚ} {outs : List (Tx ℚ)} {acks' : List (AckIn ℚ)} {iss : List Nat}
    (h : J l) (haok : ActOk a) (hst : l.snd.step a = .ok s' outs) (hsub : ∀ y ∈ acks', y ∈ l.acks)
    (hiss : ∀ q ∈ iss, q ∈ l.issued ∨ q ∈ Loop.newSeqs outs)
    (hx : ∀ x, a = .ack x → (∀ b, b < x.ackno → Covers l.sink b) ∧ Covers l.sink x.pid) :
    J { snd := s', sink := l.sink, data := l.data ++ outs, acks := acks', issued := iss } := by
  have m := (step_moved h.snd a haok).2 _ _ hst
  refine ⟨m.inv, by rw [m.mss]; exact h.mss_pos, h.sink, ?_, fun y hy => h.acks y (hsub y hy), ?_⟩
  · intro tx htx
    rw [m.mss]
    rcases List.mem_append.mp htx with e | e
    · exact h.data tx e
    · exact m.size tx e
  · intro q hq
    rcases hiss q hq with e | e
    · rcases h.issued q e with c | c
      · exact Or.inl c
      · rcases m.keep q c with hk | ⟨x, ex, _, hcover⟩
        · exact Or.inr hk
        · exact Or.inl (hcover.elim ((hx x ex).1 q) (fun heq => heq ▸ (hx x ex).2))
    · obtain ⟨tx, htx, hk, rfl⟩ := mem_newSeqs e
      exact Or.inr (m.new tx htx hk)

/-- the arrival of any ACK in flight keeps the joint invariant, whatever part of the ACK path remains -/
theorem J_ack {l : Loop ℚ} {x : AckIn ℚ} {s' : Sender ℚ} {outs : List (Tx ℚ)} {acks' : List (AckIn ℚ)} (h : J l)
    (hmem : x ∈ l.acks) (hst : l.snd.step (.ack x) = .ok s' outs) (hsub : ∀ a ∈ acks', a ∈ l.acks) :
    J { l with snd := s', acks := acks', data := l.data ++ outs } :=
  J_snd (a := .ack x) h (h.acks x hmem).1 hst hsub (fun _ hq => Or.inl hq)
    (fun y ey => by injection ey with ey; subst ey; exact (h.acks x hmem).2)

theorem J_step {l l' : Loop ℚ} {a : LAct ℚ} (h : J l) (hs : l.step a = some l') : J l' := by
  cases a with
  | own act =>
    obtain ⟨s', outs, hack, hst, rfl⟩ := own_eq hs
    obtain ⟨haok, hna⟩ := isAck_false hack
    exact J_snd h haok hst (fun _ hy => hy) (fun _ hq => List.mem_append.mp hq) (fun x ex => absurd ex (hna x))
  | deliver =>
    obtain ⟨tx, rest, n, hd, hp, rfl⟩ := deliver_eq h.sink hs
    obtain ⟨hsep', hcov'⟩ := packetArrived_spec l.sink tx.seq tx.size h.sink
    have hmono : ∀ b, Covers l.sink b → Covers (packetArrived l.sink tx.seq tx.size) b :=
      fun b hb => (hcov' b).mpr (Or.inl hb)
    have hsz : tx.size = l.snd.mss := h.data tx (by rw [hd]; exact List.mem_cons_self)
    refine ⟨h.snd, h.mss_pos, hsep', fun t ht => h.data t (by rw [hd]; exact List.mem_cons_of_mem _ ht), ?_, ?_⟩
    · intro a ha
      rcases List.mem_append.mp ha with e | e
      · obtain ⟨a1, a2, a3⟩ := h.acks a e
        exact ⟨a1, fun b hb => hmono b (a2 b hb), hmono _ a3⟩
      · simp at e; subst e
        refine ⟨Nat.le_refl _, hp.1, (hcov' _).mpr (Or.inr ⟨Nat.le_refl _, ?_⟩)⟩
        show tx.seq < tx.seq + tx.size
        have := h.mss_pos; omega
    · intro q hq
      rcases h.issued q hq with c | c
      · exact Or.inl (hmono q c)
      · exact Or.inr c
  | ackArrive =>
    obtain ⟨x, rest, s', outs, hd, hst, rfl⟩ := ackArrive_eq hs
    exact J_ack h (by rw [hd]; exact List.mem_cons_self) hst (fun a ha => by rw [hd]; exact List.mem_cons_of_mem _ ha)
  | dropData i =>
    obtain ⟨_, rfl⟩ := dropData_eq hs
    exact ⟨h.snd, h.mss_pos, h.sink, fun tx htx => h.data tx (List.mem_of_mem_eraseIdx htx), h.acks, h.issued⟩
  | dropAck i =>
    obtain ⟨_, rfl⟩ := dropAck_eq hs
    exact ⟨h.snd, h.mss_pos, h.sink, h.data, fun a ha => h.acks a (List.mem_of_mem_eraseIdx ha), h.issued⟩

inductive LReach (l0 : Loop ℚ) : Loop ℚ → Prop
  | init : LReach l0 l0
  | step {l l' : Loop ℚ} {a : LAct ℚ} : LReach l0 l → l.step a = some l' → LReach l0 l'

theorem reach_J {l0 l : Loop ℚ} (h0 : J l0) (hr : LReach l0 l) : J l := by
  induction hr with
  | init => exact h0
  | step _ hs ih => exact J_step ih hs

end TcpLoop
