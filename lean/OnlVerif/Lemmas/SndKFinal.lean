import OnlVerif.Lemmas.SndKAbs
/-!
# The TCP sender on the kernel model: reachable states, runs, and the transfer of the LTS theorems
-/


namespace SndK
open SenderOnK TcpSender TcpCC

/-- what the theorems assume of a sender, its flow and the network script: a congestion-control object that satisfies the
invariant of C17 (`cwnd ≥ mss > 0`, `ssthresh ≥ 0`; for CUBIC `W_last_max = 0`, `beta ≠ 2`), a positive initial
`rtt_estimate`, a positive MSS, a positive flow size that is a multiple of the MSS, and a script with non-negative gaps
whose ACK packets carry `flow_id ≥ 10000` and are not stamped in the future of their delivery -/
structure Setup (cfg : Cfg) (cc : CCState ℚ) (rtt : ℚ) (script : Script) : Prop where
  cc : CCInv cfg.kind cc
  rtt : 0 < rtt
  mss : 0 < cfg.mss
  size : 0 < cfg.size
  dvd : cfg.mss ∣ cfg.size
  script : ScriptOK 0 script

/-- the LTS state of a freshly constructed generator -/
def S0 (cfg : Cfg) (cc : CCState ℚ) (rtt : ℚ) : Sender ℚ := Sender.init cfg.kind cc rtt cfg.mss (some cfg.size) 0

/-- **every reachable kernel state has a configuration that satisfies the invariants**, and the sender LTS accepts an action
sequence from the initial LTS state to the LTS state of that configuration whose transmissions are the `tx` observations -/
theorem reach_inv {cfg : Cfg} {cc : CCState ℚ} {rtt : ℚ} {script : Script} (hs : Setup cfg cc rtt script) (fuel : Nat)
    {s : KS} (hr : KReach (body cfg) (fuel + 1) (initState cc rtt script) s) :
    ∃ a acts outs, KI none s a ∧ AInv cfg a ∧ runLts (S0 cfg cc rtt) acts = .ok a.S outs ∧ a.txs = outs.map txPair ∧
      ∀ x ∈ acts, ActOk x := by
  induction hr with
  | init =>
    exact ⟨a0 cfg cc rtt script, [], [], ki_init cfg cc rtt script,
      ainv_init cfg cc rtt script hs.cc hs.rtt hs.mss hs.size hs.dvd hs.script, rfl, rfl, fun x hx => by cases hx⟩
  | @step s s' _ hst ih =>
    obtain ⟨a, acts, outs, hk, hi, hrun, htx, hok⟩ := ih
    cases hp : popMin s.agenda with
    | none => simp [step, hp, StepResult.state?] at hst
    | some qr =>
      obtain ⟨q, rest⟩ := qr
      obtain ⟨s2, a2, acts2, outs2, g1, g2, g3, g4, g5, g6⟩ := inv_step fuel hk hi hp
      rw [g1] at hst
      simp only [StepResult.state?, Option.some.injEq] at hst
      subst hst
      refine ⟨a2, acts ++ acts2, outs ++ outs2, g2, g3, runLts_append hrun g4, ?_, ?_⟩
      · rw [g5, htx, List.map_append]
      · intro x hx
        rcases List.mem_append.mp hx with h | h
        · exact hok x h
        · exact g6 x h

def Along (P : Sender ℚ → Act ℚ → Sender ℚ → List (Tx ℚ) → Prop) : Sender ℚ → List (Act ℚ) → Prop
  | _, [] => True
  | S, x :: xs => ∃ S' o, S.step x = .ok S' o ∧ P S x S' o ∧ Along P S' xs

theorem along_of_run {P : Sender ℚ → Act ℚ → Sender ℚ → List (Tx ℚ) → Prop}
    (hP : ∀ S x S' o, TcpSender.Inv S → ActOk x → S.step x = .ok S' o → P S x S' o) :
    ∀ (acts : List (Act ℚ)) (S S' : Sender ℚ) (outs : List (Tx ℚ)), TcpSender.Inv S → (∀ x ∈ acts, ActOk x) →
      runLts S acts = .ok S' outs → Along P S acts ∧ TcpSender.Inv S'
  | [], S, S', outs, hi, _, hr => by
    cases hr
    exact ⟨trivial, hi⟩
  | x :: xs, S, S', outs, hi, hok, hr => by
    obtain ⟨S1, o, o2, hx, hr2, rfl⟩ := runLts_cons.mp hr
    have hi1 : TcpSender.Inv S1 := (step_safe hi x (hok x List.mem_cons_self)).2 _ _ hx
    obtain ⟨i1, i2⟩ := along_of_run hP xs S1 S' o2 hi1 (fun y hy => hok y (List.mem_cons_of_mem _ hy)) hr2
    exact ⟨⟨S1, o, hx, hP S x S1 o hi (hok x List.mem_cons_self) hx, i1⟩, i2⟩

theorem reach_of_run : ∀ (acts : List (Act ℚ)) (S0 S S' : Sender ℚ) (outs : List (Tx ℚ)), Reach S0 S →
    (∀ x ∈ acts, ActOk x) → runLts S acts = .ok S' outs → Reach S0 S'
  | [], _, S, S', outs, hr0, _, hr => by
    cases hr
    exact hr0
  | x :: xs, S0, S, S', outs, hr0, hok, hr => by
    obtain ⟨S1, o, o2, hx, hr2, rfl⟩ := runLts_cons.mp hr
    exact reach_of_run xs S0 S1 S' o2 (Reach.step hr0 (hok x List.mem_cons_self) hx)
      (fun y hy => hok y (List.mem_cons_of_mem _ hy)) hr2

/-- **one kernel step of a reachable state**: it is normal, the abstraction of the state satisfies the LTS invariant, and the
LTS accepts an action sequence (with well-formed ACKs) between the abstractions of the two states whose transmissions are the
`tx` observations the step appended -/
theorem step_events {cfg : Cfg} {cc : CCState ℚ} {rtt : ℚ} {script : Script} (hs : Setup cfg cc rtt script) (fuel : Nat)
    {s s' : KS} (hr : KReach (body cfg) (fuel + 1) (initState cc rtt script) s)
    (hstep : (step (body cfg) (fuel + 1) s).state? = some s') :
    step (body cfg) (fuel + 1) s = .ok s' ∧ TcpSender.Inv (absSender cfg s) ∧
    ∃ acts outs, runLts (absSender cfg s) acts = .ok (absSender cfg s') outs ∧
      txsOf s'.trace = txsOf s.trace ++ outs.map txPair ∧ ∀ x ∈ acts, ActOk x := by
  obtain ⟨a, _, _, hk, hi, _, _, _⟩ := reach_inv hs fuel hr
  cases hp : popMin s.agenda with
  | none => simp [step, hp, StepResult.state?] at hstep
  | some qr =>
    obtain ⟨q, rest⟩ := qr
    obtain ⟨s2, a2, acts2, outs2, g1, g2, g3, g4, g5, g6⟩ := inv_step fuel hk hi hp
    rw [g1] at hstep
    simp only [StepResult.state?, Option.some.injEq] at hstep
    subst hstep
    refine ⟨g1, by rw [abs_eq hk hi]; exact hi.inv, acts2, outs2, ?_, ?_, g6⟩
    · rw [abs_eq hk hi, abs_eq g2 g3]; exact g4
    · have h1 : txsOf s.trace = a.txs := hk.k.tx
      have h2 : txsOf s2.trace = a2.txs := g2.k.tx
      rw [h1, h2, g5]

theorem step_ok_or_empty {cfg : Cfg} {cc : CCState ℚ} {rtt : ℚ} {script : Script} (hs : Setup cfg cc rtt script) (fuel : Nat)
    {s : KS} (hr : KReach (body cfg) (fuel + 1) (initState cc rtt script) s) :
    (∃ s', step (body cfg) (fuel + 1) s = .ok s') ∨ step (body cfg) (fuel + 1) s = .empty := by
  obtain ⟨a, _, _, hk, hi, _, _, _⟩ := reach_inv hs fuel hr
  cases hp : popMin s.agenda with
  | none => right; simp [step, hp]
  | some qr =>
    obtain ⟨q, rest⟩ := qr
    obtain ⟨s2, _, _, _, g1, _⟩ := inv_step fuel hk hi hp
    exact Or.inl ⟨s2, g1⟩

/-- the states the `while True: self.step()` loop of `run()` goes through are reachable -/
theorem runLoop_reach {b : St → Resume → Burst ℚ St} {fuel : Nat} {s0 : KS}
    (hok : ∀ s, KReach b fuel s0 s → (∃ s', step b fuel s = .ok s') ∨ step b fuel s = .empty) :
    ∀ (n : Nat) (s : KS), KReach b fuel s0 s →
      ∃ s', lastState (runLoop b fuel none n s) = some s' ∧ KReach b fuel s0 s'
  | 0, s, h => ⟨s, rfl, h⟩
  | n + 1, s, h => by
    rcases hok s h with ⟨s', hs⟩ | hs
    · have := runLoop_reach hok n s' (KReach.step h (by rw [hs]; rfl))
      simpa [runLoop, hs] using this
    · exact ⟨s, by simp [runLoop, hs, lastState], h⟩

theorem ackOk_of_step {S S' : Sender ℚ} {x : AckIn ℚ} {o : List (Tx ℚ)} (hx : ActOk (.ack x)) (h : S.step (.ack x) = .ok S' o) :
    AckOk S x := by
  refine ⟨hx, ?_⟩
  by_contra hc
  have : S.step (.ack x) = .reject .fromFuture := by
    show S.ackStep x = _
    unfold Sender.ackStep
    have h1 : ¬ x.fid < 10000 := Nat.not_lt.mpr hx
    simp only [h1, if_false, not_le.mp hc, if_true]
  rw [this] at h; cases h


end SndK
