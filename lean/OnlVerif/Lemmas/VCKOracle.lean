import OnlVerif.Lemmas.VCKAbs
/-!
# The VirtualClock scheduler on the kernel model: the history of every run passes the property's oracle

`OInv` relates the state of the oracle (`VCOnK.ostep`) after the history so far to the configuration; what it says about the
hand-off (`waiting`, `cand`) is one of the three clauses of `Lemmas/StampKCommon.lean`, chosen by the phase of `run`.
-/


namespace VCK
open VCOnK QEntry

export StampK (toW HandB HandW HandH)

variable (N scale F : Nat) (flow size : Int → Nat) (cfg : VcCfg ℚ)

/-- what the phase of `run` says about the oracle: the hand-off situation, the packet in transmission, the last departure -/
def PhO (a : A) (now : ℚ) (o : OSt ℚ) : RPhase → Prop
  | .init q => HandB a.items o.waiting o.cand ∧ o.busy = none ∧ o.lastOut = none ∧ q.time = 0
  | .W _ => HandW a.items a.pend a.src.entries now o.waiting o.cand ∧ o.busy = none
  | .H _ w q => HandH flow a.items w q.time o.waiting o.cand ∧ o.busy = none
  | .S _ id q => HandB a.items o.waiting o.cand ∧ o.busy = some (id, q.time)
  | .T _ _ id q => HandB a.items o.waiting o.cand ∧ ∃ s0, o.busy = some (id, s0) ∧ q.time = s0 + txTime size cfg.rate id
  | .F _ _ q => HandB a.items o.waiting o.cand ∧ o.busy = none ∧ o.lastOut = some q.time

/-- the oracle is in the state the configuration stands for -/
structure OInv (a : A) (now : ℚ) (o : OSt ℚ) : Prop where
  aux : o.aux = a.aux
  pend : o.pend = none
  ph : PhO flow size cfg a now o a.run
  /-- `aux_vc` of a class is not below any stamp of that class -/
  auxGe : ∀ w ∈ a.puts, w.2.2 ≤ a.aux (flow w.1)
  /-- the stamps of one flow increase strictly along its `put`s -/
  fl : a.puts.Pairwise fun x y => flow x.1 = flow y.1 → x.2.2 < y.2.2

variable {N scale F flow size cfg}

theorem eqT_iff (x y : ℚ) : eqT x y ↔ x = y := incomp_iff x y

theorem orun_nil (o : OSt ℚ) : orun flow size cfg o [] = some o := rfl

theorem orun_one (o o' : OSt ℚ) (ev : HEv ℚ) (h : ostep flow size cfg o ev = some o') :
    orun flow size cfg o [ev] = some o' := by
  simp [orun, h]

theorem candPut_none (w : WItem ℚ) : candPut (none : Option (List (WItem ℚ) × ℚ)) w = none := rfl

theorem candPut_nil (t : ℚ) (w : WItem ℚ) : candPut (some ([], t)) w = some ([w], w.2.2) := rfl

theorem srcNext_eid (t : ℚ) (eid ev : Nat) (arr : List (ℚ × Int)) : ∀ x ∈ (srcNext t eid ev arr).entries, x.eid = eid := by
  intro x hx
  cases arr with
  | nil | cons y r => rw [List.mem_singleton.mp hx]

variable {a a' : A} {now : ℚ} {q : QEntry ℚ} {n e : Nat} {new : List (HEv ℚ)} {o : OSt ℚ}

/-- outside phase `W` the clause of the phase reads only `items` of the configuration -/
theorem PhO.congr {a a' : A} {now now' : ℚ} {o : OSt ℚ} {r : RPhase} (h : PhO flow size cfg a now o r)
    (hit : a'.items = a.items)
    (hW : ∀ g, r = .W g → HandW a.items a.pend a.src.entries now o.waiting o.cand →
      HandW a'.items a'.pend a'.src.entries now' o.waiting o.cand) : PhO flow size cfg a' now' o r := by
  cases r with
  | W g => exact ⟨hW g rfl h.1, h.2⟩
  | _ => unfold PhO at h ⊢; rw [hit]; exact h

theorem oinv_init (arrivals : List (ℚ × Int)) : OInv flow size cfg (a0 arrivals) 0 oInit :=
  ⟨funext fun _ => Stamp.zero_eq_q, rfl, ⟨⟨rfl, rfl⟩, rfl, rfl, rfl⟩, fun _ hw => (nomatch hw), List.Pairwise.nil⟩

/-- **letting the clock advance to the next entry changes nothing** -/
theorem oinv_advance (hi : AInv N scale F flow cfg a now) (hq : IsMin a q) (ho : OInv flow size cfg a now o) :
    OInv flow size cfg a q.time o := by
  rcases eq_or_lt_of_le (hi.now_le hq) with h | h
  · rw [← h]; exact ho
  refine ⟨ho.aux, ho.pend, ho.ph.congr rfl fun g hr hw => hw.of_nil (hi.items_nil hr ?_), ho.auxGe, ho.fl⟩
  -- an entry due now would have been taken first
  exact List.eq_nil_iff_forall_not_mem.mpr fun u hu => min_ne_now hi.due hq h u (mem_pend hu) (hi.pend u hu).1

/-- **at the end of a run everything has been served** -/
theorem oinv_final (hi : AInv N scale F flow cfg a now) (ho : OInv flow size cfg a now o) (hend : a.entries = []) :
    drained o = true := by
  have hph := ho.ph
  simp only [A.entries, List.append_eq_nil_iff] at hend
  obtain ⟨hre, -, hpe⟩ := hend
  cases hr : a.run with
  | W g =>
    rw [hr] at hph
    obtain ⟨⟨h2, ⟨t, h3, -⟩, -, -⟩, h1⟩ := hph
    rw [hi.items_nil hr hpe] at h2 h3
    simp [drained, h1, h2, h3, ho.pend]
  | _ => rw [hr] at hre; cases hre

/-- `run` may ask for the next packet in the instant of the last departure (`none`: at instant 0) -/
theorem getOK_of {t : ℚ} (hb : o.busy = none) (hc : o.cand = none) (hp : o.pend = none)
    (hl : o.lastOut = some t ∨ (o.lastOut = none ∧ t = 0)) : GetOK o t := by
  refine ⟨by rw [hb]; rfl, by rw [hc]; rfl, by rw [hp]; rfl, ?_⟩
  rcases hl with hl | ⟨hl, rfl⟩ <;> rw [hl]
  · exact (eqT_iff _ _).mpr rfl
  · exact (eqT_iff _ _).mpr Stamp.zero_eq_q.symm

/-- `run` calls `store.get()` (phases `init` and `F`): the oracle accepts the `get`; what the new phase says about the
hand-off is left to the caller -/
theorem oinv_get (ho : OInv flow size cfg a q.time o) (hG : GetOK o q.time) (a' : A) (hputs : a'.puts = a.puts)
    (haux : a'.aux = a.aux) (hph : PhO flow size cfg a' q.time { o with cand := some (o.waiting, q.time) } a'.run) :
    ∃ o', orun flow size cfg o [.get q.time] = some o' ∧ OInv flow size cfg a' q.time o' :=
  ⟨{ o with cand := some (o.waiting, q.time) }, orun_one _ _ _ (by simp [ostep, hG]), by rw [haux]; exact ho.aux, ho.pend, hph,
    by rw [hputs, haux]; exact ho.auxGe, by rw [hputs]; exact ho.fl⟩

/-- the two observations of a `put` -/
theorem orun_put {id : Int} {t x : ℚ} (hp : o.pend = none) (hs : StampOK flow cfg o id t x) :
    orun flow size cfg o [.put id t, .stamp x] =
      some { o with pend := none, aux := setA o.aux (flow id) x, waiting := o.waiting ++ [(id, x, t)],
                    cand := candPut o.cand (id, x, t) } := by
  have hs' : StampOK flow cfg { o with pend := some (id, t) } id t x := hs
  simp [orun, ostep, hp, hs']

/-- a `put`, phase by phase -/
theorem pho_put {u : QEntry ℚ} {r : PutRec} (hph : PhO flow size cfg a now o a.run) (a' : A) (hrun : a'.run = a.run)
    (hitems : a'.items = a.items ++ [r]) (hpend : a'.pend = a.pend ++ [u]) (hr1 : r.2.1 = now)
    (hH : ∀ g w q0, a.run = .H g w q0 → r.1 ≠ w.1)
    (hW : ∀ g, a.run = .W g → a.items = [] ∧ ∀ x ∈ a'.src.entries, u.eid < x.eid)
    (o' : OSt ℚ) (hb : o'.busy = o.busy) (hl : o'.lastOut = o.lastOut) (hw : o'.waiting = o.waiting ++ [toW r])
    (hc : o'.cand = candPut o.cand (toW r)) : PhO flow size cfg a' now o' a'.run := by
  rw [hrun]
  cases hr : a.run with
  | W g =>
    rw [hr] at hph
    simp only [PhO, hitems, hpend, hb, hw, hc]
    exact ⟨hph.1.put (hW g hr).1 hr1 u (hW g hr).2, hph.2⟩
  | H g w q0 =>
    rw [hr] at hph
    simp only [PhO, hitems, hb, hw, hc]
    exact ⟨hph.1.put (hH g w q0 hr), hph.2⟩
  | _ =>
    rw [hr] at hph
    simp only [PhO, hitems, hb, hl, hw, hc]
    exact ⟨hph.1.put r, hph.2⟩

/-- **the stamp rule at an arrival**: the oracle accepts the `put` and `stamp` observations -/
theorem oinv_put (hi : AInv N scale F flow cfg a q.time) (hq : IsMin a q) (ho : OInv flow size cfg a q.time o) {id : Int}
    {arr : List (ℚ × Int)} (h : a.src = .wait id arr q) (r : PutRec) (hr : r = putRec flow cfg a q.time id)
    (a' : A) (u : QEntry ℚ) (hu : u.eid = e) (ev : Nat) (hrun : a'.run = a.run) (hitems : a'.items = a.items ++ [r])
    (hpend : a'.pend = a.pend ++ [u]) (hsrc : a'.src = srcNext q.time (e + 1) ev arr)
    (haux : a'.aux = upd a.aux (flow id) r.2.2) (hputs : a'.puts = a.puts ++ [r]) :
    ∃ o', orun flow size cfg o [.put id q.time, .stamp r.2.2] = some o' ∧ OInv flow size cfg a' q.time o' := by
  have hs := hi.src
  rw [h] at hs
  obtain ⟨hqp, hwk, -, hids⟩ := hs
  obtain ⟨-, hfid, -, -, -⟩ := hwk.gap (0, id) (by simp)
  obtain ⟨vt, hvl, hvpos⟩ := hi.cfgOK.vt (flow id) hfid
  have hvt : vtOf cfg (flow id) = vt := by simp [vtOf, hvl]
  have hr0 : r.1 = id := by rw [hr]; rfl
  have hr1 : r.2.1 = q.time := by rw [hr]; rfl
  have hr22 : r.2.2 = max q.time (a.aux (flow id)) + vt := by
    rw [hr]; simp only [putRec]; rw [hvt, VC.auxOf_eq]
  have hgt : a.aux (flow id) < r.2.2 := by
    rw [hr22]
    have := le_max_right q.time (a.aux (flow id))
    linarith
  have hS : StampOK flow cfg o id q.time r.2.2 :=
    ⟨(flow id, vt), lookup_mem _ _ _ hvl, rfl, (eqT_iff _ _).mpr (by rw [ho.aux, hr22, Num.pymax_eq])⟩
  have hrw : ((id, r.2.2, q.time) : WItem ℚ) = toW r := by rw [← hr0, ← hr1]; rfl
  refine ⟨_, orun_put ho.pend hS, ?_, rfl, ?_, ?_, ?_⟩
  · show setA o.aux (flow id) r.2.2 = a'.aux
    rw [haux, ho.aux]; rfl
  · refine pho_put ho.ph a' hrun hitems hpend hr1 ?_ ?_ _ rfl rfl (by rw [← hrw]) (by rw [← hrw])
    · intro g w q0 hrr
      have hp := hi.run
      rw [hrr] at hp
      have := hids w hp.2.2.2.1
      rw [hr0]; omega
    · intro g hrr
      have hph := ho.ph
      rw [hrr] at hph
      refine ⟨?_, ?_⟩
      · by_contra hne
        obtain ⟨u0, hu0, hlt⟩ := hph.1.2.2.2 hne
        have h1 := hlt q (by rw [h]; simp [SPhase.entries])
        obtain ⟨h2, h3⟩ := hi.pend u0 hu0
        exact hq.2 u0 (mem_pend hu0) (Or.inr ⟨h2, Or.inr ⟨h3.trans hqp.symm, h1⟩⟩)
      · intro x hx
        rw [hsrc] at hx
        rw [srcNext_eid _ _ _ _ x hx, hu]
        exact Nat.lt_succ_self e
  · rw [hputs, haux]
    refine List.forall_mem_append.mpr ⟨fun w hw => ?_, List.forall_mem_singleton.mpr (by rw [hr0, upd_same])⟩
    by_cases hf : flow w.1 = flow id
    · rw [hf, upd_same]
      have := ho.auxGe w hw
      rw [hf] at this
      linarith
    · rw [upd_ne _ _ _ _ hf]
      exact ho.auxGe w hw
  · rw [hputs]
    refine List.pairwise_append.mpr ⟨ho.fl, List.pairwise_singleton _ _, fun x hx => List.forall_mem_singleton.mpr fun hf => ?_⟩
    have := ho.auxGe x hx
    rw [hf, hr0] at this
    linarith

/-- **every configuration step keeps the oracle's invariant**: the observations of the step are accepted -/
theorem oracle_step (hi : AInv N scale F flow cfg a q.time) (hq : IsMin a q) (he : ∀ x ∈ a.entries, x.eid < e)
    (ho : OInv flow size cfg a q.time o) (h : AStep N scale flow size cfg n e a q a' new) :
    ∃ o', orun flow size cfg o new = some o' ∧ OInv flow size cfg a' q.time o' := by
  have hrun := hi.run
  have hph := ho.ph
  have hfl : a.items.Pairwise fun x y => flow x.1 = flow y.1 → x.2.2 ≤ y.2.2 :=
    (ho.fl.sublist hi.sub).imp fun h e => (h e).le
  -- the steps that leave the oracle where it is
  have stay : ∀ a' : A, a'.puts = a.puts → a'.aux = a.aux → PhO flow size cfg a' q.time o a'.run →
      ∃ o', orun flow size cfg o [] = some o' ∧ OInv flow size cfg a' q.time o' :=
    fun a' e1 e2 hp => ⟨o, rfl, e2 ▸ ho.aux, ho.pend, hp, by rw [e1, e2]; exact ho.auxGe, by rw [e1]; exact ho.fl⟩
  cases h with
  | runInit h =>
    rw [h] at hph hrun
    obtain ⟨hB, h3, h2, h1⟩ := hph
    exact oinv_get ho (getOK_of h3 hB.1 ho.pend (Or.inr ⟨h2, h1⟩)) _ rfl rfl ⟨hB.get_block hrun.2.2.2.1 _, h3⟩
  | doneBlock p id0 h hit =>
    rw [h] at hph
    obtain ⟨hB, h1, h3⟩ := hph
    exact oinv_get ho (getOK_of h1 hB.1 ho.pend (Or.inl h3)) _ rfl rfl ⟨hB.get_block hit _, h1⟩
  | doneHit p id0 w h hw =>
    rw [h] at hph
    obtain ⟨hB, h1, h3⟩ := hph
    exact oinv_get ho (getOK_of h1 hB.1 ho.pend (Or.inl h3)) _ rfl rfl ⟨hB.get_hit hi.putsOK hi.sub hfl hw _, h1⟩
  | pktResume g w h =>
    rw [h] at hph
    obtain ⟨hH, h1⟩ := hph
    obtain ⟨-, ⟨l, h4, h5, h6⟩, h7⟩ := id hH
    have hok : ServeOK flow o w.1 q.time := by
      unfold ServeOK
      rw [h4]
      exact ⟨by simp [h1], by simp [ho.pend], (eqT_iff _ _).mpr rfl, toW w, h5, rfl, h6, h7⟩
    exact ⟨{ o with waiting := o.waiting.filter (fun y => y.1 ≠ w.1), cand := none, busy := some (w.1, q.time) },
      orun_one _ _ _ (by simp [ostep, hok]), ho.aux, ho.pend, ⟨hH.served, rfl⟩, ho.auxGe, ho.fl⟩
  | sendInit p id h =>
    rw [h] at hph
    exact stay _ rfl rfl ⟨hph.1, q.time, hph.2, rfl⟩
  | sendFire p t id h =>
    rw [h] at hph
    obtain ⟨hB, s0, h3, h4⟩ := hph
    have hok : OutOK size cfg.rate o id q.time := by
      unfold OutOK
      rw [h3]
      exact ⟨rfl, (eqT_iff _ _).mpr h4⟩
    exact ⟨{ o with busy := none, lastOut := some q.time }, orun_one _ _ _ (by simp [ostep, hok]), ho.aux, ho.pend,
      ⟨hB, rfl, rfl⟩, ho.auxGe, ho.fl⟩
  | srcInit arr h =>
    refine stay _ rfl rfl (hph.congr rfl fun g _ hw => hw.src fun u hu x hx => ?_)
    rw [srcNext_eid _ _ _ _ x hx]
    exact he u (mem_pend hu)
  | srcEnd h => exact stay _ rfl rfl (hph.congr rfl fun g _ hw => hw.src fun u hu x hx => nomatch hx)
  | pendNoop l1 l2 hpe hno =>
    exact stay _ rfl rfl (hph.congr rfl fun g hg hw => hw.of_nil (Classical.not_not.mp fun hne => hno ⟨hne, g, hg⟩))
  | srcPut id arr h =>
    exact oinv_put hi hq ho h _ rfl _ ⟨q.time, NORMAL, e, n⟩ rfl (n + 1) rfl rfl rfl rfl rfl rfl
  | pendHand g w l1 l2 hpe h hw =>
    rw [h] at hph
    exact stay _ rfl rfl ⟨hph.1.hand hw.1, hph.2⟩

theorem orun_append (o : OSt ℚ) (l1 l2 : List (HEv ℚ)) :
    orun flow size cfg o (l1 ++ l2) = (orun flow size cfg o l1).bind fun o' => orun flow size cfg o' l2 :=
  KExec.optRun_append (fun _ => rfl) (fun _ _ _ => rfl) o l1 l2

/-- the history form: if the oracle has accepted the history so far and stands in `OInv`, it accepts the history after the
step -/
theorem oracle_step_hist {hist : List (HEv ℚ)} (hi : AInv N scale F flow cfg a q.time) (hq : IsMin a q)
    (he : ∀ x ∈ a.entries, x.eid < e) (hr : orun flow size cfg oInit hist = some o) (ho : OInv flow size cfg a q.time o)
    (h : AStep N scale flow size cfg n e a q a' new) :
    ∃ o', orun flow size cfg oInit (hist ++ new) = some o' ∧ OInv flow size cfg a' q.time o' := by
  obtain ⟨o', h1, h2⟩ := oracle_step hi hq he ho h
  exact ⟨o', by rw [orun_append, hr]; exact h1, h2⟩

/-! ## the shape the clauses of both oracles share -/

/-- an `if`-guarded step is taken iff its guard holds -/
theorem isSome_ite_iff {α : Type} {c : Prop} [Decidable c] (x : α) : (if c then some x else none).isSome ↔ c := by
  by_cases h : c <;> simp [h]

/-- no smaller key, in Python's order of the tuples `(stamp, now)`: the negated `keyLt` of the oracles spelled out -/
theorem not_keyLt_iff (a1 a2 b1 b2 : ℚ) : ¬ (b1 < a1 ∨ (¬ a1 < b1 ∧ b2 < a2)) ↔ (a1 < b1 ∨ (a1 = b1 ∧ a2 ≤ b2)) := by
  rw [not_or, not_and, not_lt]
  constructor
  · rintro ⟨h1, h2⟩
    rcases lt_or_eq_of_le h1 with h | h
    · exact Or.inl h
    · exact Or.inr ⟨h, not_lt.mp (h2 (h ▸ lt_irrefl a1))⟩
  · rintro (h | ⟨h1, h2⟩)
    · exact ⟨le_of_lt h, fun h' => absurd h h'⟩
    · exact ⟨le_of_eq h1, fun _ => not_lt.mpr h2⟩

/-- the `serve` clause of an oracle when a hand-off with candidates `l` is under way since `th`: it is that of instant
`t` and one of its candidates with a minimal key is packet `id` (`lt` is the oracle's `keyLt`, `P` what else it asks) -/
theorem serve_clause_iff (l : List (Int × ℚ × ℚ)) (th : ℚ) (id : Int) (t : ℚ) (P : Prop)
    (lt : Int × ℚ × ℚ → Int × ℚ × ℚ → Prop)
    (hlt : ∀ w' w, ¬ lt w' w ↔ (w.2.1 < w'.2.1 ∨ (w.2.1 = w'.2.1 ∧ w.2.2 ≤ w'.2.2))) :
    ((¬ t < th ∧ ¬ th < t) ∧ ∃ w ∈ l, w.1 = id ∧ (∀ w' ∈ l, ¬ lt w' w) ∧ P) ↔
    ∃ l', some (l, th) = some (l', t) ∧
      ∃ w ∈ l', w.1 = id ∧ (∀ w' ∈ l', w.2.1 < w'.2.1 ∨ (w.2.1 = w'.2.1 ∧ w.2.2 ≤ w'.2.2)) ∧ P := by
  constructor
  · rintro ⟨⟨h1, h2⟩, w, hw, h3, h4, h5⟩
    obtain rfl : th = t := le_antisymm (not_lt.mp h1) (not_lt.mp h2)
    exact ⟨l, rfl, w, hw, h3, fun w' hw' => (hlt w' w).mp (h4 w' hw'), h5⟩
  · rintro ⟨l', h, w, hw, h3, h4, h5⟩
    cases h
    exact ⟨⟨lt_irrefl _, lt_irrefl _⟩, w, hw, h3, fun w' hw' => (hlt w' w).mpr (h4 w' hw'), h5⟩

end VCK
