import OnlVerif.Lemmas.RRKBasic
/-!
# The RR scheduler on the kernel model: the events of a phase, the cells, the observations

The events a phase names; what the attribute cells hold after a burst has written one of them (`Cells.*`); the history of
observations of a trace that grows.
-/

namespace RRK
open RROnK

attribute [rrk] body prog runServe runTake runWait sendBegin sendEnd schedPut putTail srcLoop
  addInt loadInt bad

theorem pendIds_nil : pendIds [] = [] := rfl
theorem pendIds_cons (u : QEntry ℚ × ResId) (l : List (QEntry ℚ × ResId)) : pendIds (u :: l) = u.1.ev :: pendIds l := rfl
theorem pendEntries_nil : pendEntries [] = [] := rfl
theorem pendEntries_cons (u : QEntry ℚ × ResId) (l : List (QEntry ℚ × ResId)) :
    pendEntries (u :: l) = u.1 :: pendEntries l := rfl

theorem RPhase.ids_init (q : QEntry ℚ) : (RPhase.init q).ids = [0, 1] := rfl
theorem RPhase.ids_W (g : EvId) : (RPhase.W g).ids = [0, g] := rfl
theorem RPhase.ids_K (g : EvId) (q : QEntry ℚ) : (RPhase.K g q).ids = [0, g] := rfl
theorem RPhase.ids_H (g : EvId) (i : Nat) (id : Int) (q : QEntry ℚ) : (RPhase.H g i id q).ids = [0, g] := rfl
theorem RPhase.ids_S (p : EvId) (i : Nat) (id : Int) (q : QEntry ℚ) : (RPhase.S p i id q).ids = [0, p, p + 1] := rfl
theorem RPhase.ids_T (p t : EvId) (i : Nat) (id : Int) (q : QEntry ℚ) : (RPhase.T p t i id q).ids = [0, p, t] := rfl
theorem RPhase.ids_F (p : EvId) (i : Nat) (id : Int) (q : QEntry ℚ) : (RPhase.F p i id q).ids = [0, p] := rfl
theorem SPhase.ids_init (q : QEntry ℚ) (arr : List (ℚ × Int)) : (SPhase.init q arr).ids = [2, 3] := rfl
theorem SPhase.ids_wait (id : Int) (rest : List (ℚ × Int)) (q : QEntry ℚ) : (SPhase.wait id rest q).ids = [2, q.ev] := rfl
theorem SPhase.ids_ending (q : QEntry ℚ) : (SPhase.ending q).ids = [2] := rfl
theorem SPhase.ids_done : SPhase.done.ids = [] := rfl

/-- an event that is not allocated yet is none of the listed ones -/
theorem fresh_notin {l : List Nat} {n : Nat} (h : ∀ e ∈ l, e < n) (k : Nat) : n + k ∉ l := KExec.fresh_notin h k

/-- a permutation goal about explicit concatenations, from a permutation hypothesis, by counting -/
macro "perm_count" h:ident : tactic =>
  `(tactic| (classical
             rw [List.perm_iff_count] at $h:ident ⊢
             intro z
             have hz := $h:ident z
             simp only [List.count_append, List.count_cons, List.count_nil] at hz ⊢
             omega))

namespace Cells
open KProc (upd)
variable {F : Nat} {f : Nat → Val} {recv : Int} {cur : Option Int} {cnt byt : Nat → Int} {keys : List Nat}
  (h : Cells F f recv cur cnt byt keys)
include h

theorem setRecv (v : Int) : Cells F (upd f cRecv (.int v)) v cur cnt byt keys :=
  ⟨by simp [upd], by simpa [upd, rrk] using h.c1, fun k hk => by simpa [upd, rrk] using h.cc k hk,
    fun k hk => by simpa [upd, rrk] using h.cb k hk, fun k hk => by simpa [upd, rrk] using h.ch k hk⟩

theorem setCur (c : Option Int) : Cells F (upd f cCur (curVal c)) recv c cnt byt keys :=
  ⟨by simpa [upd, rrk] using h.c0, by simp [upd], fun k hk => by simpa [upd, rrk] using h.cc k hk,
    fun k hk => by simpa [upd, rrk] using h.cb k hk, fun k hk => by simpa [upd, rrk] using h.ch k hk⟩

theorem setCnt (j : Nat) (v : Int) : Cells F (upd f (cCount j) (.int v)) recv cur (RRK.upd cnt j v) byt keys :=
  ⟨by simpa [upd, rrk] using h.c0, by simpa [upd, rrk] using h.c1,
    fun k hk => by by_cases hkj : k = j <;> simp [upd, RRK.upd, rrk, hkj, h.cc k hk],
    fun k hk => by simpa [upd, rrk] using h.cb k hk, fun k hk => by simpa [upd, rrk] using h.ch k hk⟩

theorem setByt (j : Nat) (v : Int) : Cells F (upd f (cBytes j) (.int v)) recv cur cnt (RRK.upd byt j v) keys :=
  ⟨by simpa [upd, rrk] using h.c0, by simpa [upd, rrk] using h.c1, fun k hk => by simpa [upd, rrk] using h.cc k hk,
    fun k hk => by by_cases hkj : k = j <;> simp [upd, RRK.upd, rrk, hkj, h.cb k hk],
    fun k hk => by simpa [upd, rrk] using h.ch k hk⟩

/-- `stores` gets the key `j` -/
theorem setHas (j : Nat) : Cells F (upd f (cHas j) (.int 1)) recv cur cnt byt (addKey keys j) :=
  ⟨by simpa [upd, rrk] using h.c0, by simpa [upd, rrk] using h.c1, fun k hk => by simpa [upd, rrk] using h.cc k hk,
    fun k hk => by simpa [upd, rrk] using h.cb k hk,
    fun k hk => by by_cases hkj : k = j <;> simp [upd, rrk, mem_addKey, hkj, h.ch k hk]⟩

/-- `put(packet)`: the packet is counted, and `stores` has the key of its flow -/
theorem put (flow size : Int → Nat) (id : Int) :
    Cells F (upd (upd (upd (upd f cRecv (.int (recv + 1))) (cCount (flow id)) (.int (cnt (flow id) + 1))) (cBytes (flow id))
        (.int (byt (flow id) + size id))) (cHas (flow id)) (.int 1))
      (recv + 1) cur (RRK.upd cnt (flow id) (cnt (flow id) + 1)) (RRK.upd byt (flow id) (byt (flow id) + size id))
      (addKey keys (flow id)) :=
  (((h.setRecv _).setCnt _ _).setByt _ _).setHas _

end Cells

theorem histOf_push (tr : Array (Obs ℚ)) (o : Obs ℚ) : histOf (tr.push o) = histOf tr ++ (histOf1 o).toList :=
  KExec.filterMap_push _ tr o

@[simp] theorem histOf1_resumed (p : EvId) (r : Resume) (t : ℚ) : histOf1 (Obs.resumed p r t) = none := rfl
@[simp] theorem histOf1_ended (p : EvId) (o : Outcome) (t : ℚ) : histOf1 (Obs.ended p o t) = none := rfl
@[simp] theorem histOf1_callErr (p : EvId) (x : Exc) (t : ℚ) : histOf1 (Obs.callErr p x t) = none := rfl
@[simp] theorem histOf1_put (p : EvId) (i : Int) (t : ℚ) : histOf1 (Obs.log p "put" (.int i) t) = some (.put i t) := by
  simp [histOf1]
@[simp] theorem histOf1_serve (p : EvId) (i : Int) (t : ℚ) : histOf1 (Obs.log p "serve" (.int i) t) = some (.serve i t) := by
  simp [histOf1]
@[simp] theorem histOf1_out (p : EvId) (i : Int) (t : ℚ) : histOf1 (Obs.log p "out" (.int i) t) = some (.out i t) := by
  simp [histOf1]

end RRK
