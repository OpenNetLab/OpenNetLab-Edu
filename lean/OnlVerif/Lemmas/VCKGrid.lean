import OnlVerif.Lemmas.VCKAbs
import Mathlib.Tactic.Linarith
import Mathlib.Tactic.Ring
/-!
# The VirtualClock scheduler on the kernel model: the grid `ℤ / scale` is closed under what `put` computes
-/


namespace VCK
open VCOnK

variable {scale : Nat}

theorem onGrid_zero : OnGrid scale 0 := ⟨0, by simp⟩

theorem onGrid_add {x y : ℚ} (hx : OnGrid scale x) (hy : OnGrid scale y) : OnGrid scale (x + y) := by
  obtain ⟨k, rfl⟩ := hx
  obtain ⟨l, rfl⟩ := hy
  exact ⟨k + l, by push_cast; rw [add_div]⟩

theorem onGrid_max {x y : ℚ} (hx : OnGrid scale x) (hy : OnGrid scale y) : OnGrid scale (max x y) := by
  rcases max_choice x y with h | h <;> rw [h] <;> assumption

theorem onGrid_pymax {x y : ℚ} (hx : OnGrid scale x) (hy : OnGrid scale y) : OnGrid scale (Num.pymax x y) := by
  unfold Num.pymax
  split <;> assumption

/-- the stamp of a `put` lies on the grid -/
theorem onGrid_auxOf {now a vt : ℚ} (hn : OnGrid scale now) (ha : OnGrid scale a) (hv : OnGrid scale vt) :
    OnGrid scale (VC.auxOf now a vt) := by
  rw [VC.auxOf_eq]
  exact onGrid_add (onGrid_max hn ha) hv

/-- the looked-up vtick lies on the grid -/
theorem onGrid_vtOf {cfg : VcCfg ℚ} (hg : ∀ kv ∈ cfg.vticks, OnGrid scale kv.2) (c : Nat) : OnGrid scale (vtOf cfg c) := by
  unfold vtOf
  cases h : Stamp.lookup cfg.vticks c with
  | none => exact onGrid_zero
  | some vt => exact hg (c, vt) (lookup_mem _ _ _ h)

end VCK
