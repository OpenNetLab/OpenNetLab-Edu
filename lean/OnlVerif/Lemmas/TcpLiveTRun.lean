import OnlVerif.Lemmas.TcpLiveTDecr
/-!
# Runs over paths with delay terminate, and only in the complete state (C16)
-/

open TcpScalar TcpSender TcpSink TcpLoop Sender

namespace TcpLive

variable {n : Nat} {L : TLoop ℚ}

/-- delivery instants for `k` packets entering a path: "at once" -/
theorem exists_ts (dT : List ℚ) (now : ℚ) (m : Nat) (hle : dT.length ≤ m) :
    ∃ ts : List ℚ, dT.length + ts.length = m ∧ ∀ t ∈ ts, now ≤ t :=
  ⟨List.replicate (m - dT.length) now, by simp; omega, fun t ht => by rw [List.eq_of_mem_replicate ht]⟩

/-- **no deadlock over timed paths**: while the kernel has something left to do, some step is possible -/
theorem tstep_progress (h : TInv n L) (hq : ¬ L.l.Quiescent) : ∃ L', TLoop.TStep L L' := by
  obtain ⟨a, l', hf, hs⟩ := fair_progress h.inv hq
  have burst : ∀ b : Act ℚ, (∀ t, b ≠ .tick t) → L.l.step (.own b) = some l' → ∃ L', TLoop.TStep L L' := by
    intro b hnt hs
    obtain ⟨_, outs, _, _, _, _, f3, _⟩ := own_step hs
    obtain ⟨ts, h1, h2⟩ := exists_ts L.dT l'.snd.now l'.data.length (by rw [f3, h.dlen]; simp)
    exact ⟨_, .burst b ts hnt hs h1 h2⟩
  cases hf with
  | wake fuel => exact burst _ (fun t e => by cases e) hs
  | handoff => exact burst _ (fun t e => by cases e) hs
  | fire q => exact burst _ (fun t e => by cases e) hs
  | deliver => exact ⟨_, .deliver L.l.snd.now hs (le_refl _)⟩
  | ackArrive =>
    obtain ⟨_, _, _, outs, _, _, _, _, f3, _⟩ := ack_step hs
    obtain ⟨ts, h1, h2⟩ := exists_ts L.dT l'.snd.now l'.data.length (by rw [f3, h.dlen]; simp)
    exact ⟨_, .ackArrive ts hs h1 h2⟩
  | tick t hd ha hlt hex =>
    have e1 : L.dT = [] := List.eq_nil_of_length_eq_zero (by rw [h.dlen, hd]; rfl)
    have e2 : L.aT = [] := List.eq_nil_of_length_eq_zero (by rw [h.alen, ha]; rfl)
    exact ⟨_, .tick t hs hlt (fun d hdm => by rw [e1] at hdm; simp at hdm) (fun d hdm => by rw [e2] at hdm; simp at hdm)
      (Or.inl hex)⟩

theorem tstep_acc (h : TInv n L) : Acc (fun b a => TLoop.TStep a b) L :=
  acc_of_lt5 (tmu n) (fun _ _ ha hs => ⟨TInv_step ha hs, tstep_decreases ha hs⟩) h

theorem tbstep_acc (k : Nat) : ∀ L : TLoop ℚ, TInv n L → Acc (fun b a => TLoop.TBStep a b) (k, L) := by
  refine acc_budget (fun L h => tstep_acc h) (fun k L y h hb => ?_) k
  have hI := TInv_bstep hb h
  cases hb with
  | step hf => exact ⟨hI, Or.inl ⟨rfl, hf⟩⟩
  | dropData i hs => exact ⟨hI, Or.inr rfl⟩
  | dropAck i hs => exact ⟨hI, Or.inr rfl⟩

theorem tbreach_TInv {x y : Nat × TLoop ℚ} (hr : Relation.ReflTransGen TLoop.TBStep x y) (h : TInv n x.2) : TInv n y.2 := by
  induction hr with
  | refl => exact h
  | tail _ hb ih => exact TInv_bstep hb ih

theorem tstep_lstep {L L' : TLoop ℚ} (hs : TLoop.TStep L L') : ∃ a, L.l.step a = some L'.l := by
  cases hs with
  | burst a ts _ hst _ _ => exact ⟨_, hst⟩
  | tick t hst _ _ _ _ => exact ⟨_, hst⟩
  | deliver t hst _ => exact ⟨_, hst⟩
  | ackArrive ts hst _ _ => exact ⟨_, hst⟩

theorem tbreach_lreach {x y : Nat × TLoop ℚ} (hr : Relation.ReflTransGen TLoop.TBStep x y) : LReach x.2.l y.2.l := by
  induction hr with
  | refl => exact .init
  | tail _ hb ih =>
    cases hb with
    | step hf => obtain ⟨a, hs⟩ := tstep_lstep hf; exact .step ih hs
    | dropData i hs => exact .step ih hs
    | dropAck i hs => exact .step ih hs

theorem tstuck_quiescent {k : Nat} (h : TInv n L) (hstuck : ∀ y, ¬ TLoop.TBStep (k, L) y) : L.l.Quiescent := by
  by_contra hq
  obtain ⟨L', hs⟩ := tstep_progress h hq
  exact hstuck (k, L') (.step hs)

theorem tquiescent_stuck {k : Nat} (h : TInv n L) (hq : L.l.Quiescent) : ∀ y, ¬ TLoop.TBStep (k, L) y := by
  intro y hb
  cases hb with
  | step hf =>
    cases hf with
    | burst a ts hnt hst _ _ => obtain ⟨t, e⟩ := quiescent_step hq hst; injection e with e; exact hnt t e
    | tick t hst hlt hd ha hev =>
      have e1 : L.dT = [] := List.eq_nil_of_length_eq_zero (by rw [h.dlen, hq.1]; rfl)
      have e2 : L.aT = [] := List.eq_nil_of_length_eq_zero (by rw [h.alen, hq.2.1]; rfl)
      rcases hev with ⟨kv, hkv, hl, _⟩ | ⟨d, hdm, _⟩ | ⟨d, hdm, _⟩
      · have := hq.2.2.1 kv hkv
        rw [hl] at this
        cases this
      · rw [e1] at hdm; simp at hdm
      · rw [e2] at hdm; simp at hdm
    | deliver t hst _ => obtain ⟨_, e⟩ := quiescent_step hq hst; cases e
    | ackArrive ts hst _ _ => obtain ⟨_, e⟩ := quiescent_step hq hst; cases e
  | dropData i hs => obtain ⟨_, e⟩ := quiescent_step hq hs; cases e
  | dropAck i hs => obtain ⟨_, e⟩ := quiescent_step hq hs; cases e

theorem stepT_sound {k : Nat} {a : TAct ℚ} {y : Nat × TLoop ℚ} (h : TLoop.stepT k L a = some y) :
    TLoop.TBStep (k, L) y := by
  cases a with
  | burst a ts =>
    unfold TLoop.stepT at h
    simp only at h
    split_ifs at h with htick
    split at h
    · cases h
    rename_i l' hs
    split_ifs at h with hc
    injection h with h
    subst h
    refine .step (.burst a ts ?_ hs hc.1 ?_)
    · intro t e; subst e; simp [TLoop.isTick] at htick
    · intro t ht
      have := (List.all_eq_true.mp hc.2) t ht
      simpa using this
  | tick t =>
    unfold TLoop.stepT at h
    simp only at h
    split at h
    · cases h
    rename_i l' hs
    split_ifs at h with hc
    injection h with h
    subst h
    simp only [Bool.and_eq_true, decide_eq_true_eq, List.all_eq_true, TLoop.eventAtB, Bool.or_eq_true,
      List.any_eq_true] at hc
    obtain ⟨⟨⟨c1, c2⟩, c3⟩, c4⟩ := hc
    refine .step (.tick t hs c1 c2 c3 ?_)
    rcases c4 with (⟨kv, hkv, e⟩ | ⟨d, hd, e⟩) | ⟨d, hd, e⟩
    · exact Or.inl ⟨kv, hkv, e.1, e.2⟩
    · exact Or.inr (Or.inl ⟨d, hd, e⟩)
    · exact Or.inr (Or.inr ⟨d, hd, e⟩)
  | deliver t =>
    unfold TLoop.stepT at h
    simp only at h
    split at h
    · cases h
    rename_i l' hs
    split_ifs at h with hc
    injection h with h
    subst h
    exact .step (.deliver t hs hc)
  | ackArrive ts =>
    unfold TLoop.stepT at h
    simp only at h
    split at h
    · cases h
    rename_i l' hs
    split_ifs at h with hc
    injection h with h
    subst h
    refine .step (.ackArrive ts hs hc.1 ?_)
    intro t ht
    have := (List.all_eq_true.mp hc.2) t ht
    simpa using this
  | dropData i =>
    unfold TLoop.stepT at h
    simp only at h
    split at h
    · cases h
    rename_i l' hs
    cases k with
    | zero => cases h
    | succ k =>
      simp only at h
      injection h with h
      subst h
      exact .dropData i hs
  | dropAck i =>
    unfold TLoop.stepT at h
    simp only at h
    split at h
    · cases h
    rename_i l' hs
    cases k with
    | zero => cases h
    | succ k =>
      simp only at h
      injection h with h
      subst h
      exact .dropAck i hs

theorem runT_sound : ∀ (acts : List (TAct ℚ)) (k : Nat) (L : TLoop ℚ) (y : Nat × TLoop ℚ),
    TLoop.runT k L acts = some y → Relation.ReflTransGen TLoop.TBStep (k, L) y := by
  intro acts
  induction acts with
  | nil =>
    intro k L y h
    simp only [TLoop.runT] at h
    injection h with h
    subst h
    exact .refl
  | cons a rest ih =>
    intro k L y h
    unfold TLoop.runT at h
    cases hs : TLoop.stepT k L a with
    | none => rw [hs] at h; cases h
    | some z =>
      rw [hs] at h
      simp only at h
      exact Relation.ReflTransGen.head (stepT_sound hs) (ih _ _ _ h)

end TcpLive
