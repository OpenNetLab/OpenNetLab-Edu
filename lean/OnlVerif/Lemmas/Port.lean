import OnlVerif.Lemmas.FifoAux
import OnlVerif.Net.Port
/-! # Invariants of the Port model -/

namespace Port
open Fifo

def sizeSum (l : List (Pkt ℚ)) : Int := (l.map (fun p => (p.size : Int))).sum

@[simp] theorem sizeSum_nil : sizeSum [] = 0 := rfl
@[simp] theorem sizeSum_cons (p : Pkt ℚ) (l : List (Pkt ℚ)) : sizeSum (p :: l) = p.size + sizeSum l := by
  simp [sizeSum]
@[simp] theorem sizeSum_append (l1 l2 : List (Pkt ℚ)) : sizeSum (l1 ++ l2) = sizeSum l1 + sizeSum l2 := by
  simp [sizeSum]
theorem sizeSum_nonneg (l : List (Pkt ℚ)) : 0 ≤ sizeSum l := by
  induction l with
  | nil => simp
  | cons p l ih => simp; omega

/-- bytes of the packets the port holds: waiting, handed over, in transmission -/
def heldBytes (s : FState ℚ (PortSt ℚ)) : Int :=
  sizeSum s.items + (match s.handed with | some p => (p.size : Int) | none => 0) +
    (match s.tx with | some (p, _, _) => (p.size : Int) | none => 0)

def Plain (c : PortCfg ℚ) : Prop := c.red = none

structure Inv (c : PortCfg ℚ) (s : FState ℚ (PortSt ℚ)) : Prop where
  shape : Shape s
  bytes : s.dev.byteSize = heldBytes s
  busy : (∃ p due k, s.tx = some (p, due, k) ∧ s.dev.busy = true ∧ s.dev.busySize = p.size) ∨
         (s.tx = none ∧ s.dev.busy = false ∧ s.dev.busySize = 0)
  limB : ∀ q, Plain c → c.limitBytes = true → c.qlimit = some q → 0 ≤ q → s.dev.byteSize ≤ q
  limP : ∀ q, Plain c → c.limitBytes = false → c.qlimit = some q → (s.items.length : Int) ≤ max (q - 1) 0

theorem choice_pkt (b : Prop) [Decidable b] (d : PortSt ℚ) (p : Pkt ℚ) :
    (if b then refuse d p else accept d p).2.2 = p := by split <;> rfl

theorem choice_acc (b : Prop) [Decidable b] (d : PortSt ℚ) (p : Pkt ℚ) :
    (if b then refuse d p else accept d p).2.1 = !decide b := by split <;> simp [refuse, accept, *]

theorem admit_pkt (c : PortCfg ℚ) (d : PortSt ℚ) (now : ℚ) (w : Nat) (p : Pkt ℚ) : (admitPkt c d now w p).2.2 = p := by
  simp only [admitPkt]
  split
  · simp only [admitPlain, choice_pkt]
  · simp only [admitRed, choice_pkt]

theorem idPreserving (c : PortCfg ℚ) : IdPreserving (Port.dev c) := by
  refine ⟨?_, ?_, ?_⟩
  · intro s now w p
    show (admitPkt c s now w p).2.2.id = p.id
    rw [admit_pkt]
  · intro s now x y p
    simp only [dev, onResume]; split <;> rfl
  · intro s now k p; rfl

/-- what the two outcomes of `put` do to the state: the byte count grows by an accepted packet, the drop counter by a
refused one, nothing else moves -/
theorem choice_frame (b : Prop) [Decidable b] (d : PortSt ℚ) (p : Pkt ℚ) (r : PortSt ℚ × Bool × Pkt ℚ)
    (hr : r = if b then refuse d p else accept d p) :
    r.1.byteSize = (if r.2.1 then d.byteSize + p.size else d.byteSize) ∧ r.1.busy = d.busy ∧ r.1.busySize = d.busySize ∧
    r.1.received = d.received ∧ r.1.dropped = d.dropped + (if r.2.1 then 0 else 1) ∧ r.1.stamps = d.stamps := by
  subst hr
  split <;> exact ⟨rfl, rfl, rfl, rfl, rfl, rfl⟩

theorem admit_frame (c : PortCfg ℚ) (d : PortSt ℚ) (now : ℚ) (w : Nat) (p : Pkt ℚ) :
    (admitPkt c d now w p).1.byteSize = (if (admitPkt c d now w p).2.1 then d.byteSize + p.size else d.byteSize) ∧
    (admitPkt c d now w p).1.busy = d.busy ∧ (admitPkt c d now w p).1.busySize = d.busySize := by
  unfold admitPkt
  cases c.red <;> exact ⟨(choice_frame _ _ p _ rfl).1, (choice_frame _ _ p _ rfl).2.1, (choice_frame _ _ p _ rfl).2.2.1⟩

/-- the tail-drop rule of a plain port, as seen through `admitPkt` -/
theorem admit_plain_iff (c : PortCfg ℚ) (hc : Plain c) (d : PortSt ℚ) (now : ℚ) (w : Nat) (p : Pkt ℚ) :
    (admitPkt c d now w p).2.1 = false ↔ tailDrop c d.byteSize w p.size = true := by
  have : c.red = none := hc
  simp only [admitPkt, this, admitPlain, choice_acc]
  simp

theorem init_inv (c : PortCfg ℚ) (t0 : ℚ) : Inv c (Fifo.init ({ avg := 0 } : PortSt ℚ) t0) := by
  refine ⟨Fifo.init_shape _ _, by simp [Fifo.init, heldBytes], Or.inr ⟨rfl, rfl, rfl⟩, ?_, ?_⟩
  · intro q _ _ _ hq; simpa [Fifo.init] using hq
  · intro q _ _ _; simp [Fifo.init]

theorem issueGet_heldBytes (s : FState ℚ (PortSt ℚ)) (hh : s.handed = none) :
    heldBytes (issueGet s) = heldBytes s := by
  unfold issueGet
  cases hi : s.items with
  | nil => simp [heldBytes, hi, hh]
  | cons p rest => simp [heldBytes, hi, hh]; omega

theorem issueGet_items_le (s : FState ℚ (PortSt ℚ)) : ((issueGet s).items.length : Int) ≤ s.items.length := by
  unfold issueGet; split <;> simp_all

/-- the server goes back to `store.get()` holding nothing: the accounting is unchanged, an item may move to its hand -/
theorem issueGet_inv (c : PortCfg ℚ) (s : FState ℚ (PortSt ℚ)) (hsh : Shape (issueGet s)) (hh : s.handed = none)
    (hb : s.dev.byteSize = heldBytes s)
    (hbusy : (∃ p due k, s.tx = some (p, due, k) ∧ s.dev.busy = true ∧ s.dev.busySize = p.size) ∨
      (s.tx = none ∧ s.dev.busy = false ∧ s.dev.busySize = 0))
    (hB : ∀ q, Plain c → c.limitBytes = true → c.qlimit = some q → 0 ≤ q → s.dev.byteSize ≤ q)
    (hP : ∀ q, Plain c → c.limitBytes = false → c.qlimit = some q → (s.items.length : Int) ≤ max (q - 1) 0) :
    Inv c (issueGet s) := by
  refine ⟨hsh, ?_, ?_, ?_, fun q h1 h2 h3 => le_trans (issueGet_items_le s) (hP q h1 h2 h3)⟩
  · rw [issueGet_dev', issueGet_heldBytes s hh]; exact hb
  · rw [issueGet_dev', issueGet_tx']; exact hbusy
  · rw [issueGet_dev']; exact hB

theorem onResume_facts (c : PortCfg ℚ) (d : PortSt ℚ) (now x y : ℚ) (p : Pkt ℚ) :
    (onResume c d now x y p).2.1 = p ∧ (onResume c d now x y p).1.byteSize = d.byteSize ∧
    (onResume c d now x y p).1.busy = true ∧ (onResume c d now x y p).1.busySize = p.size := by
  simp only [onResume]; split <;> exact ⟨rfl, rfl, rfl, rfl⟩

@[simp] theorem dev_admit (c : PortCfg ℚ) : (dev c).admitPkt = admitPkt c := rfl
@[simp] theorem dev_onResume (c : PortCfg ℚ) : (dev c).onResume = onResume c := rfl
@[simp] theorem dev_onFire (c : PortCfg ℚ) : (dev c).onFire = onFire c := rfl
@[simp] theorem dev_onDone (c : PortCfg ℚ) : (dev c).onDone = onDone := rfl

theorem step_inv (c : PortCfg ℚ) (s s' : FState ℚ (PortSt ℚ)) (a : FAct ℚ) (o : FOut ℚ)
    (hi : Inv c s) (hstep : step (Port.dev c) s a = .ok (s', o)) : Inv c s' := by
  have hshape : Shape s' := (step_conserves (Port.dev c) (idPreserving c) s s' a o hi.shape hstep).2
  refine step_elim hstep (R := fun s' _ => Shape s' → Inv c s') ?_ ?_ ?_ ?_ ?_ ?_ ?_ hshape
  · intro _ h hshape
    exact issueGet_inv c _ hshape (hi.shape.1 h).2.1 hi.bytes hi.busy hi.limB hi.limP
  · intro p _ h hshape
    simp only [dev_admit] at h hshape ⊢
    have hb := admit_frame c s.dev s.now s.items.length p
    rw [h, if_pos rfl] at hb
    have hp := admit_pkt c s.dev s.now s.items.length p
    have hnd : ∀ (_q : Int), Plain c → tailDrop c s.dev.byteSize s.items.length p.size = false := by
      intro _ h1
      by_contra hd
      have := (admit_plain_iff c h1 s.dev s.now s.items.length p).mpr (by simpa using hd)
      rw [h] at this; cases this
    refine ⟨hshape, ?_, ?_, ?_, ?_⟩
    · dsimp only [heldBytes]
      rw [hb.1, hi.bytes, hp]
      simp only [heldBytes, sizeSum_append, sizeSum_cons, sizeSum_nil]
      omega
    · dsimp only
      rw [hb.2.1, hb.2.2]; exact hi.busy
    · intro q h1 h2 h3 h4
      dsimp only
      rw [hb.1]
      have := hnd q h1
      simp only [tailDrop, h3, h2, if_true, decide_eq_false_iff_not, not_lt] at this
      exact this
    · intro q h1 h2 h3
      have := hnd q h1
      simp only [tailDrop, h3, h2, Bool.false_eq_true, if_false, decide_eq_false_iff_not, not_le] at this
      dsimp only
      simp only [List.length_append, List.length_singleton, Nat.cast_add, Nat.cast_one]
      have h5 : (s.items.length : Int) + 1 ≤ q - 1 := by omega
      exact le_trans h5 (le_max_left _ _)
  · intro p _ h hshape
    simp only [dev_admit] at h hshape ⊢
    have hb := admit_frame c s.dev s.now s.items.length p
    rw [h, if_neg nofun] at hb
    refine ⟨hshape, ?_, ?_, ?_, ?_⟩
    · dsimp only [heldBytes]
      rw [hb.1]; exact hi.bytes
    · dsimp only
      rw [hb.2.1, hb.2.2]; exact hi.busy
    · intro q h1 h2 h3 h4
      dsimp only
      rw [hb.1]; exact hi.limB q h1 h2 h3 h4
    · intro q h1 h2 h3; exact hi.limP q h1 h2 h3
  · intro p rest _ hg hit hshape
    have h1 := (shape_of_pending hi.shape hg).2
    refine ⟨hshape, ?_, ?_, ?_, ?_⟩
    · dsimp only [heldBytes]
      rw [hi.bytes]; simp [heldBytes, hit, h1.1, h1.2]; omega
    · exact hi.busy
    · exact hi.limB
    · intro q ha hb hc
      have := hi.limP q ha hb hc
      rw [hit] at this
      simp only [List.length_cons, Nat.cast_add, Nat.cast_one] at this
      dsimp only
      omega
  · intro x y p _ hp
    have htx := (shape_of_handed hi.shape hp).2.2
    simp only [dev_onResume, onResume]
    split
    · intro hshape
      refine ⟨hshape, ?_, Or.inl ⟨p, _, 0, rfl, rfl, rfl⟩, hi.limB, hi.limP⟩
      dsimp only [heldBytes]
      rw [hi.bytes]
      simp [heldBytes, hp, htx]
    · intro hshape
      refine issueGet_inv c _ hshape rfl ?_ (Or.inr ⟨rfl, rfl, rfl⟩) ?_ hi.limP
      · simp only [dev_onDone, onDone, hi.bytes, heldBytes, hp, htx]
        omega
      · intro q h1 h2 h3 h4
        simp only [dev_onDone, onDone]
        have := hi.limB q h1 h2 h3 h4
        omega
  · intro p k _ htx hshape
    have hh := (shape_of_tx hi.shape htx).2.2
    refine issueGet_inv c _ hshape hh ?_ (Or.inr ⟨rfl, rfl, rfl⟩) ?_ hi.limP
    · simp only [dev_onDone, dev_onFire, onFire, onDone, hi.bytes, heldBytes, htx, hh]
      omega
    · intro q h1 h2 h3 h4
      simp only [dev_onDone, dev_onFire, onFire, onDone]
      have := hi.limB q h1 h2 h3 h4
      omega
  · exact fun t _ _ hshape => ⟨hshape, hi.bytes, hi.busy, hi.limB, hi.limP⟩

theorem run_inv (c : PortCfg ℚ) (as : List (FAct ℚ)) (s s' : FState ℚ (PortSt ℚ)) (ins outs : List Nat)
    (hi : Inv c s) (h : runActs (Port.dev c) s as = .ok (s', ins, outs)) : Inv c s' :=
  run_induct (Port.dev c) (Inv c) (fun s a s' o h1 h2 => step_inv c s s' a o h1 h2) as s s' ins outs hi h

end Port
