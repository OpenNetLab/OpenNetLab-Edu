import OnlVerif.Lemmas.WFQKBasic
/-!
# The WFQ scheduler on the kernel model: the events of the phases, the observations of a trace that grows
-/

namespace WFQK
open WFQOnK

theorem pendIds_nil : pendIds [] = [] := rfl
theorem pendIds_cons (u : QEntry ℚ) (l : List (QEntry ℚ)) : pendIds (u :: l) = u.ev :: pendIds l := rfl
theorem RPhase.ids_init (q : QEntry ℚ) : (RPhase.init q).ids = [0, 1] := rfl
theorem RPhase.ids_W (g : EvId) : (RPhase.W g).ids = [0, g] := rfl
theorem RPhase.ids_H (g : EvId) (w : PutRec) (q : QEntry ℚ) : (RPhase.H g w q).ids = [0, g] := rfl
theorem RPhase.ids_S (p : EvId) (id : Int) (q : QEntry ℚ) : (RPhase.S p id q).ids = [0, p, p + 1] := rfl
theorem RPhase.ids_T (p t : EvId) (id : Int) (q : QEntry ℚ) : (RPhase.T p t id q).ids = [0, p, t] := rfl
theorem RPhase.ids_F (p : EvId) (id : Int) (q : QEntry ℚ) : (RPhase.F p id q).ids = [0, p] := rfl
theorem SPhase.ids_init (q : QEntry ℚ) (arr : List (ℚ × Int)) : (SPhase.init q arr).ids = [2, 3] := rfl
theorem SPhase.ids_wait (id : Int) (rest : List (ℚ × Int)) (q : QEntry ℚ) : (SPhase.wait id rest q).ids = [2, q.ev] := rfl
theorem SPhase.ids_ending (q : QEntry ℚ) : (SPhase.ending q).ids = [2] := rfl
theorem SPhase.ids_done : SPhase.done.ids = [] := rfl

theorem fresh_notin {l : List Nat} {n : Nat} (h : ∀ e ∈ l, e < n) (k : Nat) : n + k ∉ l := KExec.fresh_notin h k

/-- a permutation goal about explicit concatenations, from a permutation hypothesis, by counting -/
macro "perm_count" h:ident : tactic =>
  `(tactic| (classical
             rw [List.perm_iff_count] at $h:ident ⊢
             intro z
             have hz := $h:ident z
             simp only [List.count_append, List.count_cons, List.count_nil] at hz ⊢
             omega))

theorem wf_push3 {s1 S : KS} (h : AgendaWF s1) (x y z : QEntry ℚ) (hn : S.now = s1.now)
    (ha : S.agenda = x :: y :: z :: s1.agenda) (he : S.eid = s1.eid + 3) (hx : x.eid = s1.eid + 2) (hy : y.eid = s1.eid + 1)
    (hz : z.eid = s1.eid) (htx : s1.now ≤ x.time) (hty : s1.now ≤ y.time) (htz : s1.now ≤ z.time) : AgendaWF S :=
  KExec.wf_push3 h x y z hn ha he hx hy hz htx hty htz

theorem histOf_push (tr : Array (Obs ℚ)) (o : Obs ℚ) : histOf (tr.push o) = histOf tr ++ (histOf1 o).toList :=
  KExec.filterMap_push _ tr o

@[simp] theorem histOf1_resumed (p : EvId) (r : Resume) (t : ℚ) : histOf1 (Obs.resumed p r t) = none := rfl
@[simp] theorem histOf1_ended (p : EvId) (o : Outcome) (t : ℚ) : histOf1 (Obs.ended p o t) = none := rfl
@[simp] theorem histOf1_callErr (p : EvId) (x : Exc) (t : ℚ) : histOf1 (Obs.callErr p x t) = none := rfl
@[simp] theorem histOf1_put (p : EvId) (i : Int) (t : ℚ) : histOf1 (Obs.log p "put" (.int i) t) = some (.put i t) := by
  simp [histOf1]
@[simp] theorem histOf1_stamp (p : EvId) (x t : ℚ) : histOf1 (Obs.log p "stamp" (TimeCell.enc x) t) = some (.stamp x) := by
  simp [histOf1, TimerK.dec_enc]
@[simp] theorem histOf1_vtime (p : EvId) (x t : ℚ) : histOf1 (Obs.log p "vtime" (TimeCell.enc x) t) = some (.vtime x) := by
  simp [histOf1, TimerK.dec_enc]
@[simp] theorem histOf1_done (p : EvId) (x t : ℚ) : histOf1 (Obs.log p "done" (TimeCell.enc x) t) = some (.done x) := by
  simp [histOf1, TimerK.dec_enc]
@[simp] theorem histOf1_get (p : EvId) (v : Val) (t : ℚ) : histOf1 (Obs.log p "get" v t) = some (.get t) := by
  simp [histOf1]
@[simp] theorem histOf1_serve (p : EvId) (i : Int) (t : ℚ) : histOf1 (Obs.log p "serve" (.int i) t) = some (.serve i t) := by
  simp [histOf1]
@[simp] theorem histOf1_out (p : EvId) (i : Int) (t : ℚ) : histOf1 (Obs.log p "out" (.int i) t) = some (.out i t) := by
  simp [histOf1]

end WFQK
