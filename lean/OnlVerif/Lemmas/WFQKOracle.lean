import OnlVerif.Lemmas.WFQKAbs
import OnlVerif.Lemmas.VCKOracle
/-!
# The WFQ scheduler on the kernel model: the history of every run passes the property's oracle

`OInv` relates the state of the oracle (`WFQOnK.ostep`) after the history so far to the configuration; what it says about the
hand-off (`waiting`, `cand`) is one of the three clauses of `Lemmas/StampKCommon.lean`, chosen by the phase of `run`.
-/


namespace WFQK
open WFQOnK QEntry


variable {N scale F : Nat} {flow size : Int → Nat} {cfg : WfqCfg ℚ} {d1 L : Nat}

theorem nItems_pos_iff (l : List PutRec) (f : Nat) : 0 < nItems flow l f ↔ ∃ x ∈ l, flow x.1 = f := by
  unfold nItems
  rw [Int.natCast_pos, List.length_pos_iff_exists_mem]
  simp [List.mem_filter]

theorem ind_pos_iff (o : Option Int) (f : Nat) : 0 < ind flow o f ↔ ∃ id, o = some id ∧ flow id = f := by
  unfold ind
  cases o with
  | none => simp
  | some id =>
    by_cases h : flow id = f
    · simp [h]
    · simp [h]

variable {a a' : A} {now : ℚ} {q : QEntry ℚ} {n e : Nat} {new : List (HEv ℚ)} {o : OSt ℚ}

theorem held_heldC {id : Int} (h : a.run.held = some id) : a.run.heldC = some id := by
  cases hr : a.run <;> rw [hr] at h <;> simp only [RPhase.held, RPhase.heldC] at h ⊢ <;> first | exact h | cases h

theorem heldC_lt (hi : AInv N scale size F flow cfg d1 L a now) {id : Int} (h : a.run.heldC = some id) : flow id < F := by
  have hp := hi.run
  cases hr : a.run with
  | init q0 | W g => rw [hr] at h; cases h
  | H g w q0 => rw [hr] at h hp; cases h; exact (hi.putOK w hp.2.2.2.1).1
  | S p id' q0 => rw [hr] at h hp; cases h; exact hp.2.2.2.1
  | T p t id' q0 => rw [hr] at h hp; cases h; exact hp.2.2.1
  | F p id' q0 => rw [hr] at h hp; cases h; exact hp.2.2.2.1

theorem item_lt (hi : AInv N scale size F flow cfg d1 L a now) {x : PutRec} (h : x ∈ a.items) : flow x.1 < F :=
  (hi.putOK x (hi.sub.subset h)).1

theorem cnt_pos_iff (hi : AInv N scale size F flow cfg d1 L a now) {f : Nat} (hf : f < F) :
    0 < a.cnt f ↔ (∃ x ∈ a.items, flow x.1 = f) ∨ ∃ id, a.run.held = some id ∧ flow id = f := by
  rw [hi.cntOK f hf, ← nItems_pos_iff, ← ind_pos_iff]
  have := nItems_nonneg (flow := flow) a.items f
  have := ind_nonneg (flow := flow) a.run.held f
  omega

theorem act_iff (hi : AInv N scale size F flow cfg d1 L a now) {c : Nat} (hc : c < F) :
    a.act c = true ↔ (∃ x ∈ a.items, flow x.1 = c) ∨ ∃ id, a.run.heldC = some id ∧ flow id = c := by
  rw [hi.actOK c hc, hi.clsOK c hc, ← nItems_pos_iff, ← ind_pos_iff]
  have := nItems_nonneg (flow := flow) a.items c
  have := ind_nonneg (flow := flow) a.run.heldC c
  omega

/-- `total_packets == 0` iff nothing waits and nothing is in transmission -/
theorem total_zero_iff (hi : AInv N scale size F flow cfg d1 L a now) :
    a.total F = 0 ↔ a.items = [] ∧ a.run.held = none := by
  have hnn : ∀ k, 0 ≤ k → k < 0 + F → 0 ≤ a.cnt k := by
    intro k _ hk
    rw [hi.cntOK k (by omega)]
    have := nItems_nonneg (flow := flow) a.items k
    have := ind_nonneg (flow := flow) a.run.held k
    omega
  unfold A.total
  rw [sumFrom_eq]
  constructor
  · intro h0
    have h := MQK.sumFrom_zero a.cnt F 0 hnn h0
    have hz : ∀ f, f < F → ¬ 0 < a.cnt f := fun f hf => by rw [h f (Nat.zero_le _) (by omega)]; omega
    refine ⟨List.eq_nil_iff_forall_not_mem.mpr fun x hx =>
      hz _ (item_lt hi hx) ((cnt_pos_iff hi (item_lt hi hx)).mpr (.inl ⟨x, hx, rfl⟩)), ?_⟩
    cases hh : a.run.held with
    | none => rfl
    | some id =>
      have hlt := heldC_lt hi (held_heldC hh)
      exact absurd ((cnt_pos_iff hi hlt).mpr (Or.inr ⟨id, hh, rfl⟩)) (hz _ hlt)
  · rintro ⟨h1, h2⟩
    refine MQK.sumFrom_all_zero a.cnt F 0 fun k _ hk => ?_
    rw [hi.cntOK k (by omega), h1, h2]
    rfl

/-- a non-empty scheduler has an active class -/
theorem nAct_after_iff (hi : AInv N scale size F flow cfg d1 L a now) {p : EvId} {id0 : Int} {q0 : QEntry ℚ}
    (hr : a.run = .F p id0 q0) : nAct (actAfter a (flow id0)) 0 F 0 = 0 ↔ a.items = [] := by
  rw [nAct_zero_iff]
  constructor
  · intro h
    by_contra hne
    obtain ⟨x, hx⟩ := List.exists_mem_of_ne_nil _ hne
    have := (hi.act_after hr (item_lt hi hx)).mpr ((nItems_pos_iff _ _).mpr ⟨x, hx, rfl⟩)
    rw [h _ (item_lt hi hx)] at this
    cases this
  · intro hit c hc
    cases hb : actAfter a (flow id0) c with
    | false => rfl
    | true =>
      have := (hi.act_after hr hc).mp hb
      rw [hit] at this
      exact absurd this (lt_irrefl 0)

export StampK (toW HandB HandW HandH)

section defs
variable (flow size : Int → Nat) (cfg : WfqCfg ℚ)

/-- what the phase of `run` says about the oracle: the hand-off situation, the packet in transmission, the packet that has
left and is not yet booked out, the last departure -/
def PhO (a : A) (now : ℚ) (o : OSt ℚ) : RPhase → Prop
  | .init q => HandB a.items o.waiting o.cand ∧ o.busy = none ∧ o.leaving = none ∧ o.lastOut = none ∧ q.time = 0
  | .W _ => HandW a.items a.pend a.src.entries now o.waiting o.cand ∧ o.busy = none ∧ o.leaving = none
  | .H _ w q => HandH flow a.items w q.time o.waiting o.cand ∧ o.busy = none ∧ o.leaving = none
  | .S _ id q => HandB a.items o.waiting o.cand ∧ o.busy = some (id, q.time) ∧ o.leaving = none
  | .T _ _ id q => HandB a.items o.waiting o.cand ∧ (∃ s0, o.busy = some (id, s0) ∧ q.time = s0 + txTime size cfg.rate id) ∧
      o.leaving = none
  | .F _ id q => HandB a.items o.waiting o.cand ∧ o.busy = none ∧ o.leaving = some id ∧ o.lastOut = some q.time

/-- the oracle is in the state the configuration stands for -/
structure OInv (a : A) (now : ℚ) (o : OSt ℚ) : Prop where
  vt : o.vt = a.vtime
  last : o.last = a.last
  fin : o.fin = a.fin
  pend : o.pend = none
  ph : PhO flow size cfg a now o a.run
  /-- `finish_times` of a class is not below the stamp of any waiting packet of that class -/
  finGe : ∀ w ∈ a.items, w.2.2 ≤ a.fin (flow w.1)
  /-- the stamps of the waiting packets of one flow do not decrease in `put` order -/
  fl : a.items.Pairwise fun x y => flow x.1 = flow y.1 → x.2.2 ≤ y.2.2

end defs

theorem eqT_iff (x y : ℚ) : eqT x y ↔ x = y := incomp_iff x y

theorem orun_nil (o : OSt ℚ) : orun F flow size cfg o [] = some o := rfl

theorem orun_one (o o' : OSt ℚ) (ev : HEv ℚ) (h : ostep F flow size cfg o ev = some o') :
    orun F flow size cfg o [ev] = some o' := by
  simp [orun, h]

theorem candPut_none (w : WItem ℚ) : candPut (none : Option (List (WItem ℚ) × ℚ)) w = none := rfl

theorem candPut_nil (t : ℚ) (w : WItem ℚ) : candPut (some ([], t)) w = some ([w], w.2.2) := rfl

theorem candPut_eq (c : Option (List (WItem ℚ) × ℚ)) (w : WItem ℚ) : candPut c w = VCOnK.candPut c w := by
  match c with
  | none | some ([], _) | some (_ :: _, _) => rfl

theorem srcNext_eid (t : ℚ) (eid ev : Nat) (arr : List (ℚ × Int)) : ∀ x ∈ (srcNext t eid ev arr).entries, x.eid = eid := by
  intro x hx
  cases arr with
  | nil | cons y r => rw [List.mem_singleton.mp hx]

theorem any_toW (l : List PutRec) (c : Nat) : ((l.map toW).any fun y => flow y.1 == c) = true ↔ ∃ x ∈ l, flow x.1 = c := by
  rw [List.any_map, List.any_eq_true]
  exact exists_congr fun x => and_congr_right fun _ => beq_iff_eq

/-- a class is active for the oracle iff a packet of it is in the store or is the one `run` holds (`b1`, `b2`: what `busy`
and `leaving` say) -/
theorem active_iff (l : List PutRec) (c : Nat) (b1 b2 : Bool) (h : Option Int)
    (hb : (b1 || b2) = true ↔ ∃ id, h = some id ∧ flow id = c) :
    (((l.map toW).any fun y => flow y.1 == c) || b1 || b2) = true ↔
      (∃ x ∈ l, flow x.1 = c) ∨ ∃ id, h = some id ∧ flow id = c := by
  rw [Bool.or_assoc, Bool.or_eq_true, any_toW, hb]

/-- outside phase `W` the clause of the phase reads only `items` of the configuration -/
theorem PhO.congr {a a' : A} {now now' : ℚ} {o : OSt ℚ} {r : RPhase} (h : PhO flow size cfg a now o r)
    (hit : a'.items = a.items)
    (hW : ∀ g, r = .W g → HandW a.items a.pend a.src.entries now o.waiting o.cand →
      HandW a'.items a'.pend a'.src.entries now' o.waiting o.cand) : PhO flow size cfg a' now' o r := by
  cases r with
  | W g => exact ⟨hW g rfl h.1, h.2⟩
  | _ => unfold PhO at h ⊢; rw [hit]; exact h

theorem oinv_init (arrivals : List (ℚ × Int)) : OInv flow size cfg (a0 arrivals) 0 oInit :=
  ⟨Stamp.zero_eq_q, Stamp.zero_eq_q, funext fun _ => Stamp.zero_eq_q, rfl, ⟨⟨rfl, rfl⟩, rfl, rfl, rfl, rfl⟩,
    fun _ hw => (nomatch hw), List.Pairwise.nil⟩

/-- **letting the clock advance to the next entry changes nothing** -/
theorem oinv_advance (hi : AInv N scale size F flow cfg d1 L a now) (hq : IsMin a q) (ho : OInv flow size cfg a now o) :
    OInv flow size cfg a q.time o := by
  rcases eq_or_lt_of_le (hi.now_le hq) with h | h
  · rw [← h]; exact ho
  refine ⟨ho.vt, ho.last, ho.fin, ho.pend, ho.ph.congr rfl fun g hr hw => hw.of_nil (hi.items_nil hr ?_), ho.finGe, ho.fl⟩
  -- an entry due now would have been taken first
  exact List.eq_nil_iff_forall_not_mem.mpr fun u hu => min_ne_now hi.due hq h u (mem_pend hu) (hi.pend u hu).1

/-- **at the end of a run everything has been served** -/
theorem oinv_final (hi : AInv N scale size F flow cfg d1 L a now) (ho : OInv flow size cfg a now o) (hend : a.entries = []) :
    drained o = true := by
  have hph := ho.ph
  simp only [A.entries, List.append_eq_nil_iff] at hend
  obtain ⟨hre, -, hpe⟩ := hend
  cases hr : a.run with
  | W g =>
    rw [hr] at hph
    obtain ⟨⟨h2, ⟨t, h3, -⟩, -, -⟩, h1, hl⟩ := hph
    rw [hi.items_nil hr hpe] at h2 h3
    simp [drained, h1, h2, h3, ho.pend, hl]
  | _ => rw [hr] at hre; cases hre

/-- the oracle's notion of "class `c` is active" is the `active_set` of the configuration -/
theorem actives_eq (hi : AInv N scale size F flow cfg d1 L a now) (hph : PhO flow size cfg a now o a.run) :
    actives F flow o = (List.range F).filter a.act := by
  unfold actives
  apply List.filter_congr
  intro c hc'
  have hc : c < F := List.mem_range.mp hc'
  rw [Bool.eq_iff_iff, act_iff hi hc]
  cases hr : a.run with
  | W g =>
    rw [hr] at hph
    obtain ⟨⟨hw, -⟩, hb, hl⟩ := hph
    rw [hl, hb, hw]
    exact active_iff _ _ _ _ _ (by simp [RPhase.heldC])
  | S p id q0 =>
    rw [hr] at hph
    obtain ⟨⟨-, hw⟩, hb, hl⟩ := hph
    rw [hl, hb, hw]
    exact active_iff _ _ _ _ _ (by simp [RPhase.heldC])
  | T p t id q0 =>
    rw [hr] at hph
    obtain ⟨⟨-, hw⟩, ⟨s0, hb, -⟩, hl⟩ := hph
    rw [hl, hb, hw]
    exact active_iff _ _ _ _ _ (by simp [RPhase.heldC])
  | init q0 | F p id q0 =>
    rw [hr] at hph
    obtain ⟨⟨-, hw⟩, hb, hl, -⟩ := hph
    rw [hl, hb, hw]
    exact active_iff _ _ _ _ _ (by simp [RPhase.heldC])
  | H g w q0 =>
    rw [hr] at hph
    obtain ⟨⟨⟨wl, h2, h3, h4⟩, -, -⟩, hb, hl⟩ := hph
    rw [hl, hb, h2]
    simp only [Bool.or_false, any_toW, RPhase.heldC, Option.some.injEq, exists_eq_left']
    constructor
    · rintro ⟨y, hy, hyc⟩
      by_cases hyw : y.1 = w.1
      · right; rw [← hyw]; exact hyc
      · left; refine ⟨y, ?_, hyc⟩
        rw [h3]; exact List.mem_filter.mpr ⟨hy, by simpa using hyw⟩
    · rintro (⟨x, hx, hxc⟩ | hwc)
      · rw [h3] at hx; exact ⟨x, (List.mem_filter.mp hx).1, hxc⟩
      · exact ⟨w, h4, hwc⟩

/-- the oracle's `total_packets == 0` is the configuration's -/
theorem isEmpty_iff (hi : AInv N scale size F flow cfg d1 L a now) (hph : PhO flow size cfg a now o a.run) :
    isEmpty o = true ↔ a.total F = 0 := by
  rw [total_zero_iff hi]
  cases hr : a.run with
  | W g =>
    rw [hr] at hph
    obtain ⟨⟨hw, -⟩, hb, -⟩ := hph
    simp [isEmpty, hb, hw, RPhase.held]
  | T p t id q0 =>
    rw [hr] at hph
    obtain ⟨⟨-, hw⟩, ⟨s0, hb, -⟩, -⟩ := hph
    simp [isEmpty, hb, hw, RPhase.held]
  | init q0 | S p id q0 | F p id q0 =>
    rw [hr] at hph
    obtain ⟨⟨-, hw⟩, hb, -⟩ := hph
    simp [isEmpty, hb, hw, RPhase.held]
  | H g w q0 =>
    rw [hr] at hph
    obtain ⟨⟨⟨wl, h2, h3, h4⟩, -, -⟩, hb, -⟩ := hph
    simp [isEmpty, hb, h2, RPhase.held, List.ne_nil_of_mem h4]

/-- `update_vtime` as the oracle prescribes it is the configuration's -/
theorem advV_eq (hi : AInv N scale size F flow cfg d1 L a now) (hph : PhO flow size cfg a now o a.run)
    (hact : ∃ c, c < F ∧ a.act c = true) (t : ℚ) :
    advV F flow cfg o t = some (o.vt + (t - o.last) / a.ws F cfg) := by
  unfold advV
  rw [actives_eq hi hph, weightSum_range hi.cfgOK]
  have hpos : 0 < wsum cfg a.act 0 F 0 := ws_pos hi.cfgOK a hact
  have : ¬ Num.eqb (wsum cfg a.act 0 F 0) (Num.zero : ℚ) = true := by
    rw [Stamp.zero_eq_q, Num.eqb_iff]; exact ne_of_gt hpos
  simp only [if_neg this]
  rfl

/-- the three observations of a `put` -/
theorem orun_put {id : Int} {t v x : ℚ} (hp : o.pend = none) (hv : VtimeOK F flow cfg o t v)
    (hs : StampOK flow size cfg { o with vt := v, fin := if isEmpty o then fun _ => Num.zero else o.fin } id x) :
    orun F flow size cfg o [.put id t, .vtime v, .stamp x] =
      some { o with pend := none, vt := v, fin := setA (if isEmpty o then fun _ => Num.zero else o.fin) (flow id) x,
                    waiting := o.waiting ++ [(id, x, t)], cand := candPut o.cand (id, x, t), last := t } := by
  have hv' : VtimeOK F flow cfg { o with pend := some (id, t, false) } t v := hv
  have hs' : StampOK flow size cfg ({ o with
      pend := some (id, t, true)
      vt := v
      fin := if isEmpty { o with pend := some (id, t, false) } then fun _ => Num.zero else o.fin } : OSt ℚ) id x := hs
  simp only [orun, ostep, hp, Option.isNone_none, if_true, Option.bind_some, hv', hs']
  rfl

/-- a `put`, phase by phase -/
theorem pho_put {u : QEntry ℚ} {r : PutRec} (hph : PhO flow size cfg a now o a.run) (a' : A) (hrun : a'.run = a.run)
    (hitems : a'.items = a.items ++ [r]) (hpend : a'.pend = a.pend ++ [u]) (hr1 : r.2.1 = now)
    (hH : ∀ g w q0, a.run = .H g w q0 → r.1 ≠ w.1)
    (hW : ∀ g, a.run = .W g → a.items = [] ∧ ∀ x ∈ a'.src.entries, u.eid < x.eid)
    (o' : OSt ℚ) (hb : o'.busy = o.busy) (hl : o'.lastOut = o.lastOut) (hlv : o'.leaving = o.leaving)
    (hw : o'.waiting = o.waiting ++ [toW r])
    (hc : o'.cand = candPut o.cand (toW r)) : PhO flow size cfg a' now o' a'.run := by
  rw [hrun]
  rw [candPut_eq] at hc
  cases hr : a.run with
  | W g =>
    rw [hr] at hph
    simp only [PhO, hitems, hpend, hb, hlv, hw, hc]
    exact ⟨hph.1.put (hW g hr).1 hr1 u (hW g hr).2, hph.2⟩
  | H g w q0 =>
    rw [hr] at hph
    simp only [PhO, hitems, hb, hlv, hw, hc]
    exact ⟨hph.1.put (hH g w q0 hr), hph.2⟩
  | _ =>
    rw [hr] at hph
    simp only [PhO, hitems, hb, hl, hlv, hw, hc]
    exact ⟨hph.1.put r, hph.2⟩

/-- **virtual time and the stamp rule at an arrival**: the oracle accepts the `put`, `vtime` and `stamp` observations -/
theorem oinv_put (hi : AInv N scale size F flow cfg d1 L a q.time) (hq : IsMin a q) (ho : OInv flow size cfg a q.time o)
    {id : Int} {arr : List (ℚ × Int)} (h : a.src = .wait id arr q) (r : PutRec)
    (hr : r = putRec size F flow cfg a q.time id)
    (a' : A) (u : QEntry ℚ) (hu : u.eid = e) (ev : Nat) (hrun : a'.run = a.run) (hitems : a'.items = a.items ++ [r])
    (hpend : a'.pend = a.pend ++ [u]) (hsrc : a'.src = srcNext q.time (e + 1) ev arr)
    (hvt : a'.vtime = a.advV F cfg q.time) (hlast : a'.last = q.time) (hfin : a'.fin = upd (a.advFin F) (flow id) r.2.2) :
    ∃ o', orun F flow size cfg o [.put id q.time, .vtime (a.advV F cfg q.time), .stamp r.2.2] = some o' ∧
      OInv flow size cfg a' q.time o' := by
  have hs := hi.src
  rw [h] at hs
  obtain ⟨hqp, hwk, -, hids⟩ := hs
  obtain ⟨-, hfid, -⟩ := hwk.gap (0, id) (by simp)
  obtain ⟨m, hm, hlk⟩ := hi.cfgOK.w (flow id) hfid
  have hwm : wOf cfg (flow id) = (m : ℚ) := by simp only [wOf, hlk, Option.getD_some]
  have hmpos : (0 : ℚ) < (m : ℚ) := by exact_mod_cast hm
  have hr0 : r.1 = id := by rw [hr]; rfl
  have hr1 : r.2.1 = q.time := by rw [hr]; rfl
  have hr22 : r.2.2 = WFQ.stampOf cfg (a.advFin F (flow id)) (a.advV F cfg q.time) (m : ℚ) (size id) := by
    rw [hr]; simp only [putRec]; rw [hwm]
  have hge : a.advFin F (flow id) ≤ r.2.2 := by
    rw [hr22, WFQ.stampOf_eq]
    exact le_trans (le_max_left _ _) (le_add_of_nonneg_right
      (div_nonneg (mul_nonneg (by norm_num) (Nat.cast_nonneg _)) (le_of_lt (mul_pos hi.cfgOK.rate hmpos))))
  have hemp := isEmpty_iff hi ho.ph
  have hfinEq : (if isEmpty o then fun _ => (Num.zero : ℚ) else o.fin) = a.advFin F :=
    if_congr hemp (funext fun _ => Stamp.zero_eq_q) ho.fin
  have hadv : a.items ≠ [] → a.advFin F = a.fin := by
    intro hne
    unfold A.advFin
    rw [if_neg (fun hc => hne ((total_zero_iff hi).mp hc).1)]
  have hV : VtimeOK F flow cfg o q.time (a.advV F cfg q.time) := by
    unfold VtimeOK A.advV
    by_cases htot : a.total F = 0
    · rw [if_pos (hemp.mpr htot), if_pos htot]
      exact (eqT_iff _ _).mpr Stamp.zero_eq_q.symm
    · rw [if_neg (fun hc => htot (hemp.mp hc)), if_neg htot, advV_eq hi ho.ph (act_of_total hi htot)]
      exact (eqT_iff _ _).mpr (by rw [ho.vt, ho.last])
  have hS : StampOK flow size cfg { o with vt := a.advV F cfg q.time, fin := if isEmpty o then fun _ => Num.zero else o.fin }
      id r.2.2 := by
    refine ⟨(flow id, (m : ℚ)), lookup_mem _ _ _ hlk, rfl, (eqT_iff _ _).mpr ?_⟩
    show r.2.2 = WFQ.stampOf cfg ((if isEmpty o then fun _ => (Num.zero : ℚ) else o.fin) (flow id)) (a.advV F cfg q.time) (m : ℚ) (size id)
    rw [hfinEq, hr22]
  have hrw : ((id, r.2.2, q.time) : WItem ℚ) = toW r := by rw [← hr0, ← hr1]; rfl
  refine ⟨_, orun_put ho.pend hV hS, hvt.symm, hlast.symm, ?_, rfl, ?_, ?_, ?_⟩
  · show setA (if isEmpty o then fun _ => (Num.zero : ℚ) else o.fin) (flow id) r.2.2 = a'.fin
    rw [hfin, hfinEq]; rfl
  · refine pho_put ho.ph a' hrun hitems hpend hr1 ?_ ?_ _ rfl rfl rfl (by rw [← hrw]) (by rw [← hrw])
    · intro g w q0 hrr
      have hp := hi.run
      rw [hrr] at hp
      have := hids w hp.2.2.2.1
      rw [hr0]; omega
    · intro g hrr
      have hph := ho.ph
      rw [hrr] at hph
      refine ⟨?_, ?_⟩
      · by_contra hne
        obtain ⟨u0, hu0, hlt⟩ := hph.1.2.2.2 hne
        have h1 := hlt q (by rw [h]; simp [SPhase.entries])
        obtain ⟨h2, h3⟩ := hi.pend u0 hu0
        exact hq.2 u0 (mem_pend hu0) (Or.inr ⟨h2, Or.inr ⟨h3.trans hqp.symm, h1⟩⟩)
      · intro x hx
        rw [hsrc] at hx
        rw [srcNext_eid _ _ _ _ x hx, hu]
        exact Nat.lt_succ_self e
  · rw [hitems, hfin]
    refine List.forall_mem_append.mpr ⟨fun w hw => ?_, List.forall_mem_singleton.mpr (by rw [hr0, upd_same])⟩
    have hfe := hadv (List.ne_nil_of_mem hw)
    by_cases hf : flow w.1 = flow id
    · rw [hf, upd_same]
      have := ho.finGe w hw
      rw [hf, ← hfe] at this
      exact le_trans this hge
    · rw [upd_ne _ _ _ _ hf, hfe]
      exact ho.finGe w hw
  · rw [hitems]
    refine List.pairwise_append.mpr ⟨ho.fl, List.pairwise_singleton _ _, fun x hx => List.forall_mem_singleton.mpr fun hf => ?_⟩
    have := ho.finGe x hx
    rw [hf, hr0, ← hadv (List.ne_nil_of_mem hx)] at this
    exact le_trans this hge

/-- the two observations at the end of a pass of the loop -/
theorem orun_done {v t : ℚ} (hd : DoneOK F flow cfg o v) (hlo : o.lastOut = some t) (hc : o.cand = none) :
    orun F flow size cfg o [.done v, .get t] =
      some { o with leaving := none, vt := v, last := t, fin := if o.waiting.isEmpty then fun _ => Num.zero else o.fin,
                    cand := some (o.waiting, t) } := by
  have hG : GetOK ({ o with
      leaving := none
      vt := v
      last := o.lastOut.getD o.last
      fin := if o.waiting.isEmpty then fun _ => Num.zero else o.fin } : OSt ℚ) t := by
    refine ⟨hd.2.1, by simp [hc], hd.2.2.1, rfl, ?_⟩
    simp only [hlo]
    exact (eqT_iff _ _).mpr rfl
  simp only [orun, ostep, hd, hG, if_true, Option.bind_some]
  simp only [hlo, Option.getD_some]

/-- **virtual time at a service end**: the oracle accepts the `done` and `get` observations of the loop's bookkeeping; what
the new phase says about the hand-off is left to the caller -/
theorem oinv_done (hi : AInv N scale size F flow cfg d1 L a q.time) (ho : OInv flow size cfg a q.time o) {p : EvId} {id0 : Int}
    (h : a.run = .F p id0 q) (a' : A) (hvt : a'.vtime = (a.afterDone F flow cfg q.time id0).vtime) (hlast : a'.last = q.time)
    (hfin : a'.fin = (a.afterDone F flow cfg q.time id0).fin) (hsub : a'.items.Sublist a.items)
    (hph : HandB a.items o.waiting o.cand → ∀ o' : OSt ℚ, o'.waiting = o.waiting → o'.cand = some (o.waiting, q.time) →
      o'.busy = none → o'.leaving = none → PhO flow size cfg a' q.time o' a'.run) :
    ∃ o', orun F flow size cfg o [.done (a.afterDone F flow cfg q.time id0).vtime, .get q.time] = some o' ∧
      OInv flow size cfg a' q.time o' := by
  have hph0 := ho.ph
  rw [h] at hph0
  obtain ⟨hB, h1, h0, h3⟩ := hph0
  have h4 := hB.2
  have hhc : a.run.heldC = some id0 := by rw [h]; rfl
  have hf0 := heldC_lt hi hhc
  have hact : ∃ c, c < F ∧ a.act c = true := ⟨flow id0, hf0, (act_iff hi hf0).mpr (Or.inr ⟨id0, hhc, rfl⟩)⟩
  have hna := nAct_after_iff hi h
  -- the oracle resets when nothing waits, the configuration when no class is active: the same condition
  have hcond : o.waiting.isEmpty = true ↔ nAct (actAfter a (flow id0)) 0 F 0 = 0 := by rw [hna, h4]; simp
  have hdv : doneV F flow cfg o = some (a.afterDone F flow cfg q.time id0).vtime := by
    unfold doneV
    rw [h3]
    simp only
    rw [advV_eq hi ho.ph hact]
    simp only [Option.map_some, A.afterDone]
    exact congrArg some (if_congr hcond Stamp.zero_eq_q (by rw [ho.vt, ho.last]))
  have hD : DoneOK F flow cfg o (a.afterDone F flow cfg q.time id0).vtime := by
    unfold DoneOK
    rw [hdv]
    exact ⟨by simp [h0], by simp [h1], by simp [ho.pend], (eqT_iff _ _).mpr rfl⟩
  have hfe : (if o.waiting.isEmpty then fun _ => (Num.zero : ℚ) else o.fin) = (a.afterDone F flow cfg q.time id0).fin :=
    if_congr hcond (funext fun _ => Stamp.zero_eq_q) ho.fin
  refine ⟨_, orun_done hD h3 hB.1, hvt.symm, hlast.symm, hfe.trans hfin.symm, ho.pend, hph hB _ rfl rfl h1 rfl, ?_,
    ho.fl.sublist hsub⟩
  -- a packet still waits: the finish times are not reset
  intro x hx
  rw [hfin]
  simp only [A.afterDone]
  rw [if_neg (fun hc => List.ne_nil_of_mem (hsub.subset hx) (hna.mp hc))]
  exact ho.finGe x (hsub.subset hx)

/-- **every configuration step keeps the oracle's invariant**: the observations of the step are accepted -/
theorem oracle_step (hi : AInv N scale size F flow cfg d1 L a q.time) (hq : IsMin a q) (he : ∀ x ∈ a.entries, x.eid < e)
    (ho : OInv flow size cfg a q.time o) (h : AStep N scale size F flow cfg n e a q a' new) :
    ∃ o', orun F flow size cfg o new = some o' ∧ OInv flow size cfg a' q.time o' := by
  have hrun := hi.run
  have hph := ho.ph
  -- the steps that leave the oracle where it is
  have stay : ∀ a' : A, a'.vtime = a.vtime → a'.last = a.last → a'.fin = a.fin → a'.items.Sublist a.items →
      PhO flow size cfg a' q.time o a'.run → ∃ o', orun F flow size cfg o [] = some o' ∧ OInv flow size cfg a' q.time o' :=
    fun a' e1 e2 e3 hs hp => ⟨o, rfl, e1 ▸ ho.vt, e2 ▸ ho.last, e3 ▸ ho.fin, ho.pend, hp,
      fun x hx => e3 ▸ ho.finGe x (hs.subset hx), ho.fl.sublist hs⟩
  cases h with
  | runInit h =>
    rw [h] at hph hrun
    obtain ⟨hB, h3, h0, h2, h1⟩ := hph
    have hG : GetOK o q.time := by
      refine ⟨by simp [h3], by simp [hB.1], by simp [ho.pend], by simp [h0], ?_⟩
      rw [h2]
      exact (eqT_iff _ _).mpr (by rw [h1, Stamp.zero_eq_q])
    exact ⟨{ o with cand := some (o.waiting, q.time) }, orun_one _ _ _ (by simp [ostep, hG]), ho.vt, ho.last, ho.fin, ho.pend,
      ⟨hB.get_block hrun.2.2.2.1 _, h3, h0⟩, ho.finGe, ho.fl⟩
  | doneBlock p id0 h hit =>
    refine oinv_done hi ho h _ rfl rfl rfl (List.Sublist.refl _) fun hB o' e1 e2 e3 e4 => ?_
    exact ⟨by rw [e1, e2]; exact hB.get_block hit _, e3, e4⟩
  | doneHit p id0 w h hw =>
    refine oinv_done hi ho h _ rfl rfl rfl List.erase_sublist fun hB o' e1 e2 e3 e4 => ?_
    exact ⟨by rw [e1, e2]; exact hB.get_hit hi.putsOK hi.sub ho.fl hw _, e3, e4⟩
  | pktResume g w h =>
    rw [h] at hph
    obtain ⟨hH, h1, h0⟩ := hph
    obtain ⟨-, ⟨l, h4, h5, h6⟩, h7⟩ := id hH
    have hok : ServeOK flow o w.1 q.time := by
      unfold ServeOK
      rw [h4]
      exact ⟨by simp [h1], by simp [ho.pend], (eqT_iff _ _).mpr rfl, toW w, h5, rfl, h6, h7⟩
    exact ⟨{ o with waiting := o.waiting.filter (fun y => y.1 ≠ w.1), cand := none, busy := some (w.1, q.time) },
      orun_one _ _ _ (by simp [ostep, hok]), ho.vt, ho.last, ho.fin, ho.pend, ⟨hH.served, rfl, h0⟩, ho.finGe, ho.fl⟩
  | sendInit p id h =>
    rw [h] at hph
    exact stay _ rfl rfl rfl (List.Sublist.refl _) ⟨hph.1, ⟨q.time, hph.2.1, rfl⟩, hph.2.2⟩
  | sendFire p t id h =>
    rw [h] at hph
    obtain ⟨hB, ⟨s0, h3, h4⟩, h0⟩ := hph
    have hok : OutOK size cfg.rate o id q.time := by
      unfold OutOK
      rw [h3]
      exact ⟨rfl, (eqT_iff _ _).mpr h4⟩
    exact ⟨{ o with busy := none, leaving := some id, lastOut := some q.time }, orun_one _ _ _ (by simp [ostep, hok]),
      ho.vt, ho.last, ho.fin, ho.pend, ⟨hB, rfl, rfl, rfl⟩, ho.finGe, ho.fl⟩
  | srcInit arr h =>
    refine stay _ rfl rfl rfl (List.Sublist.refl _) (hph.congr rfl fun g _ hw => hw.src fun u hu x hx => ?_)
    rw [srcNext_eid _ _ _ _ x hx]
    exact he u (mem_pend hu)
  | srcEnd h =>
    exact stay _ rfl rfl rfl (List.Sublist.refl _) (hph.congr rfl fun g _ hw => hw.src fun u hu x hx => nomatch hx)
  | pendNoop l1 l2 hpe hno =>
    exact stay _ rfl rfl rfl (List.Sublist.refl _)
      (hph.congr rfl fun g hg hw => hw.of_nil (Classical.not_not.mp fun hne => hno ⟨hne, g, hg⟩))
  | srcPut id arr h =>
    exact oinv_put hi hq ho h _ rfl _ ⟨q.time, NORMAL, e, n⟩ rfl (n + 1) rfl rfl rfl rfl rfl rfl rfl
  | pendHand g w l1 l2 hpe h hw =>
    rw [h] at hph
    exact stay _ rfl rfl rfl List.erase_sublist ⟨hph.1.hand hw.1, hph.2⟩

theorem orun_append (o : OSt ℚ) (l1 l2 : List (HEv ℚ)) :
    orun F flow size cfg o (l1 ++ l2) = (orun F flow size cfg o l1).bind fun o' => orun F flow size cfg o' l2 :=
  KExec.optRun_append (fun _ => rfl) (fun _ _ _ => rfl) o l1 l2

/-- the history form: if the oracle has accepted the history so far and stands in `OInv`, it accepts the history after the
step -/
theorem oracle_step_hist {hist : List (HEv ℚ)} (hi : AInv N scale size F flow cfg d1 L a q.time) (hq : IsMin a q)
    (he : ∀ x ∈ a.entries, x.eid < e) (hr : orun F flow size cfg oInit hist = some o) (ho : OInv flow size cfg a q.time o)
    (h : AStep N scale size F flow cfg n e a q a' new) :
    ∃ o', orun F flow size cfg oInit (hist ++ new) = some o' ∧ OInv flow size cfg a' q.time o' := by
  obtain ⟨o', h1, h2⟩ := oracle_step hi hq he ho h
  exact ⟨o', by rw [orun_append, hr]; exact h1, h2⟩

end WFQK
