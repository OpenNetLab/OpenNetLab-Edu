import OnlVerif.Lemmas.GenKernelDefs
import OnlVerif.Lemmas.KAccess
import OnlVerif.Generated.KernelCond
/-!
# Running the generated `Condition._check` (`Generated/KernelCond.lean`) on model `K`; the three shapes of its effect log

The bridge theorems of C05 (`evaluate`, `condCheck`) are proved where they are stated, `Props/KernelGen05.lean`.
-/

namespace GenKernel
variable {τ σ : Type} [Num τ]

/-- `Condition._check(event)` of condition `cx.c` for operand `cx.e` -/
def runCondCheck (cx : Cx) (s : KState τ σ) : Option (KState τ σ) :=
  runEff cx (Gen.Condition.check (condObj s cx.c) (s.triggered cx.c) (evOk s cx.e) (condOps s cx.c).1
    ((condOps s cx.c).2.length : Int)).eff s

omit [Num τ] in
theorem evOk_false (s : KState τ σ) (e : EvId) (x : Exc) (h : (s.ev e).out = some (.fail x)) : evOk s e = false := by
  unfold evOk; rw [h]

omit [Num τ] in
theorem evOk_true (s : KState τ σ) (e : EvId) (h : ∀ x, (s.ev e).out ≠ some (.fail x)) : evOk s e = true := by
  unfold evOk
  split
  · rename_i x hx; exact absurd hx (h x)
  · rfl

omit [Num τ] in
/-- the outcome of the operand is not touched by counting it and defusing it -/
theorem out_bump_defuse (s : KState τ σ) (c e : EvId) : (((s.bumpCount c).defuse e).ev e).out = (s.ev e).out := by
  unfold KState.defuse KState.bumpCount
  simp only [KState.ev_setEv]
  repeat' split
  all_goals first | rfl | simp_all

/-- the three shapes of the effect log of `_check` -/
theorem run_count_only (s : KState τ σ) (c e : EvId) :
    runEff { c := c, e := e } [KEff.setCount (((s.ev c).count : Int) + 1)] s = some (s.bumpCount c) := by
  have h : (((s.ev c).count : Int) + 1).toNat = (s.ev c).count + 1 := by omega
  simp only [runEff, applyEff, Option.bind_some, h]
  rfl

theorem run_count_succeed (s : KState τ σ) (c e : EvId) :
    runEff { c := c, e := e } [KEff.setCount (((s.ev c).count : Int) + 1), KEff.selfSucceedNone] s =
      some ((s.bumpCount c).trigger c (.ok .none)) := by
  have h : (((s.ev c).count : Int) + 1).toNat = (s.ev c).count + 1 := by omega
  simp only [runEff, applyEff, Option.bind_some, h]
  rfl

theorem run_count_fail (s : KState τ σ) (c e : EvId) (x : Exc) (ho : (s.ev e).out = some (.fail x)) :
    runEff { c := c, e := e } [KEff.setCount (((s.ev c).count : Int) + 1), KEff.eventDefuse, KEff.selfFailWithEventValue] s =
      some (((s.bumpCount c).defuse e).trigger c (.fail x)) := by
  have h : (((s.ev c).count : Int) + 1).toNat = (s.ev c).count + 1 := by omega
  have hb : s.setEv c { s.ev c with count := (s.ev c).count + 1 } = s.bumpCount c := rfl
  simp only [runEff, applyEff, Option.bind_some, h, hb]
  rw [out_bump_defuse, ho]
  rfl

end GenKernel
