import Mathlib.Tactic.Ring
import OnlVerif.Lemmas.SchedDRRFair
/-!
# DRR: reachable states are `Good`; windows in which two classes stay backlogged; the fairness arithmetic
-/

namespace DRR
open MQ

theorem lookup_of_mem_keys {β : Type} (m : List (Nat × β)) (c : Nat) (h : c ∈ m.map (·.1)) : ∃ v, lookup m c = some v := by
  induction m with
  | nil => simp at h
  | cons a r ih =>
    obtain ⟨k1, v1⟩ := a
    by_cases hk : k1 = c
    · exact ⟨v1, by simp [lookup, hk]⟩
    · simp only [List.map_cons, List.mem_cons] at h
      rcases h with h | h
      · exact absurd h.symm hk
      · obtain ⟨v, hv⟩ := ih h
        exact ⟨v, by simp [lookup, hk, hv]⟩

/-! ### while a sender exists the loop waits at `sent i` -/

def TxPc (s : St) : Prop := ∀ p, inTx s p → ∃ i, s.ctl.pc = .sent i

theorem dsettles_txpc (cfg : Cfg ℚ) (s s' : St) (hs : DSettles cfg s s') : TxPc s' := fun p htx => by
  rcases (dsettles_frame cfg s s' hs).2.2.2.2 with ⟨c, q, h⟩ | ⟨q, i, h, hi⟩ | h | h <;>
    rcases htx with h1 | ⟨_, h1⟩ | h1 <;> rw [h] at h1 <;> cases h1
  exact ⟨i, hi⟩

theorem dtrans_frame (cfg : Cfg ℚ) (s s' : St) (a : MAct ℚ) (o : MOut ℚ) (ht : DTrans cfg s a s' o) (h : TxPc s) :
    s'.ctl.deficit.map (·.1) = s.ctl.deficit.map (·.1) ∧ TxPc s' := by
  cases ht with
  | init _ _ hs | wake _ _ hs | resumePark cls p i d _ _ _ _ _ _ _ hs =>
    exact ⟨(dsettles_frame cfg _ s' hs).2.2.2.1, dsettles_txpc cfg _ s' hs⟩
  | put p cls n _ _ =>
    obtain ⟨m, _, e⟩ :=
      put_eq ({ s with ctl := { s.ctl with classCount := setKey s.ctl.classCount cls (n + 1) } } : St) p cls
    rw [e]
    exact ⟨rfl, h⟩
  | tokenHandoff n _ _ => exact ⟨rfl, fun p htx => by rcases htx with h1 | ⟨_, h1⟩ | h1 <;> cases h1⟩
  | resumeSend cls p i d _ _ _ _ _ => exact ⟨rfl, fun _ _ => ⟨i, rfl⟩⟩
  | sendInit p hp => exact ⟨rfl, fun _ _ => h p (Or.inl hp)⟩
  | sendFire p due hp _ => exact ⟨rfl, fun _ _ => h p (Or.inr (Or.inl ⟨due, hp⟩))⟩
  | sendDone p i cls n d _ _ _ _ hd hs =>
    refine ⟨(dsettles_frame cfg _ s' hs).2.2.2.1.trans ?_, dsettles_txpc cfg _ s' hs⟩
    show (book s.ctl cls d n p).deficit.map (·.1) = _
    rw [book_deficit]; exact keys_setKey_present _ _ _ _ hd
  | tickIdle t _ _ _ | tickBusy t p due _ _ _ | sample inc => exact ⟨rfl, h⟩

def ActOk (L : ℚ) (a : MAct ℚ) : Prop := ∀ p, a = .put p → (p.size : ℚ) ≤ L

structure Good (cfg : Cfg ℚ) (L : ℚ) (s : St) : Prop where
  inv : Inv (sched cfg) s
  small : ∀ c, ∀ p ∈ heldC (sched cfg) s c, (p.size : ℚ) ≤ L
  credit : Credit cfg L s
  ledger : LedgerK cfg s.ctl
  dkeys : s.ctl.deficit.map (·.1) = cfg.weights.map (·.1)
  txpc : TxPc s

theorem good_step (cfg : Cfg ℚ) (L : ℚ) (hL : 0 < L) (hq : ∀ cls q, quantum cfg cls = some q → 0 < q)
    (s s' : St) (a : MAct ℚ) (o : MOut ℚ) (h : Good cfg L s) (ha : ActOk L a)
    (hs : step (sched cfg) s a = .ok (s', o)) : Good cfg L s' := by
  have hi := step_inv (sched cfg) (DRR.lawful cfg) s s' a o h.inv hs
  have ht := step_dtrans cfg s s' a o hs
  have hsz : ∀ c p, s.phase = .pktHanded c p → (p.size : ℚ) ≤ L := by
    intro c p hp
    apply h.small c p
    have := h.inv.handClass c p hp
    simp [heldC, inHand, hp, this]
  refine ⟨hi.1, ?_, dtrans_credit cfg L hL hq s s' a o ht h.credit hsz, (dtrans_fair cfg L s s' a o ht h.credit h.ledger).1,
    (dtrans_frame cfg s s' a o ht h.txpc).1.trans h.dkeys, (dtrans_frame cfg s s' a o ht h.txpc).2⟩
  intro c p hp
  have e := hi.2 c
  have hm : p ∈ leftC (sched cfg) o c ++ heldC (sched cfg) s' c := List.mem_append_right _ hp
  rw [← e] at hm
  rcases List.mem_append.mp hm with h1 | h1
  · exact h.small c p h1
  · cases a with
    | put q =>
      simp only [enteredC] at h1
      split at h1
      · simp only [List.mem_singleton] at h1; subst h1; exact ha p rfl
      · cases h1
    | _ => simp [enteredC] at h1

theorem lookup_map_const {β γ : Type} (l : List (Nat × β)) (z : γ) (c : Nat) (v : γ)
    (h : lookup (l.map fun e => (e.1, z)) c = some v) : v = z := by
  induction l with
  | nil => simp [lookup] at h
  | cons a r ih =>
    simp only [List.map_cons, lookup] at h
    split at h
    · exact (Option.some.inj h).symm
    · exact ih h

theorem counts0_zero (cfg : Cfg ℚ) : ∀ e ∈ counts0 cfg, e.2 = 0 := by
  intro e he
  simp only [counts0, List.mem_map] at he
  obtain ⟨x, _, rfl⟩ := he; rfl

theorem good_init (cfg : Cfg ℚ) (L : ℚ) (hn : (cfg.weights.map (·.1)).Nodup) (t0 : ℚ) :
    Good cfg L (MQ.init (ctl0 cfg) t0 (counts0 cfg)) := by
  have h0 := init_inv (sched cfg) (ctl0 cfg) t0 (counts0 cfg) (counts0_zero cfg)
  have hdz : ∀ c v, lookup (ctl0 cfg : Ctl ℚ).deficit c = some v → v = 0 := by
    intro c v hv
    have : v = Num.zero := lookup_map_const cfg.weights (Num.zero : ℚ) c v (by simpa [ctl0] using hv)
    rw [this, zero_eq']
  have hcz : ∀ c v, lookup (ctl0 cfg : Ctl ℚ).classCount c = some v → v = 0 :=
    fun c v hv => lookup_map_const cfg.weights (0 : Int) c v (by simpa [ctl0] using hv)
  refine ⟨h0.1, fun c p hp => (by rw [h0.2 c] at hp; cases hp), ?_, ?_, ?_,
    fun p htx => (by rcases htx with h1 | ⟨_, h1⟩ | h1 <;> cases h1)⟩
  · refine ⟨?_, ?_, ?_, ?_, ?_, ?_, ?_, ?_, ?_⟩
    · simpa [MQ.init, ctl0, List.map_map, Function.comp_def] using hn
    · intro c d hd; rw [hdz c d hd]
    · intro c d q _ hk; simp [MQ.init, ctl0, curKey] at hk
    · intro c d hd _; left; rw [hdz c d hd]
    · intro c n d _ hd _; rw [hdz c d hd]
    · intro i p c d hx; simp [MQ.init, ctl0] at hx
    · intro c p hp; simp [MQ.init, lookupD, lookup] at hp
    · intro c p i hx; cases hx
    · intro i p hx; simp [MQ.init, ctl0] at hx
  · intro c d q hd _
    rw [hdz c d hd]
    simp [MQ.init, ctl0, cnt, lookup, acc, zero_eq']
  · simp [MQ.init, ctl0, List.map_map, Function.comp_def]

theorem good_run (cfg : Cfg ℚ) (L : ℚ) (hL : 0 < L) (hq : ∀ cls q, quantum cfg cls = some q → 0 < q)
    (as : List (MAct ℚ)) (s s' : St) (ins outs : List MPkt) (h : Good cfg L s) (ha : ∀ a ∈ as, ActOk L a)
    (hr : runActs (sched cfg) s as = .ok (s', ins, outs)) : Good cfg L s' := by
  induction as generalizing s ins outs with
  | nil =>
    simp only [runActs, Except.ok.injEq, Prod.mk.injEq] at hr
    obtain ⟨rfl, _, _⟩ := hr; exact h
  | cons a as ih =>
    obtain ⟨s1, o, ins2, outs2, h1, h2, _, _⟩ := runActs_cons_ok hr
    exact ih s1 ins2 outs2 (good_step cfg L hL hq s s1 a o h (ha a (by simp)) h1)
      (fun a' ha' => ha a' (List.mem_cons_of_mem _ ha')) h2

/-- a stretch of an admissible run in every state of which `P` holds; the outputs are collected -/
inductive Window (cfg : Cfg ℚ) (L : ℚ) (P : St → Prop) : St → List (MOut ℚ) → St → Prop
  | nil (s : St) : P s → Window cfg L P s [] s
  | cons (s : St) (a : MAct ℚ) (s1 : St) (o : MOut ℚ) (outs : List (MOut ℚ)) (s2 : St) : P s → ActOk L a →
      step (sched cfg) s a = .ok (s1, o) → Window cfg L P s1 outs s2 → Window cfg L P s (o :: outs) s2

theorem window_head (cfg : Cfg ℚ) (L : ℚ) (P : St → Prop) (s s2 : St) (outs : List (MOut ℚ))
    (h : Window cfg L P s outs s2) : P s := by
  cases h <;> assumption

/-- bytes of class `c` among the departures in a list of outputs -/
def bytesOut (cfg : Cfg ℚ) (c : Nat) (outs : List (MOut ℚ)) : Int := (outs.map fun o => depB cfg o c).sum

theorem window_fair (cfg : Cfg ℚ) (L : ℚ) (hL : 0 < L) (hq : ∀ cls q, quantum cfg cls = some q → 0 < q)
    (ia ib a b : Nat) (s1 s2 : St) (outs : List (MOut ℚ)) (hw : Window cfg L (Both ia ib a b) s1 outs s2)
    (hg : Good cfg L s1) :
    Good cfg L s2 ∧ Both ia ib a b s2 ∧
    psi s2.ctl ia a - psi s2.ctl ib b = psi s1.ctl ia a - psi s1.ctl ib b ∧
    acc s2.ctl.forfeited a = acc s1.ctl.forfeited a ∧ acc s2.ctl.forfeited b = acc s1.ctl.forfeited b ∧
    (∀ c, cnt s2.ctl.sentBytes c + pend cfg s2 c = cnt s1.ctl.sentBytes c + pend cfg s1 c + bytesOut cfg c outs) := by
  induction hw with
  | nil s hp => exact ⟨hg, hp, rfl, rfl, rfl, fun c => by simp [bytesOut]⟩
  | cons s act s1 o outs s2 hp ha hs hw ih =>
    have hg1 := good_step cfg L hL hq s s1 act o hg ha hs
    obtain ⟨h1, h2, h3, h4, h5, h6⟩ := ih hg1
    have hf := dtrans_fair cfg L s s1 act o (step_dtrans cfg s s1 act o hs) hg.credit hg.ledger
    obtain ⟨na, nb, hia, hib, hna, hnb⟩ := window_head cfg L _ s1 s2 outs hw
    have hpa : Pos s1.ctl a := ⟨na, lookup_of_getElem _ hg1.credit.nodup ia a na hia, hna⟩
    have hpb : Pos s1.ctl b := ⟨nb, lookup_of_getElem _ hg1.credit.nodup ib b nb hib, hnb⟩
    refine ⟨h1, h2, ?_, ?_, ?_, fun c => ?_⟩
    · rw [h3]; exact hf.2.1 ia ib a b ⟨na, nb, hia, hib, hna, hnb⟩
    · rw [h4]; exact hf.2.2.1 a hpa
    · rw [h5]; exact hf.2.2.1 b hpb
    · rw [h6 c, hf.2.2.2 c]; simp only [bytesOut, List.map_cons, List.sum_cons]; omega

/-- one class over a window, from its ledger at both ends: the bytes sent, counted in quanta, are the visits up to
the change of the credit (in `[0, Q + L)`) and of the bytes not yet booked (in `[0, L]`) -/
theorem share_near_visits {Q L B v1 v2 d1 d2 n1 n2 S1 S2 F : ℚ} (hQ : 0 < Q)
    (l1 : S1 + d1 = Q * v1 - F) (l2 : S2 + d2 = Q * v2 - F) (hB : S2 + n2 = S1 + n1 + B)
    (hd1 : 0 ≤ d1 ∧ d1 < Q + L) (hd2 : 0 ≤ d2 ∧ d2 < Q + L) (hn1 : 0 ≤ n1 ∧ n1 ≤ L) (hn2 : 0 ≤ n2 ∧ n2 ≤ L) :
    |B / Q - (v2 - v1)| < 1 + 2 * L * (1 / Q) := by
  have e : B / Q - (v2 - v1) = (B - Q * (v2 - v1)) / Q := by rw [sub_div, mul_div_cancel_left₀ _ hQ.ne']
  have e' : (1 + 2 * L * (1 / Q)) * Q = Q + 2 * L := by
    rw [add_mul, one_mul, mul_assoc, one_div_mul_cancel hQ.ne', mul_one]
  rw [e, abs_lt, lt_div_iff₀ hQ, div_lt_iff₀ hQ, neg_mul, e']
  constructor <;> linarith

/-- two classes whose `visits - passed` keep their difference receive visit counts within 2 of each other -/
theorem visits_near {va1 va2 vb1 vb2 pa1 pa2 pb1 pb2 : ℚ}
    (hpsi : (va2 - pa2) - (vb2 - pb2) = (va1 - pa1) - (vb1 - pb1))
    (hpa1 : 0 ≤ pa1 ∧ pa1 ≤ 1) (hpa2 : 0 ≤ pa2 ∧ pa2 ≤ 1) (hpb1 : 0 ≤ pb1 ∧ pb1 ≤ 1) (hpb2 : 0 ≤ pb2 ∧ pb2 ≤ 1) :
    |(va2 - va1) - (vb2 - vb1)| ≤ 2 := by
  rw [abs_le]
  constructor <;> linarith

theorem abs_sub_lt_of_near {x y v w ex ey : ℚ} (hx : |x - v| < 1 + ex) (hy : |y - w| < 1 + ey) (hvw : |v - w| ≤ 2) :
    |x - y| < 4 + (ex + ey) := by
  rw [abs_lt] at hx hy ⊢
  rw [abs_le] at hvw
  constructor <;> linarith

theorem Good.deficit_some {cfg : Cfg ℚ} {L : ℚ} {s : St} (hg : Good cfg L s) {c : Nat} {q : ℚ}
    (hqc : quantum cfg c = some q) : ∃ d, lookup s.ctl.deficit c = some d := by
  apply lookup_of_mem_keys
  rw [hg.dkeys]
  simp only [quantum, Option.map_eq_some_iff] at hqc
  obtain ⟨w, hw, _⟩ := hqc
  exact List.mem_map.mpr ⟨_, mem_of_lookup _ _ _ hw, rfl⟩

theorem Good.credit_range {cfg : Cfg ℚ} {L : ℚ} {s : St} (hg : Good cfg L s) (hL : 0 < L)
    (hq : ∀ cls q, quantum cfg cls = some q → 0 < q) {c : Nat} {d q : ℚ} (hd : lookup s.ctl.deficit c = some d)
    (hqc : quantum cfg c = some q) : 0 ≤ d ∧ d < q + L := by
  have hqp := hq c q hqc
  refine ⟨hg.credit.nonneg c d hd, ?_⟩
  by_cases hk : curKey s.ctl = some c
  · exact hg.credit.visited c d q hd hk hqc
  · rcases hg.credit.resting c d hd hk with h1 | ⟨p, hp, h1⟩
    · linarith
    · have := hg.credit.holSmall c p hp; linarith

theorem Good.pend_range {cfg : Cfg ℚ} {L : ℚ} {s : St} (hg : Good cfg L s) (hL : 0 < L) (c : Nat) :
    (0 : ℚ) ≤ (pend cfg s c : ℚ) ∧ (pend cfg s c : ℚ) ≤ L := by
  simp only [pend]
  split
  · rename_i p hp
    split
    · obtain ⟨i, hi⟩ := hg.txpc p (Or.inr (Or.inr hp))
      have := (hg.credit.txClass i p hi (Or.inr (Or.inr hp))).2
      exact ⟨by exact_mod_cast Nat.zero_le p.size, by exact_mod_cast this⟩
    · exact ⟨by simp, by simpa using hL.le⟩
  · exact ⟨by simp, by simpa using hL.le⟩

/-- between two reachable states between which class `c` forgets no credit, the bytes `B` sent for it, counted in
quanta, are its visits up to `1 + 2L/Q` -/
theorem share_of_good {cfg : Cfg ℚ} {L : ℚ} (hL : 0 < L) (hq : ∀ cls q, quantum cfg cls = some q → 0 < q) {s1 s2 : St}
    (hg1 : Good cfg L s1) (hg2 : Good cfg L s2) {c : Nat} {Q : ℚ} (hqc : quantum cfg c = some Q) {B : Int}
    (hf : acc s2.ctl.forfeited c = acc s1.ctl.forfeited c)
    (hB : cnt s2.ctl.sentBytes c + pend cfg s2 c = cnt s1.ctl.sentBytes c + pend cfg s1 c + B) :
    |(B : ℚ) / Q - ((cnt s2.ctl.visits c : ℚ) - (cnt s1.ctl.visits c : ℚ))| < 1 + 2 * L * (1 / Q) := by
  obtain ⟨d1, hd1⟩ := hg1.deficit_some hqc
  obtain ⟨d2, hd2⟩ := hg2.deficit_some hqc
  have l2 := hg2.ledger c d2 Q hd2 hqc
  rw [hf] at l2
  exact share_near_visits (hq c Q hqc) (hg1.ledger c d1 Q hd1 hqc) l2 (by exact_mod_cast hB)
    (hg1.credit_range hL hq hd1 hqc) (hg2.credit_range hL hq hd2 hqc) (hg1.pend_range hL c) (hg2.pend_range hL c)

/-- **DRR fairness over a window** in which the classes at entries `ia`, `ib` stay backlogged: the bytes sent for them,
divided by their quanta, differ by less than `4 + 2·L·(1/Q_a + 1/Q_b)`. -/
theorem window_share (cfg : Cfg ℚ) (L : ℚ) (hL : 0 < L) (hq : ∀ cls q, quantum cfg cls = some q → 0 < q)
    (ia ib a b : Nat) (s1 s2 : St) (outs : List (MOut ℚ)) (hw : Window cfg L (Both ia ib a b) s1 outs s2)
    (hg1 : Good cfg L s1) (Qa Qb : ℚ) (hqa : quantum cfg a = some Qa) (hqb : quantum cfg b = some Qb) :
    |(bytesOut cfg a outs : ℚ) / Qa - (bytesOut cfg b outs : ℚ) / Qb| < 4 + 2 * L * (1 / Qa + 1 / Qb) := by
  obtain ⟨hg2, _, hpsi, hfa, hfb, hacc⟩ := window_fair cfg L hL hq ia ib a b s1 s2 outs hw hg1
  have pr : ∀ i pc, (0 : ℚ) ≤ (passed i pc : ℚ) ∧ (passed i pc : ℚ) ≤ 1 := fun i pc => by
    exact_mod_cast passed_range i pc
  have hpsiQ : ((cnt s2.ctl.visits a : ℚ) - (passed ia s2.ctl.pc : ℚ)) - ((cnt s2.ctl.visits b : ℚ) - (passed ib s2.ctl.pc : ℚ)) =
      ((cnt s1.ctl.visits a : ℚ) - (passed ia s1.ctl.pc : ℚ)) - ((cnt s1.ctl.visits b : ℚ) - (passed ib s1.ctl.pc : ℚ)) := by
    simp only [psi] at hpsi
    exact_mod_cast hpsi
  rw [mul_add]
  exact abs_sub_lt_of_near (share_of_good hL hq hg1 hg2 hqa hfa (hacc a)) (share_of_good hL hq hg1 hg2 hqb hfb (hacc b))
    (visits_near hpsiQ (pr ia _) (pr ia _) (pr ib _) (pr ib _))

end DRR
