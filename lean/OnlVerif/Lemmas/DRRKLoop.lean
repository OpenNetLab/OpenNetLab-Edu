import OnlVerif.Lemmas.DRRKBurst
/-!
# The DRR scheduler on the kernel model: the nested loops of `DRR.run` run by the machine of `Lemmas/KProcDefs.lean` are `A.burst`
-/

set_option linter.unusedSimpArgs false

namespace DRRK
open DRROnK
open TimerK (dec_enc)
open KProc (Cfg hrun)

def endProg : LoopEnd → Burst ℚ St
  | .get m c => runTake m c
  | .send m _ id _ => .call (.store cCur (.int id)) fun _ => runServe id m
  | .idle => runWait
  | .hang => .raise hangErr

def tgt (next : Burst ℚ St) : Option LoopEnd → Burst ℚ St
  | some e => endProg e
  | none => next

variable {F : Nat} {Q : Nat → ℚ} {flow size : Int → Nat} {p : EvId} {C : Cfg St} {f : Nat → Val} {tr : Array (Obs ℚ)}

theorem reaches_innerAt {a : A} {L : LS} {H0 : List (HEv ℚ)} {t : ℚ} (hnow : C.reg.now = t)
    (hc : Cells F Q f (finA a L none)) (hH : histOf tr = H0 ++ L.evs)
    {c : Nat} (hcF : c < F) (hfl : ∀ id, a.hol c = some id → flow id = c) (next : Burst ℚ St) (m : Nat) :
    Reaches F Q p C f tr (DRROnK.innerAt flow size next m c) (tgt next (innerAt size a.ccnt a.hol t m c L).2)
      (finA a (innerAt size a.ccnt a.hol t m c L).1 (innerAt size a.ccnt a.hol t m c L).2)
      (H0 ++ (innerAt size a.ccnt a.hol t m c L).1.evs) := by
  have hd : f (cDef c) = TimeCell.enc (L.dfc c) := hc.cd c hcF
  have hn : f (cCls c) = .int (a.ccnt c) := hc.cq c hcF
  have hh : f (cHol c) = optVal (a.hol c) := hc.ch c hcF
  refine .loadTime hd (.loadKey hn ?_)
  unfold innerAt
  by_cases hcond : Num.zero < L.dfc c ∧ 0 < a.ccnt c
  · simp only [hcond, and_self, if_true]
    cases hhol : a.hol c with
    | none =>
      rw [hhol] at hh
      exact .of_eq (by heval [hh, optVal, tgt, endProg]) (.refl hc hH)
    | some id =>
      rw [hhol] at hh
      have hfid := hfl id hhol
      have hc1 := hc.setHol c none
      refine .of_eq (mid := gotPkt flow size next m c id) (tr1 := tr) (by heval [hh, optVal]) (.loadTime (x := L.dfc c) (hc1.cd c hcF) ?_)
      by_cases hle : (Num.ofNat (size id) : ℚ) ≤ L.dfc c
      · simp only [hle, if_true, hfid, tgt, endProg]
        exact .refl hc1 hH
      · simp only [hle, if_false, hfid, if_true, tgt]
        refine .of_eq (f1 := KProc.upd (KProc.upd f (cHol c) (optVal none)) (cHol c) (optVal (some id)))
          (tr1 := tr.push (.log p "park" (.int id) t)) (by heval [optVal, hnow]) (.refl ?_ ?_)
        · refine (hc1.setHol c (some id)).congr rfl rfl rfl rfl rfl rfl ?_ rfl
          show a.hol = upd (upd a.hol c none) c (some id)
          exact (upd_upd_self _ _ _ _ hhol).symm
        · simp [histOf_push, hH]
  · simp only [hcond, if_false, tgt]
    exact .refl hc hH

theorem reaches_visitAdd {a : A} {L : LS} {H0 : List (HEv ℚ)} {t : ℚ} (hnow : C.reg.now = t)
    (hc : Cells F Q f (finA a L none)) (hH : histOf tr = H0 ++ L.evs)
    {c : Nat} (hcF : c < F) (onEnd : Burst ℚ St) (m w : Nat) (rest : List (Nat × Nat)) :
    Reaches F Q p C f tr (DRROnK.visitFrom flow size onEnd m ((c, w) :: rest))
      (DRROnK.innerAt flow size (DRROnK.visitFrom flow size onEnd (m + 1) rest) m c)
      (finA a (visitAdd Q a.ccnt t c L) none) (H0 ++ (visitAdd Q a.ccnt t c L).evs) := by
  have hd : f (cDef c) = TimeCell.enc (L.dfc c) := hc.cd c hcF
  have hn : f (cCls c) = .int (a.ccnt c) := hc.cq c hcF
  have hq : f (cQuant c) = TimeCell.enc (Q c) := hc.cu c hcF
  unfold visitAdd
  by_cases hpos : 0 < a.ccnt c
  · simp only [hpos, if_true]
    exact .of_eq (by heval [DRROnK.visitFrom, loadTime, loadKey, hd, hn, hq, dec_enc, hpos, hnow])
      (.refl (hc.setDef c (L.dfc c + Q c)) (tr := (tr.push (.log p "visit" (.int (c : Int)) t)).push
        (.log p "credit" (TimeCell.enc (L.dfc c + Q c)) t)) (by simp [histOf_push, hH]))
  · simp only [hpos, if_false]
    exact .of_eq (by heval [DRROnK.visitFrom, loadKey, hn, hpos]) (.refl hc hH)

theorem reaches_visitFrom {a : A} {H0 : List (HEv ℚ)} {t : ℚ} (hnow : C.reg.now = t) (onEnd : Burst ℚ St) :
    ∀ (ws' : List (Nat × Nat)) (m : Nat) (L : LS) (f : Nat → Val) (tr : Array (Obs ℚ)),
      Cells F Q f (finA a L none) → histOf tr = H0 ++ L.evs →
      (∀ e ∈ ws', e.1 < F) → (∀ e ∈ ws', ∀ id, a.hol e.1 = some id → flow id = e.1) →
      Reaches F Q p C f tr (DRROnK.visitFrom flow size onEnd m ws')
        (tgt onEnd (visitFrom Q size a.ccnt a.hol t m ws' L).2)
        (finA a (visitFrom Q size a.ccnt a.hol t m ws' L).1 (visitFrom Q size a.ccnt a.hol t m ws' L).2)
        (H0 ++ (visitFrom Q size a.ccnt a.hol t m ws' L).1.evs)
  | [], m, L, f, tr, hc, hH, _, _ => by
    simp only [visitFrom, DRROnK.visitFrom, tgt]
    exact .refl hc hH
  | (c, w) :: rest, m, L, f, tr, hc, hH, hF, hfl => by
    have hcF : c < F := hF (c, w) List.mem_cons_self
    refine (reaches_visitAdd (flow := flow) (size := size) hnow hc hH hcF onEnd m w rest).trans ?_
    intro f1 tr1 hc1 hH1
    have h2 := reaches_innerAt (p := p) (flow := flow) (size := size) hnow hc1 hH1 hcF
      (hfl (c, w) List.mem_cons_self) (DRROnK.visitFrom flow size onEnd (m + 1) rest) m
    rw [visitFrom]
    cases hr : innerAt size a.ccnt a.hol t m c (visitAdd Q a.ccnt t c L) with
    | mk L' oe =>
      rw [hr] at h2
      cases oe with
      | some e => exact h2
      | none =>
        refine h2.trans ?_
        intro f2 tr2 hc2 hH2
        exact reaches_visitFrom hnow onEnd rest (m + 1) L' f2 tr2 hc2 hH2
          (fun e he => hF e (List.mem_cons_of_mem _ he)) (fun e he => hfl e (List.mem_cons_of_mem _ he))

theorem reaches_passes {a : A} {H0 : List (HEv ℚ)} {t : ℚ} (hnow : C.reg.now = t) (ws : List (Nat × Nat)) (hF : ∀ e ∈ ws, e.1 < F)
    (hfl : ∀ e ∈ ws, ∀ id, a.hol e.1 = some id → flow id = e.1) :
    ∀ (k : Nat) (L : LS) (f : Nat → Val) (tr : Array (Obs ℚ)), Cells F Q f (finA a L none) → histOf tr = H0 ++ L.evs →
      Reaches F Q p C f tr (DRROnK.passes F flow size ws k) (endProg (passes Q size a.ccnt a.hol t (a.total F) ws k L).2)
        (finA a (passes Q size a.ccnt a.hol t (a.total F) ws k L).1 (some (passes Q size a.ccnt a.hol t (a.total F) ws k L).2))
        (H0 ++ (passes Q size a.ccnt a.hol t (a.total F) ws k L).1.evs)
  | 0, L, f, tr, hc, hH => by
    simp only [passes, DRROnK.passes, endProg]
    exact .refl hc hH
  | k + 1, L, f, tr, hc, hH => by
    refine .of_eq (hrun_total a.cnt _ hc.cc) ?_
    rw [passes]
    show Reaches F Q p C f tr (if 0 < a.total F then _ else _) _ _ _
    by_cases hpos : 0 < a.total F
    · simp only [hpos, if_true]
      have h1 := reaches_visitFrom (p := p) (flow := flow) (size := size) hnow (DRROnK.passes F flow size ws k) ws 0 L f tr hc hH hF hfl
      cases hr : visitFrom Q size a.ccnt a.hol t 0 ws L with
      | mk L' oe =>
        rw [hr] at h1
        cases oe with
        | some e => exact h1
        | none =>
          refine h1.trans ?_
          intro f1 tr1 hc1 hH1
          exact reaches_passes hnow ws hF hfl k L' f1 tr1 hc1 hH1
    · simp only [hpos, if_false]
      by_cases hz : a.total F = 0
      · have hz' : sumFrom a.cnt 0 F = 0 := hz
        simp only [hz, hz', if_true, endProg]
        exact .refl hc hH
      · have hz' : ¬ sumFrom a.cnt 0 F = 0 := hz
        simp only [hz, hz', if_false, endProg]
        exact .refl hc hH

theorem reaches_thenPasses {a : A} {H0 : List (HEv ℚ)} {t : ℚ} (hnow : C.reg.now = t) (ws : List (Nat × Nat)) (hF : ∀ e ∈ ws, e.1 < F)
    (hfl : ∀ e ∈ ws, ∀ id, a.hol e.1 = some id → flow id = e.1) (P : Nat) {prog : Burst ℚ St}
    (r : LS × Option LoopEnd)
    (h : Reaches F Q p C f tr prog (tgt (DRROnK.passes F flow size ws P) r.2) (finA a r.1 r.2) (H0 ++ r.1.evs)) :
    Reaches F Q p C f tr prog (endProg (thenPasses Q size a.ccnt a.hol t (a.total F) ws P r).2)
      (finA a (thenPasses Q size a.ccnt a.hol t (a.total F) ws P r).1 (some (thenPasses Q size a.ccnt a.hol t (a.total F) ws P r).2))
      (H0 ++ (thenPasses Q size a.ccnt a.hol t (a.total F) ws P r).1.evs) := by
  obtain ⟨L', oe⟩ := r
  cases oe with
  | some e => exact h
  | none =>
    refine h.trans ?_
    intro f1 tr1 hc1 hH1
    exact reaches_passes hnow ws hF hfl P L' f1 tr1 hc1 hH1

def entryProg (F : Nat) (flow size : Int → Nat) (ws : List (Nat × Nat)) (P : Nat) : Entry → Burst ℚ St
  | .top => DRROnK.passes F flow size ws P
  | .got m id => resumeGot F flow size ws P m id
  | .done m id => resumeDone F flow size ws P m id

def EntryOK (flow : Int → Nat) (a : A) (ws : List (Nat × Nat)) : Entry → Prop
  | .top => True
  | .got m id => ∃ w rest, ws.drop m = (flow id, w) :: rest ∧ a.hol (flow id) = none
  | .done m id => ∃ w rest, ws.drop m = (flow id, w) :: rest

theorem finA_self (a : A) : finA a ⟨a.dfc, []⟩ none = a := rfl

theorem reaches_burst_top {a : A} {H0 : List (HEv ℚ)} {t : ℚ} (hnow : C.reg.now = t) (hc : Cells F Q f a)
    (hH : histOf tr = H0) (ws : List (Nat × Nat)) (hF : ∀ e ∈ ws, e.1 < F)
    (hfl : ∀ e ∈ ws, ∀ id, a.hol e.1 = some id → flow id = e.1) (P : Nat) :
    Reaches F Q p C f tr (entryProg F flow size ws P .top) (endProg (a.burst F Q size ws P t .top).fin)
      (a.burst F Q size ws P t .top).a (H0 ++ (a.burst F Q size ws P t .top).evs) := by
  have := reaches_passes (p := p) (flow := flow) (size := size) (a := a) (H0 := H0) hnow ws hF hfl P ⟨a.dfc, []⟩ f tr hc
    (by simpa using hH)
  simpa [A.burst, finish, entryProg] using this

theorem reaches_burst_got {a : A} {H0 : List (HEv ℚ)} {t : ℚ} (hnow : C.reg.now = t) (hc : Cells F Q f a)
    (hH : histOf tr = H0) (ws : List (Nat × Nat)) (hF : ∀ e ∈ ws, e.1 < F)
    (hfl : ∀ e ∈ ws, ∀ id, a.hol e.1 = some id → flow id = e.1) (P m : Nat) (id : Int) {w : Nat} {rest : List (Nat × Nat)}
    (hws : ws.drop m = (flow id, w) :: rest) (hhol : a.hol (flow id) = none) :
    Reaches F Q p C f tr (entryProg F flow size ws P (.got m id)) (endProg (a.burst F Q size ws P t (.got m id)).fin)
      (a.burst F Q size ws P t (.got m id)).a (H0 ++ (a.burst F Q size ws P t (.got m id)).evs) := by
  have hcF : flow id < F := hF (flow id, w) (List.mem_of_mem_drop (by rw [hws]; exact List.mem_cons_self))
  have hd : f (cDef (flow id)) = TimeCell.enc (a.dfc (flow id)) := hc.cd _ hcF
  have hh : f (cHol (flow id)) = optVal (a.hol (flow id)) := hc.ch _ hcF
  rw [hhol] at hh
  simp only [entryProg, resumeGot, A.burst, hws]
  by_cases hle : (Num.ofNat (size id) : ℚ) ≤ a.dfc (flow id)
  · simp only [hle, if_true, List.append_nil]
    exact .of_eq (by heval [gotPkt, loadTime, hd, dec_enc, hle, endProg]) (.refl hc hH)
  · simp only [hle, if_false]
    have hc1 := hc.setHol (flow id) (some id)
    have hrest : ∀ e ∈ rest, e ∈ ws := fun e he => List.mem_of_mem_drop (by rw [hws]; exact List.mem_cons_of_mem _ he)
    have hfl1 : ∀ e ∈ ws, ∀ id', upd a.hol (flow id) (some id) e.1 = some id' → flow id' = e.1 := by
      intro e he id' h
      by_cases hec : e.1 = flow id
      · rw [hec, upd_same] at h
        cases h; exact hec.symm
      · rw [upd_ne _ _ _ _ hec] at h
        exact hfl e he id' h
    refine .of_eq (f1 := KProc.upd f (cHol (flow id)) (optVal (some id))) (tr1 := tr.push (.log p "park" (.int id) t))
      (mid := DRROnK.visitFrom flow size (DRROnK.passes F flow size ws P) (m + 1) rest)
      (by heval [gotPkt, loadTime, hd, dec_enc, hle, hh, optVal, hnow]) ?_
    simp only [finish]
    rw [← List.append_assoc]
    refine reaches_thenPasses (a := { a with hol := upd a.hol (flow id) (some id) }) (H0 := H0 ++ [.park id t]) hnow ws hF hfl1 P
      _ ?_
    exact reaches_visitFrom (a := { a with hol := upd a.hol (flow id) (some id) }) (H0 := H0 ++ [.park id t]) hnow _ rest (m + 1)
      ⟨a.dfc, []⟩ _ (tr.push (.log p "park" (.int id) t)) hc1 (by simp [histOf_push, hH])
      (fun e he => hF e (hrest e he)) (fun e he => hfl1 e (hrest e he))

theorem reaches_book {a : A} {H0 : List (HEv ℚ)} {t : ℚ} (hnow : C.reg.now = t) (hc : Cells F Q f a)
    (hH : histOf tr = H0) {c : Nat} (hcF : c < F) (id : Int) (next : Burst ℚ St) :
    Reaches F Q p C f tr
      (addKeyInt (cCls c) (-1) <|
        loadTime (cDef c) fun d =>
        .call (.store (cDef c) (TimeCell.enc (d - Num.ofNat (size id)))) fun _ =>
        .call (.log "done" (.int id)) fun _ =>
        .call (.log "credit" (TimeCell.enc (d - Num.ofNat (size id)))) fun _ =>
        loadKey (cCls c) fun n =>
        if n = 0 then
          loadTime (cForf c) fun g =>
          .call (.store (cForf c) (TimeCell.enc (g + (d - Num.ofNat (size id))))) fun _ =>
          .call (.store (cDef c) (TimeCell.enc (Num.zero : ℚ))) fun _ =>
          .call (.log "reset" (.int c)) fun _ =>
          .call (.log "credit" (TimeCell.enc (Num.zero : ℚ))) fun _ => next
        else next)
      next (a.book size c id) (H0 ++ bookEvs a c id t) := by
  have hc1 := hc.setCls c (a.ccnt c + -1)
  have hc2 := hc1.setDef c (a.dfc c - Num.ofNat (size id))
  refine .addKeyInt (hc.cq c hcF) (.loadTime (x := a.dfc c) (hc1.cd c hcF) (.store (.logInt (.logEnc ?_))))
  refine .loadKey (n := a.ccnt c + -1) (by simpa using hc2.cq c hcF) ?_
  unfold A.book bookEvs
  by_cases hz : a.ccnt c + -1 = 0
  · simp only [if_pos hz]
    have hc3 := hc2.setForf c (a.forf c + (a.dfc c - Num.ofNat (size id)))
    refine .loadTime (x := a.forf c) (hc2.cf c hcF) (.store (.store (.logInt (.logEnc ?_))))
    refine .refl ((hc3.setDef c 0).congr rfl rfl rfl rfl rfl ?_ rfl rfl) ?_
    · exact (upd_upd _ _ _ _).symm
    · simp [histOf_push, hH, hnow]
  · simp only [if_neg hz]
    exact .refl hc2 (by simp [histOf_push, hH, hnow])

theorem reaches_burst_done {a : A} {H0 : List (HEv ℚ)} {t : ℚ} (hnow : C.reg.now = t) (hc : Cells F Q f a)
    (hH : histOf tr = H0) (ws : List (Nat × Nat)) (hF : ∀ e ∈ ws, e.1 < F)
    (hfl : ∀ e ∈ ws, ∀ id, a.hol e.1 = some id → flow id = e.1) (P m : Nat) (id : Int) {w : Nat} {rest : List (Nat × Nat)}
    (hws : ws.drop m = (flow id, w) :: rest) :
    Reaches F Q p C f tr (entryProg F flow size ws P (.done m id)) (endProg (a.burst F Q size ws P t (.done m id)).fin)
      (a.burst F Q size ws P t (.done m id)).a (H0 ++ (a.burst F Q size ws P t (.done m id)).evs) := by
  have hmem : (flow id, w) ∈ ws := List.mem_of_mem_drop (by rw [hws]; exact List.mem_cons_self)
  have hcF : flow id < F := hF _ hmem
  have hrest : ∀ e ∈ rest, e ∈ ws := fun e he => List.mem_of_mem_drop (by rw [hws]; exact List.mem_cons_of_mem _ he)
  have hhol : (a.book size (flow id) id).hol = a.hol := by unfold A.book; split <;> rfl
  have hfl1 : ∀ e ∈ ws, ∀ id', (a.book size (flow id) id).hol e.1 = some id' → flow id' = e.1 := by
    rw [hhol]; exact hfl
  simp only [entryProg, resumeDone, A.burst, hws, finish]
  rw [← List.append_assoc]
  refine reaches_thenPasses (a := a.book size (flow id) id) (H0 := H0 ++ bookEvs a (flow id) id t) hnow ws hF hfl1 P _ ?_
  refine (reaches_book (size := size) hnow hc hH hcF id _).trans ?_
  intro f1 tr1 hc1 hH1
  have h2 := reaches_innerAt (p := p) (flow := flow) (size := size) (a := a.book size (flow id) id)
    (L := ⟨(a.book size (flow id) id).dfc, []⟩) (H0 := H0 ++ bookEvs a (flow id) id t) hnow hc1 (by simpa using hH1) hcF
    (hfl1 _ hmem) (DRROnK.visitFrom flow size (DRROnK.passes F flow size ws P) (m + 1) rest) m
  cases hr : innerAt size (a.book size (flow id) id).ccnt (a.book size (flow id) id).hol t m (flow id)
      ⟨(a.book size (flow id) id).dfc, []⟩ with
  | mk L' oe =>
    rw [hr] at h2
    cases oe with
    | some e => exact h2
    | none =>
      refine h2.trans ?_
      intro f2 tr2 hc2 hH2
      exact reaches_visitFrom hnow _ rest (m + 1) L' f2 tr2 hc2 hH2 (fun e he => hF e (hrest e he))
        (fun e he => hfl1 e (hrest e he))

/-- **a burst of `DRR.run` executed by the machine is `A.burst`**: from a configuration whose attribute cells are those of `a`,
the program of the burst runs into the program of its end (`endProg`) in a configuration that differs only by the attribute
cells — now those of the configuration `A.burst` computes — and by the observations `A.burst` lists -/
theorem reaches_burst {a : A} {H0 : List (HEv ℚ)} {t : ℚ} (hnow : C.reg.now = t) (hc : Cells F Q f a)
    (hH : histOf tr = H0) (ws : List (Nat × Nat)) (hF : ∀ e ∈ ws, e.1 < F)
    (hfl : ∀ e ∈ ws, ∀ id, a.hol e.1 = some id → flow id = e.1) (P : Nat) (en : Entry) (hen : EntryOK flow a ws en) :
    Reaches F Q p C f tr (entryProg F flow size ws P en) (endProg (a.burst F Q size ws P t en).fin)
      (a.burst F Q size ws P t en).a (H0 ++ (a.burst F Q size ws P t en).evs) := by
  cases en with
  | top => exact reaches_burst_top hnow hc hH ws hF hfl P
  | got m id =>
    obtain ⟨w, rest, hws, hhol⟩ := hen
    exact reaches_burst_got hnow hc hH ws hF hfl P m id hws hhol
  | done m id =>
    obtain ⟨w, rest, hws⟩ := hen
    exact reaches_burst_done hnow hc hH ws hF hfl P m id hws

end DRRK
