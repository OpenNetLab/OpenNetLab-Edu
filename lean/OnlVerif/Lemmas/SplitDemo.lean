import OnlVerif.Lemmas.SplitUntil
import OnlVerif.Lemmas.Scalar
import OnlVerif.Lemmas.SplitTime
section
/-!
# A concrete split run (non-vacuity of the C03 split-transparency theorems)

Two processes.  `A` creates an event `ev`, publishes it, sleeps 2, succeeds `ev` with 7, sleeps 1, logs.  `B` sleeps 1,
fetches `ev`, waits for it, logs the value it got, sleeps 5, logs.  The run is cut as
`step(); step(); run(until=ev); run(until=6); run()` and compared with the single `run()`.
All states are computed by the model itself; facts about them are checked by kernel evaluation.

Second part: the run continued through `run(until=6)`, for the stage-3 theorem.
-/

deriving instance DecidableEq for Val
deriving instance DecidableEq for Exc
deriving instance DecidableEq for Outcome
deriving instance DecidableEq for Resume
deriving instance DecidableEq for Obs

namespace SplitDemo

abbrev St := Nat × EvId

def prog : Nat → EvId → Resume → Burst ℚ St
  | 0, _, _ => .call .event fun rp => match rp with
      | .ev ev => .call (.store 0 (.ev ev)) fun _ => .call (.timeout 2 .none) fun rp2 => match rp2 with
          | .ev t => .yield t (1, ev)
          | _ => .ret .none
      | _ => .ret .none
  | 1, ev, _ => .call (.succeed ev (.int 7)) fun _ => .call (.timeout 1 .none) fun rp => match rp with
      | .ev t => .yield t (2, ev)
      | _ => .ret .none
  | 2, _, _ => .call (.log "A-done" .none) fun _ => .ret .none
  | 10, _, _ => .call (.timeout 1 .none) fun rp => match rp with
      | .ev t => .yield t (11, 0)
      | _ => .ret .none
  | 11, _, _ => .call (.load 0) fun rp => match rp with
      | .val (.ev ev) => .call (.log "B-wait" (.ev ev)) fun _ => .yield ev (12, ev)
      | _ => .ret .none
  | 12, _, r => .call (.log "B-got" (match r with | .value v => v | _ => .none)) fun _ =>
      .call (.timeout 5 .none) fun rp => match rp with
        | .ev t => .yield t (13, 0)
        | _ => .ret .none
  | 13, _, _ => .call (.log "B-done" .none) fun _ => .ret .none
  | _, _, _ => .ret .none

def body : St → Resume → Burst ℚ St := fun st r => prog st.1 st.2 r

/-- a fresh environment after `env.process(A)`, `env.process(B)` -/
def s0 : KState ℚ St :=
  [Call.spawn (0, 0), Call.spawn (10, 0)].foldl (fun s c => (doCall s 0 c).1) { now := 0 }

def stOf (r : StepResult ℚ St) (d : KState ℚ St) : KState ℚ St := (r.st?).getD d

def RunResult.st : RunResult ℚ St → KState ℚ St
  | .returned _ s => s
  | .raised _ s => s
  | .outOfFuel s => s

def RunResult.val? : RunResult ℚ St → Option Val
  | .returned v _ => some v
  | _ => none

theorem returned_of_val (r : RunResult ℚ St) (v : Val) (h : RunResult.val? r = some v) : r = .returned v (RunResult.st r) := by
  cases r <;> simp only [RunResult.val?, Option.some.injEq] at h <;> first | (subst h; rfl) | cases h

/-- after `step(); step()`: both processes have started, `ev` (event 4) exists -/
def s2 : KState ℚ St := stOf (stepN body 3 2 s0) s0
def ev : EvId := 4
def r5 : RunResult ℚ St := runUntilEvent body 3 20 ev s2
def s5 : KState ℚ St := RunResult.st r5
def r6 : RunResult ℚ St := runUntilTime body 3 20 6 s5
def s6 : KState ℚ St := RunResult.st r6
def r9 : RunResult ℚ St := runAll body 3 20 s6
def rAll : RunResult ℚ St := runAll body 3 20 s0

theorem s0_stopFree : AllStopFree s0 :=
  allStopFree_doCall _ _ _ (allStopFree_doCall _ _ _ (allStopFree_of_empty _ rfl))

theorem s2_steps : stepN body 3 2 s0 = .ok s2 := by
  have h : ∀ r : StepResult ℚ St, (match r with | .ok _ => true | _ => false) = true → r = .ok (stOf r s0) := by
    intro r hr; cases r <;> first | rfl | cases hr
  exact h _ (by decide +kernel)

theorem s2_stopFree : AllStopFree s2 := stepN_stopFree _ body 3 2 s0 s2 s0_stopFree s2_steps

theorem ev_pending : s2.processed ev = false := by decide +kernel

theorem r5_returned : runUntilEvent body 3 20 ev s2 = .returned (.int 7) s5 :=
  returned_of_val r5 (.int 7) (by decide +kernel)

theorem split_trace_eq : (RunResult.st r9).trace = (RunResult.st rAll).trace := by decide +kernel

/-- the trace compared is not empty -/
theorem trace_size : (RunResult.st rAll).trace.size = 13 := by decide +kernel

end SplitDemo

end

section
/-!
# The concrete split run, continued: `run(until=6)` (non-vacuity of the stage-3 theorem)

The state `SplitDemo.s5` (after `step(); step(); run(until=ev)`) is well-scoped, its agenda is sorted, it carries no stop;
the program of `SplitDemo` treats event ids as opaque tokens (`BodySim`); no condition is ever built.  So
`runUntilTime_transparent_run` applies to `run(until=6)` from `s5`.
-/

deriving instance DecidableEq for ReqData
deriving instance DecidableEq for EvRec
deriving instance DecidableEq for QEntry
deriving instance DecidableEq for ResKind
deriving instance DecidableEq for ResRec
deriving instance DecidableEq for ProcRec

namespace SplitDemo

theorem s5_size_pos : 0 < s5.events.size := by decide +kernel

/-- the split `run(until=6)` made in state `s5`; a local state `(pc, e)` keeps one event id -/
def cfg : SplitCfg St := SplitCfg.at s5 s5_size_pos 6 (fun st => (st.1, shAt s5.events.size st.2))

/-- the seven equations are decided together, so that the kernel computes `s5` once -/
theorem s5_closed : cfg.Closed s5 := by
  have h : s5.events.map (rnRec cfg.ρ) = s5.events ∧ s5.agenda.map cfg.rnEntry = s5.agenda ∧
      s5.procs.map (fun pr => (cfg.ρ pr.1, rnProc cfg.ρ cfg.rσ pr.2)) = s5.procs ∧ s5.active.map cfg.ρ = s5.active ∧
      s5.trace.map (rnObs cfg.ρ) = s5.trace ∧ s5.shared.map (fun kv => (kv.1, rnVal cfg.ρ kv.2)) = s5.shared ∧
      s5.resources.map (rnRes cfg.ρ) = s5.resources := by decide +kernel
  exact ⟨h.1, h.2.1, h.2.2.1, h.2.2.2.1, h.2.2.2.2.1, h.2.2.2.2.2.1, h.2.2.2.2.2.2⟩

theorem s5_sorted : SortedAg s5 := ⟨by decide +kernel, by decide +kernel⟩

theorem s5_stopFree : AllStopFree s5 :=
  let ⟨_, _, _, h⟩ := runUntilEvent_transparent body 3 20 ev s2 s5 (.int 7) s2_stopFree ev_pending r5_returned
  h

theorem s5_now : s5.now < cfg.t := by decide +kernel

theorem r6_returned : runUntilTime body 3 20 cfg.t s5 = .returned .none s6 :=
  returned_of_val r6 .none (by decide +kernel)

theorem prog_other (pc : Nat) (e : EvId) (r : Resume) (h : pc ≠ 0 ∧ pc ≠ 1 ∧ pc ≠ 2 ∧ pc ≠ 10 ∧ pc ≠ 11 ∧ pc ≠ 12 ∧ pc ≠ 13) :
    prog pc e r = .ret .none := by
  unfold prog
  split <;> first | rfl | (exfalso; omega)

theorem body_sim (ρ : EvId → EvId) (h0 : ρ 0 = 0) : BodySim ρ (fun st : St => (st.1, ρ st.2)) body := by
  have hy : ∀ (t : EvId) (pc : Nat), BurstSim (τ := ℚ) ρ (fun st : St => (st.1, ρ st.2)) (.yield t (pc, 0)) (.yield (ρ t) (pc, 0)) := by
    intro t pc
    have := BurstSim.yield (τ := ℚ) (ρ := ρ) (rσ := fun st : St => (st.1, ρ st.2)) t (pc, 0)
    simp only [h0] at this
    exact this
  intro st r
  obtain ⟨pc, e⟩ := st
  show BurstSim ρ _ (prog pc e r) (prog pc (ρ e) (rnResume ρ r))
  have hcases : pc = 0 ∨ pc = 1 ∨ pc = 2 ∨ pc = 10 ∨ pc = 11 ∨ pc = 12 ∨ pc = 13 ∨
      (pc ≠ 0 ∧ pc ≠ 1 ∧ pc ≠ 2 ∧ pc ≠ 10 ∧ pc ≠ 11 ∧ pc ≠ 12 ∧ pc ≠ 13) := by omega
  rcases hcases with h | h | h | h | h | h | h | h
  · subst h
    refine BurstSim.call .event _ _ ?_
    intro rp
    cases rp with
    | ev ev' =>
      refine BurstSim.call (.store 0 (.ev ev')) _ _ ?_
      intro _
      refine BurstSim.call (.timeout 2 .none) _ _ ?_
      intro rp2
      cases rp2 with
      | ev t => exact BurstSim.yield t (1, ev')
      | _ => exact BurstSim.ret .none
    | _ => exact BurstSim.ret .none
  · subst h
    refine BurstSim.call (.succeed e (.int 7)) _ _ ?_
    intro _
    refine BurstSim.call (.timeout 1 .none) _ _ ?_
    intro rp
    cases rp with
    | ev t => exact BurstSim.yield t (2, e)
    | _ => exact BurstSim.ret .none
  · subst h
    refine BurstSim.call (.log "A-done" .none) _ _ ?_
    intro _
    exact BurstSim.ret .none
  · subst h
    refine BurstSim.call (.timeout 1 .none) _ _ ?_
    intro rp
    cases rp with
    | ev t => exact hy t 11
    | _ => exact BurstSim.ret .none
  · subst h
    refine BurstSim.call (.load 0) _ _ ?_
    intro rp
    cases rp with
    | val v =>
      cases v with
      | ev ev' =>
        refine BurstSim.call (.log "B-wait" (.ev ev')) _ _ ?_
        intro _
        exact BurstSim.yield ev' (12, ev')
      | _ => exact BurstSim.ret .none
    | _ => exact BurstSim.ret .none
  · subst h
    have cont : ∀ w : Val, BurstSim ρ (fun st : St => (st.1, ρ st.2)) (prog 12 e (.value w)) (prog 12 (ρ e) (.value (rnVal ρ w))) := by
      intro w
      refine BurstSim.call (.log "B-got" w) _ _ ?_
      intro _
      refine BurstSim.call (.timeout 5 .none) _ _ ?_
      intro rp
      cases rp with
      | ev t => exact hy t 13
      | _ => exact BurstSim.ret .none
    cases r with
    | value w => exact cont w
    | _ => exact cont .none
  · subst h
    refine BurstSim.call (.log "B-done" .none) _ _ ?_
    intro _
    exact BurstSim.ret .none
  · rw [prog_other pc e r h, prog_other pc (ρ e) _ h]
    exact BurstSim.ret .none

theorem cfg_body_sim : BodySim cfg.ρ cfg.rσ body := body_sim (shAt s5.events.size) (shAt_of_lt s5_size_pos)

theorem s5_run_ends : ∀ s', stepN body 3 5 s5 ≠ .ok s' := by
  have h : (match stepN body 3 5 s5 with | .ok _ => false | _ => true) = true := by decide +kernel
  intro s' hc
  rw [hc] at h
  cases h

theorem s5_noBuild : ∀ j, j < 5 → SplitCfg.noBuildNext (stOf (stepN body 3 j s5) s5) = true := by decide +kernel

/-- no `Condition._build_value` ever runs in the rest of the run: the fuel hypothesis holds -/
theorem s5_fuel : cfg.FuelAlong body 3 s5 := by
  intro j sj hj
  by_cases hlt : j < 5
  · have := s5_noBuild j hlt
    rw [hj] at this
    exact cfg.stepFuelOK_of_noBuild body 3 sj this
  · exfalso
    have h5 : j = 5 + (j - 5) := by omega
    rw [h5, stepN_add] at hj
    cases h : stepN body 3 5 s5 with
    | ok s' => exact s5_run_ends s' h
    | _ => rw [h] at hj; cases hj

theorem s6_trace : s6.trace = (stOf (stepN body 3 2 s5) s5).trace.map (rnObs cfg.ρ) ∧ s6.trace.size = 10 := by
  decide +kernel

end SplitDemo

end
