import OnlVerif.Lemmas.SPKFinal
import OnlVerif.Props.C12
/-!
# C12/C13 on the kernel: the SP scheduler *as processes on the kernel model* refines the MultiQueueServer LTS

`OnlVerif/Net/SPOnK.lean` writes `MultiQueueScheduler.put`, `Scheduler.send_packet` (a child process per transmission,
joined with `yield process`), `SP.run` and a packet source as one program of the kernel model `K` (`OnlVerif/Kernel`).
Nothing is assumed about scheduling: `Environment.step` of the kernel model decides what runs when (the `StorePut` /
`StoreGet` events of the per-flow stores and of the wake-up store, the `Initialize` and `Process` events of the sender, the
timeouts of the source and of the sender).  The theorems close the gap DESIGN §2.3 names for this device: every kernel step
of this program is a (possibly empty) sequence of actions the MultiQueueServer LTS with the SP record
(`OnlVerif/Net/MultiQueue.lean`, `Net/Sched/SP.lean`) *accepts*, so the admissibility rules of the LTS (a triggered event is
processed before the clock moves, a transmission ends exactly at its due instant, a wake-up token is handed over before the
clock moves) are consequences of the kernel model, and the C12/C13 theorems hold of kernel runs.

Scope: one `SP` over the flows `0 … F-1` (`F` arbitrary) with an arbitrary priority table naming only these flows,
`flow2class` the identity, an `out` attached, `rate > 0`; one source process with non-negative gaps (zero gaps = bursts, and
arrivals exactly at transmission ends, included) whose packets belong to flows with a positive priority (a packet of another
flow makes `SP.run` spin for ever without yielding: a hang, which the model reports as the exception `Hang`); exact rational
time; `fuel + 1` = any positive bound of the `_resume` loop.
-/

namespace C13K
open SPOnK SPK MQ

/-- **Refinement, step by step**: let `s` be reachable by kernel steps from the initial state and let the next kernel step
end in `s'`.  Then that step is a normal one (`.ok`: no exception — in particular never `Hang` —, no stop), and there is a
(possibly empty) sequence of LTS actions that the MultiQueueServer LTS with the SP record *accepts* from the abstraction of
`s`, that ends exactly in the abstraction of `s'` (the step commutes with the executable abstraction function `absSP`), and
in which the packets accepted / sent out are exactly the `put` / `out` observations the kernel step appended to the trace. -/
theorem sp_on_kernel_step_refines (F : Nat) (flow size : Int → Nat) (cfg : SP.Cfg ℚ) (arrivals : List (ℚ × Int))
    (hw : WorkOK flow F cfg arrivals) (ht : TableOK F cfg) (hr : 0 < cfg.rate) (fuel : Nat) (s s' : KState ℚ (SpSt ℚ))
    (hreach : KReach (prog F flow size cfg) (fuel + 1) (initState F arrivals) s)
    (hstep : (step (prog F flow size cfg) (fuel + 1) s).state? = some s') :
    step (prog F flow size cfg) (fuel + 1) s = .ok s' ∧
    ∃ new acts, histOf s'.trace = histOf s.trace ++ new ∧
      runActs (SP.sched cfg) (absSP flow size s) acts = .ok (absSP flow size s', putPk flow size new, outPk flow size new) := by
  obtain ⟨a, _, hi, _⟩ := reach_lts (size := size) fuel hw ht hr hreach
  cases hp : popMin s.agenda with
  | none => simp [_root_.step, hp, StepResult.state?] at hstep
  | some qr =>
    obtain ⟨q, rest⟩ := qr
    obtain ⟨s'', a', new, h1, h2, -, -, -, h6, acts, h7⟩ := inv_step_lts (size := size) fuel hi hp
    rw [h1] at hstep
    simp only [StepResult.state?, Option.some.injEq] at hstep
    subst hstep
    exact ⟨h1, new, acts, h6, by rw [absSP_eq hi, absSP_eq h2]; exact h7⟩

/-- **Refinement, whole runs**: every state reachable by kernel steps is the image under `absSP` of an *admissible* run of
the LTS from the state of a fresh `SP` (`MQ.start (SP.Pc.scan 0) 0 []`, which `Props/C13.lean` calls `start 0`): the LTS accepts
some action sequence that ends in `absSP s` and in which the packets accepted are the `put` observations and the packets sent
out the `out` observations of the kernel trace, in order — i.e. `absSP s` is `MQ.Reached`, the hypothesis of the C12 theorems. -/
theorem sp_on_kernel_refines_lts (F : Nat) (flow size : Int → Nat) (cfg : SP.Cfg ℚ) (arrivals : List (ℚ × Int))
    (hw : WorkOK flow F cfg arrivals) (ht : TableOK F cfg) (hr : 0 < cfg.rate) (fuel : Nat) (s : KState ℚ (SpSt ℚ))
    (hreach : KReach (prog F flow size cfg) (fuel + 1) (initState F arrivals) s) :
    Reached (SP.sched cfg) (SP.Pc.scan 0) 0 [] (absSP flow size s) (putPk flow size (histOf s.trace))
      (outPk flow size (histOf s.trace)) := by
  obtain ⟨a, acts, hi, hrun⟩ := reach_lts (size := size) fuel hw ht hr hreach
  refine ⟨by intro e he; simp at he, acts, ?_⟩
  rw [absSP_eq hi]
  exact hrun

/-- **No kernel step ever crashes, and `run()` returns**: for every workload as above, every state reachable by kernel
steps is followed by a normal step or has an empty agenda, and `run()` of the kernel model returns (agenda empty, no
exception) within `10·n + 4` kernel steps, `n` = the number of packets. -/
theorem sp_on_kernel_run_returns (F : Nat) (flow size : Int → Nat) (cfg : SP.Cfg ℚ) (arrivals : List (ℚ × Int))
    (hw : WorkOK flow F cfg arrivals) (ht : TableOK F cfg) (hr : 0 < cfg.rate) (fuel n : Nat)
    (hn : 10 * arrivals.length + 4 ≤ n) :
    (∀ s, KReach (prog F flow size cfg) (fuel + 1) (initState F arrivals) s →
      (∃ s', step (prog F flow size cfg) (fuel + 1) s = .ok s') ∨ step (prog F flow size cfg) (fuel + 1) s = .empty) ∧
    ∃ sF, runAll (prog F flow size cfg) (fuel + 1) n (initState F arrivals) = .returned .none sF ∧ sF.agenda = [] ∧
      KReach (prog F flow size cfg) (fuel + 1) (initState F arrivals) sF := by
  constructor
  · intro s hs
    obtain ⟨a, hi⟩ := reach_inv3 (size := size) fuel hw ht hr hs
    cases hp : popMin s.agenda with
    | none => right; simp [_root_.step, hp]
    | some qr =>
      obtain ⟨q, rest⟩ := qr
      obtain ⟨s', _, h1, _⟩ := inv3_step fuel hi hp
      exact Or.inl ⟨s', h1⟩
  · obtain ⟨sF, aF, h1, -, h3, h4⟩ := run_returns3 fuel (initState F arrivals) n _ _ (inv3_init (size := size) hw ht hr)
      (by rw [a0_mu]; omega) KReach.init
    exact ⟨sF, h1, h3, h4⟩

/-- **Work conservation on the kernel** (`C12.mq_never_idle_with_backlog`): in a state reachable by kernel steps, if the
LTS image may let the clock advance and no transmission is in progress, then `total_packets` is 0, every per-flow store is
empty and `run` holds no packet. -/
theorem kernel_never_idle_with_backlog (F : Nat) (flow size : Int → Nat) (cfg : SP.Cfg ℚ) (arrivals : List (ℚ × Int))
    (hw : WorkOK flow F cfg arrivals) (ht : TableOK F cfg) (hr : 0 < cfg.rate) (fuel : Nat) (s : KState ℚ (SpSt ℚ))
    (hreach : KReach (prog F flow size cfg) (fuel + 1) (initState F arrivals) s) (t : ℚ)
    (htick : ∃ s' o, MQ.step (SP.sched cfg) (absSP flow size s) (.tick t) = .ok (s', o))
    (hidle : ∀ p d, (absSP flow size s).phase ≠ .sending p d) :
    total (absSP flow size s).queueCount = 0 ∧ inHand (absSP flow size s) = [] ∧
      ∀ c, storeOf (absSP flow size s).stores c = [] := by
  have := C12.mq_never_idle_with_backlog (SP.sched cfg) (SP.lawful cfg) (SP.Pc.scan 0) 0 [] _ _ _
    (sp_on_kernel_refines_lts F flow size cfg arrivals hw ht hr fuel s hreach) t htick hidle
  exact ⟨this.1, this.2.1, this.2.2.1⟩

/-- **Per-flow FIFO and conservation on the kernel** (`C12.mq_flow_fifo`): at every state reachable by kernel steps the
packets of flow `f` handed to `put` so far are, in order, those of `f` handed to `out.put` followed by those of `f` still
held (in transmission, then waiting in `stores[f]`). -/
theorem kernel_flow_fifo (F : Nat) (flow size : Int → Nat) (cfg : SP.Cfg ℚ) (arrivals : List (ℚ × Int))
    (hw : WorkOK flow F cfg arrivals) (ht : TableOK F cfg) (hr : 0 < cfg.rate) (fuel : Nat) (s : KState ℚ (SpSt ℚ))
    (hreach : KReach (prog F flow size cfg) (fuel + 1) (initState F arrivals) s) (f : Nat) :
    ofFlow f (putPk flow size (histOf s.trace)) =
      ofFlow f (outPk flow size (histOf s.trace)) ++ ofFlow f (heldC (SP.sched cfg) (absSP flow size s) f) :=
  C12.mq_flow_fifo (SP.sched cfg) (SP.lawful cfg) (SP.Pc.scan 0) 0 [] _ _ _
    (sp_on_kernel_refines_lts F flow size cfg arrivals hw ht hr fuel s hreach) f f rfl

/-- **The counters are exact on the kernel** (`C12.mq_counters_eq`): `queue_count[f]`, `queue_byte_size[f]` and
`total_packets`, read from the attribute cells of a reachable kernel state, equal the number / bytes of the packets held. -/
theorem kernel_counters_eq (F : Nat) (flow size : Int → Nat) (cfg : SP.Cfg ℚ) (arrivals : List (ℚ × Int))
    (hw : WorkOK flow F cfg arrivals) (ht : TableOK F cfg) (hr : 0 < cfg.rate) (fuel : Nat) (s : KState ℚ (SpSt ℚ))
    (hreach : KReach (prog F flow size cfg) (fuel + 1) (initState F arrivals) s) (f : Nat) :
    cnt (absSP flow size s).queueCount f = W (one f) (absSP flow size s) ∧
    cnt (absSP flow size s).queueBytes f = W (bytesOf f) (absSP flow size s) ∧
    total (absSP flow size s).queueCount = W (fun _ => 1) (absSP flow size s) :=
  C12.mq_counters_eq (SP.sched cfg) (SP.lawful cfg) (SP.Pc.scan 0) 0 [] _ _ _
    (sp_on_kernel_refines_lts F flow size cfg arrivals hw ht hr fuel s hreach) f

/-- **What the oracle accepts** (`SPOnK.ostep` at exact rational time, spelled out).  A `serve id t` observation is accepted
in oracle state `o` iff nothing is in transmission, `id` is the oldest waiting packet of its flow, some table entry
`(flow id, π)` has `π > 0` and every waiting packet of a flow with a priority above `π` was put at an instant `≥ t` (none
waits from an earlier instant), and `t` is the instant of the last departure or the instant at which every waiting packet was
put; an `out id t` observation is accepted iff `id` is in transmission since `s` and `t = s + 8·size/rate`. -/
theorem oracle_accepts_iff (F : Nat) (flow size : Int → Nat) (cfg : SP.Cfg ℚ) (o : OSt ℚ) (id : Int) (t : ℚ) :
    ((ostep F flow size cfg o (.serve id t)).isSome ↔
      o.busy = none ∧ (∃ tp rest, o.waiting (flow id) = (id, tp) :: rest) ∧
      (∃ π, (flow id, π) ∈ cfg.prios ∧ 0 < π ∧
        ∀ f', f' < F → ∀ π', (f', π') ∈ cfg.prios → π < π' → ∀ x ∈ o.waiting f', t ≤ x.2) ∧
      (o.lastOut = some t ∨ ∀ f, f < F → ∀ x ∈ o.waiting f, x.2 = t)) ∧
    ((ostep F flow size cfg o (.out id t)).isSome ↔ ∃ s, o.busy = some (id, s) ∧ t = s + (size id * 8 : ℕ) / cfg.rate) := by
  constructor
  · simp only [ostep]
    split
    · rename_i h
      simp only [Option.isSome_some, true_iff]
      obtain ⟨h1, h2, ⟨e, he, he1, he2, he3⟩, h4⟩ := h
      refine ⟨by cases hb : o.busy <;> simp_all, ?_, ⟨e.2, by rw [← he1]; exact he, he2, ?_⟩, ?_⟩
      · cases hw : o.waiting (flow id) with
        | nil => simp [hw] at h2
        | cons x r =>
          simp only [hw, List.head?_cons, Option.map_some, Option.some.injEq] at h2
          exact ⟨x.2, r, by rw [← h2]⟩
      · intro f' hf' π' hm hlt x hx
        exact not_lt.mp (he3 f' (List.mem_range.mpr hf') ⟨(f', π'), hm, rfl, hlt⟩ x hx)
      · rcases h4 with h4 | h4
        · left
          cases hl : o.lastOut with
          | none => simp [hl, lastIs] at h4
          | some d => simp only [hl, lastIs] at h4; rw [(eqT_iff _ _).mp h4]
        · right
          intro f hf x hx
          exact (eqT_iff _ _).mp (h4 f (List.mem_range.mpr hf) x hx)
    · rename_i h
      simp only [Option.isSome_none, Bool.false_eq_true, false_iff]
      rintro ⟨h1, ⟨tp, r, h2⟩, ⟨π, hm, hpos, h3⟩, h4⟩
      apply h
      refine ⟨by simp [h1], by simp [h2], ⟨(flow id, π), hm, rfl, hpos, ?_⟩, ?_⟩
      · rintro f' hf' ⟨e', he', he1, he2⟩ x hx
        exact not_lt.mpr (h3 f' (List.mem_range.mp hf') e'.2 (by rw [← he1]; exact he') he2 x hx)
      · rcases h4 with h4 | h4
        · left; rw [h4]; exact (eqT_iff _ _).mpr rfl
        · right; intro f hf x hx; exact (eqT_iff _ _).mpr (h4 f (List.mem_range.mp hf) x hx)
  · have hiff : OutOK size cfg.rate o id t ↔ ∃ s, o.busy = some (id, s) ∧ t = s + (size id * 8 : ℕ) / cfg.rate := by
      unfold OutOK
      cases hb : o.busy with
      | none => simp
      | some x =>
        obtain ⟨id', s0⟩ := x
        simp only [eqT_iff, SPOnK.txTime, Num.ofNat_rat, Option.some.injEq, Prod.mk.injEq]
        constructor
        · rintro ⟨rfl, h⟩; exact ⟨s0, ⟨rfl, rfl⟩, h⟩
        · rintro ⟨s1, ⟨rfl, rfl⟩, h⟩; exact ⟨rfl, h⟩
    simp only [ostep]
    by_cases hok : OutOK size cfg.rate o id t
    · simp only [hok, if_true, Option.isSome_some, true_iff]
      exact hiff.mp hok
    · simp only [hok, if_false, Option.isSome_none, Bool.false_eq_true, false_iff]
      exact fun h => hok (hiff.mpr h)

/-- **The history of every kernel run passes the oracle, step by step**: at every state reachable by kernel steps the
`put` / `serve` / `out` observations recorded so far are accepted by `SPOnK.orun` from the empty oracle state — every service
start so far respected strict priority, per-flow FIFO, one-at-a-time and work conservation, every departure came exactly
`8·size/rate` after its service start (`oracle_accepts_iff`). -/
theorem sp_on_kernel_history_accepted (F : Nat) (flow size : Int → Nat) (cfg : SP.Cfg ℚ) (arrivals : List (ℚ × Int))
    (hw : WorkOK flow F cfg arrivals) (ht : TableOK F cfg) (hr : 0 < cfg.rate) (fuel : Nat) (s : KState ℚ (SpSt ℚ))
    (hreach : KReach (prog F flow size cfg) (fuel + 1) (initState F arrivals) s) :
    ∃ o, orun F flow size cfg oInit (histOf s.trace) = some o := by
  obtain ⟨a, hi⟩ := reach_inv3 (size := size) fuel hw ht hr hreach
  obtain ⟨o, ho⟩ := hi.o
  exact ⟨o, ho.run⟩

/-- **Strict priority, exact service times, work conservation and drain for the SP scheduler as kernel processes (direct
form, no admissibility assumption).**  For every number of flows `F`, every priority table over them, every `rate > 0` and
every finite workload with non-negative gaps whose packets belong to flows with a positive priority (bursts and arrivals
exactly at transmission ends included), `run()` of the kernel model on the spawned processes

* returns (agenda empty, no exception ever leaves `step()`) within `10·n + 4` kernel steps;
* has handed exactly the workload to `put`: packet `k` at the sum of the first `k + 1` gaps (`arrivalsFrom`);
* has a `put` / `serve` / `out` history that the oracle accepts (`oracle_accepts_iff`): at every service start nothing else
  was in transmission, the packet was the oldest of its flow, **no packet of a flow with a strictly higher priority was
  waiting from an earlier instant**, and the service started **at the very instant the previous transmission ended or at the
  instant the waiting packets arrived** (never idle with a backlog); every packet left **exactly `8·size/rate`** after its
  service start;
* ends drained: nothing waits, nothing is in transmission, and for every flow the packets handed to `out.put` are exactly
  the packets of that flow handed to `put`, in the same order (every packet leaves once, per flow in arrival order). -/
theorem sp_on_kernel_strict_priority (F : Nat) (flow size : Int → Nat) (cfg : SP.Cfg ℚ) (arrivals : List (ℚ × Int))
    (hw : WorkOK flow F cfg arrivals) (ht : TableOK F cfg) (hr : 0 < cfg.rate) (fuel n : Nat)
    (hn : 10 * arrivals.length + 4 ≤ n) :
    ∃ sF o, runAll (prog F flow size cfg) (fuel + 1) n (initState F arrivals) = .returned .none sF ∧ sF.agenda = [] ∧
      obsPuts (histOf sF.trace) = arrivalsFrom 0 arrivals ∧
      orun F flow size cfg oInit (histOf sF.trace) = some o ∧ drained F o = true ∧
      ∀ f, ofFlow f (outPk flow size (histOf sF.trace)) = ofFlow f (putPk flow size (histOf sF.trace)) := by
  obtain ⟨sF, aF, h1, h2, h3, h4⟩ := run_returns3 fuel (initState F arrivals) n _ _
    (inv3_init (size := size) hw ht hr) (by rw [a0_mu]; omega) KReach.init
  obtain ⟨o, g1, g2, g3, g4⟩ := inv3_final h2 h3
  refine ⟨sF, o, h1, h3, g3, g1, g2, ?_⟩
  intro f
  have := kernel_flow_fifo F flow size cfg arrivals hw ht hr fuel sF h4 f
  rw [absSP_eq h2.i, g4 f] at this
  simpa [ofFlow] using this.symm

/-- **Strict priority at the decision burst, on kernel states**: let `s` be reachable by kernel steps and let the next
kernel step be one in which `run` takes a packet (the abstraction of the state after it has `run` holding a freshly taken
packet `p` of flow `c`, the one before has not).  Then `c` has a table entry `(c, π)` with `π > 0`, `p` was the head of
`stores[c]` in `s`, and **the store of every flow with a table entry of priority above `π` is empty in `s`** — read from the
`Store` resources of the kernel state itself. -/
theorem sp_on_kernel_decision_strict (F : Nat) (flow size : Int → Nat) (cfg : SP.Cfg ℚ) (arrivals : List (ℚ × Int))
    (hw : WorkOK flow F cfg arrivals) (ht : TableOK F cfg) (hr : 0 < cfg.rate) (fuel : Nat) (s s' : KState ℚ (SpSt ℚ))
    (hreach : KReach (prog F flow size cfg) (fuel + 1) (initState F arrivals) s)
    (hstep : step (prog F flow size cfg) (fuel + 1) s = .ok s') (c : Nat) (p : MPkt)
    (hpost : (absSP flow size s').phase = .pktHanded c p) (hpre : ∀ c p, (absSP flow size s).phase ≠ .pktHanded c p) :
    ∃ π, (c, π) ∈ cfg.prios ∧ 0 < π ∧
      (∃ id is, (s.res (flowStore c)).items = id :: is ∧ p = pktOf flow size id) ∧
      ∀ f' π', (f', π') ∈ cfg.prios → π < π' → (s.res (flowStore f')).items = [] := by
  obtain ⟨a, hi⟩ := reach_inv3 (size := size) fuel hw ht hr hreach
  cases hp : popMin s.agenda with
  | none => simp [_root_.step, hp] at hstep
  | some qr =>
    obtain ⟨q, rest⟩ := qr
    obtain ⟨s'', a', new, h1, h2, -, h4, -⟩ := inv_step_lts (size := size) fuel hi.i hp
    rw [h1] at hstep
    cases hstep
    rw [absSP_eq h2] at hpost
    have hpre' : ∀ g i id q0, a.run ≠ .H g i id q0 := by
      intro g i id q0 h
      exact hpre (flow id) (pktOf flow size id) (by rw [absSP_eq hi.i]; simp [toM_phase, phaseOf, h])
    cases hrun' : a'.run with
    | H g i id q' =>
      simp only [toM_phase, phaseOf, hrun', Phase.pktHanded.injEq] at hpost
      obtain ⟨rfl, rfl⟩ := hpost
      obtain ⟨ent, hm, e1, e2, ⟨is, e3⟩, e4⟩ := astep_decision hi.i.i.a h4 hrun' hpre'
      have hfid : flow id < F := by rw [← e1]; exact ht ent hm
      refine ⟨ent.2, by rw [← e1]; exact hm, e2, ⟨id, is, by rw [hi.i.i.k.st _ hfid, e3], rfl⟩, ?_⟩
      intro f' π' hm' hlt
      have hf' : f' < F := ht (f', π') hm'
      rw [hi.i.i.k.st f' hf', e4 f' hf' ⟨(f', π'), hm', rfl, hlt⟩]
    | _ => simp [toM_phase, phaseOf, hrun'] at hpost

/-- flows 1, 2, 3 with priorities 1 (L), 3 (M), 5 (H), rate 8 (a packet of size 1 is transmitted in one time unit) -/
def cfg3 : SP.Cfg ℚ := { rate := 8, prios := [(1, 1), (2, 3), (3, 5)] }
def flowOf (fl : List Nat) : Int → Nat := fun i => fl.getD i.toNat 0
def unit : Int → Nat := fun _ => 1

/-- what a finished run shows: entries left in the agenda, the service starts and the departures -/
def run3 (fl : List Nat) (n : Nat) (arr : List (ℚ × Int)) : Option (Nat × List (Int × ℚ) × List (Int × ℚ)) :=
  (finalState (runAll (prog 4 (flowOf fl) unit cfg3) 1 n (initState 4 arr))).map fun s =>
    (s.agenda.length, servesOf s.trace, outsOf s.trace)

/-- L, M, H queued at 0, a second H arrives at 1 — exactly when the first transmission ends —, then L and H at 2: the run
returns with an empty agenda; H(2) 0→1, then the H that arrived at the very instant the transmission ended (3) 1→2, H(5)
2→3 ahead of M(1) 3→4, L(0), L(4): back to back, each transmission exactly one time unit -/
example : run3 [1, 2, 3, 3, 1, 3] 60 [(0, 0), (0, 1), (0, 2), (1, 3), (1, 4), (0, 5)] =
    some (0, [(1, 0), (2, 1), (3, 2), (5, 3), (0, 4), (4, 5)], [(1, 1), (2, 2), (3, 3), (5, 4), (0, 5), (4, 6)]) := by
  decide +kernel

/-- … and every kernel step of that run (41 of them) is an action sequence the LTS accepts between the abstractions of the
two states (`refineCheck` replays the inferred actions through `MQ.step` and compares with `absSP`) -/
example : refineCheck 4 (flowOf [1, 2, 3, 3, 1, 3]) unit cfg3 60
    (initState 4 [(0, 0), (0, 1), (0, 2), (1, 3), (1, 4), (0, 5)]) 0 = some 41 := by
  decide +kernel

/-- a burst at one instant: the decision burst runs after the first two `put`s of the instant (L, M: it takes M), the two
H packets arrive later in the same instant and are served next, L last -/
example : run3 [1, 2, 3, 3] 40 [(0, 0), (0, 1), (0, 2), (0, 3)] =
    some (0, [(1, 0), (2, 1), (3, 2), (0, 3)], [(1, 1), (2, 2), (3, 3), (0, 4)]) ∧
    refineCheck 4 (flowOf [1, 2, 3, 3]) unit cfg3 40 (initState 4 [(0, 0), (0, 1), (0, 2), (0, 3)]) 0 = some 29 := by
  decide +kernel

/-- idle gaps: each packet is served at its arrival instant (the wake-up token), 1→2, 6→7, 7→8 -/
example : run3 [1, 3, 2] 40 [(1, 0), (5, 1), (1, 2)] = some (0, [(0, 1), (1, 6), (2, 7)], [(0, 2), (1, 7), (2, 8)]) ∧
    refineCheck 4 (flowOf [1, 3, 2]) unit cfg3 40 (initState 4 [(1, 0), (5, 1), (1, 2)]) 0 = some 25 := by
  decide +kernel

/-- a reachable state in the middle of a run (13 kernel steps; arrivals at 1, 2, 3): the second packet has arrived at the
instant the first transmission ended; the abstraction function gives an LTS state whose sender has just been spawned for
it, with the counters of flows 1 and 3 at 0 and 1 -/
example : (match runAll (prog 4 (flowOf [1, 3, 2]) unit cfg3) 1 13 (initState 4 [(1, 0), (1, 1), (1, 2)]) with
    | .outOfFuel s => some (MQ.phaseName (absSP (flowOf [1, 3, 2]) unit s), (absSP (flowOf [1, 3, 2]) unit s).queueCount,
        (absSP (flowOf [1, 3, 2]) unit s).now)
    | _ => none) = some ("S", [(1, 0), (3, 1)], 2) := by
  decide +kernel

/-- the hypotheses of the theorems are met by that workload (`WorkOK`, `TableOK`), and the history of its run is accepted by
the oracle and ends drained -/
example : WorkOK (flowOf [1, 2, 3, 3, 1, 3]) 4 cfg3 [(0, 0), (0, 1), (0, 2), (1, 3), (1, 4), (0, 5)] ∧ TableOK 4 cfg3 := by
  refine ⟨?_, by unfold TableOK cfg3; decide⟩
  intro x hx
  simp only [List.mem_cons, List.not_mem_nil, or_false] at hx
  rcases hx with rfl | rfl | rfl | rfl | rfl | rfl <;>
    exact ⟨by norm_num, by decide, by first | exact ⟨1, by decide, by decide⟩ | exact ⟨3, by decide, by decide⟩ | exact ⟨5, by decide, by decide⟩⟩

example : (finalState (runAll (prog 4 (flowOf [1, 2, 3, 3, 1, 3]) unit cfg3) 1 60
      (initState 4 [(0, 0), (0, 1), (0, 2), (1, 3), (1, 4), (0, 5)]))).map
    (fun s => (orun 4 (flowOf [1, 2, 3, 3, 1, 3]) unit cfg3 oInit (histOf s.trace)).map (drained 4)) = some (some true) := by
  decide +kernel

/-- the oracle is not vacuous.  Packets 0, 1 are L, packet 2 is H; 0 is in transmission 0→1 while 1 and 2 arrive at 1/2.
Serving H at 1 is accepted; serving L at 1 is rejected (H waits since 1/2); a service that starts late (at 2, with a backlog
and no departure at 2) is rejected; a departure later than `start + 8·size/rate` is rejected. -/
example : orun 4 (flowOf [1, 1, 3]) unit cfg3 oInit
      [.put 0 0, .serve 0 0, .put 1 (1/2), .put 2 (1/2), .out 0 1, .serve 2 1, .out 2 2, .serve 1 2, .out 1 3] ≠ none ∧
    orun 4 (flowOf [1, 1, 3]) unit cfg3 oInit [.put 0 0, .serve 0 0, .put 1 (1/2), .put 2 (1/2), .out 0 1, .serve 1 1] = none ∧
    orun 4 (flowOf [1, 1, 3]) unit cfg3 oInit [.put 0 0, .serve 0 2] = none ∧
    orun 4 (flowOf [1, 1, 3]) unit cfg3 oInit [.put 0 0, .serve 0 0, .out 0 2] = none := by
  decide +kernel

end C13K
