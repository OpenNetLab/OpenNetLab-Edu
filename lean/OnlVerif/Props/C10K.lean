import OnlVerif.Lemmas.WireKRefine
/-!
# C10 on the kernel: the Wire *as a process on the kernel model* delivers by the recurrence of the property

`OnlVerif/Net/WireOnK.lean` writes `Wire.run` and a packet source (`yield env.timeout(gap); wire.put(packet)` for every
arrival) as a program of the kernel model `K` (`OnlVerif/Kernel`), with the loss draws (`random.uniform(0, 1)`) and the
delay draws (`delay_dist()`) supplied as part of the workload.  Nothing is assumed about scheduling: `Environment.step`
of the kernel model decides what runs when (the store's `StorePut`/`StoreGet` events, the source's and the wire's
timeouts).  The theorem below is the property's formula for kernel runs, with **no** admissibility assumption.

Scope: one `Wire` (a `Cable` is two of them sharing nothing), any `loss_rate` (`None`, `0`, a probability, `1`), one
source process with non-negative gaps (zero gaps = bursts, and arrivals exactly at delivery instants, included),
non-negative delays, an unbounded store; exact rational time; `fuel + 1` = any positive bound of the `_resume` loop.
`wire_on_kernel_refines_lts` is the refinement form against the FifoServer LTS of the wire (`Net/Fifo.lean` with `Net/Wire.lean`):
every kernel step is a (possibly empty) action sequence that LTS accepts, so its admissibility rules are consequences of the
kernel model for this device too.  The LTS's device state carries ghost fields (a log of all packets that left, for its own
theorems; no decision reads them): the abstraction function `absWire` determines everything else.
-/

namespace C10K
open WireOnK WireK

theorem draw_nonneg (delays : List ℚ) (hd : ∀ d ∈ delays, 0 ≤ d) (k : Nat) : 0 ≤ draw delays k := by
  unfold draw
  rw [List.getD_eq_getElem?_getD]
  cases h : delays[k]? with
  | none => simp [zero_eq']
  | some d => exact hd d (List.mem_of_getElem? h)

/-- **The delivery recurrence holds for the Wire as a kernel process, for every workload, with no admissibility
assumption.**  For every `loss_rate`, every finite arrival list with non-negative gaps, every list of non-negative delay
draws and every list of loss draws: `run()` of the kernel model on the two spawned processes returns (agenda empty)
within `4·n + 4` steps, and the `out.put(packet)` observations of the trace are exactly `WireOnK.deliveries`: the packets
whose loss draw is not `< loss_rate` (all of them when `loss_rate` is `None` or `0`), in arrival order, packet `k` at
`max(a_k + d, delivery of the previous delivered packet)`, `a_k` = the sum of the first `k + 1` gaps, `d` = the next unused
delay draw; a lost packet is never delivered and delays nobody (spelled out in `delivery_recurrence`). -/
theorem wire_on_kernel_deliveries (cfg : WireCfg ℚ) (losses delays arrivals : List ℚ)
    (hg : ∀ x ∈ arrivals, 0 ≤ x) (hd : ∀ d ∈ delays, 0 ≤ d) (fuel n : Nat) (hn : 4 * arrivals.length + 4 ≤ n) :
    ∃ sF, runAll (body cfg losses delays) (fuel + 1) n (initState arrivals) = .returned .none sF ∧ sF.agenda = [] ∧
      outsOf sF.trace = deliveries cfg losses delays none 0 0 0 0 arrivals := by
  have h0 : Inv cfg losses delays arrivals (initState arrivals) (a0 arrivals) := inv_init arrivals hg
  have hmu : (a0 arrivals).mu < n := by
    simp [A.mu, a0, WPhase.mu, SPhase.mu]; omega
  obtain ⟨sF, aF, h1, h2, h3⟩ := run_returns fuel n _ _ h0 hmu
  refine ⟨sF, h1, h3, ?_⟩
  rw [(inv_final h2 h3).1]
  exact deliv_eq_deliveries (draw_nonneg delays hd) arrivals hg

/-- **What the list `deliveries` is** (the C10 recurrence, one packet at a time).  With the previous delivery `prev`
(`none` before the first), the previous arrival instant `t`, the next packet id `k` and `nl`/`nd` draws used so far, the
packet that arrives after `gap`
* is skipped if its loss draw is `< loss_rate` (`isLost`): the rest of the list is what it would be without it — it is
  never delivered and delays nobody;
* is otherwise delivered at `max(t + gap + d, prev)` (just `t + gap + d` for the first one), `d` = delay draw number `nd`,
  and that instant is the `prev` of the packets behind it. -/
theorem delivery_recurrence (cfg : WireCfg ℚ) (losses delays : List ℚ) (prev : Option ℚ) (t : ℚ) (k nl nd : Nat) (gap : ℚ)
    (rest : List ℚ) :
    (isLost cfg (draw losses nl) = true →
      deliveries cfg losses delays prev t k nl nd (gap :: rest) =
        deliveries cfg losses delays prev (t + gap) (k + 1) (nlNext cfg nl) nd rest) ∧
    (isLost cfg (draw losses nl) = false →
      deliveries cfg losses delays prev t k nl nd (gap :: rest) =
        ((k : Int), (match prev with | none => t + gap + draw delays nd | some p => max (t + gap + draw delays nd) p)) ::
          deliveries cfg losses delays
            (some (match prev with | none => t + gap + draw delays nd | some p => max (t + gap + draw delays nd) p))
            (t + gap) (k + 1) (nlNext cfg nl) (nd + 1) rest) := by
  constructor
  · intro h; simp [deliveries, h]
  · intro h
    cases prev <;> simp [deliveries, h, Num.pymax_eq]

/-- a packet is lost exactly when `loss_rate` is truthy and its draw is smaller -/
theorem isLost_iff (cfg : WireCfg ℚ) (x : ℚ) :
    isLost cfg x = true ↔ ∃ r, cfg.lossRate = some r ∧ r ≠ 0 ∧ x < r := by
  unfold isLost Wire.lostNow Wire.lossOn Num.optOn Num.truthy
  cases h : cfg.lossRate with
  | none => simp
  | some r =>
    simp only [zero_eq', Option.some.injEq, exists_eq_left']
    by_cases h0 : r = 0
    · simp [h0]
    · have : (decide (r < 0) || decide (0 < r)) = true := by
        rcases lt_or_gt_of_ne h0 with h1 | h1 <;> simp [h1]
      simp [this, h0]

/-- **No loss without a loss rate** (`wire_no_loss` on the kernel): with `loss_rate` `None` or `0` every packet handed to
`put` is delivered, once, in arrival order. -/
theorem wire_on_kernel_no_loss (cfg : WireCfg ℚ) (hcfg : cfg.lossRate = none ∨ cfg.lossRate = some 0)
    (losses delays arrivals : List ℚ) (hg : ∀ x ∈ arrivals, 0 ≤ x) (hd : ∀ d ∈ delays, 0 ≤ d) (fuel n : Nat)
    (hn : 4 * arrivals.length + 4 ≤ n) :
    ∃ sF, runAll (body cfg losses delays) (fuel + 1) n (initState arrivals) = .returned .none sF ∧
      (outsOf sF.trace).map (·.1) = (List.range arrivals.length).map (fun (k : Nat) => (k : Int)) := by
  obtain ⟨sF, h1, -, h3⟩ := wire_on_kernel_deliveries cfg losses delays arrivals hg hd fuel n hn
  refine ⟨sF, h1, ?_⟩
  rw [h3]
  have hnl : ∀ x, isLost cfg x = false := by
    intro x
    cases hl : isLost cfg x with
    | false => rfl
    | true =>
      obtain ⟨r, h4, h5, -⟩ := (isLost_iff cfg x).mp hl
      rcases hcfg with h | h
      · rw [h] at h4; cases h4
      · rw [h] at h4; cases h4; exact absurd rfl h5
  have key : ∀ (gaps : List ℚ) (prev : Option ℚ) (t : ℚ) (k nl nd : Nat),
      (deliveries cfg losses delays prev t k nl nd gaps).map (·.1) = (List.range gaps.length).map (fun j => ((k + j : Nat) : Int)) := by
    intro gaps
    induction gaps with
    | nil => intro prev t k nl nd; simp [deliveries]
    | cons gap rest ih =>
      intro prev t k nl nd
      simp only [deliveries, hnl, Bool.false_eq_true, if_false, List.map_cons, List.length_cons]
      rw [ih, List.range_succ_eq_map, List.map_cons, List.map_map]
      simp only [Nat.add_zero, List.cons.injEq, true_and]
      apply List.map_congr_left
      intro j _
      simp only [Function.comp]
      congr 1
      omega
  have := key arrivals none 0 0 0 0
  simp only [Nat.zero_add] at this
  exact this

def noLoss : WireCfg ℚ := { lossRate := none }
def half : WireCfg ℚ := { lossRate := some (1/2) }

/-- **Refinement, step by step**: let `s` be reachable by kernel steps from the initial state and let the next kernel
step end in `s'`.  Then that step is a normal one (`.ok`), and whatever values `gh` the ghost fields of the LTS's device
state hold, there is a (possibly empty) sequence of LTS actions that the wire's LTS *accepts* from the abstraction of `s`
and that ends in the abstraction of `s'` (with some ghost values `gh'`): the step commutes with `absWire`; the packets
that leave in it are those the kernel step reports (`out` and `lost` observations). -/
theorem wire_on_kernel_step_refines (cfg : WireCfg ℚ) (losses delays arrivals : List ℚ) (hg : ∀ x ∈ arrivals, 0 ≤ x)
    (fuel : Nat) (s s' : KState ℚ (WSt ℚ))
    (hreach : KReach (body cfg losses delays) (fuel + 1) (initState arrivals) s)
    (hstep : (step (body cfg losses delays) (fuel + 1) s).state? = some s') :
    step (body cfg losses delays) (fuel + 1) s = .ok s' ∧
    ∃ lf, leftsOf s'.trace = leftsOf s.trace ++ lf ∧
      ∀ gh, ∃ gh' acts ins, Fifo.runActs (Wire.dev cfg) (setGhost (absWire s) gh) acts =
        .ok (setGhost (absWire s') gh', ins, lf.map Int.toNat) := by
  obtain ⟨a, _, _, hi, _⟩ := reach_inv (cfg := cfg) (losses := losses) (delays := delays) fuel hg hreach
  obtain ⟨q, rest, hp, -⟩ := step_shape _ _ _ _ hstep
  obtain ⟨s'', a', new, lf, ins, h1, h2, -, h4, -, h6⟩ := inv_step_lts fuel hi hp
  obtain rfl := KStepChain.ok_of_state hstep h1
  refine ⟨h1, lf, h4, ?_⟩
  intro gh
  obtain ⟨gh', acts, h7⟩ := h6 gh
  exact ⟨gh', acts, ins, by rw [absWire_eq hi, absWire_eq h2]; exact h7⟩

/-- **Refinement, whole runs**: every state reachable by kernel steps is the image (under `absWire`, with some values in
the ghost fields) of an *admissible* run of the wire's LTS from its initial state: the LTS accepts some action sequence in
which the packets that entered are `0, …, packets_rec - 1` and the packets that left (forwarded or dropped) are exactly
those the kernel trace reports, in order. -/
theorem wire_on_kernel_refines_lts (cfg : WireCfg ℚ) (losses delays arrivals : List ℚ) (hg : ∀ x ∈ arrivals, 0 ≤ x)
    (fuel : Nat) (s : KState ℚ (WSt ℚ))
    (hreach : KReach (body cfg losses delays) (fuel + 1) (initState arrivals) s) :
    ∃ acts gh, Fifo.runActs (Wire.dev cfg) (Fifo.init (Wire.st0 0) 0) acts =
      .ok (setGhost (absWire s) gh, List.range (recCell s), (leftsOf s.trace).map Int.toNat) := by
  obtain ⟨a, acts, gh, hi, hrun⟩ := reach_inv (cfg := cfg) (losses := losses) (delays := delays) fuel hg hreach
  refine ⟨acts, gh, ?_⟩
  rw [absWire_eq hi, recCell_eq hi.k]
  exact hrun

/-- a reachable state in the middle of a run (after 9 kernel steps of a burst of three at t = 1 with delay 2): the
abstraction function gives an LTS state with packet 0 propagating until t = 3 and packets 1, 2 waiting, stamped 1 -/
example : (match runAll (body noLoss [] [2, 2, 2]) 1 9 (initState [1, 0, 0]) with
    | .outOfFuel s => some ((absWire s).now, (absWire s).tx.map (fun x => (x.1.id, x.2.1)),
        (absWire s).items.map (fun p => (p.id, p.ctime)), (absWire s).dev.packetsRec)
    | _ => none) = some (1, some (0, 3), [(1, 1), (2, 1)], 3) := by
  decide +kernel

/-! ### non-vacuity: concrete runs of the kernel model, evaluated by the kernel of Lean (exact arithmetic) -/

/-- constant delay 2, arrivals at 1, 1, 1 (a burst), 3, 4: everything leaves two time units after it arrived, the burst
at one instant, in order -/
example : (finalState (runAll (body noLoss [] [2, 2, 2, 2, 2]) 1 24 (initState [1, 0, 0, 2, 1]))).map
    (fun s => (s.agenda.length, outsOf s.trace)) = some (0, [(0, 3), (1, 3), (2, 3), (3, 5), (4, 6)]) := by
  decide +kernel

/-- decreasing delays 5, 3, 1 for arrivals at 0, 1, 2: no overtaking, all three are delivered at 5 -/
example : (finalState (runAll (body noLoss [] [5, 3, 1]) 1 16 (initState [0, 1, 1]))).map (fun s => outsOf s.trace) =
    some [(0, 5), (1, 5), (2, 5)] ∧
    deliveries noLoss [] [5, 3, 1] none 0 0 0 0 [0, 1, 1] = [(0, 5), (1, 5), (2, 5)] := by
  decide +kernel

/-- loss rate 1/2 with draws 3/4, 1/4, 1/2, 0: packets 1 and 3 are lost (a draw equal to the rate is not); the delays 5 and 1
go to packets 0 and 2; the lost packets delay nobody; an arrival (packet 2 at t = 2) while packet 0 propagates -/
example : (finalState (runAll (body half [3/4, 1/4, 1/2, 0] [5, 1]) 1 20 (initState [0, 1, 1, 1]))).map
    (fun s => (s.agenda.length, outsOf s.trace)) = some (0, [(0, 5), (2, 5)]) ∧
    deliveries half [3/4, 1/4, 1/2, 0] [5, 1] none 0 0 0 0 [0, 1, 1, 1] = [(0, 5), (2, 5)] := by
  decide +kernel

/-- an arrival exactly at a delivery instant (t = 3) and zero delay: it is forwarded in the burst that takes it -/
example : (finalState (runAll (body noLoss [] [3, 0]) 1 12 (initState [0, 3]))).map (fun s => outsOf s.trace) =
    some [(0, 3), (1, 3)] := by
  decide +kernel

/-- with one step less than `4·n + 3` the run is not finished -/
example : (finalState (runAll (body noLoss [] [2, 2]) 1 10 (initState [1, 0]))).isNone = true ∧
    (finalState (runAll (body noLoss [] [2, 2]) 1 11 (initState [1, 0]))).isSome = true := by
  decide +kernel

end C10K
