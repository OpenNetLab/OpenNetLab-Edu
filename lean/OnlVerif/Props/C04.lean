import OnlVerif.Lemmas.KernelStep
import OnlVerif.Lemmas.KAccess
import OnlVerif.Props.C01
import OnlVerif.Lemmas.OnceRun
/-!
# C04 — interrupts reach a live process once, in issue order, ahead of ordinary events

Model: `Interruption.__init__`, `Interruption._interrupt`, `Initialize`, `Process._resume` in `OnlVerif/Kernel`.
-/

namespace C04
variable {σ : Type}
open QEntry

/-- **`interrupt()` on a live, non-active process schedules the Interruption at the current time with URGENT
priority** and a fresh `eid`; it is pre-failed with `Interrupt(cause)` and pre-defused. -/
theorem interrupt_now_urgent (s : KState ℚ σ) (p : EvId) (c : Val) (h1 : s.triggered p = false)
    (h2 : s.active ≠ some p) :
    (mkInterrupt s p c).2 = none ∧
    (mkInterrupt s p c).1.agenda = { time := s.now + Num.zero, prio := URGENT, eid := s.eid, ev := s.events.size } :: s.agenda ∧
    ((mkInterrupt s p c).1.ev s.events.size).out = some (.fail ⟨"Interrupt", [c]⟩) ∧
    ((mkInterrupt s p c).1.ev s.events.size).defused = true := by
  have h2' : (s.active == some p) = false := by simpa using h2
  unfold mkInterrupt
  simp only [h1, h2', Bool.false_eq_true, if_false]
  refine ⟨trivial, rfl, ?_, ?_⟩
  · show (((s.newEv _).1.schedule _ _ _).ev s.events.size).out = _
    rw [KState.ev_schedule, KState.ev_newEv, if_pos rfl]
  · show (((s.newEv _).1.schedule _ _ _).ev s.events.size).defused = _
    rw [KState.ev_schedule, KState.ev_newEv, if_pos rfl]

/-- hence the interrupt is processed **before any ordinary event of that instant**, whenever that event was triggered -/
theorem interrupt_before_ordinary (a b : QEntry ℚ) (ht : a.time = b.time) (ha : a.prio = URGENT) (hb : b.prio = NORMAL) :
    KeyLt a b := Or.inr ⟨ht, Or.inl (by rw [ha, hb]; decide)⟩

/-- **Several interrupts are delivered in the order issued**: a later `interrupt()` gets a larger `eid` at the same
`(time, URGENT)` key. -/
theorem interrupts_fifo (s : KState ℚ σ) (p p' : EvId) (c c' : Val)
    (h1 : (mkInterrupt s p c).2 = none) (h2 : (mkInterrupt (mkInterrupt s p c).1 p' c').2 = none) :
    ∃ a b rest, (mkInterrupt (mkInterrupt s p c).1 p' c').1.agenda = b :: a :: rest ∧ KeyLt a b := by
  rw [Once.mkInterrupt_ok h2, Once.mkInterrupt_ok h1]
  exact ⟨_, _, _, rfl, Or.inr ⟨rfl, Or.inr ⟨rfl, Nat.lt_succ_self _⟩⟩⟩

/-- **Interrupting a finished process raises `RuntimeError` and has no other effect.** -/
theorem interrupt_refused_dead (s : KState ℚ σ) (p : EvId) (c : Val) (h : s.triggered p = true) :
    mkInterrupt s p c = (s, some (runtimeErr "terminated")) := by
  unfold mkInterrupt; simp only [h, if_true]

/-- **Interrupting oneself raises `RuntimeError` and has no other effect.** -/
theorem interrupt_refused_self (s : KState ℚ σ) (p : EvId) (c : Val) (h1 : s.triggered p = false)
    (h2 : s.active = some p) : mkInterrupt s p c = (s, some (runtimeErr "self")) := by
  unfold mkInterrupt
  simp only [h1, Bool.false_eq_true, if_false, h2, beq_self_eq_true, if_true]

/-- **Interrupts still pending when the process ends are discarded without error.** -/
theorem dead_victim_ignored (body : σ → Resume → Burst ℚ σ) (fuel : Nat) (iv p : EvId) (s : KState ℚ σ)
    (h : s.triggered p = true) : deliverInterrupt body fuel iv p s = s := by
  unfold deliverInterrupt; simp only [h, if_true]

/-- **Delivery detaches the victim from the event it was waiting for** (exactly one registration is removed; the
registrations of every other waiter, and the event's outcome, are untouched) **and resumes it with the Interruption**. -/
theorem interrupt_detaches (body : σ → Resume → Burst ℚ σ) (fuel : Nat) (iv p t : EvId) (s : KState ℚ σ)
    (pr : ProcRec σ) (h : s.triggered p = false) (hp : s.proc? p = some pr) (ht : pr.target = some t) :
    deliverInterrupt body fuel iv p s = resume body p fuel iv (s.eraseCb t (.resume p)) := by
  unfold deliverInterrupt
  simp only [h, Bool.false_eq_true, if_false, hp, ht]

theorem detach_keeps_others (s : KState ℚ σ) (t p : EvId) (L : List Cb) (hL : (s.ev t).cbs = some L)
    (hin : t < s.events.size) :
    ((s.eraseCb t (.resume p)).ev t).cbs = some (L.erase (.resume p)) ∧
    ((s.eraseCb t (.resume p)).ev t).out = (s.ev t).out ∧
    ∀ cb, cb ≠ .resume p → (cb ∈ L.erase (.resume p) ↔ cb ∈ L) := by
  unfold KState.eraseCb
  rw [KState.ev_setEv, if_pos ⟨rfl, hin⟩]
  refine ⟨by simp [hL], rfl, ?_⟩
  intro cb hne
  exact List.mem_erase_of_ne hne

/-- the victim receives `Interrupt(cause)` thrown at its current yield -/
theorem victim_receives_cause (s : KState ℚ σ) (p iv : EvId) (c : Val)
    (h : (s.ev iv).out = some (.fail ⟨"Interrupt", [c]⟩)) : (deliver s p iv).2 = .exc ⟨"Interrupt", [c]⟩ := by
  show resumeArg s p iv = _
  unfold resumeArg; rw [h]

/-- **A process can never be interrupted before its first statement has run**: its `Initialize` entry is created by
`env.process(...)`, i.e. before any `interrupt()` that names the process, with the same URGENT priority — so it has
the smaller key whenever both are due at the same instant. -/
theorem never_before_start (s : KState ℚ σ) (self : EvId) (st : σ) (s2 : KState ℚ σ) (p : EvId) (c : Val)
    (hx : Ext (doCall s self (.spawn st)).1 s2) (hok : (mkInterrupt s2 p c).2 = none) :
    ∃ init intr, init ∈ (mkInterrupt s2 p c).1.agenda ∧ intr ∈ (mkInterrupt s2 p c).1.agenda ∧
      init.prio = URGENT ∧ intr.prio = URGENT ∧ init.time ≤ intr.time ∧ init.eid < intr.eid := by
  obtain ⟨new, hag, hnew⟩ := hx.grows
  obtain ⟨i, hi⟩ := C01.process_start_urgent s self st
  have hinit : ({ time := s.now + Num.zero, prio := URGENT, eid := s.eid, ev := i } : QEntry ℚ) ∈ s2.agenda := by
    rw [hag, hi]
    exact List.mem_append_right _ List.mem_cons_self
  rw [Once.mkInterrupt_ok hok]
  refine ⟨{ time := s.now + Num.zero, prio := URGENT, eid := s.eid, ev := i },
    { time := s2.now + Num.zero, prio := URGENT, eid := s2.eid, ev := s2.events.size }, ?_, ?_, rfl, rfl, ?_, ?_⟩
  · exact List.mem_cons_of_mem _ hinit
  · exact List.mem_cons_self
  · show s.now + Num.zero ≤ s2.now + Num.zero
    rw [hx.now_eq]; exact le_refl _
  · show s.eid < s2.eid
    have := hx.eid_le
    have h2 : (doCall s self (.spawn st)).1.eid = s.eid + 1 := by simp only [doCall]; rfl
    omega

/-! ## global: after an interrupt the old target no longer resumes the process

Hypotheses as in `Props/C02.lean`: `Once.Inv0` for the initial state, `Once.SafeRun` for the run. -/

/-- **The detachment is complete**: in any state that satisfies the kernel invariant (also in the middle of a step),
a live victim `p` waiting for `t` is registered on `t` exactly once and nowhere else, so after
`callbacks.remove(_resume)` it is registered nowhere at all — whatever is processed next cannot resume it before it
has yielded again. -/
theorem interrupt_detaches_completely (g : Once.Ghost) (s : KState ℚ σ) (hi : Once.Inv g s) (hg : g.run = none)
    (p t : EvId) (pr : ProcRec σ) (hp : s.proc? p = some pr) (ht : pr.target = some t) (hlive : (s.ev p).out = none) :
    ∀ e L, ((s.eraseCb t (.resume p)).ev e).cbs = some L → Cb.resume p ∉ L :=
  ((hi.detach p t pr hg hp ht hlive).c.pend p (Or.inr rfl)).2.2

/-- **After an interrupt the process is no longer resumed by the event it was waiting for unless it yields it again**
(global form): in every state between two steps of a safe run, the callback list of an event `t` holds `_resume p`
only if `t` is the *current* target of `p` — the event `p` yielded last.  So once the interrupt burst has ended with
`p` waiting for something else (or finished), processing the old target `t`, whenever that happens, does not resume
`p`; and if `p` did yield `t` again it is resumed exactly once. -/
theorem no_resume_by_old_target (body : σ → Resume → Burst ℚ σ) (fuel : Nat) (s0 s : KState ℚ σ)
    (h0 : Once.Inv0 false s0) (hsafe : Once.SafeRun body fuel s0) (hr : KReach body fuel s0 s)
    (t : EvId) (L : List Cb) (p : EvId) (hL : (s.ev t).cbs = some L) :
    (∀ pr, s.proc? p = some pr → pr.target ≠ some t → Cb.resume p ∉ L) ∧
    ((s.ev p).out ≠ none → Cb.resume p ∉ L) ∧
    (Cb.resume p ∈ L → L.count (.resume p) = 1) := by
  have hi := Once.Inv0.reach body fuel h0 (fun h => by cases h) hsafe (fun h => by cases h) hr
  exact ⟨fun pr hp hne hm => hne (hi.c.reg_target hL hm hp), fun ho hm => ho (hi.regOnce t L p hL hm).1,
    fun hm => (hi.regOnce t L p hL hm).2.2⟩

/-- **…while the event keeps every other waiter**: removing the victim's registration leaves the registration of every
other process on that event (and on every other event) exactly as it was. -/
theorem detach_keeps_other_waiters (s : KState ℚ σ) (t p p' e : EvId) (hne : p' ≠ p) (L : List Cb)
    (hL : (s.ev e).cbs = some L) :
    ∃ L', ((s.eraseCb t (.resume p)).ev e).cbs = some L' ∧ L'.count (.resume p') = L.count (.resume p') ∧
      ((s.eraseCb t (.resume p)).ev e).out = (s.ev e).out := by
  have ho : ((s.eraseCb t (.resume p)).ev e).out = (s.ev e).out := Once.out_setEv s t e _ rfl
  rw [Once.cbs_eraseCb]
  split
  · rename_i h; subst h
    rw [hL]
    exact ⟨L.erase (.resume p), rfl, List.count_erase_of_ne (fun h => hne (by cases h; rfl)), ho⟩
  · exact ⟨L, hL, rfl, ho⟩

end C04
