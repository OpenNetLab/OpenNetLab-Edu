import OnlVerif.Lemmas.TcpSink
import OnlVerif.Lemmas.TcpSender
import OnlVerif.Lemmas.TcpLoop
import OnlVerif.Lemmas.TcpAckMono
import OnlVerif.Lemmas.TcpReorder
import OnlVerif.Lemmas.GenSink
import OnlVerif.Lemmas.TcpLiveQuiet
import OnlVerif.Lemmas.TcpLiveRun
import OnlVerif.Lemmas.TcpLiveTRun
/-!
# C16 — TCP acknowledgements are cumulative and correct; all data gets through

* **Sink** (`OnlVerif/Tcp/Sink.lean`, model of `TCPSink.packet_arrived/put`): for every finite arrival sequence the ACK
  is the length of the contiguous prefix of the bytes received so far, hence monotone; the buffer stays sorted,
  pairwise non-touching, and covers exactly the received bytes.  Sequence numbers and sizes are natural numbers.
* **Sender** (`OnlVerif/Tcp/CC.lean`, LTS of `TCPPacketGenerator` over exact rationals `ℚ`): no sequence of actions
  raises; the acknowledged mark never moves back, whatever the order of the ACKs (`last_ack_monotone`, `stale_ack_is_noop`;
  in the closed loop over a reordering return path: `reordering_return_path_safe`);
  on a loss-free, timely path nothing is sent twice; partial progress lemmas.
* **Closed loop** (`OnlVerif/Tcp/Loop.lean`, `LoopLive.lean`: sender ∥ lossy FIFO data path ∥ sink ∥ lossy FIFO ACK
  path) for a finite flow: the run never ends early (`quiescent_implies_complete`), never gets stuck (`never_stuck`),
  no reachable state is a dead end (`can_always_complete`), and every run with finitely many losses terminates with
  everything delivered and acknowledged - on paths that deliver at once (`terminates_under_loss_budget`) and on paths
  with arbitrary finite per-packet delays, where timers expire while packets are in flight
  (`terminates_over_delaying_paths`).

What these theorems do not give is listed in the comment before the examples.  The correspondence check explores drop
patterns against the real code as a failing-input search, not as a proof.
-/

namespace C16
open TcpSink TcpSender TcpScalar TcpCC TcpLoop TcpLive

/-- **The ACK returned for every arrival equals the length of the contiguous prefix `[0, n)` of the union of all
ranges received so far** — for every finite arrival sequence `arr` of `(seq, size)` pairs (any order, duplicates,
overlaps, gaps, first segment missing) and every position `k`: `put` does not fail, and its ACK `n` satisfies
`IsPrefix (first k+1 ranges) n`, i.e. every byte `< n` lies in some received range and byte `n` in none. -/
theorem sink_ack_prefix (arr : List (Nat × Nat)) (k : Nat) (hk : k < arr.length) :
    ∃ n, (acks [] arr)[k]? = some (.ok n) ∧ IsPrefix (rangesOf (arr.take (k + 1))) n := by
  obtain ⟨⟨n, h1, h2⟩, _⟩ := run_spec arr [] [] sep_nil (fun b => Iff.rfl) k hk
  exact ⟨n, h1, by simpa using h2⟩

/-- **Buffer invariant**: after every arrival `recv_buffer` is non-empty, sorted, pairwise non-touching (each range
ends strictly before the next starts), and its union is exactly the union of the ranges received so far. -/
theorem sink_buffer_invariant (arr : List (Nat × Nat)) (k : Nat) (hk : k < arr.length) :
    ∃ B, (buffers [] arr)[k]? = some B ∧ B ≠ [] ∧ (∀ r ∈ B, r.1 ≤ r.2) ∧ B.Pairwise (fun a b => a.2 < b.1) ∧
      ∀ b, Covers B b ↔ Covers (rangesOf (arr.take (k + 1))) b := by
  obtain ⟨_, ⟨B, h1, h2, h3, h4⟩⟩ := run_spec arr [] [] sep_nil (fun b => Iff.rfl) k hk
  exact ⟨B, h1, h3, h2.1, h2.2, by simpa using h4⟩

/-- one arrival, from any sorted non-touching buffer: the new buffer covers the old bytes plus the packet's -/
theorem sink_arrival (buf : List Range) (seq size : Nat) (h : Sep buf) :
    Sep (packetArrived buf seq size) ∧
    ∀ b, Covers (packetArrived buf seq size) b ↔ Covers buf b ∨ (seq ≤ b ∧ b < seq + size) :=
  packetArrived_spec buf seq size h

/-- **The ACK never decreases.** -/
theorem sink_ack_mono (arr : List (Nat × Nat)) (i j : Nat) (hij : i ≤ j) (hj : j < arr.length) (n m : Nat)
    (hn : (acks [] arr)[i]? = some (.ok n)) (hm : (acks [] arr)[j]? = some (.ok m)) : n ≤ m := by
  obtain ⟨n', h1, p1⟩ := sink_ack_prefix arr i (Nat.lt_of_le_of_lt hij hj)
  obtain ⟨m', h2, p2⟩ := sink_ack_prefix arr j hj
  rw [hn] at h1; rw [hm] at h2
  injection h1 with h1; injection h1 with h1
  injection h2 with h2; injection h2 with h2
  subst h1 h2
  refine isPrefix_mono p1 p2 ?_
  intro b ⟨r, hr, hb⟩
  refine ⟨r, ?_, hb⟩
  unfold rangesOf at hr ⊢
  obtain ⟨p, hp, rfl⟩ := List.mem_map.mp hr
  exact List.mem_map.mpr ⟨p, List.take_subset_take_left arr (Nat.succ_le_succ hij) hp, rfl⟩

/-- the prefix length is determined by the received ranges alone (so "the" ACK of the specification is unique) -/
theorem prefix_unique (rs : List Range) (n m : Nat) (hn : IsPrefix rs n) (hm : IsPrefix rs m) : n = m :=
  isPrefix_unique hn hm

/-- coverage of the received bytes depends only on *which* `(seq, size)` arrivals occurred, not on their order or
multiplicity -/
theorem covers_rangesOf_congr {a₁ a₂ : List (Nat × Nat)} (h : ∀ x, x ∈ a₁ ↔ x ∈ a₂) (b : Nat) :
    Covers (rangesOf a₁) b ↔ Covers (rangesOf a₂) b := by
  refine covers_of_mem_iff (fun r => ?_) b
  unfold rangesOf
  simp only [List.mem_map]
  constructor <;> rintro ⟨p, hp, rfl⟩
  · exact ⟨p, (h p).mp hp, rfl⟩
  · exact ⟨p, (h p).mpr hp, rfl⟩

/-- **The final ACK does not depend on the order of arrival or on duplicates**: two non-empty arrival sequences with
the same set of `(seq, size)` segments (any permutation, any number of retransmitted copies of each) end with the same
ACK.  So whatever reordering and duplication the path (or the retransmission logic) produces, the sender is told the
same cumulative mark once the same segments are in. -/
theorem sink_final_ack_order_independent (a₁ a₂ : List (Nat × Nat)) (h₁ : a₁ ≠ []) (h₂ : a₂ ≠ [])
    (h : ∀ x, x ∈ a₁ ↔ x ∈ a₂) :
    ∃ n, (acks [] a₁)[a₁.length - 1]? = some (.ok n) ∧ (acks [] a₂)[a₂.length - 1]? = some (.ok n) := by
  have l₁ : 0 < a₁.length := List.length_pos_iff.mpr h₁
  have l₂ : 0 < a₂.length := List.length_pos_iff.mpr h₂
  obtain ⟨n, hn, pn⟩ := sink_ack_prefix a₁ (a₁.length - 1) (by omega)
  obtain ⟨m, hm, pm⟩ := sink_ack_prefix a₂ (a₂.length - 1) (by omega)
  rw [show a₁.length - 1 + 1 = a₁.length by omega, List.take_length] at pn
  rw [show a₂.length - 1 + 1 = a₂.length by omega, List.take_length] at pm
  have : n = m := isPrefix_unique ((isPrefix_congr (covers_rangesOf_congr h) n).mp pn) pm
  subst this
  exact ⟨n, hn, hm⟩

/-- **A duplicate is acknowledged with the ACK already given**: if the arrival at position `k + 1` is a copy of a
segment received earlier (a spurious retransmission), its ACK equals the ACK of arrival `k` — the mark neither moves
back (the defect repaired in the sink, §3 C16) nor forward. -/
theorem sink_duplicate_keeps_ack (arr : List (Nat × Nat)) (k : Nat) (hk : k + 1 < arr.length)
    (hd : arr[k + 1] ∈ arr.take (k + 1)) :
    ∃ n, (acks [] arr)[k]? = some (.ok n) ∧ (acks [] arr)[k + 1]? = some (.ok n) := by
  obtain ⟨n, hn, pn⟩ := sink_ack_prefix arr k (by omega)
  obtain ⟨m, hm, pm⟩ := sink_ack_prefix arr (k + 1) hk
  have hmem : ∀ x, x ∈ arr.take (k + 1) ↔ x ∈ arr.take (k + 1 + 1) := by
    intro x
    rw [List.take_add_one (i := k + 1), List.getElem?_eq_getElem hk]
    simp only [Option.toList_some, List.mem_append, List.mem_singleton]
    constructor
    · exact Or.inl
    · rintro (hx | rfl)
      · exact hx
      · exact hd
  have : n = m := isPrefix_unique ((isPrefix_congr (covers_rangesOf_congr hmem) n).mp pn) pm
  subst this
  exact ⟨n, hn, hm⟩

/-- **Once exactly the bytes `[0, N)` are in, the ACK is `N`** — for every non-empty arrival sequence (any segmentation,
order, overlap, duplication) whose ranges cover every byte below `N` and none from `N` on, the last ACK is the flow
size `N`: the sink tells the sender "all received" exactly when all is received. -/
theorem sink_all_received (arr : List (Nat × Nat)) (N : Nat) (hne : arr ≠ [])
    (hcov : ∀ b, Covers (rangesOf arr) b ↔ b < N) :
    (acks [] arr)[arr.length - 1]? = some (.ok N) := by
  have l : 0 < arr.length := List.length_pos_iff.mpr hne
  obtain ⟨n, hn, pn⟩ := sink_ack_prefix arr (arr.length - 1) (by omega)
  rw [show arr.length - 1 + 1 = arr.length by omega, List.take_length] at pn
  have hN : IsPrefix (rangesOf arr) N :=
    ⟨fun b hb => (hcov b).mpr hb, fun hc => Nat.lt_irrefl N ((hcov N).mp hc)⟩
  rw [isPrefix_unique pn hN] at hn
  exact hn

/-- non-vacuity: two orders (one with a duplicate) of the same three segments, evaluated -/
example : (acks [] [(0, 5), (10, 5), (5, 5)])[2]? = some (.ok 15) ∧
    (acks [] [(5, 5), (10, 5), (0, 5), (0, 5)])[3]? = some (.ok 15) := by decide

/-- in-order delivery: with `[0, n)` held, the segment `[n, n + size)` is acknowledged with `n + size` — the ACK of
exactly the next segment, which is what `TimelyAct` assumes of a loss-free order-preserving path -/
theorem sink_in_order (n size : Nat) :
    put [] 0 size = ([(0, size)], .ok size) ∧
    (0 < n → put [(0, n)] n size = ([(0, n + size)], .ok (n + size))) := by
  constructor
  · simp [put, packetArrived, sortR, insertR, mergeAll, mergeFrom, ackOf]
  · intro hn
    have h2 : leR (0, n) (n, n + size) = true := by
      unfold leR; simp; omega
    simp [put, packetArrived, sortR, insertR, h2, mergeAll, mergeFrom, ackOf]

/-- **For every sequence of sender actions — resumptions of `run`, token hand-offs, ACKs with arbitrary ACK numbers,
echoed packet ids, orders and RTT samples, timer expiries, clock ticks — the step never returns a Python exception**
(`AssertionError`, `KeyError` of `self.timers[..]` / `del self.sent_packets[..]`, `ValueError` of `Timer`,
`ZeroDivisionError`, CUBIC's cube root), from any state satisfying the invariant (a fresh generator around `TCPReno`
with `cwnd ≥ mss > 0`, `ssthresh ≥ 0`, or around `TCPCubic()`, with `rtt_estimate > 0`: `inv_init`).  Actions the
kernel would not offer in a state (`fire` of a timer that is not pending/due, an ACK stamped in the future, …) are
rejected, not errors.  `ActOk`: ACK packets carry `flow_id ≥ 10000`, as the sink builds them. -/
theorem sender_never_raises (s0 s : Sender ℚ) (h0 : Inv s0) (hr : Reach s0 s) (a : Act ℚ) (ha : ActOk a) (e : PyErr) :
    s.step a ≠ .error e :=
  (step_safe (reach_inv h0 hr) a ha).1 e

/-- without the `flow_id` precondition the only possible exception is the `assert` of `put` -/
theorem only_the_assert_can_fail (s0 s : Sender ℚ) (h0 : Inv s0) (hr : Reach s0 s) (a : Act ℚ) (e : PyErr)
    (he : s.step a = .error e) : e = .assertion ∧ ∃ x, a = .ack x ∧ x.fid < 10000 := by
  have hi := reach_inv h0 hr
  cases a with
  | ack x =>
    by_cases hf : 10000 ≤ x.fid
    · exact absurd he ((step_safe hi (.ack x) hf).1 e)
    · have : s.step (.ack x) = .error .assertion := by
        show s.ackStep x = _
        unfold Sender.ackStep
        simp only [Nat.lt_of_not_le hf, if_true]
      rw [this] at he; injection he with he
      exact ⟨he.symm, x, rfl, Nat.lt_of_not_le hf⟩
  | _ => exact absurd he ((step_safe hi _ (by trivial)).1 e)

/-- **Over a loss-free path whose round-trip time stays below the current RTO no segment is transmitted twice.**
Take any run from a calm state (no duplicates counted, no timer due — e.g. the initial state) in which every
action is *timely* (`TimelyAct`): each ACK is the ACK of exactly the next unacknowledged segment (what in-order,
loss-free delivery produces, `sink_in_order`) and the clock never reaches the expiry of a pending timer (every ACK is
back before its segment's RTO).  Then no `fire` action is ever enabled, `dupack` stays 0, every transmission is a new
segment, and the transmitted sequence numbers are strictly increasing — every segment is sent exactly once. -/
theorem no_spurious_retransmit (s s' : Sender ℚ) (acts : List (Act ℚ)) (outs : List (Tx ℚ)) (h : Inv s) (hc : Calm s)
    (hm : 0 < s.mss) (hr : TimelyRun s acts s' outs) :
    (∀ tx ∈ outs, tx.kind = .new) ∧ outs.Pairwise (fun x y => x.seq < y.seq) ∧ (∀ seq, Act.fire seq ∉ acts) ∧
    s'.dupack = 0 ∧ (∀ seq, ∃ why, s'.step (.fire seq) = .reject why) := by
  obtain ⟨_, c, _, _, f, p, nf⟩ := timelyRun_spec hr h hc hm
  refine ⟨fun tx htx => (f tx htx).1, p, nf, c.nodup, fun seq => ?_⟩
  rcases calm_no_fire c seq with e | e <;> exact ⟨_, e⟩

/-- a fresh sender is calm -/
theorem init_calm (kind : CCKind) (cc : CCState ℚ) (rtt : ℚ) (mss : Nat) (size : Option Nat) (now : ℚ) :
    Calm (Sender.init kind cc rtt mss size now) :=
  ⟨rfl, fun kv hkv => by simp [Sender.init] at hkv⟩

/-- **(a) every transmitted new segment is put under a retransmission timer** armed for the current RTO -/
theorem new_segment_is_timed_partial (s s' : Sender ℚ) (tx : Tx ℚ) (h : Inv s) (hs : s.sendStep = .sent s' tx) :
    AL.get? tx.seq s'.timers = some { expiry := s.now + s.est.rto, wake := s.now + s.est.rto, live := true } ∧
    tx.seq ∈ AL.keys s'.sent := by
  obtain ⟨hi, htx, _, _, _, _, _, _, _, _, ht, _⟩ := (sendStep_spec h).2.1 s' tx hs
  rw [htx, ht]
  refine ⟨by rw [AL.get?_set_self, arm_eq _ _ h.rto_pos], ?_⟩
  rw [← hi.keys, ht]
  exact AL.mem_of_get?_some (AL.get?_set_self _ _ _)

/-- **(b) a timer is cancelled only by an ACK that covers or answers its segment**: if an accepted action removes
`q` from the pending timers, the action is a new ACK (`ackno > last_ack`: an ACK overtaken by a later one cancels nothing,
`stale_ack_is_noop`) with `q < ackno` or `q = packet_id`.  So an unacknowledged segment stays under a live timer. -/
theorem timer_cancelled_only_by_ack_partial (s s' : Sender ℚ) (a : Act ℚ) (outs : List (Tx ℚ)) (h : Inv s) (ha : ActOk a)
    (hs : s.step a = .ok s' outs) (q : Nat) (hq : q ∈ AL.keys s.timers) (hq' : q ∉ AL.keys s'.timers) :
    ∃ x, a = .ack x ∧ s.last_ack < x.ackno ∧ (q < x.ackno ∨ q = x.pid) :=
  (((step_moved h a ha).2 _ _ hs).keep q hq).resolve_left hq'

/-- **(c) a pending timer that comes due retransmits its segment and stays pending** with the doubled RTO — so an
outstanding segment is transmitted again at `t₀ + rto`, `t₀ + 3·rto`, `t₀ + 7·rto`, … for as long as it is not
acknowledged: the sender keeps retransmitting. -/
theorem due_timer_retransmits_and_rearms_partial (s : Sender ℚ) (seq : Nat) (tr : TimerRec ℚ) (h : Inv s)
    (ht : AL.get? seq s.timers = some tr) (hdue : tr.live = true ∧ tr.wake = s.now ∧ ¬ s.now < tr.expiry) :
    ∃ s', s.step (.fire seq) = .ok s' [{ seq := seq, size := s.mss, stamp := s.now, kind := .resend }] ∧
      AL.get? seq s'.timers = some { expiry := s.now + 2 * s.est.rto, wake := s.now + 2 * s.est.rto, live := true } ∧
      s.now < s.now + 2 * s.est.rto ∧ s'.est.rto = 2 * s.est.rto := by
  obtain ⟨S, _, r⟩ := fireStep_due h ht hdue
  have hpos := h.rto_pos
  refine ⟨_, r, ?_, by linarith, mul_comm _ _⟩
  show AL.get? seq (AL.set seq _ s.timers) = _
  rw [AL.get?_set_self, mul_comm]

/-- **(d) an ACK that gets through moves `last_ack` to its number and cancels the timers it covers**: after a new ACK
`x` (`x.ackno > last_ack`), `last_ack = x.ackno`, no segment below `x.ackno` and not the answered segment `x.pid` is still timed, every other
timer is untouched, and the `run` process is given a wake-up token. -/
theorem new_ack_advances_partial (s : Sender ℚ) (x : AckIn ℚ) (h : Inv s) (hok : AckOk s x) (hnew : s.last_ack < x.ackno) :
    ∃ s', s.step (.ack x) = .ok s' [] ∧ s'.last_ack = x.ackno ∧ s'.tokens = s.tokens + 1 ∧
      ∀ q, q ∈ AL.keys s'.timers ↔ q ∈ AL.keys s.timers ∧ ¬ (q < x.ackno ∨ q = x.pid) := by
  obtain ⟨T, S, r, _, _, hT, _⟩ := ackStep_new_spec s x h.cc h.keys h.nodup hok hnew
  exact ⟨_, r, rfl, rfl, hT⟩

/-- **The sender's acknowledged mark `last_ack` never decreases - for ACKs arriving in *any* order.**  In every state
reachable from a state satisfying the invariant (a fresh generator: `inv_init`) by accepted actions, every further accepted
action - a resumption of `run`, a token hand-off, a timer expiry, a clock tick, or an ACK with an arbitrary number, echoed
packet id and RTT sample, in particular one that was overtaken on the return path by a later cumulative ACK - leaves
`last_ack` where it is or moves it forward; hence `last_ack` is non-decreasing along the whole run.  No FIFO hypothesis on
the return path.  (Before the repair of `put` - `if ackno < self.last_ack: return` - an overtaken ACK was taken for a new one
and moved the mark *back*: `known_findings.jsonl`, `findings/demos/C16_stale_ack.py`.) -/
theorem last_ack_monotone (s0 s s' : Sender ℚ) (h0 : Inv s0) (hr : Reach s0 s) (a : Act ℚ) (ha : ActOk a)
    (outs : List (Tx ℚ)) (hs : s.step a = .ok s' outs) :
    s.last_ack ≤ s'.last_ack ∧ s0.last_ack ≤ s.last_ack :=
  ⟨step_last_ack_mono (reach_inv h0 hr) ha hs, reach_last_ack_mono h0 hr⟩

/-- **An ACK overtaken by a later cumulative one is ignored**: an acknowledgement with `ackno < last_ack` (well-formed:
`flow_id ≥ 10000`, not stamped in the future) is accepted, leaves the *whole* sender state unchanged - `last_ack`, `dupack`,
the window, the RTT estimator and RTO, the timers, the wake-up store - and sends nothing: it acknowledges nothing new and is
not a duplicate either.  From any state. -/
theorem stale_ack_is_noop (s : Sender ℚ) (x : AckIn ℚ) (hf : 10000 ≤ x.fid) (hp : x.ptime ≤ s.now)
    (hst : x.ackno < s.last_ack) : s.step (.ack x) = .ok s [] :=
  ackStep_stale s x ⟨hf, hp⟩ hst

/-- the hypotheses of `stale_ack_is_noop` and `last_ack_monotone` are met by a reachable state, and the conclusion is not
empty: the bulk scenario of the demo (3 segments, window of 3 segments, the ACKs come back in the order 1024, 1536, 512).
All six actions are accepted; after the overtaken ACK 512 the mark is still 1536 (the unrepaired code ended with 512) -/
example : ((runActs (Sender.init .reno ({ (TCPCubic.defaults : CCState ℚ) with mss := 512, cwnd := 1536, ssthresh := 65535 })
      10 512 (some 1536) 0)
    [.wake 8, .tick 1, .ack { fid := 10000, ackno := 1024, pid := 512, ptime := 0 },
     .ack { fid := 10000, ackno := 1536, pid := 1024, ptime := 0 }, .tick 2,
     .ack { fid := 10000, ackno := 512, pid := 0, ptime := 0 }]).map fun s => (s.last_ack, s.next_seq, s.dupack, s.timers.length))
    = some (1536, 1536, 0, 0) := by decide +kernel

/-- … and the state before that last ACK already had `last_ack = 1536 > 512` -/
example : ((runActs (Sender.init .reno ({ (TCPCubic.defaults : CCState ℚ) with mss := 512, cwnd := 1536, ssthresh := 65535 })
      10 512 (some 1536) 0)
    [.wake 8, .tick 1, .ack { fid := 10000, ackno := 1024, pid := 512, ptime := 0 },
     .ack { fid := 10000, ackno := 1536, pid := 1024, ptime := 0 }, .tick 2]).map fun s => (s.last_ack, decide (s.now = 2)))
    = some (1536, true) := by decide +kernel

/-- **(e) in the closed loop, every segment issued so far is at the sink or under a pending retransmission timer** —
for every interleaving of sender bursts, deliveries, ACK arrivals and losses on both paths (any packet in flight may be
lost at any time).  With (c) this is "the sender keeps retransmitting what the sink lacks".  (`Covers sink q`: the
first byte of segment `q` is held.) -/
theorem outstanding_segment_is_timed_partial (s0 : Sender ℚ) (l : Loop ℚ) (h0 : Inv s0) (hm : 0 < s0.mss)
    (hr : LReach (Loop.init s0) l) (q : Nat) (hq : q ∈ l.issued) :
    Covers l.sink q ∨ q ∈ AL.keys l.snd.timers :=
  (reach_J (J_init s0 h0 hm) hr).issued q hq

/-- **(f) every ACK in flight is backed by the sink**: all bytes below its number and the segment it answers are
held (so the sender's cumulative cancellation never forgets a segment the sink lacks), it carries `flow_id ≥ 10000`,
and its arrival at the sender raises nothing; the sink's `put` never fails on a delivery. -/
theorem acks_in_flight_are_backed_partial (s0 : Sender ℚ) (l : Loop ℚ) (h0 : Inv s0) (hm : 0 < s0.mss)
    (hr : LReach (Loop.init s0) l) :
    (∀ a ∈ l.acks, (∀ b, b < a.ackno → Covers l.sink b) ∧ Covers l.sink a.pid ∧ ∀ e, l.snd.step (.ack a) ≠ .error e) ∧
    (∀ tx ∈ l.data, ∃ n, (TcpSink.put l.sink tx.seq tx.size).2 = .ok n) ∧ Inv l.snd ∧ Sep l.sink := by
  have j := reach_J (J_init s0 h0 hm) hr
  refine ⟨fun a ha => ?_, fun tx _ => ?_, j.snd, j.sink⟩
  · obtain ⟨a1, a2, a3⟩ := j.acks a ha
    exact ⟨a2, a3, (step_safe j.snd (.ack a) a1).1⟩
  · obtain ⟨n, hn, _⟩ := put_ok l.sink tx.seq tx.size j.sink
    exact ⟨n, by rw [hn]⟩

/-- **Over a return path that reorders and loses ACKs, the sender's acknowledged mark stays a correct cumulative
acknowledgement.**  `TcpReorder.RReach`: the runs of the closed loop (sender bursts, deliveries over the FIFO data path, losses
on both paths, clock ticks, in any interleaving) in which additionally *any* ACK in flight - not only the oldest - may reach the
sender next (`Loop.ackArriveAt i`).  In every state of such a run from a fresh sender: the mark has not moved back, and no
further step moves it back; **every byte below `last_ack` is held by the sink**; every segment issued so far is at the sink or
under a pending retransmission timer; no ACK in flight can make `put` raise.  (That such runs also *complete* is searched by the
overtaken-ACK leg of the correspondence check, not proved: the liveness theorems below are for FIFO paths.) -/
theorem reordering_return_path_safe (s0 : Sender ℚ) (l : Loop ℚ) (h0 : Inv s0) (hm : 0 < s0.mss) (hl : s0.last_ack = 0)
    (hr : TcpReorder.RReach (Loop.init s0) l) :
    s0.last_ack ≤ l.snd.last_ack ∧ (∀ l', TcpReorder.RStep l l' → l.snd.last_ack ≤ l'.snd.last_ack) ∧
    (∀ b, b < l.snd.last_ack → Covers l.sink b) ∧
    (∀ q ∈ l.issued, Covers l.sink q ∨ q ∈ AL.keys l.snd.timers) ∧
    (∀ a ∈ l.acks, ∀ e, l.snd.step (.ack a) ≠ .error e) ∧ Inv l.snd := by
  have j := TcpReorder.reach_J (J_init s0 h0 hm) hr
  have m := TcpReorder.reach_mark (J_init s0 h0 hm) hr
  refine ⟨m.mono, fun l' hs => (TcpReorder.mark_step j hs).mono, ?_, j.issued, fun a ha => ?_, j.snd⟩
  · refine m.held (fun b hb => ?_)
    have : (Loop.init s0).snd.last_ack = 0 := hl
    omega
  · exact (step_safe j.snd (.ack a) (j.acks a ha).1).1

/-- such a run, with a real overtaking: three segments are sent and delivered, their ACKs (512, 1024, 1536) are in flight; the
second and the third arrive first, then the first one - below the mark.  Every step is accepted (`TcpReorder.runR_sound`); at
the end `last_ack = 1536`, the sink holds `[0, 1536)` and nothing is in flight -/
example : ((TcpReorder.runR (Loop.init (Sender.init .reno ({ (TCPCubic.defaults : CCState ℚ) with mss := 512, cwnd := 1536, ssthresh := 65535 })
      10 512 (some 1536) 0))
    [.inl (.own (.wake 8)), .inl .deliver, .inl .deliver, .inl .deliver, .inr 1, .inr 1, .inr 0]).map
      fun l => (l.snd.last_ack, l.sink, l.acks.length, l.snd.timers.length))
    = some (1536, [(0, 1536)], 0, 0) := by decide +kernel

/-- **If the run ends, everything was delivered and acknowledged.**  Take a freshly constructed generator for a
finite flow of `n > 0` bytes, `n` a multiple of the generator's segment size `mss > 0`, around a congestion-control
object with `cwnd ≥ cc.mss > 0`, `ssthresh ≥ 0` (`CCInv`) whose own MSS is not smaller than the generator's
(`mss ≤ cc.mss`; both are 512 by default), with `rtt_estimate > 0`.  In **every** state `l` of the closed loop
sender ∥ lossy FIFO data path ∥ sink ∥ lossy FIFO ACK path reachable from it - any interleaving of sender bursts,
deliveries, ACK arrivals, clock ticks, and any packet or ACK lost at any time - in which the simulation kernel has no
event left (`Loop.Quiescent`: nothing in flight in either direction, no live retransmission timer, `run` neither
scheduled nor about to be handed a wake-up token; this is when the real `env.run()` returns), the sink's receive buffer
is exactly `[(0, n)]` and `last_ack = n`.  So losses can delay the transfer but the protocol never gives up early:
while a segment or its acknowledgement is missing something is still pending. -/
theorem quiescent_implies_complete (kind : CCKind) (cc : CCState ℚ) (rtt : ℚ) (mss n : Nat) (now : ℚ)
    (hcc : CCInv kind cc) (hrtt : 0 < rtt) (hn : 0 < n) (hm : 0 < mss) (hd : mss ∣ n) (hc : (mss : ℚ) ≤ cc.mss)
    (l : Loop ℚ) (hr : LReach (Loop.init (Sender.init kind cc rtt mss (some n) now)) l) (hq : l.Quiescent) :
    l.sink = [(0, n)] ∧ l.snd.last_ack = n :=
  quiescent_complete (reach_LInv (LInv_init (fresh_init kind cc rtt mss n now hcc hrtt hn hm hd hc)) hr) hq

/-- `Loop.Quiescent` means what it should: in a quiescent state no action of the closed loop other than the passing
of time is accepted (no resumption of `run`, no hand-off, no timer expiry, no delivery, no ACK arrival, nothing to
lose) -/
theorem quiescent_means_no_event (l : Loop ℚ) (hq : l.Quiescent) (a : LAct ℚ) (hnt : ∀ t, a ≠ .own (.tick t)) :
    l.step a = none :=
  quiescent_no_event hq a hnt

/-- the invariant behind it, for every reachable state (quiescent or not): while anything is unacknowledged the first
unacknowledged segment is under a retransmission timer; a blocked `run` with no token pending has something
outstanding; every ACK in flight still finds the timer of the segment at its number; the sink holds whole aligned
segments below `next_seq`, everything below `last_ack`, and whatever it lacks below `next_seq` is timed -/
theorem liveness_invariant (kind : CCKind) (cc : CCState ℚ) (rtt : ℚ) (mss n : Nat) (now : ℚ)
    (hcc : CCInv kind cc) (hrtt : 0 < rtt) (hn : 0 < n) (hm : 0 < mss) (hd : mss ∣ n) (hc : (mss : ℚ) ≤ cc.mss)
    (l : Loop ℚ) (hr : LReach (Loop.init (Sender.init kind cc rtt mss (some n) now)) l) :
    (l.snd.last_ack < l.snd.next_seq → l.snd.last_ack ∈ AL.keys l.snd.timers) ∧
    (l.snd.proc = .blocked → 0 < l.snd.tokens ∨ l.snd.last_ack < l.snd.next_seq) ∧
    (l.snd.proc = .finished → l.snd.next_seq = n) ∧
    (∀ a ∈ l.acks, l.snd.last_ack ≤ a.ackno ∧ (a.ackno < l.snd.next_seq → a.ackno ∈ AL.keys l.snd.timers)) ∧
    (∀ q, mss ∣ q → q < l.snd.next_seq → Covers l.sink q ∨ q ∈ AL.keys l.snd.timers) ∧
    (∀ b, b < l.snd.last_ack → Covers l.sink b) ∧ l.snd.last_ack ≤ l.snd.next_seq ∧ l.snd.next_seq ≤ n := by
  obtain ⟨h, hmss⟩ := reach_mss (LInv_init (fresh_init kind cc rtt mss n now hcc hrtt hn hm hd hc)) hr
  have hmss : l.snd.mss = mss := hmss
  refine ⟨h.s.tm, h.s.blk, h.s.finished, fun a ha => ⟨(h.acks a ha).ge, (h.acks a ha).timed⟩, ?_, h.lap, h.s.la_le, h.s.ns_le⟩
  rw [← hmss]
  exact h.seg

/-- **No reachable state is a dead end: losses can delay the transfer but never wedge it.**  Under the hypotheses of
`quiescent_implies_complete`, from **every** state `l` of the closed loop that is reachable by any interleaving and any
losses there is a finite sequence `acts` of loop actions **without any further loss** (`noDrop`: no `dropData`, no
`dropAck`) that is accepted action by action and ends in a state that is quiescent (the run is over) with
`sink = [(0, n)]` and `last_ack = n`.  The witness is constructive: any fair schedule works - deliver what is in
flight, resume `run` when it is scheduled, let due timers fire, advance the clock to the next timer only when nothing
else can happen (`Loop.Fair`); each such step decreases the lexicographic measure `TcpLive.mu`. -/
theorem can_always_complete (kind : CCKind) (cc : CCState ℚ) (rtt : ℚ) (mss n : Nat) (now : ℚ)
    (hcc : CCInv kind cc) (hrtt : 0 < rtt) (hn : 0 < n) (hm : 0 < mss) (hd : mss ∣ n) (hc : (mss : ℚ) ≤ cc.mss)
    (l : Loop ℚ) (hr : LReach (Loop.init (Sender.init kind cc rtt mss (some n) now)) l) :
    ∃ acts l', (∀ a ∈ acts, a.noDrop = true) ∧ l.run acts = some l' ∧ l'.Quiescent ∧
      l'.sink = [(0, n)] ∧ l'.snd.last_ack = n := by
  obtain ⟨acts, l', h1, h2, h3, h4⟩ :=
    can_complete (reach_LInv (LInv_init (fresh_init kind cc rtt mss n now hcc hrtt hn hm hd hc)) hr)
  exact ⟨acts, l', h1, h2, h3, h4.1, h4.2⟩

/-- **while the run is not over something can happen**: in every reachable state that is not quiescent, some action
of the fair discipline (a delivery, an ACK arrival, a resumption of `run`, a token hand-off, the expiry of a due timer,
or - when none of these is possible - the advance of the clock to the next timer) is accepted -/
theorem never_stuck (kind : CCKind) (cc : CCState ℚ) (rtt : ℚ) (mss n : Nat) (now : ℚ)
    (hcc : CCInv kind cc) (hrtt : 0 < rtt) (hn : 0 < n) (hm : 0 < mss) (hd : mss ∣ n) (hc : (mss : ℚ) ≤ cc.mss)
    (l : Loop ℚ) (hr : LReach (Loop.init (Sender.init kind cc rtt mss (some n) now)) l) (hq : ¬ l.Quiescent) :
    ∃ a l', Loop.Fair l a ∧ l.step a = some l' :=
  fair_progress (reach_LInv (LInv_init (fresh_init kind cc rtt mss n now hcc hrtt hn hm hd hc)) hr) hq

/-- **Every fair run with finitely many losses is finite and ends with everything delivered and acknowledged.**
Runs with a loss budget (`Loop.BStep` on pairs `(k, l)`): a step is either a *fair* step of the closed loop
(`Loop.Fair`: any enabled burst - resumption of `run`, token hand-off, expiry of a due timer, delivery of the head of
the data path, arrival of the head of the ACK path - in **any** order; the clock advances only when neither path holds
a packet, and then exactly to the next timer wake-up, as the kernel jumps to its next event), or the loss of any packet
or ACK in flight, which consumes one unit of the budget `k` - "the path drops finitely many packets".  Under the
hypotheses of `quiescent_implies_complete`, for every budget `k`:

1. there is **no infinite run** from the initial state - the sender cannot retransmit for ever, the two paths cannot
   bounce packets for ever, the clock cannot advance for ever;
2. every state `(k', l)` the run can reach from which **no step is possible** (the run is maximal) is quiescent and has
   `sink = [(0, n)]`, `last_ack = n`.

So every maximal run reaches the complete state after finitely many steps, whichever packets (at most `k`) are lost
and however the enabled bursts are interleaved. -/
theorem terminates_under_loss_budget (kind : CCKind) (cc : CCState ℚ) (rtt : ℚ) (mss n : Nat) (now : ℚ)
    (hcc : CCInv kind cc) (hrtt : 0 < rtt) (hn : 0 < n) (hm : 0 < mss) (hd : mss ∣ n) (hc : (mss : ℚ) ≤ cc.mss)
    (k : Nat) :
    (¬ ∃ f : Nat → Nat × Loop ℚ, f 0 = (k, Loop.init (Sender.init kind cc rtt mss (some n) now)) ∧
        ∀ i, Loop.BStep (f i) (f (i + 1))) ∧
    (∀ k' l, Relation.ReflTransGen Loop.BStep (k, Loop.init (Sender.init kind cc rtt mss (some n) now)) (k', l) →
        (∀ y, ¬ Loop.BStep (k', l) y) → l.Quiescent ∧ l.sink = [(0, n)] ∧ l.snd.last_ack = n) := by
  have h0 := LInv_init (fresh_init kind cc rtt mss n now hcc hrtt hn hm hd hc)
  refine ⟨no_infinite_of_acc (bstep_acc k _ h0), fun k' l hr hstuck => ?_⟩
  have h : LInv n l := breach_LInv hr h0
  have hq := stuck_quiescent h hstuck
  exact ⟨hq, quiescent_complete h hq⟩

/-- the same from any reachable state (whatever was lost before), as well-foundedness: the converse of `Loop.BStep` is
well-founded below every `(k, l)` with `l` reachable -/
theorem fair_runs_wellFounded (kind : CCKind) (cc : CCState ℚ) (rtt : ℚ) (mss n : Nat) (now : ℚ)
    (hcc : CCInv kind cc) (hrtt : 0 < rtt) (hn : 0 < n) (hm : 0 < mss) (hd : mss ∣ n) (hc : (mss : ℚ) ≤ cc.mss)
    (l : Loop ℚ) (hr : LReach (Loop.init (Sender.init kind cc rtt mss (some n) now)) l) (k : Nat) :
    Acc (fun y x => Loop.BStep x y) (k, l) :=
  bstep_acc k l (reach_LInv (LInv_init (fresh_init kind cc rtt mss n now hcc hrtt hn hm hd hc)) hr)

/-- a budgeted fair run is in particular a run of the closed loop (so all safety results apply to it), it stops
exactly in the quiescent states, and each fair step decreases the measure `TcpLive.mu` in the lexicographic order -/
theorem fair_run_facts (n : Nat) (l : Loop ℚ) (h : LInv n l) :
    (∀ k y, Relation.ReflTransGen Loop.BStep (k, l) y → LReach l y.2) ∧
    (∀ k, l.Quiescent ↔ ∀ y, ¬ Loop.BStep (k, l) y) ∧
    (∀ a l', Loop.Fair l a → l.step a = some l' → Lt5 (mu n l') (mu n l)) :=
  ⟨fun _ _ hr => breach_lreach hr, fun _ => ⟨fun hq => quiescent_stuck hq, fun hs => stuck_quiescent h hs⟩,
   fun _ _ hf hs => fair_decreases h hf hs⟩

/-- **Over any pair of order-preserving paths that delay every packet by a finite amount and drop finitely many, the
transfer completes.**  `TLoop` attaches to each packet in flight the instant by which its path delivers it - chosen
arbitrarily, per packet, when it enters the path (not in the past).  A step (`TLoop.TStep`) is any enabled burst of the
sender, a delivery or an ACK arrival (possibly before that instant), or the advance of the clock from one event instant
to the next (a timer wake-up or a delivery instant), never beyond the delivery instant of a packet in flight nor
beyond a due timer - so **retransmission timers may expire while packets and ACKs are still in flight** (round-trip
times above the RTO, spurious retransmissions, duplicate ACKs and fast retransmits included); `TLoop.TBStep` adds the
loss of any packet in flight against a budget `k`.  Under the hypotheses of `quiescent_implies_complete`, for every `k`:

1. there is **no infinite run** from the initial state;
2. every reachable state from which **no step is possible** is quiescent and has `sink = [(0, n)]`, `last_ack = n`.

The measure (`TcpLive.tmu`, lexicographic): what the sink's prefix, `last_ack` and `next_seq` still have to go; whether
an ACK beyond `last_ack`, or else a copy of the segment at `last_ack`, is already in flight; the number of timer
expiries that can still precede the delivery instant of that packet (or, if there is none, the expiry of the timer of
`last_ack`) - finite because every expiry doubles the RTO; the weight of the packets in flight; the events not yet
due. -/
theorem terminates_over_delaying_paths (kind : CCKind) (cc : CCState ℚ) (rtt : ℚ) (mss n : Nat) (now : ℚ)
    (hcc : CCInv kind cc) (hrtt : 0 < rtt) (hn : 0 < n) (hm : 0 < mss) (hd : mss ∣ n) (hc : (mss : ℚ) ≤ cc.mss)
    (k : Nat) :
    (¬ ∃ f : Nat → Nat × TLoop ℚ, f 0 = (k, TLoop.init (Sender.init kind cc rtt mss (some n) now)) ∧
        ∀ i, TLoop.TBStep (f i) (f (i + 1))) ∧
    (∀ k' L, Relation.ReflTransGen TLoop.TBStep (k, TLoop.init (Sender.init kind cc rtt mss (some n) now)) (k', L) →
        (∀ y, ¬ TLoop.TBStep (k', L) y) → L.l.Quiescent ∧ L.l.sink = [(0, n)] ∧ L.l.snd.last_ack = n) := by
  have h0 := TInv_init (fresh_init kind cc rtt mss n now hcc hrtt hn hm hd hc)
  refine ⟨no_infinite_of_acc (tbstep_acc k _ h0), fun k' L hr hstuck => ?_⟩
  have h : TInv n L := tbreach_TInv hr h0
  have hq := tstuck_quiescent h hstuck
  exact ⟨hq, quiescent_complete h.inv hq⟩

/-- runs over timed paths are runs of the closed loop (all safety results apply), they can continue exactly while the
state is not quiescent, and every loss-free step decreases `TcpLive.tmu` -/
theorem timed_run_facts (n : Nat) (L : TLoop ℚ) (h : TInv n L) :
    (∀ k y, Relation.ReflTransGen TLoop.TBStep (k, L) y → LReach L.l y.2.l) ∧
    (∀ k, L.l.Quiescent ↔ ∀ y, ¬ TLoop.TBStep (k, L) y) ∧
    (∀ L', TLoop.TStep L L' → Lt5 (tmu n L') (tmu n L)) :=
  ⟨fun _ _ hr => tbreach_lreach hr, fun _ => ⟨fun hq => tquiescent_stuck h hq, fun hs => tstuck_quiescent h hs⟩,
   fun _ hs => tstep_decreases h hs⟩

/-
**Closed-loop liveness: what is proved and what is left.**  Full statement of the property clause:

  for every flow size `size = n · MSS`, `n ≥ 1`, every pair of order-preserving paths with arbitrary non-negative
  per-packet delays and finite sets `D`, `A` of dropped transmission indices (data, ACK direction), every
  `rtt_estimate > 0`, and `TCPReno` (`cwnd ≥ mss`, `ssthresh ≥ 0`) or `TCPCubic()`:
  the closed system  sender LTS ∥ data path ∥ `TcpSink.put` ∥ ACK path  reaches, after finitely many steps, a state
  with `sink.recv_buffer = [(0, size)]` and `sender.last_ack = size`, and no step on the way is an error.

Proved above for the models `OnlVerif/Tcp/Loop.lean` + `LoopLive.lean`, all for `mss ≤ cc.mss` (see below):

* no error on the way: `sender_never_raises`, `acks_in_flight_are_backed_partial`;
* safety half, for *arbitrary* delays (any interleaving of clock ticks with deliveries) and *arbitrary* losses (any
  packet in flight may be lost at any time, finitely or infinitely often): `quiescent_implies_complete` - whenever the
  event queue runs empty, everything has been delivered and acknowledged - and `never_stuck` - until then some event
  is enabled;
* `can_always_complete`: from every state reachable under arbitrary delays and losses, a finite loss-free continuation
  reaches the complete state - no loss pattern can wedge the protocol;
* `terminates_under_loss_budget`: with at most `k` losses (any `k`, any packets, at any moments), every order of the
  enabled bursts, on paths that deliver within the instant, every run is finite and ends complete;
* `terminates_over_delaying_paths`: the same over paths that delay each packet by an arbitrary finite amount, where
  timers expire while packets are in flight - the statement above, in the model.  "Finite sets of dropped transmission
  indices" is the loss budget: a run drops at most `|D| + |A|` packets.

What this does not give: (1) the step from the models to the code is the replay correspondence (sender and sink
separately, closed loops by trace comparison), not a proof; (2) exact rational arithmetic: in floating point a timer
armed for less than the resolution of the clock never fires (`TimerRec.live = false`), which the theorems exclude;
(3) in `TLoop` a path may deliver *before* the instant it announced and the clock moves from event to event - a
superset of the runs of a path with fixed per-packet delays, so nothing is lost, but the bound on the *time* of
completion (as opposed to the number of steps) is not stated; (4) flows with `start_time`, `finish_time`,
`arrival_dist`, `size_dist` or a size that is not a multiple of the MSS are outside the model (as for the rest of C16);
(5) both paths of `Loop` / `TLoop` are FIFO lists: that an ACK in flight is never below the acknowledged mark
(`liveness_invariant`, fourth clause) is a *consequence* of that model, not a hypothesis of the theorems, and the termination
measures use it.  For a return path that reorders ACKs what is proved is the sender-level part, for ACKs in any order:
`sender_never_raises`, `last_ack_monotone` (the mark never moves back), `stale_ack_is_noop` (an overtaken ACK changes nothing),
`timer_cancelled_only_by_ack_partial`, and the safety half in the closed loop, `reordering_return_path_safe` (the mark never
moves back, everything below it is at the sink, what the sink lacks is timed, nothing raises); that such runs complete is searched by the overtaken-ACK leg of `harness/c16.py`
(free return path, held ACKs, application-limited flows), not proved.

**A finding** (repaired: `fix:` commit "the TCP sender ignores an acknowledgement overtaken by a later cumulative one"): `put`
took an ACK with `ackno < last_ack` for a new ACK and moved `last_ack` back; the event queue could run empty with `last_ack`
short of the flow size although the sink held everything, and an application-limited flow could stall for ever
(`findings/demos/C16_stale_ack.py`).  With the early return `last_ack_monotone` holds without any order hypothesis.

**A finding** (repaired: `fix:` commit "the TCP sender segments at its congestion controller's MSS", `self.mss = cc.mss`):
`mss ≤ cc.mss` is needed.  `TCPPacketGenerator.mss` was the constant 512 while the congestion-control
object has its own `mss` parameter; with `TCPReno(mss=100, cwnd=512)`, a flow of 1024 bytes and the first transmission
of segment 0 dropped, the real run ended (event queue empty) with `last_ack = next_seq = 512`, `recv_buffer =
[[0, 512]]`: after the timeout `cwnd = cc.mss = 100`, the ACK of the retransmission makes it 200, and the send guard
`next_seq + 512 ≤ last_ack + cwnd` never opens again while nothing is outstanding that could produce an event (the
`example` below replays it in the model).
-/

/-! ## The sink source, re-translated on every run, *is* the model (bridge theorems)

`Generated/Sink.lean` is rewritten by `py2lean` from the current `onl/packet/tcp_sink.py` before this file is compiled. -/

/-- **The range-merge loop of `packet_arrived` as written in the source computes the model's `mergeAll`**: running the
*translated loop body* over any list of ranges — starting from the empty `merge_stats`, every `append` making the previous
last element final (`GenSink.genMerge`, the meaning of the structurally checked frame `merge_stats = []` / `for start, end in
self.recv_buffer` / `self.recv_buffer = merge_stats`) — yields exactly `mergeAll` of that list.  With the frame's
`append([packet_id, packet_id + size])` and `sort()` this is `packetArrived`.  (`<=` changed to `<` in the overlap test,
`max` to `min`, the wrong element appended … make this fail to compile.) -/
theorem sink_merge_generated_eq_model (l : List Range) :
    GenSink.genMerge (GenSink.mergeObj none 0) l = (mergeAll l).map GenSink.castR := by
  cases l with
  | nil => simp [GenSink.genMerge, GenSink.mergeObj, mergeAll]
  | cons r rest =>
    unfold GenSink.genMerge mergeAll
    rw [GenSink.step_append none r 0 (by intro c hc; cases hc), GenSink.genMerge_from]
    have : ¬ ((GenSink.mergeObj (some r) (0 + 1)).eff_append = (GenSink.mergeObj none 0).eff_append + 1 ∧ (GenSink.mergeObj none 0).nonempty = true) := by
      simp [GenSink.mergeObj]
    rw [if_neg this]

/-- **`TCPSink.put` as written in the source computes the model's `ackOf`**: on a non-empty receive buffer with first range
`r`, the translated `put` calls `super().put`, `packet_arrived`, builds the acknowledgement (`size=40`, same `packet_id`,
`flow_id + 10000` — checked structurally), writes `ack = r.2 if r.1 == 0 else 0` — the model's `ackOf` — into it and hands
it to `out` exactly once. -/
theorem sink_put_generated_eq_model (r : Range) (rest : List Range) (nse ack : Int) (e1 e2 e3 e4 e5 : Nat) :
    ∃ a, ackOf (r :: rest) = .ok a ∧
      Gen.TCPSink.put (GenSink.sinkObj nse ack e1 e2 e3 e4 e5) r.1 r.2 =
        GenSink.sinkObj a a (e1 + 1) (e2 + 1) (e3 + 1) (e4 + 1) (e5 + 1) := by
  refine ⟨_, rfl, ?_⟩
  unfold Gen.TCPSink.put GenSink.sinkObj
  by_cases h : r.1 = 0 <;> simp [h]

/-- the translated loop body run over the sorted ranges `[0,512) [512,1024) [2048,2560)`: the first two merge -/
example : GenSink.genMerge (GenSink.mergeObj none 0) [(0, 512), (512, 1024), (2048, 2560)] = [(0, 1024), (2048, 2560)] := by
  decide +kernel

/-- the counter-example of the original defect: arrivals 512, 0, 1024, 0 (sizes 512) are acknowledged 0, 1024, 1536, 1536 -/
example : acks [] [(512, 512), (0, 512), (1024, 512), (0, 512)] = [.ok 0, .ok 1024, .ok 1536, .ok 1536] := by decide

/-- overlapping, touching and empty ranges -/
example : buffers [] [(10, 5), (0, 4), (4, 6), (20, 0), (12, 9)] =
    [[(10, 15)], [(0, 4), (10, 15)], [(0, 15)], [(0, 15), (20, 20)], [(0, 21)]] := by decide

/-- a calm invariant state from which `no_spurious_retransmit` starts: the fresh Reno sender -/
example : Inv (Sender.init .reno ({ (TCPCubic.defaults : CCState ℚ) with mss := 512, cwnd := 512, ssthresh := 65535 }) 1 512 (some 2048) 0) ∧
    Calm (Sender.init .reno ({ (TCPCubic.defaults : CCState ℚ) with mss := 512, cwnd := 512, ssthresh := 65535 }) 1 512 (some 2048) 0) :=
  ⟨inv_init _ _ _ _ _ _ ⟨by norm_num, by norm_num, by norm_num, fun h => by cases h⟩ (by norm_num), init_calm _ _ _ _ _ _⟩

/-- the hypotheses of the sending lemmas are satisfiable: the first loop iteration of that sender finds the guard
open (`0 + 512 ≤ min 512 (0 + 512)`) and sends segment 0 -/
example : ∃ s1 tx, (Sender.init .reno ({ (TCPCubic.defaults : CCState ℚ) with mss := 512, cwnd := 512, ssthresh := 65535 })
    1 512 (some 2048) 0).sendStep = .sent s1 tx := by
  generalize hs : Sender.init .reno ({ (TCPCubic.defaults : CCState ℚ) with mss := 512, cwnd := 512, ssthresh := 65535 })
    1 512 (some 2048) 0 = s0
  have hg : s0.refill.guard = true := by
    rw [guard_iff, ← hs]
    simp [Sender.init, Sender.refill, Sender.pktSize, TcpSpec.InWindow, TCPCubic.defaults]
  have hd : s0.flowDone = false := by rw [← hs]; simp [Sender.init, Sender.flowDone]
  have hr : 0 < s0.refill.est.rto := by
    rw [← hs]; simp [Sender.init, Sender.refill, Sender.pktSize, TCPPacketGenerator.init_rto]
  unfold Sender.sendStep
  simp only [hd, hg, if_true, Bool.false_eq_true, if_false, emit_ok hr]
  exact ⟨_, _, rfl⟩

/-- an ACK that is timely for a state with `last_ack = 0`, `mss = 512`: the ACK of segment 0 -/
example : TimelyAct (Sender.init .reno (TCPCubic.defaults : CCState ℚ) 1 512 none 0)
    (.ack { fid := 10000, ackno := 512, pid := 0, ptime := 0 }) := ⟨Nat.le_refl _, rfl, rfl⟩

/-- a concrete run of a 2-segment flow (`n = 1024`, Reno with `cc.mss = cwnd = 512`, `rtt_estimate = 1`) with one loss:
segment 0 is sent and **dropped**; its timer expires at `t = 2` and retransmits it; it is delivered and acknowledged;
the ACK wakes `run`, which sends segment 512 and returns; that segment is delivered and acknowledged.  The run is
accepted action by action and ends in a quiescent state, which is complete - as `quiescent_implies_complete` says. -/
example : ((Loop.init (Sender.init .reno ({ (TCPCubic.defaults : CCState ℚ) with mss := 512, cwnd := 512, ssthresh := 65535 })
      1 512 (some 1024) 0)).run
    [.own (.wake 4), .dropData 0, .own (.tick 2), .own (.fire 0), .deliver, .ackArrive, .own .handoff, .own (.wake 4),
     .deliver, .ackArrive]).map (fun l => (decide l.Quiescent, decide (l.Complete 1024), l.sink, l.snd.last_ack))
    = some (true, true, [(0, 1024)], 1024) := by decide +kernel

/-- the state after the drop in that run is *not* quiescent (the timer of segment 0 is pending), and not complete -/
example : ((Loop.init (Sender.init .reno ({ (TCPCubic.defaults : CCState ℚ) with mss := 512, cwnd := 512, ssthresh := 65535 })
      1 512 (some 1024) 0)).run
    [.own (.wake 4), .dropData 0]).map (fun l => (decide l.Quiescent, decide (l.Complete 1024), l.snd.timers.length))
    = some (false, false, 1) := by decide +kernel

/-- **the hypothesis `mss ≤ cc.mss` of `quiescent_implies_complete` is necessary** (a finding about the code, since repaired: the
generator's segment size was the constant 512 while the congestion-control object has its own `mss` parameter).  The
same run with `TCPReno(mss=100, cwnd=512)` - `CCInv` holds, `cwnd ≥ cc.mss` - : segment 0 is sent and dropped; the
timer expires, `timer_expired()` sets `cwnd = cc.mss = 100`, segment 0 is retransmitted, delivered, acknowledged; the
new ACK grows the window to 200 and wakes `run`, whose guard `512 + 512 ≤ min(1024, 512 + 200)` fails; `run` blocks
with nothing outstanding, no timer, nothing in flight: the kernel runs out of events with the second segment never
sent (`next_seq = 512 < 1024`). -/
example : ((Loop.init (Sender.init .reno ({ (TCPCubic.defaults : CCState ℚ) with mss := 100, cwnd := 512, ssthresh := 65535 })
      1 512 (some 1024) 0)).run
    [.own (.wake 4), .dropData 0, .own (.tick 2), .own (.fire 0), .deliver, .ackArrive, .own .handoff, .own (.wake 4)]).map
      (fun l => ((decide l.Quiescent, decide (l.Complete 1024), l.sink), (l.snd.last_ack, l.snd.next_seq, l.snd.proc)))
    = some ((true, false, [(0, 512)]), (512, 512, .blocked)) := by decide +kernel

/-- the run above is a fair run with loss budget 1 (`Loop.runB` checks that every action is accepted and is fair or an
allowed loss; `TcpLive.runB_sound`): it uses up the budget, and stops - quiescent and complete - as
`terminates_under_loss_budget` says -/
example : ((Loop.init (Sender.init .reno ({ (TCPCubic.defaults : CCState ℚ) with mss := 512, cwnd := 512, ssthresh := 65535 })
      1 512 (some 1024) 0)).runB 1
    [.own (.wake 4), .dropData 0, .own (.tick 2), .own (.fire 0), .deliver, .ackArrive, .own .handoff, .own (.wake 4),
     .deliver, .ackArrive]).map (fun y => (y.1, decide y.2.Quiescent, decide (y.2.Complete 1024)))
    = some (0, true, true) := by decide +kernel

/-- a second loss is refused with budget 1, and advancing the clock while a packet is in flight is not fair -/
example : ((Loop.init (Sender.init .reno ({ (TCPCubic.defaults : CCState ℚ) with mss := 512, cwnd := 512, ssthresh := 65535 })
      1 512 (some 1024) 0)).runB 1
    [.own (.wake 4), .dropData 0, .own (.tick 2), .own (.fire 0), .dropData 0]).isSome = false ∧
  ((Loop.init (Sender.init .reno ({ (TCPCubic.defaults : CCState ℚ) with mss := 512, cwnd := 512, ssthresh := 65535 })
      1 512 (some 1024) 0)).runB 1 [.own (.wake 4), .own (.tick 2)]).isSome = false ∧
  ((Loop.init (Sender.init .reno ({ (TCPCubic.defaults : CCState ℚ) with mss := 512, cwnd := 512, ssthresh := 65535 })
      1 512 (some 1024) 0)).run [.own (.wake 4), .own (.tick 2)]).isSome = true := by decide +kernel

/-- a run over paths with delay in which the timer of segment 0 expires (`t = 2`) **while the segment is still in
flight** (its path delivers it at `t = 3`): the segment is retransmitted, the original and then the duplicate are
delivered, the duplicate is answered by a duplicate ACK, the second segment follows; the run (17 steps, no loss) is a
`TBStep` run (`TLoop.runT` checks every side condition; `TcpLive.runT_sound`) and ends quiescent and complete -/
example : ((TLoop.init (Sender.init .reno ({ (TCPCubic.defaults : CCState ℚ) with mss := 512, cwnd := 512, ssthresh := 65535 })
      1 512 (some 1024) 0)).runT 0
    [.burst (.wake 4) [3], .tick 2, .burst (.fire 0) [5], .tick 3, .deliver (7/2), .tick (7/2), .ackArrive [],
     .burst .handoff [], .burst (.wake 4) [13/2], .tick 5, .deliver (11/2), .tick (11/2), .ackArrive [],
     .tick (13/2), .deliver 7, .tick 7, .ackArrive []]).map
      (fun y => (y.1, decide y.2.l.Quiescent, decide (y.2.l.Complete 1024), y.2.dT.length + y.2.aT.length))
    = some (0, true, true, 0) := by decide +kernel

/-- the clock cannot pass the delivery instant of a packet in flight (`tick 4` with a packet due at 3), it cannot stop
between events (`tick 1`), and without budget nothing is lost -/
example :
  ((TLoop.init (Sender.init .reno ({ (TCPCubic.defaults : CCState ℚ) with mss := 512, cwnd := 512, ssthresh := 65535 })
      1 512 (some 1024) 0)).runT 0 [.burst (.wake 4) [3], .tick 2, .burst (.fire 0) [5], .tick 4]).isSome = false ∧
  ((TLoop.init (Sender.init .reno ({ (TCPCubic.defaults : CCState ℚ) with mss := 512, cwnd := 512, ssthresh := 65535 })
      1 512 (some 1024) 0)).runT 0 [.burst (.wake 4) [3], .tick 1]).isSome = false ∧
  ((TLoop.init (Sender.init .reno ({ (TCPCubic.defaults : CCState ℚ) with mss := 512, cwnd := 512, ssthresh := 65535 })
      1 512 (some 1024) 0)).runT 0 [.burst (.wake 4) [3], .dropData 0]).isSome = false ∧
  ((TLoop.init (Sender.init .reno ({ (TCPCubic.defaults : CCState ℚ) with mss := 512, cwnd := 512, ssthresh := 65535 })
      1 512 (some 1024) 0)).runT 1 [.burst (.wake 4) [3], .dropData 0, .tick 2, .burst (.fire 0) [5]]).isSome = true := by
  decide +kernel

/-- the invariants `LInv`, `TInv` that `fair_run_facts`, `timed_run_facts` assume hold of the initial state of that
flow (and hence of everything reachable from it: `TcpLive.reach_LInv`, `TcpLive.tbreach_TInv`) -/
example : LInv 1024 (Loop.init (Sender.init .reno ({ (TCPCubic.defaults : CCState ℚ) with mss := 512, cwnd := 512, ssthresh := 65535 })
      1 512 (some 1024) 0)) ∧
    TInv 1024 (TLoop.init (Sender.init .reno ({ (TCPCubic.defaults : CCState ℚ) with mss := 512, cwnd := 512, ssthresh := 65535 })
      1 512 (some 1024) 0)) := by
  have f := fresh_init .reno ({ (TCPCubic.defaults : CCState ℚ) with mss := 512, cwnd := 512, ssthresh := 65535 }) 1 512 1024 0
    ⟨by norm_num, by norm_num, by norm_num, fun h => by cases h⟩ (by norm_num) (by norm_num) (by norm_num) ⟨2, rfl⟩ (by norm_num)
  exact ⟨LInv_init f, TInv_init f⟩

end C16
