import OnlVerif.Lemmas.TRKRefine
import OnlVerif.Props.C11
/-!
# C11 on the kernel, second device: the TwoRateTokenBucket *as a process on the kernel model*

`OnlVerif/Net/TwoRateOnK.lean` writes `TwoRateTokenBucket.run` and a packet source (`yield env.timeout(gap); shaper.put(packet)`
for every arrival) as a program of the kernel model `K` (`OnlVerif/Kernel`), with the encoding of `Net/TBOnK.lean`.  Nothing is
assumed about scheduling: `Environment.step` of the kernel model decides what runs when (the store's `StorePut` / `StoreGet`
events, the source's timeouts, the shaper's timeout).  The theorems below are the release recurrence and the colour rule of
C11 for kernel runs, with **no** admissibility assumption, and the refinement of the FifoServer LTS with `TwoRate.dev`.

Scope: one `TwoRateTokenBucket` in either configuration — with PIR and PBS (`pir > 0`, `pbs > 0`) or CIR / CBS only (`pir`
`None` or `0`; a `pbs` may be given, it is not used) — `cir > 0`, `cbs ≥ 0` (`TwoRate.Good`), an `out` attached; one source
process with non-negative gaps (zero gaps = bursts, and arrivals exactly at release instants, included); packets of any sizes
(also larger than the buckets); exact rational time; `fuel + 1` = any positive bound of the `_resume` loop.
-/

namespace C11K2
open TwoRateOnK TRK

/-- **What the oracle accepts** (`TwoRateOnK.ostep` at exact rational time, spelled out): an `out id colour t` observation is
accepted in oracle state `o` iff `id` is the oldest waiting packet — put at `tp`, say — and the rule (`oOut`) prescribes
departure instant `t` and this colour for it; then the two levels become what the rule prescribes, `update_time` is `t` and
the server is free from `t`. -/
theorem oracle_accepts_iff (size : Int → Nat) (cfg : TrCfg ℚ) (o : OSt ℚ) (id : Int) (col : Nat) (t : ℚ) :
    (ostep size cfg o (.out id col t)).isSome ↔
      ∃ tp rest cm pk, o.waiting = (id, tp) :: rest ∧ oOut size cfg o id tp = some (t, col, cm, pk) := by
  simp only [ostep]
  cases hw : o.waiting with
  | nil => simp
  | cons x rest =>
    obtain ⟨id', tp⟩ := x
    simp only
    constructor
    · intro h
      cases ho : oOut size cfg o id tp with
      | none => rw [ho] at h; simp at h
      | some r =>
        rw [ho] at h
        simp only at h
        split at h
        · rename_i hc
          obtain ⟨rfl, h2, h3⟩ := hc
          obtain ⟨t', col', cm, pk⟩ := r
          exact ⟨tp, rest, cm, pk, rfl, by rw [(eqT_iff _ _).mp h3, h2]; exact ho⟩
        · simp at h
    · rintro ⟨tp', rest', cm, pk, hcons, h2⟩
      simp only [List.cons.injEq, Prod.mk.injEq] at hcons
      obtain ⟨⟨rfl, rfl⟩, rfl⟩ := hcons
      rw [h2]
      simp [eqT_iff]

/-- **The rule, one packet at a time** (`oOut` spelled out): a packet of `size` bytes put at `tp`, with the server free from
`free`, the committed level `commit` and the peak level `peak` last updated at `upd`, reaches the head at
`g = max(free, tp)`; the committed bucket is refilled to `C = min(cbs, commit + cir·(g − upd)/8)`.
*With PIR* `k` and PBS `b` the peak bucket is refilled to `P = min(b, peak + k·(g − upd)/8)` and the packet is
**red** iff `P < size` — it then leaves `(size − P)·8/k` later, the peak bucket is emptied, the committed level stays `C` —,
**yellow** iff `P ≥ size` and `C < size` (it leaves at `g`; the peak bucket pays, the committed bucket is emptied),
**green** iff both cover it (it leaves at `g`; both pay).
*Without PIR* it is **green** iff `C ≥ size` (it leaves at `g`, the committed bucket pays), else **yellow**
`(size − C)·8/cir` later (the committed bucket is emptied); the peak level is never touched. -/
theorem colour_rule_step (size : Int → Nat) (cfg : TrCfg ℚ) (o : OSt ℚ) (id : Int) (tp : ℚ) :
    let g := max o.free tp
    let C := min cfg.cbs (o.commit + cfg.cir * (g - o.upd) / 8)
    let sz : ℚ := (size id : ℚ)
    (∀ k b pl, TwoRate.pirOn cfg = some k → TwoRate.pbsOn cfg = some b → o.peak = some pl →
      let P := min b (pl + k * (g - o.upd) / 8)
      oOut size cfg o id tp =
        if P < sz then some (g + (sz - P) * 8 / k, TwoRate.red, C, some 0)
        else if C < sz then some (g, TwoRate.yellow, 0, some (P - sz))
        else some (g, TwoRate.green, C - sz, some (P - sz))) ∧
    (TwoRate.pirOn cfg = none →
      oOut size cfg o id tp =
        if C < sz then some (g + (sz - C) * 8 / cfg.cir, TwoRate.yellow, 0, o.peak)
        else some (g, TwoRate.green, C - sz, o.peak)) := by
  intro g C sz
  have hg : Num.pymax o.free tp = g := Num.pymax_eq _ _
  have hC : TwoRate.refillLevel cfg.cbs o.commit cfg.cir o.upd g = C := TwoRate.refillLevel_eq _ _ _ _ _
  have hsz : (Num.ofNat (pktOf (τ := ℚ) size id).size : ℚ) = sz := by simp [pktOf, sz]
  constructor
  · intro k b pl hk hb hpl P
    have hP : TwoRate.refillLevel b pl k o.upd g = P := TwoRate.refillLevel_eq _ _ _ _ _
    unfold oOut verdict
    simp only [hg, hk, hb, hpl, hC, hP, hsz]
    by_cases h1 : P < sz
    · simp only [if_pos h1, afterWait, hk, TwoRate.tokenWait_eq, zero_eq']
      simp [pktOf, sz]
    · simp only [if_neg h1]
      by_cases h2 : C < sz
      · simp only [if_pos h2, zero_eq']
      · simp only [if_neg h2]
  · intro hk
    unfold oOut verdict
    simp only [hg, hk, hC, hsz]
    by_cases h2 : C < sz
    · simp only [if_pos h2, afterWait, hk, TwoRate.tokenWait_eq, zero_eq']
      simp [pktOf, sz]
    · simp only [if_neg h2]

/-- **The history of every kernel run passes the oracle, step by step, and no step crashes**: at every state reachable by
kernel steps the next `Environment.step` processes an event normally or finds the agenda empty — no exception leaves a
process, in particular neither `assert self.pbs` nor `assert self.current_bucket_peak is not None` fails —, and the `put` /
`out` observations recorded so far are accepted by `TwoRateOnK.orun` from the state of a fresh shaper: every packet that has
left did so in arrival order, exactly at the instant and with the colour the rule prescribes. -/
theorem tworate_on_kernel_history_accepted (size : Int → Nat) (cfg : TrCfg ℚ) (arrivals : List ℚ) (hg : GapsOK arrivals)
    (hgood : TwoRate.Good cfg) (fuel : Nat) (s : KState ℚ (TrS ℚ))
    (hreach : KReach (body size cfg) (fuel + 1) (initState cfg arrivals) s) :
    ((∃ s', step (body size cfg) (fuel + 1) s = .ok s') ∨ step (body size cfg) (fuel + 1) s = .empty) ∧
    ∃ o, orun size cfg (oInit cfg) (histOf s.trace) = some o := by
  obtain ⟨a, hi⟩ := reach_inv3 (size := size) fuel hg hgood hreach
  refine ⟨?_, ?_⟩
  · cases hp : popMin s.agenda with
    | none => right; simp [step, hp]
    | some qr =>
      obtain ⟨q, rest⟩ := qr
      obtain ⟨s', _, _, h1, _⟩ := inv3_step fuel hi hp
      exact Or.inl ⟨s', h1⟩
  · obtain ⟨o, ho⟩ := hi.o
    exact ⟨o, ho.run⟩

/-- **Release recurrence and colour rule hold for the TwoRateTokenBucket as a kernel process, for every workload, with no
admissibility assumption.**  For every good configuration (with PIR / PBS or CIR / CBS only), all packet sizes and every
finite arrival list with non-negative gaps: `run()` of the kernel model on the two spawned processes returns (agenda empty,
no exception — no `assert` fails) within `5·n + 4` steps; it has handed exactly the workload to `put` (packet `k` at the sum
of the first `k + 1` gaps); and its `put` / `out` history is accepted by the oracle and leaves nothing waiting — every packet
was forwarded once, in arrival order, exactly at the instant the recurrence prescribes against the shaping bucket (the peak
bucket with PIR, the committed bucket without), painted green iff all configured buckets covered it when it reached the
head, yellow iff only the committed tokens were short (with PIR) resp. it waited for committed tokens (without), red iff it
waited for peak tokens (`oracle_accepts_iff`, `colour_rule_step`). -/
theorem tworate_on_kernel_releases (size : Int → Nat) (cfg : TrCfg ℚ) (arrivals : List ℚ) (hg : GapsOK arrivals)
    (hgood : TwoRate.Good cfg) (fuel n : Nat) (hn : 5 * arrivals.length + 4 ≤ n) :
    ∃ sF o, runAll (body size cfg) (fuel + 1) n (initState cfg arrivals) = .returned .none sF ∧ sF.agenda = [] ∧
      obsPuts (histOf sF.trace) = arrivalsFrom 0 0 arrivals ∧
      orun size cfg (oInit cfg) (histOf sF.trace) = some o ∧ o.waiting = [] := by
  obtain ⟨sF, aF, h1, h2, h3, -⟩ := run_returns3 fuel (initState cfg arrivals) n _ _
    (inv3_init (size := size) hg hgood) (by rw [a0_mu]; omega) KReach.init
  obtain ⟨o, g1, g2, g3⟩ := inv3_final h2 h3
  exact ⟨sF, o, h1, h3, g3, g1, g2⟩

/-! ### refinement: the kernel run is an admissible run of the FifoServer LTS of the shaper -/

/-- **Refinement, step by step**: let `s` be reachable by kernel steps from the initial state and let the next kernel step
end in `s'`.  Then that step is a normal one (`.ok`), and whatever value the ghost field (`log`) of the LTS's device state
holds, there is a (possibly empty) sequence of LTS actions that the shaper's LTS (`Net/Fifo.lean` with `TwoRate.dev`)
*accepts* from the abstraction of `s` and that ends in the abstraction of `s'` (with some ghost value): the step commutes with
`absTR`; the packets that enter / leave in it are those the kernel step reports. -/
theorem tworate_on_kernel_step_refines (size : Int → Nat) (cfg : TrCfg ℚ) (arrivals : List ℚ) (hg : GapsOK arrivals)
    (hgood : TwoRate.Good cfg) (fuel : Nat) (s s' : KState ℚ (TrS ℚ))
    (hreach : KReach (body size cfg) (fuel + 1) (initState cfg arrivals) s)
    (hstep : (step (body size cfg) (fuel + 1) s).state? = some s') :
    step (body size cfg) (fuel + 1) s = .ok s' ∧
    ∃ new, histOf s'.trace = histOf s.trace ++ new ∧
      ∀ lg, ∃ lg' acts, Fifo.runActs (TwoRate.dev cfg) (setGhost (absTR size s) lg) acts =
        .ok (setGhost (absTR size s') lg', putIds new, outIds new) := by
  obtain ⟨a, hi⟩ := reach_inv3 (size := size) fuel hg hgood hreach
  cases hp : popMin s.agenda with
  | none => simp [step, hp, StepResult.state?] at hstep
  | some qr =>
    obtain ⟨q, rest⟩ := qr
    obtain ⟨s'', a', new, h1, h2, -, h4, h5, h6⟩ := inv3_step fuel hi hp
    rw [h1] at hstep
    simp only [StepResult.state?, Option.some.injEq] at hstep
    subst hstep
    refine ⟨h1, new, h6, fun lg => ?_⟩
    simp only [absTR_eq hi, absTR_eq h2, h5]
    exact lts_astep hi.i.a (min_of_pop hi.i.k.ag hp).1 hi.sent h4 lg

/-- **Refinement, whole runs**: every state reachable by kernel steps is the image (under `absTR`, with some value in the
ghost field) of an *admissible* run of the shaper's LTS from its initial state: the LTS accepts some action sequence in which
the packets that entered are those handed to `put` and the packets that left are those handed to `out.put`, in the order of
the kernel trace. -/
theorem tworate_on_kernel_refines_lts (size : Int → Nat) (cfg : TrCfg ℚ) (arrivals : List ℚ) (hg : GapsOK arrivals)
    (hgood : TwoRate.Good cfg) (fuel : Nat) (s : KState ℚ (TrS ℚ))
    (hreach : KReach (body size cfg) (fuel + 1) (initState cfg arrivals) s) :
    ∃ acts lg, Fifo.runActs (TwoRate.dev cfg) (C11.trStart cfg 0) acts =
      .ok (setGhost (absTR size s) lg, putIds (histOf s.trace), outIds (histOf s.trace)) := by
  obtain ⟨a, acts, lg, hi, -, hrun⟩ := reach_lts (size := size) fuel hg hgood hreach
  exact ⟨acts, lg, by rw [absTR_eq hi]; exact hrun⟩

/-- **First in first out, nothing lost, on the kernel** (`C11.tworate_lossless_fifo`): at every state reachable by kernel
steps the packets handed to `put` so far are, in order, exactly those handed to `out.put` followed by those still inside
(held by `run`, then waiting in the store). -/
theorem kernel_tworate_lossless_fifo (size : Int → Nat) (cfg : TrCfg ℚ) (arrivals : List ℚ) (hg : GapsOK arrivals)
    (hgood : TwoRate.Good cfg) (fuel : Nat) (s : KState ℚ (TrS ℚ))
    (hreach : KReach (body size cfg) (fuel + 1) (initState cfg arrivals) s) :
    putIds (histOf s.trace) = outIds (histOf s.trace) ++ Fifo.held (absTR size s) := by
  obtain ⟨acts, lg, h⟩ := tworate_on_kernel_refines_lts size cfg arrivals hg hgood fuel s hreach
  have := (C11.tworate_lossless_fifo cfg 0 acts _ _ _ h).1
  have hh : Fifo.held (setGhost (absTR size s) lg) = Fifo.held (absTR size s) := rfl
  rw [hh] at this
  exact this

/-- **Green traffic conforms to (CIR, CBS) on the kernel** (`C11.green_conforms`): the kernel run so far is the image of an
LTS run whose debit log `lg` (one entry per forwarded packet: instant, size, colour) satisfies, over any stretch of its green
entries and for all `i ≤ j`: `size_i + … + size_j ≤ max(CBS, size_i) + CIR·(t_j − t_i)/8`. -/
theorem kernel_green_conforms (size : Int → Nat) (cfg : TrCfg ℚ) (arrivals : List ℚ) (hg : GapsOK arrivals)
    (hgood : TwoRate.Good cfg) (fuel : Nat) (s : KState ℚ (TrS ℚ))
    (hreach : KReach (body size cfg) (fuel + 1) (initState cfg arrivals) s) :
    ∃ acts lg, Fifo.runActs (TwoRate.dev cfg) (C11.trStart cfg 0) acts =
        .ok (setGhost (absTR size s) lg, putIds (histOf s.trace), outIds (histOf s.trace)) ∧
      ∀ (newer mid older : List (ℚ × ℕ)) (ej ei : ℚ × ℕ), TwoRate.greens lg = newer ++ ej :: (mid ++ ei :: older) →
        (ej.2 : ℚ) + Envelope.bytes mid + ei.2 ≤ max cfg.cbs ei.2 + cfg.cir * (ej.1 - ei.1) / 8 := by
  obtain ⟨acts, lg, h⟩ := tworate_on_kernel_refines_lts size cfg arrivals hg hgood fuel s hreach
  refine ⟨acts, lg, h, ?_⟩
  intro newer mid older ej ei hlog
  exact C11.green_conforms cfg hgood 0 (le_refl _) acts _ _ _ h newer mid older ej ei hlog

/-- **All traffic is shaped on the kernel** (`C11.tworate_envelope`): the kernel run so far is the image of an LTS run whose
debit log satisfies the envelope of the shaping bucket for all `i ≤ j` — (PIR, PBS) when a PIR is given, (CIR, CBS)
otherwise. -/
theorem kernel_tworate_envelope (size : Int → Nat) (cfg : TrCfg ℚ) (arrivals : List ℚ) (hg : GapsOK arrivals)
    (hgood : TwoRate.Good cfg) (fuel : Nat) (s : KState ℚ (TrS ℚ))
    (hreach : KReach (body size cfg) (fuel + 1) (initState cfg arrivals) s) :
    ∃ acts lg, Fifo.runActs (TwoRate.dev cfg) (C11.trStart cfg 0) acts =
        .ok (setGhost (absTR size s) lg, putIds (histOf s.trace), outIds (histOf s.trace)) ∧
      ∀ (newer mid older : List (ℚ × ℕ)) (ej ei : ℚ × ℕ), TwoRate.alls lg = newer ++ ej :: (mid ++ ei :: older) →
        (∀ k b, TwoRate.pirOn cfg = some k → TwoRate.pbsOn cfg = some b →
          (ej.2 : ℚ) + Envelope.bytes mid + ei.2 ≤ max b ei.2 + k * (ej.1 - ei.1) / 8) ∧
        (TwoRate.pirOn cfg = none →
          (ej.2 : ℚ) + Envelope.bytes mid + ei.2 ≤ max cfg.cbs ei.2 + cfg.cir * (ej.1 - ei.1) / 8) := by
  obtain ⟨acts, lg, h⟩ := tworate_on_kernel_refines_lts size cfg arrivals hg hgood fuel s hreach
  refine ⟨acts, lg, h, ?_⟩
  intro newer mid older ej ei hlog
  exact C11.tworate_envelope cfg hgood 0 (le_refl _) acts _ _ _ h newer mid older ej ei hlog

/-! ### concrete runs of the kernel model, evaluated by the kernel of Lean (exact arithmetic) -/

/-- one committed byte per time unit into a bucket of 2, two peak bytes per time unit into a bucket of 4 -/
def both : TrCfg ℚ := { cir := 8, cbs := 2, pir := some 16, pbs := some 4 }
/-- the committed bucket alone (a PBS is given and ignored) -/
def cirOnly : TrCfg ℚ := { cir := 8, cbs := 2, pir := none, pbs := some 4 }
def two : Int → Nat := fun _ => 2

/-- what a finished run shows: entries left in the agenda, the departures `(id, colour, instant)`, and the packets the oracle
still waits for -/
def runTR (cfg : TrCfg ℚ) (n : Nat) (arr : List ℚ) : Option (Nat × List (Int × Nat × ℚ) × Option Nat) :=
  (finalState (runAll (body two cfg) 1 n (initState cfg arr))).map fun s =>
    (s.agenda.length, outsOf s.trace, (orun two cfg (oInit cfg) (histOf s.trace)).map (·.waiting.length))

/-- a burst of four packets of 2 bytes at 0, then arrivals at 1 (exactly when the red packet leaves) and at 6: packet 0 is
green (both buckets cover it), packet 1 yellow (the committed bucket is empty, the peak bucket still holds 2), packet 2 finds
the peak bucket empty and leaves red at 1, packet 3 waits again: red at 2; packet 4, put at 1, reaches the head at 2 (peak
bucket empty): red at 3; packet 5 at 6 finds both buckets refilled: green.  The oracle accepts the history. -/
example : runTR both 40 [0, 0, 0, 0, 1, 5] =
    some (0, [(0, 1, 0), (1, 2, 0), (2, 3, 1), (3, 3, 2), (4, 3, 3), (5, 1, 6)], some 0) := by
  decide +kernel

/-- without PIR: green, then yellow after waiting two time units for committed tokens (a same-instant burst), … -/
example : runTR cirOnly 40 [0, 0, 0, 1, 5] = some (0, [(0, 1, 0), (1, 2, 2), (2, 2, 4), (3, 2, 6), (4, 2, 8)], some 0) := by
  decide +kernel

/-- the oracle is not vacuous: it rejects a wrong colour, a departure that is too early or too late, and a wrong order -/
example : orun two both (oInit both) [.put 0 0, .put 1 0, .out 0 1 0, .out 1 2 0] ≠ none ∧
    orun two both (oInit both) [.put 0 0, .put 1 0, .out 0 1 0, .out 1 1 0] = none ∧
    orun two both (oInit both) [.put 0 0, .put 1 0, .out 0 2 0] = none ∧
    orun two both (oInit both) [.put 0 0, .put 1 0, .out 0 1 0, .out 1 2 1] = none ∧
    orun two both (oInit both) [.put 0 0, .put 1 0, .out 1 1 0] = none := by
  decide +kernel

/-- the hypotheses of the theorems are met by these configurations -/
example : GapsOK [0, 0, 0, 0, 1, 5] ∧ TwoRate.Good both ∧ TwoRate.Good cirOnly := by
  have hp : TwoRate.pirOn both = some 16 := by decide +kernel
  have hb : TwoRate.pbsOn both = some 4 := by decide +kernel
  have hn : TwoRate.pirOn cirOnly = none := rfl
  refine ⟨by intro x hx; simp at hx; rcases hx with rfl | rfl | rfl | rfl | rfl | rfl <;> norm_num,
    ⟨by norm_num [both], by norm_num [both], ?_⟩, ⟨by norm_num [cirOnly], by norm_num [cirOnly], ?_⟩⟩
  · intro k hk
    rw [hp] at hk; cases hk
    exact ⟨by norm_num, 4, hb, by norm_num⟩
  · intro k hk
    rw [hn] at hk; cases hk

end C11K2
