import OnlVerif.Lemmas.GenKernelEvent02
/-!
# KernelGen02 - `Event.succeed` / `Event.fail`, the end of `Process._resume` and the crash test of `Environment.step` *as written in the source* are the kernel model `K` (C02)

One of the bridge modules `Props/KernelGen*.lean`, one per owning property (`py2lean/SCOPE.md`): `py2lean/kernel.py`
regenerates the `Generated/Kernel*.lean` files named in the imports from `onl/sim` on every `./check` of the owning property, and the
theorems below (bridge theorems) prove that the generated definitions coincide with the functions of the hand-written kernel
model `K` (`Kernel/Agenda.lean`, `Ops.lean`, `Step.lean`) that the property theorems are about.  A flipped comparison, a changed
constant, priority or refusal, a lost or reordered effect in the source changes a generated definition and one of these proofs
no longer compiles - for every input, not for sampled ones.  Here: the `succeed` / `fail` calls of `doCall` (`KState.trigger`), `finishProc`, `closeEvent` (C02).  In `Generated/KernelEvent02.lean` the *priority* argument of a `schedule` call is not translated (the effect carries the model's `NORMAL`) and an omitted delay stands for the model's 0: which class an occurrence is put in, and the defaults of `Environment.schedule`, are C01's clauses (`Gen.Site.*`, `Props/KernelGen01.lean`).

The encoding between the generated object views and the model state is explicit and hand-written
(`OnlVerif/Lemmas/GenKernelDefs.lean`: `resObj`, `runEff`, `buildEvent`, `applyTrig`, `toEntry`; the `run…` functions next to the
lemmas).  All statements hold for every scalar type `τ` (no arithmetic identity is used), in particular for `ℚ` and `Float`.
This module imports no generated file of another property.
-/

namespace KernelGen
open GenKernel
variable {τ σ : Type} [Num τ]

/-! ## triggering an event once, the termination event of a process, unhandled failures (C02) -/

/-- **`Event.succeed` / `Event.fail` as written in the source are the model's `succeed` / `fail` calls**: refused with
`RuntimeError` exactly when the event is already triggered; otherwise `_ok`, `_value` are written and the event is
scheduled as the source says (default priority `NORMAL`, delay 0), which is `KState.trigger`. -/
theorem succeed_fail_generated_eq_model (s : KState τ σ) (self e : EvId) (v : Val) (x : Exc) :
    doCall s self (.succeed e v) =
      (if (Gen.Event.succeed (evObj (τ := τ)) (s.triggered e)).raised = 5 then (s, .err (runtimeErr "already triggered"))
       else match applyTrig s e (Gen.Event.succeed (evObj (τ := τ)) (s.triggered e)).eff v default with
         | some s' => (s', .unit)
         | none => (s, .unit)) ∧
    doCall s self (.fail e x) =
      (if (Gen.Event.fail (evObj (τ := τ)) (s.triggered e) false).raised = 5 then (s, .err (runtimeErr "already triggered"))
       else match applyTrig s e (Gen.Event.fail (evObj (τ := τ)) (s.triggered e) false).eff .none x with
         | some s' => (s', .unit)
         | none => (s, .unit)) := by
  unfold Gen.Event.succeed Gen.Event.fail
  simp only [doCall]
  cases s.triggered e <;> exact ⟨rfl, rfl⟩

/-- **the end of `Process._resume` as written in the source is the model's `finishProc`**: when the generator returns
(`StopIteration`) or raises, the process event gets `_ok = True` / `False`, its value, and is scheduled with the default
priority `NORMAL` now - `KState.trigger`, the state change of `finishProc`. -/
theorem process_end_generated_eq_model (s : KState τ σ) (p : EvId) (pr : ProcRec σ) (v : Val) (x : Exc) :
    (applyTrig s p (Gen.Process.resume_returned (evObj (τ := τ))).eff v x).map
        (fun s' => { ((s'.emit (.ended p (.ok v) s.now)).setProc p { pr with target := none }) with active := none }) =
      some (finishProc s p pr (.ok v)) ∧
    (applyTrig s p (Gen.Process.resume_raised (evObj (τ := τ))).eff v x).map
        (fun s' => { ((s'.emit (.ended p (.fail x) s.now)).setProc p { pr with target := none }) with active := none }) =
      some (finishProc s p pr (.fail x)) :=
  ⟨rfl, rfl⟩

omit [Num τ] in
/-- **the crash test of `Environment.step` as written in the source is the model's `closeEvent`**: after the callbacks,
the exception of the event is re-raised exactly when `not event._ok and not hasattr(event, '_defused')`. -/
theorem step_crash_generated_eq_model (s : KState τ σ) (e : EvId) (d : Bool) :
    closeEvent { s := s, stop := none } e =
      (match (s.ev e).out with
       | some (.fail x) => if Gen.Environment.step_crashes false (s.ev e).defused = true then .crash x s else .ok s
       | _ => .ok s) ∧
    Gen.Environment.step_crashes true d = false := by
  refine ⟨?_, by unfold Gen.Environment.step_crashes; simp⟩
  unfold closeEvent Gen.Environment.step_crashes
  dsimp only
  cases ho : (s.ev e).out with
  | none => rfl
  | some o =>
    cases o with
    | ok v => rfl
    | fail x => cases hd : (s.ev e).defused <;> simp

/-! ## non-vacuity: the generated definitions on concrete objects -/

/-- a second `succeed` is refused with `RuntimeError` and performs no effect; the first one writes `_ok`, `_value` and schedules;
an undefused failure crashes `step`, a defused one does not -/
example : (Gen.Event.succeed (evObj (τ := Rat)) true).raised = 5 ∧ (Gen.Event.succeed (evObj (τ := Rat)) true).eff.length = 0 ∧
    (Gen.Event.succeed (evObj (τ := Rat)) false).eff.length = 3 ∧
    Gen.Environment.step_crashes false false = true ∧ Gen.Environment.step_crashes false true = false := by
  decide

end KernelGen
