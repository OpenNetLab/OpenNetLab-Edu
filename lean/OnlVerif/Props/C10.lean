import OnlVerif.Lemmas.Wire
import OnlVerif.Lemmas.GenWire
import OnlVerif.Props.C10K
/-!
# C10 — a wire delays each packet by its drawn delay, keeps order, loses only by rate

Model: `OnlVerif/Net/Fifo.lean` (the FifoServer LTS) instantiated with `OnlVerif/Net/Wire.lean` (`Wire.put`, `Wire.run`,
`Cable`).  "For all arrival sequences, delay sequences, loss rates and seeds" = for every action sequence the LTS
accepts (`Fifo.runActs … = .ok …`) from the initial state; the delay `y` and the loss draw `x` of each packet are the
arguments of its `resume x y` action, arbitrary rationals.  The model's ghost log (`WireSt.log`, newest first) records
for every packet that left: arrival `a`, drawn delay `d`, the instant `t` it left, and whether it was discarded;
`log_records_outputs` ties the log to the LTS's outputs.  Time is exact (ℚ); the correspondence check replays the real
`Wire`/`Cable` through this LTS bit for bit.

"Independently with probability p" is not addressed: the theorems say *lost ⇔ draw < loss_rate*.
-/

namespace C10
open Fifo Wire

def start (t0 : ℚ) : FState ℚ (WireSt ℚ) := Fifo.init (Wire.st0 t0) t0

/-- **The log is what happened**: a step that forwards (discards) packet `q` records it as delivered (lost) with
its arrival stamp and the current instant; no other step touches the log. -/
theorem log_records_outputs (c : WireCfg ℚ) (s s' : FState ℚ (WireSt ℚ)) (a : FAct ℚ) (o : FOut ℚ)
    (h : step (Wire.dev c) s a = .ok (s', o)) : LogStep s s' o := by
  refine step_dev h (fun _ d' _ o => LogStep s { s with dev := d' } o) (fun _ => rfl) ?_ ?_ ?_ (fun _ _ _ _ => rfl)
  · intro p _
    show LogStep s _ (if true = true then .accepted else .dropped)
    exact rfl
  · intro x y p _ _
    rw [dev_onResume]
    rcases onResume_cases c s.dev s.now x y p with ⟨_, he⟩ | ⟨_, _, he⟩ | ⟨_, _, he⟩ <;> rw [he]
    · exact ⟨_, rfl, rfl, rfl, rfl, rfl⟩
    · exact rfl
    · exact ⟨_, rfl, rfl, rfl, rfl, rfl, rfl⟩
  · exact fun p k _ _ => ⟨_, rfl, rfl, rfl, rfl, rfl, rfl⟩

/-- **Entering**: `put` never refuses, counts the packet and stamps it with the current instant: that stamp is the `a`
of the theorems below. -/
theorem wire_put_stamps (c : WireCfg ℚ) (s s' : FState ℚ (WireSt ℚ)) (p : Pkt ℚ) (o : FOut ℚ)
    (h : step (Wire.dev c) s (.put p) = .ok (s', o)) :
    o = .accepted ∧ s'.items = s.items ++ [{ p with ctime := s.now }] ∧ s'.dev.packetsRec = s.dev.packetsRec + 1 ∧
    s'.now = s.now := by
  simp only [Fifo.step, dev_admit, admitPkt, if_true, Except.ok.injEq, Prod.mk.injEq] at h
  obtain ⟨rfl, rfl⟩ := h
  exact ⟨rfl, rfl, rfl, rfl⟩

/-- **The delay on record is the delay drawn**: a `resume x y` that does not lose the packet records `y` for the packet
in hand, and no other step changes the record until the packet leaves (`log_records_outputs` then copies it into
the log as `e.d`). -/
theorem wire_delay_recorded (c : WireCfg ℚ) (s s' : FState ℚ (WireSt ℚ)) (a : FAct ℚ) (o : FOut ℚ)
    (h : step (Wire.dev c) s a = .ok (s', o)) :
    (∀ x y, a = .resume x y → lostNow c x = false → s'.dev.curD = y) ∧
    ((∀ x y, a ≠ .resume x y) → s'.dev.curD = s.dev.curD) := by
  refine step_dev h (fun _ d' _ _ => (∀ x y, a = .resume x y → lostNow c x = false → d'.curD = y) ∧
    ((∀ x y, a ≠ .resume x y) → d'.curD = s.dev.curD)) ?_ ?_ ?_ ?_ ?_
  · rintro (rfl | rfl) <;> exact ⟨nofun, fun _ => rfl⟩
  · rintro p rfl; exact ⟨nofun, fun _ => rfl⟩
  · rintro x y p rfl _
    rw [dev_onResume]
    rcases onResume_cases c s.dev s.now x y p with ⟨hl, he⟩ | ⟨_, _, he⟩ | ⟨_, _, he⟩ <;> rw [he] <;>
      refine ⟨?_, fun hx => absurd rfl (hx x y)⟩ <;> rintro _ _ ⟨⟩ hl'
    · rw [hl] at hl'; cases hl'
    · rfl
    · rfl
  · rintro p k rfl _; exact ⟨nofun, fun _ => rfl⟩
  · rintro t rfl _ _; exact ⟨nofun, fun _ => rfl⟩

/-- **Taken as soon as possible**: in every reachable state, a packet handed to the server has been handed over at
`max(its arrival, the instant the server finished with its predecessor)` — and that is now, because the clock cannot
advance while a hand-over is pending (`Fifo.tick_ok_iff`). -/
theorem wire_taken_at (c : WireCfg ℚ) (t0 : ℚ) (as : List (FAct ℚ)) (s : FState ℚ (WireSt ℚ)) (ins outs : List Nat)
    (h : runActs (Wire.dev c) (start t0) as = .ok (s, ins, outs)) (p : Pkt ℚ) (hp : s.handed = some p) :
    s.now = max p.ctime s.dev.lastDone ∧ ∀ t s' o, step (Wire.dev c) s (.tick t) ≠ .ok (s', o) := by
  have hi := run_inv c t0 as (start t0) s ins outs (init_inv t0) h
  refine ⟨hi.core.taken p hp, ?_⟩
  intro t s' o hs
  have := (tick_ok_iff _ s t).mp ⟨s', o, hs⟩
  rw [this.2.2.1] at hp; cases hp

/-- **Delivery, local form**: when the server takes packet `p` (arrival stamp `a = p.ctime`) at `now` and it is not
lost, with drawn delay `y`: if `now < a + y` it sleeps until exactly `a + y`, otherwise it forwards `p` in this very
burst; so `p` leaves at `max(now, a + y)`. -/
theorem wire_delivery_step (c : WireCfg ℚ) (s s' : FState ℚ (WireSt ℚ)) (x y : ℚ) (o : FOut ℚ) (p : Pkt ℚ)
    (hp : s.handed = some p) (hl : lostNow c x = false) (h : step (Wire.dev c) s (.resume x y) = .ok (s', o)) :
    s'.now = s.now ∧
    (s.now < p.ctime + y → o = .nothing ∧ ∃ due, s'.tx = some (p, due, 0) ∧ due = p.ctime + y) ∧
    (¬ s.now < p.ctime + y → o = .depart p ∧ AtGet s') := by
  rw [step_resume hp, dev_onResume] at h
  rcases onResume_cases c s.dev s.now x y p with ⟨hl', _⟩ | ⟨_, hq, he⟩ | ⟨_, hq, he⟩
  · rw [hl] at hl'; cases hl'
  · rw [he] at h
    cases h
    refine ⟨rfl, fun _ => ⟨rfl, _, rfl, by ring⟩, fun hn => ?_⟩
    exact absurd (sub_lt_iff_lt_add'.mp hq) hn
  · rw [he] at h
    cases h
    refine ⟨by rw [issueGet_now], fun hn => ?_, fun _ => ⟨rfl, issueGet_atGet _ rfl⟩⟩
    exact absurd (sub_lt_iff_lt_add'.mpr hn) hq

/-- **Never held longer, never released early**: a sleeping wire forwards its packet exactly at the due instant —
`fire` is accepted only then, and the clock cannot pass it. -/
theorem wire_leaves_exactly_when_due (c : WireCfg ℚ) (s : FState ℚ (WireSt ℚ)) (p : Pkt ℚ) (due : ℚ) (k : Nat)
    (htx : s.tx = some (p, due, k)) :
    (∀ s' o, step (Wire.dev c) s .fire = .ok (s', o) → s.now = due ∧ o = .depart p ∧ AtGet s') ∧
    (∀ t s' o, step (Wire.dev c) s (.tick t) = .ok (s', o) → t ≤ due) := by
  refine ⟨fun s' o h => ?_, (fire_due htx).2⟩
  obtain ⟨rfl, h⟩ := (fire_due htx).1 s' o h
  cases h
  exact ⟨rfl, rfl, issueGet_atGet _ rfl⟩

/-- **Delivery, over whole runs.**  After any admissible action sequence, every delivered packet `e` of the log
(arrival `e.a`, drawn delay `e.d`) left at `max(e.a + e.d, max(e.a, latest earlier delivery))`; with a non-negative
delay that is `max(e.a + e.d, latest earlier delivery)`.  Packets discarded in between do not enter: `prevDeliv`
skips them. -/
theorem wire_delivery (c : WireCfg ℚ) (t0 : ℚ) (as : List (FAct ℚ)) (s : FState ℚ (WireSt ℚ)) (ins outs : List Nat)
    (h : runActs (Wire.dev c) (start t0) as = .ok (s, ins, outs))
    (newer older : List (WireRec ℚ)) (e : WireRec ℚ) (hlog : s.dev.log = newer ++ e :: older) (hl : e.lost = false) :
    e.t = max (e.a + e.d) (max e.a (prevDeliv t0 older)) ∧
    (0 ≤ e.d → e.t = max (e.a + e.d) (prevDeliv t0 older)) := by
  have hi := run_inv c t0 as (start t0) s ins outs (init_inv t0) h
  have hch := hi.core.chain
  rw [hlog] at hch
  obtain ⟨last', hch'⟩ := chain_suffix t0 newer (e :: older) _ hch
  obtain ⟨_, hco, ht⟩ := hch'
  simp only [hl, Bool.false_eq_true, if_false] at ht
  have hso := log_sorted t0 s hi.core newer older e hlog
  have hm := chain_max t0 e.a older e.prev hco hso
  have h1 : e.t = max (e.a + e.d) (max e.a (prevDeliv t0 older)) := by rw [ht, hm]
  refine ⟨h1, fun hd => ?_⟩
  rw [h1, ← max_assoc, max_eq_left (le_add_of_nonneg_right hd)]

/-- **Never before `a + d`.** -/
theorem wire_never_early (c : WireCfg ℚ) (t0 : ℚ) (as : List (FAct ℚ)) (s : FState ℚ (WireSt ℚ)) (ins outs : List Nat)
    (h : runActs (Wire.dev c) (start t0) as = .ok (s, ins, outs)) (e : WireRec ℚ) (he : e ∈ s.dev.log)
    (hl : e.lost = false) : e.a + e.d ≤ e.t := by
  obtain ⟨newer, older, hlog⟩ := List.append_of_mem he
  rw [(wire_delivery c t0 as s ins outs h newer older e hlog hl).1]
  exact le_max_left _ _

/-- **Never reordered, nothing duplicated, nothing vanishes**: the accepted packets are, in order, exactly the
packets that left (forwarded or discarded) followed by the packets still inside. -/
theorem wire_order (c : WireCfg ℚ) (t0 : ℚ) (as : List (FAct ℚ)) (s : FState ℚ (WireSt ℚ)) (ins outs : List Nat)
    (h : runActs (Wire.dev c) (start t0) as = .ok (s, ins, outs)) : ins = outs ++ held s :=
  (run_fifo _ (idPreserving c) _ t0 h).1

/-- **Exactly once**: if the accepted packets are distinct, none leaves twice and none that left is still inside. -/
theorem wire_exactly_once (c : WireCfg ℚ) (t0 : ℚ) (as : List (FAct ℚ)) (s : FState ℚ (WireSt ℚ)) (ins outs : List Nat)
    (h : runActs (Wire.dev c) (start t0) as = .ok (s, ins, outs)) (hn : ins.Nodup) :
    outs.Nodup ∧ ∀ i ∈ outs, i ∉ held s := by
  rw [wire_order c t0 as s ins outs h] at hn
  have := List.nodup_append.mp hn
  exact ⟨this.1, fun i hi hh => this.2.2 i hi i hh rfl⟩

/-- **No loss rate, no loss**: with `loss_rate` `None` or 0 no step ever discards a packet, no record of the log is a
loss, every accepted packet has been forwarded or is still inside, and once the wire is quiescent (nothing handed
over, nothing sleeping) every accepted packet has been forwarded — exactly once by `wire_exactly_once`. -/
theorem wire_no_loss (c : WireCfg ℚ) (hc : NoLoss c) :
    (∀ s a s' o, step (Wire.dev c) s a = .ok (s', o) → ∀ q, o ≠ .lost q) ∧
    (∀ t0 as s ins outs, runActs (Wire.dev c) (start t0) as = .ok (s, ins, outs) →
      (∀ e ∈ s.dev.log, e.lost = false) ∧ ins = outs ++ held s ∧ (Quiescent s → ins = outs)) := by
  have h1 : ∀ s a s' o, step (Wire.dev c) s a = .ok (s', o) → ∀ q, o ≠ .lost q := by
    intro s a s' o h
    refine (lossless (fun _ _ _ _ => rfl) ?_ (fun _ _ _ _ hn => by cases hn) h).2
    intro d now x y p
    rw [dev_onResume]
    rcases onResume_cases c d now x y p with ⟨hl, _⟩ | ⟨_, _, he⟩ | ⟨_, _, he⟩
    · rw [noLoss_lostNow c hc x] at hl; cases hl
    all_goals rw [he]; nofun
  refine ⟨h1, ?_⟩
  intro t0 as s ins outs h
  have hlog : ∀ e ∈ s.dev.log, e.lost = false := by
    refine run_induct (Wire.dev c) (fun s => ∀ e ∈ s.dev.log, e.lost = false) ?_ as (start t0) s ins outs ?_ h
    · intro s a s' o hP hs e he
      have hl := log_records_outputs c s s' a o hs
      unfold LogStep at hl
      cases o with
      | nothing | accepted | dropped => rw [hl] at he; exact hP e he
      | depart q =>
        obtain ⟨e', hl1, hl2, _⟩ := hl
        rw [hl1] at he
        rcases List.mem_cons.mp he with rfl | he
        · exact hl2
        · exact hP e he
      | lost q => exact absurd rfl (h1 s a s' _ hs q)
    · intro e he; simp [start, Fifo.init, st0] at he
  exact ⟨hlog, run_fifo _ (idPreserving c) _ t0 h⟩

/-- **Loss rule**: the packet the server takes is discarded iff a loss rate is configured (set, not zero) and the
draw is below it.  A discarded packet costs no time: in the same burst, at the same instant, the server is back at
`store.get()` (blocked, or already served with the next packet). It is recorded as lost (`log_records_outputs`) and,
having left once, never leaves again (`wire_exactly_once`). -/
theorem wire_loss_rule (c : WireCfg ℚ) (s s' : FState ℚ (WireSt ℚ)) (x y : ℚ) (o : FOut ℚ) (p : Pkt ℚ)
    (hp : s.handed = some p) (h : step (Wire.dev c) s (.resume x y) = .ok (s', o)) :
    ((∃ q, o = .lost q) ↔ ∃ r, c.lossRate = some r ∧ r ≠ 0 ∧ x < r) ∧
    ((∃ q, o = .lost q) → o = .lost p ∧ s'.now = s.now ∧ AtGet s') := by
  have hiff : lostNow c x = true ↔ ∃ r, c.lossRate = some r ∧ r ≠ 0 ∧ x < r := by
    rw [lostNow_iff]
    constructor
    · rintro ⟨r, h1, h2⟩
      exact ⟨r, ((lossOn_iff c r).mp h1).1, ((lossOn_iff c r).mp h1).2, h2⟩
    · rintro ⟨r, h1, h2, h3⟩
      exact ⟨r, (lossOn_iff c r).mpr ⟨h1, h2⟩, h3⟩
  rw [step_resume hp, dev_onResume] at h
  rcases onResume_cases c s.dev s.now x y p with ⟨hl, he⟩ | ⟨hl, _, he⟩ | ⟨hl, _, he⟩ <;> rw [he] at h <;> cases h
  · exact ⟨⟨fun _ => hiff.mp hl, fun _ => ⟨p, rfl⟩⟩, fun _ => ⟨rfl, by rw [issueGet_now], issueGet_atGet _ rfl⟩⟩
  all_goals exact ⟨⟨fun ⟨_, hq⟩ => (nomatch hq), fun hr => by rw [hiff.mpr hr] at hl; cases hl⟩, fun ⟨_, hq⟩ => nomatch hq⟩

/-- **A Cable is two independent wires**: an action of one wire is exactly that wire's own step and leaves the other
wire's state untouched; the clock advances for both. -/
theorem cable_independent (c : WireCfg ℚ) (s s' : Cable.St ℚ) (a : FAct ℚ) (o : FOut ℚ) :
    (Cable.step c s (.w1 a) = .ok (s', o) → s'.2 = s.2 ∧ step (Wire.dev c) s.1 a = .ok (s'.1, o)) ∧
    (Cable.step c s (.w2 a) = .ok (s', o) → s'.1 = s.1 ∧ step (Wire.dev c) s.2 a = .ok (s'.2, o)) :=
  ⟨Cable.step_w1 c s s' a o, Cable.step_w2 c s s' a o⟩

/-- **Each direction of a cable behaves as a stand-alone wire** fed with its own arrivals, its own draws and the
clock: whatever the other direction does, the state of wire 1 (wire 2) after a cable run is the state a single wire
reaches on the projected action sequence — to which all the `wire_…` theorems above apply. -/
theorem cable_projection (c : WireCfg ℚ) (as : List (CableAct ℚ)) (s s' : Cable.St ℚ) (h : Cable.run c s as = .ok s') :
    (∃ ins outs, runActs (Wire.dev c) s.1 (Cable.proj1 as) = .ok (s'.1, ins, outs)) ∧
    (∃ ins outs, runActs (Wire.dev c) s.2 (Cable.proj2 as) = .ok (s'.2, ins, outs)) := by
  induction as generalizing s with
  | nil =>
    simp only [Cable.run, Except.ok.injEq] at h
    subst h
    exact ⟨⟨[], [], rfl⟩, ⟨[], [], rfl⟩⟩
  | cons a as ih =>
    simp only [Cable.run] at h
    split at h
    · cases h
    · rename_i s1 o h1
      obtain ⟨⟨i1, o1, r1⟩, ⟨i2, o2, r2⟩⟩ := ih s1 h
      cases a with
      | w1 a =>
        obtain ⟨e2, e1⟩ := Cable.step_w1 c s s1 a o h1
        refine ⟨⟨entered a o ++ i1, left o ++ o1, ?_⟩, ⟨i2, o2, ?_⟩⟩
        · simp only [Cable.proj1, runActs, e1, r1]
        · simp only [Cable.proj2]; rw [← e2]; exact r2
      | w2 a =>
        obtain ⟨e1, e2⟩ := Cable.step_w2 c s s1 a o h1
        refine ⟨⟨i1, o1, ?_⟩, ⟨entered a o ++ i2, left o ++ o2, ?_⟩⟩
        · simp only [Cable.proj1]; rw [← e1]; exact r1
        · simp only [Cable.proj2, runActs, e2, r2]
      | tick t =>
        obtain ⟨⟨p1, e1⟩, ⟨p2, e2⟩⟩ := Cable.step_tick c s s1 t o h1
        refine ⟨⟨entered (.tick t) p1 ++ i1, left p1 ++ o1, ?_⟩, ⟨entered (.tick t) p2 ++ i2, left p2 ++ o2, ?_⟩⟩
        · simp only [Cable.proj1, runActs, e1, r1]
        · simp only [Cable.proj2, runActs, e2, r2]

/-! ### The source, re-translated on every run, *is* the model (bridge theorems)

`Generated/Wire.lean` is rewritten by `py2lean` from the current `onl/netdev/wire.py` before this file is compiled: `put`, and
one round of the server generator `run`, split at its `yield env.timeout(delay - queued_time)`.  `GenWire.wireObj` encodes a
model state as the Python object (`out` attached); `GenWire.WireAgrees` says what a burst of the model's server leaves:
asleep in the yield for the model's timeout / round complete with one more `out.put` / round complete without (discarded). -/

/-- **`Wire.put` as written in the source is the model's `admitPkt`**: one more packet counted, `packet.current_time =
self.env.now` (checked structurally by the translator, counted as `eff_stamp`), one `self.store.put(packet)`. -/
theorem wire_put_generated_eq_model (c : WireCfg ℚ) (d : WireSt ℚ) (puts outs stamps ra ya : Nat) (ydt now : ℚ) (w : Nat)
    (p : Pkt ℚ) :
    Gen.Wire.put (GenWire.wireObj c d puts outs stamps ra ya ydt) =
      GenWire.wireObj c (admitPkt d now w p).1 (puts + 1) outs (stamps + 1) ra ya ydt := by
  unfold Gen.Wire.put Wire.admitPkt GenWire.wireObj
  simp

/-- **A round of `Wire.run` as written in the source is the model's `onResume` / `onFire`**: with loss draw `x` and delay
`y`, the translated code from the `get` on discards the packet iff `loss_rate` is truthy and `x < loss_rate`, else sleeps
`y - (now - current_time)` iff that is positive, else forwards at once — exactly as `Wire.onResume`; and after the sleep it
forwards — as `Wire.onFire`.  (A flipped comparison, `delay + queued_time`, a draw taken when `loss_rate` is unset make
this fail to compile.) -/
theorem wire_run_generated_eq_model (c : WireCfg ℚ) (d : WireSt ℚ) (puts outs stamps ya : Nat) (ydt now x y : ℚ) (k : Nat)
    (p : Pkt ℚ) :
    GenWire.WireAgrees c (Gen.Wire.run_resume (GenWire.wireObj c d puts outs stamps 0 ya ydt) now p.ctime x y)
      (onResume c d now x y p) puts outs stamps ∧
    GenWire.WireAgrees c (Gen.Wire.run_after_1 (GenWire.wireObj c d puts outs stamps 0 ya ydt) now p.ctime x y)
      (onFire d now k p) puts outs stamps := by
  constructor
  · unfold Gen.Wire.run_resume Wire.onResume Wire.lostNow Wire.lossOn Wire.queued GenWire.wireObj
    cases hl : Num.optOn c.lossRate with
    | none =>
      by_cases hq : now - p.ctime < y
      · simp only [hl, if_pos hq, Bool.false_eq_true, if_false]; rfl
      · simp only [hl, if_neg hq, Bool.false_eq_true, if_false, if_true]; rfl
    | some r =>
      by_cases hx : x < r
      · simp only [hl, decide_eq_true hx, if_true, if_neg (not_le.mpr hx)]; rfl
      · by_cases hq : now - p.ctime < y
        · simp only [hl, decide_eq_false hx, Bool.false_eq_true, if_false, if_pos (not_lt.mp hx), if_pos hq]; rfl
        · simp only [hl, decide_eq_false hx, Bool.false_eq_true, if_false, if_pos (not_lt.mp hx), if_neg hq, if_true]; rfl
  · unfold GenWire.WireAgrees Gen.Wire.run_after_1 Wire.onFire Wire.logOut Wire.onDone GenWire.wireObj
    simp

/-- the translated round on a concrete wire: loss rate 1/2, draw 3/4 (kept), arrived at 1, now 2, delay 5 → sleeps 4 -/
example : (Gen.Wire.run_resume (GenWire.wireObj { lossRate := some (1 / 2) } (Wire.st0 0) 1 0 1 0 0 0) 2 1 (3 / 4) 5).yield_dt = 4 ∧
    (Gen.Wire.run_resume (GenWire.wireObj { lossRate := some (1 / 2) } (Wire.st0 0) 1 0 1 0 0 0) 2 1 (1 / 4) 5).yield_at = 0 := by
  decide +kernel

/-- what a run ended with: accepted ids and ids that left -/
def ids (r : Except String (FState ℚ (WireSt ℚ) × List Nat × List Nat)) : Option (List Nat × List Nat) :=
  match r with
  | .ok (_, ins, outs) => some (ins, outs)
  | .error _ => none

/-- the log a run ended with, oldest first, as (id, arrival, left at, lost) -/
def logOf (r : Except String (FState ℚ (WireSt ℚ) × List Nat × List Nat)) : Option (List (Nat × ℚ × ℚ × Bool)) :=
  match r with
  | .ok (s, _, _) => some (s.dev.log.reverse.map fun e => (e.id, e.a, e.t, e.lost))
  | .error _ => none

/-- a concrete admissible run (loss rate 1/2) -/
def demo : List (FAct ℚ) :=
  [.init, .put ⟨1, 0, 100, 0, 0, 0⟩, .handoff, .resume (3/4) 5, .tick 1, .put ⟨2, 0, 100, 0, 0, 0⟩,
   .put ⟨3, 0, 100, 0, 0, 0⟩, .tick 5, .fire, .resume (1/4) 0, .resume (3/4) 2]

/-- packet 1 enters at 0 with delay 5; packets 2 and 3 enter at 1 while 1 propagates; 1 leaves at 5; 2 (draw 1/4 < 1/2)
is discarded at 5 and costs no time; 3 (draw 3/4, delay 2) has been queued 4 ≥ 2 and leaves at 5 as well:
`max(1 + 2, 5) = 5`. -/
example : logOf (runActs (Wire.dev { lossRate := some (1/2) }) (start 0) demo) =
    some [(1, 0, 5, false), (2, 1, 5, true), (3, 1, 5, false)] := by
  decide +kernel

example : ids (runActs (Wire.dev { lossRate := some (1/2) }) (start 0) demo) = some ([1, 2, 3], [1, 2, 3]) := by
  decide +kernel

/-- the hypotheses of `wire_loss_rule` / `wire_delivery_step` are met in that run: after `.tick 5, .fire` packet 2 is
handed over -/
example : (match runActs (Wire.dev { lossRate := some (1/2) }) (start 0)
    [.init, .put ⟨1, 0, 100, 0, 0, 0⟩, .handoff, .resume (3/4) 5, .tick 1, .put ⟨2, 0, 100, 0, 0, 0⟩,
     .put ⟨3, 0, 100, 0, 0, 0⟩, .tick 5, .fire] with
    | .ok (s, _, _) => s.handed.map (·.id)
    | .error _ => none) = some 2 := by
  decide +kernel

/-- a cable run: both directions carry a packet, independently -/
example : (match Cable.run { lossRate := none } (start 0, start 0)
    [.w1 .init, .w2 .init, .w1 (.put ⟨1, 0, 100, 0, 0, 0⟩), .w2 (.put ⟨2, 0, 64, 0, 0, 0⟩), .w1 .handoff, .w2 .handoff,
     .w1 (.resume 0 3), .w2 (.resume 0 1), .tick 1, .w2 .fire, .tick 3, .w1 .fire] with
    | .ok s => some (s.1.dev.log.map (fun e => (e.id, e.t)), s.2.dev.log.map (fun e => (e.id, e.t)))
    | .error _ => none) = some ([(1, 3)], [(2, 1)]) := by
  decide +kernel

/-! ### the link to the kernel model (`OnlVerif/Props/C10K.lean`)

The admissibility rules of the FifoServer LTS are *assumed* of the kernel for the wire above.  `OnlVerif/Net/WireOnK.lean`
writes `Wire.put`/`Wire.run` and a packet source as a program of the kernel model `K`, with the loss and delay draws as
part of the workload; `Props/C10K.lean` proves the delivery formula of this property for its runs with no admissibility
assumption.  The headline theorems are restated here so that the axiom audit covers them. -/

/-- **The delivery recurrence holds for the Wire as a kernel process** (every `loss_rate`, every finite workload with
non-negative gaps — bursts and arrivals at delivery instants included —, non-negative delay draws, any loss draws):
`run()` of the kernel model returns with an empty agenda within `4·n + 4` steps and the `out.put` observations are exactly
the packets whose loss draw is not `< loss_rate`, in arrival order, each at `max(a_k + d, previous delivery)`
(`WireOnK.deliveries`, unfolded by `wire_on_kernel_delivery_recurrence`); lost packets delay nobody. -/
theorem wire_on_kernel_deliveries (cfg : WireCfg ℚ) (losses delays arrivals : List ℚ)
    (hg : ∀ x ∈ arrivals, 0 ≤ x) (hd : ∀ d ∈ delays, 0 ≤ d) (fuel n : Nat) (hn : 4 * arrivals.length + 4 ≤ n) :
    ∃ sF, runAll (WireOnK.body cfg losses delays) (fuel + 1) n (WireOnK.initState arrivals) = .returned .none sF ∧
      sF.agenda = [] ∧ WireOnK.outsOf sF.trace = WireOnK.deliveries cfg losses delays none 0 0 0 0 arrivals :=
  C10K.wire_on_kernel_deliveries cfg losses delays arrivals hg hd fuel n hn

/-- **What `WireOnK.deliveries` is**: a packet whose loss draw says "lost" is skipped and changes nothing for the others;
any other packet is delivered at `max(arrival + d, previous delivery)` (`arrival + d` for the first). -/
theorem wire_on_kernel_delivery_recurrence (cfg : WireCfg ℚ) (losses delays : List ℚ) (prev : Option ℚ) (t : ℚ)
    (k nl nd : Nat) (gap : ℚ) (rest : List ℚ) :
    (WireOnK.isLost cfg (WireOnK.draw losses nl) = true →
      WireOnK.deliveries cfg losses delays prev t k nl nd (gap :: rest) =
        WireOnK.deliveries cfg losses delays prev (t + gap) (k + 1) (WireOnK.nlNext cfg nl) nd rest) ∧
    (WireOnK.isLost cfg (WireOnK.draw losses nl) = false →
      WireOnK.deliveries cfg losses delays prev t k nl nd (gap :: rest) =
        ((k : Int), (match prev with
          | none => t + gap + WireOnK.draw delays nd
          | some p => max (t + gap + WireOnK.draw delays nd) p)) ::
          WireOnK.deliveries cfg losses delays
            (some (match prev with
              | none => t + gap + WireOnK.draw delays nd
              | some p => max (t + gap + WireOnK.draw delays nd) p))
            (t + gap) (k + 1) (WireOnK.nlNext cfg nl) (nd + 1) rest) :=
  C10K.delivery_recurrence cfg losses delays prev t k nl nd gap rest

/-- **`wire_no_loss` on the kernel**: with `loss_rate` `None` or `0` every packet handed to `put` is delivered, once, in
arrival order, by the kernel run. -/
theorem wire_on_kernel_no_loss (cfg : WireCfg ℚ) (hcfg : cfg.lossRate = none ∨ cfg.lossRate = some 0)
    (losses delays arrivals : List ℚ) (hg : ∀ x ∈ arrivals, 0 ≤ x) (hd : ∀ d ∈ delays, 0 ≤ d) (fuel n : Nat)
    (hn : 4 * arrivals.length + 4 ≤ n) :
    ∃ sF, runAll (WireOnK.body cfg losses delays) (fuel + 1) n (WireOnK.initState arrivals) = .returned .none sF ∧
      (WireOnK.outsOf sF.trace).map (·.1) = (List.range arrivals.length).map (fun (k : Nat) => (k : Int)) :=
  C10K.wire_on_kernel_no_loss cfg hcfg losses delays arrivals hg hd fuel n hn

/-- **The Wire process on the kernel model refines this LTS**: every kernel state reachable from the initial state is the
image (under the abstraction function `WireOnK.absWire`, with some values `gh` in the ghost fields of the device state) of
an action sequence this LTS accepts from `start 0`; the packets that entered are `0, …, packets_rec - 1`, the packets that
left (forwarded or dropped) are those the kernel trace reports, in order. -/
theorem wire_on_kernel_refines_lts (cfg : WireCfg ℚ) (losses delays arrivals : List ℚ) (hg : ∀ x ∈ arrivals, 0 ≤ x)
    (fuel : Nat) (s : KState ℚ (WSt ℚ))
    (hreach : KReach (WireOnK.body cfg losses delays) (fuel + 1) (WireOnK.initState arrivals) s) :
    ∃ acts gh, runActs (Wire.dev cfg) (start 0) acts =
      .ok (WireOnK.setGhost (WireOnK.absWire s) gh, List.range (WireOnK.recCell s),
        (WireOnK.leftsOf s.trace).map Int.toNat) :=
  C10K.wire_on_kernel_refines_lts cfg losses delays arrivals hg fuel s hreach

/-- **`wire_order` transferred to kernel runs**: at every reachable kernel state the packets handed to `put` so far are,
in order, exactly the packets that left (the `out` and `lost` observations of the trace) followed by the packets the wire
still holds (handed over / propagating / waiting in the store): never reordered, nothing duplicated, nothing vanishes. -/
theorem kernel_run_wire_order (cfg : WireCfg ℚ) (losses delays arrivals : List ℚ) (hg : ∀ x ∈ arrivals, 0 ≤ x)
    (fuel : Nat) (s : KState ℚ (WSt ℚ))
    (hreach : KReach (WireOnK.body cfg losses delays) (fuel + 1) (WireOnK.initState arrivals) s) :
    List.range (WireOnK.recCell s) = (WireOnK.leftsOf s.trace).map Int.toNat ++ held (WireOnK.absWire s) := by
  obtain ⟨acts, gh, h⟩ := wire_on_kernel_refines_lts cfg losses delays arrivals hg fuel s hreach
  have := wire_order cfg 0 acts _ _ _ h
  exact this

/-- **`wire_delivery` / `wire_never_early` transferred to kernel runs**: the ghost log of the LTS run a reachable kernel state
is the image of records, for every forwarded packet, `t = max(a + d, max(a, latest earlier delivery))`, never before `a + d`. -/
theorem kernel_run_wire_delivery (cfg : WireCfg ℚ) (losses delays arrivals : List ℚ) (hg : ∀ x ∈ arrivals, 0 ≤ x)
    (fuel : Nat) (s : KState ℚ (WSt ℚ))
    (hreach : KReach (WireOnK.body cfg losses delays) (fuel + 1) (WireOnK.initState arrivals) s) :
    ∃ gh : WireSt ℚ, ∀ (newer older : List (WireRec ℚ)) (e : WireRec ℚ), gh.log = newer ++ e :: older → e.lost = false →
      e.t = max (e.a + e.d) (max e.a (prevDeliv 0 older)) ∧ e.a + e.d ≤ e.t := by
  obtain ⟨acts, gh, h⟩ := wire_on_kernel_refines_lts cfg losses delays arrivals hg fuel s hreach
  refine ⟨gh, ?_⟩
  intro newer older e hlog hl
  have h1 := (wire_delivery cfg 0 acts _ _ _ h newer older e hlog hl).1
  have h2 := wire_never_early cfg 0 acts _ _ _ h e (by show e ∈ gh.log; rw [hlog]; simp) hl
  exact ⟨h1, h2⟩

end C10
