import OnlVerif.Lemmas.SchedSP
import OnlVerif.Lemmas.GenSp13
/-!
# C13 — static priority always serves the highest-priority backlogged flow

Model: the MultiQueueServer LTS (`OnlVerif/Net/MultiQueue.lean`) with the record `SP.sched`
(`OnlVerif/Net/Sched/SP.lean`, a literal transcription of `SP.run`).  The *start of a transmission* is the
scheduler's decision burst: the burst (`init`, `wake` or `sendDone`) in which the loop commits to a queue and takes
the packet with `store.get()` (DESIGN §3); the transmission then begins in the same simulated instant.
"In every admissible run" = for every action sequence accepted from the initial state, for all priority tables.
-/

namespace C13
open MQ SP

/-- the state of an `SP` scheduler after `__init__` -/
def start (t0 : ℚ) : MQState ℚ Pc := MQ.init (Pc.scan 0) t0 []

/-- **Strict priority at every decision**: in every admissible run, at every decision burst that starts service of a
packet `p` of flow `c` with priority `π`: `π` is positive, `p` is the oldest waiting packet of `c`, and the store of
every flow with a strictly higher priority is empty at that instant (before and after the burst). -/
theorem sp_strict (cfg : Cfg ℚ) (t0 : ℚ) (as : List (MAct ℚ)) (l : List (Entry Pc))
    (h : runLog (sched cfg) (start t0) as = .ok l) (e : Entry Pc) (he : e ∈ l)
    (hdec : e.act = .init ∨ e.act = .wake ∨ e.act = .sendDone) (c : Nat) (p : MPkt)
    (hph : e.post.phase = .pktHanded c p) :
    ∃ π, (c, π) ∈ cfg.prios ∧ 0 < π ∧ (∃ rest, storeOf e.pre.stores c = p :: rest) ∧
      ∀ f' π', (f', π') ∈ cfg.prios → π < π' → storeOf e.pre.stores f' = [] ∧ storeOf e.post.stores f' = [] := by
  obtain ⟨i, π, rest, _, hi, hpos, hsc, hst, hpost⟩ :=
    runLog_decision (sched cfg) (SP.neverParks cfg) (fun _ _ _ _ h => (Except.ok.inj h).symm) (.scan 0) _ (SP.decision cfg)
      as (start t0) l (fun _ => rfl) h e he hdec c p hph
  have hmem : (c, π) ∈ cfg.prios := (mem_sortDesc _ _).mp (List.mem_of_getElem? hi)
  refine ⟨π, hmem, hpos, ⟨rest, hst⟩, fun f' π' hf' hlt => ?_⟩
  obtain ⟨j, hj, hjb⟩ := higher_before cfg.prios i (c, π) (f', π') hi hf' hlt
  have hempty : storeOf e.pre.stores f' = [] := hsc j hj f' π' hjb (lt_trans hpos hlt)
  refine ⟨hempty, ?_⟩
  rw [hpost, storeOf_setKey]
  split
  · rename_i hfc
    rw [hfc, hst] at hempty; cases hempty
  · exact hempty

/-- **Only decision bursts hand a packet to the loop**: a step after which the loop holds a freshly taken packet is
`init`, `wake` or `sendDone` (SP never parks a packet, so `pktResume` never fetches another one). -/
theorem sp_decision_points (cfg : Cfg ℚ) (s s' : MQState ℚ Pc) (a : MAct ℚ) (o : MOut ℚ) (c : Nat) (p : MPkt)
    (h : step (sched cfg) s a = .ok (s', o)) (hpost : s'.phase = .pktHanded c p) (hpre : s.phase ≠ .pktHanded c p) :
    a = .init ∨ a = .wake ∨ a = .sendDone := by
  have ht := step_phase (sched cfg) s s' a o h
  rw [hpost] at ht
  generalize s.phase = ph at ht hpre
  cases ht with
  | init => exact .inl rfl
  | wake => exact .inr (.inl rfl)
  | sendDone => exact .inr (.inr rfl)
  | resumePark _ _ hnp => exact absurd (SP.neverParks cfg) hnp
  | put | sample => exact absurd rfl hpre

/-- **A decision is never revoked and a transmission never aborted**: once the loop has taken `p` (`pktHanded`), the
only accepted steps that change its phase lead to the sender of `p` (`pktResume`), to the transmission of `p`
(`sendInit`) and to the departure of `p` at its due instant (`sendFire`); arrivals — however urgent — clock ticks and
monitor samples leave the phase untouched. -/
theorem sp_no_abort (cfg : Cfg ℚ) (s s' : MQState ℚ Pc) (a : MAct ℚ) (o : MOut ℚ) (p : MPkt)
    (h : step (sched cfg) s a = .ok (s', o)) :
    (∀ c, s.phase = .pktHanded c p → (a = .pktResume ∧ s'.phase = .spawned p) ∨ s'.phase = s.phase) ∧
    (s.phase = .spawned p → (a = .sendInit ∧ ∃ d, s'.phase = .sending p d ∧ o = .started p d) ∨ s'.phase = s.phase) ∧
    (∀ d, s.phase = .sending p d →
      (a = .sendFire ∧ o = .depart p ∧ s.now = d ∧ s'.phase = .finished p) ∨ (s'.phase = s.phase ∧ ∀ q, o ≠ .depart q)) := by
  have ht := step_phase (sched cfg) s s' a o h
  generalize s'.phase = ph' at ht ⊢
  refine ⟨fun c h1 => ?_, fun h1 => ?_, fun d h1 => ?_⟩ <;> rw [h1] at ht ⊢
  · cases ht with
    | resumeSend => exact .inl ⟨rfl, rfl⟩
    | resumePark _ _ hnp => exact absurd (SP.neverParks cfg) hnp
    | put | sample => exact .inr rfl
  · cases ht with
    | sendInit => exact .inl ⟨rfl, _, rfl, rfl⟩
    | put | sample => exact .inr rfl
  · cases ht with
    | sendFire _ _ hnow => exact .inl ⟨rfl, rfl, hnow, rfl⟩
    | put | tickBusy | sample => exact .inr ⟨rfl, nofun⟩

/-! ### The source, re-translated on every run, *is* the model (bridge theorems)

`Generated/Sp13.lean` is rewritten by `py2lean` (`more.py`) from the current `onl/scheduler/sp.py` before this file is
compiled: the table `SP.__init__` builds (`sorted(priorities.items(), key=lambda item: item[1], reverse=True)` as Python's
stable sort, `Gen.pySorted` = core's `List.mergeSort`), what the body of `for flow_id, prio in self.priorities` does with
one entry (`Gen.SP.run_entry`), the scan (`Gen.SP.run_scan`) and the end-of-pass test (`Gen.SP.run_wait`).  The frame of
`run` (`while True` / the `for` over `self.priorities` / the end-of-pass `if` with `yield self.packets_available.get()`) and
the sequence get → annotation → `send_packet` are checked structurally by the translator. -/

/-- **The table as built in the source is the model's table**: Python's `sorted(…, key=priority, reverse=True)` — stable,
descending — of the `priorities` dict (in insertion order) is `SP.sortDesc`, hence `SP.table`: most urgent first, flows of
equal priority in the order in which they were configured. -/
theorem sp_order_generated_eq_model {α : Type} [Num α] (cfg : Cfg α) :
    Gen.SP.init_order cfg.prios = sortDesc cfg.prios ∧ Gen.SP.init_order cfg.prios = table cfg :=
  ⟨GenSp13.order_eq cfg.prios, GenSp13.order_eq cfg.prios⟩

/-- **The scan as written in the source is the model's scan.**  (i) One move of the model at entry `i` of the table is the
translated loop body on that entry: priority not positive or store empty → next entry, else take the head of that store.
(ii) So a pass serves the *first* entry in table order with a positive priority and a non-empty store.  (iii) Whenever the
body serves it leaves the `for` with `break`, i.e. the scan starts again from the top (`rescan = true`; in the model: after
the transmission the loop is at `endPass`, which continues at `scan 0`).  (iv) At the end of a pass the server waits on
`packets_available` iff `total_packets == 0`, else rescans at once. -/
theorem sp_pick_generated_eq_model {α : Type} [Num α] (cfg : Cfg α) (v : MQ.View) :
    (∀ i, micro cfg (.scan i) v =
      match (table cfg)[i]? with
      | none => .goto .endPass
      | some (f, pr) =>
        match Gen.SP.run_entry pr (v.storeLen f : Nat) with
        | .next => .goto (.scan (i + 1))
        | .serve _ => .get f (.got i)) ∧
    (∀ (size : Nat → Int) (t : List (Nat × Int)),
      Gen.SP.run_scan size t = t.find? (fun e => decide (0 < e.2) && !decide (size e.1 = 0))) ∧
    (∀ pr size r, Gen.SP.run_entry pr size = .serve r → r = true) ∧
    (∀ p, onDone .sent p = .ok .endPass) ∧
    micro cfg .endPass v = (if Gen.SP.run_wait v.total = true then .block (.scan 0) else .goto (.scan 0)) := by
  refine ⟨fun i => ?_, GenSp13.run_scan_eq, fun pr size r h => ?_, fun _ => rfl, ?_⟩
  · simp only [micro]
    cases (table cfg)[i]? with
    | none => rfl
    | some e =>
      obtain ⟨f, pr⟩ := e
      simp only
      unfold Gen.SP.run_entry
      by_cases hp : (0 : Int) < pr
      · by_cases hs : v.storeLen f = 0
        · simp only [hp, hs, if_true, Int.natCast_zero]
        · have : ¬ ((v.storeLen f : Nat) : Int) = 0 := by omega
          simp only [hp, this, hs, if_true, if_false]
      · simp only [hp, if_false]
  · unfold Gen.SP.run_entry at h
    split at h
    · split at h
      · cases h
      · cases h; rfl
    · cases h
  · simp only [micro, Gen.SP.run_wait, decide_eq_true_eq]

/-- the translated table and scan on the example below: priorities L(1), M(3), H(5) configured in that order, a second flow
with priority 3 configured last stays behind the first; with H empty and both M flows backlogged the first M flow is served -/
example : Gen.SP.init_order [(1, 1), (2, 3), (3, 5), (4, 3)] = [(3, 5), (2, 3), (4, 3), (1, 1)] ∧
    Gen.SP.run_scan (fun f => if f = 3 then 0 else 2) (Gen.SP.init_order [(1, 1), (2, 3), (3, 5), (4, 3)]) = some (2, 3) := by
  rw [GenSp13.order_eq]      -- `List.mergeSort` is defined by well-founded recursion: evaluated through the bridge
  decide +kernel

/-- phases after each step of a run (as the letters the harness reads off `proc.target`) -/
def phases (r : Except String (List (Entry Pc))) : Option (List String) :=
  match r with
  | .ok l => some (l.map fun e => phaseName e.post)
  | .error _ => none

/-- a concrete admissible run with three priority levels backlogged: H(5), M(3), L(1) queued at 0 in the order L, M, H;
a second H arrives during the first transmission.  The decision bursts (`wake`, then each `sendDone`) end in phase
`H` (packet handed): the hypotheses of `sp_strict` are met four times. -/
example : phases (runLog (sched { rate := 8, prios := [(1, 1), (2, 3), (3, 5)] }) (start 0)
    [.init, .put ⟨1, 1, 1⟩, .put ⟨2, 2, 1⟩, .put ⟨3, 3, 1⟩, .tokenHandoff, .wake, .pktResume, .sendInit, .put ⟨4, 3, 1⟩,
     .tick 1, .sendFire, .sendDone, .pktResume, .sendInit, .tick 2, .sendFire, .sendDone, .pktResume, .sendInit, .tick 3,
     .sendFire, .sendDone]) =
    some ["W", "W", "W", "W", "K", "H", "S", "T", "T", "T", "F", "H", "S", "T", "T", "F", "H", "S", "T", "T", "F", "H"] := by
  decide +kernel

/-- … and the packets leave in the order H, H, M, L -/
example : (match runActs (sched { rate := 8, prios := [(1, 1), (2, 3), (3, 5)] }) (start 0)
    [.init, .put ⟨1, 1, 1⟩, .put ⟨2, 2, 1⟩, .put ⟨3, 3, 1⟩, .tokenHandoff, .wake, .pktResume, .sendInit, .put ⟨4, 3, 1⟩,
     .tick 1, .sendFire, .sendDone, .pktResume, .sendInit, .tick 2, .sendFire, .sendDone, .pktResume, .sendInit, .tick 3,
     .sendFire, .sendDone, .pktResume, .sendInit, .tick 4, .sendFire, .sendDone] with
    | .ok (_, _, outs) => some (outs.map (·.id)) | .error _ => none) = some [3, 4, 2, 1] := by
  decide +kernel

end C13
