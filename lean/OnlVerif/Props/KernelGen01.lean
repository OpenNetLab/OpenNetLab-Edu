import OnlVerif.Lemmas.GenKernelSched01
/-!
# KernelGen01 - the scheduling constants, the queue entry, `Timeout.__init__` and the priority class of every call site *as written in the source* are the kernel model `K` (C01)

One of the bridge modules `Props/KernelGen*.lean`, one per owning property (`py2lean/SCOPE.md`): `py2lean/kernel.py`
regenerates the `Generated/Kernel*.lean` files named in the imports from `onl/sim` on every `./check` of the owning property, and the
theorems below (bridge theorems) prove that the generated definitions coincide with the functions of the hand-written kernel
model `K` (`Kernel/Agenda.lean`, `Ops.lean`, `Step.lean`) that the property theorems are about.  A flipped comparison, a changed
constant, priority or refusal, a lost or reordered effect in the source changes a generated definition and one of these proofs
no longer compiles - for every input, not for sampled ones.  Here: `QEntry.lt`, `KState.schedule`, the `timeout` call of `doCall`, `URGENT` / `NORMAL` and which of the two every place that schedules an occurrence uses (C01).

The encoding between the generated object views and the model state is explicit and hand-written
(`OnlVerif/Lemmas/GenKernelDefs.lean`: `resObj`, `runEff`, `buildEvent`, `applyTrig`, `toEntry`; the `run…` functions next to the
lemmas).  All statements hold for every scalar type `τ` (no arithmetic identity is used), in particular for `ℚ` and `Float`.
This module imports no generated file of another property.
-/

namespace KernelGen
open GenKernel
variable {τ σ : Type} [Num τ]

/-- **the priorities and the queue entry as written in the source are the model's**: `URGENT = 0`, `NORMAL = 1`;
`Environment.schedule` pushes `(now + delay, priority, next(eid), event)`, which is `KState.schedule`; Python's order on
those tuples is `QEntry.lt`. -/
theorem schedule_generated_eq_model (s : KState τ σ) (e : EvId) (prio : Nat) (delay : τ) (a b : τ × Nat × Nat × Nat) :
    Gen.URGENT = URGENT ∧ Gen.NORMAL = NORMAL ∧
    s.schedule e prio delay = pushEntry s (Gen.Environment.schedule_entry s.now delay prio s.eid e) ∧
    QEntry.lt (toEntry a) (toEntry b) = Py.entryLt a b := by
  refine ⟨rfl, rfl, rfl, ?_⟩
  unfold QEntry.lt Py.entryLt toEntry
  simp [Bool.beq_eq_decide_eq]

/-- **`Timeout.__init__` as written in the source is the model's `timeout` call**: refused with `ValueError` exactly when
`delay < 0`; otherwise an event with no callbacks, `_ok = True` and the given value is scheduled with the priority and
delay of the source's `schedule` call (`NORMAL`, `delay`). -/
theorem timeout_generated_eq_model (s : KState τ σ) (self : EvId) (d : τ) (v : Val) :
    doCall s self (.timeout d v) =
      (if (Gen.Timeout.init (evObj (τ := τ)) d).raised = 2 then (s, .err (valueErr "Negative delay"))
       else match buildEvent (fun _ => Cb.stop) (Gen.Timeout.init (evObj (τ := τ)) d).eff {} with
         | some o =>
           (schedAll (s.newLabelled (o.toRec .timeout v default)).1 (s.newLabelled (o.toRec (τ := τ) .timeout v default)).2
              (schedOf (Gen.Timeout.init (evObj (τ := τ)) d).eff),
            .ev (s.newLabelled (o.toRec (τ := τ) .timeout v default)).2)
         | none => (s, .unit)) := by
  unfold Gen.Timeout.init
  simp only [doCall]
  by_cases h : d < Num.zero
  · rw [if_pos h, if_pos h]; rfl
  · rw [if_neg h, if_neg h]; rfl

/-- **every place where the kernel schedules an occurrence puts it in the class, and at the delay, that the model gives it**
(read from the arguments of the `schedule` call at that place, omitted ones being the defaults of `Environment.schedule`; a site is
`none` when its method no longer contains the call - then the owner of the method refuses it - and `some` on the pinned tree, see
the example below): `Event.succeed`, `Event.fail` and the two handlers of `Process._resume` that end a process schedule an
*ordinary* occurrence now (`NORMAL`, delay 0: `KState.trigger`, used by the model's `succeed` / `fail` calls and by `finishProc`);
`Initialize.__init__` (process start: the model's `spawn` call), `Interruption.__init__` (`mkInterrupt`) and the stop event of
`run(until=<number>)` (`runUntilTime`) are *urgent*; and urgent sorts before ordinary.  What else those methods do is the business
of C02 / C03 / C04 (`Props/KernelGen02.lean` … `KernelGen04.lean`, where the names `URGENT` / `NORMAL` stand for the model's
constants). -/
theorem site_priorities_generated_eq_model (s : KState τ σ) (e : EvId) (o : Outcome) :
    (∀ pd, Gen.Site.succeed (α := τ) = some pd → s.trigger e o = (s.setOut e o).schedule e pd.1 pd.2) ∧
    (∀ pd, Gen.Site.fail (α := τ) = some pd → pd = (NORMAL, Num.zero)) ∧
    (∀ pd, Gen.Site.process_returned (α := τ) = some pd → pd = (NORMAL, Num.zero)) ∧
    (∀ pd, Gen.Site.process_raised (α := τ) = some pd → pd = (NORMAL, Num.zero)) ∧
    (∀ pd, Gen.Site.initialize (α := τ) = some pd → pd = (URGENT, Num.zero)) ∧
    (∀ pd, Gen.Site.interruption (α := τ) = some pd → pd = (URGENT, Num.zero)) ∧
    (∀ p, Gen.Site.run_sentinel_priority = some p → p = URGENT) ∧ URGENT < NORMAL := by
  refine ⟨?_, ?_, ?_, ?_, ?_, ?_, ?_, by decide⟩
  all_goals
    intro pd h
    first
      | (cases h; rfl)
      | (simp only [Gen.Site.succeed, Gen.Site.fail, Gen.Site.process_returned, Gen.Site.process_raised, Gen.Site.initialize,
          Gen.Site.interruption, Gen.Site.run_sentinel_priority, reduceCtorEq] at h)

/-- a negative delay is refused, a zero delay is not; on the pinned tree every site is seen, with these (priority, delay) -/
example : (Gen.Timeout.init (evObj (τ := Rat)) (-1)).raised = 2 ∧ (Gen.Timeout.init (evObj (τ := Rat)) 0).raised = 0 ∧
    Gen.Site.succeed (α := Rat) = some (1, 0) ∧ Gen.Site.fail (α := Rat) = some (1, 0) ∧
    Gen.Site.process_returned (α := Rat) = some (1, 0) ∧ Gen.Site.process_raised (α := Rat) = some (1, 0) ∧
    Gen.Site.initialize (α := Rat) = some (0, 0) ∧ Gen.Site.interruption (α := Rat) = some (0, 0) ∧
    Gen.Site.run_sentinel_priority = some 0 := by
  decide

end KernelGen
