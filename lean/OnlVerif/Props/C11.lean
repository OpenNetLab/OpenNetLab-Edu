import OnlVerif.Lemmas.TokenBucket
import OnlVerif.Lemmas.TwoRate
import OnlVerif.Lemmas.GenBucket
/-!
# C11 — token-bucket output conforms to (rate, bucket) and delays nothing needlessly

Models: `OnlVerif/Net/Fifo.lean` (the FifoServer LTS) instantiated with `OnlVerif/Net/TokenBucket.lean` and
`OnlVerif/Net/TwoRate.lean`.  "For all arrival workloads, rates, bucket sizes and peak rates" = for every action
sequence the LTS accepts (`Fifo.runActs … = .ok …`) from the initial state (bucket(s) full, `update_time = 0`, clock
`t0 ≥ 0`), for every configuration with positive rates and non-negative bucket sizes (`Good`).  Time and token levels
are exact rationals; the correspondence check replays the real classes through these models bit for bit.

Ghost logs (newest first): `TbSt.log` = (token-debit instant, size), `TbSt.outLog` = (departure instant, size),
`TrSt.log` = (debit instant, size, colour); `tb_log_records` / `tworate_log_records` tie them to the LTS's steps.
`Envelope.Conforms B r log` is the envelope over **every** stretch `i ≤ j` of the log (see `tb_envelope`).
-/

namespace C11
open Fifo Envelope

/-! ## TokenBucket -/

def tbStart (c : TbCfg ℚ) (t0 : ℚ) : FState ℚ (TbSt ℚ) := Fifo.init (TokenBucket.st0 c) t0

/-- **The debit log is what happened**: it grows only by a debit of the packet the server holds, stamped with the
current instant (the two debit steps are characterised by `tb_release` and `tb_release_fire`); the departure log
grows exactly when a packet is forwarded. -/
theorem tb_log_records (c : TbCfg ℚ) (s s' : FState ℚ (TbSt ℚ)) (a : FAct ℚ) (o : FOut ℚ)
    (h : step (TokenBucket.dev c) s a = .ok (s', o)) : TokenBucket.LogStep s s' o := by
  open TokenBucket in
  refine step_dev h (fun _ d' _ o => LogStep s { s with dev := d' } o) (fun _ => ⟨Or.inl rfl, rfl⟩)
    (fun _ _ => ⟨Or.inl rfl, rfl⟩) ?_ ?_ (fun _ _ _ _ => ⟨Or.inl rfl, rfl⟩)
  · intro x y p _ hp
    rw [dev_onResume]
    rcases onResume_cases c s.dev s.now x y p with ⟨_, he⟩ | ⟨_, k, _, he⟩ | ⟨_, _, he⟩ <;> rw [he]
    · exact ⟨Or.inl rfl, rfl⟩
    all_goals exact ⟨Or.inr ⟨p, Or.inl hp, rfl⟩, rfl⟩
  · intro p k _ htx
    rw [dev_onFire]
    rcases onFire_cases c s.dev s.now k p with ⟨_, r, _, he⟩ | ⟨_, _, he⟩ | ⟨_, he⟩ <;> rw [he]
    · exact ⟨Or.inr ⟨p, Or.inr ⟨_, k, htx⟩, rfl⟩, rfl⟩
    · exact ⟨Or.inr ⟨p, Or.inr ⟨_, k, htx⟩, rfl⟩, rfl⟩
    · exact ⟨Or.inl rfl, rfl⟩

/-- **Release, when the packet reaches the head of the queue** (the server takes `p` at `now`).  With
`L = min(B, level + r·(now − update_time)/8)`:
* `size ≤ L`: the tokens are debited now (`level = L − size`, logged at `now`), and `p` is forwarded now — or exactly
  `8·size/peak` later when a peak rate is set;
* `L < size`: nothing is debited; the server sleeps for exactly the missing tokens: the wait `w` satisfies
  `L + r·w/8 = size`, and for every shorter wait the bucket would still be short — the *earliest* conforming instant. -/
theorem tb_release (c : TbCfg ℚ) (hg : TokenBucket.Good c) (s s' : FState ℚ (TbSt ℚ)) (x y : ℚ) (o : FOut ℚ)
    (p : Pkt ℚ) (hp : s.handed = some p) (h : step (TokenBucket.dev c) s (.resume x y) = .ok (s', o))
    (L : ℚ) (hL : L = min c.bucket (s.dev.level + c.rate * (s.now - s.dev.upd) / 8)) :
    ((p.size : ℚ) ≤ L →
      s'.dev.level = L - p.size ∧ s'.dev.upd = s.now ∧ s'.dev.log = (s.now, p.size) :: s.dev.log ∧
      (∀ k, TokenBucket.peakOn c = some k → o = .nothing ∧ s'.tx = some (p, s.now + (p.size : ℚ) * 8 / k, 0)) ∧
      (TokenBucket.peakOn c = none → o = .depart p)) ∧
    (L < p.size →
      o = .nothing ∧ s'.dev.level = L ∧ s'.dev.upd = s.now ∧ s'.dev.log = s.dev.log ∧ s'.dev.tokWait = true ∧
      ∃ w, s'.tx = some (p, s.now + w, 0) ∧ L + c.rate * w / 8 = p.size ∧
        ∀ w', w' < w → L + c.rate * w' / 8 < p.size) := by
  have hLe : TokenBucket.refillLevel c s.dev s.now = L := by rw [TokenBucket.refillLevel_eq, hL]
  rw [step_resume hp, TokenBucket.dev_onResume] at h
  rcases TokenBucket.onResume_cases c s.dev s.now x y p with ⟨hs, he⟩ | ⟨hs, k, hk, he⟩ | ⟨hs, hk, he⟩ <;>
    rw [he] at h <;> cases h <;> rw [hLe] at hs
  · refine ⟨fun hc => absurd hs (not_lt.mpr hc), fun _ => ⟨rfl, hLe, rfl, rfl, rfl, ?_⟩⟩
    refine ⟨TokenBucket.tokenWait c (TokenBucket.refillLevel c s.dev s.now) p, rfl, ?_⟩
    rw [TokenBucket.tokenWait_eq, hLe]
    exact wait_exact hg.rate
  · refine ⟨fun _ => ⟨congrArg (· - (p.size : ℚ)) hLe, rfl, rfl, ?_, ?_⟩, fun hc => absurd hc hs⟩
    · intro k' hk'
      rw [hk] at hk'; cases hk'
      exact ⟨rfl, (by rw [TokenBucket.peakWait_eq])⟩
    · intro hn; rw [hk] at hn; cases hn
  · rw [issueGet_dev']
    refine ⟨fun _ => ⟨congrArg (· - (p.size : ℚ)) hLe, rfl, rfl, ?_, fun _ => rfl⟩, fun hc => absurd hc hs⟩
    intro k' hk'; rw [hk] at hk'; cases hk'

/-- **Release, when a timeout of the server fires.**  It fires exactly at its due instant, and the clock cannot pass
it.  After the wait for tokens the level is 0, `update_time` and the debit log carry the due instant, and `p` is
forwarded then — or `8·size/peak` later when a peak rate is set.  After the peak spacing `p` is forwarded. -/
theorem tb_release_fire (c : TbCfg ℚ) (s : FState ℚ (TbSt ℚ)) (p : Pkt ℚ) (due : ℚ) (k : Nat)
    (htx : s.tx = some (p, due, k)) :
    (∀ s' o, step (TokenBucket.dev c) s .fire = .ok (s', o) → s.now = due ∧
      (s.dev.tokWait = true →
        s'.dev.level = 0 ∧ s'.dev.upd = due ∧ s'.dev.log = (due, p.size) :: s.dev.log ∧
        (∀ r, TokenBucket.peakOn c = some r → o = .nothing ∧ s'.tx = some (p, due + (p.size : ℚ) * 8 / r, k + 1)) ∧
        (TokenBucket.peakOn c = none → o = .depart p)) ∧
      (s.dev.tokWait = false → o = .depart p ∧ s'.dev.log = s.dev.log)) ∧
    (∀ t s' o, step (TokenBucket.dev c) s (.tick t) = .ok (s', o) → t ≤ due) := by
  have hz : (Num.zero : ℚ) = 0 := zero_eq'
  refine ⟨fun s' o h => ?_, (fire_due htx).2⟩
  obtain ⟨rfl, h⟩ := (fire_due htx).1 s' o h
  refine ⟨rfl, ?_⟩
  rw [TokenBucket.dev_onFire] at h
  rcases TokenBucket.onFire_cases c s.dev s.now k p with ⟨hw, r, hr, he⟩ | ⟨hw, hr, he⟩ | ⟨hw, he⟩ <;> rw [he] at h <;> cases h
  · refine ⟨fun _ => ⟨hz, rfl, rfl, ?_, ?_⟩, fun hc => (by rw [hw] at hc; cases hc)⟩
    · intro r' hr'
      rw [hr] at hr'; cases hr'
      exact ⟨rfl, (by rw [TokenBucket.peakWait_eq])⟩
    · intro hn; rw [hr] at hn; cases hn
  · rw [issueGet_dev']
    refine ⟨fun _ => ⟨hz, rfl, rfl, ?_, fun _ => rfl⟩, fun hc => (by rw [hw] at hc; cases hc)⟩
    intro r' hr'; rw [hr] at hr'; cases hr'
  · rw [issueGet_dev']
    exact ⟨fun hc => (by rw [hw] at hc; cases hc), fun _ => ⟨rfl, rfl⟩⟩

/-- **Level bounds**: in every reachable state `0 ≤ level ≤ bucket_size` (in particular after every debit and after
every refill) and `update_time ≤ now`. -/
theorem tb_level_bounds (c : TbCfg ℚ) (hg : TokenBucket.Good c) (t0 : ℚ) (h0 : 0 ≤ t0) (as : List (FAct ℚ))
    (s : FState ℚ (TbSt ℚ)) (ins outs : List Nat) (h : runActs (TokenBucket.dev c) (tbStart c t0) as = .ok (s, ins, outs)) :
    0 ≤ s.dev.level ∧ s.dev.level ≤ c.bucket ∧ s.dev.upd ≤ s.now := by
  have hi := (TokenBucket.run_inv c hg t0 h0 as s ins outs h).2
  exact ⟨hi.bkt.lvl0, hi.lvlB, hi.updLe⟩

/-- **The (rate, bucket) envelope, for all i ≤ j.**  After any admissible action sequence, take any two debits `ei`
(earlier) and `ej` (later) of the debit log with the debits `mid` between them:
`size_i + … + size_j ≤ max(bucket_size, size_i) + rate·(t_j − t_i)/8` over the token-debit instants.
(For `i = j` the statement is `size_i ≤ max(bucket_size, size_i)`, `Envelope.single_conforms`.) -/
theorem tb_envelope (c : TbCfg ℚ) (hg : TokenBucket.Good c) (t0 : ℚ) (h0 : 0 ≤ t0) (as : List (FAct ℚ))
    (s : FState ℚ (TbSt ℚ)) (ins outs : List Nat) (h : runActs (TokenBucket.dev c) (tbStart c t0) as = .ok (s, ins, outs))
    (newer mid older : List (ℚ × ℕ)) (ej ei : ℚ × ℕ) (hlog : s.dev.log = newer ++ ej :: (mid ++ ei :: older)) :
    (ej.2 : ℚ) + bytes mid + ei.2 ≤ max c.bucket ei.2 + c.rate * (ej.1 - ei.1) / 8 :=
  (TokenBucket.run_inv c hg t0 h0 as s ins outs h).2.bkt.conf newer ej mid ei older hlog

/-- **Peak spacing**: with a peak rate set, consecutive departures `e1` then `e2` are at least `8·size₂/peak` apart. -/
theorem tb_peak_spacing (c : TbCfg ℚ) (hg : TokenBucket.Good c) (t0 : ℚ) (h0 : 0 ≤ t0) (as : List (FAct ℚ))
    (s : FState ℚ (TbSt ℚ)) (ins outs : List Nat) (h : runActs (TokenBucket.dev c) (tbStart c t0) as = .ok (s, ins, outs))
    (r : ℚ) (hr : c.peak = some r) (hr0 : r ≠ 0)
    (newer older : List (ℚ × ℕ)) (e2 e1 : ℚ × ℕ) (hlog : s.dev.outLog = newer ++ e2 :: e1 :: older) :
    e1.1 + (e2.2 : ℚ) * 8 / r ≤ e2.1 :=
  (TokenBucket.run_spc c t0 as s ins outs h).spaced r ((Num.optOn_iff c.peak r).mpr ⟨hr, hr0⟩) newer e2 e1 older hlog

/-- **First in first out, nothing lost**: no step ever refuses or discards a packet; the accepted packets are, in
order, exactly those that left followed by those still inside; at quiescence all have left. -/
theorem tb_lossless_fifo (c : TbCfg ℚ) :
    (∀ s a s' o, step (TokenBucket.dev c) s a = .ok (s', o) → o ≠ .dropped ∧ ∀ q, o ≠ .lost q) ∧
    (∀ t0 as s ins outs, runActs (TokenBucket.dev c) (tbStart c t0) as = .ok (s, ins, outs) →
      ins = outs ++ held s ∧ (Quiescent s → ins = outs)) :=
  ⟨fun s a s' o h => TokenBucket.never_loses c s s' a o h,
    fun t0 _ _ _ _ h => run_fifo _ (TokenBucket.idPreserving c) _ t0 h⟩

/-! ## TwoRateTokenBucket -/

def trStart (c : TrCfg ℚ) (t0 : ℚ) : FState ℚ (TrSt ℚ) := Fifo.init (TwoRate.st0 c) t0

open TwoRate in
/-- **The log is what happened**: in a reachable state, the log grows exactly when a packet is forwarded, by
(current instant, size, colour of the forwarded packet); no step refuses or discards a packet. -/
theorem tworate_log_records (c : TrCfg ℚ) (hg : Good c) (t0 : ℚ) (h0 : 0 ≤ t0) (as : List (FAct ℚ))
    (s : FState ℚ (TrSt ℚ)) (ins outs : List Nat) (h : runActs (dev c) (trStart c t0) as = .ok (s, ins, outs))
    (a : FAct ℚ) (s' : FState ℚ (TrSt ℚ)) (o : FOut ℚ) (hs : step (dev c) s a = .ok (s', o)) :
    LogStep s s' o ∧ o ≠ .dropped ∧ ∀ q, o ≠ .lost q :=
  log_step c s s' a o hs

open TwoRate in
/-- **Colour rule with PIR** (the server takes `p` at `now`; `cm`, `pk` are the committed and peak levels after the
refill `min(cap, level + rate·(now − update_time)/8)`):
* both buckets cover the packet → forwarded now, **green**, both buckets pay;
* only the committed tokens are short → forwarded now, **yellow**, the peak bucket pays and the committed bucket is
  emptied;
* the peak tokens are short → nothing is forwarded; the server sleeps exactly `(size − pk)·8/PIR`, both refilled
  levels are kept (`colour_after_wait`: it then leaves **red**). -/
theorem colour_rule (c : TrCfg ℚ) (s s' : FState ℚ (TrSt ℚ)) (x y : ℚ) (o : FOut ℚ) (p : Pkt ℚ) (k b pl : ℚ)
    (hk : pirOn c = some k) (hb : pbsOn c = some b) (hpl : s.dev.peak = some pl) (hp : s.handed = some p)
    (h : step (dev c) s (.resume x y) = .ok (s', o)) (cm pk : ℚ)
    (hcm : cm = min c.cbs (s.dev.commit + c.cir * (s.now - s.dev.upd) / 8))
    (hpk : pk = min b (pl + k * (s.now - s.dev.upd) / 8)) :
    ((p.size : ℚ) ≤ pk ∧ (p.size : ℚ) ≤ cm →
      o = .depart (paint p green) ∧ s'.dev.commit = cm - p.size ∧ s'.dev.peak = some (pk - p.size) ∧ s'.dev.upd = s.now) ∧
    ((p.size : ℚ) ≤ pk ∧ cm < p.size →
      o = .depart (paint p yellow) ∧ s'.dev.commit = 0 ∧ s'.dev.peak = some (pk - p.size) ∧ s'.dev.upd = s.now) ∧
    (pk < p.size →
      o = .nothing ∧ s'.dev.commit = cm ∧ s'.dev.peak = some pk ∧ s'.dev.upd = s.now ∧
      s'.tx = some (p, s.now + ((p.size : ℚ) - pk) * 8 / k, 0)) := by
  subst hcm hpk
  rw [step_resume hp, dev_onResume, onResume_pir c s.dev s.now x y p k b pl hk hb hpl] at h
  rcases resumePir_cases c s.dev s.now p k b pl with ⟨h1, he⟩ | ⟨h1, h2, he⟩ | ⟨h1, h2, he⟩ <;> rw [he] at h <;> cases h
  · refine ⟨fun hc => absurd h1 (not_lt.mpr hc.1), fun hc => absurd h1 (not_lt.mpr hc.1), fun _ => ?_⟩
    exact ⟨rfl, rfl, rfl, rfl, by rw [tokenWait_eq]; rfl⟩
  · refine ⟨fun hc => absurd h2 (not_lt.mpr hc.2), fun _ => ?_, fun hc => absurd hc h1⟩
    rw [issueGet_dev']
    exact ⟨rfl, zero', rfl, rfl⟩
  · refine ⟨fun _ => ?_, fun hc => absurd hc.2 h2, fun hc => absurd hc h1⟩
    rw [issueGet_dev']
    exact ⟨rfl, rfl, rfl, rfl⟩

open TwoRate in
/-- **Colour rule without PIR**: green and forwarded now when the committed bucket (CIR, CBS) covers the packet;
otherwise the server sleeps exactly `(size − cm)·8/CIR` (`colour_after_wait`: it then leaves **yellow**). -/
theorem colour_rule_no_pir (c : TrCfg ℚ) (s s' : FState ℚ (TrSt ℚ)) (x y : ℚ) (o : FOut ℚ) (p : Pkt ℚ)
    (hk : pirOn c = none) (hp : s.handed = some p) (h : step (dev c) s (.resume x y) = .ok (s', o)) (cm : ℚ)
    (hcm : cm = min c.cbs (s.dev.commit + c.cir * (s.now - s.dev.upd) / 8)) :
    ((p.size : ℚ) ≤ cm → o = .depart (paint p green) ∧ s'.dev.commit = cm - p.size ∧ s'.dev.upd = s.now) ∧
    (cm < p.size → o = .nothing ∧ s'.dev.commit = cm ∧ s'.dev.upd = s.now ∧
      s'.tx = some (p, s.now + ((p.size : ℚ) - cm) * 8 / c.cir, 0)) := by
  subst hcm
  rw [step_resume hp, dev_onResume, onResume_cir c s.dev s.now x y p hk] at h
  rcases resumeCir_cases c s.dev s.now p with ⟨h2, he⟩ | ⟨h2, he⟩ <;> rw [he] at h <;> cases h
  · exact ⟨fun hc => absurd h2 (not_lt.mpr hc), fun _ => ⟨rfl, rfl, rfl, by rw [tokenWait_eq]; rfl⟩⟩
  · refine ⟨fun _ => ?_, fun hc => absurd hc h2⟩
    rw [issueGet_dev']
    exact ⟨rfl, rfl, rfl⟩

open TwoRate in
/-- **A packet that had to wait** leaves exactly when its wait is over (the clock cannot pass that instant): **red**
with PIR (peak bucket emptied), **yellow** without (committed bucket emptied); `update_time` is that instant. -/
theorem colour_after_wait (c : TrCfg ℚ) (s : FState ℚ (TrSt ℚ)) (p : Pkt ℚ) (due : ℚ) (n : Nat)
    (htx : s.tx = some (p, due, n)) :
    (∀ s' o, step (dev c) s .fire = .ok (s', o) → s.now = due ∧ s'.dev.upd = due ∧
      (∀ k, pirOn c = some k → o = .depart (paint p red) ∧ s'.dev.peak = some 0 ∧ s'.dev.commit = s.dev.commit) ∧
      (pirOn c = none → o = .depart (paint p yellow) ∧ s'.dev.commit = 0)) ∧
    (∀ t s' o, step (dev c) s (.tick t) = .ok (s', o) → t ≤ due) := by
  refine ⟨fun s' o h => ?_, (fire_due htx).2⟩
  obtain ⟨rfl, h⟩ := (fire_due htx).1 s' o h
  rw [dev_onFire] at h
  cases hk : pirOn c with
  | some k =>
    rw [onFire_pir c s.dev s.now n p k hk] at h
    cases h
    rw [issueGet_dev']
    exact ⟨rfl, rfl, fun k' _ => ⟨rfl, congrArg some zero', rfl⟩, nofun⟩
  | none =>
    rw [onFire_cir c s.dev s.now n p hk] at h
    cases h
    rw [issueGet_dev']
    exact ⟨rfl, rfl, nofun, fun _ => ⟨rfl, zero'⟩⟩

open TwoRate in
/-- **Colour rule, as equivalences** (with PIR, when the packet reaches the head): it is forwarded at once iff the peak
bucket covers it, and then it is green iff the committed bucket covers it too, yellow iff not — never red; red is
exactly "had to wait for peak tokens" (`colour_after_wait`). -/
theorem colour_rule_iff (c : TrCfg ℚ) (s s' : FState ℚ (TrSt ℚ)) (x y : ℚ) (o : FOut ℚ) (p : Pkt ℚ) (k b pl : ℚ)
    (hk : pirOn c = some k) (hb : pbsOn c = some b) (hpl : s.dev.peak = some pl) (hp : s.handed = some p)
    (h : step (dev c) s (.resume x y) = .ok (s', o)) (cm pk : ℚ)
    (hcm : cm = min c.cbs (s.dev.commit + c.cir * (s.now - s.dev.upd) / 8))
    (hpk : pk = min b (pl + k * (s.now - s.dev.upd) / 8)) :
    ((∃ q, o = .depart q) ↔ (p.size : ℚ) ≤ pk) ∧
    (∀ q, o = .depart q → (q.color = green ↔ (p.size : ℚ) ≤ cm) ∧ (q.color = yellow ↔ cm < p.size) ∧ q.color ≠ red) := by
  obtain ⟨hG, hY, hR⟩ := colour_rule c s s' x y o p k b pl hk hb hpl hp h cm pk hcm hpk
  by_cases h1 : (p.size : ℚ) ≤ pk
  · by_cases h2 : (p.size : ℚ) ≤ cm
    · obtain ⟨ho, _⟩ := hG ⟨h1, h2⟩
      subst ho
      refine ⟨⟨fun _ => h1, fun _ => ⟨_, rfl⟩⟩, ?_⟩
      intro q hq
      cases hq
      exact ⟨⟨fun _ => h2, fun _ => rfl⟩, ⟨fun hc => (by cases hc), fun hc => absurd h2 (not_le.mpr hc)⟩, (by show green ≠ red; decide)⟩
    · have h2' : cm < p.size := not_le.mp h2
      obtain ⟨ho, _⟩ := hY ⟨h1, h2'⟩
      subst ho
      refine ⟨⟨fun _ => h1, fun _ => ⟨_, rfl⟩⟩, ?_⟩
      intro q hq
      cases hq
      exact ⟨⟨fun hc => (by cases hc), fun hc => absurd hc h2⟩, ⟨fun _ => h2', fun _ => rfl⟩, (by show yellow ≠ red; decide)⟩
  · obtain ⟨ho, _⟩ := hR (not_le.mp h1)
    subst ho
    exact ⟨⟨fun ⟨q, hq⟩ => (by cases hq), fun hc => absurd hc h1⟩, fun q hq => (by cases hq)⟩

open TwoRate in
/-- **Green traffic conforms to (CIR, CBS), for all i ≤ j**: over any stretch of the green debits,
`size_i + … + size_j ≤ max(CBS, size_i) + CIR·(t_j − t_i)/8`. -/
theorem green_conforms (c : TrCfg ℚ) (hg : Good c) (t0 : ℚ) (h0 : 0 ≤ t0) (as : List (FAct ℚ))
    (s : FState ℚ (TrSt ℚ)) (ins outs : List Nat) (h : runActs (dev c) (trStart c t0) as = .ok (s, ins, outs))
    (newer mid older : List (ℚ × ℕ)) (ej ei : ℚ × ℕ) (hlog : greens s.dev.log = newer ++ ej :: (mid ++ ei :: older)) :
    (ej.2 : ℚ) + bytes mid + ei.2 ≤ max c.cbs ei.2 + c.cir * (ej.1 - ei.1) / 8 :=
  (run_inv c hg t0 h0 as s ins outs h).2.green.conf newer ej mid ei older hlog

open TwoRate in
/-- **All traffic is shaped** against the peak bucket (PIR, PBS) — or against (CIR, CBS) when no PIR is given — for
all i ≤ j. -/
theorem tworate_envelope (c : TrCfg ℚ) (hg : Good c) (t0 : ℚ) (h0 : 0 ≤ t0) (as : List (FAct ℚ))
    (s : FState ℚ (TrSt ℚ)) (ins outs : List Nat) (h : runActs (dev c) (trStart c t0) as = .ok (s, ins, outs))
    (newer mid older : List (ℚ × ℕ)) (ej ei : ℚ × ℕ) (hlog : alls s.dev.log = newer ++ ej :: (mid ++ ei :: older)) :
    (∀ k b, pirOn c = some k → pbsOn c = some b → (ej.2 : ℚ) + bytes mid + ei.2 ≤ max b ei.2 + k * (ej.1 - ei.1) / 8) ∧
    (pirOn c = none → (ej.2 : ℚ) + bytes mid + ei.2 ≤ max c.cbs ei.2 + c.cir * (ej.1 - ei.1) / 8) := by
  obtain ⟨B, r, lvl, hS, hb, _⟩ := (run_inv c hg t0 h0 as s ins outs h).2.shaped
  have hc := hb.conf newer ej mid ei older hlog
  rcases hS with ⟨hk, hB, _⟩ | ⟨hk, rfl, rfl, _⟩
  · refine ⟨fun k b hk' hb' => ?_, fun hn => (by rw [hk] at hn; cases hn)⟩
    rw [hk] at hk'; rw [hB] at hb'
    cases hk'; cases hb'
    exact hc
  · exact ⟨fun k b hk' => (by rw [hk] at hk'; cases hk'), fun _ => hc⟩

open TwoRate in
/-- **Never fails**: with a PBS given whenever a PIR is (`Good`), in every reachable state the server's continuation
is accepted — neither `assert self.pbs` nor `assert self.current_bucket_peak is not None` can fail, whatever the
levels (in particular with an exactly empty peak bucket). -/
theorem tworate_never_fails (c : TrCfg ℚ) (hg : Good c) (t0 : ℚ) (h0 : 0 ≤ t0) (as : List (FAct ℚ))
    (s : FState ℚ (TrSt ℚ)) (ins outs : List Nat) (h : runActs (dev c) (trStart c t0) as = .ok (s, ins, outs)) :
    (∀ p x y, s.handed = some p → ∃ s' o, step (dev c) s (.resume x y) = .ok (s', o)) ∧
    (∀ p n, s.tx = some (p, s.now, n) → ∃ s' o, step (dev c) s .fire = .ok (s', o)) := by
  have hi := (run_inv c hg t0 h0 as s ins outs h).2
  constructor
  · intro p x y hp
    rw [step_resume hp, dev_onResume]
    rcases onResume_good c s hi x y p with ⟨k, b, pl, _, _, _, he⟩ | ⟨_, he⟩
    · rw [he]
      rcases resumePir_cases c s.dev s.now p k b pl with ⟨_, e⟩ | ⟨_, _, e⟩ | ⟨_, _, e⟩ <;> rw [e] <;> exact ⟨_, _, rfl⟩
    · rw [he]
      rcases resumeCir_cases c s.dev s.now p with ⟨_, e⟩ | ⟨_, e⟩ <;> rw [e] <;> exact ⟨_, _, rfl⟩
  · intro p n htx
    rw [step_fire htx, dev_onFire]
    cases hk : pirOn c with
    | some k => rw [onFire_pir c s.dev s.now n p k hk]; exact ⟨_, _, rfl⟩
    | none => rw [onFire_cir c s.dev s.now n p hk]; exact ⟨_, _, rfl⟩

open TwoRate in
/-- **First in first out, nothing lost** (no step refuses or discards: `tworate_log_records`). -/
theorem tworate_lossless_fifo (c : TrCfg ℚ) (t0 : ℚ) (as : List (FAct ℚ)) (s : FState ℚ (TrSt ℚ)) (ins outs : List Nat)
    (h : runActs (dev c) (trStart c t0) as = .ok (s, ins, outs)) : ins = outs ++ held s ∧ (Quiescent s → ins = outs) :=
  run_fifo _ (idPreserving c) _ t0 h

/-! ### The source, re-translated on every run, *is* the model (bridge theorems)

`Generated/Bucket.lean` is rewritten by `py2lean` from the current `onl/netdev/token_bucket.py` / `two_level_token_bucket.py`
before this file is compiled: `put`, and one round of each server generator `run`, split at its `yield env.timeout(…)`
statements (`run_resume`: from the `get` to the first yield or the end of the round; `run_after_i`: from the resumption
after yield `i`).  `GenBucket.tbObj` / `trObj` encode a model state as the Python object (`out` attached);
`GenBucket.tbAfter` / `TrAgrees` say what a burst of the model's server leaves (asleep in which yield for which timeout /
round complete, packet coloured and forwarded / the exception the model names). -/

/-- **`TokenBucket.put` and a round of `TokenBucket.run` as written in the source are the model's `admitPkt`, `onResume`,
`onFire`, `onDone`**: refill `min(bucket_size, level + rate·Δt/8)`, the test `size > level`, the token wait
`(size − level)·8/rate`, the debits, the peak-rate spacing `size·8/peak` iff `peak` is truthy, `out.put` and the counter. -/
theorem tb_generated_eq_model (c : TbCfg ℚ) (d : TbSt ℚ) (puts outs ya : Nat) (ydt now x y : ℚ) (w k : Nat) (p : Pkt ℚ) :
    Gen.TokenBucket.put (GenBucket.tbObj c d puts outs ya ydt) =
      GenBucket.tbObj c (TokenBucket.admitPkt d now w p).1 (puts + 1) outs ya ydt ∧
    (d.tokWait = false →
      some (Gen.TokenBucket.run_resume (GenBucket.tbObj c d puts outs ya ydt) now p.size) =
        GenBucket.tbAfter c (TokenBucket.onResume c d now x y p) puts outs) ∧
    (d.tokWait = true →
      some (Gen.TokenBucket.run_after_1 (GenBucket.tbObj c d puts outs ya ydt) now p.size) =
        GenBucket.tbAfter c (TokenBucket.onFire c d now k p) puts outs) ∧
    (d.tokWait = false →
      some (Gen.TokenBucket.run_after_2 (GenBucket.tbObj c d puts outs ya ydt) now p.size) =
        GenBucket.tbAfter c (TokenBucket.onFire c d now k p) puts outs) := by
  refine ⟨?_, fun hw => ?_, fun hw => ?_, fun hw => ?_⟩
  · unfold Gen.TokenBucket.put TokenBucket.admitPkt GenBucket.tbObj
    simp
  · unfold Gen.TokenBucket.run_resume TokenBucket.onResume TokenBucket.refillLevel GenBucket.tbObj
    rw [show (Num.ofInt (p.size : ℤ) : ℚ) = Num.ofNat p.size from rfl]
    by_cases h : Num.pymin c.bucket (d.level + c.rate * (now - d.upd) / Num.ofNat 8) < Num.ofNat p.size
    · simp only [if_pos h]; rfl
    · simp only [if_neg h, not_true_eq_false, if_false]
      unfold TokenBucket.afterDebit TokenBucket.peakOn
      cases hp : Num.optOn c.peak with
      | none => rfl
      | some k => simp only [GenBucket.tbAfter, show (TokenBucket.debitNow (TokenBucket.refill c d now) now p).tokWait = false from hw]; rfl
  · unfold Gen.TokenBucket.run_after_1 TokenBucket.onFire TokenBucket.afterDebit TokenBucket.peakOn GenBucket.tbObj
    simp only [hw, if_true, not_true_eq_false, if_false]
    cases hp : Num.optOn c.peak <;> rfl
  · unfold Gen.TokenBucket.run_after_2 TokenBucket.onFire GenBucket.tbAfter TokenBucket.logOut TokenBucket.onDone GenBucket.tbObj
    simp [hw]

/-- **`TwoRateTokenBucket.put` and a round of `TwoRateTokenBucket.run` as written in the source are the model's `admitPkt`,
`onResume`, `onFire`, `onDone`**: both refills, `assert self.pbs` / the `TypeError` on a missing peak bucket, the colour
decision (red after the PIR wait, yellow when only the peak bucket pays, green when both pay; without PIR yellow after the
CIR wait, else green), the waits `(size − level)·8/rate`, the debits, `out.put`. -/
theorem tworate_generated_eq_model (c : TrCfg ℚ) (d : TrSt ℚ) (puts outs paints : Nat) (col : Int) (ya : Nat)
    (ydt now x y : ℚ) (w n : Nat) (p : Pkt ℚ) :
    Gen.TwoRateTokenBucket.put (GenBucket.trObj c d puts outs paints col 0 ya ydt) =
      GenBucket.trObj c (TwoRate.admitPkt d now w p).1 (puts + 1) outs paints col 0 ya ydt ∧
    GenBucket.TrAgrees c (Gen.TwoRateTokenBucket.run_resume (GenBucket.trObj c d puts outs paints col 0 ya ydt) now p.size)
      (TwoRate.onResume c d now x y p) puts outs paints col ∧
    ((TwoRate.pirOn c).isSome →
      GenBucket.TrAgrees c (Gen.TwoRateTokenBucket.run_after_1 (GenBucket.trObj c d puts outs paints col 0 ya ydt) now p.size)
        (TwoRate.onFire c d now n p) puts outs paints col) ∧
    (TwoRate.pirOn c = none →
      GenBucket.TrAgrees c (Gen.TwoRateTokenBucket.run_after_2 (GenBucket.trObj c d puts outs paints col 0 ya ydt) now p.size)
        (TwoRate.onFire c d now n p) puts outs paints col) := by
  refine ⟨?_, ?_, fun h => ?_, fun h => ?_⟩
  · unfold Gen.TwoRateTokenBucket.put TwoRate.admitPkt GenBucket.trObj
    simp
  · unfold Gen.TwoRateTokenBucket.run_resume TwoRate.onResume TwoRate.pirOn TwoRate.pbsOn GenBucket.trObj
    rw [show (Num.ofInt (p.size : ℤ) : ℚ) = Num.ofNat p.size from rfl]
    cases hpir : Num.optOn c.pir with
    | none =>
      unfold TwoRate.resumeCir TwoRate.refillLevel
      by_cases h : Num.pymin c.cbs (d.commit + c.cir * (now - d.upd) / Num.ofNat 8) < Num.ofNat p.size
      · simp only [hpir, if_pos h]
        simp only [GenBucket.TrAgrees, TwoRate.pirOn, hpir]; rfl
      · simp only [hpir, if_neg h, if_true]
        rfl
    | some k =>
      cases hpbs : Num.optOn c.pbs with
      | none => simp only [hpir, hpbs]; simp [GenBucket.TrAgrees, GenBucket.raisedCode]
      | some b =>
        cases hpk : d.peak with
        | none => simp only [hpir, hpbs]; simp [GenBucket.TrAgrees, GenBucket.raisedCode]
        | some pl =>
          unfold TwoRate.resumePir TwoRate.refillLevel
          by_cases h1 : Num.pymin b (pl + k * (now - d.upd) / Num.ofNat 8) < Num.ofNat p.size
          · simp only [hpir, hpbs, if_pos h1]
            simp only [GenBucket.TrAgrees, TwoRate.pirOn, hpir]; rfl
          · by_cases h2 : Num.pymin c.cbs (d.commit + c.cir * (now - d.upd) / Num.ofNat 8) < Num.ofNat p.size
            · simp only [hpir, hpbs, if_neg h1, if_pos h2, if_true]
              rfl
            · simp only [hpir, hpbs, if_neg h1, if_neg h2, if_true]
              rfl
  · unfold GenBucket.TrAgrees Gen.TwoRateTokenBucket.run_after_1 TwoRate.onFire
    cases hpir : TwoRate.pirOn c with
    | none => simp [hpir] at h
    | some k =>
      simp only [GenBucket.trObj]
      unfold TwoRate.fireRed TwoRate.logDebit TwoRate.paint TwoRate.onDone TwoRate.red
      simp [Num.zero]
  · unfold GenBucket.TrAgrees Gen.TwoRateTokenBucket.run_after_2 TwoRate.onFire
    simp only [h, GenBucket.trObj]
    unfold TwoRate.fireYellow TwoRate.logDebit TwoRate.paint TwoRate.onDone TwoRate.yellow
    simp [Num.zero]

/-- the translated round on a concrete bucket: rate 8, bucket 10, empty at t = 0; a 4-byte packet at t = 1 finds 1 token and
waits (4 − 1)·8/8 = 3 in yield 1 -/
example : (Gen.TokenBucket.run_resume (GenBucket.tbObj { rate := 8, bucket := 10, peak := none } { level := 0, upd := 0 } 1 0 0 0) 1 4).yield_dt = 3 ∧
    (Gen.TokenBucket.run_resume (GenBucket.tbObj { rate := 8, bucket := 10, peak := none } { level := 0, upd := 0 } 1 0 0 0) 1 4).yield_at = 1 := by
  decide +kernel

/-- the debit log (oldest first) and the departure log a token-bucket run ended with -/
def tbLogs (r : Except String (FState ℚ (TbSt ℚ) × List Nat × List Nat)) : Option (List (ℚ × ℕ) × List (ℚ × ℕ)) :=
  match r with
  | .ok (s, _, _) => some (s.dev.log.reverse, s.dev.outLog.reverse)
  | .error _ => none

/-- rate 800 bit/s = 100 byte/s, bucket 100, peak 1600 bit/s: packet 1 (100 B) at t = 0 finds the bucket full: debit at
0, out at 1/2 (peak spacing); packet 2 (150 B, larger than the bucket) reaches the head at 1/2 with 50 tokens, waits
exactly 1 s for the missing 100, debit at 3/2, out at 3/2 + 3/4. -/
def tbDemo : TbCfg ℚ := { rate := 800, bucket := 100, peak := some 1600 }

example : tbLogs (runActs (TokenBucket.dev tbDemo) (tbStart tbDemo 0)
    [.init, .put ⟨1, 0, 100, 0, 0, 0⟩, .put ⟨2, 0, 150, 0, 0, 0⟩, .handoff, .resume 0 0, .tick (1/2), .fire,
     .resume 0 0, .tick (3/2), .fire, .tick (9/4), .fire]) =
    some ([(0, 100), (3/2, 150)], [(1/2, 100), (9/4, 150)]) := by
  decide +kernel

example : TokenBucket.Good tbDemo := ⟨(by norm_num [tbDemo]), (by norm_num [tbDemo])⟩

/-- the colours and debit instants a two-rate run ended with, oldest first -/
def trLog (r : Except String (FState ℚ (TrSt ℚ) × List Nat × List Nat)) : Option (List (ℚ × ℕ × ℕ)) :=
  match r with
  | .ok (s, _, _) => some s.dev.log.reverse
  | .error _ => none

/-- CIR 800, CBS 100, PIR 1600, PBS 200; three 100-byte packets at t = 0: green (both cover), yellow (commit empty, peak
has 100), red (peak empty: waits 100·8/1600 = 1/2 s); then a fourth at t = 1/2 with the peak bucket exactly empty is
taken without failing and waits another 1/2 s. -/
def trDemo : TrCfg ℚ := { cir := 800, cbs := 100, pir := some 1600, pbs := some 200 }

example : trLog (runActs (TwoRate.dev trDemo) (trStart trDemo 0)
    [.init, .put ⟨1, 0, 100, 0, 0, 0⟩, .put ⟨2, 0, 100, 0, 0, 0⟩, .put ⟨3, 0, 100, 0, 0, 0⟩, .put ⟨4, 0, 100, 0, 0, 0⟩,
     .handoff, .resume 0 0, .resume 0 0, .resume 0 0, .tick (1/2), .fire, .resume 0 0, .tick 1, .fire]) =
    some [(0, 100, 1), (0, 100, 2), (1/2, 100, 3), (1, 100, 3)] := by
  decide +kernel

example : TwoRate.Good trDemo := by
  refine ⟨(by norm_num [trDemo]), (by norm_num [trDemo]), ?_⟩
  intro k hk
  have h1 := (Num.optOn_iff trDemo.pir k).mp hk
  have hk' : k = 1600 := by
    have := h1.1
    simp only [trDemo, Option.some.injEq] at this
    exact this.symm
  subst hk'
  exact ⟨(by norm_num), 200, (Num.optOn_iff trDemo.pbs 200).mpr ⟨rfl, (by norm_num)⟩, (by norm_num)⟩

/-- without PIR/PBS: green, then yellow after waiting for the committed tokens -/
def trDemo2 : TrCfg ℚ := { cir := 800, cbs := 100, pir := none, pbs := none }

example : trLog (runActs (TwoRate.dev trDemo2) (trStart trDemo2 0)
    [.init, .put ⟨1, 0, 100, 0, 0, 0⟩, .put ⟨2, 0, 50, 0, 0, 0⟩, .handoff, .resume 0 0, .resume 0 0, .tick (1/2), .fire]) =
    some [(0, 100, 1), (1/2, 50, 2)] := by
  decide +kernel

end C11
