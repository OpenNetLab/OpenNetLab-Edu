import OnlVerif.Lemmas.PortKRun
import OnlVerif.Lemmas.PortKRec
/-!
# C09 on the kernel: the Port *as a process on the kernel model* refines its LTS and serialises at its line rate

`OnlVerif/Net/PortOnK.lean` writes `Port.run` and a packet source (`yield env.timeout(gap); port.put(packet)` for
every arrival) as a program of the kernel model `K` (`OnlVerif/Kernel`).  Here nothing is assumed about scheduling:
`Environment.step` of the kernel model decides what runs when.  The theorems close the gap DESIGN §2.3 names
("element process on K refines its LTS"): every kernel step of this program is a (possibly empty) sequence of
actions the FifoServer LTS of the port (`OnlVerif/Net/Fifo.lean`, `Net/Port.lean`) *accepts*, so the admissibility
rules G1–G3 of the LTS are consequences of the kernel model, not assumptions, for this device.

Scope: `Port` without RED, `element_id` falsy; `qlimit` = `None` or a limit in bytes (`ql : Option Int`; the
packet-count limit reads `len(store.items)`, which no kernel call of the model exposes); every `rate` (no transmission
delay when `rate ≤ 0`); one source process with non-negative gaps (zero gaps = bursts and arrivals exactly at
departure instants are included); exact rational time; `fuel + 1` = any positive bound of the `_resume` loop.  The departure recurrence is stated for `qlimit = None`
(with a limit, which packets are accepted depends on the history); everything else holds for both.
-/

namespace C09K
open PortOnK PortK

/-- **The departure recurrence holds for the Port as a kernel process, for every workload, with no admissibility
assumption.**  For every finite arrival list with non-negative gaps, every size table and every `rate`, without a
queue limit: `run()` of the kernel model on the two spawned processes returns (agenda empty) within `4·n + 4` steps,
and the `out.put(packet)` observations of the trace are exactly `(id_k, d_k)` in arrival order with
`d_k = max(a_k, d_{k-1}) + 8·size_k/rate` (`+ 0` when `rate ≤ 0`), `a_k` = sum of the first `k + 1` gaps
(`PortOnK.departures`, spelled out by index in `departure_recurrence`). -/
theorem port_on_kernel_departures (size : Int → Nat) (rate : ℚ) (arrivals : List (ℚ × Int))
    (hg : ∀ x ∈ arrivals, 0 ≤ x.1) (fuel n : Nat) (hn : 4 * arrivals.length + 4 ≤ n) :
    ∃ sF, runAll (body size rate none) (fuel + 1) n (initState arrivals) = .returned .none sF ∧ sF.agenda = [] ∧
      outsOf sF.trace = departures size rate none 0 arrivals := by
  obtain ⟨sF, -, h1, -, h3, h4, -⟩ := run_init size rate none arrivals hg fuel n hn
  exact ⟨sF, h1, h3, h4 rfl⟩

/-- **`run()` returns, with or without a byte limit**: within `4·n + 4` steps the kernel model has run both processes
to the end without an exception leaving `step()`; the agenda and the store are empty and every arrival has been
counted in `packets_received`. -/
theorem port_on_kernel_run_returns (size : Int → Nat) (rate : ℚ) (ql : Option Int) (arrivals : List (ℚ × Int))
    (hg : ∀ x ∈ arrivals, 0 ≤ x.1) (fuel n : Nat) (hn : 4 * arrivals.length + 4 ≤ n) :
    ∃ sF, runAll (body size rate ql) (fuel + 1) n (initState arrivals) = .returned .none sF ∧ sF.agenda = [] ∧
      (sF.res storeId).items = [] ∧ (cellInt sF cReceived).toNat = arrivals.length := by
  obtain ⟨sF, aF, h1, h2, h3, -, h5, h6⟩ := run_init size rate ql arrivals hg fuel n hn
  refine ⟨sF, h1, h3, ?_, ?_⟩
  · show (sF.res 0).items = []
    rw [h2.k.res]; exact h5
  · rw [show cellInt sF cReceived = aF.recv from cellInt_of h2.k.c1, Int.toNat_natCast, ← h2.a.nput, h6, List.length_map]

/-- **What the list `departures` is** (the C09 recurrence, by index): it has one entry per arrival; entry `k` carries
the id of arrival `k` and the instant `max(a_k, d_{k-1}) + tx_k` (just `a_0 + tx_0` for `k = 0`), where `a_k` = the sum
of the first `k + 1` gaps, `d_{k-1}` = the instant of entry `k - 1`, and `tx_k = 8·size_k/rate` when `rate > 0`,
`0` otherwise (`if self.rate > 0`). -/
theorem departure_recurrence (size : Int → Nat) (rate : ℚ) (arrivals : List (ℚ × Int)) (k : Nat)
    (hk : k < arrivals.length) :
    (departures size rate none 0 arrivals).length = arrivals.length ∧
    ((departures size rate none 0 arrivals).getD k (0, 0)).1 = (arrivals.getD k (0, 0)).2 ∧
    ((departures size rate none 0 arrivals).getD k (0, 0)).2 =
      (if k = 0 then arrivalAt 0 arrivals 0
       else max (arrivalAt 0 arrivals k) ((departures size rate none 0 arrivals).getD (k - 1) (0, 0)).2) +
        (if 0 < rate then ((size (arrivals.getD k (0, 0)).2 * 8 : ℕ) : ℚ) / rate else 0) := by
  have h := departures_getD size rate arrivals none 0 k hk
  refine ⟨departures_length size rate arrivals none 0, h.1, ?_⟩
  rw [h.2]
  have htx : ∀ id, txDelay size rate id = if 0 < rate then ((size id * 8 : ℕ) : ℚ) / rate else 0 := by
    intro id; unfold txDelay txTime; rw [zero_eq']; rfl
  rw [htx]
  by_cases h0 : k = 0
  · subst h0; rfl
  · rw [if_neg h0, if_neg h0]

/-- a burst of three packets at t = 1, an arrival at t = 3 exactly when packet 2 leaves, an arrival at t = 4 exactly
when packet 3 leaves (`rate = 8`, one-byte packets: one time unit each): the kernel model runs the two processes to
the end and its trace is the recurrence -/
example : (finalState (runAll (body (fun _ => 1) (8 : ℚ) none) 1 24
      (initState [(1, 1), (0, 2), (0, 3), (2, 4), (1, 5)]))).map (fun s => (s.agenda.length, outsOf s.trace)) =
    some (0, [(1, 2), (2, 3), (3, 4), (4, 5), (5, 6)]) := by
  decide +kernel

example : departures (fun _ => 1) (8 : ℚ) none 0 [(1, 1), (0, 2), (0, 3), (2, 4), (1, 5)] =
    [(1, 2), (2, 3), (3, 4), (4, 5), (5, 6)] := by
  decide +kernel

/-- an arrival at the very instant the only packet leaves and the port falls idle (t = 1), then an idle period;
sizes 5 (odd ids) and 10 (even ids) bytes at `rate = 40` -/
example : (finalState (runAll (body (fun i => if i % 2 = 0 then 10 else 5) (40 : ℚ) none) 1 16
      (initState [(0, 1), (1, 2), (7, 3)]))).map (fun s => outsOf s.trace) =
    some (departures (fun i => if i % 2 = 0 then 10 else 5) (40 : ℚ) none 0 [(0, 1), (1, 2), (7, 3)]) := by
  decide +kernel

/-- `rate = 0`: no transmission delay, a packet leaves in the burst that takes it (a burst of three leaves at once) -/
example : (finalState (runAll (body (fun _ => 1) (0 : ℚ) none) 1 16 (initState [(1, 1), (0, 2), (0, 3), (2, 4)]))).map
    (fun s => (s.agenda.length, outsOf s.trace)) = some (0, [(1, 1), (2, 1), (3, 1), (4, 3)]) ∧
    departures (fun _ => 1) (0 : ℚ) none 0 [(1, 1), (0, 2), (0, 3), (2, 4)] = [(1, 1), (2, 1), (3, 1), (4, 3)] := by
  decide +kernel

/-- a byte limit of 2 on the burst workload (one-byte packets): the third packet of the burst is refused
(`2 + 1 > 2`), the others are accepted; all five are counted in `packets_received`, one in `packets_dropped` -/
example : (finalState (runAll (body (fun _ => 1) (8 : ℚ) (some 2)) 1 24
      (initState [(1, 1), (0, 2), (0, 3), (2, 4), (1, 5)]))).map
      (fun s => (outsOf s.trace, cellInt s cReceived, cellInt s cDropped)) =
    some ([(1, 2), (2, 3), (4, 4), (5, 5)], 5, 1) := by
  decide +kernel

/-- with one step less than `4·n + 4` the run is not finished: the bound of `port_on_kernel_departures` is exact -/
example : (finalState (runAll (body (fun _ => 1) (8 : ℚ) none) 1 11 (initState [(1, 1), (0, 2)]))).isNone = true ∧
    (finalState (runAll (body (fun _ => 1) (8 : ℚ) none) 1 12 (initState [(1, 1), (0, 2)]))).isSome = true := by
  decide +kernel

/-- **Refinement, step by step**: let `s` be reachable by kernel steps from the initial state and let the next
kernel step end in `s'`.  Then that step is a normal one (`.ok`: no exception, no stop), and there is a (possibly
empty) sequence of LTS actions that the Port LTS *accepts* from the abstraction of `s`, that ends exactly in the
abstraction of `s'` (the step commutes with `absPort`), and whose departures are exactly the `out.put` observations
the kernel step appended to the trace. -/
theorem port_on_kernel_step_refines (size : Int → Nat) (rate : ℚ) (ql : Option Int) (arrivals : List (ℚ × Int))
    (hg : ∀ x ∈ arrivals, 0 ≤ x.1) (fuel : Nat) (s s' : KState ℚ (PSt ℚ))
    (hreach : KReach (body size rate ql) (fuel + 1) (initState arrivals) s)
    (hstep : (step (body size rate ql) (fuel + 1) s).state? = some s') :
    step (body size rate ql) (fuel + 1) s = .ok s' ∧
    ∃ acts ins outs, Fifo.runActs (Port.dev (cfg rate ql)) (absPort size s) acts = .ok (absPort size s', ins, outs) ∧
      (outsOf s'.trace).map (·.1.toNat) = (outsOf s.trace).map (·.1.toNat) ++ outs := by
  obtain ⟨a, _, hi, _⟩ := reach_inv fuel hg hreach
  obtain ⟨q, rest, hp, -⟩ := step_shape _ _ _ _ hstep
  obtain ⟨s'', a', new, h1, h2, -, h4, acts, insI, -, h6⟩ := inv_step fuel hi hp
  obtain rfl := KStepChain.ok_of_state hstep h1
  refine ⟨h1, acts, insI.map Int.toNat, new.map (·.1.toNat), ?_, ?_⟩
  · rw [absPort_eq hi.k, absPort_eq h2.k]; exact h6
  · rw [h4]; simp

/-- a reachable state in the middle of a run (after 11 kernel steps of the burst workload): the abstraction function
gives an LTS state with one packet in transmission until t = 3 and one waiting, `byte_size = 2` -/
example : (match runAll (body (fun _ => 1) (8 : ℚ) none) 1 11 (initState [(1, 1), (0, 2), (0, 3), (2, 4), (1, 5)]) with
    | .outOfFuel s => some ((absPort (fun _ => 1) s).now, (absPort (fun _ => 1) s).tx.map (fun x => (x.1.id, x.2.1)),
        (absPort (fun _ => 1) s).items.map (·.id), (absPort (fun _ => 1) s).dev.byteSize)
    | _ => none) = some (2, some (2, 3), [3], 2) := by
  decide +kernel

/-- **Refinement, whole runs**: every state reachable by kernel steps is the image of an *admissible* run of the
Port LTS from its initial state: the LTS accepts some action sequence that ends in `absPort s`, in which the departed
packets are the `out.put` observations of the kernel trace, in order; the accepted packets `ins` together with
`packets_dropped` account for `packets_received`, and without a limit they are the first `packets_received`
arrivals. -/
theorem port_on_kernel_refines_lts (size : Int → Nat) (rate : ℚ) (ql : Option Int) (arrivals : List (ℚ × Int))
    (hg : ∀ x ∈ arrivals, 0 ≤ x.1) (fuel : Nat) (s : KState ℚ (PSt ℚ))
    (hreach : KReach (body size rate ql) (fuel + 1) (initState arrivals) s) :
    ∃ acts ins, Fifo.runActs (Port.dev (cfg rate ql)) (Fifo.init ({ avg := 0 } : PortSt ℚ) 0) acts =
        .ok (absPort size s, ins, (outsOf s.trace).map (·.1.toNat)) ∧
      ins.length + (cellInt s cDropped).toNat = (cellInt s cReceived).toNat ∧
      (ql = none → ins = ((arrivals.take (cellInt s cReceived).toNat).map (·.2)).map Int.toNat) := by
  obtain ⟨a, acts, hi, hrun⟩ := reach_inv fuel hg hreach
  refine ⟨acts, a.accIds.map Int.toNat, ?_, ?_, ?_⟩
  · rw [absPort_eq hi.k]; exact hrun
  · have hc1 : cellInt s cReceived = a.recv := cellInt_of hi.k.c1
    have hc4 : cellInt s cDropped = a.dropped := cellInt_of hi.k.c4
    rw [hc1, hc4, List.length_map, Int.toNat_natCast, Int.toNat_natCast]
    exact hi.a.nacc
  · intro hql
    rw [hi.a.accnone hql, putIds_eq hi]

/-- **Corollary (C09 `fifo_and_conservation` on the kernel, no limit)**: at every reachable kernel state the
packets handed to `put` so far are, in order, exactly the packets logged by `out.put` followed by the packets the
port holds (handed over / in transmission / waiting in the store): FIFO, nothing lost, nothing duplicated. -/
theorem kernel_fifo_and_conservation (size : Int → Nat) (rate : ℚ) (arrivals : List (ℚ × Int))
    (hg : ∀ x ∈ arrivals, 0 ≤ x.1) (fuel : Nat) (s : KState ℚ (PSt ℚ))
    (hreach : KReach (body size rate none) (fuel + 1) (initState arrivals) s) :
    ((arrivals.take (cellInt s cReceived).toNat).map (·.2)).map Int.toNat =
      (outsOf s.trace).map (·.1.toNat) ++ Fifo.held (absPort size s) := by
  obtain ⟨acts, ins, h, -, h3⟩ := port_on_kernel_refines_lts size rate none arrivals hg fuel s hreach
  have := (Fifo.run_conserves (Port.dev (cfg rate none)) (Port.idPreserving _) acts _ _ _ _ (Fifo.init_shape _ _) h).1
  rw [← h3 rfl]
  simpa [Fifo.init_held] using this

/-- **Corollary (C09 `byte_occupancy_eq_held` on the kernel)**: at every reachable kernel state the attribute
`byte_size` (shared cell 0) equals the bytes of the packets the port holds. -/
theorem kernel_byte_occupancy_eq_held (size : Int → Nat) (rate : ℚ) (ql : Option Int) (arrivals : List (ℚ × Int))
    (hg : ∀ x ∈ arrivals, 0 ≤ x.1) (fuel : Nat) (s : KState ℚ (PSt ℚ))
    (hreach : KReach (body size rate ql) (fuel + 1) (initState arrivals) s) :
    cellInt s cByteSize = Port.heldBytes (absPort size s) := by
  obtain ⟨acts, ins, h, -, -⟩ := port_on_kernel_refines_lts size rate ql arrivals hg fuel s hreach
  have := (Port.run_inv (cfg rate ql) acts _ _ _ _ (Port.init_inv _ 0) h).bytes
  rw [absPort_dev] at this
  exact this

/-- **Corollary (C09 `occupancy_le_byte_limit` on the kernel)**: with a byte limit `l ≥ 0` the attribute `byte_size`
never exceeds it, at any reachable kernel state. -/
theorem kernel_occupancy_le_byte_limit (size : Int → Nat) (rate : ℚ) (l : Int) (hl : 0 ≤ l)
    (arrivals : List (ℚ × Int)) (hg : ∀ x ∈ arrivals, 0 ≤ x.1) (fuel : Nat) (s : KState ℚ (PSt ℚ))
    (hreach : KReach (body size rate (some l)) (fuel + 1) (initState arrivals) s) :
    cellInt s cByteSize ≤ l := by
  obtain ⟨acts, ins, h, -, -⟩ := port_on_kernel_refines_lts size rate (some l) arrivals hg fuel s hreach
  have := (Port.run_inv (cfg rate (some l)) acts _ _ _ _ (Port.init_inv _ 0) h).limB l rfl rfl rfl hl
  rw [absPort_dev] at this
  exact this

/-- **Corollary: the clock of the kernel never passes a due transmission and never advances past pending work**:
whenever a kernel step of this program advances the clock, the LTS accepts the corresponding `tick`, hence (C09
`never_idle_with_backlog`, `departs_exactly_when_due`) no packet is handed over and unprocessed, no hand-off is
pending, and no transmission ends earlier than the new instant. -/
theorem kernel_clock_advance_is_admissible (size : Int → Nat) (rate : ℚ) (ql : Option Int) (arrivals : List (ℚ × Int))
    (hg : ∀ x ∈ arrivals, 0 ≤ x.1) (fuel : Nat) (s s' : KState ℚ (PSt ℚ))
    (hreach : KReach (body size rate ql) (fuel + 1) (initState arrivals) s)
    (hstep : (step (body size rate ql) (fuel + 1) s).state? = some s') (hadv : s.now < s'.now) :
    (absPort size s).handed = none ∧ ¬ ((absPort size s).getPending = true ∧ (absPort size s).items ≠ []) ∧
      ∀ p due k, (absPort size s).tx = some (p, due, k) → s'.now ≤ due := by
  obtain ⟨a, _, hi, _⟩ := reach_inv fuel hg hreach
  obtain ⟨q, rest, hp, -⟩ := step_shape _ _ _ _ hstep
  obtain ⟨s'', a', new, h1, h2, h3, h4, -⟩ := kstep fuel hi.k hi.a hp
  obtain rfl := KStepChain.ok_of_state hstep h1
  rw [h4] at hadv
  have := hi.a.tickOk (min_of_pop hi.k.ag hp).1 hadv
  rw [absPort_eq hi.k, h4]
  exact ⟨this.2.2.1, this.2.2.2.1, this.2.2.2.2⟩

end C09K
