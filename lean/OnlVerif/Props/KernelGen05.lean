import OnlVerif.Lemmas.GenKernelCond
/-!
# KernelGen05 - conditions *as written in the source* are the kernel model `K` (C05)

One of the bridge modules `Props/KernelGen*.lean`, one per owning property (`py2lean/SCOPE.md`): `py2lean/kernel.py`
regenerates the `Generated/Kernel*.lean` files named in the imports from `onl/sim` on every `./check` of the owning property, and the
theorems below (bridge theorems) prove that the generated definitions coincide with the functions of the hand-written kernel
model `K` (`Kernel/Agenda.lean`, `Ops.lean`, `Step.lean`) that the property theorems are about.  A flipped comparison, a changed
constant, priority or refusal, a lost or reordered effect in the source changes a generated definition and one of these proofs
no longer compiles - for every input, not for sampled ones.  Here: `evaluate`, `condCheck` (C05).

The encoding between the generated object views and the model state is explicit and hand-written
(`OnlVerif/Lemmas/GenKernelDefs.lean`: `resObj`, `runEff`, `buildEvent`, `applyTrig`, `toEntry`; the `run…` functions next to the
lemmas).  All statements hold for every scalar type `τ` (no arithmetic identity is used), in particular for `ℚ` and `Float`.
This module imports no generated file of another property.
-/

namespace KernelGen
open GenKernel
variable {τ σ : Type} [Num τ]

/-! ## conditions (C05) -/

/-- **`Condition.all_events` / `any_events` as written in the source are the model's `evaluate`**. -/
theorem evaluate_generated_eq_model (all : Bool) (n c : Nat) :
    evaluate all n c = Gen.Condition.evaluate all (n : Int) (c : Int) ∧
    evaluate true n c = Gen.Condition.all_events (n : Int) (c : Int) ∧
    evaluate false n c = Gen.Condition.any_events (n : Int) (c : Int) := by
  have h : ∀ all, evaluate all n c = Gen.Condition.evaluate all (n : Int) (c : Int) := by
    intro all
    unfold evaluate Gen.Condition.evaluate Gen.Condition.all_events Gen.Condition.any_events
    -- through `omega`, so that the orientation of `==` and the order of the disjuncts in the source do not matter
    cases all
    · simp only [Bool.false_eq_true, if_false]
      rw [Bool.eq_iff_iff]
      simp only [Bool.or_eq_true, decide_eq_true_eq, beq_iff_eq]
      omega
    · simp only [if_true]
      rw [Bool.eq_iff_iff]
      simp only [decide_eq_true_eq, beq_iff_eq]
      omega
  exact ⟨h all, h true, h false⟩

/-- **`Condition._check` as written in the source is the model's `condCheck`**: nothing once the condition is triggered;
otherwise count the operand, then either (operand failed) defuse it and fail with its exception, or (predicate holds for the
new count) succeed. -/
theorem cond_check_generated_eq_model (s : KState τ σ) (c e : EvId) :
    runCondCheck { c := c, e := e } s = some (condCheck s c e) := by
  unfold runCondCheck condCheck Gen.Condition.check
  by_cases ht : s.triggered c = true
  · rw [if_pos ht, if_pos ht]; rfl
  · rw [if_neg ht, if_neg ht]
    simp only [condObj, List.nil_append, List.cons_append]
    rw [(evaluate_generated_eq_model _ _ _).1]
    have hcast : (((s.ev c).count + 1 : Nat) : Int) = ((s.ev c).count : Int) + 1 := by omega
    rw [hcast]
    cases ho : (s.ev e).out with
    | none =>
      have hok : evOk s e = true := evOk_true s e (by intro x hx; rw [ho] at hx; cases hx)
      simp only [hok, not_true_eq_false, if_false]
      split <;> rename_i hev
      · simp only [hev, ↓reduceIte]; exact run_count_succeed s c e
      · simp only [hev]; exact run_count_only s c e
    | some o =>
      cases o with
      | ok v =>
        have hok : evOk s e = true := evOk_true s e (by intro x hx; rw [ho] at hx; cases hx)
        simp only [hok, not_true_eq_false, if_false]
        split <;> rename_i hev
        · simp only [hev, ↓reduceIte]; exact run_count_succeed s c e
        · simp only [hev]; exact run_count_only s c e
      | fail x =>
        have hok : evOk s e = false := evOk_false s e x ho
        simp only [hok, Bool.false_eq_true, not_false_eq_true, if_true]
        exact run_count_fail s c e x ho

/-! ## non-vacuity: the generated definitions on concrete objects -/

/-- `_check` of an untriggered all-of-two condition on its second successful operand succeeds; on a failed operand it
defuses and fails -/
example : (Gen.Condition.check (α := Rat) { count := 1, eff := [] } false true true 2).eff.length = 2 ∧
    (Gen.Condition.check (α := Rat) { count := 0, eff := [] } false false true 2).eff.length = 3 ∧
    (Gen.Condition.check (α := Rat) { count := 0, eff := [] } true true true 2).eff.length = 0 := by
  decide

end KernelGen
