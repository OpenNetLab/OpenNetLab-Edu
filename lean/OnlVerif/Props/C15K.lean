import OnlVerif.Lemmas.RRKFinal
import OnlVerif.Props.C12
import OnlVerif.Props.C15
/-!
# C15/C12 on the kernel: the RR scheduler *as processes on the kernel model* refines the MultiQueueServer LTS

`OnlVerif/Net/RROnK.lean` writes `MultiQueueScheduler.put`, `Scheduler.send_packet` (a child process per transmission,
joined with `yield process`), `RR.run` and a packet source as one program of the kernel model `K` (`OnlVerif/Kernel`), with
the encoding of `Net/RROnK.lean`.  Nothing is assumed about scheduling: `Environment.step` of the kernel model decides what
runs when (the `StorePut` / `StoreGet` events of the per-flow stores and of the wake-up store, the `Initialize` and `Process`
events of the sender, the timeouts of the source and of the sender).  Every kernel step of this program is a (possibly empty)
sequence of actions the MultiQueueServer LTS with the RR record (`OnlVerif/Net/MultiQueue.lean`, `Net/Sched/RR.lean`)
*accepts*, so the admissibility rules of the LTS are consequences of the kernel model, and the C12/C15 theorems hold of kernel
runs.

The `queue_count` keys.  The LTS inserts a `queue_count` key whenever its loop *reads* it (Python's `defaultdict`).  For `RR`
this is observable exactly once: the first burst of `run` precedes every `put` and reads every declared flow in declaration
order; afterwards the keys are the declared flows in that order and no scan changes them (`RR.run` iterates its own `flows`
list, not the dict).  The abstraction function `absRR` computes the key order from "has `run` started" and the `put`
observations, and the refinement theorems below show that it follows the LTS exactly, first burst included
(`Lemmas/RRKLts.lean`: `settle_scan_init`, `settle_scan`); the driver leg compares the three key orders with the real dicts.

Scope: one `RR` over the flows `0 … F-1` (`F` arbitrary) declared each once in an arbitrary order (`FlowsOK`), an `out`
attached, `rate > 0`; one source process with non-negative gaps (zero gaps = bursts, and arrivals exactly at transmission
ends, included) whose packets belong to declared flows (a packet of another flow makes `RR.run` spin for ever without yielding:
a hang, which the model reports as the exception `Hang`); exact rational time; `fuel + 1` = any positive bound of the `_resume`
loop.
-/

namespace C15K
open RROnK RRK MQ

/-- **Refinement, step by step**: let `s` be reachable by kernel steps from the initial state and let the next kernel step
end in `s'`.  Then that step is a normal one (`.ok`: no exception — in particular neither the `AssertionError` of `assert store` nor `Hang` —, no stop), and there is a
(possibly empty) sequence of LTS actions that the MultiQueueServer LTS with the RR record *accepts* from the abstraction of
`s`, that ends exactly in the abstraction of `s'` (the step commutes with the executable abstraction function `absRR`), and
in which the packets accepted / sent out are exactly the `put` / `out` observations the kernel step appended to the trace. -/
theorem rr_on_kernel_step_refines (F : Nat) (flow size : Int → Nat) (cfg : RR.Cfg ℚ) (arrivals : List (ℚ × Int))
    (hw : WorkOK flow F arrivals) (ht : FlowsOK F cfg) (hr : 0 < cfg.rate) (fuel : Nat) (s s' : KState ℚ (RrSt ℚ))
    (hreach : KReach (prog F flow size cfg) (fuel + 1) (initState F arrivals) s)
    (hstep : (step (prog F flow size cfg) (fuel + 1) s).state? = some s') :
    step (prog F flow size cfg) (fuel + 1) s = .ok s' ∧
    ∃ new acts, histOf s'.trace = histOf s.trace ++ new ∧
      runActs (RR.sched cfg) (absRR cfg.flows flow size s) acts = .ok (absRR cfg.flows flow size s', putPk flow size new, outPk flow size new) := by
  obtain ⟨a, _, hi, _⟩ := reach_lts (size := size) fuel hw ht hr hreach
  cases hp : popMin s.agenda with
  | none => simp [_root_.step, hp, StepResult.state?] at hstep
  | some qr =>
    obtain ⟨q, rest⟩ := qr
    obtain ⟨s'', a', new, h1, h2, -, -, -, h6, acts, h7⟩ := inv_step_lts (size := size) fuel hi hp
    rw [h1] at hstep
    simp only [StepResult.state?, Option.some.injEq] at hstep
    subst hstep
    exact ⟨h1, new, acts, h6, by rw [absRR_eq hi, absRR_eq h2]; exact h7⟩

/-- **Refinement, whole runs**: every state reachable by kernel steps is the image under `absRR` of an *admissible* run of
the LTS from the state of a fresh `RR`: the LTS accepts some action sequence that ends in `absRR s` and in
which the packets accepted are the `put` observations and the packets sent out the `out` observations of the kernel trace,
in order — i.e. `absRR s` is `MQ.Reached`, the hypothesis of the C12 theorems. -/
theorem rr_on_kernel_refines_lts (F : Nat) (flow size : Int → Nat) (cfg : RR.Cfg ℚ) (arrivals : List (ℚ × Int))
    (hw : WorkOK flow F arrivals) (ht : FlowsOK F cfg) (hr : 0 < cfg.rate) (fuel : Nat) (s : KState ℚ (RrSt ℚ))
    (hreach : KReach (prog F flow size cfg) (fuel + 1) (initState F arrivals) s) :
    Reached (RR.sched cfg) (RR.Pc.at 0) 0 [] (absRR cfg.flows flow size s) (putPk flow size (histOf s.trace))
      (outPk flow size (histOf s.trace)) := by
  obtain ⟨a, acts, hi, hrun⟩ := reach_lts (size := size) fuel hw ht hr hreach
  refine ⟨by intro e he; simp at he, acts, ?_⟩
  rw [absRR_eq hi]
  exact hrun

/-- **No kernel step ever crashes, and `run()` returns**: for every workload as above, every state reachable by kernel
steps is followed by a normal step or has an empty agenda, and `run()` of the kernel model returns (agenda empty, no
exception) within `10·n + 4` kernel steps, `n` = the number of packets. -/
theorem rr_on_kernel_run_returns (F : Nat) (flow size : Int → Nat) (cfg : RR.Cfg ℚ) (arrivals : List (ℚ × Int))
    (hw : WorkOK flow F arrivals) (ht : FlowsOK F cfg) (hr : 0 < cfg.rate) (fuel n : Nat)
    (hn : 10 * arrivals.length + 4 ≤ n) :
    (∀ s, KReach (prog F flow size cfg) (fuel + 1) (initState F arrivals) s →
      (∃ s', step (prog F flow size cfg) (fuel + 1) s = .ok s') ∨ step (prog F flow size cfg) (fuel + 1) s = .empty) ∧
    ∃ sF, runAll (prog F flow size cfg) (fuel + 1) n (initState F arrivals) = .returned .none sF ∧ sF.agenda = [] ∧
      KReach (prog F flow size cfg) (fuel + 1) (initState F arrivals) sF := by
  constructor
  · intro s hs
    obtain ⟨a, hi⟩ := reach_inv3 (size := size) fuel hw ht hr hs
    cases hp : popMin s.agenda with
    | none => right; simp [_root_.step, hp]
    | some qr =>
      obtain ⟨q, rest⟩ := qr
      obtain ⟨s', _, h1, _⟩ := inv3_step fuel hi hp
      exact Or.inl ⟨s', h1⟩
  · obtain ⟨sF, aF, h1, -, h3, h4⟩ := run_returns3 fuel (initState F arrivals) n _ _ (inv3_init (size := size) hw ht hr)
      (by rw [a0_mu]; omega) KReach.init
    exact ⟨sF, h1, h3, h4⟩

/-- **Work conservation on the kernel** (`C12.mq_never_idle_with_backlog`): in a state reachable by kernel steps, if the
LTS image may let the clock advance and no transmission is in progress, then `total_packets` is 0, every per-flow store is
empty and `run` holds no packet. -/
theorem kernel_never_idle_with_backlog (F : Nat) (flow size : Int → Nat) (cfg : RR.Cfg ℚ) (arrivals : List (ℚ × Int))
    (hw : WorkOK flow F arrivals) (ht : FlowsOK F cfg) (hr : 0 < cfg.rate) (fuel : Nat) (s : KState ℚ (RrSt ℚ))
    (hreach : KReach (prog F flow size cfg) (fuel + 1) (initState F arrivals) s) (t : ℚ)
    (htick : ∃ s' o, MQ.step (RR.sched cfg) (absRR cfg.flows flow size s) (.tick t) = .ok (s', o))
    (hidle : ∀ p d, (absRR cfg.flows flow size s).phase ≠ .sending p d) :
    total (absRR cfg.flows flow size s).queueCount = 0 ∧ inHand (absRR cfg.flows flow size s) = [] ∧
      ∀ c, storeOf (absRR cfg.flows flow size s).stores c = [] := by
  have := C12.mq_never_idle_with_backlog (RR.sched cfg) (RR.lawful cfg) (RR.Pc.at 0) 0 [] _ _ _
    (rr_on_kernel_refines_lts F flow size cfg arrivals hw ht hr fuel s hreach) t htick hidle
  exact ⟨this.1, this.2.1, this.2.2.1⟩

/-- **Per-flow FIFO and conservation on the kernel** (`C12.mq_flow_fifo`): at every state reachable by kernel steps the
packets of flow `f` handed to `put` so far are, in order, those of `f` handed to `out.put` followed by those of `f` still
held (in transmission, then waiting in `stores[f]`). -/
theorem kernel_flow_fifo (F : Nat) (flow size : Int → Nat) (cfg : RR.Cfg ℚ) (arrivals : List (ℚ × Int))
    (hw : WorkOK flow F arrivals) (ht : FlowsOK F cfg) (hr : 0 < cfg.rate) (fuel : Nat) (s : KState ℚ (RrSt ℚ))
    (hreach : KReach (prog F flow size cfg) (fuel + 1) (initState F arrivals) s) (f : Nat) :
    ofFlow f (putPk flow size (histOf s.trace)) =
      ofFlow f (outPk flow size (histOf s.trace)) ++ ofFlow f (heldC (RR.sched cfg) (absRR cfg.flows flow size s) f) :=
  C12.mq_flow_fifo (RR.sched cfg) (RR.lawful cfg) (RR.Pc.at 0) 0 [] _ _ _
    (rr_on_kernel_refines_lts F flow size cfg arrivals hw ht hr fuel s hreach) f f rfl

/-- **The counters are exact on the kernel** (`C12.mq_counters_eq`): `queue_count[f]`, `queue_byte_size[f]` and
`total_packets`, read from the attribute cells of a reachable kernel state, equal the number / bytes of the packets held. -/
theorem kernel_counters_eq (F : Nat) (flow size : Int → Nat) (cfg : RR.Cfg ℚ) (arrivals : List (ℚ × Int))
    (hw : WorkOK flow F arrivals) (ht : FlowsOK F cfg) (hr : 0 < cfg.rate) (fuel : Nat) (s : KState ℚ (RrSt ℚ))
    (hreach : KReach (prog F flow size cfg) (fuel + 1) (initState F arrivals) s) (f : Nat) :
    cnt (absRR cfg.flows flow size s).queueCount f = W (one f) (absRR cfg.flows flow size s) ∧
    cnt (absRR cfg.flows flow size s).queueBytes f = W (bytesOf f) (absRR cfg.flows flow size s) ∧
    total (absRR cfg.flows flow size s).queueCount = W (fun _ => 1) (absRR cfg.flows flow size s) :=
  C12.mq_counters_eq (RR.sched cfg) (RR.lawful cfg) (RR.Pc.at 0) 0 [] _ _ _
    (rr_on_kernel_refines_lts F flow size cfg arrivals hw ht hr fuel s hreach) f

/-- **What the oracle accepts** (`RROnK.ostep` at exact rational time, spelled out).  A `serve id t` observation is accepted
in oracle state `o` iff nothing is in transmission, `id` is the oldest waiting packet of its flow, its flow is entry `j` of
`flows` and every waiting packet of an entry the cyclic order visits before `j` — from the cursor (the entry behind the one
served last) up to `j`, wrapping at the end of `flows` — was put at an instant `≥ t` (none waits from an earlier instant), and
`t` is the instant of the last departure or the instant at which every waiting packet was put; the cursor then is `j + 1`.
An `out id t` observation is accepted iff `id` is in transmission since `s` and `t = s + 8·size/rate`. -/
theorem oracle_accepts_iff (F : Nat) (flow size : Int → Nat) (cfg : RR.Cfg ℚ) (o : OSt ℚ) (id : Int) (t : ℚ) :
    ((ostep F flow size cfg o (.serve id t)).isSome ↔
      o.busy = none ∧ (∃ tp rest, o.waiting (flow id) = (id, tp) :: rest) ∧
      (cfg.flows.idxOf (flow id) < cfg.flows.length ∧
        ∀ j' ∈ skipped cfg.flows.length o.cursor (cfg.flows.idxOf (flow id)), ∀ x ∈ o.waiting (cfg.flows.getD j' 0), t ≤ x.2) ∧
      (o.lastOut = some t ∨ ∀ f, f < F → ∀ x ∈ o.waiting f, x.2 = t)) ∧
    (∀ o', ostep F flow size cfg o (.serve id t) = some o' → o'.cursor = cfg.flows.idxOf (flow id) + 1 ∧ o'.busy = some (id, t)) ∧
    ((ostep F flow size cfg o (.out id t)).isSome ↔ ∃ s, o.busy = some (id, s) ∧ t = s + (size id * 8 : ℕ) / cfg.rate) := by
  refine ⟨?_, ?_, ?_⟩
  · simp only [ostep]
    split
    · rename_i h
      simp only [Option.isSome_some, true_iff]
      obtain ⟨h1, h2, ⟨h3, h3'⟩, h4⟩ := h
      refine ⟨by cases hb : o.busy <;> simp_all, ?_, ⟨h3, ?_⟩, ?_⟩
      · cases hw : o.waiting (flow id) with
        | nil => simp [hw] at h2
        | cons x r =>
          simp only [hw, List.head?_cons, Option.map_some, Option.some.injEq] at h2
          exact ⟨x.2, r, by rw [← h2]⟩
      · intro j' hj' x hx
        exact not_lt.mp (h3' j' hj' x hx)
      · rcases h4 with h4 | h4
        · left
          cases hl : o.lastOut with
          | none => simp [hl, lastIs] at h4
          | some d => simp only [hl, lastIs] at h4; rw [(eqT_iff _ _).mp h4]
        · right
          intro f hf x hx
          exact (eqT_iff _ _).mp (h4 f (List.mem_range.mpr hf) x hx)
    · rename_i h
      simp only [Option.isSome_none, Bool.false_eq_true, false_iff]
      rintro ⟨h1, ⟨tp, r, h2⟩, ⟨h3, h3'⟩, h4⟩
      apply h
      refine ⟨by simp [h1], by simp [h2], ⟨h3, fun j' hj' x hx => not_lt.mpr (h3' j' hj' x hx)⟩, ?_⟩
      rcases h4 with h4 | h4
      · left; rw [h4]; exact (eqT_iff _ _).mpr rfl
      · right; intro f hf x hx; exact (eqT_iff _ _).mpr (h4 f (List.mem_range.mp hf) x hx)
  · intro o' ho'
    simp only [ostep] at ho'
    split at ho'
    · cases ho'; exact ⟨rfl, rfl⟩
    · cases ho'
  · have hiff : OutOK size cfg.rate o id t ↔ ∃ s, o.busy = some (id, s) ∧ t = s + (size id * 8 : ℕ) / cfg.rate := by
      unfold OutOK
      cases hb : o.busy with
      | none => simp
      | some x =>
        obtain ⟨id', s0⟩ := x
        simp only [eqT_iff, RROnK.txTime, Num.ofNat_rat, Option.some.injEq, Prod.mk.injEq]
        constructor
        · rintro ⟨rfl, h⟩; exact ⟨s0, ⟨rfl, rfl⟩, h⟩
        · rintro ⟨s1, ⟨rfl, rfl⟩, h⟩; exact ⟨rfl, h⟩
    simp only [ostep]
    by_cases hok : OutOK size cfg.rate o id t
    · simp only [hok, if_true, Option.isSome_some, true_iff]
      exact hiff.mp hok
    · simp only [hok, if_false, Option.isSome_none, Bool.false_eq_true, false_iff]
      exact fun h => hok (hiff.mpr h)

/-- **The history of every kernel run passes the oracle, step by step**: at every state reachable by kernel steps the
`put` / `serve` / `out` observations recorded so far are accepted by `RROnK.orun` from the empty oracle state — every service
start so far respected the cyclic visit order with one packet per visit, per-flow FIFO, one-at-a-time and work conservation,
every departure came exactly `8·size/rate` after its service start (`oracle_accepts_iff`). -/
theorem rr_on_kernel_history_accepted (F : Nat) (flow size : Int → Nat) (cfg : RR.Cfg ℚ) (arrivals : List (ℚ × Int))
    (hw : WorkOK flow F arrivals) (ht : FlowsOK F cfg) (hr : 0 < cfg.rate) (fuel : Nat) (s : KState ℚ (RrSt ℚ))
    (hreach : KReach (prog F flow size cfg) (fuel + 1) (initState F arrivals) s) :
    ∃ o, orun F flow size cfg oInit (histOf s.trace) = some o := by
  obtain ⟨a, hi⟩ := reach_inv3 (size := size) fuel hw ht hr hreach
  obtain ⟨o, ho⟩ := hi.o
  exact ⟨o, ho.run⟩

/-- **Cyclic visit order, one packet per visit, exact service times, work conservation and drain for the RR scheduler as
kernel processes (direct form, no admissibility assumption).**  For every number of flows `F`, every declaration order of
them, every `rate > 0` and every finite workload with non-negative gaps whose packets belong to these flows (bursts and
arrivals exactly at transmission ends included), `run()` of the kernel model on the spawned processes

* returns (agenda empty, no exception ever leaves `step()` — `assert store` never fails, the loop never spins) within
  `10·n + 4` kernel steps;
* has handed exactly the workload to `put`: packet `k` at the sum of the first `k + 1` gaps (`arrivalsFrom`);
* has a `put` / `serve` / `out` history that the oracle accepts (`oracle_accepts_iff`): at every service start nothing else
  was in transmission, the packet was the oldest of its flow, **its flow was the next one in the cyclic declaration order —
  from the entry behind the one served last, wrapping at the end — that had a packet waiting from an earlier instant** (empty
  classes are skipped, a class gets one packet per visit), and the service started **at the very instant the previous
  transmission ended or at the instant the waiting packets arrived** (never idle with a backlog); every packet left
  **exactly `8·size/rate`** after its service start;
* ends drained: nothing waits, nothing is in transmission, and for every flow the packets handed to `out.put` are exactly
  the packets of that flow handed to `put`, in the same order (every packet leaves once, per flow in arrival order). -/
theorem rr_on_kernel_visit_order (F : Nat) (flow size : Int → Nat) (cfg : RR.Cfg ℚ) (arrivals : List (ℚ × Int))
    (hw : WorkOK flow F arrivals) (ht : FlowsOK F cfg) (hr : 0 < cfg.rate) (fuel n : Nat)
    (hn : 10 * arrivals.length + 4 ≤ n) :
    ∃ sF o, runAll (prog F flow size cfg) (fuel + 1) n (initState F arrivals) = .returned .none sF ∧ sF.agenda = [] ∧
      obsPuts (histOf sF.trace) = arrivalsFrom 0 arrivals ∧
      orun F flow size cfg oInit (histOf sF.trace) = some o ∧ drained F o = true ∧
      ∀ f, ofFlow f (outPk flow size (histOf sF.trace)) = ofFlow f (putPk flow size (histOf sF.trace)) := by
  obtain ⟨sF, aF, h1, h2, h3, h4⟩ := run_returns3 fuel (initState F arrivals) n _ _
    (inv3_init (size := size) hw ht hr) (by rw [a0_mu]; omega) KReach.init
  obtain ⟨o, g1, g2, g3, g4⟩ := inv3_final h2 h3
  refine ⟨sF, o, h1, h3, g3, g1, g2, ?_⟩
  intro f
  have := kernel_flow_fifo F flow size cfg arrivals hw ht hr fuel sF h4 f
  rw [absRR_eq h2.i, g4 f] at this
  simpa [ofFlow] using this.symm

/-- **The cyclic visit order at the decision burst, on kernel states**: let `s` be reachable by kernel steps and let the next
kernel step be one in which `run` takes a packet (the abstraction of the state after it has `run` holding a freshly taken
packet `p` of flow `c` at entry `j` of `flows`, the one before has not).  Then `c` is entry `j` of `flows`, `p` was the head
of `stores[c]` in `s`, and **the store of every entry the cyclic order visits before `j` — from the resume entry (the entry
behind the one just served, 0 after a wake-up), wrapping at the end of `flows` — is empty in `s`** — read from the `Store`
resources of the kernel state itself. -/
theorem rr_on_kernel_decision_cyclic (F : Nat) (flow size : Int → Nat) (cfg : RR.Cfg ℚ) (arrivals : List (ℚ × Int))
    (hw : WorkOK flow F arrivals) (ht : FlowsOK F cfg) (hr : 0 < cfg.rate) (fuel : Nat) (s s' : KState ℚ (RrSt ℚ))
    (hreach : KReach (prog F flow size cfg) (fuel + 1) (initState F arrivals) s)
    (hstep : step (prog F flow size cfg) (fuel + 1) s = .ok s') (c : Nat) (p : MPkt)
    (hpost : (absRR cfg.flows flow size s').phase = .pktHanded c p)
    (hpre : ∀ c p, (absRR cfg.flows flow size s).phase ≠ .pktHanded c p) :
    ∃ j, (absRR cfg.flows flow size s').ctl = .got j ∧ cfg.flows[j]? = some c ∧
      (∃ id is, (s.res (flowStore c)).items = id :: is ∧ p = pktOf flow size id) ∧
      ∀ j' ∈ skipped cfg.flows.length (RR.resumeIndex (absRR cfg.flows flow size s)) j, ∀ f', cfg.flows[j']? = some f' →
        (s.res (flowStore f')).items = [] := by
  obtain ⟨a, hi⟩ := reach_inv3 (size := size) fuel hw ht hr hreach
  cases hp : popMin s.agenda with
  | none => simp [_root_.step, hp] at hstep
  | some qr =>
    obtain ⟨q, rest⟩ := qr
    obtain ⟨s'', a', new, h1, h2, -, h4, -⟩ := inv_step_lts (size := size) fuel hi.i hp
    rw [h1] at hstep
    cases hstep
    rw [absRR_eq h2] at hpost ⊢
    have hpre' : ∀ g i id q0, a.run ≠ .H g i id q0 := by
      intro g i id q0 h
      exact hpre (flow id) (pktOf flow size id) (by rw [absRR_eq hi.i]; simp [toM_phase, phaseOf, h])
    have hres : RR.resumeIndex (absRR cfg.flows flow size s) = resumeAt a.run := by
      rw [absRR_eq hi.i]
      unfold RR.resumeIndex resumeAt
      cases hrun : a.run <;> simp [toM_ctl, ctlOf, hrun]
    cases hrun' : a'.run with
    | H g j id q' =>
      simp only [toM_phase, phaseOf, hrun', Phase.pktHanded.injEq] at hpost
      obtain ⟨rfl, rfl⟩ := hpost
      obtain ⟨e1, ⟨is, e3⟩, e4⟩ := astep_decision hi.i.i.a h4 hrun' hpre'
      have hfid : flow id < F := (mem_flows hi.i.i.a _).mp (List.mem_of_getElem? e1)
      refine ⟨j, by simp [toM_ctl, ctlOf, hrun'], e1, ⟨id, is, by rw [hi.i.i.k.st _ hfid, e3], rfl⟩, ?_⟩
      rw [hres]
      intro j' hj' f' hf'
      have hf' : f' < F := (mem_flows hi.i.i.a _).mp (List.mem_of_getElem? hf')
      rw [hi.i.i.k.st f' hf', e4 j' hj' f' (by assumption)]
    | _ => simp [toM_phase, phaseOf, hrun'] at hpost

/-- flows 0, 1, 2 declared in the order 2, 0, 1; rate 8 (a packet of size 1 is transmitted in one time unit) -/
def cfg3 : RR.Cfg ℚ := { rate := 8, flows := [2, 0, 1] }
def flowOf (fl : List Nat) : Int → Nat := fun i => fl.getD i.toNat 0
def unit : Int → Nat := fun _ => 1

/-- what a finished run shows: entries left in the agenda, the service starts and the departures -/
def run3 (fl : List Nat) (n : Nat) (arr : List (ℚ × Int)) : Option (Nat × List (Int × ℚ) × List (Int × ℚ)) :=
  (finalState (runAll (prog 3 (flowOf fl) unit cfg3) 1 n (initState 3 arr))).map fun s =>
    (s.agenda.length, servesOf s.trace, outsOf s.trace)

/-- packets 0, 1 of flow 0, packet 2 of flow 1, packet 3 of flow 2 queued at 0; packet 4 (flow 2) and 5 (flow 1) arrive at 1 —
exactly when the first transmission ends.  The decision burst at 0 runs after the first `put` only: flow 0 (entry 1) is
served; the pass goes on with entry 2 (flow 1: packet 2), the next pass serves entry 0 (flow 2: packet 3), entry 1 (flow 0:
packet 1), entry 2 (flow 1: packet 5), and the pass after it entry 0 (flow 2: packet 4): one packet per visit, back to back,
each transmission exactly one time unit -/
example : run3 [0, 0, 1, 2, 2, 1] 80 [(0, 0), (0, 1), (0, 2), (0, 3), (1, 4), (0, 5)] =
    some (0, [(0, 0), (2, 1), (3, 2), (1, 3), (5, 4), (4, 5)], [(0, 1), (2, 2), (3, 3), (1, 4), (5, 5), (4, 6)]) := by
  decide +kernel

/-- … and every kernel step of that run (41 of them) is an action sequence the LTS accepts between the abstractions of the
two states (`refineCheck` replays the inferred actions through `MQ.step` and compares with `absRR`, the key order of
`queue_count` included) -/
example : refineCheck 3 (flowOf [0, 0, 1, 2, 2, 1]) unit cfg3 80
    (initState 3 [(0, 0), (0, 1), (0, 2), (0, 3), (1, 4), (0, 5)]) 0 = some 41 := by
  decide +kernel

/-- arrivals at 1 exactly when the transmission of packet 0 (flow 1, entry 2) ends: the pass is over, the next one starts at
the top: flow 2 (entry 0), then flow 0 (entry 1), then flow 1 -/
example : run3 [1, 0, 2, 1] 60 [(0, 0), (1, 1), (0, 2), (1, 3)] =
    some (0, [(0, 0), (2, 1), (1, 2), (3, 3)], [(0, 1), (2, 2), (1, 3), (3, 4)]) ∧
    refineCheck 3 (flowOf [1, 0, 2, 1]) unit cfg3 60 (initState 3 [(0, 0), (1, 1), (0, 2), (1, 3)]) 0 = some 29 := by
  decide +kernel

/-- idle gaps: each packet is served at its arrival instant (the wake-up token), 1→2, 6→7, 7→8 -/
example : run3 [1, 2, 0] 40 [(1, 0), (5, 1), (1, 2)] = some (0, [(0, 1), (1, 6), (2, 7)], [(0, 2), (1, 7), (2, 8)]) ∧
    refineCheck 3 (flowOf [1, 2, 0]) unit cfg3 40 (initState 3 [(1, 0), (5, 1), (1, 2)]) 0 = some 25 := by
  decide +kernel

/-- the keys of `queue_count`.  After the first kernel step (the first burst of `run`, before any `put`) the abstraction has
`run` blocked on the wake-up store and `queue_count` holds the three declared flows, in declaration order, at 0 —
`queue_byte_size` is still empty; after 13 steps (arrivals at 1, 2, 3) the sender has just been spawned for the second
packet, the keys of `queue_count` are unchanged and those of `queue_byte_size` are the flows in the order of their first
`put` -/
example : (match runAll (prog 3 (flowOf [1, 2, 0]) unit cfg3) 1 1 (initState 3 [(1, 0), (1, 1), (1, 2)]) with
    | .outOfFuel s => some (MQ.phaseName (absRR cfg3.flows (flowOf [1, 2, 0]) unit s),
        (absRR cfg3.flows (flowOf [1, 2, 0]) unit s).queueCount, (absRR cfg3.flows (flowOf [1, 2, 0]) unit s).queueBytes)
    | _ => none) = some ("W", [(2, 0), (0, 0), (1, 0)], []) := by
  decide +kernel

example : (match runAll (prog 3 (flowOf [1, 2, 0]) unit cfg3) 1 13 (initState 3 [(1, 0), (1, 1), (1, 2)]) with
    | .outOfFuel s => some (MQ.phaseName (absRR cfg3.flows (flowOf [1, 2, 0]) unit s),
        (absRR cfg3.flows (flowOf [1, 2, 0]) unit s).queueCount, (absRR cfg3.flows (flowOf [1, 2, 0]) unit s).queueBytes,
        (absRR cfg3.flows (flowOf [1, 2, 0]) unit s).now)
    | _ => none) = some ("S", [(2, 1), (0, 0), (1, 0)], [(1, 0), (2, 1)], 2) := by
  decide +kernel

/-- the hypotheses of the theorems are met by that workload (`WorkOK`, `FlowsOK`), and the history of its run is accepted by
the oracle and ends drained -/
example : WorkOK (flowOf [0, 0, 1, 2, 2, 1]) 3 [(0, 0), (0, 1), (0, 2), (0, 3), (1, 4), (0, 5)] ∧ FlowsOK 3 cfg3 := by
  refine ⟨?_, by unfold FlowsOK cfg3; decide⟩
  intro x hx
  simp only [List.mem_cons, List.not_mem_nil, or_false] at hx
  rcases hx with rfl | rfl | rfl | rfl | rfl | rfl <;> exact ⟨by norm_num, by unfold PktOK; decide⟩

example : (finalState (runAll (prog 3 (flowOf [0, 0, 1, 2, 2, 1]) unit cfg3) 1 80
      (initState 3 [(0, 0), (0, 1), (0, 2), (0, 3), (1, 4), (0, 5)]))).map
    (fun s => (orun 3 (flowOf [0, 0, 1, 2, 2, 1]) unit cfg3 oInit (histOf s.trace)).map (drained 3)) = some (some true) := by
  decide +kernel

/-- the oracle is not vacuous.  Packet 0 of flow 0 (entry 1) is in transmission 0→1 while packets of flow 1 (entry 2) and
flow 2 (entry 0) arrive at 1/2.  Serving entry 2 at 1, then entry 0 at 2 is accepted; serving entry 0 at 1 is rejected (entry
2 comes first and waits since 1/2); a second packet of flow 0 at 1 is rejected (one packet per visit: entries 2 and 0 wait); a
service that starts late (at 2, with a backlog and no departure at 2) is rejected; a departure later than
`start + 8·size/rate` is rejected. -/
example : orun 3 (flowOf [0, 1, 2]) unit cfg3 oInit
      [.put 0 0, .serve 0 0, .put 1 (1/2), .put 2 (1/2), .out 0 1, .serve 1 1, .out 1 2, .serve 2 2, .out 2 3] ≠ none ∧
    orun 3 (flowOf [0, 1, 2]) unit cfg3 oInit [.put 0 0, .serve 0 0, .put 1 (1/2), .put 2 (1/2), .out 0 1, .serve 2 1] = none ∧
    orun 3 (flowOf [0, 0, 2]) unit cfg3 oInit [.put 0 0, .serve 0 0, .put 1 (1/2), .put 2 (1/2), .out 0 1, .serve 1 1] = none ∧
    orun 3 (flowOf [0, 1, 2]) unit cfg3 oInit [.put 0 0, .serve 0 2] = none ∧
    orun 3 (flowOf [0, 1, 2]) unit cfg3 oInit [.put 0 0, .serve 0 0, .out 0 2] = none := by
  decide +kernel

end C15K
