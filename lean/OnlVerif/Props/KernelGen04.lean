import OnlVerif.Lemmas.GenKernelProc04
/-!
# KernelGen04 - `Initialize.__init__` and `Interruption.__init__` *as written in the source* are the kernel model `K` (C04)

One of the bridge modules `Props/KernelGen*.lean`, one per owning property (`py2lean/SCOPE.md`): `py2lean/kernel.py`
regenerates the `Generated/Kernel*.lean` files named in the imports from `onl/sim` on every `./check` of the owning property, and the
theorems below (bridge theorems) prove that the generated definitions coincide with the functions of the hand-written kernel
model `K` (`Kernel/Agenda.lean`, `Ops.lean`, `Step.lean`) that the property theorems are about.  A flipped comparison, a changed
constant, priority or refusal, a lost or reordered effect in the source changes a generated definition and one of these proofs
no longer compiles - for every input, not for sampled ones.  Here: the `spawn` call of `doCall`, `mkInterrupt` (C04).

The encoding between the generated object views and the model state is explicit and hand-written
(`OnlVerif/Lemmas/GenKernelDefs.lean`: `resObj`, `runEff`, `buildEvent`, `applyTrig`, `toEntry`; the `run…` functions next to the
lemmas).  All statements hold for every scalar type `τ` (no arithmetic identity is used), in particular for `ℚ` and `Float`.
This module imports no generated file of another property.
-/

namespace KernelGen
open GenKernel
variable {τ σ : Type} [Num τ]

/-! ## process start, interrupts (C04) -/

/-- **`Initialize.__init__` as written in the source is how the model's `spawn` call starts a process**: an event with the
callback `process._resume`, `_ok = True`, value `None`, scheduled `URGENT` now. -/
theorem process_start_generated_eq_model (s : KState τ σ) (self : EvId) (st : σ) :
    doCall s self (.spawn st) =
      (match buildEvent (fun _ => Cb.resume s.events.size) (Gen.Initialize.init (evObj (τ := τ))).eff {} with
       | some o =>
         let p := s.events.size
         let s1 := (s.newLabelled { kind := .proc, cbs := some [], out := none }).1
         let s2 := s1.setProc p { st, target := some (p + 1) }
         (schedAll (s2.newEv (o.toRec (.init p) .none default)).1 (p + 1) (schedOf (Gen.Initialize.init (evObj (τ := τ))).eff), .ev p)
       | none => (s, .unit)) :=
  spawn_call s self st

/-- **`Interruption.__init__` (`Process.interrupt`) as written in the source is the model's `mkInterrupt`**: refused with
`RuntimeError` for a dead target (first `raise`) and for the active process itself (second `raise`); otherwise an event with
the callback `_interrupt`, `_ok = False`, value `Interrupt(cause)`, `_defused = True`, scheduled `URGENT` now. -/
theorem interrupt_generated_eq_model (s : KState τ σ) (p : EvId) (cause : Val) :
    mkInterrupt s p cause =
      (if (Gen.Interruption.init (evObj (τ := τ)) (s.triggered p) (s.active == some p)).raised = 5 then
         (s, some (if (Gen.Interruption.init (evObj (τ := τ)) (s.triggered p) (s.active == some p)).raise_site = 1
                   then runtimeErr "terminated" else runtimeErr "self"))
       else match buildEvent (fun _ => Cb.intr s.events.size)
           (Gen.Interruption.init (evObj (τ := τ)) (s.triggered p) (s.active == some p)).eff {} with
         | some o =>
           (schedAll (s.newEv (o.toRec (.intr p) .none ⟨"Interrupt", [cause]⟩)).1 s.events.size
              (schedOf (Gen.Interruption.init (evObj (τ := τ)) (s.triggered p) (s.active == some p)).eff), none)
         | none => (s, none)) :=
  interrupt_init s p cause

/-! ## non-vacuity: the generated definitions on concrete objects -/

/-- interrupting a dead process is the first refusal, interrupting oneself the second; otherwise the event is built and scheduled -/
example : (Gen.Interruption.init (evObj (τ := Rat)) true false).raise_site = 1 ∧ (Gen.Interruption.init (evObj (τ := Rat)) false true).raise_site = 2 ∧
    (Gen.Interruption.init (evObj (τ := Rat)) false false).raised = 0 ∧ (Gen.Interruption.init (evObj (τ := Rat)) false false).eff.length = 7 := by
  decide

end KernelGen
