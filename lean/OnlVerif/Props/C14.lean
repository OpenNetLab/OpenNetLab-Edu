import OnlVerif.Lemmas.StampFairRun
import OnlVerif.Lemmas.StampVc
import OnlVerif.Lemmas.GenSched
/-!
# C14 — WFQ and VirtualClock transmit in virtual-finish-stamp order

Model: `OnlVerif/Net/StampServer.lean` (the StampServer LTS) instantiated with `OnlVerif/Net/Sched/WFQ.lean` and
`OnlVerif/Net/Sched/VC.lean`.  "For all weight / vtick tables, rates and arrival workloads" = for every
configuration record and every action sequence the LTS accepts from the initial state (`runActs … = .ok …`);
time, rates, weights and stamps are exact rationals.  The correspondence check replays the real `WFQ` / `VC`
through this LTS bit for bit.

`held s` = the packets waiting or in transmission (what `size()` / `total_packets` count): the scheduler *is empty* when
`held s = []`.  `held' s` = `held s` plus the packet whose transmission has ended in this instant but whose end the
loop has not processed yet (its class is still in `active_set` until then).
-/

namespace C14
open Stamp

/-- **WFQ stamps every arrival** — also the first of a busy period.  For every reachable state and every accepted
`put(p)`, with `k` the class of `p` and `w` its weight:
* if the scheduler is empty — no packet waiting or in transmission, `held s = []` — a new busy period starts: the new
  virtual time `V'` is 0, the finish time `Fk` the stamp builds on is 0 and the finish time of every other weighted
  class becomes 0 (this also holds in the instant in which the last transmission has just ended and the loop has not
  yet resumed);
* otherwise `V' = V + Δt / Σ_{active} w` and `Fk` is the finish time of the previous packet of class `k`;
the packet is queued under the key `(max(Fk, V') + 8·size/(rate·w), now)`, that stamp becomes the finish time of class
`k`, and `last_time = now`.  The active set over which the weights are summed is exactly the set of classes that had a
packet in the scheduler during the interval `Δt` that ends now: the classes of the packets waiting, in transmission, or
transmitted to the end in this very instant and not yet booked out (`held'`). -/
theorem wfq_stamp (c : WfqCfg ℚ) (t0 : ℚ) (as : List (StAct ℚ)) (s : WFQ.WState) (ins outs : List SPkt)
    (h : runActs (WFQ.sched c) (WFQ.start t0) as = .ok (s, ins, outs)) (p : SPkt) (s' : WFQ.WState) (o : StOut)
    (hput : step (WFQ.sched c) s (.put p) = .ok (s', o)) :
    ∃ k w Fk V', WFQ.clsOf c p.flow = some k ∧ lookup c.weights k = some w ∧
      (held s = [] → V' = 0 ∧ Fk = 0 ∧
        ∀ k' w', k' ≠ k → lookup c.weights k' = some w' → lookup s'.sch.finish k' = some 0) ∧
      (held s ≠ [] → V' = s.sch.vtime + (s.now - s.sch.lastTime) / WFQ.wSum c.weights s.sch.active ∧
        lookup s.sch.finish k = some Fk) ∧
      s'.sch.vtime = V' ∧
      lookup s'.sch.finish k = some (max Fk V' + 8 * (p.size : ℚ) / (c.rate * w)) ∧
      s'.items = s.items ++ [{ stamp := max Fk V' + 8 * (p.size : ℚ) / (c.rate * w), arr := s.now, pkt := p }] ∧
      s'.sch.lastTime = s.now ∧
      (∀ k', k' ∈ s.sch.active ↔ ∃ q ∈ held' s, WFQ.clsOf c q.flow = some k') := by
  have hw := (WFQ.run_winv c (runActs_run _ as _ _ _ _ h)).2
  have ht := step_trans _ _ _ _ _ hput
  cases ht with
  | put _ sch stamp h1 =>
    obtain ⟨k, st1, f, w, hk, ha, hf, hwt, hz, rfl, rfl⟩ := WFQ.put_spec c _ _ _ _ _ _ h1
    refine ⟨k, w, f, st1.vtime, hk, hwt, ?_, ?_, rfl, ?_, ?_, rfl, fun k' => hw.active_iff k'⟩
    · intro he
      have h0 := hw.tot.zero_iff.mpr he
      rcases WFQ.advance_spec c _ _ _ _ ha with ⟨_, rfl⟩ | ⟨hne, _⟩
      · refine ⟨by simp [WFQ.resetVtime], ?_, ?_⟩
        · simp only [WFQ.resetVtime, WFQ.lookup_zeroFinish, hwt, Option.isSome_some, if_true, Option.some.injEq] at hf
          exact hf.symm
        · intro k' w' hkk hw'
          show lookup (setKey (WFQ.zeroFinish s.sch.finish c.weights) k _) k' = some 0
          rw [lookup_setKey, if_neg hkk]
          simp [WFQ.lookup_zeroFinish, hw']
      · exact absurd h0 hne
    · intro hne
      have h0 : qcTotal s.queueCount ≠ 0 := fun hc => hne (hw.tot.zero_iff.mp hc)
      rcases WFQ.advance_spec c _ _ _ _ ha with ⟨hz0, _⟩ | ⟨_, _, _, rfl⟩
      · exact absurd hz0 h0
      · exact ⟨rfl, hf⟩
    · show lookup (setKey st1.finish k _) k = _
      rw [lookup_setKey, if_pos rfl, WFQ.stampOf_eq]
    · show s.items ++ [_] = _
      rw [WFQ.stampOf_eq]

/-- **Virtual time at a service end**: when the loop books a transmitted packet out, virtual time advances by
`Δt / Σ_{active} w`; if the scheduler is empty afterwards, virtual time and the finish time of every weighted class
are reset to 0, otherwise the finish times are untouched.  `last_time = now` in both cases. -/
theorem wfq_service_end (c : WfqCfg ℚ) (t0 : ℚ) (as : List (StAct ℚ)) (s : WFQ.WState) (ins outs : List SPkt)
    (h : runActs (WFQ.sched c) (WFQ.start t0) as = .ok (s, ins, outs)) (ch : Option Nat) (s' : WFQ.WState) (o : StOut)
    (hd : step (WFQ.sched c) s (.sendDone ch) = .ok (s', o)) :
    s'.sch.lastTime = s.now ∧
    (held' s' = [] → s'.sch.vtime = 0 ∧ ∀ k w, lookup c.weights k = some w → lookup s'.sch.finish k = some 0) ∧
    (held' s' ≠ [] → s'.sch.vtime = s.sch.vtime + (s.now - s.sch.lastTime) / WFQ.wSum c.weights s.sch.active ∧
      s'.sch.finish = s.sch.finish) := by
  have hgw := WFQ.run_winv c (runActs_run _ as _ _ _ _ h)
  have ht := step_trans _ _ _ _ _ hd
  have hw' := WFQ.step_winv hgw.1 hgw.2 ht
  obtain ⟨p, h2⟩ : ∃ p, (WFQ.sched c).onDone s.sch s.now p = .ok s'.sch := by
    cases ht with
    | doneBlock p sch _ h2 _ => exact ⟨p, h2⟩
    | doneServe p sch id it rest _ h2 _ => exact ⟨p, h2⟩
  obtain ⟨_, _, _, _, _, _, hlt, hzero, hkeep⟩ := WFQ.done_spec c _ _ _ _ h2
  refine ⟨hlt, fun he => ?_, fun hne => hkeep fun hc => hne (hw'.active_nil_iff.mp hc)⟩
  obtain ⟨hv, hf⟩ := hzero (hw'.active_nil_iff.mpr he)
  exact ⟨hv, fun k' w' hw'' => by rw [hf, WFQ.lookup_zeroFinish, hw'']; rfl⟩

/-- **Virtual time and all finish times are 0 whenever the scheduler is empty** and the loop has processed the end of
the last transmission (`held' s = []`): initially and after the service end that empties it.  (An arrival that comes
even earlier — in the instant of that last departure, before the loop has resumed — starts from 0 as well: `wfq_stamp`.) -/
theorem wfq_vtime_reset (c : WfqCfg ℚ) (t0 : ℚ) (as : List (StAct ℚ)) (s : WFQ.WState) (ins outs : List SPkt)
    (h : runActs (WFQ.sched c) (WFQ.start t0) as = .ok (s, ins, outs)) (hempty : held' s = []) :
    s.sch.vtime = 0 ∧ (∀ k F, lookup s.sch.finish k = some F → F = 0) ∧ s.sch.active = [] := by
  have hw := (WFQ.run_winv c (runActs_run _ as _ _ _ _ h)).2
  have hnil := hw.active_nil_iff.mpr hempty
  exact ⟨(hw.zero hnil).1, (hw.zero hnil).2, hnil⟩

/-- **VirtualClock stamps** with `auxVC_c := max(now, auxVC_c) + vtick_c` (in every state, for every accepted
`put`): that value is stored for the class and is the stamp under which the packet is queued, with the arrival
instant as second key component; the other classes are untouched. -/
theorem vc_stamp (c : VcCfg ℚ) (s s' : VC.VState) (p : SPkt) (o : StOut)
    (hput : step (VC.sched c) s (.put p) = .ok (s', o)) :
    ∃ k a vt, VC.clsOf c p.flow = some k ∧ lookup s.sch.aux k = some a ∧ lookup c.vticks k = some vt ∧
      lookup s'.sch.aux k = some (max s.now a + vt) ∧
      s'.items = s.items ++ [{ stamp := max s.now a + vt, arr := s.now, pkt := p }] ∧
      (∀ k', k' ≠ k → lookup s'.sch.aux k' = lookup s.sch.aux k') := by
  have ht := step_trans _ _ _ _ _ hput
  cases ht with
  | put _ sch stamp h1 =>
    obtain ⟨k, v, a, vt, hk, hv, ha, hvt, rfl, rfl⟩ := VC.put_spec c _ _ _ (qcTotal s.queueCount) _ _ h1
    refine ⟨k, a, vt, hk, ha, hvt, ?_, ?_, ?_⟩
    · show lookup (setKey s.sch.aux k _) k = _
      rw [lookup_setKey, if_pos rfl, VC.auxOf_eq]
    · show s.items ++ [_] = _
      rw [VC.auxOf_eq]
    · intro k' hk'
      show lookup (setKey s.sch.aux k _) k' = _
      rw [lookup_setKey, if_neg hk']

/-- **Each hand-off takes a waiting packet of minimal key**: whenever an accepted action hands an item to the
loop (the hand-off after an arrival, or the `get` served at once after a transmission or at start-up), that item
was in the store, every item in the store had a larger stamp or the same stamp and no earlier arrival instant,
and exactly that item is removed.  (Any scheduler record; the loop then transmits exactly that packet, C12.) -/
theorem min_stamp_service {σ : Type} (d : Sched ℚ σ) (s s' : StState ℚ σ) (a : StAct ℚ) (o : StOut)
    (hst : step d s a = .ok (s', o)) (it : Item ℚ) (h0 : s.handed = none) (h1 : s'.handed = some it) :
    ∃ pre post, s.items = pre ++ it :: post ∧ s'.items = pre ++ post ∧
      ∀ x ∈ s.items, it.stamp < x.stamp ∨ (it.stamp = x.stamp ∧ it.arr ≤ x.arr) := by
  have fin : ∀ {id it' rest}, Picked s.items id it' rest → some it' = some it →
      ∃ pre post, s.items = pre ++ it :: post ∧ rest = pre ++ post ∧
        ∀ x ∈ s.items, it.stamp < x.stamp ∨ (it.stamp = x.stamp ∧ it.arr ≤ x.arr) := by
    rintro id it' rest ⟨pre, post, hl, hr, _, hm⟩ ⟨⟩
    exact ⟨pre, post, hl, hr, fun x hx => hm.spec hx⟩
  cases step_trans d _ _ _ _ hst with
  | initServe id it' rest _ hp => exact fin hp h1
  | handoff id it' rest _ hp => exact fin hp h1
  | doneServe p sch id it' rest _ _ hp => exact fin hp h1
  | resume it' _ => cases h1
  -- no other step touches `handed`
  | initBlock | put | sendInit | sendFire | doneBlock | tick | sample => cases h0.symm.trans h1

/-- **Equal stamps never crash WFQ**: in every reachable state, for every action (arrivals of configured flows;
positive rate and weights), a failing `step` is a *rejection* of a wrong label — never the `raise` constructor.
No hypothesis excludes equal stamps or equal keys. -/
theorem no_error_on_ties (c : WfqCfg ℚ) (hp : WFQ.Pos c) (t0 : ℚ) (as : List (StAct ℚ)) (s : WFQ.WState)
    (ins outs : List SPkt) (h : runActs (WFQ.sched c) (WFQ.start t0) as = .ok (s, ins, outs)) (a : StAct ℚ)
    (hconf : ∀ p, a = .put p → ∃ k w, WFQ.clsOf c p.flow = some k ∧ lookup c.weights k = some w) (e : String) :
    step (WFQ.sched c) s a ≠ .error (.raise e) :=
  WFQ.step_no_raise hp (WFQ.run_winv c (runActs_run _ as _ _ _ _ h)).2 a hconf e

/-- **Equal stamps never crash VirtualClock** (positive rate and vticks). -/
theorem no_error_on_ties_vc (c : VcCfg ℚ) (hp : VC.Pos c) (t0 : ℚ) (as : List (StAct ℚ)) (s : VC.VState)
    (ins outs : List SPkt) (h : runActs (VC.sched c) (VC.start c t0) as = .ok (s, ins, outs)) (a : StAct ℚ)
    (hconf : ∀ p, a = .put p → ∃ k vt, VC.clsOf c p.flow = some k ∧ lookup c.vticks k = some vt) (e : String) :
    step (VC.sched c) s a ≠ .error (.raise e) :=
  VC.step_no_raise hp (VC.run_vinv c hp (runActs_run _ as _ _ _ _ h)).2 a hconf e

/-- **Any of several packets with an equal minimal key may be handed over**: the hand-off of an item whose key is
not above any key present is accepted — ties included. -/
theorem tie_choice_accepted {σ : Type} (d : Sched ℚ σ) (s : StState ℚ σ) (id : Nat) (it : Item ℚ) (rest : List (Item ℚ))
    (hg : s.getPending = true) (hfind : takeId id s.items = some (it, rest))
    (hmin : ∀ x ∈ s.items, it.stamp < x.stamp ∨ (it.stamp = x.stamp ∧ it.arr ≤ x.arr)) :
    step d s (.handoff id) = .ok ({ s with items := rest, handed := some it, getPending := false }, .nothing) := by
  have hm : IsMin it s.items := by
    intro x hx hlt
    rcases hmin x hx with h1 | ⟨h1, h2⟩
    · rcases hlt with h3 | ⟨h3, _⟩
      · exact absurd h1 (not_lt.mpr (le_of_lt h3))
      · rw [h3] at h1; exact lt_irrefl _ h1
    · rcases hlt with h3 | ⟨_, h4⟩
      · rw [h1] at h3; exact lt_irrefl _ h3
      · exact absurd h4 (not_lt.mpr h2)
  simp only [step, doHandoff, hg, if_true, pick_ok_of_min _ _ _ _ hfind hm]

/-- **Stamps are the cumulative normalised service of the class.**  Setting: the scheduler is empty (nothing waiting or
in transmission) in a reachable state `s1`; the packets `ps` (positive sizes ≤ `L`) arrive at that one instant; then any admissible continuation `as2`
without further arrivals.  Then for every class `k` that still has a packet waiting, the oldest such packet `y`
satisfies `stamp(y) · rate · w_k = (bits of class k taken out of the store so far) + 8·size(y)`, and nothing taken
so far exceeds any waiting stamp: `(bits of any class k' taken so far) ≤ stamp(y) · rate · w_k'`. -/
theorem static_backlog_stamps (c : WfqCfg ℚ) (hp : WFQ.Pos c) (t0 : ℚ) (as1 : List (StAct ℚ)) (s1 : WFQ.WState)
    (i1 o1 : List SPkt) (h1 : runActs (WFQ.sched c) (WFQ.start t0) as1 = .ok (s1, i1, o1)) (hempty : held s1 = [])
    (L : Nat) (ps : List SPkt) (hps : ∀ p ∈ ps, 0 < p.size ∧ p.size ≤ L) (as2 : List (StAct ℚ)) (hnp : WFQ.NoPut as2)
    (s : WFQ.WState) (ins outs : List SPkt)
    (h2 : runActs (WFQ.sched c) s1 (ps.map .put ++ as2) = .ok (s, ins, outs))
    (k : Nat) (w : ℚ) (hw : lookup c.weights k = some w) (hb : WFQ.Backlogged c s k) :
    ∃ y ∈ s.items, WFQ.clsOf c y.pkt.flow = some k ∧
      y.stamp * c.rate * w = WFQ.bitsOf c k (outs ++ inHand s) + 8 * (y.pkt.size : ℚ) ∧
      ∀ k' w', lookup c.weights k' = some w' → WFQ.bitsOf c k' (outs ++ inHand s) ≤ y.stamp * c.rate * w' := by
  have hgw := WFQ.run_winv c (runActs_run _ as1 _ _ _ _ h1)
  have hf := WFQ.static_run hp ps hps as2 hnp s1 s ins outs (WFQ.static_of_empty hgw.1 hgw.2 hempty) h2
  obtain ⟨y, hy, hyk, hye⟩ := WFQ.chain_head c k w _ s.items (hf.fl.chain k w hw) hb
  exact ⟨y, hy, hyk, hye, fun k' w' hw' => hf.fl.low_nil hw' hy⟩

/-- **Static backlog fairness, service completed**: in the setting of `static_backlog_stamps`, for any two classes
`i`, `j` that still have a packet waiting, the bits transmitted so far (`outs` = the departed packets), normalised by
weight, differ by at most one maximum-size packet each: `|S_i/w_i − S_j/w_j| ≤ 8L/w_i + 8L/w_j`. -/
theorem static_backlog_fair (c : WfqCfg ℚ) (hp : WFQ.Pos c) (t0 : ℚ) (as1 : List (StAct ℚ)) (s1 : WFQ.WState)
    (i1 o1 : List SPkt) (h1 : runActs (WFQ.sched c) (WFQ.start t0) as1 = .ok (s1, i1, o1)) (hempty : held s1 = [])
    (L : Nat) (ps : List SPkt) (hps : ∀ p ∈ ps, 0 < p.size ∧ p.size ≤ L) (as2 : List (StAct ℚ)) (hnp : WFQ.NoPut as2)
    (s : WFQ.WState) (ins outs : List SPkt)
    (h2 : runActs (WFQ.sched c) s1 (ps.map .put ++ as2) = .ok (s, ins, outs))
    (i j : Nat) (wi wj : ℚ) (hwi : lookup c.weights i = some wi) (hwj : lookup c.weights j = some wj)
    (hbi : WFQ.Backlogged c s i) (hbj : WFQ.Backlogged c s j) :
    |WFQ.bitsOf c i outs / wi - WFQ.bitsOf c j outs / wj| ≤ 8 * (L : ℚ) / wi + 8 * (L : ℚ) / wj := by
  have hgw := WFQ.run_winv c (runActs_run _ as1 _ _ _ _ h1)
  have hf := WFQ.static_run hp ps hps as2 hnp s1 s ins outs (WFQ.static_of_empty hgw.1 hgw.2 hempty) h2
  exact WFQ.abs_sub_le_add (WFQ.fair_completed_le hp hf i j wi wj hwi hwj hbj) (WFQ.fair_completed_le hp hf j i wj wi hwj hwi hbi)
    (hp.slack_nonneg L hwi) (hp.slack_nonneg L hwj)

/-- **Static backlog fairness, service started**: the same bound when the packet taken for transmission (handed
to the loop or in transmission) is counted as served — i.e. at the scheduler's decision points. -/
theorem static_backlog_fair_started (c : WfqCfg ℚ) (hp : WFQ.Pos c) (t0 : ℚ) (as1 : List (StAct ℚ)) (s1 : WFQ.WState)
    (i1 o1 : List SPkt) (h1 : runActs (WFQ.sched c) (WFQ.start t0) as1 = .ok (s1, i1, o1)) (hempty : held s1 = [])
    (L : Nat) (ps : List SPkt) (hps : ∀ p ∈ ps, 0 < p.size ∧ p.size ≤ L) (as2 : List (StAct ℚ)) (hnp : WFQ.NoPut as2)
    (s : WFQ.WState) (ins outs : List SPkt)
    (h2 : runActs (WFQ.sched c) s1 (ps.map .put ++ as2) = .ok (s, ins, outs))
    (i j : Nat) (wi wj : ℚ) (hwi : lookup c.weights i = some wi) (hwj : lookup c.weights j = some wj)
    (hbi : WFQ.Backlogged c s i) (hbj : WFQ.Backlogged c s j) :
    |WFQ.bitsOf c i (outs ++ inHand s) / wi - WFQ.bitsOf c j (outs ++ inHand s) / wj| ≤
      8 * (L : ℚ) / wi + 8 * (L : ℚ) / wj := by
  have hgw := WFQ.run_winv c (runActs_run _ as1 _ _ _ _ h1)
  have hf := WFQ.static_run hp ps hps as2 hnp s1 s ins outs (WFQ.static_of_empty hgw.1 hgw.2 hempty) h2
  exact WFQ.abs_sub_le_add (WFQ.fair_started_le hp hf i j wi wj hwi hwj hbj) (WFQ.fair_started_le hp hf j i wj wi hwj hwi hbi)
    (hp.slack_nonneg L hwi) (hp.slack_nonneg L hwj)

/-! ### The source, re-translated on every run, *is* the stamp model (bridge theorems)

`Generated/Sched.lean` is rewritten by `py2lean` from the current `onl/scheduler/wfq.py`, `virtual_clock.py` before
this file is compiled (the transmission delay of `Scheduler.send_packet` belongs to C12: `C12.send_delay_generated_eq_model`).  The model keeps the dicts as association lists with explicit `KeyError`s; the translated methods are
*seen from the class of the packet in hand* (`GenSched.wfqObj` / `vcObj`: that class's dict entries as scalar fields, effects
counted, the key of the stored `PriorityItem` recorded), and the loop of `update_vtime` — `for i in self.weights: if i in
self.active_set: weight_sum += self.weights[i]`, the sum in *table order* — folds over `GenSched.weightTable c st` =
`[(i in active_set, weights[i]) for i in weights]`, translating the membership test and the addition.  The model adds the
weights of the active classes in ascending class order; over exact rationals the two sums are the same number
(`GenSched.tableSum_eq_wSum`) when the table is a dict (`GenSched.KeysNodup c`: no class id is a key twice) and the model's
`active_set` is strictly ascending, which it is in every reachable state (`wfq_active_ascending_reachable`). -/

/-- **in every reachable state the model's `active_set` is strictly ascending** (the hypothesis `hs` of the two WFQ bridge
theorems below) -/
theorem wfq_active_ascending_reachable (c : WfqCfg ℚ) (t0 : ℚ) (as : List (StAct ℚ)) (s : WFQ.WState) (ins outs : List SPkt)
    (h : runActs (WFQ.sched c) (WFQ.start t0) as = .ok (s, ins, outs)) : s.sch.active.Pairwise (· < ·) :=
  (WFQ.run_winv c (runActs_run _ as _ _ _ _ h)).2.sorted

/-- **`WFQ.put` as written in the source is the model's `WFQ.put`**: whenever the model accepts `put(p)` (every lookup
hits) with new stamp state `st'` and stamp `F`, the translated method, run on the view of `st` from `p`'s class `k` (weight
`w`), ends in the view of `st'`: same virtual time, `last_time = now`, `finish_times[k] = F`, `class_count[k]` one more, one
`add_packet_to_queue`, one `active_set.add`, and one `store.put(PriorityItem((F, now), packet))`.  (A changed constant or
operator in the stamp formula, `max` ↔ `min`, a swapped reset/update branch, a missing effect, a weight sum that is not the
sum over the table entries whose class is active make this fail to compile.)  `hn`: the weight table is a dict; `hs`: see
`wfq_active_ascending_reachable`. -/
theorem wfq_put_generated_eq_model (c : WfqCfg ℚ) (st st' : WfqSt ℚ) (now : ℚ) (total : Int) (F : ℚ) (p : SPkt)
    (e1 e2 e3 : Nat) (ps pa : ℚ) (hn : GenSched.KeysNodup c) (hs : st.active.Pairwise (· < ·))
    (h : WFQ.put c st now total p = .ok (st', F)) :
    ∃ k w, lookup c.flow2class p.flow = some k ∧ lookup c.weights k = some w ∧
      Gen.WFQ.put (GenSched.wfqObj c st k w e1 e2 e3 ps pa) now total p.size (GenSched.weightTable c st) =
        GenSched.wfqObj c st' k w (e1 + 1) (e2 + 1) (e3 + 1) F now := by
  obtain ⟨k, st1, f, w, hk, ha, hf, hw, hz, hF, hst⟩ := WFQ.put_spec c st st' now total F p h
  refine ⟨k, w, hk, hw, ?_⟩
  have hadv := GenSched.advance_eq c st st1 now total k w e1 e2 e3 ps pa hn hs hw ha
  unfold Gen.WFQ.put
  simp only [hadv]
  have hFq : F = max f st1.vtime + 8 * (p.size : ℚ) / (c.rate * w) := by rw [hF, WFQ.stampOf_eq]
  subst hst
  unfold GenSched.wfqObj WFQ.commit
  simp only [lookup_setKey, if_true, Option.getD_some, hf, Num.ofInt_rat, Num.ofNat_rat', Num.pymax_eq]
  have e : max f st1.vtime + ((p.size : ℤ) : ℚ) * ((8 : ℕ) : ℚ) / (c.rate * w) = F := by
    rw [hFq]; push_cast; ring
  simp only [e]
  cases lookup st1.classCount k <;> rfl

/-- **`WFQ.update_vtime` / `reset_vtime` as written in the source are the model's `updateVtime` / `resetVtime`** (seen from
any class `k`; for the reset, a class that has a weight).  The source adds the weights of the active classes in the key order
of the weight table (`for i in self.weights: if i in self.active_set`), the model in ascending class order: the same
rational whenever the table is a dict (`hn`) and the model's active list is strictly ascending (`hs`, every reachable state:
`wfq_active_ascending_reachable`). -/
theorem wfq_vtime_generated_eq_model (c : WfqCfg ℚ) (st : WfqSt ℚ) (now : ℚ) (k : Nat) (w : ℚ) (e1 e2 e3 : Nat) (ps pa : ℚ)
    (hn : GenSched.KeysNodup c) (hs : st.active.Pairwise (· < ·)) :
    (∀ st1, WFQ.updateVtime c st now = .ok st1 →
      Gen.WFQ.update_vtime (GenSched.wfqObj c st k w e1 e2 e3 ps pa) now (GenSched.weightTable c st) =
        GenSched.wfqObj c st1 k w e1 e2 e3 ps pa) ∧
    (lookup c.weights k = some w →
      Gen.WFQ.reset_vtime (GenSched.wfqObj c st k w e1 e2 e3 ps pa) =
        GenSched.wfqObj c (WFQ.resetVtime c st) k w e1 e2 e3 ps pa) :=
  ⟨fun st1 h => GenSched.update_vtime_eq c st st1 now k w e1 e2 e3 ps pa hn hs h,
   fun hw => GenSched.reset_vtime_eq c st k w e1 e2 e3 ps pa hw⟩

/-- **`VC.put` as written in the source is the model's `VC.put`**: whenever the model accepts `put(p)` with stamp `A`, the
translated method, run on the entries `vc[k] = v`, `aux_vc[k] = a`, `vticks[k] = vt` of `p`'s class, leaves exactly the
entries of the model's new state and stores `PriorityItem((A, now), packet)` once. -/
theorem vc_put_generated_eq_model (c : VcCfg ℚ) (st st' : VcSt ℚ) (now : ℚ) (total : Int) (A : ℚ) (p : SPkt)
    (e1 e3 : Nat) (ps pa : ℚ) (h : VC.put c st now total p = .ok (st', A)) :
    ∃ k v a vt v' a', lookup c.flow2class p.flow = some k ∧ lookup st.vc k = some v ∧ lookup st.aux k = some a ∧
      lookup c.vticks k = some vt ∧ lookup st'.vc k = some v' ∧ lookup st'.aux k = some a' ∧
      Gen.VC.put (GenSched.vcObj c v a vt e1 e3 ps pa) now p.size = GenSched.vcObj c v' a' vt (e1 + 1) (e3 + 1) A now := by
  obtain ⟨k, v, a, vt, hk, hv, ha, hvt, rfl, rfl⟩ := VC.put_spec c st st' now total A p h
  refine ⟨k, v, a, vt, _, _, hk, hv, ha, hvt, ?_, ?_, GenSched.vc_put_core c v a vt now p.size e1 e3 ps pa⟩
  · simp only [lookup_setKey, if_true]
  · simp only [lookup_setKey, if_true]

/-- what a run ended with: departed packet ids, the store as (packet id, stamp), virtual time -/
def wfqSummary (r : Except SErr (WFQ.WState × List SPkt × List SPkt)) : Option (List Nat × List (Nat × ℚ) × ℚ) :=
  match r with
  | .ok (s, _, outs) => some (outs.map (·.id), s.items.map (fun it => (it.pkt.id, it.stamp)), s.sch.vtime)
  | .error _ => none

/-- rate 8 bit/s, class 0 of weight 1 (flows 0 and 2), class 1 of weight 2 (flow 1) -/
def cfg : WfqCfg ℚ := { rate := 8, weights := [(0, 1), (1, 2)], flow2class := [(0, 0), (1, 1), (2, 0)] }

/-- three arrivals at t = 0 into the empty scheduler: packets 1 (class 0, 1 byte) and 2 (class 1, 2 bytes) both get
stamp 1 — an equal key `(1, 0)` —, packet 3 (class 0 via flow 2) gets 2.  The hand-off of packet 2 is accepted,
it is transmitted during [0, 2]; the next `get` is served with packet 1 (stamp 1 < 2); virtual time is then 2/3. -/
example : wfqSummary (runActs (WFQ.sched cfg) (WFQ.start 0)
    [.init none, .put ⟨1, 0, 1⟩, .put ⟨2, 1, 2⟩, .put ⟨3, 2, 1⟩, .handoff 2, .resume, .sendInit, .tick 2, .sendFire,
      .sendDone (some 1)]) = some ([2], [(3, 2)], 2 / 3) := by
  decide +kernel

/-- with the same arrivals the hand-off of packet 1 (the other packet with the minimal key) is accepted as well … -/
example : wfqSummary (runActs (WFQ.sched cfg) (WFQ.start 0)
    [.init none, .put ⟨1, 0, 1⟩, .put ⟨2, 1, 2⟩, .put ⟨3, 2, 1⟩, .handoff 1]) = some ([], [(2, 1), (3, 2)], 0) := by
  decide +kernel

/-- … while handing over packet 3 (stamp 2) is rejected: the model verifies minimality -/
example : wfqSummary (runActs (WFQ.sched cfg) (WFQ.start 0)
    [.init none, .put ⟨1, 0, 1⟩, .put ⟨2, 1, 2⟩, .put ⟨3, 2, 1⟩, .handoff 3]) = none := by
  decide +kernel

/-- a whole busy period and the reset: after the last bookkeeping burst the scheduler is empty, virtual time is 0
again, and the next arrival (t = 10) is stamped from 0: `0 + 8·1/(8·1) = 1` -/
example : wfqSummary (runActs (WFQ.sched cfg) (WFQ.start 0)
    [.init none, .put ⟨1, 0, 1⟩, .handoff 1, .resume, .sendInit, .tick 1, .sendFire, .sendDone none, .tick 10,
      .put ⟨2, 0, 1⟩]) = some ([1], [(2, 1)], 0) := by
  decide +kernel

/-- an arrival in the very instant the last transmission ended, *before* the loop has resumed (`sendDone` comes
later): nothing is waiting or in transmission, so packet 2 (class 1, 2 bytes) is stamped from 0: `0 + 8·2/(8·2) = 1`, not
from the old virtual time 1; after the loop's bookkeeping virtual time is still 0 -/
example : wfqSummary (runActs (WFQ.sched cfg) (WFQ.start 0)
    [.init none, .put ⟨1, 0, 1⟩, .handoff 1, .resume, .sendInit, .tick 1, .sendFire, .put ⟨2, 1, 2⟩]) =
      some ([1], [(2, 1)], 0) ∧
    wfqSummary (runActs (WFQ.sched cfg) (WFQ.start 0)
    [.init none, .put ⟨1, 0, 1⟩, .handoff 1, .resume, .sendInit, .tick 1, .sendFire, .put ⟨2, 1, 2⟩, .sendDone (some 2)]) =
      some ([1], [], 0) := by
  decide +kernel

/-- the hypotheses of the static-backlog theorems are satisfiable: `cfg` is positive … -/
example : WFQ.Pos cfg := by
  refine ⟨by decide +kernel, ?_⟩
  intro k w h
  simp only [cfg, lookup] at h
  split at h
  · cases h; norm_num
  · split at h
    · cases h; norm_num
    · cases h

/-- … and in the first run above, after the `sendDone`, class 0 is still backlogged (packet 3 waits) -/
example : (match runActs (WFQ.sched cfg) (WFQ.start 0)
    [.init none, .put ⟨1, 0, 1⟩, .put ⟨2, 1, 2⟩, .put ⟨3, 2, 1⟩, .handoff 2, .resume, .sendInit, .tick 2, .sendFire,
      .sendDone (some 1)] with
    | .ok (s, _, _) => s.items.map (fun it => WFQ.clsOf cfg it.pkt.flow)
    | .error _ => []) = [some 0] := by
  decide +kernel

/-- all hypotheses of `static_backlog_fair` together: `[.init none]` leaves the scheduler empty; four packets arrive at
t = 0; a continuation without arrivals (`NoPut`) is accepted; afterwards classes 0 and 1 are both still backlogged
(packets 1 and 3 of class 0 and packet 4 of class 1 wait while packet 2 is in transmission) -/
example :
    (match runActs (WFQ.sched cfg) (WFQ.start 0) [.init none] with
     | .ok (s1, _, _) =>
       (held s1,
        match runActs (WFQ.sched cfg) s1
            ([⟨1, 0, 1⟩, ⟨2, 1, 2⟩, ⟨3, 2, 1⟩, ⟨4, 1, 2⟩].map .put ++ [.handoff 2, .resume, .sendInit, .tick 1, .sample true]) with
        | .ok (s, _, outs) => some (s.items.map (fun it => WFQ.clsOf cfg it.pkt.flow), outs, inHand s)
        | .error _ => none)
     | .error _ => ([], none)) = ([], some ([some 0, some 0, some 1], [], [⟨2, 1, 2⟩])) ∧
    WFQ.NoPut ([.handoff 2, .resume, .sendInit, .tick 1, .sample true] : List (StAct ℚ)) := by
  refine ⟨by decide +kernel, ?_⟩
  intro a ha p hp
  subst hp
  simp at ha

def vcSummary (r : Except SErr (VC.VState × List SPkt × List SPkt)) : Option (List Nat × List (Nat × ℚ)) :=
  match r with
  | .ok (s, _, outs) => some (outs.map (·.id), s.items.map (fun it => (it.pkt.id, it.stamp)))
  | .error _ => none

def vcfg : VcCfg ℚ := { rate := 8, vticks := [(0, 1), (1, 1 / 2)], flow2class := [(0, 0), (1, 1)] }

/-- VirtualClock: stamps `max(now, aux) + vtick`: 1, 1/2, 1 (class 1 twice); packet 2 (stamp 1/2) goes first, and
packets 1 and 3 then tie on stamp 1 with equal arrival instants -/
example : vcSummary (runActs (VC.sched vcfg) (VC.start vcfg 0)
    [.init none, .put ⟨1, 0, 1⟩, .put ⟨2, 1, 1⟩, .put ⟨3, 1, 1⟩, .handoff 2, .resume, .sendInit, .tick 1, .sendFire,
      .sendDone (some 3)]) = some ([2], [(1, 1)]) := by
  decide +kernel

/-- the bridge hypotheses are met: the model accepts `put` of a 2-byte packet of flow 1 (class 1, weight 2) at t = 0 into the
empty WFQ scheduler with stamp 1, and the *translated* `WFQ.put`, run on the view from class 1, stores it under `(1, 0)` -/
example : (match WFQ.put cfg WFQ.init0 0 0 ⟨2, 1, 2⟩ with | .ok (_, F) => some F | .error _ => none) = some 1 ∧
    (Gen.WFQ.put (GenSched.wfqObj cfg WFQ.init0 1 2 0 0 0 0 0) 0 0 2 (GenSched.weightTable cfg WFQ.init0)).put_stamp = 1 := by
  decide +kernel

/-- a weight table whose key order is not the ascending class order, with the non-integer weights 3/5, 11/10, 7/10 -/
def tcfg : WfqCfg ℚ := { rate := 8, weights := [(2, 3 / 5), (0, 11 / 10), (1, 7 / 10)], flow2class := [(0, 0), (1, 1), (2, 2)] }

/-- the hypotheses of `wfq_vtime_generated_eq_model` are met by `tcfg` and a state in which classes 0 and 2 are active
(vtime 1, last update at t = 1): at t = 18/5 the *translated* `update_vtime` adds 3/5 (class 2, first in the table) and then
11/10 (class 0), skips class 1, and ends at `1 + (18/5 - 1) / (17/10) = 43/17` — the model, adding 11/10 then 3/5, too -/
example : GenSched.KeysNodup tcfg ∧ ([0, 2] : List Nat).Pairwise (· < ·) ∧
    GenSched.weightTable tcfg { vtime := 1, lastTime := 1, active := [0, 2] } = [(true, 3 / 5), (true, 11 / 10), (false, 7 / 10)] ∧
    (Gen.WFQ.update_vtime (GenSched.wfqObj tcfg { vtime := 1, lastTime := 1, active := [0, 2] } 0 (11 / 10) 0 0 0 0 0) (18 / 5)
      (GenSched.weightTable tcfg { vtime := 1, lastTime := 1, active := [0, 2] })).vtime = 43 / 17 ∧
    (match WFQ.updateVtime tcfg { vtime := 1, lastTime := 1, active := [0, 2] } (18 / 5) with
      | .ok st1 => some st1.vtime | .error _ => none) = some (43 / 17) := by
  unfold GenSched.KeysNodup
  decide +kernel

/-- the translated `VC.put` on the entries of class 1 of `vcfg` (vtick 1/2) at t = 0: stamp `max(0, 0) + 1/2` -/
example : (Gen.VC.put (GenSched.vcObj vcfg 0 0 (1 / 2) 0 0 0 0) 0 1).put_stamp = 1 / 2 := by
  decide +kernel

end C14
