import OnlVerif.Lemmas.RouteFatTree
import OnlVerif.Lemmas.RouteNet
import OnlVerif.Generated.Route
/-!
# C18 — demuxes, switches, hubs, splitters and fat-tree FIBs deliver to the right place

Models: `OnlVerif/Net/Route.lean` (dispatch of `FlowDemux`, `FIBDemux`, the two packet switches, `Hub`,
`Splitter`/`NSplitter`) and `OnlVerif/Net/FatTree.lean` (`FatTree(k)` as a structural graph with the constructor's node
numbering and `networkx` neighbour order, `generate_fib` as folds over an arbitrary graph).  `FlowDemux.put`, `FIBDemux.put`
and `Splitter.put` are also regenerated from the Python source on every run (`py2lean/route.py` →
`OnlVerif/Generated/Route.lean`) and proved equal to the models (`generated_dispatch_agrees`); the other models are
hand-written.  All are tied to `/repo` by the differential replay of `harness/c18.py`.

Flow ids are non-negative (`0 ≤ p.flowId`); fewer than 10000 flows (`fid < 10000`), the ACK class being `fid + 10000`.
-/

namespace C18
open Route FatTree

/-! ### the models are the source

`py2lean/route.py` regenerates `Route.Gen.FlowDemux_put`, `FIBDemux_put` and `Splitter_put` from the Python source on every run. -/

set_option linter.unusedSimpArgs false in
/-- **The definitions translated from the source of `FlowDemux.put`, `FIBDemux.put` and `Splitter.put` coincide with the
hand-written dispatch models on every input** — so the rules below are theorems about the code as it is written; an edit of
the source that changes a routing decision regenerates a different definition and this proof stops compiling. -/
theorem generated_dispatch_agrees (fresh : Nat) (p : Pkt) :
    (∀ c : FlowDemuxCfg, (Route.Gen.FlowDemux_put c p).run fresh = FlowDemux.put c p) ∧
    (∀ c : FIBDemuxCfg, (Route.Gen.FIBDemux_put c p).run fresh = FIBDemux.put c p) ∧
    (∀ c : SplitterCfg, (Route.Gen.Splitter_put c p).run fresh = .ok (Splitter.put c p fresh)) := by
  refine ⟨fun c => ?_, fun c => ?_, fun c => ?_⟩
  · unfold Route.Gen.FlowDemux_put FlowDemux.put
    by_cases h : p.flowId < (c.outs.length : Int)
    · cases hi : pyIndex c.outs p.flowId <;>
        simp [Py.Eff.run, Py.Eff.seq, Py.Eff.bind, Py.Eff.skip, Py.Eff.pure, Py.Eff.index, Py.Eff.put, Py.Eff.raise, Py.pyLen, h, hi]
    · cases hd : c.default <;>
        simp [Py.Eff.run, Py.Eff.seq, Py.Eff.bind, Py.Eff.skip, Py.Eff.pure, Py.Eff.putOpt, Py.Eff.put, Py.Eff.raise, Py.pyLen, h, hd, Py.truthyOpt, toDefault]
  · unfold Route.Gen.FIBDemux_put FIBDemux.put
    cases hf : c.fib with
    | none => simp [Py.Eff.run, Py.Eff.seq, Py.Eff.bind, Py.Eff.raise]
    | some fib =>
      cases he : dget c.ends p.flowId with
      | some d =>
        simp [Py.Eff.run, Py.Eff.seq, Py.Eff.bind, Py.Eff.skip, Py.Eff.pure, Py.Eff.item, Py.Eff.put, Py.pyIn, he]
      | none =>
        unfold FIBDemux.viaTable
        cases ho : c.outs with
        | none =>
          cases hd : c.default <;>
            simp [Py.Eff.run, Py.Eff.seq, Py.Eff.bind, Py.Eff.skip, Py.Eff.pure, Py.Eff.tryCatch, Py.Eff.raise, Py.Eff.putOpt, Py.Eff.put, Py.pyIn, he, hd,
              Py.truthyOptList, Py.truthyOpt, toDefault]
        | some outs =>
          cases outs with
          | nil =>
            cases hd : c.default <;>
              simp [Py.Eff.run, Py.Eff.seq, Py.Eff.bind, Py.Eff.skip, Py.Eff.pure, Py.Eff.tryCatch, Py.Eff.raise, Py.Eff.putOpt, Py.Eff.put, Py.pyIn, he, hd,
                Py.truthyOptList, Py.truthyOpt, toDefault]
          | cons o os =>
            unfold FIBDemux.lookup
            cases hp : dget fib p.flowId with
            | none =>
              cases hd : c.default <;>
                simp [Py.Eff.run, Py.Eff.seq, Py.Eff.bind, Py.Eff.skip, Py.Eff.pure, Py.Eff.tryCatch, Py.Eff.raise, Py.Eff.itemOpt, Py.Eff.item,
                  Py.Eff.putOpt, Py.Eff.put, Py.pyIn, he, hp, hd, Py.truthyOptList, Py.truthyOpt, toDefault]
            | some port =>
              cases hi : pyIndex (o :: os) port with
              | none =>
                cases hd : c.default <;>
                  simp [Py.Eff.run, Py.Eff.seq, Py.Eff.bind, Py.Eff.skip, Py.Eff.pure, Py.Eff.tryCatch, Py.Eff.raise, Py.Eff.itemOpt, Py.Eff.item,
                    Py.Eff.indexOpt, Py.Eff.index, Py.Eff.putOpt, Py.Eff.put, Py.pyIn, he, hp, hi, hd, Py.truthyOptList, Py.truthyOpt, toDefault]
              | some d =>
                simp [Py.Eff.run, Py.Eff.seq, Py.Eff.bind, Py.Eff.skip, Py.Eff.pure, Py.Eff.tryCatch, Py.Eff.raise, Py.Eff.itemOpt, Py.Eff.item,
                  Py.Eff.indexOpt, Py.Eff.index, Py.Eff.putOpt, Py.Eff.put, Py.pyIn, he, hp, hi, Py.truthyOptList]
  · unfold Route.Gen.Splitter_put Splitter.put
    cases h1 : c.out1 <;> cases h2 : c.out2 <;>
      simp [Py.Eff.run, Py.Eff.seq, Py.Eff.bind, Py.Eff.skip, Py.Eff.pure, Py.Eff.putOpt, Py.Eff.put, Py.Eff.copy, Py.truthyOpt, giveOriginal, giveCopies]

/-! ### FlowDemux -/

/-- **FlowDemux hands a packet of flow `f` to output `f`, else to the default output, else nowhere** — and it is the
object that was put. -/
theorem flowdemux_rule (c : FlowDemuxCfg) (p : Pkt) (hf : 0 ≤ p.flowId) :
    FlowDemux.put c p = .ok (match c.outs[p.flowId.toNat]? with
      | some d => [(d, p.ref)]
      | none =>
        match c.default with
        | some d => [(d, p.ref)]
        | none => []) :=
  FlowDemux.put_of_nonneg c p hf

/-! ### FIBDemux -/

/-- **FIBDemux: the flow's end device if registered; otherwise the output the table names; otherwise (unknown flow) the
default output, else nowhere; at most one output gets the packet.**  This holds for every output list, `None` and the
empty list included: without output devices every flow that has no end device is an unknown flow. -/
theorem fibdemux_rule (c : FIBDemuxCfg) (fib : List (Int × Int)) (p : Pkt) (hfib : c.fib = some fib) :
    (∀ d, dget c.ends p.flowId = some d → FIBDemux.put c p = .ok [(d, p.ref)]) ∧
    (dget c.ends p.flowId = none →
      (∀ outs port d, c.outs = some outs → dget fib p.flowId = some port → 0 ≤ port → outs[port.toNat]? = some d →
        FIBDemux.put c p = .ok [(d, p.ref)]) ∧
      (dget fib p.flowId = none →
        FIBDemux.put c p = .ok (match c.default with
          | some d => [(d, p.ref)]
          | none => [])) ∧
      ((c.outs = none ∨ c.outs = some []) →
        FIBDemux.put c p = .ok (match c.default with
          | some d => [(d, p.ref)]
          | none => []))) ∧
    (∀ l, FIBDemux.put c p = .ok l → l.length ≤ 1 ∧ ∀ x ∈ l, x.2 = p.ref) := by
  refine ⟨fun d hd => FIBDemux.put_end c fib p d hfib hd, ?_, fun l h => FIBDemux.put_atMostOne c p l h⟩
  intro hends
  exact ⟨fun outs port d houts hport h0 hd => FIBDemux.put_table c fib p outs port d hfib houts hends hport h0 hd,
    fun hnone => FIBDemux.put_unknown c fib p hfib hends hnone,
    fun houts => FIBDemux.put_noOutputs c fib p hfib hends houts⟩

/-- **The empty table is a valid table**: every flow without an end device is unknown and goes to the default output
(else nowhere), whatever the output list. -/
theorem fibdemux_empty_table (c : FIBDemuxCfg) (p : Pkt) (hfib : c.fib = some []) (hends : dget c.ends p.flowId = none) :
    FIBDemux.put c p = .ok (match c.default with
      | some d => [(d, p.ref)]
      | none => []) :=
  ((fibdemux_rule c [] p hfib).2.1 hends).2.1 rfl

/-! ### the packet switches -/

/-- **SimplePacketSwitch and FairPacketSwitch route by exactly these rules, every packet reaching exactly one output**
(output `i` of a switch with `n` ports is its `i`-th egress; a packet whose flow the rules send nowhere reaches none). -/
theorem switch_one_output (n : Nat) (p : Pkt) (hf : 0 ≤ p.flowId) :
    FlowDemux.put (SimplePacketSwitch.mk n) p
      = .ok (if p.flowId.toNat < n then [(p.flowId.toNat, p.ref)] else []) ∧
    ∀ (server : String) (c0 : FIBDemuxCfg) (fib : List (Int × Int)) (ends : List (Int × Dev)),
      FairPacketSwitch.mk n server = .ok c0 →
      let c := ends.foldl (fun c (fd : Int × Dev) => c.setEnd fd.1 fd.2) (c0.setFib fib)
      (∀ l, FIBDemux.put c p = .ok l → l.length ≤ 1) ∧
      (∀ d, dget c.ends p.flowId = some d → FIBDemux.put c p = .ok [(d, p.ref)]) ∧
      (dget c.ends p.flowId = none → ∀ port : Int, dget fib p.flowId = some port → 0 ≤ port → port.toNat < n →
        FIBDemux.put c p = .ok [(port.toNat, p.ref)]) := by
  constructor
  · rw [flowdemux_rule _ _ hf]
    simp only [SimplePacketSwitch.mk]
    by_cases h : p.flowId.toNat < n
    · simp [h]
    · simp [h]
  · intro server c0 fib ends hmk c
    obtain ⟨houts, hdef, _, _⟩ := FairPacketSwitch.mk_ok n server c0 hmk
    obtain ⟨so, sd, sf⟩ := setEnds_static ends (c0.setFib fib)
    have hfib : c.fib = some fib := sf
    have houts' : c.outs = some (List.range n) := so.trans houts
    have rule := fibdemux_rule c fib p hfib
    refine ⟨fun l h => (rule.2.2 l h).1, rule.1, ?_⟩
    intro hends port hport h0 hlt
    exact (rule.2.1 hends).1 _ port port.toNat houts' hport h0 (by simp [hlt])

/-! ### Hub -/

/-- **A Hub repeats a packet to every attached endpoint except its sender, through the endpoint's port device when one
was given**: the deliveries are, in endpoint order, one per endpoint whose `element_id` differs from `packet.src`; when
the output devices are pairwise different, each such endpoint is served exactly once and no sender is served. -/
theorem hub_rule (c : HubCfg) (p : Pkt) :
    Hub.put c p = (c.filter fun e => e.eid ≠ p.src).map (fun e => (e.out, p.ref)) ∧
    (∀ e : HubEndpoint, (∀ q, e.port = some q → e.out = q) ∧ (e.port = none → e.out = e.dev)) ∧
    ((c.map HubEndpoint.out).Nodup →
      ((Hub.put c p).map (·.1)).Nodup ∧ ∀ e ∈ c, (e.eid ≠ p.src ↔ (e.out, p.ref) ∈ Hub.put c p)) := by
  refine ⟨Hub.put_eq c p, ?_, ?_⟩
  · intro e
    constructor
    · intro q h; simp [HubEndpoint.out, h]
    · intro h; simp [HubEndpoint.out, h]
  · intro hn
    rw [Hub.put_eq]
    constructor
    · rw [List.map_map]
      exact List.Nodup.sublist (List.Sublist.map _ List.filter_sublist) hn
    · intro e he
      simp only [List.mem_map, List.mem_filter, decide_eq_true_eq, Prod.mk.injEq, and_true]
      constructor
      · intro hne; exact ⟨e, ⟨he, hne⟩, rfl⟩
      · rintro ⟨e', ⟨he', hne⟩, ho⟩
        have : e' = e := List.inj_on_of_nodup_map hn he' he ho
        exact this ▸ hne

/-- **A Hub can be built from endpoints alone, or with one optional port device per endpoint**: the `j`-th endpoint is
attached with the `j`-th port device (none when no port list was given). -/
theorem hub_constructor (eps : List (Nat × Dev)) (ports : List (Option Dev))
    (h : ports = [] ∨ ports.length = eps.length) :
    ∃ c, Hub.mk eps ports = .ok c ∧ c.length = eps.length ∧
      ∀ (j : Nat) (e : Nat × Dev), eps[j]? = some e → ∃ ep : HubEndpoint, c[j]? = some ep ∧ ep.eid = e.1 ∧ ep.dev = e.2 ∧
        (ports = [] → ep.port = none) ∧ (∀ q, ports[j]? = some q → ep.port = q) := by
  refine ⟨(eps.zipIdx 0).map fun x => { eid := x.1.1, dev := x.1.2, port := Hub.portAt ports x.2 }, ?_, by simp, ?_⟩
  · unfold Hub.mk
    have : ¬ (¬ ports = [] ∧ ports.length ≠ eps.length) := by
      rcases h with h | h
      · simp [h]
      · simp [h]
    rw [if_neg this, Hub.addAll_eq, List.nil_append]
  · intro j e he
    refine ⟨{ eid := e.1, dev := e.2, port := Hub.portAt ports j }, by simp [he], rfl, rfl, ?_, ?_⟩
    · intro hp; simp [Hub.portAt, hp]
    · intro q hq; simp [Hub.portAt, hq]

/-! ### Splitter / NSplitter -/

/-- **A splitter gives the original to its first output and a separate copy, whose header fields can be changed
independently, to each other output**: with outputs `o :: rest` (unset ones skipped) the first output, if set, receives the
object that was put; every other set output receives exactly one object, in order; those objects are copies of the same
packet, all different from the original and from each other.  On the heap (the entering packet owning its `perhop_time` and
`priorities` tables): right after the dispatch each delivered object carries the original's field values and tables with
the original's contents; and for two different delivered objects, rebinding a field of one, or writing **in place** into
one of its tables, changes neither the fields nor the tables seen through the other. -/
theorem splitter_rule (o : Option Dev) (rest : List (Option Dev)) (p : Pkt) (fresh : Nat) (hf : p.ref.copy < fresh) :
    ∃ cs : List Delivery,
      NSplitter.put (o :: rest) p fresh = .ok ((match o with | some d => [(d, p.ref)] | none => []) ++ cs) ∧
      cs.map (·.1) = rest.filterMap id ∧
      (∀ x ∈ cs, x.2 ≠ p.ref ∧ x.2.id = p.ref.id) ∧
      (∀ l, NSplitter.put (o :: rest) p fresh = .ok l →
        (l.map (·.2)).Nodup ∧
        ∀ (h : Heap) (ob : Obj), h.objs p.ref = some ob → (∀ w, ob.tab w = (p.ref, w)) →
          (∀ x ∈ l, (∀ f, (splitHeap h p.ref l).readField x.2 f = h.readField p.ref f) ∧
            ∀ w k, (splitHeap h p.ref l).readTab x.2 w k = h.readTab p.ref w k) ∧
          (∀ x ∈ l, ∀ y ∈ l, x.2 ≠ y.2 →
            (∀ f v g, ((splitHeap h p.ref l).setField x.2 f v).readField y.2 g = (splitHeap h p.ref l).readField y.2 g) ∧
            (∀ f v w k, ((splitHeap h p.ref l).setField x.2 f v).readTab y.2 w k = (splitHeap h p.ref l).readTab y.2 w k) ∧
            (∀ w k v w' k', ((splitHeap h p.ref l).tabWrite x.2 w k v).readTab y.2 w' k'
              = (splitHeap h p.ref l).readTab y.2 w' k') ∧
            (∀ w k v g, ((splitHeap h p.ref l).tabWrite x.2 w k v).readField y.2 g
              = (splitHeap h p.ref l).readField y.2 g))) := by
  refine ⟨giveCopies p.ref fresh rest, ?_, giveCopies_devs _ _ _, ?_, ?_⟩
  · cases o <;> rfl
  · intro x hx
    have := giveCopies_fresh p.ref fresh rest x hx
    refine ⟨?_, this.1⟩
    intro e
    rw [e] at this
    omega
  · intro l hl
    simp only [NSplitter.put, Except.ok.injEq] at hl
    subst hl
    have hn := split_refs_nodup o rest p fresh hf
    refine ⟨hn, ?_⟩
    intro h ob ho hown
    have spec := splitHeap_spec h p.ref ob _ ho hown hn
    refine ⟨?_, ?_⟩
    · intro x hx
      obtain ⟨s1, s2⟩ := spec x hx
      refine ⟨fun f => by simp [Heap.readField, s1, ho], fun w k => ?_⟩
      simp only [Heap.readTab, s1, ho, Option.map_some, s2, hown]
    · intro x hx y hy hne
      obtain ⟨sx, _⟩ := spec x hx
      obtain ⟨sy, _⟩ := spec y hy
      have so := Heap.setField_other (splitHeap h p.ref (giveOriginal o p ++ giveCopies p.ref fresh rest)) x.2 y.2
      refine ⟨?_, ?_, ?_, ?_⟩
      · intro f v g
        simp only [Heap.readField, (so f v (fun e => hne e.symm)).1]
      · intro f v w k
        simp only [Heap.readTab, (so f v (fun e => hne e.symm)).1, (so f v (fun e => hne e.symm)).2]
      · intro w k v w' k'
        exact (Heap.tabWrite_other _ x.2 y.2 _ _ sx sy w w' (by simp [hne]) k k' v).1
      · intro w k v g
        exact (Heap.tabWrite_other _ x.2 y.2 _ _ sx sy w w (by simp [hne]) k 0 v).2 g

/-- `Splitter` is the two-output case, and `NSplitter(N)` always has a first output slot (`N ≥ 2`). -/
theorem splitter_is_two_way (c : SplitterCfg) (p : Pkt) (fresh : Nat) :
    NSplitter.put [c.out1, c.out2] p fresh = .ok (Splitter.put c p fresh) ∧
    ∀ n outs, NSplitter.mk n = .ok outs → ∃ o rest, outs = o :: rest ∧ rest ≠ [] := by
  refine ⟨rfl, ?_⟩
  intro n outs h
  unfold NSplitter.mk at h
  split at h
  · cases h
  · rename_i hn
    cases h
    have : n.toNat = (n.toNat - 2) + 1 + 1 := by omega
    rw [this]
    exact ⟨none, List.replicate (n.toNat - 2 + 1) none, by simp [List.replicate_succ], by simp [List.replicate_succ]⟩

/-! ### FatTree(k) -/

/-- **FatTree(k) has (k/2)² core, k²/2 aggregation and k²/2 edge switches and k³/4 hosts, k/2 hosts per edge switch**, for
every even `k`; and its nodes are numbered `0, 1, 2, …` in creation order (the numbering the model's adjacency lists use). -/
theorem fattree_counts (k : Nat) (hk : k % 2 = 0) :
    (ofLayer k .core).length = (k / 2) ^ 2 ∧
    (ofLayer k .aggregation).length = k ^ 2 / 2 ∧
    (ofLayer k .edge).length = k ^ 2 / 2 ∧
    (ofLayer k .leaf).length = k ^ 3 / 4 ∧
    (∀ p j, ((nbrs k (.edge p j)).filter fun n => n.layer = .leaf).length = k / 2) ∧
    (nodes k).map (FNode.num k) = List.range ((k / 2) ^ 2 + k ^ 2 / 2 + k ^ 2 / 2 + k ^ 3 / 4) := by
  obtain ⟨h, rfl⟩ : ∃ h, k = 2 * h := ⟨k / 2, by omega⟩
  have hh : 2 * h / 2 = h := by omega
  have e2 : (2 * h) ^ 2 / 2 = 2 * h * h := by
    have : (2 * h) ^ 2 = 2 * (2 * h * h) := by ring
    rw [this, Nat.mul_div_cancel_left _ (by norm_num)]
  have e3 : (2 * h) ^ 3 / 4 = 2 * h * (h * h) := by
    have : (2 * h) ^ 3 = 4 * (2 * h * (h * h)) := by ring
    rw [this, Nat.mul_div_cancel_left _ (by norm_num)]
  refine ⟨?_, ?_, ?_, ?_, ?_, ?_⟩
  · rw [ofLayer_length]; simp only [hh]; ring
  · rw [ofLayer_length, e2]; simp only [hh]
  · rw [ofLayer_length, e2]; simp only [hh]
  · rw [ofLayer_length, e3]; simp only [hh]
  · intro p j; rw [edge_hosts]; simp [hostsOf]
  · rw [nodes_num, e2, e3]
    congr 1
    simp only [nNodes, hh]
    ring

/-- **Every switch of FatTree(k) has degree k** (for even `k`), every host degree 1. -/
theorem fattree_degree (k : Nat) (hk : k % 2 = 0) (n : FNode) :
    (n.isSwitch = true → (nbrs k n).length = k) ∧ (n.isSwitch = false → (nbrs k n).length = 1) := by
  have : k / 2 + k / 2 = k := by omega
  rw [nbrs_length]
  cases n <;> simp [FNode.isSwitch, this]

/-- **The adjacency is the standard fat tree's**: a core switch `(a, b)` is joined to aggregation switch `a` of every pod,
an aggregation switch to the `k/2` edge switches of its pod and to `k/2` core switches, an edge switch to the `k/2`
aggregation switches of its pod and to its `k/2` hosts, a host to its edge switch; neighbour lists have no duplicates, stay
inside the node set and the relation is symmetric. -/
theorem fattree_adjacency (k : Nat) (n : FNode) (hn : n.Valid k) :
    (nbrs k n).Nodup ∧ (∀ m ∈ nbrs k n, m.Valid k ∧ n ∈ nbrs k m) ∧ (n ∈ nodes k) :=
  ⟨nbrs_nodup k n, fun m hm => ⟨nbrs_valid k n hn m hm, nbrs_symm k n m hn hm⟩, (mem_nodes k n).mpr hn⟩

/-! ### generate_fib -/

/-- **`port_to_nexthop` and `nexthop_to_port` are mutually inverse on the neighbour list** (which has no duplicates):
port `p` is the `p`-th neighbour. -/
theorem ports_bijective (ns : List Nat) (hn : ns.Nodup) (p z : Nat) :
    dget (initTab ns).portToNexthop p = ns[p]? ∧
    (dget (initTab ns).portToNexthop p = some z ↔ dget (initTab ns).nexthopToPort z = some p) := by
  refine ⟨initTab_ptn ns p, ?_⟩
  rw [initTab_ptn, initTab_ntp _ _ hn, getElem?_eq_some_iff_idxOf ns hn]
  by_cases hz : z ∈ ns <;> simp [hz]

/-- **The generated tables lead hop by hop from the source to the destination along exactly the flow's path, and the ACK
class back along the reverse.**  For every graph whose neighbour lists have no duplicates and every set of flows with
distinct ids below 10000 whose paths are duplicate-free walks of the graph: `generate_fib` succeeds; the port tables are
those of the neighbour lists; for every flow, following `flow_to_nexthop[fid]` from the source visits exactly the path and
stops at the destination (no entry there); at every hop `flow_to_port[fid]` is the port of that same next hop; with `tcp`
the class `fid + 10000` walks the reversed path from the destination, with matching ports.
Entries are keyed by flow id, so flows with distinct ids do not disturb one another (`lastWrite_all`). -/
theorem fib_walk (g : Graph) (flows : List FlowRec) (tcp : Bool) (hg : GraphOK g)
    (hd : flows.Pairwise fun x y => x.fid ≠ y.fid) (hlt : ∀ fl ∈ flows, fl.fid < 10000)
    (hp : ∀ fl ∈ flows, fl.path.Nodup ∧ IsWalk g fl.path) :
    ∃ st, generateFib g flows tcp = .ok st ∧
      (∀ n q, portToNexthop st n q = portToNexthop (initTables g) n q) ∧
      (∀ n z, nexthopToPort st n z = nexthopToPort (initTables g) n z) ∧
      ∀ fl ∈ flows, ∀ src rest, fl.path = src :: rest →
        (∀ fuel, fl.path.length ≤ fuel + 1 → walk (fun n => nexthopOf st n fl.fid) fuel src = fl.path) ∧
        (∀ dst, fl.path.getLast? = some dst → nexthopOf st dst fl.fid = none) ∧
        (∀ a z, (a, z) ∈ segments fl.path →
          nexthopOf st a fl.fid = some z ∧ ∃ i, portOf st a fl.fid = some i ∧ portToNexthop st a i = some z) ∧
        (tcp = true →
          (∀ dst rest', fl.path.reverse = dst :: rest' → ∀ fuel, fl.path.length ≤ fuel + 1 →
            walk (fun n => nexthopOf st n (ackClass fl.fid)) fuel dst = fl.path.reverse) ∧
          (nexthopOf st src (ackClass fl.fid) = none) ∧
          (∀ a z, (a, z) ∈ segments fl.path →
            nexthopOf st z (ackClass fl.fid) = some a ∧
              ∃ i, portOf st z (ackClass fl.fid) = some i ∧ portToNexthop st z i = some a)) := by
  rw [generateFib_eq]
  -- every write names an existing neighbour
  have hW : ∀ w ∈ allWrites flows tcp, (nexthopToPort (initTables g) w.1 w.2.2).isSome := by
    intro w hw
    obtain ⟨fl, hfl, hw⟩ := List.mem_flatMap.mp hw
    obtain ⟨seg, hseg, hw⟩ := List.mem_flatMap.mp hw
    have hadj := (hp fl hfl).2 seg hseg
    unfold writesOf at hw
    have fwd : (nexthopToPort (initTables g) seg.1 seg.2).isSome := by
      obtain ⟨i, hi, _⟩ := init_port_roundtrip g hg _ _ hadj.1; simp [hi]
    have bwd : (nexthopToPort (initTables g) seg.2 seg.1).isSome := by
      obtain ⟨i, hi, _⟩ := init_port_roundtrip g hg _ _ hadj.2; simp [hi]
    cases tcp <;> simp at hw
    · rw [hw]; exact fwd
    · rcases hw with rfl | rfl
      · exact fwd
      · exact bwd
  obtain ⟨st, hok, hntp, hptn, hnh, hpo⟩ := foldE_writes _ _ hW
  refine ⟨st, hok, hptn, hntp, ?_⟩
  intro fl hfl src rest hpath
  have hnd := (hp fl hfl).1
  have hwalk := (hp fl hfl).2
  -- a class whose last writes are the successor function of a duplicate-free walk `P` of the graph is walked along `P`
  have cls : ∀ (key : Nat) (P : List Nat), P.Nodup → (∀ n, lastWrite (allWrites flows tcp) n key = nextIn P n) →
      (∀ a z, (a, z) ∈ segments P → Adj g a z) →
      (∀ s r, P = s :: r → ∀ fuel, P.length ≤ fuel + 1 → walk (fun n => nexthopOf st n key) fuel s = P) ∧
      (∀ d, P.getLast? = some d → nexthopOf st d key = none) ∧
      (∀ a z, (a, z) ∈ segments P →
        nexthopOf st a key = some z ∧ ∃ i, portOf st a key = some i ∧ portToNexthop st a i = some z) := by
    intro key P hP lw hadj
    have nh : ∀ n, nexthopOf st n key = nextIn P n := by
      intro n
      rw [hnh, lw]
      cases nextIn P n with
      | some z => rfl
      | none => exact (init_flow g n key).1
    refine ⟨?_, fun d hd => by rw [nh]; exact nextIn_last P hP d hd, ?_⟩
    · intro s r hp fuel hfuel
      subst hp
      exact walk_nextIn _ r s fuel hP (fun n _ => nh n) hfuel
    · intro a z hseg
      have hnx := nextIn_of_segment P hP a z hseg
      obtain ⟨i, hi1, hi2⟩ := init_port_roundtrip g hg a z (hadj a z hseg)
      exact ⟨by rw [nh, hnx], i, by rw [hpo, lw, hnx]; exact hi1, by rw [hptn]; exact hi2⟩
  -- the forward class reads the successor function of the path, the ACK class that of the reversed path
  obtain ⟨f1, f2, f3⟩ := cls fl.fid fl.path hnd
    (fun n => by rw [lastWrite_all flows tcp hd hlt fl hfl n _ (Or.inl rfl)]; exact lastWrite_flow_fwd tcp fl.fid fl.path hnd n)
    (fun a z h => (hwalk (a, z) h).1)
  refine ⟨fun fuel hf => f1 src rest hpath fuel hf, f2, f3, ?_⟩
  intro htcp
  subst htcp
  obtain ⟨b1, b2, b3⟩ := cls (ackClass fl.fid) fl.path.reverse (List.nodup_reverse.mpr hnd)
    (fun n => by rw [lastWrite_all flows true hd hlt fl hfl n _ (Or.inr rfl)]; exact lastWrite_flow_ack fl.fid fl.path hnd n)
    (fun a z h => (hwalk (z, a) ((segments_reverse _ _ _).mp h)).2)
  exact ⟨fun dst rest' hrev fuel hf => b1 dst rest' hrev fuel (by simpa using hf), b2 src (by rw [hpath]; simp),
    fun a z hseg => b3 z a ((segments_reverse _ _ _).mpr hseg)⟩

/-- **In a network of FIBDemux switches driven by the generated tables every packet arrives at its own flow's sink and at
no other.**  Every node carries a switch with `nports ≥ degree` ports whose demux uses `flow_to_port` as its table, egress `i`
leads to `port_to_nexthop[i]`, and `sinks node` lists the flow classes whose end device is registered at that node (wiring of
`tests/apps/fattree.py`).  If flow `fl`'s sink is registered at its destination and at no earlier node of its path, a packet
of class `fid` injected at the source visits exactly the path and is handed to the sink of class `fid`; with `tcp`, a packet
of the ACK class injected at the destination travels the reversed path to the sink registered for it at the source. -/
theorem packets_reach_own_sink (g : Graph) (flows : List FlowRec) (tcp : Bool) (nports : Nat) (sinks : Nat → List Nat)
    (hg : GraphOK g) (hdeg : ∀ n ns, dget g n = some ns → ns.length ≤ nports)
    (hd : flows.Pairwise fun x y => x.fid ≠ y.fid) (hlt : ∀ fl ∈ flows, fl.fid < 10000)
    (hp : ∀ fl ∈ flows, fl.path.Nodup ∧ IsWalk g fl.path) :
    ∃ st, generateFib g flows tcp = .ok st ∧
      ∀ fl ∈ flows, ∀ src rest, fl.path = src :: rest → rest ≠ [] →
        ((∀ dst, fl.path.getLast? = some dst → fl.fid ∈ sinks dst) →
          (∀ a z, (a, z) ∈ segments fl.path → fl.fid ∉ sinks a) →
          follow (hop st nports sinks fl.fid) fl.path.length src = (fl.path, .deliver fl.fid)) ∧
        (tcp = true → ackClass fl.fid ∈ sinks src →
          (∀ a z, (a, z) ∈ segments fl.path → ackClass fl.fid ∉ sinks z) →
          ∀ dst rest', fl.path.reverse = dst :: rest' →
            follow (hop st nports sinks (ackClass fl.fid)) fl.path.length dst
              = (fl.path.reverse, .deliver (ackClass fl.fid))) := by
  obtain ⟨st, hok, hptn, hntp, H⟩ := fib_walk g flows tcp hg hd hlt hp
  refine ⟨st, hok, ?_⟩
  intro fl hfl src rest hpath hrest
  obtain ⟨_, _, hfwd, hack⟩ := H fl hfl src rest hpath
  have hwalk := (hp fl hfl).2
  -- a port index read from the tables is below `nports`
  have port_lt : ∀ a z i, Adj g a z → portToNexthop st a i = some z → i < nports := by
    intro a z i hadj hi
    obtain ⟨ns, hns, _⟩ := hadj
    rw [hptn, init_ptn g a i ns hns] at hi
    obtain ⟨hlt', _⟩ := List.getElem?_eq_some_iff.mp hi
    exact lt_of_lt_of_le hlt' (hdeg a ns hns)
  -- both ends of an edge carry tables
  have node_of_adj : ∀ a z, Adj g a z → (dget st a).isSome := by
    intro a z hadj
    obtain ⟨i, hi, _⟩ := init_port_roundtrip g hg a z hadj
    exact node_of_ntp st a z i (by rw [hntp]; exact hi)
  constructor
  · intro hsink hnot
    rw [hpath] at hsink hnot hwalk hfwd ⊢
    apply follow_path _ _ rest src _ _ _ (le_refl _)
    · intro a z hseg
      obtain ⟨_, i, hpo, hpt⟩ := hfwd a z hseg
      exact hop_forward st nports sinks fl.fid a i z (hnot a z hseg) hpo hpt (port_lt a z i (hwalk (a, z) hseg).1 hpt)
    · intro d hd'
      obtain ⟨a, ha⟩ := last_segment rest src d hd' hrest
      exact hop_deliver st nports sinks fl.fid d (node_of_adj d a (hwalk (a, d) ha).2) (hsink d hd')
  · intro htcp hsink hnot dst rest' hrev
    obtain ⟨_, _, hackseg⟩ := hack htcp
    have hlen : (dst :: rest').length ≤ fl.path.length := by
      rw [← hrev]; simp
    rw [hrev]
    apply follow_path _ _ rest' dst _ _ _ hlen
    · intro x y hseg
      rw [← hrev, segments_reverse] at hseg
      obtain ⟨_, i, hpo, hpt⟩ := hackseg y x hseg
      exact hop_forward st nports sinks _ x i y (hnot y x hseg) hpo hpt (port_lt x y i (hwalk (y, x) hseg).2 hpt)
    · intro d hd'
      rw [← hrev, List.getLast?_reverse, hpath] at hd'
      simp only [List.head?_cons, Option.some.injEq] at hd'
      subst hd'
      obtain ⟨z, r', rfl⟩ := List.exists_cons_of_ne_nil hrest
      have hseg : (src, z) ∈ segments fl.path := by rw [hpath]; simp [segments]
      exact hop_deliver st nports sinks _ src (node_of_adj src z (hwalk (src, z) hseg).1) hsink

/-- **`fib_walk` and `ports_bijective` apply to FatTree(k)** for every even `k`: the neighbour lists of the structural fat
tree, written with the constructor's node ids, have no duplicates and at most `k` entries (so `k`-port switches suffice for
`packets_reach_own_sink`); node `n`'s list is found under its id. -/
theorem fattree_graph_ok (k : Nat) (hk : k % 2 = 0) :
    GraphOK (graph k) ∧
    (∀ i ns, dget (graph k) i = some ns → ns.length ≤ k) ∧
    ∀ n ∈ nodes k, dget (graph k) (n.num k) = some ((nbrs k n).map (FNode.num k)) := by
  obtain ⟨h, rfl⟩ : ∃ h, k = 2 * h := ⟨k / 2, by omega⟩
  refine ⟨?_, ?_, fun n hn => ?_⟩
  · intro i ns hd
    obtain ⟨n, hn, _, rfl⟩ := dget_graph_some h i ns hd
    apply List.Nodup.map_on _ (nbrs_nodup _ n)
    intro a ha b hb e
    have hv := (mem_nodes _ n).mp hn
    exact num_injOn h a ((mem_nodes _ a).mpr (nbrs_valid _ n hv a ha)) b ((mem_nodes _ b).mpr (nbrs_valid _ n hv b hb)) e
  · intro i ns hd
    obtain ⟨n, hn, _, rfl⟩ := dget_graph_some h i ns hd
    have hv := (mem_nodes _ n).mp hn
    have hh : 2 * h / 2 = h := by omega
    rw [List.length_map, nbrs_length]
    cases n with
    | core a b => simp
    | aggr p i | edge p i => simp only [hh]; omega
    | host p j m =>
      have := hv.1
      simp only; omega
  · unfold graph
    have inj := num_injOn h
    generalize nodes (2 * h) = L at hn inj
    induction L with
    | nil => simp at hn
    | cons x r ih =>
      by_cases e : x.num (2 * h) = n.num (2 * h)
      · have : x = n := inj x List.mem_cons_self n hn e
        subst this
        simp [dget]
      · simp only [List.map_cons, dget, if_neg e]
        rcases List.mem_cons.mp hn with rfl | hr
        · exact absurd rfl e
        · exact ih hr (fun a ha b hb => inj a (List.mem_cons_of_mem _ ha) b (List.mem_cons_of_mem _ hb))

/-! ### non-vacuity -/

/-- a three-node line `0 — 1 — 2` with two flows sharing the link `1 — 2` in opposite directions meets every hypothesis of `fib_walk` -/
example :
    let g : Graph := [(0, [1]), (1, [0, 2]), (2, [1])]
    let flows : List FlowRec := [⟨0, [0, 1, 2]⟩, ⟨7, [2, 1]⟩]
    GraphOK g ∧ (flows.Pairwise fun x y => x.fid ≠ y.fid) ∧ (∀ fl ∈ flows, fl.fid < 10000) ∧
      (∀ fl ∈ flows, fl.path.Nodup ∧ IsWalk g fl.path) := by
  intro g flows
  refine ⟨?_, by simp [flows], by simp [flows], ?_⟩
  · intro n ns h
    have hm := dget_mem _ _ _ h
    simp only [g, List.mem_cons, Prod.mk.injEq, List.not_mem_nil, or_false] at hm
    rcases hm with ⟨_, rfl⟩ | ⟨_, rfl⟩ | ⟨_, rfl⟩ <;> decide
  · intro fl hfl
    simp only [flows, List.mem_cons, List.not_mem_nil, or_false] at hfl
    rcases hfl with rfl | rfl
    · refine ⟨by decide, ?_⟩
      intro seg hseg
      simp only [segments, List.mem_cons, List.not_mem_nil, or_false] at hseg
      rcases hseg with rfl | rfl
      · exact ⟨⟨[1], rfl, by simp⟩, ⟨[0, 2], rfl, by simp⟩⟩
      · exact ⟨⟨[0, 2], rfl, by simp⟩, ⟨[1], rfl, by simp⟩⟩
    · refine ⟨by decide, ?_⟩
      intro seg hseg
      simp only [segments, List.mem_cons, List.not_mem_nil, or_false] at hseg
      subst hseg
      exact ⟨⟨[1], rfl, by simp⟩, ⟨[0, 2], rfl, by simp⟩⟩

/-- the model computes: on that line, with `tcp`, flow 0 is walked `0 → 1 → 2` and its ACK class `2 → 1 → 0` -/
example :
    (generateFib [(0, [1]), (1, [0, 2]), (2, [1])] [⟨0, [0, 1, 2]⟩, ⟨7, [2, 1]⟩] true).toOption.map
      (fun st => (walk (fun n => nexthopOf st n 0) 5 0, walk (fun n => nexthopOf st n 10000) 5 2, portOf st 1 0, portOf st 2 7))
      = some ([0, 1, 2], [2, 1, 0], some 1, some 0) := by decide

/-- a FIBDemux with an **empty table** and a default output (hypotheses of `fibdemux_empty_table`), with and without outputs -/
example : FIBDemux.put { outs := some [5, 6], ends := [(3, 9)], fib := some [], default := some 8 } { ref := ⟨1, 0⟩, flowId := 4 }
    = .ok [(8, ⟨1, 0⟩)] := by decide

example : FIBDemux.put { outs := none, ends := [(3, 9)], fib := some [], default := some 8 } { ref := ⟨1, 0⟩, flowId := 4 }
    = .ok [(8, ⟨1, 0⟩)] := by decide

/-- a heap in which the entering packet owns its two tables (hypothesis of `splitter_rule`), with a stamp already in one -/
example : ∃ (h : Heap) (ob : Obj), h.objs ⟨1, 0⟩ = some ob ∧ (∀ w, ob.tab w = (⟨1, 0⟩, w)) ∧
    h.readTab ⟨1, 0⟩ .perhop 7 = some (some 3) :=
  ⟨{ objs := fun r => if r = ⟨1, 0⟩ then some ⟨fun _ => 0, fun w => (⟨1, 0⟩, w)⟩ else none,
     tabs := fun t k => if t = (⟨1, 0⟩, Tab.perhop) ∧ k = 7 then some 3 else none },
   ⟨fun _ => 0, fun w => (⟨1, 0⟩, w)⟩, by simp, fun _ => rfl, by simp [Heap.readTab]⟩

/-- hub endpoints with pairwise different output devices, two of them sharing an element id (hypothesis of `hub_rule`) -/
example : (([⟨1, 10, none⟩, ⟨2, 11, some 20⟩, ⟨1, 12, none⟩] : HubCfg).map HubEndpoint.out).Nodup := by decide

/-- a fair switch that the constructor accepts (hypothesis of `switch_one_output`) -/
example : ∃ c, FairPacketSwitch.mk 4 "WFQ" = .ok c := ⟨_, rfl⟩

/-- valid nodes of `FatTree(4)` (hypothesis of `fattree_adjacency`), and its 36 nodes -/
example : (FNode.edge 3 1).Valid 4 ∧ (FNode.host 3 1 1).Valid 4 ∧ (nodes 4).length = 36 :=
  ⟨by simp [FNode.Valid], by simp [FNode.Valid], by decide⟩

end C18
