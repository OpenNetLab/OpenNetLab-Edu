import OnlVerif.Lemmas.REDKInit
import OnlVerif.Lemmas.REDKRule
import OnlVerif.Props.C08
import OnlVerif.Props.C09
/-!
# C09 / C08 on the kernel: generator → REDPort → sink *as processes on the kernel model* refine the RED LTS

`OnlVerif/Net/REDOnK.lean` writes a real `DistPacketGenerator.run`, `REDPort.put` (the exponentially weighted average in a
cell, `random.uniform` draws from a script, consumed only in the two random regions), the inherited `Port.run` and
`PacketSink.put` as ONE program of the kernel model `K` (`OnlVerif/Kernel`).  Nothing is assumed about scheduling:
`Environment.step` of the kernel model decides what runs when.  The theorems: every kernel step of this program is a
(possibly empty) sequence of actions the FifoServer LTS with the RED configuration (`Net/Fifo.lean`, `Net/Port.lean`:
`admitRed`, `redAvg`, `redDrop`) *accepts*, so the C09 theorems hold of kernel runs; RED's drop rule read off the cells; and
the C08 generator and sink laws hold of kernel runs.

Scope: one generator, one flow, `element_id` of the port falsy, both `limit_bytes` settings, every `rate` (no transmission
delay when `rate ≤ 0`), every `weight_factor`, thresholds and `max_probability` (no ordering assumed unless stated),
`initial_delay ≥ 0`, non-negative gaps (zero gaps = bursts, arrivals exactly at departure instants included), `finish` =
`inf` or any instant, and at least as many scripted uniform draws as gaps (`REDPort.put` takes at most one per packet);
exact rational time; `fuel + 1` = any positive bound of the `_resume` loop.  The modelling devices are listed in the header
of `Net/REDOnK.lean`.
-/

namespace C09K2
open REDOnK REDK

/-- **Refinement, step by step**: let `s` be reachable by kernel steps from the initial state and let the next kernel step
end in `s'`.  Then that step is a normal one (`.ok`: no exception, no stop), and there is a (possibly empty) sequence of LTS
actions that the RED port LTS *accepts* from the abstraction of `s`, that ends exactly in the abstraction of `s'` (the step
commutes with the executable `absRED`), and whose departures are exactly the `out.put` observations the kernel step
appended to the trace.  The draw the LTS packet of arrival `k` carries is, by the definition of `absRED`/`pktOf`, the `k`-th
entry of the ghost log `usOf`, and `red_on_kernel_drop_rule` shows that this entry is the draw the program consumed
(`0` when it consumed none). -/
theorem red_on_kernel_step_refines (c : Cfg ℚ) (gaps : List ℚ) (sizes : List Nat) (us : List ℚ)
    (hg : ∀ x ∈ gaps, 0 ≤ x) (hd : 0 ≤ c.initialDelay) (hu : gaps.length ≤ us.length) (fuel : Nat)
    (s s' : KState ℚ (RSt ℚ))
    (hreach : KReach (body c sizes) (fuel + 1) (initState gaps sizes us) s)
    (hstep : (step (body c sizes) (fuel + 1) s).state? = some s') :
    step (body c sizes) (fuel + 1) s = .ok s' ∧
    ∃ acts ins outs, Fifo.runActs (Port.dev (cfg c)) (absRED c sizes s) acts = .ok (absRED c sizes s', ins, outs) ∧
      (outsOf s'.trace).map (·.1.toNat) = (outsOf s.trace).map (·.1.toNat) ++ outs := by
  obtain ⟨a, _, hi, _⟩ := reach_inv fuel hg hd hu hreach
  obtain ⟨q, rest, hp, -⟩ := step_shape _ _ _ _ hstep
  obtain ⟨s'', a', new, h1, h2, -, h4, -, -, acts, insI, -, h6⟩ := inv_step fuel hi hp
  obtain rfl := KStepChain.ok_of_state hstep h1
  refine ⟨h1, acts, insI.map Int.toNat, (outsV new).map (·.1.toNat), ?_, ?_⟩
  · rw [absRED_eq sizes hi.k, absRED_eq sizes h2.k]; exact h6
  · show (outsV (viewsOf s''.trace)).map _ = (outsV (viewsOf s.trace)).map _ ++ _
    rw [h4]; simp

/-- a concrete run (non-vacuity of every hypothesis: gaps ≥ 0, `initial_delay = 1`, 8 draws for 8 gaps): a burst of four
one-byte packets at `t = 1`, then one per time unit, `rate = 8` (one time unit each), packet-count figures
(`limit_bytes = False`), `weight_factor = 0` (the average is the current figure), `min_th = 1`, `max_th = 2`,
`qlimit = 3`, `max_p = 1/2`, `finish = 4`: the figures at the arrivals are 0, 0, 1, 2, 2, 2, 2, draws are consumed from
the third arrival on, packets 5 and 7 are refused (draws `1/8` and `1/2` ≤ `1/2`), the generator stops at the loop test
at `t = 4`, the sink records the five forwarded packets -/
example : (finalState (runAll (body ({ rate := 8, qlimit := 3, maxTh := 2, minTh := 1, maxP := 1/2, w := 0, limitBytes := false, initialDelay := 1, finish := some 4 } : Cfg ℚ) [1, 1, 1, 1, 1, 1, 1, 1]) 1 37
      (initState [0, 0, 0, 0, 1, 1, 1, 1] [1, 1, 1, 1, 1, 1, 1, 1] [1/4, 3/4, 1/8, 7/8, 1/2, 1/2, 1/2, 1/2]))).map
      (fun s => (s.agenda.length, gensOf s.trace, usOf s.trace, outsOf s.trace)) =
    some (0, [(1, 1), (2, 1), (3, 1), (4, 1), (5, 2), (6, 3), (7, 4)], [0, 0, 1/4, 3/4, 1/8, 7/8, 1/2],
      [(1, 2), (2, 3), (3, 4), (4, 5), (6, 6)]) := by
  decide +kernel

example : (finalState (runAll (body ({ rate := 8, qlimit := 3, maxTh := 2, minTh := 1, maxP := 1/2, w := 0, limitBytes := false, initialDelay := 1, finish := some 4 } : Cfg ℚ) [1, 1, 1, 1, 1, 1, 1, 1]) 1 37
      (initState [0, 0, 0, 0, 1, 1, 1, 1] [1, 1, 1, 1, 1, 1, 1, 1] [1/4, 3/4, 1/8, 7/8, 1/2, 1/2, 1/2, 1/2]))).map
      (fun s => (intsOf "drop" s.trace, cellInt s cReceived, cellInt s cDropped, cellInt s cSinkCnt, cellInt s cSinkBytes)) =
    some ([(5, 2), (7, 4)], 7, 2, 5, 5) := by
  decide +kernel

/-- the same workload with byte figures (`limit_bytes = True`, `qlimit = 3` bytes): the figure counts the packet in
transmission too, the average reaches `qlimit` at the fourth arrival of the burst, which is refused without a draw -/
example : (finalState (runAll (body ({ rate := 8, qlimit := 3, maxTh := 2, minTh := 1, maxP := 1/2, w := 0, limitBytes := true, initialDelay := 1, finish := none } : Cfg ℚ) [1, 1, 1, 1]) 1 21
      (initState [0, 0, 0, 0] [1, 1, 1, 1] [3/4, 3/4, 3/4, 3/4]))).map
      (fun s => (usOf s.trace, outsOf s.trace, intsOf "drop" s.trace, cellInt s cDropped)) =
    some ([0, 3/4, 3/4, 0], [(1, 2), (2, 3), (3, 4)], [(4, 1)], 1) := by
  decide +kernel

/-- **Refinement, whole runs**: every state reachable by kernel steps is the image of an *admissible* run of the RED port
LTS from its initial state: the LTS accepts some action sequence that ends in `absRED s`, in which the departed packets are
the `out.put` observations of the kernel trace, in order; the accepted packets `ins` together with `packets_dropped`
account for `packets_received`. -/
theorem red_on_kernel_refines_lts (c : Cfg ℚ) (gaps : List ℚ) (sizes : List Nat) (us : List ℚ)
    (hg : ∀ x ∈ gaps, 0 ≤ x) (hd : 0 ≤ c.initialDelay) (hu : gaps.length ≤ us.length) (fuel : Nat)
    (s : KState ℚ (RSt ℚ)) (hreach : KReach (body c sizes) (fuel + 1) (initState gaps sizes us) s) :
    ∃ acts ins, Fifo.runActs (Port.dev (cfg c)) (Fifo.init ({ avg := 0 } : PortSt ℚ) 0) acts =
        .ok (absRED c sizes s, ins, (outsOf s.trace).map (·.1.toNat)) ∧
      ins.length + (cellInt s cDropped).toNat = (cellInt s cReceived).toNat := by
  obtain ⟨a, acts, hi, hrun⟩ := reach_inv fuel hg hd hu hreach
  refine ⟨acts, a.accIds.map Int.toNat, ?_, ?_⟩
  · rw [absRED_eq sizes hi.k]; exact hrun
  · have hc1 : cellInt s cReceived = a.recv := cellInt_of hi.k.c1
    have hc4 : cellInt s cDropped = a.dropped := cellInt_of hi.k.c4
    rw [hc1, hc4, List.length_map, Int.toNat_natCast, Int.toNat_natCast]
    exact hi.a.nacc

/-- **`run()` returns**: within `4·n + 5` steps (`n` = the length of the gap script) the kernel model has run both
processes to the end without an exception leaving `step()` (no `TypeError`, no `IndexError` of the draw script, no
negative delay); the agenda and the store are empty, and the generator's packets (`gen` observations with the size the port
and the sink use) are exactly those of the C08 generator model `Gen.run` on the zipped scripts. -/
theorem red_on_kernel_run_returns (c : Cfg ℚ) (gaps : List ℚ) (sizes : List Nat) (us : List ℚ)
    (hg : ∀ x ∈ gaps, 0 ≤ x) (hd : 0 ≤ c.initialDelay) (hu : gaps.length ≤ us.length) (fuel n : Nat)
    (hn : 4 * gaps.length + 5 ≤ n) :
    ∃ sF, runAll (body c sizes) (fuel + 1) n (initState gaps sizes us) = .returned .none sF ∧ sF.agenda = [] ∧
      (sF.res storeId).items = [] ∧
      (gensOf sF.trace).map (fun x => (x.1, x.2, szOf sizes x.1)) =
        (Gen.run 0 c.initialDelay c.finish (gaps.zip sizes)).map fun p => ((p.id : Int), p.time, p.size) := by
  have h0 : Inv c sizes gaps (initState gaps sizes us) (a0 gaps sizes us) := inv_init gaps sizes us hg hd hu
  have hmu : (a0 gaps sizes us).mu < n := by
    simp [A.mu, a0, PPhase.mu, SPhase.mu]; omega
  obtain ⟨sF, aF, h1, h2, h3⟩ := run_returns fuel n _ _ h0 hmu
  have hf := inv_final h2 h3
  refine ⟨sF, h1, h3, ?_, ?_⟩
  · show (sF.res 0).items = []
    rw [h2.k.res]; exact hf.1
  · have := h2.a.gen.law
    rw [hf.2.2.1] at this
    simp only [SPhase.pred, List.map_nil, List.append_nil] at this
    exact this

/-- **C08 generator law on the kernel**: at every reachable kernel state the packets the generator process has emitted so
far (`gen` observations: id, `env.now`, with the size `Port.run` and the sink read for that id) are an initial segment of
the packets of the generator model `Gen.run` — for which `C08.generator_law` says: packet `n` has id `n`, leaves at
`initial_delay + Σ_{i ≤ n} gap_i` with the `n`-th drawn size, and `C08.generator_stops`: nothing is emitted once
`now ≥ finish` at the loop test.  (`red_on_kernel_run_returns`: at the end of `run()` it is the whole list.) -/
theorem generator_on_kernel_law (c : Cfg ℚ) (gaps : List ℚ) (sizes : List Nat) (us : List ℚ)
    (hg : ∀ x ∈ gaps, 0 ≤ x) (hd : 0 ≤ c.initialDelay) (hu : gaps.length ≤ us.length) (fuel : Nat)
    (s : KState ℚ (RSt ℚ)) (hreach : KReach (body c sizes) (fuel + 1) (initState gaps sizes us) s) :
    (∃ rest, (gensOf s.trace).map (fun x => (x.1, x.2, szOf sizes x.1)) ++ rest =
        (Gen.run 0 c.initialDelay c.finish (gaps.zip sizes)).map fun p => ((p.id : Int), p.time, p.size)) ∧
    (gensOf s.trace).length = (cellInt s cReceived).toNat ∧
    ∀ k (hk : k < (gensOf s.trace).length), ∃ hk' : k < (gaps.zip sizes).length,
      ((gensOf s.trace)[k]).1 = (k : Int) + 1 ∧
      ((gensOf s.trace)[k]).2 = (0 + c.initialDelay) + (((gaps.zip sizes).take (k + 1)).map (·.1)).sum ∧
      szOf sizes ((gensOf s.trace)[k]).1 = ((gaps.zip sizes)[k]).2 := by
  obtain ⟨a, _, hi, _⟩ := reach_inv fuel hg hd hu hreach
  have hlaw := hi.a.gen.law
  have hc1 : cellInt s cReceived = a.recv := cellInt_of hi.k.c1
  refine ⟨⟨_, hlaw⟩, by rw [hc1, Int.toNat_natCast]; exact hi.a.gen.ngen, ?_⟩
  intro k hk
  have hpre : (gensV (viewsOf s.trace)).map (fun x => (x.1, x.2, szOf sizes x.1)) <+:
      (Gen.emit c.finish (0 + c.initialDelay) 0 (gaps.zip sizes)).map gtrip := ⟨_, hlaw⟩
  have hk1 : k < ((gensV (viewsOf s.trace)).map fun x => (x.1, x.2, szOf sizes x.1)).length :=
    (List.length_map _).symm ▸ hk
  obtain ⟨hk', h1, h2, h3⟩ := C08.generator_law c.finish (0 + c.initialDelay) 0 (gaps.zip sizes) k
    (List.length_map gtrip ▸ hk1.trans_le hpre.length_le)
  have hget := hpre.getElem hk1
  simp only [List.getElem_map, gtrip, Prod.mk.injEq] at hget
  exact ⟨hk', hget.1.trans (by rw [h1]; push_cast; ring), hget.2.1.trans h2, hget.2.2.trans h3⟩

/-- **C08 sink law on the kernel**: at every reachable kernel state the sink's records are exactly those of the packets the
port forwarded: the `sink` observations are the `out.put` observations (same ids, same instants, same order); the per-flow
counters in cells 7 and 8 are the count and byte count the sink model `Sink.record` computes from these deliveries
(`C08.sink_counts`), i.e. the number of forwarded packets and the sum of their sizes; the recorded arrival instants are the
forwarding instants and the recorded waits are forwarding instant − creation instant (`C08.sink_waits_arrivals`). -/
theorem sink_on_kernel_counts (c : Cfg ℚ) (gaps : List ℚ) (sizes : List Nat) (us : List ℚ)
    (hg : ∀ x ∈ gaps, 0 ≤ x) (hd : 0 ≤ c.initialDelay) (hu : gaps.length ≤ us.length) (fuel : Nat)
    (s : KState ℚ (RSt ℚ)) (hreach : KReach (body c sizes) (fuel + 1) (initState gaps sizes us) s) :
    sinksOf s.trace = outsOf s.trace ∧
    cellInt s cSinkCnt = ((Sink.record {} c.flow (deliveries c sizes s.trace)).count : Int) ∧
    cellInt s cSinkBytes = ((Sink.record {} c.flow (deliveries c sizes s.trace)).bytes : Int) ∧
    (Sink.record {} c.flow (deliveries c sizes s.trace)).count = (outsOf s.trace).length ∧
    (Sink.record {} c.flow (deliveries c sizes s.trace)).bytes = ((outsOf s.trace).map fun x => szOf sizes x.1).sum ∧
    (Sink.record { recArrivals := true, absolute := true, recWaits := true } c.flow (deliveries c sizes s.trace)).arrivals =
      (outsOf s.trace).map (·.2) ∧
    (Sink.record { recArrivals := true, absolute := true, recWaits := true } c.flow (deliveries c sizes s.trace)).waits =
      (outsOf s.trace).map fun x => x.2 - genTime s.trace x.1 := by
  obtain ⟨a, _, hi, _⟩ := reach_inv fuel hg hd hu hreach
  have hsame : sinksOf s.trace = outsOf s.trace := hi.a.sink.same
  have hfil : (deliveries c sizes s.trace).filter (·.key == c.flow) = deliveries c sizes s.trace := by
    apply List.filter_eq_self.mpr
    intro d hd'
    simp only [deliveries, List.mem_map] at hd'
    obtain ⟨x, _, rfl⟩ := hd'
    simp
  have hcnt := C08.sink_counts {} c.flow (deliveries c sizes s.trace)
  have hwa := C08.sink_waits_arrivals c.flow (deliveries c sizes s.trace)
  rw [hfil] at hcnt hwa
  have hlen : (deliveries c sizes s.trace).length = (outsOf s.trace).length := by
    simp [deliveries, hsame]
  have hsum : ((deliveries c sizes s.trace).map (·.size)).sum = ((outsOf s.trace).map fun x => szOf sizes x.1).sum := by
    simp [deliveries, hsame, Function.comp_def]
  have hc7 : cellInt s cSinkCnt = a.scnt := cellInt_of hi.k.c7
  have hc8 : cellInt s cSinkBytes = a.sbytes := cellInt_of hi.k.c8
  have h1 : a.scnt = (outsOf s.trace).length := hi.a.sink.cnt
  have h2 : a.sbytes = ((outsOf s.trace).map fun x => szOf sizes x.1).sum := hi.a.sink.bytes
  refine ⟨hsame, ?_, ?_, ?_, ?_, ?_, ?_⟩
  · rw [hc7, hcnt.1, hlen, h1]
  · rw [hc8, hcnt.2, hsum, h2]
  · rw [hcnt.1, hlen]
  · rw [hcnt.2, hsum]
  · rw [hwa.2]; simp [deliveries, hsame, Function.comp_def]
  · rw [hwa.1]; simp [deliveries, hsame, Function.comp_def]

/-- **RED's drop rule on the kernel, for all workloads and all draw lists.**  Let `s` be reachable and let the next kernel
step end in `s'`; read `packets_received`, `average_queue_size`, `packets_dropped` off the cells (`absDev`), the queue
figure off the `K` store (`byte_size` resp. the real length of `store.items`), the draws still unconsumed off the
generator's local state (`drawsLeft`).  Then the step is either no arrival (counters, average, draw log untouched), or
exactly one arrival, and then: the new average is `redAvg` of the old one and the queue figure at this instant (so over a
run the averages follow the `redAvg` recurrence over the queue figures at the arrival instants); `random.uniform` is
called iff `needsDraw` — i.e. *not* when the average is at/above `qlimit` nor when it is below both thresholds — and then
the script is not empty and exactly its head `u` is consumed (the generator either sleeps again with the tail — resp. the
untouched script when no draw was needed — or has returned); the draw logged for the LTS packet is that `u` (`0` when
none was consumed); the packet is refused (`packets_dropped + 1`, store unchanged) iff `redDrop` of the new average and
`u` says so, otherwise it is appended to the store; at/above `qlimit` it is always refused; below `min_threshold`
(with `min_threshold ≤ max_threshold`, below `qlimit`) never. -/
theorem red_on_kernel_drop_rule (c : Cfg ℚ) (gaps : List ℚ) (sizes : List Nat) (us : List ℚ)
    (hg : ∀ x ∈ gaps, 0 ≤ x) (hd : 0 ≤ c.initialDelay) (hu : gaps.length ≤ us.length) (fuel : Nat)
    (s s' : KState ℚ (RSt ℚ))
    (hreach : KReach (body c sizes) (fuel + 1) (initState gaps sizes us) s)
    (hstep : (step (body c sizes) (fuel + 1) s).state? = some s') :
    let d := absDev s
    let d' := absDev s'
    let avg' := Port.redAvg d.avg (Port.redCur (cfg c) d (s.res storeId).items.length) c.w
    let u := if needsDraw c avg' then (drawsLeft s).headD 0 else 0
    let drop := Port.redDrop (Num.ofNat c.qlimit) c.maxTh c.minTh c.maxP avg' u
    (d'.received = d.received ∧ d'.avg = d.avg ∧ d'.dropped = d.dropped ∧ usOf s'.trace = usOf s.trace) ∨
    (d'.received = d.received + 1 ∧ d'.avg = avg' ∧ usOf s'.trace = usOf s.trace ++ [u] ∧
      (needsDraw c avg' = true → drawsLeft s ≠ []) ∧
      (drawsLeft s' = (if needsDraw c avg' then (drawsLeft s).tail else drawsLeft s) ∨ s'.triggered genProc = true) ∧
      (needsDraw c avg' = false ↔ ((Num.ofNat c.qlimit : ℚ) ≤ avg' ∨ (avg' < c.maxTh ∧ avg' < c.minTh))) ∧
      ((drop = true ∧ d'.dropped = d.dropped + 1 ∧ (s'.res storeId).items = (s.res storeId).items) ∨
       (drop = false ∧ d'.dropped = d.dropped ∧
         (s'.res storeId).items = (s.res storeId).items ++ [((d.received : Int) + 1)])) ∧
      ((Num.ofNat c.qlimit : ℚ) ≤ avg' → drop = true) ∧
      (avg' < c.minTh → c.minTh ≤ c.maxTh → avg' < (Num.ofNat c.qlimit : ℚ) → drop = false)) := by
  intro d d' avg' u drop
  obtain ⟨a, _, hi, _⟩ := reach_inv fuel hg hd hu hreach
  obtain ⟨q, rest, hp, -⟩ := step_shape _ _ _ _ hstep
  obtain ⟨s'', a', new, h1, h2, -, h4, h3, -, -⟩ := inv_step fuel hi hp
  obtain rfl := KStepChain.ok_of_state hstep h1
  have hd0 : d = { byteSize := a.bytes, received := a.recv, dropped := a.dropped, busy := a.busy, busySize := a.bsz, avg := a.avg } :=
    absDev_eq hi.k
  have hd1 : d' = { byteSize := a'.bytes, received := a'.recv, dropped := a'.dropped, busy := a'.busy, busySize := a'.bsz, avg := a'.avg } :=
    absDev_eq h2.k
  have hus : usOf s''.trace = usOf s.trace ++ usV new := by
    show usV (viewsOf s''.trace) = usV (viewsOf s.trace) ++ usV new
    rw [h4]; simp
  have hit0 : (s.res storeId).items = a.items := by show (s.res 0).items = _; rw [hi.k.res]; rfl
  have hit1 : (s''.res storeId).items = a'.items := by show (s''.res 0).items = _; rw [h2.k.res]; rfl
  rcases astep_rule h3 with ⟨r1, r2, r3, r4⟩ | ⟨n, z, gaps', sizes', us', hsrc, hn, r1, r2, r3, r4, r5, r6⟩
  · left
    rw [hd0, hd1, hus, r4]
    exact ⟨r1, r2, r3, by simp⟩
  · right
    have hmin := (min_of_pop hi.k.ag hp).1
    have hcur : Port.redCur (cfg c) d (s.res storeId).items.length = (Num.ofNat (curOf c a) : ℚ) := by
      rw [hit0]; exact cur_eq (hi.a.advance hmin) hn d (by rw [hd0])
    have havg : avg' = avgNew c a := by
      show Port.redAvg d.avg (Port.redCur (cfg c) d (s.res storeId).items.length) c.w = _
      rw [hcur, hd0]; rfl
    have hdl : drawsLeft s = us' := drawsLeft_wait hi.k hsrc
    have hu' : u = uAtt c (avgNew c a) us' := by
      show (if needsDraw c avg' then (drawsLeft s).headD 0 else 0) = _
      rw [havg, hdl]; rfl
    have hdrop : drop = dropQ c (avgNew c a) (uAtt c (avgNew c a) us') := by
      show Port.redDrop _ _ _ _ avg' u = _
      rw [havg, hu']; rfl
    have hnr : (n : Int) + 1 = (d.received : Int) + 1 := by
      rw [hd0]
      have := hi.a.gen.sent n (by rw [hsrc]; rfl)
      simp [this]
    refine ⟨by rw [hd0, hd1]; exact r1, by rw [hd1, havg]; exact r2, by rw [hus, r3, hu'], ?_, ?_,
      needsDraw_false_iff avg', ?_, ?_, ?_⟩
    · rw [havg, hdl]; exact r4
    · rcases r5 with ⟨n', z', g', sz', q', hw⟩ | ⟨q', he⟩
      · left
        rw [drawsLeft_wait h2.k hw, havg, hdl]; rfl
      · right; exact triggered_ending h2.k he
    · rcases r6 with ⟨e1, e2, e3⟩ | ⟨e1, e2, e3⟩
      · left; rw [hdrop, hd0, hd1, hit0, hit1]; exact ⟨e1, e2, e3⟩
      · right
        have e3' : a'.items = a.items ++ [((d.received : Int) + 1)] := by rw [e3, hnr]
        rw [hdrop, hd1, hit0, hit1]
        refine ⟨e1, ?_, e3'⟩
        rw [hd0]; exact e2
    · intro h; exact C09.red_always_drops_at_limit _ _ _ _ _ _ h
    · intro h1' h2' h3'; exact C09.red_never_drops_below_min _ _ _ _ _ _ h1' h2' h3'

/-- **Corollary (C09 `fifo_and_conservation` on the kernel, with RED drops)**: at every reachable kernel state the packets
the RED LTS image has accepted so far (`ins`: as many as `packets_received − packets_dropped`) are, in order, exactly the
packets logged by `out.put` followed by the packets the port holds (handed over / in transmission / waiting in the store):
FIFO, nothing accepted is lost, nothing duplicated. -/
theorem kernel_red_fifo_and_conservation (c : Cfg ℚ) (gaps : List ℚ) (sizes : List Nat) (us : List ℚ)
    (hg : ∀ x ∈ gaps, 0 ≤ x) (hd : 0 ≤ c.initialDelay) (hu : gaps.length ≤ us.length) (fuel : Nat)
    (s : KState ℚ (RSt ℚ)) (hreach : KReach (body c sizes) (fuel + 1) (initState gaps sizes us) s) :
    ∃ ins : List Nat, ins.length + (cellInt s cDropped).toNat = (cellInt s cReceived).toNat ∧
      ins = (outsOf s.trace).map (·.1.toNat) ++ Fifo.held (absRED c sizes s) := by
  obtain ⟨acts, ins, h, h2⟩ := red_on_kernel_refines_lts c gaps sizes us hg hd hu fuel s hreach
  have := (Fifo.run_conserves (Port.dev (cfg c)) (Port.idPreserving _) acts _ _ _ _ (Fifo.init_shape _ _) h).1
  exact ⟨ins, h2, by simpa [Fifo.init_held] using this⟩

/-- **Corollary (C09 `byte_occupancy_eq_held` on the kernel)**: at every reachable kernel state the attribute `byte_size`
(shared cell 0) equals the bytes of the packets the RED port holds. -/
theorem kernel_red_occupancy_eq_held (c : Cfg ℚ) (gaps : List ℚ) (sizes : List Nat) (us : List ℚ)
    (hg : ∀ x ∈ gaps, 0 ≤ x) (hd : 0 ≤ c.initialDelay) (hu : gaps.length ≤ us.length) (fuel : Nat)
    (s : KState ℚ (RSt ℚ)) (hreach : KReach (body c sizes) (fuel + 1) (initState gaps sizes us) s) :
    cellInt s cByteSize = Port.heldBytes (absRED c sizes s) := by
  obtain ⟨acts, ins, h, -⟩ := red_on_kernel_refines_lts c gaps sizes us hg hd hu fuel s hreach
  have := (Port.run_inv (cfg c) acts _ _ _ _ (Port.init_inv _ 0) h).bytes
  rw [absRED_dev] at this
  exact this

end C09K2
