import Mathlib.Tactic.Ring
import OnlVerif.Lemmas.Port
import OnlVerif.Props.C09K
import OnlVerif.Lemmas.GenPort
/-!
# C09 — a port serialises at its line rate and tail-drops exactly at its limit

Model: `OnlVerif/Net/Fifo.lean` (the FifoServer LTS) instantiated with `OnlVerif/Net/Port.lean`
(`Port.put`, `Port.run`, `REDPort.put`, `PortMonitor`).  "For all arrival workloads" = for every action
sequence the LTS accepts (`Fifo.runActs … = .ok …`) from the initial state; time and rates are exact
rationals.  The correspondence check replays the real `Port` through this LTS bit for bit.
-/

namespace C09
open Fifo Port

def start (t0 : ℚ) : FState ℚ (PortSt ℚ) := Fifo.init { avg := 0 } t0

/-- **FIFO, nothing lost, nothing duplicated**: after any admissible action sequence, the accepted packets
are, in order, exactly the packets that left followed by the packets still held. -/
theorem fifo_and_conservation (c : PortCfg ℚ) (t0 : ℚ) (as : List (FAct ℚ)) (s : FState ℚ (PortSt ℚ))
    (ins outs : List Nat) (h : runActs (Port.dev c) (start t0) as = .ok (s, ins, outs)) :
    ins = outs ++ held s :=
  (run_fifo _ (idPreserving c) _ t0 h).1

/-- **The advertised byte occupancy always equals the bytes actually held** (waiting + handed over + in
transmission), for every rate including 0. -/
theorem byte_occupancy_eq_held (c : PortCfg ℚ) (t0 : ℚ) (as : List (FAct ℚ)) (s : FState ℚ (PortSt ℚ))
    (ins outs : List Nat) (h : runActs (Port.dev c) (start t0) as = .ok (s, ins, outs)) :
    s.dev.byteSize = heldBytes s :=
  (run_inv c as (start t0) s ins outs (init_inv c t0) h).bytes

/-- **Byte limit never exceeded**. -/
theorem occupancy_le_byte_limit (c : PortCfg ℚ) (hc : Plain c) (q : Int) (hq : c.qlimit = some q) (hb : c.limitBytes = true)
    (h0 : 0 ≤ q) (t0 : ℚ) (as : List (FAct ℚ)) (s : FState ℚ (PortSt ℚ)) (ins outs : List Nat)
    (h : runActs (Port.dev c) (start t0) as = .ok (s, ins, outs)) : heldBytes s ≤ q := by
  have hi := run_inv c as (start t0) s ins outs (init_inv c t0) h
  rw [← hi.bytes]; exact hi.limB q hc hb hq h0

/-- **Packet limit never exceeded**: at most `qlimit - 1` packets wait to start transmission (one place is
reserved for the packet in transmission). -/
theorem occupancy_le_packet_limit (c : PortCfg ℚ) (hc : Plain c) (q : Int) (hq : c.qlimit = some q)
    (hb : c.limitBytes = false) (t0 : ℚ) (as : List (FAct ℚ)) (s : FState ℚ (PortSt ℚ)) (ins outs : List Nat)
    (h : runActs (Port.dev c) (start t0) as = .ok (s, ins, outs)) : (s.items.length : Int) ≤ max (q - 1) 0 :=
  (run_inv c as (start t0) s ins outs (init_inv c t0) h).limP q hc hb hq

/-- **Byte limit: refused iff bytes held + size would exceed `qlimit`.** -/
theorem drop_iff_bytes (c : PortCfg ℚ) (hc : Plain c) (q : Int) (hq : c.qlimit = some q) (hb : c.limitBytes = true)
    (s : FState ℚ (PortSt ℚ)) (p : Pkt ℚ) :
    (∃ s', step (Port.dev c) s (.put p) = .ok (s', .dropped)) ↔ q < s.dev.byteSize + p.size := by
  rw [put_dropped_iff, dev_admit, admit_plain_iff c hc]
  simp only [tailDrop, hq, hb, if_true, decide_eq_true_eq]

/-- **Packet limit: refused iff `qlimit - 1` packets are already waiting.** -/
theorem drop_iff_packets (c : PortCfg ℚ) (hc : Plain c) (q : Int) (hq : c.qlimit = some q) (hb : c.limitBytes = false)
    (s : FState ℚ (PortSt ℚ)) (p : Pkt ℚ) :
    (∃ s', step (Port.dev c) s (.put p) = .ok (s', .dropped)) ↔ q - 1 ≤ (s.items.length : Int) := by
  rw [put_dropped_iff, dev_admit, admit_plain_iff c hc]
  simp only [tailDrop, hq, hb, Bool.false_eq_true, if_false, decide_eq_true_eq]

/-- **No limit: never refused.** -/
theorem never_drop_unlimited (c : PortCfg ℚ) (hc : Plain c) (hq : c.qlimit = none) (s : FState ℚ (PortSt ℚ)) (p : Pkt ℚ) :
    ∃ s', step (Port.dev c) s (.put p) = .ok (s', .accepted) := by
  rw [put_accepted_iff, dev_admit]
  have key := admit_plain_iff c hc s.dev s.now s.items.length p
  simp only [tailDrop, hq, Bool.false_eq_true, iff_false, Bool.not_eq_false] at key
  exact key

/-- **Counters**: every `put` counts as received; it counts as dropped iff it was refused. -/
theorem put_counters (c : PortCfg ℚ) (hc : Plain c) (s s' : FState ℚ (PortSt ℚ)) (p : Pkt ℚ) (o : FOut ℚ)
    (h : step (Port.dev c) s (.put p) = .ok (s', o)) :
    s'.dev.received = s.dev.received + 1 ∧
    ((o = .accepted ∧ s'.dev.dropped = s.dev.dropped) ∨ (o = .dropped ∧ s'.dev.dropped = s.dev.dropped + 1)) ∧
    s'.dev.stamps = s.dev.stamps + (if c.hasId then 1 else 0) := by
  have hr : c.red = none := hc
  have hd : (admitPlain c s.dev s.items.length p).1.received = s.dev.received + 1 ∧
      (admitPlain c s.dev s.items.length p).1.dropped =
        s.dev.dropped + (if (admitPlain c s.dev s.items.length p).2.1 then 0 else 1) ∧
      (admitPlain c s.dev s.items.length p).1.stamps = s.dev.stamps + (if c.hasId then 1 else 0) := by
    obtain ⟨_, _, _, h1, h2, h3⟩ := choice_frame (tailDrop c s.dev.byteSize s.items.length p.size = true)
      { s.dev with received := s.dev.received + 1, stamps := if c.hasId then s.dev.stamps + 1 else s.dev.stamps } p _ rfl
    refine ⟨h1, h2, h3.trans ?_⟩
    show (if c.hasId = true then _ else _) = _
    split <;> rfl
  simp only [Fifo.step, dev_admit, admitPkt, hr] at h
  split at h <;> rename_i hacc <;> cases h
  · rw [hacc] at hd
    exact ⟨hd.1, Or.inl ⟨rfl, hd.2.1⟩, hd.2.2⟩
  · rw [Bool.not_eq_true] at hacc
    rw [hacc] at hd
    exact ⟨hd.1, Or.inr ⟨rfl, hd.2.1⟩, hd.2.2⟩

/-- **Transmission takes exactly `8·size/rate`**: when the server takes a packet at `now` with `rate > 0` it
sleeps until exactly `now + 8·size/rate`; with `rate = 0` the packet leaves in that very burst. -/
theorem service_time_exact (c : PortCfg ℚ) (s s' : FState ℚ (PortSt ℚ)) (x y : ℚ) (o : FOut ℚ) (p : Pkt ℚ)
    (hp : s.handed = some p) (h : step (Port.dev c) s (.resume x y) = .ok (s', o)) :
    (0 < c.rate → o = .nothing ∧ s'.tx = some (p, s.now + (p.size * 8 : ℕ) / c.rate, 0)) ∧
    (¬ 0 < c.rate → o = .depart p ∧ s'.tx = none) := by
  rw [step_resume hp, dev_onResume, onResume, zero_eq'] at h
  constructor <;> intro hr
  · rw [if_pos hr] at h
    cases h
    exact ⟨rfl, rfl⟩
  · rw [if_neg hr] at h
    cases h
    exact ⟨rfl, issueGet_tx' _⟩

/-- **The packet leaves exactly when its transmission ends**: `fire` is accepted only at the due instant, and
the clock cannot pass it. -/
theorem departs_exactly_when_due (c : PortCfg ℚ) (s : FState ℚ (PortSt ℚ)) (p : Pkt ℚ) (due : ℚ) (k : Nat)
    (htx : s.tx = some (p, due, k)) :
    (∀ s' o, step (Port.dev c) s .fire = .ok (s', o) → s.now = due ∧ o = .depart p) ∧
    (∀ t s' o, step (Port.dev c) s (.tick t) = .ok (s', o) → t ≤ due) := by
  refine ⟨fun s' o h => ?_, (fire_due htx).2⟩
  obtain ⟨rfl, h⟩ := (fire_due htx).1 s' o h
  cases h
  exact ⟨rfl, rfl⟩

/-- **Work conserving**: the clock cannot advance while a packet is waiting and the server is idle
(hand-off pending) or has been handed a packet it has not started to transmit. -/
theorem never_idle_with_backlog (c : PortCfg ℚ) (s : FState ℚ (PortSt ℚ)) (t : ℚ)
    (h : s.handed.isSome ∨ (s.getPending = true ∧ s.items ≠ [])) :
    ∀ s' o, step (Port.dev c) s (.tick t) ≠ .ok (s', o) := by
  intro s' o hs
  have := (tick_ok_iff _ s t).mp ⟨s', o, hs⟩
  rcases h with h | h
  · rw [this.2.2.1] at h; simp at h
  · exact this.2.2.2.1 h

/-- **PortMonitor**: a sample with the packet in service included reports exactly the bytes held; without it,
the bytes held minus the packet in transmission. -/
theorem monitor_sample (c : PortCfg ℚ) (t0 : ℚ) (as : List (FAct ℚ)) (s : FState ℚ (PortSt ℚ))
    (ins outs : List Nat) (h : runActs (Port.dev c) (start t0) as = .ok (s, ins, outs)) :
    (monitorSample s true).2 = heldBytes s ∧
    (monitorSample s false).2 = heldBytes s - (match s.tx with | some (p, _, _) => (p.size : Int) | none => 0) ∧
    (monitorSample s false).1 = s.items.length ∧
    (monitorSample s true).1 = s.items.length + (if s.tx.isSome then 1 else 0) := by
  have hi := run_inv c as (start t0) s ins outs (init_inv c t0) h
  simp only [monitorSample, if_true, Bool.false_eq_true, if_false]
  refine ⟨hi.bytes, ?_, trivial, ?_⟩
  · rcases hi.busy with ⟨p, due, k, htx, _, hsz⟩ | ⟨htx, _, hsz⟩
    · rw [hi.bytes, htx, hsz]
    · rw [hi.bytes, htx, hsz]; simp
  · rcases hi.busy with ⟨p, due, k, htx, hb, _⟩ | ⟨htx, hb, _⟩
    · rw [htx, hb]; simp
    · rw [htx, hb]; simp

/-- **RED never drops while the average is below `min_threshold`** (and below `qlimit`). -/
theorem red_never_drops_below_min (q maxTh minTh maxP avg u : ℚ) (h1 : avg < minTh) (h2 : minTh ≤ maxTh) (h3 : avg < q) :
    redDrop q maxTh minTh maxP avg u = false := by
  unfold redDrop
  rw [if_neg (not_le.mpr h3), if_neg (not_le.mpr (lt_of_lt_of_le h1 h2)), if_neg (not_le.mpr h1)]

/-- **RED always drops at or above `qlimit`.** -/
theorem red_always_drops_at_limit (q maxTh minTh maxP avg u : ℚ) (h : q ≤ avg) :
    redDrop q maxTh minTh maxP avg u = true := by
  unfold redDrop; rw [if_pos h]

/-- **In between RED drops iff the uniform draw is at most the RED curve** `(avg − min)/(max − min)·max_p`
(capped at `max_p` from `max_threshold` on). -/
theorem red_between (q maxTh minTh maxP avg u : ℚ) (h0 : avg < q) :
    redDrop q maxTh minTh maxP avg u =
      if maxTh ≤ avg then decide (u ≤ maxP)
      else if minTh ≤ avg then decide (u ≤ (avg - minTh) / (maxTh - minTh) * maxP) else false := by
  unfold redDrop; rw [if_neg (not_le.mpr h0)]

/-- **RED's average is the exponentially weighted average** `avg·(1 − 2^{-w}) + q·2^{-w}`. -/
theorem red_avg_formula (avg cur : ℚ) (w : Nat) :
    redAvg avg cur w = avg * (1 - 1 / 2 ^ w) + cur * (1 / 2 ^ w) := by
  unfold redAvg
  simp only [Num.ofNat]
  push_cast
  rfl

/-! ### The source, re-translated on every run, *is* the model (bridge theorems)

`Generated/Port.lean` is rewritten by `py2lean` from the current `onl/netdev/port.py` / `red_port.py` before this file is
compiled.  The theorems below hold for every scalar type (exact rationals and IEEE doubles alike); the encoding of a model
configuration + state as the Python object is `GenPort.obj` / `GenPort.redObj` (counters `Nat ↦ int`, `busy : Bool ↦ 0/1`,
`qlimit : Option Int ↦ None/int`, the result "accepted" ↦ one more `self.store.put(packet)`). -/

/-- **`Port.put` as written in the source is the model's `admitPlain`**: for every configuration, state, number of waiting
packets and packet, running the translated method on the encoded object gives the encoded result of `Port.admitPlain`:
same counters, same byte count, a `perhop_time` stamp iff `element_id` is truthy, and `self.store.put(packet)` is called
iff the model accepts.  (A flipped comparison, `qlimit - 1` changed to `qlimit`, a dropped counter update or a missing
`store.put` in the source makes this fail to compile.) -/
theorem port_put_generated_eq_model {α : Type} [Num α] (c : PortCfg α) (d : PortSt α) (out : Bool)
    (puts outs waiting : Nat) (p : Pkt α) :
    Gen.Port.put (GenPort.obj c d out puts outs) waiting p.size =
      GenPort.obj c (admitPlain c d waiting p).1 out (puts + GenPort.acc (admitPlain c d waiting p)) outs := by
  rw [GenPort.put_tailDrop _ c waiting p.size rfl rfl]
  unfold Port.admitPlain GenPort.obj
  by_cases h : Port.tailDrop c d.byteSize waiting p.size = true
  · simp only [if_pos h]; rfl
  · simp only [if_neg h]; rfl

/-- **The body of `Port.run` as written in the source is the model's `onResume` / `txTime` / `onDone`**: the statements
between the `get` and the transmission `if` are `onResume`'s state update (`busy`, `busy_packet_size`); the `if` test is
`0 < rate` and the sleep is `txTime = 8·size/rate`, so `onResume` continues exactly as the source says; the statements after
it are `onDone` (`byte_size -= size`, `busy` reset) plus one `self.out.put(packet)`.  (Stated over exact rationals: writing
`8.0` for `8` in the source does not matter, another factor does.) -/
theorem port_run_generated_eq_model (c : PortCfg ℚ) (d : PortSt ℚ) (out : Bool)
    (puts outs : Nat) (now x y : ℚ) (p : Pkt ℚ) :
    Gen.Port.run_start (GenPort.obj c d out puts outs) p.size = GenPort.obj c (onResume c d now x y p).1 out puts outs ∧
    Gen.Port.run_tx_guard (GenPort.obj c d out puts outs) = decide (Num.zero < c.rate) ∧
    Gen.Port.run_tx_delay (GenPort.obj c d out puts outs) p.size = txTime c p ∧
    (onResume c d now x y p).2.2 =
      (if Gen.Port.run_tx_guard (GenPort.obj c d out puts outs) = true
       then Next.wait (Gen.Port.run_tx_delay (GenPort.obj c d out puts outs) p.size) else Next.emit) ∧
    Gen.Port.run_done (GenPort.obj c d true puts outs) p.size = GenPort.obj c (onDone d p) true puts (outs + 1) := by
  have hg : Gen.Port.run_tx_guard (GenPort.obj c d out puts outs) = decide (Num.zero < c.rate) := rfl
  have hd : Gen.Port.run_tx_delay (GenPort.obj c d out puts outs) p.size = txTime c p := by
    unfold Gen.Port.run_tx_delay Port.txTime GenPort.obj
    simp only [Num.ofInt_rat, Num.ofNat_rat']
    push_cast
    ring
  refine ⟨?_, hg, hd, ?_, ?_⟩
  · have h : (Port.onResume c d now x y p).1 = { d with busy := true, busySize := p.size } := by
      unfold Port.onResume; split <;> rfl
    rw [h]
    simp [Gen.Port.run_start, GenPort.obj]
  · rw [hg, hd]
    unfold Port.onResume
    split <;> simp_all
  · unfold Gen.Port.run_done Port.onDone GenPort.obj
    simp only [if_true, Bool.false_eq_true, if_false]
    rfl

/-- **`REDPort.put` as written in the source is the model's `admitRed`** (hence `redAvg`, `redDrop`): for a RED port with
`qlimit = q ≥ 0` and a non-negative byte count (an invariant, `byte_occupancy_eq_held`), running the translated method with
the uniform draw `p.draw` gives the encoded result of `Port.admitRed`: the new average is `redAvg`, the packet is dropped
iff `redDrop` says so, and `self.store.put(packet)` is called iff it is not.  (Over exact rationals; the decision tree after
the average update is proved equal for every scalar type, `GenPort.red_decide_eq`.) -/
theorem red_put_generated_eq_model (c : PortCfg ℚ) (red : ℚ × ℚ × ℚ × Nat) (q : Int) (d : PortSt ℚ)
    (puts waiting : Nat) (p : Pkt ℚ) (hq : c.qlimit = some q) (h0 : 0 ≤ q) (hb : 0 ≤ d.byteSize) :
    Gen.REDPort.put (GenPort.redObj c red q d puts) waiting p.size p.draw =
      GenPort.redObj c red q (admitRed c red d waiting p).1 (puts + GenPort.acc (admitRed c red d waiting p)) := by
  rw [GenPort.red_split, GenPort.red_average_eq c red q d puts waiting hb, GenPort.red_decide_eq c red q _ puts p hq h0]
  rfl

/-- the translated `Port.put` on a concrete object: limit 2 packets, one waiting → dropped, no `store.put` -/
example : (Gen.Port.put (GenPort.obj (α := ℚ) { rate := 8, qlimit := some 2, limitBytes := false, hasId := true }
      { byteSize := 10, received := 1, busy := true, busySize := 10, avg := 0, stamps := 1 } true 1 0) 1 10).packets_dropped = 1 := by
  decide +kernel

/-- what a run ended with: accepted ids, departed ids, drop counter -/
def summary (r : Except String (FState ℚ (PortSt ℚ) × List Nat × List Nat)) : Option (List Nat × List Nat × Nat) :=
  match r with
  | .ok (s, ins, outs) => some (ins, outs, s.dev.dropped)
  | .error _ => none

/-- a concrete admissible run: three arrivals on a 2-packet-limit port; only the first is accepted (one place
is reserved for the packet in transmission) and it departs at t = 10 -/
example : summary (runActs (Port.dev { rate := 8, qlimit := some 2, limitBytes := false, hasId := true })
    (start 0) [.init, .put ⟨1, 0, 10, 0, 0, 0⟩, .put ⟨2, 0, 10, 0, 0, 0⟩, .put ⟨3, 0, 10, 0, 0, 0⟩, .handoff,
      .resume 0 0, .tick 10, .fire]) = some ([1], [1], 2) := by
  decide +kernel

/-! ### the Port as a process on the kernel model `K`

`OnlVerif/Net/PortOnK.lean` writes `Port.run` and a packet source as a program of the kernel model; `Props/C09K.lean`
proves that every kernel run of that program is an admissible run of the LTS above (no admissibility assumption) and
satisfies the departure recurrence.  The headline statements are restated here so that the axiom audit of this file
covers them, and three theorems of this file are transferred to kernel runs through the refinement. -/

/-- **The departure recurrence holds for the Port as a kernel process** (no queue limit, every `rate`, every finite
workload with non-negative gaps, bursts and arrivals at departure instants included): `run()` of the kernel model
returns with an empty agenda within `4·n + 4` steps and the `out.put` observations are exactly
`(id_k, max(a_k, d_{k-1}) + 8·size_k/rate)` in arrival order (`+ 0` instead of `8·size_k/rate` when `rate ≤ 0`). -/
theorem port_on_kernel_departures (size : Int → Nat) (rate : ℚ) (arrivals : List (ℚ × Int))
    (hg : ∀ x ∈ arrivals, 0 ≤ x.1) (fuel n : Nat) (hn : 4 * arrivals.length + 4 ≤ n) :
    ∃ sF, runAll (PortOnK.body size rate none) (fuel + 1) n (PortOnK.initState arrivals) = .returned .none sF ∧
      sF.agenda = [] ∧ PortOnK.outsOf sF.trace = PortOnK.departures size rate none 0 arrivals :=
  C09K.port_on_kernel_departures size rate arrivals hg fuel n hn

/-- **The Port process on the kernel model refines this LTS** (with or without a byte limit `ql`): every kernel state
reachable from the initial state is the image (under the abstraction function `PortOnK.absPort`) of an action sequence
this LTS accepts from `start 0`, with the `out.put` observations departed; accepted plus dropped packets account for
`packets_received`, and without a limit the accepted packets are the first `packets_received` arrivals. -/
theorem port_on_kernel_refines_lts (size : Int → Nat) (rate : ℚ) (ql : Option Int) (arrivals : List (ℚ × Int))
    (hg : ∀ x ∈ arrivals, 0 ≤ x.1) (fuel : Nat) (s : KState ℚ (PSt ℚ))
    (hreach : KReach (PortOnK.body size rate ql) (fuel + 1) (PortOnK.initState arrivals) s) :
    ∃ acts ins, runActs (Port.dev (PortOnK.cfg rate ql)) (start 0) acts =
        .ok (PortOnK.absPort size s, ins, (PortOnK.outsOf s.trace).map (·.1.toNat)) ∧
      ins.length + (PortOnK.cellInt s PortOnK.cDropped).toNat = (PortOnK.cellInt s PortOnK.cReceived).toNat ∧
      (ql = none →
        ins = ((arrivals.take (PortOnK.cellInt s PortOnK.cReceived).toNat).map (·.2)).map Int.toNat) :=
  C09K.port_on_kernel_refines_lts size rate ql arrivals hg fuel s hreach

/-- **`fifo_and_conservation` transferred to kernel runs**: at every reachable kernel state, the packets `put` has
accepted are, in order, the packets logged by `out.put` followed by the packets the port still holds. -/
theorem kernel_run_fifo_and_conservation (size : Int → Nat) (rate : ℚ) (ql : Option Int) (arrivals : List (ℚ × Int))
    (hg : ∀ x ∈ arrivals, 0 ≤ x.1) (fuel : Nat) (s : KState ℚ (PSt ℚ))
    (hreach : KReach (PortOnK.body size rate ql) (fuel + 1) (PortOnK.initState arrivals) s) :
    ∃ ins, ins = (PortOnK.outsOf s.trace).map (·.1.toNat) ++ held (PortOnK.absPort size s) ∧
      ins.length + (PortOnK.cellInt s PortOnK.cDropped).toNat = (PortOnK.cellInt s PortOnK.cReceived).toNat ∧
      (ql = none →
        ins = ((arrivals.take (PortOnK.cellInt s PortOnK.cReceived).toNat).map (·.2)).map Int.toNat) := by
  obtain ⟨acts, ins, h, h2, h3⟩ := port_on_kernel_refines_lts size rate ql arrivals hg fuel s hreach
  exact ⟨ins, fifo_and_conservation _ 0 acts _ _ _ h, h2, h3⟩

/-- **`byte_occupancy_eq_held` transferred to kernel runs**: the LTS state a reachable kernel state stands for
advertises exactly the bytes it holds (its `byteSize` is the attribute cell `byte_size` of the kernel state). -/
theorem kernel_run_byte_occupancy_eq_held (size : Int → Nat) (rate : ℚ) (ql : Option Int) (arrivals : List (ℚ × Int))
    (hg : ∀ x ∈ arrivals, 0 ≤ x.1) (fuel : Nat) (s : KState ℚ (PSt ℚ))
    (hreach : KReach (PortOnK.body size rate ql) (fuel + 1) (PortOnK.initState arrivals) s) :
    (PortOnK.absPort size s).dev.byteSize = heldBytes (PortOnK.absPort size s) ∧
      (PortOnK.absPort size s).dev.byteSize = PortOnK.cellInt s PortOnK.cByteSize := by
  obtain ⟨acts, ins, h, -, -⟩ := port_on_kernel_refines_lts size rate ql arrivals hg fuel s hreach
  exact ⟨byte_occupancy_eq_held _ 0 acts _ _ _ h, by rw [PortK.absPort_dev]; rfl⟩

/-- **`occupancy_le_byte_limit` transferred to kernel runs**: with a byte limit `l ≥ 0`, `byte_size` never exceeds
it at any reachable kernel state. -/
theorem kernel_run_occupancy_le_byte_limit (size : Int → Nat) (rate : ℚ) (l : Int) (hl : 0 ≤ l)
    (arrivals : List (ℚ × Int)) (hg : ∀ x ∈ arrivals, 0 ≤ x.1) (fuel : Nat) (s : KState ℚ (PSt ℚ))
    (hreach : KReach (PortOnK.body size rate (some l)) (fuel + 1) (PortOnK.initState arrivals) s) :
    PortOnK.cellInt s PortOnK.cByteSize ≤ l := by
  obtain ⟨acts, ins, h, -, -⟩ := port_on_kernel_refines_lts size rate (some l) arrivals hg fuel s hreach
  have h1 := occupancy_le_byte_limit (PortOnK.cfg rate (some l)) rfl l rfl rfl hl 0 acts _ _ _ h
  have h2 := byte_occupancy_eq_held _ 0 acts _ _ _ h
  rw [← h2, PortK.absPort_dev] at h1
  exact h1

end C09
