import OnlVerif.Lemmas.KernelStep
import OnlVerif.Lemmas.KAccess
import OnlVerif.Lemmas.SplitStep
import OnlVerif.Lemmas.SplitDemo
import OnlVerif.Lemmas.SplitScript
import OnlVerif.Lemmas.SplitFuel
import OnlVerif.Lemmas.SplitPlanMain
import OnlVerif.Lemmas.SplitPlanDemo
import OnlVerif.Lemmas.SplitWFDec
import OnlVerif.Props.C01
/-!
# C03 — runs are reproducible and unaffected by where they are stopped and resumed

Model: `Environment.run(until=…)`, `Environment.step` in `OnlVerif/Kernel/Step.lean` (`runLoop`, `runUntilTime`,
`runUntilEvent`, the deferred `StopSimulation` in the callback loop).

Determinism needs no theorem: the model is a function of the program and the initial state, there is no wall
clock, no hash order and no object identity in it — `run_deterministic` records that.  Hash-seed independence of
the *implementation* is sampled by the correspondence check (fresh interpreters), not proved.

Split transparency — cutting a run into `step()`, `run(until=event)` and `run(until=number)` pieces yields the trace
of the uninterrupted run — is proved in three stages (sections below; helper lemmas in `Lemmas/Split*.lean`):
1. `step()` splits: `step_split_transparent`, `step_plan_transparent`, `run_budget_split`, `steps_then_run`;
2. `run(until=event)`: `until_event_split_transparent` (the run returns in *exactly* a state of the uninterrupted run),
   with the simulation lemma `until_event_sim_step`, the lockstep `until_event_lockstep`, and stale stops;
3. `run(until=number)`: `until_time_split_transparent_partial` (a simulation up to the renaming of the event ids
   allocated after the sentinel; under well-scopedness hypotheses listed there), and `until_time_split_transparent`, in
   which those hypotheses are discharged for every reachable state by the well-scopedness invariant `WS`
   (section "Well-scoped states");
4. the three stages chained: `split_plan_transparent` / `split_plan_observations` for whole split plans
   (`List` of `step n | untilEvent e | untilTime t`), any number of numeric stops.
The comment at the end says exactly what remains open.  The correspondence check compares split and uninterrupted runs of
the implementation with each other and with the model on generated split plans.
-/

namespace C03
variable {σ : Type}

/-- the model is a function: same program, same initial state, same result -/
theorem run_deterministic (body : σ → Resume → Burst ℚ σ) (fuel n : Nat) (s1 s2 : KState ℚ σ) (h : s1 = s2) :
    runAll body fuel n s1 = runAll body fuel n s2 := by rw [h]

/-- **`run(until=t)` with `t <= now` is refused with `ValueError` and changes nothing.** -/
theorem until_time_refused (body : σ → Resume → Burst ℚ σ) (fuel n : Nat) (t : ℚ) (s : KState ℚ σ) (h : t ≤ s.now) :
    runUntilTime body fuel n t s = .raised (valueErr "until must be > the current simulation time") s := by
  unfold runUntilTime; rw [if_pos h]

/-- **`run(until=t)` with `t > now` plants its stop exactly at `t`, URGENT**, in front of every entry queued before,
and then only steps: it never touches the state in any other way. -/
theorem until_time_plants_sentinel (body : σ → Resume → Burst ℚ σ) (fuel n : Nat) (t : ℚ) (s : KState ℚ σ)
    (h : s.now < t) :
    ∃ s1 : KState ℚ σ, runUntilTime body fuel n t s = runLoop body fuel (some s.events.size) n s1 ∧
      s1.agenda = { time := t, prio := URGENT, eid := s.eid, ev := s.events.size } :: s.agenda ∧
      s1.now = s.now ∧ (s1.ev s.events.size).cbs = some [.stop] ∧ (s1.ev s.events.size).out = some (.ok .none) :=
  ⟨SplitCfg.plant t s, SplitCfg.runUntilTime_eq body fuel n t s h, C01.sentinel_due s t _, rfl,
    by rw [SplitPlan.ev_plant], by rw [SplitPlan.ev_plant]⟩

/-- **`run(until=event)` on an already processed event returns its value at once, without stepping.** -/
theorem until_event_processed_immediate (body : σ → Resume → Burst ℚ σ) (fuel n : Nat) (e : EvId) (v : Val)
    (s : KState ℚ σ) (hp : s.processed e = true) (hv : (s.ev e).out = some (.ok v)) :
    runUntilEvent body fuel n e s = .returned v s := by
  unfold runUntilEvent; rw [if_pos hp, hv]

/-- **`run(until=event)` only appends its stop to the event's callbacks and then steps.** -/
theorem until_event_registers_stop (body : σ → Resume → Burst ℚ σ) (fuel n : Nat) (e : EvId) (s : KState ℚ σ)
    (hp : s.processed e = false) :
    runUntilEvent body fuel n e s = runLoop body fuel (some e) n (s.addCb e .stop) := by
  unfold runUntilEvent; simp [hp]

/-- **The stop is deferred to the end of the callback loop**: a `StopSimulation` raised by the until-callback does not
cut the loop short — it only records the event's outcome; the state is untouched and the loop goes on. -/
theorem stop_is_deferred (body : σ → Resume → Burst ℚ σ) (fuel : Nat) (e : EvId) (l : LoopSt ℚ σ) (o : Outcome)
    (hv : (l.s.ev e).out = some o) :
    (runCb body fuel e l .stop).s = l.s ∧ (runCb body fuel e l .stop).stop = some o := by
  unfold runCb
  simp only [hv, Option.getD_some, and_self]

theorem stopped_after_whole_loop (l : LoopSt ℚ σ) (e : EvId) (o : Outcome) (hs : l.stop = some o) :
    closeEvent l e = .stopped o l.s := by
  unfold closeEvent; simp only [hs]

/-- **A stop never loses a process**: whether or not a stop has been recorded, every remaining callback of the event
still runs — `runCb` has no early exit at all (no callback of the model raises out of the loop). -/
theorem callbacks_after_stop_still_run (body : σ → Resume → Burst ℚ σ) (fuel : Nat) (e p : EvId) (l : LoopSt ℚ σ) :
    (runCb body fuel e l (.resume p)).s = resume body p fuel e l.s ∧ (runCb body fuel e l (.resume p)).stop = l.stop := by
  unfold runCb
  exact ⟨rfl, rfl⟩

/-- **`run()` returns exactly the value carried by the stop** (`until.value`), in the state in which `step` stopped;
for a failed until-event it raises that event's exception, in that same state. -/
theorem run_returns_stop_value (body : σ → Resume → Burst ℚ σ) (fuel n : Nat) (e : EvId) (s s' : KState ℚ σ) (v w : Val)
    (h : step body fuel s = .stopped (.ok v) s') (hok : (s'.ev e).out = some (.ok w)) :
    runLoop body fuel (some e) (n + 1) s = .returned v s' := by
  simp only [runLoop, h, onStop, Option.bind_some, hok]


/-! ## Split transparency, stage 1: `step()` splits

The observation trace is the field `KState.trace` of the state, so every equation between results below is in
particular an equation between traces. -/

/-- **`n + m` calls of `step()` are `n` calls followed by `m` calls from the state reached** — same state, same trace,
same way of ending (a stop, an exception or an empty agenda in the first piece ends the whole sequence there). -/
theorem step_split_transparent (body : σ → Resume → Burst ℚ σ) (fuel n m : Nat) (s : KState ℚ σ) :
    stepN body fuel (n + m) s = (stepN body fuel n s).andThen (stepN body fuel m) :=
  stepN_add body fuel n m s

/-- **Any split plan of `step()` budgets is the single uninterrupted sequence of the same total length**: the pieces,
run one after the other, end in the state (and so with the trace) of `plan.sum` consecutive `step()` calls. -/
theorem step_plan_transparent (body : σ → Resume → Burst ℚ σ) (fuel : Nat) (plan : List Nat) (s : KState ℚ σ) :
    stepPlan body fuel plan s = stepN body fuel plan.sum s :=
  stepPlan_eq body fuel plan s

/-- **Two pieces that both returned normally compose to the uninterrupted piece, trace included.** -/
theorem step_split_trace (body : σ → Resume → Burst ℚ σ) (fuel n m : Nat) (s s1 s2 : KState ℚ σ)
    (h1 : stepN body fuel n s = .ok s1) (h2 : stepN body fuel m s1 = .ok s2) :
    stepN body fuel (n + m) s = .ok s2 ∧
      ∀ s', stepN body fuel (n + m) s = .ok s' → s'.trace = s2.trace := by
  have h := (stepN_add_ok body fuel n m s s1 h1).trans h2
  refine ⟨h, ?_⟩
  intro s' hs'
  rw [h] at hs'
  cases hs'
  rfl

/-- **The loop of `run` with step budget `n + m` is the loop with budget `n`, continued with budget `m` from the state
in which the budget ran out**; a loop that ended (return, exception) within the first `n` steps is not continued. -/
theorem run_budget_split (body : σ → Resume → Burst ℚ σ) (fuel : Nat) (u : Option EvId) (n m : Nat) (s : KState ℚ σ) :
    runLoop body fuel u (n + m) s = (runLoop body fuel u n s).andThen (runLoop body fuel u m) :=
  runLoop_add body fuel u n m s

/-- **`k` calls of `step()` followed by `run(...)` are that `run(...)` started `k` steps earlier**: a loop that runs out
of budget after `k` steps did exactly the `k` calls of `step()`, and conversely the loop continues from the state the
`k` calls reached. -/
theorem steps_then_run (body : σ → Resume → Burst ℚ σ) (fuel : Nat) (u : Option EvId) (k n : Nat) (s s1 : KState ℚ σ)
    (h : stepN body fuel k s = .ok s1) :
    runLoop body fuel u k s = .outOfFuel s1 ∧ runLoop body fuel u (k + n) s = runLoop body fuel u n s1 :=
  ⟨(runLoop_outOfFuel_iff body fuel u k s s1).mpr h, runLoop_of_stepN_ok body fuel u k n s s1 h⟩

/-! ## Split transparency, stage 2: `run(until=event)` splits

`run(until=e)` changes the state in one way only: it appends `Cb.stop` (`StopSimulation.callback`) to the callback list of
`e`.  `KState.stripBy P` erases the stops of the events selected by `P` (`KState.strip`: of all events);
`StopEq P s1 s2` := `s1.stripBy P = s2.stripBy P` ("equal except for stops on `P`-events");
`StopFree P s` := `s.stripBy P = s` ("no `P`-event carries a stop", `StopFree.iff`); `AllStopFree` := `StopFree (fun _ => true)`.
`Lemmas/SplitStrip*.lean` prove, function by function (all 18 API calls, bursts of every program, `_resume`, interrupt
delivery, conditions, resource scans, the callback loop), that the erasure commutes with the model:
`f (s.stripBy P) = (f s).stripBy P`, every reply / flag / branch condition being the same. -/

/-- **The simulation lemma (one kernel step).**  If `s2` is the stop-free state `s1` plus `StopSimulation` callbacks (on
events selected by `P`, at arbitrary positions of their callback lists) and `s1` does a normal step to `s1'`, then `s2`
does the same step — it ends normally or with `StopSimulation` — to a state that is again `s1'` plus stop callbacks:
every process resumed by the one is resumed by the other, in the same order, with the same values. -/
theorem until_event_sim_step (body : σ → Resume → Burst ℚ σ) (fuel : Nat) (P : EvId → Bool) (s1 s2 s1' : KState ℚ σ)
    (hf : StopFree P s1) (heq : StopEq P s1 s2) (h : step body fuel s1 = .ok s1') :
    ∃ s2', (step body fuel s2 = .ok s2' ∨ ∃ o, step body fuel s2 = .stopped o s2') ∧ StopEq P s1' s2' ∧ StopFree P s1' :=
  step_sim body fuel P s1 s2 s1' hf heq h

/-- **Erasing stops commutes with a step, however the step ends** (normally, with `StopSimulation`, with an exception):
the step from the erased state ends in the erasure of the state the step with the stops ends in.  In particular both
steps append the same observations to the trace. -/
theorem stop_erasure_commutes_with_step (body : σ → Resume → Burst ℚ σ) (fuel : Nat) (P : EvId → Bool) (s s' : KState ℚ σ)
    (h : (step body fuel s).st? = some s') :
    (step body fuel (s.stripBy P)).st? = some (s'.stripBy P) ∧ (s'.stripBy P).trace = s'.trace :=
  ⟨step_stripBy_st P body fuel s s' h, rfl⟩

/-- **A step ends with `StopSimulation` exactly when the callback list of the event it processes holds a stop.** -/
theorem step_stops_iff_stop_registered (body : σ → Resume → Burst ℚ σ) (fuel : Nat) (s : KState ℚ σ) :
    (∃ o s', step body fuel s = .stopped o s') ↔ ∃ q rest, popMin s.agenda = some (q, rest) ∧ s.hasStop q.ev = true :=
  step_stopped_iff body fuel s

/-- **The model never registers a stop**: a state in which no `P`-event carries a stop steps to such a state. -/
theorem stop_free_preserved (body : σ → Resume → Burst ℚ σ) (fuel : Nat) (P : EvId → Bool) (s s' : KState ℚ σ)
    (hf : StopFree P s) (h : (step body fuel s).st? = some s') : StopFree P s' :=
  step_stopFree P body fuel s s' hf h

/-- **While `run(until=e)` is running it is in lockstep with the uninterrupted run**: after `k` of its steps the state is
the state of `k` uninterrupted steps plus stop callbacks, and those sit on `e` only. -/
theorem until_event_lockstep (body : σ → Resume → Burst ℚ σ) (fuel k : Nat) (e : EvId) (s s2 : KState ℚ σ)
    (hf : AllStopFree s) (h : stepN body fuel k (s.addCb e .stop) = .ok s2) :
    stepN body fuel k s = .ok s2.strip ∧ s2.strip.trace = s2.trace ∧ StopFree (fun i => i != e) s2 :=
  ⟨(runUntilEvent_lockstep body fuel k e s s2 hf h).1, rfl, (runUntilEvent_lockstep body fuel k e s s2 hf h).2⟩

/-- **`run(until=event)` is transparent.**  From a state without stale stops, for an event `e` that is not processed yet:
if `run(until=e)` returns (value `v`, state `s'`), then `s'` is *exactly* the state that `k + 1` uninterrupted `step()`
calls reach, for some `k + 1 ≤` the step budget — same event table, agenda, clock, processes, resources and **the same
trace**: no process was lost, duplicated or reordered by the stop.  `s'` carries no stop callback any more (`e` is
processed), so every continuation — more `step()`s, any `run(...)` — continues the uninterrupted run. -/
theorem until_event_split_transparent (body : σ → Resume → Burst ℚ σ) (fuel n : Nat) (e : EvId) (s s' : KState ℚ σ) (v : Val)
    (hf : AllStopFree s) (hp : s.processed e = false) (h : runUntilEvent body fuel n e s = .returned v s') :
    ∃ k, k < n ∧ stepN body fuel (k + 1) s = .ok s' ∧ AllStopFree s' ∧
      (∀ m, stepN body fuel (k + 1 + m) s = stepN body fuel m s') ∧
      (∀ u m, runLoop body fuel u (k + 1 + m) s = runLoop body fuel u m s') := by
  obtain ⟨k, hk, h1, h2⟩ := runUntilEvent_transparent body fuel n e s s' v hf hp h
  exact ⟨k, hk, h1, h2, fun m => stepN_add_ok body fuel (k + 1) m s s' h1,
    fun u m => runLoop_of_stepN_ok body fuel u (k + 1) m s s' h1⟩

/-- the hypotheses of `until_event_split_transparent` are satisfiable: in the two-process program of
`Lemmas/SplitDemo.lean`, after `step(); step()`, `run(until=ev)` returns 7 — hence (by the theorem) in a state of the
uninterrupted run -/
example : ∃ k, k < 20 ∧ stepN SplitDemo.body 3 (k + 1) SplitDemo.s2 = .ok SplitDemo.s5 :=
  let ⟨k, hk, h, _⟩ := until_event_split_transparent SplitDemo.body 3 20 SplitDemo.ev SplitDemo.s2 SplitDemo.s5 (.int 7)
    SplitDemo.s2_stopFree SplitDemo.ev_pending SplitDemo.r5_returned
  ⟨k, hk, h⟩

/-- computed by the model: the whole split plan `step(); step(); run(until=ev); run(until=6); run()` leaves the trace
(13 observations) of the single `run()` -/
example : (SplitDemo.RunResult.st SplitDemo.r9).trace = (SplitDemo.RunResult.st SplitDemo.rAll).trace ∧
    (SplitDemo.RunResult.st SplitDemo.rAll).trace.size = 13 := ⟨SplitDemo.split_trace_eq, SplitDemo.trace_size⟩

/-- **A stale stop is harmless for `step()` calls**: a stop callback left behind on some event by an earlier `run(until=…)`
that ended otherwise (an exception, an empty agenda) does not change what any number of normally returning `step()`
calls do: same states up to the stops, same trace. -/
theorem stale_stop_harmless_for_steps (body : σ → Resume → Burst ℚ σ) (fuel k : Nat) (s s' : KState ℚ σ)
    (h : stepN body fuel k s = .ok s') : stepN body fuel k s.strip = .ok s'.strip ∧ s'.strip.trace = s'.trace :=
  ⟨stepN_stripBy_ok _ body fuel k s s' h, rfl⟩

/-- **… but it ends a later `run` early** (as in the implementation, where the callback raises `StopSimulation` out of
`step()` whoever is running the loop): when the event carrying the stale stop is processed, a `run(until=u)` returns the
*stale* event's value — or raises the exception of its own until-event if that has failed (`onStop`) —, in a state that is
still a state of the uninterrupted run up to stops. -/
theorem stale_stop_ends_later_run (body : σ → Resume → Burst ℚ σ) (fuel n : Nat) (u : Option EvId) (s s' : KState ℚ σ)
    (o : Outcome) (h : step body fuel s = .stopped o s') :
    runLoop body fuel u (n + 1) s = onStop u o s' ∧ (step body fuel s.strip).st? = some s'.strip :=
  ⟨by simp only [runLoop, h], step_stripBy_st _ body fuel s s' (by rw [h]; rfl)⟩

/-- a stale stop on `ev` (as an aborted `run(until=ev)` leaves it) makes a plain `run()` return 7 at time 2 -/
example : SplitDemo.RunResult.val? (runAll SplitDemo.body 3 20 (SplitDemo.s2.addCb SplitDemo.ev .stop)) = some (.int 7) ∧
    (SplitDemo.RunResult.st (runAll SplitDemo.body 3 20 (SplitDemo.s2.addCb SplitDemo.ev .stop))).now = 2 := by
  decide +kernel

/-- **`run(until=e)` that ends with an exception has also followed the uninterrupted run** (a crashing callback, an
empty agenda, a failed until-event): `k` normal steps in lockstep, then a step that ends in the same state up to stops,
or an empty agenda in the same state. -/
theorem until_event_split_raised (body : σ → Resume → Burst ℚ σ) (fuel n : Nat) (e : EvId) (s s' : KState ℚ σ) (x : Exc)
    (hf : AllStopFree s) (hp : s.processed e = false) (h : runUntilEvent body fuel n e s = .raised x s') :
    ∃ k s1, k < n ∧ stepN body fuel k s = .ok s1 ∧
      ((step body fuel s1).st? = some s'.strip ∨ (step body fuel s1 = .empty ∧ s1 = s'.strip)) :=
  runUntilEvent_raised body fuel n e s s' x hf hp h

/-! ## Split transparency, stage 3: `run(until=number)` splits

The sentinel is a fresh event record at index `u = events.size`: every event allocated afterwards has, in the split run,
the id it has in the uninterrupted run plus one.  `c : SplitCfg σ` records a split (`c.u`, the sentinel's `eid` `c.eid0`,
the time `c.t`, and `c.rσ`, the renaming of ids kept in local process states); `c.ρ = shAt c.u` is the order-preserving
renaming; `c.T queued s` is the state of the split run that corresponds to the state `s` of the uninterrupted run (one
extra record at `c.u`, all ids renamed — in callback lists, kinds, process table, agenda, request data, values, resource
queues, shared slots and trace —, `eid` counter and later `eid`s one ahead, and, while `queued`, the agenda entry
`(c.t, URGENT, c.eid0, c.u)` at its insertion-stable position).  `Lemmas/SplitSent*.lean` prove, function by function
(all 18 API calls, bursts, `_resume`, interrupts, conditions, resource scans, the callback loop), that `c.T queued`
commutes with the model on states after the split.  Hypotheses of the theorems:

* `BodySim c.ρ c.rσ body` — the program treats event ids as opaque tokens: renaming the ids in its local state and in what
  it is resumed with renames the ids in the calls it makes (and nothing else).  True of every Python generator (ids are
  not observable there); it excludes model programs that compute with ids (`succeed (e + 1)`).
* `c.Closed s` — the state at the split is well-scoped: it mentions no id `≥ events.size` and no `eid ≥ s.eid`.
* `SortedAg s` — the agenda list is newest-first (`eid`s decreasing, below the counter); kept by every step.
* `c.FuelAlong body fuel s` — `Condition._build_value` of a condition with id `cd` recurses with fuel `cd + 1`; in the split
  run that is `cd + 2` for conditions created after the split; the hypothesis says one more unit changes nothing, in the
  states of the uninterrupted run in which a `_build_value` runs.  It follows from two state invariants at step
  boundaries (`fuel_hypothesis_of_wellformed`: operands are older than their condition, `CondWF`, and `_build_value`
  callbacks belong to allocated conditions, `BuildAlloc`); it is vacuous for conditions created before the split
  (`FuelOK_of_lt`) and when no `_build_value` is pending (`stepFuelOK_of_noBuild`). -/

/-- **The step that pops the sentinel does nothing else**: it advances the clock to `t`, marks the sentinel record processed
and raises `StopSimulation(None)`; the state it leaves, `c.afterSentinel s`, is the uninterrupted state `s` up to the
renaming, plus the dead sentinel record, with the clock at `t`. -/
theorem sentinel_pop_only_stops (c : SplitCfg σ) (body : σ → Resume → Burst ℚ σ) (fuel : Nat) (s : KState ℚ σ) (h : c.Inv s)
    (hp : popMin (c.T true s).agenda = some (c.sentEntry, s.agenda.map c.rnEntry)) :
    step body fuel (c.T true s) = .stopped (.ok .none) (c.afterSentinel s) ∧
      (c.afterSentinel s).now = c.t ∧ (c.afterSentinel s).trace = s.trace.map (rnObs c.ρ) ∧
      (c.afterSentinel s).agenda = s.agenda.map c.rnEntry ∧ (c.afterSentinel s).ev c.u = SplitCfg.deadRec false :=
  ⟨c.step_sentinel s body fuel h hp, rfl, rfl, rfl, c.ev_T_u false s h⟩

/-- **One step while the sentinel is queued**: the split run pops the (renamed) entry the uninterrupted run pops and does
the (renamed) step — unless the sentinel's key `(t, URGENT, eid0)` is smaller, then it pops the sentinel. -/
theorem sentinel_queued_step (c : SplitCfg σ) (body : σ → Resume → Burst ℚ σ) (hB : BodySim c.ρ c.rσ body) (fuel : Nat)
    (s : KState ℚ σ) (h : c.Inv s) (hs : SortedAg s) (hf : c.stepFuelOK body fuel s) :
    step body fuel (c.T true s) =
      match popMin s.agenda with
      | none => .stopped (.ok .none) (c.afterSentinel s)
      | some (m, _) =>
        if (c.rnEntry m).lt c.sentEntry then c.mapT true (step body fuel s)
        else .stopped (.ok .none) (c.afterSentinel s) :=
  c.step_T_true_run body fuel s h hs hf (c.simStep_of_bodySim body hB fuel s)

/-- **One step after the sentinel is gone**: the split run does exactly the renamed step of the uninterrupted run, however
it ends. -/
theorem sentinel_gone_step (c : SplitCfg σ) (body : σ → Resume → Burst ℚ σ) (hB : BodySim c.ρ c.rσ body) (fuel : Nat)
    (s : KState ℚ σ) (h : c.Inv s) (hf : c.stepFuelOK body fuel s) :
    step body fuel (c.T false s) = c.mapT false (step body fuel s) :=
  c.step_T_false_run body fuel s h hf (c.simStep_of_bodySim body hB fuel s)

/-- **`run(until=t)` is transparent up to the renaming of event ids** (partial: under the four hypotheses listed above).
If `run(until=t)` returns from a well-scoped, stop-free state `s` with `now < t`, it returns `None` in the state
`c.afterSentinel sk` where `sk` is the state the uninterrupted run reaches after some `k <` budget normal steps: **the
trace of the split run is the trace of the uninterrupted run with the ids renamed**; the clock is `t`; the returned state
carries no stop; every entry processed was due before the sentinel's key `(t, URGENT, eid0)` — strictly before `t`, or
at `t` itself, URGENT and queued before the sentinel —, and the next entry of the uninterrupted run (if any) is not. -/
theorem until_time_split_transparent_partial (c : SplitCfg σ) (body : σ → Resume → Burst ℚ σ) (fuel n : Nat)
    (s s' : KState ℚ σ) (v : Val)
    (hu : c.u = s.events.size) (he : c.eid0 = s.eid) (hlt : s.now < c.t)
    (hc : c.Closed s) (hs : SortedAg s) (hns : AllStopFree s) (hB : BodySim c.ρ c.rσ body)
    (hf : c.FuelAlong body fuel s) (h : runUntilTime body fuel n c.t s = .returned v s') :
    v = .none ∧ ∃ k sk, k < n ∧ stepN body fuel k s = .ok sk ∧ s' = c.afterSentinel sk ∧
      s'.trace = sk.trace.map (rnObs c.ρ) ∧ s'.now = c.t ∧ AllStopFree s' ∧
      (∀ j, j < k → ∀ sj m rest, stepN body fuel j s = .ok sj → popMin sj.agenda = some (m, rest) →
        (m.time < c.t ∨ (m.time = c.t ∧ m.prio = URGENT ∧ m.eid < c.eid0))) ∧
      (∀ m rest, popMin sk.agenda = some (m, rest) →
        ¬ (m.time < c.t ∨ (m.time = c.t ∧ m.prio = URGENT ∧ m.eid < c.eid0))) := by
  obtain ⟨hv, k, sk, hk, h1, h2, _, _, _, h5, h6, h7⟩ :=
    c.runUntilTime_transparent_run body fuel n s s' v hu he hlt hc hs hns (c.simAlong_of_bodySim body hB fuel s) hf h
  exact ⟨hv, k, sk, hk, h1, h2, by rw [h2]; rfl, by rw [h2]; rfl, h5, h6, h7⟩

/-- **… and every continuation stays the uninterrupted run with renamed ids, for ever**: `j + 1` further normal steps of
the uninterrupted run from `sk` are `j + 1` normal steps from the state in which `run(until=t)` returned, to the
corresponding state (`c.T false sj`: renamed ids, dead sentinel record, nothing else) — same trace up to the renaming. -/
theorem after_time_split_lockstep_partial (c : SplitCfg σ) (body : σ → Resume → Burst ℚ σ) (hB : BodySim c.ρ c.rσ body)
    (fuel j : Nat) (sk sj : KState ℚ σ) (hi : c.Inv sk) (hf : c.FuelAlong body fuel sk)
    (h : stepN body fuel (j + 1) sk = .ok sj) :
    stepN body fuel (j + 1) (c.afterSentinel sk) = .ok (c.T false sj) ∧
      (c.T false sj).trace = sj.trace.map (rnObs c.ρ) :=
  ⟨c.after_split_lockstep_run body fuel j sk sj hi hf (c.simAlong_of_bodySim body hB fuel sk) h, rfl⟩

/-- **What the driver prints is unaffected by the renaming**: the trace lines identify an event by its creation label and
a process by the name kept in its local state; corresponding events have the same label, the same outcome up to the
renaming and render to the same text (`renderSimple` reads labels only), and corresponding processes have the
corresponding local state (the same one when, as for script programs, local states hold no ids: `c.rσ = id`). -/
theorem rendering_invariant (c : SplitCfg σ) (q : Bool) (s : KState ℚ σ) (h : c.Inv s) (e p : Nat) (v : Val) :
    ((c.T q s).ev (c.ρ e)).label = (s.ev e).label ∧
    renderSimple (c.T q s) (rnVal c.ρ v) = renderSimple s v ∧
    freezeVal (c.T q s) (rnVal c.ρ v) = rnVal c.ρ (freezeVal s v) ∧
    (c.T q s).proc? (c.ρ p) = (s.proc? p).map (rnProc c.ρ c.rσ) :=
  ⟨c.label_T q s h e, c.r_renderSimple q s h v, c.r_freezeVal q s h v, c.r_proc? q s p⟩

/-- **The agenda list stays newest-first** (`SortedAg`: `eid`s strictly decreasing along the list and below the counter):
it holds for an empty agenda and is kept by every API call and by every step, however the step ends — so the
`SortedAg` hypothesis of the stage-3 theorems holds in every state reached from a fresh environment. -/
theorem agenda_sorted_invariant (body : σ → Resume → Burst ℚ σ) (fuel : Nat) (s : KState ℚ σ) (hs : SortedAg s) :
    (∀ self cl, SortedAg (doCall s self cl).1) ∧ (∀ s', (step body fuel s).st? = some s' → SortedAg s') :=
  ⟨fun self cl => SortedAg.krel.doCall s self cl hs, fun s' h => SplitCfg.sortedAg_step body fuel s s' hs h⟩

/-- **The fuel hypothesis follows from two invariants of the states of the uninterrupted run** (at step boundaries):
`CondWF` — the operands of every condition are older than the condition — and `BuildAlloc` — a `_build_value` callback
belongs to an allocated condition.  (Both hold in every reachable state of an API-only program: `reachable_wellscoped`, `wellscoped_discharges` below.) -/
theorem fuel_hypothesis_of_wellformed (c : SplitCfg σ) (body : σ → Resume → Burst ℚ σ) (fuel : Nat) (s : KState ℚ σ)
    (h : ∀ j sj, stepN body fuel j s = .ok sj → CondWF sj ∧ BuildAlloc sj) : c.FuelAlong body fuel s :=
  fun j sj hj => c.stepFuelOK_of_wf body fuel sj (h j sj hj).1 (h j sj hj).2

/-- **Every program of the script language treats event ids as opaque tokens** (`BodySim` for every renaming): the
programs the correspondence check generates and runs on the real kernel satisfy the program hypothesis of the stage-3
theorems, provided the value literals in the program text are not event ids (`ProgsClosed`). -/
theorem script_programs_are_id_opaque (ρ : EvId → EvId) (progs : Progs ℚ) (h : ProgsClosed progs) :
    BodySim ρ id (_root_.body progs) :=
  script_bodySim ρ progs h

/-- the hypotheses of `until_time_split_transparent_partial` are satisfiable: the state `s5` of the demo (after
`step(); step(); run(until=ev)`) with the split `run(until=6)` -/
example : ∃ k sk, k < 20 ∧ stepN SplitDemo.body 3 k SplitDemo.s5 = .ok sk ∧
    SplitDemo.s6.trace = sk.trace.map (rnObs SplitDemo.cfg.ρ) ∧ SplitDemo.s6.now = 6 :=
  let ⟨_, k, sk, hk, h1, _, h3, h4, _, _, _⟩ := until_time_split_transparent_partial SplitDemo.cfg SplitDemo.body 3 20
    SplitDemo.s5 SplitDemo.s6 .none rfl rfl SplitDemo.s5_now SplitDemo.s5_closed SplitDemo.s5_sorted SplitDemo.s5_stopFree
    SplitDemo.cfg_body_sim SplitDemo.s5_fuel SplitDemo.r6_returned
  ⟨k, sk, hk, h1, h3, h4⟩

/-- computed by the model: it is `k = 2`, and the trace has 10 observations -/
example : SplitDemo.s6.trace = (SplitDemo.stOf (stepN SplitDemo.body 3 2 SplitDemo.s5) SplitDemo.s5).trace.map
    (rnObs SplitDemo.cfg.ρ) ∧ SplitDemo.s6.trace.size = 10 := SplitDemo.s6_trace

/-! ## Well-scoped states: the invariants behind stage 3, proved for every reachable state

`SplitWF.WS I s` (`Lemmas/SplitWF*.lean`): the state mentions no event id `≥ events.size` — in callback lists, kinds, process
records, agenda, request data, values, resource queues and users, shared cells, trace — and the operands of every condition
are older than the condition.  `I : IdSt σ` says how the abstract local states hold ids (`I.rn u`: rename by `shAt u`,
`I.below n`: all ids `< n`; `IdSt.none`: no ids, as for script programs).  Domain hypothesis (run level, in the style of
`Once.SafeRun`): `SplitWF.ScopedStep I body fuel s` — every API call the step from `s` executes names existing ids only
(`succeed e`/`fail e`, `cond ops`, `release _ req`, the values passed, the local state of a spawned process) and so does
what each burst ends with (yielded event and local state, returned value, raised exception).  Python code cannot violate it
(ids are object references); model programs can (`succeed (e + 1)`).  `interrupt p`, `probe e`, `cancel e` need no guard:
on a non-existent id they do nothing in the model. -/

open SplitWF SplitPlan in
/-- **Well-scopedness is an invariant**: it holds in the empty environment, and is kept by outside spawns, by the set-ups
of `run(until=event)` and `run(until=number)`, and by every kernel step that names existing ids only — however the step
ends. -/
theorem wellscoped_invariant (I : IdSt σ) (body : σ → Resume → Burst ℚ σ) (fuel : Nat) :
    (∀ t0 rs, (∀ r, (rs.getD r default).putQ = [] ∧ (rs.getD r default).getQ = [] ∧ (rs.getD r default).users = []) →
      WS I ({ now := t0, resources := rs } : KState ℚ σ)) ∧
    (∀ s self st, WS I s → I.below s.events.size st → WS I (doCall s self (.spawn st)).1) ∧
    (∀ s e, WS I s → WS I (s.addCb e .stop)) ∧
    (∀ s t, WS I s → WS I (SplitCfg.plant t s)) ∧
    (∀ s s', WS I s → ScopedStep I body fuel s → (step body fuel s).state? = some s' → WS I s') :=
  ⟨fun t0 rs h => ws_init t0 rs h, fun _ self st h hst => ws_spawn h self st hst, fun _ e h => ws_until_event h e,
    fun _ t h => ws_until_time h t, fun s s' h hS hs => ws_step body fuel s s' h hS hs⟩

open SplitWF in
/-- **Every reachable state is well-scoped and its agenda is newest-first** (`Reach`: from an empty environment by outside
spawns, `run(until=…)` set-ups and steps that name existing ids only); so is every state of a run from a well-scoped state
in which the program names existing ids only. -/
theorem reachable_wellscoped (I : IdSt σ) (body : σ → Resume → Burst ℚ σ) (fuel : Nat) :
    (∀ s, Reach I body fuel s → WS I s ∧ SortedAg s) ∧
    (∀ s0 s, WS I s0 → ScopedRun I body fuel s0 → KReach body fuel s0 s → WS I s) :=
  ⟨fun _ h => ⟨h.ws, h.sorted⟩, fun s0 s h0 hS hr => ws_reach body fuel s0 s h0 hS hr⟩

open SplitWF in
/-- **A well-scoped state satisfies the invariant hypotheses of the stage-3 theorems**: it is `Closed` for the numeric
split made in it (given a sorted agenda), operands are older than their conditions (`CondWF`), `_build_value` callbacks
belong to allocated conditions (`BuildAlloc`); and along a run that names existing ids only the fuel hypothesis
`FuelAlong` holds — the id-dependent recursion fuel of `Condition._build_value` is never the limit. -/
theorem wellscoped_discharges (I : IdSt σ) (c : SplitCfg σ) (body : σ → Resume → Burst ℚ σ) (fuel : Nat) (s : KState ℚ σ)
    (h : WS I s) :
    (SortedAg s → c.u = s.events.size → c.eid0 = s.eid → c.rσ = I.rn c.u → c.Closed s) ∧ CondWF s ∧ BuildAlloc s ∧
      (ScopedRun I body fuel s → c.FuelAlong body fuel s) :=
  ⟨fun hs hu he hr => closed_of_ws c h hs hu he hr, condWF_of_ws h, buildAlloc_of_ws h,
    fun hS => fuelAlong_of_ws c body fuel h hS⟩

open SplitWF in
/-- **The state of the split run that corresponds to a well-scoped state is well-scoped**: the invariants of the
*uninterrupted* run carry over to every split run (this is what lets numeric stops be chained). -/
theorem wellscoped_transfers_to_split_run (I : IdSt σ) (c : SplitCfg σ) (q : Bool) (s : KState ℚ σ) (h : WS I s) (hi : c.Inv s)
    (hr : c.rσ = I.rn c.u) : WS I (c.T q s) ∧ (SortedAg s → SortedAg (c.T false s)) :=
  ⟨ws_T c q h hi hr, fun hs => sortedAg_T_false c hs⟩

open SplitWF in
/-- **A sufficient condition on the program text** (`ScopedProg`: the program names only ids below the bound of its local
state and resume value, or ids handed to it by a reply since): such a program names existing ids only in every step from a
well-scoped state, hence in every run from one.  **Every script program is one** (literals id-free). -/
theorem scoped_programs_run_scoped (I : IdSt σ) (body : σ → Resume → Burst ℚ σ) (hP : ScopedProg I body) (fuel : Nat) :
    (∀ s, WS I s → ScopedStep I body fuel s) ∧ (∀ s0, WS I s0 → ScopedRun I body fuel s0) ∧
    (∀ progs : Progs ℚ, ProgsClosed progs → ScopedProg (IdSt.none SSt) (_root_.body progs)) :=
  ⟨fun s h => ScopedProg.step hP fuel s h, fun s0 h0 => ScopedProg.run hP fuel s0 h0,
    fun progs h => script_scopedProg progs h⟩

open SplitWF SplitPlan in
/-- **`run(until=t)` is transparent up to the renaming of event ids, in every reachable state.**  For a state `s` reachable
from an empty environment (outside spawns, earlier `run(until=…)` set-ups, steps naming existing ids only) that holds at
least one event and no stale stop, with the rest of the uninterrupted run naming existing ids only, and a program that is
id-opaque at the split index: if `run(until=t)` returns, then `now < t`, it returns `None` in the state
`c.afterSentinel sk` (`c` the split made in `s`) of exactly `k <` budget uninterrupted normal steps; **the trace is the
uninterrupted trace with ids renamed, its rendering (labels, rendered values) is literally the same**; the clock is `t`;
no stop is left; exactly the entries before the sentinel's key `(t, URGENT, s.eid)` were processed.
The hypotheses `Closed`, `FuelAlong` (`CondWF`, `BuildAlloc`), `SortedAg` and `now < t` of the `_partial` theorem are not needed. -/
theorem until_time_split_transparent (I : IdSt σ) (body : σ → Resume → Burst ℚ σ) (fuel n : Nat) (t : ℚ)
    (s s' : KState ℚ σ) (v : Val)
    (hr : Reach I body fuel s) (hS : ScopedRun I body fuel s) (hns : AllStopFree s) (hpos : 0 < s.events.size)
    (hB : BodySim (shAt s.events.size) (I.rn s.events.size) body)
    (h : runUntilTime body fuel n t s = .returned v s') :
    s.now < t ∧ v = .none ∧ ∃ k sk, k < n ∧ stepN body fuel k s = .ok sk ∧
      s' = (SplitCfg.at s hpos t (I.rn s.events.size)).afterSentinel sk ∧
      s'.trace = sk.trace.map (rnObs (shAt s.events.size)) ∧ viewTrace s' = viewTrace sk ∧ viewProcs s' = viewProcs sk ∧
      s'.now = t ∧ AllStopFree s' ∧
      (∀ j, j < k → ∀ sj m rest, stepN body fuel j s = .ok sj → popMin sj.agenda = some (m, rest) →
        (m.time < t ∨ (m.time = t ∧ m.prio = URGENT ∧ m.eid < s.eid))) ∧
      (∀ m rest, popMin sk.agenda = some (m, rest) →
        ¬ (m.time < t ∨ (m.time = t ∧ m.prio = URGENT ∧ m.eid < s.eid))) := by
  obtain ⟨hlt, hv, k, sk, hk, h1, h2, hi, h5, h6, h7⟩ :=
    runUntilTime_transparent_ws body fuel n t s s' v hpos hr.ws hS hr.sorted hns hB h
  have hok : StackOK I [SplitCfg.at s hpos t (I.rn s.events.size)] sk := ⟨hi.size, hi.eid, rfl, trivial⟩
  have hs' : s' = splitState [SplitCfg.at s hpos t (I.rn s.events.size)] sk t := h2
  refine ⟨hlt, hv, k, sk, hk, h1, h2, by rw [h2]; rfl, ?_, ?_, by rw [h2]; rfl, h5, h6, h7⟩
  · rw [hs', viewTrace_splitState, viewTrace_stackT _ sk hok]
  · rw [hs', viewProcs_splitState, viewProcs_stackT _ sk hok]

open SplitWF in
/-- **… and every continuation stays the uninterrupted run with renamed ids, for ever** (hypotheses discharged as above):
`j + 1` further normal steps of the uninterrupted run from `sk` are `j + 1` normal steps from the state in which
`run(until=t)` returned, to the corresponding state. -/
theorem after_time_split_lockstep (I : IdSt σ) (body : σ → Resume → Burst ℚ σ) (fuel k j : Nat) (t : ℚ)
    (s sk sj : KState ℚ σ) (hws : WS I s) (hS : ScopedRun I body fuel s) (hpos : 0 < s.events.size)
    (hB : BodySim (shAt s.events.size) (I.rn s.events.size) body)
    (hk : stepN body fuel k s = .ok sk) (h : stepN body fuel (j + 1) sk = .ok sj) :
    stepN body fuel (j + 1) ((SplitCfg.at s hpos t (I.rn s.events.size)).afterSentinel sk) =
      .ok ((SplitCfg.at s hpos t (I.rn s.events.size)).T false sj) := by
  have hr := kreach_of_stepN body fuel k s sk hk
  have hg := SplitPlan.grow_of_kreach body fuel hr
  exact (SplitCfg.at s hpos t (I.rn s.events.size)).after_split_lockstep_run body fuel j sk sj ⟨hg.2, hg.1⟩
    (fuelAlong_of_ws _ body fuel (ws_reach body fuel s sk hws hS hr) (hS.tail hr))
    (SplitCfg.simAlong_of_bodySim (SplitCfg.at s hpos t (I.rn s.events.size)) body hB fuel sk) h

open SplitPlan in
/-- **The case of an empty event table (`u = 0`), and more generally of an empty agenda**: `run(until=t)` only advances
the clock (it returns `None`, leaves one dead sentinel record, and neither trace nor process table nor anything queued);
a well-scoped state with an empty event table has an empty agenda, no process and an empty trace — there is nothing a
stop could lose, duplicate or reorder. -/
theorem until_time_on_empty_agenda (I : IdSt σ) (body : σ → Resume → Burst ℚ σ) (fuel n : Nat) (t : ℚ) (s s' : KState ℚ σ)
    (v : Val) :
    (s.agenda = [] → runUntilTime body fuel n t s = .returned v s' →
      v = .none ∧ s'.trace = s.trace ∧ s'.procs = s.procs ∧ s'.agenda = [] ∧ s'.now = t) ∧
    (SplitWF.WS I s → s.events.size = 0 → s.agenda = [] ∧ s.procs = [] ∧ s.trace = #[]) := by
  refine ⟨?_, fun h h0 => empty_table_inert s h h0⟩
  intro hag h
  obtain ⟨hv, rfl⟩ := runUntilTime_inert body fuel n t s s' v hag h
  exact ⟨hv, rfl, rfl, rfl, rfl⟩

/-! ## Split transparency, the three stages chained: split plans

`Piece` = `step n | untilEvent e | untilTime t`; `execPlan body fuel budget plan s` runs the pieces one after the other on
the model (`stepN`, `runUntilEvent`, `runUntilTime`) and yields `some s'` iff every piece returned normally (it stops at the
first raise).  `stackT cs sK`: the transformations `c.T false` of the numeric stops made (latest first) applied to a state of
the uninterrupted run; `stackρ cs`: the composed renaming; `splitState cs sK x`: `stackT cs sK` with clock `x`;
`StackOK I cs sK`: every stop of `cs` was made at an index and `eid` that exist below it and renames local states by `I.rn`.
`viewTrace` / `viewProcs` (`Lemmas/SplitPlan.lean`): the trace and the process table as a program and the harness can
observe them — processes and events by creation label, values rendered (`renderSimple` ∘ `freezeVal`; `Preempted` by the
label of the preempting process and the victim's `usage_since`). -/

open SplitWF SplitPlan in
/-- **Split plans are transparent.**  For every program that is id-opaque at every split index, every well-scoped,
stop-free initial state with a sorted agenda and at least one event, from which the uninterrupted run names existing ids
only, and every plan all of whose pieces return normally: the split execution ends in `splitState cs sK x`, where `sK` is the
state of `K` uninterrupted normal steps and `cs` holds one transformation per numeric stop — so **the trace is the
uninterrupted trace up to the same point with the composed renaming `stackρ cs` applied; the rendered trace is literally
equal; the rendered process table is equal (no process is lost, duplicated or reordered by a stop)**; the final state is
stop-free, sorted and well-scoped again (so any further plan continues the uninterrupted run). -/
theorem split_plan_transparent (I : IdSt σ) (body : σ → Resume → Burst ℚ σ) (fuel budget : Nat)
    (hB : ∀ u, 0 < u → BodySim (shAt u) (I.rn u) body) (plan : List Piece) (s0 S' : KState ℚ σ)
    (h0 : WS I s0) (hs0 : SortedAg s0) (hns0 : AllStopFree s0) (hpos : 0 < s0.events.size) (hS : ScopedRun I body fuel s0)
    (h : execPlan body fuel budget plan s0 = some S') :
    ∃ K sK cs x, stepN body fuel K s0 = .ok sK ∧ cs.length = numStops plan ∧ StackOK I cs sK ∧ S' = splitState cs sK x ∧
      S'.trace = sK.trace.map (rnObs (stackρ cs)) ∧ viewTrace S' = viewTrace sK ∧ viewProcs S' = viewProcs sK ∧
      AllStopFree S' ∧ SortedAg S' ∧ WS I S' := by
  obtain ⟨K, sK, cs, x, h1, h2, h3, h4, h5, h6, h7, h8, h9, h10, _⟩ :=
    plan_transparent body fuel budget hB plan s0 S' h0 hs0 hns0 hpos hS h
  exact ⟨K, sK, cs, x, h1, h2, h3, h4, h5, h6, h7, h8, h9, h10⟩

open SplitWF SplitPlan in
/-- **What a split plan lets the program and the harness observe is what the uninterrupted run lets them observe** — from
every well-scoped initial state, with or without events (the empty event table is the inert case): rendered trace and
rendered process table of the split execution are those of `K` uninterrupted normal steps, and the process tables have the
same length. -/
theorem split_plan_observations (I : IdSt σ) (body : σ → Resume → Burst ℚ σ) (fuel budget : Nat)
    (hB : ∀ u, 0 < u → BodySim (shAt u) (I.rn u) body) (plan : List Piece) (s0 S' : KState ℚ σ)
    (h0 : WS I s0) (hs0 : SortedAg s0) (hns0 : AllStopFree s0) (hS : ScopedRun I body fuel s0)
    (h : execPlan body fuel budget plan s0 = some S') :
    ∃ K sK, stepN body fuel K s0 = .ok sK ∧ viewTrace S' = viewTrace sK ∧ viewProcs S' = viewProcs sK ∧
      S'.procs.length = sK.procs.length :=
  plan_observations body fuel budget hB plan s0 S' h0 hs0 hns0 hS h

open SplitWF in
/-- **The initial states of the correspondence check meet the hypotheses**: an empty environment (resources with empty
queues) plus processes started from outside whose local states hold no ids is well-scoped, sorted and stop-free. -/
theorem initial_states_ok (I : IdSt σ) (t0 : ℚ) (rs : Array ResRec) (mains : List σ)
    (hrs : ∀ r, (rs.getD r default).putQ = [] ∧ (rs.getD r default).getQ = [] ∧ (rs.getD r default).users = [])
    (hm : ∀ st ∈ mains, I.below 0 st) :
    WS I (initState t0 rs mains) ∧ SortedAg (initState t0 rs mains) ∧ AllStopFree (initState t0 rs mains) ∧
      2 * mains.length ≤ (initState t0 rs mains).events.size :=
  initState_facts t0 rs mains hrs hm

open SplitWF SplitPlan in
/-- **For script programs every hypothesis is discharged**: for every script program with id-free literals, every initial
state of the correspondence check and every split plan whose pieces return normally, the split execution observes what
the uninterrupted run observes. -/
theorem script_split_plan_observations (progs : Progs ℚ) (hc : ProgsClosed progs) (fuel budget : Nat) (plan : List Piece)
    (t0 : ℚ) (rs : Array ResRec) (mains : List SSt)
    (hrs : ∀ r, (rs.getD r default).putQ = [] ∧ (rs.getD r default).getQ = [] ∧ (rs.getD r default).users = [])
    (S' : KState ℚ SSt) (h : execPlan (_root_.body progs) fuel budget plan (initState t0 rs mains) = some S') :
    ∃ K sK, stepN (_root_.body progs) fuel K (initState t0 rs mains) = .ok sK ∧ viewTrace S' = viewTrace sK ∧
      viewProcs S' = viewProcs sK ∧ S'.procs.length = sK.procs.length := by
  obtain ⟨a, b, c, _⟩ := initState_facts (I := IdSt.none SSt) t0 rs mains hrs (fun _ _ => trivial)
  exact plan_observations (I := IdSt.none SSt) (_root_.body progs) fuel budget (fun u _ => script_bodySim (shAt u) progs hc)
    plan _ S' a b c (script_scopedRun progs hc fuel _ a) h

open SplitPlan in
/-- the hypotheses of `split_plan_transparent` are met by a non-trivial program (two script processes contending for a
`Resource`, an `AllOf` condition, timeouts with values) and a plan with **two numeric stops**, two event stops and `step()`
pieces (`Lemmas/SplitPlanDemo.lean`); that every piece returns normally is computed by the kernel -/
example : ∃ S' K sK cs x, execPlan (_root_.body SplitPlanDemo.progs) 5 100 SplitPlanDemo.plan SplitPlanDemo.s0 = some S' ∧
    stepN (_root_.body SplitPlanDemo.progs) 5 K SplitPlanDemo.s0 = .ok sK ∧ cs.length = 2 ∧ S' = splitState cs sK x ∧
    viewTrace S' = viewTrace sK ∧ viewProcs S' = viewProcs sK ∧ S'.trace.size = 22 ∧ S'.events.size = 16 := by
  have hret := SplitPlanDemo.plan_returns
  cases hS' : execPlan (_root_.body SplitPlanDemo.progs) 5 100 SplitPlanDemo.plan SplitPlanDemo.s0 with
  | none => rw [hS'] at hret; cases hret
  | some S' =>
    rw [hS'] at hret
    simp only [Option.map_some, Option.some.injEq, Prod.mk.injEq] at hret
    obtain ⟨K, sK, cs, x, h1, h2, _, h3, _, h5, h6, _⟩ := split_plan_transparent (IdSt.none SSt) _ 5 100 SplitPlanDemo.body_opaque
      SplitPlanDemo.plan SplitPlanDemo.s0 S' SplitPlanDemo.s0_facts.1 SplitPlanDemo.s0_facts.2.1 SplitPlanDemo.s0_facts.2.2.1
      SplitPlanDemo.s0_pos SplitPlanDemo.run_scoped hS'
    exact ⟨S', K, sK, cs, x, rfl, h1, by rw [h2]; exact SplitPlanDemo.plan_stops, h3, h5, h6, hret.1, hret.2.1⟩

/-! ## The program hypothesis at run level

`BodySim ρ rσ body` constrains the whole interaction tree of every resumption (every reply the kernel *could* give).  The
proofs need it only along the replies the kernel *does* give: `SimBurst` (one burst from a state of the uninterrupted run),
`c.SimStep body fuel s` (every burst the step from `s` executes), `c.SimAlong body fuel s` (every step of the continuation
from `s`), `PlanSim I body fuel budget plan s0` (at each numeric stop of the plan, made in split state `S`: `SimAlong` for the
renaming of that stop along the run that continues from `S` without the stop).  Like `ScopedRun`, these are statements about
one concrete run: equations between the calls, values and local states the program produces on the original and on the
renamed inputs; they are decidable (`Lemmas/SplitWFDec.lean`) and, for runs that end, finite (`AllUpTo`, `PlanSimUpTo`). -/

open SplitPlan in
/-- **An id-opaque program satisfies the run-level hypotheses** (so they are weaker than `BodySim`; strictly: `oddBody`
below satisfies them and is not `BodySim`). -/
theorem id_opaque_implies_runlevel (I : IdSt σ) (body : σ → Resume → Burst ℚ σ) (fuel budget : Nat) :
    (∀ (c : SplitCfg σ), BodySim c.ρ c.rσ body → ∀ s, c.SimStep body fuel s ∧ c.SimAlong body fuel s) ∧
    ((∀ u, 0 < u → BodySim (shAt u) (I.rn u) body) → ∀ plan s0, PlanSim I body fuel budget plan s0) :=
  ⟨fun c hB s => ⟨c.simStep_of_bodySim body hB fuel s, c.simAlong_of_bodySim body hB fuel s⟩,
    fun hB plan s0 => planSim_of_bodySim body fuel budget hB plan s0⟩

open SplitWF SplitPlan in
/-- **The run-level hypotheses of a run that ends can be checked by evaluation**: if the run from `s0` ends within `N`
steps and each of its steps names existing ids only / is id-opaque at run level (`AllUpTo …`, decidable), then `ScopedRun` /
`SimAlong` hold; the same for the plan hypothesis (`PlanSimUpTo`, decidable, implies `PlanSim`). -/
theorem runlevel_hypotheses_checkable (I : IdSt σ) (body : σ → Resume → Burst ℚ σ) (fuel budget N : Nat) (s0 : KState ℚ σ) :
    (AllUpTo (fun p st r s => ScopedBurst I p (body st r) s) body fuel s0 N → ScopedRun I body fuel s0) ∧
    (∀ c : SplitCfg σ, AllUpTo (c.simP body) body fuel s0 N → c.SimAlong body fuel s0) ∧
    (∀ plan, PlanSimUpTo I body fuel budget N plan s0 → PlanSim I body fuel budget plan s0) :=
  ⟨scopedRun_of_upTo I body fuel s0 N, fun c => c.simAlong_of_upTo body fuel s0 N,
    fun plan => PlanSimUpTo.planSim body fuel budget N plan s0⟩

open SplitWF SplitPlan in
/-- **`run(until=t)` is transparent up to the renaming of event ids — with run-level hypotheses only**: as
`until_time_split_transparent`, with `BodySim` replaced by `SimAlong` for the split made in `s`. -/
theorem until_time_split_transparent_runlevel (I : IdSt σ) (body : σ → Resume → Burst ℚ σ) (fuel n : Nat) (t : ℚ)
    (s s' : KState ℚ σ) (v : Val)
    (hr : Reach I body fuel s) (hS : ScopedRun I body fuel s) (hns : AllStopFree s) (hpos : 0 < s.events.size)
    (hsim : (SplitCfg.at s hpos t (I.rn s.events.size)).SimAlong body fuel s)
    (h : runUntilTime body fuel n t s = .returned v s') :
    s.now < t ∧ v = .none ∧ ∃ k sk, k < n ∧ stepN body fuel k s = .ok sk ∧
      s' = (SplitCfg.at s hpos t (I.rn s.events.size)).afterSentinel sk ∧
      s'.trace = sk.trace.map (rnObs (shAt s.events.size)) ∧ viewTrace s' = viewTrace sk ∧ viewProcs s' = viewProcs sk ∧
      s'.now = t ∧ AllStopFree s' := by
  obtain ⟨hlt, hv, k, sk, hk, h1, h2, hi, h5, _, _⟩ :=
    runUntilTime_transparent_ws_run body fuel n t s s' v hpos hr.ws hS hr.sorted hns hsim h
  have hok : StackOK I [SplitCfg.at s hpos t (I.rn s.events.size)] sk := ⟨hi.size, hi.eid, rfl, trivial⟩
  have hs' : s' = splitState [SplitCfg.at s hpos t (I.rn s.events.size)] sk t := h2
  refine ⟨hlt, hv, k, sk, hk, h1, h2, by rw [h2]; rfl, ?_, ?_, by rw [h2]; rfl, h5⟩
  · rw [hs', viewTrace_splitState, viewTrace_stackT _ sk hok]
  · rw [hs', viewProcs_splitState, viewProcs_stackT _ sk hok]

open SplitWF SplitPlan in
/-- **Split plans are transparent — with run-level hypotheses only**: as `split_plan_transparent`, with `BodySim` at every
split index replaced by `PlanSim` for this plan execution.  Every hypothesis is either a property of the initial state
(`WS`, `SortedAg`, `AllStopFree`, one event) or of the concrete runs (`ScopedRun`, `PlanSim`). -/
theorem split_plan_transparent_runlevel (I : IdSt σ) (body : σ → Resume → Burst ℚ σ) (fuel budget : Nat)
    (plan : List Piece) (s0 S' : KState ℚ σ)
    (h0 : WS I s0) (hs0 : SortedAg s0) (hns0 : AllStopFree s0) (hpos : 0 < s0.events.size) (hS : ScopedRun I body fuel s0)
    (hsim : PlanSim I body fuel budget plan s0)
    (h : execPlan body fuel budget plan s0 = some S') :
    ∃ K sK cs x, stepN body fuel K s0 = .ok sK ∧ cs.length = numStops plan ∧ StackOK I cs sK ∧ S' = splitState cs sK x ∧
      S'.trace = sK.trace.map (rnObs (stackρ cs)) ∧ viewTrace S' = viewTrace sK ∧ viewProcs S' = viewProcs sK ∧
      AllStopFree S' ∧ SortedAg S' ∧ WS I S' := by
  obtain ⟨K, sK, cs, x, h1, h2, h3, h4, h5, h6, h7, h8, h9, h10, _⟩ :=
    plan_transparent_run body fuel budget plan s0 S' h0 hs0 hns0 hpos hS hsim h
  exact ⟨K, sK, cs, x, h1, h2, h3, h4, h5, h6, h7, h8, h9, h10⟩

open SplitPlan in
/-- the run-level theorem applies where the program-level one does not: `SplitSimDemo.oddBody` names a guessed id in a
branch the kernel never takes — it is **not** `BodySim` at any split index `≤ 1000` — yet its run satisfies `ScopedRun` and
`PlanSim` (kernel-evaluated), so its plan with **three numeric stops** is transparent -/
example : (∀ u, u ≤ 1000 → ¬ BodySim (shAt u) (SplitSimDemo.IN.rn u) SplitSimDemo.oddBody) ∧
    ∃ S' K sK cs x, execPlan SplitSimDemo.oddBody 5 100 SplitSimDemo.plan SplitSimDemo.t0 = some S' ∧
      stepN SplitSimDemo.oddBody 5 K SplitSimDemo.t0 = .ok sK ∧ cs.length = 3 ∧ S' = splitState cs sK x ∧
      viewTrace S' = viewTrace sK ∧ viewProcs S' = viewProcs sK ∧ S'.trace.size = 12 := by
  refine ⟨SplitSimDemo.oddBody_not_bodySim, ?_⟩
  have hret := SplitSimDemo.plan_returns
  cases hS' : execPlan SplitSimDemo.oddBody 5 100 SplitSimDemo.plan SplitSimDemo.t0 with
  | none => rw [hS'] at hret; cases hret
  | some S' =>
    rw [hS'] at hret
    simp only [Option.map_some, Option.some.injEq, Prod.mk.injEq] at hret
    obtain ⟨K, sK, cs, x, h1, h2, _, h3, _, h5, h6, _⟩ := split_plan_transparent_runlevel SplitSimDemo.IN _ 5 100
      SplitSimDemo.plan SplitSimDemo.t0 S' SplitSimDemo.t0_facts.1 SplitSimDemo.t0_facts.2.1 SplitSimDemo.t0_facts.2.2.1
      SplitSimDemo.t0_pos SplitSimDemo.run_scoped SplitSimDemo.plan_sim hS'
    exact ⟨S', K, sK, cs, x, rfl, h1, by rw [h2]; rfl, h3, h5, h6, hret.1⟩

/-
What remains open for `split_transparent` (everything else above is proved for every program and every state):
* stages 1 and 2 (`step()` and `run(until=event)` splits) are complete: the split run passes through *exactly* the states
  of the uninterrupted run.
* stage 3 (`run(until=number)`) and the chained plan theorem are proved as a simulation up to the id renaming (`shAt u` per
  stop, composed by `stackρ`), with literally equal rendered traces and process tables.  The invariant hypotheses of the
  `_partial` theorem (`Closed`, `CondWF`/`BuildAlloc` behind `FuelAlong`, `SortedAg`, `now < t`) are discharged for every
  reachable state by the well-scopedness invariant `WS`; the empty event table (`u = 0`) is covered as the inert case.
  What is left are hypotheses, not gaps:
  - the program hypothesis: `BodySim (shAt u) (I.rn u) body` at the split indices `u` (the program treats ids as opaque
    tokens; program level, proved for every script program), or its run-level replacement `SimAlong` / `PlanSim` (section
    "The program hypothesis at run level": along the runs concerned, the program fed with renamed inputs issues the renamed
    calls; implied by `BodySim`, strictly weaker, decidable per step and finite for runs that end).  `PlanSim` speaks about
    the runs that continue from each numeric stop *without* that stop — for `k` stops these are `k` runs (the uninterrupted
    one and `k - 1` split ones); a formulation on the uninterrupted run alone would need the run-level hypothesis to
    transfer along `T` (true for `BodySim` programs, not derivable from one run).
  - `ScopedRun I body fuel s0` — along the uninterrupted run the program names existing ids only (run-level, implied by the
    program-level `ScopedProg`, which holds for every script program).  Genuine: model programs can guess ids, Python
    programs cannot.
  - `AllStopFree s0` — no stale stop of an earlier *aborted* `run(until=event)`; with a stale stop a later run ends early, as
    in the implementation (`stale_stop_ends_later_run`).
  - the plan theorem speaks about plans all of whose pieces return normally (a piece that raises ends the plan, as in the
    harness); what a raising piece has done before it raised is covered per piece (`until_event_split_raised`) but not
    chained.
* `IdSt σ` (how abstract local states hold ids: `rn`, `below` with three laws) is an interface the user of the theorem
  supplies; `IdSt.none` serves every program whose local states hold no ids.
* determinism across interpreter hash seeds is sampled by the correspondence check, not proved.
-/

end C03
