import OnlVerif.Lemmas.MultiQueueRun
import OnlVerif.Lemmas.StampWfqOrd
import OnlVerif.Lemmas.StampVc
import OnlVerif.Lemmas.GenSchedTx
/-!
# C12 (multi-queue half) — SP, RR, WRR and DRR are work-conserving, non-preemptive, rate-exact and per-flow FIFO

Model: `OnlVerif/Net/MultiQueue.lean` (the MultiQueueServer LTS over the scheduler's atomic bursts) instantiated
with `OnlVerif/Net/Sched/{SP,RR,WRR,DRR}.lean`.  "For all workloads" = for every action sequence the LTS accepts
from the initial state (`runLog … = .ok …` / `runActs … = .ok …`); time and rates are exact rationals.  Each of the
theorems is stated for an arbitrary scheduler record `sc` that is `MQ.Lawful` (blocks on the wake-up token only
when `total_packets == 0`; never issues `store.get()` on a class with a parked head-of-line packet);
`mq_instances_lawful` shows that the four schedulers are.  The correspondence check replays the real
schedulers through this LTS bit for bit.
-/

namespace C12
open MQ
variable {κ : Type}

/-- **SP, RR, WRR and DRR are instances**: each `run()` blocks on the token store only behind
`if self.total_packets == 0`, and only DRR parks packets, never fetching from a class whose head is parked. -/
theorem mq_instances_lawful (a : SP.Cfg ℚ) (b : RR.Cfg ℚ) (c : WRR.Cfg ℚ) (d : DRR.Cfg ℚ) :
    Lawful (SP.sched a) ∧ Lawful (RR.sched b) ∧ Lawful (WRR.sched c) ∧ Lawful (DRR.sched d) :=
  ⟨SP.lawful a, RR.lawful b, WRR.lawful c, DRR.lawful d⟩

/-- **One packet at a time**: along every admissible run the starts of transmission and the departures alternate
strictly — start p₁, departure p₁, start p₂, departure p₂, … — so transmissions never overlap and the packet that
leaves is the one that was started. -/
theorem mq_one_at_a_time (sc : MQ.Sched ℚ κ) (k0 : κ) (t0 : ℚ) (counts : List (Nat × Int)) (as : List (MAct ℚ))
    (l : List (Entry κ)) (h : runLog sc (start k0 t0 counts) as = .ok l) :
    Alternates none (txEvents (l.map (·.out))) := by
  exact runLog_alternates sc as _ l h

/-- **A transmission lasts exactly `8·size/rate`**: the sender started at `now` sleeps until exactly
`now + 8·size/rate`; the packet leaves only at that instant, and the clock cannot pass it. -/
theorem mq_service_time_exact (sc : MQ.Sched ℚ κ) (s : MQState ℚ κ) (p : MPkt) :
    (s.phase = .spawned p → ∀ s' o, step sc s .sendInit = .ok (s', o) →
        o = .started p (s.now + (p.size * 8 : ℕ) / sc.rate) ∧ s'.phase = .sending p (s.now + (p.size * 8 : ℕ) / sc.rate)) ∧
    (∀ due, s.phase = .sending p due →
        (∀ s' o, step sc s .sendFire = .ok (s', o) → s.now = due ∧ o = .depart p) ∧
        (∀ t s' o, step sc s (.tick t) = .ok (s', o) → t ≤ due)) := by
  refine ⟨fun hp s' o h => ?_, fun due hp => ⟨fun s' o h => ?_, fun t s' o h => ?_⟩⟩
  · have ht := step_trans sc s s' _ o h
    cases ht with
    | sendInit q hq =>
      rw [hp] at hq; cases hq
      exact ⟨rfl, rfl⟩
  · have ht := step_trans sc s s' _ o h
    cases ht with
    | sendFire q d hq hnow =>
      rw [hp] at hq; cases hq
      exact ⟨hnow, rfl⟩
  · have ht := step_trans sc s s' _ o h
    cases ht with
    | tickIdle _ h1 h2 h3 => rw [hp] at h2; cases h2
    | tickBusy _ q d h1 h2 h3 => rw [hp] at h2; cases h2; exact h3

/-- **No lost wake-up**: in every reachable state in which the loop is blocked on the wake-up store while packets are
held, a token is in the store — its hand-off is pending and the clock cannot advance. -/
theorem mq_no_lost_wakeup (sc : MQ.Sched ℚ κ) (L : Lawful sc) (k0 : κ) (t0 : ℚ) (counts : List (Nat × Int))
    (s : MQState ℚ κ) (ins outs : List MPkt) (h : Reached sc k0 t0 counts s ins outs)
    (hw : s.phase = .waitToken) (hb : 0 < W (fun _ => 1) s) :
    0 < s.tokens ∧ ∀ t s' o, step sc s (.tick t) ≠ .ok (s', o) := by
  have hi := (reached_inv sc L k0 t0 counts s ins outs h).1
  have htok : 0 < s.tokens := by
    by_contra hc
    have := hi.wake hw (by omega)
    rw [hi.tot] at this; omega
  refine ⟨htok, fun t s' o hs => ?_⟩
  have := (tick_ok_iff sc s t).mp ⟨s', o, hs⟩
  rcases this.2 with ⟨_, h0⟩ | ⟨p, d, hp, _⟩
  · omega
  · rw [hw] at hp; cases hp

/-- **Never idle with a backlog** (work conservation): whenever the clock may advance and no transmission is in
progress, nothing is held — `total_packets` is 0, every per-class store is empty, no packet is parked or in hand. -/
theorem mq_never_idle_with_backlog (sc : MQ.Sched ℚ κ) (L : Lawful sc) (k0 : κ) (t0 : ℚ) (counts : List (Nat × Int))
    (s : MQState ℚ κ) (ins outs : List MPkt) (h : Reached sc k0 t0 counts s ins outs) (t : ℚ)
    (htick : ∃ s' o, step sc s (.tick t) = .ok (s', o)) (hidle : ∀ p d, s.phase ≠ .sending p d) :
    total s.queueCount = 0 ∧ inHand s = [] ∧ (∀ c, storeOf s.stores c = []) ∧ (∀ c, lookupD s.hol c none = none) := by
  have hi := (reached_inv sc L k0 t0 counts s ins outs h).1
  rcases ((tick_ok_iff sc s t).mp htick).2 with ⟨hw, h0⟩ | ⟨p, d, hp, _⟩
  · have ht := hi.wake hw h0
    exact ⟨ht, nothing_held_of_total_zero s (by rw [← hi.tot]; exact ht)⟩
  · exact absurd hp (hidle p d)

/-- **Non-preemptive, no abort**: once a transmission of `p` is in progress, every accepted action other than the
end of that transmission (arrivals, clock ticks, monitor samples) leaves it in progress with the same end instant;
it ends only by `sendFire`, at its due instant, with the departure of `p`. -/
theorem mq_no_abort (sc : MQ.Sched ℚ κ) (s s' : MQState ℚ κ) (a : MAct ℚ) (o : MOut ℚ) (p : MPkt) (due : ℚ)
    (hp : s.phase = .sending p due) (h : step sc s a = .ok (s', o)) :
    (a = .sendFire ∧ o = .depart p ∧ s.now = due ∧ s'.phase = .finished p) ∨
    (s'.phase = .sending p due ∧ (∀ q, o ≠ .depart q) ∧ (∀ q d, o ≠ .started q d)) := by
  have ht := step_phase sc s s' a o h
  rw [hp] at ht
  generalize s'.phase = ph' at ht ⊢
  cases ht with
  | sendFire _ _ hnow => exact .inl ⟨rfl, rfl, hnow, rfl⟩
  | put | tickBusy | sample => exact .inr ⟨rfl, nofun, nofun⟩

/-- **Per-class FIFO and conservation**: after any admissible run the packets accepted for class `c` are, in order,
exactly the packets of `c` that have left followed by those still held (in hand, parked, stored). -/
theorem mq_class_fifo (sc : MQ.Sched ℚ κ) (L : Lawful sc) (k0 : κ) (t0 : ℚ) (counts : List (Nat × Int))
    (s : MQState ℚ κ) (ins outs : List MPkt) (h : Reached sc k0 t0 counts s ins outs) (c : Nat) :
    ofClass sc c ins = ofClass sc c outs ++ heldC sc s c :=
  (reached_inv sc L k0 t0 counts s ins outs h).2 c

/-- **Per-flow FIFO** (also when several flows share a class): the packets accepted from flow `f` are, in arrival
order, exactly the packets of `f` that have left followed by the packets of `f` still held. -/
theorem mq_flow_fifo (sc : MQ.Sched ℚ κ) (L : Lawful sc) (k0 : κ) (t0 : ℚ) (counts : List (Nat × Int))
    (s : MQState ℚ κ) (ins outs : List MPkt) (h : Reached sc k0 t0 counts s ins outs) (f c : Nat)
    (hc : sc.classOf f = some c) :
    ofFlow f ins = ofFlow f outs ++ ofFlow f (heldC sc s c) := by
  have := mq_class_fifo sc L k0 t0 counts s ins outs h c
  rw [← ofFlow_ofClass sc f c hc ins, this, ofFlow_append, ofFlow_ofClass sc f c hc outs]

/-- **Every accepted packet is transmitted exactly once** (drain): when the clock may advance and no transmission
is in progress, the packets that have left each class are exactly the packets accepted for it, in order, and every
packet of a configured flow occurs among the departures exactly as often as among the arrivals. -/
theorem mq_every_packet_once (sc : MQ.Sched ℚ κ) (L : Lawful sc) (k0 : κ) (t0 : ℚ) (counts : List (Nat × Int))
    (s : MQState ℚ κ) (ins outs : List MPkt) (h : Reached sc k0 t0 counts s ins outs) (t : ℚ)
    (htick : ∃ s' o, step sc s (.tick t) = .ok (s', o)) (hidle : ∀ p d, s.phase ≠ .sending p d) :
    (∀ c, ofClass sc c outs = ofClass sc c ins) ∧
    (∀ p c, sc.classOf p.flow = some c → outs.count p = ins.count p) := by
  have hn := mq_never_idle_with_backlog sc L k0 t0 counts s ins outs h t htick hidle
  have hc : ∀ c, ofClass sc c outs = ofClass sc c ins := by
    intro c
    have := mq_class_fifo sc L k0 t0 counts s ins outs h c
    rw [heldC_nil_of_nothing sc s hn.2.1 hn.2.2.1 hn.2.2.2 c] at this
    simpa using this.symm
  refine ⟨hc, fun p c hpc => ?_⟩
  have h1 : ∀ l : List MPkt, (ofClass sc c l).count p = l.count p := by
    intro l
    simp only [ofClass, List.count_filter, hpc, decide_true]
  rw [← h1 outs, ← h1 ins, hc c]

/-- **The per-flow counters are exact**: in every reachable state `queue_count[f]` and `queue_byte_size[f]` equal the
number and the bytes of the packets of flow `f` that are waiting (stored or parked) or being handed over / in
transmission, and `total_packets` is the number of all packets held. -/
theorem mq_counters_eq (sc : MQ.Sched ℚ κ) (L : Lawful sc) (k0 : κ) (t0 : ℚ) (counts : List (Nat × Int))
    (s : MQState ℚ κ) (ins outs : List MPkt) (h : Reached sc k0 t0 counts s ins outs) (f : Nat) :
    cnt s.queueCount f = W (one f) s ∧ cnt s.queueBytes f = W (bytesOf f) s ∧ total s.queueCount = W (fun _ => 1) s := by
  have hi := (reached_inv sc L k0 t0 counts s ins outs h).1
  exact ⟨hi.count f, hi.bytes f, hi.tot⟩

/-- **Monitor samples**: a round with `service_included` reports for every flow the packets/bytes held; without, the
same minus the packet in service when it is of that flow — and the packet in service (`current_packet`) is the
packet of the sender process: set whenever a transmission is in progress, never set otherwise. -/
theorem mq_monitor_eq (sc : MQ.Sched ℚ κ) (L : Lawful sc) (k0 : κ) (t0 : ℚ) (counts : List (Nat × Int))
    (s : MQState ℚ κ) (ins outs : List MPkt) (h : Reached sc k0 t0 counts s ins outs) :
    (∀ e ∈ monitorSample s true, e.2.1 = W (one e.1) s ∧ e.2.2 = W (bytesOf e.1) s) ∧
    (∀ e ∈ monitorSample s false, e.2.1 = W (one e.1) s - wOpt (one e.1) s.currentPacket ∧
                                   e.2.2 = W (bytesOf e.1) s - wOpt (bytesOf e.1) s.currentPacket) ∧
    (∀ p d, s.phase = .sending p d → s.currentPacket = some p) ∧
    (∀ p, s.currentPacket = some p → s.phase = .spawned p ∨ ∃ d, s.phase = .sending p d) := by
  have hi := (reached_inv sc L k0 t0 counts s ins outs h).1
  refine ⟨fun e he => ?_, fun e he => ?_, hi.curTx, hi.curOnly⟩
  · simp only [monitorSample, List.mem_map, if_true] at he
    obtain ⟨x, _, rfl⟩ := he
    exact ⟨hi.count _, hi.bytes _⟩
  · simp only [monitorSample, List.mem_map] at he
    obtain ⟨x, _, rfl⟩ := he
    cases hc : s.currentPacket with
    | none => simp [hi.count, hi.bytes]
    | some p =>
      by_cases hf : p.flow = x.1
      · simp [hf, hi.count, hi.bytes, one, bytesOf]
      · simp [hf, hi.count, hi.bytes, one, bytesOf]

/-- summary of a run: accepted ids, departed ids, tokens left, total -/
def summary {κ : Type} (r : Except String (MQState ℚ κ × List MPkt × List MPkt)) : Option (List Nat × List Nat × Nat × Int) :=
  match r with
  | .ok (s, ins, outs) => some (ins.map (·.id), outs.map (·.id), s.tokens, total s.queueCount)
  | .error _ => none

/-- a concrete admissible SP run: low- and high-priority packets arrive at 0, a second high-priority packet arrives
at the very instant the first transmission ends (before the departure: no token), the loop picks it up at `sendDone` -/
example : summary (runActs (SP.sched { rate := 8, prios := [(1, 1), (2, 5)] }) (start (SP.Pc.scan 0) 0 [])
    [.init, .put ⟨1, 1, 3⟩, .put ⟨2, 2, 2⟩, .tokenHandoff, .wake, .pktResume, .sendInit, .tick 2, .put ⟨3, 2, 1⟩,
     .sendFire, .sendDone, .pktResume, .sendInit, .tick 3, .sendFire, .sendDone, .pktResume, .sendInit, .tick 6,
     .sendFire, .sendDone, .tick 7]) = some ([1, 2, 3], [2, 3, 1], 0, 0) := by
  decide +kernel

/-- a concrete admissible DRR run with two flows mapped onto one class and a packet larger than the quantum
(parked as head of line, then taken in the next round) -/
example : summary (runActs (DRR.sched { rate := 8000, weights := [(7, 1), (8, 1)], flowMap := some [(1, 7), (2, 7), (3, 8)] })
    (start (DRR.ctl0 { rate := 8000, weights := [(7, 1), (8, 1)], flowMap := some [(1, 7), (2, 7), (3, 8)] }) 0
      (DRR.counts0 ({ rate := 8000, weights := [(7, 1), (8, 1)], flowMap := some [(1, 7), (2, 7), (3, 8)] } : DRR.Cfg ℚ)))
    [.init, .put ⟨1, 1, 2000⟩, .put ⟨2, 3, 1000⟩, .put ⟨3, 2, 500⟩, .tokenHandoff, .wake, .pktResume, .pktResume, .sendInit,
     .tick 1, .sendFire, .sendDone, .sendInit, .tick 3, .sendFire, .sendDone, .pktResume, .sendInit, .tick (7/2),
     .sendFire, .sendDone, .tick 10]) = some ([1, 2, 3], [2, 1, 3], 0, 0) := by
  decide +kernel

end C12

/-!
# C12, WFQ / VirtualClock half — work-conserving, non-preemptive, rate-exact, per-flow FIFO

Theorems about the StampServer LTS (`OnlVerif/Net/StampServer.lean`).  The generic ones hold for every scheduler
record `d : Sched ℚ σ` and every admissible action sequence from the initial state (`runActs … = .ok …`); the
per-flow order is instantiated for WFQ and VirtualClock (`OnlVerif/Net/Sched/*.lean`).  Time and rates are exact
rationals.
-/

namespace C12
section StampHalf
open Stamp

variable {σ : Type}

/-- **One packet at a time**: in every reachable state the loop is in exactly one phase (`Shape`), so at most one
packet is outside the store; `current_packet` is the packet in transmission; and a transmission can only start
while none is in progress. -/
theorem stamp_one_at_a_time (d : Sched ℚ σ) (sch0 : σ) (t0 : ℚ) (as : List (StAct ℚ)) (s : StState ℚ σ)
    (ins outs : List SPkt) (h : runActs d (init sch0 t0) as = .ok (s, ins, outs)) :
    Shape s ∧ (inHand s).length ≤ 1 ∧ s.currentPacket = s.tx.map Prod.fst ∧
    (∀ s' o, step d s .sendInit = .ok (s', o) → s.tx = none ∧ s.currentPacket = none ∧ s.fin = none) := by
  have hs := run_shape (init_shape sch0 t0) (runActs_run d as _ _ _ _ h)
  refine ⟨hs, ?_, hs.1, ?_⟩
  · rcases hs.inHand_cases with h | ⟨m, h⟩ <;> simp [h]
  · intro s' o hst
    have ht := step_trans d _ _ _ _ hst
    cases ht with
    | sendInit p h1 h2 h3 =>
      have hx := hs.of_spawned h1
      exact ⟨hx.2.2.2.1, by rw [hs.1, hx.2.2.2.1]; rfl, hx.2.2.2.2⟩

/-- **A transmission takes exactly `8·size/rate`**: it starts (`sendInit`) by scheduling its end at
`now + 8·size/rate`; the end (`sendFire`) is accepted at that instant only, forwards that very packet, and the clock
cannot pass it. -/
theorem stamp_service_time_exact (d : Sched ℚ σ) (s : StState ℚ σ) :
    (∀ s' o, step d s .sendInit = .ok (s', o) →
      ∃ p, s.spawned = some p ∧ s'.tx = some (p, s.now + 8 * (p.size : ℚ) / d.rate) ∧ s'.currentPacket = some p ∧
        o = .nothing) ∧
    (∀ p due, s.tx = some (p, due) →
      (∀ s' o, step d s .sendFire = .ok (s', o) → s.now = due ∧ o = .depart p ∧ s'.tx = none ∧ s'.currentPacket = none) ∧
      (∀ t s' o, step d s (.tick t) = .ok (s', o) → t ≤ due)) := by
  constructor
  · intro s' o hst
    have ht := step_trans d _ _ _ _ hst
    cases ht with
    | sendInit p h1 h2 h3 =>
      refine ⟨p, h1, ?_, rfl, rfl⟩
      show some (p, s.now + txTime d p) = _
      have : txTime d p = 8 * (p.size : ℚ) / d.rate := by
        show ((p.size * 8 : ℕ) : ℚ) / d.rate = _
        push_cast; ring
      rw [this]
  · intro p due htx
    constructor
    · intro s' o hst
      have ht := step_trans d _ _ _ _ hst
      cases ht with
      | sendFire p' due' h1 h2 =>
        rw [htx] at h1; cases h1
        exact ⟨h2, rfl, rfl, rfl⟩
    · intro t s' o hst
      have ht := step_trans d _ _ _ _ hst
      cases ht with
      | tick _ h1 => exact h1.2.2.2.2.2.2 p due htx

/-- **Never idle with a backlog**: in a reachable state in which the clock may advance while nothing is being
transmitted, the store is empty and the scheduler holds no packet at all (it is blocked in `get`).  Hence after a
transmission ends, or after an arrival to an idle scheduler, the next transmission starts in the same instant. -/
theorem stamp_never_idle_with_backlog (d : Sched ℚ σ) (sch0 : σ) (t0 : ℚ) (as : List (StAct ℚ)) (s : StState ℚ σ)
    (ins outs : List SPkt) (h : runActs d (init sch0 t0) as = .ok (s, ins, outs)) (t : ℚ) (s' : StState ℚ σ) (o : StOut)
    (htick : step d s (.tick t) = .ok (s', o)) (htx : s.tx = none) :
    s.items = [] ∧ held s = [] ∧ s.fin = none ∧ s.getPending = true := by
  have hs := run_shape (init_shape sch0 t0) (runActs_run d as _ _ _ _ h)
  have ht := step_trans d _ _ _ _ htick
  cases ht with
  | tick _ h1 => exact tick_idle_empty hs h1 htx

/-- **No abort, no preemption**: once a packet is in transmission until `due`, every accepted action other than
the end of that transmission leaves it in transmission with the same end; the end forwards exactly that packet. -/
theorem stamp_no_abort (d : Sched ℚ σ) (sch0 : σ) (t0 : ℚ) (as : List (StAct ℚ)) (s : StState ℚ σ)
    (ins outs : List SPkt) (h : runActs d (init sch0 t0) as = .ok (s, ins, outs)) (p : SPkt) (due : ℚ)
    (htx : s.tx = some (p, due)) (a : StAct ℚ) (s' : StState ℚ σ) (o : StOut) (hst : step d s a = .ok (s', o)) :
    (a = .sendFire ∧ o = .depart p ∧ s.now = due ∧ s'.tx = none) ∨
    (a ≠ .sendFire ∧ s'.tx = some (p, due) ∧ s'.currentPacket = some p ∧ left o = []) := by
  have hs := run_shape (init_shape sch0 t0) (runActs_run d as _ _ _ _ h)
  have hx := hs.of_tx htx
  have hc : s.currentPacket = some p := by rw [hs.1, htx]; rfl
  have ht := step_trans d _ _ _ _ hst
  cases ht with
  | sendFire q due' h1 h2 =>
    rw [htx] at h1; cases h1
    exact Or.inl ⟨rfl, rfl, h2, rfl⟩
  | put | tick | sample => exact Or.inr ⟨by simp, htx, hc, rfl⟩
  -- the loop is in no other phase
  | initBlock h1 | initServe _ _ _ h1 => cases hx.1.symm.trans h1
  | handoff _ _ _ h1 => cases hx.2.1.symm.trans h1
  | resume _ h1 => cases hx.2.2.1.symm.trans h1
  | sendInit _ h1 => cases hx.2.2.2.1.symm.trans h1
  | doneBlock _ _ h1 | doneServe _ _ _ _ _ h1 => cases hx.2.2.2.2.symm.trans h1

/-- **Every accepted packet is transmitted exactly once**: the accepted packets are a permutation of the departed
packets together with the packets still waiting or in transmission; and when the clock may advance with nothing in
transmission (in particular when the simulation has run out of events) nothing is held, so every accepted packet
has departed exactly once. -/
theorem stamp_every_packet_once (d : Sched ℚ σ) (sch0 : σ) (t0 : ℚ) (as : List (StAct ℚ)) (s : StState ℚ σ)
    (ins outs : List SPkt) (h : runActs d (init sch0 t0) as = .ok (s, ins, outs)) :
    ins.Perm (outs ++ held s) ∧
    (∀ t s' o, step d s (.tick t) = .ok (s', o) → s.tx = none → ins.Perm outs) := by
  have hr := runActs_run d as _ _ _ _ h
  have hp := (run_ginv (init_ginv sch0 t0) hr).2
  have h0 : held (init sch0 t0) = [] := by simp [held, inHand, waiting, init]
  rw [h0, List.nil_append] at hp
  refine ⟨hp, ?_⟩
  intro t s' o htick htx
  have := (stamp_never_idle_with_backlog d sch0 t0 as s ins outs h t s' o htick htx).2.1
  rw [this, List.append_nil] at hp
  exact hp

/-- **The per-flow counters** `queue_count[f]`, `queue_byte_size[f]` equal the number and the bytes of the
packets of flow `f` waiting or in transmission. -/
theorem stamp_counters_eq (d : Sched ℚ σ) (sch0 : σ) (t0 : ℚ) (as : List (StAct ℚ)) (s : StState ℚ σ)
    (ins outs : List SPkt) (h : runActs d (init sch0 t0) as = .ok (s, ins, outs)) (f : Nat) :
    getD s.queueCount f = ((ofFlow f (held s)).length : Int) ∧
    getD s.queueBytes f = ((ofFlow f (held s)).map fun p => (p.size : Int)).sum := by
  have hg := (run_ginv (init_ginv sch0 t0) (runActs_run d as _ _ _ _ h)).1
  exact ⟨(hg.cnt f).trans ((msum_filter _ (fun _ => 1) _).trans (msum_one _)),
    (hg.byt f).trans (msum_filter _ (fun p => (p.size : Int)) _)⟩

/-- **Monitor samples**: with `service_included` a sample of flow `f` is the number / bytes of its packets waiting
or in transmission; without, the packet in transmission (if it is of flow `f`) is subtracted. -/
theorem stamp_monitor_eq (d : Sched ℚ σ) (sch0 : σ) (t0 : ℚ) (as : List (StAct ℚ)) (s : StState ℚ σ)
    (ins outs : List SPkt) (h : runActs d (init sch0 t0) as = .ok (s, ins, outs)) (f : Nat) :
    sampleFlow s true f = (f, ((ofFlow f (held s)).length : Int), ((ofFlow f (held s)).map fun p => (p.size : Int)).sum) ∧
    sampleFlow s false f =
      (f, ((ofFlow f (held s)).length : Int) - (match s.tx with | some (p, _) => if p.flow = f then 1 else 0 | none => 0),
          ((ofFlow f (held s)).map fun p => (p.size : Int)).sum -
            (match s.tx with | some (p, _) => if p.flow = f then (p.size : Int) else 0 | none => 0)) ∧
    (∀ b, step d s (.sample b) = .ok (s, .samples (s.queueCount.map fun kv => sampleFlow s b kv.1))) := by
  have hs := run_shape (init_shape sch0 t0) (runActs_run d as _ _ _ _ h)
  obtain ⟨h1, h2⟩ := stamp_counters_eq d sch0 t0 as s ins outs h f
  have hc := hs.1
  refine ⟨?_, ?_, fun b => rfl⟩
  · unfold sampleFlow
    cases hcp : s.currentPacket <;> simp [h1, h2]
  · unfold sampleFlow
    cases htx : s.tx with
    | none =>
      rw [htx] at hc
      simp only [Option.map_none] at hc
      simp [hc, h1, h2]
    | some x =>
      obtain ⟨p, due⟩ := x
      rw [htx] at hc
      simp only [Option.map_some] at hc
      simp only [hc, Bool.not_false, Bool.true_and, decide_eq_true_eq]
      by_cases hf : p.flow = f
      · simp [hf, h1, h2]
      · simp [hf, h1, h2]

/-- **WFQ, per-flow FIFO**: with positive rate and weights and packets of positive size, the waiting packets of
one flow (indeed of one class) carry strictly increasing stamps, so serving a minimal key serves each flow in
arrival order: for every flow the accepted packets are, in order, the departed ones followed by those still held. -/
theorem stamp_flow_fifo_wfq (c : WfqCfg ℚ) (hp : WFQ.Pos c) (t0 : ℚ) (as : List (StAct ℚ)) (s : WFQ.WState)
    (ins outs : List SPkt) (h : runActs (WFQ.sched c) (WFQ.start t0) as = .ok (s, ins, outs))
    (hsz : ∀ p ∈ ins, 0 < p.size) (f : Nat) :
    FlowSorted s.items ∧ ofFlow f ins = ofFlow f outs ++ ofFlow f (held s) := by
  have hr := runActs_run _ as _ _ _ _ h
  -- the sizes of the packets accepted on a prefix of the run are positive as well
  have key : ∀ (s1 : WFQ.WState) i1 o1, Run (WFQ.sched c) (WFQ.start t0) s1 i1 o1 → (∀ p ∈ i1, 0 < p.size) →
      FlowSorted s1.items := fun s1 i1 o1 hr1 hs1 => (WFQ.run_capped c hp hr1 hs1).flowSorted
  refine ⟨key _ _ _ hr hsz, ?_⟩
  have := run_fifo (init_shape _ _) (fun i => ∀ p ∈ i, 0 < p.size)
    (fun i e hi p hp' => hi p (List.mem_append_left _ hp')) key hr hsz f
  simpa [held, inHand, waiting, WFQ.start, init] using this

/-- **VirtualClock, per-flow FIFO** (positive vticks). -/
theorem stamp_flow_fifo_vc (c : VcCfg ℚ) (hp : VC.Pos c) (t0 : ℚ) (as : List (StAct ℚ)) (s : VC.VState)
    (ins outs : List SPkt) (h : runActs (VC.sched c) (VC.start c t0) as = .ok (s, ins, outs)) (f : Nat) :
    FlowSorted s.items ∧ ofFlow f ins = ofFlow f outs ++ ofFlow f (held s) := by
  have hr := runActs_run _ as _ _ _ _ h
  have key : ∀ (s1 : VC.VState) i1 o1, Run (VC.sched c) (VC.start c t0) s1 i1 o1 → FlowSorted s1.items :=
    fun s1 i1 o1 hr1 => (VC.run_vinv c hp hr1).2.capped.flowSorted
  refine ⟨key _ _ _ hr, ?_⟩
  have := run_fifo (init_shape _ _) (fun _ => True) (fun _ _ _ => trivial) (fun s1 i1 o1 hr1 _ => key s1 i1 o1 hr1) hr
    trivial f
  simpa [held, inHand, waiting, VC.start, init] using this

/-- rate 8 bit/s; flows 0 and 2 share class 0 (weight 1), flow 1 is class 1 (weight 2) -/
def wcfg : WfqCfg ℚ := { rate := 8, weights := [(0, 1), (1, 2)], flow2class := [(0, 0), (1, 1), (2, 0)] }

/-- accepted ids, departed ids, may the clock advance?, nothing in transmission?, counters of flow 0 -/
def digest {σ : Type} (r : Except SErr (StState ℚ σ × List SPkt × List SPkt)) :
    Option (List Nat × List Nat × Bool × Bool × Int × Int) :=
  match r with
  | .ok (s, ins, outs) =>
    some (ins.map (·.id), outs.map (·.id), (tickOk s (s.now + 1)).isNone, s.tx.isNone, getD s.queueCount 0, getD s.queueBytes 0)
  | .error _ => none

/-- a complete WFQ run: two packets of flow 0 and one of flow 1 arrive at t = 0; they leave as 1, 2, 3 (stamps 1, 1,
2; packets 1 and 2 tie), back to back at t = 1, 3, 4; at the end the clock may advance with nothing in transmission
(the hypothesis of the drain clause) and the counters are back to 0 -/
example : digest (runActs (WFQ.sched wcfg) (WFQ.start 0)
    [.init none, .put ⟨1, 0, 1⟩, .put ⟨2, 1, 2⟩, .put ⟨3, 0, 1⟩, .handoff 1, .resume, .sendInit, .tick 1, .sendFire,
      .sendDone (some 2), .resume, .sendInit, .tick 3, .sendFire, .sendDone (some 3), .resume, .sendInit, .tick 4,
      .sendFire, .sendDone none]) = some ([1, 2, 3], [1, 2, 3], true, true, 0, 0) := by
  decide +kernel

/-- in the middle of that run (packet 2 in transmission, packet 3 waiting) the clock may advance, something *is* in
transmission, and flow 0 counts one packet of one byte -/
example : digest (runActs (WFQ.sched wcfg) (WFQ.start 0)
    [.init none, .put ⟨1, 0, 1⟩, .put ⟨2, 1, 2⟩, .put ⟨3, 0, 1⟩, .handoff 1, .resume, .sendInit, .tick 1, .sendFire,
      .sendDone (some 2), .resume, .sendInit]) = some ([1, 2, 3], [1], true, false, 1, 1) := by
  decide +kernel

/-- after a transmission ends with a packet waiting the clock may *not* advance before the next one has started -/
example : digest (runActs (WFQ.sched wcfg) (WFQ.start 0)
    [.init none, .put ⟨1, 0, 1⟩, .put ⟨2, 1, 2⟩, .handoff 1, .resume, .sendInit, .tick 1, .sendFire,
      .sendDone (some 2)]) = some ([1, 2], [1], false, true, 0, 0) := by
  decide +kernel

/-- a Monitor round during the transmission of packet 1 (flow 0): with the packet in service included flow 0 shows
2 packets / 2 bytes, without it 1 packet / 1 byte -/
example : (match runActs (WFQ.sched wcfg) (WFQ.start 0)
    [.init none, .put ⟨1, 0, 1⟩, .put ⟨2, 1, 2⟩, .put ⟨3, 0, 1⟩, .handoff 1, .resume, .sendInit] with
    | .ok (s, _, _) => (sampleAll s true, sampleAll s false)
    | .error _ => ([], [])) = ([(0, 2, 2), (1, 1, 2)], [(0, 1, 1), (1, 1, 2)]) := by
  decide +kernel

example : WFQ.Pos wcfg := by
  refine ⟨by decide +kernel, ?_⟩
  intro k w h
  simp only [wcfg, lookup] at h
  split at h
  · cases h; norm_num
  · split at h
    · cases h; norm_num
    · cases h

end StampHalf

/-! ### The source, re-translated on every run, *is* the transmission time of both LTSs (bridge theorems)

`Generated/SchedTx.lean` is rewritten by `py2lean` from the current `onl/scheduler/base.py` before this file is compiled: the
argument of the one `yield self.env.timeout(…)` of `Scheduler.send_packet`, which all six schedulers use.  "transmits one packet
at a time for exactly 8*size/rate" is a clause of C12 (the stamp rules of WFQ / VirtualClock are C14's).  Over exact rationals. -/

/-- **The transmission time in `Scheduler.send_packet` as written in the source is the model's `txTime`** = `8·size/rate`
(stamp family: WFQ, VirtualClock). -/
theorem send_delay_generated_eq_model {σ : Type} (d : Sched ℚ σ) (p : SPkt) :
    Gen.Scheduler.send_delay { rate := d.rate } p.size = Stamp.txTime d p :=
  GenSchedTx.send_delay_eq d p

/-- **The same for the multi-queue family** (SP, RR, WRR, DRR): the translated delay is `MQ.txTime` = `8·size/rate`. -/
theorem mq_send_delay_generated_eq_model {κ : Type} (sc : MQ.Sched ℚ κ) (p : MPkt) :
    Gen.Scheduler.send_delay { rate := sc.rate } p.size = MQ.txTime sc p :=
  GenSchedTx.mq_send_delay_eq sc p

/-- 1500 bytes at 12000 bit/s take one second -/
example : Gen.Scheduler.send_delay (α := ℚ) { rate := 12000 } 1500 = 1 := by
  unfold Gen.Scheduler.send_delay
  norm_num [Num.ofInt_rat, Num.ofNat_rat']

end C12
