import OnlVerif.Lemmas.TimerFire
import OnlVerif.Lemmas.GenTimer19
import OnlVerif.Props.C19K
/-!
# C19 — a Timer fires exactly at its expiry, and stop/restart always take effect

Model: `OnlVerif/Util/Timer.lean`, the Timer as a labelled transition system over its atomic bursts
(`init pid`, `wake pid cb`, `intr pid`, `stop`, `restart τ`, `tick t`; the callback's own `stop()`/`restart(τ)`
calls are the parameter `cb` of `wake`).  `run s acts = .ok s' outs` says: the action sequence `acts` is
*admissible* from `s` (URGENT events are processed in creation order before any wake and before the clock moves,
a process wakes exactly at the instant it sleeps until, the clock cannot pass a due wake) and produces the
callback invocations `outs`.  All theorems quantify over **every** admissible sequence; time is exact (`ℚ`),
the executable model runs at `Float` and is compared bit for bit with `onl.utils.timer.Timer` by the
correspondence check.

`Quiet a`: `a` is neither `stop`/`restart` nor a wake whose callback calls them — a run of quiet actions is a
history on which the timer is "not stopped or restarted".
-/

namespace C19
open Timer

/-- **One-shot: exactly once, exactly at `t0 + timeout`, with the given arguments — unless stopped or restarted
first.**  Split any admissible history at its first `stop`/`restart` (`pre` is quiet, `post` is anything): during
`pre` the callback is invoked at most once, at exactly `t0 + T` with `normArgs a`; while it has not been invoked the
clock has not passed `t0 + T` (so it cannot be skipped), and once invoked it is never invoked again within `pre`.
With `post = []` this is the whole life of an undisturbed timer. -/
theorem fires_at_expiry (t0 T : ℚ) (a : ArgSpec) (s0 : State ℚ) (hc : create t0 T false a = .ok s0)
    (pre post : List (Action ℚ)) (hq : ∀ x ∈ pre, Quiet x) (s' : State ℚ) (outs : List (Out ℚ))
    (hr : run s0 (pre ++ post) = .ok s' outs) :
    ∃ s1 o1 o2, run s0 pre = .ok s1 o1 ∧ run s1 post = .ok s' o2 ∧ outs = o1 ++ o2 ∧
      ((o1 = [] ∧ s1.now ≤ t0 + T) ∨ (o1 = [.fire (t0 + T) (normArgs a)] ∧ t0 + T ≤ s1.now)) := by
  obtain ⟨s1, o1, o2, h1, h2, h3⟩ := run_append_ok hr
  obtain ⟨harm, hargs, hauto, _, _⟩ := create_armed hc
  have := (armed_run harm hq h1).1 hauto
  rw [hargs] at this
  exact ⟨s1, o1, o2, h1, h2, h3, this⟩

/-- **Auto-restart: every `timeout` thereafter.**  During the quiet prefix of any admissible history the callback is
invoked exactly at `t0 + T, t0 + 2T, …, t0 + kT` (each with `normArgs a`), none of them is skipped (the clock has not
passed `t0 + (k+1)T`) and none lies in the future. -/
theorem fires_at_expiry_auto (t0 T : ℚ) (a : ArgSpec) (s0 : State ℚ) (hc : create t0 T true a = .ok s0)
    (pre post : List (Action ℚ)) (hq : ∀ x ∈ pre, Quiet x) (s' : State ℚ) (outs : List (Out ℚ))
    (hr : run s0 (pre ++ post) = .ok s' outs) :
    ∃ s1 o2 k, run s0 pre = .ok s1 (firesFrom (t0 + T) T (normArgs a) k) ∧ run s1 post = .ok s' o2 ∧
      outs = firesFrom (t0 + T) T (normArgs a) k ++ o2 ∧ s1.now ≤ t0 + T + (k : ℚ) * T ∧
      ∀ x ∈ firesFrom (t0 + T) T (normArgs a) k, x.time ≤ s1.now := by
  obtain ⟨s1, o1, o2, h1, h2, h3⟩ := run_append_ok hr
  obtain ⟨harm, hargs, hauto, htmo, _⟩ := create_armed hc
  obtain ⟨k, hk, hle⟩ := (armed_run harm hq h1).2 hauto
  rw [hargs, htmo] at hk
  rw [htmo] at hle
  subst hk
  refine ⟨s1, o2, k, h1, h2, h3, hle, ?_⟩
  intro x hx
  obtain ⟨t, rfl, _, h5⟩ := (run_frame harm.inv h1).2.2.2.1 x hx
  exact h5

/-- **After `stop()` the callback never fires again**, in any continuation whatsoever (any further `stop`/`restart`
calls, any interleaving): `stop` is always enabled, and every admissible run from the state it leaves has no
output. -/
theorem stop_is_final (s : State ℚ) (hs : Reachable s) :
    ∃ s1, step s .stop = .ok s1 [] ∧
      ∀ (post : List (Action ℚ)) (s' : State ℚ) (outs : List (Out ℚ)), run s1 post = .ok s' outs → outs = [] := by
  refine ⟨stopBody s, rfl, ?_⟩
  intro post s' outs hr
  exact ((run_frame (inv_stopBody hs.inv) hr).2.2.2.2 rfl).1

/-- **… also when `stop()` is called from the timer's own callback** (anywhere among the callback's calls): that
invocation is the last one. -/
theorem stop_in_callback_is_final (s : State ℚ) (hs : Reachable s) (pid : Nat) (cb : List (CbOp ℚ))
    (hm : CbOp.stop ∈ cb) (s1 : State ℚ) (o : List (Out ℚ)) (hw : step s (.wake pid cb) = .ok s1 o) :
    ∀ (post : List (Action ℚ)) (s' : State ℚ) (outs : List (Out ℚ)), run s1 post = .ok s' outs → outs = [] := by
  intro post s' outs hr
  have hst : s1.stopped = true := by
    rcases (wake_ok hs.inv hw).2.2.2.2 with ⟨_, hnil, _⟩ | ⟨_, s2, hrun, rfl, _⟩
    · subst hnil; cases hm
    · simpa using runCb_stop_mem hs.inv hrun hm
  exact ((run_frame (step_inv hs.inv hw) hr).2.2.2.2 hst).1

/-- **`restart(τ)` at `r` on a pending timer re-bases the expiry to exactly `r + τ`.**  In any reachable state in which
the timer is not stopped and its process is alive (sleeping — possibly due at this very instant — or not yet
started), `restart τ` is enabled, raises nothing, and in every quiet continuation a one-shot timer fires at most
once, exactly at `r + τ` (not before, not at the old expiry, and not skipped), an auto-restart timer exactly at
`r + τ, r + 2τ, …`. -/
theorem restart_rebases (s : State ℚ) (hs : Reachable s) (hns : s.stopped = false)
    (hal : ∃ st, s.procs[s.proc]? = some st ∧ st ≠ PStat.finished) (tau : ℚ) (htau : 0 < tau) :
    ∃ s1, step s (.restart tau) = .ok s1 [] ∧
      ∀ (acts : List (Action ℚ)) (s' : State ℚ) (outs : List (Out ℚ)), (∀ x ∈ acts, Quiet x) →
        run s1 acts = .ok s' outs →
        (s.auto = false → (outs = [] ∧ s'.now ≤ s.now + tau) ∨
          (outs = [.fire (s.now + tau) s.args] ∧ s.now + tau ≤ s'.now)) ∧
        (s.auto = true → ∃ k : Nat, outs = firesFrom (s.now + tau) tau s.args k ∧
          s'.now ≤ s.now + tau + (k : ℚ) * tau) := by
  obtain ⟨s1, h1, harm, hauto, hargs, htmo, _⟩ := armed_after_restart hs.inv hns hal htau
  refine ⟨s1, h1, ?_⟩
  intro acts s' outs hq hr
  have := armed_run harm hq hr
  rw [hauto, hargs, htmo] at this
  exact this

/-- **`restart(τ)` from inside the timer's own callback** (as the last timer call of the callback, no `stop()` before
it) at the firing instant `r`: the invocation in progress is the only one at `r`, and the next one is at exactly
`r + τ` — for a one-shot timer too (it is re-armed), for an auto-restart timer then every `τ`. -/
theorem restart_in_callback_rebases (s : State ℚ) (hs : Reachable s) (pid : Nat) (ops : List (CbOp ℚ))
    (hno : ∀ op ∈ ops, op ≠ CbOp.stop) (tau : ℚ) (htau : 0 < tau) (s1 : State ℚ) (o : List (Out ℚ))
    (hw : step s (.wake pid (ops ++ [.restart tau])) = .ok s1 o) :
    o = [.fire s.now s.args] ∧
      ∀ (acts : List (Action ℚ)) (s' : State ℚ) (outs : List (Out ℚ)), (∀ x ∈ acts, Quiet x) →
        run s1 acts = .ok s' outs →
        (s.auto = false → (outs = [] ∧ s'.now ≤ s.now + tau) ∨
          (outs = [.fire (s.now + tau) s.args] ∧ s.now + tau ≤ s'.now)) ∧
        (s.auto = true → ∃ k : Nat, outs = firesFrom (s.now + tau) tau s.args k ∧
          s'.now ≤ s.now + tau + (k : ℚ) * tau) := by
  obtain ⟨ho, harm, hauto, hargs, htmo, _⟩ := armed_after_cb_restart hs.inv hno htau hw
  refine ⟨ho, ?_⟩
  intro acts s' outs hq hr
  have := armed_run harm hq hr
  rw [hauto, hargs, htmo] at this
  exact this

/-- **At most one process can ever wake un-interrupted.**  In every reachable state each started process other than
`self.proc` that is still alive has an `Interruption` pending in the URGENT queue, and a wake is enabled only when
that queue is empty: so the process that wakes is `self.proc`, and all the others have finished. -/
theorem no_double_fire (s : State ℚ) (hs : Reachable s) :
    (∀ (q : Nat) (st : PStat ℚ), s.procs[q]? = some st → q ≠ s.proc → st ≠ PStat.finished → UEv.intr q ∈ s.uq) ∧
    (∀ (pid : Nat) (cb : List (CbOp ℚ)) (s' : State ℚ) (o : List (Out ℚ)), step s (.wake pid cb) = .ok s' o →
      pid = s.proc ∧ s.uq = [] ∧ o.length ≤ 1 ∧
        ∀ (q : Nat) (st : PStat ℚ), q ≠ pid → s.procs[q]? = some st → st = PStat.finished) := by
  refine ⟨hs.inv.old_intr, ?_⟩
  intro pid cb s' o hw
  obtain ⟨h1, h2, _, h4, hb⟩ := wake_ok hs.inv hw
  refine ⟨h1, h2, ?_, h4⟩
  rcases hb with ⟨_, _, _, rfl⟩ | ⟨_, _, _, _, rfl⟩ <;> simp

/-- **No expiry fires twice, and never with the wrong arguments**: along every admissible history — any
`stop`/`restart` calls from other processes and from the callback, at any instants, in any admissible interleaving —
the callback invocations happen at strictly increasing instants, each with exactly the constructor's arguments. -/
theorem fire_instants_strictly_increase (t0 T : ℚ) (auto : Bool) (a : ArgSpec) (s0 : State ℚ)
    (hc : create t0 T auto a = .ok s0) (acts : List (Action ℚ)) (s' : State ℚ) (outs : List (Out ℚ))
    (hr : run s0 acts = .ok s' outs) :
    (outs.map Out.time).Pairwise (· < ·) ∧ ∀ x ∈ outs, ∃ t, x = Out.fire t (normArgs a) ∧ t0 ≤ t := by
  obtain ⟨harm, hargs, _, _, hnow⟩ := create_armed hc
  have hb := run_bound (b := t0 - 1) harm.inv (by rw [hnow]; linarith) (by
    intro pid w hg
    rw [create_procs hc] at hg
    cases pid <;> cases hg) hr
  refine ⟨hb.2, ?_⟩
  intro x hx
  obtain ⟨t, rfl, h1, _⟩ := (run_frame harm.inv hr).2.2.2.1 x hx
  exact ⟨t, by rw [hargs], by rw [← hnow]; exact h1⟩

/-- **No sequence of stop/restart calls raises.**  The constructor accepts exactly the positive timeouts (others:
`ValueError`); from the state it builds, no action sequence at all — admissible or not, with any callbacks and any
`restart` arguments, at any instants including the expiry instant on either side of the wake — reaches a Python
exception (the kernel's refusals "process has terminated" / "a process is not allowed to interrupt itself" are the
error results `Err.terminated` / `Err.selfInterrupt` of the model). -/
theorem never_raises (t0 T : ℚ) (auto : Bool) (a : ArgSpec) :
    (0 < T → ∃ s0, create t0 T auto a = .ok s0 ∧ ∀ (acts : List (Action ℚ)) (e : Err), run s0 acts ≠ .raised e) ∧
    (T ≤ 0 → create t0 T auto a = .error Err.valueError) := by
  constructor
  · intro hT
    obtain ⟨s0, h0⟩ := (create_ok_iff t0 T auto a).mpr hT
    exact ⟨s0, h0, fun acts e => run_no_raise e (create_inv h0)⟩
  · intro hT
    unfold create
    rw [Timer.zero_eq, if_pos hT]

deriving instance DecidableEq for Out

/-- a one-shot timer created at 0 with timeout 1 and `args=7` -/
def ex0 : State ℚ :=
  { now := 0, timeout := 1, expire := 1, start := 0, stopped := false, auto := false, args := [7],
    procs := [.notStarted], proc := 0, uq := [.init 0] }

example : create (0 : ℚ) 1 false (.scalar 7) = .ok ex0 := by with_unfolding_all rfl

/-- undisturbed: fires once at 1 with `[7]`; the clock may then go on (`fires_at_expiry` with `post = []`) -/
example : outsOf (run ex0 [.init 0, .tick (1/2), .tick 1, .wake 0 [], .tick 3]) = some [.fire 1 [7]] := by
  decide +kernel

/-- a quiet prefix followed by a `restart 2` at 1/2 (`fires_at_expiry` with a non-empty `post`, and `restart_rebases`):
the old expiry 1 passes silently, the callback fires at 5/2 -/
example : outsOf (run ex0 [.init 0, .tick (1/2), .restart 2, .intr 0, .init 1, .tick 1, .tick (5/2), .wake 1 []])
    = some [.fire (5/2) [7]] := by
  decide +kernel

/-- `restart` at the expiry instant *before* the wake: the interrupt is URGENT, the old process never wakes -/
example : outsOf (run ex0 [.init 0, .tick 1, .restart 1, .intr 0, .init 1, .tick 2, .wake 1 []]) = some [.fire 2 [7]] := by
  decide +kernel

/-- … and the wake is indeed not admissible while the interrupt is pending -/
example : outsOf (run ex0 [.init 0, .tick 1, .restart 1, .wake 0 []]) = none := by
  decide +kernel

/-- `restart` at the expiry instant *after* the wake of a one-shot timer: does not raise (and does not re-arm) -/
example : outsOf (run ex0 [.init 0, .tick 1, .wake 0 [], .restart 1, .tick 5]) = some [.fire 1 [7]] := by
  decide +kernel

/-- `restart` from the callback of a one-shot timer re-arms it (`restart_in_callback_rebases`): 1, then 1 + 3/2 -/
example : outsOf (run ex0 [.init 0, .tick 1, .wake 0 [.restart (3/2)], .tick (5/2), .wake 0 [], .tick 9])
    = some [.fire 1 [7], .fire (5/2) [7]] := by
  decide +kernel

/-- `stop()` at the expiry instant before the wake: the process wakes but the callback is suppressed, also after a
later `restart` (`stop_is_final`) -/
example : outsOf (run ex0 [.init 0, .tick 1, .stop, .wake 0 [], .restart 1, .tick 7]) = some [] := by
  decide +kernel

/-- an auto-restart timer (timeout 1/2, list arguments) whose callback stops it at its third firing -/
def ex1 : State ℚ :=
  { now := 2, timeout := 1/2, expire := 5/2, start := 2, stopped := false, auto := true, args := [1, 2],
    procs := [.notStarted], proc := 0, uq := [.init 0] }

example : create (2 : ℚ) (1/2) true (.list [1, 2]) = .ok ex1 := by with_unfolding_all rfl

example : outsOf (run ex1 [.init 0, .tick (5/2), .wake 0 [], .tick 3, .wake 0 [], .tick (7/2), .wake 0 [.stop],
    .tick 4, .wake 0 [], .tick 10]) = some [.fire (5/2) [1, 2], .fire 3 [1, 2], .fire (7/2) [1, 2]] := by
  decide +kernel

/-- several calls at one instant, the second `restart` hits a process that has not started yet; the interrupt of the
middle process is delivered after its `Initialize` -/
example : outsOf (run ex1 [.restart 1, .restart 2, .init 0, .intr 0, .init 1, .intr 1, .init 2, .tick 4, .wake 2 []])
    = some [.fire 4 [1, 2]] := by
  decide +kernel

/-! ### The source, re-translated on every run, *is* the model (bridge theorems)

`Generated/Timer19.lean` is rewritten by `py2lean` (`more.py`) from the current `onl/utils/timer.py` before this file is
compiled.  `GenTimer19.withModel o s` is the Python object with the five modelled attributes (`timeout`, `start_time`,
`expire_time`, `auto_restart`, `stopped`) taken from the model state `s` and everything else (effect counters, `raised`, where
the generator is suspended) from `o`; `GenTimer19.statOf g now` reads the suspension point the translated burst of `run` ends
in as the model's process status (`yield self.env.timeout(dt)` at `now` = sleeping until `now + dt`; generator ended =
finished).  All statements hold for every scalar type (`[Num α]`: `ℚ` above, `Float` in the driver). -/

/-- **`Timer.__init__` as written in the source is the model's `create`**: `timeout <= 0` is refused with `ValueError`
(and nothing is started); otherwise `timeout`, `start_time = now`, `expire_time = start_time + timeout`, `auto_restart`,
`stopped = False` are set as in `create` and exactly one process is started; and the list stored in `self.args` is
`normArgs`: `None → []`, a list or tuple as it is, any other value `v → [v]`. -/
theorem timer_init_generated_eq_model {α : Type} [Num α] (o : Gen.TimerObj α) (t0 timeout : α) (auto : Bool) (a : ArgSpec)
    (vs : List Int) :
    (Gen.Timer.init o t0 timeout auto =
      match create t0 timeout auto a with
      | .error _ => { o with raised := 2 }
      | .ok s => GenTimer19.withModel { o with eff_spawn := o.eff_spawn + 1, proc_new := true } s) ∧
    Gen.Timer.init_args (GenTimer19.pyArgs a) = normArgs a ∧ Gen.Timer.init_args (.tuple vs) = normArgs (.list vs) := by
  refine ⟨?_, by cases a <;> exact ⟨rfl, rfl⟩⟩
  unfold Gen.Timer.init create
  by_cases h : timeout ≤ (Num.ofNat 0 : α)
  · simp only [h, if_true]
  · simp only [h, if_false]; rfl

/-- **One turn of `Timer.run` as written in the source is the model's `loopTest` / `wakeBody`.**  (i) From its start the
generator tests `env.now < expire_time` and sleeps `expire_time - env.now` or ends — `loopTest`.  (ii) Woken while
`stopped`, it does not invoke the callback and goes on with the loop test.  (iii) Woken while running, it invokes the
callback exactly once (`f` is what the callback does to the Python object, `cb` the same calls in the model), then
re-bases `expire_time = env.now + timeout` iff `auto_restart`, then tests the loop again — `wakeBody`; the callback fires
with `self.args` at the current instant.  Besides the suspension point nothing but what the callback and the re-base did
changes.  (The swallowed `Interrupt` around the loop is checked structurally by the translator.) -/
theorem timer_run_generated_eq_model {α : Type} [Num α] (pid : Nat) (o : Gen.TimerObj α) (s : State α)
    (f : Gen.TimerObj α → Gen.TimerObj α) :
    (loopTest pid s = setStat s pid (GenTimer19.statOf (Gen.Timer.run_start (GenTimer19.withModel o s) s.now) s.now) ∧
     Gen.Timer.run_start (GenTimer19.withModel o s) s.now =
       GenTimer19.suspendedAs (GenTimer19.withModel o s) (Gen.Timer.run_start (GenTimer19.withModel o s) s.now)) ∧
    (s.stopped = true →
      wakeBody pid [] s =
        .ok (setStat s pid (GenTimer19.statOf (Gen.Timer.run_wake (GenTimer19.withModel o s) s.now f) s.now)) [] ∧
      Gen.Timer.run_wake (GenTimer19.withModel o s) s.now f =
        GenTimer19.suspendedAs (GenTimer19.withModel o s) (Gen.Timer.run_wake (GenTimer19.withModel o s) s.now f)) ∧
    (s.stopped = false → ∀ (cb : List (CbOp α)) (s' : State α) (o' : Gen.TimerObj α), runCb pid cb s = .ok s' →
      f (GenTimer19.withModel { o with yield_at := 0, yield_dt := Num.ofNat 0, eff_callback := o.eff_callback + 1 } s) =
        GenTimer19.withModel o' s' → o'.yield_at = 0 →
      wakeBody pid cb s =
        .ok (setStat (autoRebase s') pid (GenTimer19.statOf (Gen.Timer.run_wake (GenTimer19.withModel o s) s.now f) s.now))
          [.fire s.now s.args] ∧
      Gen.Timer.run_wake (GenTimer19.withModel o s) s.now f =
        GenTimer19.suspendedAs (GenTimer19.withModel o' (autoRebase s')) (Gen.Timer.run_wake (GenTimer19.withModel o s) s.now f)) := by
  refine ⟨GenTimer19.loopTest_eq pid o s, fun hs => ?_, fun hs cb s' o' hcb hf ho => ?_⟩
  · have hg : Gen.Timer.run_wake (GenTimer19.withModel o s) s.now f = Gen.Timer.run_start (GenTimer19.withModel o s) s.now := by
      unfold Gen.Timer.run_wake Gen.Timer.run_start GenTimer19.withModel
      simp only [hs, not_true_eq_false, if_false]
    rw [hg]
    obtain ⟨h1, h2⟩ := GenTimer19.loopTest_eq pid o s
    refine ⟨?_, h2⟩
    unfold wakeBody
    simp only [hs, if_true, List.isEmpty_nil]
    rw [h1]
  · have hnow : s'.now = s.now := GenTimer19.runCb_now hcb
    have hnow' : (autoRebase s').now = s.now := by unfold autoRebase; split <;> exact hnow
    have hf' : f { GenTimer19.withModel o s with yield_at := 0, yield_dt := Num.ofNat 0, eff_callback := (GenTimer19.withModel o s).eff_callback + 1 } =
        GenTimer19.withModel o' s' := hf
    rw [GenTimer19.run_wake_running (GenTimer19.withModel o s) s.now f hs, hf', ← hnow, GenTimer19.autoG_withModel o' s']
    unfold wakeBody
    simp only [hs, Bool.false_eq_true, if_false, hcb]
    unfold loopTest GenTimer19.statOf GenTimer19.suspendedAs
    rw [hnow', hnow]
    by_cases h : s.now < (autoRebase s').expire
    · have h' : s.now < (GenTimer19.withModel o' (autoRebase s')).expire_time := h
      simp only [h, h', if_true]
      exact ⟨rfl, trivial⟩
    · have h' : ¬ s.now < (GenTimer19.withModel o' (autoRebase s')).expire_time := h
      have h0 : (GenTimer19.withModel o' (autoRebase s')).yield_at = 0 := ho
      simp only [h, h', if_false]
      refine ⟨?_, trivial⟩
      rw [if_pos h0]

/-- **`Timer.stop` as written in the source is the model's `stopBody`**: `stopped = True`, `expire_time = env.now`, nothing
else (no early return, no interrupt). -/
theorem timer_stop_generated_eq_model {α : Type} [Num α] (o : Gen.TimerObj α) (s : State α) :
    Gen.Timer.stop (GenTimer19.withModel o s) s.now = GenTimer19.withModel o (stopBody s) :=
  rfl

/-- **`Timer.restart` as written in the source is the model's `restartCall`** on a timer whose `self.proc` is a process
of the timer (`st`): it always re-bases `start_time = env.now`, `timeout = τ`, `expire_time = start_time + τ`; called from
the timer's own callback (`env.active_process is self.proc`) it does nothing more; otherwise, iff `self.proc` is alive, it
interrupts that process — the old one, before `self.proc` is re-bound (`intr_new` stays as it was) — and starts exactly one
new process; a dead `self.proc` is neither interrupted nor replaced. -/
theorem timer_restart_generated_eq_model {α : Type} [Num α] (o : Gen.TimerObj α) (s : State α) (active : Option Nat) (tau : α)
    (st : PStat α) (hp : s.procs[s.proc]? = some st) :
    (active = some s.proc →
      restartCall active tau s = .ok (rebase tau s) ∧
      Gen.Timer.restart (GenTimer19.withModel o s) s.now tau true st.alive = GenTimer19.withModel o (rebase tau s)) ∧
    (active ≠ some s.proc → st.alive = false →
      restartCall active tau s = .ok (rebase tau s) ∧
      Gen.Timer.restart (GenTimer19.withModel o s) s.now tau false false = GenTimer19.withModel o (rebase tau s)) ∧
    (active ≠ some s.proc → st.alive = true →
      restartCall active tau s = .ok (spawn { rebase tau s with uq := s.uq ++ [.intr s.proc] }) ∧
      Gen.Timer.restart (GenTimer19.withModel o s) s.now tau false true =
        GenTimer19.withModel (GenTimer19.respawned o) (spawn { rebase tau s with uq := s.uq ++ [.intr s.proc] })) := by
  have hp' : (rebase tau s).procs[(rebase tau s).proc]? = some st := hp
  refine ⟨fun ha => ⟨?_, rfl⟩, fun ha hd => ⟨?_, rfl⟩, fun ha hl => ⟨?_, rfl⟩⟩
  · unfold restartCall
    simp only
    rw [if_pos (show active = some (rebase tau s).proc from ha)]
  · unfold restartCall
    simp only
    rw [if_neg (show ¬ active = some (rebase tau s).proc from ha), hp']
    simp only [hd, Bool.false_eq_true, if_false]
  · unfold restartCall
    simp only
    rw [if_neg (show ¬ active = some (rebase tau s).proc from ha), hp']
    simp only [hl, if_true]
    have hi : interruptReq active (rebase tau s).proc (rebase tau s) =
        .ok { rebase tau s with uq := s.uq ++ [.intr s.proc] } := by
      unfold interruptReq
      rw [hp']
      cases st with
      | finished => cases hl
      | notStarted | sleeping w => simp only; rw [if_neg (show ¬ active = some (rebase tau s).proc from ha)]; rfl
    rw [hi]

/-- the translated code on a concrete timer (created at 0 with timeout 1, one-shot): `run` first sleeps 1; woken at 1 with a
callback that calls `restart(3/2)` on its own timer (re-base only) it sleeps 3/2 more; `restart(2)` from another process at
1/2 interrupts and respawns once -/
example :
    (Gen.Timer.run_start (GenTimer19.withModel ⟨0, 0, 0, false, false, 0, 0, 0, false, false, 0, 0, 0⟩ ex0) (0 : ℚ)).yield_dt = 1 ∧
    (Gen.Timer.run_wake (GenTimer19.withModel ⟨0, 0, 0, false, false, 0, 0, 0, false, false, 0, 0, 0⟩ ex0) (1 : ℚ)
      (fun g => Gen.Timer.restart g 1 (3/2) true true)).yield_dt = 3/2 ∧
    (Gen.Timer.restart (GenTimer19.withModel ⟨0, 0, 0, false, false, 0, 0, 0, false, false, 0, 0, 0⟩ ex0) (1/2 : ℚ) 2 false true).eff_spawn = 1 := by
  decide +kernel

/-! ### the link to the kernel model (`OnlVerif/Props/C19K.lean`)

The admissibility rules of this LTS (URGENT events before any wake and before the clock moves; a wake exactly at its due
instant) are, in the theorems above, *assumed* of the kernel.  `OnlVerif/Util/TimerOnK.lean` writes `Timer.run/stop/restart` and a
controller process as a program of the kernel model `K`; `Props/C19K.lean` proves that every kernel step of that program
is a sequence of actions this LTS accepts, and that the callback fires exactly when the property prescribes.  The headline
theorems are restated here so that the axiom audit covers them, and theorems of this file are transferred to kernel
runs through the refinement. -/

/-- **The Timer processes on the kernel model refine this LTS**: every kernel state reachable from the initial state
(timer created at 0 with a positive timeout, a controller process that calls `stop()`/`restart(τ)` by a script, a callback
that may call them too) is the image, under the executable abstraction function `TimerOnK.absTimer`, of an action sequence
this LTS accepts from the state `create` builds, with the `fire` observations of the kernel trace as its outputs. -/
theorem timer_on_kernel_refines_lts (auto : Bool) (arg : Int) (cbs : List (Option (CbOp ℚ))) (ctlFirst : Bool) (T : ℚ)
    (script : List (ℚ × CbOp ℚ)) (hT : 0 < T) (hsc : TimerK.ScriptOK script) (hcbs : TimerK.CbsOK cbs) (fuel : Nat)
    (s : KState ℚ (TSt ℚ))
    (hreach : KReach (TimerOnK.body auto arg cbs) (fuel + 1) (TimerOnK.initState ctlFirst T script) s) :
    ∃ s0 acts, create (0 : ℚ) T auto (.scalar arg) = .ok s0 ∧
      run s0 acts = .ok (TimerOnK.absTimer auto arg s) ((TimerOnK.firesOf s.trace).map fun t => Out.fire t [arg]) :=
  C19K.timer_on_kernel_refines_lts auto arg cbs ctlFirst T script hT hsc hcbs fuel s hreach

/-- **Every kernel step is accepted by this LTS**: the next kernel step of a reachable state ends normally (`.ok`), and
is a (possibly empty) action sequence this LTS accepts from the abstraction of the state before to the abstraction of the
state after, with the step's `fire` observations as outputs. -/
theorem timer_on_kernel_step_refines (auto : Bool) (arg : Int) (cbs : List (Option (CbOp ℚ))) (ctlFirst : Bool) (T : ℚ)
    (script : List (ℚ × CbOp ℚ)) (hT : 0 < T) (hsc : TimerK.ScriptOK script) (hcbs : TimerK.CbsOK cbs) (fuel : Nat)
    (s s' : KState ℚ (TSt ℚ))
    (hreach : KReach (TimerOnK.body auto arg cbs) (fuel + 1) (TimerOnK.initState ctlFirst T script) s)
    (hstep : (_root_.step (TimerOnK.body auto arg cbs) (fuel + 1) s).state? = some s') :
    _root_.step (TimerOnK.body auto arg cbs) (fuel + 1) s = .ok s' ∧
    ∃ acts new, run (TimerOnK.absTimer auto arg s) acts =
        .ok (TimerOnK.absTimer auto arg s') (new.map fun t => Out.fire t [arg]) ∧
      TimerOnK.firesOf s'.trace = TimerOnK.firesOf s.trace ++ new :=
  C19K.timer_on_kernel_step_refines auto arg cbs ctlFirst T script hT hsc hcbs fuel s s' hreach hstep

/-- **The callback fires exactly at the prescribed instants on the kernel model, and nothing raises**: at every state
reachable by kernel steps the next `Environment.step` ends normally or finds the agenda empty; the call/fire history of
the trace passes the C19 oracle `TimerOnK.ostep` (a firing exactly at the pending instant: `timeout` after creation, after
the previous firing of an auto-restart timer; `τ` after a `restart(τ)`; none after `stop()`; no call finds a firing
overdue); nothing is overdue now, and nothing is pending once the agenda is empty. -/
theorem timer_on_kernel_fire_instants (auto : Bool) (arg : Int) (cbs : List (Option (CbOp ℚ))) (ctlFirst : Bool) (T : ℚ)
    (script : List (ℚ × CbOp ℚ)) (hT : 0 < T) (hsc : TimerK.ScriptOK script) (hcbs : TimerK.CbsOK cbs) (fuel : Nat)
    (s : KState ℚ (TSt ℚ))
    (hreach : KReach (TimerOnK.body auto arg cbs) (fuel + 1) (TimerOnK.initState ctlFirst T script) s) :
    ((∃ s', _root_.step (TimerOnK.body auto arg cbs) (fuel + 1) s = .ok s') ∨
      _root_.step (TimerOnK.body auto arg cbs) (fuel + 1) s = .empty) ∧
    ∃ o, TimerOnK.orun auto cbs (TimerOnK.o0 T) (TimerOnK.histOf s.trace) = some o ∧
      (∀ e, o.pending = some e → s.now ≤ e) ∧ (s.agenda = [] → o.pending = none) :=
  C19K.timer_on_kernel_fire_instants auto arg cbs ctlFirst T script hT hsc hcbs fuel s hreach

/-- **A one-shot timer's run on the kernel model ends with nothing pending**: with `auto_restart = False`, `run()` returns
(no exception, agenda empty) within `6·(controller calls) + (length of the callback script) + 6` kernel steps; the call/fire
history of the final trace passes the oracle and leaves nothing pending — every prescribed firing has happened, exactly at
its instant, and there was no other. -/
theorem timer_on_kernel_one_shot_returns (arg : Int) (cbs : List (Option (CbOp ℚ))) (ctlFirst : Bool) (T : ℚ)
    (script : List (ℚ × CbOp ℚ)) (hT : 0 < T) (hsc : TimerK.ScriptOK script) (hcbs : TimerK.CbsOK cbs) (fuel n : Nat)
    (hn : 6 * script.length + cbs.length + 6 ≤ n) :
    ∃ sF o, runAll (TimerOnK.body false arg cbs) (fuel + 1) n (TimerOnK.initState ctlFirst T script) = .returned .none sF ∧
      sF.agenda = [] ∧ TimerOnK.orun false cbs (TimerOnK.o0 T) (TimerOnK.histOf sF.trace) = some o ∧ o.pending = none :=
  C19K.timer_on_kernel_one_shot_returns arg cbs ctlFirst T script hT hsc hcbs fuel n hn

/-- **`fire_instants_strictly_increase` transferred to kernel runs**: at every reachable kernel state the callback
invocations recorded in the trace happened at strictly increasing, non-negative instants (no expiry fires twice). -/
theorem kernel_run_fire_instants_strictly_increase (auto : Bool) (arg : Int) (cbs : List (Option (CbOp ℚ)))
    (ctlFirst : Bool) (T : ℚ) (script : List (ℚ × CbOp ℚ)) (hT : 0 < T) (hsc : TimerK.ScriptOK script)
    (hcbs : TimerK.CbsOK cbs) (fuel : Nat) (s : KState ℚ (TSt ℚ))
    (hreach : KReach (TimerOnK.body auto arg cbs) (fuel + 1) (TimerOnK.initState ctlFirst T script) s) :
    (TimerOnK.firesOf s.trace).Pairwise (· < ·) ∧ ∀ t ∈ TimerOnK.firesOf s.trace, 0 ≤ t := by
  obtain ⟨s0, acts, hc, hr⟩ := timer_on_kernel_refines_lts auto arg cbs ctlFirst T script hT hsc hcbs fuel s hreach
  obtain ⟨h1, h2⟩ := fire_instants_strictly_increase 0 T auto (.scalar arg) s0 hc acts _ _ hr
  have hm : ((TimerOnK.firesOf s.trace).map fun t => Out.fire t [arg]).map Out.time = TimerOnK.firesOf s.trace := by
    rw [List.map_map]
    exact List.map_id' _
  rw [hm] at h1
  refine ⟨h1, ?_⟩
  intro t ht
  obtain ⟨t', h3, h4⟩ := h2 (Out.fire t [arg]) (List.mem_map.mpr ⟨t, ht, rfl⟩)
  cases h3
  exact h4

/-- **`no_double_fire` transferred to kernel runs**: in the LTS state a reachable kernel state stands for, every timer
process other than `self.proc` that is still alive has an interrupt pending in the URGENT queue. -/
theorem kernel_run_no_double_fire (auto : Bool) (arg : Int) (cbs : List (Option (CbOp ℚ))) (ctlFirst : Bool) (T : ℚ)
    (script : List (ℚ × CbOp ℚ)) (hT : 0 < T) (hsc : TimerK.ScriptOK script) (hcbs : TimerK.CbsOK cbs) (fuel : Nat)
    (s : KState ℚ (TSt ℚ))
    (hreach : KReach (TimerOnK.body auto arg cbs) (fuel + 1) (TimerOnK.initState ctlFirst T script) s) :
    ∀ (q : Nat) (st : PStat ℚ), (TimerOnK.absTimer auto arg s).procs[q]? = some st →
      q ≠ (TimerOnK.absTimer auto arg s).proc → st ≠ PStat.finished → UEv.intr q ∈ (TimerOnK.absTimer auto arg s).uq := by
  obtain ⟨s0, acts, hc, hr⟩ := timer_on_kernel_refines_lts auto arg cbs ctlFirst T script hT hsc hcbs fuel s hreach
  have hre : Reachable (TimerOnK.absTimer auto arg s) := (Reachable.create hc).run hr
  exact (no_double_fire _ hre).1

end C19
