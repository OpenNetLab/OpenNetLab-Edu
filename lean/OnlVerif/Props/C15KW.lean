import OnlVerif.Lemmas.WRRKFinal
import OnlVerif.Props.C12
import OnlVerif.Props.C15
/-!
# C15/C12 on the kernel: the WRR scheduler *as processes on the kernel model* refines the MultiQueueServer LTS

`OnlVerif/Net/WRROnK.lean` writes `MultiQueueScheduler.put`, `Scheduler.send_packet`, `WRR.run` (two nested `for` loops: the
entries of `weights`, at most `weight` packets per visit) and a packet source as one program of the kernel model `K`, with the
encoding of `Net/WRROnK.lean` (`Props/C15K.lean`).  Every kernel step of this program is a (possibly empty) sequence of actions
the MultiQueueServer LTS with the WRR record (`Net/Sched/WRR.lean`) *accepts*, commuting with the executable abstraction
`absWRR`; so the C12 theorems hold of kernel runs; and the visit rule of C15 — cyclic declaration order, at most `weight`
packets per visit, a visit ends early only when its class has nothing left — holds of every kernel run, with no admissibility
assumption.

The `queue_count` keys are handled as for RR (the first burst of `run` reads every entry — all weights are positive — in
declaration order; `absWRR` computes the key order from "has `run` started" and the `put` observations).

Scope: one `WRR` whose `weights` dict names the flows `0 … F-1` each once, in an arbitrary order, with positive weights
(`FlowsOK`), an `out` attached, `rate > 0`; one source process with non-negative gaps whose packets belong to these flows;
exact rational time; `fuel + 1` = any positive bound of the `_resume` loop.
-/

namespace C15KW
open WRROnK WRRK MQ

/-- **Refinement, step by step**: let `s` be reachable by kernel steps from the initial state and let the next kernel step
end in `s'`.  Then that step is a normal one (`.ok`: no exception — in particular neither the `AssertionError` of `assert store` nor `Hang` —, no stop), and there is a
(possibly empty) sequence of LTS actions that the MultiQueueServer LTS with the WRR record *accepts* from the abstraction of
`s`, that ends exactly in the abstraction of `s'` (the step commutes with the executable abstraction function `absWRR`), and
in which the packets accepted / sent out are exactly the `put` / `out` observations the kernel step appended to the trace. -/
theorem wrr_on_kernel_step_refines (F : Nat) (flow size : Int → Nat) (cfg : WRR.Cfg ℚ) (arrivals : List (ℚ × Int))
    (hw : WorkOK flow F arrivals) (ht : FlowsOK F cfg) (hr : 0 < cfg.rate) (fuel : Nat) (s s' : KState ℚ (WrrSt ℚ))
    (hreach : KReach (prog F flow size cfg) (fuel + 1) (initState F arrivals) s)
    (hstep : (step (prog F flow size cfg) (fuel + 1) s).state? = some s') :
    step (prog F flow size cfg) (fuel + 1) s = .ok s' ∧
    ∃ new acts, histOf s'.trace = histOf s.trace ++ new ∧
      runActs (WRR.sched cfg) (absWRR cfg.weights flow size s) acts = .ok (absWRR cfg.weights flow size s', putPk flow size new, outPk flow size new) := by
  obtain ⟨a, _, hi, _⟩ := reach_lts (size := size) fuel hw ht hr hreach
  cases hp : popMin s.agenda with
  | none => simp [_root_.step, hp, StepResult.state?] at hstep
  | some qr =>
    obtain ⟨q, rest⟩ := qr
    obtain ⟨s'', a', new, h1, h2, -, -, -, h6, acts, h7⟩ := inv_step_lts (size := size) fuel hi hp
    rw [h1] at hstep
    simp only [StepResult.state?, Option.some.injEq] at hstep
    subst hstep
    exact ⟨h1, new, acts, h6, by rw [absWRR_eq hi, absWRR_eq h2]; exact h7⟩

/-- **Refinement, whole runs**: every state reachable by kernel steps is the image under `absWRR` of an *admissible* run of
the LTS from the state of a fresh `WRR`: the LTS accepts some action sequence that ends in `absWRR s` and in
which the packets accepted are the `put` observations and the packets sent out the `out` observations of the kernel trace,
in order — i.e. `absWRR s` is `MQ.Reached`, the hypothesis of the C12 theorems. -/
theorem wrr_on_kernel_refines_lts (F : Nat) (flow size : Int → Nat) (cfg : WRR.Cfg ℚ) (arrivals : List (ℚ × Int))
    (hw : WorkOK flow F arrivals) (ht : FlowsOK F cfg) (hr : 0 < cfg.rate) (fuel : Nat) (s : KState ℚ (WrrSt ℚ))
    (hreach : KReach (prog F flow size cfg) (fuel + 1) (initState F arrivals) s) :
    Reached (WRR.sched cfg) (WRR.Pc.at 0 0) 0 [] (absWRR cfg.weights flow size s) (putPk flow size (histOf s.trace))
      (outPk flow size (histOf s.trace)) := by
  obtain ⟨a, acts, hi, hrun⟩ := reach_lts (size := size) fuel hw ht hr hreach
  refine ⟨by intro e he; simp at he, acts, ?_⟩
  rw [absWRR_eq hi]
  exact hrun

/-- **No kernel step ever crashes, and `run()` returns**: for every workload as above, every state reachable by kernel
steps is followed by a normal step or has an empty agenda, and `run()` of the kernel model returns (agenda empty, no
exception) within `10·n + 4` kernel steps, `n` = the number of packets. -/
theorem wrr_on_kernel_run_returns (F : Nat) (flow size : Int → Nat) (cfg : WRR.Cfg ℚ) (arrivals : List (ℚ × Int))
    (hw : WorkOK flow F arrivals) (ht : FlowsOK F cfg) (hr : 0 < cfg.rate) (fuel n : Nat)
    (hn : 10 * arrivals.length + 4 ≤ n) :
    (∀ s, KReach (prog F flow size cfg) (fuel + 1) (initState F arrivals) s →
      (∃ s', step (prog F flow size cfg) (fuel + 1) s = .ok s') ∨ step (prog F flow size cfg) (fuel + 1) s = .empty) ∧
    ∃ sF, runAll (prog F flow size cfg) (fuel + 1) n (initState F arrivals) = .returned .none sF ∧ sF.agenda = [] ∧
      KReach (prog F flow size cfg) (fuel + 1) (initState F arrivals) sF := by
  constructor
  · intro s hs
    obtain ⟨a, hi⟩ := reach_inv3 (size := size) fuel hw ht hr hs
    cases hp : popMin s.agenda with
    | none => right; simp [_root_.step, hp]
    | some qr =>
      obtain ⟨q, rest⟩ := qr
      obtain ⟨s', _, h1, _⟩ := inv3_step fuel hi hp
      exact Or.inl ⟨s', h1⟩
  · obtain ⟨sF, aF, h1, -, h3, h4⟩ := run_returns3 fuel (initState F arrivals) n _ _ (inv3_init (size := size) hw ht hr)
      (by rw [a0_mu]; omega) KReach.init
    exact ⟨sF, h1, h3, h4⟩

/-- **Work conservation on the kernel** (`C12.mq_never_idle_with_backlog`): in a state reachable by kernel steps, if the
LTS image may let the clock advance and no transmission is in progress, then `total_packets` is 0, every per-flow store is
empty and `run` holds no packet. -/
theorem kernel_never_idle_with_backlog (F : Nat) (flow size : Int → Nat) (cfg : WRR.Cfg ℚ) (arrivals : List (ℚ × Int))
    (hw : WorkOK flow F arrivals) (ht : FlowsOK F cfg) (hr : 0 < cfg.rate) (fuel : Nat) (s : KState ℚ (WrrSt ℚ))
    (hreach : KReach (prog F flow size cfg) (fuel + 1) (initState F arrivals) s) (t : ℚ)
    (htick : ∃ s' o, MQ.step (WRR.sched cfg) (absWRR cfg.weights flow size s) (.tick t) = .ok (s', o))
    (hidle : ∀ p d, (absWRR cfg.weights flow size s).phase ≠ .sending p d) :
    total (absWRR cfg.weights flow size s).queueCount = 0 ∧ inHand (absWRR cfg.weights flow size s) = [] ∧
      ∀ c, storeOf (absWRR cfg.weights flow size s).stores c = [] := by
  have := C12.mq_never_idle_with_backlog (WRR.sched cfg) (WRR.lawful cfg) (WRR.Pc.at 0 0) 0 [] _ _ _
    (wrr_on_kernel_refines_lts F flow size cfg arrivals hw ht hr fuel s hreach) t htick hidle
  exact ⟨this.1, this.2.1, this.2.2.1⟩

/-- **Per-flow FIFO and conservation on the kernel** (`C12.mq_flow_fifo`): at every state reachable by kernel steps the
packets of flow `f` handed to `put` so far are, in order, those of `f` handed to `out.put` followed by those of `f` still
held (in transmission, then waiting in `stores[f]`). -/
theorem kernel_flow_fifo (F : Nat) (flow size : Int → Nat) (cfg : WRR.Cfg ℚ) (arrivals : List (ℚ × Int))
    (hw : WorkOK flow F arrivals) (ht : FlowsOK F cfg) (hr : 0 < cfg.rate) (fuel : Nat) (s : KState ℚ (WrrSt ℚ))
    (hreach : KReach (prog F flow size cfg) (fuel + 1) (initState F arrivals) s) (f : Nat) :
    ofFlow f (putPk flow size (histOf s.trace)) =
      ofFlow f (outPk flow size (histOf s.trace)) ++ ofFlow f (heldC (WRR.sched cfg) (absWRR cfg.weights flow size s) f) :=
  C12.mq_flow_fifo (WRR.sched cfg) (WRR.lawful cfg) (WRR.Pc.at 0 0) 0 [] _ _ _
    (wrr_on_kernel_refines_lts F flow size cfg arrivals hw ht hr fuel s hreach) f f rfl

/-- **The counters are exact on the kernel** (`C12.mq_counters_eq`): `queue_count[f]`, `queue_byte_size[f]` and
`total_packets`, read from the attribute cells of a reachable kernel state, equal the number / bytes of the packets held. -/
theorem kernel_counters_eq (F : Nat) (flow size : Int → Nat) (cfg : WRR.Cfg ℚ) (arrivals : List (ℚ × Int))
    (hw : WorkOK flow F arrivals) (ht : FlowsOK F cfg) (hr : 0 < cfg.rate) (fuel : Nat) (s : KState ℚ (WrrSt ℚ))
    (hreach : KReach (prog F flow size cfg) (fuel + 1) (initState F arrivals) s) (f : Nat) :
    cnt (absWRR cfg.weights flow size s).queueCount f = W (one f) (absWRR cfg.weights flow size s) ∧
    cnt (absWRR cfg.weights flow size s).queueBytes f = W (bytesOf f) (absWRR cfg.weights flow size s) ∧
    total (absWRR cfg.weights flow size s).queueCount = W (fun _ => 1) (absWRR cfg.weights flow size s) :=
  C12.mq_counters_eq (WRR.sched cfg) (WRR.lawful cfg) (WRR.Pc.at 0 0) 0 [] _ _ _
    (wrr_on_kernel_refines_lts F flow size cfg arrivals hw ht hr fuel s hreach) f

/-- **What the oracle accepts** (`WRROnK.ostep` at exact rational time, spelled out).  A `serve id t` observation is accepted
in oracle state `o` (visit of entry `cm`, `cj` packets sent in it) iff nothing is in transmission, `id` is the oldest waiting
packet of its flow, its flow is entry `j` of `weights`, and

* either the visit goes on: `j = cm` and `cj < weight(cm)` — then the visit becomes `(cm, cj + 1)`;
* or the visit is over — `cj ≥ weight(cm)`, or no packet of entry `cm` waits from an instant before `t` — and every waiting
  packet of an entry the cyclic order visits between `cm` and `j` was put at an instant `≥ t` — then the visit becomes `(j, 1)`;

and `t` is the instant of the last departure or the instant at which every waiting packet was put.  An `out id t` observation is
accepted iff `id` is in transmission since `s` and `t = s + 8·size/rate`; an `idle` observation (the loop waits for the wake-up
token) iff nothing waits and nothing is in transmission — the visit then is `(0, 0)`. -/
theorem oracle_accepts_iff (F : Nat) (flow size : Int → Nat) (cfg : WRR.Cfg ℚ) (o : OSt ℚ) (id : Int) (t : ℚ) :
    ((ostep F flow size cfg o (.serve id t)).isSome ↔
      o.busy = none ∧ (∃ tp rest, o.waiting (flow id) = (id, tp) :: rest) ∧
      (posOf cfg.weights (flow id) < cfg.weights.length ∧
        ((posOf cfg.weights (flow id) = o.cm ∧ o.cj < weightAt cfg.weights o.cm) ∨
          ((weightAt cfg.weights o.cm ≤ o.cj ∨ ∀ x ∈ o.waiting (flowAt cfg.weights o.cm), t ≤ x.2) ∧
            ∀ j' ∈ skipped cfg.weights.length (o.cm + 1) (posOf cfg.weights (flow id)),
              ∀ x ∈ o.waiting (flowAt cfg.weights j'), t ≤ x.2))) ∧
      (o.lastOut = some t ∨ ∀ f, f < F → ∀ x ∈ o.waiting f, x.2 = t)) ∧
    (∀ o', ostep F flow size cfg o (.serve id t) = some o' → o'.busy = some (id, t) ∧
      ((posOf cfg.weights (flow id) = o.cm ∧ o.cj < weightAt cfg.weights o.cm) → o'.cm = o.cm ∧ o'.cj = o.cj + 1) ∧
      (¬ (posOf cfg.weights (flow id) = o.cm ∧ o.cj < weightAt cfg.weights o.cm) →
        o'.cm = posOf cfg.weights (flow id) ∧ o'.cj = 1)) ∧
    ((ostep F flow size cfg o (.out id t)).isSome ↔ ∃ s, o.busy = some (id, s) ∧ t = s + (size id * 8 : ℕ) / cfg.rate) ∧
    ((ostep F flow size cfg o (.idle t)).isSome ↔ o.busy = none ∧ ∀ f, f < F → o.waiting f = []) := by
  refine ⟨?_, ?_, ?_, ?_⟩
  · have hiff : ServeOK F flow cfg.weights o id t ↔
        (o.busy = none ∧ (∃ tp rest, o.waiting (flow id) = (id, tp) :: rest) ∧
        (posOf cfg.weights (flow id) < cfg.weights.length ∧
          ((posOf cfg.weights (flow id) = o.cm ∧ o.cj < weightAt cfg.weights o.cm) ∨
            ((weightAt cfg.weights o.cm ≤ o.cj ∨ ∀ x ∈ o.waiting (flowAt cfg.weights o.cm), t ≤ x.2) ∧
              ∀ j' ∈ skipped cfg.weights.length (o.cm + 1) (posOf cfg.weights (flow id)),
                ∀ x ∈ o.waiting (flowAt cfg.weights j'), t ≤ x.2))) ∧
        (o.lastOut = some t ∨ ∀ f, f < F → ∀ x ∈ o.waiting f, x.2 = t)) := by
      unfold ServeOK Continues
      simp only [not_lt, eqT_iff, List.mem_range]
      refine and_congr ?_ (and_congr ?_ (and_congr Iff.rfl ?_))
      · cases o.busy <;> simp
      · cases hw : o.waiting (flow id) with
        | nil => simp
        | cons x r =>
          obtain ⟨i0, t0⟩ := x
          simp only [List.head?_cons, Option.map_some, Option.some.injEq, List.cons.injEq, Prod.mk.injEq]
          constructor
          · rintro rfl; exact ⟨t0, r, ⟨rfl, rfl⟩, rfl⟩
          · rintro ⟨tp, r', ⟨h1, -⟩, -⟩; exact h1
      · cases hl : o.lastOut with
        | none => simp [lastIs]
        | some d => simp [lastIs, eqT_iff]
    simp only [ostep]
    by_cases hok : ServeOK F flow cfg.weights o id t
    · simp only [hok, if_true]
      have : (if Continues cfg.weights o (posOf cfg.weights (flow id)) then
          some ({ o with waiting := setQ o.waiting (flow id) (o.waiting (flow id)).tail, busy := some (id, t), cj := o.cj + 1 } : OSt ℚ)
        else some { o with waiting := setQ o.waiting (flow id) (o.waiting (flow id)).tail, busy := some (id, t),
                           cm := posOf cfg.weights (flow id), cj := 1 }).isSome = true := by
        split <;> rfl
      simp only [this, true_iff]
      exact hiff.mp hok
    · simp only [hok, if_false, Option.isSome_none, Bool.false_eq_true, false_iff]
      exact fun h => hok (hiff.mpr h)
  · intro o' ho'
    simp only [ostep] at ho'
    by_cases hok : ServeOK F flow cfg.weights o id t
    · simp only [hok, if_true] at ho'
      by_cases hc : Continues cfg.weights o (posOf cfg.weights (flow id))
      · simp only [hc, if_true, Option.some.injEq] at ho'
        subst ho'
        exact ⟨rfl, fun _ => ⟨rfl, rfl⟩, fun hn => absurd hc hn⟩
      · simp only [hc, if_false, Option.some.injEq] at ho'
        subst ho'
        exact ⟨rfl, fun h => absurd h hc, fun _ => ⟨rfl, rfl⟩⟩
    · simp [hok] at ho'
  · have hiff : OutOK size cfg.rate o id t ↔ ∃ s, o.busy = some (id, s) ∧ t = s + (size id * 8 : ℕ) / cfg.rate := by
      unfold OutOK
      cases hb : o.busy with
      | none => simp
      | some x =>
        obtain ⟨id', s0⟩ := x
        simp only [eqT_iff, WRROnK.txTime, Num.ofNat_rat, Option.some.injEq, Prod.mk.injEq]
        constructor
        · rintro ⟨rfl, h⟩; exact ⟨s0, ⟨rfl, rfl⟩, h⟩
        · rintro ⟨s1, ⟨rfl, rfl⟩, h⟩; exact ⟨rfl, h⟩
    simp only [ostep]
    by_cases hok : OutOK size cfg.rate o id t
    · simp only [hok, if_true, Option.isSome_some, true_iff]
      exact hiff.mp hok
    · simp only [hok, if_false, Option.isSome_none, Bool.false_eq_true, false_iff]
      exact fun h => hok (hiff.mpr h)
  · have hiff : IdleOK F o ↔ (o.busy = none ∧ ∀ f, f < F → o.waiting f = []) := by
      unfold IdleOK
      simp only [List.mem_range, List.isEmpty_iff]
      refine and_congr ?_ Iff.rfl
      cases o.busy <;> simp
    simp only [ostep]
    by_cases hok : IdleOK F o
    · simp only [hok, if_true, Option.isSome_some, true_iff]
      exact hiff.mp hok
    · simp only [hok, if_false, Option.isSome_none, Bool.false_eq_true, false_iff]
      exact fun h => hok (hiff.mpr h)

/-- **The history of every kernel run passes the oracle, step by step**: at every state reachable by kernel steps the
`put` / `serve` / `out` / `idle` observations recorded so far are accepted by `WRROnK.orun` from the empty oracle state. -/
theorem wrr_on_kernel_history_accepted (F : Nat) (flow size : Int → Nat) (cfg : WRR.Cfg ℚ) (arrivals : List (ℚ × Int))
    (hw : WorkOK flow F arrivals) (ht : FlowsOK F cfg) (hr : 0 < cfg.rate) (fuel : Nat) (s : KState ℚ (WrrSt ℚ))
    (hreach : KReach (prog F flow size cfg) (fuel + 1) (initState F arrivals) s) :
    ∃ o, orun F flow size cfg oInit (histOf s.trace) = some o := by
  obtain ⟨a, hi⟩ := reach_inv3 (size := size) fuel hw ht hr hreach
  obtain ⟨o, ho⟩ := hi.o
  exact ⟨o, ho.run⟩

/-- **At most `weight` packets per visit, cyclic declaration order, exact service times, work conservation and drain for the
WRR scheduler as kernel processes (direct form, no admissibility assumption).**  For every number of flows `F`, every weight
table over them (each flow once, positive weights, any order), every `rate > 0` and every finite workload with non-negative
gaps whose packets belong to these flows (bursts and arrivals exactly at transmission ends included), `run()` of the kernel
model on the spawned processes

* returns (agenda empty, no exception ever leaves `step()` — `assert store` never fails, the loop never spins) within
  `10·n + 4` kernel steps;
* has handed exactly the workload to `put`: packet `k` at the sum of the first `k + 1` gaps;
* has a `put` / `serve` / `out` / `idle` history that the oracle accepts (`oracle_accepts_iff`): at every service start nothing
  else was in transmission, the packet was the oldest of its flow, **its class either continued its visit with fewer than
  `weight` packets sent in it, or the previous visit was over — allowance used up, or nothing of that class waiting from an
  earlier instant — and the class is the next one in the cyclic declaration order with a packet waiting from an earlier
  instant**; the service started at the instant the previous transmission ended or at the instant the waiting packets arrived;
  every packet left exactly `8·size/rate` after its service start; the loop waited for the wake-up token only with nothing in
  the system;
* ends drained, and for every flow the packets handed to `out.put` are exactly the packets of that flow handed to `put`, in
  the same order. -/
theorem wrr_on_kernel_visit_counts (F : Nat) (flow size : Int → Nat) (cfg : WRR.Cfg ℚ) (arrivals : List (ℚ × Int))
    (hw : WorkOK flow F arrivals) (ht : FlowsOK F cfg) (hr : 0 < cfg.rate) (fuel n : Nat)
    (hn : 10 * arrivals.length + 4 ≤ n) :
    ∃ sF o, runAll (prog F flow size cfg) (fuel + 1) n (initState F arrivals) = .returned .none sF ∧ sF.agenda = [] ∧
      obsPuts (histOf sF.trace) = arrivalsFrom 0 arrivals ∧
      orun F flow size cfg oInit (histOf sF.trace) = some o ∧ drained F o = true ∧
      ∀ f, ofFlow f (outPk flow size (histOf sF.trace)) = ofFlow f (putPk flow size (histOf sF.trace)) := by
  obtain ⟨sF, aF, h1, h2, h3, h4⟩ := run_returns3 fuel (initState F arrivals) n _ _
    (inv3_init (size := size) hw ht hr) (by rw [a0_mu]; omega) KReach.init
  obtain ⟨o, g1, g2, g3, g4⟩ := inv3_final h2 h3
  refine ⟨sF, o, h1, h3, g3, g1, g2, ?_⟩
  intro f
  have := kernel_flow_fifo F flow size cfg arrivals hw ht hr fuel sF h4 f
  rw [absWRR_eq h2.i, g4 f] at this
  simpa [ofFlow] using this.symm

/-- **The visit rule at the decision burst, on kernel states**: let `s` be reachable by kernel steps and let the next kernel
step be one in which `run` takes a packet (the abstraction of the state after it has `run` holding a freshly taken packet `p`
of flow `c` at entry `m`, iteration `jj`; the one before has not).  Then `c` is entry `m` of `weights` with `jj` below its
weight, `p` was the head of `stores[c]` in `s`, and either `(m, jj)` is the resume point — the visit in progress goes on with
its next iteration — or `jj = 0`, the visit at the resume point was over (allowance used up, or its store empty in `s`) and
**the store of every entry the cyclic order visits before `m` is empty in `s`** — read from the `Store` resources of the
kernel state itself. -/
theorem wrr_on_kernel_decision_visit (F : Nat) (flow size : Int → Nat) (cfg : WRR.Cfg ℚ) (arrivals : List (ℚ × Int))
    (hw : WorkOK flow F arrivals) (ht : FlowsOK F cfg) (hr : 0 < cfg.rate) (fuel : Nat) (s s' : KState ℚ (WrrSt ℚ))
    (hreach : KReach (prog F flow size cfg) (fuel + 1) (initState F arrivals) s)
    (hstep : step (prog F flow size cfg) (fuel + 1) s = .ok s') (c : Nat) (p : MPkt)
    (hpost : (absWRR cfg.weights flow size s').phase = .pktHanded c p)
    (hpre : ∀ c p, (absWRR cfg.weights flow size s).phase ≠ .pktHanded c p) :
    ∃ m jj, (absWRR cfg.weights flow size s').ctl = .got m jj ∧ (∃ w, cfg.weights[m]? = some (c, w) ∧ jj < w) ∧
      (∃ id is, (s.res (flowStore c)).items = id :: is ∧ p = pktOf flow size id) ∧
      (WRR.resumePoint (absWRR cfg.weights flow size s) = (m, jj) ∨
        (jj = 0 ∧
          (∀ f0 w0, cfg.weights[(WRR.resumePoint (absWRR cfg.weights flow size s)).1]? = some (f0, w0) →
            w0 ≤ (WRR.resumePoint (absWRR cfg.weights flow size s)).2 ∨ (s.res (flowStore f0)).items = []) ∧
          ∀ j' ∈ skipped cfg.weights.length ((WRR.resumePoint (absWRR cfg.weights flow size s)).1 + 1) m,
            ∀ e, cfg.weights[j']? = some e → (s.res (flowStore e.1)).items = [])) := by
  obtain ⟨a, hi⟩ := reach_inv3 (size := size) fuel hw ht hr hreach
  cases hp : popMin s.agenda with
  | none => simp [_root_.step, hp] at hstep
  | some qr =>
    obtain ⟨q, rest⟩ := qr
    obtain ⟨s'', a', new, h1, h2, -, h4, -⟩ := inv_step_lts (size := size) fuel hi.i hp
    rw [h1] at hstep
    cases hstep
    rw [absWRR_eq h2] at hpost ⊢
    have hpre' : ∀ g m jj id q0, a.run ≠ .H g m jj id q0 := by
      intro g m jj id q0 h
      exact hpre (flow id) (pktOf flow size id) (by rw [absWRR_eq hi.i]; simp [toM_phase, phaseOf, h])
    have hres : WRR.resumePoint (absWRR cfg.weights flow size s) = resumeAt a.run := by
      rw [absWRR_eq hi.i]
      unfold WRR.resumePoint resumeAt
      cases hrun : a.run <;> simp [toM_ctl, ctlOf, hrun]
    have hia := hi.i.i.a
    have hst : ∀ f, f < F → (s.res (flowStore f)).items = a.items f := by
      intro f hf; rw [hi.i.i.k.st f hf]
    cases hrun' : a'.run with
    | H g m jj id q' =>
      simp only [toM_phase, phaseOf, hrun', Phase.pktHanded.injEq] at hpost
      obtain ⟨rfl, rfl⟩ := hpost
      obtain ⟨⟨w, e1, e1'⟩, ⟨is, e3⟩, e4⟩ := astep_decision hia h4 hrun' hpre'
      have hfid : flow id < F := entry_lt hia (List.mem_of_getElem? e1)
      refine ⟨m, jj, by simp [toM_ctl, ctlOf, hrun'], ⟨w, e1, e1'⟩, ⟨id, is, by rw [hst _ hfid, e3], rfl⟩, ?_⟩
      rw [hres]
      rcases e4 with ⟨g1, g2⟩ | ⟨g1, g2, g3⟩
      · left; exact Prod.ext g1.symm g2.symm
      · right
        refine ⟨g1, ?_, ?_⟩
        · intro f0 w0 h0
          rcases g2 f0 w0 h0 with g | g
          · exact Or.inl g
          · exact Or.inr (by rw [hst _ (entry_lt hia (List.mem_of_getElem? h0)), g])
        · intro j' hj' e he
          rw [hst _ (entry_lt hia (List.mem_of_getElem? he)), g3 j' hj' e he]
    | _ => simp [toM_phase, phaseOf, hrun'] at hpost

/-- flows 0, 1, 2 declared in the order 2, 0, 1 with weights 1, 2, 1; rate 8 (a packet of size 1 is transmitted in one time
unit) -/
def cfg3 : WRR.Cfg ℚ := { rate := 8, weights := [(2, 1), (0, 2), (1, 1)] }
def flowOf (fl : List Nat) : Int → Nat := fun i => fl.getD i.toNat 0
def unit : Int → Nat := fun _ => 1

/-- what a finished run shows: entries left in the agenda, the service starts and the departures -/
def run3 (fl : List Nat) (n : Nat) (arr : List (ℚ × Int)) : Option (Nat × List (Int × ℚ) × List (Int × ℚ)) :=
  (finalState (runAll (prog 3 (flowOf fl) unit cfg3) 1 n (initState 3 arr))).map fun s =>
    (s.agenda.length, servesOf s.trace, outsOf s.trace)

/-- packets 0, 1, 2 of flow 0 and packet 3 of flow 1 queued at 0; packets 4, 5 of flow 2 arrive at 1 — exactly when the first
transmission ends.  Flow 0 (entry 1, weight 2) sends packets 0 and 1 in one visit; then entry 2 (flow 1: packet 3); the next
pass serves entry 0 (flow 2, weight 1: packet 4), entry 1 (flow 0: packet 2, then its store is empty: `break`), entry 2 (empty),
and the pass after it entry 0 again (packet 5): back to back, each transmission exactly one time unit -/
example : run3 [0, 0, 0, 1, 2, 2] 80 [(0, 0), (0, 1), (0, 2), (0, 3), (1, 4), (0, 5)] =
    some (0, [(0, 0), (1, 1), (3, 2), (4, 3), (2, 4), (5, 5)], [(0, 1), (1, 2), (3, 3), (4, 4), (2, 5), (5, 6)]) := by
  decide +kernel

/-- … and every kernel step of that run (41 of them) is an action sequence the LTS accepts between the abstractions of the
two states (`refineCheck`), and its history is accepted by the oracle and ends drained -/
example : refineCheck 3 (flowOf [0, 0, 0, 1, 2, 2]) unit cfg3 80
      (initState 3 [(0, 0), (0, 1), (0, 2), (0, 3), (1, 4), (0, 5)]) 0 = some 41 ∧
    (finalState (runAll (prog 3 (flowOf [0, 0, 0, 1, 2, 2]) unit cfg3) 1 80
      (initState 3 [(0, 0), (0, 1), (0, 2), (0, 3), (1, 4), (0, 5)]))).map
    (fun s => (orun 3 (flowOf [0, 0, 0, 1, 2, 2]) unit cfg3 oInit (histOf s.trace)).map (drained 3)) = some (some true) := by
  decide +kernel

/-- an idle period inside a visit: flow 0 (weight 2) sends one packet at 0, the loop goes idle; two more packets of flow 0
arrive at 5: the pass restarts at the top and both are sent in one (new) visit, 5→6 and 6→7 -/
example : run3 [0, 0, 0] 60 [(0, 0), (5, 1), (0, 2)] = some (0, [(0, 0), (1, 5), (2, 6)], [(0, 1), (1, 6), (2, 7)]) ∧
    refineCheck 3 (flowOf [0, 0, 0]) unit cfg3 60 (initState 3 [(0, 0), (5, 1), (0, 2)]) 0 = some 25 := by
  decide +kernel

/-- the hypotheses of the theorems are met by that workload (`WorkOK`, `FlowsOK`) -/
example : WorkOK (flowOf [0, 0, 0, 1, 2, 2]) 3 [(0, 0), (0, 1), (0, 2), (0, 3), (1, 4), (0, 5)] ∧ FlowsOK 3 cfg3 := by
  refine ⟨?_, by unfold FlowsOK cfg3; decide⟩
  intro x hx
  simp only [List.mem_cons, List.not_mem_nil, or_false] at hx
  rcases hx with rfl | rfl | rfl | rfl | rfl | rfl <;> exact ⟨by norm_num, by unfold PktOK; decide⟩

/-- the oracle is not vacuous.  Packets 0, 1, 2 of flow 0 (entry 1, weight 2) and packet 3 of flow 1 (entry 2) are put at 0.
Two packets of flow 0, then flow 1, then the third packet of flow 0 is accepted; a third packet of flow 0 in the same visit is
rejected (at most `weight` per visit); flow 1 after only one packet of flow 0 is rejected (the visit is cut short while its
class is backlogged); going idle with a packet waiting is rejected. -/
example : orun 3 (flowOf [0, 0, 0, 1]) unit cfg3 oInit
      [.idle 0, .put 0 0, .put 1 0, .put 2 0, .put 3 0, .serve 0 0, .out 0 1, .serve 1 1, .out 1 2, .serve 3 2, .out 3 3,
       .serve 2 3, .out 2 4, .idle 4] ≠ none ∧
    orun 3 (flowOf [0, 0, 0, 1]) unit cfg3 oInit
      [.idle 0, .put 0 0, .put 1 0, .put 2 0, .put 3 0, .serve 0 0, .out 0 1, .serve 1 1, .out 1 2, .serve 2 2] = none ∧
    orun 3 (flowOf [0, 0, 0, 1]) unit cfg3 oInit
      [.idle 0, .put 0 0, .put 1 0, .put 2 0, .put 3 0, .serve 0 0, .out 0 1, .serve 3 1] = none ∧
    orun 3 (flowOf [0, 0, 0, 1]) unit cfg3 oInit [.idle 0, .put 0 0, .idle 0] = none := by
  decide +kernel

end C15KW
