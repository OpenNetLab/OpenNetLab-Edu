import OnlVerif.Lemmas.TcpSender
/-!
# C17 — TCP sends only inside its window and adapts it by the Reno/CUBIC rules

The window rules are theorems about the definitions **generated from the current source** by
`py2lean/translate.py` (`OnlVerif/Generated/TcpCC.lean`: `CongestionControl.*`, `TCPReno.ack_received`,
`TCPCubic.*`, the estimator block of `TCPPacketGenerator.put`, its early return on an overtaken ACK, the RTO back-off of
`timeout_callback`, the send guard of `run`), compared with the hand-written specification functions of `OnlVerif/Lemmas/TcpSpec.lean`, which state the
textbook rules independently.  An edit of the source such as `<=`→`<`, `/ 2`→`/ 4`, `3 *`→`2 *`, `0.125`→`0.25`
changes a generated definition and these proofs stop compiling.  The sender-level statements are about the
hand-written LTS `Sender.step` (`OnlVerif/Tcp/CC.lean`), which calls the generated functions and is tied to the
implementation by the bit-exact replay of `harness/c17.py`.

All arithmetic is exact rational arithmetic (`ℚ`); floating-point rounding is modelled (bit-compared), not verified.
`Inv` is the invariant of `OnlVerif/Lemmas/TcpSender.lean`: `cwnd ≥ cc.mss > 0`, `ssthresh ≥ 0`, `rto > 0`,
`rtt_estimate > 0`, `est_deviation ≥ 0`, `timers` and `sent_packets` have the same distinct keys,
`next_seq ≤ send_buffer`, and for CUBIC `W_last_max = 0`, `beta ≠ 2`.  It holds for a fresh generator around
`TCPReno(mss, cwnd, ssthresh)` with `cwnd ≥ mss > 0`, `ssthresh ≥ 0` and around `TCPCubic()` (examples at the end) and
is kept by every action (`cwnd_ge_mss`).
-/

namespace C17
open TcpScalar TcpSpec TcpCC TcpSender

/-- **A new ACK adds one MSS in slow start (`cwnd ≤ ssthresh`) and `MSS·MSS/cwnd` in congestion avoidance**, and
touches nothing else; it cannot divide by zero while `cwnd > 0`.  (About the generated `TCPReno.ack_received`.) -/
theorem reno_new_ack (c : CCState ℚ) (rtt now : ℚ) :
    TCPReno.ack_received c rtt now = { c with cwnd := renoGrow c.mss c.cwnd c.ssthresh } ∧
    (0 < c.cwnd → TCPReno.ack_received.safe c rtt now = true) := by
  constructor
  · unfold TCPReno.ack_received renoGrow
    split_ifs <;> rfl
  · intro h; exact reno_ack_safe c rtt now (Or.inr (ne_of_gt h))

/-- the same at the sender: a new ACK (`ackno > last_ack`; an ACK *below* the acknowledged mark was overtaken on the way back
and is ignored, `stale_ack_ignored`) outside fast recovery (`dupack < 3`: none, one or two duplicates counted, so
nothing is deflated) on a Reno sender grows the *current* window by the Reno rule and clears the duplicate count -/
theorem reno_new_ack_at_sender (s : Sender ℚ) (a : AckIn ℚ) (h : Inv s) (hk : s.kind = .reno) (hok : AckOk s a)
    (hnew : s.last_ack < a.ackno) (h0 : s.dupack < 3) :
    ∃ s', s.step (.ack a) = .ok s' [] ∧ s'.cc.cwnd = renoGrow s.cc.mss s.cc.cwnd s.cc.ssthresh ∧
      s'.cc.ssthresh = s.cc.ssthresh ∧ s'.last_ack = a.ackno ∧ s'.dupack = 0 := by
  obtain ⟨T, S, r, _⟩ := ackStep_new_spec s a h.cc h.keys h.nodup hok hnew
  have hcc : ccBeforeNew s = s.cc := by unfold ccBeforeNew; rw [if_neg (by omega)]
  refine ⟨_, r, ?_, ?_, rfl, rfl⟩
  · show (CC.ackReceived s.kind (ccBeforeNew s) (TCPPacketGenerator.put_sample_rtt s.now a.ptime) s.now).cwnd = _
    rw [hk, hcc]; show (TCPReno.ack_received s.cc (TCPPacketGenerator.put_sample_rtt s.now a.ptime) s.now).cwnd = _
    rw [(reno_new_ack s.cc _ s.now).1]
  · show (CC.ackReceived s.kind (ccBeforeNew s) (TCPPacketGenerator.put_sample_rtt s.now a.ptime) s.now).ssthresh = _
    rw [hk, hcc]; show (TCPReno.ack_received s.cc (TCPPacketGenerator.put_sample_rtt s.now a.ptime) s.now).ssthresh = _
    rw [(reno_new_ack s.cc _ s.now).1]

/-- **The third duplicate ACK sets `ssthresh = max(2·MSS, cwnd/2)` and `cwnd = ssthresh + 3·MSS`** (generated
`consecutive_dupacks_received`), **and retransmits the missing segment**: the sender's `put` reaches `dupack = 3`,
applies that rule, hands the segment numbered `ackno` to `out` again (if it is outstanding) and leaves the RTT
estimator alone. -/
theorem third_dupack (s : Sender ℚ) (a : AckIn ℚ) (hok : AckOk s a) (hd : a.ackno = s.last_ack) (h2 : s.dupack = 2) :
    (CongestionControl.consecutive_dupacks_received s.cc =
      { s.cc with ssthresh := lossSsthresh s.cc.mss s.cc.cwnd, cwnd := fastRetransmitCwnd s.cc.mss s.cc.cwnd }) ∧
    ∃ s' outs, s.step (.ack a) = .ok s' outs ∧ s'.dupack = 3 ∧
      s'.cc = CongestionControl.consecutive_dupacks_received s.cc ∧ s'.est = s.est ∧ s'.last_ack = s.last_ack ∧
      outs = (if a.ackno ∈ AL.keys s.sent then [{ seq := a.ackno, size := s.mss, stamp := s.now, kind := .resend }] else []) := by
  constructor
  · unfold CongestionControl.consecutive_dupacks_received lossSsthresh fastRetransmitCwnd lossSsthresh
    simp only [ofNat_eq, Nat.cast_ofNat, pymax_eq]
  · refine ⟨_, _, ackStep_third s a hok hd h2, ?_⟩
    unfold Sender.thirdDup
    obtain ⟨S, hS, _⟩ := resend_frame
      ({ s with dupack := 3, cc := CongestionControl.consecutive_dupacks_received s.cc } : Sender ℚ) a.ackno
    rw [resend_out, hS]
    exact ⟨rfl, rfl, rfl, rfl, rfl⟩

/-- **Every further duplicate ACK adds one MSS** (generated `more_dupacks_received`) and leaves `ssthresh` and the RTT
estimator alone. -/
theorem more_dupacks (s : Sender ℚ) (a : AckIn ℚ) (hok : AckOk s a) (hd : a.ackno = s.last_ack) (h3 : 3 ≤ s.dupack) :
    (CongestionControl.more_dupacks_received s.cc = { s.cc with cwnd := s.cc.cwnd + s.cc.mss }) ∧
    ∃ s' outs, s.step (.ack a) = .ok s' outs ∧ s'.dupack = s.dupack + 1 ∧
      s'.cc.cwnd = s.cc.cwnd + s.cc.mss ∧ s'.cc.ssthresh = s.cc.ssthresh ∧ s'.est = s.est ∧ s'.last_ack = s.last_ack := by
  refine ⟨rfl, _, _, ackStep_more s a hok hd h3, ?_⟩
  unfold Sender.moreDup
  simp only
  obtain ⟨S, hS, _⟩ := resend_frame
    ({ s with dupack := s.dupack + 1, cc := CongestionControl.more_dupacks_received s.cc } : Sender ℚ) a.ackno
  split_ifs
  · rw [hS]; exact ⟨rfl, rfl, rfl, rfl, rfl⟩
  · exact ⟨rfl, rfl, rfl, rfl, rfl⟩

/-- **After the third duplicate ACK (fast recovery, `dupack ≥ 3`) the next new ACK first deflates `cwnd` to `ssthresh`
(generated `dupack_over`) and is then counted like any new ACK**: the resulting window is `ack_received` applied to
the deflated state — for Reno and for CUBIC that is `ssthresh + MSS`, because the deflated window satisfies
`cwnd ≤ ssthresh` — and `dupack` returns to 0. -/
theorem new_ack_after_dupacks (s : Sender ℚ) (a : AckIn ℚ) (h : Inv s) (hok : AckOk s a) (hnew : s.last_ack < a.ackno)
    (hdup : 3 ≤ s.dupack) :
    (CongestionControl.dupack_over s.cc = { s.cc with cwnd := s.cc.ssthresh }) ∧
    ∃ s', s.step (.ack a) = .ok s' [] ∧ s'.dupack = 0 ∧ s'.last_ack = a.ackno ∧
      s'.cc = CC.ackReceived s.kind (CongestionControl.dupack_over s.cc)
                (TCPPacketGenerator.put_sample_rtt s.now a.ptime) s.now ∧
      s'.cc.cwnd = s.cc.ssthresh + s.cc.mss ∧ s'.cc.ssthresh = s.cc.ssthresh := by
  refine ⟨rfl, ?_⟩
  obtain ⟨T, S, r, _⟩ := ackStep_new_spec s a h.cc h.keys h.nodup hok hnew
  have hcc : ccBeforeNew s = CongestionControl.dupack_over s.cc := by unfold ccBeforeNew; rw [if_pos hdup]
  rw [hcc] at r
  exact ⟨_, r, rfl, rfl, rfl, (ack_after_deflate s.kind s.cc _ s.now).1, (ack_after_deflate s.kind s.cc _ s.now).2⟩

/-- **A new ACK after only one or two duplicate ACKs is a plain new ACK: nothing is deflated.**  The window is
`ack_received` applied to the *unchanged* state — exactly what the same ACK does with `dupack = 0` — so for both
classes slow start (`cwnd ≤ ssthresh`) adds one MSS, and Reno congestion avoidance adds `MSS·MSS/cwnd`; `ssthresh`
stays and `dupack` returns to 0.  (No fast retransmit has happened, so there is no inflated window to take back.) -/
theorem new_ack_after_few_dupacks (s : Sender ℚ) (a : AckIn ℚ) (h : Inv s) (hok : AckOk s a) (hnew : s.last_ack < a.ackno)
    (hdup : 0 < s.dupack ∧ s.dupack < 3) :
    ∃ s', s.step (.ack a) = .ok s' [] ∧ s'.dupack = 0 ∧ s'.last_ack = a.ackno ∧
      s'.cc = CC.ackReceived s.kind s.cc (TCPPacketGenerator.put_sample_rtt s.now a.ptime) s.now ∧
      (∃ s0, ({ s with dupack := 0 } : Sender ℚ).step (.ack a) = .ok s0 [] ∧ s0.cc = s'.cc) ∧
      (s.cc.cwnd ≤ s.cc.ssthresh → s'.cc.cwnd = s.cc.cwnd + s.cc.mss) ∧
      (s.kind = .reno → s'.cc.cwnd = renoGrow s.cc.mss s.cc.cwnd s.cc.ssthresh) ∧
      s'.cc.ssthresh = s.cc.ssthresh := by
  obtain ⟨T, S, r, _⟩ := ackStep_new_spec s a h.cc h.keys h.nodup hok hnew
  have hcc : ccBeforeNew s = s.cc := by unfold ccBeforeNew; rw [if_neg (by omega)]
  rw [hcc] at r
  obtain ⟨T0, S0, r0, _⟩ := ackStep_new_spec ({ s with dupack := 0 } : Sender ℚ) a h.cc h.keys h.nodup hok hnew
  have hcc0 : ccBeforeNew ({ s with dupack := 0 } : Sender ℚ) = s.cc := by
    unfold ccBeforeNew; rw [if_neg (by show ¬ 3 ≤ 0; omega)]
  rw [hcc0] at r0
  have hp := ack_plain h.cc (TCPPacketGenerator.put_sample_rtt s.now a.ptime) s.now
  refine ⟨_, r, rfl, rfl, rfl, ⟨_, r0, rfl⟩, hp.2, ?_, hp.1⟩
  intro hk
  show (CC.ackReceived s.kind s.cc (TCPPacketGenerator.put_sample_rtt s.now a.ptime) s.now).cwnd = _
  rw [hk]; show (TCPReno.ack_received s.cc (TCPPacketGenerator.put_sample_rtt s.now a.ptime) s.now).cwnd = _
  rw [(reno_new_ack s.cc _ s.now).1]

/-- **A retransmission timeout sets `cwnd` to one MSS** (generated `timer_expired`, for CUBIC with `cubic_reset`),
**retransmits the segment and doubles the RTO** (generated `timeout_backoff`); the timer is re-armed for the doubled
RTO from now, `ssthresh` and the smoothed estimates stay. -/
theorem timeout_rule (s : Sender ℚ) (seq : Nat) (tr : TimerRec ℚ) (h : Inv s) (ht : AL.get? seq s.timers = some tr)
    (hdue : tr.live = true ∧ tr.wake = s.now ∧ ¬ s.now < tr.expiry) :
    (TCPPacketGenerator.timeout_backoff s.est = { s.est with rto := s.est.rto * 2 }) ∧
    ∃ s', s.step (.fire seq) = .ok s' [{ seq := seq, size := s.mss, stamp := s.now, kind := .resend }] ∧
      s'.cc.cwnd = s.cc.mss ∧ s'.cc.mss = s.cc.mss ∧ s'.cc.ssthresh = s.cc.ssthresh ∧
      s'.est.rto = 2 * s.est.rto ∧ s'.est.rtt_estimate = s.est.rtt_estimate ∧
      AL.get? seq s'.timers = some { expiry := s.now + 2 * s.est.rto, wake := s.now + 2 * s.est.rto, live := true } ∧
      AL.keys s'.timers = AL.keys s.timers := by
  refine ⟨backoff_eq s.est, ?_⟩
  obtain ⟨S, _, r⟩ := fireStep_due h ht hdue
  have hcw : (CC.timerExpired s.kind s.cc).cwnd = s.cc.mss ∧ (CC.timerExpired s.kind s.cc).mss = s.cc.mss ∧
      (CC.timerExpired s.kind s.cc).ssthresh = s.cc.ssthresh := by
    cases s.kind with
    | reno => exact ⟨rfl, rfl, rfl⟩
    | cubic =>
      show (TCPCubic.timer_expired s.cc).cwnd = _ ∧ (TCPCubic.timer_expired s.cc).mss = _ ∧ (TCPCubic.timer_expired s.cc).ssthresh = _
      rw [cubic_timer_expired_eq]; exact ⟨rfl, rfl, rfl⟩
  refine ⟨_, r, hcw.1, hcw.2.1, hcw.2.2, mul_comm _ _, rfl, ?_, AL.keys_set_of_mem _ _ _ (AL.mem_of_get?_some ht)⟩
  show AL.get? seq (AL.set seq _ s.timers) = _
  rw [AL.get?_set_self, mul_comm]

/-- **CUBIC growth on an ACK in congestion avoidance.**  With `W_last_max = 0` (invariant, `cwnd_ge_mss`) and
`cwnd > 0`:
the generated `cubic_update` never reaches its cube-root branch and divides by zero nowhere (`safe`), and equals the
cubic / TCP-friendly formulas of the specification — new epoch at `now` with origin at the current window and `K = 0`,
target `origin + C·(now + d_min − epoch_start − K)³`, `cnt = cwnd/(target − cwnd)` (or `100·cwnd`), TCP-friendly
estimate `W_tcp + 3β/(2−β)·ack_cnt/cwnd` capping `cnt` at `cwnd/(W_tcp − cwnd)`; and the generated `ack_received` adds
one MSS in slow start, else runs `cubic_update` and adds one MSS exactly when `cwnd_cnt > cnt`. -/
theorem cubic_growth (c : CCState ℚ) (rtt now : ℚ) (hW : c.W_last_max = 0) (hc : 0 < c.cwnd) (hb : c.beta ≠ 2) :
    let e := epochOf c.epoch_start c.origin_point c.K c.W_tcp c.ack_cnt c.cwnd now
    let target := cubicTarget e c.C c.d_min now
    let w := friendlyW e c.beta c.cwnd
    TCPCubic.cubic_update.safe c now = true ∧
    TCPCubic.cubic_update c now =
      { c with epoch_start := e.start, origin_point := e.origin, K := e.K,
               W_tcp := if c.tcp_friendliness then w else e.W_tcp,
               ack_cnt := if c.tcp_friendliness then 0 else e.ack_cnt,
               cnt := if c.tcp_friendliness then friendlyCnt (cubicCnt c.cwnd target) c.cwnd w
                      else cubicCnt c.cwnd target } ∧
    TCPCubic.ack_received.safe c rtt now = true ∧
    TCPCubic.ack_received c rtt now =
      (if c.cwnd ≤ c.ssthresh then { c with d_min := dminNext c.d_min rtt, cwnd := c.cwnd + c.mss }
       else
        let u := TCPCubic.cubic_update { c with d_min := dminNext c.d_min rtt } now
        if u.cnt < u.cwnd_cnt then { u with cwnd := c.cwnd + c.mss, cwnd_cnt := 0 }
        else { u with cwnd_cnt := u.cwnd_cnt + 1 }) := by
  intro e target w
  have hnW : ¬ c.cwnd < c.W_last_max := by rw [hW]; exact not_lt.mpr hc.le
  refine ⟨cubic_update_safe c now hnW (ne_of_gt hc) hb, cubic_update_eq c now hnW,
    cubic_ack_safe c rtt now hW hb (Or.inr hc), ?_⟩
  rw [cubic_ack_eq]
  have hnW' : ¬ ({ c with d_min := dminNext c.d_min rtt } : CCState ℚ).cwnd <
      ({ c with d_min := dminNext c.d_min rtt } : CCState ℚ).W_last_max := hnW
  split_ifs with h1
  · rfl
  · simp only [cubic_update_eq _ now hnW']

/-- the cube-root branch, were it reached, is flagged by `safe` (so the sender model turns it into an error instead
of computing with a placeholder): first ACK of an epoch with `cwnd < W_last_max` -/
theorem cube_root_is_flagged (c : CCState ℚ) (now : ℚ) (he : c.epoch_start ≤ 0) (hW : c.cwnd < c.W_last_max) :
    TCPCubic.cubic_update.safe c now = false := by
  unfold TCPCubic.cubic_update.safe
  simp only [ofNat_eq, Nat.cast_zero, he, hW, if_true, Bool.and_false, Bool.false_and]

/-- **`cwnd` never falls below one MSS**: along every sequence of sender actions (resumptions of `run`, ACKs with
arbitrary numbers / echoed ids / RTT samples ≥ 0, timer expiries, clock ticks) from a state satisfying the invariant,
after every action `cwnd ≥ cc.mss > 0`; also `ssthresh ≥ 0`, `rto > 0`, and for CUBIC `W_last_max = 0` — the
invariant that makes the cube-root branch unreachable. -/
theorem cwnd_ge_mss (s0 s : Sender ℚ) (h0 : Inv s0) (hr : Reach s0 s) :
    s.cc.mss ≤ s.cc.cwnd ∧ 0 < s.cc.mss ∧ 0 ≤ s.cc.ssthresh ∧ 0 < s.est.rto ∧
    (s.kind = .cubic → s.cc.W_last_max = 0) := by
  have h := reach_inv h0 hr
  exact ⟨h.cc.cwnd_ge, h.cc.mss_pos, h.cc.ssthresh_nonneg, h.rto_pos, fun hk => (h.cc.cubic hk).1⟩

/-- one step of the same: an accepted action keeps `cwnd ≥ MSS` (this is the inductive step of `cwnd_ge_mss`) -/
theorem cwnd_ge_mss_step (s s' : Sender ℚ) (a : Act ℚ) (outs : List (Tx ℚ)) (h : Inv s) (ha : ActOk a)
    (hs : s.step a = .ok s' outs) : s'.cc.mss ≤ s'.cc.cwnd ∧ Inv s' :=
  ⟨((step_safe h a ha).2 s' outs hs).cc.cwnd_ge, (step_safe h a ha).2 s' outs hs⟩

/-- **After every new ACK `RTO = srtt + 4·rttvar`, with `srtt` and `rttvar` updated from that ACK's RTT sample
`now − ack.time` with gains 1/8 and 1/4** (generated estimator block), whatever the ACK number, also right after
duplicates. -/
theorem rto_formula (s : Sender ℚ) (a : AckIn ℚ) (h : Inv s) (hok : AckOk s a) (hnew : s.last_ack < a.ackno) :
    (∀ e : RttEst ℚ, ∀ now pt : ℚ, TCPPacketGenerator.put_estimator e now pt =
      { rtt_estimate := srttNext e.rtt_estimate (now - pt),
        est_deviation := varNext e.rtt_estimate e.est_deviation (now - pt),
        rto := rtoOf (srttNext e.rtt_estimate (now - pt)) (varNext e.rtt_estimate e.est_deviation (now - pt)) }) ∧
    ∃ s', s.step (.ack a) = .ok s' [] ∧
      s'.est.rtt_estimate = srttNext s.est.rtt_estimate (s.now - a.ptime) ∧
      s'.est.est_deviation = varNext s.est.rtt_estimate s.est.est_deviation (s.now - a.ptime) ∧
      s'.est.rto = s'.est.rtt_estimate + 4 * s'.est.est_deviation := by
  refine ⟨estimator_spec, ?_⟩
  obtain ⟨T, S, r, _⟩ := ackStep_new_spec s a h.cc h.keys h.nodup hok hnew
  refine ⟨_, r, ?_, ?_, ?_⟩
  · show (TCPPacketGenerator.put_estimator s.est s.now a.ptime).rtt_estimate = _
    rw [estimator_spec]
  · show (TCPPacketGenerator.put_estimator s.est s.now a.ptime).est_deviation = _
    rw [estimator_spec]
  · show (TCPPacketGenerator.put_estimator s.est s.now a.ptime).rto =
      (TCPPacketGenerator.put_estimator s.est s.now a.ptime).rtt_estimate +
        4 * (TCPPacketGenerator.put_estimator s.est s.now a.ptime).est_deviation
    rw [estimator_spec]; rfl

/-- **New data segments are MSS-sized, consecutively numbered, and sent only while
`next_seq + MSS ≤ min(buffered data, last_ack + cwnd)`** (the generated guard of `run` is exactly that condition), **so
unacknowledged new data never exceeds the congestion window at the moment of sending.**  One loop iteration: -/
theorem send_in_window (s s' : Sender ℚ) (tx : Tx ℚ) (h : Inv s) (hs : s.sendStep = .sent s' tx) :
    tx.seq = s.next_seq ∧ tx.size = s.mss ∧ tx.kind = .new ∧ s'.next_seq = s.next_seq + s.mss ∧
    InWindow s.next_seq s.mss s.refill.send_buffer s.last_ack s.cc.cwnd ∧
    ((s'.next_seq : ℚ) - s.last_ack ≤ s.cc.cwnd) ∧
    (∀ a b c d e : ℚ, TCPPacketGenerator.run_send_guard a b c d e = true ↔ InWindow a b c d e) := by
  obtain ⟨_, htx, hn, _, _, _, _, _, _, _, _, hw⟩ := (sendStep_spec h).2.1 s' tx hs
  refine ⟨by rw [htx], by rw [htx], by rw [htx], hn, hw, ?_, ?_⟩
  · unfold InWindow at hw
    have := le_trans hw (min_le_right _ _)
    rw [hn]; push_cast; linarith
  · intro a b c d e
    unfold TCPPacketGenerator.run_send_guard InWindow
    simp only [decide_eq_true_eq, pymin_eq]

/-- a whole resumption of `run`: the emitted segments are `next_seq, next_seq + MSS, …`, all of size MSS, all new,
each inside the window of that moment (`last_ack` and `cwnd` do not change while `run` is sending) -/
theorem send_in_window_burst (s s' : Sender ℚ) (fuel : Nat) (outs : List (Tx ℚ)) (h : Inv s)
    (hs : s.step (.wake fuel) = .ok s' outs) :
    ∀ i (hi : i < outs.length), (outs[i]).seq = s.next_seq + i * s.mss ∧ (outs[i]).size = s.mss ∧
      (outs[i]).kind = .new ∧ (((outs[i]).seq : ℚ) + s.mss ≤ s.last_ack + s.cc.cwnd) := by
  have b := emits_burst ((wakeStep_safe h fuel).2 _ _ hs).2 h
  intro i hi
  rw [b.outs i hi]
  exact ⟨rfl, rfl, rfl, b.window i hi⟩

/-- **An ACK that a later cumulative ACK has overtaken on the return path (`ackno < last_ack`) is not part of the window law: it
is neither a new ACK nor a duplicate.**  The sender's `put` accepts it and changes *nothing* - `cwnd`, `ssthresh`, `dupack`,
`last_ack`, the RTT estimator and the RTO are not updated from its (stale) sample, no timer is touched - and nothing is
retransmitted; in particular the send window `last_ack + cwnd` does not close. -/
theorem stale_ack_ignored (s : Sender ℚ) (a : AckIn ℚ) (hok : AckOk s a) (hst : a.ackno < s.last_ack) :
    ∃ s', s.step (.ack a) = .ok s' [] ∧ s'.cc = s.cc ∧ s'.est = s.est ∧ s'.dupack = s.dupack ∧ s'.last_ack = s.last_ack ∧
      s'.timers = s.timers ∧ s' = s :=
  ⟨s, ackStep_stale s a hok hst, rfl, rfl, rfl, rfl, rfl, rfl⟩

/-- **The early return of `put` as written in the source is the model's test** (bridge): the generated
`TCPPacketGenerator.put_stale_guard` - the test of the `if …: return` that stands between `ackno = ack.ack` and the duplicate-ACK
counting - at the sender's numbers is `ackno < last_ack`; where it holds the model's `put` returns the state unchanged, where it
does not the model goes on to the duplicate-ACK counting (`ackCore`).  (`<` changed to `<=`, `!=`, `>` … makes this fail to
compile; without the guard the translator stops.) -/
theorem stale_guard_generated_eq_model (s : Sender ℚ) (a : AckIn ℚ) (hok : AckOk s a) :
    (∀ x l : Nat, TCPPacketGenerator.put_stale_guard (Num.ofNat x : ℚ) (Num.ofNat l) = decide (x < l)) ∧
    (TCPPacketGenerator.put_stale_guard (Num.ofNat a.ackno : ℚ) (Num.ofNat s.last_ack) = true →
      s.step (.ack a) = .ok s []) ∧
    (TCPPacketGenerator.put_stale_guard (Num.ofNat a.ackno : ℚ) (Num.ofNat s.last_ack) = false →
      s.step (.ack a) = s.ackCore a) := by
  have hg : ∀ x l : Nat, TCPPacketGenerator.put_stale_guard (Num.ofNat x : ℚ) (Num.ofNat l) = decide (x < l) := by
    intro x l
    unfold TCPPacketGenerator.put_stale_guard
    simp only [ofNat_eq, Nat.cast_lt]
  refine ⟨hg, fun h => ?_, fun h => ?_⟩
  · rw [hg, decide_eq_true_eq] at h
    exact ackStep_stale s a hok h
  · rw [hg, decide_eq_false_iff_not] at h
    exact ackStep_core s a hok h

/-- the hypotheses of `stale_ack_ignored` are met: the acknowledged mark is at 1536 and the ACK of the first segment (512),
held back on the return path, arrives -/
example : let s : Sender ℚ := { Sender.init .reno ({ (TCPCubic.defaults : CCState ℚ) with mss := 512, cwnd := 1536 }) 1 512 none 0
      with last_ack := 1536, next_seq := 1536, send_buffer := 1536 }
    AckOk s { fid := 10000, ackno := 512, pid := 0, ptime := 0 } ∧ (512 : Nat) < s.last_ack ∧
    TCPPacketGenerator.put_stale_guard (Num.ofNat 512 : ℚ) (Num.ofNat s.last_ack) = true ∧
    TCPPacketGenerator.put_stale_guard (Num.ofNat 1536 : ℚ) (Num.ofNat s.last_ack) = false := by
  intro s
  refine ⟨⟨Nat.le_refl _, le_refl _⟩, by decide, ?_, ?_⟩ <;>
    (unfold TCPPacketGenerator.put_stale_guard; simp only [ofNat_eq]; norm_num [s, Sender.init])


/-- a Reno object with `cwnd ≥ mss > 0`, `ssthresh ≥ 0` satisfies the congestion-control invariant … -/
example : CCInv .reno ({ (TCPCubic.defaults : CCState ℚ) with mss := 512, cwnd := 1300, ssthresh := 0 }) :=
  ⟨by norm_num, by norm_num, by norm_num, fun h => by cases h⟩

/-- … so does `TCPCubic()` with the constructor defaults generated from the source (`W_last_max = 0`, `beta = 1/5`) … -/
example : CCInv .cubic (TCPCubic.defaults : CCState ℚ) := by
  refine ⟨?_, ?_, ?_, fun _ => ⟨?_, ?_⟩⟩ <;> simp [TCPCubic.defaults] <;> norm_num

/-- … and a fresh generator around it (`rtt_estimate = 1`) satisfies the sender invariant. -/
example : Inv (Sender.init .cubic (TCPCubic.defaults : CCState ℚ) 1 512 (some 5120) 0) :=
  inv_init _ _ _ _ _ _ (by refine ⟨?_, ?_, ?_, fun _ => ⟨?_, ?_⟩⟩ <;> simp [TCPCubic.defaults] <;> norm_num) (by norm_num)

/-- the hypotheses of `new_ack_after_few_dupacks` are met: one duplicate counted, then the ACK of the next segment -/
example : let s : Sender ℚ := { Sender.init .cubic (TCPCubic.defaults : CCState ℚ) 1 512 none 0 with dupack := 1 }
    Inv s ∧ AckOk s { fid := 10000, ackno := 512, pid := 0, ptime := 0 } ∧ s.last_ack < (512 : Nat) ∧
      (0 < s.dupack ∧ s.dupack < 3) := by
  intro s
  have hi : Inv (Sender.init .cubic (TCPCubic.defaults : CCState ℚ) 1 512 none 0) :=
    inv_init _ _ _ _ _ _ (by refine ⟨?_, ?_, ?_, fun _ => ⟨?_, ?_⟩⟩ <;> simp [TCPCubic.defaults] <;> norm_num) (by norm_num)
  exact ⟨hi.transfer rfl rfl rfl rfl rfl (Nat.le_refl 0), ⟨Nat.le_refl _, le_refl _⟩, by decide, by decide, by decide⟩

/-- the hypotheses of `cubic_growth` are met by a CUBIC state in congestion avoidance -/
example : let c : CCState ℚ := { (TCPCubic.defaults : CCState ℚ) with cwnd := 4096, ssthresh := 2048, cwnd_cnt := 3 }
    c.W_last_max = 0 ∧ 0 < c.cwnd ∧ c.beta ≠ 2 ∧ ¬ c.cwnd ≤ c.ssthresh := by
  simp [TCPCubic.defaults]; norm_num

/-- Reno in congestion avoidance: `cwnd = 1024 > ssthresh = 512` grows by `512·512/1024 = 256` -/
example : (TCPReno.ack_received ({ (TCPCubic.defaults : CCState ℚ) with cwnd := 1024, ssthresh := 512 }) 0 0).cwnd = 1280 := by
  rw [(reno_new_ack _ _ _).1]; simp [renoGrow, TCPCubic.defaults]; norm_num

end C17
