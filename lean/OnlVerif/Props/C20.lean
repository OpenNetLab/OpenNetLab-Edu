import Mathlib.Tactic.NormNum
import OnlVerif.Lemmas.Rt
import OnlVerif.Lemmas.GenRt20
/-!
# C20 — real-time pacing never runs ahead of the wall clock and alters no result

Model: `OnlVerif/Util/Rt.lean`.  `rtStep peek kstep s clock` is `RealtimeEnvironment.step` on the kernel component
`s.k`, where `clock` is the list of values the successive `monotonic()` calls return (an arbitrary oracle: processes
that burn wall time, sleeps that return early or late are all just different lists) and `peek`/`kstep` are
`Environment.peek`/`Environment.step` of an arbitrary kernel — in particular of the kernel model `K`.
The theorems hold for **every** reading list.  They are partial-correctness statements: over a finite list that never
reaches the due instant the sleep loop does not finish (`starved`); `sleep_loop_terminates` is the progress condition.
Time is exact (`ℚ`); the executable model runs at `Float` and is compared bit for bit with `onl.sim.rt`.
-/

namespace C20
open Rt
variable {κ ρ : Type}

/-- **Pacing alters no result (one step).**  A `step()` that returns hands the *unchanged* kernel state to
`Environment.step`: its result is exactly the result of the plain step, for every clock behaviour. -/
theorem rt_same_transitions (peek : κ → Option ℚ) (kstep : κ → ρ) (s : RtState ℚ κ) (clock : List ℚ) (r : ρ)
    (sleeps : List ℚ) (last : ℚ) (rest : List ℚ) (h : rtStep peek kstep s clock = .stepped r sleeps last rest) :
    r = kstep s.k :=
  (rtStep_stepped h).1

/-- **Pacing alters no result (whole runs).**  For every sequence of `step()` and `sync()` calls and every clock
behaviour, the results of the `Environment.step` calls made by the real-time run — each contains the whole kernel
state, hence the event sequence and all values — are a prefix of those of the un-paced run of the same kernel, and
all of them when the run executes all its operations.  (A run is cut short only by the too-slow error, by
`EmptySchedule`, by an exception of the program itself, or by the readings running out.) -/
theorem rt_same_transitions_run (peek : κ → Option ℚ) (kstep : κ → ρ) (cont : ρ → Option κ) (ops : List RtOp)
    (s : RtState ℚ κ) (clock : List ℚ) :
    (rtRun peek kstep cont ops s clock).results <+: plainRun kstep cont (ops.count RtOp.step) s.k ∧
    ((rtRun peek kstep cont ops s clock).ending = RunEnd.finished →
      (rtRun peek kstep cont ops s clock).results = plainRun kstep cont (ops.count RtOp.step) s.k) := by
  induction ops generalizing s clock with
  | nil => simp [rtRun, plainRun]
  | cons op ops ih =>
    cases op with
    | sync =>
      rw [count_sync]
      cases clock with
      | nil => simp [rtRun]
      | cons c cs => rw [rtRun]; exact ih (sync s c) cs
    | step =>
      rw [count_step, rtRun]
      cases hst : rtStep peek kstep s clock with
      | emptySchedule | tooSlow d rest | starved => simp
      | stepped r sleeps last rest =>
        have hr : r = kstep s.k := (rtStep_stepped hst).1
        subst hr
        simp only
        cases hc : cont (kstep s.k) with
        | none =>
          simp only [plainRun, hc]
          exact ⟨List.prefix_refl _, fun h => by cases h⟩
        | some k' =>
          simp only [plainRun, hc]
          have ih' := ih { s with k := k' } rest
          exact ⟨List.cons_prefix_cons.mpr ⟨rfl, ih'.1⟩, fun h => by rw [ih'.2 h]⟩

/-- **… and `EmptySchedule` is raised by the paced step exactly when the plain step of the kernel model `K` raises
it** (`peek()` is `Infinity` iff the agenda is empty), for every program. -/
theorem rt_empty_iff_plain_empty {σ : Type} (body : σ → Resume → Burst ℚ σ) (fuel : Nat) (s : RtState ℚ (KState ℚ σ))
    (clock : List ℚ) :
    rtStep (fun k => peekTime k.agenda) (step body fuel) s clock = .emptySchedule ↔ step body fuel s.k = .empty := by
  rw [rtStep_empty_iff]
  exact peek_none_iff_step_empty body fuel s.k

/-- **Never early.**  If `step()` returns normally, the occurrence it processed was due at simulated time `t = peek()`
and the last value the wall clock showed before `Environment.step` ran is at or after
`real_start + (t - env_start) * factor`; that reading is one of the oracle's readings (`clock = pre ++ last :: rest`,
`rest` is left unread), and every reading of the sleep loop before it was still early. -/
theorem rt_never_early (peek : κ → Option ℚ) (kstep : κ → ρ) (s : RtState ℚ κ) (clock : List ℚ) (r : ρ)
    (sleeps : List ℚ) (last : ℚ) (rest : List ℚ) (h : rtStep peek kstep s clock = .stepped r sleeps last rest) :
    ∃ t, peek s.k = some t ∧ s.realStart + (t - s.envStart) * s.factor ≤ last ∧
      ∃ pre, clock = pre ++ last :: rest ∧
        ∀ c ∈ pre.drop (if s.strict then 1 else 0), c < s.realStart + (t - s.envStart) * s.factor := by
  obtain ⟨_, t, hp, hle, pre, hc, hpre, _⟩ := rtStep_stepped h
  exact ⟨t, hp, hle, pre, hc, hpre⟩

/-- **The strict rule.**  With the next occurrence due at simulated `t`, `step()` raises
`RuntimeError('Simulation too slow …')` exactly when the environment is strict and the first reading of the wall clock
is more than `factor` past the due instant; the `delta` it reports is the second reading minus the due instant. -/
theorem rt_strict_iff (peek : κ → Option ℚ) (kstep : κ → ρ) (s : RtState ℚ κ) (t c1 c2 : ℚ) (rest : List ℚ)
    (hp : peek s.k = some t) :
    (∃ d r, rtStep peek kstep s (c1 :: c2 :: rest) = .tooSlow d r) ↔
      (s.strict = true ∧ c1 - (s.realStart + (t - s.envStart) * s.factor) > s.factor) := by
  constructor
  · rintro ⟨d, r, h⟩
    obtain ⟨t', c1', c2', hp', hc, hs, hlt, _⟩ := rtStep_tooSlow_iff.mp h
    rw [hp] at hp'
    cases hp'
    cases hc
    exact ⟨hs, hlt⟩
  · rintro ⟨hs, hlt⟩
    exact ⟨c2 - dueTime s t, rest, rtStep_tooSlow_iff.mpr ⟨t, c1, c2, hp, rfl, hs, hlt, rfl⟩⟩

/-- **Never in non-strict mode**, whatever the clock does (and in strict mode never when the first reading is within
`factor` of the due instant). -/
theorem rt_never_raises_nonstrict (peek : κ → Option ℚ) (kstep : κ → ρ) (s : RtState ℚ κ) (clock : List ℚ)
    (d : ℚ) (rest : List ℚ) (h : rtStep peek kstep s clock = .tooSlow d rest) :
    s.strict = true ∧ ∃ t c1 c2, peek s.k = some t ∧ clock = c1 :: c2 :: rest ∧
      c1 - (s.realStart + (t - s.envStart) * s.factor) > s.factor ∧
      d = c2 - (s.realStart + (t - s.envStart) * s.factor) := by
  obtain ⟨t, c1, c2, hp, hc, hs, hlt, hd⟩ := rtStep_tooSlow_iff.mp h
  exact ⟨hs, t, c1, c2, hp, hc, hlt, hd⟩

/-- **`sync()` re-bases `real_start` to the moment of the call** and touches nothing else (in particular not the
kernel): a later `step()` that returns has waited until `c + (t - env_start) * factor`, where `c` is the reading
`sync()` took, and its strict test is relative to that instant. -/
theorem sync_rebases (peek : κ → Option ℚ) (kstep : κ → ρ) (s : RtState ℚ κ) (c : ℚ) :
    (sync s c).realStart = c ∧ (sync s c).k = s.k ∧ (sync s c).envStart = s.envStart ∧
    (sync s c).factor = s.factor ∧ (sync s c).strict = s.strict ∧
    (∀ clock r sleeps last rest, rtStep peek kstep (sync s c) clock = .stepped r sleeps last rest →
      r = kstep s.k ∧ ∃ t, peek s.k = some t ∧ c + (t - s.envStart) * s.factor ≤ last) ∧
    (∀ t c1 c2 rest, peek s.k = some t →
      ((∃ d r, rtStep peek kstep (sync s c) (c1 :: c2 :: rest) = .tooSlow d r) ↔
        (s.strict = true ∧ c1 - (c + (t - s.envStart) * s.factor) > s.factor))) := by
  refine ⟨rfl, rfl, rfl, rfl, rfl, ?_, ?_⟩
  · intro clock r sleeps last rest h
    obtain ⟨hr, t, hp, hle, _⟩ := rtStep_stepped h
    exact ⟨hr, t, hp, hle⟩
  · intro t c1 c2 rest hp
    exact rt_strict_iff peek kstep (sync s c) t c1 c2 rest hp

/-- **Progress of the sleep loop**: in non-strict mode (and in strict mode after a passed strict test) `step()` returns
as soon as the clock shows a reading at or after the due instant; without such a reading the finite oracle runs out
(`starved`) — the loop needs the clock to progress. -/
theorem sleep_loop_terminates (peek : κ → Option ℚ) (kstep : κ → ρ) (s : RtState ℚ κ) (t : ℚ) (clock : List ℚ)
    (hp : peek s.k = some t) (hs : s.strict = false)
    (hc : ∃ c ∈ clock, s.realStart + (t - s.envStart) * s.factor ≤ c) :
    ∃ sleeps last rest, rtStep peek kstep s clock = .stepped (kstep s.k) sleeps last rest := by
  obtain ⟨sleeps, last, rest, h⟩ := sleepLoop_terminates (due := dueTime s t) [] hc
  refine ⟨sleeps, last, rest, ?_⟩
  unfold rtStep
  rw [hp]
  simp only [strictPhase, hs, Bool.false_eq_true, if_false, sleepThenStep, h]

/-! ### The source, re-translated on every run, *is* the model (bridge theorems)

`Generated/Rt20.lean` is rewritten by `py2lean` (`more.py`) from the current `onl/sim/rt.py` before this file is compiled:
`RealtimeEnvironment.__init__`, `sync` and `step` as functions over an explicit list of `monotonic()` readings, in the order
in which CPython takes them.  `GenRt20.rtObj` reads a model state as the Python object, `GenRt20.toModel` reads the way the
translated `step` ends (`raise EmptySchedule()`, `raise RuntimeError(f'…{delta:.3f}…')`, the final `Environment.step(self)`)
as a result of `rtStep`.  The statements hold for **every** scalar type (`[Num α]`: `ℚ` of the theorems above and the `Float`
the driver runs at), every kernel (`peek`, `kstep`), every state and every list of readings. -/

/-- **`RealtimeEnvironment.step` as written in the source is the model's `rtStep`**: `EmptySchedule` iff `peek()` is
`Infinity`; the due instant `real_start + (evt_time - env_start) * factor`; in strict mode one reading for the test
`monotonic() - real_time > factor` and a second one for the reported `delta`; then one reading per iteration of the sleep
loop, which is left at the first reading with `real_time - reading <= 0` and sleeps `real_time - reading` otherwise; then
`Environment.step(self)` on the untouched kernel state.  (A flipped comparison, a reading more or less, another order of the
readings, a changed due instant make this fail to compile.) -/
theorem rt_step_generated_eq_model {α : Type} [Num α] (peek : κ → Option α) (kstep : κ → ρ) (s : RtState α κ)
    (clock : List α) :
    GenRt20.toModel kstep s.k (Gen.RealtimeEnvironment.step (GenRt20.rtObj s) (peek s.k) clock) =
      some (rtStep peek kstep s clock) := by
  obtain ⟨rs, es, f, st, k⟩ := s
  unfold Gen.RealtimeEnvironment.step rtStep
  cases peek k with
  | none => simp only [GenRt20.toModel, if_true]
  | some t =>
    cases st with
    | false =>
      simp only [strictPhase, sleepThenStep, GenRt20.rtObj, dueTime, Bool.false_eq_true, if_false]
      exact GenRt20.loop_eq kstep k _ _ clock []
    | true =>
      simp only [strictPhase, sleepThenStep, GenRt20.rtObj, dueTime, if_true]
      cases clock with
      | nil => simp only [GenRt20.toModel]
      | cons c1 cs =>
        simp only
        by_cases h : f < c1 - (rs + (t - es) * f)
        · simp only [h, if_true]
          cases cs with
          | nil => simp only [GenRt20.toModel]
          | cons c2 rest => simp only [GenRt20.toModel, if_true]
        · simp only [h, if_false]
          exact GenRt20.loop_eq kstep k _ _ cs []

/-- **`sync()` as written in the source is the model's `sync`**: it takes one reading and stores it in `real_start`,
nothing else (without a reading left the run is `starved`, as in `rtRun`). -/
theorem rt_sync_generated_eq_model {α : Type} [Num α] (s : RtState α κ) (clock : List α) :
    Gen.RealtimeEnvironment.sync (GenRt20.rtObj s) clock =
      match clock with
      | [] => .starved
      | c :: rest => .returned (GenRt20.rtObj (sync s c)) rest := by
  cases clock <;> rfl

/-- **`__init__` as written in the source is the model's `create`**: whatever the object held before, after
`Environment.__init__(self, initial_time)` the constructor sets `env_start = initial_time`, takes one reading for
`real_start`, and stores `factor` and `strict`. -/
theorem rt_init_generated_eq_model {α : Type} [Num α] (o : Gen.RtObj α) (initialTime factor : α) (strict : Bool) (k : κ)
    (clock : List α) :
    Gen.RealtimeEnvironment.init o initialTime factor strict clock =
      match clock with
      | [] => .starved
      | c :: rest => .returned (GenRt20.rtObj (create initialTime factor strict c k)) rest := by
  cases clock <;> rfl

/-! ### non-vacuity (exact arithmetic): `initial_time = 2`, `factor = 1/2`, `real_start = 100`, next occurrence at 5,
hence due at `100 + (5 - 2)/2 = 101.5`; each example holds by evaluating both sides -/

def exS (strict : Bool) : RtState ℚ (Option ℚ) :=
  { realStart := 100, envStart := 2, factor := 1/2, strict := strict, k := some 5 }

/-- strict, first reading 101 (early): one reading for the test, then sleep 1/2, the sleep returns early at 101.25,
sleep 1/4 more, 101.5 is on time -/
example : rtStep id (fun _ => ()) (exS true) [101, 101, 405/4, 203/2, 999] =
    .stepped () [1/2, 1/4] (203/2) [999] := by
  with_unfolding_all rfl

/-- lag exactly equal to `factor` (first reading 102 = 101.5 + 1/2): no error, no sleep -/
example : rtStep id (fun _ => ()) (exS true) [102, 102, 7] = .stepped () [] 102 [7] := by
  with_unfolding_all rfl

/-- lag above `factor`: the error, with `delta` from the second reading -/
example : rtStep id (fun _ => ()) (exS true) [1021/10, 103, 7] = .tooSlow (3/2) [7] := by
  with_unfolding_all rfl

/-- the same lag in non-strict mode: processed at once, nothing raised -/
example : rtStep id (fun _ => ()) (exS false) [1021/10, 103, 7] = .stepped () [] (1021/10) [103, 7] := by
  with_unfolding_all rfl

/-- after `sync()` at 200 the same occurrence is due at 201.5 -/
example : rtStep id (fun _ => ()) (sync (exS false) 200) [200, 203/1, 7] = .stepped () [3/2] 203 [7] := by
  with_unfolding_all rfl

/-- a clock that never reaches the due instant starves the loop -/
example : rtStep id (fun _ => ()) (exS false) [100, 101, 101] = (.starved : RtResult ℚ Unit) := by
  with_unfolding_all rfl

/-- a run with a `sync()` in the middle: two kernel steps, as without pacing (the "kernel" counts down) -/
example : (rtRun (fun k : Nat => if k = 0 then none else some (k : ℚ)) (fun k => k - 1) some
      [.step, .sync, .step] { realStart := 0, envStart := 0, factor := 1, strict := false, k := 2 }
      [2, 10, 11]).results = [1, 0] := by
  with_unfolding_all rfl

/-- the translated `step` on the first example above: one reading for the strict test, two sleeps, delegation at 101.5 -/
example : Gen.RealtimeEnvironment.step (GenRt20.rtObj (exS true)) (some 5) [101, 101, 405/4, 203/2, 999] =
    .delegated [1/2, 1/4] (203/2) [999] := by
  with_unfolding_all rfl

/-- … and on the too-slow example: `RuntimeError` (5) with `delta` from the second reading -/
example : Gen.RealtimeEnvironment.step (GenRt20.rtObj (exS true)) (some 5) [1021/10, 103, 7] = .raisedWith 5 (3/2) [7] := by
  with_unfolding_all rfl

end C20
