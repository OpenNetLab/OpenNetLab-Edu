import OnlVerif.Lemmas.GenKernelRun03
/-!
# KernelGen03 - the refusal test and the stop event of `Environment.run(until=<number>)` *as written in the source* are the kernel model `K` (C03)

One of the bridge modules `Props/KernelGen*.lean`, one per owning property (`py2lean/SCOPE.md`): `py2lean/kernel.py`
regenerates the `Generated/Kernel*.lean` files named in the imports from `onl/sim` on every `./check` of the owning property, and the
theorems below (bridge theorems) prove that the generated definitions coincide with the functions of the hand-written kernel
model `K` (`Kernel/Agenda.lean`, `Ops.lean`, `Step.lean`) that the property theorems are about.  A flipped comparison, a changed
constant, priority or refusal, a lost or reordered effect in the source changes a generated definition and one of these proofs
no longer compiles - for every input, not for sampled ones.  Here: `runUntilTime` (C03); the generator also checks the frame of `Environment.run` (until-event, re-raise, empty schedule).

The encoding between the generated object views and the model state is explicit and hand-written
(`OnlVerif/Lemmas/GenKernelDefs.lean`: `resObj`, `runEff`, `buildEvent`, `applyTrig`, `toEntry`; the `run…` functions next to the
lemmas).  All statements hold for every scalar type `τ` (no arithmetic identity is used), in particular for `ℚ` and `Float`.
This module imports no generated file of another property.
-/

namespace KernelGen
open GenKernel
variable {τ σ : Type} [Num τ]

/-! ## `run(until=<number>)` (C03) -/

/-- **`Environment.run(until=<number>)` as written in the source is the model's `runUntilTime`**: refused with `ValueError`
exactly when `at <= now`; otherwise the stop event is pushed as `(at, URGENT, next(eid), until)` - at the absolute time
`at`, not `now + (at - now)`. -/
theorem run_until_generated_eq_model (body : σ → Resume → Burst τ σ) (fuel n : Nat) (at_ : τ) (s : KState τ σ) :
    runUntilTime body fuel n at_ s =
      (if Gen.Environment.run_refuse at_ s.now = true then
         .raised (valueErr "until must be > the current simulation time") s
       else
         let u := s.events.size
         let s1 := (s.newEv { kind := .sentinel, cbs := some [], out := some (.ok .none) }).1
         runLoop body fuel (some u) n ((pushEntry s1 (Gen.Environment.run_sentinel_entry at_ s1.eid u)).addCb u .stop)) := by
  unfold runUntilTime Gen.Environment.run_refuse
  by_cases h : at_ ≤ s.now
  · simp only [h, decide_true, if_true]
  · simp only [h, decide_false, Bool.false_eq_true, if_false]; rfl

/-! ## non-vacuity: the generated definitions on concrete objects -/

/-- `run(until=now)` is refused, `run(until=now+1)` is not -/
example : Gen.Environment.run_refuse (3 : Rat) 3 = true ∧ Gen.Environment.run_refuse (4 : Rat) 3 = false := by
  decide

end KernelGen
