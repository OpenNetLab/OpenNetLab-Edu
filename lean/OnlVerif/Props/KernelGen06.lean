import OnlVerif.Lemmas.GenKernelRes6
/-!
# KernelGen06 - the resource classes *as written in the source* are the kernel model `K` (C06)

One of the bridge modules `Props/KernelGen*.lean`, one per owning property (`py2lean/SCOPE.md`): `py2lean/kernel.py`
regenerates the `Generated/Kernel*.lean` files named in the imports from `onl/sim` on every `./check` of the owning property, and the
theorems below (bridge theorems) prove that the generated definitions coincide with the functions of the hand-written kernel
model `K` (`Kernel/Agenda.lean`, `Ops.lean`, `Step.lean`) that the property theorems are about.  A flipped comparison, a changed
constant, priority or refusal, a lost or reordered effect in the source changes a generated definition and one of these proofs
no longer compiles - for every input, not for sampled ones.  Here: `hasRoom`, `canPut` / `applyPut` (= `doPut`), `keyLt`, `preemptStep`, `doGet` of `Resource`, `PriorityResource`, `PreemptiveResource` (C06).

The encoding between the generated object views and the model state is explicit and hand-written
(`OnlVerif/Lemmas/GenKernelDefs.lean`: `resObj`, `runEff`, `buildEvent`, `applyTrig`, `toEntry`; the `run…` functions next to the
lemmas).  All statements hold for every scalar type `τ` (no arithmetic identity is used), in particular for `ℚ` and `Float`.
This module imports no generated file of another property.
-/

namespace KernelGen
open GenKernel
variable {τ σ : Type} [Num τ]

/-! ## resources (C06) -/

/-- **`Resource._do_put` as written in the source is the model's `doPut`** (free-slot test `hasRoom`, `canPut`; effects
`applyPut`: `users.append(event)`, `usage_since = now`, `succeed()`) for `Resource` and `PriorityResource`: running the
translated method on the object view of the state, performing its effect list in program order and pairing the result
with the returned bool gives exactly `doPut s r e`. -/
theorem resource_do_put_generated_eq_model (s : KState τ σ) (r : ResId) (e : EvId)
    (hk : (s.res r).kind = .resource ∨ (s.res r).kind = .priority) :
    runResourcePut { r := r, e := e } s = some (doPut s r e) := by
  have h := resource_do_put_at s r e 0 (hk.imp_right Or.inl)
  simp only [runResourcePut, finish]
  rw [h.1, h.2, Option.map_some, doPut_of_ne s r e (by rcases hk with h | h <;> rw [h] <;> rfl)]
  cases canPut s r e <;> rfl

/-- **the free-slot test of `Resource._do_put` is `hasRoom`**: the translated method returns `True` exactly when
`len(users) < capacity` in the model's sense (`capacity = inf` always has room). -/
theorem resource_guard_generated_eq_model (rr : ResRec) (n : Nat) :
    (Gen.Resource.do_put (resObj (τ := τ) rr) (n : Int)).ret = hasRoom rr.capacity n := by
  unfold Gen.Resource.do_put
  simp only [resObj, fin_lt_capOf]
  cases hasRoom rr.capacity n <;> rfl

/-- **`Resource._do_get` (release) as written in the source is the model's `doGet`** for the three resource classes:
remove the released request from `users` if it is there, `succeed()`, return `True`. -/
theorem resource_do_get_generated_eq_model (s : KState τ σ) (r : ResId) (e : EvId)
    (hk : (s.res r).kind = .resource ∨ (s.res r).kind = .priority ∨ (s.res r).kind = .preemptive) :
    runResourceGet { r := r, e := e } s = some (doGet s r e) := by
  have hg : getItem s r e = some .none := by
    unfold getItem; dsimp only; rcases hk with h | h | h <;> rw [h]
  have ht : takeOut s r e .none = s.setUsers r ((s.res r).users.erase (reqOf s e).releaseOf) := by
    unfold takeOut; dsimp only; rcases hk with h | h | h <;> rw [h]
  unfold doGet
  rw [hg]
  simp only [ht]
  rfl

/-- **`PriorityRequest.key` as written in the source orders requests like the model's `keyLt`**: Python's tuple `<` on the
generated key `(priority, time, not preempt)` is `keyLt`. -/
theorem priority_key_generated_eq_model (a b : ReqData τ) : keyLt a b = Py.keyLt (keyOf a) (keyOf b) :=
  keyLt_eq a b

/-- **`PreemptiveResource._do_put` as written in the source is the model's `doPut`** (`preemptStep`, then the common
`_do_put`): the eviction test `len(users) >= capacity and event.preempt`, the comparison `preempt.key > event.key`,
`users.remove(preempt)` and the interrupt of the victim's process, then `Resource._do_put`.  `w` is the victim
`sorted(users, key=key)[-1]` (`worstUser`, a landmark) whenever there is a user; the capacity is not 0
(`Resource.__init__` refuses it). -/
theorem preemptive_do_put_generated_eq_model (s : KState τ σ) (r : ResId) (e w : EvId) (hk : (s.res r).kind = .preemptive)
    (hw : ∀ w', worstUser s (s.res r).users = some w' → w' = w) (hcap : (s.res r).capacity ≠ some 0) :
    runPreemptStep { r := r, e := e, w := w } s = some (preemptStep s r e) ∧
    runPreemptivePut { r := r, e := e, w := w } s = some (doPut s r e) := by
  refine ⟨preemptive_pre_put s r e w hw hcap, ?_⟩
  unfold runPreemptivePut runPreemptStep
  rw [preemptive_pre_put s r e w hw hcap]
  have hk1 : ((preemptStep s r e).res r).kind = .preemptive := by rw [(preemptStep_kind s r e).1, hk]
  have h := resource_do_put_at (preemptStep s r e) r e w (Or.inr (Or.inr hk1))
  simp only [Option.bind_some, runResourcePut, finish]
  rw [h.1, h.2]
  have hp : prePut s r e = preemptStep s r e := by unfold prePut; rw [hk]; rfl
  unfold doPut
  rw [hp]
  cases canPut (preemptStep s r e) r e <;> rfl

/-- **the guard of `Resource._do_put` as written in the source is the model's `canPut`** for the three resource classes: the bool
the translated `_do_put` returns in state `s` is `canPut s r e` (a free slot).  (First conjunct of the former
`put_guards_generated_eq_model`; the container / store conjuncts are `KernelGen.put_guards_generated_eq_model` in
`Props/KernelGen07.lean`.) -/
theorem resource_put_guard_generated_eq_model (s : KState τ σ) (r : ResId) (e : EvId) :
    ((s.res r).kind = .resource ∨ (s.res r).kind = .priority ∨ (s.res r).kind = .preemptive →
      (Gen.Resource.do_put (resObj (τ := τ) (s.res r)) (s.res r).users.length).ret = canPut s r e) :=
  fun hk => (resource_do_put_at s r e 0 hk).2

/-! ## non-vacuity: the generated definitions on concrete objects -/

/-- a full `Resource` (capacity 1, one user) refuses; with a free slot it grants with the three effects in order -/
example : (Gen.Resource.do_put (resObj (τ := Rat) { kind := .resource, capacity := some 1, users := [3] }) 1).ret = false ∧
    ((Gen.Resource.do_put (resObj (τ := Rat) { kind := .resource, capacity := some 2, users := [3] }) 1).eff.length = 3) := by
  decide

/-- a preempting request with a better key evicts: remove + interrupt; with an equal key it does not -/
example : (Gen.PreemptiveResource.pre_put (resObj (τ := Rat) { kind := .preemptive, capacity := some 1, users := [3] }) 1 true
      (Gen.PriorityRequest.key 0 (2 : Rat) true) (Gen.PriorityRequest.key 1 (1 : Rat) true)).eff.length = 2 ∧
    (Gen.PreemptiveResource.pre_put (resObj (τ := Rat) { kind := .preemptive, capacity := some 1, users := [3] }) 1 true
      (Gen.PriorityRequest.key 1 (1 : Rat) true) (Gen.PriorityRequest.key 1 (1 : Rat) true)).eff.length = 0 := by
  decide

end KernelGen
