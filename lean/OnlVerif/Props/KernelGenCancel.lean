import OnlVerif.Lemmas.GenKernelCancel
/-!
# KernelGenCancel - `Put.cancel` / `Get.cancel` *as written in the source* are the kernel model `K` (C06 and C07)

One of the bridge modules `Props/KernelGen*.lean`, one per owning property (`py2lean/SCOPE.md`): `py2lean/kernel.py`
regenerates the `Generated/Kernel*.lean` files named in the imports from `onl/sim` on every `./check` of the owning property, and the
theorems below (bridge theorems) prove that the generated definitions coincide with the functions of the hand-written kernel
model `K` (`Kernel/Agenda.lean`, `Ops.lean`, `Step.lean`) that the property theorems are about.  A flipped comparison, a changed
constant, priority or refusal, a lost or reordered effect in the source changes a generated definition and one of these proofs
no longer compiles - for every input, not for sampled ones.  Here: `cancelReq` (remove from the queue, then rescan it), which both C06 and C07 name; the generator also checks the shape of the scan loops `_trigger_put` / `_trigger_get` and of `Put.__init__` / `Get.__init__` that both properties rest on.

The encoding between the generated object views and the model state is explicit and hand-written
(`OnlVerif/Lemmas/GenKernelDefs.lean`: `resObj`, `runEff`, `buildEvent`, `applyTrig`, `toEntry`; the `run…` functions next to the
lemmas).  All statements hold for every scalar type `τ` (no arithmetic identity is used), in particular for `ℚ` and `Float`.
This module imports no generated file of another property.
-/

namespace KernelGen
open GenKernel
variable {τ σ : Type} [Num τ]

/-! ## cancellation (C06: "cancellations ... pass the slot on"; C07: "also after other requests have been cancelled") -/

/-- **`Put.cancel` / `Get.cancel` as written in the source are the model's `cancelReq`**: nothing for a triggered request;
otherwise remove it from its queue *and rescan that queue*.  (The request is in its queue - `queues_hold_pending_requests`,
C07 - otherwise `list.remove` raises, which the model reports as `ValueError`.) -/
theorem cancel_generated_eq_model (s : KState τ σ) (e : EvId) (r : ResId) :
    ((s.ev e).kind = .put r → (s.triggered e = false → (s.res r).putQ.contains e = true) →
      runPutCancel { r := r, e := e } s = some (cancelReq s e).1 ∧ (cancelReq s e).2 = none) ∧
    ((s.ev e).kind = .get r → (s.triggered e = false → (s.res r).getQ.contains e = true) →
      runGetCancel { r := r, e := e } s = some (cancelReq s e).1 ∧ (cancelReq s e).2 = none) := by
  refine ⟨fun hk hq => ?_, fun hk hq => ?_⟩
  · unfold cancelReq runPutCancel Gen.Put.cancel
    by_cases ht : s.triggered e = true
    · simp [ht, runEff, reqObj]
    · have ht' : s.triggered e = false := by simpa using ht
      have hm := hq ht'
      simp only [List.contains_iff_mem] at hm
      simp [ht', hk, hm, runEff, applyEff, reqObj]
  · unfold cancelReq runGetCancel Gen.Get.cancel
    by_cases ht : s.triggered e = true
    · simp [ht, runEff, reqObj]
    · have ht' : s.triggered e = false := by simpa using ht
      have hm := hq ht'
      simp only [List.contains_iff_mem] at hm
      simp [ht', hk, hm, runEff, applyEff, reqObj]

/-! ## non-vacuity: the generated definitions on concrete objects -/

/-- cancelling a pending request removes it and rescans; cancelling a triggered one does nothing -/
example : (Gen.Put.cancel (reqObj (τ := Rat)) false).eff.length = 2 ∧ (Gen.Put.cancel (reqObj (τ := Rat)) true).eff.length = 0 ∧
    (Gen.Get.cancel (reqObj (τ := Rat)) false).eff.length = 2 := by
  decide

end KernelGen
