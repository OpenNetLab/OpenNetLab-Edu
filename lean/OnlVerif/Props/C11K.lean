import OnlVerif.Lemmas.TBKRefine
import OnlVerif.Props.C11
/-!
# C11 on the kernel: the TokenBucket *as a process on the kernel model*

`OnlVerif/Net/TBOnK.lean` writes `TokenBucket.run` and a packet source (`yield env.timeout(gap); shaper.put(packet)` for
every arrival) as a program of the kernel model `K` (`OnlVerif/Kernel`).  Nothing is assumed about scheduling:
`Environment.step` of the kernel model decides what runs when (the store's `StorePut` / `StoreGet` events, the source's
timeouts, the shaper's two timeouts).  The theorems below are the token-bucket recurrence of C11 for kernel runs, with **no**
admissibility assumption.

Scope: one `TokenBucket` with `rate > 0`, `bucket_size ≥ 0`, `peak` `None`, `0` or positive, an `out` attached; one source
process with non-negative gaps (zero gaps = bursts, and arrivals exactly at release instants, included); packets of any
sizes (also larger than the bucket); exact rational time; `fuel + 1` = any positive bound of the `_resume` loop.
-/

namespace C11K
open TBOnK TBK

/-- **What the oracle accepts** (`TBOnK.ostep` at exact rational time, spelled out): an `out id t` observation is accepted
in oracle state `o` iff `id` is the oldest waiting packet — put at `tp`, say — and `t` is the departure instant the
recurrence prescribes (`oOut`); then the level and its update instant become what the recurrence prescribes and the server
is free from `t`. -/
theorem oracle_accepts_iff (size : Int → Nat) (cfg : TbCfg ℚ) (o : OSt ℚ) (id : Int) (t : ℚ) :
    (ostep size cfg o (.out id t)).isSome ↔ ∃ tp rest, o.waiting = (id, tp) :: rest ∧ t = (oOut size cfg o id tp).1 := by
  simp only [ostep]
  cases hw : o.waiting with
  | nil => simp
  | cons x rest =>
    obtain ⟨id', tp⟩ := x
    simp only [eqT_iff, List.cons.injEq, Prod.mk.injEq]
    constructor
    · intro h
      split at h
      · rename_i hc
        obtain ⟨rfl, h2⟩ := hc
        exact ⟨tp, rest, ⟨⟨rfl, rfl⟩, rfl⟩, h2⟩
      · simp at h
    · rintro ⟨tp', rest', ⟨⟨rfl, rfl⟩, rfl⟩, h2⟩
      rw [if_pos ⟨rfl, h2⟩]
      rfl

/-- **The recurrence, one packet at a time** (`oOut` spelled out): a packet of `size` bytes put at `tp`, with the server free
from `free`, the level `level` last updated at `upd`, reaches the head at `g = max(free, tp)`; the bucket is refilled to
`L = min(bucket, level + rate·(g − upd)/8)`; if `L < size` it waits `(size − L)·8/rate`, after which the level is `0`,
otherwise the level becomes `L − size` at once; with a truthy `peak` it is held `size·8/peak` longer. -/
theorem recurrence_step (size : Int → Nat) (cfg : TbCfg ℚ) (o : OSt ℚ) (id : Int) (tp : ℚ) :
    let g := max o.free tp
    let L := min cfg.bucket (o.level + cfg.rate * (g - o.upd) / 8)
    let hold (x : ℚ) : ℚ := match TokenBucket.peakOn cfg with
      | some k => x + (size id : ℚ) * 8 / k
      | none => x
    oOut size cfg o id tp =
      if L < (size id : ℚ) then (hold (g + ((size id : ℚ) - L) * 8 / cfg.rate), 0, g + ((size id : ℚ) - L) * 8 / cfg.rate)
      else (hold g, L - (size id : ℚ), g) := by
  intro g L hold
  have hL : Num.pymin cfg.bucket (o.level + cfg.rate * (g - o.upd) / ((8 : ℕ) : ℚ)) = L := by
    simp only [Num.pymin_eq]; norm_num [L]
  have hg : Num.pymax o.free tp = g := Num.pymax_eq _ _
  unfold oOut
  simp only [hg, Num.ofNat_rat, hL]
  split <;> cases hp : TokenBucket.peakOn cfg <;>
    simp [hold, hp, TokenBucket.tokenWait, TokenBucket.peakWait, pktOf, Num.ofNat_rat, zero_eq']

/-- **The history of every kernel run passes the oracle, step by step, and no step crashes**: at every state reachable by
kernel steps the next `Environment.step` processes an event normally or finds the agenda empty, and the `put` / `out`
observations recorded so far are accepted by `TBOnK.orun` from the state of a fresh shaper: every packet that has left did
so in arrival order and exactly at the instant the token-bucket recurrence prescribes. -/
theorem tb_on_kernel_history_accepted (size : Int → Nat) (cfg : TbCfg ℚ) (arrivals : List ℚ) (hg : GapsOK arrivals)
    (hgood : TokenBucket.Good cfg) (hpk : PeakOK cfg) (fuel : Nat) (s : KState ℚ (TbS ℚ))
    (hreach : KReach (body size cfg) (fuel + 1) (initState cfg arrivals) s) :
    ((∃ s', step (body size cfg) (fuel + 1) s = .ok s') ∨ step (body size cfg) (fuel + 1) s = .empty) ∧
    ∃ o, orun size cfg (oInit cfg) (histOf s.trace) = some o := by
  obtain ⟨a, hi⟩ := reach_inv3 (size := size) fuel hg hgood hpk hreach
  refine ⟨?_, ?_⟩
  · cases hp : popMin s.agenda with
    | none => right; simp [step, hp]
    | some qr =>
      obtain ⟨q, rest⟩ := qr
      obtain ⟨s', _, _, h1, _⟩ := inv3_step fuel hi hp
      exact Or.inl ⟨s', h1⟩
  · obtain ⟨o, ho⟩ := hi.o
    exact ⟨o, ho.run⟩

/-- **The token-bucket recurrence holds for the TokenBucket as a kernel process, for every workload, with no admissibility
assumption.**  For every `rate > 0`, `bucket_size ≥ 0`, `peak` (`None`, `0` or positive), all packet sizes and every finite
arrival list with non-negative gaps: `run()` of the kernel model on the two spawned processes returns (agenda empty, no
exception) within `6·n + 4` steps; it has handed exactly the workload to `put` (packet `k` at the sum of the first `k + 1`
gaps); and its `put` / `out` history is accepted by the oracle and leaves nothing waiting — every packet was forwarded, in
arrival order, exactly at the instant the recurrence prescribes (`oracle_accepts_iff`, `recurrence_step`). -/
theorem tb_on_kernel_releases (size : Int → Nat) (cfg : TbCfg ℚ) (arrivals : List ℚ) (hg : GapsOK arrivals)
    (hgood : TokenBucket.Good cfg) (hpk : PeakOK cfg) (fuel n : Nat) (hn : 6 * arrivals.length + 4 ≤ n) :
    ∃ sF o, runAll (body size cfg) (fuel + 1) n (initState cfg arrivals) = .returned .none sF ∧ sF.agenda = [] ∧
      obsPuts (histOf sF.trace) = arrivalsFrom 0 0 arrivals ∧
      orun size cfg (oInit cfg) (histOf sF.trace) = some o ∧ o.waiting = [] := by
  obtain ⟨sF, aF, h1, h2, h3, -⟩ := run_returns3 fuel (initState cfg arrivals) n _ _
    (inv3_init (size := size) hg hgood hpk) (by rw [a0_mu]; omega) KReach.init
  obtain ⟨o, g1, g2, g3⟩ := inv3_final h2 h3
  exact ⟨sF, o, h1, h3, g3, g1, g2⟩

/-! ### refinement: the kernel run is an admissible run of the FifoServer LTS of the shaper -/

/-- **Refinement, step by step**: let `s` be reachable by kernel steps from the initial state and let the next kernel step
end in `s'`.  Then that step is a normal one (`.ok`), and whatever values the ghost fields (`log`, `outLog`) of the LTS's
device state hold, there is a (possibly empty) sequence of LTS actions that the shaper's LTS (`Net/Fifo.lean` with
`TokenBucket.dev`) *accepts* from the abstraction of `s` and that ends in the abstraction of `s'` (with some ghost values):
the step commutes with `absTB`; the packets that enter / leave in it are those the kernel step reports. -/
theorem tb_on_kernel_step_refines (size : Int → Nat) (cfg : TbCfg ℚ) (arrivals : List ℚ) (hg : GapsOK arrivals)
    (hgood : TokenBucket.Good cfg) (hpk : PeakOK cfg) (fuel : Nat) (s s' : KState ℚ (TbS ℚ))
    (hreach : KReach (body size cfg) (fuel + 1) (initState cfg arrivals) s)
    (hstep : (step (body size cfg) (fuel + 1) s).state? = some s') :
    step (body size cfg) (fuel + 1) s = .ok s' ∧
    ∃ new, histOf s'.trace = histOf s.trace ++ new ∧
      ∀ lg ol, ∃ lg' ol' acts, Fifo.runActs (TokenBucket.dev cfg) (setGhost (absTB size s) lg ol) acts =
        .ok (setGhost (absTB size s') lg' ol', putIds new, outIds new) := by
  obtain ⟨a, hi⟩ := reach_inv3 (size := size) fuel hg hgood hpk hreach
  cases hp : popMin s.agenda with
  | none => simp [step, hp, StepResult.state?] at hstep
  | some qr =>
    obtain ⟨q, rest⟩ := qr
    obtain ⟨s'', a', new, h1, h2, -, h4, h5, h6⟩ := inv3_step fuel hi hp
    rw [h1] at hstep
    simp only [StepResult.state?, Option.some.injEq] at hstep
    subst hstep
    refine ⟨h1, new, h6, fun lg ol => ?_⟩
    simp only [absTB_eq hi, absTB_eq h2, h5]
    exact lts_astep hi.i.a (min_of_pop hi.i.k.ag hp).1 hi.sent h4 lg ol

/-- **Refinement, whole runs**: every state reachable by kernel steps is the image (under `absTB`, with some values in the
ghost fields) of an *admissible* run of the shaper's LTS from its initial state: the LTS accepts some action sequence in
which the packets that entered are those handed to `put` and the packets that left are those handed to `out.put`, in the
order of the kernel trace. -/
theorem tb_on_kernel_refines_lts (size : Int → Nat) (cfg : TbCfg ℚ) (arrivals : List ℚ) (hg : GapsOK arrivals)
    (hgood : TokenBucket.Good cfg) (hpk : PeakOK cfg) (fuel : Nat) (s : KState ℚ (TbS ℚ))
    (hreach : KReach (body size cfg) (fuel + 1) (initState cfg arrivals) s) :
    ∃ acts lg ol, Fifo.runActs (TokenBucket.dev cfg) (C11.tbStart cfg 0) acts =
      .ok (setGhost (absTB size s) lg ol, putIds (histOf s.trace), outIds (histOf s.trace)) := by
  obtain ⟨a, acts, lg, ol, hi, -, hrun⟩ := reach_lts (size := size) fuel hg hgood hpk hreach
  exact ⟨acts, lg, ol, by rw [absTB_eq hi]; exact hrun⟩

/-- **Level bounds on the kernel** (`C11.tb_level_bounds`): in every state reachable by kernel steps the attribute cells
satisfy `0 ≤ current_bucket ≤ bucket_size` and `update_time ≤ env.now`. -/
theorem kernel_tb_level_bounds (size : Int → Nat) (cfg : TbCfg ℚ) (arrivals : List ℚ) (hg : GapsOK arrivals)
    (hgood : TokenBucket.Good cfg) (hpk : PeakOK cfg) (fuel : Nat) (s : KState ℚ (TbS ℚ))
    (hreach : KReach (body size cfg) (fuel + 1) (initState cfg arrivals) s) :
    0 ≤ cellTime s cLevel ∧ cellTime s cLevel ≤ cfg.bucket ∧ cellTime s cUpd ≤ s.now := by
  obtain ⟨a, acts, lg, ol, hi, -, hrun⟩ := reach_lts (size := size) fuel hg hgood hpk hreach
  obtain ⟨-, -, h2, h3⟩ := cells_eq hi.i.k
  -- taken before the goal is in sight: against `0 ≤ a.level ∧ …` the LTS state is guessed before `hrun` gives it (slow)
  have hb := C11.tb_level_bounds cfg hgood 0 (le_refl _) acts _ _ _ hrun
  rw [h2, h3]
  exact hb

/-- **First in first out, nothing lost, on the kernel** (`C11.tb_lossless_fifo`): at every state reachable by kernel steps
the packets handed to `put` so far are, in order, exactly those handed to `out.put` followed by those still inside (held by
`run`, then waiting in the store). -/
theorem kernel_tb_lossless_fifo (size : Int → Nat) (cfg : TbCfg ℚ) (arrivals : List ℚ) (hg : GapsOK arrivals)
    (hgood : TokenBucket.Good cfg) (hpk : PeakOK cfg) (fuel : Nat) (s : KState ℚ (TbS ℚ))
    (hreach : KReach (body size cfg) (fuel + 1) (initState cfg arrivals) s) :
    putIds (histOf s.trace) = outIds (histOf s.trace) ++ Fifo.held (absTB size s) := by
  obtain ⟨acts, lg, ol, h⟩ := tb_on_kernel_refines_lts size cfg arrivals hg hgood hpk fuel s hreach
  have := ((C11.tb_lossless_fifo cfg).2 0 acts _ _ _ h).1
  have hh : Fifo.held (setGhost (absTB size s) lg ol) = Fifo.held (absTB size s) := rfl
  rw [hh] at this
  exact this

/-- **The (rate, bucket) envelope on the kernel** (`C11.tb_envelope`): the kernel run so far is the image of an LTS run whose
debit log `lg` (one entry per packet whose tokens have been debited: instant and size) satisfies the envelope for all
`i ≤ j`: `size_i + … + size_j ≤ max(bucket_size, size_i) + rate·(t_j − t_i)/8`. -/
theorem kernel_tb_envelope (size : Int → Nat) (cfg : TbCfg ℚ) (arrivals : List ℚ) (hg : GapsOK arrivals)
    (hgood : TokenBucket.Good cfg) (hpk : PeakOK cfg) (fuel : Nat) (s : KState ℚ (TbS ℚ))
    (hreach : KReach (body size cfg) (fuel + 1) (initState cfg arrivals) s) :
    ∃ acts lg ol, Fifo.runActs (TokenBucket.dev cfg) (C11.tbStart cfg 0) acts =
        .ok (setGhost (absTB size s) lg ol, putIds (histOf s.trace), outIds (histOf s.trace)) ∧
      ∀ (newer mid older : List (ℚ × ℕ)) (ej ei : ℚ × ℕ), lg = newer ++ ej :: (mid ++ ei :: older) →
        (ej.2 : ℚ) + Envelope.bytes mid + ei.2 ≤ max cfg.bucket ei.2 + cfg.rate * (ej.1 - ei.1) / 8 := by
  obtain ⟨acts, lg, ol, h⟩ := tb_on_kernel_refines_lts size cfg arrivals hg hgood hpk fuel s hreach
  refine ⟨acts, lg, ol, h, ?_⟩
  intro newer mid older ej ei hlog
  exact C11.tb_envelope cfg hgood 0 (le_refl _) acts _ _ _ h newer mid older ej ei hlog

/-! ### concrete runs of the kernel model, evaluated by the kernel of Lean (exact arithmetic) -/

/-- one byte of tokens per time unit, a bucket of 3 -/
def slow : TbCfg ℚ := { rate := 8, bucket := 3, peak := none }
/-- the same with a peak rate of two bytes per time unit -/
def slowPeak : TbCfg ℚ := { rate := 8, bucket := 3, peak := some 16 }
def two : Int → Nat := fun _ => 2

/-- what a finished run shows: entries left in the agenda, the departures, and the packets the oracle still waits for -/
def runTB (cfg : TbCfg ℚ) (n : Nat) (arr : List ℚ) : Option (Nat × List (Int × ℚ) × Option Nat) :=
  (finalState (runAll (body two cfg) 1 n (initState cfg arr))).map fun s =>
    (s.agenda.length, outsOf s.trace, (orun two cfg (oInit cfg) (histOf s.trace)).map (·.waiting.length))

/-- a burst of three packets of 2 bytes at 0, then arrivals at 1 and 6: the first passes at once (the bucket holds 3), the
second waits one time unit for its missing byte, the others two each (the bucket is empty after every wait); the packet
arriving at 6 finds the server idle since 5 and one byte in the bucket: it leaves at 7.  The oracle accepts the history. -/
example : runTB slow 40 [0, 0, 0, 1, 5] = some (0, [(0, 0), (1, 1), (2, 3), (3, 5), (4, 7)], some 0) := by
  decide +kernel

/-- with a peak rate every packet is held for `size·8/peak = 1` more -/
example : runTB slowPeak 40 [0, 0, 0, 1, 5] = some (0, [(0, 1), (1, 2), (2, 4), (3, 6), (4, 8)], some 0) := by
  decide +kernel

/-- the oracle is not vacuous: it rejects a departure that is too early, too late, or out of order -/
example : orun two slow (oInit slow) [.put 0 0, .put 1 0, .out 0 0, .out 1 1] ≠ none ∧
    orun two slow (oInit slow) [.put 0 0, .put 1 0, .out 0 0, .out 1 (1/2)] = none ∧
    orun two slow (oInit slow) [.put 0 0, .put 1 0, .out 0 0, .out 1 2] = none ∧
    orun two slow (oInit slow) [.put 0 0, .put 1 0, .out 1 0] = none := by
  decide +kernel

/-- the hypotheses of the theorems are met by these configurations -/
example : GapsOK [0, 0, 0, 1, 5] ∧ TokenBucket.Good slow ∧ PeakOK slow ∧ TokenBucket.Good slowPeak ∧ PeakOK slowPeak := by
  refine ⟨by intro x hx; simp at hx; rcases hx with rfl | rfl | rfl | rfl <;> norm_num, ⟨by norm_num [slow], by norm_num [slow]⟩,
    ?_, ⟨by norm_num [slowPeak], by norm_num [slowPeak]⟩, ?_⟩
  · intro k hk; simp [TokenBucket.peakOn, Num.optOn, slow] at hk
  · intro k hk
    have : TokenBucket.peakOn slowPeak = some 16 := by decide +kernel
    rw [this] at hk; cases hk; norm_num

end C11K
