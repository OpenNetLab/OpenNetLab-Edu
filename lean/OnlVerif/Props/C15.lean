import OnlVerif.Lemmas.SchedRR
import OnlVerif.Lemmas.SchedWRR
import OnlVerif.Lemmas.SchedDRRProps
import OnlVerif.Lemmas.GenDrr
/-!
# C15 — round-robin schedulers give each backlogged class its per-visit allowance

Models: the MultiQueueServer LTS (`OnlVerif/Net/MultiQueue.lean`) with the records `RR.sched`, `WRR.sched`,
`DRR.sched` (`OnlVerif/Net/Sched/*.lean`, literal transcriptions of the three `run()` loops).  A *decision burst* is
the burst (`init`, `wake`, `sendDone`) in which the loop commits to a class and takes its head packet.
"In every admissible run" = for every action sequence the LTS accepts from the initial state; credits, quanta and
times are exact rationals.  "Backlogged" is what the loops test: `queue_count[flow] > 0` (RR, WRR), `class_count[c] > 0`
(DRR); by C12 (`mq_counters_eq`) these counters are the packets waiting or in transmission.
-/

namespace C15
open MQ

/-- **RR visits `flows` cyclically in declaration order, skips the flows that are not backlogged, and sends one packet per
visit**: in every admissible run, at every decision burst that hands the loop a packet `p` of flow `c`: `c` is entry `j`
of `flows`, it is backlogged, `p` is its oldest packet, and every entry cyclically from the resume index (0 after a
wake-up, the entry after the one just served otherwise) up to `j` is not backlogged. -/
theorem rr_visit (cfg : RR.Cfg ℚ) (t0 : ℚ) (as : List (MAct ℚ)) (l : List (Entry RR.Pc))
    (h : runLog (RR.sched cfg) (MQ.init (RR.Pc.at 0) t0 []) as = .ok l) (e : Entry RR.Pc) (he : e ∈ l)
    (hdec : e.act = .init ∨ e.act = .wake ∨ e.act = .sendDone) (c : Nat) (p : MPkt)
    (hph : e.post.phase = .pktHanded c p) :
    ∃ j rest, e.post.ctl = .got j ∧ cfg.flows[j]? = some c ∧ 0 < cnt e.pre.queueCount c ∧
      RR.CyclicSkips cfg (cnt e.pre.queueCount) (RR.resumeIndex e.pre) j ∧ storeOf e.pre.stores c = p :: rest :=
  runLog_decision (RR.sched cfg) (RR.neverParks cfg) (fun _ _ _ _ h => (Except.ok.inj h).symm) (.at 0) _ (RR.decision cfg)
    as _ l (fun _ => rfl) h e he hdec c p hph

/-- **One packet per visit**: having taken the packet of entry `j` the loop sends it and resumes its scan at entry `j + 1`. -/
theorem rr_one_per_visit (cfg : RR.Cfg ℚ) (s s' : MQState ℚ RR.Pc) (o : MOut ℚ) (j : Nat) (hctl : s.ctl = .got j)
    (hs : step (RR.sched cfg) s .pktResume = .ok (s', o)) :
    ∃ c p, s.phase = .pktHanded c p ∧ s'.phase = .spawned p ∧ RR.resumeIndex s' = j + 1 := by
  open RR in
  have ht := step_trans (sched cfg) s s' _ o hs
  cases ht with
  | resumeSend c p e k hp hd =>
    simp only [sched, onPkt, hctl] at hd
    simp only [PktDec.send.injEq] at hd
    obtain ⟨_, rfl⟩ := hd
    exact ⟨c, p, hp, rfl, rfl⟩
  | resumePark c p k s2 _ hp hd hpk hr => exact absurd hd (RR.neverParks cfg _ _ _ _ _)

/-- **WRR visits `weights` cyclically in declaration order and sends at most `weight` packets per visit**: at every decision
burst that hands the loop a packet `p` of class `c`: `c` is entry `m` of `weights` with weight `wt`, it is backlogged, `p`
is its oldest packet, it is packet number `jj < wt` of this visit; and either the visit of the resume entry simply
continues, or that visit is over (allowance used up or class not backlogged), `jj = 0`, and every entry cyclically in
between has weight 0 or is not backlogged. -/
theorem wrr_visit (cfg : WRR.Cfg ℚ) (t0 : ℚ) (as : List (MAct ℚ)) (l : List (Entry WRR.Pc))
    (h : runLog (WRR.sched cfg) (MQ.init (WRR.Pc.at 0 0) t0 []) as = .ok l) (e : Entry WRR.Pc) (he : e ∈ l)
    (hdec : e.act = .init ∨ e.act = .wake ∨ e.act = .sendDone) (c : Nat) (p : MPkt)
    (hph : e.post.phase = .pktHanded c p) :
    ∃ m jj wt rest, e.post.ctl = .got m jj ∧ cfg.weights[m]? = some (c, wt) ∧ jj < wt ∧ 0 < cnt e.pre.queueCount c ∧
      ((m = (WRR.resumePoint e.pre).1 ∧ jj = (WRR.resumePoint e.pre).2) ∨
       (jj = 0 ∧ WRR.Exhausted cfg (cnt e.pre.queueCount) (WRR.resumePoint e.pre).1 (WRR.resumePoint e.pre).2 ∧
          WRR.CyclicSkips cfg (cnt e.pre.queueCount) ((WRR.resumePoint e.pre).1 + 1) m)) ∧
      storeOf e.pre.stores c = p :: rest :=
  runLog_decision (WRR.sched cfg) (WRR.neverParks cfg) (fun _ _ _ _ h => (Except.ok.inj h).symm) (.at 0 0) _
    (WRR.decision cfg) as _ l (fun _ => rfl) h e he hdec c p hph

/-- having taken packet number `jj` of the visit of entry `m`, the loop sends it and resumes the same visit with
`jj + 1` packets sent -/
theorem wrr_visit_counts (cfg : WRR.Cfg ℚ) (s s' : MQState ℚ WRR.Pc) (o : MOut ℚ) (m jj : Nat) (hctl : s.ctl = .got m jj)
    (hs : step (WRR.sched cfg) s .pktResume = .ok (s', o)) :
    ∃ c p, s.phase = .pktHanded c p ∧ s'.phase = .spawned p ∧ WRR.resumePoint s' = (m, jj + 1) := by
  open WRR in
  have ht := step_trans (sched cfg) s s' _ o hs
  cases ht with
  | resumeSend c p e k hp hd =>
    simp only [sched, onPkt, hctl] at hd
    simp only [PktDec.send.injEq] at hd
    obtain ⟨_, rfl⟩ := hd
    exact ⟨c, p, hp, rfl, rfl⟩
  | resumePark c p k s2 _ hp hd hpk hr => exact absurd hd (WRR.neverParks cfg _ _ _ _ _)

/-- **The quantum** of class `c` with weight `w` is `1500·w / min weight` — at least `MIN_QUANTUM = 1500`. -/
theorem drr_quantum (cfg : DRR.Cfg ℚ) (hc : DRR.CfgOk cfg) (cls w : Nat) (h : lookup cfg.weights cls = some w) :
    DRR.quantum cfg cls = some (((1500 * w : ℕ) : ℚ) / ((DRR.minWeight cfg.weights : ℕ) : ℚ)) ∧
    (1500 : ℚ) ≤ ((1500 * w : ℕ) : ℚ) / ((DRR.minWeight cfg.weights : ℕ) : ℚ) := by
  have hq : DRR.quantum cfg cls = some (((1500 * w : ℕ) : ℚ) / ((DRR.minWeight cfg.weights : ℕ) : ℚ)) := by
    simp only [DRR.quantum, h, Option.map_some]; rfl
  exact ⟨hq, DRR.quantum_ge cfg hc.pos cls _ hq⟩

/-- **The DRR visit rules** (1): every accepted step of the scheduler is one of the explicit rules `DRR.DTrans`, and every
burst of its loop a chain of the moves `DRR.DSettles` (`OnlVerif/Lemmas/SchedDRR.lean`): a round visits the entries of
`class_count` in declaration order; `visitAdd` adds the quantum to the credit of a class with `class_count > 0`,
`visitSkip` adds nothing to one without; while credit > 0 and the class is backlogged its head — the parked
head-of-line packet if there is one (`takeSend`/`takePark`), else the oldest packet of its store (`innerGet`) — is sent
if `size ≤ credit` (`resumeSend`, `current_packet` set at once) and otherwise parked as head of line
(`resumePark`), which ends the visit; `sendDone` books the transmission. -/
theorem drr_visit (cfg : DRR.Cfg ℚ) (s s' : DRR.St) (a : MAct ℚ) (o : MOut ℚ)
    (h : step (DRR.sched cfg) s a = .ok (s', o)) : DRR.DTrans cfg s a s' o :=
  DRR.step_dtrans cfg s s' a o h

/-- **The DRR visit rules** (2), as equations: the quantum is added to the credit on a visit to a backlogged class; the
packet in hand is sent iff `size ≤ credit`, else parked; booking a transmission decrements the class count, subtracts
the size, and zeroes the credit when the class has emptied. -/
theorem drr_visit_rules (cfg : DRR.Cfg ℚ) (k : DRR.Ctl ℚ) (v : View) (i cls : Nat) (n : Int) (d q : ℚ) (p : MPkt)
    (hcc : k.classCount[i]? = some (cls, n)) (hd : lookup k.deficit cls = some d) (hq : DRR.quantum cfg cls = some q) :
    (k.pc = .visit i → 0 < n →
      (DRR.sched cfg).micro k v = .goto { DRR.addQuantum k cls d q with pc := .inner i } ∧
      lookup (DRR.addQuantum k cls d q).deficit cls = some (d + q)) ∧
    (k.pc = .visit i → ¬ 0 < n → (DRR.sched cfg).micro k v = .goto { k with pc := .inner i }) ∧
    (k.pc = .gotPkt i → DRR.classOf cfg p.flow = some cls →
      ((p.size : ℚ) ≤ d → (DRR.sched cfg).onPkt k v cls p = .send true { k with pc := .sent i }) ∧
      (¬ (p.size : ℚ) ≤ d → (DRR.sched cfg).onPkt k v cls p = .park { k with pc := .visit (i + 1) })) ∧
    (k.pc = .sent i →
      (DRR.sched cfg).onDone k p = .ok { DRR.book k cls d n p with pc := .inner i } ∧
      lookup (DRR.book k cls d n p).classCount cls = some (n - 1) ∧
      lookup (DRR.book k cls d n p).deficit cls = some (if n - 1 = 0 then 0 else d - p.size)) := by
  refine ⟨fun hpc hn => ⟨?_, ?_⟩, fun hpc hn => ?_, fun hpc hcl => ⟨fun hle => ?_, fun hle => ?_⟩, fun hpc => ⟨?_, ?_, ?_⟩⟩
  · simp only [DRR.sched, DRR.micro, hpc, hcc, hn, if_true, hd, hq]
  · simp only [DRR.addQuantum, lookup_setKey_same]
  · simp only [DRR.sched, DRR.micro, hpc, hcc, hn, if_false]
  · have : (Num.ofNat p.size : ℚ) ≤ d := hle
    simp only [DRR.sched, DRR.onPkt, hpc, hd, hcl, if_true, this]
  · have : ¬ (Num.ofNat p.size : ℚ) ≤ d := hle
    simp only [DRR.sched, DRR.onPkt, hpc, hd, hcl, if_true, this, if_false]
  · simp only [DRR.sched, DRR.onDone, hpc, hcc, hd]
  · rw [DRR.book_classCount, lookup_setKey_same]
  · rw [DRR.book_deficit, lookup_setKey_same]

/-- **An unaffordable head is the next packet of its class**: the packets of a class leave in the order parked head,
then store — the conservation law of C12 for DRR (`heldC` lists the packet in hand, the parked packet, the store). -/
theorem drr_parked_next (cfg : DRR.Cfg ℚ) (t0 : ℚ) (as : List (MAct ℚ))
    (s : DRR.St) (ins outs : List MPkt) (hr : runActs (DRR.sched cfg) (DRR.start cfg t0) as = .ok (s, ins, outs)) (c : Nat) :
    ofClass (DRR.sched cfg) c ins = ofClass (DRR.sched cfg) c outs ++
      ((inHand s).filter (fun p => decide ((DRR.sched cfg).classOf p.flow = some c)) ++
        (lookupD s.hol c none).toList ++ storeOf s.stores c) :=
  (reached_inv (DRR.sched cfg) (DRR.lawful cfg) (DRR.ctl0 cfg) t0 (DRR.counts0 cfg) s ins outs
    ⟨DRR.counts0_zero cfg, as, hr⟩).2 c

/-- **The credit of every class always stays within `[0, quantum + Lmax)`**: in every state reached by an admissible run
whose packets are at most `L` bytes. -/
theorem drr_credit_range (cfg : DRR.Cfg ℚ) (hc : DRR.CfgOk cfg) (L : ℚ) (hL : 0 < L) (t0 : ℚ) (s : DRR.St)
    (h : DRR.Reached cfg L t0 s) (cls : Nat) (d q : ℚ) (hd : lookup s.ctl.deficit cls = some d)
    (hq : DRR.quantum cfg cls = some q) : 0 ≤ d ∧ d < q + L :=
  (DRR.good_of_reached cfg hc L hL t0 s h).credit_range hL (DRR.quantum_pos cfg hc) hd hq

/-- **The ledger**: in every reachable state, for every class, bytes booked + credit = quantum × visits − credit forgotten. -/
theorem drr_ledger (cfg : DRR.Cfg ℚ) (hc : DRR.CfgOk cfg) (L : ℚ) (hL : 0 < L) (t0 : ℚ) (s : DRR.St)
    (h : DRR.Reached cfg L t0 s) (cls : Nat) (d q : ℚ) (hd : lookup s.ctl.deficit cls = some d)
    (hq : DRR.quantum cfg cls = some q) :
    (cnt s.ctl.sentBytes cls : ℚ) + d = q * (cnt s.ctl.visits cls : ℚ) - DRR.acc s.ctl.forfeited cls :=
  (DRR.good_of_reached cfg hc L hL t0 s h).ledger cls d q hd hq

/-- **Cyclic service**: over any window in which the classes at entries `ia < ib` both stay backlogged, the numbers of
visits (quantum additions) they receive differ by at most 1, and neither forgets any credit. -/
theorem drr_visits_alternate (cfg : DRR.Cfg ℚ) (hc : DRR.CfgOk cfg) (L : ℚ) (hL : 0 < L) (t0 : ℚ) (s1 s2 : DRR.St)
    (h1 : DRR.Reached cfg L t0 s1) (ia ib a b : Nat) (hlt : ia < ib) (outs : List (MOut ℚ))
    (hw : DRR.Window cfg L (DRR.Both ia ib a b) s1 outs s2) :
    |(cnt s2.ctl.visits a - cnt s1.ctl.visits a) - (cnt s2.ctl.visits b - cnt s1.ctl.visits b)| ≤ 1 ∧
    DRR.acc s2.ctl.forfeited a = DRR.acc s1.ctl.forfeited a ∧ DRR.acc s2.ctl.forfeited b = DRR.acc s1.ctl.forfeited b := by
  have hg := DRR.good_of_reached cfg hc L hL t0 s1 h1
  obtain ⟨_, _, hpsi, hfa, hfb, _⟩ := DRR.window_fair cfg L hL (DRR.quantum_pos cfg hc) ia ib a b s1 s2 outs hw hg
  refine ⟨?_, hfa, hfb⟩
  -- entry `ib` is passed later in a round than entry `ia`
  have mono : ∀ pc, DRR.passed ib pc ≤ DRR.passed ia pc ∧ 0 ≤ DRR.passed ib pc ∧ DRR.passed ia pc ≤ 1 := fun pc =>
    ⟨DRR.passed_anti hlt.le pc, (DRR.passed_range ib pc).1, (DRR.passed_range ia pc).2⟩
  have m1 := mono s1.ctl.pc
  have m2 := mono s2.ctl.pc
  simp only [DRR.psi] at hpsi
  rw [abs_le]
  constructor <;> omega

/-- bytes of class `c` among the departures in a list of outputs -/
def bytesOf (cfg : DRR.Cfg ℚ) (c : Nat) (outs : List (MOut ℚ)) : Int := DRR.bytesOut cfg c outs

/-- **DRR fairness**: over any window of an admissible run (packets of at most `L` bytes) in which two classes `a ≠ b`
both stay backlogged, the bytes sent for them, divided by their quanta, differ by less than
`4 + 3·L·(1/Q_a + 1/Q_b)` — however long the window and whatever the packet sizes. -/
theorem drr_fair (cfg : DRR.Cfg ℚ) (hc : DRR.CfgOk cfg) (L : ℚ) (hL : 0 < L) (t0 : ℚ) (s1 s2 : DRR.St)
    (h1 : DRR.Reached cfg L t0 s1) (ia ib a b : Nat) (outs : List (MOut ℚ))
    (hw : DRR.Window cfg L (DRR.Both ia ib a b) s1 outs s2) (Qa Qb : ℚ)
    (hqa : DRR.quantum cfg a = some Qa) (hqb : DRR.quantum cfg b = some Qb) :
    |(bytesOf cfg a outs : ℚ) / Qa - (bytesOf cfg b outs : ℚ) / Qb| < 4 + 3 * L * (1 / Qa + 1 / Qb) := by
  have hq := DRR.quantum_pos cfg hc
  have hx : 0 ≤ 1 / Qa + 1 / Qb := (add_pos (one_div_pos.mpr (hq a Qa hqa)) (one_div_pos.mpr (hq b Qb hqb))).le
  have h := DRR.window_share cfg L hL hq ia ib a b s1 s2 outs hw (DRR.good_of_reached cfg hc L hL t0 s1 h1) Qa Qb hqa hqb
  -- the argument gives `2·L`; the statement allows `3·L`
  have h23 : 2 * L ≤ 3 * L := mul_le_mul_of_nonneg_right (by norm_num) hL.le
  exact lt_of_lt_of_le h (add_le_add_right (mul_le_mul_of_nonneg_right h23 hx) 4)

/-! ### The DRR source, re-translated on every run, *is* the model (bridge theorem)

`Generated/Drr.lean` is rewritten by `py2lean` from the current `onl/scheduler/drr.py` before this file is compiled.  The
fragments are seen from one class: `GenDrr.drrObj d q n …` is the object whose entries for that class are credit `d`,
quantum `q`, `class_count` `n`. -/

/-- **The DRR arithmetic as written in the source is the model's**: for a class `cls` with weight `w`, credit `d`, quantum
`q`, count `n`:
* the quantum computed in `__init__` (`MIN_QUANTUM * weight / min_weight`, zero credit and counts) is `DRR.quantum`;
* the first statement of a visit leaves the credit `DRR.addQuantum` leaves when the class is backlogged, and `d` otherwise;
* the inner `while` test and the send test are the propositions `DRR.micro` and `DRR.onPkt` branch on
  (`0 < d ∧ 0 < n`, `size ≤ d`);
* the statements after a transmission leave the `class_count` and credit that `DRR.book` leaves (`n − 1`; `0` if the class
  emptied, else `d − size`);
* `put` leaves the `class_count` that `DRR.onPut` leaves, wakes the loop iff nothing was queued, and stores the packet.
(`MIN_QUANTUM` changed, `/ min_weight` dropped, `>`/`>=` flipped in a guard, `deficit -= size` lost … make this fail.) -/
theorem drr_generated_eq_model (cfg : DRR.Cfg ℚ) (k : DRR.Ctl ℚ) (cls w : Nat) (n qc total : Int) (d q : ℚ) (p : MPkt)
    (e1 e2 e3 : Nat) :
    (lookup cfg.weights cls = some w →
      DRR.quantum cfg cls =
        some (Gen.DRR.init_class (GenDrr.drrObj d q n qc e1 e2 e3) w (DRR.minWeight cfg.weights)).quantum ∧
      Gen.DRR.init_class (GenDrr.drrObj d q n qc e1 e2 e3) w (DRR.minWeight cfg.weights) =
        GenDrr.drrObj 0 (DRR.quantumW cfg w) 0 0 e1 e2 e3) ∧
    (0 < n → lookup (DRR.addQuantum k cls d q).deficit cls =
      some (Gen.DRR.run_visit (GenDrr.drrObj d q n qc e1 e2 e3) n).deficit) ∧
    (¬ 0 < n → Gen.DRR.run_visit (GenDrr.drrObj d q n qc e1 e2 e3) n = GenDrr.drrObj d q n qc e1 e2 e3) ∧
    Gen.DRR.run_inner_guard (GenDrr.drrObj d q n qc e1 e2 e3) = decide ((Num.zero : ℚ) < d ∧ 0 < n) ∧
    Gen.DRR.run_send_guard (GenDrr.drrObj d q n qc e1 e2 e3) p.size = decide ((Num.ofNat p.size : ℚ) ≤ d) ∧
    lookup (DRR.book k cls d n p).classCount cls = some (Gen.DRR.run_book (GenDrr.drrObj d q n qc e1 e2 e3) p.size).class_count ∧
    lookup (DRR.book k cls d n p).deficit cls = some (Gen.DRR.run_book (GenDrr.drrObj d q n qc e1 e2 e3) p.size).deficit ∧
    (lookup k.classCount cls = some n →
      ∃ k', DRR.onPut k cls p = .ok k' ∧
        lookup k'.classCount cls = some (Gen.DRR.put (GenDrr.drrObj d q n qc e1 e2 e3) total).class_count ∧
        Gen.DRR.put (GenDrr.drrObj d q n qc e1 e2 e3) total =
          GenDrr.drrObj d q (n + 1) qc (e1 + if total = 0 then 1 else 0) (e2 + 1) (e3 + 1)) := by
  refine ⟨fun hw => ⟨?_, GenDrr.init_class_eq cfg w d q n qc e1 e2 e3⟩, fun hn => ?_, fun hn => ?_,
    rfl, rfl, ?_, ?_, fun hk => ?_⟩
  · rw [GenDrr.init_class_eq]; simp only [DRR.quantum, hw, Option.map_some]; rfl
  · rw [GenDrr.run_visit_eq, if_pos hn]; simp only [DRR.addQuantum, lookup_setKey_same]; rfl
  · rw [GenDrr.run_visit_eq, if_neg hn]
  · rw [GenDrr.run_book_eq, DRR.book_classCount, lookup_setKey_same]; rfl
  · rw [GenDrr.run_book_eq, DRR.book_deficit, lookup_setKey_same]; rfl
  · refine ⟨_, by simp only [DRR.onPut, hk]; rfl, ?_, GenDrr.put_eq d q n qc total e1 e2 e3⟩
    rw [GenDrr.put_eq]; simp only [lookup_setKey_same]; rfl

/-- the translated fragments on a concrete class: weights 1 and 3, the class of weight 3 gets quantum 4500; a visit with credit
100 adds it; a 1500-byte packet is affordable; booking it with one packet counted zeroes the credit -/
example : (Gen.DRR.init_class (GenDrr.drrObj 7 7 7 7 0 0 0) 3 (DRR.minWeight [(0, 1), (1, 3)])).quantum = (4500 : ℚ) ∧
    (Gen.DRR.run_visit (GenDrr.drrObj 100 4500 2 2 0 0 0) 2).deficit = (4600 : ℚ) ∧
    Gen.DRR.run_send_guard (GenDrr.drrObj 4600 4500 2 2 0 0 0) 1500 = true ∧
    (Gen.DRR.run_book (GenDrr.drrObj 4600 4500 1 1 0 0 0) 1500).deficit = (0 : ℚ) := by
  decide +kernel

/-- control points after each step of an RR run over three flows of which the middle one is empty: the decision bursts
hand packets of entries 0, 2, 0 (cyclic, skipping entry 1) -/
example : (match runLog (RR.sched { rate := 8, flows := [5, 6, 7] }) (MQ.init (RR.Pc.at 0) 0 [])
    [.init, .put ⟨1, 5, 1⟩, .put ⟨2, 7, 1⟩, .put ⟨3, 5, 1⟩, .tokenHandoff, .wake, .pktResume, .sendInit, .tick 1, .sendFire,
     .sendDone, .pktResume, .sendInit, .tick 2, .sendFire, .sendDone] with
    | .ok l => some (l.map fun e => (phaseName e.post, e.post.ctl)) | .error _ => none) =
    some [("W", .at 0), ("W", .at 0), ("W", .at 0), ("W", .at 0), ("K", .at 0), ("H", .got 0), ("S", .sent 0), ("T", .sent 0),
      ("T", .sent 0), ("F", .sent 0), ("H", .got 2), ("S", .sent 2), ("T", .sent 2), ("T", .sent 2), ("F", .sent 2), ("H", .got 0)] := by
  decide +kernel

/-- a WRR run with weights 2 and 1: the visit of entry 0 sends two packets (`got 0 0`, `got 0 1`), then entry 1 one -/
example : (match runLog (WRR.sched { rate := 8, weights := [(5, 2), (6, 1)] }) (MQ.init (WRR.Pc.at 0 0) 0 [])
    [.init, .put ⟨1, 5, 1⟩, .put ⟨2, 5, 1⟩, .put ⟨3, 5, 1⟩, .put ⟨4, 6, 1⟩, .tokenHandoff, .wake, .pktResume, .sendInit, .tick 1,
     .sendFire, .sendDone, .pktResume, .sendInit, .tick 2, .sendFire, .sendDone] with
    | .ok l => some ((l.filter fun e => phaseName e.post == "H").map fun e => e.post.ctl) | .error _ => none) =
    some [.got 0 0, .got 0 1, .got 1 0] := by
  decide +kernel

/-- a DRR configuration satisfying `DRR.CfgOk` and a window of an admissible run in which both classes stay backlogged -/
example : DRR.CfgOk ({ rate := 8000, weights := [(1, 1), (2, 2)] } : DRR.Cfg ℚ) :=
  ⟨by decide, by decide⟩

/-- a concrete window for `drr_fair` / `drr_visits_alternate`: classes 1 (weight 1, quantum 1500) and 2 (weight 2, quantum 3000),
packets of at most 2000 bytes; after the four arrivals both classes stay backlogged while packets 1 (1000 bytes, class 1) and
3 (2000 bytes, class 2) are transmitted: 1000 and 2000 bytes depart in the window -/
example : DRR.demoWindow { rate := 8000, weights := [(1, 1), (2, 2)] } 2000 0 1 1 2
    [.init, .put ⟨1, 1, 1000⟩, .put ⟨2, 1, 1000⟩, .put ⟨5, 1, 500⟩, .put ⟨3, 2, 2000⟩, .put ⟨4, 2, 2000⟩, .put ⟨6, 2, 100⟩]
    [.tokenHandoff, .wake, .pktResume, .sendInit, .tick 1, .sendFire, .sendDone, .pktResume, .pktResume, .sendInit, .tick 3,
     .sendFire] = some (1000, 2000) := by
  decide +kernel

/-- credits after each step of a concrete DRR run (weights 1 and 2, quanta 1500 and 3000): class 1 gets 1500, sends 1000,
keeps 500 … all within `[0, quantum + 2000)` -/
example : (match runLog (DRR.sched { rate := 8000, weights := [(1, 1), (2, 2)] }) (DRR.start { rate := 8000, weights := [(1, 1), (2, 2)] } 0)
    [.init, .put ⟨1, 1, 1000⟩, .put ⟨2, 1, 1000⟩, .put ⟨3, 2, 2000⟩, .put ⟨4, 2, 2000⟩, .tokenHandoff, .wake, .pktResume, .sendInit,
     .tick 1, .sendFire, .sendDone, .pktResume, .pktResume, .sendInit, .tick 3, .sendFire, .sendDone] with
    | .ok l => some (l.map fun e => e.post.ctl.deficit) | .error _ => none) =
    some [[(1, 0), (2, 0)], [(1, 0), (2, 0)], [(1, 0), (2, 0)], [(1, 0), (2, 0)], [(1, 0), (2, 0)], [(1, 0), (2, 0)],
      [(1, 1500), (2, 0)], [(1, 1500), (2, 0)], [(1, 1500), (2, 0)], [(1, 1500), (2, 0)], [(1, 1500), (2, 0)],
      [(1, 500), (2, 0)], [(1, 500), (2, 3000)], [(1, 500), (2, 3000)], [(1, 500), (2, 3000)], [(1, 500), (2, 3000)],
      [(1, 500), (2, 3000)], [(1, 500), (2, 1000)]] := by
  decide +kernel

end C15
