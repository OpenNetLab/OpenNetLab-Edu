import OnlVerif.Lemmas.VCKFinal
import OnlVerif.Lemmas.VCKGridEx
import OnlVerif.Lemmas.WFQKFair
import OnlVerif.Lemmas.WFQKGridEx
import OnlVerif.Props.C12
import OnlVerif.Props.C14
/-!
# C12/C14 on the kernel: the stamp schedulers *as processes on the kernel model* refine the StampServer LTS

`OnlVerif/Net/VCOnK.lean` writes `VC.put`, `Scheduler.send_packet` (a child process per transmission, joined with
`yield process`), `VC.run` and a packet source as one program of the kernel model `K` (`OnlVerif/Kernel`).  Nothing is
assumed about scheduling: `Environment.step` of the kernel model decides what runs when (the `StorePut` / `StoreGet` events of
the `PriorityStore`, the `Initialize` and `Process` events of the sender, the timeouts of the source and of the sender).  The
theorems close the gap DESIGN §2.3 names for this device: every kernel step of this program is a (possibly empty) sequence of
actions the StampServer LTS with the VC record (`OnlVerif/Net/StampServer.lean`, `Net/Sched/VC.lean`) *accepts*, so the
admissibility rules of the LTS (a triggered event is processed before the clock moves, a transmission ends exactly at its due
instant, a hand-off happens before the clock moves) are consequences of the kernel model, and the C12/C14 theorems hold of
kernel runs.

Scope: one `VC` over the classes `0 … F-1` (`F` arbitrary), each with a positive vtick (`VCK.CfgOK`), `flow2class` the
identity, an `out` attached, `rate > 0`; one source process with non-negative gaps (zero gaps = bursts, and arrivals exactly at
transmission ends, included) whose packets carry increasing ids in `0 … N-1` and belong to configured classes (`VCK.WorkOK`);
exact rational time; `fuel + 1` = any positive bound of the `_resume` loop.  **The `PriorityStore` key.**  The kernel model's
`PriorityStore` orders plain integers; the program carries the key `(stamp, now)` of a `PriorityItem` as the integer
`⌊scale·stamp⌋·N + id` (`Kernel/StampCode.lean`, header of `Net/VCOnK.lean`).  The floor preserves the order of the stamps
when vticks and gaps lie on the grid `ℤ/scale` (`VCK.GridOK`; `Lemmas/StampCodeQ.lean`) — which every configuration and every
finite workload of rationals does for `scale := VCK.scaleOf cfg arrivals` (`grid_exists` below), so this is a hypothesis about
the *parameter* `scale` of the encoding, not about the workload.  That every stamp the program computes stays on the grid is
part of the proved invariant.
-/

namespace C14K

section VC
open VCOnK VCK Stamp


/-- **Every configuration and every finite rational workload lies on a grid**: the hypothesis `GridOK` of the theorems below
is met by the scale `VCK.scaleOf cfg arrivals` (the product of the denominators of the vticks and of the gaps). -/
theorem grid_exists (cfg : VcCfg ℚ) (arrivals : List (ℚ × Int)) : GridOK (scaleOf cfg arrivals) cfg arrivals := by
  have hp := denProd_pos (cfg.vticks.map (·.2) ++ arrivals.map (·.1))
  refine ⟨hp, ?_, ?_⟩
  · intro kv hkv
    exact onGrid_of_den_dvd _ (den_dvd_denProd _ _ (List.mem_append_left _ (List.mem_map_of_mem hkv))) hp
  · intro x hx
    exact onGrid_of_den_dvd _ (den_dvd_denProd _ _ (List.mem_append_right _ (List.mem_map_of_mem hx))) hp

/-- **Refinement, step by step**: let `s` be reachable by kernel steps from the initial state and let the next kernel step
end in `s'`.  Then that step is a normal one (`.ok`: no exception, no stop), and there is a (possibly empty) sequence of LTS
actions that the StampServer LTS with the VC record *accepts* from the abstraction of `s`, that ends exactly in the
abstraction of `s'` (the step commutes with the executable abstraction function `absVC`), and in which the packets accepted /
sent out are exactly the `put` / `out` observations the kernel step appended to the trace. -/
theorem vc_on_kernel_step_refines (N scale F : Nat) (flow size : Int → Nat) (cfg : VcCfg ℚ) (arrivals : List (ℚ × Int))
    (hc : CfgOK F cfg) (hg : GridOK scale cfg arrivals) (hw : WorkOK N scale F flow arrivals) (fuel : Nat)
    (s s' : KState ℚ (VcKSt ℚ))
    (hreach : KReach (prog flow size cfg N scale) (fuel + 1) (initState F cfg arrivals) s)
    (hstep : (step (prog flow size cfg N scale) (fuel + 1) s).state? = some s') :
    step (prog flow size cfg N scale) (fuel + 1) s = .ok s' ∧
    ∃ new acts, histOf s'.trace = histOf s.trace ++ new ∧
      runActs (VC.sched cfg) (absVC flow size cfg N s) acts =
        .ok (absVC flow size cfg N s', putPk flow size new, outPk flow size new) := by
  obtain ⟨a, _, hi, _⟩ := reach_lts (size := size) fuel hc hg hw hreach
  cases hp : popMin s.agenda with
  | none => simp [_root_.step, hp, StepResult.state?] at hstep
  | some qr =>
    obtain ⟨q, rest⟩ := qr
    obtain ⟨s'', a', new, h1, h2, -, -, -, h6, acts, h7⟩ := inv_step_lts (size := size) fuel hi hp
    rw [h1] at hstep
    simp only [StepResult.state?, Option.some.injEq] at hstep
    subst hstep
    exact ⟨h1, new, acts, h6, by rw [absVC_eq hi.k hi.ai hi.l, absVC_eq h2.k h2.ai h2.l]; exact h7⟩

/-- **Refinement, whole runs**: every state reachable by kernel steps is the image under `absVC` of an *admissible* run of
the LTS from the state of a fresh `VC` (`VC.start cfg 0`): the LTS accepts some action sequence that ends in `absVC s` and in
which the packets accepted are the `put` observations and the packets sent out the `out` observations of the kernel trace, in
order — the hypothesis of the C12 / C14 theorems. -/
theorem vc_on_kernel_refines_lts (N scale F : Nat) (flow size : Int → Nat) (cfg : VcCfg ℚ) (arrivals : List (ℚ × Int))
    (hc : CfgOK F cfg) (hg : GridOK scale cfg arrivals) (hw : WorkOK N scale F flow arrivals) (fuel : Nat)
    (s : KState ℚ (VcKSt ℚ))
    (hreach : KReach (prog flow size cfg N scale) (fuel + 1) (initState F cfg arrivals) s) :
    ∃ acts, runActs (VC.sched cfg) (VC.start cfg 0) acts =
      .ok (absVC flow size cfg N s, putPk flow size (histOf s.trace), outPk flow size (histOf s.trace)) := by
  obtain ⟨a, acts, hi, hrun⟩ := reach_lts (size := size) fuel hc hg hw hreach
  exact ⟨acts, by rw [absVC_eq hi.k hi.ai hi.l]; exact hrun⟩

/-- **No kernel step ever crashes, and `run()` returns**: for every workload as above, every state reachable by kernel steps
is followed by a normal step or has an empty agenda — so none of the exceptions the program can raise (`KeyError` for an
unconfigured class, `TypeError` for a reply or an item it cannot use, a negative delay) and no exception of the kernel ever
leaves `step()` —, and `run()` of the kernel model returns (agenda empty) within `6·n + 4` kernel steps, `n` = the number of
packets. -/
theorem vc_on_kernel_run_returns (N scale F : Nat) (flow size : Int → Nat) (cfg : VcCfg ℚ) (arrivals : List (ℚ × Int))
    (hc : CfgOK F cfg) (hg : GridOK scale cfg arrivals) (hw : WorkOK N scale F flow arrivals) (fuel n : Nat)
    (hn : 6 * arrivals.length + 4 ≤ n) :
    (∀ s, KReach (prog flow size cfg N scale) (fuel + 1) (initState F cfg arrivals) s →
      (∃ s', step (prog flow size cfg N scale) (fuel + 1) s = .ok s') ∨
        step (prog flow size cfg N scale) (fuel + 1) s = .empty) ∧
    ∃ sF, runAll (prog flow size cfg N scale) (fuel + 1) n (initState F cfg arrivals) = .returned .none sF ∧
      sF.agenda = [] ∧ KReach (prog flow size cfg N scale) (fuel + 1) (initState F cfg arrivals) sF := by
  constructor
  · intro s hs
    obtain ⟨a, _, hi, _⟩ := reach_lts (size := size) fuel hc hg hw hs
    cases hp : popMin s.agenda with
    | none => right; simp [_root_.step, hp]
    | some qr =>
      obtain ⟨q, rest⟩ := qr
      obtain ⟨s', _, _, h1, _⟩ := inv_step_lts (size := size) fuel hi hp
      exact Or.inl ⟨s', h1⟩
  · obtain ⟨sF, aF, h1, -, h3, h4⟩ := run_returns3 fuel (initState F cfg arrivals) n _ _
      (inv3_init (size := size) hc hg hw) (by rw [a0_mu]; omega) KReach.init
    exact ⟨sF, h1, h3, h4⟩

/-- **Per-flow FIFO and conservation on the kernel** (`C12.stamp_flow_fifo_vc`): at every state reachable by kernel steps
the waiting items of one flow carry strictly increasing stamps, and the packets of flow `f` handed to `put` so far are, in
order, those of `f` handed to `out.put` followed by those of `f` still held (handed over, in transmission, waiting). -/
theorem kernel_flow_fifo (N scale F : Nat) (flow size : Int → Nat) (cfg : VcCfg ℚ) (arrivals : List (ℚ × Int))
    (hc : CfgOK F cfg) (hg : GridOK scale cfg arrivals) (hw : WorkOK N scale F flow arrivals) (fuel : Nat)
    (s : KState ℚ (VcKSt ℚ))
    (hreach : KReach (prog flow size cfg N scale) (fuel + 1) (initState F cfg arrivals) s) (f : Nat) :
    FlowSorted (absVC flow size cfg N s).items ∧
    ofFlow f (putPk flow size (histOf s.trace)) =
      ofFlow f (outPk flow size (histOf s.trace)) ++ ofFlow f (held (absVC flow size cfg N s)) := by
  obtain ⟨acts, h⟩ := vc_on_kernel_refines_lts N scale F flow size cfg arrivals hc hg hw fuel s hreach
  exact C12.stamp_flow_fifo_vc cfg (pos_of_cfgOK hc) 0 acts _ _ _ h f

/-- **The counters are exact on the kernel** (`C12.stamp_counters_eq`): `queue_count[f]` and `queue_byte_size[f]`, read from
the attribute cells of a reachable kernel state, equal the number / bytes of the packets of `f` waiting or in transmission. -/
theorem kernel_counters_eq (N scale F : Nat) (flow size : Int → Nat) (cfg : VcCfg ℚ) (arrivals : List (ℚ × Int))
    (hc : CfgOK F cfg) (hg : GridOK scale cfg arrivals) (hw : WorkOK N scale F flow arrivals) (fuel : Nat)
    (s : KState ℚ (VcKSt ℚ))
    (hreach : KReach (prog flow size cfg N scale) (fuel + 1) (initState F cfg arrivals) s) (f : Nat) :
    getD (absVC flow size cfg N s).queueCount f = ((ofFlow f (held (absVC flow size cfg N s))).length : Int) ∧
    getD (absVC flow size cfg N s).queueBytes f =
      ((ofFlow f (held (absVC flow size cfg N s))).map fun p => (p.size : Int)).sum := by
  obtain ⟨acts, h⟩ := vc_on_kernel_refines_lts N scale F flow size cfg arrivals hc hg hw fuel s hreach
  exact C12.stamp_counters_eq (VC.sched cfg) (VC.init0 cfg) 0 acts _ _ _ h f

/-- **Minimal stamp at every hand-off, on kernel states.**  Let `s` be reachable by kernel steps and let the next kernel
step be one in which the store hands an item over (the abstraction of the state after it has a handed item `it`, the one
before has none: the `StorePut` event processed while `run` is blocked, or `run`'s own `store.get()` after a transmission).
Then, read from the `PriorityStore` resource of the kernel state itself: `K` handed out its least integer `c`, `it` is the
`PriorityItem` that integer stands for, exactly that integer left the store, and **no item in the store had a smaller
`(stamp, arrival instant)`** — for every stored integer `x`, `it.stamp < stamp(x)`, or the stamps are equal and `it` did not
arrive later. -/
theorem vc_on_kernel_decision (N scale F : Nat) (flow size : Int → Nat) (cfg : VcCfg ℚ) (arrivals : List (ℚ × Int))
    (hc : CfgOK F cfg) (hg : GridOK scale cfg arrivals) (hw : WorkOK N scale F flow arrivals) (fuel : Nat)
    (s s' : KState ℚ (VcKSt ℚ))
    (hreach : KReach (prog flow size cfg N scale) (fuel + 1) (initState F cfg arrivals) s)
    (hstep : step (prog flow size cfg N scale) (fuel + 1) s = .ok s') (it : Item ℚ)
    (hpost : (absVC flow size cfg N s').handed = some it) (hpre : (absVC flow size cfg N s).handed = none) :
    ∃ c, listMin (s.res pst).items = some c ∧ it = itemOf flow size N s.trace c ∧
      (s'.res pst).items = (s.res pst).items.erase c ∧
      ∀ x ∈ (s.res pst).items, it.stamp < (itemOf flow size N s.trace x).stamp ∨
        (it.stamp = (itemOf flow size N s.trace x).stamp ∧ it.arr ≤ (itemOf flow size N s.trace x).arr) := by
  obtain ⟨a, _, hi, _⟩ := reach_lts (size := size) fuel hc hg hw hreach
  cases hp : popMin s.agenda with
  | none => simp [_root_.step, hp] at hstep
  | some qr =>
    obtain ⟨q, rest⟩ := qr
    obtain ⟨s'', a', new, h1, h2, -, h4, -⟩ := inv_step_lts (size := size) fuel hi hp
    rw [h1] at hstep
    simp only [StepResult.ok.injEq] at hstep
    subst hstep
    rw [absVC_eq h2.k h2.ai h2.l] at hpost
    rw [absVC_eq hi.k hi.ai hi.l] at hpre
    have hmin := (min_of_pop hi.k.ag hp).1
    have hia := hi.ai.advance hmin
    have none_ne : (none : Option (Item ℚ)) ≠ some it := nofun
    -- the steps in which the store hands `run` an item
    obtain ⟨w, hw, hit, hitw⟩ : ∃ w, IsLeast N scale a.items w ∧ a'.items = a.items.erase w ∧ it = itemW flow size w := by
      cases h4 with
      | doneHit p id0 w h0 hw | pendHand g w l1 l2 hpe h0 hw => exact ⟨w, hw, rfl, (Option.some.inj hpost).symm⟩
      -- the new phase has no handed item
      | runInit h0 | pktResume g w h0 | sendInit p id h0 | sendFire p t id h0 | doneBlock p id0 h0 hit =>
        exact absurd hpost none_ne
      -- the phase of `run` stays
      | srcInit arr h0 | srcPut id arr h0 | srcEnd h0 | pendNoop l1 l2 hpe hno =>
        exact absurd (hpre.symm.trans hpost) none_ne
    have hst : (s.res pst).items = a.items.map (codeOf N scale) := by
      show (s.res 0).items = _; rw [hi.k.st]; rfl
    have hst' : (s''.res pst).items = a'.items.map (codeOf N scale) := by
      show (s''.res 0).items = _; rw [h2.k.st]; rfl
    obtain ⟨k1, k2, k3, k4⟩ := decision_key hia.putsOK hia.sub hw (it := itemW flow size) (fun _ => rfl)
      (itemOf := itemOf flow size N s.trace) fun x hx => itemOf_eq hi.l hia.putsOK hx
    rw [hst', hst, hit, hitw]
    exact ⟨_, k1, k2, k3.symm, k4⟩

/-- **Minimal stamp at every hand-off, on the LTS image** (`C14.min_stamp_service` for kernel steps): under the hypotheses of
`vc_on_kernel_decision` the handed item was in the store of the abstraction of `s`, exactly it is missing from the store of
the abstraction of `s'`, and every item in the store had a larger stamp, or the same stamp and no earlier arrival instant. -/
theorem kernel_vc_min_stamp (N scale F : Nat) (flow size : Int → Nat) (cfg : VcCfg ℚ) (arrivals : List (ℚ × Int))
    (hc : CfgOK F cfg) (hg : GridOK scale cfg arrivals) (hw : WorkOK N scale F flow arrivals) (fuel : Nat)
    (s s' : KState ℚ (VcKSt ℚ))
    (hreach : KReach (prog flow size cfg N scale) (fuel + 1) (initState F cfg arrivals) s)
    (hstep : step (prog flow size cfg N scale) (fuel + 1) s = .ok s') (it : Item ℚ)
    (hpost : (absVC flow size cfg N s').handed = some it) (hpre : (absVC flow size cfg N s).handed = none) :
    it ∈ (absVC flow size cfg N s).items ∧
    (absVC flow size cfg N s').items.length + 1 = (absVC flow size cfg N s).items.length ∧
    ∀ x ∈ (absVC flow size cfg N s).items, it.stamp < x.stamp ∨ (it.stamp = x.stamp ∧ it.arr ≤ x.arr) := by
  obtain ⟨c, h1, h2, h3, h4⟩ := vc_on_kernel_decision N scale F flow size cfg arrivals hc hg hw fuel s s' hreach hstep it hpost hpre
  exact decision_items h1 h2 h3 h4

/-- **What the oracle accepts** (`VCOnK.ostep` at exact rational time, the two central clauses spelled out).  A `stamp x`
observation after `put id t` is accepted iff `x = max(t, aux_vc[c]) + vtick[c]` for the class `c` of the packet (`aux_vc` as the
rule itself prescribes it so far); an `out id t` observation is accepted iff `id` is in transmission since `s` and
`t = s + 8·size/rate`. -/
theorem oracle_accepts_iff (flow size : Int → Nat) (cfg : VcCfg ℚ) (o : OSt ℚ) (id : Int) (t x : ℚ) (ho : o.pend = some (id, t)) :
    ((ostep flow size cfg o (.stamp x)).isSome ↔ ∃ kv ∈ cfg.vticks, kv.1 = flow id ∧ x = max t (o.aux (flow id)) + kv.2) ∧
    ((ostep flow size cfg o (.out id t)).isSome ↔ ∃ s, o.busy = some (id, s) ∧ t = s + (size id * 8 : ℕ) / cfg.rate) := by
  constructor
  · simp only [ostep, ho]
    have hiff : StampOK flow cfg o id t x ↔ ∃ kv ∈ cfg.vticks, kv.1 = flow id ∧ x = max t (o.aux (flow id)) + kv.2 :=
      exists_congr fun kv => and_congr_right fun _ => and_congr_right fun _ => by
        rw [eqT_iff, show Num.pymax t (o.aux (flow id)) + kv.2 = _ from VC.auxOf_eq t (o.aux (flow id)) kv.2]
    exact (VCK.isSome_ite_iff _).trans hiff
  · have hiff : OutOK size cfg.rate o id t ↔ ∃ s, o.busy = some (id, s) ∧ t = s + (size id * 8 : ℕ) / cfg.rate := by
      unfold OutOK
      cases hb : o.busy with
      | none => simp
      | some y =>
        obtain ⟨id', s0⟩ := y
        simp only [eqT_iff, VCOnK.txTime, Num.ofNat_rat, Option.some.injEq, Prod.mk.injEq]
        constructor
        · rintro ⟨rfl, h⟩; exact ⟨s0, ⟨rfl, rfl⟩, h⟩
        · rintro ⟨s1, ⟨rfl, rfl⟩, h⟩; exact ⟨rfl, h⟩
    simp only [ostep]
    exact (VCK.isSome_ite_iff _).trans hiff

/-- **What the oracle accepts at a service start** (`VCOnK.ostep`, the `serve` clause spelled out): `serve id t` is accepted iff
nothing is in transmission, a hand-off is under way with candidates `l` since instant `t`, `id` is one of the candidates `w`,
**every candidate `w'` has a larger stamp than `w`, or the same stamp and no earlier arrival instant**, and `id` is the oldest
waiting packet of its flow. -/
theorem oracle_serve_iff (flow size : Int → Nat) (cfg : VcCfg ℚ) (o : OSt ℚ) (id : Int) (t : ℚ) :
    (ostep flow size cfg o (.serve id t)).isSome ↔
      o.busy = none ∧ o.pend = none ∧ ∃ l, o.cand = some (l, t) ∧ ∃ w ∈ l, w.1 = id ∧
        (∀ w' ∈ l, w.2.1 < w'.2.1 ∨ (w.2.1 = w'.2.1 ∧ w.2.2 ≤ w'.2.2)) ∧
        ((o.waiting.filter fun y => flow y.1 = flow id).head?.map (·.1)) = some id := by
  refine (VCK.isSome_ite_iff _).trans (and_congr Option.isNone_iff_eq_none (and_congr Option.isNone_iff_eq_none ?_))
  cases o.cand with
  | none => exact ⟨False.elim, fun ⟨_, h, _⟩ => nomatch h⟩
  | some x => exact VCK.serve_clause_iff x.1 x.2 id t _ VCOnK.keyLt fun w' w => VCK.not_keyLt_iff _ _ _ _

/-- **The history of every kernel run passes the oracle, step by step**: at every state reachable by kernel steps the
`put` / `stamp` / `get` / `serve` / `out` observations recorded so far are accepted by `VCOnK.orun` from the empty oracle state —
every arrival so far was stamped `max(now, aux_vc) + vtick`, every hand-off so far took a candidate of minimal
`(stamp, arrival instant)` that was the oldest of its flow, in the instant of the `get` resp. of the arrival, every `get` was
issued at instant 0 or in the instant of the last departure, every departure came exactly `8·size/rate` after its service
start (header of the oracle in `Net/VCOnK.lean`, `oracle_accepts_iff`). -/
theorem vc_on_kernel_history_accepted (N scale F : Nat) (flow size : Int → Nat) (cfg : VcCfg ℚ) (arrivals : List (ℚ × Int))
    (hc : CfgOK F cfg) (hg : GridOK scale cfg arrivals) (hw : WorkOK N scale F flow arrivals) (fuel : Nat)
    (s : KState ℚ (VcKSt ℚ))
    (hreach : KReach (prog flow size cfg N scale) (fuel + 1) (initState F cfg arrivals) s) :
    ∃ o, orun flow size cfg oInit (histOf s.trace) = some o := by
  obtain ⟨a, hi⟩ := reach_inv3 (size := size) fuel hc hg hw hreach
  obtain ⟨o, ho, -⟩ := hi.o
  exact ⟨o, ho⟩

/-- **Stamp rule, minimal-key service, exact service times, work conservation and drain for the VirtualClock scheduler as
kernel processes (direct form, no admissibility assumption).**  For every number of classes `F`, every vtick table with
positive vticks over them, every `rate > 0` and every finite workload with non-negative gaps (bursts and arrivals exactly at
transmission ends included), `run()` of the kernel model on the spawned processes

* returns (agenda empty, no exception ever leaves `step()`) within `6·n + 4` kernel steps;
* has handed exactly the workload to `put`: packet `k` at the sum of the first `k + 1` gaps (`arrivalsFrom`);
* has a `put` / `stamp` / `get` / `serve` / `out` history that the oracle accepts: **every arrival was stamped
  `max(now, aux_vc[c]) + vtick[c]`**; the server asked for the next packet at instant 0 and then **in the very instant of each
  departure** (never idle with a backlog); **every hand-off took a packet with minimal `(stamp, arrival instant)`** among
  those waiting when the server asked (if none was: the first to arrive), the oldest of its flow, and its service started in
  the instant of the hand-off; one packet at a time (non-preemptive); every packet left **exactly `8·size/rate`** after its
  service start;
* ends drained: nothing waits, nothing is in transmission, and for every flow the packets handed to `out.put` are exactly
  the packets of that flow handed to `put`, in the same order (every packet leaves once, per flow in arrival order). -/
theorem vc_on_kernel_stamp_rules (N scale F : Nat) (flow size : Int → Nat) (cfg : VcCfg ℚ) (arrivals : List (ℚ × Int))
    (hc : CfgOK F cfg) (hg : GridOK scale cfg arrivals) (hw : WorkOK N scale F flow arrivals) (fuel n : Nat)
    (hn : 6 * arrivals.length + 4 ≤ n) :
    ∃ sF o, runAll (prog flow size cfg N scale) (fuel + 1) n (initState F cfg arrivals) = .returned .none sF ∧
      sF.agenda = [] ∧ putsOf sF.trace = arrivalsFrom 0 arrivals ∧
      orun flow size cfg oInit (histOf sF.trace) = some o ∧ drained o = true ∧
      ∀ f, ofFlow f (outPk flow size (histOf sF.trace)) = ofFlow f (putPk flow size (histOf sF.trace)) := by
  obtain ⟨sF, aF, h1, h2, h3, h4⟩ := run_returns3 fuel (initState F cfg arrivals) n _ _
    (inv3_init (size := size) hc hg hw) (by rw [a0_mu]; omega) KReach.init
  obtain ⟨o, g1, g2, g3, g4⟩ := inv3_final h2 h3
  refine ⟨sF, o, h1, h3, g3, g1, g2, ?_⟩
  intro f
  have := (kernel_flow_fifo N scale F flow size cfg arrivals hc hg hw fuel sF h4 f).2
  rw [absVC_eq h2.i.k h2.i.ai h2.i.l, g4] at this
  simpa [ofFlow] using this.symm

/-- a workload as the property names it, without reference to the encoding: gaps are not negative, the packets belong to the
classes `0 … F-1` and carry increasing ids in `0 … N-1` -/
def Workload (N F : Nat) (flow : Int → Nat) (l : List (ℚ × Int)) : Prop :=
  (∀ x ∈ l, 0 ≤ x.1 ∧ flow x.2 < F ∧ 0 ≤ x.2 ∧ x.2 < N) ∧ (l.map (·.2)).Pairwise (· < ·)

/-- **For all configurations and all workloads** (the encoding parameter chosen by the theorem, no grid hypothesis left): for
every vtick table with positive vticks over the classes `0 … F-1`, every `rate > 0` and every finite workload with gaps `≥ 0`,
the program with `scale := VCK.scaleOf cfg arrivals` has all the properties of `vc_on_kernel_stamp_rules`. -/
theorem vc_on_kernel_all_workloads (N F : Nat) (flow size : Int → Nat) (cfg : VcCfg ℚ) (arrivals : List (ℚ × Int))
    (hc : CfgOK F cfg) (hw : Workload N F flow arrivals) (fuel n : Nat) (hn : 6 * arrivals.length + 4 ≤ n) :
    ∃ sF o, runAll (prog flow size cfg N (scaleOf cfg arrivals)) (fuel + 1) n (initState F cfg arrivals) = .returned .none sF ∧
      sF.agenda = [] ∧ putsOf sF.trace = arrivalsFrom 0 arrivals ∧
      orun flow size cfg oInit (histOf sF.trace) = some o ∧ drained o = true ∧
      ∀ f, ofFlow f (outPk flow size (histOf sF.trace)) = ofFlow f (putPk flow size (histOf sF.trace)) := by
  have hg := grid_exists cfg arrivals
  refine vc_on_kernel_stamp_rules N _ F flow size cfg arrivals hc hg ⟨?_, hw.2⟩ fuel n hn
  intro x hx
  obtain ⟨h1, h2, h3, h4⟩ := hw.1 x hx
  exact ⟨h1, h2, h3, h4, hg.gaps x hx⟩


/-- classes 0 and 1 with vticks 1 and 1/2, rate 8 (a packet of size 1 is transmitted in one time unit) -/
def vcfg : VcCfg ℚ := { rate := 8, vticks := [(0, 1), (1, 1 / 2)], flow2class := [(0, 0), (1, 1)] }
def flowOf (fl : List Nat) : Int → Nat := fun i => fl.getD i.toNat 0
def unit : Int → Nat := fun _ => 1

def finalVc (fl : List Nat) (n : Nat) (arr : List (ℚ × Int)) : Option (KState ℚ (VcKSt ℚ)) :=
  finalState (runAll (prog (flowOf fl) unit vcfg arr.length 2) 1 n (initState 2 vcfg arr))

/-- what a finished run shows: entries left in the agenda, the stamps, whether the oracle of the property accepts the history
and ends drained -/
def runVc (fl : List Nat) (n : Nat) (arr : List (ℚ × Int)) : Option (Nat × List ℚ × Bool) :=
  (finalVc fl n arr).map fun s =>
    (s.agenda.length, stampsOf s.trace, ((orun (flowOf fl) unit vcfg oInit (histOf s.trace)).map drained).getD false)

/-- … the service starts and the departures -/
def runVcT (fl : List Nat) (n : Nat) (arr : List (ℚ × Int)) : Option (List (Int × ℚ) × List (Int × ℚ)) :=
  (finalVc fl n arr).map fun s => (servesOf s.trace, outsOf s.trace)

/-- packets 0, 1 (class 0: stamps 1, 2) and 2 (class 1: stamp 1/2) arrive at 0, packets 3, 4 (class 1) at 1 and 2 — exactly
when transmissions end —, packet 5 (class 0) at 2.  The first packet is handed over at once; then stamp order: 2 (1/2), 3
(3/2, arrived at 1 *before* the server asked again at 1), 1 (2), 4 (5/2), 5 (3); back to back, one time unit each -/
example : runVc [0, 0, 1, 1, 1, 0] 80 [(0, 0), (0, 1), (0, 2), (1, 3), (1, 4), (0, 5)] =
      some (0, [1, 2, 1/2, 3/2, 5/2, 3], true) ∧
    runVcT [0, 0, 1, 1, 1, 0] 80 [(0, 0), (0, 1), (0, 2), (1, 3), (1, 4), (0, 5)] =
      some ([(0, 0), (2, 1), (3, 2), (1, 3), (4, 4), (5, 5)], [(0, 1), (2, 2), (3, 3), (1, 4), (4, 5), (5, 6)]) := by
  decide +kernel

/-- … and every kernel step of that run (39 of them) is an action sequence the StampServer LTS accepts between the
abstractions of the two states (`refineCheck` replays the inferred actions through `Stamp.step` and compares with `absVC`) -/
example : refineCheck (flowOf [0, 0, 1, 1, 1, 0]) unit vcfg 6 2 80
    (initState 2 vcfg [(0, 0), (0, 1), (0, 2), (1, 3), (1, 4), (0, 5)]) 0 = some 39 := by
  decide +kernel

/-- the bound `6·n + 4` of `vc_on_kernel_run_returns` is exact for that workload (`n = 6`): `run()` has not returned after 39
iterations (the 39th kernel step has just been taken, the empty agenda is noticed by the 40th) and has after 40 -/
example : (finalVc [0, 0, 1, 1, 1, 0] 39 [(0, 0), (0, 1), (0, 2), (1, 3), (1, 4), (0, 5)]).isNone = true ∧
    (finalVc [0, 0, 1, 1, 1, 0] 40 [(0, 0), (0, 1), (0, 2), (1, 3), (1, 4), (0, 5)]).isSome = true := by
  decide +kernel

/-- idle gaps: a class that returns after its `aux_vc` has fallen behind the clock is stamped `now + vtick` (13/2, 15/2);
each packet is served at its arrival instant -/
example : runVc [0, 1, 0] 80 [(1, 0), (5, 1), (1/2, 2)] = some (0, [2, 13/2, 15/2], true) ∧
    runVcT [0, 1, 0] 80 [(1, 0), (5, 1), (1/2, 2)] = some ([(0, 1), (1, 6), (2, 7)], [(0, 2), (1, 7), (2, 8)]) ∧
    refineCheck (flowOf [0, 1, 0]) unit vcfg 3 2 80 (initState 2 vcfg [(1, 0), (5, 1), (1/2, 2)]) 0 = some 21 := by
  -- `runVc` runs `prog … arr.length 2`, `refineCheck` is given the numeral: once the length is that numeral the kernel meets
  -- the same `step` terms in all three conjuncts and evaluates each kernel step once
  simp only [runVc, runVcT, finalVc, List.length_cons, List.length_nil, Nat.reduceAdd]
  decide +kernel

/-- equal stamps, different instants: packet 0 (class 0) is served 0→1; packet 1 (class 0, stamp 2) arrives at 1/4, packets
2, 3 (class 1, stamps 1, 3/2) at 1/2 and packet 4 (class 1, stamp 2) at 3/4: packets 1 and 4 carry the stamp 2, the earlier
arrival (1) goes first -/
example : runVc [0, 0, 1, 1, 1] 80 [(0, 0), (1/4, 1), (1/4, 2), (0, 3), (1/4, 4)] = some (0, [1, 2, 1, 3/2, 2], true) ∧
    runVcT [0, 0, 1, 1, 1] 80 [(0, 0), (1/4, 1), (1/4, 2), (0, 3), (1/4, 4)] =
      some ([(0, 0), (2, 1), (3, 2), (1, 3), (4, 4)], [(0, 1), (2, 2), (3, 3), (1, 4), (4, 5)]) := by
  decide +kernel

/-- the hypotheses of the theorems are met by that configuration and workload (`CfgOK`, `WorkOK`, `GridOK` with scale 2:
vticks 1, 1/2 and gaps 0, 1 lie on the grid `ℤ/2`) -/
example : CfgOK 2 vcfg ∧ GridOK 2 vcfg [(0, 0), (0, 1), (0, 2), (1, 3), (1, 4), (0, 5)] ∧
    WorkOK 6 2 2 (flowOf [0, 0, 1, 1, 1, 0]) [(0, 0), (0, 1), (0, 2), (1, 3), (1, 4), (0, 5)] := by
  have g0 : OnGrid 2 (0 : ℚ) := ⟨0, by norm_num⟩
  have g1 : OnGrid 2 (1 : ℚ) := ⟨2, by norm_num⟩
  have gh : OnGrid 2 (1 / 2 : ℚ) := ⟨1, by norm_num⟩
  refine ⟨⟨by norm_num [vcfg], ?_, ?_, by decide, ?_⟩, ⟨by norm_num, ?_, ?_⟩, ⟨?_, by decide⟩⟩
  · intro f hf
    have : f = 0 ∨ f = 1 := by omega
    rcases this with rfl | rfl
    · exact ⟨1, rfl, by norm_num⟩
    · exact ⟨1 / 2, rfl, by norm_num⟩
  · intro kv hkv
    simp only [vcfg, List.mem_cons, List.not_mem_nil, or_false] at hkv
    rcases hkv with rfl | rfl <;> decide
  · intro f hf
    have : f = 0 ∨ f = 1 := by omega
    rcases this with rfl | rfl <;> rfl
  · intro kv hkv
    simp only [vcfg, List.mem_cons, List.not_mem_nil, or_false] at hkv
    rcases hkv with rfl | rfl
    · exact g1
    · exact gh
  · intro x hx
    simp only [List.mem_cons, List.not_mem_nil, or_false] at hx
    rcases hx with rfl | rfl | rfl | rfl | rfl | rfl <;> first | exact g0 | exact g1
  · intro x hx
    simp only [List.mem_cons, List.not_mem_nil, or_false] at hx
    rcases hx with rfl | rfl | rfl | rfl | rfl | rfl <;>
      exact ⟨by norm_num, by decide, by decide, by decide, by first | exact g0 | exact g1⟩

/-- the oracle is not vacuous.  Packet 0 (class 0) arrives at 0 and is served at once; 1 (class 0, stamp 2) and 2 (class 1,
stamp 1) arrive at 1/2.  Serving 2 at 1 is accepted; serving 1 at 1 is rejected (2 has the smaller stamp); a wrong stamp is
rejected; a service that starts late is rejected; a departure later than `start + 8·size/rate` is rejected. -/
example : (orun (flowOf [0, 0, 1]) unit vcfg oInit
      [.get 0, .put 0 0, .stamp 1, .serve 0 0, .put 1 (1/2), .stamp 2, .put 2 (1/2), .stamp 1, .out 0 1, .get 1,
       .serve 2 1, .out 2 2, .get 2, .serve 1 2, .out 1 3, .get 3]).isSome = true ∧
    (orun (flowOf [0, 0, 1]) unit vcfg oInit
      [.get 0, .put 0 0, .stamp 1, .serve 0 0, .put 1 (1/2), .stamp 2, .put 2 (1/2), .stamp 1, .out 0 1, .get 1,
       .serve 1 1]).isNone = true ∧
    (orun (flowOf [0, 0, 1]) unit vcfg oInit [.get 0, .put 0 0, .stamp 2]).isNone = true ∧
    (orun (flowOf [0, 0, 1]) unit vcfg oInit [.get 0, .put 0 0, .stamp 1, .serve 0 1]).isNone = true ∧
    (orun (flowOf [0, 0, 1]) unit vcfg oInit [.get 0, .put 0 0, .stamp 1, .serve 0 0, .out 0 2]).isNone = true := by
  decide +kernel

end VC

/-! ## WFQ

`OnlVerif/Net/WFQOnK.lean` writes `WFQ.put` (with `update_vtime` / `reset_vtime`), `Scheduler.send_packet`, `WFQ.run` (with its
bookkeeping after each transmission: `update_vtime()`, `class_count[c] -= 1`, `active_set.remove`, `reset_vtime()` when the
active set is empty, `last_time = env.now`) and a packet source as one program of the kernel model.  Scope: one `WFQ` over the
classes `0 … F-1`, each with a positive **whole** weight (`WFQK.CfgOK`; the constructor's annotation is `Dict[FlowId, int]`),
`flow2class` the identity, `rate > 0`; one source with non-negative gaps whose packets carry increasing ids in `0 … N-1`
(`WFQK.WorkOK`); exact rational time.  The `PriorityStore` key is carried as for VC; here two grids are needed
(`WFQK.GridOK`): instants (arrivals, departures) lie on `ℤ/d1`, virtual time and finish times on `ℤ/scale` with
`scale = d1·L`, where every possible weight sum divides `L` (so that `Δt / Σw` and `8·size/(rate·w)` stay on the grid) — met by
`d1 := WFQK.d1Of size cfg arrivals`, `L := (Σ weights)!` for every configuration and workload (`wfq_grid_exists`).  That virtual
time, finish times and all instants stay on their grids is part of the proved invariant, as is the *ghost read* of `last_time`
by which `run` learns the clock (`env.now = last_time` whenever `run` resumes from `store.get()`), and that no `KeyError` /
`ZeroDivisionError` of the dict and set operations can occur.
-/

section WFQ
open WFQOnK WFQK Stamp

/-- **Every WFQ configuration and every finite rational workload lies on the grids** (`GridOK` is satisfiable for all inputs). -/
theorem wfq_grid_exists (size : Int → Nat) (F : Nat) (cfg : WfqCfg ℚ) (arrivals : List (ℚ × Int)) :
    WFQK.GridOK (d1Of size cfg arrivals * LOf F cfg) size F cfg (d1Of size cfg arrivals) (LOf F cfg) arrivals := by
  have hp := denProd_pos (arrivals.map (·.1) ++ arrivals.map fun x => txTime size cfg.rate x.2)
  refine ⟨hp, Nat.factorial_pos _, rfl, ?_, ?_, ?_⟩
  · intro k h1 h2
    exact Nat.dvd_factorial (by omega) h2
  · intro x hx
    exact onGrid_of_den_dvd _ (den_dvd_denProd _ _ (List.mem_append_left _ (List.mem_map_of_mem hx))) hp
  · intro x hx
    exact onGrid_of_den_dvd _ (den_dvd_denProd _ _ (List.mem_append_right _
      (List.mem_map.mpr ⟨x, hx, rfl⟩))) hp

/-- **Refinement, step by step** (WFQ): every kernel step of every reachable state is a normal one (`.ok`), and is a (possibly
empty) sequence of actions the StampServer LTS with the WFQ record accepts from the abstraction of the state before to the
abstraction of the state after (it commutes with the executable `absWFQ`), in which the packets accepted / sent out are the
`put` / `out` observations the step appended to the trace. -/
theorem wfq_on_kernel_step_refines (N scale F : Nat) (flow size : Int → Nat) (cfg : WfqCfg ℚ) (d1 L : Nat)
    (arrivals : List (ℚ × Int)) (hc : WFQK.CfgOK F cfg) (hg : WFQK.GridOK scale size F cfg d1 L arrivals)
    (hw : WFQK.WorkOK N size F flow cfg d1 arrivals) (fuel : Nat) (s s' : KState ℚ (WfqKSt ℚ))
    (hreach : KReach (prog F flow size cfg N scale) (fuel + 1) (initState F arrivals) s)
    (hstep : (step (prog F flow size cfg N scale) (fuel + 1) s).state? = some s') :
    step (prog F flow size cfg N scale) (fuel + 1) s = .ok s' ∧
    ∃ new acts, histOf s'.trace = histOf s.trace ++ new ∧
      runActs (WFQ.sched cfg) (absWFQ F flow size cfg N s) acts =
        .ok (absWFQ F flow size cfg N s', WFQK.putPk size flow new, WFQK.outPk size flow new) := by
  obtain ⟨a, _, hi, _⟩ := WFQK.reach_lts (size := size) fuel hc hg hw hreach
  cases hp : popMin s.agenda with
  | none => simp [_root_.step, hp, StepResult.state?] at hstep
  | some qr =>
    obtain ⟨q, rest⟩ := qr
    obtain ⟨s'', a', new, h1, h2, -, -, -, h6, acts, h7⟩ := WFQK.inv_step_lts (size := size) fuel hi hp
    rw [h1] at hstep
    simp only [StepResult.state?, Option.some.injEq] at hstep
    subst hstep
    exact ⟨h1, new, acts, h6, by rw [absWFQ_eq hi.k hi.ai hi.l, absWFQ_eq h2.k h2.ai h2.l]; exact h7⟩

/-- **Refinement, whole runs** (WFQ): every state reachable by kernel steps is the image under `absWFQ` of an admissible run of
the LTS from the state of a fresh `WFQ` (`WFQ.start 0`), with the `put` / `out` observations as the packets that entered /
left — the hypothesis of the C12 / C14 theorems. -/
theorem wfq_on_kernel_refines_lts (N scale F : Nat) (flow size : Int → Nat) (cfg : WfqCfg ℚ) (d1 L : Nat)
    (arrivals : List (ℚ × Int)) (hc : WFQK.CfgOK F cfg) (hg : WFQK.GridOK scale size F cfg d1 L arrivals)
    (hw : WFQK.WorkOK N size F flow cfg d1 arrivals) (fuel : Nat) (s : KState ℚ (WfqKSt ℚ))
    (hreach : KReach (prog F flow size cfg N scale) (fuel + 1) (initState F arrivals) s) :
    ∃ acts, runActs (WFQ.sched cfg) (WFQ.start 0) acts =
      .ok (absWFQ F flow size cfg N s, WFQK.putPk size flow (histOf s.trace), WFQK.outPk size flow (histOf s.trace)) := by
  obtain ⟨a, acts, hi, hrun⟩ := WFQK.reach_lts (size := size) fuel hc hg hw hreach
  exact ⟨acts, by rw [absWFQ_eq hi.k hi.ai hi.l]; exact hrun⟩

/-- **No kernel step ever crashes, and `run()` returns** (WFQ): every reachable state is followed by a normal step or has an
empty agenda — so neither the `KeyError`s of `finish_times[c]`, `class_count[c] -= 1`, `active_set.remove(c)`, `weights[c]`, nor
the `ZeroDivisionError` of `update_vtime` on an empty active set or of a zero `rate·weight`, nor a `TypeError`, nor any exception
of the kernel ever leaves `step()` —, and `run()` returns (agenda empty) within `6·n + 4` kernel steps. -/
theorem wfq_on_kernel_run_returns (N scale F : Nat) (flow size : Int → Nat) (cfg : WfqCfg ℚ) (d1 L : Nat)
    (arrivals : List (ℚ × Int)) (hc : WFQK.CfgOK F cfg) (hg : WFQK.GridOK scale size F cfg d1 L arrivals)
    (hw : WFQK.WorkOK N size F flow cfg d1 arrivals) (fuel n : Nat) (hn : 6 * arrivals.length + 4 ≤ n) :
    (∀ s, KReach (prog F flow size cfg N scale) (fuel + 1) (initState F arrivals) s →
      (∃ s', step (prog F flow size cfg N scale) (fuel + 1) s = .ok s') ∨
        step (prog F flow size cfg N scale) (fuel + 1) s = .empty) ∧
    ∃ sF, runAll (prog F flow size cfg N scale) (fuel + 1) n (initState F arrivals) = .returned .none sF ∧
      sF.agenda = [] ∧ KReach (prog F flow size cfg N scale) (fuel + 1) (initState F arrivals) sF := by
  constructor
  · intro s hs
    obtain ⟨a, _, hi, _⟩ := WFQK.reach_lts (size := size) fuel hc hg hw hs
    cases hp : popMin s.agenda with
    | none => right; simp [_root_.step, hp]
    | some qr =>
      obtain ⟨q, rest⟩ := qr
      obtain ⟨s', _, _, h1, _⟩ := WFQK.inv_step_lts (size := size) fuel hi hp
      exact Or.inl ⟨s', h1⟩
  · obtain ⟨sF, aF, h1, -, h3, h4⟩ := WFQK.run_returns3 fuel (initState F arrivals) n _ _
      (WFQK.inv3_init (size := size) hc hg hw) (by rw [WFQK.a0_mu]; omega) KReach.init
    exact ⟨sF, h1, h3, h4⟩

/-- positive rate and weights: the hypothesis of the C12 / C14 theorems of the LTS -/
theorem wfq_pos_of_cfgOK {F : Nat} {cfg : WfqCfg ℚ} (hc : WFQK.CfgOK F cfg) : WFQ.Pos cfg :=
  WFQK.pos_of_cfgOK hc

/-- **Virtual time and all finish times are 0 whenever the scheduler is empty after the loop's bookkeeping**
(`C14.wfq_vtime_reset` through the refinement): in every state reachable by kernel steps in which nothing is waiting, handed
over, in transmission or finished-and-unbooked (read through `absWFQ`), the `vtime` cell holds 0, every `finish_times` cell
holds 0 and no class is marked active. -/
theorem kernel_wfq_vtime_reset (N scale F : Nat) (flow size : Int → Nat) (cfg : WfqCfg ℚ) (d1 L : Nat)
    (arrivals : List (ℚ × Int)) (hc : WFQK.CfgOK F cfg) (hg : WFQK.GridOK scale size F cfg d1 L arrivals)
    (hw : WFQK.WorkOK N size F flow cfg d1 arrivals) (fuel : Nat) (s : KState ℚ (WfqKSt ℚ))
    (hreach : KReach (prog F flow size cfg N scale) (fuel + 1) (initState F arrivals) s)
    (hempty : held' (absWFQ F flow size cfg N s) = []) :
    cellNum s cVtime = 0 ∧ (∀ k x, lookup (absFinish cfg s) k = some x → x = 0) ∧
      (∀ c, c < F → cellInt s (cAct c) ≠ 1) := by
  obtain ⟨acts, h⟩ := wfq_on_kernel_refines_lts N scale F flow size cfg d1 L arrivals hc hg hw fuel s hreach
  obtain ⟨h1, h2, h3⟩ := C14.wfq_vtime_reset cfg 0 acts _ _ _ h hempty
  refine ⟨h1, h2, ?_⟩
  intro c hcF hone
  have : c ∈ (absWFQ F flow size cfg N s).sch.active := by
    show c ∈ (List.range F).filter _
    simp [List.mem_filter, hcF, hone]
  rw [h3] at this
  cases this

/-- **Per-flow FIFO and conservation on the kernel** (WFQ; `C12.stamp_flow_fifo_wfq`; packets of positive size). -/
theorem kernel_wfq_flow_fifo (N scale F : Nat) (flow size : Int → Nat) (cfg : WfqCfg ℚ) (d1 L : Nat)
    (arrivals : List (ℚ × Int)) (hc : WFQK.CfgOK F cfg) (hg : WFQK.GridOK scale size F cfg d1 L arrivals)
    (hw : WFQK.WorkOK N size F flow cfg d1 arrivals) (hsz : ∀ id, 0 < size id) (fuel : Nat) (s : KState ℚ (WfqKSt ℚ))
    (hreach : KReach (prog F flow size cfg N scale) (fuel + 1) (initState F arrivals) s) (f : Nat) :
    FlowSorted (absWFQ F flow size cfg N s).items ∧
    ofFlow f (WFQK.putPk size flow (histOf s.trace)) =
      ofFlow f (WFQK.outPk size flow (histOf s.trace)) ++ ofFlow f (held (absWFQ F flow size cfg N s)) := by
  obtain ⟨acts, h⟩ := wfq_on_kernel_refines_lts N scale F flow size cfg d1 L arrivals hc hg hw fuel s hreach
  refine C12.stamp_flow_fifo_wfq cfg (wfq_pos_of_cfgOK hc) 0 acts _ _ _ h ?_ f
  intro p hp
  simp only [WFQK.putPk, List.mem_filterMap] at hp
  obtain ⟨ev, _, hev⟩ := hp
  cases ev <;> simp at hev
  subst hev
  exact hsz _

/-- **The counters are exact on the kernel** (WFQ; `C12.stamp_counters_eq`). -/
theorem kernel_wfq_counters_eq (N scale F : Nat) (flow size : Int → Nat) (cfg : WfqCfg ℚ) (d1 L : Nat)
    (arrivals : List (ℚ × Int)) (hc : WFQK.CfgOK F cfg) (hg : WFQK.GridOK scale size F cfg d1 L arrivals)
    (hw : WFQK.WorkOK N size F flow cfg d1 arrivals) (fuel : Nat) (s : KState ℚ (WfqKSt ℚ))
    (hreach : KReach (prog F flow size cfg N scale) (fuel + 1) (initState F arrivals) s) (f : Nat) :
    getD (absWFQ F flow size cfg N s).queueCount f = ((ofFlow f (held (absWFQ F flow size cfg N s))).length : Int) ∧
    getD (absWFQ F flow size cfg N s).queueBytes f =
      ((ofFlow f (held (absWFQ F flow size cfg N s))).map fun p => (p.size : Int)).sum := by
  obtain ⟨acts, h⟩ := wfq_on_kernel_refines_lts N scale F flow size cfg d1 L arrivals hc hg hw fuel s hreach
  exact C12.stamp_counters_eq (WFQ.sched cfg) WFQ.init0 0 acts _ _ _ h f

/-- **Static-backlog fairness on the kernel** (service started).  Workload: one burst — every packet arrives at the one
instant `t0` (the first gap is `t0`, all others are 0), sizes in `(0, Lm]`.  On the kernel such a burst is *not* the action
sequence `C14.static_backlog_fair` is stated for (all `put`s before any other action): the kernel processes the `StorePut` event
of the first packet — the hand-off to the blocked loop — before the source's next zero-delay timeout, so one packet is taken
out of the store before the others have arrived, although later arrivals of the instant may carry smaller stamps.  The LTS
lemma is therefore generalised (`Lemmas/StampFairBurst.lean`: arrivals of one instant interleaved with arbitrary other actions;
at most one packet is taken early because no transmission can end within the instant) and transferred step by step through the
refinement.  Statement: in every state reachable by kernel steps, for any two classes `i`, `j` that still have a packet waiting
in the store, the bits handed to `send_packet` so far (`out.put` observations plus the packet held by the server), normalised
by weight, differ by at most one maximum-size packet each: `|S_i/w_i − S_j/w_j| ≤ 8·Lm/w_i + 8·Lm/w_j`. -/
theorem kernel_wfq_static_backlog_fair (N scale F : Nat) (flow size : Int → Nat) (cfg : WfqCfg ℚ) (d1 L : Nat)
    (arrivals : List (ℚ × Int)) (hc : WFQK.CfgOK F cfg) (hg : WFQK.GridOK scale size F cfg d1 L arrivals)
    (hw : WFQK.WorkOK N size F flow cfg d1 arrivals) (Lm : Nat) (t0 : ℚ) (hb : WFQK.BurstOK size Lm t0 arrivals)
    (fuel : Nat) (s : KState ℚ (WfqKSt ℚ))
    (hreach : KReach (prog F flow size cfg N scale) (fuel + 1) (initState F arrivals) s)
    (i j : Nat) (wi wj : ℚ) (hwi : lookup cfg.weights i = some wi) (hwj : lookup cfg.weights j = some wj)
    (hbi : WFQ.Backlogged cfg (absWFQ F flow size cfg N s) i) (hbj : WFQ.Backlogged cfg (absWFQ F flow size cfg N s) j) :
    |WFQ.bitsOf cfg i (WFQK.outPk size flow (histOf s.trace) ++ inHand (absWFQ F flow size cfg N s)) / wi -
      WFQ.bitsOf cfg j (WFQK.outPk size flow (histOf s.trace) ++ inHand (absWFQ F flow size cfg N s)) / wj| ≤
      8 * (Lm : ℚ) / wi + 8 * (Lm : ℚ) / wj := by
  obtain ⟨a, hi⟩ := WFQK.reach_invF (size := size) fuel hc hg hw hb hreach
  have he := absWFQ_eq hi.i.i.k hi.i.i.ai hi.i.i.l
  rw [he] at hbi hbj ⊢
  exact WFQ.fairB_bound (WFQK.pos_of_cfgOK hc) hi.f i j wi wj hwi hwj hbi hbj

/-- the premise of `kernel_wfq_static_backlog_fair` is satisfiable: a burst of four unit packets at instant 1 -/
example : WFQK.BurstOK (fun _ => 1) 1 1 [(1, 0), (0, 1), (0, 2), (0, 3)] := by
  refine ⟨?_, fun _ => ⟨by norm_num, le_refl _⟩⟩
  intro x hx
  simp only [arrivalsFrom, List.mem_cons, List.not_mem_nil, or_false] at hx
  rcases hx with rfl | rfl | rfl | rfl <;> norm_num

/-- **Minimal stamp at every hand-off, on kernel states** (WFQ).  Let `s` be reachable by kernel steps and let the next
kernel step be one in which the store hands an item over (the abstraction of the state after it has a handed item `it`, the
one before has none).  Then, read from the `PriorityStore` resource of the kernel state itself: `K` handed out its least
integer `c`, `it` is the `PriorityItem` that integer stands for, exactly that integer left the store, and **no item in the
store had a smaller `(finish time, arrival instant)`**. -/
theorem wfq_on_kernel_decision (N scale F : Nat) (flow size : Int → Nat) (cfg : WfqCfg ℚ) (d1 L : Nat)
    (arrivals : List (ℚ × Int)) (hc : WFQK.CfgOK F cfg) (hg : WFQK.GridOK scale size F cfg d1 L arrivals)
    (hw : WFQK.WorkOK N size F flow cfg d1 arrivals) (fuel : Nat) (s s' : KState ℚ (WfqKSt ℚ))
    (hreach : KReach (prog F flow size cfg N scale) (fuel + 1) (initState F arrivals) s)
    (hstep : step (prog F flow size cfg N scale) (fuel + 1) s = .ok s') (it : Item ℚ)
    (hpost : (absWFQ F flow size cfg N s').handed = some it) (hpre : (absWFQ F flow size cfg N s).handed = none) :
    ∃ c, listMin (s.res pst).items = some c ∧ it = itemOf flow size N s.trace c ∧
      (s'.res pst).items = (s.res pst).items.erase c ∧
      ∀ x ∈ (s.res pst).items, it.stamp < (itemOf flow size N s.trace x).stamp ∨
        (it.stamp = (itemOf flow size N s.trace x).stamp ∧ it.arr ≤ (itemOf flow size N s.trace x).arr) := by
  obtain ⟨a, _, hi, _⟩ := WFQK.reach_lts (size := size) fuel hc hg hw hreach
  cases hp : popMin s.agenda with
  | none => simp [_root_.step, hp] at hstep
  | some qr =>
    obtain ⟨q, rest⟩ := qr
    obtain ⟨s'', a', new, h1, h2, -, h4, -⟩ := WFQK.inv_step_lts (size := size) fuel hi hp
    rw [h1] at hstep
    simp only [StepResult.ok.injEq] at hstep
    subst hstep
    rw [absWFQ_eq h2.k h2.ai h2.l] at hpost
    rw [absWFQ_eq hi.k hi.ai hi.l] at hpre
    have hmin := (min_of_pop hi.k.ag hp).1
    have hia := hi.ai.advance hmin
    have none_ne : (none : Option (Item ℚ)) ≠ some it := nofun
    -- the steps in which the store hands `run` an item
    obtain ⟨w, hw, hit, hitw⟩ :
        ∃ w, WFQK.IsLeast N scale a.items w ∧ a'.items = a.items.erase w ∧ it = WFQK.itemW size flow w := by
      cases h4 with
      | doneHit p id0 w h0 hw | pendHand g w l1 l2 hpe h0 hw => exact ⟨w, hw, rfl, (Option.some.inj hpost).symm⟩
      -- the new phase has no handed item
      | runInit h0 | pktResume g w h0 | sendInit p id h0 | sendFire p t id h0 | doneBlock p id0 h0 hit =>
        exact absurd hpost none_ne
      -- the phase of `run` stays
      | srcInit arr h0 | srcPut id arr h0 | srcEnd h0 | pendNoop l1 l2 hpe hno =>
        exact absurd (hpre.symm.trans hpost) none_ne
    have hst : (s.res pst).items = a.items.map (WFQK.codeOf N scale) := by
      show (s.res 0).items = _; rw [hi.k.st]; rfl
    have hst' : (s''.res pst).items = a'.items.map (WFQK.codeOf N scale) := by
      show (s''.res 0).items = _; rw [h2.k.st]; rfl
    obtain ⟨k1, k2, k3, k4⟩ := VCK.decision_key hia.putsOK hia.sub hw (it := WFQK.itemW size flow) (fun _ => rfl)
      (itemOf := itemOf flow size N s.trace) fun x hx => WFQK.itemOf_eq hi.l hia.putsOK hx
    rw [hst', hst, hit, hitw]
    exact ⟨_, k1, k2, k3.symm, k4⟩

/-- **Minimal stamp at every hand-off, on the LTS image** (WFQ; `C14.min_stamp_service` for kernel steps). -/
theorem kernel_wfq_min_stamp (N scale F : Nat) (flow size : Int → Nat) (cfg : WfqCfg ℚ) (d1 L : Nat)
    (arrivals : List (ℚ × Int)) (hc : WFQK.CfgOK F cfg) (hg : WFQK.GridOK scale size F cfg d1 L arrivals)
    (hw : WFQK.WorkOK N size F flow cfg d1 arrivals) (fuel : Nat) (s s' : KState ℚ (WfqKSt ℚ))
    (hreach : KReach (prog F flow size cfg N scale) (fuel + 1) (initState F arrivals) s)
    (hstep : step (prog F flow size cfg N scale) (fuel + 1) s = .ok s') (it : Item ℚ)
    (hpost : (absWFQ F flow size cfg N s').handed = some it) (hpre : (absWFQ F flow size cfg N s).handed = none) :
    it ∈ (absWFQ F flow size cfg N s).items ∧
    (absWFQ F flow size cfg N s').items.length + 1 = (absWFQ F flow size cfg N s).items.length ∧
    ∀ x ∈ (absWFQ F flow size cfg N s).items, it.stamp < x.stamp ∨ (it.stamp = x.stamp ∧ it.arr ≤ x.arr) := by
  obtain ⟨c, h1, h2, h3, h4⟩ :=
    wfq_on_kernel_decision N scale F flow size cfg d1 L arrivals hc hg hw fuel s s' hreach hstep it hpost hpre
  exact VCK.decision_items h1 h2 h3 h4

/-- **What the oracle accepts at a service start** (WFQ; `WFQOnK.ostep`, the `serve` clause spelled out): `serve id t` is accepted iff
nothing is in transmission, a hand-off is under way with candidates `l` since instant `t`, `id` is one of the candidates `w`,
**every candidate `w'` has a larger stamp than `w`, or the same stamp and no earlier arrival instant**, and `id` is the oldest
waiting packet of its flow. -/
theorem wfq_oracle_serve_iff (F : Nat) (flow size : Int → Nat) (cfg : WfqCfg ℚ) (o : OSt ℚ) (id : Int) (t : ℚ) :
    (ostep F flow size cfg o (.serve id t)).isSome ↔
      o.busy = none ∧ o.pend = none ∧ ∃ l, o.cand = some (l, t) ∧ ∃ w ∈ l, w.1 = id ∧
        (∀ w' ∈ l, w.2.1 < w'.2.1 ∨ (w.2.1 = w'.2.1 ∧ w.2.2 ≤ w'.2.2)) ∧
        ((o.waiting.filter fun y => flow y.1 = flow id).head?.map (·.1)) = some id := by
  refine (VCK.isSome_ite_iff _).trans (and_congr Option.isNone_iff_eq_none (and_congr Option.isNone_iff_eq_none ?_))
  cases o.cand with
  | none => exact ⟨False.elim, fun ⟨_, h, _⟩ => nomatch h⟩
  | some x => exact VCK.serve_clause_iff x.1 x.2 id t _ WFQOnK.keyLt fun w' w => VCK.not_keyLt_iff _ _ _ _

/-- **The history of every kernel run passes the WFQ oracle, step by step** (`WFQOnK.orun`, header of the oracle in
`Net/WFQOnK.lean`): every arrival so far saw virtual time 0 (and all finish times 0) if the scheduler was empty, else
`V + Δt/Σ weights of the active classes`, and was stamped `max(F_c, V) + 8·size/(rate·w_c)`; every hand-off took a candidate of
minimal `(stamp, arrival instant)`, the oldest of its flow; every `get` came at instant 0 or in the instant of the last
departure; every departure came exactly `8·size/rate` after its service start; at the end of every pass of the loop virtual
time had advanced by `Δt/Σw` (the departed packet's class included) and was reset to 0 with all finish times when nothing
was waiting. -/
theorem wfq_on_kernel_history_accepted (N scale F : Nat) (flow size : Int → Nat) (cfg : WfqCfg ℚ) (d1 L : Nat)
    (arrivals : List (ℚ × Int)) (hc : WFQK.CfgOK F cfg) (hg : WFQK.GridOK scale size F cfg d1 L arrivals)
    (hw : WFQK.WorkOK N size F flow cfg d1 arrivals) (fuel : Nat) (s : KState ℚ (WfqKSt ℚ))
    (hreach : KReach (prog F flow size cfg N scale) (fuel + 1) (initState F arrivals) s) :
    ∃ o, orun F flow size cfg oInit (histOf s.trace) = some o := by
  obtain ⟨a, hi⟩ := WFQK.reach_inv3 (size := size) fuel hc hg hw hreach
  obtain ⟨o, ho, -⟩ := hi.o
  exact ⟨o, ho⟩

/-- **Virtual time, stamp rule, minimal-key service, exact service times, work conservation and drain for the WFQ scheduler
as kernel processes (direct form, no admissibility assumption).**  For every number of classes `F`, every table of positive
whole weights over them, every `rate > 0` and every finite workload with non-negative gaps and packets of positive size,
`run()` of the kernel model on the spawned processes returns (agenda empty, no exception ever leaves `step()`) within
`6·n + 4` kernel steps; has handed exactly the workload to `put` (`arrivalsFrom`); has a history the oracle accepts
(`wfq_on_kernel_history_accepted`); and ends drained: nothing waits, nothing is in transmission or unbooked, and for every
flow the packets handed to `out.put` are exactly those handed to `put`, in the same order. -/
theorem wfq_on_kernel_stamp_rules (N scale F : Nat) (flow size : Int → Nat) (cfg : WfqCfg ℚ) (d1 L : Nat)
    (arrivals : List (ℚ × Int)) (hc : WFQK.CfgOK F cfg) (hg : WFQK.GridOK scale size F cfg d1 L arrivals)
    (hw : WFQK.WorkOK N size F flow cfg d1 arrivals) (hsz : ∀ id, 0 < size id) (fuel n : Nat)
    (hn : 6 * arrivals.length + 4 ≤ n) :
    ∃ sF o, runAll (prog F flow size cfg N scale) (fuel + 1) n (initState F arrivals) = .returned .none sF ∧
      sF.agenda = [] ∧ putsOf sF.trace = arrivalsFrom 0 arrivals ∧
      orun F flow size cfg oInit (histOf sF.trace) = some o ∧ drained o = true ∧
      ∀ f, ofFlow f (WFQK.outPk size flow (histOf sF.trace)) = ofFlow f (WFQK.putPk size flow (histOf sF.trace)) := by
  obtain ⟨sF, aF, h1, h2, h3, h4⟩ := WFQK.run_returns3 fuel (initState F arrivals) n _ _
    (WFQK.inv3_init (size := size) hc hg hw) (by rw [WFQK.a0_mu]; omega) KReach.init
  obtain ⟨o, g1, g2, g3, g4⟩ := WFQK.inv3_final h2 h3
  refine ⟨sF, o, h1, h3, g3, g1, g2, ?_⟩
  intro f
  have := (kernel_wfq_flow_fifo N scale F flow size cfg d1 L arrivals hc hg hw hsz fuel sF h4 f).2
  rw [absWFQ_eq h2.i.k h2.i.ai h2.i.l, g4] at this
  simpa [ofFlow] using this.symm


/-- **For all WFQ configurations and all workloads** (the encoding parameters chosen by the theorem, no grid hypothesis left):
for every table of positive whole weights over the classes `0 … F-1`, every `rate > 0` and every finite workload with gaps
`≥ 0` and packets of positive size, the program with `scale := d1Of … · LOf …` has all the properties of
`wfq_on_kernel_stamp_rules`. -/
theorem wfq_on_kernel_all_workloads (N F : Nat) (flow size : Int → Nat) (cfg : WfqCfg ℚ) (arrivals : List (ℚ × Int))
    (hc : WFQK.CfgOK F cfg) (hw : Workload N F flow arrivals) (hsz : ∀ id, 0 < size id) (fuel n : Nat)
    (hn : 6 * arrivals.length + 4 ≤ n) :
    ∃ sF o, runAll (prog F flow size cfg N (d1Of size cfg arrivals * LOf F cfg)) (fuel + 1) n (initState F arrivals) =
        .returned .none sF ∧
      sF.agenda = [] ∧ putsOf sF.trace = arrivalsFrom 0 arrivals ∧
      orun F flow size cfg oInit (histOf sF.trace) = some o ∧ drained o = true ∧
      ∀ f, ofFlow f (WFQK.outPk size flow (histOf sF.trace)) = ofFlow f (WFQK.putPk size flow (histOf sF.trace)) := by
  have hg := wfq_grid_exists size F cfg arrivals
  refine wfq_on_kernel_stamp_rules N _ F flow size cfg _ _ arrivals hc hg ⟨?_, hw.2⟩ hsz fuel n hn
  intro x hx
  obtain ⟨h1, h2, h3, h4⟩ := hw.1 x hx
  exact ⟨h1, h2, h3, h4, hg.gaps x hx, hg.tx x hx⟩


/-- **What the WFQ oracle accepts at an arrival** (`WFQOnK.ostep` at exact rational time, the virtual-time and the stamp
clause spelled out).  After `put id t` a `vtime v` observation is accepted iff `v = 0` when no packet is waiting or in
transmission, and otherwise iff `v = V + (t − last event instant) / Σ weights of the active classes` (the sum not 0); then a
`stamp x` observation is accepted iff `x = max(F_c, V) + 8·size/(rate·w_c)` for the class `c` of the packet. -/
theorem wfq_oracle_accepts_iff (F : Nat) (flow size : Int → Nat) (cfg : WfqCfg ℚ) (o : OSt ℚ) (id : Int) (t v x : ℚ) :
    (o.pend = some (id, t, false) →
      ((ostep F flow size cfg o (.vtime v)).isSome ↔
        if isEmpty o = true then v = 0
        else ∃ ws, WFQ.weightSum cfg.weights (actives F flow o) 0 = .ok ws ∧ ws ≠ 0 ∧ v = o.vt + (t - o.last) / ws)) ∧
    (o.pend = some (id, t, true) →
      ((ostep F flow size cfg o (.stamp x)).isSome ↔
        ∃ kv ∈ cfg.weights, kv.1 = flow id ∧
          x = max (o.fin (flow id)) o.vt + ((size id * 8 : ℕ) : ℚ) / (cfg.rate * kv.2))) := by
  constructor
  · intro hp
    have hiff : VtimeOK F flow cfg o t v ↔
        if isEmpty o = true then v = 0
        else ∃ ws, WFQ.weightSum cfg.weights (actives F flow o) 0 = .ok ws ∧ ws ≠ 0 ∧ v = o.vt + (t - o.last) / ws := by
      unfold VtimeOK
      by_cases he : isEmpty o = true
      · simp only [he, if_true, WFQK.eqT_iff, Stamp.zero_eq_q]
      · simp only [he, if_false, Bool.false_eq_true]
        unfold advV
        simp only [Stamp.zero_eq_q]
        cases hws : WFQ.weightSum cfg.weights (actives F flow o) 0 with
        | error e => simp
        | ok ws =>
          by_cases h0 : ws = 0
          · subst h0
            simp [Num.eqb]
          · have hb : Num.eqb ws 0 = false := by
              unfold Num.eqb
              rcases lt_or_gt_of_ne h0 with h | h <;> simp [h]
            simp only [hb, Bool.false_eq_true, if_false, WFQK.eqT_iff, Except.ok.injEq]
            constructor
            · intro h; exact ⟨ws, rfl, h0, h⟩
            · rintro ⟨ws', rfl, -, h⟩; exact h
    simp only [ostep, hp]
    exact (VCK.isSome_ite_iff _).trans hiff
  · intro hp
    have hiff : StampOK flow size cfg o id x ↔ ∃ kv ∈ cfg.weights, kv.1 = flow id ∧
        x = max (o.fin (flow id)) o.vt + ((size id * 8 : ℕ) : ℚ) / (cfg.rate * kv.2) :=
      exists_congr fun kv => and_congr_right fun _ => and_congr_right fun _ => by
        rw [WFQK.eqT_iff]
        simp only [WFQ.stampOf, Num.pymax_eq, Num.ofNat_rat]
    simp only [ostep, hp]
    exact (VCK.isSome_ite_iff _).trans hiff


/-- classes 0 and 1 with weights 1 and 3 (the `weights` dict lists class 1 first), rate 8 (a packet of size 1 is transmitted in
one time unit; it adds 1 resp. 1/3 to the finish time of its class) -/
def wcfg : WfqCfg ℚ := { rate := 8, weights := [(1, 3), (0, 1)], flow2class := [(0, 0), (1, 1)] }
def flowOfW (fl : List Nat) : Int → Nat := fun i => fl.getD i.toNat 0
def unitW : Int → Nat := fun _ => 1

/-- the hypotheses of the WFQ theorems are met by the configuration and the first workload of the examples below (weights 3 and
1, so every weight sum 1 … 4 divides `L = 12`; gaps 0, 1 and transmission time 1 lie on `ℤ/1`; `scale = 1·12`) -/
example : WFQK.CfgOK 2 wcfg ∧ WFQK.GridOK 12 unitW 2 wcfg 1 12 [(0, 0), (0, 1), (0, 2), (1, 3), (1, 4), (0, 5)] ∧
    WFQK.WorkOK 6 unitW 2 (flowOfW [0, 0, 1, 1, 1, 0]) wcfg 1 [(0, 0), (0, 1), (0, 2), (1, 3), (1, 4), (0, 5)] := by
  have g0 : WFQK.OnGrid 1 (0 : ℚ) := ⟨0, by norm_num⟩
  have g1 : WFQK.OnGrid 1 (1 : ℚ) := ⟨1, by norm_num⟩
  have gt : ∀ id : Int, WFQK.OnGrid 1 (txTime unitW wcfg.rate id) := by
    intro id
    refine ⟨1, ?_⟩
    show (Num.ofNat (unitW id * 8) : ℚ) / wcfg.rate = _
    norm_num [unitW, wcfg, Num.ofNat_rat]
  have hW : WFQK.wTotal 2 wcfg = 4 := by decide +kernel
  refine ⟨⟨by norm_num [wcfg], ?_, ?_, by decide, ?_⟩, ⟨by norm_num, by norm_num, rfl, ?_, ?_, ?_⟩, ⟨?_, by decide⟩⟩
  · intro f hf
    have : f = 0 ∨ f = 1 := by omega
    rcases this with rfl | rfl
    · exact ⟨1, by norm_num, by simp [wcfg, Stamp.lookup]⟩
    · exact ⟨3, by norm_num, by simp [wcfg, Stamp.lookup]⟩
  · intro kv hkv
    simp only [wcfg, List.mem_cons, List.not_mem_nil, or_false] at hkv
    rcases hkv with rfl | rfl <;> decide
  · intro f hf
    have : f = 0 ∨ f = 1 := by omega
    rcases this with rfl | rfl <;> rfl
  · intro k h1 h2
    rw [hW] at h2
    have : k = 1 ∨ k = 2 ∨ k = 3 ∨ k = 4 := by omega
    rcases this with rfl | rfl | rfl | rfl <;> decide
  · intro x hx
    simp only [List.mem_cons, List.not_mem_nil, or_false] at hx
    rcases hx with rfl | rfl | rfl | rfl | rfl | rfl <;> first | exact g0 | exact g1
  · intro x hx; exact gt _
  · intro x hx
    simp only [List.mem_cons, List.not_mem_nil, or_false] at hx
    rcases hx with rfl | rfl | rfl | rfl | rfl | rfl <;>
      exact ⟨by norm_num, by decide, by decide, by decide, by first | exact g0 | exact g1, gt _⟩

/-- the final state of `run()` within `n` steps (stamps and instants live on the grid `ℤ/12`) -/
def finalWfq (fl : List Nat) (n : Nat) (arr : List (ℚ × Int)) : Option (KState ℚ (WfqKSt ℚ)) :=
  finalState (runAll (prog 2 (flowOfW fl) unitW wcfg arr.length 12) 1 n (initState 2 arr))

/-- what a finished run shows: entries left in the agenda, the stamps, whether the oracle of the property accepts the history
and ends drained -/
def runWfq (fl : List Nat) (n : Nat) (arr : List (ℚ × Int)) : Option (Nat × List ℚ × Bool) :=
  (finalWfq fl n arr).map fun s =>
    (s.agenda.length, stampsOf s.trace, ((orun 2 (flowOfW fl) unitW wcfg oInit (histOf s.trace)).map drained).getD false)

/-- … the service starts and the departures -/
def runWfqT (fl : List Nat) (n : Nat) (arr : List (ℚ × Int)) : Option (List (Int × ℚ) × List (Int × ℚ)) :=
  (finalWfq fl n arr).map fun s => (servesOf s.trace, outsOf s.trace)

/-- … the virtual time at every arrival and at the end of every pass of the loop (in the order of the trace), and the final
`finish_times` -/
def runWfqV (fl : List Nat) (n : Nat) (arr : List (ℚ × Int)) : Option (List ℚ × List (Nat × ℚ)) :=
  (finalWfq fl n arr).map fun s => (vtimesOf s.trace, (absWFQ 2 (flowOfW fl) unitW wcfg arr.length s).sch.finish)

/-- packets 0, 1 (class 0: stamps 1, 2) and 2 (class 1: stamp 1/3) arrive at 0, packets 3, 4 (class 1: 2/3, 1) at 1 and 2 —
exactly when transmissions end —, packet 5 (class 0) at 2.  The first packet is handed over at once; then stamp order: 2
(1/3), 3 (2/3, arrived at 1 *before* the server asked again at 1), 4 (1), 1 (2), 5 (3); back to back, one time unit each.
Virtual time advances by 1/4 per time unit while both classes are active, by 1 when only class 0 is, and is back at 0 with
all finish times when the last packet has left -/
example : runWfq [0, 0, 1, 1, 1, 0] 80 [(0, 0), (0, 1), (0, 2), (1, 3), (1, 4), (0, 5)] =
      some (0, [1, 2, 1/3, 2/3, 1, 3], true) ∧
    runWfqT [0, 0, 1, 1, 1, 0] 80 [(0, 0), (0, 1), (0, 2), (1, 3), (1, 4), (0, 5)] =
      some ([(0, 0), (2, 1), (3, 2), (4, 3), (1, 4), (5, 5)], [(0, 1), (2, 2), (3, 3), (4, 4), (1, 5), (5, 6)]) ∧
    runWfqV [0, 0, 1, 1, 1, 0] 80 [(0, 0), (0, 1), (0, 2), (1, 3), (1, 4), (0, 5)] =
      some ([0, 0, 0, 1/4, 1/4, 1/2, 1/2, 1/2, 3/4, 1, 2, 0], [(1, 0), (0, 0)]) := by
  decide +kernel

/-- … and every kernel step of that run (39 of them) is an action sequence the StampServer LTS with the WFQ record accepts
between the abstractions of the two states (`refineCheck` replays the inferred actions through `Stamp.step (WFQ.sched cfg)` and
compares with `absWFQ`) -/
example : refineCheck 2 (flowOfW [0, 0, 1, 1, 1, 0]) unitW wcfg 6 12 80
    (initState 2 [(0, 0), (0, 1), (0, 2), (1, 3), (1, 4), (0, 5)]) 0 = some 39 := by
  decide +kernel

/-- the bound `6·n + 4` of `wfq_on_kernel_run_returns` is exact for that workload (`n = 6`): `run()` has not returned after 39
iterations and has after 40 -/
example : (finalWfq [0, 0, 1, 1, 1, 0] 39 [(0, 0), (0, 1), (0, 2), (1, 3), (1, 4), (0, 5)]).isNone = true ∧
    (finalWfq [0, 0, 1, 1, 1, 0] 40 [(0, 0), (0, 1), (0, 2), (1, 3), (1, 4), (0, 5)]).isSome = true := by
  decide +kernel

/-- a burst on the kernel (the setting of `kernel_wfq_static_backlog_fair`): packets 0 (class 0, stamp 1), 1, 2 (class 1, stamps
1/3, 2/3) and 3 (class 0, stamp 2) all arrive at instant 1.  Packet 0 is handed to the blocked loop before packet 1 has arrived
and is served first, 1→2, although packets 1 and 2 carry smaller stamps; then stamp order: 1, 2, 3 -/
example : runWfq [0, 1, 1, 0] 80 [(1, 0), (0, 1), (0, 2), (0, 3)] = some (0, [1, 1/3, 2/3, 2], true) ∧
    runWfqT [0, 1, 1, 0] 80 [(1, 0), (0, 1), (0, 2), (0, 3)] =
      some ([(0, 1), (1, 2), (2, 3), (3, 4)], [(0, 2), (1, 3), (2, 4), (3, 5)]) := by
  decide +kernel

/-- a busy period that ends and restarts: packets 0 (class 0) and 1 (class 1) arrive at 1, packet 2 (class 0, stamp 2) at 3/2;
they leave at 2, 3, 4 and the loop resets virtual time and the finish times at 4.  Packet 3 (class 1) arrives at 13/2: virtual
time 0, and its stamp is 1/3 again — as for packet 1 —, packet 4 (class 0) at 7: virtual time (1/2)/3 = 1/6, stamp 7/6 -/
example : runWfq [0, 1, 0, 1, 0] 80 [(1, 0), (0, 1), (1/2, 2), (5, 3), (1/2, 4)] = some (0, [1, 1/3, 2, 1/3, 7/6], true) ∧
    runWfqT [0, 1, 0, 1, 0] 80 [(1, 0), (0, 1), (1/2, 2), (5, 3), (1/2, 4)] =
      some ([(0, 1), (1, 2), (2, 3), (3, 13/2), (4, 15/2)], [(0, 2), (1, 3), (2, 4), (3, 15/2), (4, 17/2)]) ∧
    runWfqV [0, 1, 0, 1, 0] 80 [(1, 0), (0, 1), (1/2, 2), (5, 3), (1/2, 4)] =
      some ([0, 0, 1/8, 1/4, 1/2, 0, 0, 1/6, 7/24, 0], [(1, 0), (0, 0)]) := by
  decide +kernel

example : refineCheck 2 (flowOfW [0, 1, 0, 1, 0]) unitW wcfg 5 12 80
    (initState 2 [(1, 0), (0, 1), (1/2, 2), (5, 3), (1/2, 4)]) 0 = some 33 := by
  decide +kernel

/-- equal stamps, different instants: packet 0 (class 0) is served 0→1; packet 1 (class 0, stamp 2) arrives at 1/4, packets
2, 3, 4, 5 (class 1) at 2/3, when virtual time is 2/3: stamps 1, 4/3, 5/3, 2.  Packets 1 and 5 carry the stamp 2, the earlier
arrival (1) goes first -/
example : runWfq [0, 0, 1, 1, 1, 1] 80 [(0, 0), (1/4, 1), (5/12, 2), (0, 3), (0, 4), (0, 5)] =
      some (0, [1, 2, 1, 4/3, 5/3, 2], true) ∧
    runWfqT [0, 0, 1, 1, 1, 1] 80 [(0, 0), (1/4, 1), (5/12, 2), (0, 3), (0, 4), (0, 5)] =
      some ([(0, 0), (2, 1), (3, 2), (4, 3), (1, 4), (5, 5)], [(0, 1), (2, 2), (3, 3), (4, 4), (1, 5), (5, 6)]) ∧
    refineCheck 2 (flowOfW [0, 0, 1, 1, 1, 1]) unitW wcfg 6 12 80
      (initState 2 [(0, 0), (1/4, 1), (5/12, 2), (0, 3), (0, 4), (0, 5)]) 0 = some 39 := by
  -- as for VC: with `arr.length` as the numeral given to `refineCheck`, run and replay share their kernel steps
  simp only [runWfq, runWfqT, finalWfq, List.length_cons, List.length_nil, Nat.reduceAdd]
  decide +kernel

/-- the oracle is not vacuous.  Packet 0 (class 0) arrives at 0 and is served at once; 1 (class 0, stamp 2) and 2 (class 1,
stamp 1/2 + 1/3) arrive at 1/2, when virtual time is 1/2.  Serving 2 at 1 is accepted (virtual time 5/8 at 1, 7/8 at 2, reset
at 3); serving 1 at 1 is rejected (2 has the smaller stamp); a wrong stamp is rejected; a service that starts late is
rejected; a departure later than `start + 8·size/rate` is rejected; a virtual time that has not advanced at an arrival is
rejected; a virtual time that is not reset at the end of the busy period is rejected. -/
example : (orun 2 (flowOfW [0, 0, 1]) unitW wcfg oInit
      [.get 0, .put 0 0, .vtime 0, .stamp 1, .serve 0 0, .put 1 (1/2), .vtime (1/2), .stamp 2, .put 2 (1/2), .vtime (1/2),
       .stamp (5/6), .out 0 1, .done (5/8), .get 1, .serve 2 1, .out 2 2, .done (7/8), .get 2, .serve 1 2, .out 1 3, .done 0,
       .get 3]).isSome = true ∧
    (orun 2 (flowOfW [0, 0, 1]) unitW wcfg oInit
      [.get 0, .put 0 0, .vtime 0, .stamp 1, .serve 0 0, .put 1 (1/2), .vtime (1/2), .stamp 2, .put 2 (1/2), .vtime (1/2),
       .stamp (5/6), .out 0 1, .done (5/8), .get 1, .serve 1 1]).isNone = true ∧
    (orun 2 (flowOfW [0, 0, 1]) unitW wcfg oInit [.get 0, .put 0 0, .vtime 0, .stamp 2]).isNone = true ∧
    (orun 2 (flowOfW [0, 0, 1]) unitW wcfg oInit [.get 0, .put 0 0, .vtime 0, .stamp 1, .serve 0 1]).isNone = true ∧
    (orun 2 (flowOfW [0, 0, 1]) unitW wcfg oInit [.get 0, .put 0 0, .vtime 0, .stamp 1, .serve 0 0, .out 0 2]).isNone = true ∧
    (orun 2 (flowOfW [0, 0, 1]) unitW wcfg oInit
      [.get 0, .put 0 0, .vtime 0, .stamp 1, .serve 0 0, .put 1 (1/2), .vtime 0]).isNone = true ∧
    (orun 2 (flowOfW [0, 0, 1]) unitW wcfg oInit
      [.get 0, .put 0 0, .vtime 0, .stamp 1, .serve 0 0, .out 0 1, .done 1]).isNone = true := by
  decide +kernel


end WFQ

end C14K
