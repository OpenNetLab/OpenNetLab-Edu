import OnlVerif.Lemmas.GenKernelRes7
/-!
# KernelGen07 - containers and stores *as written in the source* are the kernel model `K` (C07)

One of the bridge modules `Props/KernelGen*.lean`, one per owning property (`py2lean/SCOPE.md`): `py2lean/kernel.py`
regenerates the `Generated/Kernel*.lean` files named in the imports from `onl/sim` on every `./check` of the owning property, and the
theorems below (bridge theorems) prove that the generated definitions coincide with the functions of the hand-written kernel
model `K` (`Kernel/Agenda.lean`, `Ops.lean`, `Step.lean`) that the property theorems are about.  A flipped comparison, a changed
constant, priority or refusal, a lost or reordered effect in the source changes a generated definition and one of these proofs
no longer compiles - for every input, not for sampled ones.  Here: `canPut` / `applyPut` (= `doPut`), `getItem` / `takeOut` (= `doGet`), the `amount <= 0` refusal of `Container`, `Store`, `PriorityStore`, `FilterStore` (C07).

The encoding between the generated object views and the model state is explicit and hand-written
(`OnlVerif/Lemmas/GenKernelDefs.lean`: `resObj`, `runEff`, `buildEvent`, `applyTrig`, `toEntry`; the `run…` functions next to the
lemmas).  All statements hold for every scalar type `τ` (no arithmetic identity is used), in particular for `ℚ` and `Float`.
This module imports no generated file of another property.
-/

namespace KernelGen
open GenKernel
variable {τ σ : Type} [Num τ]

/-! ## containers and stores (C07) -/

/-- **`Container._do_put` as written in the source is the model's `doPut`**: guard `capacity - level >= amount`
(`canPut`), `level += amount`, `succeed()`. -/
theorem container_do_put_generated_eq_model (s : KState τ σ) (r : ResId) (e : EvId) (hk : (s.res r).kind = .container) :
    runContainerPut { r := r, e := e } s = some (doPut s r e) := by
  have hc : canPut s r e = (match (s.res r).capacity with
      | none => true | some c => decide ((reqOf s e).amount ≤ (c : Int) - (s.res r).level)) := by
    unfold canPut; dsimp only; rw [hk]; rfl
  rw [doPut_of_ne s r e (by rw [hk]; rfl), hc]
  unfold runContainerPut Gen.Container.do_put
  dsimp only
  by_cases h : (match (s.res r).capacity with
      | none => true | some c => decide ((reqOf s e).amount ≤ (c : Int) - (s.res r).level)) = true
  · have h' : ExtInt.fin (reqOf s e).amount ≤ ExtInt.subInt (contObj (τ := τ) (s.res r)).capacity (contObj (τ := τ) (s.res r)).level :=
      (fin_le_sub_capOf _ _ _).2 h
    rw [if_pos h', if_pos h]
    unfold applyPut
    dsimp only; rw [hk]; rfl
  · have h' : ¬ ExtInt.fin (reqOf s e).amount ≤ ExtInt.subInt (contObj (τ := τ) (s.res r)).capacity (contObj (τ := τ) (s.res r)).level :=
      mt (fin_le_sub_capOf _ _ _).1 h
    rw [if_neg h', if_neg h]
    rfl

/-- **`Container._do_get` as written in the source is the model's `doGet`**: guard `level >= amount` (`getItem`),
`level -= amount` (`takeOut`), `succeed()`. -/
theorem container_do_get_generated_eq_model (s : KState τ σ) (r : ResId) (e : EvId) (hk : (s.res r).kind = .container) :
    runContainerGet { r := r, e := e } s = some (doGet s r e) := by
  unfold doGet getItem runContainerGet Gen.Container.do_get
  dsimp only
  rw [hk]
  dsimp only
  by_cases h : (reqOf s e).amount ≤ (s.res r).level
  · have h' : (reqOf s e).amount ≤ (contObj (τ := τ) (s.res r)).level := h
    rw [if_pos h', if_pos h]
    unfold takeOut
    dsimp only; rw [hk]; rfl
  · have h' : ¬ (reqOf s e).amount ≤ (contObj (τ := τ) (s.res r)).level := h
    rw [if_neg h', if_neg h]
    rfl

/-- **the `amount <= 0` refusal of `ContainerPut.__init__` / `ContainerGet.__init__` is the guard of the model's `cput` /
`cget` calls**: the call ends with `ValueError` exactly when the translated constructor raises, otherwise the request is
built (`mkPut` / `mkGet`) with the amount the constructor stored. -/
theorem container_amount_guard_generated_eq_model (s : KState τ σ) (self : EvId) (r : ResId) (amount : Int)
    (hk : (s.res r).kind = .container) :
    doCall s self (.cput r amount) =
      (if (Gen.ContainerPut.init (reqObj (τ := τ)) amount).raised = 2 then (s, .err (valueErr "amount must be > 0"))
       else match initAmount (Gen.ContainerPut.init (reqObj (τ := τ)) amount).eff with
         | some a => ((mkPut s r { res := r, amount := a, time := s.now, proc := s.active }).1,
                      .ev (mkPut s r { res := r, amount := a, time := s.now, proc := s.active }).2)
         | none => (s, .unit)) ∧
    doCall s self (.cget r amount) =
      (if (Gen.ContainerGet.init (reqObj (τ := τ)) amount).raised = 2 then (s, .err (valueErr "amount must be > 0"))
       else match initAmount (Gen.ContainerGet.init (reqObj (τ := τ)) amount).eff with
         | some a => ((mkGet s r { res := r, amount := a, time := s.now, proc := s.active }).1,
                      .ev (mkGet s r { res := r, amount := a, time := s.now, proc := s.active }).2)
         | none => (s, .unit)) := by
  unfold Gen.ContainerPut.init Gen.ContainerGet.init
  simp only [doCall, hk]
  by_cases h : amount ≤ 0
  · rw [if_pos h, if_pos h, if_pos h]; exact ⟨rfl, rfl⟩
  · rw [if_neg h, if_neg h, if_neg h]; exact ⟨rfl, rfl⟩

/-- **`Store._do_put` / `_do_get` as written in the source are the model's `doPut` / `doGet`** (`Store`; `FilterStore`
inherits `_do_put`): `len(items) < capacity`, `items.append(item)`, `succeed()`; `if items: succeed(items.pop(0))`. -/
theorem store_generated_eq_model (s : KState τ σ) (r : ResId) (e : EvId) :
    ((s.res r).kind = .store ∨ (s.res r).kind = .fstore → runStorePut { r := r, e := e } s = some (doPut s r e)) ∧
    ((s.res r).kind = .store → runStoreGet { r := r, e := e } s = some (doGet s r e)) := by
  refine ⟨fun hk => ?_, fun hk => ?_⟩
  · have hc : canPut s r e = hasRoom (s.res r).capacity (s.res r).items.length := by
      unfold canPut; dsimp only; rcases hk with h | h <;> rw [h] <;> rfl
    rw [doPut_of_ne s r e (by rcases hk with h | h <;> rw [h] <;> rfl), hc]
    unfold runStorePut Gen.Store.do_put
    simp only [resObj, fin_lt_capOf]
    cases hasRoom (s.res r).capacity (s.res r).items.length
    · rfl
    · unfold applyPut
      rcases hk with hk | hk <;> (dsimp only; rw [hk]; rfl)
  · unfold doGet getItem runStoreGet Gen.Store.do_get
    dsimp only
    rw [hk]
    dsimp only
    cases hi : (s.res r).items with
    | nil => rfl
    | cons x rest => simp [finish, runEff, applyEff, takeOut, hk, hi, resObj]

/-- **`PriorityStore._do_put` / `_do_get` as written in the source are the model's `doPut` / `doGet`**: same guards;
`heappush` / `heappop` are effects whose meaning (bag + minimum, `listMin`) is hand-modelled. -/
theorem priority_store_generated_eq_model (s : KState τ σ) (r : ResId) (e : EvId) (hk : (s.res r).kind = .pstore) :
    runPStorePut { r := r, e := e } s = some (doPut s r e) ∧ runPStoreGet { r := r, e := e } s = some (doGet s r e) := by
  constructor
  · have hc : canPut s r e = hasRoom (s.res r).capacity (s.res r).items.length := by
      unfold canPut; dsimp only; rw [hk]
    rw [doPut_of_ne s r e (by rw [hk]; rfl), hc]
    unfold runPStorePut Gen.PriorityStore.do_put
    simp only [resObj, fin_lt_capOf]
    cases hasRoom (s.res r).capacity (s.res r).items.length
    · rfl
    · unfold applyPut
      dsimp only; rw [hk]; rfl
  · unfold doGet getItem runPStoreGet Gen.PriorityStore.do_get
    dsimp only
    rw [hk]
    dsimp only
    cases hm : listMin (s.res r).items with
    | none =>
      have := listMin_eq_none _ hm
      rw [this]; rfl
    | some x =>
      have hne : (s.res r).items ≠ [] := by
        intro h; rw [h] at hm; cases hm
      simp [finish, runEff, applyEff, takeOut, hk, hm, hne, resObj]

/-- **`FilterStore._do_get` as written in the source is the model's `doGet`**: the first item that passes the filter is
removed and handed out (the loop shape is a landmark), and the method always returns `True` - a getter whose filter
matches nothing does not stop the scan. -/
theorem filter_store_generated_eq_model (s : KState τ σ) (r : ResId) (e : EvId) (hk : (s.res r).kind = .fstore) :
    runFStoreGet { r := r, e := e, m := (s.res r).items.find? (filterOk (reqOf s e).filter) } s = some (doGet s r e) := by
  unfold doGet getItem runFStoreGet Gen.FilterStore.do_get
  dsimp only
  rw [hk]
  dsimp only
  cases hm : (s.res r).items.find? (filterOk (reqOf s e).filter) with
  | none => rfl
  | some x => unfold takeOut; dsimp only; rw [hk]; rfl

/-- **the guards of the `_do_put` methods as written in the source are the model's `canPut`**, class by class: the bool a
translated `_do_put` returns in state `s` is `canPut s r e` (`Container`: `capacity - level >= amount`; the stores:
`len(items) < capacity`).  (The `Resource` conjunct of the former four-part statement is
`KernelGen.resource_put_guard_generated_eq_model` in `Props/KernelGen06.lean`.) -/
theorem put_guards_generated_eq_model (s : KState τ σ) (r : ResId) (e : EvId) :
    ((s.res r).kind = .container →
      (Gen.Container.do_put (contObj (τ := τ) (s.res r)) (reqOf s e).amount).ret = canPut s r e) ∧
    ((s.res r).kind = .store ∨ (s.res r).kind = .fstore →
      (Gen.Store.do_put (resObj (τ := τ) (s.res r)) (s.res r).items.length).ret = canPut s r e) ∧
    ((s.res r).kind = .pstore →
      (Gen.PriorityStore.do_put (resObj (τ := τ) (s.res r)) (s.res r).items.length).ret = canPut s r e) :=
  ⟨fun hk => ret_of_put_run (by rw [hk]; rfl) (container_do_put_generated_eq_model s r e hk),
   fun hk => ret_of_put_run (by rcases hk with h | h <;> rw [h] <;> rfl) ((store_generated_eq_model s r e).1 hk),
   fun hk => ret_of_put_run (by rw [hk]; rfl) (priority_store_generated_eq_model s r e hk).1⟩

/-! ## non-vacuity: the generated definitions on concrete objects -/

/-- a container of capacity 5 holding 3 accepts 2 and refuses 3; an unbounded one accepts anything -/
example : (Gen.Container.do_put (contObj (τ := Rat) { kind := .container, capacity := some 5, level := 3 }) 2).ret = true ∧
    (Gen.Container.do_put (contObj (τ := Rat) { kind := .container, capacity := some 5, level := 3 }) 3).ret = false ∧
    (Gen.Container.do_put (contObj (τ := Rat) { kind := .container, capacity := none, level := 3 }) 1000).ret = true := by
  decide

end KernelGen
