import OnlVerif.Lemmas.TimerKAbsFun
import OnlVerif.Lemmas.TimerKTerm
/-!
# C19 on the kernel: the Timer *as processes on the kernel model* refines its LTS and fires exactly when prescribed

`OnlVerif/Util/TimerOnK.lean` writes `Timer.run`, `Timer.stop`, `Timer.restart` and a controller process
(`yield env.timeout(gap); timer.stop() | timer.restart(τ)` for every entry of a script) as a program of the kernel
model `K` (`OnlVerif/Kernel`); the callback is the observation `fire`, and it may itself call `stop()`/`restart(τ)` on
its timer (`cbs`: what the 1st, 2nd, … invocation does).  Here nothing is assumed about scheduling: `Environment.step`
of the kernel model decides what runs when, `Process.interrupt` is the kernel's `Interruption`, and `restart`'s two
guards (`active_process is self.proc`, `self.proc.is_alive`) are evaluated by the kernel model's own tests.  The
theorems close the gap DESIGN §2.3 names for this device: every kernel step of this program is a (possibly empty)
sequence of actions the Timer LTS (`OnlVerif/Util/Timer.lean`) *accepts*, so the admissibility rules of the LTS (URGENT
events — process starts, interrupts — before any timeout of the instant and before the clock moves; a wake exactly at
its due instant) are consequences of the kernel model, and the C19 theorems hold of kernel runs.

Scope: one timer created at instant 0 with a positive `timeout`, one-shot or auto-restart, a scalar argument; one
controller process created after the timer or (`ctlFirst`) before it, which makes one call per resumption, with
non-negative gaps (zero gaps and gaps that hit an expiry instant exactly — on either side of the wake-up — included) and
positive `restart` arguments; callback scripts with positive `restart` arguments; exact rational time; `fuel + 1` = any
positive bound of the `_resume` loop.
-/

namespace C19K
open TimerOnK TimerK
open Timer (CbOp)

/-- **Refinement, step by step**: let `s` be reachable by kernel steps from the initial state and let the next
kernel step end in `s'`.  Then that step is a normal one (`.ok`: no exception, no stop), and there is a (possibly
empty) sequence of LTS actions that the Timer LTS *accepts* from the abstraction of `s`, that ends exactly in the
abstraction of `s'` (the step commutes with the executable abstraction function `absTimer`), and whose callback
invocations are exactly the `fire` observations the kernel step appended to the trace. -/
theorem timer_on_kernel_step_refines (auto : Bool) (arg : Int) (cbs : List (Option (CbOp ℚ))) (ctlFirst : Bool) (T : ℚ)
    (script : List (ℚ × CbOp ℚ)) (hT : 0 < T) (hsc : ScriptOK script) (hcbs : CbsOK cbs) (fuel : Nat)
    (s s' : KState ℚ (TSt ℚ)) (hreach : KReach (body auto arg cbs) (fuel + 1) (initState ctlFirst T script) s)
    (hstep : (step (body auto arg cbs) (fuel + 1) s).state? = some s') :
    step (body auto arg cbs) (fuel + 1) s = .ok s' ∧
    ∃ acts new, Timer.run (absTimer auto arg s) acts = .ok (absTimer auto arg s') (new.map fun t => Timer.Out.fire t [arg]) ∧
      firesOf s'.trace = firesOf s.trace ++ new := by
  obtain ⟨a, _, hi, _⟩ := reach_inv (arg := arg) hcbs fuel ctlFirst script hT hsc hreach
  cases hp : popMin s.agenda with
  | none => simp [step, hp, StepResult.state?] at hstep
  | some qr =>
    obtain ⟨q, rest⟩ := qr
    obtain ⟨s'', a', new, h1, h2, -, h4, acts, h6⟩ := inv_step (arg := arg) hcbs fuel hi hp
    rw [h1] at hstep
    simp only [StepResult.state?, Option.some.injEq] at hstep
    subst hstep
    refine ⟨h1, acts, firesH new, ?_, ?_⟩
    · rw [absTimer_eq hi.k, absTimer_eq h2.k, ← outsOfH_eq]; exact h6
    · rw [firesOf_eq, firesOf_eq, h4, firesH_append]

/-- a reachable state in the middle of a run (after 3 kernel steps: the controller has just restarted the timer at
t = 1/2; the interrupt is on its way to the first process, the second has not started): the abstraction function gives
an LTS state with a sleeping and a not-started process and both URGENT events queued -/
example : (match runAll (body false 7 ([] : List (Option (CbOp ℚ)))) 1 3 (initState false (1 : ℚ) [(1/2, .restart 2)]) with
    | .outOfFuel s => some ((absTimer false 7 s).now, (absTimer false 7 s).expire, (absTimer false 7 s).procs.length,
        (absTimer false 7 s).proc, (absTimer false 7 s).uq)
    | _ => none) = some (1/2, 5/2, 2, 1, [.intr 0, .init 1]) := by
  decide +kernel

/-- **Refinement, whole runs**: every state reachable by kernel steps is the image of an *admissible* run of the
Timer LTS from the state the constructor builds (`Timer.create 0 T auto (scalar arg)`): the LTS accepts some action
sequence that ends in `absTimer s` and in which the callback invocations are the `fire` observations of the kernel
trace, in order, each with the constructor's argument. -/
theorem timer_on_kernel_refines_lts (auto : Bool) (arg : Int) (cbs : List (Option (CbOp ℚ))) (ctlFirst : Bool) (T : ℚ)
    (script : List (ℚ × CbOp ℚ)) (hT : 0 < T) (hsc : ScriptOK script) (hcbs : CbsOK cbs) (fuel : Nat)
    (s : KState ℚ (TSt ℚ)) (hreach : KReach (body auto arg cbs) (fuel + 1) (initState ctlFirst T script) s) :
    ∃ s0 acts, Timer.create (0 : ℚ) T auto (.scalar arg) = .ok s0 ∧
      Timer.run s0 acts = .ok (absTimer auto arg s) ((firesOf s.trace).map fun t => Timer.Out.fire t [arg]) := by
  obtain ⟨a, acts, hi, hrun⟩ := reach_inv (arg := arg) hcbs fuel ctlFirst script hT hsc hreach
  refine ⟨lts0 auto arg T, acts, create_lts0 auto arg hT, ?_⟩
  rw [absTimer_eq hi.k, firesOf_eq, ← outsOfH_eq]; exact hrun

/-- what the invariant says about the oracle: the history is accepted, nothing is overdue, nothing is pending once the
agenda is empty -/
theorem oracle_of_inv {auto : Bool} {cbs : List (Option (CbOp ℚ))} {T : ℚ} {s : KState ℚ (TSt ℚ)} {a : A}
    (hi : Inv auto cbs T s a) :
    ∃ o, orun auto cbs (o0 T) (histOf s.trace) = some o ∧ (∀ e, o.pending = some e → s.now ≤ e) ∧
      (s.agenda = [] → o.pending = none) := by
  refine ⟨oOf a, hi.a.orc, hi.a.pending_le, fun hag => ?_⟩
  · have h := hi.k.ag
    rw [hag] at h
    have hent : a.entries = [] := List.Perm.eq_nil h.symm
    simp only [A.entries, List.append_eq_nil_iff] at hent
    unfold oOf
    cases hph : a.ph with
    | init q0 => simp [hph, TPhase.entries] at hent
    | sleep t q0 => simp [hph, TPhase.entries] at hent
    | dead => simp

/-- **The callback fires exactly at the instants the property prescribes, and the run never crashes.**  For every
positive `timeout`, one-shot or auto-restart, every finite controller script with non-negative gaps and positive
`restart` arguments (calls exactly at an expiry instant included, before the wake-up as well as after it), every callback
script, and both creation orders: at every state `s` reachable by kernel steps

* the next `Environment.step` of the kernel model processes an event normally (`.ok`) or finds the agenda empty: no
  exception ever leaves `step()` (in particular none of the kernel's refusals "process has terminated" / "a process is not
  allowed to interrupt itself");
* the call/fire history recorded in the trace passes the C19 oracle `TimerOnK.ostep` from the state of a fresh timer:
  every callback invocation happened *exactly* at the pending instant — `0 + timeout` first; `timeout` after the previous
  firing for an auto-restart timer; `r + τ` after a `restart(τ)` at `r` on a pending timer or from the callback — none after
  a `stop()`, and no call found a prescribed firing overdue;
* nothing prescribed is overdue now (`pending ≥ now`), and once the agenda is empty nothing is pending at all. -/
theorem timer_on_kernel_fire_instants (auto : Bool) (arg : Int) (cbs : List (Option (CbOp ℚ))) (ctlFirst : Bool) (T : ℚ)
    (script : List (ℚ × CbOp ℚ)) (hT : 0 < T) (hsc : ScriptOK script) (hcbs : CbsOK cbs) (fuel : Nat)
    (s : KState ℚ (TSt ℚ)) (hreach : KReach (body auto arg cbs) (fuel + 1) (initState ctlFirst T script) s) :
    ((∃ s', step (body auto arg cbs) (fuel + 1) s = .ok s') ∨ step (body auto arg cbs) (fuel + 1) s = .empty) ∧
    ∃ o, orun auto cbs (o0 T) (histOf s.trace) = some o ∧ (∀ e, o.pending = some e → s.now ≤ e) ∧
      (s.agenda = [] → o.pending = none) := by
  obtain ⟨a, _, hi, _⟩ := reach_inv (arg := arg) hcbs fuel ctlFirst script hT hsc hreach
  refine ⟨?_, oracle_of_inv hi⟩
  cases hp : popMin s.agenda with
  | none => right; simp [step, hp]
  | some qr =>
    obtain ⟨q, rest⟩ := qr
    obtain ⟨s', _, _, h1, _⟩ := inv_step (arg := arg) hcbs fuel hi hp
    exact Or.inl ⟨s', h1⟩

/-- the states the `while True: self.step()` loop of `run()` goes through are reachable -/
theorem runLoop_reach {body : TSt ℚ → Resume → Burst ℚ (TSt ℚ)} {fuel : Nat} {s0 : KState ℚ (TSt ℚ)}
    (hok : ∀ s, KReach body fuel s0 s → (∃ s', step body fuel s = .ok s') ∨ step body fuel s = .empty) :
    ∀ (n : Nat) (s : KState ℚ (TSt ℚ)), KReach body fuel s0 s →
      ∃ s', lastState (runLoop body fuel none n s) = some s' ∧ KReach body fuel s0 s'
  | 0, s, h => ⟨s, rfl, h⟩
  | n + 1, s, h => by
    rcases hok s h with ⟨s', hs⟩ | hs
    · have := runLoop_reach hok n s' (KReach.step h (by rw [hs]; rfl))
      simpa [runLoop, hs] using this
    · exact ⟨s, by simp [runLoop, hs, lastState], h⟩

/-- **… as a statement about `run()`**: whatever step budget `n` the loop of `run()` is given, it raises nothing, and
the call/fire history of the state it has reached passes the C19 oracle with nothing overdue. -/
theorem timer_on_kernel_run_fire_instants (auto : Bool) (arg : Int) (cbs : List (Option (CbOp ℚ))) (ctlFirst : Bool)
    (T : ℚ) (script : List (ℚ × CbOp ℚ)) (hT : 0 < T) (hsc : ScriptOK script) (hcbs : CbsOK cbs) (fuel n : Nat) :
    ∃ s o, lastState (runAll (body auto arg cbs) (fuel + 1) n (initState ctlFirst T script)) = some s ∧
      orun auto cbs (o0 T) (histOf s.trace) = some o ∧ (∀ e, o.pending = some e → s.now ≤ e) ∧
      (s.agenda = [] → o.pending = none) := by
  obtain ⟨s, h1, h2⟩ := runLoop_reach
    (fun s hs => (timer_on_kernel_fire_instants auto arg cbs ctlFirst T script hT hsc hcbs fuel s hs).1) n _ KReach.init
  obtain ⟨-, o, h3, h4, h5⟩ := timer_on_kernel_fire_instants auto arg cbs ctlFirst T script hT hsc hcbs fuel s h2
  exact ⟨s, o, h1, h3, h4, h5⟩

/-- **A one-shot timer's run ends, and by then everything prescribed has happened.**  With `auto_restart = False`, for
every controller script and callback script as above, `run()` of the kernel model returns (agenda empty, no exception)
within `6·(calls of the controller) + (length of the callback script) + 6` kernel steps; the call/fire history of the
final trace passes the C19 oracle and leaves nothing pending: every prescribed firing has taken place, exactly at its
instant, and there was no other. -/
theorem timer_on_kernel_one_shot_returns (arg : Int) (cbs : List (Option (CbOp ℚ))) (ctlFirst : Bool) (T : ℚ)
    (script : List (ℚ × CbOp ℚ)) (hT : 0 < T) (hsc : ScriptOK script) (hcbs : CbsOK cbs) (fuel n : Nat)
    (hn : 6 * script.length + cbs.length + 6 ≤ n) :
    ∃ sF o, runAll (body false arg cbs) (fuel + 1) n (initState ctlFirst T script) = .returned .none sF ∧ sF.agenda = [] ∧
      orun false cbs (o0 T) (histOf sF.trace) = some o ∧ o.pending = none := by
  have h0 : Inv false cbs T (initState ctlFirst T script) (a0 ctlFirst T script) := inv_init ctlFirst script hT hsc
  have hmu : (a0 ctlFirst T script).mu cbs.length < n := by
    cases ctlFirst <;> simp [A.mu, a0, TPhase.mu, CPhase.mu, oldStat] <;> omega
  obtain ⟨sF, aF, h1, h2, h3⟩ := run_returns_oneshot (arg := arg) hcbs fuel n _ _ h0 hmu
  obtain ⟨o, h4, -, h6⟩ := oracle_of_inv h2
  exact ⟨sF, o, h1, h3, h4, h6 h3⟩

/-! ### what acceptance by the oracle means, clause by clause -/

/-- what an accepted call leaves behind -/
theorem ostep_call_some {auto : Bool} {cbs : List (Option (CbOp ℚ))} {o o2 : OSt ℚ} {t : ℚ} {op : CbOp ℚ}
    (h : ostep auto cbs o (.call t op) = some o2) :
    match op with
    | .stop => o2.pending = none ∧ o2.stopped = true
    | .restart tau => (o.pending = none → o2.pending = none ∧ o2.stopped = o.stopped) ∧
        (∀ e, o.pending = some e → o2.pending = some (t + tau)) := by
  have hnm : ∀ e, o.pending = some e → t ≤ e := by
    intro e he
    by_contra hc
    have : ostep auto cbs o (.call t op) = none := by
      simp [ostep, he, not_le.mp hc]
    rw [this] at h; cases h
  rw [ostep_call o t op hnm] at h
  simp only [Option.some.injEq] at h
  subst h
  cases op with
  | stop => exact ⟨rfl, rfl⟩
  | restart tau =>
    refine ⟨fun hp => ?_, fun e he => ?_⟩
    · simp [hp]
    · simp [he]

/-- a firing is accepted only at the pending instant -/
theorem ostep_fire_some {auto : Bool} {cbs : List (Option (CbOp ℚ))} {o o2 : OSt ℚ} {f : ℚ}
    (h : ostep auto cbs o (.fire f) = some o2) : o.pending = some f := by
  cases hp : o.pending with
  | none => simp [ostep, hp] at h
  | some e =>
    by_cases he : Num.eqb e f = true
    · rw [(Num.eqb_iff _ _).mp he]
    · simp [ostep, hp, he] at h

/-- once nothing is pending nothing fires any more, whatever is called -/
theorem oracle_quiet_of_not_pending {auto : Bool} {cbs : List (Option (CbOp ℚ))} :
    ∀ (h : List (HEv ℚ)) (o o' : OSt ℚ), o.pending = none → o.stopped = true ∨ auto = false →
      orun auto cbs o h = some o' → firesH h = [] ∧ o'.pending = none
  | [], o, o', hp, _, hr => by
    simp only [orun, Option.some.injEq] at hr
    subst hr; exact ⟨rfl, hp⟩
  | .fire f :: h, o, o', hp, _, hr => by
    obtain ⟨o1, hs, -⟩ := orun_cons_some.mp hr
    rw [ostep_fire_some hs] at hp; cases hp
  | .call t op :: h, o, o', hp, hs, hr => by
    obtain ⟨o1, h1, hr⟩ := orun_cons_some.mp hr
    have hk := ostep_call_some h1
    have h23 : o1.pending = none ∧ (o1.stopped = true ∨ auto = false) := by
      cases op with
      | stop => exact ⟨hk.1, Or.inl hk.2⟩
      | restart tau => exact ⟨(hk.1 hp).1, (hk.1 hp).2 ▸ hs⟩
    have := oracle_quiet_of_not_pending h o1 o' h23.1 h23.2 hr
    exact ⟨by simpa [firesH] using this.1, this.2⟩

/-- **`stop()` is final on kernel runs**: in the history of any reachable state, no callback invocation follows a
`stop()` call of the controller — whatever `restart` calls come later, from outside or (there are none) from the callback. -/
theorem kernel_stop_is_final (auto : Bool) (arg : Int) (cbs : List (Option (CbOp ℚ))) (ctlFirst : Bool) (T : ℚ)
    (script : List (ℚ × CbOp ℚ)) (hT : 0 < T) (hsc : ScriptOK script) (hcbs : CbsOK cbs) (fuel : Nat)
    (s : KState ℚ (TSt ℚ)) (hreach : KReach (body auto arg cbs) (fuel + 1) (initState ctlFirst T script) s)
    (h1 h2 : List (HEv ℚ)) (t : ℚ) (hh : histOf s.trace = h1 ++ .call t .stop :: h2) : firesH h2 = [] := by
  obtain ⟨-, o, ho, -, -⟩ := timer_on_kernel_fire_instants auto arg cbs ctlFirst T script hT hsc hcbs fuel s hreach
  rw [hh] at ho
  obtain ⟨o1, -, ho⟩ := orun_append_some.mp ho
  obtain ⟨o2, hs, ho⟩ := orun_cons_some.mp ho
  have : o2.pending = none ∧ o2.stopped = true := ostep_call_some hs
  exact (oracle_quiet_of_not_pending h2 o2 o this.1 (Or.inl this.2) ho).1

/-- **`restart(τ)` re-bases on kernel runs**: if in the history of a reachable state a callback invocation directly
follows a `restart(τ)` call made at `r`, it happened at exactly `r + τ` (not at the old expiry, not earlier, not later). -/
theorem kernel_restart_rebases (auto : Bool) (arg : Int) (cbs : List (Option (CbOp ℚ))) (ctlFirst : Bool) (T : ℚ)
    (script : List (ℚ × CbOp ℚ)) (hT : 0 < T) (hsc : ScriptOK script) (hcbs : CbsOK cbs) (fuel : Nat)
    (s : KState ℚ (TSt ℚ)) (hreach : KReach (body auto arg cbs) (fuel + 1) (initState ctlFirst T script) s)
    (h1 h2 : List (HEv ℚ)) (r tau f : ℚ) (hh : histOf s.trace = h1 ++ .call r (.restart tau) :: .fire f :: h2) :
    f = r + tau := by
  obtain ⟨-, o, ho, -, -⟩ := timer_on_kernel_fire_instants auto arg cbs ctlFirst T script hT hsc hcbs fuel s hreach
  rw [hh] at ho
  obtain ⟨o1, -, ho⟩ := orun_append_some.mp ho
  obtain ⟨o2, hs, ho⟩ := orun_cons_some.mp ho
  obtain ⟨o3, hf, -⟩ := orun_cons_some.mp ho
  have hk := ostep_call_some hs
  have hp2 := ostep_fire_some hf
  cases hp1 : o1.pending with
  | none => rw [(hk.1 hp1).1] at hp2; cases hp2
  | some e =>
    rw [hk.2 e hp1] at hp2
    exact (Option.some.inj hp2).symm

/-! ### non-vacuity: concrete runs of the kernel model, evaluated by the kernel of Lean (exact arithmetic) -/

/-- what a run of `n` steps leaves: how it ended (`true` = `run()` returned), the instants of the callback invocations,
whether the whole call/fire history passes the oracle -/
def summary (auto : Bool) (cbs : List (Option (CbOp ℚ))) (ctlFirst : Bool) (T : ℚ) (script : List (ℚ × CbOp ℚ)) (n : Nat) :
    Option (Bool × List ℚ × Bool) :=
  match runAll (body auto 7 cbs) 1 n (initState ctlFirst T script) with
  | .returned _ s => some (true, firesOf s.trace, (orun auto cbs (o0 T) (histOf s.trace)).isSome)
  | .outOfFuel s => some (false, firesOf s.trace, (orun auto cbs (o0 T) (histOf s.trace)).isSome)
  | .raised _ _ => none

/-- undisturbed one-shot timer: exactly one invocation, at `0 + timeout` -/
example : summary false [] false 1 [] 20 = some (true, [1], true) := by decide +kernel

/-- `restart(2)` at 1/2: the old expiry 1 passes silently, the callback fires at 5/2 -/
example : summary false [] false 1 [(1/2, .restart 2)] 20 = some (true, [5/2], true) := by decide +kernel

/-- `restart(1)` at the expiry instant 1 *after* the wake-up (the timer was created first, so its timeout is older than
the controller's): the callback has fired, the process has ended, `restart` finds it dead and does not raise -/
example : summary false [] false 1 [(1, .restart 1)] 20 = some (true, [1], true) := by decide +kernel

/-- `restart(1)` at the expiry instant 1 *before* the wake-up (controller created first): the `Interruption` is URGENT, the
old process never wakes, the callback fires at 2 only -/
example : summary false [] true 1 [(1, .restart 1)] 20 = some (true, [2], true) := by decide +kernel

/-- `stop()` at the expiry instant before the wake-up: the process wakes but the callback is suppressed -/
example : summary false [] true 1 [(1, .stop)] 20 = some (true, [], true) := by decide +kernel

/-- `stop()` at the expiry instant after the wake-up: too late for this firing, final for the rest -/
example : summary true [] false 1 [(1, .stop), (5, .restart 1)] 30 = some (true, [1], true) := by decide +kernel

/-- `restart(3/2)` from the callback of a one-shot timer re-arms it (no self-interrupt): 1, then 1 + 3/2 -/
example : summary false [some (.restart (3/2))] false 1 [] 20 = some (true, [1, 5/2], true) := by decide +kernel

/-- an auto-restart timer (timeout 1/2) whose callback stops it at its third firing -/
example : summary true [none, none, some .stop] false (1/2) [] 30 = some (true, [1/2, 1, 3/2], true) := by decide +kernel

/-- an auto-restart timer under fire: restarted at 1/4 (→ 5/4), again exactly at 5/4 before the wake-up (→ 9/4), stopped
exactly at 9/4 before the wake-up, then `restart(3)` in the same instant after the (silent) wake-up: never fires -/
example : summary true [] false (1/2) [(1/4, .restart 1), (1, .restart 1), (1, .stop), (0, .restart 3)] 40 =
    some (true, [], true) := by decide +kernel

/-- an undisturbed auto-restart timer never ends: after 10 steps `run()` is still going and has fired at 1, 2, …, 7 -/
example : summary true [] false 1 [] 10 = some (false, [1, 2, 3, 4, 5, 6, 7], true) := by decide +kernel

end C19K
